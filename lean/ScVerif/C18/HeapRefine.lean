import ScVerif.C18.HeapTrace
/-!
# C18 — the heap models compute the pure model

The heap versions (HeapOps, HeapModeOps) carry the frame theorems; the pure versions are what the driver runs
against the Go code and what the step-function theorems speak about.  Reading the result of the heap version back
through the final heap gives the pure version on the argument read through the initial heap, for all heaps and
arguments.  Hypothesis: the slice's elements are addresses of existing cells (a Go slice of non-nil pointers).
`modepb.Sum` hands the results of `Shift` on to `Sum`: that needs the result slices of `Shift` to stay readable in
later heaps (`heapShift_valid`).
-/
namespace ScVerif.C18

theorem heapShiftNegLoop_spec (h : Heap) (d : Int) (sl : Slice) (cur : Int) (i : Nat) (elems : List Nat)
    (hel : elems = (readSlice h sl).drop i) (v : ValidAddrs h elems) :
    readSegs (heapShiftNegLoop h d sl cur i elems).1 (heapShiftNegLoop h d sl cur i elems).2 =
      shiftNegLoop d cur (elems.map (readCell h)) ∧
    ((sl.arr < h.arrays.length ∨ sl.len = 0) →
      ValidSlice (heapShiftNegLoop h d sl cur i elems).1 (heapShiftNegLoop h d sl cur i elems).2) := by
  induction elems generalizing cur i with
  | nil =>
    have hnil : readSlice h ⟨0, 0, 0⟩ = [] := readSlice_of_len_zero h rfl
    exact ⟨readSegs_of_slice hnil, fun _ => ⟨hnil ▸ (fun a hmem => nomatch hmem), Or.inr rfl⟩⟩
  | cons a rest ih =>
    have hrest : rest = (readSlice h sl).drop (i + 1) := by
      have := congrArg List.tail hel
      simpa [List.tail_drop] using this
    simp only [heapShiftNegLoop, shiftNegLoop, List.map_cons]
    cases hl : (readCell h a).len with
    | none =>
      simp only []
      have hrd : readSlice h ⟨sl.arr, sl.off + i, sl.len - i⟩ = a :: rest := (readSlice_drop h sl i).trans hel.symm
      refine ⟨readSegs_of_slice hrd, fun hs => ⟨by rw [hrd]; exact v, ?_⟩⟩
      rcases hs with h1 | h2
      · exact Or.inl h1
      · exact Or.inr (by simp [h2])
    | some l =>
      simp only []
      by_cases hc : cur + l > d
      · simp only [hc, if_true]
        have ha : a < h.cells.length := v a (List.mem_cons_self)
        -- `after` is never nil in this branch, and is an existing cell: a fresh array of it and the rest
        obtain ⟨x, hx, hxv⟩ := heapCut_after_valid h (d - cur) a ha l hl (by omega)
        have hlen : rest.length < sl.len - i := by
          have h1 := congrArg List.length hel
          have h2 := readSlice_length_le h sl
          simp only [List.length_cons, List.length_drop] at h1
          omega
        have hcut := (heapCut_refines h (d - cur) a ha).2.1
        rw [hx] at hcut ⊢
        obtain ⟨hr, hv⟩ := readSegs_fresh (heapCut_extends h (d - cur) a) hxv v.tail hlen
        exact ⟨hr.trans (by rw [← hcut]; rfl), fun _ => hv⟩
      · simp only [hc, if_false]
        exact ih (cur + l) (i + 1) hrest v.tail

theorem heapShift_spec (h : Heap) (d : Int) (sl : Slice) (v : ValidAddrs h (readSlice h sl)) :
    readSegs (heapShift h d sl).1 (heapShift h d sl).2 = shift d (readSegs h sl) ∧
    ((sl.arr < h.arrays.length ∨ sl.len = 0) → ValidSlice (heapShift h d sl).1 (heapShift h d sl).2) := by
  unfold heapShift shift
  simp only []
  have vself : (sl.arr < h.arrays.length ∨ sl.len = 0) → ValidSlice h sl := fun hs => ⟨v, hs⟩
  by_cases hd : d = 0
  · simp only [hd, if_true]
    exact ⟨trivial, vself⟩
  · simp only [hd, if_false]
    have hlen := readSlice_length_le h sl
    cases hel : readSlice h sl with
    | nil => exact ⟨by rw [readSegs_of_slice hel]; rfl, vself⟩
    | cons first rest =>
      rw [hel] at v hlen
      rw [readSegs_of_slice hel, List.map_cons]
      -- a fresh array whose first element is a new cell `s` and whose other elements `xs` are the argument's
      have fresh : ∀ (s : Seg) (xs : List Nat) (n : Nat), ValidAddrs h xs → xs.length < n →
          readSegs (allocArr (allocCell h s).1 ((allocCell h s).2 :: xs)).1
              ⟨(allocArr (allocCell h s).1 ((allocCell h s).2 :: xs)).2, 0, n⟩ = s :: xs.map (readCell h) ∧
            ValidSlice (allocArr (allocCell h s).1 ((allocCell h s).2 :: xs)).1
              ⟨(allocArr (allocCell h s).1 ((allocCell h s).2 :: xs)).2, 0, n⟩ := fun s xs n vx hn => by
        have := readSegs_fresh (allocCell_extends h s) (allocCell_new_lt h s) vx hn
        rwa [readCell_allocCell_new] at this
      by_cases hpos : d > 0
      · simp only [hpos, if_true]
        by_cases hmag : (readCell h first).mag = 0
        · simp only [hmag, if_true]
          cases hl : (readCell h first).len with
          | none => exact ⟨by rw [readSegs_of_slice hel, List.map_cons], vself⟩
          | some l =>
            obtain ⟨hr, hv⟩ := fresh ⟨0, some (l + d)⟩ rest sl.len v.tail (by simp at hlen; omega)
            exact ⟨hr, fun _ => hv⟩
        · simp only [hmag, if_false]
          obtain ⟨hr, hv⟩ := fresh ⟨0, some d⟩ (first :: rest) (sl.len + 1) v (by simp at hlen ⊢; omega)
          exact ⟨hr, fun _ => hv⟩
      · simp only [hpos, if_false]
        have := heapShiftNegLoop_spec h (-d) sl 0 0 (first :: rest) (by simp [hel]) v
        exact ⟨by simpa [readSegs] using this.1, this.2⟩

theorem heapShift_refines (h : Heap) (d : Int) (sl : Slice) (v : ValidAddrs h (readSlice h sl)) :
    readSegs (heapShift h d sl).1 (heapShift h d sl).2 = shift d (readSegs h sl) :=
  (heapShift_spec h d sl v).1

theorem heapShift_valid (h : Heap) (d : Int) (sl : Slice) (vs : ValidSlice h sl) :
    ValidSlice (heapShift h d sl).1 (heapShift h d sl).2 :=
  (heapShift_spec h d sl vs.1).2 vs.2

theorem cloneSlice_arr (h : Heap) (sl : Slice) (v : ValidAddrs h (readSlice h sl)) :
    (cloneSlice h sl).2 = ⟨h.arrays.length, 0, sl.len⟩ ∧
    ∃ bs, bs.length = (readSlice h sl).length ∧ Arr (cloneSlice h sl).1 h.arrays.length bs (readSegs h sl) := by
  obtain ⟨_, harr, hlen, hval⟩ := cloneCells_spec h (readSlice h sl)
  have a := arr_allocArr _ _ (hval v).1
  rw [(hval v).2] at a
  simp only [cloneSlice, allocArr, harr] at a ⊢
  exact ⟨trivial, _, hlen, a⟩

theorem cloneSlice_refines (h : Heap) (sl : Slice) (v : ValidAddrs h (readSlice h sl)) :
    readSegs (cloneSlice h sl).1 (cloneSlice h sl).2 = readSegs h sl ∧
    ValidAddrs (cloneSlice h sl).1 (readSlice (cloneSlice h sl).1 (cloneSlice h sl).2) := by
  obtain ⟨e, bs, hbl, a⟩ := cloneSlice_arr h sl v
  have hlen : bs.length ≤ sl.len := hbl ▸ readSlice_length_le h sl
  rw [e, a.reads, a.slice, List.drop_zero, List.drop_zero, List.take_of_length_le hlen,
    List.take_of_length_le (by rw [← a.vals, List.length_map]; exact hlen)]
  exact ⟨rfl, a.valid⟩

/-- The mode a heap mode reads as through `h`. -/
def HeapMode.toMode (h : Heap) (m : HeapMode) : Mode := ⟨m.start, readSegs h m.segs⟩

theorem set_take_succ {α : Type} (l : List α) (i : Nat) (x : α) (hi : i < l.length) :
    (l.set i x).take (i + 1) = l.take i ++ [x] := by
  rw [List.take_add_one, List.take_set_of_le (Nat.le_refl i), List.getElem?_set_self hi]; rfl

theorem set_drop_self {α : Type} (l : List α) (i : Nat) (x : α) (hi : i < l.length) :
    (l.set i x).drop i = x :: l.drop (i + 1) := by
  rw [List.drop_set, if_neg (Nat.lt_irrefl i), Nat.sub_self, List.drop_eq_getElem_cons hi, List.set_cons_zero]

theorem set_take_lt {α : Type} (l : List α) (i : Nat) (x : α) : (l.set i x).take i = l.take i :=
  List.take_set_of_le (Nat.le_refl i)

theorem set_drop_gt {α : Type} (l : List α) (i : Nat) (x : α) : (l.set i x).drop (i + 1) = l.drop (i + 1) :=
  List.drop_set_of_lt (Nat.lt_succ_self i)

theorem readSegs_setArr_opt_other (H : Heap) (o : Option Nat) (id pos : Nat) (sl : Slice) (hne : sl.arr ≠ id) :
    readSegs (match o with | none => H | some x => setArr H id pos x) sl = readSegs H sl := by
  cases o
  · rfl
  · simp only [readSegs, readSlice_setArr_other H id pos _ sl hne]
    rfl

theorem addrsFrom_read (H0 vals : List Seg) (n : Nat) (hn : n ≤ vals.length) :
    (addrsFrom H0.length n).map (fun a => ((H0 ++ vals)[a]?).getD nilSeg) = vals.take n := by
  induction n with
  | zero => simp [addrsFrom]
  | succ n ih =>
    have hlt : n < vals.length := by omega
    simp only [addrsFrom, List.map_append, List.map_cons, List.map_nil, ih (by omega)]
    rw [List.take_add_one, List.getElem?_append_right (by omega)]
    simp [hlt]

theorem heapSum_refines (h : Heap) (cuts : List Edge) :
    readSegs (heapSum h cuts).1 (heapSum h cuts).2 = (cuts.foldl sumGoStep ([], 0)).1 := by
  have hinv := heapLoop_inv_init h.cells cuts
  obtain ⟨h1, h2⟩ := hinv
  simp only [heapSum]
  rw [readSegs_allocArr_new _ _ _ (Nat.le_refl _)]
  simp only [h1, h2]
  have := addrsFrom_read h.cells (cuts.foldl sumGoStep ([], 0)).1 _ (Nat.le_refl _)
  rw [List.take_length] at this
  exact this

theorem heapSum_sum (h : Heap) (ls : List (List Seg)) :
    trimLast (dropRule (anyInfinite ls)) (readSegs (heapSum h (calcCuts ls)).1 (heapSum h (calcCuts ls)).2) =
      sum ls := by
  rw [heapSum_refines]
  exact sumGoEdges_eq _ _

theorem heapAlign_refines (e l : Int) (h : Heap) (ms : List HeapMode) (v : ∀ m ∈ ms, ValidSlice h m.segs) :
    (heapAlign e l h ms).2.map (readSegs (heapAlign e l h ms).1) = alignLoop e l (ms.map (HeapMode.toMode h)) ∧
    ∀ sl ∈ (heapAlign e l h ms).2, ValidSlice (heapAlign e l h ms).1 sl := by
  induction ms generalizing h with
  | nil => exact ⟨rfl, fun sl hsl => by simp [heapAlign] at hsl⟩
  | cons m ms ih =>
    have vm := v m (List.mem_cons_self)
    have e1 := heapShift_extends h (m.start.getD l - e) m.segs
    have v' : ∀ m' ∈ ms, ValidSlice (heapShift h (m.start.getD l - e) m.segs).1 m'.segs :=
      fun m' hm' => (v m' (List.mem_cons_of_mem _ hm')).extends e1
    have ih' := ih (heapShift h (m.start.getD l - e) m.segs).1 v'
    have e2 := heapAlign_extends e l (heapShift h (m.start.getD l - e) m.segs).1 ms
    have hv := heapShift_valid h (m.start.getD l - e) m.segs vm
    have hmodes : ms.map (HeapMode.toMode (heapShift h (m.start.getD l - e) m.segs).1) =
        ms.map (HeapMode.toMode h) := by
      apply List.map_congr_left
      intro m' hm'
      simp only [HeapMode.toMode, readSegs_extends_validSlice e1 m'.segs (v m' (List.mem_cons_of_mem _ hm'))]
    simp only [heapAlign, alignLoop, List.map_cons]
    refine ⟨?_, ?_⟩
    · rw [ih'.1, hmodes, readSegs_extends_validSlice e2 _ hv, heapShift_refines h _ m.segs vm.1]
      rfl
    · intro sl hsl
      simp only [List.mem_cons] at hsl
      rcases hsl with rfl | hsl
      · exact hv.extends e2
      · exact ih'.2 sl hsl

end ScVerif.C18
