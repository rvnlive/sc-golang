import ScVerif.C18.HeapModeOps
import ScVerif.C18.ModeLemmas
/-!
# C18 — "never modify their arguments", at every moment of the call

`Heap.Extends` between the heap before and the heap after a call (HeapOps, HeapModeOps) says that a comparison
of the arguments before/after finds nothing.  It does not exclude a write that is undone before the call
returns: detach a field of the argument, copy, put it back.  A caller that shares the argument for reading with
another goroutine sees the difference.  This file states the clause for EVERY INTERMEDIATE heap.

* The mode OBJECT (`*traits.ElectricMode`: start time + `Segments` slice header) is a heap cell of its own
  (`HeapM.modes`), so that "writes `mode.Segments`" is expressible.  `modeShiftTrace` lists the heap after each
  statement of `modepb.Shift`: the clone (new cells, a new array, a new mode object), then the one assignment,
  which goes into the clone.  `detach := true` is the variant that empties the ARGUMENT's `Segments` around the
  clone and restores it afterwards (what the code must not do): its final heap and its result are those of the
  real code, one intermediate heap is not an extension.
* `modepb.Cut` after each of its statements (`modeCutTrace`) and the loop of `segmentpb.Sum` stopped after any number
  of edges (`heapLoop_prefix_extends`).
* `modepb.Sum` (`modeSumTrace`): the trace of every `Shift` of its alignment loop (HeapTraceShift), then the loop of
  `Sum` iteration by iteration, then the `result` array.

(Proof only, not driver-linked.  On the real code the clause is decided by running every operation on
arguments in read-only pages: harness watch.go.)
-/
namespace ScVerif.C18

structure ModeObj where
  start : Option Int
  segs : Slice
deriving Repr, DecidableEq

/-- Segment cells and backing arrays (`Heap`) plus mode objects (address = index). -/
structure HeapM where
  base : Heap
  modes : List ModeObj

def HeapM.Extends (h0 h : HeapM) : Prop :=
  h0.base.Extends h.base ∧ ∃ ms, h.modes = h0.modes ++ ms

theorem HeapM.Extends.refl (h : HeapM) : h.Extends h := ⟨Heap.Extends.refl _, ⟨[], by simp⟩⟩

theorem HeapM.Extends.trans {h0 h1 h2 : HeapM} (a : h0.Extends h1) (b : h1.Extends h2) : h0.Extends h2 := by
  obtain ⟨a1, ⟨m1, e1⟩⟩ := a
  obtain ⟨b1, ⟨m2, e2⟩⟩ := b
  exact ⟨a1.trans b1, ⟨m1 ++ m2, by rw [e2, e1, List.append_assoc]⟩⟩

theorem HeapM.Extends.pointwise {h0 h : HeapM} (e : h0.Extends h) :
    (∀ a, a < h0.base.cells.length → h.base.cells[a]? = h0.base.cells[a]?) ∧
    (∀ i, i < h0.base.arrays.length → h.base.arrays[i]? = h0.base.arrays[i]?) ∧
    (∀ p, p < h0.modes.length → h.modes[p]? = h0.modes[p]?) := by
  obtain ⟨eb, ⟨ms, hm⟩⟩ := e
  exact ⟨eb.pointwise.1, eb.pointwise.2, fun p hp => by rw [hm, List.getElem?_append_left hp]⟩

def readMode (h : HeapM) (p : Nat) : ModeObj := (h.modes[p]?).getD ⟨none, ⟨0, 0, 0⟩⟩

/-- `&ElectricMode{…}` / the message part of `proto.Clone`: a new mode object. -/
def allocMode (h : HeapM) (m : ModeObj) : HeapM × Nat := (⟨h.base, h.modes ++ [m]⟩, h.modes.length)

/-- `mode.X = …` through the pointer `p`. -/
def setMode (h : HeapM) (p : Nat) (f : ModeObj → ModeObj) : HeapM := ⟨h.base, modifyNth p f h.modes⟩

theorem readMode_setMode_same (h : HeapM) (p : Nat) (f : ModeObj → ModeObj) (hp : p < h.modes.length) :
    readMode (setMode h p f) p = f (readMode h p) := by
  simp only [readMode, setMode, modifyNth_getElem?, List.getElem?_eq_getElem hp]
  rfl

theorem allocMode_extends (h : HeapM) (m : ModeObj) : h.Extends (allocMode h m).1 :=
  ⟨Heap.Extends.refl _, ⟨[m], rfl⟩⟩

theorem setMode_extends {h0 h : HeapM} (e : h0.Extends h) (p : Nat) (f : ModeObj → ModeObj)
    (hp : h0.modes.length ≤ p) : h0.Extends (setMode h p f) := by
  obtain ⟨eb, ⟨ms, hm⟩⟩ := e
  exact ⟨eb, by rw [setMode, hm]; exact modifyNth_append_past _ _ _ _ hp⟩

theorem base_extends {h : HeapM} {b : Heap} (e : h.base.Extends b) : h.Extends ⟨b, h.modes⟩ :=
  ⟨e, ⟨[], by simp⟩⟩

/-- `proto.Clone(mode)`: deep copy of the segments (new cells, new array), then a new mode object. -/
def cloneMode (h : HeapM) (p : Nat) : HeapM × Nat :=
  let m := readMode h p
  let c := cloneSlice h.base m.segs
  allocMode ⟨c.1, h.modes⟩ ⟨m.start, c.2⟩

theorem cloneMode_extends (h : HeapM) (p : Nat) : h.Extends (cloneMode h p).1 :=
  (base_extends (cloneSlice_extends h.base _)).trans (allocMode_extends _ _)

/-- The heaps after each statement of `modepb.Shift(d, mode)`, `mode` the object at `p`, and the address of the
result.  `detach = false` is the code; `detach = true` is the start-time branch rewritten to copy "everything
but the segments": `mode.Segments = nil; clone; mode.Segments = segments` on the ARGUMENT, then the segment
pointers are copied into a fresh slice of the result. -/
def modeShiftTrace (detach : Bool) (h : HeapM) (d : Int) (p : Nat) : List HeapM × Nat :=
  if d = 0 then ([], p)
  else
    let m := readMode h p
    match m.start with
    | none =>
      let c := cloneMode h p                                     -- mode = proto.Clone(mode)
      let r := heapShift c.1.base d (readMode c.1 c.2).segs      -- segmentpb.Shift(d, mode.Segments...)
      let h2 : HeapM := ⟨r.1, c.1.modes⟩
      ([c.1, h2, setMode h2 c.2 (fun o => ⟨o.start, r.2⟩)], c.2) -- mode.Segments = …  (the clone's)
    | some s =>
      if detach then
        let h1 := setMode h p (fun o => ⟨o.start, ⟨0, 0, 0⟩⟩)      -- mode.Segments = nil        (ARGUMENT)
        let c := cloneMode h1 p                                   -- proto.Clone(mode)
        let h3 := setMode c.1 p (fun o => ⟨o.start, m.segs⟩)      -- mode.Segments = segments   (ARGUMENT)
        let a := allocArr h3.base (readSlice h3.base m.segs)      -- append(nil, mode.Segments...)
        let h4 : HeapM := ⟨a.1, h3.modes⟩
        ([h1, c.1, h3, h4, setMode h4 c.2 (fun _ => ⟨some (s + d), ⟨a.2, 0, m.segs.len⟩⟩)], c.2)
      else
        let c := cloneMode h p                                    -- mode = proto.Clone(mode)
        ([c.1, setMode c.1 c.2 (fun o => ⟨some (s + d), o.segs⟩)], c.2) -- mode.StartTime = …  (the clone's)

theorem modeShiftTrace_extends (h : HeapM) (d : Int) (p : Nat) :
    ∀ hi ∈ (modeShiftTrace false h d p).1, h.Extends hi := by
  unfold modeShiftTrace
  have ec := cloneMode_extends h p
  have hp : h.modes.length ≤ (cloneMode h p).2 := Nat.le_refl _
  split
  · exact all_nil
  · simp only []
    split
    · have e2 := ec.trans (base_extends (heapShift_extends (cloneMode h p).1.base d
        (readMode (cloneMode h p).1 (cloneMode h p).2).segs))
      exact all_cons ec (all_cons e2 (all_cons (setMode_extends e2 _ _ hp) all_nil))
    · rw [if_neg Bool.false_ne_true]
      exact all_cons ec (all_cons (setMode_extends ec _ _ hp) all_nil)

/-- The trace ends in the heap and the mode that `heapModeShift` returns for the mode read behind `p`. -/
theorem modeShiftTrace_last (h : HeapM) (d : Int) (p : Nat) :
    (((modeShiftTrace false h d p).1.getLast?).getD h).base =
      (heapModeShift h.base d ⟨(readMode h p).start, (readMode h p).segs⟩).1 ∧
    readMode (((modeShiftTrace false h d p).1.getLast?).getD h) (modeShiftTrace false h d p).2 =
      ⟨(heapModeShift h.base d ⟨(readMode h p).start, (readMode h p).segs⟩).2.start,
       (heapModeShift h.base d ⟨(readMode h p).start, (readMode h p).segs⟩).2.segs⟩ := by
  unfold modeShiftTrace heapModeShift cloneMode
  by_cases hd : d = 0
  · simp [hd]
  · generalize readMode h p = m
    obtain ⟨_ | s, sg⟩ := m <;> simp [hd, allocMode, setMode, readMode, modifyNth_length_append]

/-- The mode a reader finds behind the pointer `p`: start time and segment VALUES (through the slice header, the
backing array and the cells). -/
def observe (h : HeapM) (p : Nat) : Option Int × List Seg :=
  ((readMode h p).start, readSegs h.base (readMode h p).segs)

/-- The object at `p` exists, its slice lies in an existing array and points at existing cells. -/
def ValidMode (h : HeapM) (p : Nat) : Prop :=
  p < h.modes.length ∧ (readMode h p).segs.arr < h.base.arrays.length ∧
  ∀ a ∈ readSlice h.base (readMode h p).segs, a < h.base.cells.length

theorem observe_extends {h0 h : HeapM} (e : h0.Extends h) (p : Nat) (v : ValidMode h0 p) :
    observe h p = observe h0 p := by
  obtain ⟨hp, ha, hc⟩ := v
  have hm : readMode h p = readMode h0 p := by
    simp only [readMode, e.pointwise.2.2 _ hp]
  simp only [observe, hm, readSegs_extends e.1 _ ha hc]

theorem heapLoop_prefix_extends (h : Heap) (cuts : List Edge) (k : Nat) :
    h.Extends ⟨((cuts.take k).foldl heapStep ⟨h.cells, [], 0⟩).heap, h.arrays⟩ := by
  have hinv := heapLoop_inv_init h.cells (cuts.take k)
  exact ⟨⟨_, hinv.1⟩, ⟨[], by simp⟩⟩

/-- The heaps after the two clones, the segment cut and the two assignments of `modepb.Cut` (the branch that
allocates; the other branches do not touch the heap).  Same bindings as `heapModeCutWith true`. -/
def modeCutTrace (h : Heap) (t : Int) (m : HeapMode) : List Heap :=
  if m.segs.len = 0 then []
  else
    let st := m.start.getD t
    if ¬ (t > st) then []
    else
      let d := t - st
      let ei := activeAt d (readSegs h m.segs)
      if ei.2 = m.segs.len then []
      else
        let b := cloneSlice h m.segs
        let a := cloneSlice b.1 m.segs
        let c := heapCut a.1 (d - ei.1) ((readSlice h m.segs)[ei.2]?.getD 0)
        let hb := match c.2.1 with
          | none => c.1
          | some x => setArr c.1 b.2.arr ei.2 x
        let ha := match c.2.2.1 with
          | none => hb
          | some x => setArr hb a.2.arr ei.2 x
        [b.1, a.1, c.1, hb, ha]

theorem heapModeCut_heap (h : Heap) (t : Int) (m : HeapMode) :
    (heapModeCut h t m).1 = (modeCutTrace h t m).getLast?.getD h := by
  unfold heapModeCut heapModeCutWith modeCutTrace
  by_cases h1 : m.segs.len = 0
  · rw [if_pos h1, if_pos h1]; rfl
  rw [if_neg h1, if_neg h1]
  extract_lets st d ei
  by_cases h2 : ¬ t > st
  · rw [if_pos h2, if_pos h2]; rfl
  rw [if_neg h2, if_neg h2]
  by_cases h3 : ei.2 = m.segs.len
  · rw [if_pos h3, if_pos h3]; rfl
  rw [if_neg h3, if_neg h3]
  rfl

theorem modeCutTrace_last (h : Heap) (t : Int) (m : HeapMode) :
    ∀ hl, (modeCutTrace h t m).getLast? = some hl → hl = (heapModeCut h t m).1 := by
  intro hl e
  rw [heapModeCut_heap, e]
  rfl

/-- Each statement allocates, or stores into the array of a clone made after `h`. -/
theorem modeCutTrace_extends (h : Heap) (t : Int) (m : HeapMode) :
    ∀ hi ∈ modeCutTrace h t m, h.Extends hi := by
  unfold modeCutTrace
  extract_lets st d ei b a c hb ha
  by_cases h1 : m.segs.len = 0
  · rw [if_pos h1]; exact all_nil
  rw [if_neg h1]
  by_cases h2 : ¬ t > st
  · rw [if_pos h2]; exact all_nil
  rw [if_neg h2]
  by_cases h3 : ei.2 = m.segs.len
  · rw [if_pos h3]; exact all_nil
  rw [if_neg h3]
  have eb : h.Extends b.1 := cloneSlice_extends h m.segs
  have ea : h.Extends a.1 := eb.trans (cloneSlice_extends b.1 m.segs)
  have ec : h.Extends c.1 := ea.trans (heapCut_extends a.1 _ _)
  have ehb : h.Extends hb := setArr_opt_extends ec _ _ _ (cloneSlice_arr_ge h m.segs)
  have eha : h.Extends ha :=
    setArr_opt_extends ehb _ _ _ (Nat.le_trans eb.arrays_le (cloneSlice_arr_ge b.1 m.segs))
  exact all_cons eb (all_cons ea (all_cons ec (all_cons ehb (all_cons eha all_nil))))

theorem heapModeCut_extends (h : Heap) (t : Int) (m : HeapMode) : h.Extends (heapModeCut h t m).1 := by
  rw [heapModeCut_heap]
  cases e : (modeCutTrace h t m).getLast? with
  | none => exact Heap.Extends.refl h
  | some hl => exact modeCutTrace_extends h t m hl (List.mem_of_getLast? e)

/-- The heaps of the alignment loop `segmentSlices[i] = segmentpb.Shift(diff, segmentSlices[i]...)`
(`segmentSlices` is a local of `modepb.Sum`; the heap changes only inside `Shift`). -/
def alignTrace (earliest latest : Int) : Heap → List HeapMode → List Heap
  | _, [] => []
  | h, m :: ms =>
    (shiftTrace true h (m.start.getD latest - earliest) m.segs).1 ++
      alignTrace earliest latest (heapShift h (m.start.getD latest - earliest) m.segs).1 ms

theorem alignTrace_extends (e l : Int) (h : Heap) (ms : List HeapMode) :
    ∀ hi ∈ alignTrace e l h ms, h.Extends hi := by
  induction ms generalizing h with
  | nil => exact all_nil
  | cons m ms ih => exact all_append_extends (shiftTrace_extends h _ _) (heapShift_extends h _ m.segs) (ih _)

/-- `segmentpb.Sum` after `calcCuts`: the heap after 0, 1, …, all iterations of the loop, then the heap with the
`result` array. -/
def sumTrace (h : Heap) (cuts : List Edge) : List Heap :=
  (List.range (cuts.length + 1)).map
      (fun k => (⟨((cuts.take k).foldl heapStep ⟨h.cells, [], 0⟩).heap, h.arrays⟩ : Heap)) ++
    [(heapSum h cuts).1]

theorem sumTrace_extends (h : Heap) (cuts : List Edge) : ∀ hi ∈ sumTrace h cuts, h.Extends hi := by
  intro hi hmem
  simp only [sumTrace, List.mem_append, List.mem_map, List.mem_singleton] at hmem
  rcases hmem with ⟨k, _, rfl⟩ | rfl
  · exact heapLoop_prefix_extends h cuts k
  · exact heapSum_extends h cuts

/-- The heaps of `modepb.Sum(modes...)`, same bindings as `heapModeSum`. -/
def modeSumTrace (h : Heap) (ms : List HeapMode) : List Heap :=
  match ms with
  | [] => []
  | _ =>
    match startsLoop none none (ms.map (fun m => (⟨m.start, readSegs h m.segs⟩ : Mode))) with
    | (some e, some l) =>
      let a := heapAlign e l h ms
      alignTrace e l h ms ++ sumTrace a.1 (calcCuts (a.2.map (readSegs a.1)))
    | _ => sumTrace h (calcCuts (ms.map (fun m => readSegs h m.segs)))

theorem modeSumTrace_extends (h : Heap) (ms : List HeapMode) : ∀ hi ∈ modeSumTrace h ms, h.Extends hi := by
  unfold modeSumTrace
  split
  · exact all_nil
  · split
    · exact all_append_extends (alignTrace_extends _ _ h ms) (heapAlign_extends _ _ h ms) (sumTrace_extends _ _)
    · exact sumTrace_extends _ _

theorem sumTrace_last (h : Heap) (cuts : List Edge) : (sumTrace h cuts).getLast? = some (heapSum h cuts).1 := by
  simp [sumTrace]

theorem modeSumTrace_last (h : Heap) (ms : List HeapMode) :
    ∀ hl, (modeSumTrace h ms).getLast? = some hl → hl = (heapModeSum h ms).1 := by
  cases ms with
  | nil => intro hl e; simp [modeSumTrace] at e
  | cons m ms' =>
    unfold modeSumTrace heapModeSum
    simp only []
    rcases startsLoop_cases ((m :: ms').map fun m => (⟨m.start, readSegs h m.segs⟩ : Mode)) with
      ⟨_, hpair⟩ | ⟨a, b, hpair, _⟩ <;> rw [hpair] <;> simp only [] <;> intro hl e
    · rw [sumTrace_last] at e; exact (Option.some.inj e).symm
    · simp only [List.getLast?_append, sumTrace_last, Option.some_or] at e
      exact (Option.some.inj e).symm

end ScVerif.C18
