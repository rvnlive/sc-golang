/-
C18 — model of `pkg/trait/electricpb/segmentpb`: `ActiveAt`, `MagnitudeAt`, `Duration`,
`Max`, `MaxMagnitude`, `MaxAfter`, `SumMagnitude`, `Cut`, `Shift`, `Sum` (with `calcCuts`).

The definitions follow the Go code loop by loop.  A segment is `(magnitude, optional length)`:
lengths are integer nanoseconds (`time.Duration`), an absent length is the Go `Length == nil`
("infinite").  Magnitudes are integers (numerators over a fixed power-of-two denominator): the Go field is
a `float32`; `F32.lean` models the float32 additions of `Sum`/`SumMagnitude` (tied to Go's arithmetic by the
driver) and `PropsFloat` proves that below 2^24 units nothing is rounded, so this exact model IS the float
code there; the correspondence check feeds such magnitudes here and rounding ones to the float rendering.
Durations are unbounded integers here; `Seg64.lean` repeats every duration computation with 64-bit
wrap-around (what the driver runs) and `PropsInt64` relates the two.  The `Shape` oneof is looked at by `Cut`
only (`Shape.lean`, `PropsShape`: it never influences a magnitude or length; `Sum` ignores it by its own
comment); `ShapeOps.lean` follows it (and the non-timing fields of a mode) through every operation that carries
segments along.

The *specification* the operations are compared with is `den`: a segment list read as a step
function of time.  It is defined at the end of this file, independently of the operations.
-/
namespace ScVerif.C18

structure Seg where
  mag : Int
  len : Option Int
deriving Repr, DecidableEq

/-! ## active.go -/

/-- The loop of `ActiveAt`: `cur` is the running total, `i` the index of the head of the list. -/
def activeAtLoop (d : Int) : Int → Nat → List Seg → Int × Nat
  | cur, i, [] => (cur, i)
  | cur, i, s :: rest =>
    match s.len with
    | none => (cur, i)
    | some l => if cur + l > d then (cur, i) else activeAtLoop d (cur + l) (i + 1) rest

/-- `ActiveAt(d, segments...) (elapsed, index)`. -/
def activeAt (d : Int) (segs : List Seg) : Int × Nat :=
  if d < 0 then (d, 0) else activeAtLoop d 0 0 segs

/-! ## magnitude.go -/

/-- `MagnitudeAt(d, segments...) (level, ok)`. -/
def magnitudeAt (d : Int) (segs : List Seg) : Int × Bool :=
  if d < 0 then (0, false)
  else
    match segs[(activeAt d segs).2]? with
    | none => (0, false)
    | some s => (s.mag, true)

/-- The `continue` condition of `Max` negated: the segment is counted (length absent or positive). -/
def counts (s : Seg) : Bool :=
  match s.len with
  | none => true
  | some l => decide (l > 0)

/-- The loop of `Max`: state `(found, max, index)`, `i` the index of the head of the list. -/
def maxLoop : Bool → Int → Nat → Nat → List Seg → Bool × Nat
  | found, _, index, _, [] => (found, index)
  | found, mx, index, i, s :: rest =>
    if !counts s then maxLoop found mx index (i + 1) rest
    else if !found then maxLoop true s.mag i (i + 1) rest
    else if s.mag > mx then maxLoop true s.mag i (i + 1) rest
    else maxLoop found mx index (i + 1) rest

/-- `Max(segments...) index`. -/
def maxIdx (segs : List Seg) : Nat :=
  let r := maxLoop false 0 0 0 segs
  if !r.1 then segs.length else r.2

/-- `MaxMagnitude(segments...)`. -/
def maxMagnitude (segs : List Seg) : Int :=
  match segs[maxIdx segs]? with
  | some s => s.mag
  | none => 0

/-- `MaxAfter(d, segments...)`: `Max(segments[i:]...) + i` with `i` from `ActiveAt`. -/
def maxAfter (d : Int) (segs : List Seg) : Nat :=
  let i := (activeAt d segs).2
  maxIdx (segs.drop i) + i

/-- `SumMagnitude`. -/
def sumMagnitude : List Seg → Int
  | [] => 0
  | s :: rest => s.mag + sumMagnitude rest

/-! ## duration.go -/

def durationLoop : Int → List Seg → Int × Bool
  | total, [] => (total, false)
  | total, s :: rest =>
    match s.len with
    | none => (total, true)
    | some l => durationLoop (total + l) rest

/-- `Duration(s...) (total, infinite)`. -/
def duration (segs : List Seg) : Int × Bool := durationLoop 0 segs

/-! ## cut.go -/

structure CutResult where
  before : Option Seg
  after : Option Seg
  outside : Bool
deriving Repr, DecidableEq

/-- `Cut(d, segment) (before, after, outside)`; `none` is the Go `nil` segment. -/
def cutSeg (d : Int) (s : Seg) : CutResult :=
  if d ≤ 0 then ⟨none, some s, decide (d < 0)⟩
  else
    match s.len with
    | none => ⟨some ⟨s.mag, some d⟩, some s, false⟩
    | some l =>
      if l ≤ d then ⟨some s, none, true⟩
      else ⟨some ⟨s.mag, some d⟩, some ⟨s.mag, some (l - d)⟩, false⟩

/-! ## shift.go -/

/-- The stand-in for a Go `nil` list element.  `shiftNegLoop` would store `after == nil` in
`out[0]` if `Cut` returned no `after`; lemma `shiftNegLoop_after_isSome` shows this never happens. -/
def nilSeg : Seg := ⟨0, none⟩

/-- The loop of the negative branch of `Shift` (`d` already negated, so `d > 0`). -/
def shiftNegLoop (d : Int) : Int → List Seg → List Seg
  | _, [] => []
  | cur, s :: rest =>
    match s.len with
    | none => s :: rest
    | some l =>
      if cur + l > d then ((cutSeg (d - cur) s).after.getD nilSeg) :: rest
      else shiftNegLoop d (cur + l) rest

/-- `Shift(d, segments...)`. -/
def shift (d : Int) (segs : List Seg) : List Seg :=
  if d = 0 then segs
  else
    match segs with
    | [] => []
    | first :: rest =>
      if d > 0 then
        if first.mag = 0 then
          match first.len with
          | none => first :: rest
          | some l => ⟨first.mag, some (l + d)⟩ :: rest
        else ⟨0, some d⟩ :: first :: rest
      else shiftNegLoop (-d) 0 (first :: rest)

/-! ## sum.go -/

/-- The Go `cut` struct of sum.go: a rising or falling edge. -/
structure Edge where
  time : Int
  delta : Int
deriving Repr, DecidableEq

/-- The inner loop of `calcCuts` for one slice, `cur` the running time. -/
def edgesOf : Int → List Seg → List Edge
  | _, [] => []
  | cur, s :: rest =>
    let rise := if s.mag ≠ 0 then [Edge.mk cur s.mag] else []
    match s.len with
    | none => rise
    | some l =>
      rise ++ (if s.mag ≠ 0 then [Edge.mk (cur + l) (-s.mag)] else []) ++ edgesOf (cur + l) rest

/-- All edges in append order (outer loop of `calcCuts`, before sorting). -/
def rawEdges : List (List Seg) → List Edge
  | [] => []
  | l :: ls => edgesOf 0 l ++ rawEdges ls

/-- Insert `e` after every element whose time is `≤ e.time` (what the inner loop of an insertion
sort with `less(i,j) = cuts[i].at < cuts[j].at` does when run from the right end). -/
def insertEdge (e : Edge) : List Edge → List Edge
  | [] => [e]
  | x :: xs => if e.time < x.time then e :: x :: xs else x :: insertEdge e xs

/-- Stable insertion sort by time.  `sort.Slice` is *not* stable; `SumLemmas.sumEdges_order_irrelevant`
proves that the result of `Sum` does not depend on the order among equal-time edges, so any sort
yields the list computed from this one. -/
def sortEdges (es : List Edge) : List Edge := es.foldl (fun acc e => insertEdge e acc) []

/-- `calcCuts`. -/
def calcCuts (ls : List (List Seg)) : List Edge := sortEdges (rawEdges ls)

/-- `anyInfinite(segmentSlices)`: some list has a segment without a length (`Duration(slice...)`
reports `infinite`). -/
def anyInfinite (ls : List (List Seg)) : Bool := ls.any (fun l => (duration l).2)

/-- The rule of `Sum` for its open last element, as a predicate on that element's magnitude: it is
dropped iff `last.Magnitude == 0 || !anyInfinite(segmentSlices)`. -/
def dropRule (inf : Bool) (m : Int) : Bool := decide (m = 0) || !inf

/-- The rule before the `fix:` commit 5957697 (`last.Magnitude <= 0`), kept for the record:
`PropsSeg.C18_sum_legacy_fails`. -/
def dropRuleLegacy (m : Int) : Bool := decide (m ≤ 0)

/-- The main loop of `Sum` followed by its final trimming.  Loop invariant of the Go code: every
element of `result` but the last is final, and the last one has `Length == nil`; so the state is the
magnitude `mag` of that open last element plus `lastTime`, and completed elements are emitted.
`length == 0` adds to the open element; otherwise the open element is closed with `length` and a
new one is opened.  At the end the open element is dropped when `drop` says so. -/
def emit (drop : Int → Bool) : Int → Int → List Edge → List Seg
  | mag, _, [] => if drop mag then [] else [⟨mag, none⟩]
  | mag, lastTime, e :: es =>
    if e.time - lastTime = 0 then emit drop (mag + e.delta) lastTime es
    else ⟨mag, some (e.time - lastTime)⟩ :: emit drop (mag + e.delta) e.time es

/-- `Sum` applied to already computed cuts: with no cuts `result` stays `nil`; otherwise the first
iteration appends the zero segment and the loop proceeds as `emit` from `(0, 0)`. -/
def sumEdges (drop : Int → Bool) : List Edge → List Seg
  | [] => []
  | e :: es => emit drop 0 0 (e :: es)

/-- `Sum(segmentSlices...)`. -/
def sum (ls : List (List Seg)) : List Seg := sumEdges (dropRule (anyInfinite ls)) (calcCuts ls)

/-- `Sum` as it was before the fix. -/
def sumLegacy (ls : List (List Seg)) : List Seg := sumEdges dropRuleLegacy (calcCuts ls)

/-! ### `Sum`, literally

The same loop written exactly as in sum.go — `result` is a slice that is appended to and whose last
element is updated in place.  The driver runs this loop in its 64-bit rendering `sum64` (Seg64.lean: the same
steps with `wrap`), so the correspondence check ties the literal rendering to the code; `sum64` is `sum` under
`AllSmall` (`Seg64Lemmas.sum64_eq`), and `SumLemmas.sumGoEdges_eq` proves this loop equal to `sumEdges`/`emit`,
which is what the theorems are stated about (`sumGo ls = sum ls`: `C18_sum_go_loop`). -/

/-- `result[len(result)-1] = f(result[len(result)-1])`. -/
def updLast (f : Seg → Seg) : List Seg → List Seg
  | [] => []
  | [s] => [f s]
  | s :: t => s :: updLast f t

/-- `result[len(result)-1].Magnitude` (the slice is never empty where the code reads this). -/
def lastMagOf (result : List Seg) : Int :=
  match result.getLast? with
  | some last => last.mag
  | none => 0

/-- The trimming after the loop: drop the last element if it has no length and the rule says so. -/
def trimLast (drop : Int → Bool) (result : List Seg) : List Seg :=
  match result.getLast? with
  | some last => if last.len = none ∧ drop last.mag = true then result.dropLast else result
  | none => result

/-- One iteration of `for _, cut := range cuts` on the state `(result, lastTime)`. -/
def sumGoStep (st : List Seg × Int) (c : Edge) : List Seg × Int :=
  let length := c.time - st.2
  let result := if st.1.length = 0 then st.1 ++ [⟨0, none⟩] else st.1
  if length = 0 then
    (updLast (fun s => ⟨s.mag + c.delta, s.len⟩) result, st.2)
  else
    let lastMag := lastMagOf result
    (updLast (fun s => ⟨s.mag, some length⟩) result ++ [⟨lastMag + c.delta, none⟩], c.time)

/-- The whole of `Sum` after `calcCuts`: the loop, then the trimming of the last element. -/
def sumGoEdges (drop : Int → Bool) (cuts : List Edge) : List Seg :=
  trimLast drop (cuts.foldl sumGoStep ([], 0)).1

def sumGo (ls : List (List Seg)) : List Seg := sumGoEdges (dropRule (anyInfinite ls)) (calcCuts ls)

/-! ## Specification: a segment list as a step function of time -/

/-- The magnitude at time `t` (ns after the start of the list): `0` before the start; the first
segment's magnitude while `t` is within its length (always, if it has no length); otherwise whatever
the rest of the list says at `t - length`.  `0` after the end. -/
def den : List Seg → Int → Int
  | [], _ => 0
  | s :: rest, t =>
    if t < 0 then 0
    else
      match s.len with
      | none => s.mag
      | some l => if t < l then s.mag else den rest (t - l)

/-- Whether some segment is active at `t` (the support of the step function). -/
def covered : List Seg → Int → Bool
  | [], _ => false
  | s :: rest, t =>
    if t < 0 then false
    else
      match s.len with
      | none => true
      | some l => if t < l then true else covered rest (t - l)

/-- The step function of an optional single segment (`none` = the Go `nil` = nothing). -/
def denOpt : Option Seg → Int → Int
  | none, _ => 0
  | some s, t => den [s] t

/-- All lengths are non-negative (a `time.Duration` length of a real segment). -/
def NonNeg (segs : List Seg) : Prop := ∀ s ∈ segs, ∀ l, s.len = some l → 0 ≤ l

/-- Magnitude of the first length-less segment, `0` if there is none: the value of the step
function "at infinity". -/
def tailMag : List Seg → Int
  | [] => 0
  | s :: rest =>
    match s.len with
    | none => s.mag
    | some _ => tailMag rest

/-- Pointwise sum of the step functions of several lists. -/
def denSum : List (List Seg) → Int → Int
  | [], _ => 0
  | l :: ls, t => den l t + denSum ls t

def tailSum : List (List Seg) → Int
  | [] => 0
  | l :: ls => tailMag l + tailSum ls

end ScVerif.C18
