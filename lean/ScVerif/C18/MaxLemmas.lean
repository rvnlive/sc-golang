import ScVerif.C18.Seg
/-! Lemmas about `Max`: the left-to-right loop equals a right-to-left description (`best`), whose
properties follow by structural induction. -/
namespace ScVerif.C18

/-- Relative index and magnitude of the first maximal counted segment, computed from the right. -/
def best : List Seg → Option (Nat × Int)
  | [] => none
  | s :: rest =>
    match best rest with
    | none => if counts s then some (0, s.mag) else none
    | some (j, m) => if counts s ∧ m ≤ s.mag then some (0, s.mag) else some (j + 1, m)

theorem maxLoop_eq_best (rest : List Seg) (found : Bool) (mx : Int) (index i : Nat) :
    maxLoop found mx index i rest =
      match best rest with
      | none => (found, index)
      | some (j, m) => if found = false ∨ m > mx then (true, i + j) else (found, index) := by
  induction rest generalizing found mx index i with
  | nil => simp [maxLoop, best]
  | cons s rest ih =>
    -- one iteration: a counted segment that is the first or beats the maximum so far takes over
    have step : maxLoop found mx index i (s :: rest) =
        if counts s = true ∧ (found = false ∨ s.mag > mx) then maxLoop true s.mag i (i + 1) rest
        else maxLoop found mx index (i + 1) rest := by
      cases hc : counts s <;> cases found <;> by_cases hgt : s.mag > mx <;> simp [maxLoop, hc, hgt]
    rw [step, ih, ih]
    simp only [best]
    by_cases htake : counts s = true ∧ (found = false ∨ s.mag > mx)
    · rw [if_pos htake]
      cases hb : best rest with
      | none => simp [htake.1, htake.2]
      | some jm =>
        obtain ⟨j, m⟩ := jm
        simp only [Bool.true_eq_false, false_or, htake.1, true_and]
        by_cases hm : m ≤ s.mag
        · have : ¬ m > s.mag := by omega
          simp [hm, this, htake.2]
        · have h1 : m > s.mag := by omega
          have h2 : found = false ∨ m > mx := htake.2.imp id (fun h => by omega)
          simp only [hm, h1, h2, if_true, if_false]
          refine Prod.ext rfl ?_
          simp; omega
    · rw [if_neg htake]
      cases hb : best rest with
      | none =>
        by_cases hc : counts s = true
        · have : ¬ (found = false ∨ s.mag > mx) := fun h => htake ⟨hc, h⟩
          simp [hc, this]
        · simp [hc]
      | some jm =>
        obtain ⟨j, m⟩ := jm
        simp only []
        by_cases hc : counts s = true
        · have hno : ¬ (found = false ∨ s.mag > mx) := fun h => htake ⟨hc, h⟩
          by_cases hm : m ≤ s.mag
          · have : ¬ (found = false ∨ m > mx) := fun h => hno (h.imp id (fun h => by omega))
            simp [hc, hm, this, hno]
          · by_cases h : found = false ∨ m > mx
            · simp only [hc, hm, h, true_and, if_true, if_false]
              refine Prod.ext rfl ?_
              simp; omega
            · simp [hc, hm, h]
        · by_cases h : found = false ∨ m > mx
          · simp only [hc, h, Bool.false_eq_true, false_and, if_true, if_false]
            refine Prod.ext rfl ?_
            simp; omega
          · simp [hc, h]

theorem best_eq (segs : List Seg) :
    best segs = (((segs.filter counts).map (·.mag)).max?).map fun m =>
      (segs.findIdx (fun s => counts s && s.mag == m), m) := by
  induction segs with
  | nil => rfl
  | cons s rest ih =>
    simp only [best, ih, List.filter_cons, List.findIdx_cons]
    cases hc : counts s with
    | false =>
      simp only [Bool.false_eq_true, if_false, false_and, Bool.false_and, cond_false]
      cases ((rest.filter counts).map (·.mag)).max? <;> rfl
    | true =>
      simp only [if_true, true_and, Bool.true_and, List.map_cons, List.max?_cons]
      cases ((rest.filter counts).map (·.mag)).max? with
      | none => simp
      | some m =>
        simp only [Option.map_some, Option.elim_some]
        by_cases hm : m ≤ s.mag
        · rw [if_pos hm, show max s.mag m = s.mag by omega]; simp
        · rw [if_neg hm, show max s.mag m = m by omega, (beq_eq_false_iff_ne).mpr (by omega)]; rfl

theorem best_none (segs : List Seg) (h : best segs = none) : ∀ s ∈ segs, counts s = false := by
  rw [best_eq, Option.map_eq_none_iff, List.max?_eq_none_iff, List.map_eq_nil_iff, List.filter_eq_nil_iff] at h
  exact fun s hs => Bool.eq_false_iff.mpr (h s hs)

/-- What `Max` documents: `j` holds a counted segment of magnitude `m`, no counted segment exceeds `m`, and none
before `j` reaches it. -/
def IsFirstMax (segs : List Seg) (j : Nat) (m : Int) : Prop :=
  (∃ s, segs[j]? = some s ∧ counts s = true ∧ s.mag = m) ∧
  (∀ (k : Nat) s', segs[k]? = some s' → counts s' = true → s'.mag ≤ m) ∧
  (∀ (k : Nat) s', k < j → segs[k]? = some s' → counts s' = true → s'.mag < m)

theorem best_some (segs : List Seg) (j : Nat) (m : Int) (h : best segs = some (j, m)) :
    IsFirstMax segs j m := by
  rw [best_eq] at h
  obtain ⟨m', hmax, e⟩ := Option.map_eq_some_iff.mp h
  obtain ⟨rfl, rfl⟩ := Prod.mk.inj e
  obtain ⟨hmem, hle⟩ := List.max?_eq_some_iff.mp hmax
  have hle' : ∀ (k : Nat) s', segs[k]? = some s' → counts s' = true → s'.mag ≤ m' := fun k s' hk hc =>
    hle _ (List.mem_map_of_mem (List.mem_filter.mpr ⟨List.mem_of_getElem? hk, hc⟩))
  obtain ⟨s0, hs0, rfl⟩ := List.mem_map.mp hmem
  obtain ⟨hs0, hc0⟩ := List.mem_filter.mp hs0
  have hlt := List.findIdx_lt_length_of_exists (p := fun s => counts s && s.mag == s0.mag) ⟨s0, hs0, by simp [hc0]⟩
  have hp := List.findIdx_getElem (w := hlt)
  simp only [Bool.and_eq_true, beq_iff_eq] at hp
  refine ⟨⟨_, List.getElem?_eq_getElem hlt, hp.1, hp.2⟩, hle', fun k s' hk hks hc => ?_⟩
  have := List.not_of_lt_findIdx hk
  obtain ⟨_, rfl⟩ := List.getElem?_eq_some_iff.mp hks
  have hne : segs[k].mag ≠ s0.mag := by simpa [hc] using this
  have := hle' k _ hks hc
  omega

theorem maxIdx_eq (segs : List Seg) :
    maxIdx segs = match best segs with
      | none => segs.length
      | some (j, _) => j := by
  unfold maxIdx
  simp only [maxLoop_eq_best]
  cases hb : best segs with
  | none => simp
  | some jm => obtain ⟨j, m⟩ := jm; simp

/-- What `MaxAfter` indexes: `Max` of the segments from the active one on. -/
theorem getElem?_maxAfter (d : Int) (segs : List Seg) :
    segs[maxAfter d segs]? = (segs.drop (activeAt d segs).2)[maxIdx (segs.drop (activeAt d segs).2)]? := by
  rw [maxAfter, List.getElem?_drop, Nat.add_comm]

end ScVerif.C18
