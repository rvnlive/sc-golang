import ScVerif.C18.ModeLemmas
/-! What the operations return is well-formed again (`NonNeg`; for `Sum` `Pos` and `FinInit`), so the step-function
laws apply to results of results; the results do not depend on the order of the arguments; and, last section, `Max`
against the step function. -/
namespace ScVerif.C18

/-- Every present length is positive: what `Sum` returns (it never emits a zero-length segment). -/
def Pos (segs : List Seg) : Prop := ∀ s ∈ segs, ∀ l, s.len = some l → 0 < l

/-- Only the last element may be length-less. -/
def FinInit : List Seg → Prop
  | [] => True
  | [_] => True
  | s :: s' :: t => s.len ≠ none ∧ FinInit (s' :: t)

theorem Pos.nonNeg {segs : List Seg} (h : Pos segs) : NonNeg segs :=
  fun s hs l hl => Int.le_of_lt (h s hs l hl)

theorem finInit_cons (x : Seg) (r : List Seg) (hx : x.len ≠ none) (hr : FinInit r) : FinInit (x :: r) := by
  cases r with
  | nil => trivial
  | cons y t => exact ⟨hx, hr⟩

theorem finInit_getElem (segs : List Seg) (h : FinInit segs) (i : Nat) (hi : i + 1 < segs.length)
    (s : Seg) (hs : segs[i]? = some s) : s.len ≠ none := by
  induction segs generalizing i with
  | nil => simp at hi
  | cons x r ih =>
    cases r with
    | nil => simp at hi
    | cons y t =>
      cases i with
      | zero => simp at hs; subst hs; exact h.1
      | succ j =>
        simp only [List.getElem?_cons_succ] at hs
        exact ih h.2 j (by simp at hi ⊢; omega) hs

theorem emitWith_wf (add : Int → Int → Int) (drop : Int → Bool) (es : List Edge) (mag lt : Int) (hs : SortedT es)
    (hge : ∀ e ∈ es, lt ≤ e.time) : Pos (emitWith add drop mag lt es) ∧ FinInit (emitWith add drop mag lt es) := by
  induction es generalizing mag lt with
  | nil =>
    simp only [emitWith]
    split
    · exact ⟨fun s hs => by simp at hs, trivial⟩
    · exact ⟨fun s hs l hl => by simp at hs; subst hs; simp at hl, trivial⟩
  | cons e es ih =>
    have hs' : SortedT es := (sortedT_cons.mp hs).2
    have hle : ∀ e' ∈ es, e.time ≤ e'.time := (List.pairwise_cons.mp hs).1
    have h0 := hge e List.mem_cons_self
    simp only [emitWith]
    by_cases hz : e.time - lt = 0
    · simp only [hz, if_true]
      exact ih (add mag e.delta) lt hs' (fun e' he' => hge e' (List.mem_cons_of_mem _ he'))
    · simp only [hz, if_false]
      obtain ⟨p, f⟩ := ih (add mag e.delta) e.time hs' hle
      refine ⟨fun s hs l hl => ?_, finInit_cons _ _ (by simp) f⟩
      rcases List.mem_cons.mp hs with rfl | hs
      · simp at hl; omega
      · exact p s hs l hl

theorem sum_wf (ls : List (List Seg)) (h : AllNonNeg ls) : Pos (sum ls) ∧ FinInit (sum ls) := by
  unfold sum
  have hsorted := sortEdges_sorted (rawEdges ls)
  have hge : ∀ e ∈ calcCuts ls, 0 ≤ e.time := fun e he =>
    rawEdges_time_ge ls h e ((sortEdges_perm (rawEdges ls)).subset he)
  cases hc : calcCuts ls with
  | nil => exact ⟨fun s hs => by simp [sumEdges] at hs, trivial⟩
  | cons e es =>
    simp only [sumEdges]
    rw [hc] at hge
    unfold calcCuts at hc
    rw [hc] at hsorted
    rw [emit_eq_emitWith]
    exact emitWith_wf _ _ (e :: es) 0 0 hsorted hge

theorem modeCut_nonNeg (t : Int) (m : Mode) (h : NonNeg m.segs) :
    (∀ b, (modeCut t m).before = some b → NonNeg b.segs) ∧ (∀ a, (modeCut t m).after = some a → NonNeg a.segs) := by
  have self : ∀ x, some m = some x → NonNeg x.segs := fun x e => Option.some.inj e ▸ h
  have absent : ∀ x : Mode, none = some x → NonNeg x.segs := fun x e => nomatch e
  rcases modeCut_cases t m with ⟨_, e⟩ | ⟨_, _, e⟩ | ⟨_, _, _, e⟩ | ⟨_, _, _, e⟩ <;> rw [e]
  · exact ⟨self, self⟩
  · exact ⟨absent, self⟩
  · exact ⟨self, absent⟩
  · exact ⟨fun b e => Option.some.inj e ▸ (nonNeg_headAt_tailAt _ _ h).1,
      fun a e => Option.some.inj e ▸ (nonNeg_headAt_tailAt _ _ h).2⟩

theorem modeCut_two_sided (t : Int) (m : Mode) (b a : Mode)
    (hb : (modeCut t m).before = some b) (ha : (modeCut t m).after = some a) :
    (m.segs = [] ∧ b = m ∧ a = m) ∨
    (∃ s, m.start = some s ∧ s < t ∧ b.start = some s ∧ a.start = some t) := by
  rcases modeCut_cases t m with ⟨h0, e⟩ | ⟨_, _, e⟩ | ⟨_, _, _, e⟩ | ⟨_, hgt, _, e⟩ <;> rw [e] at hb ha
  · cases hb; cases ha
    exact .inl ⟨List.length_eq_zero_iff.mp h0, rfl, rfl⟩
  · cases hb
  · cases ha
  · cases hb; cases ha
    cases hst : m.start with
    | none => rw [hst] at hgt; exact absurd hgt (Int.lt_irrefl t)
    | some s => rw [hst] at hgt; exact .inr ⟨s, rfl, hgt, rfl, rfl⟩

theorem modeShift_nonNeg (d : Int) (m : Mode) (h : NonNeg m.segs) : NonNeg (modeShift d m).segs := by
  cases hs : m.start with
  | none => rw [modeShift_of_none hs]; exact shift_nonNeg d m.segs h
  | some s => rw [modeShift_of_some hs]; exact h

theorem modeSum_wf (ms : List Mode) (hne : ms ≠ []) (hnn : ∀ m ∈ ms, NonNeg m.segs) :
    ∃ r, modeSum ms = some r ∧ Pos r.segs ∧ FinInit r.segs := by
  rcases modeSum_cases ms hne with ⟨_, _, _, e⟩ | ⟨a, b, _, ha, _, hbounds, _, e⟩
  · refine ⟨_, e, sum_wf _ fun l hl => ?_⟩
    obtain ⟨m, hm, rfl⟩ := List.mem_map.mp hl
    exact hnn m hm
  · exact ⟨_, e, sum_wf _ (alignLoop_spec a b ms hnn (hbounds a ha).2 (fun s hs => (hbounds s hs).1)).1⟩

theorem rawEdges_perm {a b : List (List Seg)} (h : a.Perm b) : (rawEdges a).Perm (rawEdges b) := by
  rw [rawEdges_eq_flatten, rawEdges_eq_flatten]; exact (h.map _).flatten

theorem anyInfinite_perm {a b : List (List Seg)} (h : a.Perm b) : anyInfinite a = anyInfinite b := by
  unfold anyInfinite
  induction h with
  | nil => rfl
  | cons x _ ih => simp only [List.any_cons, ih]
  | swap x y l => simp only [List.any_cons]; rw [← Bool.or_assoc, ← Bool.or_assoc, Bool.or_comm (duration x).2]
  | trans _ _ ih1 ih2 => rw [ih1, ih2]

theorem alignLoop_eq_map (e l : Int) (ms : List Mode) :
    alignLoop e l ms = ms.map (fun m => shift (m.start.getD l - e) m.segs) := by
  induction ms with
  | nil => rfl
  | cons m ms ih => simp only [alignLoop, List.map_cons, ih]

theorem startsLoop_perm {a b : List Mode} (h : a.Perm b) :
    startsLoop none none a = startsLoop none none b := by
  obtain ⟨h1, h2⟩ := min?_max?_perm (h.filterMap (·.start))
  rw [startsLoop_eq, startsLoop_eq, starts, starts, h1, h2]

/-- The lists `modepb.Sum` hands on are the same lists, in another order, for permuted arguments. -/
theorem modeSumLists_perm {a b : List Mode} (h : a.Perm b) : (modeSumLists a).Perm (modeSumLists b) := by
  unfold modeSumLists
  rw [startsLoop_perm h]
  split
  · rw [alignLoop_eq_map, alignLoop_eq_map]; exact h.map _
  · exact h.map _

/-! ### `Max` against the step function: an active segment is a counted one, and in a well-formed list every
counted segment is active somewhere -/

theorem covered_nonneg (segs : List Seg) (t : Int) (h : covered segs t = true) : 0 ≤ t := by
  by_cases hneg : t < 0
  · rw [covered_neg _ _ hneg] at h; cases h
  · omega

theorem covered_counted (segs : List Seg) (t : Int) (h : covered segs t = true) :
    ∃ s ∈ segs, counts s = true ∧ den segs t = s.mag := by
  obtain ⟨s, hs⟩ := exists_segAt_of_covered h
  exact ⟨s, (segAt_mem_counts hs).1, (segAt_mem_counts hs).2, (den_covered_of_segAt_some hs).1⟩

theorem exists_segAt_of_counted (segs : List Seg) (h : NonNeg segs) (hf : FinInit segs) (s : Seg) (hs : s ∈ segs)
    (hc : counts s = true) : ∃ t, segAt segs t = some s := by
  induction segs with
  | nil => cases hs
  | cons x rest ih =>
    rcases List.mem_cons.mp hs with rfl | hr
    · -- a counted segment is active at its own start
      refine ⟨0, segAt_here s rest (Int.le_refl 0) (fun l hl => ?_)⟩
      simpa [counts, hl] using hc
    · cases rest with
      | nil => cases hr
      | cons y tl =>
        cases hx : x.len with
        | none => exact absurd hx hf.1
        | some l =>
          obtain ⟨t', ht'⟩ := ih h.tail hf.2 hr
          have ht0 : 0 ≤ t' := Int.not_lt.mp fun hn => by rw [segAt_neg _ hn] at ht'; cases ht'
          have hl := h.head l hx
          refine ⟨t' + l, ?_⟩
          rw [segAt_next x _ (by omega) hx (by omega), show t' + l - l = t' by omega]
          exact ht'

theorem counted_attained (segs : List Seg) (h : NonNeg segs) (hf : FinInit segs) (s : Seg) (hs : s ∈ segs)
    (hc : counts s = true) : ∃ t, covered segs t = true ∧ den segs t = s.mag :=
  (exists_segAt_of_counted segs h hf s hs hc).elim fun t ht =>
    ⟨t, (den_covered_of_segAt_some ht).2, (den_covered_of_segAt_some ht).1⟩

theorem finInit_tail {x : Seg} {r : List Seg} (h : FinInit (x :: r)) : FinInit r := by
  cases r with
  | nil => trivial
  | cons y t => exact h.2

theorem finInit_drop (segs : List Seg) (n : Nat) (h : FinInit segs) : FinInit (segs.drop n) := by
  induction n generalizing segs with
  | zero => simpa using h
  | succ k ih =>
    cases segs with
    | nil => trivial
    | cons x r => simpa using ih r (finInit_tail h)

theorem den_covered_drop (segs : List Seg) (i : Nat) (h : NonNeg segs)
    (hp : ∀ s ∈ segs.take i, s.len ≠ none) (t : Int) (ht : lenSum (segs.take i) ≤ t) :
    den segs t = den (segs.drop i) (t - lenSum (segs.take i)) ∧
    covered segs t = covered (segs.drop i) (t - lenSum (segs.take i)) :=
  den_covered_of_segAt (segAt_drop segs i h hp t ht)

theorem den_covered_head (x : Seg) (r : List Seg) (u : Int) (hu : 0 ≤ u) (h : ∀ l, x.len = some l → u < l) :
    den (x :: r) u = x.mag ∧ covered (x :: r) u = true :=
  den_covered_of_segAt_some (segAt_here x r hu h)

end ScVerif.C18
