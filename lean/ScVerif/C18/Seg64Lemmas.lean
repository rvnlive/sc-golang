import ScVerif.C18.Seg64
import ScVerif.C18.SumLemmas
import ScVerif.C18.CutLemmas
/-! The 64-bit versions equal the unbounded ones while no intermediate result reaches 2^63. -/
namespace ScVerif.C18

theorem wrap_id (x : Int) (h1 : -two63 ≤ x) (h2 : x < two63) : wrap x = x := by
  unfold wrap; unfold two63 at h1 h2; omega

/-- Non-negative lengths whose total stays below 2^63 ns: no `int64` addition of the scans wraps. -/
def Small (segs : List Seg) : Prop := NonNeg segs ∧ lenSum segs < two63

theorem two63_pos : (0 : Int) < two63 := by unfold two63; omega

/-- One step of a scan that adds up lengths from `cur`: the `int64` sum is the exact one, and the rest of the list
is in the same situation from `cur + l`. -/
theorem wrap_step {s : Seg} {rest : List Seg} {l cur : Int} (hl : s.len = some l) (hnn : NonNeg (s :: rest))
    (hc : 0 ≤ cur) (hs : cur + lenSum (s :: rest) < two63) :
    wrap (cur + l) = cur + l ∧ 0 ≤ l ∧ 0 ≤ lenSum rest ∧ cur + l + lenSum rest < two63 := by
  have h0 := hnn.head l hl
  have hr := lenSum_nonneg rest hnn.tail
  rw [lenSum_cons_some s rest l hl] at hs
  exact ⟨wrap_id _ (by have := two63_pos; omega) (by omega), h0, hr, by omega⟩

theorem activeAtLoop64_eq (d : Int) (segs : List Seg) (cur : Int) (i : Nat) (hnn : NonNeg segs)
    (hc : 0 ≤ cur) (hs : cur + lenSum segs < two63) :
    activeAtLoop64 d cur i segs = activeAtLoop d cur i segs := by
  induction segs generalizing cur i with
  | nil => rfl
  | cons s rest ih =>
    cases hl : s.len with
    | none => simp [activeAtLoop64, activeAtLoop, hl]
    | some l =>
      obtain ⟨hw, h0, _, hs'⟩ := wrap_step hl hnn hc hs
      simp only [activeAtLoop64, activeAtLoop, hl, hw]
      rw [ih (cur + l) (i + 1) hnn.tail (by omega) hs']

theorem activeAt64_eq (d : Int) (segs : List Seg) (h : Small segs) :
    activeAt64 d segs = activeAt d segs := by
  unfold activeAt64 activeAt
  rw [activeAtLoop64_eq d segs 0 0 h.1 (Int.le_refl _) (by have := h.2; omega)]

theorem magnitudeAt64_eq (d : Int) (segs : List Seg) (h : Small segs) :
    magnitudeAt64 d segs = magnitudeAt d segs := by
  unfold magnitudeAt64 magnitudeAt
  rw [activeAt64_eq d segs h]
  split
  · rfl
  · cases segs[(activeAt d segs).2]? <;> rfl

theorem maxAfter64_eq (d : Int) (segs : List Seg) (h : Small segs) :
    maxAfter64 d segs = maxAfter d segs := by
  unfold maxAfter64 maxAfter
  rw [activeAt64_eq d segs h]

theorem durationLoop64_eq (segs : List Seg) (total : Int) (hnn : NonNeg segs)
    (hc : 0 ≤ total) (hs : total + lenSum segs < two63) :
    durationLoop64 total segs = durationLoop total segs := by
  induction segs generalizing total with
  | nil => rfl
  | cons s rest ih =>
    cases hl : s.len with
    | none => simp [durationLoop64, durationLoop, hl]
    | some l =>
      obtain ⟨hw, h0, _, hs'⟩ := wrap_step hl hnn hc hs
      simp only [durationLoop64, durationLoop, hl, hw]
      exact ih (total + l) hnn.tail (by omega) hs'

theorem duration64_eq (segs : List Seg) (h : Small segs) : duration64 segs = duration segs :=
  durationLoop64_eq segs 0 h.1 (Int.le_refl _) (by have := h.2; omega)

theorem shiftNegLoop64_eq (D : Int) (segs : List Seg) (cur : Int) (hnn : NonNeg segs)
    (hc : 0 ≤ cur) (hcd : cur ≤ D) (hD : D < two63) (hs : cur + lenSum segs < two63) :
    shiftNegLoop64 D cur segs = (shiftNegLoop D cur segs).map some := by
  induction segs generalizing cur with
  | nil => rfl
  | cons s rest ih =>
    cases hl : s.len with
    | none => simp [shiftNegLoop64, shiftNegLoop, hl]
    | some l =>
      obtain ⟨hw, h0, _, hs'⟩ := wrap_step hl hnn hc hs
      have hp := two63_pos
      have hw2 : wrap (D - cur) = D - cur := wrap_id _ (by omega) (by omega)
      simp only [shiftNegLoop64, shiftNegLoop, hl, hw, hw2]
      by_cases hgt : cur + l > D
      · simp only [hgt, if_true, List.map_cons]
        have hsome := shiftNegLoop_after_isSome D cur s l hl hgt
        cases hcut : (cutSeg (D - cur) s).after with
        | none => rw [hcut] at hsome; cases hsome
        | some a => simp
      · simp only [hgt, if_false]
        exact ih (cur + l) hnn.tail (by omega) (by omega) hs'

theorem shift64_eq (d : Int) (segs : List Seg) (h : Small segs) (hd : -two63 < d)
    (hsum : lenSum segs + d < two63) : shift64 d segs = (shift d segs).map some := by
  unfold shift64 shift
  by_cases hd0 : d = 0
  · simp [hd0]
  · simp only [hd0, if_false]
    cases segs with
    | nil => rfl
    | cons first rest =>
      have hp := two63_pos
      by_cases hpos : d > 0
      · simp only [hpos, if_true]
        by_cases hm : first.mag = 0
        · simp only [hm, if_true]
          cases hf : first.len with
          | none => rfl
          | some l =>
            have h0 := h.1.head l hf
            have hr := lenSum_nonneg rest h.1.tail
            rw [lenSum_cons_some first rest l hf] at hsum
            have hw : wrap (l + d) = l + d := wrap_id _ (by omega) (by omega)
            simp only [hw, List.map_cons]
        · simp [hm]
      · simp only [hpos, if_false]
        have hw : wrap (-d) = -d := wrap_id _ (by omega) (by omega)
        rw [hw]
        exact shiftNegLoop64_eq (-d) _ 0 h.1 (Int.le_refl _) (by omega) (by omega) (by have := h.2; omega)

theorem edgesOf64_eq (l : List Seg) (cur : Int) (hnn : NonNeg l) (hc : 0 ≤ cur)
    (hs : cur + lenSum l < two63) : edgesOf64 cur l = edgesOf cur l := by
  induction l generalizing cur with
  | nil => rfl
  | cons s rest ih =>
    cases hl : s.len with
    | none => simp [edgesOf64, edgesOf, hl]
    | some len =>
      obtain ⟨hw, h0, _, hs'⟩ := wrap_step hl hnn hc hs
      simp only [edgesOf64, edgesOf, hl, hw]
      rw [ih (cur + len) hnn.tail (by omega) hs']

/-- Every list is `Small` on its own (the lists are laid out from 0 one by one, never concatenated). -/
def AllSmall (ls : List (List Seg)) : Prop := ∀ l ∈ ls, Small l

theorem AllSmall.allNonNeg {ls : List (List Seg)} (h : AllSmall ls) : AllNonNeg ls :=
  fun l hl => (h l hl).1

theorem rawEdges64_eq (ls : List (List Seg)) (h : AllSmall ls) : rawEdges64 ls = rawEdges ls := by
  induction ls with
  | nil => rfl
  | cons l ls ih =>
    have hl := h l List.mem_cons_self
    simp only [rawEdges64, rawEdges]
    rw [edgesOf64_eq l 0 hl.1 (Int.le_refl _) (by have := hl.2; omega),
      ih (fun x hx => h x (List.mem_cons_of_mem _ hx))]

theorem rawEdges_time_lt (ls : List (List Seg)) (h : AllSmall ls) : ∀ e ∈ rawEdges ls, e.time < two63 := fun e he => by
  obtain ⟨l, hl, he⟩ := mem_rawEdges.mp he
  have := (edgesOf_time_bounds l (h l hl).1 0 e he).2
  have := (h l hl).2
  omega

theorem sumGoStep_snd (st : List Seg × Int) (c : Edge) :
    (sumGoStep st c).2 = st.2 ∨ (sumGoStep st c).2 = c.time := by
  unfold sumGoStep
  simp only []
  split
  · exact Or.inl rfl
  · exact Or.inr rfl

theorem sumGoFold64_eq (es : List Edge) (st : List Seg × Int) (hs : SortedT es)
    (hb : ∀ e ∈ es, st.2 ≤ e.time ∧ e.time < two63) (h0 : 0 ≤ st.2) :
    es.foldl sumGoStep64 st = es.foldl sumGoStep st := by
  induction es generalizing st with
  | nil => rfl
  | cons e es ih =>
    rw [sortedT_cons] at hs
    have he := hb e List.mem_cons_self
    have hp := two63_pos
    have hw : wrap (e.time - st.2) = e.time - st.2 := wrap_id _ (by omega) (by omega)
    have hstep : sumGoStep64 st e = sumGoStep st e := by
      unfold sumGoStep64 sumGoStep
      simp only [hw]
    simp only [List.foldl_cons, hstep]
    apply ih _ hs.2
    · intro x hx
      have hx1 := hb x (List.mem_cons_of_mem _ hx)
      have hx2 := hs.1 x hx
      rcases sumGoStep_snd st e with h | h <;> rw [h] <;> omega
    · rcases sumGoStep_snd st e with h | h <;> rw [h] <;> omega

theorem sum64_eq (ls : List (List Seg)) (h : AllSmall ls) : sum64 ls = sum ls := by
  unfold sum64 sumGoEdges64
  rw [rawEdges64_eq ls h]
  have hsorted := sortEdges_sorted (rawEdges ls)
  have hperm := sortEdges_perm (rawEdges ls)
  rw [sumGoFold64_eq (sortEdges (rawEdges ls)) ([], 0) hsorted ?_ (Int.le_refl _)]
  · exact sumGoEdges_eq _ (calcCuts ls)
  · intro e he
    have hm := hperm.subset he
    exact ⟨rawEdges_time_ge ls h.allNonNeg e hm, rawEdges_time_lt ls h e hm⟩

end ScVerif.C18
