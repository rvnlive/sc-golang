import ScVerif.C18.Seg
/-!
# C18 — float32 addition, where the code adds magnitudes (`Sum`, `SumMagnitude`)

`ElectricMode.Segment.magnitude` is a `float32`; `Sum` computes `result[last].Magnitude += cut.delta` and
`lastResult.Magnitude + cut.delta`, `SumMagnitude` computes `sum += segment.Magnitude` — IEEE-754 binary32
additions, i.e. the exact sum rounded to 24 significant bits, ties to even.  `rnd24` is that rounding on
integer numerators over ANY fixed power-of-two denominator (keeping 24 significant bits does not depend
on the exponent; overflow to ±Inf and subnormals are outside the model — the harness stays far inside),
`addF` the rounded addition; `sumF`/`sumMagnitudeF` are `Sum`/`SumMagnitude` with every magnitude addition
rounded.  The driver executes them (`f32add`, `sumf`, `summagf`), so the rounding model is tied to Go's
float32 arithmetic, and the float rendering of `Sum` to the real `Sum` wherever the order `sort.Slice`
leaves equal-time edges in cannot matter.  `PropsFloat`: below 2^24 nothing is rounded, so the exact
theorems of PropsSeg speak about the float code.
-/
namespace ScVerif.C18

/-- Number of significant bits of `n`. -/
def bitLen (n : Nat) : Nat := if n = 0 then 0 else Nat.log2 n + 1

/-- Round to 24 significant bits, to nearest, ties to even. -/
def rnd24 (n : Int) : Int :=
  let a := n.natAbs
  let b := bitLen a
  if b ≤ 24 then n
  else
    let sh := b - 24
    let q := a / 2 ^ sh
    let rem := a % 2 ^ sh
    let half := 2 ^ (sh - 1)
    let q' := if rem > half ∨ (rem = half ∧ q % 2 = 1) then q + 1 else q
    if n < 0 then -((q' * 2 ^ sh : Nat) : Int) else ((q' * 2 ^ sh : Nat) : Int)

/-- float32 `a + b` on numerators. -/
def addF (a b : Int) : Int := rnd24 (a + b)

/-- `SumMagnitude` with float32 additions (`sum` starts at `0`). -/
def sumMagnitudeF (segs : List Seg) : Int := segs.foldl (fun acc s => addF acc s.mag) 0

/-- `emit` (Seg.lean) with every magnitude addition rounded. -/
def emitF (drop : Int → Bool) : Int → Int → List Edge → List Seg
  | mag, _, [] => if drop mag then [] else [⟨mag, none⟩]
  | mag, lastTime, e :: es =>
    if e.time - lastTime = 0 then emitF drop (addF mag e.delta) lastTime es
    else ⟨mag, some (e.time - lastTime)⟩ :: emitF drop (addF mag e.delta) e.time es

def sumEdgesF (drop : Int → Bool) : List Edge → List Seg
  | [] => []
  | e :: es => emitF drop 0 0 (e :: es)

/-- `Sum` with float32 magnitude arithmetic (edges in the stable order of `calcCuts`). -/
def sumF (ls : List (List Seg)) : List Seg := sumEdgesF (dropRule (anyInfinite ls)) (calcCuts ls)

/-- Total of the absolute values of the edge deltas. -/
def absSum : List Edge → Int
  | [] => 0
  | e :: es => (e.delta.natAbs : Int) + absSum es

/-- Total of the absolute magnitudes of the segments of one list. -/
def magAbs : List Seg → Int
  | [] => 0
  | s :: rest => (s.mag.natAbs : Int) + magAbs rest

/-- Total of the absolute magnitudes of all segments of all lists. -/
def magAbsAll : List (List Seg) → Int
  | [] => 0
  | l :: ls => magAbs l + magAbsAll ls

/-- Whether no two edges of the list share a time (if two do, the unstable sort may order them either way). -/
def distinctTimes : List Edge → Bool
  | [] => true
  | e :: es => es.all (fun x => x.time != e.time) && distinctTimes es

end ScVerif.C18
