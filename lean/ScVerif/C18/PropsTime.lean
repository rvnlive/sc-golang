import ScVerif.C18.TimeLemmas
/-!
# C18 — property theorems: timestamps and periods

Property (fixed text): "Period predicates decide exactly whether two half-open, optionally unbounded
intervals overlap (Intersect) or overlap-or-touch (Connected), symmetrically, and timestamp
comparison is a chronological total order returning -1, 0 or 1 as documented."
-/
namespace ScVerif.C18

/-- Full strength, every pair of (int64, int32) field values: the result is -1, 0 or 1, and it is the
sign of the lexicographic comparison of (seconds, nanos). -/
theorem C18_compare_sign (a b : Ts) :
    (compareAscending a b = -1 ∨ compareAscending a b = 0 ∨ compareAscending a b = 1) ∧
    (compareAscending a b = -1 ↔ (a.secs < b.secs ∨ (a.secs = b.secs ∧ a.nanos < b.nanos))) ∧
    (compareAscending a b = 0 ↔ a = b) ∧
    (compareAscending a b = 1 ↔ (a.secs > b.secs ∨ (a.secs = b.secs ∧ a.nanos > b.nanos))) := by
  have hab : a = b ↔ (a.secs = b.secs ∧ a.nanos = b.nanos) := by
    cases a; cases b; simp
  rw [hab]
  have hc := compareAscending_cases a b
  exact ⟨by omega, compareAscending_iff a b⟩

/-- On normalised timestamps the comparison is chronological: it orders instants on the ns timeline. -/
theorem C18_compare_chronological (a b : Ts) (ha : a.Normal) (hb : b.Normal) :
    (compareAscending a b = -1 ↔ a.toNs < b.toNs) ∧
    (compareAscending a b = 0 ↔ a.toNs = b.toNs) ∧
    (compareAscending a b = 1 ↔ a.toNs > b.toNs) :=
  sign_table (compareAscending_cases_toNs a b ha hb) (by omega) (by omega) (by omega)

/-- Total order laws (no hypothesis): antisymmetry in the strong form `cmp b a = -(cmp a b)`,
transitivity of `≤`, reflexivity. -/
theorem C18_total_order (a b c : Ts) :
    compareAscending b a = - compareAscending a b ∧
    compareAscending a a = 0 ∧
    (compareAscending a b ≤ 0 → compareAscending b c ≤ 0 → compareAscending a c ≤ 0) := by
  refine ⟨compareAscending_swap a b, (compareAscending_iff a a).2.1.mpr ⟨rfl, rfl⟩, ?_⟩
  simp only [compareAscending_le_zero_fieldwise]
  omega

/-- What the predicates compute for ALL periods with normalised bounds, degenerate ones (start ≥ end)
included: `Intersect` is "each lower bound is strictly below the other period's upper bound", `Connected` the
same with ≤ (absent bounds are infinite).  For non-empty periods that is overlap (`C18_intersect`); an
empty or inverted period can still "intersect" one that straddles its bounds — the hypothesis `Proper` of
`C18_intersect` cannot be dropped (last clause: `[3,3)` and `[0,10)`). -/
theorem C18_period_predicates_general (p q : Period)
    (hp : optNormal p.start ∧ optNormal p.stop) (hq : optNormal q.start ∧ optNormal q.stop) :
    (periodsIntersect (some p) (some q) = true ↔ bLt p.lo q.hi ∧ bLt q.lo p.hi) ∧
    (periodsConnected (some p) (some q) = true ↔ bLe p.lo q.hi ∧ bLe q.lo p.hi) ∧
    periodsIntersect (some ⟨some ⟨3, 0⟩, some ⟨3, 0⟩⟩) (some ⟨some ⟨0, 0⟩, some ⟨10, 0⟩⟩) = true := by
  refine ⟨?_, ?_, by decide⟩
  · simp only [periodsIntersect, Bool.and_eq_true, decide_eq_true_eq]
    rw [lower_lt_upper p q hp.1 hq.2, lower_lt_upper q p hq.1 hp.2]
  · simp only [periodsConnected, Bool.and_eq_true, decide_eq_true_eq]
    rw [lower_le_upper p q hp.1 hq.2, lower_le_upper q p hq.1 hp.2]

/-- `PeriodsIntersect` is exactly "the two intervals share an instant", for proper periods. -/
theorem C18_intersect (p q : Period) (hp : p.Proper) (hq : q.Proper) :
    periodsIntersect (some p) (some q) = true ↔ ∃ x : Int, p.Mem x ∧ q.Mem x :=
  (C18_period_predicates_general p q ⟨hp.1, hp.2.1⟩ ⟨hq.1, hq.2.1⟩).1.trans
    (exists_mem_iff p.lo p.hi q.lo q.hi hp.2.2 hq.2.2).symm

/-- `PeriodsIntersect` is symmetric and false when either period is absent — no hypothesis. -/
theorem C18_intersect_symm (p q : Option Period) :
    periodsIntersect p q = periodsIntersect q p ∧ periodsIntersect none q = false ∧
    periodsIntersect p none = false := by
  refine ⟨?_, rfl, ?_⟩
  · cases p <;> cases q <;> simp [periodsIntersect, Bool.and_comm]
  · cases p <;> rfl

/-- `PeriodsConnected` is exactly "some (possibly empty) interval `[x, x)` is enclosed by both",
i.e. the intervals overlap or touch, for periods with `start ≤ end`. -/
theorem C18_connected (p q : Period) (hp : p.Ordered) (hq : q.Ordered) :
    periodsConnected (some p) (some q) = true ↔ ∃ x : Int, p.Encloses x x ∧ q.Encloses x x :=
  (C18_period_predicates_general p q ⟨hp.1, hp.2.1⟩ ⟨hq.1, hq.2.1⟩).2.1.trans
    (exists_enclosed_iff p.lo p.hi q.lo q.hi hp.2.2 hq.2.2).symm

/-- `PeriodsConnected` is symmetric and false when either period is `nil` — no hypothesis. -/
theorem C18_connected_symm (p q : Option Period) :
    periodsConnected p q = periodsConnected q p ∧ periodsConnected none q = false ∧
    periodsConnected p none = false := by
  refine ⟨?_, rfl, ?_⟩
  · cases p <;> cases q <;> simp [periodsConnected, Bool.and_comm]
  · cases p <;> rfl

/-- Overlap implies overlap-or-touch, for all inputs (no hypothesis, nil and degenerate periods included). -/
theorem C18_intersect_implies_connected (p q : Option Period) :
    periodsIntersect p q = true → periodsConnected p q = true := by
  cases p with
  | none => intro h; cases h
  | some p =>
    cases q with
    | none => intro h; cases h
    | some q =>
      simp only [periodsIntersect, periodsConnected, Bool.and_eq_true, decide_eq_true_eq]
      intro ⟨h1, h2⟩
      exact ⟨by omega, by omega⟩

/-- The complete decision table of `cut.CompareTo` (all four kinds of cut on either side, every
timestamp, no hypothesis): the result is -1, 0 or 1 and is the sign of the lexicographic comparison of
the keys `(class, seconds, nanos, side)` — `belowAll` first, `aboveAll` last, value cuts by timestamp
with `below t` before `above t`; it is `0` only for equal cuts, antisymmetric, and `≤` is transitive:
a total order. -/
theorem C18_cut_order (a b c : Cut) :
    (a.compareTo b = -1 ∨ a.compareTo b = 0 ∨ a.compareTo b = 1) ∧
    (a.compareTo b = -1 ↔ a.keyLt b) ∧ (a.compareTo b = 0 ↔ a = b) ∧ (a.compareTo b = 1 ↔ b.keyLt a) ∧
    b.compareTo a = - a.compareTo b ∧
    (a.compareTo b ≤ 0 → b.compareTo c ≤ 0 → a.compareTo c ≤ 0) := by
  refine ⟨(compareTo_cases a b).imp And.left (.imp And.left And.left), (compareTo_iff a b).1,
    (compareTo_iff a b).2.1, (compareTo_iff a b).2.2, compareTo_swap a b, ?_⟩
  simp only [compareTo_le_zero_iff]
  intro hab hbc
  rcases hab with hab | rfl
  · rcases hbc with hbc | rfl
    · exact .inl (keyLt_trans _ _ _ hab hbc)
    · exact .inl hab
  · exact hbc

/-- On normalised timestamps the order of cuts is the order of their positions on the (doubled)
nanosecond timeline: `below t` sits at `2·t`, `above t` at `2·t + 1`, between `belowAll` and `aboveAll`. -/
theorem C18_cut_position (a b : Cut) (ha : a.Normal) (hb : b.Normal) :
    (a.compareTo b < 0 ↔ (a.cls < b.cls ∨ (a.cls = b.cls ∧ a.pos < b.pos))) ∧
    (a.compareTo b ≤ 0 ↔ (a.cls < b.cls ∨ (a.cls = b.cls ∧ a.pos ≤ b.pos))) := by
  have hab := compareTo_lt_zero_iff a b
  have hba := compareTo_lt_zero_iff b a
  rw [keyLt_pos a b ha hb] at hab
  rw [keyLt_pos b a hb ha, compareTo_swap a b] at hba
  exact ⟨hab, by omega⟩

section
attribute [local simp] allTime periodBefore periodOnOrAfter periodBetween Period.Mem Period.lo Period.hi lbLe ubLt

/-- The period constructors: `AllTime()` contains every instant and intersects every non-empty period;
`PeriodBefore(t)` is exactly the instants before `t`, `PeriodOnOrAfter(t)` exactly those from `t` on —
the two touch (`Connected`) and share nothing (not `Intersect`); `PeriodBetween(t1, t2)` is `[t1, t2)`.
Neither `ht` nor `p.Proper` is used: the last three clauses hold for all field values and all periods
(`before_after_fieldwise`, `allTime_intersects`). -/
theorem C18_period_constructors (t t2 : Ts) (ht : t.Normal) (x : Int) :
    allTime.Mem x ∧
    ((periodBefore (some t)).Mem x ↔ x < t.toNs) ∧
    ((periodOnOrAfter (some t)).Mem x ↔ t.toNs ≤ x) ∧
    ((periodBetween (some t) (some t2)).Mem x ↔ t.toNs ≤ x ∧ x < t2.toNs) ∧
    periodsIntersect (some (periodBefore (some t))) (some (periodOnOrAfter (some t))) = false ∧
    periodsConnected (some (periodBefore (some t))) (some (periodOnOrAfter (some t))) = true ∧
    (∀ p : Period, p.Proper → periodsIntersect (some allTime) (some p) = true) := by
  have hba := before_after_fieldwise t t
  have h0 : compareAscending t t = 0 := (C18_total_order t t t).2.1
  refine ⟨by simp, by simp, by simp, by simp, ?_, hba.2.mpr (by omega), fun p _ => allTime_intersects p⟩
  exact Bool.eq_false_iff.mpr fun h => by have := hba.1.mp h; omega

end

/-- The same criterion with NO hypothesis at all, stated through the code's own timestamp order: for every
pair of periods — any int64/int32 field values, nanos outside `[0, 10^9)` and degenerate periods included —
`Intersect` holds iff each start is before the other period's end by `CompareAscending` (absent bounds are
infinitely far), `Connected` iff it is not after it.  (`C18_compare_sign`/`C18_total_order`: that order is a
total order on all field values; `C18_compare_chronological`: the chronological one on valid timestamps.) -/
theorem C18_period_predicates_fieldwise (p q : Period) :
    (periodsIntersect (some p) (some q) = true ↔ optCmpLt p.start q.stop ∧ optCmpLt q.start p.stop) ∧
    (periodsConnected (some p) (some q) = true ↔ optCmpLe p.start q.stop ∧ optCmpLe q.start p.stop) :=
  periods_fieldwise p q

/-- `PeriodBefore(a)` and `PeriodOnOrAfter(b)` intersect exactly when `b` is before `a`, and are connected
exactly when `b` is not after `a` — the period predicates agree with `CompareAscending`.  `ha`, `hb` are not used:
it holds for all field values (`before_after_fieldwise`). -/
theorem C18_before_after (a b : Ts) (ha : a.Normal) (hb : b.Normal) :
    (periodsIntersect (some (periodBefore (some a))) (some (periodOnOrAfter (some b))) = true ↔
      compareAscending b a = -1) ∧
    (periodsConnected (some (periodBefore (some a))) (some (periodOnOrAfter (some b))) = true ↔
      compareAscending b a ≤ 0) :=
  before_after_fieldwise a b

/-! Non-vacuity: concrete proper periods exist, and the predicates take both values on them. -/
example : (⟨some ⟨2, 0⟩, some ⟨4, 0⟩⟩ : Period).Proper ∧ (⟨none, some ⟨3, 5⟩⟩ : Period).Proper := by
  simp [Period.Proper, optNormal, Ts.Normal, Ts.toNs, bLt, Period.lo, Period.hi]
example : periodsIntersect (some ⟨some ⟨2, 0⟩, some ⟨4, 0⟩⟩) (some ⟨some ⟨3, 0⟩, some ⟨5, 0⟩⟩) = true := by decide
example : periodsIntersect (some ⟨some ⟨2, 0⟩, some ⟨4, 0⟩⟩) (some ⟨some ⟨4, 0⟩, some ⟨6, 0⟩⟩) = false := by decide
example : periodsConnected (some ⟨some ⟨2, 0⟩, some ⟨4, 0⟩⟩) (some ⟨some ⟨4, 0⟩, some ⟨6, 0⟩⟩) = true := by decide
example : periodsConnected (some ⟨some ⟨2, 0⟩, some ⟨4, 0⟩⟩) (some ⟨some ⟨5, 0⟩, some ⟨7, 0⟩⟩) = false := by decide

/-- Outside the hypothesis (an inverted period) the code answers `true` although the first interval is
empty: recorded behaviour, the reason `Proper` is required by `C18_intersect`. -/
example : periodsIntersect (some ⟨some ⟨5, 0⟩, some ⟨3, 0⟩⟩) (some ⟨some ⟨0, 0⟩, some ⟨10, 0⟩⟩) = true := by decide

/-- All four kinds of cut are ordered as documented, `below t` before `above t` at the same instant. -/
example : (Cut.belowAll).compareTo (.below ⟨-5, 0⟩) = -1 ∧ (Cut.below ⟨3, 7⟩).compareTo (.above ⟨3, 7⟩) = -1 ∧
    (Cut.above ⟨3, 7⟩).compareTo (.below ⟨3, 8⟩) = -1 ∧ (Cut.above ⟨9, 0⟩).compareTo .aboveAll = -1 ∧
    (Cut.aboveAll).compareTo .aboveAll = 0 := by decide
example : (Cut.below ⟨3, 7⟩).Normal ∧ (Cut.above ⟨3, 999999999⟩).Normal := by
  simp [Cut.Normal, Ts.Normal]

/-- On timestamps that are not valid (`nanos` outside `[0, 10^9)`) the predicates follow the field-wise order of
`C18_period_predicates_fieldwise`, not the instants: `[0s + 2·10^9 ns, ∞)` and `(−∞, 1s)` "intersect" because
`(0, 2·10^9)` is before `(1, 0)` field by field, although the first instant is 2s. -/
example : periodsIntersect (some ⟨some ⟨0, 2000000000⟩, none⟩) (some ⟨none, some ⟨1, 0⟩⟩) = true ∧
    optCmpLt (some ⟨0, 2000000000⟩) (some ⟨1, 0⟩) ∧ ¬ (⟨0, 2000000000⟩ : Ts).Normal := by
  refine ⟨by decide, by simp only [optCmpLt]; decide, by simp [Ts.Normal]⟩

end ScVerif.C18
