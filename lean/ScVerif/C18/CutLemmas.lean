import ScVerif.C18.SegLemmas
/-! `Cut`, `Shift` and a LIST cut at an offset — the part before it (`headAt`) and the part from it on (`tailAt`), which
is what `modepb.Cut` returns and what the negative branch of `Shift` computes — against the step function. -/
namespace ScVerif.C18

theorem den_single (s : Seg) (t : Int) :
    den [s] t = if t < 0 then 0 else match s.len with
      | none => s.mag
      | some l => if t < l then s.mag else 0 := by
  simp only [den]
  split
  · rfl
  · cases s.len <;> rfl

theorem den_single_within {s : Seg} {t : Int} (ht : 0 ≤ t) (hw : s.Within t) : den [s] t = s.mag :=
  (den_covered_of_segAt_some (segAt_here s [] ht hw)).1

theorem den_single_beyond {s : Seg} {t l : Int} (hs : s.len = some l) (hl : l ≤ t) : den [s] t = 0 := by
  by_cases ht : t < 0
  · exact den_neg _ _ ht
  · rw [den_cons_some s [] t l hs (by omega), if_neg (by omega)]; rfl

theorem den_idle_cons (a : Int) (segs : List Seg) (t : Int) (ht : 0 ≤ t) :
    den (⟨0, some a⟩ :: segs) t = den segs (t - a) := by
  rw [den_cons_some _ segs t a rfl ht]
  split
  · exact (den_neg _ _ (by omega)).symm
  · rfl

theorem den_shortened (m : Int) (len : Option Int) (rest : List Seg) (δ z : Int) (h0 : 0 ≤ δ) (hz : 0 ≤ z) :
    den (⟨m, len.map (· - δ)⟩ :: rest) z = den (⟨m, len⟩ :: rest) (z + δ) := by
  cases len with
  | none => rw [den_cons_none _ rest z rfl hz, den_cons_none _ rest _ rfl (by omega)]
  | some l =>
    rw [den_cons_some _ rest z (l - δ) rfl hz, den_cons_some _ rest _ l rfl (by omega)]
    by_cases h : z < l - δ
    · rw [if_pos h, if_pos (by omega)]
    · rw [if_neg h, if_neg (by omega)]
      congr 1
      omega

theorem cutSeg_cases (d : Int) (s : Seg) :
    (d ≤ 0 ∧ cutSeg d s = ⟨none, some s, decide (d < 0)⟩) ∨
    (0 < d ∧ s.Within d ∧ cutSeg d s = ⟨some ⟨s.mag, some d⟩, some ⟨s.mag, s.len.map (· - d)⟩, false⟩) ∨
    (0 < d ∧ (∃ l, s.len = some l ∧ l ≤ d) ∧ cutSeg d s = ⟨some s, none, true⟩) := by
  obtain ⟨m, len⟩ := s
  unfold cutSeg
  by_cases hd : d ≤ 0
  · exact .inl ⟨hd, if_pos hd⟩
  rw [if_neg hd]
  cases len with
  | none => exact .inr (.inl ⟨by omega, fun l hl => (nomatch hl), rfl⟩)
  | some l =>
    by_cases hl : l ≤ d
    · exact .inr (.inr ⟨by omega, ⟨l, rfl, hl⟩, if_pos hl⟩)
    · exact .inr (.inl ⟨by omega, fun l' hl' => by cases hl'; omega, if_neg hl⟩)

/-- `Cut` does not look at the magnitude, which every part inherits. -/
theorem cutSeg_mag (f : Int → Int) (d : Int) (s : Seg) :
    cutSeg d ⟨f s.mag, s.len⟩ = ⟨(cutSeg d s).before.map (fun x => ⟨f x.mag, x.len⟩),
      (cutSeg d s).after.map (fun x => ⟨f x.mag, x.len⟩), (cutSeg d s).outside⟩ := by
  obtain ⟨m, len⟩ := s
  by_cases hd : d ≤ 0
  · simp [cutSeg, hd]
  · cases len with
    | none => simp [cutSeg, hd]
    | some l => by_cases hl : l ≤ d <;> simp [cutSeg, hd, hl]

theorem cutSeg_spec (d : Int) (s : Seg) (hd : 0 ≤ d) :
    (∀ t, t < d → denOpt (cutSeg d s).before t = den [s] t) ∧
    (∀ t, d ≤ t → denOpt (cutSeg d s).before t = 0) ∧
    (∀ t, 0 ≤ t → denOpt (cutSeg d s).after t = den [s] (t + d)) := by
  rcases cutSeg_cases d s with ⟨h0, e⟩ | ⟨h0, hw, e⟩ | ⟨h0, ⟨l, hs, hl⟩, e⟩ <;> rw [e]
  · obtain rfl : d = 0 := by omega
    exact ⟨fun t ht => (den_neg _ _ ht).symm, fun _ _ => rfl, fun t _ => by rw [Int.add_zero]; rfl⟩
  · refine ⟨fun t ht => ?_, fun t ht => den_single_beyond (s := ⟨s.mag, some d⟩) rfl ht,
      fun t ht => den_shortened s.mag s.len [] d t (by omega) ht⟩
    by_cases hn : t < 0
    · exact (den_neg _ _ hn).trans (den_neg _ _ hn).symm
    · exact (den_single_within (s := ⟨s.mag, some d⟩) (by omega) (fun l hl => by cases hl; exact ht)).trans
        (den_single_within (s := s) (t := t) (by omega) (fun l hl => by have := hw l hl; omega)).symm
  · exact ⟨fun _ _ => rfl, fun t ht => den_single_beyond hs (by omega),
      fun t ht => (den_single_beyond hs (by omega)).symm⟩

theorem cutSeg_neg (d : Int) (s : Seg) (hd : d < 0) : cutSeg d s = ⟨none, some s, true⟩ := by
  rcases cutSeg_cases d s with ⟨_, e⟩ | ⟨h0, _⟩ | ⟨h0, _⟩
  · rw [e, decide_eq_true hd]
  · omega
  · omega

theorem cutSeg_after_isSome (d : Int) (s : Seg) (h : s.Within d) : (cutSeg d s).after.isSome = true := by
  rcases cutSeg_cases d s with ⟨_, e⟩ | ⟨_, _, e⟩ | ⟨_, ⟨l, hs, hl⟩, _⟩
  · rw [e]; rfl
  · rw [e]; rfl
  · exact absurd hl (h.not_le hs)

theorem shiftNegLoop_after_isSome (D cur : Int) (s : Seg) (l : Int) (hs : s.len = some l)
    (h : cur + l > D) : (cutSeg (D - cur) s).after.isSome = true :=
  cutSeg_after_isSome _ _ (fun l' hl' => by rw [hs] at hl'; cases hl'; omega)

/-- A Go `*Segment` that may be `nil`, as the list of the segments it contributes. -/
def optToList : Option Seg → List Seg
  | none => []
  | some s => [s]

theorem den_optToList (o : Option Seg) (z : Int) : den (optToList o) z = denOpt o z := by
  cases o <;> rfl

theorem cutSeg_before_single (δ : Int) (s : Seg) (rest : List Seg) (h0 : 0 ≤ δ) (hin : s.Within δ) (z : Int) :
    den (optToList (cutSeg δ s).before) z = if z < δ then den (s :: rest) z else 0 := by
  rw [den_optToList]
  obtain ⟨h1, h2, _⟩ := cutSeg_spec δ s h0
  by_cases hz : z < δ
  · rw [if_pos hz, h1 z hz]
    by_cases hzn : z < 0
    · rw [den_neg _ _ hzn, den_neg _ _ hzn]
    · have hw : s.Within z := fun l hl => by have := hin l hl; omega
      exact (den_covered_of_segAt ((segAt_here s [] (by omega) hw).trans (segAt_here s rest (by omega) hw).symm)).1
  · rw [if_neg hz]
    exact h2 z (by omega)

theorem cutSeg_nonNeg (d : Int) (s : Seg) (h : NonNeg [s]) :
    NonNeg (optToList (cutSeg d s).before) ∧ NonNeg (optToList (cutSeg d s).after) := by
  have nil : NonNeg (optToList none) := fun _ hx => nomatch hx
  have one : ∀ m len, (∀ l, len = some l → 0 ≤ l) → NonNeg (optToList (some ⟨m, len⟩)) :=
    fun m len hl => nonNeg_cons hl nil
  rcases cutSeg_cases d s with ⟨_, e⟩ | ⟨h0, hw, e⟩ | ⟨_, _, e⟩ <;> rw [e]
  · exact ⟨nil, h⟩
  · refine ⟨one _ _ (fun l hl => by cases hl; omega), one _ _ (fun l hl => ?_)⟩
    obtain ⟨l0, hl0, rfl⟩ := Option.map_eq_some_iff.mp hl
    have := hw l0 hl0
    omega
  · exact ⟨h, nil⟩

theorem take_append_getElem_drop (segs : List Seg) (i : Nat) (s : Seg) (h : segs[i]? = some s) :
    segs = segs.take i ++ s :: segs.drop (i + 1) := by
  obtain ⟨hi, rfl⟩ := List.getElem?_eq_some_iff.mp h
  rw [← List.drop_eq_getElem_cons hi, List.take_append_drop]

/-- The list up to offset `d`: the segments before the one `ActiveAt` finds, and that one as far as `d`. -/
def headAt (d : Int) (segs : List Seg) : List Seg :=
  let r := activeAtLoop d 0 0 segs
  segs.take r.2 ++
    match segs[r.2]? with
    | none => []
    | some s => optToList (cutSeg (d - r.1) s).before

/-- The list from offset `d` on: the segment `ActiveAt` finds without what has elapsed of it, and the segments
after it. -/
def tailAt (d : Int) (segs : List Seg) : List Seg :=
  let r := activeAtLoop d 0 0 segs
  match segs[r.2]? with
  | none => []
  | some s => optToList (cutSeg (d - r.1) s).after ++ segs.drop (r.2 + 1)

theorem headAt_tailAt_of_getElem? {d : Int} {segs : List Seg} {s : Seg} (hd : 0 ≤ d)
    (hs : segs[(activeAt d segs).2]? = some s) :
    headAt d segs = segs.take (activeAt d segs).2 ++ optToList (cutSeg (d - (activeAt d segs).1) s).before ∧
    tailAt d segs = optToList (cutSeg (d - (activeAt d segs).1) s).after ++ segs.drop ((activeAt d segs).2 + 1) := by
  rw [activeAt_of_nonneg hd] at hs ⊢
  simp only [headAt, tailAt, hs, and_self]

theorem den_headAt (segs : List Seg) (hnn : NonNeg segs) (d : Int) (hd : 0 ≤ d) (y : Int) :
    den (headAt d segs) y = if y < d then den segs y else 0 := by
  obtain ⟨he, hed, _, _, hin, hfin⟩ := activeAtLoop_spec segs d hd
  simp only [headAt]
  generalize activeAtLoop d 0 0 segs = r at *
  have hpre := hnn.take r.2
  cases hs : segs[r.2]? with
  | none =>
    -- past the end: every segment has a length and `d` is at or behind their total
    rw [List.take_of_length_le (List.getElem?_eq_none_iff.mp hs)] at hfin he ⊢
    rw [List.append_nil]
    split
    · rfl
    · exact den_finite_after segs hfin hnn y (by omega)
  | some s =>
    have horig : den segs y = if y < r.1 then den (segs.take r.2) y else den (s :: segs.drop (r.2 + 1)) (y - r.1) := by
      conv => lhs; rw [take_append_getElem_drop segs r.2 s hs]
      rw [den_append _ _ hfin hpre, ← he]
    rw [den_append _ _ hfin hpre, ← he, cutSeg_before_single (d - r.1) s (segs.drop (r.2 + 1)) (by omega) (hin s hs),
      horig]
    by_cases h1 : y < r.1
    · rw [if_pos h1, if_pos h1, if_pos (by omega)]
    · rw [if_neg h1, if_neg h1]
      by_cases h2 : y < d
      · rw [if_pos h2, if_pos (by omega)]
      · rw [if_neg h2, if_neg (by omega)]

theorem den_tailAt (segs : List Seg) (hnn : NonNeg segs) (d : Int) (hd : 0 ≤ d) (z : Int) (hz : 0 ≤ z) :
    den (tailAt d segs) z = den segs (z + d) := by
  obtain ⟨he, hed, _, _, hin, hfin⟩ := activeAtLoop_spec segs d hd
  simp only [tailAt]
  generalize activeAtLoop d 0 0 segs = r at *
  cases hs : segs[r.2]? with
  | none =>
    rw [List.take_of_length_le (List.getElem?_eq_none_iff.mp hs)] at hfin he
    exact (den_finite_after segs hfin hnn _ (by omega)).symm
  | some s =>
    simp only []
    conv => rhs; rw [take_append_getElem_drop segs r.2 s hs]
    rw [den_append _ _ hfin (hnn.take _), ← he, if_neg (by omega), show z + d - r.1 = z + (d - r.1) by omega]
    -- the segment `d` falls into, without what has elapsed of it
    rcases cutSeg_cases (d - r.1) s with ⟨h0, e⟩ | ⟨h0, hw, e⟩ | ⟨h0, ⟨l, hl, hle⟩, _⟩
    · rw [e, show d - r.1 = 0 by omega, Int.add_zero]; rfl
    · rw [e]; exact den_shortened s.mag s.len _ _ z (by omega) hz
    · exact absurd hle ((hin s hs).not_le hl)

theorem nonNeg_headAt_tailAt (d : Int) (segs : List Seg) (h : NonNeg segs) :
    NonNeg (headAt d segs) ∧ NonNeg (tailAt d segs) := by
  simp only [headAt, tailAt]
  cases hs : segs[(activeAtLoop d 0 0 segs).2]? with
  | none => exact ⟨by simpa using h.take _, fun _ hx => nomatch hx⟩
  | some s =>
    have hone : NonNeg [s] := fun y hy => by
      simp at hy; subst hy; exact h y (List.mem_of_getElem? hs)
    exact ⟨nonNeg_append _ _ (h.take _) (cutSeg_nonNeg _ s hone).1,
      nonNeg_append _ _ (cutSeg_nonNeg _ s hone).2 (nonNeg_drop _ _ h)⟩

theorem shiftNegLoop_eq_tailAt (D : Int) (segs : List Seg) (cur : Int) :
    shiftNegLoop D cur segs = tailAt (D - cur) segs := by
  induction segs generalizing cur with
  | nil => rfl
  | cons s rest ih =>
    cases hl : s.len with
    | none =>
      have : (cutSeg (D - cur) s).after = some s := by unfold cutSeg; split; rfl; simp [hl]
      simp [shiftNegLoop, hl, tailAt, activeAtLoop_cons_none _ s rest hl, this, optToList]
    | some l =>
      simp only [shiftNegLoop, hl, tailAt, activeAtLoop_cons_some _ s rest l hl]
      by_cases hc : cur + l > D
      · have hsome := shiftNegLoop_after_isSome D cur s l hl hc
        rw [if_pos hc, if_pos (show l > D - cur by omega)]
        cases ha : (cutSeg (D - cur) s).after with
        | none => rw [ha] at hsome; cases hsome
        | some a => simp [ha, optToList]
      · rw [if_neg hc, if_neg (show ¬ l > D - cur by omega), ih (cur + l)]
        simp only [tailAt, List.getElem?_cons_succ, List.drop_succ_cons,
          show D - (cur + l) = D - cur - l by omega, show ∀ x : Int, D - cur - (l + x) = D - cur - l - x by omega]

theorem shift_of_neg {d : Int} (hd : d < 0) (segs : List Seg) : shift d segs = tailAt (-d) segs := by
  unfold shift
  rw [if_neg (by omega)]
  cases segs with
  | nil => rfl
  | cons first rest =>
    simp only []
    rw [if_neg (by omega), shiftNegLoop_eq_tailAt, Int.sub_zero]

theorem shift_cases (d : Int) (segs : List Seg) :
    (d = 0 ∧ shift d segs = segs) ∨
    (d < 0 ∧ shift d segs = tailAt (-d) segs) ∨
    (0 < d ∧ (segs = [] ∨ ∃ rest, segs = ⟨0, none⟩ :: rest) ∧ shift d segs = segs) ∨
    (0 < d ∧ ∃ l rest, segs = ⟨0, some l⟩ :: rest ∧ shift d segs = ⟨0, some (l + d)⟩ :: rest) ∨
    (0 < d ∧ shift d segs = ⟨0, some d⟩ :: segs) := by
  by_cases h0 : d = 0
  · exact .inl ⟨h0, if_pos h0⟩
  by_cases hneg : d < 0
  · exact .inr (.inl ⟨hneg, shift_of_neg hneg segs⟩)
  have hpos : 0 < d := by omega
  unfold shift
  rw [if_neg h0]
  cases segs with
  | nil => exact .inr (.inr (.inl ⟨hpos, .inl rfl, rfl⟩))
  | cons first rest =>
    obtain ⟨m, len⟩ := first
    simp only []
    rw [if_pos hpos]
    by_cases hm : m = 0
    · subst hm
      rw [if_pos rfl]
      cases len with
      | none => exact .inr (.inr (.inl ⟨hpos, .inr ⟨rest, rfl⟩, rfl⟩))
      | some l => exact .inr (.inr (.inr (.inl ⟨hpos, l, rest, rfl, rfl⟩)))
    · exact .inr (.inr (.inr (.inr ⟨hpos, if_neg hm⟩)))

theorem shift_spec (d : Int) (segs : List Seg) (hnn : NonNeg segs) (t : Int) :
    den (shift d segs) t = if t < 0 then 0 else den segs (t - d) := by
  by_cases htn : t < 0
  · rw [if_pos htn]; exact den_neg _ _ htn
  have ht : 0 ≤ t := by omega
  rw [if_neg htn]
  rcases shift_cases d segs with ⟨rfl, e⟩ | ⟨hd, e⟩ | ⟨hd, hs, e⟩ | ⟨hd, l, rest, rfl, e⟩ | ⟨hd, e⟩ <;> rw [e]
  · rw [Int.sub_zero]
  · exact den_tailAt segs hnn (-d) (by omega) t ht
  · -- nothing, or idle for ever: `0` everywhere
    have hz : ∀ u, den segs u = 0 := fun u => by
      rcases hs with rfl | ⟨rest, rfl⟩
      · rfl
      · by_cases hu : u < 0
        · exact den_neg _ _ hu
        · exact den_cons_none _ rest u rfl (by omega)
    rw [hz, hz]
  · have hl := hnn.head l rfl
    rw [den_cons_some _ rest t (l + d) rfl ht]
    by_cases htd : t - d < 0
    · rw [den_neg _ _ htd, if_pos (by omega)]
    · rw [den_cons_some _ rest _ l rfl (by omega)]
      by_cases h1 : t < l + d
      · rw [if_pos h1, if_pos (by omega)]
      · rw [if_neg h1, if_neg (by omega)]
        congr 1
        omega
  · exact den_idle_cons d segs t ht

theorem shift_nonNeg (d : Int) (segs : List Seg) (h : NonNeg segs) : NonNeg (shift d segs) := by
  rcases shift_cases d segs with ⟨_, e⟩ | ⟨_, e⟩ | ⟨_, _, e⟩ | ⟨hd, l, rest, rfl, e⟩ | ⟨hd, e⟩ <;> rw [e]
  · exact h
  · exact (nonNeg_headAt_tailAt _ _ h).2
  · exact h
  · exact nonNeg_cons (fun l' hl' => by cases hl'; have := h.head l rfl; omega) h.tail
  · exact nonNeg_cons (fun l' hl' => by cases hl'; omega) h

theorem shift_tailMag (d : Int) (segs : List Seg) (hd : 0 ≤ d) : tailMag (shift d segs) = tailMag segs := by
  rcases shift_cases d segs with ⟨_, e⟩ | ⟨hn, _⟩ | ⟨_, _, e⟩ | ⟨_, l, rest, rfl, e⟩ | ⟨_, e⟩
  · rw [e]
  · omega
  · rw [e]
  · rw [e]; rfl
  · rw [e]; rfl

theorem lenSum_shift_le (d : Int) (segs : List Seg) (hd : 0 ≤ d) :
    lenSum (shift d segs) ≤ lenSum segs + d := by
  rcases shift_cases d segs with ⟨_, e⟩ | ⟨hn, _⟩ | ⟨_, _, e⟩ | ⟨_, l, rest, rfl, e⟩ | ⟨_, e⟩
  · rw [e]; omega
  · omega
  · rw [e]; omega
  · rw [e]; simp only [lenSum, Option.getD_some]; omega
  · rw [e]; simp only [lenSum, Option.getD_some]; omega

end ScVerif.C18
