import ScVerif.C18.F32
import ScVerif.C18.SumLemmas
/-! Lemmas about the float32 rendering of `Sum`/`SumMagnitude`: below 2^24 nothing is rounded; beyond, rounding
never moves a breakpoint, and one rounding is within `2^-24` of the value rounded. -/
namespace ScVerif.C18

theorem rnd24_small (n : Int) (h : n.natAbs < 16777216) : rnd24 n = n := by
  unfold rnd24
  have hb : bitLen n.natAbs ≤ 24 := by
    unfold bitLen
    by_cases h0 : n.natAbs = 0
    · simp [h0]
    · simp only [h0, if_false]
      have : n.natAbs.log2 < 24 := (Nat.log2_lt h0).mpr (by simpa using h)
      omega
  simp only [hb, if_true]

theorem addF_small (a b : Int) (h : (a.natAbs : Int) + (b.natAbs : Int) < 16777216) : addF a b = a + b := by
  unfold addF
  exact rnd24_small _ (by omega)

/-- Total of the absolute values: what bounds every partial sum of a fold. -/
def absL (ds : List Int) : Int := (ds.map fun d => (d.natAbs : Int)).sum

theorem absL_nonneg (ds : List Int) : 0 ≤ absL ds := by
  induction ds with
  | nil => exact Int.le_refl 0
  | cons d ds ih => simp only [absL, List.map_cons, List.sum_cons] at ih ⊢; omega

theorem absSum_eq_absL (es : List Edge) : absSum es = absL (es.map (·.delta)) := by
  induction es with
  | nil => rfl
  | cons e es ih => simp only [absSum, ih, absL, List.map_cons, List.sum_cons]

theorem magAbs_eq_absL (segs : List Seg) : magAbs segs = absL (segs.map (·.mag)) := by
  induction segs with
  | nil => rfl
  | cons s segs ih => simp only [magAbs, ih, absL, List.map_cons, List.sum_cons]

theorem absSum_nonneg (es : List Edge) : 0 ≤ absSum es := absSum_eq_absL es ▸ absL_nonneg _

theorem absSum_perm {a b : List Edge} (h : a.Perm b) : absSum a = absSum b := by
  rw [absSum_eq_absL, absSum_eq_absL]
  exact sum_map_perm _ (h.map _)

theorem absSum_append (a b : List Edge) : absSum (a ++ b) = absSum a + absSum b := by
  simp only [absSum_eq_absL, absL, List.map_append, List.sum_append_int]

theorem emitF_eq (drop : Int → Bool) (es : List Edge) (mag lt : Int)
    (h : (mag.natAbs : Int) + absSum es < 16777216) : emitF drop mag lt es = emit drop mag lt es := by
  induction es generalizing mag lt with
  | nil => rfl
  | cons e es ih =>
    simp only [absSum] at h
    have hp := absSum_nonneg es
    have hadd : addF mag e.delta = mag + e.delta := addF_small _ _ (by omega)
    have hnext : (((mag + e.delta).natAbs : Nat) : Int) + absSum es < 16777216 := by omega
    simp only [emitF, emit, hadd]
    rw [ih (mag + e.delta) lt hnext, ih (mag + e.delta) e.time hnext]

theorem emitF_eq_emitWith (drop : Int → Bool) (es : List Edge) (mag lt : Int) :
    emitF drop mag lt es = emitWith addF drop mag lt es := by
  induction es generalizing mag lt with
  | nil => rfl
  | cons e es ih => simp only [emitF, emitWith, ih]

theorem sumEdgesF_eq (drop : Int → Bool) (es : List Edge) (h : absSum es < 16777216) :
    sumEdgesF drop es = sumEdges drop es := by
  cases es with
  | nil => rfl
  | cons e es => exact emitF_eq drop (e :: es) 0 0 (by simpa using h)

theorem absSum_edgesOf_le (l : List Seg) (cur : Int) : absSum (edgesOf cur l) ≤ 2 * magAbs l := by
  induction l generalizing cur with
  | nil => simp [edgesOf, absSum, magAbs]
  | cons s rest ih =>
    cases hs : s.len with
    | none =>
      simp only [edgesOf, hs, magAbs]
      have hrest : 0 ≤ magAbs rest := by
        have := absSum_nonneg (edgesOf 0 rest); have := ih 0; omega
      split
      · simp only [absSum]; omega
      · simp only [absSum]; omega
    | some len =>
      simp only [edgesOf, hs, magAbs, absSum_append]
      have := ih (cur + len)
      split
      · simp only [absSum, Int.natAbs_neg]; omega
      · simp only [absSum]; omega

theorem absSum_rawEdges_le (ls : List (List Seg)) : absSum (rawEdges ls) ≤ 2 * magAbsAll ls := by
  induction ls with
  | nil => simp [rawEdges, absSum, magAbsAll]
  | cons l ls ih =>
    simp only [rawEdges, absSum_append, magAbsAll]
    have := absSum_edgesOf_le l 0
    omega

/-- Exact for every arrangement of the edges. -/
theorem sumEdgesF_eq_of_perm (drop : Int → Bool) (ls : List (List Seg)) (es : List Edge)
    (h : 2 * magAbsAll ls < 16777216) (hp : es.Perm (rawEdges ls)) : sumEdgesF drop es = sumEdges drop es := by
  apply sumEdgesF_eq
  rw [absSum_perm hp]
  have := absSum_rawEdges_le ls
  omega

theorem magAbs_nonneg (l : List Seg) : 0 ≤ magAbs l := magAbs_eq_absL l ▸ absL_nonneg _

theorem foldF_eq (segs : List Seg) (acc : Int) (h : (acc.natAbs : Int) + magAbs segs < 16777216) :
    segs.foldl (fun a s => addF a s.mag) acc = acc + sumMagnitude segs := by
  induction segs generalizing acc with
  | nil => simp [sumMagnitude]
  | cons s rest ih =>
    simp only [magAbs] at h
    have hp := magAbs_nonneg rest
    have hadd : addF acc s.mag = acc + s.mag := addF_small _ _ (by omega)
    simp only [List.foldl_cons, hadd, sumMagnitude]
    rw [ih (acc + s.mag) (by omega)]
    omega

theorem sorted_perm_unique (a b : List Edge) (hp : a.Perm b) (ha : SortedT a) (hb : SortedT b)
    (hd : a.Pairwise (fun x y => x.time ≠ y.time)) : a = b := by
  have inj : ∀ ⦃x⦄, x ∈ a → ∀ ⦃y⦄, y ∈ a → x.time = y.time → x = y :=
    List.Pairwise.forall_of_forall_of_flip (R := fun x y => x.time = y.time → x = y) (fun _ _ _ => rfl)
      (hd.imp fun h e => absurd e h) (hd.imp fun h e => absurd e.symm h)
  exact List.Perm.eq_of_pairwise (le := fun x y : Edge => x.time ≤ y.time)
    (fun x y hx hy h1 h2 => inj hx (hp.symm.subset hy) (by omega)) ha hb hp

/-- The lengths of the finished (non-open) segments of a list, in order: its breakpoints, as differences. -/
def closedLens (l : List Seg) : List Int := l.filterMap (·.len)

/-- The lengths are computed from edge times only: the float loop and the exact loop of `Sum` close the same
segments, whatever magnitudes they carry and whatever the final drop rule decides. -/
theorem emitWith_closedLens (add add' : Int → Int → Int) (drop drop' : Int → Bool) (es : List Edge) (m m' lt : Int) :
    closedLens (emitWith add drop m lt es) = closedLens (emitWith add' drop' m' lt es) := by
  induction es generalizing m m' lt with
  | nil =>
    simp only [emitWith, closedLens]
    split <;> split <;> simp
  | cons e es ih =>
    simp only [emitWith]
    by_cases h : e.time - lt = 0
    · simp only [h, if_true]
      exact ih _ _ _
    · simp only [h, if_false, closedLens, List.filterMap_cons]
      have := ih (add m e.delta) (add' m' e.delta) e.time
      simp only [closedLens] at this
      rw [this]

theorem sumEdgesF_closedLens (drop drop' : Int → Bool) (es : List Edge) :
    closedLens (sumEdgesF drop es) = closedLens (sumEdges drop' es) := by
  cases es with
  | nil => rfl
  | cons e es =>
    rw [sumEdgesF, sumEdges, emitF_eq_emitWith, emit_eq_emitWith]
    exact emitWith_closedLens _ _ drop drop' (e :: es) 0 0 0

theorem lenSum_eq_closedLens (l : List Seg) : lenSum l = (closedLens l).sum := by
  induction l with
  | nil => rfl
  | cons s rest ih =>
    cases hs : s.len with
    | none => simp [lenSum, closedLens, hs] at ih ⊢; exact ih
    | some x => simp [lenSum, closedLens, hs] at ih ⊢; rw [ih]

theorem rnd24_nat_error (a : Nat) (hb : ¬ bitLen a ≤ 24) :
    let sh := bitLen a - 24
    let q := a / 2 ^ sh
    let rem := a % 2 ^ sh
    let half := 2 ^ (sh - 1)
    let q' := if rem > half ∨ (rem = half ∧ q % 2 = 1) then q + 1 else q
    (q' * 2 ^ sh ≤ a + half ∧ a ≤ q' * 2 ^ sh + half) ∧ half * 16777216 ≤ a := by
  intro sh q rem half q'
  -- `2^sh = 2·half`, so `q'·2^sh` is within `half` of `a`; and `half·2^24 = 2^(log2 a) ≤ a`
  have ha0 : a ≠ 0 := by
    intro h; subst h; simp [bitLen] at hb
  have hbl : bitLen a = a.log2 + 1 := by simp [bitLen, ha0]
  have hsh : 1 ≤ sh := by simp only [sh]; omega
  have hP : 2 ^ sh = 2 * half := by
    have : sh = (sh - 1) + 1 := by omega
    simp only [half]
    rw [this, Nat.pow_succ]
    simp
    omega
  have hdm : 2 ^ sh * q + rem = a := Nat.div_add_mod a (2 ^ sh)
  have hrem : rem < 2 ^ sh := Nat.mod_lt _ (Nat.two_pow_pos sh)
  have hlow : 2 ^ a.log2 ≤ a := Nat.log2_self_le ha0
  have hhalf : half * 16777216 = 2 ^ a.log2 := by
    have e : a.log2 = (sh - 1) + 24 := by simp only [sh]; omega
    simp only [half]
    rw [e, Nat.pow_add]
  refine ⟨?_, by omega⟩
  have hqP : q * 2 ^ sh = 2 ^ sh * q := Nat.mul_comm _ _
  by_cases hc : rem > half ∨ (rem = half ∧ q % 2 = 1)
  · have hq' : q' = q + 1 := by simp only [q', hc, if_true]
    rw [hq', Nat.add_mul, hqP]
    generalize 2 ^ sh * q = QP at hdm ⊢
    have : half ≤ rem := by rcases hc with h | h <;> omega
    omega
  · have hq' : q' = q := by simp only [q', hc, if_false]
    rw [hq', hqP]
    generalize 2 ^ sh * q = QP at hdm ⊢
    have : rem ≤ half := by
      rcases Nat.lt_or_ge half rem with h | h
      · exact absurd (Or.inl h) hc
      · exact h
    omega

theorem rnd24_error (n : Int) : (rnd24 n - n).natAbs * 16777216 ≤ n.natAbs := by
  unfold rnd24
  simp only []
  by_cases hb : bitLen n.natAbs ≤ 24
  · simp [hb]
  · simp only [hb, if_false]
    obtain ⟨⟨h1, h2⟩, h3⟩ := rnd24_nat_error n.natAbs hb
    generalize hR : (if n.natAbs % 2 ^ (bitLen n.natAbs - 24) > 2 ^ (bitLen n.natAbs - 24 - 1) ∨
        n.natAbs % 2 ^ (bitLen n.natAbs - 24) = 2 ^ (bitLen n.natAbs - 24 - 1) ∧
          n.natAbs / 2 ^ (bitLen n.natAbs - 24) % 2 = 1 then
        n.natAbs / 2 ^ (bitLen n.natAbs - 24) + 1 else n.natAbs / 2 ^ (bitLen n.natAbs - 24)) *
        2 ^ (bitLen n.natAbs - 24) = R at h1 h2 ⊢
    generalize 2 ^ (bitLen n.natAbs - 24 - 1) = H at h1 h2 h3
    by_cases hn : n < 0
    · simp only [hn, if_true]
      have : (-(R : Int) - n).natAbs ≤ H := by clear hR hb; omega
      exact Nat.le_trans (Nat.mul_le_mul_right _ this) h3
    · simp only [hn, if_false]
      have : ((R : Int) - n).natAbs ≤ H := by clear hR hb; omega
      exact Nat.le_trans (Nat.mul_le_mul_right _ this) h3

end ScVerif.C18
