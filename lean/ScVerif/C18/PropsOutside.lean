import ScVerif.C18.PropsMode
/-!
# C18 — property theorems: the `outside` flag of `Cut` and `modepb.Cut`

"`outside` indicates whether `t` is outside the bounds of mode" (cut.go).  In terms of the step function: the flag
is raised exactly when the cut point is not the start and no segment is active there (a cut AT the start is
never flagged, whatever the list; a mode without segments is always flagged).  Together with `C18_cut` /
`C18_modes_cut` this says everything `Cut` returns in the vocabulary of the step function.  No hypothesis.
-/
namespace ScVerif.C18

/-- `Cut(d, segment)` flags `outside` iff `d ≠ 0` and the segment is not active at `d`. -/
theorem C18_cut_outside (d : Int) (s : Seg) :
    (cutSeg d s).outside = true ↔ (d ≠ 0 ∧ covered [s] d = false) := by
  rw [covered_eq_segAt]
  rcases cutSeg_cases d s with ⟨h0, e⟩ | ⟨h0, hw, e⟩ | ⟨h0, ⟨l, hs, hl⟩, e⟩ <;> rw [e]
  · by_cases hd : d < 0
    · exact iff_of_true (decide_eq_true hd) ⟨by omega, by rw [segAt_neg _ hd]; rfl⟩
    · exact iff_of_false (by simpa using hd) (fun h => h.1 (by omega))
  · exact iff_of_false Bool.false_ne_true (fun h => by rw [segAt_here s [] (by omega) hw] at h; cases h.2)
  · exact iff_of_true rfl ⟨by omega, by rw [segAt_next s [] (by omega) hs hl]; rfl⟩

/-- `modepb.Cut(t, mode)` flags `outside` iff the mode has no segments, or `t` is not the mode's start and no
segment is active at `t` (a mode without start time starts at `t`, so it is never flagged unless empty). -/
theorem C18_modes_cut_outside (t : Int) (m : Mode) :
    (modeCut t m).outside = true ↔
      (m.segs = [] ∨ (t ≠ tOrST t m ∧ covered m.segs (t - tOrST t m) = false)) := by
  rw [tOrST_eq]
  rcases modeCut_cases t m with ⟨h0, e⟩ | ⟨h0, hgt, e⟩ | ⟨h0, hgt, hend, e⟩ | ⟨h0, hgt, hend, e⟩ <;> rw [e]
  · exact iff_of_true rfl (.inl (List.length_eq_zero_iff.mp h0))
  · have hne : m.segs ≠ [] := fun e => h0 (by rw [e]; rfl)
    simp only [decide_eq_true_eq]
    constructor
    · intro hlt
      exact .inr ⟨by omega, covered_neg _ _ (by omega)⟩
    · rintro (h | ⟨hne', _⟩)
      · exact absurd h hne
      · omega
  · -- past the last segment: nothing is active
    obtain ⟨_, _, _, hcov, _, _⟩ := (C18_activeAt (t - m.start.getD t) m.segs).2 (by omega)
    refine iff_of_true rfl (.inr ⟨by omega, ?_⟩)
    cases hc : covered m.segs (t - m.start.getD t) with
    | false => rfl
    | true => have := hcov.1 hc; omega
  · -- inside a segment: it is active
    obtain ⟨_, _, hle, hcov, _, _⟩ := (C18_activeAt (t - m.start.getD t) m.segs).2 (by omega)
    have hc : covered m.segs (t - m.start.getD t) = true := hcov.2 (by omega)
    refine iff_of_false (fun h => Bool.noConfusion h) ?_
    rintro (h | ⟨_, hf⟩)
    · exact h0 (by rw [h]; rfl)
    · rw [hc] at hf; cases hf

/-! Non-vacuity: the flag on concrete cuts — at the start, inside, at the end, past the end, before the start. -/
example : (cutSeg 0 ⟨5, some 0⟩).outside = false ∧ (cutSeg 3 ⟨5, some 3⟩).outside = true ∧
    (cutSeg 2 ⟨5, some 3⟩).outside = false ∧ (cutSeg (-1) ⟨5, none⟩).outside = true ∧ (cutSeg 9 ⟨5, none⟩).outside = false := by
  decide
example : (modeCut 2 ⟨some 2, [⟨5, some 0⟩]⟩).outside = false ∧ (modeCut 5 ⟨some 2, [⟨5, some 3⟩]⟩).outside = true ∧
    (modeCut 1 ⟨some 2, [⟨5, some 3⟩]⟩).outside = true ∧ (modeCut 4 ⟨some 2, [⟨5, some 3⟩]⟩).outside = false ∧
    (modeCut 4 ⟨none, []⟩).outside = true ∧ (modeCut 4 ⟨none, [⟨1, some 1⟩]⟩).outside = false := by
  decide

end ScVerif.C18
