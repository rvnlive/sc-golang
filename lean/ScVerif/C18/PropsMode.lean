import ScVerif.C18.ModeLemmas
import ScVerif.C18.PropsSeg
import ScVerif.C18.MinAtLemmas
/-!
# C18 — property theorems: electric mode operations

"…mode operations (active-at, magnitude-at, … cut, shift, sum) commute with reading a segment list
as a step function of time": a mode is its segment list placed on the absolute timeline at its start
time.  `modeDen ref m x` is the magnitude of `m` at instant `x`; a mode without a start time has no
position of its own and each operation documents where it takes it to start — that instant is `ref`
(`Cut`/`MagnitudeAt`/`ActiveAt`: the query instant `t`; `Sum`: the most recent start time).
-/
namespace ScVerif.C18

/-- The reading operations are the segment operations at the offset from the start time (offset `0`
for a mode without start time): so `MagnitudeAt` is the mode's step function at `t` with `ok` its
support, and `ActiveAt` points at the segment that value comes from. -/
theorem C18_modes_read (t : Int) (m : Mode) :
    modeMagnitudeAt t m = (modeDen t m t, covered m.segs (t - m.start.getD t)) ∧
    modeActiveAt t m = activeAt (t - m.start.getD t) m.segs ∧
    modeMaxSegmentAfter t m = maxAfter (t - m.start.getD t) m.segs ∧
    (m.start = none → modeMagnitudeAt t m = (den m.segs 0, covered m.segs 0)) ∧
    (∀ s, 0 ≤ t - m.start.getD t → m.segs[(modeActiveAt t m).2]? = some s → modeDen t m t = s.mag) := by
  refine ⟨?_, ?_, ?_, ?_, ?_⟩
  · rw [modeMagnitudeAt, magnitudeAt_eq, modeDen_eq_tOrST, tOrST_eq]
  · unfold modeActiveAt; rw [tOrST_eq]
  · unfold modeMaxSegmentAfter; rw [tOrST_eq]
  · intro h
    unfold modeMagnitudeAt
    rw [tOrST_eq, magnitudeAt_eq, h]
    simp
  · intro s hd hs
    unfold modeActiveAt at hs
    rw [tOrST_eq] at hs
    rw [modeDen_eq_tOrST, tOrST_eq]
    exact (((C18_activeAt _ m.segs).2 hd).2.2.2.2.1 s hs).1

/-- `modepb.Shift(d, mode)`: a mode with a start time is translated by `d` on the absolute timeline;
a mode without one has its segments shifted (`C18_shift`) and still has no start time. -/
theorem C18_modes_shift (d : Int) (m : Mode) :
    (∀ s, m.start = some s → ∀ ref x, modeDen ref (modeShift d m) x = modeDen ref m (x - d)) ∧
    (m.start = none → NonNeg m.segs →
      (modeShift d m).start = none ∧
      ∀ y, den (modeShift d m).segs y = if y < 0 then 0 else den m.segs (y - d)) := by
  constructor
  · intro s hs ref x
    rw [modeShift_of_some hs, modeDen_of_start rfl, modeDen_of_start hs]
    congr 1
    omega
  · intro hs hnn
    rw [modeShift_of_none hs]
    exact ⟨rfl, fun y => shift_spec d m.segs hnn y⟩

/-- `modepb.Cut(t, mode)` splits the mode's step function at instant `t` without changing it: `before`
is the mode before `t` and nothing from `t` on, `after` is the mode from `t` on (`nil` = nothing;
a mode without start time is taken to start at `t`, as documented). -/
theorem C18_modes_cut (t : Int) (m : Mode) (hnn : NonNeg m.segs) :
    (∀ x, x < t → modeDenOpt t (modeCut t m).before x = modeDen t m x) ∧
    (∀ x, t ≤ x → modeDenOpt t (modeCut t m).before x = 0) ∧
    (∀ x, t ≤ x → modeDenOpt t (modeCut t m).after x = modeDen t m x) := by
  have hb := den_headAt m.segs hnn (t - m.start.getD t)
  rcases modeCut_cases t m with ⟨h0, e⟩ | ⟨_, hgt, e⟩ | ⟨_, hgt, hend, e⟩ | ⟨_, hgt, _, e⟩ <;> rw [e]
  · have hnil : m.segs = [] := List.length_eq_zero_iff.mp h0
    exact ⟨fun _ _ => rfl, fun x _ => modeDen_of_nil hnil t x, fun _ _ => rfl⟩
  · exact ⟨fun x hx => (den_neg _ _ (by omega)).symm, fun _ _ => rfl, fun _ _ => rfl⟩
  · -- `t` is at or after the end of the last segment: the list up to there is the whole list
    have hall : headAt (t - m.start.getD t) m.segs = m.segs := by
      rw [activeAt_of_nonneg (by omega)] at hend
      simp only [headAt, hend, List.take_length, List.getElem?_eq_none (Nat.le_refl _), List.append_nil]
    rw [hall] at hb
    have hzero : ∀ x, t ≤ x → modeDen t m x = 0 := fun x hx =>
      (hb (by omega) (x - m.start.getD t)).trans (if_neg (by omega))
    exact ⟨fun _ _ => rfl, hzero, fun x hx => (hzero x hx).symm⟩
  · refine ⟨fun x hx => ?_, fun x hx => ?_, fun x hx => ?_⟩
    · exact (hb (by omega) (x - m.start.getD t)).trans (if_pos (by omega))
    · exact (hb (by omega) (x - m.start.getD t)).trans (if_neg (by omega))
    · have := den_tailAt m.segs hnn (t - m.start.getD t) (by omega) (x - t) (by omega)
      rwa [show x - t + (t - m.start.getD t) = x - m.start.getD t by omega] at this

/-- Where `modepb.Cut` indexes `mode.Segments[index]`, the index is in range (the model's stand-in
for the Go index-out-of-range panic is never reached). -/
theorem C18_modes_cut_no_panic (segs : List Seg) (d : Int)
    (h : (activeAt d segs).2 ≠ segs.length) : (segs[(activeAt d segs).2]?).isSome = true :=
  modeCut_index_valid segs d h

/-- `modepb.MinAt(t, modes)` iterates over a Go map.  For EVERY order `ms` in which the iteration may
deliver the modes: the result is `nil` only for no modes; otherwise the returned mode is one of the
modes, the returned magnitude is that mode's value at `t` (a mode without a segment at `t` counts as
`0`), no mode has a smaller one, and the returned mode is the first such mode in iteration order. -/
theorem C18_minAt (t : Int) (ms : List Mode) :
    match modeMinAt t ms with
    | none => ms = []
    | some (k, g) =>
      (∃ m, ms[k]? = some m ∧ g = modeDen t m t) ∧
      (∀ m ∈ ms, g ≤ modeDen t m t) ∧
      (∀ (n : Nat) m, n < k → ms[n]? = some m → g < modeDen t m t) := by
  have hden : ∀ m, modeDen t m t = (modeMagnitudeAt t m).1 := fun m => by
    rw [modeMagnitudeAt, magnitudeAt_eq, modeDen_eq_tOrST]
  simp only [hden]
  rw [modeMinAt_eq, magsAt]
  generalize hgs : (ms.map fun m => (modeMagnitudeAt t m).1) = gs
  cases hm : gs.min? with
  | none => exact List.map_eq_nil_iff.mp (hgs.trans (List.min?_eq_none_iff.mp hm))
  | some g =>
    obtain ⟨hmem, hmin⟩ := List.min?_eq_some_iff.mp hm
    have hk := List.idxOf_lt_length_of_mem hmem
    have hget : ∀ (n : Nat) m, ms[n]? = some m → ∃ h : n < gs.length, gs[n] = (modeMagnitudeAt t m).1 := fun n m h => by
      subst hgs
      obtain ⟨hn, rfl⟩ := List.getElem?_eq_some_iff.mp h
      exact ⟨by simpa using hn, by simp⟩
    refine ⟨?_, fun m hm => hmin _ (hgs ▸ List.mem_map_of_mem hm), fun n m hn h => ?_⟩
    · have hkm : gs.idxOf g < ms.length := by rw [← hgs, List.length_map] at hk; exact hgs ▸ hk
      obtain ⟨_, e⟩ := hget _ _ (List.getElem?_eq_getElem hkm)
      exact ⟨_, List.getElem?_eq_getElem hkm, by rw [← e, List.getElem_idxOf hk]⟩
    · obtain ⟨h', e⟩ := hget n m h
      have hne : gs[n] ≠ g := fun e => by
        have := List.not_of_lt_findIdx (p := (· == g)) (xs := gs) hn
        simp [e] at this
      have := hmin _ (List.getElem_mem h')
      omega

/-- The MAGNITUDE returned by `MinAt` does not depend on the map iteration order… -/
theorem C18_minAt_magnitude_order_independent (t : Int) (ms ms' : List Mode) (hp : ms.Perm ms') :
    (modeMinAt t ms).map (·.2) = (modeMinAt t ms').map (·.2) := by
  rw [modeMinAt_mag, modeMinAt_mag]
  exact (min?_max?_perm (hp.map _)).1

/-- … but the returned MODE does when several modes share the smallest magnitude: the same two modes
in the two possible orders give two different modes.  (Not a violation of C18 — "the mode with the
smallest magnitude" is any of them, and nothing is modified — but callers must not rely on which.) -/
theorem C18_minAt_mode_depends_on_order :
    ∃ (t : Int) (a b : Mode), a ≠ b ∧
      (modeMinAt t [a, b]).map (fun r => [a, b][r.1]?) = some (some a) ∧
      (modeMinAt t [b, a]).map (fun r => [b, a][r.1]?) = some (some b) :=
  ⟨0, ⟨some 0, [⟨1, some 2⟩]⟩, ⟨some 0, [⟨1, some 3⟩]⟩, by decide, by decide, by decide⟩

/-- `modepb.Sum(modes...)`, full strength (after `fix:` 5957697 of `segmentpb.Sum`).  Without any
start time the result has none and is the pointwise sum of the segment lists; otherwise it starts at
the earliest start time `e` and is the pointwise sum of the modes on the absolute timeline, a mode
without start time being taken to start at the most recent start time `l`. -/
theorem C18_modes_sum (ms : List Mode) (hne : ms ≠ []) (hnn : ∀ m ∈ ms, NonNeg m.segs) :
    ∃ r, modeSum ms = some r ∧
      (starts ms = [] → r.start = none ∧ ∀ y, den r.segs y = denSum (ms.map (·.segs)) y) ∧
      (starts ms ≠ [] → ∃ e l, e ∈ starts ms ∧ l ∈ starts ms ∧ (∀ s ∈ starts ms, e ≤ s ∧ s ≤ l) ∧
        r.start = some e ∧ ∀ ref x, modeDen ref r x = modeDenSum l ms x) := by
  rcases modeSum_cases ms hne with ⟨hst, _, _, e⟩ | ⟨a, b, _, ha, hb, hbounds, _, e⟩
  · have hall : AllNonNeg (ms.map (·.segs)) := fun l hl => by
      obtain ⟨m, hm, rfl⟩ := List.mem_map.mp hl
      exact hnn m hm
    exact ⟨_, e, fun _ => ⟨rfl, fun y => C18_sum _ hall y⟩, fun h => absurd hst h⟩
  · obtain ⟨i1, _, i3⟩ := alignLoop_spec a b ms hnn (hbounds a ha).2 (fun s hs => (hbounds s hs).1)
    refine ⟨_, e, fun h => (by rw [h] at ha; cases ha), fun _ => ⟨a, b, ha, hb, hbounds, rfl, fun ref x => ?_⟩⟩
    rw [modeDen_of_start rfl, C18_sum _ i1, i3]

/-- `modepb.Sum()` of no modes is `nil`. -/
theorem C18_modes_sum_empty : modeSum [] = none := rfl

/-- `modepb.Sum` before `fix:` 7872cfb (`modeSumLegacy zero`, with `zero` the instant of
the zero `time.Time`: "not set yet" was `earliest.IsZero()` / `latest.IsZero()`) computed the same mode as
the repaired code whenever no start time was the zero instant … -/
theorem C18_modes_sum_legacy_exact (zero : Int) (ms : List Mode) (hz : ∀ s ∈ starts ms, s ≠ zero) :
    modeSumLegacy zero ms = modeSum ms := by
  cases ms with
  | nil => rfl
  | cons m0 ms0 =>
    have h := startsLoopLegacy_eq zero (m0 :: ms0) hz zero zero 0 none none (Or.inl ⟨rfl, rfl, rfl, rfl, rfl⟩)
    unfold modeSumLegacy modeSum
    rcases h with ⟨h0, hp⟩ | ⟨hn, hp⟩
    · have : ¬ (startsLoopLegacy zero zero zero 0 (m0 :: ms0)).2.2 > 0 := by omega
      simp only [this, if_false, hp]
    · simp only [gt_iff_lt, hn, if_true, hp]

/-- … and was wrong when one was (the defect `C18/modepb.Sum/wrong-start`, repaired): with the zero instant
at `0`, `Sum(mode@0 [4 for 10ns], mode@5 [1 for 2ns])` started at `5` — the later start replaced the zero
one as "earliest" — and so was `0` at instant `0` where the pointwise sum is `4`; in the other direction a
mode without start time was placed at the wrong "most recent" start.  The repaired `Sum` starts at `0`
and is `4` there. -/
theorem C18_modes_sum_legacy_fails :
    modeSumLegacy 0 [⟨some 0, [⟨4, some 10⟩]⟩, ⟨some 5, [⟨1, some 2⟩]⟩]
      = some ⟨some 5, [⟨5, some 2⟩, ⟨4, some 3⟩]⟩ ∧
    modeDenOpt 0 (modeSumLegacy 0 [⟨some 0, [⟨4, some 10⟩]⟩, ⟨some 5, [⟨1, some 2⟩]⟩]) 0 = 0 ∧
    modeDenSum 5 [⟨some 0, [⟨4, some 10⟩]⟩, ⟨some 5, [⟨1, some 2⟩]⟩] 0 = 4 ∧
    modeSum [⟨some 0, [⟨4, some 10⟩]⟩, ⟨some 5, [⟨1, some 2⟩]⟩]
      = some ⟨some 0, [⟨4, some 5⟩, ⟨5, some 2⟩, ⟨4, some 3⟩]⟩ ∧
    (modeSumLegacy 0 [⟨some 0, [⟨1, some 1⟩]⟩, ⟨some (-1), []⟩, ⟨none, [⟨2, some 1⟩]⟩]).map (·.segs)
      = some [⟨2, some 1⟩, ⟨1, some 1⟩] ∧
    (modeSum [⟨some 0, [⟨1, some 1⟩]⟩, ⟨some (-1), []⟩, ⟨none, [⟨2, some 1⟩]⟩]).map (·.segs)
      = some [⟨0, some 1⟩, ⟨3, some 1⟩] := by
  refine ⟨by decide, by decide, by decide, by decide, by decide, by decide⟩

/-! Non-vacuity and concrete values. -/
example : modeCut 5 ⟨some 2, [⟨1, some 2⟩, ⟨2, some 4⟩, ⟨3, some 1⟩]⟩ =
    ⟨some ⟨some 2, [⟨1, some 2⟩, ⟨2, some 1⟩]⟩, some ⟨some 5, [⟨2, some 3⟩, ⟨3, some 1⟩]⟩, false⟩ := by decide
example : modeSum [⟨some 2, [⟨1, some 2⟩]⟩, ⟨none, [⟨3, some 3⟩]⟩, ⟨some 5, [⟨2, none⟩]⟩] =
    some ⟨some 2, [⟨1, some 2⟩, ⟨0, some 1⟩, ⟨5, some 3⟩, ⟨2, none⟩]⟩ := by decide
example : starts [⟨some 2, [⟨1, some 2⟩]⟩, ⟨none, [⟨3, some 3⟩]⟩, ⟨some 5, [⟨2, none⟩]⟩] = [2, 5] := by decide
example : modeShift 3 ⟨none, [⟨0, some 2⟩, ⟨2, some 2⟩]⟩ = ⟨none, [⟨0, some 5⟩, ⟨2, some 2⟩]⟩ := by decide
example : modeMagnitudeAt 9 ⟨none, [⟨4, some 0⟩, ⟨7, some 2⟩]⟩ = (7, true) := by decide

end ScVerif.C18
