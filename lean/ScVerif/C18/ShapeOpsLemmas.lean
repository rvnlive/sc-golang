import ScVerif.C18.ShapeOps
import ScVerif.C18.CutLemmas
/-! The shaped operations copy magnitude and shape together and branch on lengths only, so they commute with every
reading `readS φ` of a shaped segment: erasing the shape, or reading the consumption. -/
namespace ScVerif.C18

/-- A reading of shaped segments that keeps the length and computes the magnitude from magnitude and shape.
Erasing the shape is `φ m _ = m` (`eraseS`), the consumption is `φ m sh = sh.getD m` (`SegS.toFixed`); the
shaped operations copy magnitude and shape together, so they commute with every such reading. -/
def readS (φ : Int → Option Int → Int) (s : SegS) : Seg := ⟨φ s.seg.mag s.shape, s.seg.len⟩

theorem cutSegS_eq_attach (d : Int) (s : SegS) :
    cutSegS d s = ⟨(cutSeg d s.seg).before.map (⟨·, s.shape⟩), (cutSeg d s.seg).after.map (⟨·, s.shape⟩),
      (cutSeg d s.seg).outside⟩ := by
  obtain ⟨⟨m, len⟩, sh⟩ := s
  by_cases hd : d ≤ 0
  · simp [cutSegS, cutSeg, hd]
  · cases len with
    | none => simp [cutSegS, cutSeg, hd]
    | some l => by_cases hl : l ≤ d <;> simp [cutSegS, cutSeg, hd, hl]

theorem cutSegS_readS (φ : Int → Option Int → Int) (d : Int) (s : SegS) :
    (cutSegS d s).before.map (readS φ) = (cutSeg d (readS φ s)).before ∧
    (cutSegS d s).after.map (readS φ) = (cutSeg d (readS φ s)).after ∧
    (cutSegS d s).outside = (cutSeg d (readS φ s)).outside := by
  have h : cutSeg d (readS φ s) = _ := cutSeg_mag (φ · s.shape) d s.seg
  rw [h, cutSegS_eq_attach]
  simp only [Option.map_map]
  exact ⟨rfl, rfl, trivial⟩

theorem cutSegS_after_readS (φ : Int → Option Int → Int) (hφ : φ 0 none = 0) (d : Int) (s : SegS) :
    readS φ ((cutSegS d s).after.getD nilSegS) = (cutSeg d (readS φ s)).after.getD nilSeg := by
  rw [← (cutSegS_readS φ d s).2.1]
  cases (cutSegS d s).after with
  | none => exact congrArg (fun m => (⟨m, none⟩ : Seg)) hφ
  | some _ => rfl

theorem shiftNegLoopS_readS (φ : Int → Option Int → Int) (hφ : φ 0 none = 0) (D : Int) (l : List SegS)
    (cur : Int) : (shiftNegLoopS D cur l).map (readS φ) = shiftNegLoop D cur (l.map (readS φ)) := by
  induction l generalizing cur with
  | nil => rfl
  | cons s rest ih =>
    simp only [shiftNegLoopS, List.map_cons, shiftNegLoop]
    have e : (readS φ s).len = s.seg.len := rfl
    rw [e]
    cases hs : s.seg.len with
    | none => simp
    | some l0 =>
      simp only []
      by_cases h : cur + l0 > D
      · simp only [h, if_true, List.map_cons, cutSegS_after_readS φ hφ]
      · simp only [h, if_false]
        exact ih (cur + l0)

/-- Whether the first segment is idle is the one thing `Shift` asks of a magnitude. -/
theorem shiftS_readS (φ : Int → Option Int → Int) (hφ : φ 0 none = 0) (d : Int) (l : List SegS)
    (hidle : 0 < d → ∀ f, l.head? = some f → (φ f.seg.mag f.shape = 0 ↔ f.seg.mag = 0)) :
    (shiftS d l).map (readS φ) = shift d (l.map (readS φ)) := by
  unfold shiftS shift
  by_cases hd : d = 0
  · simp [hd]
  · simp only [hd, if_false]
    cases l with
    | nil => rfl
    | cons first rest =>
      simp only [List.map_cons]
      by_cases hp : d > 0
      · have hk := hidle hp first rfl
        have e1 : (readS φ first).mag = φ first.seg.mag first.shape := rfl
        have e2 : (readS φ first).len = first.seg.len := rfl
        simp only [hp, if_true, e1, e2]
        by_cases hm : first.seg.mag = 0
        · rw [if_pos hm, if_pos (hk.mpr hm)]
          cases first.seg.len with
          | none => rfl
          | some l0 => simp only [List.map_cons, readS, hm]
        · rw [if_neg hm, if_neg (mt hk.mp hm)]
          simp only [List.map_cons, readS, hφ]
      · simp only [hp, if_false]
        exact shiftNegLoopS_readS φ hφ (-d) (first :: rest) 0

theorem shiftS_erase (d : Int) (l : List SegS) : eraseS (shiftS d l) = shift d (eraseS l) :=
  shiftS_readS (fun m _ => m) rfl d l fun _ _ _ => Iff.rfl

theorem nonNeg_toFixed (l : List SegS) (h : NonNeg (eraseS l)) : NonNeg (l.map SegS.toFixed) := by
  intro s hs x hx
  obtain ⟨a, ha, rfl⟩ := List.mem_map.mp hs
  exact h a.seg (List.mem_map.mpr ⟨a, ha, rfl⟩) x hx

theorem modeShiftS_erase (d : Int) (m : ModeS) : (modeShiftS d m).erase = modeShift d m.erase := by
  unfold modeShiftS modeShift
  by_cases hd : d = 0
  · simp [hd]
  · simp only [hd, if_false]
    have hstart : m.erase.start = m.start := rfl
    rw [hstart]
    cases m.start with
    | none => simp [ModeS.erase, shiftS_erase]
    | some s => simp [ModeS.erase]

theorem activeAtLoop_readS (φ : Int → Option Int → Int) (d : Int) (l : List SegS) (cur : Int) (i : Nat) :
    activeAtLoop d cur i (l.map (readS φ)) = activeAtLoop d cur i (eraseS l) := by
  induction l generalizing cur i with
  | nil => rfl
  | cons s rest ih =>
    simp only [List.map_cons, eraseS, activeAtLoop]
    have e : (readS φ s).len = s.seg.len := rfl
    rw [e]
    cases s.seg.len with
    | none => rfl
    | some l0 =>
      simp only []
      split
      · rfl
      · exact ih _ _

/-- A shaped mode read segment by segment; `ModeS.erase` is the reading `fun m _ => m`, `ModeS.toFixed` the reading
`fun m sh => sh.getD m` (both by `rfl`). -/
def ModeS.read (φ : Int → Option Int → Int) (m : ModeS) : Mode := ⟨m.start, m.segs.map (readS φ)⟩

/-- `modepb.Cut` branches on lengths only and hands the active segment to `Cut`. -/
theorem modeCutS_readS (φ : Int → Option Int → Int) (t : Int) (m : ModeS) :
    (modeCutS t m).before.map (ModeS.read φ) = (modeCut t (m.read φ)).before ∧
    (modeCutS t m).after.map (ModeS.read φ) = (modeCut t (m.read φ)).after ∧
    (modeCutS t m).outside = (modeCut t (m.read φ)).outside := by
  unfold modeCutS modeCut
  have hlen : (m.segs.map (readS φ)).length = m.segs.length := by simp
  have hsegs : (m.read φ).segs = m.segs.map (readS φ) := rfl
  have hstart : (m.read φ).start = m.start := rfl
  have hst : tOrST t (m.read φ) = tOrST t m.erase := rfl
  have hact : ∀ d, activeAt d (m.segs.map (readS φ)) = activeAt d (eraseS m.segs) := fun d => by
    unfold activeAt
    rw [activeAtLoop_readS]
  simp only [hsegs, hstart, hlen, hst, hact]
  generalize tOrST t m.erase = st
  generalize activeAt (t - st) (eraseS m.segs) = ei
  by_cases h0 : m.segs.length = 0
  · simp only [h0, if_true]
    exact ⟨rfl, rfl, trivial⟩
  · simp only [h0, if_false]
    by_cases hgt : t > st
    · simp only [hgt, not_true_eq_false, if_false]
      by_cases hend : ei.2 = m.segs.length
      · simp [hend]
      · simp only [hend, if_false]
        have hget : (m.segs.map (readS φ))[ei.2]?
            = (m.segs[ei.2]?).map (readS φ) := by
          simp
        rw [hget]
        cases hs : m.segs[ei.2]? with
        | none => simp
        | some s =>
          simp only [Option.map_some]
          obtain ⟨hb, ha, _⟩ := cutSegS_readS φ (t - st - ei.1) s
          refine ⟨?_, ?_, trivial⟩
          · rw [← hb]
            cases (cutSegS (t - st - ei.1) s).before with
            | none => simp [ModeS.read]
            | some sb => simp [ModeS.read]
          · rw [← ha]
            cases (cutSegS (t - st - ei.1) s).after with
            | none => simp [ModeS.read]
            | some sa => simp [ModeS.read]
    · simp [hgt]

theorem modeCutS_erase (t : Int) (m : ModeS) :
    (modeCutS t m).before.map ModeS.erase = (modeCut t m.erase).before ∧
    (modeCutS t m).after.map ModeS.erase = (modeCut t m.erase).after ∧
    (modeCutS t m).outside = (modeCut t m.erase).outside :=
  modeCutS_readS (fun m _ => m) t m

theorem modeCutS_toFixed (t : Int) (m : ModeS) :
    (modeCutS t m).before.map ModeS.toFixed = (modeCut t m.toFixed).before ∧
    (modeCutS t m).after.map ModeS.toFixed = (modeCut t m.toFixed).after ∧
    (modeCutS t m).outside = (modeCut t m.toFixed).outside :=
  modeCutS_readS (fun m sh => sh.getD m) t m

theorem modeCutS_info (t : Int) (m : ModeS) :
    (∀ b, (modeCutS t m).before = some b → b.info = m.info) ∧
    (∀ a, (modeCutS t m).after = some a → a.info = m.info) := by
  have self : ∀ x : ModeS, some m = some x → x.info = m.info := fun x h => by cases h; rfl
  have absent : ∀ x : ModeS, none = some x → x.info = m.info := fun x h => nomatch h
  unfold modeCutS
  extract_lets st d ei
  by_cases h0 : m.segs.length = 0
  · rw [if_pos h0]; exact ⟨self, self⟩
  rw [if_neg h0]
  by_cases hgt : ¬ t > st
  · rw [if_pos hgt]; exact ⟨absent, self⟩
  rw [if_neg hgt]
  by_cases hend : ei.2 = m.segs.length
  · rw [if_pos hend]; exact ⟨self, absent⟩
  rw [if_neg hend]
  cases m.segs[ei.2]? with
  | none => exact ⟨absent, absent⟩
  | some s =>
    constructor
    · intro b hb
      cases hb
      cases (cutSegS (d - ei.1) s).before <;> rfl
    · intro a ha
      cases ha
      cases (cutSegS (d - ei.1) s).after <;> rfl

end ScVerif.C18
