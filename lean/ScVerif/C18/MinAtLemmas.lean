import ScVerif.C18.Mode
/-! `modepb.MinAt` in closed form: the least of the modes' magnitudes at `t` and the first position at which it
occurs, whatever order the map iteration delivers the modes in. -/
namespace ScVerif.C18

/-- The magnitudes of the modes at `t`, in iteration order. -/
def magsAt (t : Int) (ms : List Mode) : List Int := ms.map fun m => (modeMagnitudeAt t m).1

theorem magsAt_cons (t : Int) (m : Mode) (ms : List Mode) :
    magsAt t (m :: ms) = (modeMagnitudeAt t m).1 :: magsAt t ms := rfl

theorem foldl_min_le (l : List Int) (a : Int) : l.foldl min a ≤ a := by
  induction l generalizing a with
  | nil => exact Int.le_refl a
  | cons x l ih => exact Int.le_trans (ih (min a x)) (Int.min_le_left a x)

theorem minAtLoop_closed (t : Int) (ms : List Mode) (j : Nat) (g0 : Int) (i : Nat) :
    minAtLoop t (some (j, g0)) i ms =
      some (if (magsAt t ms).foldl min g0 < g0 then
        (i + (magsAt t ms).idxOf ((magsAt t ms).foldl min g0), (magsAt t ms).foldl min g0) else (j, g0)) := by
  induction ms generalizing j g0 i with
  | nil => simp [minAtLoop, magsAt]
  | cons m ms ih =>
    simp only [minAtLoop, magsAt_cons, List.foldl_cons, List.idxOf_cons, ih]
    generalize (modeMagnitudeAt t m).1 = a
    generalize magsAt t ms = gs
    have h1 := foldl_min_le gs a
    have h2 := foldl_min_le gs g0
    by_cases hlt : a < g0
    · rw [if_pos hlt, show min g0 a = a by omega, if_pos (show gs.foldl min a < g0 by omega)]
      by_cases hG : gs.foldl min a < a
      · rw [if_pos hG, (beq_eq_false_iff_ne).mpr (by omega), cond_false, ← Nat.add_assoc, Nat.add_right_comm]
      · rw [if_neg hG, show gs.foldl min a = a by omega, beq_self_eq_true, cond_true, Nat.add_zero]
    · rw [if_neg hlt, show min g0 a = g0 by omega]
      by_cases hG : gs.foldl min g0 < g0
      · rw [if_pos hG, if_pos hG, (beq_eq_false_iff_ne).mpr (by omega), cond_false, ← Nat.add_assoc, Nat.add_right_comm]
      · rw [if_neg hG, if_neg hG]

theorem modeMinAt_eq (t : Int) (ms : List Mode) :
    modeMinAt t ms = (magsAt t ms).min?.map fun g => ((magsAt t ms).idxOf g, g) := by
  cases ms with
  | nil => rfl
  | cons m ms =>
    simp only [modeMinAt, minAtLoop, minAtLoop_closed, magsAt_cons, List.min?_cons', Option.map_some, List.idxOf_cons]
    generalize (modeMagnitudeAt t m).1 = a
    generalize magsAt t ms = gs
    have h1 := foldl_min_le gs a
    by_cases hG : gs.foldl min a < a
    · rw [if_pos hG, (beq_eq_false_iff_ne).mpr (by omega), cond_false, Nat.add_comm]
    · rw [if_neg hG, show gs.foldl min a = a by omega, beq_self_eq_true, cond_true]

theorem modeMinAt_mag (t : Int) (ms : List Mode) :
    (modeMinAt t ms).map (·.2) = (magsAt t ms).min? := by
  rw [modeMinAt_eq, Option.map_map]; exact Option.map_id'

end ScVerif.C18
