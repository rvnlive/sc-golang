import ScVerif.C18.HeapRefine
/-!
# C18 — property theorems: the heap models ARE the model the code is tied to

"…and never modify their arguments" is proved on heap versions of the operations; the step-function laws on the pure
versions, which are what the driver runs against the Go code.  Here, for EVERY heap: reading the result of the heap
version back through the final heap is the pure version applied to the argument read through the initial heap — so the
function whose frame property is proved is the function the laws speak about.  The common hypothesis: the slice's
elements are addresses of existing cells (`ValidAddrs`: a Go slice of non-nil pointers); where a theorem needs more
(the backing array exists, the header's length is the number of elements read) its docstring says so.
-/
namespace ScVerif.C18

/-- `segmentpb.Cut` on the heap returns pointers that read as the parts `cutSeg` returns, and the same flag. -/
theorem C18_heap_cut_refines (h : Heap) (d : Int) (addr : Nat) (ha : addr < h.cells.length) :
    (heapCut h d addr).2.1.map (readCell (heapCut h d addr).1) = (cutSeg d (readCell h addr)).before ∧
    (heapCut h d addr).2.2.1.map (readCell (heapCut h d addr).1) = (cutSeg d (readCell h addr)).after ∧
    (heapCut h d addr).2.2.2 = (cutSeg d (readCell h addr)).outside :=
  heapCut_refines h d addr ha

/-- `segmentpb.Shift` on the heap — clone + extend, prepend, or the trimming loop with `Cut`; result slice shared
with the argument (`segments[i:]`) or freshly made — reads back as `shift d` of the argument, for any heap, any
`d` of either sign and any slice of existing cells (any offset, spare capacity or not). -/
theorem C18_heap_shift_refines (h : Heap) (d : Int) (sl : Slice) (v : ValidAddrs h (readSlice h sl)) :
    readSegs (heapShift h d sl).1 (heapShift h d sl).2 = shift d (readSegs h sl) :=
  heapShift_refines h d sl v

/-- `proto.Clone` of a segment list reads like the original and consists of existing cells again; `modepb.Shift`
on the heap (clone, then either the new start time or `segmentpb.Shift` on the CLONE's segments) reads back as
`modeShift d` of the argument. -/
theorem C18_heap_modeShift_refines (h : Heap) (d : Int) (m : HeapMode) (v : ValidAddrs h (readSlice h m.segs)) :
    (readSegs (cloneSlice h m.segs).1 (cloneSlice h m.segs).2 = readSegs h m.segs ∧
     ValidAddrs (cloneSlice h m.segs).1 (readSlice (cloneSlice h m.segs).1 (cloneSlice h m.segs).2)) ∧
    (⟨(heapModeShift h d m).2.start, readSegs (heapModeShift h d m).1 (heapModeShift h d m).2.segs⟩ : Mode) =
      modeShift d ⟨m.start, readSegs h m.segs⟩ := by
  refine ⟨cloneSlice_refines h m.segs v, ?_⟩
  unfold heapModeShift modeShift
  by_cases hd : d = 0
  · simp [hd]
  · simp only [hd, if_false]
    have hc := cloneSlice_refines h m.segs v
    cases hs : m.start with
    | none =>
      simp only []
      rw [heapShift_refines _ d _ hc.2, hc.1]
    | some s =>
      simp only []
      rw [hc.1]

/-- `modepb.Cut` on the heap — two deep clones, `segmentpb.Cut` of the active segment, the two stores into the
clones' backing arrays and the re-slicing — returns modes that read back as the `before` / `after` of `modeCut`,
with the same flag; every early return included.  Hypotheses: the mode's slice lies within an existing array
(`hfull`: as many elements as its header says) and points at existing cells. -/
theorem C18_heap_modeCut_refines (h : Heap) (t : Int) (m : HeapMode) (harr : m.segs.arr < h.arrays.length)
    (v : ValidAddrs h (readSlice h m.segs)) (hfull : (readSlice h m.segs).length = m.segs.len) :
    (heapModeCut h t m).2.1.map (fun b => (⟨b.start, readSegs (heapModeCut h t m).1 b.segs⟩ : Mode)) =
      (modeCut t ⟨m.start, readSegs h m.segs⟩).before ∧
    (heapModeCut h t m).2.2.1.map (fun a => (⟨a.start, readSegs (heapModeCut h t m).1 a.segs⟩ : Mode)) =
      (modeCut t ⟨m.start, readSegs h m.segs⟩).after ∧
    (heapModeCut h t m).2.2.2 = (modeCut t ⟨m.start, readSegs h m.segs⟩).outside := by
  have hSlen : (readSegs h m.segs).length = m.segs.len := (readSegs_length h m.segs).trans hfull
  have hst : tOrST t ⟨m.start, readSegs h m.segs⟩ = m.start.getD t := tOrST_eq t _
  unfold heapModeCut heapModeCutWith modeCut
  simp only [if_true, hSlen, hst]
  by_cases h0 : m.segs.len = 0
  · simp [h0]
  · simp only [h0, if_false]
    by_cases hgt : t > m.start.getD t
    · simp only [hgt, not_true, if_false]
      by_cases hidx : (activeAt (t - m.start.getD t) (readSegs h m.segs)).2 = m.segs.len
      · simp [hidx]
      · simp only [hidx, if_false]
        generalize hei : activeAt (t - m.start.getD t) (readSegs h m.segs) = ei at hidx ⊢
        obtain ⟨el, i⟩ := ei
        simp only [] at hidx ⊢
        have hile : i < m.segs.len := by
          have hv := modeCut_index_valid (readSegs h m.segs) (t - m.start.getD t) (by rw [hei, hSlen]; exact hidx)
          rw [hei, Option.isSome_iff_exists] at hv
          obtain ⟨s, hs⟩ := hv
          exact hSlen ▸ (List.getElem?_eq_some_iff.mp hs).1
        have hxs : i < (readSlice h m.segs).length := by omega
        have ha0 : (readSlice h m.segs)[i]? = some ((readSlice h m.segs)[i]) := List.getElem?_eq_getElem hxs
        generalize (readSlice h m.segs)[i] = a0 at ha0
        have hs0 : (readSegs h m.segs)[i]? = some (readCell h a0) := by rw [readSegs, List.getElem?_map, ha0]; rfl
        have hv0 : a0 < h.cells.length := v a0 (List.mem_of_getElem? ha0)
        simp only [ha0, hs0, Option.getD_some]
        -- the two clones `B`, `A`: whole new arrays that read as the mode's segments `S`, in every later heap
        have vs : ValidSlice h m.segs := ⟨v, .inl harr⟩
        have eB := cloneSlice_extends h m.segs
        obtain ⟨hBsl, bs, _, arrB⟩ := cloneSlice_arr h m.segs v
        generalize cloneSlice h m.segs = B at *
        have eA := cloneSlice_extends B.1 m.segs
        obtain ⟨hAsl, as, _, arrA⟩ := cloneSlice_arr B.1 m.segs (vs.extends eB).1
        rw [readSegs_extends_validSlice eB _ vs] at arrA
        have hne : h.arrays.length ≠ B.1.arrays.length := fun e => by
          have := (List.getElem?_eq_some_iff.mp arrB.get).1
          omega
        generalize cloneSlice B.1 m.segs = A at *
        have hrf := heapCut_refines A.1 (t - m.start.getD t - el) a0 ((eB.trans eA).cells_lt hv0)
        rw [readCell_extends (eB.trans eA) a0 hv0] at hrf
        have eC := heapCut_extends A.1 (t - m.start.getD t - el) a0
        generalize heapCut A.1 (t - m.start.getD t - el) a0 = cr at hrf eC ⊢
        obtain ⟨C, sb, sa, o⟩ := cr
        simp only [hBsl, hAsl] at hrf eC ⊢
        -- the two stores: each is seen through its own array only
        generalize hS : readSegs h m.segs = S at *
        have rB := fun n => (readSegs_setArr_opt_other _ sa B.1.arrays.length i ⟨h.arrays.length, 0, n⟩ hne).trans
          ((arrB.extends (eA.trans eC)).reads_setOpt sb i 0 n)
        have rA := ((arrA.extends eC).setOpt_other sb h.arrays.length i (Ne.symm hne)).reads_setOpt sa i
        have hcell : ∀ y, readCell (match sb with | none => C | some x => setArr C h.arrays.length i x) y = readCell C y :=
          fun y => by cases sb <;> rfl
        obtain ⟨hb1, hb2, hb3⟩ := hrf
        rw [← hb1, ← hb2]
        have hi : i < S.length := by omega
        -- four nil / non-nil combinations: each slice reads as `rB` / `rA` say, then `set` followed by `take` / `drop`
        cases sb <;> cases sa <;> simp only [] at rB rA hcell ⊢ <;>
          simp only [Option.map_some, Option.map_none, rB, rA, hcell, List.drop_zero, set_take_succ S i _ hi,
            set_drop_self S i _ hi] <;>
          refine ⟨trivial, ?_, trivial⟩ <;>
          rw [List.take_of_length_le (by simp; omega)]
    · simp [hgt]

/-- Why `hfull` is there: a slice header that claims more elements than its array holds (not a Go
slice) makes the heap version index differently from the list it reads as — here the header says 3, the array has
2, and `modepb.Cut` at the end of the second segment reports `outside` for the list but not for the header. -/
theorem C18_heap_modeCut_needs_full_slice :
    let h : Heap := ⟨[⟨1, some 2⟩, ⟨2, some 4⟩], [[0, 1]]⟩
    let m : HeapMode := ⟨some 0, ⟨0, 0, 3⟩⟩
    (readSlice h m.segs).length ≠ m.segs.len ∧
    (heapModeCut h 6 m).2.2.2 ≠ (modeCut 6 ⟨m.start, readSegs h m.segs⟩).outside := by
  refine ⟨by decide, by decide⟩

/-- `segmentpb.Sum` on the heap (the in-place loop, then the `result` array): the `result` slice reads as the list
the literal loop builds, and with the final re-slicing (`trimLast`, which touches no memory) it is `sum` of the
lists the cuts were computed from — for any heap and any lists. -/
theorem C18_heap_sum_refines (h : Heap) (cuts : List Edge) (ls : List (List Seg)) :
    readSegs (heapSum h cuts).1 (heapSum h cuts).2 = (cuts.foldl sumGoStep ([], 0)).1 ∧
    trimLast (dropRule (anyInfinite ls)) (readSegs (heapSum h (calcCuts ls)).1 (heapSum h (calcCuts ls)).2) =
      sum ls :=
  ⟨heapSum_refines h cuts, heapSum_sum h ls⟩

/-- `modepb.Sum` on the heap — the alignment loop through `segmentpb.Shift` (whose result slices, shared with the
arguments or freshly made, stay readable while later `Shift`s allocate: `heapShift_valid`), then `segmentpb.Sum` —
reads back as `modeSum` of the modes the arguments read as; `nil` for no modes.  Hypothesis: every mode's slice
consists of existing cells in an existing array (or is empty). -/
theorem C18_heap_modeSum_refines (h : Heap) (ms : List HeapMode) (v : ∀ m ∈ ms, ValidSlice h m.segs) :
    (heapModeSum h ms).2.map (fun r => (⟨r.start,
        trimLast (dropRule (anyInfinite (modeSumLists (ms.map (HeapMode.toMode h)))))
          (readSegs (heapModeSum h ms).1 r.segs)⟩ : Mode)) =
      modeSum (ms.map (HeapMode.toMode h)) := by
  cases ms with
  | nil => rfl
  | cons m ms' =>
    have hal := fun e l => heapAlign_refines e l h (m :: ms') v
    have hmap : (m :: ms').map (fun m => readSegs h m.segs) = ((m :: ms').map (HeapMode.toMode h)).map (·.segs) := by
      simp [HeapMode.toMode]
    have hst : (m :: ms').map (fun m => (⟨m.start, readSegs h m.segs⟩ : Mode)) = (m :: ms').map (HeapMode.toMode h) := rfl
    unfold heapModeSum
    simp only [hst]
    rcases modeSum_cases ((m :: ms').map (HeapMode.toMode h)) (by simp) with ⟨_, hpair, hl, e⟩ | ⟨a, b, hpair, _, _, _, hl, e⟩ <;>
      rw [e, hl, hpair] <;> simp only [Option.map_some]
    · rw [hmap, heapSum_sum]
    · rw [← (hal a b).1, heapSum_sum]

/-- What the alignment loop of `modepb.Sum` relies on: the slice `segmentpb.Shift` returns is readable again
(existing cells, existing array), and it reads the same in every later heap. -/
theorem C18_heap_shift_result_stable (h : Heap) (d : Int) (sl : Slice) (vs : ValidSlice h sl) :
    ValidSlice (heapShift h d sl).1 (heapShift h d sl).2 ∧
    ∀ h', (heapShift h d sl).1.Extends h' →
      readSegs h' (heapShift h d sl).2 = shift d (readSegs h sl) := by
  refine ⟨heapShift_valid h d sl vs, fun h' e => ?_⟩
  rw [readSegs_extends_validSlice e _ (heapShift_valid h d sl vs)]
  exact heapShift_refines h d sl vs.1

/-- The same for `modepb.Shift` with the mode itself as a heap object (the model of PropsHeapTrace, whose every
intermediate heap leaves the argument alone): what a reader finds behind the RESULT pointer in the last heap of
the trace — start time and segment values — is `modeShift d` of what it finds behind the argument pointer before
the call; `d = 0` returns the argument pointer itself. -/
theorem C18_heap_modeShift_object_refines (h : HeapM) (d : Int) (p : Nat) (v : ValidMode h p) :
    observe (((modeShiftTrace false h d p).1.getLast?).getD h) (modeShiftTrace false h d p).2 =
      ((modeShift d ⟨(observe h p).1, (observe h p).2⟩).start,
       (modeShift d ⟨(observe h p).1, (observe h p).2⟩).segs) ∧
    (d = 0 → (modeShiftTrace false h d p).2 = p) := by
  refine ⟨?_, fun hd => by simp [modeShiftTrace, hd]⟩
  obtain ⟨e1, e2⟩ := modeShiftTrace_last h d p
  have := (C18_heap_modeShift_refines h.base d ⟨(readMode h p).start, (readMode h p).segs⟩ v.2.2).2
  rw [observe, e1, e2]
  exact congrArg (fun m : Mode => (m.start, m.segs)) this

/-- Frame and function together, for `segmentpb.Shift`: one call, any heap — the result reads as `shift d` of the
argument AND the argument (indeed every pre-existing list of existing cells) reads as before, also at every
intermediate statement. -/
theorem C18_shift_function_and_frame (h : Heap) (d : Int) (sl : Slice) (ha : sl.arr < h.arrays.length)
    (v : ValidAddrs h (readSlice h sl)) :
    readSegs (heapShift h d sl).1 (heapShift h d sl).2 = shift d (readSegs h sl) ∧
    readSegs (heapShift h d sl).1 sl = readSegs h sl ∧
    (∀ hi ∈ (shiftTrace true h d sl).1, readSegs hi sl = readSegs h sl) :=
  ⟨heapShift_refines h d sl v, readSegs_extends (heapShift_extends h d sl) sl ha v,
   fun hi hmem => readSegs_extends (shiftTrace_extends h d sl hi hmem) sl ha v⟩

/-- Why the clause needs its own check.  The variant of `segmentpb.Shift` without `proto.Clone` (which
`C18_shift_without_clone_writes_argument` shows storing into the caller's first segment) RETURNS the right list:
for every heap whose list starts with an existing idle segment that does not occur again in the list, and every
`d > 0`, its result reads back as `shift d` of the argument.  No comparison of results with the step function
finds it; only the comparison of the arguments (or the read-only pages) does. -/
theorem C18_shift_without_clone_same_result (h : Heap) (d l : Int) (sl : Slice) (first : Nat) (rest : List Nat)
    (hd : d > 0) (hs : readSlice h sl = first :: rest) (hf : first < h.cells.length)
    (hcell : readCell h first = ⟨0, some l⟩) (hnot : first ∉ rest) :
    ∃ hl, (shiftTrace false h d sl).1.getLast? = some hl ∧
      readSegs hl (shiftTrace false h d sl).2 = shift d (readSegs h sl) := by
  have hne : d ≠ 0 := by omega
  have hlen := readSlice_length_le h sl
  rw [hs] at hlen
  unfold shiftTrace
  simp only [hne, if_false, hs, hd, if_true, hcell, Bool.false_eq_true]
  refine ⟨_, getLast?_cons_of_getLast? _ _ _ (getLast?_cons_of_getLast? _ _ _ (buildOut_last _ _ _)), ?_⟩
  simp only [buildOut_id]
  refine (readSegs_allocArr_new (setCell h first (fun s => ⟨s.mag, some (l + d)⟩)) (first :: rest) sl.len
    (by simpa using hlen)).trans ?_
  rw [readSegs_of_slice hs]
  simp only [shift, hne, if_false, List.map_cons, hd, if_true, hcell]
  rw [readCell_setCell_same h first _ hf, hcell]
  refine congrArg _ (List.map_congr_left fun b hb => readCell_setCell_ne h first b _ fun e => hnot (e ▸ hb))

/-! Non-vacuity: a heap with a slice at an offset and spare capacity satisfies the hypothesis; an address beyond
the cells does not. -/
example : ValidAddrs ⟨[⟨1, some 2⟩, ⟨2, some 4⟩, ⟨3, none⟩], [[2, 0, 1, 2]]⟩
    (readSlice ⟨[⟨1, some 2⟩, ⟨2, some 4⟩, ⟨3, none⟩], [[2, 0, 1, 2]]⟩ ⟨0, 1, 2⟩) := by
  intro a ha
  have : a = 0 ∨ a = 1 := by simpa [readSlice] using ha
  rcases this with rfl | rfl <;> decide
example : ¬ ValidAddrs ⟨[⟨1, some 2⟩], [[0, 7]]⟩ (readSlice ⟨[⟨1, some 2⟩], [[0, 7]]⟩ ⟨0, 0, 2⟩) := by
  intro v
  have := v 7 (by decide)
  simp at this
example :
    (let h : Heap := ⟨[⟨1, some 2⟩, ⟨2, some 4⟩, ⟨3, none⟩], [[2, 0, 1, 2]]⟩
     let r := heapShift h (-3) ⟨0, 1, 3⟩
     (readSegs r.1 r.2, readSegs r.1 ⟨0, 1, 3⟩)) =
    ([⟨2, some 3⟩, ⟨3, none⟩], [⟨1, some 2⟩, ⟨2, some 4⟩, ⟨3, none⟩]) := by decide

example : ValidSlice ⟨[⟨1, some 2⟩, ⟨2, some 4⟩, ⟨3, none⟩], [[0, 1], [2]]⟩ ⟨1, 0, 1⟩ := by
  refine ⟨?_, Or.inl (by decide)⟩
  intro a ha
  have : a = 2 := by simpa [readSlice] using ha
  subst this; decide
example :
    (let h : Heap := ⟨[⟨1, some 2⟩, ⟨2, some 4⟩, ⟨3, none⟩], [[0, 1], [2]]⟩
     let ms : List HeapMode := [⟨some 0, ⟨0, 0, 2⟩⟩, ⟨some 3, ⟨1, 0, 1⟩⟩]
     (modeSum (ms.map (HeapMode.toMode h))).map (fun r => (r.start, r.segs))) =
    some (some 0, [⟨1, some 2⟩, ⟨2, some 1⟩, ⟨5, some 3⟩, ⟨3, none⟩]) := by decide

example :
    (let r := shiftTrace false ⟨[⟨0, some 2⟩, ⟨2, some 2⟩], [[0, 1]]⟩ 3 ⟨0, 0, 2⟩
     (r.1.getLast?.map (fun e => readSegs e r.2), r.1.getLast?.map (fun e => readSegs e ⟨0, 0, 2⟩))) =
    (some (shift 3 [⟨0, some 2⟩, ⟨2, some 2⟩]), some [⟨0, some 5⟩, ⟨2, some 2⟩]) := by decide

end ScVerif.C18
