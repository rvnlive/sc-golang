import ScVerif.C18.Mode
import ScVerif.C18.SumLemmas
import ScVerif.C18.CutLemmas
/-! The mode operations by their outcomes: `modepb.Cut` is the list cut (`headAt`, `tailAt`) at the offset from the
start time; `modepb.Sum` finds the least and the greatest start time and sums the lists aligned to the first. -/
namespace ScVerif.C18

theorem tOrST_eq (t : Int) (m : Mode) : tOrST t m = m.start.getD t := by
  unfold tOrST; cases m.start <;> rfl

theorem modeDen_of_start {m : Mode} {s : Int} (hs : m.start = some s) (ref x : Int) :
    modeDen ref m x = den m.segs (x - s) := by
  rw [modeDen, hs, Option.getD_some]

theorem modeDen_of_nil {m : Mode} (hnil : m.segs = []) (ref x : Int) : modeDen ref m x = 0 := by
  rw [modeDen, hnil, den_nil]

theorem modeDen_eq_tOrST (t : Int) (m : Mode) (x : Int) : modeDen t m x = den m.segs (x - tOrST t m) := by
  rw [modeDen, tOrST_eq]

/-- `modepb.Shift` of a mode without start time shifts its segments (`d = 0` included: `Shift(0)` returns them). -/
theorem modeShift_of_none {m : Mode} (hs : m.start = none) (d : Int) : modeShift d m = ⟨none, shift d m.segs⟩ := by
  obtain ⟨st, segs⟩ := m
  cases hs
  by_cases hd : d = 0 <;> simp [modeShift, shift, hd]

/-- `modepb.Shift` of a mode with a start time moves the start time and keeps the segments. -/
theorem modeShift_of_some {m : Mode} {s : Int} (hs : m.start = some s) (d : Int) :
    modeShift d m = ⟨some (s + d), m.segs⟩ := by
  obtain ⟨st, segs⟩ := m
  cases hs
  by_cases hd : d = 0 <;> simp [modeShift, hd]

theorem modeCut_index_valid (segs : List Seg) (d : Int) (h : (activeAt d segs).2 ≠ segs.length) :
    (segs[(activeAt d segs).2]?).isSome = true := by
  have hle : (activeAt d segs).2 ≤ segs.length := by
    unfold activeAt
    by_cases hd : d < 0
    · simp [hd]
    · simp only [hd, if_false]
      exact (activeAtLoop_spec segs d (by omega)).2.2.1
  have hlt : (activeAt d segs).2 < segs.length := by omega
  simp [hlt]

theorem modeCut_parts (start : Option Int) (t : Int) (segs : List Seg) (i : Nat) (c : CutResult) :
    (⟨some (match c.before with
        | none => ⟨start, segs.take i⟩
        | some sb => ⟨start, segs.take i ++ [sb]⟩),
      some (match c.after with
        | none => ⟨some t, segs.drop (i + 1)⟩
        | some sa => ⟨some t, sa :: segs.drop (i + 1)⟩), false⟩ : ModeCutResult) =
    ⟨some ⟨start, segs.take i ++ optToList c.before⟩, some ⟨some t, optToList c.after ++ segs.drop (i + 1)⟩,
      false⟩ := by
  obtain ⟨b, a, o⟩ := c
  cases b <;> cases a <;> simp [optToList]

theorem modeCut_cases (t : Int) (m : Mode) :
    let st := m.start.getD t
    let ei := activeAt (t - st) m.segs
    (m.segs.length = 0 ∧ modeCut t m = ⟨some m, some m, true⟩) ∨
    (m.segs.length ≠ 0 ∧ ¬ t > st ∧ modeCut t m = ⟨none, some m, decide (t < st)⟩) ∨
    (m.segs.length ≠ 0 ∧ t > st ∧ ei.2 = m.segs.length ∧ modeCut t m = ⟨some m, none, true⟩) ∨
    (m.segs.length ≠ 0 ∧ t > st ∧ ei.2 ≠ m.segs.length ∧
      modeCut t m = ⟨some ⟨m.start, headAt (t - st) m.segs⟩, some ⟨some t, tailAt (t - st) m.segs⟩, false⟩) := by
  unfold modeCut
  rw [tOrST_eq]
  extract_lets st ei d ei'
  by_cases h0 : m.segs.length = 0
  · exact .inl ⟨h0, if_pos h0⟩
  rw [if_neg h0]
  by_cases hgt : ¬ t > st
  · exact .inr (.inl ⟨h0, hgt, if_pos hgt⟩)
  rw [if_neg hgt]
  have hgt := Classical.not_not.mp hgt
  by_cases hend : ei.2 = m.segs.length
  · exact .inr (.inr (.inl ⟨h0, hgt, hend, if_pos hend⟩))
  rw [if_neg hend]
  refine .inr (.inr (.inr ⟨h0, hgt, hend, ?_⟩))
  cases hs : m.segs[ei.2]? with
  | none => exact absurd (modeCut_index_valid m.segs d hend) (by rw [hs]; decide)
  | some s =>
    obtain ⟨hh, ht⟩ := headAt_tailAt_of_getElem? (Int.le_of_lt (Int.sub_pos_of_lt hgt)) hs
    rw [hh, ht]
    exact modeCut_parts m.start t m.segs ei.2 (cutSeg (d - ei.1) s)

/-- The start times that are set, in the order of the modes. -/
def starts (ms : List Mode) : List Int := ms.filterMap (·.start)

theorem mem_starts {s : Int} {ms : List Mode} : s ∈ starts ms ↔ ∃ m ∈ ms, m.start = some s :=
  List.mem_filterMap

theorem starts_cons_none {m : Mode} (hm : m.start = none) (ms : List Mode) : starts (m :: ms) = starts ms := by
  simp [starts, hm]

theorem starts_cons_some {m : Mode} {st : Int} (hm : m.start = some st) (ms : List Mode) :
    starts (m :: ms) = st :: starts ms := by
  simp [starts, hm]

theorem min?_max?_perm {a b : List Int} (h : a.Perm b) : a.min? = b.min? ∧ a.max? = b.max? := by
  constructor
  · cases ha : a.min? with
    | none => rw [List.min?_eq_none_iff.mp ha] at h; rw [← h.nil_eq]; rfl
    | some x =>
      obtain ⟨h1, h2⟩ := List.min?_eq_some_iff.mp ha
      exact (List.min?_eq_some_iff.mpr ⟨h.subset h1, fun y hy => h2 y (h.symm.subset hy)⟩).symm
  · cases ha : a.max? with
    | none => rw [List.max?_eq_none_iff.mp ha] at h; rw [← h.nil_eq]; rfl
    | some x =>
      obtain ⟨h1, h2⟩ := List.max?_eq_some_iff.mp ha
      exact (List.max?_eq_some_iff.mpr ⟨h.subset h1, fun y hy => h2 y (h.symm.subset hy)⟩).symm

theorem startsLoop_fold (ms : List Mode) (a b : Int) :
    startsLoop (some a) (some b) ms = (some ((starts ms).foldl min a), some ((starts ms).foldl max b)) := by
  induction ms generalizing a b with
  | nil => rfl
  | cons m ms ih =>
    cases hm : m.start with
    | none => simpa [startsLoop, starts_cons_none hm, hm] using ih a b
    | some st =>
      have e1 : (if st < a then st else a) = min a st := by omega
      have e2 : (if st > b then st else b) = max b st := by omega
      simp only [startsLoop, hm, ← apply_ite some, e1, e2, ih, starts_cons_some hm, List.foldl_cons]

theorem startsLoop_eq (ms : List Mode) : startsLoop none none ms = ((starts ms).min?, (starts ms).max?) := by
  induction ms with
  | nil => rfl
  | cons m ms ih =>
    cases hm : m.start with
    | none => simpa [startsLoop, starts_cons_none hm, hm] using ih
    | some st =>
      simp only [startsLoop, hm, startsLoop_fold, starts_cons_some hm, List.min?_cons', List.max?_cons']

theorem startsLoop_cases (ms : List Mode) :
    (starts ms = [] ∧ startsLoop none none ms = (none, none)) ∨
    ∃ a b, startsLoop none none ms = (some a, some b) ∧ a ∈ starts ms ∧ b ∈ starts ms ∧
      ∀ s ∈ starts ms, a ≤ s ∧ s ≤ b := by
  rw [startsLoop_eq]
  cases hs : starts ms with
  | nil => exact .inl ⟨rfl, rfl⟩
  | cons x xs =>
    obtain ⟨a, ha⟩ := Option.isSome_iff_exists.mp (List.isSome_min?_of_mem (l := x :: xs) List.mem_cons_self)
    obtain ⟨b, hb⟩ := Option.isSome_iff_exists.mp (List.isSome_max?_of_mem (l := x :: xs) List.mem_cons_self)
    obtain ⟨ha1, ha2⟩ := List.min?_eq_some_iff.mp ha
    obtain ⟨hb1, hb2⟩ := List.max?_eq_some_iff.mp hb
    exact .inr ⟨a, b, by rw [ha, hb], ha1, hb1, fun s hs => ⟨ha2 s hs, hb2 s hs⟩⟩

/-- The lists `modepb.Sum` hands to `segmentpb.Sum`: aligned to the earliest start time if any mode has one. -/
def modeSumLists (ms : List Mode) : List (List Seg) :=
  match startsLoop none none ms with
  | (some e, some l) => alignLoop e l ms
  | _ => ms.map (·.segs)

/-- `modepb.Sum` of at least one mode: no mode has a start time and the lists are summed as they are, or `a ≤ b` are the
least and the greatest start time and the lists are aligned to `a` first (a mode without start time at `b`). -/
theorem modeSum_cases (ms : List Mode) (hne : ms ≠ []) :
    (starts ms = [] ∧ startsLoop none none ms = (none, none) ∧ modeSumLists ms = ms.map (·.segs) ∧
      modeSum ms = some ⟨none, sum (ms.map (·.segs))⟩) ∨
    ∃ a b, startsLoop none none ms = (some a, some b) ∧ a ∈ starts ms ∧ b ∈ starts ms ∧
      (∀ s ∈ starts ms, a ≤ s ∧ s ≤ b) ∧ modeSumLists ms = alignLoop a b ms ∧
      modeSum ms = some ⟨some a, sum (alignLoop a b ms)⟩ := by
  cases ms with
  | nil => exact absurd rfl hne
  | cons m0 ms0 =>
    rcases startsLoop_cases (m0 :: ms0) with ⟨hst, hpair⟩ | ⟨a, b, hpair, ha, hb, hbounds⟩
    · exact .inl ⟨hst, hpair, by simp only [modeSumLists, hpair], by simp only [modeSum, hpair]⟩
    · exact .inr ⟨a, b, hpair, ha, hb, hbounds, by simp only [modeSumLists, hpair], by simp only [modeSum, hpair]⟩

theorem modeSum_eq (ms : List Mode) (hne : ms ≠ []) :
    modeSum ms = some ⟨(starts ms).min?, sum (modeSumLists ms)⟩ := by
  have hs := startsLoop_eq ms
  rcases modeSum_cases ms hne with ⟨hst, _, hl, e⟩ | ⟨a, b, hpair, _, _, _, hl, e⟩
  · rw [e, hl, hst]; rfl
  · rw [e, hl, ← (Prod.mk.inj (hpair.symm.trans hs)).1]

/-- The `IsZero()`-seeded loop of the code before `fix:` 7872cfb computes what the `Option`-seeded loop
computes as long as no start time is the zero instant. -/
theorem startsLoopLegacy_eq (zero : Int) (ms : List Mode) (hz : ∀ s ∈ starts ms, s ≠ zero)
    (e l : Int) (n : Nat) (eo lo : Option Int)
    (hR : (n = 0 ∧ e = zero ∧ l = zero ∧ eo = none ∧ lo = none) ∨
          (0 < n ∧ eo = some e ∧ lo = some l ∧ e ≠ zero ∧ l ≠ zero)) :
    ((startsLoopLegacy zero e l n ms).2.2 = 0 ∧ startsLoop eo lo ms = (none, none)) ∨
    (0 < (startsLoopLegacy zero e l n ms).2.2 ∧
      startsLoop eo lo ms =
        (some (startsLoopLegacy zero e l n ms).1, some (startsLoopLegacy zero e l n ms).2.1)) := by
  induction ms generalizing e l n eo lo with
  | nil =>
    simp only [startsLoopLegacy, startsLoop]
    rcases hR with ⟨h0, _, _, rfl, rfl⟩ | ⟨hn, rfl, rfl, _, _⟩
    · exact Or.inl ⟨h0, rfl⟩
    · exact Or.inr ⟨hn, rfl⟩
  | cons m ms ih =>
    cases hm : m.start with
    | none =>
      have hst := starts_cons_none hm ms
      simp only [startsLoopLegacy, startsLoop, hm]
      exact ih (by rw [← hst]; exact hz) e l n eo lo hR
    | some st =>
      have hst := starts_cons_some hm ms
      have hz' : ∀ s ∈ starts ms, s ≠ zero := fun s hs => hz s (by rw [hst]; exact List.mem_cons_of_mem _ hs)
      have hstz : st ≠ zero := hz st (by rw [hst]; exact List.mem_cons_self)
      simp only [startsLoopLegacy, startsLoop, hm]
      rcases hR with ⟨_, rfl, rfl, rfl, rfl⟩ | ⟨_, rfl, rfl, hez, hlz⟩
      · simp only [true_or, if_true]
        exact ih hz' st st (n + 1) (some st) (some st) (Or.inr ⟨by omega, rfl, rfl, hstz, hstz⟩)
      · simp only [hez, hlz, false_or]
        by_cases c1 : st < e <;> by_cases c2 : st > l <;> simp only [c1, c2, if_true, if_false]
        · exact ih hz' st st (n + 1) _ _ (Or.inr ⟨by omega, rfl, rfl, hstz, hstz⟩)
        · exact ih hz' st l (n + 1) _ _ (Or.inr ⟨by omega, rfl, rfl, hstz, hlz⟩)
        · exact ih hz' e st (n + 1) _ _ (Or.inr ⟨by omega, rfl, rfl, hez, hstz⟩)
        · exact ih hz' e l (n + 1) _ _ (Or.inr ⟨by omega, rfl, rfl, hez, hlz⟩)

/-- Pointwise sum of the modes on the absolute timeline; a mode without a start time starts at `ref`. -/
def modeDenSum (ref : Int) : List Mode → Int → Int
  | [], _ => 0
  | m :: ms, x => modeDen ref m x + modeDenSum ref ms x

theorem alignLoop_spec (earliest latest : Int) (ms : List Mode)
    (hnn : ∀ m ∈ ms, NonNeg m.segs) (hle : earliest ≤ latest)
    (hall : ∀ s ∈ starts ms, earliest ≤ s) :
    AllNonNeg (alignLoop earliest latest ms) ∧
    tailSum (alignLoop earliest latest ms) = tailSum (ms.map (·.segs)) ∧
    ∀ x, denSum (alignLoop earliest latest ms) (x - earliest) = modeDenSum latest ms x := by
  -- three independent facts about `shift` by a non-negative offset, list by list: `shift_nonNeg`, `shift_tailMag`,
  -- `shift_spec` (the last with the offset read on the absolute timeline)
  induction ms with
  | nil => exact ⟨fun l hl => by simp [alignLoop] at hl, rfl, fun x => rfl⟩
  | cons m ms ih =>
    have hm := hnn m List.mem_cons_self
    have hall' : ∀ s ∈ starts ms, earliest ≤ s := by
      intro s hs
      obtain ⟨m', hm', e⟩ := mem_starts.mp hs
      exact hall s (mem_starts.mpr ⟨m', List.mem_cons_of_mem _ hm', e⟩)
    obtain ⟨i1, i2, i3⟩ := ih (fun x hx => hnn x (List.mem_cons_of_mem _ hx)) hall'
    have hdiff : 0 ≤ m.start.getD latest - earliest := by
      cases hst : m.start with
      | none => simp; omega
      | some s =>
        have : earliest ≤ s := hall s (mem_starts.mpr ⟨m, List.mem_cons_self, hst⟩)
        simp; omega
    simp only [alignLoop]
    refine ⟨?_, ?_, ?_⟩
    · intro l hl
      rcases List.mem_cons.mp hl with rfl | hl
      · exact shift_nonNeg _ _ hm
      · exact i1 l hl
    · simp only [tailSum, List.map_cons, i2]
      rw [shift_tailMag _ _ hdiff]
    · intro x
      simp only [denSum, modeDenSum, i3 x]
      congr 1
      rw [shift_spec _ _ hm, modeDen_eq_tOrST, tOrST_eq]
      split
      · exact (den_neg _ _ (by omega)).symm
      · congr 1; omega

end ScVerif.C18
