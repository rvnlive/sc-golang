import ScVerif.C18.PropsLaws
/-!
# C18 — property theorems: `Max*` commute with reading the list as a step function

Property (fixed text): "… operations (active-at, magnitude-at, duration, **max**, …) commute with reading a
segment list as a step function of time".  `C18_max` / `C18_maxAfter` (PropsSeg) describe the returned index
in terms of the SEGMENTS; here the same results are related to the FUNCTION `den`.

The upper-bound halves need no hypothesis.  That the maximum is ATTAINED needs the list to be well formed
(lengths non-negative, only the last segment length-less — what `Duration`'s comment calls "the last segment is
the only one allowed to have a nil length", and what every operation returns, `C18_closed`): `Max` also counts
segments that lie behind a length-less one, which the step function never reaches
(`C18_max_unreachable_witness`).
-/
namespace ScVerif.C18

/-- `MaxMagnitude(segs)` bounds the step function wherever a segment is active — every list, every instant,
no hypothesis; and when no segment is ever active it is the documented `0` with `Max = len(segs)`. -/
theorem C18_max_bounds_step_function (segs : List Seg) :
    (∀ t, covered segs t = true → den segs t ≤ maxMagnitude segs) ∧
    ((∀ t, covered segs t = false) → NonNeg segs → FinInit segs →
      maxIdx segs = segs.length ∧ maxMagnitude segs = 0) := by
  refine ⟨fun t ht => ?_, fun hno hnn hf => ?_⟩
  · obtain ⟨s, hs, hc, hd⟩ := covered_counted segs t ht
    obtain ⟨_, s0, _, _, hmm, hall⟩ := (C18_max_counted 0 segs).1 ⟨s, hs, hc⟩
    rw [hd, hmm]
    exact hall s hs hc
  · cases hm : segs[maxIdx segs]? with
    | none => exact ⟨((C18_max segs).2 hm).1, ((C18_max segs).2 hm).2.1⟩
    | some s =>
      obtain ⟨hc, _, _, _⟩ := (C18_max segs).1 s hm
      obtain ⟨t, hcov, _⟩ := counted_attained segs hnn hf s (List.mem_of_getElem? hm) hc
      rw [hno t] at hcov; cases hcov

/-- On a well-formed list `MaxMagnitude` IS the maximum of the step function over its support: it is an upper
bound (previous theorem) and it is attained at an instant where the segment `Max` points at is active. -/
theorem C18_max_attained (segs : List Seg) (h : NonNeg segs) (hf : FinInit segs)
    (hex : ∃ t, covered segs t = true) :
    ∃ t s, covered segs t = true ∧ segs[maxIdx segs]? = some s ∧
      den segs t = s.mag ∧ s.mag = maxMagnitude segs := by
  obtain ⟨t0, ht0⟩ := hex
  obtain ⟨s0, hs0, hc0, _⟩ := covered_counted segs t0 ht0
  obtain ⟨_, s, hs, hc, hmm, _⟩ := (C18_max_counted 0 segs).1 ⟨s0, hs0, hc0⟩
  obtain ⟨t, hcov, hden⟩ := counted_attained segs h hf s (List.mem_of_getElem? hs) hc
  exact ⟨t, s, hcov, hs, hden, hmm.symm⟩

/-- Why well-formedness is needed: `Max` counts a segment behind a length-less one, which no instant
reaches — `[1 forever, 5 for 2ns]` has `MaxMagnitude = 5` while the step function is `1` everywhere. -/
theorem C18_max_unreachable_witness :
    maxMagnitude [⟨1, none⟩, ⟨5, some 2⟩] = 5 ∧ ¬ FinInit [⟨1, none⟩, ⟨5, some 2⟩] ∧
    ∀ t, 0 ≤ t → den [⟨1, none⟩, ⟨5, some 2⟩] t = 1 := by
  refine ⟨by decide, fun h => h.1 rfl, fun t ht => ?_⟩
  exact den_cons_none _ _ t rfl ht

/-- `MaxAfter(d, segs)` for `d ≥ 0` points at the maximum of the step function over the instants from `d` on:
if it returns an index in range, that segment's magnitude bounds `den segs t` for every `t ≥ d` where a
segment is active, and (well-formed list) it is attained at some `t ≥ d`; if it returns `len(segs)`, no
segment is active from `d` on. -/
theorem C18_maxAfter_step_function (d : Int) (segs : List Seg) (hd : 0 ≤ d) (h : NonNeg segs) :
    (∀ s, segs[maxAfter d segs]? = some s →
      (∀ t, d ≤ t → covered segs t = true → den segs t ≤ s.mag) ∧
      (FinInit segs → ∃ t, d ≤ t ∧ covered segs t = true ∧ den segs t = s.mag)) ∧
    (segs[maxAfter d segs]? = none → FinInit segs → ∀ t, d ≤ t → covered segs t = false) := by
  obtain ⟨he, hed, _, hat, hin, hpre⟩ := activeAtLoop_spec segs d hd
  have hidx : ∀ s, segs[maxAfter d segs]? = some s ↔
      (segs.drop (activeAt d segs).2)[maxIdx (segs.drop (activeAt d segs).2)]? = some s :=
    fun s => by rw [getElem?_maxAfter]
  rw [activeAt_of_nonneg hd] at hidx
  -- `r.2` the index and `r.1` the elapsed time `ActiveAt` finds; from `d` on the walk goes on in the list from there
  generalize activeAtLoop d 0 0 segs = r at *
  have htr : ∀ t, d ≤ t → segAt segs t = segAt (segs.drop r.2) (t - r.1) := fun t ht => by
    rw [he]; exact segAt_drop segs _ h hpre t (by rw [← he]; omega)
  have hmax := C18_max (segs.drop r.2)
  refine ⟨fun s hs => ⟨fun t ht hcov => ?_, fun hf => ?_⟩, fun hn _ t ht => ?_⟩
  · obtain ⟨s', hs'⟩ := exists_segAt_of_covered hcov
    rw [(den_covered_of_segAt_some hs').1]
    rw [htr t ht] at hs'
    obtain ⟨k, hk, rfl⟩ := List.getElem_of_mem (segAt_mem_counts hs').1
    exact (hmax.1 s ((hidx s).1 hs)).2.2.1 k _ (List.getElem?_eq_getElem hk) (segAt_mem_counts hs').2
  · have hs' := (hidx s).1 hs
    obtain ⟨u, hu⟩ := exists_segAt_of_counted _ (nonNeg_drop segs r.2 h) (finInit_drop segs _ hf) s
      (List.mem_of_getElem? hs') (hmax.1 s hs').1
    have hu0 : 0 ≤ u := Int.not_lt.mp fun hn => by rw [segAt_neg _ hn] at hu; cases hu
    have at_ : ∀ t, d ≤ t → segAt segs t = some s → ∃ t, d ≤ t ∧ covered segs t = true ∧ den segs t = s.mag :=
      fun t ht e => ⟨t, ht, (den_covered_of_segAt_some e).2, (den_covered_of_segAt_some e).1⟩
    by_cases hle : d - r.1 ≤ u
    · refine at_ (u + r.1) (by omega) ?_
      rw [htr _ (by omega), show u + r.1 - r.1 = u by omega]
      exact hu
    · -- `u` lies in the first segment of the dropped list, which is the one active at `d`
      cases hx : segs[r.2]? with
      | none =>
        rw [List.drop_eq_nil_of_le (List.getElem?_eq_none_iff.mp hx)] at hu
        cases hu
      | some x =>
        obtain ⟨hi, rfl⟩ := List.getElem?_eq_some_iff.mp hx
        rw [List.drop_eq_getElem_cons hi, segAt_here _ _ hu0 (fun l hl => by have := hin _ hx l hl; omega)] at hu
        exact at_ d (Int.le_refl d) (hat.symm.trans (hx.trans hu))
  · cases hcv : covered segs t with
    | false => rfl
    | true =>
      obtain ⟨s', hs'⟩ := exists_segAt_of_covered hcv
      rw [htr t ht] at hs'
      have hn' : (segs.drop r.2)[maxIdx (segs.drop r.2)]? = none := by
        cases hq : (segs.drop r.2)[maxIdx (segs.drop r.2)]? with
        | none => rfl
        | some s => rw [(hidx s).2 hq] at hn; cases hn
      have := (hmax.2 hn').2.2 s' (segAt_mem_counts hs').1
      rw [(segAt_mem_counts hs').2] at this
      cases this

/-- For `d < 0` (`ActiveAt` answers index 0) `MaxAfter` is `Max` of the whole list, so the three theorems above
about `Max` apply: the maximum over the instants from `d` on is the maximum over the whole support. -/
theorem C18_maxAfter_before_start (d : Int) (segs : List Seg) (hd : d < 0) :
    maxAfter d segs = maxIdx segs ∧ ∀ t, covered segs t = true → d ≤ t := by
  refine ⟨?_, fun t ht => by have := covered_nonneg _ _ ht; omega⟩
  rw [maxAfter, activeAt_of_neg hd]
  rfl

/-- `modepb.MaxSegmentAfter(t, mode)` for a mode that has started (`start ≤ t`; a mode without start time is
taken to start at `t`): the segment it points at bounds the mode on every instant `x ≥ t` where a segment is
active, and on a well-formed mode its magnitude is the value of the mode at some instant `x ≥ t`. -/
theorem C18_modes_maxSegmentAfter_step_function (t : Int) (m : Mode) (hst : tOrST t m ≤ t) (h : NonNeg m.segs) :
    ∀ s, m.segs[modeMaxSegmentAfter t m]? = some s →
      (∀ x, t ≤ x → covered m.segs (x - tOrST t m) = true → modeDen t m x ≤ s.mag) ∧
      (FinInit m.segs → ∃ x, t ≤ x ∧ covered m.segs (x - tOrST t m) = true ∧ modeDen t m x = s.mag) := by
  intro s hs
  have hden := modeDen_eq_tOrST t m
  obtain ⟨hub, hatt⟩ := (C18_maxAfter_step_function (t - tOrST t m) m.segs (by omega) h).1 s hs
  refine ⟨fun x hx hcov => ?_, fun hf => ?_⟩
  · rw [hden]; exact hub _ (by omega) hcov
  · obtain ⟨u, hu, hcu, hdu⟩ := hatt hf
    refine ⟨u + tOrST t m, by omega, ?_, ?_⟩
    · have e : u + tOrST t m - tOrST t m = u := by omega
      rw [e]; exact hcu
    · rw [hden]
      have e : u + tOrST t m - tOrST t m = u := by omega
      rw [e]; exact hdu

/-! Non-vacuity: well-formed lists with zero-length, negative and length-less segments; the maximum is taken
behind a zero-length segment / from the active segment on. -/
example : NonNeg [⟨9, some 0⟩, ⟨-2, some 2⟩, ⟨-1, none⟩] ∧ FinInit [⟨9, some 0⟩, ⟨-2, some 2⟩, ⟨-1, none⟩] :=
  ⟨nonNeg_of_all _ (by decide), ⟨by simp, by simp, trivial⟩⟩
example : maxMagnitude [⟨9, some 0⟩, ⟨-2, some 2⟩, ⟨-1, none⟩] = -1 ∧
    den [⟨9, some 0⟩, ⟨-2, some 2⟩, ⟨-1, none⟩] 2 = -1 ∧ covered [⟨9, some 0⟩, ⟨-2, some 2⟩, ⟨-1, none⟩] 2 = true := by
  decide
example : maxAfter 4 [⟨7, some 3⟩, ⟨2, some 2⟩, ⟨3, some 1⟩] = 2 ∧ den [⟨7, some 3⟩, ⟨2, some 2⟩, ⟨3, some 1⟩] 5 = 3 := by
  decide
example : maxAfter 6 [⟨7, some 3⟩, ⟨2, some 2⟩, ⟨3, some 1⟩] = 3 ∧ covered [⟨7, some 3⟩, ⟨2, some 2⟩, ⟨3, some 1⟩] 6 = false := by
  decide
example : modeMaxSegmentAfter 9 ⟨some 5, [⟨7, some 3⟩, ⟨2, some 2⟩, ⟨3, some 1⟩]⟩ = 2 ∧ tOrST 9 ⟨some 5, [⟨7, some 3⟩]⟩ ≤ 9 := by
  decide

end ScVerif.C18
