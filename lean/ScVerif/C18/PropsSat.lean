import ScVerif.C18.Mode64Lemmas
import ScVerif.C18.PropsMode
import ScVerif.C18.PropsInt64
/-!
# C18 — property theorems: the mode operations as compiled (`Time.Sub` saturates)

`modeMagnitudeAt64`, `modeActiveAt64`, `modeMaxSegmentAfter64`, `modeMinAt64`, `modeCut64`, `modeShift64`,
`modeSum64` (Mode64.lean) are what the driver executes: `t.Sub(st)` saturated to the `int64` range, all
duration arithmetic in 64 bits.  Here: the READING operations agree with the unbounded model for EVERY
query instant and start time, however far apart (a saturated offset lies beyond every list of total
length < 2^63 ns on the same side as the true offset) — so `C18_modes_read`/`C18_minAt` speak about the
compiled code with no hypothesis on the instants; `Cut`, `Shift`, `Sum` agree while the spans involved stay
below 2^63 ns (≈ 292 years), and beyond that the compiled `Cut` leaves the step function (witness).
-/
namespace ScVerif.C18

/-- Reading a mode as compiled — for ALL instants: `modepb.MagnitudeAt` is the mode's step function at `t`
with its support, `ActiveAt` finds the same segment, `MaxSegmentAfter` and `MinAt` are those of the
unbounded model; only hypothesis: the mode's own total length is below 2^63 ns. -/
theorem C18_modes_read_any_span (t : Int) (m : Mode) (h : Small m.segs) :
    modeMagnitudeAt64 t m = (modeDen t m t, covered m.segs (t - m.start.getD t)) ∧
    (modeActiveAt64 t m).2 = (modeActiveAt t m).2 ∧
    modeMaxSegmentAfter64 t m = modeMaxSegmentAfter t m := by
  obtain ⟨h1, h2, h3⟩ := modeRead64_eq t m h
  exact ⟨by rw [h1]; exact (C18_modes_read t m).1, h2, h3⟩

/-- `modepb.MinAt` as compiled returns what the unbounded model returns, however far the query instant is from the
start times; only hypothesis: each mode's own total length is below 2^63 ns. -/
theorem C18_minAt_any_span (t : Int) (ms : List Mode) (h : ∀ m ∈ ms, Small m.segs) :
    modeMinAt64 t ms = modeMinAt t ms :=
  minAtLoop64_eq t ms h none 0

/-- `modepb.Cut` as compiled is the `modeCut` of `C18_modes_cut` when the mode is shorter than 2^63 ns and
`t` is less than 2^63 ns after its start (any `t` before the start). -/
theorem C18_modes_int64_cut (t : Int) (m : Mode) (h : Small m.segs) (hspan : t - m.start.getD t < two63) :
    modeCut64 t m = modeCut t m := by
  rw [← tOrST_eq] at hspan
  unfold modeCut64 modeCut
  by_cases h0 : m.segs.length = 0
  · simp [h0]
  · simp only [h0, if_false]
    by_cases hgt : t > tOrST t m
    · have hgt' : ¬¬ (t > tOrST t m) := fun x => x hgt
      have t63 := two63_pos
      have hsat : sat64 (t - tOrST t m) = t - tOrST t m := sat64_id _ (by omega) hspan
      simp only [hgt', if_false, hsat, activeAt64_eq _ _ h]
      have hd : 0 ≤ t - tOrST t m := by omega
      have hspec := activeAtLoop_spec m.segs (t - tOrST t m) hd
      have hact := activeAt_of_nonneg hd m.segs
      have hel : 0 ≤ (activeAt (t - tOrST t m) m.segs).1 := by
        rw [hact, hspec.1]
        exact lenSum_nonneg _ (fun s hs => h.1 s (List.mem_of_mem_take hs))
      have hle : (activeAt (t - tOrST t m) m.segs).1 ≤ t - tOrST t m := by
        rw [hact]; exact hspec.2.1
      have hw : wrap (t - tOrST t m - (activeAt (t - tOrST t m) m.segs).1)
          = t - tOrST t m - (activeAt (t - tOrST t m) m.segs).1 := wrap_id _ (by omega) (by omega)
      simp only [hw]
      rfl
    · simp [hgt]

/-- `modepb.Shift` as compiled: exact for a mode with a start time (`Time.Add` does not overflow); for a
mode without one it is `segmentpb.Shift` as compiled (`C18_int64_shift`). -/
theorem C18_modes_int64_shift (d : Int) (m : Mode) :
    (m.start ≠ none → modeShift64 d m = ⟨(modeShift d m).start, (modeShift d m).segs.map some⟩) ∧
    (m.start = none → Small m.segs → -two63 < d → lenSum m.segs + d < two63 →
      modeShift64 d m = ⟨(modeShift d m).start, (modeShift d m).segs.map some⟩) := by
  unfold modeShift64 modeShift
  constructor
  · intro hs
    by_cases hd : d = 0
    · simp [hd]
    · cases hst : m.start with
      | none => exact absurd hst hs
      | some s => simp [hd]
  · intro hs hsm hd1 hd2
    by_cases hd : d = 0
    · simp [hd]
    · simp only [hd, if_false, hs]
      rw [shift64_eq d m.segs hsm hd1 hd2]

/-- `modepb.Sum` as compiled is the `modeSum` of `C18_modes_sum` when every mode, aligned anywhere between
two of the start times, stays shorter than 2^63 ns. -/
theorem C18_modes_int64_sum (ms : List Mode) (h : SpanSmall ms) : modeSum64 ms = modeSum ms := by
  cases ms with
  | nil => rfl
  | cons m0 ms0 =>
    rcases modeSum_cases (m0 :: ms0) (List.cons_ne_nil _ _) with ⟨_, hpair, _, e⟩ | ⟨a, b, hpair, ha, hb, hbounds, _, e⟩
    · have hall : AllSmall ((m0 :: ms0).map (·.segs)) := fun l hl => by
        obtain ⟨m, hm, rfl⟩ := List.mem_map.mp hl
        exact (h m hm).1
      rw [e]
      simp only [modeSum64, hpair, sum64_eq _ hall]
    · obtain ⟨e1, e2⟩ := alignLoop64_eq a b (m0 :: ms0) (m0 :: ms0) (fun _ hx => hx) h ha hb
        (fun s hs => (hbounds s hs).1)
      rw [e]
      simp only [modeSum64, hpair, e1, sum64_eq _ e2]

/-- Beyond 2^63 ns the compiled `Cut` leaves the step function: a mode `3 forever` starting at `0`, cut
`2^63 + 5` ns later — the offset saturates, `before` ends at `2^63 − 1` and is `0` at instant `2^63` where the
mode (and the unbounded model's `before`) is `3`; and `ActiveAt` that long BEFORE a start reports the
saturated elapsed time.  (Spans of more than 292 years cannot be expressed as a `time.Duration` at all.) -/
theorem C18_modes_saturation_witness :
    modeCut64 9223372036854775813 ⟨some 0, [⟨3, none⟩]⟩ =
      ⟨some ⟨some 0, [⟨3, some 9223372036854775807⟩]⟩, some ⟨some 9223372036854775813, [⟨3, none⟩]⟩, false⟩ ∧
    modeDenOpt 0 (modeCut64 9223372036854775813 ⟨some 0, [⟨3, none⟩]⟩).before 9223372036854775808 = 0 ∧
    modeDenOpt 0 (modeCut 9223372036854775813 ⟨some 0, [⟨3, none⟩]⟩).before 9223372036854775808 = 3 ∧
    modeActiveAt64 (-9223372036854775813) ⟨some 0, [⟨3, some 1⟩]⟩ = (-9223372036854775808, 0) ∧
    modeActiveAt (-9223372036854775813) ⟨some 0, [⟨3, some 1⟩]⟩ = (-9223372036854775813, 0) := by
  refine ⟨by decide, by decide, by decide, by decide, by decide⟩

/-! Non-vacuity: the hypotheses hold for ordinary modes, and far-apart instants are handled. -/
example : SpanSmall [⟨some 2, [⟨1, some 2⟩]⟩, ⟨none, [⟨3, some 3⟩]⟩, ⟨some 5, [⟨2, none⟩]⟩] := by
  intro m hm
  simp only [List.mem_cons, List.not_mem_nil, or_false] at hm
  have hst : starts [⟨some 2, [⟨1, some 2⟩]⟩, ⟨none, [⟨3, some 3⟩]⟩, ⟨some 5, [⟨2, none⟩]⟩] = [2, 5] := by decide
  rw [hst]
  rcases hm with rfl | rfl | rfl <;>
    refine ⟨⟨nonNeg_of_all _ (by decide), by decide⟩, fun a ha b hb => ?_⟩ <;>
    simp only [List.mem_cons, List.not_mem_nil, or_false] at ha hb <;>
    rcases ha with rfl | rfl <;> rcases hb with rfl | rfl <;> decide
example : modeMagnitudeAt64 60000000000000000000 ⟨some (-60000000000000000000), [⟨1, some 5⟩, ⟨7, none⟩]⟩ = (7, true) ∧
    modeMagnitudeAt64 60000000000000000000 ⟨some (-60000000000000000000), [⟨1, some 5⟩]⟩ = (0, false) ∧
    modeMagnitudeAt64 (-60000000000000000000) ⟨some 60000000000000000000, [⟨1, some 5⟩, ⟨7, none⟩]⟩ = (0, false) := by
  decide

end ScVerif.C18
