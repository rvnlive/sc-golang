import ScVerif.C18.SumLemmas
import ScVerif.C18.CutLemmas
import ScVerif.C18.MaxLemmas
import ScVerif.C18.Heap
/-!
# C18 — property theorems: electric segment operations

Property (fixed text): "Electric segment and mode operations (active-at, magnitude-at, duration, max,
cut, shift, sum) commute with reading a segment list as a step function of time (sum is pointwise
addition, shift is translation, cut splits without changing the function) and never modify their
arguments."

`den segs t` (Seg.lean) is the step function: the magnitude at `t` ns after the start of the list,
`0` before the start, after the end and wherever no segment is active; `covered segs t` is its
support.  All theorems quantify over every segment list, every instant and every offset; the only
hypothesis used anywhere is that lengths are non-negative (`NonNeg`, what a real
`durationpb.Duration` length of a segment is), and only where the code needs it.

"Never modify their arguments" is a statement about Go heap cells; the operations of Seg.lean are pure functions, so
the clause is stated on explicit heap models (PropsHeap, PropsHeapTrace, joined to the pure functions in
PropsHeapRefine) and decided on the real code by the monitor (deep comparison of every argument, spare slice capacity
included, before and after each call; a second run on read-only pages).
-/
namespace ScVerif.C18

/-- `MagnitudeAt(d, segs)` is the step function at `d`, and `ok` is exactly "some segment is active
at `d`" (where the step function is `0` by definition).  No hypothesis. -/
theorem C18_magnitudeAt (d : Int) (segs : List Seg) :
    magnitudeAt d segs = (den segs d, covered segs d) ∧
    ((magnitudeAt d segs).2 = false → (magnitudeAt d segs).1 = 0) := by
  refine ⟨magnitudeAt_eq d segs, ?_⟩
  rw [magnitudeAt_eq]
  exact den_of_not_covered segs d

/-- `ActiveAt(d, segs) = (elapsed, index)` for `d ≥ 0`: `elapsed` is the total length of the segments
before `index`, it does not exceed `d`, `index` is in range exactly when `d` lies in the support, the
segment at `index` is the one the step function takes its value from and `d` lies before its end, and
every earlier segment has a length.  For `d < 0` the documented `(d, 0)`.  No hypothesis. -/
theorem C18_activeAt (d : Int) (segs : List Seg) :
    (d < 0 → activeAt d segs = (d, 0)) ∧
    (0 ≤ d →
      (activeAt d segs).1 = lenSum (segs.take (activeAt d segs).2) ∧
      (activeAt d segs).1 ≤ d ∧
      (activeAt d segs).2 ≤ segs.length ∧
      (covered segs d = true ↔ (activeAt d segs).2 < segs.length) ∧
      (∀ s, segs[(activeAt d segs).2]? = some s →
        den segs d = s.mag ∧ ∀ l, s.len = some l → d < (activeAt d segs).1 + l) ∧
      (∀ s ∈ segs.take (activeAt d segs).2, s.len ≠ none)) := by
  refine ⟨fun h => if_pos h, fun h => ?_⟩
  rw [activeAt_of_nonneg h]
  obtain ⟨h1, h2, h3, h4, h5, h6⟩ := activeAtLoop_spec segs d h
  refine ⟨h1, h2, h3, ?_, fun s hs => ⟨?_, fun l hl => ?_⟩, h6⟩
  · rw [covered_eq_segAt, ← h4, Option.isSome_iff_exists]
    exact ⟨fun ⟨s, hs⟩ => (List.getElem?_eq_some_iff.mp hs).1, fun hlt => ⟨_, List.getElem?_eq_getElem hlt⟩⟩
  · rw [den_eq_segAt, ← h4, hs]
  · have := h5 s hs l hl; omega

/-- `Duration(segs) = (total, infinite)` describes the support of the step function: a segment is
active at `t` iff `0 ≤ t` and (`infinite` or `t < total`). -/
theorem C18_duration (segs : List Seg) (h : NonNeg segs) (t : Int) :
    covered segs t = true ↔ 0 ≤ t ∧ ((duration segs).2 = true ∨ t < (duration segs).1) := by
  unfold duration
  induction segs generalizing t with
  | nil => simp [covered, durationLoop]
  | cons s rest ih =>
    by_cases ht : t < 0
    · rw [covered_neg _ _ ht]
      constructor
      · intro h; cases h
      · intro h; omega
    · have ht' : 0 ≤ t := by omega
      cases hs : s.len with
      | none => simp [covered_cons_none s rest t hs ht', durationLoop, hs, ht']
      | some l =>
        rw [covered_cons_some s rest t l hs ht']
        simp only [durationLoop, hs]
        rw [durationLoop_shift rest (0 + l)]
        have hl := h.head l hs
        have hr := duration_nonneg rest h.tail
        by_cases htl : t < l
        · simp only [htl, if_true, true_iff]
          refine ⟨ht', Or.inr ?_⟩
          simp
          omega
        · simp only [htl, if_false]
          rw [ih h.tail (t - l)]
          simp
          -- the `infinite` flag is that of the rest; the total is `l` more, as is `t` against `t - l`
          constructor
          · rintro ⟨h1, h2 | h2⟩
            · exact ⟨by omega, .inl h2⟩
            · exact ⟨by omega, .inr (by omega)⟩
          · rintro ⟨h1, h2 | h2⟩
            · exact ⟨by omega, .inl h2⟩
            · exact ⟨by omega, .inr (by omega)⟩

/-- `Max(segs)` as documented: the index of the largest magnitude among the segments whose length
is absent or positive (the first such index), and `len(segs)` iff there is no such segment;
`MaxMagnitude` is that magnitude, or `0`.  No hypothesis. -/
theorem C18_max (segs : List Seg) :
    (∀ s, segs[maxIdx segs]? = some s →
      counts s = true ∧ maxMagnitude segs = s.mag ∧
      (∀ (k : Nat) s', segs[k]? = some s' → counts s' = true → s'.mag ≤ s.mag) ∧
      (∀ (k : Nat) s', k < maxIdx segs → segs[k]? = some s' → counts s' = true → s'.mag < s.mag)) ∧
    (segs[maxIdx segs]? = none →
      maxIdx segs = segs.length ∧ maxMagnitude segs = 0 ∧ ∀ s ∈ segs, counts s = false) := by
  have hm := maxIdx_eq segs
  cases hb : best segs with
  | none =>
    rw [hb] at hm
    simp only [] at hm
    refine ⟨fun s hs => ?_, fun _ => ⟨hm, ?_, best_none segs hb⟩⟩
    · rw [hm] at hs; simp at hs
    · unfold maxMagnitude; rw [hm]; simp
  | some jm =>
    obtain ⟨j, m⟩ := jm
    rw [hb] at hm
    simp only [] at hm
    obtain ⟨⟨s0, hs0, hc0, hm0⟩, hall, hfirst⟩ := best_some segs j m hb
    rw [hm]
    refine ⟨fun s hs => ?_, fun hn => ?_⟩
    · rw [hs0] at hs
      cases hs
      refine ⟨hc0, ?_, fun k s' hk hc => by rw [hm0]; exact hall k s' hk hc,
        fun k s' hkj hk hc => by rw [hm0]; exact hfirst k s' hkj hk hc⟩
      unfold maxMagnitude; rw [hm, hs0]
    · rw [hs0] at hn; cases hn

/-- `MaxAfter(d, segs)` is `Max` of the segments from the one active at `d` on, re-based. -/
theorem C18_maxAfter (d : Int) (segs : List Seg) :
    ∀ s, segs[maxAfter d segs]? = some s →
      counts s = true ∧ (activeAt d segs).2 ≤ maxAfter d segs ∧
      (∀ (k : Nat) s', (activeAt d segs).2 ≤ k → segs[k]? = some s' → counts s' = true → s'.mag ≤ s.mag) := by
  intro s hs
  have hdrop := (getElem?_maxAfter d segs).symm.trans hs
  have hge : (activeAt d segs).2 ≤ maxAfter d segs := Nat.le_add_left _ _
  obtain ⟨hc, _, hall, _⟩ := (C18_max (segs.drop (activeAt d segs).2)).1 s hdrop
  refine ⟨hc, hge, fun k s' hik hk hcs => ?_⟩
  refine hall (k - (activeAt d segs).2) s' ?_ hcs
  rw [List.getElem?_drop]
  have : (activeAt d segs).2 + (k - (activeAt d segs).2) = k := by omega
  rw [this]; exact hk

/-- `SumMagnitude(segs)` is the plain total of the magnitudes: additive over concatenation and
independent of the order of the segments (it does not read lengths, so it is not the area under
the step function). -/
theorem C18_sumMagnitude (a b : List Seg) :
    sumMagnitude (a ++ b) = sumMagnitude a + sumMagnitude b ∧
    sumMagnitude a = (a.map (·.mag)).sum ∧
    (a.Perm b → sumMagnitude a = sumMagnitude b) := by
  simp only [sumMagnitude_eq_sum]
  exact ⟨by rw [List.map_append, List.sum_append_int], trivial, sum_map_perm _⟩

/-- `Cut(d, seg)` for `d ≥ 0` splits the segment's step function at `d` without changing it:
`before` equals it before `d` and is `0` from `d` on, `after` is it translated left by `d`.
For `d < 0` the documented `(nil, segment)` (flagged outside).  No hypothesis. -/
theorem C18_cut (d : Int) (s : Seg) :
    (0 ≤ d →
      (∀ t, t < d → denOpt (cutSeg d s).before t = den [s] t) ∧
      (∀ t, d ≤ t → denOpt (cutSeg d s).before t = 0) ∧
      (∀ t, 0 ≤ t → denOpt (cutSeg d s).after t = den [s] (t + d))) ∧
    (d < 0 → cutSeg d s = ⟨none, some s, true⟩) :=
  ⟨cutSeg_spec d s, cutSeg_neg d s⟩

/-- `Shift(d, segs)` is translation by `d` on the half line `t ≥ 0`: to the right for `d > 0`
(so the function is `0` on `[0, d)`), to the left for `d < 0` (whatever moves before `0` is cut off). -/
theorem C18_shift (d : Int) (segs : List Seg) (h : NonNeg segs) (t : Int) :
    den (shift d segs) t = if t < 0 then 0 else den segs (t - d) :=
  shift_spec d segs h t

/-- For `d ≥ 0` the translation law needs no case distinction. -/
theorem C18_shift_right (d : Int) (segs : List Seg) (h : NonNeg segs) (hd : 0 ≤ d) (t : Int) :
    den (shift d segs) t = den segs (t - d) := by
  rw [shift_spec d segs h t]
  by_cases ht : t < 0
  · simp only [ht, if_true]
    exact (den_neg _ _ (by omega)).symm
  · simp [ht]

/-- Where the negative branch of `Shift` stores `Cut`'s `after` into `out[0]`, `after` is never `nil`
(the model's stand-in `nilSeg` for a nil list element is never used). -/
theorem C18_shift_no_nil_element (D cur : Int) (s : Seg) (l : Int) (hs : s.len = some l)
    (h : cur + l > D) : (cutSeg (D - cur) s).after.isSome = true :=
  shiftNegLoop_after_isSome D cur s l hs h

/-- `Sum` is pointwise addition: the step function of `Sum(lists...)` is the sum of the step
functions of the lists, at every instant, for all lists with non-negative lengths — full strength,
for the code after `fix:` 5957697 (the trailing open segment is dropped only when it is zero or no
input is unbounded). -/
theorem C18_sum (ls : List (List Seg)) (h : AllNonNeg ls) (t : Int) :
    den (sum ls) t = denSum ls t :=
  sumEdges_den_full ls h (calcCuts ls) (sortEdges_perm _) (sortEdges_sorted _) t

/-- The rule before the fix (`last.Magnitude <= 0`, model `sumLegacy`) was pointwise
addition everywhere except from the last edge on when the length-less tails summed to a negative
magnitude, where it gave `0` … -/
theorem C18_sum_legacy_exact (ls : List (List Seg)) (h : AllNonNeg ls) (t : Int) :
    den (sumLegacy ls) t =
      if tailSum ls ≤ 0 ∧ 0 ≤ t ∧ (∀ e ∈ rawEdges ls, e.time ≤ t) then 0 else denSum ls t := by
  have := sumEdges_den dropRuleLegacy (by decide) ls h (calcCuts ls) (sortEdges_perm _) (sortEdges_sorted _) t
  simpa [dropRuleLegacy, sumLegacy] using this

/-- … so `[2 for 2ns, -3 forever] + [1 for 4ns]` was `0` at `t = 4` where pointwise addition gives `-3`
(the defect `C18/Sum/negative-infinite-tail-dropped`, repaired), and the repaired `Sum` gives `-3`. -/
theorem C18_sum_legacy_fails :
    den (sumLegacy [[⟨2, some 2⟩, ⟨-3, none⟩], [⟨1, some 4⟩]]) 4 = 0 ∧
    denSum [[⟨2, some 2⟩, ⟨-3, none⟩], [⟨1, some 4⟩]] 4 = -3 ∧
    den (sum [[⟨2, some 2⟩, ⟨-3, none⟩], [⟨1, some 4⟩]]) 4 = -3 := by
  refine ⟨by decide, by decide, by decide⟩

/-- `sort.Slice` is not a stable sort.  Whatever time-sorted arrangement of the edges it produces,
the segment list built from it is the one the model computes with its stable insertion sort:
integer addition commutes, so the order among equal-time edges is irrelevant. -/
theorem C18_sum_any_sort (ls : List (List Seg)) (es : List Edge)
    (hp : es.Perm (rawEdges ls)) (hs : SortedT es) :
    sumEdges (dropRule (anyInfinite ls)) es = sum ls :=
  sumEdges_order_irrelevant _ es (calcCuts ls) (hp.trans (sortEdges_perm _).symm) hs (sortEdges_sorted _)

/-- The literal rendering of the loop of `Sum` (a slice appended to, its last element updated in
place, then trimmed — `sumGo`; the driver executes its 64-bit rendering `sum64`, which is `sum` under `AllSmall`:
`C18_int64_sum`) computes the same list as the functional form `sum` all theorems above are stated about. -/
theorem C18_sum_go_loop (ls : List (List Seg)) : sumGo ls = sum ls :=
  sumGoEdges_eq _ (calcCuts ls)

/-- "Never modify their arguments", for the one operation that updates cells made in earlier iterations: from ANY
initial heap `H0` (holding the argument cells) the loop of `Sum` only appends cells and updates cells it appended; the
`result` slice holds exactly the appended addresses, and those cells hold the list the pure rendering of the loop computes. -/
theorem C18_args_unchanged_sum (H0 : List Seg) (cuts : List Edge) :
    (cuts.foldl heapStep ⟨H0, [], 0⟩).heap = H0 ++ (cuts.foldl sumGoStep ([], 0)).1 ∧
    (cuts.foldl heapStep ⟨H0, [], 0⟩).result =
      addrsFrom H0.length (cuts.foldl sumGoStep ([], 0)).1.length ∧
    (∀ i, i < H0.length → (cuts.foldl heapStep ⟨H0, [], 0⟩).heap[i]? = H0[i]?) := by
  have h := heapLoop_inv_init H0 cuts
  obtain ⟨h1, h2⟩ := h
  refine ⟨h1, h2, fun i hi => ?_⟩
  rw [h1, List.getElem?_append_left hi]

/-! Non-vacuity: lists with zero-length, finite and length-less segments satisfy `NonNeg`; the
operations take non-trivial values on them, negative magnitudes and negative unbounded tails included. -/
example : NonNeg [⟨2, some 2⟩, ⟨5, some 0⟩, ⟨-3, none⟩] := nonNeg_of_all _ (by decide)
example : AllNonNeg [[⟨2, some 2⟩, ⟨-3, some 1⟩, ⟨-1, none⟩], [⟨-1, some 4⟩]] := by
  intro l hl
  simp only [List.mem_cons, List.not_mem_nil, or_false] at hl
  rcases hl with rfl | rfl <;> exact nonNeg_of_all _ (by decide)
example : sum [[⟨2, some 2⟩, ⟨-3, some 1⟩, ⟨-1, none⟩], [⟨-1, some 4⟩]]
    = [⟨1, some 2⟩, ⟨-4, some 1⟩, ⟨-2, some 1⟩, ⟨-1, none⟩] := by decide
example : sum [[⟨2, some 2⟩, ⟨0, none⟩]] = [⟨2, some 2⟩] := by decide
example : sum [[⟨2, some 2⟩, ⟨-3, some 1⟩, ⟨1, none⟩], [⟨-1, some 4⟩]]
    = [⟨1, some 2⟩, ⟨-4, some 1⟩, ⟨0, some 1⟩, ⟨1, none⟩] := by decide
example : magnitudeAt 2 [⟨2, some 2⟩, ⟨5, some 0⟩, ⟨-3, none⟩] = (-3, true) := by decide
example : magnitudeAt 7 [⟨2, some 2⟩, ⟨5, some 3⟩] = (0, false) := by decide
example : maxIdx [⟨9, some 0⟩, ⟨2, some 2⟩, ⟨5, some 3⟩, ⟨5, none⟩] = 2 := by decide
example : shift (-3) [⟨1, some 2⟩, ⟨2, some 2⟩, ⟨3, none⟩] = [⟨2, some 1⟩, ⟨3, none⟩] := by decide
example : shift 3 [⟨0, some 2⟩, ⟨2, some 2⟩] = [⟨0, some 5⟩, ⟨2, some 2⟩] := by decide
example : cutSeg 2 ⟨5, some 3⟩ = ⟨some ⟨5, some 2⟩, some ⟨5, some 1⟩, false⟩ := by decide

end ScVerif.C18
