import ScVerif.C18.HeapTraceShift
import ScVerif.C18.Heap
/-!
# C18 — "never modify their arguments": `segmentpb.Sum`, `modepb.Shift`, `modepb.Sum` on the heap of HeapOps

`modepb.Shift` clones the mode (`proto.Clone`: new cells in a new array) and then either replaces the
clone's start time or runs `segmentpb.Shift` on the CLONE's segments.  `modepb.Sum` fills a local
`segmentSlices` (a `make`), replaces its entries by the results of `segmentpb.Shift` and hands them to
`segmentpb.Sum`, whose loop (Heap.lean) appends cells and updates only cells it appended; its `result`
slice lives in arrays of its own.  Every step only extends the heap (`Heap.Extends`), so every cell and
backing array that existed before the call — the arguments, spare capacity included — is unchanged.
(Proof only, not driver-linked.)
-/
namespace ScVerif.C18

/-- `segmentpb.Sum` after `calcCuts` (which only reads): the loop of Heap.lean run on the cells of `h`;
the `result` slice (grown by `append`, then possibly resliced by the final trimming) is a fresh array. -/
def heapSum (h : Heap) (cuts : List Edge) : Heap × Slice :=
  let st := cuts.foldl heapStep ⟨h.cells, [], 0⟩
  let r := allocArr ⟨st.heap, h.arrays⟩ st.result
  (r.1, ⟨r.2, 0, st.result.length⟩)

theorem heapSum_extends (h : Heap) (cuts : List Edge) : h.Extends (heapSum h cuts).1 := by
  have hinv := heapLoop_inv_init h.cells cuts
  obtain ⟨h1, _⟩ := hinv
  refine ⟨⟨(cuts.foldl sumGoStep ([], 0)).1, ?_⟩, ⟨[(cuts.foldl heapStep ⟨h.cells, [], 0⟩).result], ?_⟩⟩
  · simp only [heapSum, allocArr]
    exact h1
  · simp only [heapSum, allocArr]

def heapModeShift (h : Heap) (d : Int) (m : HeapMode) : Heap × HeapMode :=
  if d = 0 then (h, m)
  else
    let c := cloneSlice h m.segs                      -- mode = proto.Clone(mode)
    match m.start with
    | none =>
      let r := heapShift c.1 d c.2                    -- mode.Segments = segmentpb.Shift(d, mode.Segments...)
      (r.1, ⟨none, r.2⟩)
    | some s => (c.1, ⟨some (s + d), c.2⟩)            -- mode.StartTime = timestamppb.New(…Add(d))

theorem heapModeShift_extends (h : Heap) (d : Int) (m : HeapMode) : h.Extends (heapModeShift h d m).1 := by
  unfold heapModeShift
  split
  · exact Heap.Extends.refl h
  · simp only []
    split
    · exact (cloneSlice_extends h m.segs).trans (heapShift_extends _ d _)
    · exact cloneSlice_extends h m.segs

/-- The alignment loop of `modepb.Sum`: `segmentSlices[i] = segmentpb.Shift(diff, segmentSlices[i]...)`
assigns into the local `segmentSlices`; the heap changes only through `Shift`. -/
def heapAlign (earliest latest : Int) : Heap → List HeapMode → Heap × List Slice
  | h, [] => (h, [])
  | h, m :: ms =>
    let r := heapShift h (m.start.getD latest - earliest) m.segs
    let rest := heapAlign earliest latest r.1 ms
    (rest.1, r.2 :: rest.2)

theorem heapAlign_extends (e l : Int) (h : Heap) (ms : List HeapMode) : h.Extends (heapAlign e l h ms).1 := by
  induction ms generalizing h with
  | nil => exact Heap.Extends.refl h
  | cons m ms ih => exact (heapShift_extends h _ m.segs).trans (ih _)

/-- `modepb.Sum(modes...)`; the result mode is a new object (`&traits.ElectricMode{}`). -/
def heapModeSum (h : Heap) (ms : List HeapMode) : Heap × Option HeapMode :=
  match ms with
  | [] => (h, none)
  | _ =>
    match startsLoop none none (ms.map (fun m => (⟨m.start, readSegs h m.segs⟩ : Mode))) with
    | (some e, some l) =>
      let a := heapAlign e l h ms
      let r := heapSum a.1 (calcCuts (a.2.map (readSegs a.1)))
      (r.1, some ⟨some e, r.2⟩)
    | _ =>
      let r := heapSum h (calcCuts (ms.map (fun m => readSegs h m.segs)))
      (r.1, some ⟨none, r.2⟩)

theorem heapModeSum_extends (h : Heap) (ms : List HeapMode) : h.Extends (heapModeSum h ms).1 := by
  unfold heapModeSum
  split
  · exact Heap.Extends.refl h
  · split
    · exact (heapAlign_extends _ _ h ms).trans (heapSum_extends _ _)
    · exact heapSum_extends _ _

end ScVerif.C18
