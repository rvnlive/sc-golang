/-
C18 — model of `pkg/time`: `CompareAscending`, the four kinds of cut, `cutPeriod`,
`PeriodsIntersect`, `PeriodsConnected`.

The definitions follow the Go code function by function (same case order).  Timestamps are
`(seconds, nanos)` pairs of *unbounded* integers: the Go fields are `int64`/`int32`, every such
value is an `Int`, and (after the `fix:` commit that makes `CompareAscending` compare instead of
subtract) no arithmetic is performed on them, so no wrap-around can occur in the modelled code.
-/
namespace ScVerif.C18

structure Ts where
  secs : Int
  nanos : Int
deriving Repr, DecidableEq, BEq

/-- `CompareAscending` as coded (pkg/time/timestamp.go). -/
def compareAscending (a b : Ts) : Int :=
  if a.secs < b.secs then -1
  else if a.secs > b.secs then 1
  else if a.nanos < b.nanos then -1
  else if a.nanos > b.nanos then 1
  else 0

/-- The four cut variants of pkg/time/cut.go. -/
inductive Cut where
  | belowAll
  | below (t : Ts)
  | above (t : Ts)
  | aboveAll
deriving Repr, DecidableEq

/-- `compareValueCuts` with `extractValue` inlined: the receiver arrives as its two components `thisTs`,
`thisIsAbove`.  `extractValue` is only called on `below`/`above` (the code panics otherwise); `compareValueCuts` is
only ever invoked with such a receiver, which `Cut.compareTo` below makes explicit. -/
def compareValueCuts (thisTs : Ts) (thisIsAbove : Bool) (that : Cut) : Int :=
  match that with
  | .belowAll => 1
  | .aboveAll => -1
  | .below t =>
    let r := compareAscending thisTs t
    if r ≠ 0 then r
    else if thisIsAbove = false then 0 else 1
  | .above t =>
    let r := compareAscending thisTs t
    if r ≠ 0 then r
    else if thisIsAbove = true then 0 else -1

/-- `cut.CompareTo`. -/
def Cut.compareTo (this that : Cut) : Int :=
  match this with
  | .belowAll => if that = .belowAll then 0 else -1
  | .aboveAll => if that = .aboveAll then 0 else 1
  | .below t => compareValueCuts t false that
  | .above t => compareValueCuts t true that

structure Period where
  start : Option Ts
  stop : Option Ts
deriving Repr, DecidableEq

/-- `cutPeriod`. -/
def cutPeriod (p : Period) : Cut × Cut :=
  match p.start, p.stop with
  | none, none => (.belowAll, .aboveAll)
  | none, some e => (.belowAll, .below e)
  | some s, none => (.below s, .aboveAll)
  | some s, some e => (.below s, .below e)

/-- `PeriodsConnected` (nil period = `none`). -/
def periodsConnected (p1 p2 : Option Period) : Bool :=
  match p1, p2 with
  | some p1, some p2 =>
    let (l1, u1) := cutPeriod p1
    let (l2, u2) := cutPeriod p2
    decide (l1.compareTo u2 ≤ 0) && decide (l2.compareTo u1 ≤ 0)
  | _, _ => false

/-- `PeriodsIntersect`. -/
def periodsIntersect (p1 p2 : Option Period) : Bool :=
  match p1, p2 with
  | some p1, some p2 =>
    let (l1, u1) := cutPeriod p1
    let (l2, u2) := cutPeriod p2
    decide (l1.compareTo u2 < 0) && decide (l2.compareTo u1 < 0)
  | _, _ => false

/-! `AllTime()`, `PeriodBetween(t1, t2)`, `PeriodBefore(t)`, `PeriodOnOrAfter(t)` (period.go); `none` is a
Go `nil` timestamp. -/
def allTime : Period := ⟨none, none⟩
def periodBetween (t1 t2 : Option Ts) : Period := ⟨t1, t2⟩
def periodBefore (t : Option Ts) : Period := ⟨none, t⟩
def periodOnOrAfter (t : Option Ts) : Period := ⟨t, none⟩

/-! ### Specification vocabulary: the order of cuts

A cut is a position on the timeline between instants: `belowAll` before everything, `below t` just
before `t`, `above t` just after `t`, `aboveAll` after everything.  Its key is
`(class, seconds, nanos, side)` with class −1/0/1 and side 0 (below) / 1 (above); the specification of
`CompareTo` is the sign of the lexicographic comparison of keys. -/

def Cut.cls : Cut → Int
  | .belowAll => -1
  | .aboveAll => 1
  | _ => 0
def Cut.ksecs : Cut → Int
  | .below t => t.secs
  | .above t => t.secs
  | _ => 0
def Cut.knanos : Cut → Int
  | .below t => t.nanos
  | .above t => t.nanos
  | _ => 0
def Cut.side : Cut → Int
  | .above _ => 1
  | _ => 0

/-- Strict lexicographic order of the keys. -/
def Cut.keyLt (a b : Cut) : Prop :=
  a.cls < b.cls ∨ (a.cls = b.cls ∧ (a.ksecs < b.ksecs ∨ (a.ksecs = b.ksecs ∧
    (a.knanos < b.knanos ∨ (a.knanos = b.knanos ∧ a.side < b.side)))))

/-! ### Specification vocabulary: the timeline is ℤ nanoseconds -/

/-- A timestamp is normalised when its nanos are in `[0, 10^9)` (what `timestamppb` calls valid). -/
def Ts.Normal (t : Ts) : Prop := 0 ≤ t.nanos ∧ t.nanos < 1000000000

def Ts.toNs (t : Ts) : Int := t.secs * 1000000000 + t.nanos

/-- `l ≤ x` where an absent lower bound is −∞. -/
def lbLe (l : Option Int) (x : Int) : Prop := match l with | none => True | some a => a ≤ x
/-- `x < u` where an absent upper bound is +∞. -/
def ubLt (x : Int) (u : Option Int) : Prop := match u with | none => True | some a => x < a
/-- `x ≤ u` where an absent upper bound is +∞. -/
def ubLe (x : Int) (u : Option Int) : Prop := match u with | none => True | some a => x ≤ a
/-- `l < u` between optional bounds (true when either is absent). -/
def bLt (l u : Option Int) : Prop := match l, u with | some a, some b => a < b | _, _ => True
def bLe (l u : Option Int) : Prop := match l, u with | some a, some b => a ≤ b | _, _ => True

def Period.lo (p : Period) : Option Int := p.start.map Ts.toNs
def Period.hi (p : Period) : Option Int := p.stop.map Ts.toNs

def optNormal (t : Option Ts) : Prop := match t with | none => True | some s => s.Normal

/-- Membership of an instant (in ns) in the half-open, optionally unbounded interval `[start, end)`. -/
def Period.Mem (x : Int) (p : Period) : Prop := lbLe p.lo x ∧ ubLt x p.hi

/-- A period is proper when its bounds are normalised timestamps and it is non-empty as an interval
(`start < end` when both are given). -/
def Period.Proper (p : Period) : Prop := optNormal p.start ∧ optNormal p.stop ∧ bLt p.lo p.hi

/-- Bounds normalised and `start ≤ end` (possibly empty): the domain of `Connected`. -/
def Period.Ordered (p : Period) : Prop := optNormal p.start ∧ optNormal p.stop ∧ bLe p.lo p.hi

def Cut.Normal : Cut → Prop
  | .below t => t.Normal
  | .above t => t.Normal
  | _ => True

/-- Position of a value cut on the doubled ns timeline: `below t` at `2·t`, `above t` at `2·t + 1`. -/
def Cut.pos : Cut → Int
  | .below t => 2 * t.toNs
  | .above t => 2 * t.toNs + 1
  | _ => 0

/-- The (possibly empty) interval `[x, y)` with `x ≤ y` is enclosed by `p`. -/
def Period.Encloses (p : Period) (x y : Int) : Prop := lbLe p.lo x ∧ ubLe y p.hi

end ScVerif.C18
