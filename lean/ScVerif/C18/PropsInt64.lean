import ScVerif.C18.Seg64Lemmas
import ScVerif.C18.PropsSeg
/-!
# C18 — property theorems: the theorems speak about the code as compiled (int64 durations)

`activeAt64`, `magnitudeAt64`, `maxAfter64`, `duration64`, `shift64`, `sum64` (Seg64.lean) wrap every
duration addition, subtraction and negation to 64 bits exactly where the Go code computes one; the
driver executes them against the real code, near-overflow lengths included.  Here: under the explicit
hypothesis that the total length of each list (plus a positive shift) is below 2^63 ns, they ARE the
unbounded functions of PropsSeg, so the step-function laws hold for the compiled code; and the
hypothesis is tight — at total length exactly 2^63 the compiled code leaves the step function.
-/
namespace ScVerif.C18

/-- No overflow, no difference: reading operations. -/
theorem C18_int64_read (d : Int) (segs : List Seg) (h : Small segs) :
    activeAt64 d segs = activeAt d segs ∧ magnitudeAt64 d segs = magnitudeAt d segs ∧
    maxAfter64 d segs = maxAfter d segs ∧ duration64 segs = duration segs :=
  ⟨activeAt64_eq d segs h, magnitudeAt64_eq d segs h, maxAfter64_eq d segs h, duration64_eq segs h⟩

/-- `MagnitudeAt` as compiled is the step function, for every list of total length below 2^63 ns. -/
theorem C18_int64_magnitudeAt (d : Int) (segs : List Seg) (h : Small segs) :
    magnitudeAt64 d segs = (den segs d, covered segs d) := by
  rw [magnitudeAt64_eq d segs h]; exact (C18_magnitudeAt d segs).1

/-- `Shift` as compiled returns exactly the segments of the unbounded `shift` (none of them `nil`), which
is translation — when `d` can be negated (`d ≠ MinInt64`) and the total length plus a positive shift
stays below 2^63 ns. -/
theorem C18_int64_shift (d : Int) (segs : List Seg) (h : Small segs) (hd : -two63 < d)
    (hsum : lenSum segs + d < two63) (t : Int) :
    shift64 d segs = (shift d segs).map some ∧
    den (shift d segs) t = if t < 0 then 0 else den segs (t - d) :=
  ⟨shift64_eq d segs h hd hsum, C18_shift d segs h.1 t⟩

/-- `Sum` as compiled is the `Sum` of PropsSeg when every summed list has total length below 2^63 ns
(so `C18_sum` speaks about the compiled code). -/
theorem C18_int64_sum (ls : List (List Seg)) (h : AllSmall ls) (t : Int) :
    sum64 ls = sum ls ∧ den (sum64 ls) t = denSum ls t := by
  have e := sum64_eq ls h
  exact ⟨e, by rw [e]; exact C18_sum ls h.allNonNeg t⟩

/-- The hypothesis is tight.  Two segments of 2^62 ns each (total exactly 2^63): `cur+l` wraps to
−2^63, the second segment is skipped, and `MagnitudeAt` reports "no segment" at an instant inside it;
`Duration` reports a negative total; and extending a leading zero segment of length 2^63−1 by a
shift of 1 ns produces a negative length.  (Behaviour of the compiled code at the excluded points,
recorded; lengths of ≥ 146 years are not meaningful segment lengths.) -/
theorem C18_int64_overflow_witness :
    lenSum [⟨1, some 4611686018427387904⟩, ⟨2, some 4611686018427387904⟩] = two63 ∧
    magnitudeAt64 4611686018427387905 [⟨1, some 4611686018427387904⟩, ⟨2, some 4611686018427387904⟩]
      = (0, false) ∧
    den [⟨1, some 4611686018427387904⟩, ⟨2, some 4611686018427387904⟩] 4611686018427387905 = 2 ∧
    duration64 [⟨1, some 4611686018427387904⟩, ⟨2, some 4611686018427387904⟩]
      = (-9223372036854775808, false) ∧
    shift64 1 [⟨0, some 9223372036854775807⟩, ⟨5, some 1⟩]
      = [some ⟨0, some (-9223372036854775808)⟩, some ⟨5, some 1⟩] := by
  refine ⟨by decide, by decide, by decide, by decide, by decide⟩

/-! Non-vacuity: a list whose total is the largest admissible one satisfies `Small`, and the
compiled functions take their exact values on it. -/
example : Small [⟨2, some 2⟩, ⟨5, some 9223372036854775805⟩] :=
  ⟨nonNeg_of_all _ (by decide), by decide⟩
example : magnitudeAt64 9223372036854775806 [⟨2, some 2⟩, ⟨5, some 9223372036854775805⟩] = (5, true) := by
  decide
example : magnitudeAt64 9223372036854775807 [⟨2, some 2⟩, ⟨5, some 9223372036854775805⟩] = (0, false) := by
  decide

end ScVerif.C18
