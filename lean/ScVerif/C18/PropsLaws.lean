import ScVerif.C18.LawLemmas
import ScVerif.C18.PropsMode
/-!
# C18 — property theorems: the laws compose; the corner cases by name

The step-function laws of PropsSeg/PropsMode carry the hypothesis `NonNeg` (present lengths are not
negative).  Here: every operation that returns segments returns a `NonNeg` list again — `Sum` even one
whose present lengths are strictly positive and in which only the last element may be length-less — so
the laws apply to results of results: `C18_compose` is one such chain, `C18_algebra` the identities of `Sum` and
`Shift` that follow, the round trips (`Cut` then `Sum` of the parts, for segments and for modes), the result of `Sum`
as a list whatever the order of its arguments, and the part after a `Cut` as a `Shift`.  Then the corner cases the
general theorems contain, stated on their own: a query before the start time of a mode, `Max*` on lists whose
counted magnitudes are all zero or negative, `Sum` of lists that all begin idle.
-/
namespace ScVerif.C18

/-- The segment operations are closed on well-formed lists: `Cut` (any `d`), `Shift` (any `d`) and `Sum`
return lists with non-negative lengths; `Sum` returns only positive lengths and a length-less element at
most in last position. -/
theorem C18_closed (d : Int) (s : Seg) (segs : List Seg) (ls : List (List Seg))
    (hs : NonNeg [s]) (hsegs : NonNeg segs) (hls : AllNonNeg ls) :
    NonNeg (optToList (cutSeg d s).before) ∧ NonNeg (optToList (cutSeg d s).after) ∧
    NonNeg (shift d segs) ∧
    NonNeg (sum ls) ∧ (∀ x ∈ sum ls, ∀ l, x.len = some l → 0 < l) ∧
    (∀ (i : Nat) x, i + 1 < (sum ls).length → (sum ls)[i]? = some x → x.len ≠ none) :=
  ⟨(cutSeg_nonNeg d s hs).1, (cutSeg_nonNeg d s hs).2, shift_nonNeg d segs hsegs,
   (sum_wf ls hls).1.nonNeg, (sum_wf ls hls).1,
   fun i x hi hx => finInit_getElem _ (sum_wf ls hls).2 i hi x hx⟩

/-- The mode operations are closed on well-formed modes: both parts of `modepb.Cut`, the result of
`modepb.Shift` and the result of `modepb.Sum` have non-negative lengths (`Sum`: positive, length-less only
last). -/
theorem C18_modes_closed (t d : Int) (m : Mode) (ms : List Mode) (hm : NonNeg m.segs)
    (hne : ms ≠ []) (hms : ∀ m ∈ ms, NonNeg m.segs) :
    (∀ b, (modeCut t m).before = some b → NonNeg b.segs) ∧
    (∀ a, (modeCut t m).after = some a → NonNeg a.segs) ∧
    NonNeg (modeShift d m).segs ∧
    (∃ r, modeSum ms = some r ∧ NonNeg r.segs ∧ (∀ x ∈ r.segs, ∀ l, x.len = some l → 0 < l) ∧
      (∀ (i : Nat) x, i + 1 < r.segs.length → r.segs[i]? = some x → x.len ≠ none)) := by
  obtain ⟨hb, ha⟩ := modeCut_nonNeg t m hm
  obtain ⟨r, hr, hp, hf⟩ := modeSum_wf ms hne hms
  exact ⟨hb, ha, modeShift_nonNeg d m hm, r, hr, hp.nonNeg, hp, fun i x hi hx => finInit_getElem _ hf i hi x hx⟩

/-- The laws compose, e.g.: the sum of a list shifted by `d` (either direction) and the part of another list
after a cut at `c ≥ 0` is, at every instant `t ≥ 0`, the first list at `t − d` plus the second at `t + c`. -/
theorem C18_compose (d c : Int) (a : List Seg) (s : Seg) (ha : NonNeg a) (hs : NonNeg [s]) (hc : 0 ≤ c)
    (t : Int) (ht : 0 ≤ t) :
    den (sum [shift d a, optToList (cutSeg c s).after]) t = den a (t - d) + den [s] (t + c) := by
  have hall : AllNonNeg [shift d a, optToList (cutSeg c s).after] :=
    allNonNeg_cons (shift_nonNeg d a ha) (allNonNeg_cons (cutSeg_nonNeg c s hs).2 allNonNeg_nil)
  rw [C18_sum _ hall t, denSum_pair]
  rw [C18_shift d a ha t, den_optToList, ((C18_cut c s).1 hc).2.2 t ht]
  have : ¬ t < 0 := by omega
  simp [this]

/-- The algebra of `Sum` and `Shift` on step functions, for all lists with non-negative lengths: `Sum` of one
list is that list; the order of the lists is irrelevant; nesting is irrelevant (`Sum` of `Sum`s is the `Sum`
of everything — the inner results are well-formed again, `C18_closed`); `Sum` of nothing is nothing;
right shifts add up; and a right shift distributes over `Sum`. -/
theorem C18_algebra (a b : List (List Seg)) (l : List Seg) (d e : Int)
    (ha : AllNonNeg a) (hb : AllNonNeg b) (hl : NonNeg l) (hd : 0 ≤ d) (he : 0 ≤ e) (t : Int) :
    den (sum [l]) t = den l t ∧
    den (sum (a ++ b)) t = den (sum (b ++ a)) t ∧
    den (sum [sum a, sum b]) t = den (sum (a ++ b)) t ∧
    sum [] = [] ∧
    den (shift d (shift e l)) t = den (shift (d + e) l) t ∧
    den (sum (a.map (shift d))) t = den (shift d (sum a)) t := by
  have hone : AllNonNeg [l] := allNonNeg_cons hl allNonNeg_nil
  have hsa := (sum_wf a ha).1.nonNeg
  have hsb := (sum_wf b hb).1.nonNeg
  have hnest : AllNonNeg [sum a, sum b] := allNonNeg_cons hsa (allNonNeg_cons hsb allNonNeg_nil)
  refine ⟨?_, ?_, ?_, by decide, ?_, ?_⟩
  · rw [C18_sum _ hone t]; simp [denSum]
  · rw [C18_sum _ (allNonNeg_append ha hb) t, C18_sum _ (allNonNeg_append hb ha) t,
      denSum_append, denSum_append]; omega
  · rw [C18_sum _ hnest t, C18_sum _ (allNonNeg_append ha hb) t, denSum_append]
    rw [denSum_pair, C18_sum _ ha t, C18_sum _ hb t]
  · rw [C18_shift_right d _ (shift_nonNeg e l hl) hd t, C18_shift_right e l hl he (t - d),
      C18_shift_right (d + e) l hl (by omega) t]
    congr 1; omega
  · have hmap : AllNonNeg (a.map (shift d)) := by
      intro x hx
      obtain ⟨y, hy, rfl⟩ := List.mem_map.mp hx
      exact shift_nonNeg d y (ha y hy)
    rw [C18_sum _ hmap t, C18_shift_right d _ hsa hd t, C18_sum _ ha (t - d)]
    clear hmap hsa hsb hnest
    induction a with
    | nil => rfl
    | cons x a ih =>
      simp only [List.map_cons, denSum]
      rw [C18_shift_right d x (ha x List.mem_cons_self) hd t,
        ih (fun y hy => ha y (List.mem_cons_of_mem _ hy))]

/-- Round trips on step functions.  Segments: the two parts of `Cut(d ≥ 0)`, the second shifted back by `d`,
sum up to the segment; shifting right by `d` and then left by `d` gives the list back.  (Through `Shift` and
`Sum`, which only works because every intermediate result is well-formed again.) -/
theorem C18_roundtrip (d : Int) (s : Seg) (l : List Seg) (hs : NonNeg [s]) (hl : NonNeg l) (hd : 0 ≤ d) (t : Int) :
    den (sum [optToList (cutSeg d s).before, shift d (optToList (cutSeg d s).after)]) t = den [s] t ∧
    den (shift (-d) (shift d l)) t = den l t := by
  obtain ⟨hnb, hna⟩ := cutSeg_nonNeg d s hs
  have hall : AllNonNeg [optToList (cutSeg d s).before, shift d (optToList (cutSeg d s).after)] :=
    allNonNeg_cons hnb (allNonNeg_cons (shift_nonNeg d _ hna) allNonNeg_nil)
  obtain ⟨c1, c2, c3⟩ := (C18_cut d s).1 hd
  constructor
  · rw [C18_sum _ hall t, denSum_pair]
    rw [C18_shift_right d _ hna hd t, den_optToList, den_optToList]
    by_cases ht : t < d
    · rw [c1 t ht]
      have : denOpt (cutSeg d s).after (t - d) = 0 := by
        rw [← den_optToList]; exact den_neg _ _ (by omega)
      omega
    · rw [c2 t (by omega), c3 (t - d) (by omega)]
      have : t - d + d = t := by omega
      rw [this]; omega
  · rw [C18_shift (-d) _ (shift_nonNeg d l hl) t]
    by_cases ht : t < 0
    · simp only [ht, if_true]; exact (den_neg _ _ ht).symm
    · simp only [ht, if_false]
      rw [C18_shift_right d l hl hd]
      congr 1; omega

/-- Round trip for modes: whenever `modepb.Cut(t, mode)` returns two parts, `modepb.Sum(before, after)` is the
mode again as a step function on the absolute timeline. -/
theorem C18_modes_cut_roundtrip (t : Int) (m : Mode) (hnn : NonNeg m.segs) (b a : Mode)
    (hb : (modeCut t m).before = some b) (ha : (modeCut t m).after = some a) :
    ∃ r, modeSum [b, a] = some r ∧ ∀ x, modeDen t r x = modeDen t m x := by
  have cb := (modeCut_nonNeg t m hnn).1 b hb
  have ca := (modeCut_nonNeg t m hnn).2 a ha
  have hnn2 : ∀ x ∈ [b, a], NonNeg x.segs := by
    intro x hx
    simp only [List.mem_cons, List.not_mem_nil, or_false] at hx
    rcases hx with rfl | rfl
    · exact cb
    · exact ca
  obtain ⟨r, hr, h1, h2⟩ := C18_modes_sum [b, a] (by simp) hnn2
  refine ⟨r, hr, fun x => ?_⟩
  rcases modeCut_two_sided t m b a hb ha with ⟨hnil, hbm, ham⟩ | ⟨s, hms, hst, hbs, has⟩
  · -- no segments at all: everything is 0
    have hz : modeDen t m x = 0 := modeDen_of_nil hnil t x
    have hbn : b.segs = [] := by rw [hbm]; exact hnil
    have han : a.segs = [] := by rw [ham]; exact hnil
    rw [hz]
    by_cases hstarts : starts [b, a] = []
    · obtain ⟨hrs, hden⟩ := h1 hstarts
      rw [modeDen, hden, List.map_cons, List.map_cons, List.map_nil, denSum_pair, hbn, han]
      rfl
    · obtain ⟨e, l, _, _, _, _, hden⟩ := h2 hstarts
      rw [hden t x]
      simp only [modeDenSum, modeDen_of_nil hbn, modeDen_of_nil han]
      rfl
  · have hstarts : starts [b, a] = [s, t] := by rw [starts_cons_some hbs, starts_cons_some has]; rfl
    have hne : starts [b, a] ≠ [] := by rw [hstarts]; simp
    obtain ⟨e, l, _, hl, hbounds, _, hden⟩ := h2 hne
    rw [hden t x]
    have hb' : ∀ ref, modeDen ref b x = modeDen t b x := fun ref => (modeDen_of_start hbs ref x).trans (modeDen_of_start hbs t x).symm
    have ha' : ∀ ref, modeDen ref a x = modeDen t a x := fun ref => (modeDen_of_start has ref x).trans (modeDen_of_start has t x).symm
    simp only [modeDenSum, hb' l, ha' l]
    obtain ⟨c1, c2, c3⟩ := C18_modes_cut t m hnn
    rw [hb] at c1 c2; rw [ha] at c3
    simp only [modeDenOpt] at c1 c2 c3
    by_cases hx : x < t
    · rw [c1 x hx]
      have : modeDen t a x = 0 := by
        rw [modeDen_of_start has]; exact den_neg _ _ (by omega)
      omega
    · rw [c2 x (by omega), c3 x (by omega)]; omega

/-- `Sum` does not depend on the order of its argument lists — not only as a step function: it returns the
very same segment list (exact magnitudes; in float32 below the bound of `C18_sum_float`). -/
theorem C18_sum_argument_order (ls ls' : List (List Seg)) (h : ls.Perm ls') : sum ls = sum ls' := by
  unfold sum
  rw [anyInfinite_perm h]
  apply sumEdges_order_irrelevant
  · exact ((sortEdges_perm _).trans (rawEdges_perm h)).trans (sortEdges_perm _).symm
  · exact sortEdges_sorted _
  · exact sortEdges_sorted _

/-- `modepb.Sum` does not depend on the order of its arguments either: the same mode, segment for segment. -/
theorem C18_modes_sum_argument_order (ms ms' : List Mode) (h : ms.Perm ms') : modeSum ms = modeSum ms' := by
  by_cases hne : ms = []
  · rw [hne] at h ⊢; rw [h.nil_eq]
  · have hne' : ms' ≠ [] := fun e => hne (by rw [e] at h; exact h.eq_nil)
    have hmin : (starts ms).min? = (starts ms').min? := (min?_max?_perm (h.filterMap Mode.start)).1
    rw [modeSum_eq ms hne, modeSum_eq ms' hne', hmin, C18_sum_argument_order _ _ (modeSumLists_perm h)]

/-- `modepb.Cut` and `segmentpb.Shift` agree: whenever `Cut(t, mode)` returns an `after` part for a mode with
segments and `t` after its start, that part starts at `t` and its segments are exactly — as a list — the
mode's segments shifted left by the time elapsed since the start. -/
theorem C18_cut_after_is_shift (t st : Int) (m : Mode) (hst : m.start = some st) (hgt : st < t)
    (hne : m.segs ≠ []) (a : Mode) (ha : (modeCut t m).after = some a) :
    a.start = some t ∧ a.segs = shift (-(t - st)) m.segs := by
  rcases modeCut_cases t m with ⟨h0, _⟩ | ⟨_, hngt, _⟩ | ⟨_, _, _, e⟩ | ⟨_, _, _, e⟩
  · exact absurd (List.length_eq_zero_iff.mp h0) hne
  · rw [hst] at hngt; exact absurd hgt hngt
  · rw [e] at ha; cases ha
  · rw [e] at ha
    cases ha
    rw [shift_of_neg (by omega), hst, Int.neg_neg]
    exact ⟨rfl, rfl⟩

/-- Before its start time a mode is not there: `modepb.MagnitudeAt` answers `(0, false)` whatever the first
segment is, `modepb.ActiveAt` the documented `(t − start, 0)` with a negative elapsed time, the step
function is `0` (so `MinAt` counts a mode that has not started as `0`), and `modepb.Cut` returns
`(nil, mode, outside)`. -/
theorem C18_modes_before_start (t st : Int) (m : Mode) (hst : m.start = some st) (h : t < st) :
    modeMagnitudeAt t m = (0, false) ∧ modeActiveAt t m = (t - st, 0) ∧ modeDen t m t = 0 ∧
    (m.segs ≠ [] → modeCut t m = ⟨none, some m, true⟩) := by
  have hd : t - st < 0 := by omega
  refine ⟨?_, ?_, ?_, ?_⟩
  · unfold modeMagnitudeAt magnitudeAt
    simp [tOrST_eq, hst, hd]
  · rw [modeActiveAt, tOrST_eq, hst, Option.getD_some, activeAt_of_neg hd]
  · rw [modeDen_of_start hst]
    exact den_neg _ _ hd
  · intro hne
    have hlen : ¬ m.segs.length = 0 := fun e => hne (List.length_eq_zero_iff.mp e)
    have hgt : ¬ t > st := by omega
    unfold modeCut
    simp [hlen, tOrST_eq, hst, hgt, h]

/-- `Max`, `MaxMagnitude`, `MaxAfter` do not confuse "no segment counts" with "nothing is positive": as
soon as one segment has an absent or positive length, `Max` is the index of such a segment (never
`len(segments)`), `MaxMagnitude` is its magnitude — `0` for an idle-only list because the idle segment IS
the maximum, negative when every counted magnitude is negative — and likewise `MaxAfter` whenever a
counted segment exists at or after the active one. -/
theorem C18_max_counted (d : Int) (segs : List Seg) :
    ((∃ s ∈ segs, counts s = true) →
      maxIdx segs < segs.length ∧
      ∃ s, segs[maxIdx segs]? = some s ∧ counts s = true ∧ maxMagnitude segs = s.mag ∧
        ∀ s' ∈ segs, counts s' = true → s'.mag ≤ s.mag) ∧
    ((∃ s ∈ segs, counts s = true) → (∀ s ∈ segs, counts s = true → s.mag < 0) → maxMagnitude segs < 0) ∧
    ((∃ s ∈ segs.drop (activeAt d segs).2, counts s = true) →
      maxAfter d segs < segs.length ∧ (activeAt d segs).2 ≤ maxAfter d segs) := by
  have key : ∀ l : List Seg, (∃ s ∈ l, counts s = true) →
      maxIdx l < l.length ∧
      ∃ s, l[maxIdx l]? = some s ∧ counts s = true ∧ maxMagnitude l = s.mag ∧
        ∀ s' ∈ l, counts s' = true → s'.mag ≤ s.mag := by
    intro l ⟨s0, hs0, hc0⟩
    cases hm : l[maxIdx l]? with
    | none =>
      have := ((C18_max l).2 hm).2.2 s0 hs0
      rw [hc0] at this; cases this
    | some s =>
      obtain ⟨hc, hmm, hall, _⟩ := (C18_max l).1 s hm
      have hlt : maxIdx l < l.length := by
        rcases Nat.lt_or_ge (maxIdx l) l.length with h | h
        · exact h
        · rw [List.getElem?_eq_none h] at hm; cases hm
      refine ⟨hlt, s, rfl, hc, hmm, fun s' hs' hc' => ?_⟩
      obtain ⟨k, hk, hks⟩ := List.mem_iff_getElem.mp hs'
      exact hall k s' (by rw [List.getElem?_eq_getElem hk, hks]) hc'
  refine ⟨key segs, fun hex hneg => ?_, fun hex => ?_⟩
  · obtain ⟨_, s, hs, hc, hmm, _⟩ := key segs hex
    rw [hmm]
    exact hneg s (List.mem_of_getElem? hs) hc
  · obtain ⟨hlt, _⟩ := key (segs.drop (activeAt d segs).2) hex
    have e : maxAfter d segs = maxIdx (segs.drop (activeAt d segs).2) + (activeAt d segs).2 := rfl
    rw [e]
    simp only [List.length_drop] at hlt
    constructor <;> omega

/-- `Sum` keeps the leading idle time: when every list idles on `[0, a)` the sum is `0` there and is the
pointwise sum from `a` on — it is NOT translated to start at its first edge; structurally, when the first
edge is at `a > 0` the result begins with the idle segment `{0, a}`. -/
theorem C18_sum_leading_idle (ls : List (List Seg)) (h : AllNonNeg ls) (a : Int)
    (hidle : ∀ l ∈ ls, ∀ t, t < a → den l t = 0) :
    (∀ t, t < a → den (sum ls) t = 0) ∧
    (∀ e es, calcCuts ls = e :: es → 0 < e.time → (sum ls).head? = some ⟨0, some e.time⟩) := by
  refine ⟨fun t ht => ?_, fun e es hc ha => ?_⟩
  · rw [C18_sum ls h t]
    induction ls with
    | nil => rfl
    | cons l ls ih =>
      simp only [denSum]
      rw [hidle l List.mem_cons_self t ht,
        ih (fun x hx => h x (List.mem_cons_of_mem _ hx)) (fun x hx => hidle x (List.mem_cons_of_mem _ hx))]
      rfl
  · unfold sum
    rw [hc]
    have hz : ¬ e.time = 0 := by omega
    simp only [sumEdges, emit, Int.sub_zero, hz, if_false, List.head?_cons]

/-! Non-vacuity and concrete values: the named corner cases on concrete inputs. -/
example : (modeCut 5 ⟨some 2, [⟨1, some 2⟩, ⟨2, some 4⟩, ⟨3, some 1⟩]⟩).after.map (·.segs)
    = some (shift (-3) [⟨1, some 2⟩, ⟨2, some 4⟩, ⟨3, some 1⟩]) := by decide
example : sum [[⟨1, some 2⟩, ⟨-2, none⟩], [⟨2, some 3⟩], [⟨0, some 1⟩, ⟨4, some 1⟩]]
    = sum [[⟨0, some 1⟩, ⟨4, some 1⟩], [⟨1, some 2⟩, ⟨-2, none⟩], [⟨2, some 3⟩]] := by decide
example : (modeCut 5 ⟨some 2, [⟨1, some 2⟩, ⟨2, some 4⟩, ⟨3, some 1⟩]⟩).before = some ⟨some 2, [⟨1, some 2⟩, ⟨2, some 1⟩]⟩ ∧
    (modeCut 5 ⟨some 2, [⟨1, some 2⟩, ⟨2, some 4⟩, ⟨3, some 1⟩]⟩).after = some ⟨some 5, [⟨2, some 3⟩, ⟨3, some 1⟩]⟩ ∧
    modeSum [⟨some 2, [⟨1, some 2⟩, ⟨2, some 1⟩]⟩, ⟨some 5, [⟨2, some 3⟩, ⟨3, some 1⟩]⟩]
      = some ⟨some 2, [⟨1, some 2⟩, ⟨2, some 1⟩, ⟨2, some 3⟩, ⟨3, some 1⟩]⟩ := by decide
example : sum [optToList (cutSeg 2 ⟨5, some 3⟩).before, shift 2 (optToList (cutSeg 2 ⟨5, some 3⟩).after)]
    = [⟨5, some 2⟩, ⟨5, some 1⟩] ∧ shift (-2) (shift 2 [⟨4, some 1⟩, ⟨1, none⟩]) = [⟨4, some 1⟩, ⟨1, none⟩] := by decide
example : sum [sum [[⟨1, some 2⟩], [⟨2, some 3⟩]], sum [[⟨0, some 1⟩, ⟨-1, none⟩]]]
    = sum [[⟨1, some 2⟩], [⟨2, some 3⟩], [⟨0, some 1⟩, ⟨-1, none⟩]] := by decide
example : shift 2 (shift 3 [⟨4, some 1⟩]) = [⟨0, some 5⟩, ⟨4, some 1⟩] ∧ shift 5 [⟨4, some 1⟩] = [⟨0, some 5⟩, ⟨4, some 1⟩] := by
  decide
example : modeMagnitudeAt 4 ⟨some 5, [⟨7, some 2⟩]⟩ = (0, false) ∧ modeActiveAt 4 ⟨some 5, [⟨7, some 2⟩]⟩ = (-1, 0) := by
  decide
example : maxIdx [⟨0, some 5⟩] = 0 ∧ maxIdx [⟨-3, some 2⟩, ⟨-1, some 2⟩] = 1 ∧
    maxMagnitude [⟨-3, some 2⟩, ⟨-1, some 2⟩] = -1 ∧ maxAfter 8 [⟨3, some 3⟩, ⟨5, some 5⟩, ⟨0, some 2⟩] = 2 := by
  decide
example : sum [[⟨0, some 5⟩, ⟨10, some 5⟩]] = [⟨0, some 5⟩, ⟨10, some 5⟩] ∧
    sum [[⟨0, some 3⟩, ⟨2, some 2⟩], [⟨0, some 4⟩, ⟨1, none⟩]] = [⟨0, some 3⟩, ⟨2, some 1⟩, ⟨3, some 1⟩, ⟨1, none⟩] := by
  decide
example : calcCuts [[⟨0, some 5⟩, ⟨10, some 5⟩]] = [⟨5, 10⟩, ⟨10, -10⟩] := by decide
example : sum [shift (-1) [⟨1, some 2⟩, ⟨2, some 2⟩], optToList (cutSeg 1 ⟨5, some 3⟩).after]
    = [⟨6, some 1⟩, ⟨7, some 1⟩, ⟨2, some 1⟩] := by decide

end ScVerif.C18
