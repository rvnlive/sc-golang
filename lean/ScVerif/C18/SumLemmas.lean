import ScVerif.C18.SegLemmas
/-! `Sum`: a step function is the running sum of its edges; the loop shows, at an instant, the deltas up to there
folded into the magnitude; integer addition commutes, so the unstable sort does not matter. -/
namespace ScVerif.C18

theorem sum_map_perm {α : Type} (f : α → Int) {a b : List α} (h : a.Perm b) : (a.map f).sum = (b.map f).sum := by
  induction h with
  | nil => rfl
  | cons x _ ih => simp only [List.map_cons, List.sum_cons, ih]
  | swap x y l => simp only [List.map_cons, List.sum_cons]; omega
  | trans _ _ ih1 ih2 => rw [ih1, ih2]

theorem sumMagnitude_eq_sum (segs : List Seg) : sumMagnitude segs = (segs.map (·.mag)).sum := by
  induction segs with
  | nil => rfl
  | cons s rest ih => simp only [sumMagnitude, List.map_cons, List.sum_cons, ih]

/-- The deltas of the edges at or before `t`, in the order of the list. -/
def deltasLe (t : Int) (es : List Edge) : List Int := (es.filter (·.time ≤ t)).map (·.delta)

/-- What the edges at or before `t` add up to: the value at `t` of the step function the edges describe. -/
def sumLe (t : Int) (es : List Edge) : Int := (deltasLe t es).sum

/-- What all edges add up to: the value "at infinity". -/
def sumAll (es : List Edge) : Int := (es.map (·.delta)).sum

theorem deltasLe_cons (t : Int) (e : Edge) (es : List Edge) :
    deltasLe t (e :: es) = if e.time ≤ t then e.delta :: deltasLe t es else deltasLe t es := by
  by_cases h : e.time ≤ t <;> simp [deltasLe, h]

theorem deltasLe_length_le (t : Int) (es : List Edge) : (deltasLe t es).length ≤ es.length := by
  rw [deltasLe, List.length_map]; exact List.length_filter_le _ _

theorem sumLe_nil (t : Int) : sumLe t [] = 0 := rfl

theorem sumLe_cons (t : Int) (e : Edge) (es : List Edge) :
    sumLe t (e :: es) = (if e.time ≤ t then e.delta else 0) + sumLe t es := by
  rw [sumLe, deltasLe_cons]
  split <;> simp [sumLe]

theorem sumAll_nil : sumAll [] = 0 := rfl

theorem sumAll_cons (e : Edge) (es : List Edge) : sumAll (e :: es) = e.delta + sumAll es := rfl

theorem sumLe_append (t : Int) (a b : List Edge) : sumLe t (a ++ b) = sumLe t a + sumLe t b := by
  simp only [sumLe, deltasLe, List.filter_append, List.map_append, List.sum_append_int]

theorem sumAll_append (a b : List Edge) : sumAll (a ++ b) = sumAll a + sumAll b := by
  simp only [sumAll, List.map_append, List.sum_append_int]

theorem sumLe_perm (t : Int) {a b : List Edge} (h : a.Perm b) : sumLe t a = sumLe t b :=
  sum_map_perm _ (h.filter _)

theorem sumAll_perm {a b : List Edge} (h : a.Perm b) : sumAll a = sumAll b :=
  sum_map_perm _ h

theorem deltasLe_of_all_gt (t : Int) (es : List Edge) (h : ∀ e ∈ es, t < e.time) : deltasLe t es = [] := by
  simp only [deltasLe, List.map_eq_nil_iff, List.filter_eq_nil_iff, decide_eq_true_eq]
  exact fun e he => by have := h e he; omega

theorem deltasLe_of_all_le (t : Int) (es : List Edge) (h : ∀ e ∈ es, e.time ≤ t) :
    deltasLe t es = es.map (·.delta) := by
  rw [deltasLe, List.filter_eq_self.mpr (fun e he => decide_eq_true (h e he))]

theorem sumLe_of_all_gt (t : Int) (es : List Edge) (h : ∀ e ∈ es, t < e.time) : sumLe t es = 0 := by
  rw [sumLe, deltasLe_of_all_gt t es h]; rfl

theorem sumLe_of_all_le (t : Int) (es : List Edge) (h : ∀ e ∈ es, e.time ≤ t) : sumLe t es = sumAll es := by
  rw [sumLe, deltasLe_of_all_le t es h]; rfl

/-- Sorted by time (what `sort.Slice` with `cuts[i].at < cuts[j].at` establishes). -/
def SortedT (es : List Edge) : Prop := es.Pairwise (fun a b => a.time ≤ b.time)

theorem sortedT_cons {e : Edge} {es : List Edge} :
    SortedT (e :: es) ↔ (∀ x ∈ es, e.time ≤ x.time) ∧ SortedT es :=
  List.pairwise_cons

theorem insertEdge_perm (e : Edge) (es : List Edge) : (insertEdge e es).Perm (e :: es) := by
  induction es with
  | nil => exact List.Perm.refl _
  | cons x xs ih =>
    simp only [insertEdge]
    split
    · exact List.Perm.refl _
    · exact (List.Perm.cons x ih).trans (List.Perm.swap e x xs)

theorem insertEdge_sorted (e : Edge) (es : List Edge) (h : SortedT es) : SortedT (insertEdge e es) := by
  induction es with
  | nil => simp [insertEdge, SortedT]
  | cons x xs ih =>
    simp only [insertEdge]
    rw [sortedT_cons] at h
    split
    · rename_i hlt
      rw [sortedT_cons]
      refine ⟨fun y hy => ?_, sortedT_cons.mpr h⟩
      rcases List.mem_cons.mp hy with rfl | hy
      · omega
      · have := h.1 y hy; omega
    · rename_i hlt
      rw [sortedT_cons]
      refine ⟨fun y hy => ?_, ih h.2⟩
      have hy' := (insertEdge_perm e xs).subset hy
      rcases List.mem_cons.mp hy' with rfl | hy'
      · omega
      · exact h.1 y hy'

theorem sortFold_perm (es acc : List Edge) :
    (es.foldl (fun acc e => insertEdge e acc) acc).Perm (acc ++ es) := by
  induction es generalizing acc with
  | nil => simp
  | cons e es ih =>
    simp only [List.foldl_cons]
    refine (ih (insertEdge e acc)).trans ?_
    refine ((insertEdge_perm e acc).append_right es).trans ?_
    exact List.perm_middle.symm

theorem sortFold_sorted (es acc : List Edge) (h : SortedT acc) :
    SortedT (es.foldl (fun acc e => insertEdge e acc) acc) := by
  induction es generalizing acc with
  | nil => simpa using h
  | cons e es ih =>
    simp only [List.foldl_cons]
    exact ih _ (insertEdge_sorted e acc h)

theorem sortEdges_perm (es : List Edge) : (sortEdges es).Perm es := by
  have := sortFold_perm es []
  simpa [sortEdges] using this

theorem sortEdges_sorted (es : List Edge) : SortedT (sortEdges es) :=
  sortFold_sorted es [] (by simp [SortedT])

theorem sumEdges_eq_emit (drop : Int → Bool) (es : List Edge) (h0 : drop 0 = true) :
    sumEdges drop es = emit drop 0 0 es := by
  cases es with
  | nil => simp [sumEdges, emit, h0]
  | cons e es => rfl

/-- The loop of `Sum` over any addition of magnitudes: `emit` is it with `+`, `emitF` (F32) with the float32
addition. -/
def emitWith (add : Int → Int → Int) (drop : Int → Bool) : Int → Int → List Edge → List Seg
  | mag, _, [] => if drop mag then [] else [⟨mag, none⟩]
  | mag, lastTime, e :: es =>
    if e.time - lastTime = 0 then emitWith add drop (add mag e.delta) lastTime es
    else ⟨mag, some (e.time - lastTime)⟩ :: emitWith add drop (add mag e.delta) e.time es

theorem emit_eq_emitWith (drop : Int → Bool) (es : List Edge) (mag lt : Int) :
    emit drop mag lt es = emitWith (· + ·) drop mag lt es := by
  induction es generalizing mag lt with
  | nil => rfl
  | cons e es ih => simp only [emit, emitWith, ih]

/-- On time-sorted edges the loop shows, at `t`, the deltas of the edges up to `t` folded into the initial
magnitude — except that from the last edge on it is `0` when `drop` removes the open element. -/
theorem emitWith_den (add : Int → Int → Int) (drop : Int → Bool) (es : List Edge) (mag lt t : Int)
    (hs : SortedT es) (hge : ∀ e ∈ es, lt ≤ e.time) (ht : lt ≤ t) :
    den (emitWith add drop mag lt es) (t - lt) =
      if (∀ e ∈ es, e.time ≤ t) ∧ drop ((es.map (·.delta)).foldl add mag) = true then 0
      else (deltasLe t es).foldl add mag := by
  induction es generalizing mag lt with
  | nil =>
    simp only [emitWith, deltasLe, List.filter_nil, List.map_nil, List.foldl_nil, List.not_mem_nil, false_imp_iff,
      implies_true, true_and]
    split
    · rfl
    · exact den_cons_none ⟨mag, none⟩ [] _ rfl (by omega)
  | cons e es ih =>
    rw [sortedT_cons] at hs
    have hle := hge e List.mem_cons_self
    simp only [emitWith, List.map_cons, List.foldl_cons, List.forall_mem_cons]
    by_cases het : e.time ≤ t
    · -- the edge is at or before `t`: it is folded in, whether or not it closes a segment
      have hd : deltasLe t (e :: es) = e.delta :: deltasLe t es := by rw [deltasLe_cons, if_pos het]
      rw [hd, List.foldl_cons]
      simp only [het, true_and]
      by_cases h0 : e.time - lt = 0
      · rw [if_pos h0]
        exact ih _ lt hs.2 (fun x hx => by have := hs.1 x hx; omega) ht
      · rw [if_neg h0, den_cons_some ⟨mag, some (e.time - lt)⟩ _ _ _ rfl (by omega), if_neg (by omega),
          show t - lt - (e.time - lt) = t - e.time by omega]
        exact ih _ e.time hs.2 hs.1 het
    · -- `t` lies before the edge, hence before all edges: inside the segment the edge closes
      have hd : deltasLe t (e :: es) = [] := deltasLe_of_all_gt t _ (fun x hx => by
        rcases List.mem_cons.mp hx with rfl | hx
        · omega
        · have := hs.1 x hx; omega)
      rw [hd, if_neg (by omega), den_cons_some ⟨mag, some (e.time - lt)⟩ _ _ _ rfl (by omega), if_pos (by omega),
        if_neg (fun h => het h.1.1)]
      rfl

theorem foldl_add_eq (ds : List Int) (m : Int) : ds.foldl (· + ·) m = m + ds.sum := by
  induction ds generalizing m with
  | nil => simp
  | cons d ds ih => rw [List.foldl_cons, ih, List.sum_cons]; omega

theorem updLast_append_single (f : Seg → Seg) (done : List Seg) (x : Seg) :
    updLast f (done ++ [x]) = done ++ [f x] := by
  induction done with
  | nil => rfl
  | cons d ds ih =>
    cases ds with
    | nil => rfl
    | cons d2 ds2 =>
      simp only [List.cons_append] at ih ⊢
      simp only [updLast]
      rw [ih]

theorem sumGoStep_concat (done : List Seg) (x : Seg) (lt : Int) (c : Edge) :
    sumGoStep (done ++ [x], lt) c =
      if c.time - lt = 0 then (done ++ [⟨x.mag + c.delta, x.len⟩], lt)
      else (done ++ [⟨x.mag, some (c.time - lt)⟩] ++ [⟨x.mag + c.delta, none⟩], c.time) := by
  simp only [sumGoStep, List.length_append, List.length_cons, List.length_nil]
  have hne : ¬ (done.length + (0 + 1) = 0) := by omega
  simp only [hne, if_false, updLast_append_single, lastMagOf, List.getLast?_append,
    List.getLast?_singleton]
  simp

theorem sumGoStep_nil (lt : Int) (c : Edge) : sumGoStep ([], lt) c = sumGoStep ([] ++ [⟨0, none⟩], lt) c := by
  simp [sumGoStep]

/-- Loop invariant of `Sum`: `result = done ++ [open element with Length == nil]`. -/
theorem sumGo_invariant (drop : Int → Bool) (es : List Edge) (done : List Seg) (mag lt : Int) :
    trimLast drop (es.foldl sumGoStep (done ++ [⟨mag, none⟩], lt)).1 = done ++ emit drop mag lt es := by
  induction es generalizing done mag lt with
  | nil =>
    simp only [List.foldl_nil, trimLast, List.getLast?_append, List.getLast?_singleton, emit]
    by_cases h : drop mag = true
    · simp [h]
    · simp [h]
  | cons e es ih =>
    rw [List.foldl_cons, sumGoStep_concat]
    by_cases h0 : e.time - lt = 0
    · simp only [h0, if_true, emit]
      exact ih done (mag + e.delta) lt
    · simp only [h0, if_false, emit]
      refine (ih (done ++ [⟨mag, some (e.time - lt)⟩]) (mag + e.delta) e.time).trans ?_
      simp

theorem sumGoEdges_eq (drop : Int → Bool) (es : List Edge) : sumGoEdges drop es = sumEdges drop es := by
  cases es with
  | nil => simp [sumGoEdges, sumEdges, trimLast]
  | cons e rest =>
    unfold sumGoEdges
    rw [List.foldl_cons, sumGoStep_nil, sumGoStep_concat]
    by_cases h0 : e.time - 0 = 0
    · rw [if_pos h0]
      refine (sumGo_invariant drop rest [] (0 + e.delta) 0).trans ?_
      simp [sumEdges, emit, h0]
    · rw [if_neg h0]
      refine (sumGo_invariant drop rest ([] ++ [⟨0, some (e.time - 0)⟩]) (0 + e.delta) e.time).trans ?_
      simp [sumEdges, emit, show ¬ e.time = 0 by omega]

theorem mem_edgesOf_cons {e : Edge} {cur : Int} {s : Seg} {rest : List Seg} (he : e ∈ edgesOf cur (s :: rest)) :
    e.time = cur ∨ ∃ l, s.len = some l ∧ (e.time = cur + l ∨ e ∈ edgesOf (cur + l) rest) := by
  have one : ∀ (t : Int) (δ : Int), e ∈ (if s.mag ≠ 0 then [Edge.mk t δ] else []) → e.time = t := by
    intro t δ h
    split at h
    · rw [List.mem_singleton.mp h]
    · cases h
  cases hs : s.len with
  | none =>
    simp only [edgesOf, hs] at he
    exact .inl (one _ _ he)
  | some l =>
    simp only [edgesOf, hs, List.mem_append] at he
    rcases he with (he | he) | he
    · exact .inl (one _ _ he)
    · exact .inr ⟨l, rfl, .inl (one _ _ he)⟩
    · exact .inr ⟨l, rfl, .inr he⟩

theorem edgesOf_time_bounds (l : List Seg) (h : NonNeg l) (cur : Int) :
    ∀ e ∈ edgesOf cur l, cur ≤ e.time ∧ e.time ≤ cur + lenSum l := by
  induction l generalizing cur with
  | nil => exact fun e he => nomatch he
  | cons s rest ih =>
    intro e he
    have hall := lenSum_nonneg (s :: rest) h
    rcases mem_edgesOf_cons he with ht | ⟨l, hs, ht | hrest⟩
    · omega
    · have := h.head l hs
      have := lenSum_nonneg rest h.tail
      rw [lenSum_cons_some s rest l hs]
      omega
    · have := h.head l hs
      have := ih h.tail (cur + l) e hrest
      rw [lenSum_cons_some s rest l hs]
      omega

theorem edgesOf_sumLe (l : List Seg) (h : NonNeg l) (cur t : Int) (ht : cur ≤ t) :
    sumLe t (edgesOf cur l) = den l (t - cur) := by
  induction l generalizing cur with
  | nil => simp [edgesOf, sumLe_nil, den]
  | cons s rest ih =>
    have ht0 : 0 ≤ t - cur := by omega
    cases hs : s.len with
    | none =>
      rw [den_cons_none s rest _ hs ht0]
      simp only [edgesOf, hs]
      by_cases hm : s.mag = 0
      · simp [hm, sumLe_nil]
      · simp [hm, sumLe_nil, sumLe_cons, ht]
    | some len =>
      have hl := h.head len hs
      rw [den_cons_some s rest _ len hs ht0]
      simp only [edgesOf, hs, sumLe_append]
      by_cases hin : t - cur < len
      · have h1 : ¬ cur + len ≤ t := by omega
        simp only [hin, if_true]
        rw [sumLe_of_all_gt t (edgesOf (cur + len) rest)
          (fun e he => by have := (edgesOf_time_bounds rest h.tail (cur + len) e he).1; omega)]
        by_cases hm : s.mag = 0
        · simp [hm, sumLe_nil]
        · simp [hm, sumLe_nil, sumLe_cons, ht, h1]
      · have h1 : cur + len ≤ t := by omega
        simp only [hin, if_false]
        rw [ih h.tail (cur + len) h1]
        have e0 : t - (cur + len) = t - cur - len := by omega
        rw [e0]
        by_cases hm : s.mag = 0
        · simp [hm, sumLe_nil]
        · simp only [hm, ne_eq, not_false_eq_true, if_true, sumLe_nil, sumLe_cons, ht, h1]
          omega

theorem edgesOf_sumAll (l : List Seg) (cur : Int) : sumAll (edgesOf cur l) = tailMag l := by
  induction l generalizing cur with
  | nil => simp [edgesOf, sumAll_nil, tailMag]
  | cons s rest ih =>
    cases hs : s.len with
    | none =>
      simp only [edgesOf, hs, tailMag]
      by_cases hm : s.mag = 0
      · simp [hm, sumAll_nil]
      · simp [hm, sumAll_nil, sumAll_cons]
    | some len =>
      simp only [edgesOf, hs, tailMag, sumAll_append, ih]
      by_cases hm : s.mag = 0
      · simp [hm, sumAll_nil]
      · simp only [hm, ne_eq, not_false_eq_true, if_true, sumAll_nil, sumAll_cons]
        omega

/-- Every list has non-negative lengths (`NonNeg`): the hypothesis of the theorems about `Sum`. -/
def AllNonNeg (ls : List (List Seg)) : Prop := ∀ l ∈ ls, NonNeg l

theorem allNonNeg_nil : AllNonNeg [] := fun _ h => nomatch h

theorem allNonNeg_cons {l : List Seg} {ls : List (List Seg)} (hl : NonNeg l) (hls : AllNonNeg ls) :
    AllNonNeg (l :: ls) :=
  List.forall_mem_cons.mpr ⟨hl, hls⟩

theorem AllNonNeg.head {l : List Seg} {ls : List (List Seg)} (h : AllNonNeg (l :: ls)) : NonNeg l :=
  h l List.mem_cons_self

theorem AllNonNeg.tail {l : List Seg} {ls : List (List Seg)} (h : AllNonNeg (l :: ls)) : AllNonNeg ls :=
  fun x hx => h x (List.mem_cons_of_mem _ hx)

theorem denSum_append (a b : List (List Seg)) (t : Int) : denSum (a ++ b) t = denSum a t + denSum b t := by
  induction a with
  | nil => simp [denSum]
  | cons l a ih => simp only [List.cons_append, denSum, ih]; omega

theorem allNonNeg_append {a b : List (List Seg)} (ha : AllNonNeg a) (hb : AllNonNeg b) : AllNonNeg (a ++ b) := by
  intro l hl
  rcases List.mem_append.mp hl with h | h
  · exact ha l h
  · exact hb l h

theorem rawEdges_eq_flatten (ls : List (List Seg)) : rawEdges ls = (ls.map (edgesOf 0)).flatten := by
  induction ls with
  | nil => rfl
  | cons l ls ih => simp only [rawEdges, ih, List.map_cons, List.flatten_cons]

theorem mem_rawEdges {ls : List (List Seg)} {e : Edge} : e ∈ rawEdges ls ↔ ∃ l ∈ ls, e ∈ edgesOf 0 l := by
  simp only [rawEdges_eq_flatten, List.mem_flatten, List.mem_map]
  exact ⟨fun ⟨_, ⟨l, hl, rfl⟩, he⟩ => ⟨l, hl, he⟩, fun ⟨l, hl, he⟩ => ⟨_, ⟨l, hl, rfl⟩, he⟩⟩

theorem rawEdges_time_ge (ls : List (List Seg)) (h : AllNonNeg ls) : ∀ e ∈ rawEdges ls, 0 ≤ e.time := fun e he => by
  obtain ⟨l, hl, he⟩ := mem_rawEdges.mp he
  exact (edgesOf_time_bounds l (h l hl) 0 e he).1

theorem rawEdges_sumAll (ls : List (List Seg)) : sumAll (rawEdges ls) = tailSum ls := by
  induction ls with
  | nil => rfl
  | cons l ls ih => simp only [rawEdges, sumAll_append, tailSum, edgesOf_sumAll, ih]

theorem denSum_pair (a b : List Seg) (t : Int) : denSum [a, b] t = den a t + den b t := by
  simp only [denSum, Int.add_zero]

theorem denSum_neg (ls : List (List Seg)) (t : Int) (ht : t < 0) : denSum ls t = 0 := by
  induction ls with
  | nil => rfl
  | cons l ls ih => simp [denSum, den_neg l t ht, ih]

theorem den_eq_sumLe (l : List Seg) (hnn : NonNeg l) (t : Int) : den l t = sumLe t (edgesOf 0 l) := by
  by_cases ht : t < 0
  · rw [den_neg l t ht, sumLe_of_all_gt t _ fun e he => by have := (edgesOf_time_bounds l hnn 0 e he).1; omega]
  · rw [edgesOf_sumLe l hnn 0 t (by omega), Int.sub_zero]

theorem denSum_eq_sumLe (ls : List (List Seg)) (h : AllNonNeg ls) (t : Int) : denSum ls t = sumLe t (rawEdges ls) := by
  induction ls with
  | nil => rfl
  | cons l ls ih => rw [denSum, rawEdges, sumLe_append, den_eq_sumLe l h.head, ih h.tail]

theorem sumEdges_den (drop : Int → Bool) (hd0 : drop 0 = true) (ls : List (List Seg))
    (h : AllNonNeg ls) (es : List Edge) (hp : es.Perm (rawEdges ls)) (hs : SortedT es) (t : Int) :
    den (sumEdges drop es) t =
      if drop (tailSum ls) = true ∧ 0 ≤ t ∧ (∀ e ∈ rawEdges ls, e.time ≤ t) then 0
      else denSum ls t := by
  rw [sumEdges_eq_emit drop es hd0]
  by_cases ht : t < 0
  · rw [den_neg _ _ ht, denSum_neg ls t ht]
    simp
  · have ht0 : 0 ≤ t := by omega
    have hge : ∀ e ∈ es, (0 : Int) ≤ e.time := fun e he => rawEdges_time_ge ls h e (hp.subset he)
    -- exact arithmetic: the fold of the deltas up to `t` is their sum
    have := emitWith_den (· + ·) drop es 0 0 t hs hge ht0
    rw [Int.sub_zero, foldl_add_eq, foldl_add_eq, Int.zero_add, Int.zero_add] at this
    rw [emit_eq_emitWith, this]
    show (if (∀ e ∈ es, e.time ≤ t) ∧ drop (sumAll es) = true then 0 else sumLe t es) = _
    rw [sumAll_perm hp, sumLe_perm t hp, rawEdges_sumAll, ← denSum_eq_sumLe ls h t]
    have hall : (∀ e ∈ es, e.time ≤ t) ↔ (∀ e ∈ rawEdges ls, e.time ≤ t) :=
      ⟨fun hh e he => hh e (hp.symm.subset he), fun hh e he => hh e (hp.subset he)⟩
    simp only [hall, ht0, true_and, and_comm]

theorem tailMag_of_finite (l : List Seg) (h : (duration l).2 = false) : tailMag l = 0 := by
  unfold duration at h
  induction l with
  | nil => rfl
  | cons s rest ih =>
    cases hs : s.len with
    | none => simp [durationLoop, hs] at h
    | some len =>
      simp only [durationLoop, hs] at h
      rw [durationLoop_shift] at h
      simp only [tailMag, hs]
      exact ih h

theorem tailSum_of_not_anyInfinite (ls : List (List Seg)) (h : anyInfinite ls = false) : tailSum ls = 0 := by
  induction ls with
  | nil => rfl
  | cons l ls ih =>
    simp only [anyInfinite, List.any_cons, Bool.or_eq_false_iff] at h
    simp only [tailSum, tailMag_of_finite l h.1]
    have := ih (by simpa [anyInfinite] using h.2)
    omega

theorem sumEdges_den_full (ls : List (List Seg)) (h : AllNonNeg ls) (es : List Edge)
    (hp : es.Perm (rawEdges ls)) (hs : SortedT es) (t : Int) :
    den (sumEdges (dropRule (anyInfinite ls)) es) t = denSum ls t := by
  rw [sumEdges_den (dropRule (anyInfinite ls)) (by simp [dropRule]) ls h es hp hs t]
  split
  · rename_i hc
    obtain ⟨hdrop, ht0, hall⟩ := hc
    -- from the last edge on, the pointwise sum is the value "at infinity", which the rule says is 0
    rw [denSum_eq_sumLe ls h t, sumLe_of_all_le t _ hall, rawEdges_sumAll]
    simp only [dropRule, Bool.or_eq_true, decide_eq_true_eq, Bool.not_eq_true'] at hdrop
    rcases hdrop with h0 | hinf
    · exact h0.symm
    · exact (tailSum_of_not_anyInfinite ls hinf).symm
  · rfl

theorem emit_congr (drop : Int → Bool) (e : Edge) (a b : List Edge)
    (h : ∀ mag lt, emit drop mag lt a = emit drop mag lt b)
    (mag lt : Int) : emit drop mag lt (e :: a) = emit drop mag lt (e :: b) := by
  simp only [emit, h]

theorem emit_swap (drop : Int → Bool) (e1 e2 : Edge) (es : List Edge) (h : e1.time = e2.time)
    (mag lt : Int) : emit drop mag lt (e1 :: e2 :: es) = emit drop mag lt (e2 :: e1 :: es) := by
  simp only [emit, h]
  have c : mag + e1.delta + e2.delta = mag + e2.delta + e1.delta := by omega
  by_cases h0 : e2.time - lt = 0
  · simp [h0, c]
  · simp [h0, c]

theorem emit_move_front (drop : Int → Bool) (e : Edge) (pre post : List Edge)
    (h : ∀ x ∈ pre, x.time = e.time)
    (mag lt : Int) : emit drop mag lt (pre ++ e :: post) = emit drop mag lt (e :: (pre ++ post)) := by
  induction pre generalizing mag lt with
  | nil => rfl
  | cons x xs ih =>
    have hx := h x List.mem_cons_self
    have hxs : ∀ y ∈ xs, y.time = e.time := fun y hy => h y (List.mem_cons_of_mem _ hy)
    calc emit drop mag lt (x :: xs ++ e :: post)
        = emit drop mag lt (x :: (xs ++ e :: post)) := rfl
      _ = emit drop mag lt (x :: e :: (xs ++ post)) := emit_congr drop x _ _ (fun m l => ih hxs m l) mag lt
      _ = emit drop mag lt (e :: x :: (xs ++ post)) := emit_swap drop x e _ hx mag lt

theorem emit_order_irrelevant (drop : Int → Bool) (a b : List Edge) (hp : a.Perm b) (ha : SortedT a)
    (hb : SortedT b) (mag lt : Int) : emit drop mag lt a = emit drop mag lt b := by
  -- the head `e` of `a` occurs in `b` behind a prefix of edges with the same time; bubble it to the front
  induction a generalizing b mag lt with
  | nil => rw [List.Perm.eq_nil hp.symm]
  | cons e rest ih =>
    have hmem : e ∈ b := hp.subset List.mem_cons_self
    obtain ⟨pre, post, rfl⟩ := List.append_of_mem hmem
    rw [sortedT_cons] at ha
    have hb' := List.pairwise_append.mp hb
    have hpre : ∀ x ∈ pre, x.time = e.time := by
      intro x hx
      have h1 : x.time ≤ e.time := hb'.2.2 x hx e List.mem_cons_self
      have hxa : x ∈ e :: rest := hp.symm.subset (List.mem_append_left _ hx)
      rcases List.mem_cons.mp hxa with rfl | hxr
      · rfl
      · have := ha.1 x hxr; omega
    have hp' : rest.Perm (pre ++ post) :=
      List.Perm.cons_inv (hp.trans List.perm_middle)
    have hsorted : SortedT (pre ++ post) := by
      unfold SortedT
      rw [List.pairwise_append]
      refine ⟨hb'.1, (List.pairwise_cons.mp hb'.2.1).2, fun x hx y hy => ?_⟩
      exact hb'.2.2 x hx y (List.mem_cons_of_mem _ hy)
    rw [emit_move_front drop e pre post hpre mag lt]
    exact emit_congr drop e _ _ (fun m l => ih (pre ++ post) hp' ha.2 hsorted m l) mag lt

theorem sumEdges_order_irrelevant (drop : Int → Bool) (a b : List Edge) (hp : a.Perm b)
    (ha : SortedT a) (hb : SortedT b) : sumEdges drop a = sumEdges drop b := by
  cases a with
  | nil => rw [List.Perm.eq_nil hp.symm]
  | cons x xs =>
    cases b with
    | nil => exact absurd (List.Perm.eq_nil hp) (by simp)
    | cons y ys => exact emit_order_irrelevant drop _ _ hp ha hb 0 0

end ScVerif.C18
