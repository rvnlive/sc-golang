import ScVerif.C18.Seg
/-
C18 — model of `pkg/trait/electricpb/modepb`: `ActiveAt`, `MagnitudeAt`,
`MaxSegmentAfter`, `Cut`, `Shift`, `Sum`, `MinAt`.

A mode is `(optional start time, segments)`; the other `ElectricMode` fields (id, title, voltage,
normal…) are carried along unchanged by `proto.Clone` in `Cut`/`Shift` and left unset by `Sum`, and
do not influence any time or magnitude, so they are not modelled here (ShapeOps.lean carries them as one
token).  Instants (`time.Time`) are integer nanoseconds on one absolute timeline; `t.Sub(st)` is integer
subtraction here — `Mode64.lean` repeats the operations with the SATURATING `time.Time.Sub` and 64-bit durations (what the driver runs;
the harness also places instants more than 2^63 ns apart) and `PropsSat` relates the two.
`modepb.Sum` finds the earliest/latest start time with "the first start time seen seeds both
bounds" (`stCount == 1 ||`, after `fix:` 7872cfb): `Option` in `startsLoop`.  Before that commit the code
tested `earliest.IsZero()` / `latest.IsZero()` for "not set yet", which misreads a start time AT the zero
`time.Time`: `startsLoopLegacy`/`modeSumLegacy` keep that version (parameter `zero` = the instant of the
zero `time.Time`), see `PropsMode.C18_modes_sum_legacy_fails`.  The harness places model time 0 on an
ordinary instant, on the zero `time.Time` and on the Unix epoch.
-/
namespace ScVerif.C18

structure Mode where
  start : Option Int
  segs : List Seg
deriving Repr, DecidableEq

/-- `tOrST(t, m)`: `t` if the mode has no start time, else the start time. -/
def tOrST (t : Int) (m : Mode) : Int :=
  match m.start with
  | none => t
  | some s => s

/-- `modepb.ActiveAt(t, mode)`. -/
def modeActiveAt (t : Int) (m : Mode) : Int × Nat := activeAt (t - tOrST t m) m.segs

/-- `modepb.MagnitudeAt(t, mode)`. -/
def modeMagnitudeAt (t : Int) (m : Mode) : Int × Bool := magnitudeAt (t - tOrST t m) m.segs

/-- `modepb.MaxSegmentAfter(t, mode)`. -/
def modeMaxSegmentAfter (t : Int) (m : Mode) : Nat := maxAfter (t - tOrST t m) m.segs

structure ModeCutResult where
  before : Option Mode
  after : Option Mode
  outside : Bool
deriving Repr, DecidableEq

/-- `modepb.Cut(t, mode)`.  The `none` arm of the index lookup is the Go index-out-of-range panic;
`ModeLemmas.modeCut_index_valid` shows it is never reached. -/
def modeCut (t : Int) (m : Mode) : ModeCutResult :=
  if m.segs.length = 0 then ⟨some m, some m, true⟩
  else
    let st := tOrST t m
    if ¬ (t > st) then ⟨none, some m, decide (t < st)⟩
    else
      let d := t - st
      let ei := activeAt d m.segs
      if ei.2 = m.segs.length then ⟨some m, none, true⟩
      else
        match m.segs[ei.2]? with
        | none => ⟨none, none, true⟩
        | some s =>
          let c := cutSeg (d - ei.1) s
          let before : Mode :=
            match c.before with
            | none => ⟨m.start, m.segs.take ei.2⟩
            | some sb => ⟨m.start, m.segs.take ei.2 ++ [sb]⟩
          let after : Mode :=
            match c.after with
            | none => ⟨some t, m.segs.drop (ei.2 + 1)⟩
            | some sa => ⟨some t, sa :: m.segs.drop (ei.2 + 1)⟩
          ⟨some before, some after, false⟩

/-- `modepb.Shift(d, mode)`. -/
def modeShift (d : Int) (m : Mode) : Mode :=
  if d = 0 then m
  else
    match m.start with
    | none => ⟨none, shift d m.segs⟩
    | some s => ⟨some (s + d), m.segs⟩

/-- First loop of `modepb.Sum`: earliest and latest start time (`none` = Go zero `time.Time`). -/
def startsLoop : Option Int → Option Int → List Mode → Option Int × Option Int
  | earliest, latest, [] => (earliest, latest)
  | earliest, latest, m :: ms =>
    match m.start with
    | none => startsLoop earliest latest ms
    | some st =>
      let earliest' := match earliest with
        | none => some st
        | some e => if st < e then some st else some e
      let latest' := match latest with
        | none => some st
        | some l => if st > l then some st else some l
      startsLoop earliest' latest' ms

/-- Second loop of `modepb.Sum`: align every segment list to `earliest`. -/
def alignLoop (earliest latest : Int) : List Mode → List (List Seg)
  | [] => []
  | m :: ms =>
    let st := m.start.getD latest
    shift (st - earliest) m.segs :: alignLoop earliest latest ms

/-- `modepb.Sum(modes...)`; `none` is the Go `nil` result for no modes. -/
def modeSum (ms : List Mode) : Option Mode :=
  match ms with
  | [] => none
  | _ =>
    match startsLoop none none ms with
    | (some earliest, some latest) =>
      some ⟨some earliest, sum (alignLoop earliest latest ms)⟩
    | _ => some ⟨none, sum (ms.map (·.segs))⟩

/-- First loop of `modepb.Sum` as it was BEFORE `fix:` 7872cfb: `earliest`, `latest` are Go `time.Time`
variables that start at the zero value, "not set yet" is `IsZero()`, `stCount` counts the start times;
`zero` is the instant of the zero `time.Time` on the model's timeline. -/
def startsLoopLegacy (zero : Int) : Int → Int → Nat → List Mode → Int × Int × Nat
  | e, l, n, [] => (e, l, n)
  | e, l, n, m :: ms =>
    match m.start with
    | none => startsLoopLegacy zero e l n ms
    | some st =>
      let e' := if e = zero ∨ st < e then st else e
      let l' := if l = zero ∨ st > l then st else l
      startsLoopLegacy zero e' l' (n + 1) ms

/-- `modepb.Sum` before `fix:` 7872cfb (`anyHaveST := stCount > 0`). -/
def modeSumLegacy (zero : Int) (ms : List Mode) : Option Mode :=
  match ms with
  | [] => none
  | _ =>
    let r := startsLoopLegacy zero zero zero 0 ms
    if r.2.2 > 0 then some ⟨some r.1, sum (alignLoop r.1 r.2.1 ms)⟩
    else some ⟨none, sum (ms.map (·.segs))⟩

/-- The loop of `modepb.MinAt(t, modes)`: `modes` is a Go map, so the loop visits the modes in an
unspecified order; `ms` is the list of modes IN THE ORDER THE ITERATION DELIVERS THEM, the state is the
current `(mode, magnitude)` (`none` = the Go `mode == nil`), `i` the position of the head of the list. -/
def minAtLoop (t : Int) : Option (Nat × Int) → Nat → List Mode → Option (Nat × Int)
  | cur, _, [] => cur
  | cur, i, m :: ms =>
    let mag := (modeMagnitudeAt t m).1
    match cur with
    | none => minAtLoop t (some (i, mag)) (i + 1) ms
    | some (j, g) =>
      if mag < g then minAtLoop t (some (i, mag)) (i + 1) ms
      else minAtLoop t (some (j, g)) (i + 1) ms

/-- `modepb.MinAt`: position (in iteration order) of the returned mode and the returned magnitude;
`none` is the Go `(nil, 0)` for an empty map. -/
def modeMinAt (t : Int) (ms : List Mode) : Option (Nat × Int) := minAtLoop t none 0 ms

/-! ## Specification: a mode as a step function on the absolute timeline -/

/-- The magnitude of mode `m` at instant `x`, for a mode that has a start time; a mode without a
start time has no position on the absolute timeline (each operation documents what it assumes),
so `ref` says where such a mode is taken to start. -/
def modeDen (ref : Int) (m : Mode) (x : Int) : Int := den m.segs (x - (m.start.getD ref))

def modeDenOpt (ref : Int) : Option Mode → Int → Int
  | none, _ => 0
  | some m, x => modeDen ref m x

end ScVerif.C18
