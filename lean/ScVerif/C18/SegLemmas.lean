import ScVerif.C18.Seg
/-! The step function of a segment list: `den` and `covered` are two readings of `segAt`, the segment active at an
instant.  Facts about WHERE an instant falls are stated on `segAt` (`segAt_here`, `segAt_next`); facts about an operation
that rebuilds segments are stated on `den` and walk it with `den_cons_none` / `den_cons_some`. -/
namespace ScVerif.C18

theorem den_nil (t : Int) : den [] t = 0 := rfl

theorem den_neg (segs : List Seg) (t : Int) (h : t < 0) : den segs t = 0 := by
  cases segs with
  | nil => rfl
  | cons s rest => simp [den, h]

theorem covered_neg (segs : List Seg) (t : Int) (h : t < 0) : covered segs t = false := by
  cases segs with
  | nil => rfl
  | cons s rest => simp [covered, h]

theorem den_cons_none (s : Seg) (rest : List Seg) (t : Int) (hs : s.len = none) (ht : 0 ≤ t) :
    den (s :: rest) t = s.mag := by
  have : ¬ t < 0 := by omega
  simp [den, hs, this]

theorem den_cons_some (s : Seg) (rest : List Seg) (t l : Int) (hs : s.len = some l) (ht : 0 ≤ t) :
    den (s :: rest) t = if t < l then s.mag else den rest (t - l) := by
  have : ¬ t < 0 := by omega
  simp [den, hs, this]

theorem covered_cons_none (s : Seg) (rest : List Seg) (t : Int) (hs : s.len = none) (ht : 0 ≤ t) :
    covered (s :: rest) t = true := by
  have : ¬ t < 0 := by omega
  simp [covered, hs, this]

theorem covered_cons_some (s : Seg) (rest : List Seg) (t l : Int) (hs : s.len = some l) (ht : 0 ≤ t) :
    covered (s :: rest) t = if t < l then true else covered rest (t - l) := by
  have : ¬ t < 0 := by omega
  simp [covered, hs, this]

/-- `t` lies before the end of `s` laid out from 0, if it has one. -/
def Seg.Within (s : Seg) (t : Int) : Prop := ∀ l, s.len = some l → t < l

theorem Seg.Within.not_le {s : Seg} {t l : Int} (h : s.Within t) (hl : s.len = some l) : ¬ l ≤ t :=
  fun hle => absurd (h l hl) (by omega)

/-- The segment that is active at `t`: the recursion of `den` and `covered`, returning the segment itself. -/
def segAt : List Seg → Int → Option Seg
  | [], _ => none
  | s :: rest, t =>
    if t < 0 then none
    else
      match s.len with
      | none => some s
      | some l => if t < l then some s else segAt rest (t - l)

theorem den_eq_segAt (segs : List Seg) (t : Int) :
    den segs t = match segAt segs t with | none => 0 | some s => s.mag := by
  induction segs generalizing t with
  | nil => rfl
  | cons s rest ih =>
    simp only [den, segAt]
    split
    · rfl
    · cases s.len with
      | none => rfl
      | some l => simp only []; split; rfl; exact ih _

theorem covered_eq_segAt (segs : List Seg) (t : Int) : covered segs t = (segAt segs t).isSome := by
  induction segs generalizing t with
  | nil => rfl
  | cons s rest ih =>
    simp only [covered, segAt]
    split
    · rfl
    · cases s.len with
      | none => rfl
      | some l => simp only []; split; rfl; exact ih _

theorem den_covered_of_segAt {a b : List Seg} {t u : Int} (h : segAt a t = segAt b u) :
    den a t = den b u ∧ covered a t = covered b u := by
  rw [den_eq_segAt, den_eq_segAt, covered_eq_segAt, covered_eq_segAt, h]
  exact ⟨rfl, rfl⟩

theorem den_covered_of_segAt_some {segs : List Seg} {t : Int} {s : Seg} (h : segAt segs t = some s) :
    den segs t = s.mag ∧ covered segs t = true := by
  rw [den_eq_segAt, covered_eq_segAt, h]
  exact ⟨rfl, rfl⟩

theorem exists_segAt_of_covered {segs : List Seg} {t : Int} (h : covered segs t = true) :
    ∃ s, segAt segs t = some s := by
  rw [covered_eq_segAt] at h
  exact Option.isSome_iff_exists.mp h

theorem segAt_neg (segs : List Seg) {t : Int} (h : t < 0) : segAt segs t = none := by
  cases segs with
  | nil => rfl
  | cons s rest => simp [segAt, h]

theorem segAt_here (s : Seg) (rest : List Seg) {t : Int} (ht : 0 ≤ t) (hw : s.Within t) :
    segAt (s :: rest) t = some s := by
  have hn : ¬ t < 0 := by omega
  cases hs : s.len with
  | none => simp [segAt, hn, hs]
  | some l => simp [segAt, hn, hs, hw l hs]

theorem segAt_next (s : Seg) (rest : List Seg) {t l : Int} (ht : 0 ≤ t) (hs : s.len = some l) (hl : l ≤ t) :
    segAt (s :: rest) t = segAt rest (t - l) := by
  have hn : ¬ t < 0 := by omega
  have hnl : ¬ t < l := by omega
  simp [segAt, hn, hs, hnl]

theorem segAt_cons (s : Seg) (rest : List Seg) {t : Int} (ht : 0 ≤ t) :
    (s.Within t ∧ segAt (s :: rest) t = some s) ∨
    (∃ l, s.len = some l ∧ l ≤ t ∧ segAt (s :: rest) t = segAt rest (t - l)) := by
  cases hs : s.len with
  | none =>
    have hw : s.Within t := fun l hl => (nomatch hs ▸ hl)
    exact .inl ⟨hw, segAt_here s rest ht hw⟩
  | some l =>
    by_cases h : t < l
    · have hw : s.Within t := fun l' hl' => Option.some.inj (hs ▸ hl') ▸ h
      exact .inl ⟨hw, segAt_here s rest ht hw⟩
    · exact .inr ⟨l, rfl, by omega, segAt_next s rest ht hs (by omega)⟩

theorem segAt_mem_counts {segs : List Seg} {t : Int} {s : Seg} (h : segAt segs t = some s) :
    s ∈ segs ∧ counts s = true := by
  induction segs generalizing t with
  | nil => cases h
  | cons x rest ih =>
    by_cases ht : t < 0
    · rw [segAt_neg _ ht] at h; cases h
    · rcases segAt_cons x rest (Int.not_lt.mp ht) with ⟨hw, e⟩ | ⟨l, hl, hle, e⟩ <;> rw [e] at h
      · cases h
        refine ⟨List.mem_cons_self, ?_⟩
        unfold counts
        cases hs : s.len with
        | none => rfl
        | some l => have := hw l hs; exact decide_eq_true (by omega)
      · exact ⟨List.mem_cons_of_mem _ (ih h).1, (ih h).2⟩

theorem den_of_not_covered (segs : List Seg) (t : Int) (h : covered segs t = false) :
    den segs t = 0 := by
  rw [covered_eq_segAt] at h
  rw [den_eq_segAt]
  cases hs : segAt segs t with
  | none => rfl
  | some s => rw [hs] at h; cases h

theorem NonNeg.tail {s : Seg} {rest : List Seg} (h : NonNeg (s :: rest)) : NonNeg rest :=
  fun x hx l hl => h x (List.mem_cons_of_mem _ hx) l hl

theorem NonNeg.head {s : Seg} {rest : List Seg} (h : NonNeg (s :: rest)) (l : Int)
    (hl : s.len = some l) : 0 ≤ l := h s (List.mem_cons_self) l hl

theorem nonNeg_of_all (segs : List Seg)
    (h : segs.all (fun s => match s.len with | none => true | some l => decide (0 ≤ l)) = true) :
    NonNeg segs := by
  intro s hs l hl
  have := List.all_eq_true.mp h s hs
  simp only [hl, decide_eq_true_eq] at this
  exact this

theorem activeAtLoop_shift (d : Int) (segs : List Seg) (cur : Int) (i : Nat) :
    activeAtLoop d cur i segs =
      (cur + (activeAtLoop (d - cur) 0 0 segs).1, i + (activeAtLoop (d - cur) 0 0 segs).2) := by
  induction segs generalizing cur i d with
  | nil => simp [activeAtLoop]
  | cons s rest ih =>
    cases hs : s.len with
    | none => simp [activeAtLoop, hs]
    | some l =>
      simp only [activeAtLoop, hs]
      by_cases h : cur + l > d
      · have h' : 0 + l > d - cur := by omega
        simp only [h, h', if_true]
        simp
      · have h' : ¬ (0 + l > d - cur) := by omega
        simp only [h, h', if_false]
        rw [ih d (cur + l) (i + 1), ih (d - cur) (0 + l) (0 + 1)]
        have e : d - cur - (0 + l) = d - (cur + l) := by omega
        rw [e]
        refine Prod.ext ?_ ?_ <;> simp <;> omega

theorem activeAtLoop_nil (d : Int) : activeAtLoop d 0 0 [] = (0, 0) := rfl

theorem activeAtLoop_cons_none (d : Int) (s : Seg) (rest : List Seg) (hs : s.len = none) :
    activeAtLoop d 0 0 (s :: rest) = (0, 0) := by
  simp [activeAtLoop, hs]

theorem activeAtLoop_cons_some (d : Int) (s : Seg) (rest : List Seg) (l : Int) (hs : s.len = some l) :
    activeAtLoop d 0 0 (s :: rest) =
      if l > d then (0, 0)
      else (l + (activeAtLoop (d - l) 0 0 rest).1, (activeAtLoop (d - l) 0 0 rest).2 + 1) := by
  simp only [activeAtLoop, hs]
  by_cases h : l > d
  · simp [h]
  · have : ¬ (0 + l > d) := by omega
    simp only [h, this, if_false]
    rw [activeAtLoop_shift d rest (0 + l) (0 + 1)]
    have e : d - (0 + l) = d - l := by omega
    rw [e]
    refine Prod.ext ?_ ?_ <;> simp <;> omega

theorem activeAtLoop_cons (s : Seg) (rest : List Seg) (d : Int) :
    (s.Within d ∧ activeAtLoop d 0 0 (s :: rest) = (0, 0)) ∨
    (∃ l, s.len = some l ∧ l ≤ d ∧ activeAtLoop d 0 0 (s :: rest) =
      (l + (activeAtLoop (d - l) 0 0 rest).1, (activeAtLoop (d - l) 0 0 rest).2 + 1)) := by
  cases hs : s.len with
  | none => exact .inl ⟨fun l hl => (nomatch hs ▸ hl), activeAtLoop_cons_none d s rest hs⟩
  | some l =>
    rw [activeAtLoop_cons_some d s rest l hs]
    by_cases h : l > d
    · exact .inl ⟨fun l' hl' => Option.some.inj (hs ▸ hl') ▸ h, if_pos h⟩
    · exact .inr ⟨l, rfl, by omega, if_neg h⟩

/-- Total of the present lengths: where a list of segments with lengths ends. -/
def lenSum : List Seg → Int
  | [] => 0
  | s :: rest => (s.len.getD 0) + lenSum rest

theorem lenSum_nonneg (pre : List Seg) (h : NonNeg pre) : 0 ≤ lenSum pre := by
  induction pre with
  | nil => simp [lenSum]
  | cons s pre ih =>
    simp only [lenSum]
    have := ih h.tail
    cases hs : s.len with
    | none => simp; omega
    | some l => have := h.head l hs; simp; omega

theorem lenSum_cons_some (s : Seg) (rest : List Seg) (l : Int) (hs : s.len = some l) :
    lenSum (s :: rest) = l + lenSum rest := by simp [lenSum, hs]

theorem activeAtLoop_spec (segs : List Seg) (d : Int) (hd : 0 ≤ d) :
    let r := activeAtLoop d 0 0 segs
    r.1 = lenSum (segs.take r.2) ∧ r.1 ≤ d ∧ r.2 ≤ segs.length ∧ segs[r.2]? = segAt segs d ∧
    (∀ s, segs[r.2]? = some s → s.Within (d - r.1)) ∧ (∀ s ∈ segs.take r.2, s.len ≠ none) := by
  induction segs generalizing d with
  | nil => exact ⟨rfl, hd, Nat.le_refl _, rfl, fun _ h => (by cases h), fun _ h => (by cases h)⟩
  | cons s rest ih =>
    rcases activeAtLoop_cons s rest d with ⟨hw, hact⟩ | ⟨l, hl, hle, hact⟩ <;> rw [hact]
    · exact ⟨rfl, hd, Nat.zero_le _, (segAt_here s rest hd hw).symm,
        fun s' h' => (by cases h'; simpa using hw), fun _ h => (by cases h)⟩
    · obtain ⟨h1, h2, h3, h4, h5, h6⟩ := ih (d - l) (by omega)
      refine ⟨?_, by omega, Nat.succ_le_succ h3, h4.trans (segAt_next s rest hd hl hle).symm,
        fun s' h' l0 hl0 => ?_, fun x hx => ?_⟩
      · rw [List.take_succ_cons, lenSum_cons_some s _ l hl, ← h1]
      · have := h5 s' h' l0 hl0; omega
      · rcases List.mem_cons.mp hx with rfl | hx
        · rw [hl]; exact Option.some_ne_none l
        · exact h6 x hx

theorem magnitudeAt_eq (d : Int) (segs : List Seg) :
    magnitudeAt d segs = (den segs d, covered segs d) := by
  rw [den_eq_segAt, covered_eq_segAt]
  unfold magnitudeAt activeAt
  by_cases hd : d < 0
  · simp [hd, segAt_neg segs hd]
  · rw [if_neg hd, if_neg hd, (activeAtLoop_spec segs d (by omega)).2.2.2.1]
    cases segAt segs d <;> rfl

theorem durationLoop_shift (segs : List Seg) (total : Int) :
    durationLoop total segs = (total + (durationLoop 0 segs).1, (durationLoop 0 segs).2) := by
  induction segs generalizing total with
  | nil => simp [durationLoop]
  | cons s rest ih =>
    cases hs : s.len with
    | none => simp [durationLoop, hs]
    | some l =>
      simp only [durationLoop, hs]
      rw [ih (total + l), ih (0 + l)]
      refine Prod.ext ?_ ?_ <;> simp <;> omega

theorem duration_nonneg (segs : List Seg) (h : NonNeg segs) : 0 ≤ (durationLoop 0 segs).1 := by
  induction segs with
  | nil => simp [durationLoop]
  | cons s rest ih =>
    cases hs : s.len with
    | none => simp [durationLoop, hs]
    | some l =>
      simp only [durationLoop, hs]
      rw [durationLoop_shift rest (0 + l)]
      have := ih h.tail
      have := h.head l hs
      simp
      omega

theorem activeAt_of_neg {d : Int} (hd : d < 0) (segs : List Seg) : activeAt d segs = (d, 0) :=
  if_pos hd

theorem activeAt_of_nonneg {d : Int} (hd : 0 ≤ d) (segs : List Seg) :
    activeAt d segs = activeAtLoop d 0 0 segs :=
  if_neg (by omega)

theorem NonNeg.take {segs : List Seg} (h : NonNeg segs) (i : Nat) : NonNeg (segs.take i) :=
  fun s hs l hl => h s (List.mem_of_mem_take hs) l hl

theorem nonNeg_cons {s : Seg} {rest : List Seg} (hs : ∀ l, s.len = some l → 0 ≤ l) (hr : NonNeg rest) :
    NonNeg (s :: rest) := fun x hx => by
  rcases List.mem_cons.mp hx with rfl | hx
  · exact hs
  · exact hr x hx

theorem nonNeg_drop (segs : List Seg) (n : Nat) (h : NonNeg segs) : NonNeg (segs.drop n) :=
  fun s hs => h s (List.mem_of_mem_drop hs)

theorem nonNeg_append (a b : List Seg) (ha : NonNeg a) (hb : NonNeg b) : NonNeg (a ++ b) := by
  intro s hs
  rcases List.mem_append.mp hs with h | h
  · exact ha s h
  · exact hb s h

theorem segAt_append (pre rest : List Seg) (hfin : ∀ s ∈ pre, s.len ≠ none) (hnn : NonNeg pre) (y : Int) :
    segAt (pre ++ rest) y = if y < lenSum pre then segAt pre y else segAt rest (y - lenSum pre) := by
  induction pre generalizing y with
  | nil =>
    by_cases hy : y < 0
    · simp [lenSum, hy, segAt_neg _ hy]
    · simp [lenSum, hy]
  | cons s pre ih =>
    have hp := lenSum_nonneg pre hnn.tail
    cases hs : s.len with
    | none => exact absurd hs (hfin s List.mem_cons_self)
    | some l =>
      have hl := hnn.head l hs
      rw [List.cons_append, lenSum_cons_some s pre l hs]
      by_cases hy : y < 0
      · rw [segAt_neg _ hy, if_pos (by omega), segAt_neg _ hy]
      · have hy0 : 0 ≤ y := by omega
        by_cases h1 : y < l
        · have hw : s.Within y := fun l' hl' => Option.some.inj (hs ▸ hl') ▸ h1
          rw [segAt_here s (pre ++ rest) hy0 hw, if_pos (by omega), segAt_here s pre hy0 hw]
        · rw [segAt_next s (pre ++ rest) hy0 hs (by omega), segAt_next s pre hy0 hs (by omega),
            ih (fun x hx => hfin x (List.mem_cons_of_mem _ hx)) hnn.tail]
          by_cases h2 : y - l < lenSum pre
          · rw [if_pos h2, if_pos (by omega)]
          · rw [if_neg h2, if_neg (by omega)]
            congr 1
            omega

theorem den_append (pre rest : List Seg) (hfin : ∀ s ∈ pre, s.len ≠ none) (hnn : NonNeg pre) (y : Int) :
    den (pre ++ rest) y = if y < lenSum pre then den pre y else den rest (y - lenSum pre) := by
  rw [den_eq_segAt, segAt_append pre rest hfin hnn]
  by_cases h : y < lenSum pre
  · rw [if_pos h, if_pos h, den_eq_segAt]
  · rw [if_neg h, if_neg h, den_eq_segAt]

theorem den_finite_after (pre : List Seg) (hfin : ∀ s ∈ pre, s.len ≠ none) (hnn : NonNeg pre) (y : Int)
    (hy : lenSum pre ≤ y) : den pre y = 0 := by
  have := den_append pre [] hfin hnn y
  rwa [List.append_nil, if_neg (by omega)] at this

theorem segAt_drop (segs : List Seg) (i : Nat) (h : NonNeg segs) (hp : ∀ s ∈ segs.take i, s.len ≠ none)
    (t : Int) (ht : lenSum (segs.take i) ≤ t) :
    segAt segs t = segAt (segs.drop i) (t - lenSum (segs.take i)) := by
  have := segAt_append (segs.take i) (segs.drop i) hp (h.take i) t
  rwa [List.take_append_drop, if_neg (by omega)] at this

end ScVerif.C18
