import ScVerif.C18.HeapTrace
/-!
# C18 — property theorems: "…and never modify their arguments" — not even for a moment

PropsHeap compares the heap before a call with the heap after it.  Here the clause is stated for every
INTERMEDIATE heap of the operations that write at all (HeapTrace.lean; `segmentpb.Shift` in HeapTraceShift.lean):
after each statement of `modepb.Shift` (the mode object is a heap cell of its own), of `modepb.Cut`, of
`segmentpb.Shift` and of `modepb.Sum`, and after any number of iterations of the loop of `segmentpb.Sum`, every
cell, backing array and mode object that existed before the call reads the same.  `C18_transient_write_*`: the variant of `modepb.Shift` that detaches `mode.Segments` from
its ARGUMENT while it copies the rest and puts it back afterwards ends in the same heap and the same result as
the code — a before/after comparison cannot tell them apart — but passes through a heap in which the caller's
mode has no segments; `C18_shift_without_clone_writes_argument`: `segmentpb.Shift` without its `proto.Clone` stores
into the caller's cell.  On the real code the clause is decided by running every operation on arguments that lie
in read-only pages (any store faults), harness watch.go.
-/
namespace ScVerif.C18

/-- After every statement of `modepb.Shift` — for any heap, any mode object, any `d`, start time present or
not — every pre-existing segment cell, backing array and mode object (the argument among them) is unchanged. -/
theorem C18_args_never_written_modeShift (h : HeapM) (d : Int) (p : Nat) :
    ∀ hi ∈ (modeShiftTrace false h d p).1,
      (∀ a, a < h.base.cells.length → hi.base.cells[a]? = h.base.cells[a]?) ∧
      (∀ i, i < h.base.arrays.length → hi.base.arrays[i]? = h.base.arrays[i]?) ∧
      (∀ q, q < h.modes.length → hi.modes[q]? = h.modes[q]?) :=
  fun hi hmem => (modeShiftTrace_extends h d p hi hmem).pointwise

/-- The clause as a concurrent reader experiences it: whatever it computes from the argument of a running
`modepb.Shift` (start time and segment values read through the pointer, the slice header, the backing array and
the cells — hence `MagnitudeAt`, `ActiveAt`, a `Sum` with other modes, …), it computes from the same mode at
every moment of the call. -/
theorem C18_concurrent_reader_modeShift (h : HeapM) (d : Int) (p : Nat) (v : ValidMode h p) :
    ∀ hi ∈ (modeShiftTrace false h d p).1, observe hi p = observe h p :=
  fun hi hmem => observe_extends (modeShiftTrace_extends h d p hi hmem) p v

/-- After every statement of `modepb.Cut` (two clones, the cut of the active segment, the two assignments into
the clones' arrays) every pre-existing cell and backing array is unchanged; the last heap of the trace is the
heap `C18_args_unchanged` speaks about. -/
theorem C18_args_never_written_modeCut (h : Heap) (t : Int) (m : HeapMode) :
    (∀ hi ∈ modeCutTrace h t m,
      (∀ a, a < h.cells.length → hi.cells[a]? = h.cells[a]?) ∧
      (∀ i, i < h.arrays.length → hi.arrays[i]? = h.arrays[i]?)) ∧
    (∀ hl, (modeCutTrace h t m).getLast? = some hl → hl = (heapModeCut h t m).1) :=
  ⟨fun hi hmem => (modeCutTrace_extends h t m hi hmem).pointwise, modeCutTrace_last h t m⟩

/-- The loop of `segmentpb.Sum`, stopped after ANY number `k` of edges: the heap is the initial heap plus cells
the loop appended itself (the in-place updates `result[len-1].Magnitude += …`, `lastResult.Length = …` never
reach a pre-existing cell, at no iteration). -/
theorem C18_args_never_written_sum (h : Heap) (cuts : List Edge) (k : Nat) :
    (∀ a, a < h.cells.length →
      ((cuts.take k).foldl heapStep ⟨h.cells, [], 0⟩).heap[a]? = h.cells[a]?) :=
  (heapLoop_prefix_extends h cuts k).pointwise.1

/-- The same for the other two writers: ANY segment list that existed before the call (`sl`: a slice of an
existing array pointing at existing cells — the argument, a list sharing cells with it, anything else) reads the
same values after each statement of `modepb.Cut` and after any number of iterations of the loop of
`segmentpb.Sum`. -/
theorem C18_concurrent_reader_segments (h : Heap) (sl : Slice) (ha : sl.arr < h.arrays.length)
    (hc : ∀ a ∈ readSlice h sl, a < h.cells.length) :
    (∀ (t : Int) (m : HeapMode), ∀ hi ∈ modeCutTrace h t m, readSegs hi sl = readSegs h sl) ∧
    (∀ (cuts : List Edge) (k : Nat),
      readSegs ⟨((cuts.take k).foldl heapStep ⟨h.cells, [], 0⟩).heap, h.arrays⟩ sl = readSegs h sl) :=
  ⟨fun t m hi hmem => readSegs_extends (modeCutTrace_extends h t m hi hmem) sl ha hc,
   fun cuts k => readSegs_extends (heapLoop_prefix_extends h cuts k) sl ha hc⟩

/-- Why "after" is not enough.  The variant that empties the argument's `Segments` around the copy: whenever
the argument has a start time and at least one segment and `d ≠ 0`, the heap after its first statement shows
the caller's mode object WITHOUT its segments — for every heap. -/
theorem C18_transient_write_visible_meanwhile (h : HeapM) (d s : Int) (p : Nat) (hd : d ≠ 0)
    (hp : p < h.modes.length) (hs : (readMode h p).start = some s) (hl : (readMode h p).segs.len ≠ 0) :
    ∃ hi ∈ (modeShiftTrace true h d p).1, (readMode hi p).segs.len = 0 ∧ readMode hi p ≠ readMode h p := by
  refine ⟨setMode h p (fun o => ⟨o.start, ⟨0, 0, 0⟩⟩), ?_, ?_⟩
  · unfold modeShiftTrace
    simp [hd, hs]
  · rw [readMode_setMode_same h p _ hp]
    refine ⟨rfl, ?_⟩
    intro heq
    apply hl
    rw [← heq]

/-- …and is invisible afterwards: on this heap (one mode object with start time 5 and segments `[1/2, 2/4]`)
the variant's final heap has the same pre-existing cells, arrays and mode objects as before the call, and the
result reads back exactly like the result of the code (start 8, same segments) — while its first intermediate
heap has the argument's segment list empty, and no intermediate heap of the code differs from the initial one on
the argument. -/
theorem C18_transient_write_invisible_after :
    let h : HeapM := ⟨⟨[⟨1, some 2⟩, ⟨2, some 4⟩], [[0, 1]]⟩, [⟨some 5, ⟨0, 0, 2⟩⟩]⟩
    let bad := modeShiftTrace true h 3 0
    let good := modeShiftTrace false h 3 0
    (bad.1.getLast?.map (fun e => (e.modes.take 1, e.base.cells.take 2, e.base.arrays.take 1)))
      = some (h.modes, h.base.cells, h.base.arrays) ∧
    (bad.1.getLast?.map (fun e => ((readMode e bad.2).start, readSegs e.base (readMode e bad.2).segs)))
      = (good.1.getLast?.map (fun e => ((readMode e good.2).start, readSegs e.base (readMode e good.2).segs))) ∧
    (good.1.getLast?.map (fun e => ((readMode e good.2).start, readSegs e.base (readMode e good.2).segs)))
      = some (some 8, [⟨1, some 2⟩, ⟨2, some 4⟩]) ∧
    bad.1.map (fun e => (readMode e 0).segs.len) = [0, 0, 2, 2, 2] ∧
    good.1.map (fun e => (readMode e 0).segs.len) = [2, 2] := by
  refine ⟨by decide, by decide, by decide, by decide, by decide⟩

/-! Non-vacuity: the traces are not empty on inputs that reach the writing branches, and the heap version of
`modepb.Shift` computes what the pure model computes (read back through the heap). -/
example :
    (let r := modeShiftTrace false ⟨⟨[⟨0, some 2⟩, ⟨2, some 2⟩], [[0, 1]]⟩, [⟨none, ⟨0, 0, 2⟩⟩]⟩ 3 0
     r.1.getLast?.map (fun e => ((readMode e r.2).start, readSegs e.base (readMode e r.2).segs)))
    = (let q := modeShift 3 ⟨none, [⟨0, some 2⟩, ⟨2, some 2⟩]⟩; some (q.start, q.segs)) := by decide
example :
    (modeShiftTrace false ⟨⟨[⟨0, some 2⟩, ⟨2, some 2⟩], [[0, 1]]⟩, [⟨none, ⟨0, 0, 2⟩⟩]⟩ 3 0).1.length = 3 := by decide
example : ValidMode ⟨⟨[⟨0, some 2⟩, ⟨2, some 2⟩], [[0, 1]]⟩, [⟨none, ⟨0, 0, 2⟩⟩]⟩ 0 := by
  refine ⟨by decide, by decide, ?_⟩
  intro a ha
  have : a = 0 ∨ a = 1 := by simpa [readSlice, readMode] using ha
  rcases this with rfl | rfl <;> decide
example :
    (let h : HeapM := ⟨⟨[⟨1, some 2⟩, ⟨2, some 4⟩], [[0, 1]]⟩, [⟨some 5, ⟨0, 0, 2⟩⟩]⟩
     (modeShiftTrace true h 3 0).1.map (fun e => observe e 0))
    = [(some 5, []), (some 5, []), (some 5, [⟨1, some 2⟩, ⟨2, some 4⟩]), (some 5, [⟨1, some 2⟩, ⟨2, some 4⟩]),
       (some 5, [⟨1, some 2⟩, ⟨2, some 4⟩])] := by decide
example :
    (modeCutTrace ⟨[⟨1, some 2⟩, ⟨2, some 4⟩, ⟨3, some 1⟩], [[0, 1, 2]]⟩ 5 ⟨some 2, ⟨0, 0, 3⟩⟩).length = 5 := by decide
example :
    ((([⟨1, 2⟩, ⟨3, -2⟩, ⟨4, 1⟩] : List Edge).take 2).foldl heapStep ⟨[⟨7, none⟩], [], 0⟩).heap
      = [⟨7, none⟩, ⟨0, some 1⟩, ⟨2, some 2⟩, ⟨0, none⟩] := by decide

/-- After every allocating or writing statement of `segmentpb.Shift`, for either sign of `d` — the clone of an idle
first segment, the store of its `Length` (into the clone), `make`, `out[0] = …`, `copy(out[1:], …)`, the allocations
of `Cut` — every pre-existing segment cell and backing array is unchanged; the last heap and the result slice are
those of `heapShift`, the model `C18_args_unchanged` speaks about. -/
theorem C18_args_never_written_shift (h : Heap) (d : Int) (sl : Slice) :
    (∀ hi ∈ (shiftTrace true h d sl).1,
      (∀ a, a < h.cells.length → hi.cells[a]? = h.cells[a]?) ∧
      (∀ i, i < h.arrays.length → hi.arrays[i]? = h.arrays[i]?)) ∧
    (shiftTrace true h d sl).2 = (heapShift h d sl).2 ∧
    (∀ hl, (shiftTrace true h d sl).1.getLast? = some hl → hl = (heapShift h d sl).1) :=
  ⟨fun hi hmem => (shiftTrace_extends h d sl hi hmem).pointwise, shiftTrace_last h d sl⟩

/-- The clause as a concurrent reader experiences it, for `segmentpb.Shift`: ANY segment list that existed
before the call (`sl'`: the argument, a list sharing cells or the backing array with it, anything else) reads
the same values at every moment of the call. -/
theorem C18_concurrent_reader_shift (h : Heap) (sl' : Slice) (ha : sl'.arr < h.arrays.length)
    (hc : ∀ a ∈ readSlice h sl', a < h.cells.length) (d : Int) (sl : Slice) :
    ∀ hi ∈ (shiftTrace true h d sl).1, readSegs hi sl' = readSegs h sl' :=
  fun hi hmem => readSegs_extends (shiftTrace_extends h d sl hi hmem) sl' ha hc

/-- Why the clone is there ("clone so we don't update the original").  Without it, whenever the list starts
with an existing idle segment of length `l` and `d > 0`, the heap after the `Length` store shows the CALLER's
first segment with length `l + d` — for every heap. -/
theorem C18_shift_without_clone_writes_argument (h : Heap) (d l : Int) (sl : Slice) (first : Nat)
    (rest : List Nat) (hd : d > 0) (hs : readSlice h sl = first :: rest) (hf : first < h.cells.length)
    (hcell : readCell h first = ⟨0, some l⟩) :
    ∃ hi ∈ (shiftTrace false h d sl).1,
      readCell hi first = ⟨0, some (l + d)⟩ ∧ readCell hi first ≠ readCell h first := by
  have hne : d ≠ 0 := by omega
  refine ⟨setCell h first (fun s => ⟨s.mag, some (l + d)⟩), ?_, ?_⟩
  · unfold shiftTrace
    simp [hne, hs, hd, hcell]
  · rw [readCell_setCell_same h first _ hf, hcell]
    refine ⟨rfl, ?_⟩
    intro heq
    injection heq with _ h2
    injection h2 with h3
    omega

/-! Non-vacuity: each writing branch has a trace, the heap version computes what the pure model computes, and
the variant without the clone is seen on a concrete heap (cell 0 changes under the caller's feet; with the clone
cell 0 is `0/2` in every heap). -/
example : ((shiftTrace true ⟨[⟨0, some 2⟩, ⟨2, some 2⟩], [[0, 1]]⟩ 3 ⟨0, 0, 2⟩).1.length,
           (shiftTrace true ⟨[⟨1, some 2⟩, ⟨2, some 2⟩], [[0, 1]]⟩ 3 ⟨0, 0, 2⟩).1.length,
           (shiftTrace true ⟨[⟨1, some 2⟩, ⟨2, some 2⟩], [[0, 1]]⟩ (-1) ⟨0, 0, 2⟩).1.length) = (5, 4, 4) := by decide
example :
    (let r := shiftTrace true ⟨[⟨0, some 2⟩, ⟨2, some 2⟩], [[0, 1]]⟩ 3 ⟨0, 0, 2⟩
     r.1.getLast?.map (fun e => readSegs e r.2)) = some (shift 3 [⟨0, some 2⟩, ⟨2, some 2⟩]) := by decide
example :
    (let r := shiftTrace true ⟨[⟨1, some 2⟩, ⟨2, some 2⟩], [[0, 1]]⟩ (-1) ⟨0, 0, 2⟩
     r.1.getLast?.map (fun e => readSegs e r.2)) = some (shift (-1) [⟨1, some 2⟩, ⟨2, some 2⟩]) := by decide
example :
    ((shiftTrace false ⟨[⟨0, some 2⟩, ⟨2, some 2⟩], [[0, 1]]⟩ 3 ⟨0, 0, 2⟩).1.map (fun e => readCell e 0),
     (shiftTrace true ⟨[⟨0, some 2⟩, ⟨2, some 2⟩], [[0, 1]]⟩ 3 ⟨0, 0, 2⟩).1.map (fun e => readCell e 0)) =
    ([⟨0, some 2⟩, ⟨0, some 5⟩, ⟨0, some 5⟩, ⟨0, some 5⟩, ⟨0, some 5⟩],
     [⟨0, some 2⟩, ⟨0, some 2⟩, ⟨0, some 2⟩, ⟨0, some 2⟩, ⟨0, some 2⟩]) := by decide

/-- `modepb.Sum` at every moment: after each statement of every `segmentpb.Shift` of its alignment loop, after
each iteration of the loop of `segmentpb.Sum` and after the allocation of the `result` array every pre-existing
segment cell and backing array is unchanged.  With `C18_args_never_written_shift`, `_modeShift`, `_modeCut` and `_sum`
every operation of the two packages that writes at all is covered statement by statement. -/
theorem C18_args_never_written_modeSum (h : Heap) (ms : List HeapMode) :
    (∀ hi ∈ modeSumTrace h ms,
      (∀ a, a < h.cells.length → hi.cells[a]? = h.cells[a]?) ∧
      (∀ i, i < h.arrays.length → hi.arrays[i]? = h.arrays[i]?)) ∧
    (∀ hl, (modeSumTrace h ms).getLast? = some hl → hl = (heapModeSum h ms).1) :=
  ⟨fun hi hmem => (modeSumTrace_extends h ms hi hmem).pointwise, modeSumTrace_last h ms⟩

/-- …and what a concurrent reader of ANY pre-existing segment list (the segments of one of the modes being
summed, say) sees during `modepb.Sum`: the same values at every moment. -/
theorem C18_concurrent_reader_modeSum (h : Heap) (sl' : Slice) (ha : sl'.arr < h.arrays.length)
    (hc : ∀ a ∈ readSlice h sl', a < h.cells.length) (ms : List HeapMode) :
    ∀ hi ∈ modeSumTrace h ms, readSegs hi sl' = readSegs h sl' :=
  fun hi hmem => readSegs_extends (modeSumTrace_extends h ms hi hmem) sl' ha hc

example :
    (modeSumTrace ⟨[⟨1, some 2⟩, ⟨2, some 4⟩, ⟨3, some 1⟩], [[0, 1], [2]]⟩
      [⟨some 0, ⟨0, 0, 2⟩⟩, ⟨some 2, ⟨1, 0, 1⟩⟩]).length = 12 := by decide
example :
    (let h : Heap := ⟨[⟨1, some 2⟩, ⟨2, some 4⟩, ⟨3, some 1⟩], [[0, 1], [2]]⟩
     let ms : List HeapMode := [⟨some 0, ⟨0, 0, 2⟩⟩, ⟨some 2, ⟨1, 0, 1⟩⟩]
     (modeSumTrace h ms).getLast?.map (fun e => (heapModeSum h ms).2.map (fun r => trimLast (dropRule false) (readSegs e r.segs))))
    = some ((modeSum [⟨some 0, [⟨1, some 2⟩, ⟨2, some 4⟩]⟩, ⟨some 2, [⟨3, some 1⟩]⟩]).map (fun r => r.segs)) := by decide

end ScVerif.C18
