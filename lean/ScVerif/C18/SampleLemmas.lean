import ScVerif.C18.SumLemmas
/-!
Why sampling at the breakpoints is enough.  The monitor of C18 compares the real results with its oracle at
finitely many instants (every breakpoint of the functions involved and the instants around them).  A segment
list read as a step function (`den`) is constant between two neighbouring breakpoints, so two such functions
that agree at a starting instant and at every breakpoint of either agree everywhere from that instant on.
-/
namespace ScVerif.C18

/-- `f` can only change its value AT a point of `pts`. -/
def StepOn (pts : List Int) (f : Int → Int) : Prop :=
  ∀ p t, p ≤ t → (∀ b ∈ pts, ¬ (p < b ∧ b ≤ t)) → f t = f p

/-- The breakpoints of a list laid out from `cur`: where each reachable segment starts, and the end. -/
def bps : Int → List Seg → List Int
  | cur, [] => [cur]
  | cur, s :: rest =>
    match s.len with
    | none => [cur]
    | some l => cur :: bps (cur + l) rest

/-- The breakpoints of all the lists, each laid out from 0. -/
def allBps : List (List Seg) → List Int
  | [] => []
  | l :: ls => bps 0 l ++ allBps ls

theorem bps_head_mem (cur : Int) (l : List Seg) : cur ∈ bps cur l := by
  cases l with
  | nil => simp [bps]
  | cons s rest =>
    cases hs : s.len with
    | none => simp [bps, hs]
    | some x => simp [bps, hs]

theorem stepOn_sumLe (es : List Edge) : StepOn (es.map (·.time)) (fun t => sumLe t es) := by
  intro p t hpt hb
  show sumLe t es = sumLe p es
  unfold sumLe deltasLe
  congr 2
  refine List.filter_congr fun e he => ?_
  have := hb e.time (List.mem_map.mpr ⟨e, he, rfl⟩)
  exact decide_eq_decide.mpr (by omega)

theorem edgesOf_time_mem_bps (l : List Seg) (cur : Int) : ∀ e ∈ edgesOf cur l, e.time ∈ bps cur l := by
  induction l generalizing cur with
  | nil => exact fun e he => nomatch he
  | cons s rest ih =>
    intro e he
    rcases mem_edgesOf_cons he with ht | ⟨L, hs, ht | hrest⟩
    · exact ht ▸ bps_head_mem cur _
    · simp only [bps, hs]; exact ht ▸ List.mem_cons_of_mem _ (bps_head_mem _ rest)
    · simp only [bps, hs]; exact List.mem_cons_of_mem _ (ih _ e hrest)

theorem stepOn_edges {pts : List Int} {f : Int → Int} (es : List Edge) (hsub : ∀ e ∈ es, e.time ∈ pts)
    (h : ∀ t, f t = sumLe t es) : StepOn pts f := fun p t hpt hb => by
  rw [h t, h p]
  exact stepOn_sumLe es p t hpt fun b hbm => by
    obtain ⟨e, he, rfl⟩ := List.mem_map.mp hbm
    exact hb _ (hsub e he)

theorem stepOn_den (l : List Seg) (hnn : NonNeg l) : StepOn (bps 0 l) (den l) :=
  stepOn_edges (edgesOf 0 l) (edgesOf_time_mem_bps l 0) (den_eq_sumLe l hnn)

theorem rawEdges_time_mem_allBps (ls : List (List Seg)) : ∀ e ∈ rawEdges ls, e.time ∈ allBps ls := by
  induction ls with
  | nil => exact fun e he => nomatch he
  | cons l ls ih =>
    intro e he
    simp only [rawEdges, allBps, List.mem_append] at he ⊢
    exact he.imp (edgesOf_time_mem_bps l 0 e) (ih e)

theorem stepOn_denSum (ls : List (List Seg)) (h : AllNonNeg ls) : StepOn (allBps ls) (denSum ls) :=
  stepOn_edges (rawEdges ls) (rawEdges_time_mem_allBps ls) (denSum_eq_sumLe ls h)

theorem stepOn_translate {pts : List Int} {f : Int → Int} (d : Int) (hf : StepOn pts f) :
    StepOn (pts.map (· + d)) (fun t => f (t - d)) := by
  intro p t hpt hb
  apply hf (p - d) (t - d) (by omega)
  intro b hbm
  have := hb (b + d) (List.mem_map.mpr ⟨b, hbm, rfl⟩)
  omega

/-- Go back from `t` to the last point at or before it. -/
theorem agree_of_samples {P Q : List Int} {f g : Int → Int} (hf : StepOn P f) (hg : StepOn Q g) (lo : Int)
    (h : ∀ p ∈ lo :: (P ++ Q), f p = g p) (t : Int) (ht : lo ≤ t) : f t = g t := by
  have key : ∀ b, b ≤ t → (∀ x ∈ P ++ Q, ¬ (b < x ∧ x ≤ t)) → b ∈ lo :: (P ++ Q) → f t = g t := fun b hbt hno hb => by
    rw [hf b t hbt fun x hx => hno x (List.mem_append_left _ hx),
      hg b t hbt fun x hx => hno x (List.mem_append_right _ hx)]
    exact h b hb
  cases hm : ((P ++ Q).filter fun b => decide (lo < b ∧ b ≤ t)).max? with
  | none =>
    refine key lo ht (fun x hx hc => ?_) List.mem_cons_self
    have : x ∈ (P ++ Q).filter fun b => decide (lo < b ∧ b ≤ t) := List.mem_filter.mpr ⟨hx, decide_eq_true hc⟩
    rw [List.max?_eq_none_iff.mp hm] at this
    cases this
  | some b =>
    obtain ⟨hmem, hmax⟩ := List.max?_eq_some_iff.mp hm
    obtain ⟨hbp, hc⟩ := List.mem_filter.mp hmem
    have hc := of_decide_eq_true hc
    refine key b hc.2 (fun x hx hxc => ?_) (List.mem_cons_of_mem _ hbp)
    have := hmax x (List.mem_filter.mpr ⟨hx, decide_eq_true ⟨by omega, hxc.2⟩⟩)
    omega

theorem agree_everywhere {P Q : List Int} {f g : Int → Int} (hf : StepOn P f) (hg : StepOn Q g) (h0 : (0 : Int) ∈ P)
    (hneg : ∀ t, t < 0 → f t = g t) (h : ∀ p ∈ P ++ Q, f p = g p) (t : Int) : f t = g t := by
  by_cases ht : t < 0
  · exact hneg t ht
  · refine agree_of_samples hf hg 0 (fun p hp => ?_) t (by omega)
    rcases List.mem_cons.mp hp with rfl | hp
    · exact h 0 (List.mem_append_left _ h0)
    · exact h p hp

end ScVerif.C18
