import ScVerif.C18.HeapOps
/-!
# C18 — `segmentpb.Shift` statement by statement

`heapShift` (HeapOps) folds `first = proto.Clone(first); first.Length = durationpb.New(…)` into one allocation
and `make` + `out[0] = …` + `copy(out[1:], …)` into another.  Here every statement of `segmentpb.Shift` that
allocates or WRITES is a heap of its own:

* the clone of an idle first segment (a new cell with the same contents), then the write of its `Length` —
  a store into a segment cell, the only one in the package besides the loop of `Sum`;
* `make([]*Segment, n)` (a new array of nil pointers), then the store `out[0] = x`, then `copy(out[1:], xs)`;
* in the negative branch the allocations of `Cut`, then the same three array statements.

`clone := false` is the variant without `proto.Clone` (what the comment in the code warns about: "clone so we
don't update the original"): its `Length` store lands in the caller's cell.

The frame of `heapShift` itself (`heapShift_extends`) is read off the trace: `heapShift` is its last heap and result
(`shiftTrace_heap`).

(Proof only, not driver-linked.)
-/
namespace ScVerif.C18

/-- `cell.X = …` through the pointer `a`. -/
def setCell (h : Heap) (a : Nat) (f : Seg → Seg) : Heap := ⟨modifyNth a f h.cells, h.arrays⟩

theorem setCell_extends {h0 h : Heap} (e : h0.Extends h) (a : Nat) (f : Seg → Seg)
    (ha : h0.cells.length ≤ a) : h0.Extends (setCell h a f) := by
  obtain ⟨⟨c, hc⟩, harr⟩ := e
  exact ⟨by rw [setCell, hc]; exact modifyNth_append_past _ _ _ _ ha, harr⟩

theorem readCell_setCell_ne (h : Heap) (a b : Nat) (f : Seg → Seg) (hne : b ≠ a) :
    readCell (setCell h a f) b = readCell h b := by
  simp only [readCell, setCell, modifyNth_getElem?_ne _ _ _ _ hne]

theorem readCell_setCell_same (h : Heap) (a : Nat) (f : Seg → Seg) (ha : a < h.cells.length) :
    readCell (setCell h a f) a = f (readCell h a) := by
  simp only [readCell, setCell, modifyNth_getElem?]
  rw [List.getElem?_eq_getElem ha]
  rfl

/-- Clone, then store into the clone: one allocation of the changed cell. -/
theorem setCell_allocCell (h : Heap) (s : Seg) (f : Seg → Seg) :
    setCell (allocCell h s).1 (allocCell h s).2 f = (allocCell h (f s)).1 := by
  simp only [setCell, allocCell, modifyNth_length_append]

/-- Any update of one array, e.g. `copy(array[id][pos:], xs)`. -/
def updArr (h : Heap) (id : Nat) (g : List Nat → List Nat) : Heap := ⟨h.cells, modifyNth id g h.arrays⟩

theorem updArr_extends {h0 h : Heap} (e : h0.Extends h) (id : Nat) (g : List Nat → List Nat)
    (hid : h0.arrays.length ≤ id) : h0.Extends (updArr h id g) := by
  obtain ⟨hc, ⟨a, ha⟩⟩ := e
  exact ⟨hc, by rw [updArr, ha]; exact modifyNth_append_past _ _ _ _ hid⟩

/-- `copy(dst[pos:], xs)` on a list. -/
def copyInto (pos : Nat) (xs dst : List Nat) : List Nat := dst.take pos ++ xs ++ dst.drop (pos + xs.length)

/-- The heaps after `out := make([]*Segment, len(xs)+1)`, `out[0] = x`, `copy(out[1:], xs)`, and the id of
`out`'s array. -/
def buildOut (h : Heap) (x : Nat) (xs : List Nat) : List Heap × Nat :=
  let r := allocArr h (List.replicate (xs.length + 1) 0)
  let h2 := setArr r.1 r.2 0 x
  ([r.1, h2, updArr h2 r.2 (copyInto 1 xs)], r.2)

theorem buildOut_id (h : Heap) (x : Nat) (xs : List Nat) : (buildOut h x xs).2 = h.arrays.length := rfl

theorem buildOut_extends {h0 h : Heap} (e : h0.Extends h) (x : Nat) (xs : List Nat) :
    ∀ hi ∈ (buildOut h x xs).1, h0.Extends hi := by
  have hid : h0.arrays.length ≤ (allocArr h (List.replicate (xs.length + 1) 0)).2 := e.arrays_le
  have e1 : h0.Extends (allocArr h (List.replicate (xs.length + 1) 0)).1 := e.trans (allocArr_extends _ _)
  have e2 := setArr_extends e1 (allocArr h (List.replicate (xs.length + 1) 0)).2 0 x hid
  exact all_cons e1 (all_cons e2 (all_cons (updArr_extends e2 _ _ hid) all_nil))

theorem buildOut_last (h : Heap) (x : Nat) (xs : List Nat) :
    (buildOut h x xs).1.getLast? = some (allocArr h (x :: xs)).1 := by
  simp only [buildOut, List.getLast?_cons_cons, List.getLast?_singleton, Option.some.injEq]
  simp only [updArr, setArr, allocArr, modifyNth_length_append]
  congr 1
  congr 1
  simp [copyInto, List.replicate_succ]
  omega

/-- The negative branch: the loop only reads; at the segment that `d` falls into: `Cut`, then the array. -/
def shiftNegTrace (h : Heap) (d : Int) (sl : Slice) : Int → Nat → List Nat → List Heap × Slice
  | _, _, [] => ([], ⟨0, 0, 0⟩)
  | cur, i, a :: rest =>
    match (readCell h a).len with
    | none => ([], ⟨sl.arr, sl.off + i, sl.len - i⟩)
    | some l =>
      if cur + l > d then
        let c := heapCut h (d - cur) a                       -- _, after, _ := Cut(d-cur, segment)
        let b := buildOut c.1 (c.2.2.1.getD 0) rest          -- make; out[0] = after; copy(out[1:], segments[i+1:])
        (c.1 :: b.1, ⟨b.2, 0, sl.len - i⟩)
      else shiftNegTrace h d sl (cur + l) (i + 1) rest

/-- The heaps after each allocating or writing statement of `segmentpb.Shift(d, segments...)`, `segments` the
slice `sl`, and the result slice.  `clone = true` is the code. -/
def shiftTrace (clone : Bool) (h : Heap) (d : Int) (sl : Slice) : List Heap × Slice :=
  let elems := readSlice h sl
  if d = 0 then ([], sl)
  else
    match elems with
    | [] => ([], sl)
    | first :: rest =>
      if d > 0 then
        let f := readCell h first
        if f.mag = 0 then
          match f.len with
          | none => ([], sl)
          | some l =>
            let c := if clone then allocCell h f else (h, first)           -- first = proto.Clone(first)
            let h2 := setCell c.1 c.2 (fun s => ⟨s.mag, some (l + d)⟩)     -- first.Length = durationpb.New(…)
            let b := buildOut h2 c.2 rest                                  -- make; out[0] = first; copy
            (c.1 :: h2 :: b.1, ⟨b.2, 0, sl.len⟩)
        else
          let c := allocCell h ⟨0, some d⟩                                 -- &Segment{Length: durationpb.New(d)}
          let b := buildOut c.1 c.2 (first :: rest)                        -- make; out[0] = …; copy(out[1:], segments)
          (c.1 :: b.1, ⟨b.2, 0, sl.len + 1⟩)
      else shiftNegTrace h (-d) sl 0 0 (first :: rest)

theorem shiftNegTrace_extends (h : Heap) (d : Int) (sl : Slice) (cur : Int) (i : Nat) (elems : List Nat) :
    ∀ hi ∈ (shiftNegTrace h d sl cur i elems).1, h.Extends hi := by
  induction elems generalizing cur i with
  | nil => exact all_nil
  | cons a rest ih =>
    simp only [shiftNegTrace]
    split
    · exact all_nil
    · split
      · have ec := heapCut_extends h (d - cur) a
        exact all_cons ec (buildOut_extends ec _ _)
      · exact ih _ _

theorem shiftTrace_extends (h : Heap) (d : Int) (sl : Slice) :
    ∀ hi ∈ (shiftTrace true h d sl).1, h.Extends hi := by
  unfold shiftTrace
  simp only []
  split
  · exact all_nil
  · split
    · exact all_nil
    · split
      · split
        · split
          · exact all_nil
          · refine all_cons (allocCell_extends h _) (all_cons ?e2 (buildOut_extends ?e2 _ _))
            exact setCell_extends (allocCell_extends h _) _ _ (Nat.le_refl _)
        · exact all_cons (allocCell_extends h _) (buildOut_extends (allocCell_extends h _) _ _)
      · exact shiftNegTrace_extends h _ sl _ _ _

theorem getLast?_cons_of_getLast? {α : Type} (x : α) (l : List α) (y : α) (hl : l.getLast? = some y) :
    (x :: l).getLast? = some y := by
  simp [List.getLast?_cons, hl]

theorem getLast?_getD_cons {α : Type} (x : α) (l : List α) (y d : α) (hl : l.getLast? = some y) :
    ((x :: l).getLast?).getD d = y := by
  rw [getLast?_cons_of_getLast? x l y hl]; rfl

theorem shiftNegTrace_heap (h : Heap) (d : Int) (sl : Slice) (cur : Int) (i : Nat) (elems : List Nat) :
    heapShiftNegLoop h d sl cur i elems =
      (((shiftNegTrace h d sl cur i elems).1.getLast?).getD h, (shiftNegTrace h d sl cur i elems).2) := by
  induction elems generalizing cur i with
  | nil => rfl
  | cons a rest ih =>
    simp only [shiftNegTrace, heapShiftNegLoop]
    cases (readCell h a).len with
    | none => rfl
    | some l =>
      simp only []
      split
      · rw [getLast?_getD_cons _ _ _ _ (buildOut_last _ _ _)]; rfl
      · exact ih _ _

/-- `heapShift` is the last heap of the trace (the initial one if nothing is written) and its result. -/
theorem shiftTrace_heap (h : Heap) (d : Int) (sl : Slice) :
    heapShift h d sl = (((shiftTrace true h d sl).1.getLast?).getD h, (shiftTrace true h d sl).2) := by
  unfold shiftTrace heapShift
  simp only []
  by_cases hd : d = 0
  · simp only [hd, if_true]; rfl
  simp only [hd, if_false]
  cases readSlice h sl with
  | nil => rfl
  | cons first rest =>
    simp only []
    by_cases hpos : d > 0
    · simp only [hpos, if_true]
      by_cases hmag : (readCell h first).mag = 0
      · simp only [hmag, if_true]
        cases (readCell h first).len with
        | none => rfl
        | some l =>
          simp only []
          rw [getLast?_getD_cons _ _ _ _ (getLast?_cons_of_getLast? _ _ _ (buildOut_last _ _ _)),
            setCell_allocCell, hmag]
          rfl
      · simp only [hmag, if_false]
        rw [getLast?_getD_cons _ _ _ _ (buildOut_last _ _ _)]; rfl
    · simp only [hpos, if_false]
      exact shiftNegTrace_heap h _ sl _ _ _

theorem shiftTrace_last (h : Heap) (d : Int) (sl : Slice) :
    (shiftTrace true h d sl).2 = (heapShift h d sl).2 ∧
    ∀ hl, (shiftTrace true h d sl).1.getLast? = some hl → hl = (heapShift h d sl).1 := by
  rw [shiftTrace_heap]
  exact ⟨rfl, fun hl e => by rw [e]; rfl⟩

theorem heapShift_extends (h : Heap) (d : Int) (sl : Slice) : h.Extends (heapShift h d sl).1 := by
  rw [shiftTrace_heap]
  cases e : (shiftTrace true h d sl).1.getLast? with
  | none => exact Heap.Extends.refl h
  | some hl => exact shiftTrace_extends h d sl hl (List.mem_of_getLast? e)

end ScVerif.C18
