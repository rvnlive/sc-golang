import ScVerif.C18.F32Lemmas
/-!
Lemmas about the float32 rendering of `Sum`/`SumMagnitude` BEYOND the exactness bound: the roundings
accumulate linearly.  Both computations are folds of `addF` over a list of integers: `SumMagnitude` over the
magnitudes, the loop of `Sum`, read at an instant `t`, over the deltas of the edges up to `t` (`emitWith_den`).
One rounding is within `2^-24` of the value rounded (`rnd24_error`); by induction over the list (`foldF_err`) the
float fold stays within `2·k·A / 2^24` of the exact sum after `k` additions, `A` the total of the absolute
values, as long as `k ≤ 2^23` (which keeps the accumulated error below `A`, so the next value rounded is below
`2·A`).
-/
namespace ScVerif.C18

/-- `2·A` per addition still to come, i.e. `2·n·A` (`slack_eq`); by recursion so that the inductions below stay
linear for `omega`. -/
def slack (A : Int) : Nat → Int
  | 0 => 0
  | n + 1 => 2 * A + slack A n

theorem slack_nonneg (A : Int) (hA : 0 ≤ A) (n : Nat) : 0 ≤ slack A n := by
  induction n with
  | zero => exact Int.le_refl 0
  | succ n ih => simp only [slack]; omega

theorem slack_eq (A : Int) (n : Nat) : slack A n = 2 * (n : Int) * A := by
  induction n with
  | zero => simp [slack]
  | succ n ih =>
    simp only [slack, ih, Int.natCast_add, Int.natCast_one]
    rw [Int.mul_add, Int.add_mul]
    omega

theorem slack_le (A : Int) (hA : 0 ≤ A) (n : Nat) (hn : n ≤ 8388608) : slack A n ≤ 16777216 * A := by
  rw [slack_eq]
  exact Int.mul_le_mul_of_nonneg_right (by omega) hA

theorem slack_mono (A : Int) (hA : 0 ≤ A) {n m : Nat} (h : n ≤ m) : slack A n ≤ slack A m := by
  rw [slack_eq, slack_eq]
  exact Int.mul_le_mul_of_nonneg_right (by omega) hA

theorem absL_deltasLe_le (t : Int) (es : List Edge) : absL (deltasLe t es) ≤ absSum es := by
  induction es with
  | nil => exact Int.le_refl 0
  | cons e es ih =>
    rw [deltasLe_cons, absSum]
    split
    · simp only [absL, List.map_cons, List.sum_cons] at ih ⊢; omega
    · omega

/-- One more rounded addition.  Triangle inequalities: the new distance is at most the rounding error plus the old
distance, and the value rounded is within the old distance of `m + d`; below, the absolute values are opaque
numbers. -/
theorem addF_step_err (mF m d A B : Int)
    (hA : (m.natAbs : Int) + (d.natAbs : Int) ≤ A)
    (hE : ((mF - m).natAbs : Int) * 16777216 ≤ B) (hBA : B ≤ 16777216 * A) :
    ((addF mF d - (m + d)).natAbs : Int) * 16777216 ≤ B + 2 * A := by
  have t1 : (addF mF d - (m + d)).natAbs ≤ (addF mF d - (mF + d)).natAbs + (mF - m).natAbs := by
    rw [show addF mF d - (m + d) = (addF mF d - (mF + d)) + (mF - m) by omega]
    exact Int.natAbs_add_le _ _
  have t2 : (mF + d).natAbs ≤ (mF - m).natAbs + (m.natAbs + d.natAbs) := by
    rw [show mF + d = (mF - m) + (m + d) by omega]
    exact Nat.le_trans (Int.natAbs_add_le _ _) (Nat.add_le_add_left (Int.natAbs_add_le _ _) _)
  have hr : (addF mF d - (mF + d)).natAbs * 16777216 ≤ (mF + d).natAbs := rnd24_error (mF + d)
  generalize (addF mF d - (m + d)).natAbs = x at *
  generalize (addF mF d - (mF + d)).natAbs = r at *
  generalize (mF - m).natAbs = e at *
  generalize (mF + d).natAbs = v at *
  generalize m.natAbs = m' at *
  generalize d.natAbs = d' at *
  omega

theorem natAbs_add_budget (m d R A : Int) (h : (m.natAbs : Int) + ((d.natAbs : Int) + R) ≤ A) :
    ((m + d).natAbs : Int) + R ≤ A := by
  have := Int.natAbs_add_le m d
  generalize (m + d).natAbs = x at *
  generalize m.natAbs = y at *
  generalize d.natAbs = z at *
  omega

theorem foldF_err (A : Int) (ds : List Int) : ∀ (accF acc B : Int),
    (acc.natAbs : Int) + absL ds ≤ A →
    ((accF - acc).natAbs : Int) * 16777216 ≤ B → 0 ≤ B →
    B + slack A ds.length ≤ 16777216 * A →
    ((ds.foldl addF accF - (acc + ds.sum)).natAbs : Int) * 16777216 ≤ B + slack A ds.length := by
  induction ds with
  | nil =>
    intro accF acc B _ hE _ _
    simpa [slack] using hE
  | cons d rest ih =>
    intro accF acc B hA hE hB hS
    simp only [absL, List.map_cons, List.sum_cons] at hA
    simp only [List.length_cons, slack] at hS ⊢
    have hp := absL_nonneg rest
    have hsl := slack_nonneg A (by unfold absL at hp; omega) rest.length
    have hstep := addF_step_err accF acc d A B (by unfold absL at hp; omega) hE (by omega)
    have := ih (addF accF d) (acc + d) (B + 2 * A) (natAbs_add_budget _ _ _ _ hA) hstep (by omega) (by omega)
    rw [Int.add_assoc B] at this
    rw [List.foldl_cons, List.sum_cons, ← Int.add_assoc acc]
    exact this

theorem foldF_err_zero (ds : List Int) (n : Nat) (A : Int) (hn : ds.length ≤ n) (hA : absL ds ≤ A)
    (hN : n ≤ 8388608) :
    ((ds.foldl addF 0 - ds.sum).natAbs : Int) * 16777216 ≤ 2 * (n : Int) * A := by
  have hA0 : 0 ≤ A := Int.le_trans (absL_nonneg ds) hA
  have hle := Int.le_trans (slack_mono A hA0 hn) (slack_le A hA0 n hN)
  have := foldF_err A ds 0 0 0 (by simpa using hA) (by simp) (Int.le_refl 0) (by omega)
  rw [Int.zero_add, Int.zero_add] at this
  exact Int.le_trans this (by rw [← slack_eq]; exact slack_mono A hA0 hn)

/-- Whatever the drop rule decides for the float and for the exact magnitude of the open last element (kept /
dropped because it is zero / dropped because no input is unbounded). -/
theorem dropRule_err (inf : Bool) (P : Prop) [Decidable P] (mF m : Int) :
    ((if P ∧ dropRule inf mF = true then 0 else mF) - (if P ∧ dropRule inf m = true then 0 else m)).natAbs
      ≤ (mF - m).natAbs := by
  by_cases hP : P <;> cases inf <;> by_cases h1 : mF = 0 <;> by_cases h2 : m = 0 <;>
    simp [dropRule, hP, h1, h2]

theorem sumEdgesF_den_err (inf : Bool) (es : List Edge) (hs : SortedT es) (hge : ∀ e ∈ es, 0 ≤ e.time)
    (hn : es.length ≤ 8388608) (t : Int) :
    ((den (sumEdgesF (dropRule inf) es) t - den (sumEdges (dropRule inf) es) t).natAbs : Int) * 16777216
      ≤ 2 * (es.length : Int) * absSum es := by
  have hnonneg : 0 ≤ 2 * (es.length : Int) * absSum es :=
    Int.mul_nonneg (by omega) (absSum_nonneg es)
  by_cases ht : t < 0
  · rw [den_neg _ _ ht, den_neg _ _ ht]; exact hnonneg
  have hF : sumEdgesF (dropRule inf) es = emitWith addF (dropRule inf) 0 0 es := by
    cases es with
    | nil => rfl
    | cons e es => exact emitF_eq_emitWith _ _ _ _
  have hE : sumEdges (dropRule inf) es = emitWith (· + ·) (dropRule inf) 0 0 es :=
    (sumEdges_eq_emit _ es (by simp [dropRule])).trans (emit_eq_emitWith _ _ _ _)
  have hden := fun add => emitWith_den add (dropRule inf) es 0 0 t hs hge (by omega)
  rw [Int.sub_zero] at hden
  rw [hF, hE, hden, hden, foldl_add_eq, foldl_add_eq, Int.zero_add, Int.zero_add]
  have herr := foldF_err_zero (deltasLe t es) es.length (absSum es)
    (deltasLe_length_le t es) (absL_deltasLe_le t es) hn
  by_cases hall : ∀ e ∈ es, e.time ≤ t
  · -- from the last edge on: all deltas are folded in, and the drop rule decides on both sides
    rw [deltasLe_of_all_le t es hall] at herr ⊢
    exact Int.le_trans (Int.mul_le_mul_of_nonneg_right (Int.ofNat_le.mpr (dropRule_err inf _ _ _)) (by omega)) herr
  · rw [if_neg (fun h => hall h.1), if_neg (fun h => hall h.1)]
    exact herr

/-- The number of segments of all lists together (`calcCuts` makes at most two edges of each). -/
def segCount : List (List Seg) → Nat
  | [] => 0
  | l :: ls => l.length + segCount ls

theorem edgesOf_length_le (l : List Seg) (cur : Int) : (edgesOf cur l).length ≤ 2 * l.length := by
  induction l generalizing cur with
  | nil => simp [edgesOf]
  | cons s rest ih =>
    cases hs : s.len with
    | none =>
      simp only [edgesOf, hs, List.length_cons]
      split <;> simp <;> omega
    | some len =>
      have := ih (cur + len)
      simp only [edgesOf, hs, List.length_append, List.length_cons]
      split <;> simp <;> omega

theorem rawEdges_length_le (ls : List (List Seg)) : (rawEdges ls).length ≤ 2 * segCount ls := by
  induction ls with
  | nil => simp [rawEdges, segCount]
  | cons l ls ih =>
    have := edgesOf_length_le l 0
    simp only [rawEdges, List.length_append, segCount]
    omega

end ScVerif.C18
