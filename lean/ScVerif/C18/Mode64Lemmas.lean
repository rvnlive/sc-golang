import ScVerif.C18.Mode64
import ScVerif.C18.Seg64Lemmas
import ScVerif.C18.ModeLemmas
/-! The mode operations as compiled: a saturated offset lies beyond every `Small` list on the same side as the true
one, so the readers are exact for all instants; `Cut` and `Sum` while the spans stay below 2^63 ns. -/
namespace ScVerif.C18

theorem sat64_id (x : Int) (h1 : -two63 ≤ x) (h2 : x < two63) : sat64 x = x := by
  unfold sat64
  have a : ¬ x < -two63 := by omega
  have b : ¬ x ≥ two63 := by omega
  simp [a, b]

theorem sat64_cases (x : Int) :
    (x < -two63 ∧ sat64 x = -two63) ∨ (two63 ≤ x ∧ sat64 x = two63 - 1) ∨
    (-two63 ≤ x ∧ x < two63 ∧ sat64 x = x) := by
  by_cases a : x < -two63
  · simp [sat64, a]
  · by_cases b : x ≥ two63
    · simp [sat64, a, b]
    · exact Or.inr (Or.inr ⟨by omega, by omega, sat64_id x (by omega) (by omega)⟩)

theorem activeAtLoop_beyond (d d' : Int) (segs : List Seg) (cur : Int) (i : Nat) (hnn : NonNeg segs)
    (h : cur + lenSum segs ≤ d) (h' : cur + lenSum segs ≤ d') :
    activeAtLoop d cur i segs = activeAtLoop d' cur i segs := by
  induction segs generalizing cur i with
  | nil => rfl
  | cons s rest ih =>
    cases hl : s.len with
    | none => simp [activeAtLoop, hl]
    | some l =>
      have hr := lenSum_nonneg rest hnn.tail
      rw [lenSum_cons_some s rest l hl] at h h'
      have a : ¬ cur + l > d := by omega
      have b : ¬ cur + l > d' := by omega
      simp only [activeAtLoop, hl, a, b, if_false]
      exact ih (cur + l) (i + 1) hnn.tail (by omega) (by omega)

theorem activeAt_sat_idx (d : Int) (segs : List Seg) (h : Small segs) :
    (activeAt (sat64 d) segs).2 = (activeAt d segs).2 := by
  rcases sat64_cases d with ⟨hlt, e⟩ | ⟨hge, e⟩ | ⟨_, _, e⟩
  · have t63 := two63_pos
    have a : d < 0 := by omega
    have b : sat64 d < 0 := by omega
    simp [activeAt, a, b]
  · have t63 := two63_pos
    have hs := h.2
    have a : ¬ d < 0 := by omega
    have b : ¬ sat64 d < 0 := by omega
    simp only [activeAt, a, b, if_false]
    rw [activeAtLoop_beyond (sat64 d) d segs 0 0 h.1 (by omega) (by omega)]
  · rw [e]

theorem magnitudeAt_sat (d : Int) (segs : List Seg) (h : Small segs) :
    magnitudeAt (sat64 d) segs = magnitudeAt d segs := by
  have hidx := activeAt_sat_idx d segs h
  have t63 := two63_pos
  have hsign : sat64 d < 0 ↔ d < 0 := by
    rcases sat64_cases d with ⟨hlt, e⟩ | ⟨hge, e⟩ | ⟨_, _, e⟩ <;> omega
  unfold magnitudeAt
  by_cases a : d < 0
  · simp [a, hsign.mpr a]
  · have b : ¬ sat64 d < 0 := fun x => a (hsign.mp x)
    simp only [a, b, if_false, hidx]

theorem maxAfter_sat (d : Int) (segs : List Seg) (h : Small segs) :
    maxAfter (sat64 d) segs = maxAfter d segs := by
  unfold maxAfter
  simp only [activeAt_sat_idx d segs h]

theorem shift64_pos_all_some (d : Int) (segs : List Seg) (hd : 0 ≤ d) :
    ∀ o ∈ shift64 d segs, o ≠ none := by
  unfold shift64
  by_cases h0 : d = 0
  · simp [h0]
  · have hp : d > 0 := by omega
    simp only [h0, if_false]
    cases segs with
    | nil => simp
    | cons first rest =>
      simp only [hp, if_true]
      by_cases hm : first.mag = 0
      · simp only [hm, if_true]
        cases first.len <;> simp
      · simp only [hm, if_false]
        simp

theorem modeRead64_eq (t : Int) (m : Mode) (h : Small m.segs) :
    modeMagnitudeAt64 t m = modeMagnitudeAt t m ∧
    (modeActiveAt64 t m).2 = (modeActiveAt t m).2 ∧
    modeMaxSegmentAfter64 t m = modeMaxSegmentAfter t m := by
  refine ⟨?_, ?_, ?_⟩
  · unfold modeMagnitudeAt64 modeMagnitudeAt
    rw [magnitudeAt64_eq _ _ h, magnitudeAt_sat _ _ h]
  · unfold modeActiveAt64 modeActiveAt
    rw [activeAt64_eq _ _ h, activeAt_sat_idx _ _ h]
  · unfold modeMaxSegmentAfter64 modeMaxSegmentAfter
    rw [maxAfter64_eq _ _ h, maxAfter_sat _ _ h]

theorem minAtLoop64_eq (t : Int) (ms : List Mode) (h : ∀ m ∈ ms, Small m.segs)
    (cur : Option (Nat × Int)) (i : Nat) : minAtLoop64 t cur i ms = minAtLoop t cur i ms := by
  induction ms generalizing cur i with
  | nil => rfl
  | cons m ms ih =>
    have hm := (modeRead64_eq t m (h m List.mem_cons_self)).1
    have ih' := fun c j => ih (fun x hx => h x (List.mem_cons_of_mem _ hx)) c j
    cases cur with
    | none => simp only [minAtLoop64, minAtLoop, hm, ih']
    | some jg =>
      obtain ⟨j, g⟩ := jg
      simp only [minAtLoop64, minAtLoop, hm, ih']

/-- Every list is short enough that aligning it anywhere between two start times keeps its total below
2^63 ns (in particular all start times lie within 2^63 ns of each other). -/
def SpanSmall (ms : List Mode) : Prop :=
  ∀ m ∈ ms, Small m.segs ∧ ∀ a ∈ starts ms, ∀ b ∈ starts ms, lenSum m.segs + (b - a) < two63

theorem alignLoop64_eq (e l : Int) (all ms : List Mode) (hsub : ∀ m ∈ ms, m ∈ all)
    (h : SpanSmall all) (he : e ∈ starts all) (hl : l ∈ starts all) (hle : ∀ s ∈ starts all, e ≤ s) :
    alignLoop64 e l ms = alignLoop e l ms ∧ AllSmall (alignLoop e l ms) := by
  induction ms with
  | nil => exact ⟨rfl, fun x hx => by simp [alignLoop] at hx⟩
  | cons m ms ih =>
    obtain ⟨ih1, ih2⟩ := ih (fun x hx => hsub x (List.mem_cons_of_mem _ hx))
    have hm := hsub m List.mem_cons_self
    obtain ⟨hsmall, hspan⟩ := h m hm
    have hst : m.start.getD l ∈ starts all := by
      cases hs : m.start with
      | none => simpa using hl
      | some s =>
        simp only [Option.getD_some]
        exact mem_starts.mpr ⟨m, hm, hs⟩
    have hd0 : 0 ≤ m.start.getD l - e := by have := hle _ hst; omega
    have hsum : lenSum m.segs + (m.start.getD l - e) < two63 := hspan e he _ hst
    have t63 := two63_pos
    have hr := lenSum_nonneg m.segs hsmall.1
    have hsat : sat64 (m.start.getD l - e) = m.start.getD l - e := sat64_id _ (by omega) (by omega)
    have hsh := shift64_eq (m.start.getD l - e) m.segs hsmall (by omega) hsum
    refine ⟨?_, ?_⟩
    · simp only [alignLoop64, alignLoop, hsat, hsh, List.filterMap_map, Function.id_comp, List.filterMap_some, ih1]
    · intro x hx
      simp only [alignLoop] at hx
      rcases List.mem_cons.mp hx with rfl | hx
      · exact ⟨shift_nonNeg _ _ hsmall.1, by have := lenSum_shift_le _ m.segs hd0; omega⟩
      · exact ih2 x hx

end ScVerif.C18
