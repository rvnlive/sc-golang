import ScVerif.C18.SampleLemmas
/-!
# C18 — property theorems: finitely many samples decide equality of step functions

The property is a statement about FUNCTIONS of time ("sum is pointwise addition, shift is translation, cut
splits without changing the function"); the monitor of the check can only read the real results at finitely many
instants (through the real `MagnitudeAt`).  These theorems close that gap: a segment list read as a step function
changes its value only at its breakpoints (the offsets at which its reachable segments start, and its end), so
agreement at one starting instant and at the breakpoints of the functions compared IS agreement at every
instant from there on — which lets the monitor judge lists whose lengths are seconds or hours (it cannot walk every
nanosecond) without losing anything.
-/
namespace ScVerif.C18

/-- The general statement: two functions of time that change only at points of `pts` and agree at `lo` and at
every point of `pts` agree at EVERY instant from `lo` on. -/
theorem C18_sampling_complete (pts : List Int) (f g : Int → Int) (hf : StepOn pts f) (hg : StepOn pts g)
    (lo : Int) (h : ∀ p ∈ lo :: pts, f p = g p) : ∀ t, lo ≤ t → f t = g t :=
  agree_of_samples hf hg lo fun p hp => h p (by
    rcases List.mem_cons.mp hp with rfl | hp
    · exact List.mem_cons_self
    · exact List.mem_cons_of_mem _ ((List.mem_append.mp hp).elim id id))

/-- Two segment lists: if their step functions agree at 0 and at every breakpoint of either, they are the same
function (at every instant, negative ones included). -/
theorem C18_sampling_lists (a b : List Seg) (ha : NonNeg a) (hb : NonNeg b)
    (h : ∀ p ∈ bps 0 a ++ bps 0 b, den a p = den b p) : ∀ t, den a t = den b t :=
  agree_everywhere (stepOn_den a ha) (stepOn_den b hb) (bps_head_mem 0 a)
    (fun t ht => by rw [den_neg a t ht, den_neg b t ht]) h

/-- `Sum` judged by samples: a list `r` (the real result) whose step function equals the pointwise sum of the
arguments' step functions at the breakpoints of the arguments and of `r` itself IS the pointwise sum at every
instant — the monitor's clause `not-pointwise` is complete. -/
theorem C18_sampling_sum (ls : List (List Seg)) (r : List Seg) (hls : AllNonNeg ls) (hr : NonNeg r)
    (h : ∀ p ∈ bps 0 r ++ allBps ls, den r p = denSum ls p) : ∀ t, den r t = denSum ls t :=
  agree_everywhere (stepOn_den r hr) (stepOn_denSum ls hls) (bps_head_mem 0 r)
    (fun t ht => by rw [den_neg r t ht, denSum_neg ls t ht]) h

/-- `Shift` (and the mode operations, which translate by the start time) judged by samples: a list `r` whose step
function equals the argument's translated by `d` at a starting instant `lo`, at the breakpoints of `r` and at the
translated breakpoints of the argument is that translation at every instant from `lo` on — for either sign of
`d` (the monitor starts at `lo = 0` for a left shift, where the part moved before the start is cut off, and
before the first breakpoint otherwise). -/
theorem C18_sampling_shift (d lo : Int) (l r : List Seg) (hl : NonNeg l) (hr : NonNeg r)
    (h : ∀ p ∈ lo :: (bps 0 r ++ (bps 0 l).map (· + d)), den r p = den l (p - d)) :
    ∀ t, lo ≤ t → den r t = den l (t - d) :=
  agree_of_samples (stepOn_den r hr) (stepOn_translate d (stepOn_den l hl)) lo h

/-- Every breakpoint is needed: `{1 for 2ns, 2 for 2ns}` and `{1 for 3ns, 2 for 1ns}` agree at 0 and at every
breakpoint of the second list (0, 3, 4) and at the end of the first, but differ at the first list's breakpoint 2. -/
theorem C18_sampling_breakpoint_needed :
    bps 0 [⟨1, some 2⟩, ⟨2, some 2⟩] = [0, 2, 4] ∧ bps 0 [⟨1, some 3⟩, ⟨2, some 1⟩] = [0, 3, 4] ∧
    (∀ p ∈ [0, 3, 4], den [⟨1, some 2⟩, ⟨2, some 2⟩] p = den [⟨1, some 3⟩, ⟨2, some 1⟩] p) ∧
    den [⟨1, some 2⟩, ⟨2, some 2⟩] 2 ≠ den [⟨1, some 3⟩, ⟨2, some 1⟩] 2 := by
  refine ⟨by decide, by decide, ?_, by decide⟩
  intro p hp
  simp only [List.mem_cons, List.not_mem_nil, or_false] at hp
  rcases hp with hp | hp | hp <;> subst hp <;> decide

/-! Non-vacuity: the hypotheses are met by a real result — `Sum` itself, sampled at its own breakpoints and its
arguments', on whole-second lengths. -/
example : ∀ p ∈ bps 0 (sum [[⟨2, some 2000000000⟩, ⟨-3, none⟩], [⟨1, some 4000000000⟩]]) ++
      allBps [[⟨2, some 2000000000⟩, ⟨-3, none⟩], [⟨1, some 4000000000⟩]],
    den (sum [[⟨2, some 2000000000⟩, ⟨-3, none⟩], [⟨1, some 4000000000⟩]]) p =
      denSum [[⟨2, some 2000000000⟩, ⟨-3, none⟩], [⟨1, some 4000000000⟩]] p := by
  intro p hp
  have : p ∈ [0, 2000000000, 4000000000, 0, 2000000000, 0, 4000000000] := by
    have e : bps 0 (sum [[⟨2, some 2000000000⟩, ⟨-3, none⟩], [⟨1, some 4000000000⟩]]) ++
      allBps [[⟨2, some 2000000000⟩, ⟨-3, none⟩], [⟨1, some 4000000000⟩]] =
        [0, 2000000000, 4000000000, 0, 2000000000, 0, 4000000000] := by decide
    rw [e] at hp; exact hp
  simp only [List.mem_cons, List.not_mem_nil, or_false] at this
  rcases this with h | h | h | h | h | h | h <;> subst h <;> decide
example : bps 0 [⟨1, some 2⟩, ⟨5, none⟩, ⟨7, some 1⟩] = [0, 2] := by decide
example : StepOn (bps 0 [⟨1, some 2⟩, ⟨5, none⟩]) (den [⟨1, some 2⟩, ⟨5, none⟩]) :=
  stepOn_den [⟨1, some 2⟩, ⟨5, none⟩] (nonNeg_of_all _ (by decide))

end ScVerif.C18
