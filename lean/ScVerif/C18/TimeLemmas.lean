import ScVerif.C18.Time
/-! `CompareAscending` and `cut.CompareTo` return a sign tabulated against three exclusive conditions (`sign_table`);
the lower cut of one period against the upper cut of another depends on one start and one stop only. -/
namespace ScVerif.C18

/-- A result `v` tabulated as "-1 with `P`, 0 with `Q`, 1 with `R`", the three conditions excluding each
other, determines each condition by its value. -/
theorem sign_table {v : Int} {P Q R : Prop} (h : (v = -1 ∧ P) ∨ (v = 0 ∧ Q) ∨ (v = 1 ∧ R))
    (hPQ : P → ¬ Q) (hPR : P → ¬ R) (hQR : Q → ¬ R) :
    (v = -1 ↔ P) ∧ (v = 0 ↔ Q) ∧ (v = 1 ↔ R) := by
  rcases h with ⟨rfl, p⟩ | ⟨rfl, q⟩ | ⟨rfl, r⟩
  · exact ⟨iff_of_true rfl p, iff_of_false (by decide) (hPQ p), iff_of_false (by decide) (hPR p)⟩
  · exact ⟨iff_of_false (by decide) (fun p => hPQ p q), iff_of_true rfl q, iff_of_false (by decide) (hQR q)⟩
  · exact ⟨iff_of_false (by decide) (fun p => hPR p r), iff_of_false (by decide) (fun q => hQR q r),
      iff_of_true rfl r⟩

theorem compareAscending_cases (a b : Ts) :
    (compareAscending a b = -1 ∧ (a.secs < b.secs ∨ (a.secs = b.secs ∧ a.nanos < b.nanos))) ∨
    (compareAscending a b = 0 ∧ a.secs = b.secs ∧ a.nanos = b.nanos) ∨
    (compareAscending a b = 1 ∧ (a.secs > b.secs ∨ (a.secs = b.secs ∧ a.nanos > b.nanos))) := by
  unfold compareAscending
  by_cases h1 : a.secs < b.secs
  · simp [h1]
  · by_cases h2 : a.secs > b.secs
    · simp [h1, h2]
    · by_cases h3 : a.nanos < b.nanos
      · simp [h1, h2, h3]; omega
      · by_cases h4 : a.nanos > b.nanos
        · simp [h1, h2, h3, h4]; omega
        · simp [h1, h2, h3, h4]; omega

theorem compareAscending_iff (a b : Ts) :
    (compareAscending a b = -1 ↔ (a.secs < b.secs ∨ (a.secs = b.secs ∧ a.nanos < b.nanos))) ∧
    (compareAscending a b = 0 ↔ a.secs = b.secs ∧ a.nanos = b.nanos) ∧
    (compareAscending a b = 1 ↔ (a.secs > b.secs ∨ (a.secs = b.secs ∧ a.nanos > b.nanos))) :=
  sign_table (compareAscending_cases a b) (by omega) (by omega) (by omega)

theorem compareAscending_swap (a b : Ts) : compareAscending b a = - compareAscending a b := by
  rcases compareAscending_cases a b with ⟨h, hc⟩ | ⟨h, hc⟩ | ⟨h, hc⟩ <;> rw [h]
  · exact (compareAscending_iff b a).2.2.mpr (by omega)
  · exact (compareAscending_iff b a).2.1.mpr ⟨hc.1.symm, hc.2.symm⟩
  · exact (compareAscending_iff b a).1.mpr (by omega)

theorem compareAscending_le_zero_fieldwise (a b : Ts) :
    compareAscending a b ≤ 0 ↔ (a.secs < b.secs ∨ (a.secs = b.secs ∧ a.nanos ≤ b.nanos)) := by
  rcases compareAscending_cases a b with ⟨h, hc⟩ | ⟨h, hc⟩ | ⟨h, hc⟩ <;> rw [h] <;> omega

theorem compareAscending_cases_toNs (a b : Ts) (ha : a.Normal) (hb : b.Normal) :
    (compareAscending a b = -1 ∧ a.toNs < b.toNs) ∨ (compareAscending a b = 0 ∧ a.toNs = b.toNs) ∨
    (compareAscending a b = 1 ∧ a.toNs > b.toNs) := by
  unfold Ts.Normal at ha hb
  unfold Ts.toNs
  rcases compareAscending_cases a b with ⟨h, hc⟩ | ⟨h, hc⟩ | ⟨h, hc⟩
  · exact .inl ⟨h, by omega⟩
  · exact .inr (.inl ⟨h, by omega⟩)
  · exact .inr (.inr ⟨h, by omega⟩)

theorem compareAscending_toNs (a b : Ts) (ha : a.Normal) (hb : b.Normal) :
    (compareAscending a b < 0 ↔ a.toNs < b.toNs) ∧ (compareAscending a b ≤ 0 ↔ a.toNs ≤ b.toNs) := by
  rcases compareAscending_cases_toNs a b ha hb with ⟨h, hc⟩ | ⟨h, hc⟩ | ⟨h, hc⟩ <;> rw [h] <;> omega

theorem cutPeriod_lower (s e : Option Ts) : (cutPeriod ⟨s, e⟩).1 = s.elim .belowAll .below := by
  cases s <;> cases e <;> rfl

theorem cutPeriod_upper (s e : Option Ts) : (cutPeriod ⟨s, e⟩).2 = e.elim .aboveAll .below := by
  cases s <;> cases e <;> rfl

/-- Two `below` cuts compare as their instants do: on a tie both sides are `below`, result 0. -/
theorem below_compareTo_below (s e : Ts) : (Cut.below s).compareTo (.below e) = compareAscending s e := by
  by_cases h : compareAscending s e = 0 <;> simp [Cut.compareTo, compareValueCuts, h]

/-- `a` is before `b` by `CompareAscending`, an absent bound on either side counting as infinitely far. -/
def optCmpLt (a b : Option Ts) : Prop :=
  match a, b with
  | some x, some y => compareAscending x y < 0
  | _, _ => True

/-- `a` is not after `b` by `CompareAscending`, an absent bound on either side counting as infinitely far. -/
def optCmpLe (a b : Option Ts) : Prop :=
  match a, b with
  | some x, some y => compareAscending x y ≤ 0
  | _, _ => True

/-- A missing bound is `belowAll` / `aboveAll`, strictly on the right side of everything; otherwise two `below`
cuts. -/
theorem lower_upper_fieldwise (p q : Period) :
    ((cutPeriod p).1.compareTo (cutPeriod q).2 < 0 ↔ optCmpLt p.start q.stop) ∧
    ((cutPeriod p).1.compareTo (cutPeriod q).2 ≤ 0 ↔ optCmpLe p.start q.stop) := by
  obtain ⟨s, _⟩ := p
  obtain ⟨_, e⟩ := q
  rw [cutPeriod_lower, cutPeriod_upper]
  have trivial_case : ((-1 : Int) < 0 ↔ True) ∧ ((-1 : Int) ≤ 0 ↔ True) := by decide
  cases s <;> cases e
  · exact trivial_case
  · exact trivial_case
  · exact trivial_case
  · show (_ < 0 ↔ compareAscending _ _ < 0) ∧ (_ ≤ 0 ↔ compareAscending _ _ ≤ 0)
    rw [Option.elim, Option.elim, below_compareTo_below]
    exact ⟨Iff.rfl, Iff.rfl⟩

theorem periods_fieldwise (p q : Period) :
    (periodsIntersect (some p) (some q) = true ↔ optCmpLt p.start q.stop ∧ optCmpLt q.start p.stop) ∧
    (periodsConnected (some p) (some q) = true ↔ optCmpLe p.start q.stop ∧ optCmpLe q.start p.stop) := by
  have h1 := lower_upper_fieldwise p q
  have h2 := lower_upper_fieldwise q p
  constructor
  · simp only [periodsIntersect, Bool.and_eq_true, decide_eq_true_eq]
    rw [h1.1, h2.1]
  · simp only [periodsConnected, Bool.and_eq_true, decide_eq_true_eq]
    rw [h1.2, h2.2]

/-- Any field values: no `Normal` is needed. -/
theorem before_after_fieldwise (a b : Ts) :
    (periodsIntersect (some (periodBefore (some a))) (some (periodOnOrAfter (some b))) = true ↔
      compareAscending b a = -1) ∧
    (periodsConnected (some (periodBefore (some a))) (some (periodOnOrAfter (some b))) = true ↔
      compareAscending b a ≤ 0) := by
  obtain ⟨h1, h2⟩ := periods_fieldwise (periodBefore (some a)) (periodOnOrAfter (some b))
  have hc := compareAscending_cases b a
  refine ⟨h1.trans ⟨fun h => ?_, fun h => ⟨trivial, show compareAscending b a < 0 by omega⟩⟩,
    h2.trans ⟨fun h => h.2, fun h => ⟨trivial, h⟩⟩⟩
  have : compareAscending b a < 0 := h.2
  omega

/-- Any period, the degenerate ones included. -/
theorem allTime_intersects (p : Period) : periodsIntersect (some allTime) (some p) = true :=
  (periods_fieldwise allTime p).1.mpr ⟨trivial, by cases p.start <;> trivial⟩

theorem optCmp_toNs (a b : Option Ts) (ha : optNormal a) (hb : optNormal b) :
    (optCmpLt a b ↔ bLt (a.map Ts.toNs) (b.map Ts.toNs)) ∧ (optCmpLe a b ↔ bLe (a.map Ts.toNs) (b.map Ts.toNs)) := by
  cases a <;> cases b
  case some.some x y => exact compareAscending_toNs x y ha hb
  all_goals exact ⟨Iff.rfl, Iff.rfl⟩

theorem lower_lt_upper (p q : Period) (hp : optNormal p.start) (hq : optNormal q.stop) :
    (cutPeriod p).1.compareTo (cutPeriod q).2 < 0 ↔ bLt p.lo q.hi :=
  (lower_upper_fieldwise p q).1.trans (optCmp_toNs _ _ hp hq).1

theorem lower_le_upper (p q : Period) (hp : optNormal p.start) (hq : optNormal q.stop) :
    (cutPeriod p).1.compareTo (cutPeriod q).2 ≤ 0 ↔ bLe p.lo q.hi :=
  (lower_upper_fieldwise p q).2.trans (optCmp_toNs _ _ hp hq).2

/-- An instant two overlapping intervals share: the later lower bound, or just below the earlier upper bound. -/
def witness (l1 l2 u1 u2 : Option Int) : Int :=
  match l1, l2 with
  | some a, some b => max a b
  | some a, none => a
  | none, some b => b
  | none, none =>
    match u1, u2 with
    | some c, some d => min c d - 1
    | some c, none => c - 1
    | none, some d => d - 1
    | none, none => 0

theorem bLt_of_mem {l u : Option Int} {x : Int} (h1 : lbLe l x) (h2 : ubLt x u) : bLt l u := by
  cases l <;> cases u
  case some.some a b => exact Int.lt_of_le_of_lt h1 h2
  all_goals trivial

theorem exists_mem_iff (l1 u1 l2 u2 : Option Int) (h1 : bLt l1 u1) (h2 : bLt l2 u2) :
    (∃ x, (lbLe l1 x ∧ ubLt x u1) ∧ (lbLe l2 x ∧ ubLt x u2)) ↔ (bLt l1 u2 ∧ bLt l2 u1) := by
  constructor
  · rintro ⟨x, ⟨a1, b1⟩, ⟨a2, b2⟩⟩
    exact ⟨bLt_of_mem a1 b2, bLt_of_mem a2 b1⟩
  · intro h
    refine ⟨witness l1 l2 u1 u2, ?_⟩
    cases l1 <;> cases u1 <;> cases l2 <;> cases u2 <;>
      simp only [lbLe, ubLt, bLt, witness, and_true, true_and] at * <;> (try omega)

/-- Over ℤ a closed upper bound `u` is the open upper bound `u + 1`. -/
theorem ubLe_iff_ubLt (x : Int) (u : Option Int) : ubLe x u ↔ ubLt x (u.map (· + 1)) := by
  cases u
  · exact Iff.rfl
  · exact Int.lt_add_one_iff.symm

theorem bLe_iff_bLt (l u : Option Int) : bLe l u ↔ bLt l (u.map (· + 1)) := by
  cases l <;> cases u
  case some.some a b => exact Int.lt_add_one_iff.symm
  all_goals exact Iff.rfl

theorem exists_enclosed_iff (l1 u1 l2 u2 : Option Int) (h1 : bLe l1 u1) (h2 : bLe l2 u2) :
    (∃ x, (lbLe l1 x ∧ ubLe x u1) ∧ (lbLe l2 x ∧ ubLe x u2)) ↔ (bLe l1 u2 ∧ bLe l2 u1) := by
  simp only [ubLe_iff_ubLt, bLe_iff_bLt] at *
  exact exists_mem_iff _ _ _ _ h1 h2

theorem compareTo_cases (a b : Cut) :
    (a.compareTo b = -1 ∧ a.keyLt b) ∨ (a.compareTo b = 0 ∧ a = b) ∨ (a.compareTo b = 1 ∧ b.keyLt a) := by
  have hst : ∀ s t : Ts, s = t ↔ (s.secs = t.secs ∧ s.nanos = t.nanos) := fun s t => by cases s; cases t; simp
  cases a with
  | belowAll | aboveAll => cases b <;> simp [Cut.compareTo, Cut.keyLt, Cut.cls]
  | below s | above s =>
    cases b with
    | belowAll | aboveAll => simp [Cut.compareTo, compareValueCuts, Cut.keyLt, Cut.cls]
    | below t | above t =>
      -- two value cuts: by `compareAscending`, a tie broken by the sides
      rcases compareAscending_cases s t with ⟨h, hc⟩ | ⟨h, hc⟩ | ⟨h, hc⟩ <;>
        simp only [Cut.compareTo, compareValueCuts, h, Cut.keyLt, Cut.cls, Cut.ksecs, Cut.knanos, Cut.side,
          Cut.below.injEq, Cut.above.injEq, hst] <;> simp <;> omega

theorem keyLt_asymm (a b : Cut) : a.keyLt b → ¬ b.keyLt a := by
  unfold Cut.keyLt; omega

theorem keyLt_trans (a b c : Cut) : a.keyLt b → b.keyLt c → a.keyLt c := by
  unfold Cut.keyLt; omega

theorem keyLt_irrefl (a : Cut) : ¬ a.keyLt a := fun h => keyLt_asymm a a h h

theorem compareTo_iff (a b : Cut) :
    (a.compareTo b = -1 ↔ a.keyLt b) ∧ (a.compareTo b = 0 ↔ a = b) ∧ (a.compareTo b = 1 ↔ b.keyLt a) :=
  sign_table (compareTo_cases a b) (fun h e => keyLt_irrefl b (e ▸ h)) (keyLt_asymm a b)
    (fun e h => keyLt_irrefl b (e ▸ h))

theorem compareTo_swap (a b : Cut) : b.compareTo a = - a.compareTo b := by
  rcases compareTo_cases a b with ⟨h, hk⟩ | ⟨h, hk⟩ | ⟨h, hk⟩ <;> rw [h]
  · exact (compareTo_iff b a).2.2.mpr hk
  · exact (compareTo_iff b a).2.1.mpr hk.symm
  · exact (compareTo_iff b a).1.mpr hk

theorem compareTo_lt_zero_iff (a b : Cut) : a.compareTo b < 0 ↔ a.keyLt b := by
  rcases compareTo_cases a b with ⟨h, hk⟩ | ⟨h, rfl⟩ | ⟨h, hk⟩ <;> rw [h]
  · exact iff_of_true (by decide) hk
  · exact iff_of_false (by decide) (keyLt_irrefl a)
  · exact iff_of_false (by decide) (keyLt_asymm b a hk)

theorem compareTo_le_zero_iff (a b : Cut) : a.compareTo b ≤ 0 ↔ a.keyLt b ∨ a = b := by
  rcases compareTo_cases a b with ⟨h, hk⟩ | ⟨h, hk⟩ | ⟨h, hk⟩ <;> rw [h]
  · exact iff_of_true (by decide) (.inl hk)
  · exact iff_of_true (by decide) (.inr hk)
  · refine iff_of_false (by decide) ?_
    rintro (h | rfl)
    · exact keyLt_asymm b a hk h
    · exact keyLt_irrefl a hk

/-- The position of a cut is its key `(seconds, nanos, side)` written in mixed radix. -/
theorem Cut.pos_eq (a : Cut) : a.pos = 2 * (a.ksecs * 1000000000 + a.knanos) + a.side := by
  cases a <;> simp [Cut.pos, Cut.ksecs, Cut.knanos, Cut.side, Ts.toNs]

theorem Cut.key_digits (a : Cut) (ha : a.Normal) :
    0 ≤ a.knanos ∧ a.knanos < 1000000000 ∧ 0 ≤ a.side ∧ a.side ≤ 1 := by
  cases a <;> simp [Cut.knanos, Cut.side] <;> exact ha

/-- With the digits in range, comparing mixed-radix numbers is comparing their digits lexicographically. -/
theorem keyLt_pos (a b : Cut) (ha : a.Normal) (hb : b.Normal) :
    a.keyLt b ↔ (a.cls < b.cls ∨ (a.cls = b.cls ∧ a.pos < b.pos)) := by
  have da := a.key_digits ha
  have db := b.key_digits hb
  rw [Cut.keyLt, a.pos_eq, b.pos_eq]
  omega

end ScVerif.C18
