import ScVerif.C18.Mode
/-!
# C18 — "never modify their arguments": `Shift`, `Cut`, `modepb.Cut` on an explicit heap

A heap has segment cells (`*ElectricMode_Segment`, address = index) and backing arrays of
`[]*ElectricMode_Segment` slices (array id = index, elements = cell addresses).  A slice is
`(array, offset, length)`; its capacity is what is left of the array.  The operations below follow the
Go code allocation by allocation and write by write: `&Segment{…}` and `proto.Clone` allocate cells,
`make`/`append` beyond capacity allocate arrays, `append` within capacity and `s[i] = x` WRITE into an
existing array.  `Shift` and `Cut` only allocate.  `modepb.Cut` writes twice — into the arrays of the
two deep clones it has just made.

`Heap.Extends` is the frame: everything that existed is unchanged.  `ValidSlice` / `Arr` say that a slice, or a
whole array the operation made itself, consists of existing cells and what it reads as; both survive every
extension, so a fact about a clone made early is still there after the last store.
For `Shift` and `modepb.Cut` the frame is proved statement by statement (HeapTraceShift, HeapTrace).

Who writes at all: the loop of `Sum` (cells it appended itself, Heap.lean), `Shift` (the `Length` of its own clone of
the first segment, HeapTraceShift), `modepb.Cut` (the arrays of its two clones, here), `modepb.Shift` (the clone
object, HeapTrace).  Doubled definitions and what relates them: `modifyAt` (Heap.lean) is `modifyNth` on cells
(`modifyAt_eq_modifyNth`); `ModeObj` (HeapTrace) has the fields of `HeapMode` and is converted field by field
(`modeShiftTrace_last`); the mode a `HeapMode` reads as is `HeapMode.toMode` (HeapRefine), written out as
`⟨m.start, readSegs h m.segs⟩` in most statements; slice validity is `ValidAddrs h (readSlice h sl)`, or, bundled
with the array's existence, `ValidSlice`.
(Proof only, not driver-linked; on the real code the frame clause is decided by the monitor, which
deep-compares arguments including spare slice capacity.  A `before` that shared the caller's backing
array — what `proto.Clone` prevents — would make `heapModeCut_extends` unprovable: the write at
`index` would land in a pre-existing array.)
-/
namespace ScVerif.C18

structure Heap where
  cells : List Seg
  arrays : List (List Nat)

structure Slice where
  arr : Nat
  off : Nat
  len : Nat
deriving Repr, DecidableEq

/-- `h` is `h0` plus newly allocated cells and arrays: everything that existed is unchanged. -/
def Heap.Extends (h0 h : Heap) : Prop :=
  (∃ c, h.cells = h0.cells ++ c) ∧ (∃ a, h.arrays = h0.arrays ++ a)

theorem Heap.Extends.refl (h : Heap) : h.Extends h := ⟨⟨[], by simp⟩, ⟨[], by simp⟩⟩

theorem Heap.Extends.trans {h0 h1 h2 : Heap} (a : h0.Extends h1) (b : h1.Extends h2) : h0.Extends h2 := by
  obtain ⟨⟨c1, e1⟩, ⟨a1, f1⟩⟩ := a
  obtain ⟨⟨c2, e2⟩, ⟨a2, f2⟩⟩ := b
  exact ⟨⟨c1 ++ c2, by rw [e2, e1, List.append_assoc]⟩, ⟨a1 ++ a2, by rw [f2, f1, List.append_assoc]⟩⟩

theorem Heap.Extends.arrays_le {h0 h : Heap} (a : h0.Extends h) : h0.arrays.length ≤ h.arrays.length := by
  obtain ⟨_, ⟨x, e⟩⟩ := a
  rw [e]; simp

theorem Heap.Extends.cells_lt {h0 h : Heap} (e : h0.Extends h) {a : Nat} (ha : a < h0.cells.length) :
    a < h.cells.length := by
  obtain ⟨⟨c, hc⟩, _⟩ := e
  rw [hc, List.length_append]
  omega

theorem Heap.Extends.pointwise {h0 h : Heap} (e : h0.Extends h) :
    (∀ a, a < h0.cells.length → h.cells[a]? = h0.cells[a]?) ∧
    (∀ i, i < h0.arrays.length → h.arrays[i]? = h0.arrays[i]?) := by
  obtain ⟨⟨c, hc⟩, ⟨a, ha⟩⟩ := e
  exact ⟨fun x hx => by rw [hc, List.getElem?_append_left hx],
    fun i hi => by rw [ha, List.getElem?_append_left hi]⟩

theorem all_nil {α : Type} {p : α → Prop} : ∀ x ∈ ([] : List α), p x := fun _ h => nomatch h

theorem all_cons {α : Type} {p : α → Prop} {a : α} {l : List α} (h1 : p a) (h2 : ∀ x ∈ l, p x) :
    ∀ x ∈ a :: l, p x :=
  List.forall_mem_cons.mpr ⟨h1, h2⟩

theorem all_append_extends {h h1 : Heap} {T1 T2 : List Heap} (r1 : ∀ hi ∈ T1, h.Extends hi)
    (e : h.Extends h1) (r2 : ∀ hi ∈ T2, h1.Extends hi) : ∀ hi ∈ T1 ++ T2, h.Extends hi :=
  List.forall_mem_append.mpr ⟨r1, fun hi hm => e.trans (r2 hi hm)⟩

def allocCell (h : Heap) (s : Seg) : Heap × Nat := (⟨h.cells ++ [s], h.arrays⟩, h.cells.length)

def allocArr (h : Heap) (xs : List Nat) : Heap × Nat := (⟨h.cells, h.arrays ++ [xs]⟩, h.arrays.length)

theorem allocCell_extends (h : Heap) (s : Seg) : h.Extends (allocCell h s).1 :=
  ⟨⟨[s], rfl⟩, ⟨[], by simp [allocCell]⟩⟩

theorem allocArr_extends (h : Heap) (xs : List Nat) : h.Extends (allocArr h xs).1 :=
  ⟨⟨[], by simp [allocArr]⟩, ⟨[xs], rfl⟩⟩

def modifyNth {α : Type} : Nat → (α → α) → List α → List α
  | _, _, [] => []
  | 0, f, x :: t => f x :: t
  | n + 1, f, x :: t => x :: modifyNth n f t

theorem modifyNth_append_right {α : Type} (f : α → α) (l r : List α) (n : Nat) (h : l.length ≤ n) :
    modifyNth n f (l ++ r) = l ++ modifyNth (n - l.length) f r := by
  induction l generalizing n with
  | nil => simp
  | cons x l ih =>
    cases n with
    | zero => simp at h
    | succ n =>
      simp only [List.cons_append, modifyNth, List.length_cons, Nat.add_sub_add_right]
      rw [ih n (by simpa using h)]

theorem modifyNth_length_append {α : Type} (f : α → α) (l : List α) (x : α) :
    modifyNth l.length f (l ++ [x]) = l ++ [f x] := by
  rw [modifyNth_append_right f l [x] l.length (Nat.le_refl _)]
  simp [modifyNth]

theorem modifyNth_getElem? {α : Type} (f : α → α) (l : List α) (n : Nat) :
    (modifyNth n f l)[n]? = (l[n]?).map f := by
  induction l generalizing n with
  | nil => simp [modifyNth]
  | cons x t ih =>
    cases n with
    | zero => simp [modifyNth]
    | succ n => simpa [modifyNth] using ih n

theorem modifyNth_getElem?_ne {α : Type} (f : α → α) (l : List α) (n k : Nat) (hne : k ≠ n) :
    (modifyNth n f l)[k]? = l[k]? := by
  induction l generalizing n k with
  | nil => simp [modifyNth]
  | cons x t ih =>
    cases n with
    | zero =>
      cases k with
      | zero => exact absurd rfl hne
      | succ k => simp [modifyNth]
    | succ n =>
      cases k with
      | zero => simp [modifyNth]
      | succ k => simpa [modifyNth] using ih n k (by omega)

/-- Why a store into something allocated after a heap leaves that heap intact. -/
theorem modifyNth_append_past {α : Type} (f : α → α) (l r : List α) (n : Nat) (h : l.length ≤ n) :
    ∃ r', modifyNth n f (l ++ r) = l ++ r' :=
  ⟨_, modifyNth_append_right f l r n h⟩

/-- `array[id][pos] = v`. -/
def setArr (h : Heap) (id pos v : Nat) : Heap :=
  ⟨h.cells, modifyNth id (fun a => a.set pos v) h.arrays⟩

theorem setArr_extends {h0 h : Heap} (e : h0.Extends h) (id pos v : Nat) (hid : h0.arrays.length ≤ id) :
    h0.Extends (setArr h id pos v) := by
  obtain ⟨hc, ⟨a, ha⟩⟩ := e
  exact ⟨hc, by rw [setArr, ha]; exact modifyNth_append_past _ _ _ _ hid⟩

theorem setArr_opt_extends {h0 h : Heap} (e : h0.Extends h) (o : Option Nat) (id pos : Nat)
    (hid : h0.arrays.length ≤ id) :
    h0.Extends (match o with | none => h | some x => setArr h id pos x) := by
  cases o
  · exact e
  · exact setArr_extends e _ _ _ hid

/-- The pointers a slice header `(array, offset, length)` gives access to (none if there is no such array). -/
def readSlice (h : Heap) (sl : Slice) : List Nat :=
  (((h.arrays[sl.arr]?).getD []).drop sl.off).take sl.len

/-- `*p` for a segment pointer (a dangling address reads as the stand-in `nilSeg`). -/
def readCell (h : Heap) (a : Nat) : Seg := (h.cells[a]?).getD nilSeg

/-- The segment VALUES a reader finds behind a slice: what the pure functions are applied to. -/
def readSegs (h : Heap) (sl : Slice) : List Seg := (readSlice h sl).map (readCell h)

theorem readSlice_of_get {h : Heap} {id : Nat} {xs : List Nat} (hg : h.arrays[id]? = some xs) (off n : Nat) :
    readSlice h ⟨id, off, n⟩ = (xs.drop off).take n := by
  simp only [readSlice, hg, Option.getD_some]

theorem readSlice_of_len_zero (h : Heap) {sl : Slice} (h0 : sl.len = 0) : readSlice h sl = [] := by
  rw [readSlice, h0, List.take_zero]

/-- `s[i:]`. -/
theorem readSlice_drop (h : Heap) (sl : Slice) (i : Nat) :
    readSlice h ⟨sl.arr, sl.off + i, sl.len - i⟩ = (readSlice h sl).drop i := by
  simp only [readSlice, List.drop_take, List.drop_drop]

theorem readSegs_of_slice {h : Heap} {sl : Slice} {xs : List Nat} (hs : readSlice h sl = xs) :
    readSegs h sl = xs.map (readCell h) := hs ▸ rfl

theorem readSegs_length (h : Heap) (sl : Slice) : (readSegs h sl).length = (readSlice h sl).length :=
  List.length_map _

theorem allocArr_get (h : Heap) (xs : List Nat) : (allocArr h xs).1.arrays[(allocArr h xs).2]? = some xs := by
  simp [allocArr]

theorem setArr_get_same {H : Heap} {id : Nat} {xs : List Nat} (hg : H.arrays[id]? = some xs) (pos v : Nat) :
    (setArr H id pos v).arrays[id]? = some (xs.set pos v) := by
  simp only [setArr, modifyNth_getElem?, hg, Option.map_some]

theorem setArr_get_other (H : Heap) {id k : Nat} (hne : k ≠ id) (pos v : Nat) :
    (setArr H id pos v).arrays[k]? = H.arrays[k]? :=
  modifyNth_getElem?_ne _ _ _ _ hne

theorem readSlice_setArr_same (H : Heap) (id pos v off n : Nat) :
    readSlice (setArr H id pos v) ⟨id, off, n⟩ = ((((H.arrays[id]?).getD []).set pos v).drop off).take n := by
  simp only [readSlice, setArr, modifyNth_getElem?]
  cases H.arrays[id]? <;> simp

theorem readSlice_setArr_other (H : Heap) (id pos v : Nat) (sl : Slice) (hne : sl.arr ≠ id) :
    readSlice (setArr H id pos v) sl = readSlice H sl := by
  simp only [readSlice, setArr_get_other H hne]

theorem readCell_setArr (H : Heap) (id pos v a : Nat) : readCell (setArr H id pos v) a = readCell H a := rfl

/-- Addresses of existing cells: a Go slice of non-nil pointers. -/
def ValidAddrs (h : Heap) (xs : List Nat) : Prop := ∀ a ∈ xs, a < h.cells.length

theorem ValidAddrs.tail {h : Heap} {a : Nat} {xs : List Nat} (v : ValidAddrs h (a :: xs)) : ValidAddrs h xs :=
  fun b hb => v b (List.mem_cons_of_mem _ hb)

theorem ValidAddrs.extends {h0 h : Heap} {xs : List Nat} (v : ValidAddrs h0 xs) (e : h0.Extends h) :
    ValidAddrs h xs :=
  fun a ha => e.cells_lt (v a ha)

theorem readCell_extends {h0 h : Heap} (e : h0.Extends h) (a : Nat) (ha : a < h0.cells.length) :
    readCell h a = readCell h0 a := by
  simp only [readCell, e.pointwise.1 a ha]

theorem map_readCell_extends {h0 h : Heap} (e : h0.Extends h) (xs : List Nat) (v : ValidAddrs h0 xs) :
    xs.map (readCell h) = xs.map (readCell h0) :=
  List.map_congr_left (fun a ha => readCell_extends e a (v a ha))

theorem readSlice_extends {h0 h : Heap} (e : h0.Extends h) (sl : Slice) (ha : sl.arr < h0.arrays.length) :
    readSlice h sl = readSlice h0 sl := by
  simp only [readSlice, e.pointwise.2 _ ha]

theorem readSegs_extends {h0 h : Heap} (e : h0.Extends h) (sl : Slice) (ha : sl.arr < h0.arrays.length)
    (hc : ∀ a ∈ readSlice h0 sl, a < h0.cells.length) : readSegs h sl = readSegs h0 sl := by
  rw [readSegs, readSlice_extends e sl ha]
  exact map_readCell_extends e _ hc

/-- A slice whose elements are existing cells and whose array exists (or which is empty). -/
def ValidSlice (h : Heap) (sl : Slice) : Prop :=
  ValidAddrs h (readSlice h sl) ∧ (sl.arr < h.arrays.length ∨ sl.len = 0)

theorem readSegs_extends_validSlice {h0 h : Heap} (e : h0.Extends h) (sl : Slice) (vs : ValidSlice h0 sl) :
    readSegs h sl = readSegs h0 sl := by
  rcases vs.2 with ha | h0len
  · exact readSegs_extends e sl ha vs.1
  · rw [readSegs, readSegs, readSlice_of_len_zero h h0len, readSlice_of_len_zero h0 h0len]; rfl

theorem ValidSlice.extends {h0 h : Heap} {sl : Slice} (vs : ValidSlice h0 sl) (e : h0.Extends h) :
    ValidSlice h sl := by
  rcases vs.2 with ha | h0len
  · refine ⟨?_, Or.inl (Nat.lt_of_lt_of_le ha e.arrays_le)⟩
    rw [readSlice_extends e sl ha]
    exact vs.1.extends e
  · refine ⟨?_, Or.inr h0len⟩
    rw [readSlice_of_len_zero h h0len]
    exact fun a hmem => nomatch hmem

theorem readCell_allocCell_new (h : Heap) (s : Seg) : readCell (allocCell h s).1 (allocCell h s).2 = s := by
  simp [readCell, allocCell]

theorem allocCell_new_lt (h : Heap) (s : Seg) : (allocCell h s).2 < (allocCell h s).1.cells.length := by
  simp [allocCell]

theorem readSlice_length_le (h : Heap) (sl : Slice) : (readSlice h sl).length ≤ sl.len :=
  List.length_take_le _ _

theorem readSlice_allocArr_new (h : Heap) (xs : List Nat) (n : Nat) (hn : xs.length ≤ n) :
    readSlice (allocArr h xs).1 ⟨(allocArr h xs).2, 0, n⟩ = xs := by
  rw [readSlice_of_get (allocArr_get h xs), List.drop_zero, List.take_of_length_le hn]

theorem readSegs_allocArr_new (h : Heap) (xs : List Nat) (n : Nat) (hn : xs.length ≤ n) :
    readSegs (allocArr h xs).1 ⟨(allocArr h xs).2, 0, n⟩ = xs.map (readCell h) := by
  rw [readSegs, readSlice_allocArr_new h xs n hn]
  rfl

theorem validSlice_allocArr (h : Heap) (xs : List Nat) (n : Nat) (v : ValidAddrs h xs) :
    ValidSlice (allocArr h xs).1 ⟨(allocArr h xs).2, 0, n⟩ := by
  refine ⟨fun a hmem => v a ?_, Or.inl (by simp [allocArr])⟩
  rw [readSlice_of_get (allocArr_get h xs)] at hmem
  exact List.mem_of_mem_take hmem

theorem readSegs_fresh {h H : Heap} (e : h.Extends H) {x : Nat} {xs : List Nat} {n : Nat} (hx : x < H.cells.length)
    (v : ValidAddrs h xs) (hn : xs.length < n) :
    readSegs (allocArr H (x :: xs)).1 ⟨(allocArr H (x :: xs)).2, 0, n⟩ = readCell H x :: xs.map (readCell h) ∧
    ValidSlice (allocArr H (x :: xs)).1 ⟨(allocArr H (x :: xs)).2, 0, n⟩ := by
  refine ⟨?_, validSlice_allocArr _ _ _ (fun b hb => ?_)⟩
  · rw [readSegs_allocArr_new _ _ _ hn, List.map_cons, map_readCell_extends e xs v]
  · rcases List.mem_cons.mp hb with rfl | hb
    · exact hx
    · exact e.cells_lt (v b hb)

/-- The array `id` of `h` holds the addresses `xs`, existing cells that read as `S`: what is known of an array the
operation has made itself (`make`, `proto.Clone`). -/
structure Arr (h : Heap) (id : Nat) (xs : List Nat) (S : List Seg) : Prop where
  get : h.arrays[id]? = some xs
  valid : ValidAddrs h xs
  vals : xs.map (readCell h) = S

theorem Arr.extends {h h' : Heap} {id : Nat} {xs : List Nat} {S : List Seg} (a : Arr h id xs S)
    (e : h.Extends h') : Arr h' id xs S :=
  ⟨(e.pointwise.2 id (List.getElem?_eq_some_iff.mp a.get).1).trans a.get, a.valid.extends e,
    (map_readCell_extends e xs a.valid).trans a.vals⟩

theorem arr_allocArr (h : Heap) (xs : List Nat) (v : ValidAddrs h xs) :
    Arr (allocArr h xs).1 (allocArr h xs).2 xs (xs.map (readCell h)) :=
  ⟨allocArr_get h xs, v, rfl⟩

theorem Arr.slice {h : Heap} {id : Nat} {xs : List Nat} {S : List Seg} (a : Arr h id xs S) (off n : Nat) :
    readSlice h ⟨id, off, n⟩ = (xs.drop off).take n :=
  readSlice_of_get a.get off n

theorem Arr.reads {h : Heap} {id : Nat} {xs : List Nat} {S : List Seg} (a : Arr h id xs S) (off n : Nat) :
    readSegs h ⟨id, off, n⟩ = (S.drop off).take n := by
  rw [readSegs, a.slice, ← a.vals, List.map_take, List.map_drop]

theorem Arr.reads_setOpt {H : Heap} {id : Nat} {xs : List Nat} {S : List Seg} (a : Arr H id xs S)
    (o : Option Nat) (pos off n : Nat) :
    readSegs (match o with | none => H | some x => setArr H id pos x) ⟨id, off, n⟩ =
      ((match o with | none => S | some x => S.set pos (readCell H x)).drop off).take n := by
  cases o with
  | none => exact a.reads off n
  | some x =>
    rw [readSegs, readSlice_of_get (setArr_get_same a.get pos x), ← a.vals, List.map_take, List.map_drop, List.map_set]
    rfl

theorem Arr.setOpt_other {H : Heap} {id' : Nat} {xs : List Nat} {S : List Seg} (a : Arr H id' xs S)
    (o : Option Nat) (id pos : Nat) (hne : id' ≠ id) :
    Arr (match o with | none => H | some x => setArr H id pos x) id' xs S := by
  cases o with
  | none => exact a
  | some x => exact ⟨(setArr_get_other H hne pos x).trans a.get, a.valid, a.vals⟩

/-- `Cut(d, segment)` with `segment` the cell at `addr`; returns addresses (`none` = nil). -/
def heapCut (h : Heap) (d : Int) (addr : Nat) : Heap × Option Nat × Option Nat × Bool :=
  let s := readCell h addr
  if d ≤ 0 then (h, none, some addr, decide (d < 0))
  else
    match s.len with
    | none =>
      let r := allocCell h ⟨s.mag, some d⟩
      (r.1, some r.2, some addr, false)
    | some l =>
      if l ≤ d then (h, some addr, none, true)
      else
        let r1 := allocCell h ⟨s.mag, some d⟩
        let r2 := allocCell r1.1 ⟨s.mag, some (l - d)⟩
        (r2.1, some r1.2, some r2.2, false)

theorem heapCut_extends (h : Heap) (d : Int) (addr : Nat) : h.Extends (heapCut h d addr).1 := by
  unfold heapCut
  simp only []
  split
  · exact Heap.Extends.refl h
  · split
    · exact allocCell_extends h _
    · split
      · exact Heap.Extends.refl h
      · exact (allocCell_extends h _).trans (allocCell_extends _ _)

theorem heapCut_arrays (h : Heap) (d : Int) (addr : Nat) : (heapCut h d addr).1.arrays = h.arrays := by
  unfold heapCut
  simp only []
  split
  · rfl
  · split
    · rfl
    · split <;> rfl

theorem heapCut_refines (h : Heap) (d : Int) (addr : Nat) (ha : addr < h.cells.length) :
    (heapCut h d addr).2.1.map (readCell (heapCut h d addr).1) = (cutSeg d (readCell h addr)).before ∧
    (heapCut h d addr).2.2.1.map (readCell (heapCut h d addr).1) = (cutSeg d (readCell h addr)).after ∧
    (heapCut h d addr).2.2.2 = (cutSeg d (readCell h addr)).outside := by
  unfold heapCut cutSeg
  simp only []
  by_cases hd : d ≤ 0
  · simp [hd]
  · simp only [hd, if_false]
    cases hl : (readCell h addr).len with
    | none =>
      simp only [Option.map_some, Option.some.injEq, and_true]
      exact ⟨readCell_allocCell_new _ _, readCell_extends (allocCell_extends _ _) addr ha⟩
    | some l =>
      simp only []
      by_cases hle : l ≤ d
      · simp [hle]
      · simp only [hle, if_false, Option.map_some, Option.some.injEq, and_true]
        refine ⟨?_, readCell_allocCell_new _ _⟩
        rw [readCell_extends (allocCell_extends _ _) _ (by simp [allocCell])]
        exact readCell_allocCell_new _ _

theorem heapCut_after_valid (h : Heap) (d : Int) (addr : Nat) (ha : addr < h.cells.length) (l : Int)
    (hl : (readCell h addr).len = some l) (hlt : d < l) :
    ∃ x, (heapCut h d addr).2.2.1 = some x ∧ x < (heapCut h d addr).1.cells.length := by
  unfold heapCut
  simp only []
  by_cases hd : d ≤ 0
  · simp only [hd, if_true]
    exact ⟨addr, rfl, ha⟩
  · simp only [hd, if_false, hl]
    have : ¬ l ≤ d := by omega
    simp only [this, if_false]
    exact ⟨_, rfl, by simp [allocCell]⟩

/-- The loop of the negative branch; `elems` are the addresses still to visit, `i` their position. -/
def heapShiftNegLoop (h : Heap) (d : Int) (sl : Slice) : Int → Nat → List Nat → Heap × Slice
  | _, _, [] => (h, ⟨0, 0, 0⟩)
  | cur, i, a :: rest =>
    match (readCell h a).len with
    | none => (h, ⟨sl.arr, sl.off + i, sl.len - i⟩)
    | some l =>
      if cur + l > d then
        let c := heapCut h (d - cur) a
        let r := allocArr c.1 ((c.2.2.1.getD 0) :: rest)
        (r.1, ⟨r.2, 0, sl.len - i⟩)
      else heapShiftNegLoop h d sl (cur + l) (i + 1) rest

/-- `Shift(d, segments...)` with `segments` the slice `sl`. -/
def heapShift (h : Heap) (d : Int) (sl : Slice) : Heap × Slice :=
  let elems := readSlice h sl
  if d = 0 then (h, sl)
  else
    match elems with
    | [] => (h, sl)
    | first :: rest =>
      if d > 0 then
        let f := readCell h first
        if f.mag = 0 then
          match f.len with
          | none => (h, sl)
          | some l =>
            let c := allocCell h ⟨f.mag, some (l + d)⟩     -- proto.Clone(first), Length replaced
            let r := allocArr c.1 (c.2 :: rest)            -- make + copy
            (r.1, ⟨r.2, 0, sl.len⟩)
        else
          let c := allocCell h ⟨0, some d⟩
          let r := allocArr c.1 (c.2 :: first :: rest)
          (r.1, ⟨r.2, 0, sl.len + 1⟩)
      else heapShiftNegLoop h (-d) sl 0 0 (first :: rest)

/-- Deep copy of the cells of a slice (`proto.Clone` of the mode's segments): a new cell for each. -/
def cloneCells (h : Heap) : List Nat → Heap × List Nat
  | [] => (h, [])
  | a :: rest =>
    let c := allocCell h (readCell h a)
    let r := cloneCells c.1 rest
    (r.1, c.2 :: r.2)

theorem cloneCells_spec (h : Heap) (xs : List Nat) :
    h.Extends (cloneCells h xs).1 ∧ (cloneCells h xs).1.arrays = h.arrays ∧ (cloneCells h xs).2.length = xs.length ∧
    (ValidAddrs h xs → ValidAddrs (cloneCells h xs).1 (cloneCells h xs).2 ∧
      (cloneCells h xs).2.map (readCell (cloneCells h xs).1) = xs.map (readCell h)) := by
  induction xs generalizing h with
  | nil => exact ⟨.refl h, rfl, rfl, fun _ => ⟨fun a ha => (nomatch ha), rfl⟩⟩
  | cons a rest ih =>
    simp only [cloneCells]
    obtain ⟨e2, harr, hlen, hval⟩ := ih (allocCell h (readCell h a)).1
    have e1 := allocCell_extends h (readCell h a)
    refine ⟨e1.trans e2, harr, congrArg (· + 1) hlen, fun v => ?_⟩
    obtain ⟨hv, hmap⟩ := hval (v.tail.extends e1)
    have hnew := allocCell_new_lt h (readCell h a)
    refine ⟨fun b hb => ?_, ?_⟩
    · rcases List.mem_cons.mp hb with rfl | hb
      · exact e2.cells_lt hnew
      · exact hv b hb
    · rw [List.map_cons, List.map_cons, hmap, map_readCell_extends e1 rest v.tail, readCell_extends e2 _ hnew, readCell_allocCell_new]

/-- `proto.Clone` of the mode's segments: the cells copied by `cloneCells`, in a new backing array. -/
def cloneSlice (h : Heap) (sl : Slice) : Heap × Slice :=
  let c := cloneCells h (readSlice h sl)
  let r := allocArr c.1 c.2
  (r.1, ⟨r.2, 0, sl.len⟩)

theorem cloneSlice_extends (h : Heap) (sl : Slice) : h.Extends (cloneSlice h sl).1 :=
  (cloneCells_spec h _).1.trans (allocArr_extends _ _)

theorem cloneSlice_arr_ge (h : Heap) (sl : Slice) : h.arrays.length ≤ (cloneSlice h sl).2.arr := by
  simp only [cloneSlice, allocArr]
  exact (cloneCells_spec h _).1.arrays_le

structure HeapMode where
  start : Option Int
  segs : Slice
deriving Repr, DecidableEq

/-- `modepb.Cut(t, mode)`: the mode object itself is never written (its fields are read only); the
two clones are new objects whose `Segments` slices live in new arrays. -/
def heapModeCutWith (deep : Bool) (h : Heap) (t : Int) (m : HeapMode) :
    Heap × Option HeapMode × Option HeapMode × Bool :=
  if m.segs.len = 0 then (h, some m, some m, true)
  else
    let st := m.start.getD t
    if ¬ (t > st) then (h, none, some m, decide (t < st))
    else
      let d := t - st
      let ei := activeAt d (readSegs h m.segs)
      if ei.2 = m.segs.len then (h, some m, none, true)
      else
        -- before = proto.Clone(mode); `deep = false` is the shallow copy `*before = *mode` that shares the
        -- caller's backing array (what the code must not do; see `C18_args_unchanged_needs_clone`)
        let b := if deep then cloneSlice h m.segs else (h, m.segs)
        let a := cloneSlice b.1 m.segs                     -- after = proto.Clone(mode)
        let c := heapCut a.1 (d - ei.1) ((readSlice h m.segs)[ei.2]?.getD 0)
        let sb := c.2.1
        let sa := c.2.2.1
        -- before.Segments = append(before.Segments[:index], sb): within capacity, a WRITE at [index]
        let hb := match sb with
          | none => c.1
          | some x => setArr c.1 b.2.arr ei.2 x
        let before : HeapMode := match sb with
          | none => ⟨m.start, ⟨b.2.arr, 0, ei.2⟩⟩
          | some _ => ⟨m.start, ⟨b.2.arr, 0, ei.2 + 1⟩⟩
        -- after.Segments[index] = sa; after.Segments = after.Segments[index:]
        let ha := match sa with
          | none => hb
          | some x => setArr hb a.2.arr ei.2 x
        let after : HeapMode := match sa with
          | none => ⟨some t, ⟨a.2.arr, ei.2 + 1, m.segs.len - (ei.2 + 1)⟩⟩
          | some _ => ⟨some t, ⟨a.2.arr, ei.2, m.segs.len - ei.2⟩⟩
        (ha, some before, some after, false)

/-- `modepb.Cut` as coded (deep clones). -/
def heapModeCut (h : Heap) (t : Int) (m : HeapMode) := heapModeCutWith true h t m

end ScVerif.C18
