import ScVerif.C18.F32Lemmas
import ScVerif.C18.F32ErrLemmas
import ScVerif.C18.PropsSeg
/-!
# C18 — property theorems: the magnitudes are float32

The theorems of PropsSeg compute with exact magnitudes.  The code adds `float32`s (`Sum`, `SumMagnitude`;
every other operation only copies or compares magnitudes, which is exact).  `rnd24`/`addF` (F32.lean) model
IEEE binary32 addition on numerators — tied to Go's arithmetic by the driver (`f32add`).  Here: while the
absolute magnitudes involved total less than 2^23 (so that no partial sum of rising and falling edges
reaches 2^24 units) NOTHING is rounded: the float rendering of `Sum` and `SumMagnitude` is the exact one,
whatever order the unstable sort leaves equal-time edges in, and `C18_sum` speaks about the float code.
Beyond, float32 absorbs small terms, `Sum` leaves the pointwise sum and its result depends on that order
(witnesses) — which is why the correspondence check compares such cases only when all edge times differ.
-/
namespace ScVerif.C18

/-- float32 addition is exact below 2^24 units: integers of absolute value below 2^24 are float32 values,
and a sum whose operands' absolute values total less than 2^24 is not rounded. -/
theorem C18_float_exact (a b n : Int) :
    (n.natAbs < 16777216 → rnd24 n = n) ∧
    ((a.natAbs : Int) + (b.natAbs : Int) < 16777216 → addF a b = a + b) :=
  ⟨rnd24_small n, addF_small a b⟩

/-- `Sum` in float32 is `Sum`: when twice the total of the absolute magnitudes of all segments is below
2^24 the float rendering computes exactly the list of `C18_sum` — so it is pointwise addition. -/
theorem C18_sum_float (ls : List (List Seg)) (h : 2 * magAbsAll ls < 16777216) :
    sumF ls = sum ls ∧ (AllNonNeg ls → ∀ t, den (sumF ls) t = denSum ls t) := by
  have e : sumF ls = sum ls := sumEdgesF_eq_of_perm _ ls _ h (sortEdges_perm _)
  exact ⟨e, fun hnn t => by rw [e]; exact C18_sum ls hnn t⟩

/-- … for ANY time-sorted arrangement of the edges (the unstable sort), not only the stable one. -/
theorem C18_sum_float_any_sort (ls : List (List Seg)) (es : List Edge) (h : 2 * magAbsAll ls < 16777216)
    (hp : es.Perm (rawEdges ls)) (hs : SortedT es) :
    sumEdgesF (dropRule (anyInfinite ls)) es = sum ls :=
  (sumEdgesF_eq_of_perm _ ls es h hp).trans (C18_sum_any_sort ls es hp hs)

/-- When no two edges share an instant, ANY time-sorted arrangement the unstable sort may produce is the one
the model computes, so `Sum` in float32 is a function of its arguments there, rounding included: the float
rendering `sumF` (what the correspondence check compares rounding cases with) is what every sort yields. -/
theorem C18_sum_float_order_determined (ls : List (List Seg)) (es : List Edge)
    (hp : es.Perm (rawEdges ls)) (hs : SortedT es)
    (hd : (rawEdges ls).Pairwise (fun x y => x.time ≠ y.time)) :
    sumEdgesF (dropRule (anyInfinite ls)) es = sumF ls := by
  have hd' : es.Pairwise (fun x y => x.time ≠ y.time) :=
    hp.symm.pairwise hd (fun {x y} h => fun e => h e.symm)
  have : es = calcCuts ls :=
    sorted_perm_unique es (calcCuts ls) (hp.trans (sortEdges_perm _).symm) hs (sortEdges_sorted _) hd'
  rw [this]; rfl

/-- Beyond the exactness bound float32 rounding changes magnitudes only, never the timing: for ALL lists (no
bound on the magnitudes) and whatever arrangement of equal-time edges the unstable sort produces, the finished
segments of the float rendering of `Sum` have exactly the lengths of those of the exact `Sum` — the breakpoints
of the float result are the breakpoints of the pointwise sum (`C18_sum`), and so is its total finite length. -/
theorem C18_sum_float_timing (ls : List (List Seg)) (es : List Edge)
    (hp : es.Perm (rawEdges ls)) (hs : SortedT es) :
    closedLens (sumEdgesF (dropRule (anyInfinite ls)) es) = closedLens (sum ls) ∧
    closedLens (sumF ls) = closedLens (sum ls) ∧ lenSum (sumF ls) = lenSum (sum ls) := by
  have h1 : closedLens (sumEdgesF (dropRule (anyInfinite ls)) es) = closedLens (sum ls) := by
    rw [sumEdgesF_closedLens _ (dropRule (anyInfinite ls)) es, C18_sum_any_sort ls es hp hs]
  have h2 : closedLens (sumF ls) = closedLens (sum ls) := sumEdgesF_closedLens _ _ _
  exact ⟨h1, h2, by rw [lenSum_eq_closedLens, lenSum_eq_closedLens, h2]⟩

/-- What one rounding can do beyond the bound: every float32 addition `Sum`/`SumMagnitude` perform is within a
relative error of `2^-24` of the exact sum (half a unit in the last of 24 significant bits), for all operands
in the modelled range (no overflow/subnormals) — so a magnitude that leaves the pointwise sum does so by at
most that fraction per addition. -/
theorem C18_float_addition_error (a b : Int) :
    (addF a b - (a + b)).natAbs * 16777216 ≤ (a + b).natAbs :=
  rnd24_error (a + b)

/-- `SumMagnitude` in float32 is the exact total while the absolute magnitudes total less than 2^24. -/
theorem C18_sumMagnitude_float (segs : List Seg) (h : magAbs segs < 16777216) :
    sumMagnitudeF segs = sumMagnitude segs := by
  unfold sumMagnitudeF
  rw [foldF_eq segs 0 (by simpa using h)]
  omega

/-- Beyond the bound float32 rounds: `2^24 + 1` is `2^24`; `Sum` of `{2^24 for 1ns}` and `{1 for 1ns}` is
`2^24` where the pointwise sum is `2^24 + 1`; and with three edges at one instant the result depends on the
order the sort leaves them in (`2^24` for `+2^24, +1, +1`, but `2^24 + 2` for `+1, +1, +2^24`). -/
theorem C18_float_rounds_witness :
    addF 16777216 1 = 16777216 ∧
    sumF [[⟨16777216, some 1⟩], [⟨1, some 1⟩]] = [⟨16777216, some 1⟩] ∧
    sum [[⟨16777216, some 1⟩], [⟨1, some 1⟩]] = [⟨16777217, some 1⟩] ∧
    sumEdgesF (fun _ => false) [⟨0, 16777216⟩, ⟨0, 1⟩, ⟨0, 1⟩] = [⟨16777216, none⟩] ∧
    sumEdgesF (fun _ => false) [⟨0, 1⟩, ⟨0, 1⟩, ⟨0, 16777216⟩] = [⟨16777218, none⟩] := by
  refine ⟨by decide, by decide, by decide, by decide, by decide⟩

/-! ### The magnitudes beyond the exactness bound: `Sum` in float32 is pointwise addition up to a bounded error -/

/-- The MAGNITUDES of the float `Sum` beyond the exactness bound, as a statement about the step function: for
ALL lists with non-negative lengths (no bound on the magnitudes), whatever arrangement of equal-time edges the
unstable sort produces, and at EVERY instant `t`, the float rendering of `Sum` is within
`2 · (number of edges) · (total of the absolute edge deltas) / 2^24` of the pointwise sum of the arguments' step
functions, i.e. at most `(segments) · (total absolute magnitude) · 2^-21` (last two clauses).  This covers the open
last element too: whether the float and the exact loop keep or drop it is inside the bound.  Hypothesis
`es.length ≤ 2^23`: beyond, the accumulated error could reach the size of the magnitudes themselves. -/
theorem C18_sum_float_error (ls : List (List Seg)) (es : List Edge) (h : AllNonNeg ls)
    (hp : es.Perm (rawEdges ls)) (hs : SortedT es) (hn : es.length ≤ 8388608) (t : Int) :
    ((den (sumEdgesF (dropRule (anyInfinite ls)) es) t - denSum ls t).natAbs : Int) * 16777216
        ≤ 2 * (es.length : Int) * absSum (rawEdges ls) ∧
      es.length ≤ 2 * segCount ls ∧ absSum (rawEdges ls) ≤ 2 * magAbsAll ls := by
  refine ⟨?_, ?_, absSum_rawEdges_le ls⟩
  · have e := sumEdgesF_den_err (anyInfinite ls) es hs (fun e he => rawEdges_time_ge ls h e (hp.subset he)) hn t
    rw [sumEdges_den_full ls h es hp hs t, absSum_perm hp] at e
    exact e
  · rw [hp.length_eq]; exact rawEdges_length_le ls

/-- … in particular for the arrangement the model's stable sort produces (`sumF`, what the driver runs). -/
theorem C18_sum_float_error_stable (ls : List (List Seg)) (h : AllNonNeg ls)
    (hn : (rawEdges ls).length ≤ 8388608) (t : Int) :
    ((den (sumF ls) t - denSum ls t).natAbs : Int) * 16777216
      ≤ 2 * ((rawEdges ls).length : Int) * absSum (rawEdges ls) := by
  have hp : (calcCuts ls).Perm (rawEdges ls) := sortEdges_perm (rawEdges ls)
  have hl : (calcCuts ls).length = (rawEdges ls).length := hp.length_eq
  have := (C18_sum_float_error ls (calcCuts ls) h hp (sortEdges_sorted _) (by rw [hl]; exact hn) t).1
  rw [hl] at this
  exact this

/-- `SumMagnitude` in float32 beyond the bound: within `2 · n · (total absolute magnitude) / 2^24` of the exact
total, `n` the number of segments (at most 2^23). -/
theorem C18_sumMagnitude_float_error (segs : List Seg) (hn : segs.length ≤ 8388608) :
    ((sumMagnitudeF segs - sumMagnitude segs).natAbs : Int) * 16777216
      ≤ 2 * (segs.length : Int) * magAbs segs := by
  have := foldF_err_zero (segs.map (·.mag)) segs.length (magAbs segs) (Nat.le_of_eq (List.length_map _))
    (Int.le_of_eq (magAbs_eq_absL segs).symm) hn
  rwa [List.foldl_map, ← sumMagnitude_eq_sum] at this

/-- Why the bound carries the number of edges: the roundings do accumulate.  Three rising edges of `1` on top of
`2^24` at one instant are absorbed one by one — the float result is `2^24` where the pointwise sum is `2^24 + 3`,
an error of 3 units, three times what a single rounding of the final value could lose (`C18_float_addition_error`:
at most 1 unit at this size); the bound of `C18_sum_float_error` allows `2·4·(2^24+3)/2^24`, i.e. 8 units. -/
theorem C18_sum_float_error_accumulates :
    den (sumEdgesF (fun _ => false) [⟨0, 16777216⟩, ⟨0, 1⟩, ⟨0, 1⟩, ⟨0, 1⟩]) 0 = 16777216 ∧
    den (sumEdges (fun _ => false) [⟨0, 16777216⟩, ⟨0, 1⟩, ⟨0, 1⟩, ⟨0, 1⟩]) 0 = 16777219 ∧
    (rnd24 16777219 - 16777219).natAbs = 1 := by
  refine ⟨by decide, by decide, by decide⟩

/-! Non-vacuity of `C18_sum_float_error`: a rounding input (outside `C18_sum_float`'s bound) satisfies the
hypotheses, and the bound is not trivially slack there (error 1 unit, bound 2·4·(2^24+2)/2^24 < 9 units). -/
example : AllNonNeg [[⟨16777216, some 1⟩], [⟨1, some 1⟩]] ∧
    ¬ 2 * magAbsAll [[⟨16777216, some 1⟩], [⟨1, some 1⟩]] < 16777216 ∧
    (rawEdges [[⟨16777216, some 1⟩], [⟨1, some 1⟩]]).length = 4 ∧
    den (sumF [[⟨16777216, some 1⟩], [⟨1, some 1⟩]]) 0 = 16777216 ∧
    denSum [[⟨16777216, some 1⟩], [⟨1, some 1⟩]] 0 = 16777217 := by
  refine ⟨?_, by decide, by decide, by decide, by decide⟩
  intro l hl s hs len hlen
  simp at hl
  rcases hl with hl | hl <;> subst hl <;> simp at hs <;> subst hs <;> simp at hlen <;> omega

example : (rawEdges [[⟨0, some 3⟩, ⟨16777216, some 2⟩], [⟨0, some 1⟩, ⟨3, some 1⟩]]).Pairwise (fun x y => x.time ≠ y.time) := by
  decide
example : sumF [[⟨0, some 3⟩, ⟨16777216, some 2⟩], [⟨0, some 4⟩, ⟨3, some 3⟩]]
    = [⟨0, some 3⟩, ⟨16777216, some 1⟩, ⟨16777220, some 1⟩, ⟨4, some 2⟩] := by decide

/-! Non-vacuity: the bound holds for the magnitudes the property speaks about, with room to spare. -/
example : 2 * magAbsAll [[⟨2, some 2⟩, ⟨-3, some 1⟩, ⟨-1, none⟩], [⟨-1, some 4⟩]] < 16777216 := by decide
example : sumF [[⟨2, some 2⟩, ⟨-3, some 1⟩, ⟨-1, none⟩], [⟨-1, some 4⟩]]
    = [⟨1, some 2⟩, ⟨-4, some 1⟩, ⟨-2, some 1⟩, ⟨-1, none⟩] := by decide
example : closedLens (sumF [[⟨16777216, some 1⟩, ⟨3, some 2⟩], [⟨1, some 2⟩]]) = [1, 1, 1] ∧
    closedLens (sum [[⟨16777216, some 1⟩, ⟨3, some 2⟩], [⟨1, some 2⟩]]) = [1, 1, 1] ∧
    sumF [[⟨16777216, some 1⟩, ⟨3, some 2⟩], [⟨1, some 2⟩]] ≠ sum [[⟨16777216, some 1⟩, ⟨3, some 2⟩], [⟨1, some 2⟩]] := by decide
example : rnd24 16777219 = 16777220 ∧ rnd24 16777217 = 16777216 ∧ rnd24 (-33554431) = -33554432 := by decide

end ScVerif.C18
