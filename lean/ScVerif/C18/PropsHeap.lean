import ScVerif.C18.HeapTrace
import ScVerif.C18.PropsSeg
/-!
# C18 — property theorems: "…and never modify their arguments"

On an explicit heap of segment cells and slice backing arrays (HeapOps.lean, Heap.lean): whatever
the initial heap and the arguments, after `Cut`, `Shift`, `modepb.Cut` (here) and the loop of `Sum`
(`C18_args_unchanged_sum`, PropsSeg) every cell and every backing array that existed before the call
reads the same — including the spare capacity of argument slices, which is part of their arrays.
The same for `segmentpb.Sum` as a whole, `modepb.Shift` and `modepb.Sum` (`C18_args_unchanged_modes`, here).
`ActiveAt`, `MagnitudeAt`, `Duration`, `Max*`, `SumMagnitude`, `MinAt` and the modepb readers contain no
assignment through a pointer, `append` or `make` at all.  On the real code the clause is decided for
every operation by the monitor.
-/
namespace ScVerif.C18

/-- `Cut`, `Shift` and `modepb.Cut` leave every pre-existing cell and backing array unchanged. -/
theorem C18_args_unchanged (h : Heap) (d t : Int) (addr : Nat) (sl : Slice) (m : HeapMode) :
    ((∀ a, a < h.cells.length → (heapCut h d addr).1.cells[a]? = h.cells[a]?) ∧
     (∀ i, i < h.arrays.length → (heapCut h d addr).1.arrays[i]? = h.arrays[i]?)) ∧
    ((∀ a, a < h.cells.length → (heapShift h d sl).1.cells[a]? = h.cells[a]?) ∧
     (∀ i, i < h.arrays.length → (heapShift h d sl).1.arrays[i]? = h.arrays[i]?)) ∧
    ((∀ a, a < h.cells.length → (heapModeCut h t m).1.cells[a]? = h.cells[a]?) ∧
     (∀ i, i < h.arrays.length → (heapModeCut h t m).1.arrays[i]? = h.arrays[i]?)) :=
  ⟨(heapCut_extends h d addr).pointwise, (heapShift_extends h d sl).pointwise,
   (heapModeCut_extends h t m).pointwise⟩

/-- `segmentpb.Sum` (loop and `result` slice), `modepb.Shift` and `modepb.Sum` (clone, alignment through
`Shift`, then `Sum`) leave every pre-existing cell and backing array unchanged — for any heap, any modes,
any offsets.  With `C18_args_unchanged` this covers every operation of the two packages that allocates or
writes at all. -/
theorem C18_args_unchanged_modes (h : Heap) (d : Int) (cuts : List Edge) (m : HeapMode) (ms : List HeapMode) :
    ((∀ a, a < h.cells.length → (heapSum h cuts).1.cells[a]? = h.cells[a]?) ∧
     (∀ i, i < h.arrays.length → (heapSum h cuts).1.arrays[i]? = h.arrays[i]?)) ∧
    ((∀ a, a < h.cells.length → (heapModeShift h d m).1.cells[a]? = h.cells[a]?) ∧
     (∀ i, i < h.arrays.length → (heapModeShift h d m).1.arrays[i]? = h.arrays[i]?)) ∧
    ((∀ a, a < h.cells.length → (heapModeSum h ms).1.cells[a]? = h.cells[a]?) ∧
     (∀ i, i < h.arrays.length → (heapModeSum h ms).1.arrays[i]? = h.arrays[i]?)) :=
  ⟨(heapSum_extends h cuts).pointwise, (heapModeShift_extends h d m).pointwise,
   (heapModeSum_extends h ms).pointwise⟩

/-- The theorem has content: had `modepb.Cut` made `before` a shallow copy of the mode (sharing the
caller's `Segments` backing array), its `append(before.Segments[:index], sb)` would overwrite the
caller's element `index` — on this heap the argument slice reads `[0, 1]` before and `[0, 4]` after. -/
theorem C18_args_unchanged_needs_clone :
    readSlice ⟨[⟨1, some 2⟩, ⟨2, some 4⟩], [[0, 1]]⟩ ⟨0, 0, 2⟩ = [0, 1] ∧
    readSlice (heapModeCutWith false ⟨[⟨1, some 2⟩, ⟨2, some 4⟩], [[0, 1]]⟩ 3 ⟨some 0, ⟨0, 0, 2⟩⟩).1 ⟨0, 0, 2⟩
      = [0, 4] ∧
    readSlice (heapModeCut ⟨[⟨1, some 2⟩, ⟨2, some 4⟩], [[0, 1]]⟩ 3 ⟨some 0, ⟨0, 0, 2⟩⟩).1 ⟨0, 0, 2⟩
      = [0, 1] := by
  refine ⟨by decide, by decide, by decide⟩

/-! The heap versions compute what the pure model computes (read back through the heap), on
concrete inputs exercising every branch that allocates or writes. -/
example :
    (let r := heapModeCut ⟨[⟨1, some 2⟩, ⟨2, some 4⟩, ⟨3, some 1⟩], [[0, 1, 2]]⟩ 5 ⟨some 2, ⟨0, 0, 3⟩⟩
     (r.2.1.map (fun b => (b.start, readSegs r.1 b.segs)), r.2.2.1.map (fun a => (a.start, readSegs r.1 a.segs))))
    = (let p := modeCut 5 ⟨some 2, [⟨1, some 2⟩, ⟨2, some 4⟩, ⟨3, some 1⟩]⟩
       (p.before.map (fun b => (b.start, b.segs)), p.after.map (fun a => (a.start, a.segs)))) := by decide
example :
    (let r := heapShift ⟨[⟨0, some 2⟩, ⟨2, some 2⟩], [[0, 1]]⟩ 3 ⟨0, 0, 2⟩; readSegs r.1 r.2)
    = shift 3 [⟨0, some 2⟩, ⟨2, some 2⟩] := by decide
example :
    (let r := heapShift ⟨[⟨1, some 2⟩, ⟨2, some 2⟩, ⟨3, none⟩], [[0, 1, 2]]⟩ (-3) ⟨0, 0, 3⟩; readSegs r.1 r.2)
    = shift (-3) [⟨1, some 2⟩, ⟨2, some 2⟩, ⟨3, none⟩] := by decide
example :
    (let r := heapShift ⟨[⟨1, some 2⟩, ⟨2, some 2⟩], [[0, 1]]⟩ 4 ⟨0, 0, 2⟩; readSegs r.1 r.2)
    = shift 4 [⟨1, some 2⟩, ⟨2, some 2⟩] := by decide

/-- `modepb.Shift` and `modepb.Sum` on the heap compute what the pure model computes (read back). -/
example :
    (let r := heapModeShift ⟨[⟨0, some 2⟩, ⟨2, some 2⟩], [[0, 1]]⟩ 3 ⟨none, ⟨0, 0, 2⟩⟩
     (r.2.start, readSegs r.1 r.2.segs))
    = (let p := modeShift 3 ⟨none, [⟨0, some 2⟩, ⟨2, some 2⟩]⟩; (p.start, p.segs)) := by decide
example :
    (let r := heapModeSum ⟨[⟨1, some 2⟩, ⟨3, some 3⟩, ⟨2, none⟩], [[0], [1], [2]]⟩
        [⟨some 2, ⟨0, 0, 1⟩⟩, ⟨none, ⟨1, 0, 1⟩⟩, ⟨some 5, ⟨2, 0, 1⟩⟩]
     r.2.map (fun m => (m.start, trimLast (dropRule true) (readSegs r.1 m.segs))))
    = (modeSum [⟨some 2, [⟨1, some 2⟩]⟩, ⟨none, [⟨3, some 3⟩]⟩, ⟨some 5, [⟨2, none⟩]⟩]).map
        (fun m => (m.start, m.segs)) := by decide

end ScVerif.C18
