import ScVerif.C18.SumLemmas
import ScVerif.C18.HeapOps
/-!
# C18 — "never modify their arguments", for the loop of `segmentpb.Sum`

`Shift`, `Cut`, `modepb.Cut`, `modepb.Shift`, `modepb.Sum` allocate (`&Segment{…}`, `proto.Clone`, `make`) and
store into what the same call has just allocated (the writers are listed in HeapOps.lean).  `segmentpb.Sum` is the
only operation that goes back to cells made in EARLIER iterations and updates them
(`result[len(result)-1].Magnitude += …`, `lastResult.Length = …`).  This file
models its loop on an explicit heap of segment cells — `result` is a slice of addresses — and proves
that, started on ANY heap `H0` (which holds the argument cells), the loop only appends cells and
updates cells it appended itself: the final heap is `H0 ++ cells`, and the appended cells are exactly
the list the pure rendering `sumGoStep` computes.  (Not driver-linked: proof only.)
-/
namespace ScVerif.C18

/-- `heap[a] = f(heap[a])`. -/
def modifyAt : Nat → (Seg → Seg) → List Seg → List Seg
  | _, _, [] => []
  | 0, f, s :: t => f s :: t
  | n + 1, f, s :: t => s :: modifyAt n f t

structure HeapState where
  heap : List Seg
  result : List Nat
  lastTime : Int

/-- One iteration of the loop of `Sum` on the heap: `append(result, &Segment{…})` allocates the next
address; the two assignments write through the address stored in `result[len(result)-1]`. -/
def heapStep (st : HeapState) (c : Edge) : HeapState :=
  let length := c.time - st.lastTime
  let st1 : HeapState :=
    if st.result.length = 0 then ⟨st.heap ++ [⟨0, none⟩], st.result ++ [st.heap.length], st.lastTime⟩
    else st
  match st1.result.getLast? with
  | none => st1
  | some a =>
    if length = 0 then
      ⟨modifyAt a (fun s => ⟨s.mag + c.delta, s.len⟩) st1.heap, st1.result, st1.lastTime⟩
    else
      let h2 := modifyAt a (fun s => ⟨s.mag, some length⟩) st1.heap
      let lastMag := match h2[a]? with
        | some s => s.mag
        | none => 0
      ⟨h2 ++ [⟨lastMag + c.delta, none⟩], st1.result ++ [h2.length], c.time⟩

/-- The addresses `base, base+1, …, base+n-1`. -/
def addrsFrom (base : Nat) : Nat → List Nat
  | 0 => []
  | n + 1 => addrsFrom base n ++ [base + n]

theorem addrsFrom_length (base n : Nat) : (addrsFrom base n).length = n := by
  induction n with
  | zero => rfl
  | succ n ih => simp [addrsFrom, ih]

theorem modifyAt_eq_modifyNth (n : Nat) (f : Seg → Seg) (l : List Seg) : modifyAt n f l = modifyNth n f l := by
  induction l generalizing n with
  | nil => cases n <;> rfl
  | cons a l ih => cases n <;> simp only [modifyAt, modifyNth, ih]

theorem modifyAt_append_last (f : Seg → Seg) (l : List Seg) (x : Seg) :
    modifyAt l.length f (l ++ [x]) = l ++ [f x] := by
  rw [modifyAt_eq_modifyNth, modifyNth_length_append]

/-- The loop has only appended: the heap is the initial heap followed by the cells of `result`, which holds their
addresses in order. -/
def HeapInv (H0 : List Seg) (st : HeapState) (vals : List Seg) : Prop :=
  st.heap = H0 ++ vals ∧ st.result = addrsFrom H0.length vals.length

theorem heapStep_concat (H0 done : List Seg) (x : Seg) (st : HeapState) (c : Edge)
    (h : HeapInv H0 st (done ++ [x])) :
    HeapInv H0 (heapStep st c) (sumGoStep (done ++ [x], st.lastTime) c).1 ∧
    (heapStep st c).lastTime = (sumGoStep (done ++ [x], st.lastTime) c).2 := by
  -- the last address of `result` is the last cell of the heap, so both writes of an iteration land in `x`
  obtain ⟨hh, hr⟩ := h
  have hlen : (done ++ [x]).length = done.length + 1 := by simp
  rw [hlen] at hr
  have hres : st.result = addrsFrom H0.length done.length ++ [H0.length + done.length] := hr
  have hne : ¬ st.result.length = 0 := by rw [hres]; simp
  have hlast : st.result.getLast? = some (H0.length + done.length) := by
    rw [hres]; simp
  have haddr : H0.length + done.length = (H0 ++ done).length := by simp
  have hheap : st.heap = (H0 ++ done) ++ [x] := by rw [hh]; simp
  rw [sumGoStep_concat]
  unfold heapStep
  simp only [hne, if_false, hlast]
  by_cases h0 : c.time - st.lastTime = 0
  · simp only [h0, if_true]
    refine ⟨⟨?_, ?_⟩, ?_⟩
    · simp only [hheap, haddr, modifyAt_append_last]
      simp
    · simp only [List.length_append, List.length_cons, List.length_nil]
      exact hr
    · trivial
  · simp only [h0, if_false]
    refine ⟨⟨?_, ?_⟩, ?_⟩
    · simp only [hheap, haddr, modifyAt_append_last]
      have : ((H0 ++ done ++ [(⟨x.mag, some (c.time - st.lastTime)⟩ : Seg)])[(H0 ++ done).length]?) =
          some ⟨x.mag, some (c.time - st.lastTime)⟩ := by simp
      simp only [this]
      simp
    · simp only [hheap, haddr, modifyAt_append_last, hres]
      simp [addrsFrom]
    · trivial

theorem heapStep_first (H0 : List Seg) (st : HeapState) (c : Edge) (h : HeapInv H0 st []) :
    HeapInv H0 (heapStep st c) (sumGoStep ([], st.lastTime) c).1 ∧
    (heapStep st c).lastTime = (sumGoStep ([], st.lastTime) c).2 := by
  obtain ⟨hh, hr⟩ := h
  simp only [List.append_nil] at hh
  simp only [List.length_nil, addrsFrom] at hr
  -- after the first `append` the state has the shape handled by `heapStep_concat`
  have hinv : HeapInv H0 ⟨st.heap ++ [⟨0, none⟩], st.result ++ [st.heap.length], st.lastTime⟩ ([] ++ [⟨0, none⟩]) := by
    refine ⟨by simp [hh], ?_⟩
    simp [hr, hh, addrsFrom]
  have hstep := heapStep_concat H0 [] ⟨0, none⟩ ⟨st.heap ++ [⟨0, none⟩], st.result ++ [st.heap.length], st.lastTime⟩ c hinv
  have e1 : heapStep st c = heapStep ⟨st.heap ++ [⟨0, none⟩], st.result ++ [st.heap.length], st.lastTime⟩ c := by
    unfold heapStep
    simp [hr]
  rw [e1, sumGoStep_nil]
  exact hstep

theorem heapStep_inv (H0 vals : List Seg) (st : HeapState) (c : Edge) (h : HeapInv H0 st vals) :
    HeapInv H0 (heapStep st c) (sumGoStep (vals, st.lastTime) c).1 ∧
    (heapStep st c).lastTime = (sumGoStep (vals, st.lastTime) c).2 := by
  rcases List.eq_nil_or_concat vals with rfl | ⟨done, x, hv⟩
  · exact heapStep_first H0 st c h
  · rw [hv, List.concat_eq_append] at h ⊢
    exact heapStep_concat H0 done x st c h

theorem heapLoop_inv (H0 : List Seg) (cuts : List Edge) (vals : List Seg) (st : HeapState)
    (h : HeapInv H0 st vals) :
    HeapInv H0 (cuts.foldl heapStep st) (cuts.foldl sumGoStep (vals, st.lastTime)).1 := by
  induction cuts generalizing vals st with
  | nil => exact h
  | cons c cs ih =>
    simp only [List.foldl_cons]
    obtain ⟨h1, h2⟩ := heapStep_inv H0 vals st c h
    have := ih _ _ h1
    rw [h2] at this
    exact this

theorem heapLoop_inv_init (H0 : List Seg) (cuts : List Edge) :
    HeapInv H0 (cuts.foldl heapStep ⟨H0, [], 0⟩) (cuts.foldl sumGoStep ([], 0)).1 :=
  heapLoop_inv H0 cuts [] ⟨H0, [], 0⟩ ⟨by simp, rfl⟩

end ScVerif.C18
