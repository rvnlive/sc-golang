import ScVerif.C04.BusModel
/-!
# C04 — `Bus.Send` under a deadline, with a listener that does not take the event

`Value.set` announces with `context.WithTimeout(5 s)`.  `Bus.Send` walks its snapshot in registration
order; `l.send` hands the event to a live listener, skips a cancelled one (`active = false`), and gives
up (`ok = false`) when the send context ends first.  `Send` then returns `false` AT ONCE: the listeners
before the stalled one have been handed the event, the stalled one and every listener registered after
it have not; no `collect` is run.  `Value.set` maps that to the error "bus.Send blocked for too long"
although the value has been stored.

`try_ st = none` says: the forwarder of this subscription does not come back to its bus channel before
the deadline (it is blocked handing an earlier event to a consumer that is not receiving); `some st'`
is the subscription after it has been handed the event.  No churn during the `Send` here (that is
`BusModel.lean`); the two are tied to the real code by different scenario families.
-/
namespace ScVerif.C04

variable {ι σ : Type}

/-- the delivery loop of `Bus.Send` under a deadline: the list afterwards, `ok` -/
def sendDlLoop (try_ : σ → Option σ) : List (Lsn ι σ) → List (Lsn ι σ) × Bool
  | [] => ([], true)
  | l :: rest =>
    if l.alive then
      match try_ l.st with
      | none => (l :: rest, false)
      | some st' => ({ l with st := st' } :: (sendDlLoop try_ rest).1, (sendDlLoop try_ rest).2)
    else (l :: (sendDlLoop try_ rest).1, (sendDlLoop try_ rest).2)

/-- `Bus.Send` under a deadline: `collect` only when the loop ran to its end and met a dead listener -/
def sendDl (try_ : σ → Option σ) (ls : List (Lsn ι σ)) : List (Lsn ι σ) × Bool :=
  let r := sendDlLoop try_ ls
  if r.2 && ls.any (fun l => !l.alive) then (collect r.1, true) else r

/-- what `l.send` does to a listener the loop reaches: a live one that takes the event is handed it, any
other is left as it is -/
def serve (try_ : σ → Option σ) (l : Lsn ι σ) : Lsn ι σ :=
  if l.alive then
    match try_ l.st with
    | some st' => { l with st := st' }
    | none => l
  else l

/-- a listener at which a `Send` with this `try_` gives up -/
def stalledAt (try_ : σ → Option σ) (l : Lsn ι σ) : Bool := l.alive && (try_ l.st).isNone

end ScVerif.C04
