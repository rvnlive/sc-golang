import ScVerif.C04.GSession
/-!
# C04 — a write as TWO steps of the session: commit, then publication

`GSession.lean` runs a call of the writer as one step (`F.step`) followed by its `Send`.  In the code a
subscriber can also register BETWEEN the commit of a write and the snapshot its `Send` takes of the
listeners (`value.set.beforeSend` / `coll.update.beforeSend`): it is seeded with the written state AND is
in the snapshot.  `splitFeed F` is the feed whose calls are `commit op` (changes the state, announces
nothing, remembers the events) and `publish` (announces the remembered events): a session of `splitFeed F`
is a session of `F` in which subscriptions also open and are cancelled between a commit and its
publication, and `gSession_good` applies to it as it stands.
-/
namespace ScVerif.C04

variable {S Op E O σ : Type}

inductive SplitOp (Op : Type) where
  | commit (op : Op)
  | publish

def splitStep (F : Feed S Op E O σ) (x : S × List E) : SplitOp Op → List E × (S × List E)
  | .commit op => ([], ((F.step x.1 op).2, (F.step x.1 op).1))
  | .publish => (x.2, (x.1, []))

def splitFeed (F : Feed S Op E O σ) : Feed (S × List E) (SplitOp Op) E O σ where
  step := splitStep F
  «open» x o := F.open x.1 o
  fwd := F.fwd
  fwd_nil := F.fwd_nil

/-- the one writer's calls, each as its two steps -/
def splitOps : List Op → List (SplitOp Op)
  | [] => []
  | op :: ops => .commit op :: .publish :: splitOps ops

theorem splitOps_length (ops : List Op) : (splitOps ops).length = 2 * ops.length := by
  induction ops with
  | nil => rfl
  | cons op ops ih => simp only [splitOps, List.length_cons, ih]; omega

theorem splitOps_take_even (ops : List Op) : ∀ k, (splitOps ops).take (2 * k) = splitOps (ops.take k) := by
  induction ops with
  | nil => intro k; simp [splitOps]
  | cons op ops ih =>
    intro k
    cases k with
    | zero => simp [splitOps]
    | succ k =>
      simp [Nat.mul_succ, splitOps, ih]

theorem splitOps_drop_even (ops : List Op) : ∀ k, (splitOps ops).drop (2 * k) = splitOps (ops.drop k) := by
  induction ops with
  | nil => intro k; simp [splitOps]
  | cons op ops ih =>
    intro k
    cases k with
    | zero => simp [splitOps]
    | succ k =>
      simp [Nat.mul_succ, splitOps, ih]

theorem splitOps_take_odd (ops : List Op) : ∀ k op, ops[k]? = some op →
    (splitOps ops).take (2 * k + 1) = splitOps (ops.take k) ++ [.commit op] := by
  induction ops with
  | nil => intro k op h; simp at h
  | cons a ops ih =>
    intro k op h
    cases k with
    | zero => simp at h; subst h; simp [splitOps]
    | succ k =>
      simp only [List.getElem?_cons_succ] at h
      simp [Nat.mul_succ, splitOps, ih k op h]

theorem splitOps_drop_odd (ops : List Op) : ∀ k, k < ops.length →
    (splitOps ops).drop (2 * k + 1) = .publish :: splitOps (ops.drop (k + 1)) := by
  induction ops with
  | nil => intro k h; simp at h
  | cons a ops ih =>
    intro k h
    cases k with
    | zero => simp [splitOps]
    | succ k =>
      simp only [List.length_cons] at h
      simp [Nat.mul_succ, splitOps, ih k (by omega)]

/-- running the split calls = running the calls: every call's events preceded by the empty announcement of
its commit -/
theorem gRun_split (F : Feed S Op E O σ) (ops : List Op) : ∀ s : S,
    (gRun (splitFeed F) (s, []) (splitOps ops)).2 = ((gRun F s ops).2, []) ∧
    ∀ st : σ, (gRun (splitFeed F) (s, []) (splitOps ops)).1.foldl (fun st evs => F.fwd evs st) st
      = (gRun F s ops).1.foldl (fun st evs => F.fwd evs st) st := by
  induction ops with
  | nil => intro s; simp [splitOps, gRun]
  | cons op ops ih =>
    intro s
    obtain ⟨h1, h2⟩ := ih (F.step s op).2
    constructor
    · simpa [splitOps, gRun, splitFeed, splitStep] using h1
    · intro st
      simp only [splitOps, gRun, splitFeed, splitStep, List.foldl_cons, F.fwd_nil]
      exact h2 _

theorem gStream_split_even (F : Feed S Op E O σ) (o : O) (s : S) (ops : List Op) :
    gStream (splitFeed F) o (s, []) (splitOps ops) = gStream F o s ops := by
  unfold gStream
  exact (gRun_split F ops s).2 _

theorem gStream_split_odd (F : Feed S Op E O σ) (o : O) (s : S) (op : Op) (ops : List Op) :
    gStream (splitFeed F) o ((F.step s op).2, (F.step s op).1) (.publish :: splitOps ops)
      = (gRun F (F.step s op).2 ops).1.foldl (fun st evs => F.fwd evs st)
          (F.fwd (F.step s op).1 (F.open (F.step s op).2 o)) := by
  unfold gStream
  simp only [gRun, splitFeed, splitStep, List.foldl_cons]
  exact (gRun_split F ops (F.step s op).2).2 _

end ScVerif.C04
