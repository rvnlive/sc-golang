import ScVerif.C04.Pull
/-!
# The resource options that decide the equivalence (pkg/resource/opt.go, computeConfig)

`NewValue` / `NewCollection` start from the default configuration (`equivalence = nil`) and apply the
caller's options IN ORDER; `WithEquivalence(e)` assigns `config.equivalence = e` whatever `e` is - a nil
Comparer included - and `WithMessageEquivalence` / `WithNoDuplicates` are `WithEquivalence` of a
particular comparer.  So the last equivalence option of the list decides, and `WithEquivalence(nil)`
after a default that switched de-duplication on switches it off again (the trait models are built from
default option lists followed by the caller's).
-/
namespace ScVerif.C04

variable {M : Type}

/-- a resource option, as far as the equivalence is concerned -/
inductive ResOpt (M : Type)
  /-- `WithEquivalence(e)`; `none` = a nil Comparer -/
  | equivalence (e : Eqv M)
  /-- any other option (clock, rng, initial value, …): does not touch the equivalence -/
  | other

def ResOpt.apply : Eqv M → ResOpt M → Eqv M
  | _, .equivalence e => e
  | cur, .other => cur

/-- `computeConfig`: the options applied in order on the default (no equivalence) -/
def resolveEqv (opts : List (ResOpt M)) : Eqv M := opts.foldl ResOpt.apply none

end ScVerif.C04
