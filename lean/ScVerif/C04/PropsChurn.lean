import ScVerif.C04.Session
import ScVerif.C01.Flat
/-!
# C04 — property theorems under subscriber churn

"A backpressured subscriber … receives, after the seed, exactly one event per successful write in write
order" must hold for *every* subscriber, whatever the other subscribers do: `Pull`s open and contexts
are cancelled at any time, also while a write's `Bus.Send` is delivering (it works on a snapshot of
the listener list and garbage-collects cancelled listeners lazily, `internal/minibus/bus.go`).  The
models are `BusModel.lean` (one `Send` as a small-step machine interleaved with `Listen`/cancel steps) and
`Session.lean` (writes of C01's model + `Pull` seeds + that bus).
-/
namespace ScVerif.C04
open ScVerif.C01
variable {M K R : Type}

/-- One `Send` under arbitrary churn: however `Listen`s (fresh identities) and cancels interleave with the
delivery loop, the live listeners afterwards are those of an eager bus. Each listener live at the snapshot has been
handed the event once unless cancelled meanwhile; each listener registered meanwhile is still registered (`collect`
re-reads the list, it does not swap in the snapshot) and has not been handed it; order kept, identities distinct. -/
theorem C04_send_churn {ι σ : Type} [DecidableEq ι] (d : σ → σ) (ls : List (Lsn ι σ)) (sched : List (Act ι σ))
    (hf : (ls.map (·.id) ++ schedIds sched).Nodup) :
    view (send d ls sched) = sched.foldl eagerAct ((view ls).map (fun p => (p.1, d p.2))) ∧
    ((send d ls sched).map (·.id)).Nodup :=
  send_view_nodup d ls sched hf

/-- Every subscriber live at the end of any session — calls of one writer, `Pull`s opening and subscriptions being
cancelled between the calls and at any point of any `Send` — has been sent exactly `collStream` from the state at its
registration (`regAt` = the number of calls made then). -/
theorem C04_session_streams (cfg : Cfg M K R) (eqv : Eqv M) (s0 : CState M R) (items : List (Item M K))
    (hfresh : (listenIds items).Nodup) :
    ∀ p ∈ view (runSession cfg eqv { s := s0, ls := [], nw := 0 } items).ls,
      p.2.regAt ≤ (callsOf items).length ∧
      p.2.got = collStream cfg eqv p.2.opts (Coll.run cfg s0 ((callsOf items).take p.2.regAt)).2
        ((callsOf items).drop p.2.regAt) :=
  (runSession_good cfg eqv s0 items hfresh).1.streams

/-- No subscriber is lost, none resurrected: after any session the live subscribers are, in
registration order, exactly the `Pull`s opened and not cancelled since — lazily collected cancelled
listeners and `Pull`s registering while a `Send` delivers (and `collect` runs) make no difference. -/
theorem C04_no_subscriber_lost (cfg : Cfg M K R) (eqv : Eqv M) (s0 : CState M R) (items : List (Item M K))
    (hfresh : (listenIds items).Nodup) :
    (view (runSession cfg eqv { s := s0, ls := [], nw := 0 } items).ls).map (·.1) = eagerIds [] (sactsOf items) ∧
    ((runSession cfg eqv { s := s0, ls := [], nw := 0 } items).ls.map (·.id)).Nodup := by
  have := (runSession_good cfg eqv s0 items hfresh).2
  exact ⟨this.2, this.1⟩

/-- Every listener registered when the delivery loop has finished
(`sendRaw`: before `collect`, so also one cancelled before or DURING this `Send`) is a listener of the snapshot that was
handed the event once — then it was live at the snapshot — or not at all, and is live only if it was live then; or one
registered meanwhile, holding what it registered with. -/
theorem C04_send_at_most_once {ι σ : Type} [DecidableEq ι] (d : σ → σ) (ls : List (Lsn ι σ)) (sched : List (Act ι σ))
    (hf : (ls.map (·.id) ++ schedIds sched).Nodup) :
    (∀ l ∈ sendRaw d ls sched,
      (∃ l0 ∈ ls, l0.id = l.id ∧ (l.alive = true → l0.alive = true) ∧
        (l.st = l0.st ∨ (l.st = d l0.st ∧ l0.alive = true))) ∨
      (l.id ∉ ls.map (·.id) ∧ (Act.listen l.id l.st : Act ι σ) ∈ sched)) ∧
    (∀ l ∈ send d ls sched, l ∈ sendRaw d ls sched) := by
  refine ⟨?_, send_sub_raw d ls sched⟩
  intro l hl
  rcases sendRaw_served d ls sched hf l hl with
    ⟨l0, h0, hid, hal, hst⟩ | h
  · refine Or.inl ⟨l0, h0, hid, hal, ?_⟩
    rcases hst with hst | ⟨h1, h2, _⟩
    · exact Or.inl hst
    · exact Or.inr ⟨h1, h2⟩
  · exact Or.inr h

def chCfg : Cfg Msg Mask (List Nat) := { ops := flatOps, gen := flatGen }

def chInit : CState Msg (List Nat) := Coll.init chCfg [("a", { a := 1, s := "", c := none })] []

/-- subscriber 1 opens and is cancelled (its listener stays registered); subscriber 2 opens; a write is
delivered: `Send` visits the dead listener 1, then — mid-delivery — subscriber 3 opens (its seed has the
write), then 2 is visited, then `collect` runs; a second write follows. -/
def chSession : List (Item Msg Mask) :=
  [ .idle (.listen 1 {}), .idle (.cancel 1), .idle (.listen 2 { updatesOnly := true }),
    .call (.update "a" { a := 2, s := "", c := none } {}) [.visit, .listen 3 {}, .visit],
    .call (.update "a" { a := 3, s := "", c := none } {}) [] ]

/-- the hypothesis of the session theorems is satisfiable -/
example : (listenIds chSession).Nodup := by decide +kernel

/-- subscriber 3, registered while the first write was being delivered and a dead listener was being
collected, is still subscribed, was seeded with that write and receives the second one; subscriber 2
received both; the cancelled subscriber is gone -/
example : (view (runSession chCfg none { s := chInit, ls := [], nw := 0 } chSession).ls).map
      (fun p => (p.1, p.2.got.map (fun e => (e.kind, e.old.map (·.a), e.new.map (·.a), e.seed)))) =
    [ (2, [(.update, some 1, some 2, false), (.update, some 2, some 3, false)]),
      (3, [(.add, none, some 2, true), (.update, some 2, some 3, false)]) ] := by rfl

/-- the garbage collection really ran in that session: the dead listener is no longer registered -/
example : ((runSession chCfg none { s := chInit, ls := [], nw := 0 } chSession).ls.map (·.id)) = [2, 3] := by decide +kernel

/-- the statement of `C04_send_churn` is sharp: a `collect` that swaps in the listeners the delivery
loop found active (`sendSwap`, not the code) loses the subscriber that registered during the `Send` —
the eager bus keeps it -/
example :
    view (sendSwap (fun n : Nat => n + 1) [{ id := 1, alive := false, st := 0 }] [.listen 2 7]) = [] ∧
    view (send (fun n : Nat => n + 1) [{ id := 1, alive := false, st := 0 }] [.listen 2 7]) = [(2, 7)] := by
  decide +kernel

/-- a subscription cancelled DURING a `Send`: listener 2 is cancelled after listener 1 was served and
before its own turn — 1 and 3 are served once, 2 not at all (and is collected), in the raw list it is
still there, dead and unserved; cancelled after its turn it has been served, once -/
example :
    (sendRaw (fun n : Nat => n + 1) [{ id := 1, st := 0 }, { id := 2, st := 0 }, { id := 3, st := 0 }]
        [.visit, .cancel 2]).map (fun l => (l.id, l.alive, l.st)) = [(1, true, 1), (2, false, 0), (3, true, 1)] ∧
    view (send (fun n : Nat => n + 1) [{ id := 1, st := 0 }, { id := 2, st := 0 }, { id := 3, st := 0 }]
        [.visit, .cancel 2]) = [(1, 1), (3, 1)] ∧
    (sendRaw (fun n : Nat => n + 1) [{ id := 1, st := 0 }, { id := 2, st := 0 }, { id := 3, st := 0 }]
        [.visit, .visit, .cancel 2]).map (fun l => (l.id, l.alive, l.st)) = [(1, true, 1), (2, false, 1), (3, true, 1)] := by
  decide +kernel

end ScVerif.C04
