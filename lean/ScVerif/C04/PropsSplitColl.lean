import ScVerif.C04.PropsSplit
import ScVerif.C04.PullIDSession
/-!
# C04 — `Collection.Pull` subscribers that register between the commit and the publication of a write

`C04_commit_publish_session_streams` instantiated for a collection's bus (`collFeed`: `Pull` and `PullID`
subscribers on it), the stream of the `Pull` subscribers spelled out (`collSeed`, `collForward`).
-/
namespace ScVerif.C04
open ScVerif.C01

variable {M K R : Type}

/-- every `Collection.Pull` subscriber live after any session in which subscriptions also open between the commit of a
write and its publication (`coll.update.beforeSend`): registered between two calls, it has been sent `collStream`;
registered between the commit and the publication of call `k`, the seed of the contents that write left (already showing
the write), then the forwarding of the events of that very write followed by those of every later call. -/
theorem C04_coll_commit_publish_streams (cfg : Cfg M K R) (eqv : Eqv M) (s0 : CState M R)
    (ops : List (COp M K)) (items : List (GItem (SplitOp (COp M K)) (COpen K)))
    (hcalls : gCallsOf items = splitOps ops) (hfresh : (gListenIds items).Nodup) :
    ∀ p ∈ view (gRunSession (splitFeed (collFeed cfg eqv)) { s := (s0, []), ls := [], nw := 0 } items).ls,
      ∀ o, p.2.o = .pull o →
      (∃ k, p.2.regAt = 2 * k ∧ k ≤ ops.length ∧
        p.2.st = .pull o (collStream cfg eqv o (Coll.run cfg s0 (ops.take k)).2 (ops.drop k))) ∨
      (∃ k op, p.2.regAt = 2 * k + 1 ∧ ops[k]? = some op ∧
        p.2.st = .pull o
          (collSeed cfg (Coll.step cfg (Coll.run cfg s0 (ops.take k)).2 op).2 o ++
            (eventsOf (Coll.step cfg (Coll.run cfg s0 (ops.take k)).2 op).1 ++
              busEvents cfg (Coll.step cfg (Coll.run cfg s0 (ops.take k)).2 op).2 (ops.drop (k + 1))).filterMap
              (collForward cfg eqv o))) := by
  obtain ⟨h1, _⟩ := C04_commit_publish_session_streams (collFeed cfg eqv) s0 ops items hcalls hfresh
  intro p hp o ho
  rcases h1 p hp with ⟨k, hk, hle, hst⟩ | ⟨k, op, hk, hop, hst⟩
  · left
    refine ⟨k, hk, hle, ?_⟩
    rw [hst, (collFeed_run cfg eqv (ops.take k) s0).2, ho]
    exact (collFeed_stream cfg eqv _ _).1 o
  · right
    refine ⟨k, op, hk, hop, ?_⟩
    rw [hst, (collFeed_run cfg eqv (ops.take k) s0).2, ho, (collFeed_batch cfg eqv).foldl_fwd,
      (collFeed_run cfg eqv _ _).1]
    rfl

/-- the same for the `PullID` subscribers of that bus: what the loop of `PullID` makes of THAT stream -/
theorem C04_pullid_commit_publish_streams (cfg : Cfg M K R) (eqv : Eqv M) (s0 : CState M R)
    (ops : List (COp M K)) (items : List (GItem (SplitOp (COp M K)) (COpen K)))
    (hcalls : gCallsOf items = splitOps ops) (hfresh : (gListenIds items).Nodup) :
    ∀ p ∈ view (gRunSession (splitFeed (collFeed cfg eqv)) { s := (s0, []), ls := [], nw := 0 } items).ls,
      ∀ o id, p.2.o = .pullID o id →
      (∃ k, p.2.regAt = 2 * k ∧ k ≤ ops.length ∧
        p.2.st = .pullID o (icptId cfg id)
          (pullIDStream cfg eqv o (Coll.run cfg s0 (ops.take k)).2 id (ops.drop k)).1
          (pullIDStream cfg eqv o (Coll.run cfg s0 (ops.take k)).2 id (ops.drop k)).2) ∨
      (∃ k op, p.2.regAt = 2 * k + 1 ∧ ops[k]? = some op ∧
        p.2.st = .pullID o (icptId cfg id)
          (pullIDLoop (icptId cfg id)
            (collSeed cfg (Coll.step cfg (Coll.run cfg s0 (ops.take k)).2 op).2 o ++
              (eventsOf (Coll.step cfg (Coll.run cfg s0 (ops.take k)).2 op).1 ++
                busEvents cfg (Coll.step cfg (Coll.run cfg s0 (ops.take k)).2 op).2 (ops.drop (k + 1))).filterMap
                (collForward cfg eqv o))).1
          (pullIDLoop (icptId cfg id)
            (collSeed cfg (Coll.step cfg (Coll.run cfg s0 (ops.take k)).2 op).2 o ++
              (eventsOf (Coll.step cfg (Coll.run cfg s0 (ops.take k)).2 op).1 ++
                busEvents cfg (Coll.step cfg (Coll.run cfg s0 (ops.take k)).2 op).2 (ops.drop (k + 1))).filterMap
                (collForward cfg eqv o))).2) := by
  obtain ⟨h1, _⟩ := C04_commit_publish_session_streams (collFeed cfg eqv) s0 ops items hcalls hfresh
  intro p hp o id ho
  rcases h1 p hp with ⟨k, hk, hle, hst⟩ | ⟨k, op, hk, hop, hst⟩
  · left
    refine ⟨k, hk, hle, ?_⟩
    rw [hst, (collFeed_run cfg eqv (ops.take k) s0).2, ho]
    exact (collFeed_stream cfg eqv _ _).2 o id
  · right
    refine ⟨k, op, hk, hop, ?_⟩
    rw [hst, (collFeed_run cfg eqv (ops.take k) s0).2, ho, (collFeed_batch cfg eqv).foldl_fwd,
      (collFeed_run cfg eqv _ _).1]
    exact collFeed_fwd_pullID cfg eqv o _ _ _

end ScVerif.C04
