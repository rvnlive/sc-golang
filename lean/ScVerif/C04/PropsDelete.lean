import ScVerif.C04.Lemmas
import ScVerif.C01.PropsOpts
/-!
# C04 — more event fields: the REMOVE of a `Delete` whose first read is stale; intercepted ids

`Collection.Delete` reads the item under the read lock, runs the caller's checks without any lock, then
takes the write lock and re-reads: if the entry is no longer the one it read it retries with the fresh
entry (up to 5 attempts).  With one caller at a time the first attempt decides (`delete_effect`, on
which all of `Props.lean` rests).  Here the first read is ARBITRARY — whatever an earlier or overlapping call
left behind before this `Delete` got the write lock: the event, if any, must describe the item that is
actually removed, not the one first read.
-/
namespace ScVerif.C04
open ScVerif.C01
variable {M K R : Type}

/-- For every state `s` at the time the write lock is taken, every first read `stale` (absent, an
older version of the item, an item since removed, …) and at least two attempts: a `Delete` either changes and announces
nothing, or removes the item that IS stored under the id, returns that item's body, and announces exactly one REMOVE whose
old value is the stored body, carrying the clock reading of this call.  (`h` is not used: reflexivity of `proto.Equal`
enters the other event theorems, not this one.) -/
theorem C04_delete_removes_current (cfg : Cfg M K R) (h : EqRefl cfg.ops) (hs : EqSound cfg.ops)
    (wr : WriteReq M K) (id : String) (fuel : Nat) (stale : Option (Item M)) (s : CState M R) :
    DeleteOutcome s id (deleteLoop cfg wr id (fuel + 2) stale s) :=
  deleteLoop_outcome cfg hs wr id s _ _

/-- With `WithIDInterceptor` configured, every event of every call sequence — hence every
non-seed event of every `Pull` stream, and every change a `PullID(id)` compares with its own intercepted id — names the
interceptor's image of some id (the id given to the call, or a generated candidate): never a raw id. -/
theorem C04_event_ids_intercepted (cfg : Cfg M K R) (h : EqRefl cfg.ops) (ops : List (COp M K)) :
    ∀ s : CState M R, ∀ e ∈ busEvents cfg s ops, ∃ x, e.id = icptId cfg x := by
  -- the bus events are the events of the results of the run, whose ids `C01_ids_intercepted` speaks of
  intro s e he
  obtain ⟨r, hr, her⟩ := List.mem_flatMap.mp he
  refine (C01_ids_intercepted cfg h ops s).1 r hr e.id ?_
  cases r with
  | wrote o => exact List.mem_append_left _ (List.mem_map.mpr ⟨e, her, rfl⟩)
  | _ => cases her

/-- the flat message model's `proto.Equal` is sound and reflexive -/
example : EqSound (flatOps) ∧ EqRefl (flatOps) := by
  constructor
  · intro a b hab; simpa [flatOps] using hab
  · intro a; simp [flatOps]

def dlCfg : Cfg Msg Mask (List Nat) := { ops := flatOps, gen := flatGen }

/-- a `Delete` whose first read saw `a = 1` while the item stored when it gets the write lock is `a = 2`: it retries,
removes and announces the stored one -/
example : ((deleteLoop dlCfg {} "a" 5 (some { body := { a := 1, s := "", c := none }, time := 0 })
      (Coll.init dlCfg [("a", { a := 2, s := "", c := none })] [])).1.events.map
        (fun e => (e.id, e.kind, e.old.map (·.a), e.new.map (·.a)))) = [("a", .remove, some 2, none)] := by decide +kernel

/-- a first read of an item that has since been removed: NotFound, nothing announced -/
example : ((deleteLoop dlCfg {} "a" 5 (some { body := { a := 1, s := "", c := none }, time := 0 })
      (Coll.init dlCfg [] [])).1.events.length, (deleteLoop dlCfg {} "a" 5 (some { body := { a := 1, s := "", c := none }, time := 0 })
      (Coll.init dlCfg [] [])).1.err) = (0, some .notFound) := by decide +kernel

/-- with an interceptor the event carries the intercepted id, also for the REMOVE -/
example : (busEvents { dlCfg with icpt := some (fun s => s ++ "!") } (Coll.init dlCfg [] [])
      [.add "ab" { a := 1, s := "", c := none } {}, .delete "ab" {}]).map (fun e => (e.id, e.kind)) =
    [("ab!", .add), ("ab!", .remove)] := by decide +kernel

end ScVerif.C04
