import ScVerif.C04.Lemmas
import ScVerif.C01.Flat
/-!
# Read masks that name the same fields give the same stream

`ResponseFilter.FilterClone` hands the mask's paths to `masks.nestedMask`, which drops a path that lies
inside another path of the list before it builds the nested mask (`{f, f.c}` selects what `{f}` selects;
`fmutils.NestedMaskFromPaths` alone would narrow `f` down to `f.c`).  The flat message model
(`ScVerif/C01/Flat.lean`, `fsel`) follows that.  Lemmas for `PropsNestedMask.lean`.
-/
namespace ScVerif.C04
open ScVerif.C01 ScVerif.C01.Flat

variable {M K R : Type}

theorem seedEvents_congr (ops : MsgOps M K) (k k' : Option K) (h : ops.filter k = ops.filter k')
    (l : List (String × Item M)) : seedEvents ops k l = seedEvents ops k' l := by
  induction l with
  | nil => rfl
  | cons kv rest ih => rw [seedEvents_cons, seedEvents_cons, ih]; simp only [seedEvent, h]

theorem collStream_congr (cfg : Cfg M K R) (eqv : Eqv M) (o o' : SubOpts K)
    (h : cfg.ops.filter o.readMask = cfg.ops.filter o'.readMask) (hu : o.updatesOnly = o'.updatesOnly)
    (s : CState M R) (ops : List (COp M K)) : collStream cfg eqv o s ops = collStream cfg eqv o' s ops := by
  have hf : collForward cfg eqv o = collForward cfg eqv o' := by
    have hfo : filterOpt cfg.ops o.readMask = filterOpt cfg.ops o'.readMask := by
      funext m; simp only [filterOpt, h]
    funext e; unfold collForward; rw [hfo]
  simp only [collStream, collSeed, hu, hf, seedEvents_congr cfg.ops _ _ h]

theorem forwardAll_congr (cfg : Cfg M K R) (eqv : Eqv M) (o o' : SubOpts K)
    (h : cfg.ops.filter o.readMask = cfg.ops.filter o'.readMask) (last : Option M) (evs : List (VEvent M)) :
    forwardAll cfg eqv o last evs = forwardAll cfg eqv o' last evs := by
  induction evs generalizing last with
  | nil => rfl
  | cons e es ih =>
    have hv : valForward cfg eqv o last e = valForward cfg eqv o' last e := by
      simp only [valForward, h]
    rw [forwardAll_cons, forwardAll_cons, hv, ih]

theorem valStream_congr (cfg : Cfg M K R) (eqv : Eqv M) (o o' : SubOpts K)
    (h : cfg.ops.filter o.readMask = cfg.ops.filter o'.readMask) (hu : o.updatesOnly = o'.updatesOnly)
    (s : VState M) (ops : List (VOp M K)) : valStream cfg eqv o s ops = valStream cfg eqv o' s ops := by
  have hs : valSeed cfg s o = valSeed cfg s o' := by
    simp only [valSeed, hu, h]
  simp only [valStream, hs, forwardAll_congr cfg eqv o o' h]

/-- two masks name the same fields: the same top-level paths, and the same selection of the nested
message `f` as `masks.nestedMask` makes it (a path inside `f` next to `f` itself adds nothing) -/
def SameFields (m m' : Mask) : Prop :=
  m.isEmpty = m'.isEmpty ∧
  (∀ q : Field, q ≠ .fc → q ≠ .fd → q ≠ .fx → m.contains q = m'.contains q) ∧ fsel m = fsel m'

theorem filter_sameFields (m m' : Mask) (h : SameFields m m') : Flat.filter (some m) = Flat.filter (some m') := by
  -- `Flat.filter` reads a mask only through `isEmpty`, `contains` of the plain fields and of `t` / `tp`, and `fsel`
  obtain ⟨he, hc, hf⟩ := h
  funext x
  have ha := hc .a (by decide) (by decide) (by decide)
  have hs := hc .s (by decide) (by decide) (by decide)
  have hcc := hc .c (by decide) (by decide) (by decide)
  have hr := hc .r (by decide) (by decide) (by decide)
  have hp := hc .p (by decide) (by decide) (by decide)
  have ht := hc .t (by decide) (by decide) (by decide)
  have htp := hc .tp (by decide) (by decide) (by decide)
  simp only [Flat.filter, nmFilter, plainFields, List.foldl_cons, List.foldl_nil, tsel, he, ha, hs, hcc, hr, hp, ht, htp, hf]

theorem sameFields_insert (pre post : Mask) (q : Field) (hq : q = .fc ∨ q = .fd ∨ q = .fx)
    (hf : (pre ++ post).contains .f = true) : SameFields (pre ++ q :: post) (pre ++ post) := by
  have hf' : (pre ++ q :: post).contains .f = true := by
    simp only [List.contains_append, List.contains_cons, Bool.or_eq_true] at hf ⊢
    rcases hf with h | h
    · exact Or.inl h
    · exact Or.inr (Or.inr h)
  refine ⟨?_, ?_, ?_⟩
  · have h1 : (pre ++ q :: post).isEmpty = false := by cases pre <;> simp
    have h2 : (pre ++ post).isEmpty = false := by
      cases hpp : pre ++ post with
      | nil => rw [hpp] at hf; simp at hf
      | cons _ _ => rfl
    rw [h1, h2]
  · intro y h1 h2 h3
    have hne : (y == q) = false := by
      rcases hq with rfl | rfl | rfl <;> simp [h1, h2, h3]
    simp only [List.contains_append, List.contains_cons, hne, Bool.false_or]
  · simp only [fsel, hf, hf', ↓reduceIte]

end ScVerif.C04
