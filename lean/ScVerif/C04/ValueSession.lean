import ScVerif.C04.GSession
import ScVerif.C04.Lemmas
/-!
# C04 — sessions of `Value.Pull` subscribers

The `Feed` of a `resource.Value`: `Value.Set` announces at most one `ValueChange`; `Value.Pull` seeds
with the current value (projected, stored change time) and then forwards every bus event through read
mask and equivalence *against the last value it sent* (`last`, per subscription).
-/
namespace ScVerif.C04
open ScVerif.C01
variable {M K R : Type}

/-- an open backpressured `Value.Pull`: its options, everything sent on its channel, its `last` -/
structure VSubSt (M K : Type) where
  opts : SubOpts K
  got : List (VDeliv M)
  last : Option M

def valFeed (cfg : Cfg M K R) (eqv : Eqv M) : Feed (VState M) (VOp M K) (VEvent M) (SubOpts K) (VSubSt M K) where
  step s op := (vEventsOf (Value.step cfg s op).1, (Value.step cfg s op).2)
  «open» s o := { opts := o, got := (valSeed cfg s o).1, last := (valSeed cfg s o).2 }
  fwd evs st := { opts := st.opts, got := st.got ++ forwardAll cfg eqv st.opts st.last evs,
                  last := forwardLast cfg eqv st.opts st.last evs }
  fwd_nil := by intro st; simp [forwardAll, forwardLast]

theorem valFeed_run (cfg : Cfg M K R) (eqv : Eqv M) (ops : List (VOp M K)) :
    ∀ s : VState M, (gRun (valFeed cfg eqv) s ops).1.flatten = vBusEvents cfg s ops ∧
      (gRun (valFeed cfg eqv) s ops).2 = (Value.run cfg s ops).2 := by
  induction ops with
  | nil => intro s; simp [gRun, vBusEvents, Value.run]
  | cons op ops ih =>
    intro s
    have := ih (Value.step cfg s op).2
    simp only [vBusEvents] at this
    simp only [gRun, valFeed, List.flatten_cons, vBusEvents, Value.run, List.flatMap_cons]
    exact ⟨by rw [← this.1]; rfl, this.2⟩

theorem valFeed_batch (cfg : Cfg M K R) (eqv : Eqv M) : (valFeed cfg eqv).Batch := by
  intro a b st
  simp only [valFeed, forwardAll_append, forwardLast_append, List.append_assoc]

theorem valFeed_stream (cfg : Cfg M K R) (eqv : Eqv M) (o : SubOpts K) (s : VState M) (ops : List (VOp M K)) :
    (gStream (valFeed cfg eqv) o s ops).got = valStream cfg eqv o s ops ∧
    (gStream (valFeed cfg eqv) o s ops).opts = o := by
  rw [(valFeed_batch cfg eqv).stream, (valFeed_run cfg eqv ops s).1]
  exact ⟨rfl, rfl⟩

end ScVerif.C04
