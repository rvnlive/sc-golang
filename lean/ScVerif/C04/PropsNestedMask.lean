import ScVerif.C04.NestedMask
import ScVerif.C04.Props
/-!
# C04 — the stream under read masks that name the same fields (nested paths)

"each event carries the right new value and old value" under the subscription option read mask: what a
mask selects is decided by the fields it names, not by how it is written.
-/
namespace ScVerif.C04
open ScVerif.C01 ScVerif.C01.Flat

variable {R : Type}

/-- Two read masks that name the same fields (same top-level paths, same selection of the nested message as
`nestedMask` makes it) give the same stream: `Collection.Pull`, `Collection.PullID`, `Value.Pull`. -/
theorem C04_read_mask_selection_decides_stream (cfg : Cfg Msg Mask R) (hops : cfg.ops.filter = Flat.filter)
    (eqv : Eqv Msg) (m m' : Mask) (h : SameFields m m') (uo : Bool) :
    (∀ s ops, collStream cfg eqv { readMask := some m, updatesOnly := uo } s ops =
              collStream cfg eqv { readMask := some m', updatesOnly := uo } s ops) ∧
    (∀ s id ops, pullIDStream cfg eqv { readMask := some m, updatesOnly := uo } s id ops =
                 pullIDStream cfg eqv { readMask := some m', updatesOnly := uo } s id ops) ∧
    (∀ s ops, valStream cfg eqv { readMask := some m, updatesOnly := uo } s ops =
              valStream cfg eqv { readMask := some m', updatesOnly := uo } s ops) := by
  have hfil : cfg.ops.filter (some m) = cfg.ops.filter (some m') := by
    rw [hops]; exact filter_sameFields m m' h
  have hc := fun s ops => collStream_congr cfg eqv { readMask := some m, updatesOnly := uo }
    { readMask := some m', updatesOnly := uo } hfil rfl s ops
  refine ⟨hc, fun s id ops => ?_,
    fun s ops => valStream_congr cfg eqv { readMask := some m, updatesOnly := uo }
      { readMask := some m', updatesOnly := uo } hfil rfl s ops⟩
  unfold pullIDStream
  rw [hc s ops]

/-- A read mask that holds a message field AND a path inside it (anywhere in the list): the stream is that of the mask
without the inner path - seeds and events keep EVERY sub-field of the message field. -/
theorem C04_nested_read_mask_same_stream (cfg : Cfg Msg Mask R) (hops : cfg.ops.filter = Flat.filter)
    (eqv : Eqv Msg) (pre post : Mask) (q : Field) (hq : q = .fc ∨ q = .fd ∨ q = .fx)
    (hf : (pre ++ post).contains .f = true) (uo : Bool) :
    (∀ s ops, collStream cfg eqv { readMask := some (pre ++ q :: post), updatesOnly := uo } s ops =
              collStream cfg eqv { readMask := some (pre ++ post), updatesOnly := uo } s ops) ∧
    (∀ s id ops, pullIDStream cfg eqv { readMask := some (pre ++ q :: post), updatesOnly := uo } s id ops =
                 pullIDStream cfg eqv { readMask := some (pre ++ post), updatesOnly := uo } s id ops) ∧
    (∀ s ops, valStream cfg eqv { readMask := some (pre ++ q :: post), updatesOnly := uo } s ops =
              valStream cfg eqv { readMask := some (pre ++ post), updatesOnly := uo } s ops) :=
  C04_read_mask_selection_decides_stream cfg hops eqv _ _ (sameFields_insert pre post q hq hf) uo

/-- non-vacuity: the example configuration of `Props.lean` (the flat message operations) satisfies the hypothesis -/
example : exCfg.ops.filter = Flat.filter := rfl

/-- `{f, f.c}` keeps both sub-fields (what `{f}` keeps); `{f.c}` alone keeps one: the inner path must
not narrow its parent -/
example : (Flat.filter (some [.f, .fc]) { a := 1, s := "x", c := none, f := some (3, 4) }).f = some (3, 4) ∧
    (Flat.filter (some [.fc]) { a := 1, s := "x", c := none, f := some (3, 4) }).f = some (3, 0) := by decide +kernel

example : SameFields [.fc, .a, .f] [.a, .f] := sameFields_insert [] [.a, .f] .fc (Or.inl rfl) (by decide)

end ScVerif.C04
