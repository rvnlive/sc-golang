import ScVerif.C04.Pull
import ScVerif.C01.Outcome
/-! Every write is exactly one edit of the contents, announced by exactly one event (`WriteEffect`, `IsEdit`,
`Replay`); the equations of the seed loop, of the forwarding step and of the loop of `PullID`. -/
namespace ScVerif.C04
open ScVerif.C01
variable {M K R : Type}

/-- the contents of a collection: id ↦ stored message -/
def contents (s : CState M R) : String → Option M := fun k => (lookup s.items k).map (·.body)

/-- the kind an edit must be announced with -/
def kindOf : Option M → Option M → Kind
  | none, _ => .add
  | some _, some _ => .update
  | some _, none => .remove

theorem kindOf_some_ne_remove (a : Option M) (x : M) : kindOf a (some x) ≠ .remove := by
  cases a <;> exact fun h => nomatch h

/-- `e` is exactly the difference between the contents `before` and `after`: it names the one id
that changed, carries its previous and its new value, the right kind, and is not a seed event. -/
structure IsEdit (before after : String → Option M) (e : CEvent M) : Prop where
  old_eq : e.old = before e.id
  new_eq : e.new = after e.id
  frame : ∀ k, k ≠ e.id → after k = before k
  changed : (before e.id).isSome ∨ (after e.id).isSome
  kind_eq : e.kind = kindOf (before e.id) (after e.id)
  not_seed : e.seed = false ∧ e.lastSeed = false

/-- What one write does, as seen by a subscriber: nothing at all, or exactly one edit. -/
inductive WriteEffect (before after : String → Option M) (o : COut M) : Prop
  | nothing : o.events = [] → after = before → (o.err ≠ none ∨ o.val = none) → WriteEffect before after o
  | edit (e : CEvent M) : o.events = [e] → o.err = none → IsEdit before after e → o.val ≠ none →
      WriteEffect before after o

theorem isEdit_put (v : String → Option M) (id : String) (new : M) (tm : Int) :
    IsEdit v (fun k => if k = id then some new else v k)
      { id := id, time := tm, kind := if (v id).isNone then .add else .update, old := v id, new := some new } := by
  refine ⟨rfl, by simp, fun k hk => by simp [show k ≠ id from hk], Or.inr (by simp), ?_, ⟨rfl, rfl⟩⟩
  cases v id <;> simp [kindOf]

theorem isEdit_erase (v : String → Option M) (id : String) (body : M) (tm : Int) (hv : v id = some body) :
    IsEdit v (fun k => if k = id then none else v k)
      { id := id, time := tm, kind := .remove, old := some body, new := none } := by
  refine ⟨hv.symm, by simp, fun k hk => by simp [show k ≠ id from hk], Or.inl (by simp [hv]), ?_, ⟨rfl, rfl⟩⟩
  simp [hv, kindOf]

/-- `contents` of the reference map (`contents s = scontents (abs s)`) -/
def scontents (t : SState M R) : String → Option M := fun k => (t.m k).map (·.body)

theorem scontents_put (m : String → Option (Item M)) (id : String) (new : M) (tm clk : Int) (rng : R) :
    scontents ({ m := fun k => if k = id then some { body := new, time := tm } else m k, clock := clk, rng := rng } :
      SState M R) = fun k => if k = id then some new else (m k).map (·.body) := by
  funext k
  by_cases hk : k = id <;> simp [scontents, hk]

theorem updOutcome_effect {cfg : Cfg M K R} {t : SState M R} {id : String} {msg : M} {wr : WriteReq M K}
    {r : COut M × SState M R} (h : UpdOutcome cfg t id msg wr r) :
    WriteEffect (scontents t) (scontents r.2) r.1 ∧
    (∀ e ∈ r.1.events,
      e.new = r.1.val ∧ e.time = wr.writeTime.getD (t.clock + cfg.tick) ∧
      (r.2.m e.id).map (·.time) = some (wr.writeTime.getD t.clock) ∧
      r.2.clock = (match wr.writeTime with | some _ => t.clock | none => t.clock + cfg.tick + cfg.tick) ∧
      (wr.expectAbsent = true → e.old = none)) := by
  rcases h.shape with ⟨c, calls, n, t1, rfl, hm, _, _⟩ | ⟨id1, calls, t1, new, n, hr, habs, rfl⟩
  · exact ⟨.nothing rfl (by unfold scontents; rw [hm]) (Or.inl (by simp [failOut])), fun e he => by simp [failOut] at he⟩
  · rw [spec_commit_eq, hr.m_eq.2]
    refine ⟨.edit _ rfl rfl ?_ (by simp), ?_⟩
    · rw [scontents_put, hr.m_eq.1]
      exact isEdit_put (scontents t) id1 new _
    · intro e he
      rw [List.mem_singleton.mp he]
      exact ⟨rfl, rfl, by simp, rfl, fun hx => by simp [habs hx]⟩

theorem update_effect (cfg : Cfg M K R) (h : EqRefl cfg.ops) (s : CState M R) (id : String) (msg : M)
    (wr : WriteReq M K) :
    WriteEffect (contents s) (contents (Coll.update cfg s id msg wr).2) (Coll.update cfg s id msg wr).1 ∧
    (∀ e ∈ (Coll.update cfg s id msg wr).1.events,
      e.new = (Coll.update cfg s id msg wr).1.val ∧
      e.time = wr.writeTime.getD (s.clock + cfg.tick) ∧
      (lookup (Coll.update cfg s id msg wr).2.items e.id).map (·.time) = some (wr.writeTime.getD s.clock) ∧
      (Coll.update cfg s id msg wr).2.clock = (match wr.writeTime with | some _ => s.clock | none => s.clock + cfg.tick + cfg.tick) ∧
      (wr.expectAbsent = true → e.old = none)) := by
  -- `scontents (abs s)`, `(abs s).clock` and `(abs s').m` unfold to `contents s`, `s.clock` and `lookup s'.items`
  have he := coll_update_eq cfg h s id msg wr
  have := updOutcome_effect (spec_update_outcome cfg (abs s) id msg wr)
  rw [← he.1, ← he.2] at this
  exact this

theorem contents_erase (s : CState M R) (id : String) (clk : Int) :
    contents ({ s with clock := clk, items := eraseItem s.items id } : CState M R) =
      fun k => if k = id then none else contents s k := by
  funext k
  by_cases hk : k = id <;> simp [contents, lookup_eraseItem, hk]

theorem isEdit_removed (s : CState M R) (id : String) (it : Item M) (clk tm : Int) (hl : lookup s.items id = some it) :
    IsEdit (contents s) (contents ({ s with clock := clk, items := eraseItem s.items id } : CState M R))
      { id := id, time := tm, kind := .remove, old := some it.body, new := none } := by
  rw [contents_erase]
  exact isEdit_erase (contents s) id it.body tm (by simp [contents, hl])

theorem delete_effect (cfg : Cfg M K R) (h : EqRefl cfg.ops) (s : CState M R) (id : String) (wr : WriteReq M K) :
    WriteEffect (contents s) (contents (Coll.delete cfg s id wr).2) (Coll.delete cfg s id wr).1 ∧
    (∀ e ∈ (Coll.delete cfg s id wr).1.events,
      e.kind = .remove ∧ e.old = (Coll.delete cfg s id wr).1.val ∧ e.time = s.clock ∧
      (Coll.delete cfg s id wr).2.clock = s.clock + cfg.tick) := by
  unfold Coll.delete
  have ha := deleteLoop_attempt cfg wr (icptId cfg id) 4 (lookup s.items (icptId cfg id)) s
  generalize deleteLoop cfg wr (icptId cfg id) 5 (lookup s.items (icptId cfg id)) s = r at ha ⊢
  cases ha with
  | missing _ => exact ⟨.nothing rfl rfl (Or.inr rfl), fun e he => by simp at he⟩
  | refused it c _ _ => exact ⟨.nothing rfl rfl (Or.inl (fun hc => nomatch hc)), fun e he => by simp at he⟩
  | retry it _ _ hne =>
    -- one caller: the read is current, the first attempt decides
    rw [sameItem_refl h] at hne; cases hne
  | removed it hl _ _ =>
    refine ⟨.edit _ rfl rfl ?_ (by simp), ?_⟩
    · exact isEdit_removed s _ it _ _ hl
    · intro e he
      rw [List.mem_singleton.mp he]
      exact ⟨rfl, rfl, rfl, rfl⟩

/-- `proto.Equal` relates only equal messages (model messages are immutable values) -/
def EqSound (ops : MsgOps M K) : Prop := ∀ a b, ops.eq a b = true → a = b

/-- what a `Delete` of `id` may do in state `s`: change and announce nothing, or remove the item that
is stored under `id`, return its body, and announce exactly that as one REMOVE event -/
def DeleteOutcome (s : CState M R) (id : String) (r : COut M × CState M R) : Prop :=
  (r.1.events = [] ∧ r.2 = s) ∨
  (∃ it, lookup s.items id = some it ∧ r.1.val = some it.body ∧ r.1.err = none ∧
    r.1.events = [{ id := id, time := s.clock, kind := .remove, old := some it.body, new := none }] ∧
    (∀ e ∈ r.1.events, IsEdit (contents s) (contents r.2) e))

/-- any number of attempts, any first read: what an attempt comes to is decided at once, or it is what trying again with
the current read comes to -/
theorem deleteLoop_outcome (cfg : Cfg M K R) (hs : EqSound cfg.ops) (wr : WriteReq M K) (id : String)
    (s : CState M R) : ∀ (fuel : Nat) (read : Option (Item M)), DeleteOutcome s id (deleteLoop cfg wr id fuel read s) := by
  intro fuel
  induction fuel with
  | zero => intro read; exact Or.inl ⟨rfl, rfl⟩
  | succ fuel ih =>
    intro read
    have ha := deleteLoop_attempt cfg wr id fuel read s
    generalize deleteLoop cfg wr id (fuel + 1) read s = r at ha ⊢
    cases ha with
    | missing _ => exact Or.inl ⟨rfl, rfl⟩
    | refused it c _ _ => exact Or.inl ⟨rfl, rfl⟩
    | retry it _ _ _ => exact ih _
    | removed it hst _ hsame =>
      -- the entry read is still the entry stored: the body announced is the body removed
      cases hl : lookup s.items id with
      | none => simp [hl, hst, sameItem] at hsame
      | some it2 =>
        simp only [hl, hst, sameItem, Bool.and_eq_true, beq_iff_eq] at hsame
        rw [← hs _ _ hsame.2]
        refine Or.inr ⟨it2, hl, rfl, rfl, rfl, fun e he => ?_⟩
        rw [List.mem_singleton.mp he]
        exact isEdit_removed s id it2 _ _ hl

/-- replaying a list of events on a view: each must be an edit of the view built so far -/
inductive Replay : (String → Option M) → List (CEvent M) → (String → Option M) → Prop
  | nil (v) : Replay v [] v
  | cons {v v1 v2 e es} : IsEdit v v1 e → Replay v1 es v2 → Replay v (e :: es) v2

theorem step_writeEffect (cfg : Cfg M K R) (h : EqRefl cfg.ops) (s : CState M R) (op : COp M K) :
    (eventsOf (Coll.step cfg s op).1 = [] ∧ (Coll.step cfg s op).2 = s ∧ ∀ o, (Coll.step cfg s op).1 ≠ .wrote o) ∨
    (∃ o, (Coll.step cfg s op).1 = .wrote o ∧ WriteEffect (contents s) (contents (Coll.step cfg s op).2) o) := by
  cases op with
  | get id ro => exact Or.inl ⟨rfl, rfl, fun o ho => nomatch ho⟩
  | list ro => exact Or.inl ⟨rfl, rfl, fun o ho => nomatch ho⟩
  | update id msg wr => exact Or.inr ⟨_, rfl, (update_effect cfg h s id msg wr).1⟩
  | add id msg wr => exact Or.inr ⟨_, rfl, (update_effect cfg h s id msg _).1⟩
  | delete id wr => exact Or.inr ⟨_, rfl, (delete_effect cfg h s id wr).1⟩

/-- a call that succeeded and returned a value -/
def succWrite : CRes M → Bool
  | .wrote o => o.err.isNone && o.val.isSome
  | _ => false

theorem eventsOf_length (cfg : Cfg M K R) (h : EqRefl cfg.ops) (s : CState M R) (op : COp M K) :
    (eventsOf (Coll.step cfg s op).1).length = if succWrite (Coll.step cfg s op).1 then 1 else 0 := by
  rcases step_writeEffect cfg h s op with ⟨h1, _, hne⟩ | ⟨o, ho, he⟩
  · rw [h1]
    cases hr : (Coll.step cfg s op).1 with
    | wrote o => exact absurd hr (hne o)
    | got v => rfl
    | listed vs => rfl
  · rw [ho]
    cases he with
    | nothing h1 _ h3 =>
      -- nothing announced: the call failed or returned nothing
      have : (o.err.isNone && o.val.isSome) = false := by
        rcases h3 with h3 | h3
        · cases he : o.err with
          | none => exact absurd he h3
          | some c => rfl
        · rw [h3, Bool.and_comm]; rfl
      simp only [eventsOf, h1, succWrite, this]
      rfl
    | edit e h1 h2 _ h3 =>
      cases hv : o.val with
      | none => exact absurd hv h3
      | some v => simp only [eventsOf, h1, succWrite, h2, hv]; rfl

theorem step_cases (cfg : Cfg M K R) (h : EqRefl cfg.ops) (s : CState M R) (op : COp M K) :
    (eventsOf (Coll.step cfg s op).1 = [] ∧ contents (Coll.step cfg s op).2 = contents s) ∨
    (∃ e, eventsOf (Coll.step cfg s op).1 = [e] ∧ IsEdit (contents s) (contents (Coll.step cfg s op).2) e) := by
  rcases step_writeEffect cfg h s op with ⟨h1, h2, _⟩ | ⟨o, ho, he⟩
  · exact Or.inl ⟨h1, by rw [h2]⟩
  · rw [ho]
    cases he with
    | nothing h1 h2 _ => exact Or.inl ⟨h1, h2⟩
    | edit e h1 _ h3 _ => exact Or.inr ⟨e, h1, h3⟩

theorem step_replay (cfg : Cfg M K R) (h : EqRefl cfg.ops) (s : CState M R) (op : COp M K) :
    Replay (contents s) (eventsOf (Coll.step cfg s op).1) (contents (Coll.step cfg s op).2) := by
  rcases step_cases cfg h s op with ⟨h1, h2⟩ | ⟨e, h1, h2⟩ <;> rw [h1]
  · rw [h2]; exact Replay.nil _
  · exact Replay.cons h2 (Replay.nil _)

theorem Replay.append {v1 v2 v3 : String → Option M} {es1 es2 : List (CEvent M)}
    (h1 : Replay v1 es1 v2) (h2 : Replay v2 es2 v3) : Replay v1 (es1 ++ es2) v3 := by
  induction h1 with
  | nil v => exact h2
  | cons he _ ih => exact Replay.cons he (ih h2)

theorem run_replay (cfg : Cfg M K R) (h : EqRefl cfg.ops) (ops : List (COp M K)) :
    ∀ s : CState M R, Replay (contents s) (busEvents cfg s ops) (contents (Coll.run cfg s ops).2) := by
  induction ops with
  | nil => intro s; exact Replay.nil _
  | cons op ops ih =>
    intro s
    simp only [busEvents, Coll.run, List.flatMap_cons]
    exact Replay.append (step_replay cfg h s op) (ih _)

theorem applyEv_of_isEdit {v v1 : String → Option M} {e : CEvent M} (h : IsEdit v v1 e) : applyEv v e = v1 := by
  funext k
  unfold applyEv
  by_cases hk : k = e.id
  · subst hk; simp [h.new_eq]
  · simp [hk, h.frame k hk]

theorem applyEv_stale {v v1 : String → Option M} {e : CEvent M} (h : IsEdit v v1 e) : applyEv v1 e = v1 := by
  funext k
  unfold applyEv
  by_cases hk : k = e.id
  · subst hk; simp [h.new_eq]
  · simp [hk]

theorem replay_fold {v v' : String → Option M} {es : List (CEvent M)} (h : Replay v es v') :
    es.foldl applyEv v = v' := by
  induction h with
  | nil v => rfl
  | cons he _ ih => simp only [List.foldl_cons, applyEv_of_isEdit he, ih]

theorem replay_mem {v v' : String → Option M} {es : List (CEvent M)} (h : Replay v es v') :
    ∀ e ∈ es, ∃ a b, IsEdit a b e := by
  induction h with
  | nil v => intro e he; simp at he
  | cons hed _ ih =>
    intro e he
    simp only [List.mem_cons] at he
    rcases he with he | he
    · subst he; exact ⟨_, _, hed⟩
    · exact ih e he

theorem isEdit_new_none_iff {a b : String → Option M} {e : CEvent M} (h : IsEdit a b e) :
    e.new = none ↔ e.kind = .remove := by
  rw [h.kind_eq, h.new_eq]
  rcases h.changed with hc | hc <;> cases ha : a e.id <;> cases hb : b e.id <;> simp [ha, hb, kindOf] at hc ⊢

/-- `CollectionChange.filter` -/
def maskEv (ops : MsgOps M K) (mask : Option K) (e : CEvent M) : CEvent M :=
  { e with old := filterOpt ops mask e.old, new := filterOpt ops mask e.new }

theorem collForward_cases (cfg : Cfg M K R) (eqv : Eqv M) (o : SubOpts K) (e : CEvent M) :
    collForward cfg eqv o e = none ∨ collForward cfg eqv o e = some (maskEv cfg.ops o.readMask e) := by
  unfold collForward
  cases eqv with
  | none => exact Or.inr rfl
  | some f =>
    simp only []
    split
    · exact Or.inl rfl
    · exact Or.inr rfl

theorem forward_none_eq_map (cfg : Cfg M K R) (o : SubOpts K) (es : List (CEvent M)) :
    es.filterMap (collForward cfg none o) = es.map (maskEv cfg.ops o.readMask) := by
  induction es with
  | nil => rfl
  | cons e es ih => simp only [List.filterMap_cons, collForward, List.map_cons, ih, maskEv]

theorem forwardAll_cons (cfg : Cfg M K R) (eqv : Eqv M) (o : SubOpts K) (last : Option M) (e : VEvent M)
    (es : List (VEvent M)) :
    forwardAll cfg eqv o last (e :: es) =
      (valForward cfg eqv o last e).1.toList ++ forwardAll cfg eqv o (valForward cfg eqv o last e).2 es := by
  simp only [forwardAll]
  rcases valForward cfg eqv o last e with ⟨d, l⟩
  cases d <;> rfl

/-- the loop variable `last` of `Value.Pull` after the events `evs` -/
def forwardLast (cfg : Cfg M K R) (eqv : Eqv M) (o : SubOpts K) : Option M → List (VEvent M) → Option M
  | last, [] => last
  | last, e :: es => forwardLast cfg eqv o (valForward cfg eqv o last e).2 es

theorem forwardAll_append (cfg : Cfg M K R) (eqv : Eqv M) (o : SubOpts K) (a b : List (VEvent M)) :
    ∀ last, forwardAll cfg eqv o last (a ++ b) =
      forwardAll cfg eqv o last a ++ forwardAll cfg eqv o (forwardLast cfg eqv o last a) b := by
  induction a with
  | nil => intro last; rfl
  | cons e es ih =>
    intro last
    simp only [List.cons_append, forwardAll_cons, forwardLast, ih, List.append_assoc]

theorem forwardLast_append (cfg : Cfg M K R) (eqv : Eqv M) (o : SubOpts K) (a b : List (VEvent M)) :
    ∀ last, forwardLast cfg eqv o last (a ++ b) = forwardLast cfg eqv o (forwardLast cfg eqv o last a) b := by
  induction a with
  | nil => intro last; rfl
  | cons e es ih => intro last; simp only [List.cons_append, forwardLast, ih]

/-- the forwarding loop of `Value.Pull` at one bus event: the equivalence relates it to the last value sent and it is
dropped, `last` unchanged; or it is delivered, projected, and becomes `last` -/
theorem forwardAll_cons_cases (cfg : Cfg M K R) (eqv : Eqv M) (o : SubOpts K) (last : Option M) (e : VEvent M)
    (es : List (VEvent M)) :
    (∃ f, eqv = some f ∧ f last (some (cfg.ops.filter o.readMask e.value)) = true ∧
      forwardAll cfg eqv o last (e :: es) = forwardAll cfg eqv o last es) ∨
    ((∀ f, eqv = some f → f last (some (cfg.ops.filter o.readMask e.value)) = false) ∧
      forwardAll cfg eqv o last (e :: es) =
        { value := cfg.ops.filter o.readMask e.value, time := e.time, seed := false, lastSeed := false } ::
          forwardAll cfg eqv o (some (cfg.ops.filter o.readMask e.value)) es) := by
  cases eqv with
  | none => exact Or.inr ⟨fun f hf => (nomatch hf), rfl⟩
  | some f =>
    cases hf : f last (some (cfg.ops.filter o.readMask e.value)) with
    | true => exact Or.inl ⟨f, rfl, hf, by simp only [forwardAll, valForward, hf, if_true]⟩
    | false =>
      exact Or.inr ⟨fun g hg => (by cases hg; exact hf),
        by simp only [forwardAll, valForward, hf, Bool.false_eq_true, if_false]⟩

theorem forwardAll_none (cfg : Cfg M K R) (o : SubOpts K) (evs : List (VEvent M)) (last : Option M) :
    forwardAll cfg none o last evs = evs.map (fun e =>
      { value := cfg.ops.filter o.readMask e.value, time := e.time, seed := false, lastSeed := false }) := by
  induction evs generalizing last with
  | nil => rfl
  | cons e es ih =>
    rcases forwardAll_cons_cases cfg none o last e es with ⟨f, hf, _⟩ | ⟨_, h⟩
    · cases hf
    · rw [h, ih, List.map_cons]

theorem pullIDLoop_skip {id : String} {e : CEvent M} (es : List (CEvent M)) (h : e.id ≠ id) :
    pullIDLoop id (e :: es) = pullIDLoop id es := by
  simp only [pullIDLoop, h, ne_eq, not_false_eq_true, ↓reduceIte]

theorem pullIDLoop_end {id : String} {e : CEvent M} (es : List (CEvent M)) (h : e.id = id)
    (hend : e.kind = .remove ∨ e.new = none) : pullIDLoop id (e :: es) = ([], true) := by
  simp only [pullIDLoop, h, ne_eq, not_true_eq_false, ↓reduceIte]
  split
  · rfl
  · rcases hend with hk | hn
    · contradiction
    · rw [hn]

theorem pullIDLoop_fwd {id : String} {e : CEvent M} {v : M} (es : List (CEvent M)) (h : e.id = id)
    (hk : e.kind ≠ .remove) (hn : e.new = some v) :
    pullIDLoop id (e :: es) = (toDeliv e v :: (pullIDLoop id es).1, (pullIDLoop id es).2) := by
  simp only [pullIDLoop, h, ne_eq, not_true_eq_false, ↓reduceIte, hk, hn]

theorem pullIDLoop_cases (id : String) (e : CEvent M) :
    e.id ≠ id ∨ (e.id = id ∧ (e.kind = .remove ∨ e.new = none)) ∨
      (e.id = id ∧ e.kind ≠ .remove ∧ ∃ v, e.new = some v) := by
  by_cases h : e.id = id
  · by_cases hk : e.kind = .remove
    · exact Or.inr (Or.inl ⟨h, Or.inl hk⟩)
    · cases hn : e.new with
      | none => exact Or.inr (Or.inl ⟨h, Or.inr rfl⟩)
      | some v => exact Or.inr (Or.inr ⟨h, hk, v, rfl⟩)
  · exact Or.inl h

theorem collSeed_updatesOnly (cfg : Cfg M K R) (s : CState M R) (o : SubOpts K) (hu : o.updatesOnly = true) :
    collSeed cfg s o = [] := by
  simp [collSeed, hu]

theorem collSeed_eq (cfg : Cfg M K R) (s : CState M R) (o : SubOpts K) (hu : o.updatesOnly = false) :
    collSeed cfg s o = seedEvents cfg.ops o.readMask (sortById s.items) := by
  have hsl : itemSlice s ({} : ReadReq M K) = s.items := by simp [itemSlice, excluded]
  simp only [collSeed, hu, Bool.false_eq_true, ↓reduceIte, hsl]

theorem seedEvents_cons (ops : MsgOps M K) (mask : Option K) (kv : String × Item M) (rest : List (String × Item M)) :
    seedEvents ops mask (kv :: rest) = seedEvent ops mask kv rest.isEmpty :: seedEvents ops mask rest := by
  cases rest <;> rfl

theorem seedEvents_length (ops : MsgOps M K) (mask : Option K) (l : List (String × Item M)) :
    (seedEvents ops mask l).length = l.length := by
  induction l with
  | nil => rfl
  | cons x xs ih => rw [seedEvents_cons, List.length_cons, List.length_cons, ih]

theorem seedEvents_ids (ops : MsgOps M K) (mask : Option K) (l : List (String × Item M)) :
    (seedEvents ops mask l).map (·.id) = l.map (·.1) := by
  induction l with
  | nil => rfl
  | cons x xs ih => rw [seedEvents_cons, List.map_cons, List.map_cons, ih]; rfl

theorem seedEvents_mem (ops : MsgOps M K) (mask : Option K) (l : List (String × Item M)) (e : CEvent M)
    (he : e ∈ seedEvents ops mask l) :
    ∃ kv ∈ l, e.id = kv.1 ∧ e.time = kv.2.time ∧ e.kind = .add ∧ e.old = none ∧
      e.new = some (ops.filter mask kv.2.body) ∧ e.seed = true := by
  induction l with
  | nil => cases he
  | cons x xs ih =>
    rw [seedEvents_cons] at he
    rcases List.mem_cons.mp he with he | he
    · exact ⟨x, List.mem_cons_self, he ▸ ⟨rfl, rfl, rfl, rfl, rfl, rfl⟩⟩
    · obtain ⟨kv, hkv, rest⟩ := ih he
      exact ⟨kv, List.mem_cons_of_mem _ hkv, rest⟩

theorem seedEvents_lastSeed (ops : MsgOps M K) (mask : Option K) (l : List (String × Item M)) :
    (seedEvents ops mask l).map (·.lastSeed) = (List.replicate (l.length - 1) false) ++ (if l = [] then [] else [true]) := by
  induction l with
  | nil => rfl
  | cons x xs ih =>
    rw [seedEvents_cons, List.map_cons, ih]
    cases xs <;> simp [List.replicate_succ, seedEvent]

theorem pullIDLoop_seedEvents (ops : MsgOps M K) (mask : Option K) (id : String) (l : List (String × Item M))
    (hnd : NodupKeys l) :
    pullIDLoop id (seedEvents ops mask l) =
      match lookup l id with
      | some it => ([{ value := ops.filter mask it.body, time := it.time, seed := true, lastSeed := true }], false)
      | none => ([], false) := by
  induction l with
  | nil => rfl
  | cons x xs ih =>
    obtain ⟨k, v⟩ := x
    obtain ⟨hk, hnd'⟩ := List.pairwise_cons.mp hnd
    rw [seedEvents_cons, lookup]
    by_cases hkid : k = id
    · -- the item: distinct ids, so the rest of the seed has nothing for it
      have hnot : lookup xs id = none := by
        cases hl : lookup xs id with
        | none => rfl
        | some w =>
          exact absurd hkid (hk id (List.mem_map_of_mem (f := (·.1)) ((mem_iff_lookup xs hnd' id w).mpr hl)))
      rw [pullIDLoop_fwd _ hkid (by simp [seedEvent]) rfl, ih hnd', hnot, if_pos hkid]
      rfl
    · rw [pullIDLoop_skip _ hkid, ih hnd', if_neg hkid]

end ScVerif.C04
