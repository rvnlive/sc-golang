import ScVerif.C04.IncludeLemmas
import ScVerif.C08.Props
/-!
# C04 ∘ C08 — the include-filtered stream of a real write history

C04's bus events are an exact edit script of the contents (`Replay`); C08 maps any well-formed history
(`C09.WFHist`) through `CollectionChange.include`.  This file connects the two models (read-only import of C08's).
-/
namespace ScVerif.C04
open ScVerif.C01

variable {M K R : Type}

/-- The bus events of any history, mapped through `CollectionChange.include`, are a
well-formed history of the include-filtered collection, and folding them from the filtered contents at subscription time
gives the filtered contents at the end: one delivered change per successful write that is visible through the predicate
(before or after), none for writes that stay invisible. -/
theorem C04_include_composition (cfg : Cfg M K R) (h : EqRefl cfg.ops) (p : Option (C08.Pred String M))
    (s : CState M R) (ops : List (COp M K)) :
    C09.WFHist (C08.filterView p (contents s)) (((busEvents cfg s ops).map toC09).filterMap (C08.includeChange p)) ∧
    C09.fold (((busEvents cfg s ops).map toC09).filterMap (C08.includeChange p)) (C08.filterView p (contents s)) =
      C08.filterView p (contents (Coll.run cfg s ops).2) := by
  obtain ⟨hwf, hfold⟩ := replay_wfHist (run_replay cfg h ops s)
  have := C08.C08_fold_commutes p (contents s) ((busEvents cfg s ops).map toC09) hwf
  rw [hfold] at this
  exact this

end ScVerif.C04
