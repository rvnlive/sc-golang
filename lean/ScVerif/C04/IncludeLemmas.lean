import ScVerif.C04.Lemmas
import ScVerif.C09.Change
/-! Translation of C04's events into C08/C09's change model, and: an exact edit script (`Replay`) is a
well-formed history (`C09.WFHist`) with the same fold. -/
namespace ScVerif.C04
open ScVerif.C01

variable {M K R : Type}

def toC09Kind : Kind → C09.Kind
  | .add => .add
  | .update => .update
  | .remove => .remove

/-- a C04 event as a change of C08/C09's model (instants there are naturals; the change time plays no
part in what `include` does) -/
def toC09 (e : CEvent M) : C09.Change String M :=
  { id := e.id, kind := toC09Kind e.kind, time := e.time.toNat, old := e.old, new := e.new,
    seed := e.seed, lastSeed := e.lastSeed }

theorem isEdit_wf {v v' : String → Option M} {e : CEvent M} (h : IsEdit v v' e) :
    C09.WFChange v (toC09 e) ∧ C09.apply (toC09 e) v = v' := by
  have hold := h.old_eq
  have hnew := h.new_eq
  have hk := h.kind_eq
  constructor
  · unfold C09.WFChange
    cases hb : v e.id with
    | none =>
      have ha : (v' e.id).isSome = true := by
        rcases h.changed with hc | hc
        · simp [hb] at hc
        · exact hc
      have : e.kind = .add := by rw [hk, hb]; rfl
      simp [toC09, this, toC09Kind, hb, hold, hnew, ha]
    | some x =>
      cases ha : v' e.id with
      | none =>
        have : e.kind = .remove := by rw [hk, hb, ha]; rfl
        simp [toC09, this, toC09Kind, hb, hold, hnew, ha]
      | some y =>
        have : e.kind = .update := by rw [hk, hb, ha]; rfl
        simp [toC09, this, toC09Kind, hb, hold, hnew, ha]
  · funext k
    unfold C09.apply C09.View.set
    by_cases hkid : k = e.id
    · subst hkid
      simp only [toC09, ↓reduceIte]
      cases hb : v e.id <;> cases ha : v' e.id <;>
        simp [hk, hb, ha, kindOf, toC09Kind, hnew]
    · simp only [toC09, hkid, ↓reduceIte]
      exact (h.frame k hkid).symm

theorem replay_wfHist {v v' : String → Option M} {es : List (CEvent M)} (h : Replay v es v') :
    C09.WFHist v (es.map toC09) ∧ C09.fold (es.map toC09) v = v' := by
  induction h with
  | nil v => exact ⟨trivial, rfl⟩
  | cons hed _ ih =>
    obtain ⟨h1, h2⟩ := isEdit_wf hed
    simp only [List.map_cons, C09.WFHist, C09.fold, List.foldl_cons]
    rw [h2]
    exact ⟨⟨h1, ih.1⟩, ih.2⟩

end ScVerif.C04
