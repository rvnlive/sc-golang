import ScVerif.C04.PullIDSession
/-!
# C04 — sessions: writes, and subscribers that come and go at any time

This is `collFeed`'s session (`GSession.lean`, `PullIDSession.lean`) restricted to `.pull` subscriptions, in a
representation of its own: `C04_session_streams` and `C04_no_subscriber_lost` are stated over `Sess` / `Item`, everything
else uses `GSession.lean`; the theorems are those of `GSession.lean`, carried over (`up`, `runSession_up`).

A session is any sequence of writes of one writer, with `Pull`s being opened and subscriptions being
cancelled between the writes and *while a write's `Send` is delivering* (`BusModel.lean`).  The model follows
the code: `Collection.Pull` takes its seed from the state and appends a listener to the bus
(`onUpdate`), cancelling marks the listener dead, a successful write commits and then `Send`s its one
event to a snapshot of the listeners and garbage-collects lazily; a write that announces nothing does
not touch the bus.  A `Pull` that opens while a `Send` is in flight sees the committed state (the
write's commit precedes its `Send`).

Not in the sessions of this file: a `Pull` that registers between a write's commit and its `Send`'s snapshot
(`SubOrder.subBetween` of `C04_subscribe_atomic`; as a session it is `GSplit.lean`'s).
-/
namespace ScVerif.C04
open ScVerif.C01
variable {M K R : Type}

/-- an open backpressured `Collection.Pull`: its options and everything sent on its channel so far;
`regAt` is a ghost field: how many of the session's calls had been made when it registered -/
structure SubSt (M K : Type) where
  opts : SubOpts K
  got : List (CEvent M)
  regAt : Nat

/-- what happens around the writes: a `Pull` opens (with a fresh identity), a subscription's context is
cancelled; `visit` only matters during a `Send` (the delivery loop advances) -/
inductive SAct (K : Type)
  | visit
  | listen (id : Nat) (o : SubOpts K)
  | cancel (id : Nat)

/-- one step of a session (not C01's `Item`, a stored record) -/
inductive Item (M K : Type)
  /-- between two calls -/
  | idle (a : SAct K)
  /-- one call of the writer, and what happens while its `Send` (if any) delivers -/
  | call (op : COp M K) (sched : List (SAct K))

structure Sess (M K R : Type) where
  s : CState M R
  ls : List (Lsn Nat (SubSt M K))
  /-- ghost: number of calls made -/
  nw : Nat

/-- `Collection.Pull` up to its registration: the seed is queued for the subscriber -/
def toAct (cfg : Cfg M K R) (s : CState M R) (nw : Nat) : SAct K → Act Nat (SubSt M K)
  | .visit => .visit
  | .listen i o => .listen i { opts := o, got := collSeed cfg s o, regAt := nw }
  | .cancel i => .cancel i

/-- the forwarding loop of a `Pull` handed the bus events `evs` -/
def deliver (cfg : Cfg M K R) (eqv : Eqv M) (evs : List (CEvent M)) (st : SubSt M K) : SubSt M K :=
  { st with got := st.got ++ evs.filterMap (collForward cfg eqv st.opts) }

def runItem (cfg : Cfg M K R) (eqv : Eqv M) (x : Sess M K R) : Item M K → Sess M K R
  | .idle a => { x with ls := idle x.ls (toAct cfg x.s x.nw a) }
  | .call op sched =>
    let r := Coll.step cfg x.s op
    let acts := sched.map (toAct cfg r.2 (x.nw + 1))
    match eventsOf r.1 with
    | [] => { s := r.2, ls := acts.foldl idle x.ls, nw := x.nw + 1 }
    | e :: es => { s := r.2, ls := send (deliver cfg eqv (e :: es)) x.ls acts, nw := x.nw + 1 }

def runSession (cfg : Cfg M K R) (eqv : Eqv M) (x : Sess M K R) (items : List (Item M K)) : Sess M K R :=
  items.foldl (runItem cfg eqv) x

def callsOf : List (Item M K) → List (COp M K)
  | [] => []
  | .idle _ :: rest => callsOf rest
  | .call op _ :: rest => op :: callsOf rest

def sactIds : List (SAct K) → List Nat
  | [] => []
  | .listen i _ :: rest => i :: sactIds rest
  | _ :: rest => sactIds rest

def listenIds : List (Item M K) → List Nat
  | [] => []
  | .idle a :: rest => sactIds [a] ++ listenIds rest
  | .call _ sched :: rest => sactIds sched ++ listenIds rest

/-- the eager bookkeeping of who is subscribed: a `Pull` adds its identity, a cancel removes it -/
def eagerIds (ids : List Nat) : List (SAct K) → List Nat
  | [] => ids
  | .visit :: rest => eagerIds ids rest
  | .listen i _ :: rest => eagerIds (ids ++ [i]) rest
  | .cancel i :: rest => eagerIds (ids.filter (· ≠ i)) rest

def sactsOf : List (Item M K) → List (SAct K)
  | [] => []
  | .idle a :: rest => a :: sactsOf rest
  | .call _ sched :: rest => sched ++ sactsOf rest

/-- what every live subscriber has been sent: its seed from the state at its registration, then the
forwarded events of every later call -/
def StreamOK (cfg : Cfg M K R) (eqv : Eqv M) (s0 : CState M R) (ws : List (COp M K)) (st : SubSt M K) : Prop :=
  st.regAt ≤ ws.length ∧
  st.got = collStream cfg eqv st.opts (Coll.run cfg s0 (ws.take st.regAt)).2 (ws.drop st.regAt)

structure Good (cfg : Cfg M K R) (eqv : Eqv M) (s0 : CState M R) (x : Sess M K R) (ws : List (COp M K)) : Prop where
  state : x.s = (Coll.run cfg s0 ws).2
  count : x.nw = ws.length
  streams : ∀ p ∈ view x.ls, StreamOK cfg eqv s0 ws p.2

/-! `f` translates what a subscription holds; delivering commutes with it (`hd`).  Every operation of the bus
then commutes with translating the listeners. -/

section
variable {ι σ τ : Type} [DecidableEq ι]

def Lsn.map (f : σ → τ) (l : Lsn ι σ) : Lsn ι τ := { id := l.id, alive := l.alive, st := f l.st }

def Act.map (f : σ → τ) : Act ι σ → Act ι τ
  | .visit => .visit
  | .listen i st => .listen i (f st)
  | .cancel i => .cancel i

def SendSt.map (f : σ → τ) (s : SendSt ι σ) : SendSt ι τ :=
  { ls := s.ls.map (Lsn.map f), todo := s.todo, needGc := s.needGc }

omit [DecidableEq ι] in
theorem view_map (f : σ → τ) (ls : List (Lsn ι σ)) :
    view (ls.map (Lsn.map f)) = (view ls).map (fun p => (p.1, f p.2)) := by
  simp only [view, List.filter_map, List.map_map]
  rfl

omit [DecidableEq ι] in
theorem ids_map (f : σ → τ) (ls : List (Lsn ι σ)) : (ls.map (Lsn.map f)).map (·.id) = ls.map (·.id) := by
  rw [List.map_map]
  rfl

theorem markDead_map (f : σ → τ) (i : ι) (ls : List (Lsn ι σ)) :
    markDead i (ls.map (Lsn.map f)) = (markDead i ls).map (Lsn.map f) := by
  simp only [markDead, List.map_map]
  apply List.map_congr_left
  intro l _
  by_cases h : l.id = i <;> simp [Lsn.map, h]

theorem deliverTo_map (f : σ → τ) (d : σ → σ) (d' : τ → τ) (hd : ∀ st, f (d st) = d' (f st)) (i : ι)
    (ls : List (Lsn ι σ)) : deliverTo d' i (ls.map (Lsn.map f)) = (deliverTo d i ls).map (Lsn.map f) := by
  simp only [deliverTo, List.map_map]
  apply List.map_congr_left
  intro l _
  by_cases h : l.id = i <;> simp [Lsn.map, h, hd]

theorem idle_map (f : σ → τ) (ls : List (Lsn ι σ)) (a : Act ι σ) :
    idle (ls.map (Lsn.map f)) (a.map f) = (idle ls a).map (Lsn.map f) := by
  cases a with
  | visit => rfl
  | listen i st => simp [idle, Act.map, register, Lsn.map]
  | cancel i => exact markDead_map f i ls

theorem fold_idle_map (f : σ → τ) (acts : List (Act ι σ)) (ls : List (Lsn ι σ)) :
    (acts.map (Act.map f)).foldl idle (ls.map (Lsn.map f)) = (acts.foldl idle ls).map (Lsn.map f) := by
  rw [List.foldl_map]
  exact List.foldl_hom (List.map (Lsn.map f)) (idle_map f)

theorem act_map (f : σ → τ) (d : σ → σ) (d' : τ → τ) (hd : ∀ st, f (d st) = d' (f st)) (s : SendSt ι σ)
    (a : Act ι σ) : act d' (s.map f) (a.map f) = (act d s a).map f := by
  cases a with
  | visit =>
    obtain ⟨ls, todo, gc⟩ := s
    have halive : ∀ i, isAlive i (ls.map (Lsn.map f)) = isAlive i ls := by
      intro i
      simp only [isAlive, List.any_map]
      rfl
    cases todo with
    | nil => rfl
    | cons i rest =>
      simp only [act, Act.map, SendSt.map, halive]
      split
      · simp only [deliverTo_map f d d' hd]
      · rfl
  | listen i st => simp [act, Act.map, SendSt.map, register, Lsn.map]
  | cancel i => simp only [act, Act.map, SendSt.map, markDead_map]

theorem fold_act_map (f : σ → τ) (d : σ → σ) (d' : τ → τ) (hd : ∀ st, f (d st) = d' (f st))
    (sched : List (Act ι σ)) (s : SendSt ι σ) :
    (sched.map (Act.map f)).foldl (act d') (s.map f) = (sched.foldl (act d) s).map f := by
  rw [List.foldl_map]
  exact List.foldl_hom (SendSt.map f) (act_map f d d' hd)

theorem send_map (f : σ → τ) (d : σ → σ) (d' : τ → τ) (hd : ∀ st, f (d st) = d' (f st))
    (ls : List (Lsn ι σ)) (sched : List (Act ι σ)) :
    send d' (ls.map (Lsn.map f)) (sched.map (Act.map f)) = (send d ls sched).map (Lsn.map f) := by
  have hsnap : snapshot (ls.map (Lsn.map f)) = (snapshot ls).map f := by
    simp only [snapshot, SendSt.map, ids_map]
  have hfin : ∀ s : SendSt ι σ, finish d' (s.map f) = (finish d s).map f := by
    intro s
    have := fold_act_map f d d' hd (List.replicate s.todo.length Act.visit) s
    rw [List.map_replicate] at this
    exact this
  have hcollect : ∀ l : List (Lsn ι σ), collect (l.map (Lsn.map f)) = (collect l).map (Lsn.map f) := by
    intro l
    simp only [collect, List.filter_map]
    rfl
  rw [send_def, send_def, hsnap, fold_act_map f d d' hd, hfin]
  simp only [SendSt.map, hcollect]
  split <;> rfl

end

def up (st : SubSt M K) : GSub (COpen K) (CSubSt M K) :=
  { st := .pull st.opts st.got, o := .pull st.opts, regAt := st.regAt }

def upA : SAct K → GAct (COpen K)
  | .visit => .visit
  | .listen i o => .listen i (.pull o)
  | .cancel i => .cancel i

def upI : Item M K → GItem (COp M K) (COpen K)
  | .idle a => .idle (upA a)
  | .call op sched => .call op (sched.map upA)

def upX (x : Sess M K R) : GSess (CState M R) (COpen K) (CSubSt M K) :=
  { s := x.s, ls := x.ls.map (Lsn.map up), nw := x.nw }

theorem upX_ls (x : Sess M K R) : (upX x).ls = x.ls.map (Lsn.map up) := rfl

theorem toAct_up (cfg : Cfg M K R) (eqv : Eqv M) (s : CState M R) (nw : Nat) (a : SAct K) :
    gToAct (collFeed cfg eqv) s nw (upA a) = (toAct cfg s nw a).map up := by
  cases a <;> rfl

theorem runItem_up (cfg : Cfg M K R) (eqv : Eqv M) (x : Sess M K R) (item : Item M K) :
    upX (runItem cfg eqv x item) = gRunItem (collFeed cfg eqv) (upX x) (upI item) := by
  cases item with
  | idle a =>
    simp only [runItem, gRunItem, upI, upX, toAct_up, idle_map]
  | call op sched =>
    have hstep : (collFeed cfg eqv).step x.s op = (eventsOf (Coll.step cfg x.s op).1, (Coll.step cfg x.s op).2) := rfl
    have hacts : (sched.map upA).map (gToAct (collFeed cfg eqv) (Coll.step cfg x.s op).2 (x.nw + 1)) =
        (sched.map (toAct cfg (Coll.step cfg x.s op).2 (x.nw + 1))).map (Act.map up) := by
      rw [List.map_map, List.map_map]
      exact List.map_congr_left (fun a _ => toAct_up cfg eqv _ _ a)
    cases hev : eventsOf (Coll.step cfg x.s op).1 with
    | nil => simp only [runItem, gRunItem, upI, upX, hstep, hev, hacts, fold_idle_map]
    | cons e es =>
      simp only [runItem, gRunItem, upI, upX, hstep, hev, hacts]
      rw [send_map up (deliver cfg eqv (e :: es)) (gDeliver (collFeed cfg eqv) (e :: es)) (fun _ => rfl)]

theorem runSession_up (cfg : Cfg M K R) (eqv : Eqv M) (items : List (Item M K)) (x : Sess M K R) :
    upX (runSession cfg eqv x items) = gRunSession (collFeed cfg eqv) (upX x) (items.map upI) := by
  rw [gRunSession, List.foldl_map]
  exact (List.foldl_hom upX (fun x item => (runItem_up cfg eqv x item).symm)).symm

theorem gActIds_up (sched : List (SAct K)) : gActIds (sched.map upA) = sactIds sched := by
  induction sched with
  | nil => rfl
  | cons a rest ih => cases a <;> simp [upA, gActIds, sactIds, ih]

theorem items_up (items : List (Item M K)) :
    gCallsOf (items.map upI) = callsOf items ∧ gListenIds (items.map upI) = listenIds items ∧
    gActsOf (items.map upI) = (sactsOf items).map upA := by
  induction items with
  | nil => exact ⟨rfl, rfl, rfl⟩
  | cons item rest ih =>
    cases item with
    | idle a =>
      have := gActIds_up [a]
      simp only [List.map_cons, List.map_nil] at this
      simp [upI, gCallsOf, callsOf, gListenIds, listenIds, gActsOf, sactsOf, ih, this]
    | call op sched => simp [upI, gCallsOf, callsOf, gListenIds, listenIds, gActsOf, sactsOf, ih, gActIds_up]

theorem gEagerIds_up (sched : List (SAct K)) : ∀ ids, gEagerIds ids (sched.map upA) = eagerIds ids sched := by
  induction sched with
  | nil => intro ids; rfl
  | cons a rest ih => intro ids; cases a <;> simp only [List.map_cons, upA, gEagerIds, eagerIds, ih]

theorem good_of_up (cfg : Cfg M K R) (eqv : Eqv M) (s0 : CState M R) (x : Sess M K R) (ws : List (COp M K))
    (hg : GGood (collFeed cfg eqv) s0 (upX x) ws) : Good cfg eqv s0 x ws := by
  refine ⟨hg.state.trans (collFeed_run cfg eqv ws s0).2, hg.count, fun p hp => ?_⟩
  have h := hg.streams (p.1, up p.2) (by rw [upX_ls, view_map]; exact List.mem_map_of_mem hp)
  refine ⟨h.1, ?_⟩
  -- the feed's spec for a `.pull` subscription is `collStream`
  have : CSubSt.pull p.2.opts p.2.got = gStream (collFeed cfg eqv) (.pull p.2.opts)
      (gRun (collFeed cfg eqv) s0 (ws.take p.2.regAt)).2 (ws.drop p.2.regAt) := h.2
  rw [(collFeed_run cfg eqv _ s0).2, (collFeed_stream cfg eqv _ _).1] at this
  exact (CSubSt.pull.inj this).2

theorem runSession_good (cfg : Cfg M K R) (eqv : Eqv M) (s0 : CState M R) (items : List (Item M K))
    (hfresh : (listenIds items).Nodup) :
    Good cfg eqv s0 (runSession cfg eqv { s := s0, ls := [], nw := 0 } items) (callsOf items) ∧
    ((runSession cfg eqv { s := s0, ls := [], nw := 0 } items).ls.map (·.id)).Nodup ∧
    (view (runSession cfg eqv { s := s0, ls := [], nw := 0 } items).ls).map (·.1) = eagerIds [] (sactsOf items) := by
  have h := gRunSession_good (collFeed cfg eqv) s0 (items.map upI) (upX { s := s0, ls := [], nw := 0 }) []
    (gGood_init _ s0) (fun _ hl => nomatch hl) (by rw [(items_up items).2.1]; exact hfresh)
  rw [List.nil_append, (items_up items).1, (items_up items).2.2, ← runSession_up] at h
  refine ⟨good_of_up cfg eqv s0 _ _ h.good, ?_, ?_⟩
  · have := h.idsNodup
    rwa [upX_ls, ids_map] at this
  · have := h.liveIds
    rw [upX_ls, view_map, List.map_map, gEagerIds_up] at this
    exact this

end ScVerif.C04
