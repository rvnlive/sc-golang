import ScVerif.C04.Lemmas
import ScVerif.C01.Flat
/-!
# C04 — property theorems

Property (fixed text): "A backpressured subscriber to a resource written by one writer at a time
receives, after the seed, exactly one event per successful write in write order and none for failed
writes; each event carries the right id, kind (ADD, UPDATE, REMOVE), new value and old value (equal to
the previous new value for that id) and the write's change time, and equivalent consecutive values
are suppressed only when an equivalence is configured. Seed events come first, sorted by id, flagged
as seed, with exactly the final one flagged last-seed and carrying the item's stored change time;
updates-only subscriptions receive no seed."

The stream is the function `collStream` / `valStream` (`Pull.lean`) of the state at subscription
time, the subscription options and the later calls; writes are C01's model.  All theorems hold for
every message type / message operations with reflexive `proto.Equal`, every configuration, every
option record, arbitrary callbacks and equivalences, every state and every finite history.
-/
namespace ScVerif.C04
open ScVerif.C01
variable {M K R : Type}

/-- Exactly one event per successful write, none for a failed one: every Update/Add/Delete either changes and
announces nothing — and then it failed, or is a Delete of a missing id with allow-missing (returns nil) — or succeeds,
returns a value, and announces exactly one event, which is exactly the edit it made to the contents. -/
theorem C04_one_event_per_success (cfg : Cfg M K R) (h : EqRefl cfg.ops) (s : CState M R) (op : COp M K)
    (o : COut M) (s' : CState M R) (hstep : Coll.step cfg s op = (.wrote o, s')) :
    (o.events = [] ∧ contents s' = contents s ∧ (o.err ≠ none ∨ o.val = none)) ∨
    (∃ e, o.events = [e] ∧ o.err = none ∧ o.val ≠ none ∧ IsEdit (contents s) (contents s') e) := by
  rcases step_writeEffect cfg h s op with ⟨_, _, hne⟩ | ⟨o', ho', he⟩
  · exact absurd (congrArg Prod.fst hstep) (hne o)
  · rw [hstep] at ho' he
    cases ho'
    cases he with
    | nothing h1 h2 h3 => exact Or.inl ⟨h1, h2, h3⟩
    | edit e h1 h2 h3 h5 => exact Or.inr ⟨e, h1, h2, h5, h3⟩

/-- The event of an Update/Add carries as new value the result returned to the writer;
the event of a Delete is a REMOVE whose old value is the value returned to the writer.  (That the id,
the kind — ADD iff the id was absent, UPDATE otherwise, REMOVE — and the old value are right is
`IsEdit` in `C04_one_event_per_success` / `C04_edit_script`.) -/
theorem C04_event_fields (cfg : Cfg M K R) (h : EqRefl cfg.ops) (s : CState M R) (id : String) (msg : M)
    (wr : WriteReq M K) :
    (∀ e ∈ (Coll.update cfg s id msg wr).1.events, e.new = (Coll.update cfg s id msg wr).1.val ∧ e.kind ≠ .remove) ∧
    (∀ e ∈ (Coll.add cfg s id msg wr).1.events, e.new = (Coll.add cfg s id msg wr).1.val ∧ e.kind = .add) ∧
    (∀ e ∈ (Coll.delete cfg s id wr).1.events, e.kind = .remove ∧ e.old = (Coll.delete cfg s id wr).1.val) := by
  -- the event of an Update/Add is the edit it made: its kind is decided by whether the id was there
  have kindU : ∀ (wr : WriteReq M K) (e : CEvent M), e ∈ (Coll.update cfg s id msg wr).1.events →
      e.new = (Coll.update cfg s id msg wr).1.val ∧ e.kind = kindOf e.old e.new ∧ e.new ≠ none ∧
      (wr.expectAbsent = true → e.old = none) := by
    intro wr e he
    obtain ⟨h1, _, _, _, h5⟩ := (update_effect cfg h s id msg wr).2 e he
    cases (update_effect cfg h s id msg wr).1 with
    | nothing h3 _ _ => rw [h3] at he; cases he
    | edit e' h3 _ hed h7 =>
      rw [h3] at he
      cases List.mem_singleton.mp he
      exact ⟨h1, by rw [hed.kind_eq, ← hed.old_eq, ← hed.new_eq], h1 ▸ h7, h5⟩
  refine ⟨?_, ?_, ?_⟩
  · intro e he
    obtain ⟨h1, h2, h3, _⟩ := kindU wr e he
    refine ⟨h1, ?_⟩
    cases hn : e.new with
    | none => exact absurd hn h3
    | some x => rw [h2, hn]; exact kindOf_some_ne_remove _ x
  · intro e he
    -- Add expects the id absent: a successful Add is an ADD
    obtain ⟨h1, h2, _, h4⟩ := kindU _ e he
    exact ⟨h1, by rw [h2, h4 rfl]; rfl⟩
  · intro e he
    have := (delete_effect cfg h s id wr).2 e he
    exact ⟨this.1, this.2.1⟩

/-- The stream is an exact, ordered edit script: every event of ANY call sequence is an edit of the view built by its
predecessors — its old value is that view's value for its id (the previous event's new value for that id, or the seeded
one), its kind ADD iff the view has no such id, UPDATE if it has, REMOVE if the new value is absent — and replaying all
of them on the contents at the start gives the contents at the end. -/
theorem C04_edit_script (cfg : Cfg M K R) (h : EqRefl cfg.ops) (s : CState M R) (ops : List (COp M K)) :
    Replay (contents s) (busEvents cfg s ops) (contents (Coll.run cfg s ops).2) :=
  run_replay cfg h ops s

/-- Over a whole history the bus carries exactly as many events as there are successful value-returning
writes. -/
theorem C04_event_count (cfg : Cfg M K R) (h : EqRefl cfg.ops) (ops : List (COp M K)) :
    ∀ s : CState M R, (busEvents cfg s ops).length = ((Coll.run cfg s ops).1.filter succWrite).length := by
  induction ops with
  | nil => intro s; rfl
  | cons op ops ih =>
    intro s
    simp only [busEvents, Coll.run, List.flatMap_cons, List.length_append, List.filter_cons]
    have := ih (Coll.step cfg s op).2
    simp only [busEvents] at this
    rw [this, eventsOf_length cfg h s op]
    -- one more event exactly when the call is counted
    split <;> simp <;> omega

/-- Without an equivalence a subscriber receives the seed and then every bus event, in order,
projected by its read mask; with one, exactly those the equivalence does not suppress. -/
theorem C04_stream_is_seed_then_events (cfg : Cfg M K R) (eqv : Eqv M) (o : SubOpts K) (s : CState M R)
    (ops : List (COp M K)) :
    collStream cfg none o s ops = collSeed cfg s o ++ (busEvents cfg s ops).map (fun e =>
      { e with old := filterOpt cfg.ops o.readMask e.old, new := filterOpt cfg.ops o.readMask e.new }) ∧
    collStream cfg eqv o s ops = collSeed cfg s o ++ (busEvents cfg s ops).filterMap (collForward cfg eqv o) :=
  ⟨congrArg (collSeed cfg s o ++ ·) (forward_none_eq_map cfg o _), rfl⟩

/-- The event of an Update/Add carries the write time if one was given, else the SECOND clock reading of
that write (`clock + tick`); the item is stored with the write time, else the FIRST reading.  Both are readings taken
during the write; they coincide exactly when a write time is given or the clock does not move during the write. A
Delete's event carries the one clock reading of that Delete. -/
theorem C04_event_time (cfg : Cfg M K R) (h : EqRefl cfg.ops) (s : CState M R) (id : String) (msg : M)
    (wr : WriteReq M K) :
    (∀ e ∈ (Coll.update cfg s id msg wr).1.events,
      e.time = wr.writeTime.getD (s.clock + cfg.tick) ∧
      (lookup (Coll.update cfg s id msg wr).2.items e.id).map (·.time) = some (wr.writeTime.getD s.clock) ∧
      (Coll.update cfg s id msg wr).2.clock = (match wr.writeTime with | some _ => s.clock | none => s.clock + cfg.tick + cfg.tick) ∧
      ((wr.writeTime.isSome ∨ cfg.tick = 0) →
        (lookup (Coll.update cfg s id msg wr).2.items e.id).map (·.time) = some e.time)) ∧
    (∀ e ∈ (Coll.delete cfg s id wr).1.events,
      e.time = s.clock ∧ (Coll.delete cfg s id wr).2.clock = s.clock + cfg.tick) := by
  constructor
  · intro e he
    obtain ⟨_, h2, h3, h4, _⟩ := (update_effect cfg h s id msg wr).2 e he
    refine ⟨h2, h3, h4, ?_⟩
    intro hc
    rw [h3, h2]
    rcases hc with hc | hc
    · cases hw : wr.writeTime with
      | none => simp [hw] at hc
      | some w => rfl
    · simp [hc]
  · intro e he
    have := (delete_effect cfg h s id wr).2 e he
    exact ⟨this.2.2.1, this.2.2.2⟩

/-- A Collection event is suppressed iff an equivalence is configured and it relates the (projected)
old and new value of that very change; otherwise it is delivered, projected. -/
theorem C04_suppression_iff_equiv (cfg : Cfg M K R) (eqv : Eqv M) (o : SubOpts K) (e : CEvent M) :
    (collForward cfg eqv o e = none ↔
      ∃ f, eqv = some f ∧ f (filterOpt cfg.ops o.readMask e.old) (filterOpt cfg.ops o.readMask e.new) = true) ∧
    (∀ d, collForward cfg eqv o e = some d →
      d = { e with old := filterOpt cfg.ops o.readMask e.old, new := filterOpt cfg.ops o.readMask e.new }) := by
  unfold collForward
  cases eqv with
  | none => simp
  | some f =>
    simp only []
    cases hf : f (filterOpt cfg.ops o.readMask e.old) (filterOpt cfg.ops o.readMask e.new) <;> simp [hf]

/-- what `Value.Pull` delivers from `last` on: consecutive deliveries are never equivalent -/
def NoEquivNeighbours (f : Option M → Option M → Bool) : Option M → List (VDeliv M) → Prop
  | _, [] => True
  | last, d :: ds => f last (some d.value) = false ∧ NoEquivNeighbours f (some d.value) ds

/-- `Value.Pull`: with an equivalence `f`, a value is delivered iff `f` does not relate it to the last value
delivered (the seed as delivered, or nothing); without one, every successful Set is delivered, in order, projected. -/
theorem C04_value_suppression (cfg : Cfg M K R) (o : SubOpts K) (evs : List (VEvent M)) :
    (∀ (f : Option M → Option M → Bool) (last : Option M),
      NoEquivNeighbours f last (forwardAll cfg (some f) o last evs)) ∧
    (∀ last, forwardAll cfg none o last evs =
      evs.map (fun e => { value := cfg.ops.filter o.readMask e.value, time := e.time, seed := false, lastSeed := false })) := by
  constructor
  · intro f
    induction evs with
    | nil => intro last; exact trivial
    | cons e es ih =>
      intro last
      rcases forwardAll_cons_cases cfg (some f) o last e es with ⟨_, _, _, h⟩ | ⟨hf, h⟩ <;> rw [h]
      · exact ih last
      · exact ⟨hf f rfl, ih _⟩
  · exact forwardAll_none cfg o evs

/-- A Set announces exactly one event iff it succeeds; the event carries the result
returned to the writer and the write time, else the second clock reading of the write. -/
theorem C04_value_events (cfg : Cfg M K R) (h : EqRefl cfg.ops) (s : VState M) (msg : M) (wr : WriteReq M K) :
    ((Value.set cfg s msg wr).1.err ≠ none → (Value.set cfg s msg wr).1.events = []) ∧
    ((Value.set cfg s msg wr).1.err = none →
      ∃ new, (Value.set cfg s msg wr).1.val = some new ∧
        (Value.set cfg s msg wr).1.events = [{ value := new, time := wr.writeTime.getD (s.clock + cfg.tick) }] ∧
        (Value.set cfg s msg wr).2.value = some new ∧
        (Value.set cfg s msg wr).2.changeTime = wr.writeTime.getD s.clock) := by
  rcases Value.set_cases cfg h s msg wr with ⟨c, e, _⟩ | ⟨new, _, _, e⟩ <;> rw [e]
  · exact ⟨fun _ => rfl, fun hc => nomatch hc⟩
  · rw [savedV_eq]
    exact ⟨fun hc => absurd rfl hc, fun _ => ⟨new, rfl, rfl, rfl, rfl⟩⟩

/-- Updates-only: no seed. Otherwise (on any state whose ids are distinct — every reachable
state): one event per stored item, ids strictly increasing, every one an ADD of the projected item
with no old value, flagged seed, carrying the item's stored change time, and exactly the last one
flagged last-seed. -/
theorem C04_seed (cfg : Cfg M K R) (s : CState M R) (o : SubOpts K) (hn : NodupKeys s.items) :
    (o.updatesOnly = true → collSeed cfg s o = []) ∧
    (o.updatesOnly = false →
      ((collSeed cfg s o).map (·.id)).Pairwise (· < ·) ∧
      (∀ id, id ∈ (collSeed cfg s o).map (·.id) ↔ (lookup s.items id).isSome) ∧
      (∀ e ∈ collSeed cfg s o, ∃ it, lookup s.items e.id = some it ∧ e.time = it.time ∧ e.kind = .add ∧
        e.old = none ∧ e.new = some (cfg.ops.filter o.readMask it.body) ∧ e.seed = true) ∧
      (collSeed cfg s o).map (·.lastSeed) =
        List.replicate ((collSeed cfg s o).length - 1) false ++ (if collSeed cfg s o = [] then [] else [true])) := by
  constructor
  · exact collSeed_updatesOnly cfg s o
  · intro hu
    rw [collSeed_eq cfg s o hu]
    refine ⟨?_, ?_, ?_, ?_⟩
    · rw [seedEvents_ids]; exact sorted_sortById _ hn
    · intro id
      rw [seedEvents_ids]
      simp only [List.mem_map]
      constructor
      · rintro ⟨kv, hkv, rfl⟩
        have := (mem_iff_lookup _ hn kv.1 kv.2).mp ((mem_sortById _ _).mp hkv)
        simp [this]
      · intro hs
        cases hl : lookup s.items id with
        | none => simp [hl] at hs
        | some it => exact ⟨(id, it), (mem_sortById _ _).mpr ((mem_iff_lookup _ hn id it).mpr hl), rfl⟩
    · intro e he
      obtain ⟨kv, hkv, h1, h2, h3, h4, h5, h6⟩ := seedEvents_mem _ _ _ e he
      refine ⟨kv.2, ?_, h2, h3, h4, h5, h6⟩
      rw [h1]
      exact (mem_iff_lookup _ hn kv.1 kv.2).mp ((mem_sortById _ _).mp hkv)
    · rw [seedEvents_lastSeed, seedEvents_length]
      cases sortById s.items with
      | nil => rfl
      | cons x xs => simp [seedEvents_cons]

/-- A subscriber opening while a write is in flight.  Subscribing (snapshot + bus registration) is one atomic step with
respect to commits, so it falls before the write's commit, between its commit and its publication, or after both
(`SubOrder`).  In every case folding what the subscriber is sent onto its seed yields the contents at the end — no
successful write is lost.  Between commit and publication the seed already contains the write and its late event is a
stale duplicate that leaves the seeded view unchanged (its new value IS the seeded value for its id). -/
theorem C04_subscribe_atomic (cfg : Cfg M K R) (h : EqRefl cfg.ops) (s : CState M R) (w : COp M K)
    (rest : List (COp M K)) (ord : SubOrder) :
    (raceBusEvents cfg s w rest ord).foldl applyEv (contents (raceSeedState cfg s w ord)) =
      contents (Coll.run cfg (Coll.step cfg s w).2 rest).2 ∧
    (ord = .subFirst →
      Replay (contents s) (raceBusEvents cfg s w rest ord) (contents (Coll.run cfg (Coll.step cfg s w).2 rest).2)) ∧
    (ord = .subBetween →
      (∀ e ∈ eventsOf (Coll.step cfg s w).1,
        applyEv (contents (Coll.step cfg s w).2) e = contents (Coll.step cfg s w).2 ∧
        e.new = contents (Coll.step cfg s w).2 e.id) ∧
      Replay (contents (Coll.step cfg s w).2) (busEvents cfg (Coll.step cfg s w).2 rest)
        (contents (Coll.run cfg (Coll.step cfg s w).2 rest).2)) ∧
    (ord = .subLast →
      Replay (contents (Coll.step cfg s w).2) (raceBusEvents cfg s w rest ord)
        (contents (Coll.run cfg (Coll.step cfg s w).2 rest).2)) := by
  have hstep := step_replay cfg h s w
  have hrest := run_replay cfg h rest (Coll.step cfg s w).2
  have hall : Replay (contents s) (eventsOf (Coll.step cfg s w).1 ++ busEvents cfg (Coll.step cfg s w).2 rest)
      (contents (Coll.run cfg (Coll.step cfg s w).2 rest).2) := Replay.append hstep hrest
  -- the write's events are at most one edit s → s'
  have hstale : ∀ e ∈ eventsOf (Coll.step cfg s w).1,
      applyEv (contents (Coll.step cfg s w).2) e = contents (Coll.step cfg s w).2 ∧
      e.new = contents (Coll.step cfg s w).2 e.id := by
    intro e he
    rcases step_cases cfg h s w with ⟨h1, _⟩ | ⟨e', h1, hedit⟩ <;> rw [h1] at he
    · cases he
    · rw [List.mem_singleton.mp he]
      exact ⟨applyEv_stale hedit, hedit.new_eq⟩
  refine ⟨?_, ?_, ?_, ?_⟩
  · cases ord with
    | subFirst => exact replay_fold hall
    | subLast => exact replay_fold hrest
    | subBetween =>
      simp only [raceBusEvents, raceSeedState, List.foldl_append]
      have : (eventsOf (Coll.step cfg s w).1).foldl applyEv (contents (Coll.step cfg s w).2) =
          contents (Coll.step cfg s w).2 := by
        -- the write announced nothing, or the one edit the seed already shows
        rcases step_cases cfg h s w with ⟨h1, _⟩ | ⟨e, h1, hed⟩ <;> rw [h1]
        · rfl
        · exact applyEv_stale hed
      rw [this]
      exact replay_fold hrest
  · intro ho; subst ho; exact hall
  · intro ho; subst ho; exact ⟨hstale, hrest⟩
  · intro ho; subst ho; exact hrest

def endsStream (e : CEvent M) : Bool := decide (e.kind = .remove) || e.new.isNone

/-- PullID is a filtered Pull: what `PullID(id)` forwards is what the `Pull` with the same options delivers, restricted
to the changes of that id, cut at (and excluding) the first change that removes the item, each as a `ValueChange`; the
stream has ended iff such a removing change was delivered.  (`pullIDStream` is this loop over `collStream`.) -/
theorem C04_pullid_is_filtered_pull (id : String) (es : List (CEvent M)) :
    (pullIDLoop id es).1 =
      (((es.filter (fun e => decide (e.id = id))).takeWhile (fun e => !endsStream e)).filterMap
        (fun e => e.new.map (toDeliv e))) ∧
    ((pullIDLoop id es).2 = true ↔ ∃ e ∈ es, e.id = id ∧ endsStream e = true) := by
  induction es with
  | nil => simp [pullIDLoop]
  | cons e es ih =>
    have hex : (∃ e' ∈ e :: es, e'.id = id ∧ endsStream e' = true) ↔
        (e.id = id ∧ endsStream e = true) ∨ ∃ e' ∈ es, e'.id = id ∧ endsStream e' = true := by
      simp only [List.mem_cons, exists_eq_or_imp]
    rw [hex, ← ih.2]
    rcases pullIDLoop_cases id e with h | ⟨h, hend⟩ | ⟨h, hk, v, hn⟩
    · rw [pullIDLoop_skip _ h, List.filter_cons_of_neg (by simpa using h)]
      exact ⟨ih.1, by simp [h]⟩
    · have he : endsStream e = true := by simpa [endsStream] using hend
      rw [pullIDLoop_end _ h hend, List.filter_cons_of_pos (by simpa using h),
        List.takeWhile_cons_of_neg (by simp [he])]
      exact ⟨rfl, by simp [h, he]⟩
    · have he : endsStream e = false := by simp [endsStream, hk, hn]
      rw [pullIDLoop_fwd _ h hk hn, List.filter_cons_of_pos (by simpa using h),
        List.takeWhile_cons_of_pos (by simp [he]), List.filterMap_cons_some (by rw [hn]; rfl), ih.1]
      exact ⟨rfl, by simp [he]⟩

/-- In the stream of a real history a change delivered without a new value IS a REMOVE (the defensive
"no new value but not a REMOVE" branch of PullID is dead), so a `PullID` stream ends exactly when a REMOVE of its id is
delivered. -/
theorem C04_pullid_ends_on_remove (cfg : Cfg M K R) (h : EqRefl cfg.ops) (eqv : Eqv M) (o : SubOpts K)
    (s : CState M R) (id : String) (ops : List (COp M K)) :
    (∀ e ∈ collStream cfg eqv o s ops, e.new = none ↔ e.kind = .remove) ∧
    ((pullIDStream cfg eqv o s id ops).2 = true ↔
      ∃ e ∈ collStream cfg eqv o s ops, e.id = icptId cfg id ∧ e.kind = .remove) := by
  have hall : ∀ e ∈ collStream cfg eqv o s ops, e.new = none ↔ e.kind = .remove := by
    intro e he
    simp only [collStream, List.mem_append, List.mem_filterMap] at he
    rcases he with he | ⟨b, hb, hf⟩
    · -- a seed event
      cases hu : o.updatesOnly with
      | true => rw [collSeed_updatesOnly cfg s o hu] at he; cases he
      | false =>
        rw [collSeed_eq cfg s o hu] at he
        obtain ⟨kv, _, _, _, h3, _, h5, _⟩ := seedEvents_mem _ _ _ e he
        simp [h3, h5]
    · obtain ⟨v1, v2, hed⟩ := replay_mem (run_replay cfg h ops s) b hb
      have hd := (C04_suppression_iff_equiv cfg eqv o b).2 e hf
      subst hd
      simp only [filterOpt, Option.map_eq_none_iff]
      exact isEdit_new_none_iff hed
  refine ⟨hall, ?_⟩
  unfold pullIDStream
  rw [(C04_pullid_is_filtered_pull (icptId cfg id) (collStream cfg eqv o s ops)).2]
  constructor
  · rintro ⟨e, he, h1, h2⟩
    refine ⟨e, he, h1, ?_⟩
    simp only [endsStream, Bool.or_eq_true, decide_eq_true_eq, Option.isNone_iff_eq_none] at h2
    rcases h2 with h2 | h2
    · exact h2
    · exact (hall e he).mp h2
  · rintro ⟨e, he, h1, h2⟩
    exact ⟨e, he, h1, by simp [endsStream, h2]⟩

/-- A (not updates-only) `PullID(id)` starts with exactly one seed value if the item exists — flagged seed
AND last-seed wherever the id sorts among the collection's ids — and with none otherwise. -/
theorem C04_pullid_seed (cfg : Cfg M K R) (s : CState M R) (o : SubOpts K) (id : String) (hn : NodupKeys s.items)
    (hu : o.updatesOnly = false) :
    pullIDLoop id (collSeed cfg s o) =
      match lookup s.items id with
      | some it => ([{ value := cfg.ops.filter o.readMask it.body, time := it.time, seed := true, lastSeed := true }], false)
      | none => ([], false) := by
  have hsorted := sorted_sortById s.items hn
  have hnd : NodupKeys (sortById s.items) := by
    unfold NodupKeys
    exact List.Pairwise.imp (fun h => String.ne_of_lt h) hsorted
  have hlk : lookup (sortById s.items) id = lookup s.items id :=
    Option.ext fun it => by rw [← mem_iff_lookup _ hnd, mem_sortById, mem_iff_lookup _ hn]
  rw [collSeed_eq cfg s o hu, pullIDLoop_seedEvents cfg.ops o.readMask id _ hnd, hlk]
  cases lookup s.items id <;> rfl

def exCfg : Cfg Msg Mask (List Nat) := { ops := flatOps, gen := flatGen }

def exInit : CState Msg (List Nat) := Coll.init exCfg [("b", { a := 1, s := "x", c := none }), ("a", { a := 2, s := "", c := some 3 })] []

/-- the hypothesis of `C04_seed` holds on every state built by `Coll.init` -/
example (records : List (String × Msg)) : NodupKeys (Coll.init exCfg records []).items :=
  nodupKeys_init exCfg records []

def exHistory : List (COp Msg Mask) :=
  [ .add "c" { a := 1, s := "", c := none } {}, .add "c" { a := 2, s := "", c := none } {},
    .update "c" { a := 5, s := "", c := none } { writeTime := some 40 }, .delete "c" {}, .delete "zz" { allowMissing := true } ]

/-- a subscriber with read mask {a}: two seeds (sorted, last flagged), then ADD, UPDATE, REMOVE — the
failing Add and the no-op Delete announce nothing -/
example : (collStream exCfg none { readMask := some [.a] } exInit exHistory).map
      (fun e => (e.id, e.time, e.kind, e.old.map (·.a), e.new.map (·.a), e.seed, e.lastSeed)) =
    [ ("a", 0, .add, none, some 2, true, false), ("b", 0, .add, none, some 1, true, true),
      ("c", 2, .add, none, some 1, false, false), ("c", 40, .update, some 1, some 5, false, false),
      ("c", 3, .remove, some 5, none, false, false) ] := by rfl

end ScVerif.C04
