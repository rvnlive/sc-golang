import ScVerif.C04.ConfigModel
/-! `computeConfig`'s fold in closed form: the last equivalence option of the list decides (`foldl_apply_eq`). -/
namespace ScVerif.C04

variable {M : Type}

def eqvOpts : List (ResOpt M) → List (Eqv M)
  | [] => []
  | .equivalence e :: rest => e :: eqvOpts rest
  | .other :: rest => eqvOpts rest

theorem foldl_apply_eq (cur : Eqv M) (opts : List (ResOpt M)) :
    opts.foldl ResOpt.apply cur = ((eqvOpts opts).getLast?).getD cur := by
  induction opts generalizing cur with
  | nil => rfl
  | cons o rest ih =>
    cases o with
    | other => simpa [eqvOpts, ResOpt.apply] using ih cur
    | equivalence e =>
      simp only [List.foldl_cons, ResOpt.apply, eqvOpts, ih]
      cases h : eqvOpts rest with
      | nil => simp
      | cons x xs =>
        simp only [List.getLast?_cons_cons]
        cases hl : (x :: xs).getLast? with
        | none => simp at hl
        | some v => rfl

theorem eqvOpts_append (a b : List (ResOpt M)) : eqvOpts (a ++ b) = eqvOpts a ++ eqvOpts b := by
  induction a with
  | nil => rfl
  | cons o rest ih => cases o <;> simp [eqvOpts, ih]

theorem eqvOpts_other (post : List (ResOpt M)) (h : ∀ o ∈ post, o = ResOpt.other) : eqvOpts post = [] := by
  induction post with
  | nil => rfl
  | cons o rest ih =>
    have ho := h o (by simp)
    subst ho
    simpa [eqvOpts] using ih (fun o ho => h o (by simp [ho]))

end ScVerif.C04
