import ScVerif.C04.Waste
/-!
# C04 at trait level — `wastepb` `PullWasteRecords`: history + seed + updates

`seed = state at subscription; no change committed around the moment of subscribing is missed`, for the
stream the `PullWasteRecords` handler composes from the record history and a `Value.Pull`.
-/
namespace ScVerif.C04

variable {R : Type}

/-- `AddWasteRecord` calls that have returned leave the model quiet — the value of `lastWasteRecord` is the newest record of
`allWasteRecords` — with the added records appended in order; so the quiet-state hypothesis of the stream theorems holds
after `NewModel` and after every returned add. -/
theorem C04_waste_adds_reach_quiet (m : Waste R) (rs : List R) (h : m.Quiet ∨ rs ≠ []) :
    (rs.foldl Waste.add m).Quiet ∧ (rs.foldl Waste.add m).hist = m.hist ++ rs :=
  ⟨Waste.foldl_add_quiet rs m h, Waste.foldl_add_hist rs m⟩

/-- whenever no `AddWasteRecord` is between its two steps, a stream that is not updates-only sends the last 50 records
(fewer if there are fewer), oldest first, then every later record, each once, projected by the read mask -/
theorem C04_waste_stream_quiet_partial (proj : R → R) (m : Waste R) (hq : m.Quiet) (later : List R) :
    wasteStream proj false m later = (m.hist.drop (m.hist.length - 50) ++ later).map proj
    ∧ wasteStream proj true m later = later.map proj :=
  ⟨wasteStream_quiet proj m hq later, by simp [wasteStream]⟩

/-- KNOWN FINDING `C04/wastepb.PullWasteRecords/newest-record-missed-during-add`: `m` quiet with newest record `b`;
`AddWasteRecord c` has done its `Set` and not yet its append when the stream opens; afterwards the bus hands the listener
`c` (the publication of that `Set`, if still to come: `dup`) and the records `later`.  The handler leaves the last record
of the history to the seed, and the seed IS ALREADY `c`: `b` is sent only if another record projects to the same message,
while a stream opened once the add is complete does send it. -/
theorem C04_waste_midadd_record_missed_fails (proj : R → R) (h : List R) (b c : R) (v : R)
    (dup later : List R)
    (hb : proj b ∉ h.map proj) (hc : proj b ≠ proj c) (hd : proj b ∉ dup.map proj)
    (hl : proj b ∉ later.map proj) :
    let m : Waste R := ⟨h ++ [b], v⟩
    wasteStream proj false (m.set c) (dup ++ later)
        = (h.drop (h.length + 1 - 50)).map proj ++ proj c :: (dup ++ later).map proj
    ∧ proj b ∉ wasteStream proj false (m.set c) (dup ++ later)
    ∧ proj b ∈ wasteStream proj false (m.add c) later := by
  intro m
  have hs : wasteStream proj false (m.set c) (dup ++ later) = _ := wasteStream_midadd proj h b c (dup ++ later)
  refine ⟨hs, ?_, ?_⟩
  · rw [hs]
    simp only [List.mem_append, List.mem_cons, List.map_append, not_or]
    refine ⟨?_, hc, hd, hl⟩
    intro hm
    obtain ⟨x, hx, hxe⟩ := List.mem_map.mp hm
    exact hb (List.mem_map.mpr ⟨x, List.mem_of_mem_drop hx, hxe⟩)
  · rw [show wasteStream proj false (m.add c) later = _ from wasteStream_add proj h b v c later]
    apply List.mem_map_of_mem
    apply List.mem_append_left
    have hle : (h ++ [b, c]).length - 50 ≤ h.length := by
      simp only [List.length_append, List.length_cons, List.length_nil]; omega
    rw [List.drop_append_of_le_length hle]
    simp

/-- apart from that one record the mid-add stream is the stream of the completed add: the same records
before `b`, the same seed `c`, the same later records -/
theorem C04_waste_midadd_rest_partial (proj : R → R) (h : List R) (b c v : R) (later : List R)
    (hlen : h.length + 2 ≤ 50) :
    let m : Waste R := ⟨h ++ [b], v⟩
    wasteStream proj false (m.set c) later = h.map proj ++ proj c :: later.map proj
    ∧ wasteStream proj false (m.add c) later = h.map proj ++ proj b :: proj c :: later.map proj := by
  intro m
  constructor
  · refine (wasteStream_midadd proj h b c later).trans ?_
    rw [show h.length + 1 - 50 = 0 by omega, List.drop_zero]
  · have h0 : (h ++ [b, c]).length - 50 = 0 := by
      simp only [List.length_append, List.length_cons, List.length_nil]; omega
    rw [show wasteStream proj false (m.add c) later = _ from wasteStream_add proj h b v c later, h0]
    simp

/-- Every session of one writer (`Set` / append steps of `AddWasteRecord`s, from a quiet state), a stream opened at ANY
point of it: with no add in flight it is complete; with one (`c` set, not appended; committed records `h ++ [b, c]`) it is
the complete stream of the history `h ++ [c]` - as if `b` had never been added. -/
theorem C04_waste_session_streams (proj : R → R) (s0 : WSess R) (h0 : s0.pending = none) (hq : s0.m.Quiet)
    (ops : List (WOp R)) (later : List R) :
    let s := ops.foldl WSess.step s0
    (s.pending = none →
      wasteStream proj false s.m later = (s.committed.drop (s.committed.length - 50) ++ later).map proj)
    ∧ (∀ c, s.pending = some c → ∃ h b, s.committed = h ++ [b, c] ∧
      wasteStream proj false s.m later = ((h ++ [c]).drop ((h ++ [c]).length - 50) ++ later).map proj) := by
  intro s
  have hs : s.Shape := WSess.foldl_shape ops s0 (Or.inl ⟨h0, hq⟩)
  constructor
  · intro hp
    rcases hs with ⟨_, hq'⟩ | ⟨h, b, c, hp', _⟩
    · have := wasteStream_quiet proj s.m hq' later
      simpa [WSess.committed, hp] using this
    · rw [hp] at hp'; cases hp'
  · intro c hp
    rcases hs with ⟨hp', _⟩ | ⟨h, b, c', hp', hm⟩
    · rw [hp] at hp'; cases hp'
    · have hc : c' = c := by rw [hp] at hp'; injection hp' with e; exact e.symm
      subst hc
      refine ⟨h, b, by simp [WSess.committed, hp, hm], ?_⟩
      have hle : (h ++ [c']).length - 50 ≤ h.length := by
        simp only [List.length_append, List.length_singleton]; omega
      rw [hm, wasteStream_midadd, List.drop_append_of_le_length hle]
      simp

/-- non-vacuity: history a, b; `c` being added; the stream sends a, c, c, d - never b -/
example : wasteStream (id : String → String) false ((⟨["a", "b"], "b"⟩ : Waste String).set "c") (["c"] ++ ["d"])
    = ["a", "c", "c", "d"] := by decide +kernel

example : wasteStream (id : String → String) false ((⟨["a", "b"], "b"⟩ : Waste String).add "c") ["d"]
    = ["a", "b", "c", "d"] := by decide +kernel

example : (⟨["a", "b"], "b"⟩ : Waste String).Quiet := rfl

/-- a session: add c completely, then the `Set` of d: committed a, b, c, d - the stream is that of a, b, d -/
example : ([WOp.set "c", .append, .set "d"].foldl WSess.step (⟨⟨["a", "b"], "b"⟩, none⟩ : WSess String)).committed
      = ["a", "b"] ++ ["c", "d"]
    ∧ wasteStream id false ([WOp.set "c", .append, .set "d"].foldl WSess.step (⟨⟨["a", "b"], "b"⟩, none⟩ : WSess String)).m ["e"]
      = ["a", "b", "d", "e"] := by decide +kernel

/-- the window: 120 records -> 49 historical ones + the seed -/
example : (wasteWindow (List.replicate 120 ())).length = 49 ∧ wasteWindow [()] = [] ∧ wasteWindow ([] : List Unit) = [] := by
  decide +kernel

end ScVerif.C04
