/-!
# C04 at trait level — `wastepb.Model`: a record history next to a `resource.Value`

`pkg/trait/wastepb/model.go` keeps the waste records twice: `allWasteRecords` (the history, under `m.mu`)
and `lastWasteRecord` (a `resource.Value` holding the newest record).  `AddWasteRecord` is TWO steps that
no common lock covers: `lastWasteRecord.Set(wr)` (commit + publication on the value's bus), then the
append to the history.  `pullWasteRecordsWrapper` (the handler of `PullWasteRecords`) sends, unless
updates-only, the records `len-50 … len-2` of the history (projected by the read mask) - the last one is
left out because the seed of the `Value.Pull` opened next is expected to be that record - and then the
`Value.Pull` stream: the seed (the stored value) and every later `Set`.

`R` is the record type, `proj` the read-mask projection (`FilterClone`).
-/
namespace ScVerif.C04

variable {R : Type}

structure Waste (R : Type) where
  /-- `allWasteRecords` -/
  hist : List R
  /-- the value of `lastWasteRecord` -/
  val : R

/-- first half of `AddWasteRecord`: `lastWasteRecord.Set(wr)` -/
def Waste.set (m : Waste R) (r : R) : Waste R := { m with val := r }
/-- second half: `allWasteRecords = append(allWasteRecords, wr)` -/
def Waste.append (m : Waste R) (r : R) : Waste R := { m with hist := m.hist ++ [r] }
/-- a complete `AddWasteRecord` -/
def Waste.add (m : Waste R) (r : R) : Waste R := (m.set r).append r

/-- the historical records the handler sends: `i := len-50; if i < 0 { i = 0 }; for ; i < len-1; i++` -/
def wasteWindow (h : List R) : List R := (h.drop (h.length - 50)).dropLast

/-- what a `PullWasteRecords` stream opened in state `m` sends when the value's bus hands its listener the
records `later` afterwards (one writer, nothing dropped) -/
def wasteStream (proj : R → R) (uo : Bool) (m : Waste R) (later : List R) : List R :=
  (if uo then [] else (wasteWindow m.hist).map proj ++ [proj m.val]) ++ later.map proj

/-- no `AddWasteRecord` is between its two steps: the value holds the newest record of the history -/
def Waste.Quiet (m : Waste R) : Prop := m.hist.getLast? = some m.val

inductive WOp (R : Type) where
  /-- `lastWasteRecord.Set(r)` of a new `AddWasteRecord(r)` -/
  | set (r : R)
  /-- the append of the `AddWasteRecord` whose `Set` is done -/
  | append

structure WSess (R : Type) where
  m : Waste R
  /-- the record whose `Set` is done and whose append is not -/
  pending : Option R

/-- one writer: a new `AddWasteRecord` starts only when the previous one has returned -/
def WSess.step (s : WSess R) : WOp R → WSess R
  | .set r => match s.pending with
    | none => ⟨s.m.set r, some r⟩
    | some _ => s
  | .append => match s.pending with
    | some r => ⟨s.m.append r, none⟩
    | none => s

/-- the records whose `AddWasteRecord` has at least committed its `Set` (what `Get`, a new seed and - once
the add returns - `ListWasteRecords` show) -/
def WSess.committed (s : WSess R) : List R := s.m.hist ++ s.pending.toList

end ScVerif.C04
