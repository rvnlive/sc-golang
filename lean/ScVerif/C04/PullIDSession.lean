import ScVerif.C04.GSession
import ScVerif.C04.Lemmas
/-!
# C04 — sessions of `Collection.Pull` AND `Collection.PullID` subscribers on one bus

`PullID(id)` registers ONE listener (its inner `Pull`, same options) and forwards, from what that
`Pull` delivers, the changes of the intercepted id as `ValueChange`s until the first change that removes
the item; from then on nothing (the channel is closed; the inner `Pull` is cancelled, which is a cancel
step of the session — whenever it lands, an ended `PullID` forwards nothing more).
-/
namespace ScVerif.C04
open ScVerif.C01
variable {M K R : Type}

/-- what a subscription of a collection opens with -/
inductive COpen (K : Type)
  | pull (o : SubOpts K)
  | pullID (o : SubOpts K) (rawId : String)

/-- an open subscription of a collection: everything sent on its channel so far -/
inductive CSubSt (M K : Type)
  | pull (o : SubOpts K) (got : List (CEvent M))
  /-- `id` is the intercepted id; `ended`: the channel has been closed -/
  | pullID (o : SubOpts K) (id : String) (got : List (VDeliv M)) (ended : Bool)

def collFeed (cfg : Cfg M K R) (eqv : Eqv M) :
    Feed (CState M R) (COp M K) (CEvent M) (COpen K) (CSubSt M K) where
  step s op := (eventsOf (Coll.step cfg s op).1, (Coll.step cfg s op).2)
  «open» s
    | .pull o => .pull o (collSeed cfg s o)
    | .pullID o id =>
      .pullID o (icptId cfg id) (pullIDLoop (icptId cfg id) (collSeed cfg s o)).1
        (pullIDLoop (icptId cfg id) (collSeed cfg s o)).2
  fwd evs
    | .pull o got => .pull o (got ++ evs.filterMap (collForward cfg eqv o))
    | .pullID o id got ended =>
      if ended then .pullID o id got ended
      else .pullID o id (got ++ (pullIDLoop id (evs.filterMap (collForward cfg eqv o))).1)
        (pullIDLoop id (evs.filterMap (collForward cfg eqv o))).2
  fwd_nil := by
    intro st
    cases st with
    | pull o got => simp
    | pullID o id got ended => cases ended <;> simp [pullIDLoop]

theorem pullIDLoop_append (id : String) (a b : List (CEvent M)) :
    pullIDLoop id (a ++ b) =
      if (pullIDLoop id a).2 then pullIDLoop id a
      else ((pullIDLoop id a).1 ++ (pullIDLoop id b).1, (pullIDLoop id b).2) := by
  induction a with
  | nil => simp [pullIDLoop]
  | cons e es ih =>
    rw [List.cons_append]
    rcases pullIDLoop_cases id e with h | ⟨h, hend⟩ | ⟨h, hk, v, hn⟩
    · rw [pullIDLoop_skip _ h, pullIDLoop_skip _ h, ih]
    · rw [pullIDLoop_end _ h hend, pullIDLoop_end _ h hend]; rfl
    · rw [pullIDLoop_fwd _ h hk hn, pullIDLoop_fwd _ h hk hn, ih]
      cases h2 : (pullIDLoop id es).2 <;> simp [h2]

theorem collFeed_run (cfg : Cfg M K R) (eqv : Eqv M) (ops : List (COp M K)) :
    ∀ s : CState M R, (gRun (collFeed cfg eqv) s ops).1.flatten = busEvents cfg s ops ∧
      (gRun (collFeed cfg eqv) s ops).2 = (Coll.run cfg s ops).2 := by
  induction ops with
  | nil => intro s; simp [gRun, busEvents, Coll.run]
  | cons op ops ih =>
    intro s
    have := ih (Coll.step cfg s op).2
    simp only [busEvents] at this
    simp only [gRun, collFeed, List.flatten_cons, busEvents, Coll.run, List.flatMap_cons]
    exact ⟨by rw [← this.1]; rfl, this.2⟩

theorem collFeed_fwd_pullID (cfg : Cfg M K R) (eqv : Eqv M) (o : SubOpts K) (id : String)
    (seed evs : List (CEvent M)) :
    (collFeed cfg eqv).fwd evs (.pullID o id (pullIDLoop id seed).1 (pullIDLoop id seed).2) =
      .pullID o id (pullIDLoop id (seed ++ evs.filterMap (collForward cfg eqv o))).1
        (pullIDLoop id (seed ++ evs.filterMap (collForward cfg eqv o))).2 := by
  rw [pullIDLoop_append]
  cases h : (pullIDLoop id seed).2 <;> simp [collFeed, h]

theorem collFeed_batch (cfg : Cfg M K R) (eqv : Eqv M) : (collFeed cfg eqv).Batch := by
  intro a b st
  cases st with
  | pull o got => simp only [collFeed, List.filterMap_append, List.append_assoc]
  | pullID o id got ended =>
    cases ended with
    | true => rfl
    | false =>
      simp only [collFeed, List.filterMap_append, pullIDLoop_append, Bool.false_eq_true, if_false]
      cases h : (pullIDLoop id (a.filterMap (collForward cfg eqv o))).2 <;> simp [h]

theorem collFeed_stream (cfg : Cfg M K R) (eqv : Eqv M) (s : CState M R) (ops : List (COp M K)) :
    (∀ o, gStream (collFeed cfg eqv) (.pull o) s ops = .pull o (collStream cfg eqv o s ops)) ∧
    (∀ o id, gStream (collFeed cfg eqv) (.pullID o id) s ops =
      .pullID o (icptId cfg id) (pullIDStream cfg eqv o s id ops).1 (pullIDStream cfg eqv o s id ops).2) := by
  simp only [(collFeed_batch cfg eqv).stream, (collFeed_run cfg eqv ops s).1]
  exact ⟨fun o => rfl, fun o id => collFeed_fwd_pullID cfg eqv o _ _ _⟩

end ScVerif.C04
