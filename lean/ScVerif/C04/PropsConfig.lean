import ScVerif.C04.Config
import ScVerif.C04.Props
/-!
# C04 — which equivalence a resource ends up with (option LISTS)

"equivalent consecutive values are suppressed ONLY when an equivalence is configured": the
configuration is what `computeConfig` makes of the whole option list, in order.
-/
namespace ScVerif.C04
open ScVerif.C01

variable {M K R : Type}

/-- The last equivalence option of the list decides - a nil comparer (`e = none`) included: `WithEquivalence(nil)`
clears an earlier one. -/
theorem C04_equivalence_last_option_decides (pre post : List (ResOpt M)) (e : Eqv M)
    (hpost : ∀ o ∈ post, o = ResOpt.other) :
    resolveEqv (pre ++ ResOpt.equivalence e :: post) = e := by
  unfold resolveEqv
  rw [foldl_apply_eq, eqvOpts_append]
  simp [eqvOpts, eqvOpts_other post hpost]

/-- `NewValue` / `NewCollection` without `WithEquivalence`, `WithMessageEquivalence` or `WithNoDuplicates` among their
options: no equivalence, nothing is suppressed. -/
theorem C04_no_equivalence_option_none (opts : List (ResOpt M)) (h : ∀ o ∈ opts, o = ResOpt.other) :
    resolveEqv (M := M) opts = none := by
  unfold resolveEqv
  rw [foldl_apply_eq, eqvOpts_other opts h]
  rfl

/-- An equivalence that was configured and then cleared suppresses nothing, for ANY earlier options. -/
theorem C04_cleared_equivalence_delivers_every_event (cfg : Cfg M K R) (pre post : List (ResOpt M))
    (hpost : ∀ o ∈ post, o = ResOpt.other) (o : SubOpts K) :
    (∀ e : CEvent M, collForward cfg (resolveEqv (pre ++ ResOpt.equivalence none :: post)) o e =
      some { e with old := filterOpt cfg.ops o.readMask e.old, new := filterOpt cfg.ops o.readMask e.new }) ∧
    (∀ (last : Option M) (evs : List (VEvent M)),
      forwardAll cfg (resolveEqv (pre ++ ResOpt.equivalence none :: post)) o last evs =
      evs.map (fun e => { value := cfg.ops.filter o.readMask e.value, time := e.time, seed := false, lastSeed := false })) := by
  rw [C04_equivalence_last_option_decides pre post none hpost]
  exact ⟨fun e => rfl, fun last evs => (C04_value_suppression cfg o evs).2 last⟩

/-- non-vacuity: a comparer that relates everything, then cleared, then another option -/
example : resolveEqv [ResOpt.other, .equivalence (some (fun (_ _ : Option Nat) => true)), .equivalence none, .other] = none := by
  exact C04_equivalence_last_option_decides [ResOpt.other, .equivalence (some (fun (_ _ : Option Nat) => true))] [.other] none
    (by simp)

/-- ... and the other way round the later comparer is in force -/
example : (resolveEqv [ResOpt.equivalence none, .equivalence (some (fun (_ _ : Option Nat) => true))]).isSome = true := rfl

end ScVerif.C04
