import ScVerif.C04.StallSession
/-!
# C04 — a write announced under a deadline while a subscriber does not take events

`Value.set` stores, then announces through `Bus.Send` with a 5 s deadline, and answers with an error
when the deadline passed.  Model: `StallModel.lean` (`sendDlLoop`, `sendDl`); `try_ st = none` = this
subscription's forwarder does not take the event before the deadline; the sessions with consumers that stop and resume
receiving are `StallSession.lean`'s (`HSess`, `hRun`, `Reached`).

Finding (recorded, `C04/Value.Pull/event-for-deadline-failed-write`): the write the writer is told has
failed HAS been announced to the subscribers registered before the stalled one.
-/
namespace ScVerif.C04

variable {ι σ : Type}

/-- What a `Send` that may time out does. The listeners split at the first stalled one: those registered before it
are served as by an undisturbed `Send`, the stalled one and EVERY listener after it are untouched and still registered;
the `Send` succeeds iff nobody is stalled.  So a subscriber registered after a stalled one receives nothing for the write
the writer is told has failed, and a successful `Send` has served every live listener once. -/
theorem C04_deadline_send_split (try_ : σ → Option σ) (ls : List (Lsn ι σ)) :
    ∃ pre rest, ls = pre ++ rest ∧ (sendDlLoop try_ ls).1 = pre.map (serve try_) ++ rest ∧
      (∀ l ∈ pre, stalledAt try_ l = false) ∧
      ((sendDlLoop try_ ls).2 = true ↔ rest = []) ∧
      (∀ l rest', rest = l :: rest' → stalledAt try_ l = true) :=
  sendDlLoop_split try_ ls

/-- No stalled listener ⇒ the deadline never matters: if every live listener takes the event (`try_` agrees with the
delivery function `d`), the `Send` under a deadline succeeds and leaves the live listeners of the plain `Send` of
`BusModel.lean` — so `Value.set` fails only on the paths that announce nothing. -/
theorem C04_deadline_send_partial [DecidableEq ι] (try_ : σ → Option σ) (d : σ → σ) (ls : List (Lsn ι σ))
    (hn : (ls.map (·.id)).Nodup)
    (h : ∀ l ∈ ls, l.alive = true → try_ l.st = some (d l.st)) :
    (sendDl try_ ls).2 = true ∧ view (sendDl try_ ls).1 = view (send d ls []) := by
  have hall : ∀ l ∈ ls, stalledAt try_ l = false :=
    fun l hl => (stalledAt_eq_false_iff try_ l).mpr fun ha => by rw [h l hl ha]; rfl
  have hloop := sendDlLoop_all try_ ls hall
  have hsend := view_send_nil d ls hn
  have hv := view_map_serve try_ d ls h
  rcases sendDl_eq try_ ls with he | ⟨_, he⟩ <;> rw [he, hloop]
  · exact ⟨rfl, by rw [hv, hsend]⟩
  · exact ⟨rfl, by rw [view_collect, hv, hsend]⟩

/-- the hypothesis of `C04_deadline_send_partial` is satisfiable with live and cancelled listeners -/
example : ∃ (ls : List (Lsn Nat Nat)), (ls.map (·.id)).Nodup ∧ ls.length = 3 ∧
    (∀ l ∈ ls, l.alive = true → (fun s => some (s + 1)) l.st = some ((· + 1) l.st)) ∧
    view (sendDl (fun s => some (s + 1)) ls).1 = [(0, 1), (2, 8)] :=
  ⟨[{ id := 0, st := 0 }, { id := 1, alive := false, st := 5 }, { id := 2, st := 7 }], by decide +kernel, rfl,
   by intro l _ _; rfl, by decide +kernel⟩

/-- Three live subscribers, the second one stalled: the `Send` fails (so `Value.set`
answers "blocked for too long"), yet the first subscriber HAS been handed the event of that write; the
third has not. -/
theorem C04_deadline_failed_write_announced_fails :
    ∃ (try_ : Nat → Option Nat) (ls : List (Lsn Nat Nat)),
      (sendDl try_ ls).2 = false ∧
      (sendDl try_ ls).1.map (·.st) ≠ ls.map (·.st) ∧
      (sendDl try_ ls).1.map (·.st) = [1, 100, 0] :=
  ⟨fun s => if s = 100 then none else some (s + 1),
   [{ id := 0, st := 0 }, { id := 1, st := 100 }, { id := 2, st := 0 }], by decide +kernel, by decide +kernel, by decide +kernel⟩

/-- a failed `Send` never collects and never unregisters anybody: the listener identities are as before -/
theorem C04_deadline_send_keeps_listeners (try_ : σ → Option σ) (ls : List (Lsn ι σ))
    (hf : (sendDl try_ ls).2 = false) :
    (sendDl try_ ls).1.map (·.id) = ls.map (·.id) ∧
    (sendDl try_ ls).1.map (·.alive) = ls.map (·.alive) := by
  obtain ⟨pre, rest, h1, h2, _, _, _⟩ := sendDlLoop_split try_ ls
  rcases sendDl_eq try_ ls with he | ⟨_, he⟩ <;> rw [he] at hf ⊢
  · -- no `collect`: the listeners the loop reached were served, and serving keeps identity and liveness
    rw [h2, h1]
    simp only [List.map_append, List.map_map]
    exact ⟨congrArg (· ++ _) (List.map_congr_left fun l _ => (serve_id_alive try_ l).1),
      congrArg (· ++ _) (List.map_congr_left fun l _ => (serve_id_alive try_ l).2)⟩
  · cases hf

open ScVerif.C01 in
/-- Every subscriber's stream under stalled consumers (any sequence of `Set` / hold / resume over any set of
`Value.Pull` subscriptions).  For every live subscription: what its consumer has received, followed by what its forwarder
still holds, is its seed followed by the forwarding of the bus events `seen` it was handed; `seen` is made of the events
of logged `Set`s in write order, each at most once, including EVERY `Set` the writer was told succeeded (`Reached`) — only
events of `Set`s reported as failed can be missing; a consumer that is receiving has nothing waiting. -/
theorem C04_stalled_session_streams {M K R : Type} (cfg : Cfg M K R) (eqv : Eqv M) (x : HSess M K)
    (ops : List (HOp M K)) (hlog : x.log = [])
    (hstart : ∀ l ∈ x.ls, l.st.seen = [] ∧ l.st.hand = [] ∧ l.st.got = l.st.seed ∧ l.st.last = l.st.last0) :
    ∀ l ∈ (hRun cfg eqv x ops).ls, l.alive = true →
      l.st.got ++ l.st.hand = l.st.seed ++ forwardAll cfg eqv l.st.opts l.st.last0 l.st.seen ∧
      Reached (hRun cfg eqv x ops).log l.st.seen ∧
      (l.st.held = false → l.st.hand = []) := by
  have h0 : AllGood cfg eqv x := by
    intro l hl _
    obtain ⟨h1, h2, h3, h4⟩ := hstart l hl
    refine ⟨by simp [h1, h2, h3, forwardAll], by simp [h1, h4, forwardLast], by rw [h1, hlog]; exact Reached.nil,
      fun _ => h2⟩
  intro l hl ha
  have g := hRun_good cfg eqv ops x h0 l hl ha
  exact ⟨g.stream, g.reached, g.free⟩

open ScVerif.C01 in
/-- …and when no `Set` was reported as failed by the deadline: every live subscription's stream is its seed followed by
the forwarding of ALL announced events in write order — one event per successful write; with the consumer receiving, all
of it has been received. -/
theorem C04_stalled_session_partial {M K R : Type} (cfg : Cfg M K R) (eqv : Eqv M) (x : HSess M K)
    (ops : List (HOp M K)) (hlog : x.log = [])
    (hstart : ∀ l ∈ x.ls, l.st.seen = [] ∧ l.st.hand = [] ∧ l.st.got = l.st.seed ∧ l.st.last = l.st.last0)
    (hok : ∀ e ∈ (hRun cfg eqv x ops).log, e.2 = true) :
    ∀ l ∈ (hRun cfg eqv x ops).ls, l.alive = true →
      l.st.got ++ l.st.hand = l.st.seed ++
        forwardAll cfg eqv l.st.opts l.st.last0 (((hRun cfg eqv x ops).log.reverse.map (·.1)).flatten) ∧
      (l.st.held = false → l.st.got = l.st.seed ++
        forwardAll cfg eqv l.st.opts l.st.last0 (((hRun cfg eqv x ops).log.reverse.map (·.1)).flatten)) := by
  intro l hl ha
  obtain ⟨h1, h2, h3⟩ := C04_stalled_session_streams cfg eqv x ops hlog hstart l hl ha
  have hs := reached_all_ok h2 hok
  rw [hs] at h1
  refine ⟨h1, fun hf => ?_⟩
  rw [h3 hf, List.append_nil] at h1
  exact h1

/-- `Reached` allows both outcomes for a write reported as failed (the finding), and only one for a
successful write -/
example : Reached [([2], false), ([1], true)] [1] ∧ Reached [([2], false), ([1], true)] ([1] ++ [2]) :=
  ⟨Reached.miss _ _ _ (Reached.hit [1] true [] [] Reached.nil),
   Reached.hit [2] false _ _ (Reached.hit [1] true [] [] Reached.nil)⟩

end ScVerif.C04
