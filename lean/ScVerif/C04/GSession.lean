import ScVerif.C04.BusOnce
/-!
# C04 — sessions over ANY resource that publishes on a bus

`Collection.Pull`, `Value.Pull` and `Collection.PullID` subscribers sit on one kind of bus
(`minibus.Bus`) with the same life cycle: the subscription takes what it
needs from the state and registers a listener (one atomic step with respect to commits), a
successful write commits and `Send`s its events to a snapshot of the listeners, a cancelled listener
stays registered until some `Send` collects it.  This file states that life cycle once, for a `Feed`:

* `step`  — one call of the writer: the bus events it announces and the next state;
* `open`  — a subscription up to its registration: the subscriber's state with its seed queued;
* `fwd`   — the subscription's forwarding loop handed the events of one `Send`.

and proves, for every session (calls, subscriptions opening and being cancelled between the calls and at
any point of any `Send`), that each live subscriber's state is `open` at the state of its registration
folded with `fwd` over the events of every later call — nothing missed, nothing twice — and that a cancelled
subscriber still registered holds a prefix of that: the events of the calls up to some call.  The instances
are in `ValueSession.lean` (`Value.Pull`) and `PullIDSession.lean` (`Pull` and `PullID` on one bus).
-/
namespace ScVerif.C04

/-- a resource seen from its bus: what a call of the writer announces, what a subscription starts with, what its
forwarding loop makes of the events of one `Send` -/
structure Feed (S Op E O σ : Type) where
  step : S → Op → List E × S
  «open» : S → O → σ
  fwd : List E → σ → σ
  /-- a forwarding loop handed nothing forwards nothing -/
  fwd_nil : ∀ st, fwd [] st = st

variable {S Op E O σ : Type}

/-- an open subscription: its state; ghost: the options it opened with and how many of the session's
calls had been made when it registered -/
structure GSub (O σ : Type) where
  st : σ
  o : O
  regAt : Nat

inductive GAct (O : Type)
  | visit
  | listen (id : Nat) (o : O)
  | cancel (id : Nat)

inductive GItem (Op O : Type)
  /-- between two calls -/
  | idle (a : GAct O)
  /-- one call of the writer, and what happens while its `Send` (if any) delivers -/
  | call (op : Op) (sched : List (GAct O))

structure GSess (S O σ : Type) where
  s : S
  ls : List (Lsn Nat (GSub O σ))
  nw : Nat

def gToAct (F : Feed S Op E O σ) (s : S) (nw : Nat) : GAct O → Act Nat (GSub O σ)
  | .visit => .visit
  | .listen i o => .listen i { st := F.open s o, o := o, regAt := nw }
  | .cancel i => .cancel i

def gDeliver (F : Feed S Op E O σ) (evs : List E) (p : GSub O σ) : GSub O σ :=
  { p with st := F.fwd evs p.st }

/-- a subscription that opens while a call's `Send` delivers is seeded from the state AFTER the call (the write's commit
precedes its `Send`) and counts as registered after it (`regAt = nw + 1`); a call that announces nothing does not touch
the bus beyond the churn -/
def gRunItem (F : Feed S Op E O σ) (x : GSess S O σ) : GItem Op O → GSess S O σ
  | .idle a => { x with ls := idle x.ls (gToAct F x.s x.nw a) }
  | .call op sched =>
    let r := F.step x.s op
    let acts := sched.map (gToAct F r.2 (x.nw + 1))
    match r.1 with
    | [] => { s := r.2, ls := acts.foldl idle x.ls, nw := x.nw + 1 }
    | e :: es => { s := r.2, ls := send (gDeliver F (e :: es)) x.ls acts, nw := x.nw + 1 }

def gRunSession (F : Feed S Op E O σ) (x : GSess S O σ) (items : List (GItem Op O)) : GSess S O σ :=
  items.foldl (gRunItem F) x

/-- the calls of a sequence: the events each announces, and the final state -/
def gRun (F : Feed S Op E O σ) : S → List Op → List (List E) × S
  | s, [] => ([], s)
  | s, op :: ops => ((F.step s op).1 :: (gRun F (F.step s op).2 ops).1, (gRun F (F.step s op).2 ops).2)

/-- THE SPEC: what a subscriber that opens with `o` in state `s` and then watches `ops` holds -/
def gStream (F : Feed S Op E O σ) (o : O) (s : S) (ops : List Op) : σ :=
  (gRun F s ops).1.foldl (fun st evs => F.fwd evs st) (F.open s o)

def gCallsOf : List (GItem Op O) → List Op
  | [] => []
  | .idle _ :: rest => gCallsOf rest
  | .call op _ :: rest => op :: gCallsOf rest

/-- `schedIds` of `Bus.lean` for the schedules of sessions; `sactIds` of `Session.lean` is its twin -/
def gActIds : List (GAct O) → List Nat
  | [] => []
  | .listen i _ :: rest => i :: gActIds rest
  | _ :: rest => gActIds rest

def gListenIds : List (GItem Op O) → List Nat
  | [] => []
  | .idle a :: rest => gActIds [a] ++ gListenIds rest
  | .call _ sched :: rest => gActIds sched ++ gListenIds rest

/-- who is subscribed, by eager bookkeeping: a `Listen` adds its identity, a cancel removes it at once (`eagerAct` on
identities, `idsStep`); `eagerIds` of `Session.lean` is its twin -/
def gEagerIds (ids : List Nat) : List (GAct O) → List Nat
  | [] => ids
  | .visit :: rest => gEagerIds ids rest
  | .listen i _ :: rest => gEagerIds (ids ++ [i]) rest
  | .cancel i :: rest => gEagerIds (ids.filter (· ≠ i)) rest

def gActsOf : List (GItem Op O) → List (GAct O)
  | [] => []
  | .idle a :: rest => a :: gActsOf rest
  | .call _ sched :: rest => sched ++ gActsOf rest

theorem gRun_append (F : Feed S Op E O σ) (a b : List Op) :
    ∀ s : S, gRun F s (a ++ b) =
      ((gRun F s a).1 ++ (gRun F (gRun F s a).2 b).1, (gRun F (gRun F s a).2 b).2) := by
  induction a with
  | nil => intro s; simp [gRun]
  | cons op ops ih => intro s; simp only [List.cons_append, gRun, ih]

theorem gStream_nil (F : Feed S Op E O σ) (o : O) (s : S) : gStream F o s [] = F.open s o := rfl

theorem gStream_append (F : Feed S Op E O σ) (o : O) (s : S) (a b : List Op) :
    gStream F o s (a ++ b) =
      (gRun F (gRun F s a).2 b).1.foldl (fun st evs => F.fwd evs st) (gStream F o s a) := by
  simp only [gStream, gRun_append, List.foldl_append]

theorem gRun_take_drop (F : Feed S Op E O σ) (s : S) (ws : List Op) (n : Nat) :
    (gRun F (gRun F s (ws.take n)).2 (ws.drop n)).2 = (gRun F s ws).2 := by
  have := gRun_append F (ws.take n) (ws.drop n) s
  rw [List.take_append_drop] at this
  rw [this]

/-- handing a forwarder two batches of events one after the other is handing it their concatenation: all three
forwarders of pkg/resource are of this kind, and for them the stream has a closed form -/
def Feed.Batch (F : Feed S Op E O σ) : Prop := ∀ a b st, F.fwd (a ++ b) st = F.fwd b (F.fwd a st)

theorem Feed.Batch.foldl {F : Feed S Op E O σ} (h : F.Batch) (evss : List (List E)) :
    ∀ st, evss.foldl (fun st evs => F.fwd evs st) st = F.fwd evss.flatten st := by
  induction evss with
  | nil => intro st; exact (F.fwd_nil st).symm
  | cons evs rest ih => intro st; rw [List.foldl_cons, ih, List.flatten_cons, h]

/-- a batch already handed over joins the later ones -/
theorem Feed.Batch.foldl_fwd {F : Feed S Op E O σ} (h : F.Batch) (evs : List E) (evss : List (List E)) (st : σ) :
    evss.foldl (fun st evs => F.fwd evs st) (F.fwd evs st) = F.fwd (evs ++ evss.flatten) st := by
  rw [h.foldl, h]

theorem Feed.Batch.stream {F : Feed S Op E O σ} (h : F.Batch) (o : O) (s : S) (ops : List Op) :
    gStream F o s ops = F.fwd (gRun F s ops).1.flatten (F.open s o) :=
  h.foldl _ _

/-- what a live subscriber holds after the calls `ws`: `open` at the state of its registration folded with `fwd`
over the events of the later calls -/
def GStreamOK (F : Feed S Op E O σ) (s0 : S) (ws : List Op) (p : GSub O σ) : Prop :=
  p.regAt ≤ ws.length ∧
  p.st = gStream F p.o (gRun F s0 (ws.take p.regAt)).2 (ws.drop p.regAt)

/-- the invariant of a session: state and call count follow `ws`, every live subscriber's state is exact -/
structure GGood (F : Feed S Op E O σ) (s0 : S) (x : GSess S O σ) (ws : List Op) : Prop where
  state : x.s = (gRun F s0 ws).2
  count : x.nw = ws.length
  streams : ∀ p ∈ view x.ls, GStreamOK F s0 ws p.2

/-- what a registered listener (live or cancelled) holds: its stream up to some call `k` -/
def GPrefix (F : Feed S Op E O σ) (s0 : S) (ws : List Op) (p : GSub O σ) : Prop :=
  ∃ k, p.regAt ≤ k ∧ k ≤ ws.length ∧
    p.st = gStream F p.o (gRun F s0 (ws.take p.regAt)).2 ((ws.take k).drop p.regAt)

def AllPrefix (F : Feed S Op E O σ) (s0 : S) (x : GSess S O σ) (ws : List Op) : Prop :=
  ∀ l ∈ x.ls, GPrefix F s0 ws l.st

theorem gPrefix_of_ok (F : Feed S Op E O σ) (s0 : S) (ws : List Op) (p : GSub O σ)
    (h : GStreamOK F s0 ws p) : GPrefix F s0 ws p :=
  ⟨ws.length, h.1, Nat.le_refl _, by rw [List.take_length]; exact h.2⟩

/-- handing a subscription the events of several calls, one `Send` after the other -/
def gDeliverAll (F : Feed S Op E O σ) (evss : List (List E)) (p : GSub O σ) : GSub O σ :=
  { p with st := evss.foldl (fun st evs => F.fwd evs st) p.st }

theorem gStreamOK_append (F : Feed S Op E O σ) (s0 : S) (ws ops : List Op) (p : GSub O σ)
    (h : GStreamOK F s0 ws p) :
    GStreamOK F s0 (ws ++ ops) (gDeliverAll F (gRun F (gRun F s0 ws).2 ops).1 p) := by
  obtain ⟨h1, h2⟩ := h
  refine ⟨by rw [List.length_append]; exact Nat.le_add_right_of_le h1, ?_⟩
  simp only [gDeliverAll]
  rw [List.take_append_of_le_length h1, List.drop_append_of_le_length h1, gStream_append, h2, gRun_take_drop]

theorem gPrefix_append (F : Feed S Op E O σ) (s0 : S) (ws ops : List Op) (p : GSub O σ)
    (h : GPrefix F s0 ws p) : GPrefix F s0 (ws ++ ops) p := by
  obtain ⟨k, h1, h2, h3⟩ := h
  refine ⟨k, h1, by rw [List.length_append]; exact Nat.le_add_right_of_le h2, ?_⟩
  rw [List.take_append_of_le_length (Nat.le_trans h1 h2), List.take_append_of_le_length h2]
  exact h3

theorem gActIds_eq (F : Feed S Op E O σ) (s : S) (nw : Nat) (sched : List (GAct O)) :
    schedIds (sched.map (gToAct F s nw)) = gActIds sched := by
  induction sched with
  | nil => rfl
  | cons a rest ih => cases a <;> simp [gToAct, schedIds, gActIds, ih]

theorem gListenIds_single (item : GItem Op O) : gListenIds [item] = gActIds (gActsOf [item]) := by
  cases item <;> simp [gListenIds, gActsOf]

theorem gStreamOK_listen (F : Feed S Op E O σ) (s0 : S) (ws : List Op) (sched : List (GAct O)) (i : Nat)
    (p : GSub O σ) (h : (Act.listen i p : Act Nat (GSub O σ)) ∈ sched.map (gToAct F (gRun F s0 ws).2 ws.length)) :
    GStreamOK F s0 ws p := by
  obtain ⟨a, _, ha⟩ := List.mem_map.mp h
  cases a with
  | visit => cases ha
  | cancel j => cases ha
  | listen j o =>
    cases ha
    exact ⟨Nat.le_refl _, by simp [gStream_nil]⟩

theorem g_fold_ids_toAct (F : Feed S Op E O σ) (s : S) (nw : Nat) (sched : List (GAct O)) :
    ∀ ids : List Nat, (sched.map (gToAct F s nw)).foldl idsStep ids = gEagerIds ids sched := by
  induction sched with
  | nil => intro ids; rfl
  | cons a rest ih =>
    intro ids
    cases a <;> simp only [List.map_cons, List.foldl_cons, gToAct, gEagerIds, idsStep, ih]

/-- what one item does: the writer makes the item's calls; on the bus, churn (the item's `Listen`s and cancels,
the subscriptions opening in the state those calls leave) while the events of those calls are handed out -/
theorem gRunItem_spec (F : Feed S Op E O σ) (x : GSess S O σ) (item : GItem Op O)
    (hn : (x.ls.map (·.id) ++ gListenIds [item]).Nodup) :
    (gRunItem F x item).s = (gRun F x.s (gCallsOf [item])).2 ∧
    (gRunItem F x item).nw = x.nw + (gCallsOf [item]).length ∧
    Churn (gDeliverAll F (gRun F x.s (gCallsOf [item])).1)
      ((gActsOf [item]).map (gToAct F (gRun F x.s (gCallsOf [item])).2 (x.nw + (gCallsOf [item]).length)))
      x.ls (gRunItem F x item).ls := by
  cases item with
  | idle a => exact ⟨rfl, rfl, churn_idle _ (fun _ => rfl) x.ls _⟩
  | call op sched =>
    simp only [gCallsOf, gListenIds, gActsOf, List.append_nil, gRun] at hn ⊢
    simp only [gRunItem]
    split
    · -- nothing to announce: no `Send`
      rename_i hev
      rw [hev]
      exact ⟨rfl, rfl, churn_idle _ (fun p => by simp [gDeliverAll, F.fwd_nil]) x.ls _⟩
    · rename_i e es hev
      rw [hev]
      exact ⟨rfl, rfl, churn_send (gDeliver F (e :: es)) _ _ (by rwa [gActIds_eq])⟩

theorem gRunItem_good (F : Feed S Op E O σ) (s0 : S) (x : GSess S O σ) (ws : List Op)
    (item : GItem Op O) (hg : GGood F s0 x ws) (hp : AllPrefix F s0 x ws)
    (hn : (x.ls.map (·.id) ++ gListenIds [item]).Nodup) :
    GGood F s0 (gRunItem F x item) (ws ++ gCallsOf [item]) ∧
    AllPrefix F s0 (gRunItem F x item) (ws ++ gCallsOf [item]) ∧
    ((gRunItem F x item).ls.map (·.id)).Sublist (x.ls.map (·.id) ++ gListenIds [item]) ∧
    (view (gRunItem F x item).ls).map (·.1) = gEagerIds ((view x.ls).map (·.1)) (gActsOf [item]) := by
  obtain ⟨hs, hc, hb⟩ := gRunItem_spec F x item hn
  have hstate : (gRun F x.s (gCallsOf [item])).2 = (gRun F s0 (ws ++ gCallsOf [item])).2 := by
    rw [gRun_append, hg.state]
  have hcount : x.nw + (gCallsOf [item]).length = (ws ++ gCallsOf [item]).length := by
    rw [hg.count, List.length_append]
  rw [hstate, hcount, hg.state] at hb
  -- a subscription that opens during the item is seeded from the state the item's calls leave
  have hnew := gStreamOK_listen F s0 (ws ++ gCallsOf [item]) (gActsOf [item])
  refine ⟨⟨hs.trans hstate, hc.trans hcount, ?_⟩, ?_, ?_, ?_⟩
  · exact hb.forall_view _ (fun p hp' => gStreamOK_append F s0 ws _ p.2 (hg.streams p hp')) hnew
  · intro l' hl'
    rcases hb.origin l' hl' with ⟨l, hl, hst | ⟨hst, ha⟩⟩ | h
    · exact hst ▸ gPrefix_append F s0 ws _ l.st (hp l hl)
    · -- handed the events: it was live, so it held its whole stream
      exact hst ▸ gPrefix_of_ok F s0 _ _
        (gStreamOK_append F s0 ws _ l.st (hg.streams _ (mem_view_of_alive x.ls l hl ha)))
    · exact gPrefix_of_ok F s0 _ _ (hnew _ _ h)
  · have := hb.ids
    rwa [gActIds_eq, ← gListenIds_single] at this
  · rw [hb.view_ids, g_fold_ids_toAct]

theorem gListenIds_cons (item : GItem Op O) (rest : List (GItem Op O)) :
    gListenIds (item :: rest) = gListenIds [item] ++ gListenIds rest := by
  cases item <;> simp [gListenIds]

theorem gCallsOf_cons (item : GItem Op O) (rest : List (GItem Op O)) :
    gCallsOf (item :: rest) = gCallsOf [item] ++ gCallsOf rest := by
  cases item <;> simp [gCallsOf]

theorem gEagerIds_append (a b : List (GAct O)) : ∀ ids, gEagerIds ids (a ++ b) = gEagerIds (gEagerIds ids a) b := by
  induction a with
  | nil => intro ids; rfl
  | cons x xs ih => intro ids; cases x <;> simp only [List.cons_append, gEagerIds, ih]

theorem gActsOf_cons (item : GItem Op O) (rest : List (GItem Op O)) :
    gActsOf (item :: rest) = gActsOf [item] ++ gActsOf rest := by
  cases item <;> simp [gActsOf]

theorem gGood_init (F : Feed S Op E O σ) (s0 : S) : GGood F s0 ({ s := s0, ls := [], nw := 0 } : GSess S O σ) [] :=
  ⟨rfl, rfl, fun _ hp => nomatch hp⟩

/-- what a session has come to after the calls `ws`: live subscribers exact, every registered listener holds a prefix,
identities distinct, and the live subscribers are those of the eager bookkeeping run over `acts` from `live0` -/
structure GSettled (F : Feed S Op E O σ) (s0 : S) (x : GSess S O σ) (ws : List Op) (live0 : List Nat)
    (acts : List (GAct O)) : Prop where
  good : GGood F s0 x ws
  allPrefix : AllPrefix F s0 x ws
  idsNodup : (x.ls.map (·.id)).Nodup
  liveIds : (view x.ls).map (·.1) = gEagerIds live0 acts

theorem gRunSession_good (F : Feed S Op E O σ) (s0 : S) (items : List (GItem Op O)) :
    ∀ (x : GSess S O σ) (ws : List Op), GGood F s0 x ws → AllPrefix F s0 x ws →
      (x.ls.map (·.id) ++ gListenIds items).Nodup →
      GSettled F s0 (gRunSession F x items) (ws ++ gCallsOf items) ((view x.ls).map (·.1)) (gActsOf items) := by
  induction items with
  | nil =>
    intro x ws hg hp hn
    simp only [gListenIds, List.append_nil] at hn
    have : GSettled F s0 x ws ((view x.ls).map (·.1)) [] := ⟨hg, hp, hn, rfl⟩
    simpa [gRunSession, gCallsOf, gActsOf] using this
  | cons item rest ih =>
    intro x ws hg hp hn
    rw [gListenIds_cons, ← List.append_assoc] at hn
    obtain ⟨h1, h2, h3, h4⟩ := gRunItem_good F s0 x ws item hg hp (List.nodup_append.mp hn).1
    have := ih _ _ h1 h2 ((List.Sublist.append h3 (List.Sublist.refl _)).nodup hn)
    rw [gCallsOf_cons, ← List.append_assoc]
    exact ⟨this.good, this.allPrefix, this.idsNodup, by rw [gActsOf_cons, gEagerIds_append, ← h4]; exact this.liveIds⟩

theorem gSession_good (F : Feed S Op E O σ) (s0 : S) (items : List (GItem Op O))
    (hfresh : (gListenIds items).Nodup) :
    GSettled F s0 (gRunSession F { s := s0, ls := [], nw := 0 } items) (gCallsOf items) [] (gActsOf items) := by
  have h := gRunSession_good F s0 items _ [] (gGood_init F s0) (fun _ hl => nomatch hl) (by simpa using hfresh)
  rwa [List.nil_append] at h

end ScVerif.C04
