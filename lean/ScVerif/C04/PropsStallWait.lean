import ScVerif.C04.StallWait
/-!
# C04 — a Collection write announced while a consumer is not receiving (no send deadline)

`Collection.Update` / `Add` / `Delete` announce with `context.TODO()`: at a listener whose forwarder is blocked the writer
waits until its consumer receives again (`wake`), then the listener takes the event and the loop goes on
(`StallWait.lean`, `sendWaitLoop`; `none`: the write never returns).
-/
namespace ScVerif.C04

variable {ι σ : Type}

/-- `Bus.Send` with no deadline (Collection.Update / Add / Delete), provided each blocked forwarder takes the event
once its consumer receives again: the Send returns, having served EVERY live listener once - the stalled ones after their
consumer received; the outcome is that of resuming those consumers first and then announcing where nobody is stalled,
where the deadline Send (`sendDlLoop`) succeeds too.  "One event per successful write" is not at the mercy of a slow
subscriber: the writer waits, it does not fail and nobody is skipped. -/
theorem C04_waiting_send_serves_everyone (try_ : σ → Option σ) (wake : σ → σ)
    (hw : ∀ st, try_ st = none → (try_ (wake st)).isSome = true) (ls : List (Lsn ι σ)) :
    sendWaitLoop try_ wake ls = some ((resumeStalled try_ wake ls).map (serve try_)) ∧
    sendDlLoop try_ (resumeStalled try_ wake ls) = ((resumeStalled try_ wake ls).map (serve try_), true) ∧
    (∀ l ∈ resumeStalled try_ wake ls, stalledAt try_ l = false) :=
  ⟨sendWaitLoop_eq try_ wake hw ls,
   sendDlLoop_all try_ _ (resumeStalled_none_stalled try_ wake hw ls),
   resumeStalled_none_stalled try_ wake hw ls⟩

/-- Without that (a consumer that never receives again) the write never returns: the no-deadline loop has
no result as soon as one live listener stays stalled. -/
theorem C04_waiting_send_blocks_for_ever (try_ : σ → Option σ) (wake : σ → σ) (pre rest : List (Lsn ι σ))
    (l : Lsn ι σ) (ha : l.alive = true) (h1 : try_ l.st = none) (h2 : try_ (wake l.st) = none) :
    sendWaitLoop try_ wake (pre ++ l :: rest) = none := by
  induction pre with
  | nil => simp [sendWaitLoop, ha, h1, h2]
  | cons x xs ih => exact sendWaitLoop_cons_none try_ wake x _ ih

/-- ... and in terms of the bus model: the waiting Send leaves the live listeners of the plain `Send` of `BusModel.lean`
run AFTER the stalled consumers were resumed - which is how the driver answers `stallw`: `resume`, then the write. -/
theorem C04_waiting_send_is_resume_then_send [DecidableEq ι] (try_ : σ → Option σ) (wake d : σ → σ)
    (hw : ∀ st, try_ st = none → (try_ (wake st)).isSome = true)
    (ls : List (Lsn ι σ)) (hn : (ls.map (·.id)).Nodup)
    (h : ∀ l ∈ resumeStalled try_ wake ls, l.alive = true → try_ l.st = some (d l.st)) :
    ∃ r, sendWaitLoop try_ wake ls = some r ∧ view r = view (send d (resumeStalled try_ wake ls) []) :=
  waiting_send_view try_ wake d hw ls hn h

/-- non-vacuity: a forwarder with one slot (`true` = full); waking empties it -/
example : (∀ st : Nat × Bool, (fun s : Nat × Bool => if s.2 then none else some (s.1 + 1, false)) st = none →
    ((fun s : Nat × Bool => if s.2 then none else some (s.1 + 1, false)) ((fun s : Nat × Bool => (s.1, false)) st)).isSome = true) := by
  intro st _; simp

example : sendWaitLoop (ι := Nat) (fun s : Nat × Bool => if s.2 then none else some (s.1 + 1, false)) (fun s => (s.1, false))
    [{ id := 1, alive := true, st := (0, false) }, { id := 2, alive := true, st := (5, true) }, { id := 3, alive := false, st := (7, false) },
     { id := 4, alive := true, st := (9, false) }] =
    some [{ id := 1, alive := true, st := (1, false) }, { id := 2, alive := true, st := (6, false) }, { id := 3, alive := false, st := (7, false) },
     { id := 4, alive := true, st := (10, false) }] := by simp [sendWaitLoop]

/-- the hypotheses of `C04_waiting_send_is_resume_then_send` hold for that forwarder with `d` = take the event -/
example (ls : List (Lsn Nat (Nat × Bool))) :
    ∀ l ∈ resumeStalled (fun s : Nat × Bool => if s.2 then none else some (s.1 + 1, false)) (fun s => (s.1, false)) ls,
      l.alive = true → (fun s : Nat × Bool => if s.2 then none else some (s.1 + 1, false)) l.st = some ((fun s : Nat × Bool => (s.1 + 1, false)) l.st) := by
  intro l hl ha
  simp only [resumeStalled, List.mem_map] at hl
  obtain ⟨x, _, rfl⟩ := hl
  have hxa : x.alive = true := by split at ha <;> exact ha
  cases hx : x.st.2 <;> simp [stalledAt, hxa, hx]

end ScVerif.C04
