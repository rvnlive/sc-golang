import ScVerif.C04.BusModel
/-! For every schedule of `BusModel.lean`'s machine the live listeners after a `Send` are those of the eager bus
(`send_view_nodup`).  The abstraction `absn` counts listeners still to be visited as already served; `Inv` keeps identities
distinct. -/
namespace ScVerif.C04

variable {ι σ : Type} [DecidableEq ι]

/-- abstraction of a `Send` in flight: listeners still to be visited count as already served -/
def absn (d : σ → σ) (s : SendSt ι σ) : List (ι × σ) :=
  (s.ls.filter (·.alive)).map (fun l => (l.id, if l.id ∈ s.todo then d l.st else l.st))

/-- the invariant of a `Send` in flight: identities distinct; what is left of the snapshot is distinct and still
registered -/
structure Inv (s : SendSt ι σ) : Prop where
  nodup : (s.ls.map (·.id)).Nodup
  todoNodup : s.todo.Nodup
  todoSub : ∀ i ∈ s.todo, i ∈ s.ls.map (·.id)

theorem filter_alive_deliverTo (d : σ → σ) (i : ι) (ls : List (Lsn ι σ)) :
    (deliverTo d i ls).filter (·.alive) = deliverTo d i (ls.filter (·.alive)) := by
  simp only [deliverTo, List.filter_map]
  congr 1
  apply List.filter_congr
  intro l _
  simp only [Function.comp]
  split <;> rfl

omit [DecidableEq ι] in
theorem ids_map_of_id (f : Lsn ι σ → Lsn ι σ) (hf : ∀ l, (f l).id = l.id) (ls : List (Lsn ι σ)) :
    (ls.map f).map (·.id) = ls.map (·.id) := by
  rw [List.map_map]
  exact List.map_congr_left fun l _ => hf l

theorem ids_deliverTo (d : σ → σ) (i : ι) (ls : List (Lsn ι σ)) :
    (deliverTo d i ls).map (·.id) = ls.map (·.id) :=
  ids_map_of_id _ (fun l => by split <;> rfl) ls

theorem ids_markDead (i : ι) (ls : List (Lsn ι σ)) : (markDead i ls).map (·.id) = ls.map (·.id) :=
  ids_map_of_id _ (fun l => by split <;> rfl) ls

omit [DecidableEq ι] in
theorem ids_register (ls : List (Lsn ι σ)) (i : ι) (st : σ) : (register ls i st).map (·.id) = ls.map (·.id) ++ [i] := by
  simp [register]

omit [DecidableEq ι] in
theorem mem_register (ls : List (Lsn ι σ)) (i : ι) (st : σ) (l : Lsn ι σ) :
    l ∈ register ls i st ↔ l ∈ ls ∨ l = { id := i, alive := true, st := st } := by
  simp [register]

theorem act_inv (d : σ → σ) (s : SendSt ι σ) (a : Act ι σ) (hs : Inv s)
    (hf : ∀ i st, a = .listen i st → i ∉ s.ls.map (·.id)) : Inv (act d s a) := by
  cases a with
  | visit =>
    simp only [act]
    split
    · exact hs
    · rename_i i rest htodo
      have hn := hs.todoNodup
      rw [htodo] at hn
      have hsub : ∀ j ∈ rest, j ∈ s.ls.map (·.id) := fun j hj => hs.todoSub j (by rw [htodo]; exact List.mem_cons_of_mem _ hj)
      split
      · exact ⟨by simp only [ids_deliverTo]; exact hs.nodup, (List.nodup_cons.mp hn).2,
          by simp only [ids_deliverTo]; exact hsub⟩
      · exact ⟨hs.nodup, (List.nodup_cons.mp hn).2, hsub⟩
  | listen i st =>
    have hfresh := hf i st rfl
    refine ⟨?_, hs.todoNodup, ?_⟩
    · simp only [act, ids_register]
      rw [List.nodup_append]
      refine ⟨hs.nodup, by simp, ?_⟩
      intro a ha b hb
      simp only [List.mem_singleton] at hb
      subst hb
      intro hab; subst hab; exact hfresh ha
    · intro j hj
      simp only [act, ids_register, List.mem_append]
      exact Or.inl (hs.todoSub j hj)
  | cancel i =>
    exact ⟨by simp only [act, ids_markDead]; exact hs.nodup, hs.todoNodup,
      by simp only [act, ids_markDead]; exact hs.todoSub⟩

/-- `f` is what is shown of a listener: its state for `view`, its state as if served for `absn` -/
theorem view_markDead (f : Lsn ι σ → σ) (i : ι) (ls : List (Lsn ι σ)) :
    ((markDead i ls).filter (·.alive)).map (fun l => (l.id, f l)) =
      (((ls.filter (·.alive)).map (fun l => (l.id, f l))).filter (fun p => p.1 ≠ i)) := by
  induction ls with
  | nil => rfl
  | cons l ls ih =>
    simp only [markDead, List.map_cons, List.filter_cons] at ih ⊢
    by_cases hi : l.id = i <;> cases ha : l.alive <;> simp [hi, ha, ih]

omit [DecidableEq ι] in
theorem view_register (f : Lsn ι σ → σ) (i : ι) (st : σ) (ls : List (Lsn ι σ)) :
    ((register ls i st).filter (·.alive)).map (fun l => (l.id, f l)) =
      (ls.filter (·.alive)).map (fun l => (l.id, f l)) ++ [(i, f { id := i, alive := true, st := st })] := by
  simp [register, List.filter_append]

theorem absn_act (d : σ → σ) (s : SendSt ι σ) (a : Act ι σ) (hs : Inv s)
    (hf : ∀ i st, a = .listen i st → i ∉ s.ls.map (·.id)) :
    absn d (act d s a) = eagerAct (absn d s) a := by
  cases a with
  | visit =>
    simp only [act, eagerAct]
    split
    · rfl
    · rename_i i rest htodo
      have hn := hs.todoNodup
      rw [htodo] at hn
      have hirest : i ∉ rest := (List.nodup_cons.mp hn).1
      split
      · -- delivered now instead of "in advance"
        simp only [absn, htodo, filter_alive_deliverTo]
        simp only [deliverTo, List.map_map]
        apply List.map_congr_left
        intro l _
        by_cases hi : l.id = i
        · simp [hi, hirest]
        · simp [hi]
      · rename_i hdead
        simp only [absn, htodo]
        apply List.map_congr_left
        intro l hl
        simp only [List.mem_filter] at hl
        -- a live listener is not the dead one being visited
        have : l.id ≠ i := fun hid => hdead (by
          simp only [isAlive, List.any_eq_true, Bool.and_eq_true, decide_eq_true_eq]
          exact ⟨l, hl.1, hid, hl.2⟩)
        simp [this]
  | listen i st =>
    have hfresh := hf i st rfl
    have hnt : i ∉ s.todo := fun h => hfresh (hs.todoSub i h)
    -- the new listener comes last, is live, and is not in the snapshot: it counts as not served
    show absn d { s with ls := register s.ls i st } = absn d s ++ [(i, st)]
    simp only [absn, view_register, hnt, ↓reduceIte]
  | cancel i =>
    simp only [act, eagerAct, absn]
    exact view_markDead (fun l => if l.id ∈ s.todo then d l.st else l.st) i s.ls

theorem ids_act (d : σ → σ) (s : SendSt ι σ) (a : Act ι σ) :
    (act d s a).ls.map (·.id) = match a with
      | .listen i _ => s.ls.map (·.id) ++ [i]
      | _ => s.ls.map (·.id) := by
  cases a with
  | visit =>
    simp only [act]
    split
    · rfl
    · split
      · simp only [ids_deliverTo]
      · rfl
  | listen i st => simp only [act, ids_register]
  | cancel i => simp only [act, ids_markDead]

/-- the identities a schedule registers (`gActIds` and `sactIds` are this for the schedules of sessions) -/
def schedIds : List (Act ι σ) → List ι
  | [] => []
  | .listen i _ :: rest => i :: schedIds rest
  | _ :: rest => schedIds rest

/-! Freshness of the identities a schedule registers is `(ids of the bus ++ schedIds sched).Nodup`; every
step hands it on to the rest of the schedule, because `act` appends exactly the identity it registers. -/

omit [DecidableEq ι] in
theorem fresh_head {ids : List ι} {a : Act ι σ} {rest : List (Act ι σ)} (hn : (ids ++ schedIds (a :: rest)).Nodup) :
    ∀ i st, a = .listen i st → i ∉ ids := by
  intro i st ha hi
  subst ha
  exact (List.nodup_append.mp hn).2.2 i hi i List.mem_cons_self rfl

theorem nodup_act (d : σ → σ) (s : SendSt ι σ) (a : Act ι σ) (rest : List (Act ι σ))
    (hn : (s.ls.map (·.id) ++ schedIds (a :: rest)).Nodup) :
    ((act d s a).ls.map (·.id) ++ schedIds rest).Nodup := by
  rw [ids_act]
  cases a with
  | listen i st => simpa [schedIds] using hn
  | visit => exact hn
  | cancel j => exact hn

theorem fold_act (d : σ → σ) (sched : List (Act ι σ)) :
    ∀ s : SendSt ι σ, Inv s → (s.ls.map (·.id) ++ schedIds sched).Nodup →
      Inv (sched.foldl (act d) s) ∧ absn d (sched.foldl (act d) s) = sched.foldl eagerAct (absn d s) := by
  induction sched with
  | nil => intro s hs _; exact ⟨hs, rfl⟩
  | cons a rest ih =>
    intro s hs hn
    have hf := fresh_head hn
    rw [List.foldl_cons, List.foldl_cons, ← absn_act d s a hs hf]
    exact ih _ (act_inv d s a hs hf) (nodup_act d s a rest hn)

theorem finish_induct (d : σ → σ) (P : SendSt ι σ → Prop) (step : ∀ s, P s → P (act d s .visit))
    (s : SendSt ι σ) (h : P s) : P (finish d s) := by
  unfold finish
  generalize s.todo.length = n
  induction n generalizing s with
  | zero => exact h
  | succ n ih => exact ih _ (step s h)

theorem todo_visit (d : σ → σ) (s : SendSt ι σ) : (act d s .visit).todo = s.todo.tail := by
  simp only [act]
  split
  · rename_i h; rw [h]; rfl
  · rename_i i rest h; rw [h]; split <;> rfl

theorem finish_todo (d : σ → σ) (s : SendSt ι σ) : (finish d s).todo = [] := by
  have key : ∀ (n : Nat) (s : SendSt ι σ),
      ((List.replicate n (Act.visit : Act ι σ)).foldl (act d) s).todo = s.todo.drop n := by
    intro n
    induction n with
    | zero => intro s; rfl
    | succ n ih => intro s; rw [List.replicate_succ, List.foldl_cons, ih, todo_visit, List.drop_tail]
  rw [finish, key, List.drop_length]

theorem finish_spec (d : σ → σ) (s : SendSt ι σ) (hs : Inv s) :
    Inv (finish d s) ∧ absn d (finish d s) = absn d s :=
  finish_induct d (fun s' => Inv s' ∧ absn d s' = absn d s)
    (fun s' h => ⟨act_inv d s' .visit h.1 (fun _ _ h => nomatch h), (absn_act d s' .visit h.1 (fun _ _ h => nomatch h)).trans h.2⟩) s ⟨hs, rfl⟩

omit [DecidableEq ι] in
theorem view_collect (ls : List (Lsn ι σ)) : view (collect ls) = view ls := by
  simp [view, collect, List.filter_filter]

omit [DecidableEq ι] in
theorem snapshot_inv (ls : List (Lsn ι σ)) (hn : (ls.map (·.id)).Nodup) : Inv (snapshot ls) :=
  ⟨hn, hn, fun _ hi => hi⟩

theorem send_def (d : σ → σ) (ls : List (Lsn ι σ)) (sched : List (Act ι σ)) :
    send d ls sched =
      if (finish d (sched.foldl (act d) (snapshot ls))).needGc then
        collect (finish d (sched.foldl (act d) (snapshot ls))).ls
      else (finish d (sched.foldl (act d) (snapshot ls))).ls := rfl

theorem send_eq (d : σ → σ) (ls : List (Lsn ι σ)) (sched : List (Act ι σ)) :
    send d ls sched = (finish d (sched.foldl (act d) (snapshot ls))).ls ∨
    send d ls sched = collect (finish d (sched.foldl (act d) (snapshot ls))).ls := by
  rw [send_def]
  split
  · exact Or.inr rfl
  · exact Or.inl rfl

theorem send_view_nodup (d : σ → σ) (ls : List (Lsn ι σ)) (sched : List (Act ι σ))
    (hn : (ls.map (·.id) ++ schedIds sched).Nodup) :
    view (send d ls sched) = sched.foldl eagerAct ((view ls).map (fun p => (p.1, d p.2))) ∧
    ((send d ls sched).map (·.id)).Nodup := by
  obtain ⟨h1, h2⟩ := fold_act d sched (snapshot ls) (snapshot_inv ls (List.nodup_append.mp hn).1) hn
  obtain ⟨f1, f2⟩ := finish_spec d _ h1
  -- at the snapshot everybody live counts as served
  have habs0 : absn d (snapshot ls) = (view ls).map (fun p => (p.1, d p.2)) := by
    simp only [absn, view, List.map_map]
    apply List.map_congr_left
    intro l hl
    have : l.id ∈ ls.map (·.id) := List.mem_map_of_mem (List.mem_filter.mp hl).1
    simp [this]
  have hview : view (finish d (sched.foldl (act d) (snapshot ls))).ls =
      sched.foldl eagerAct ((view ls).map (fun p => (p.1, d p.2))) := by
    rw [← habs0, ← h2, ← f2]
    simp [absn, view, finish_todo]
  rcases send_eq d ls sched with h | h <;> rw [h]
  · exact ⟨hview, f1.nodup⟩
  · exact ⟨by rw [view_collect]; exact hview, (List.Sublist.map _ List.filter_sublist).nodup f1.nodup⟩

/-! Freshness said step by step: `freshSched ids sched` is the condition `(ids ++ schedIds sched).Nodup` for distinct `ids`
(`nodup_iff_freshSched`), and `send_view` is `send_view_nodup` under it.  The theorems of this directory take the `Nodup`
form. -/

/-- the schedule registers only fresh identities -/
def freshSched : List ι → List (Act ι σ) → Prop
  | _, [] => True
  | ids, .listen i _ :: rest => i ∉ ids ∧ freshSched (i :: ids) rest
  | ids, _ :: rest => freshSched ids rest

omit [DecidableEq ι] in
theorem nodup_iff_freshSched (sched : List (Act ι σ)) :
    ∀ ids : List ι, (ids ++ schedIds sched).Nodup ↔ ids.Nodup ∧ freshSched ids sched := by
  induction sched with
  | nil => intro ids; simp [schedIds, freshSched]
  | cons a rest ih =>
    intro ids
    cases a with
    | visit => exact ih ids
    | cancel j => exact ih ids
    | listen j st =>
      have hp : (j :: ids ++ schedIds rest).Perm (ids ++ j :: schedIds rest) := by
        simpa using (List.perm_middle (l₁ := ids) (l₂ := schedIds rest) (a := j)).symm
      rw [schedIds, ← hp.nodup_iff, ih (j :: ids), List.nodup_cons, freshSched]
      exact ⟨fun h => ⟨h.1.2, h.1.1, h.2⟩, fun h => ⟨⟨h.2.1, h.1⟩, h.2.2⟩⟩

omit [DecidableEq ι] in
theorem freshSched_of_nodup (sched : List (Act ι σ)) :
    ∀ ids : List ι, (ids ++ schedIds sched).Nodup → freshSched ids sched :=
  fun ids h => ((nodup_iff_freshSched sched ids).mp h).2

theorem send_view (d : σ → σ) (ls : List (Lsn ι σ)) (sched : List (Act ι σ))
    (hn : (ls.map (·.id)).Nodup) (hf : freshSched (ls.map (·.id)) sched) :
    view (send d ls sched) = sched.foldl eagerAct ((view ls).map (fun p => (p.1, d p.2))) ∧
    ((send d ls sched).map (·.id)).Nodup :=
  send_view_nodup d ls sched ((nodup_iff_freshSched sched _).mpr ⟨hn, hf⟩)

theorem view_send_nil (d : σ → σ) (ls : List (Lsn ι σ)) (hn : (ls.map (·.id)).Nodup) :
    view (send d ls []) = (view ls).map (fun p => (p.1, d p.2)) :=
  (send_view_nodup d ls [] (by simpa [schedIds] using hn)).1

theorem idle_view (ls : List (Lsn ι σ)) (a : Act ι σ) : view (idle ls a) = eagerAct (view ls) a := by
  cases a with
  | visit => rfl
  | listen i st => exact view_register (fun l => l.st) i st ls
  | cancel i => exact view_markDead (fun l => l.st) i ls

theorem view_fold_idle (acts : List (Act ι σ)) :
    ∀ ls : List (Lsn ι σ), view (acts.foldl idle ls) = acts.foldl eagerAct (view ls) := by
  induction acts with
  | nil => intro ls; rfl
  | cons a rest ih => intro ls; simp only [List.foldl_cons, ih, idle_view]

theorem ids_fold_act (d : σ → σ) (sched : List (Act ι σ)) :
    ∀ s : SendSt ι σ, (sched.foldl (act d) s).ls.map (·.id) = s.ls.map (·.id) ++ schedIds sched := by
  induction sched with
  | nil => intro s; simp [schedIds]
  | cons a rest ih =>
    intro s
    simp only [List.foldl_cons]
    rw [ih, ids_act]
    cases a <;> simp [schedIds]

theorem ids_fold_idle (sched : List (Act ι σ)) :
    ∀ ls : List (Lsn ι σ), (sched.foldl idle ls).map (·.id) = ls.map (·.id) ++ schedIds sched := by
  induction sched with
  | nil => intro s; simp [schedIds]
  | cons a rest ih =>
    intro ls
    simp only [List.foldl_cons]
    rw [ih]
    cases a with
    | visit => simp [idle, schedIds]
    | listen i st => simp [idle, ids_register, schedIds]
    | cancel i => simp [idle, ids_markDead, schedIds]

theorem ids_send_sublist (d : σ → σ) (ls : List (Lsn ι σ)) (sched : List (Act ι σ)) :
    ((send d ls sched).map (·.id)).Sublist (ls.map (·.id) ++ schedIds sched) := by
  have hraw : (finish d (sched.foldl (act d) (snapshot ls))).ls.map (·.id) = ls.map (·.id) ++ schedIds sched :=
    finish_induct d (fun s' => s'.ls.map (·.id) = ls.map (·.id) ++ schedIds sched)
      (fun s' h => (ids_act d s' .visit).trans h) _ (ids_fold_act d sched (snapshot ls))
  rcases send_eq d ls sched with h | h <;> rw [h, ← hraw]
  · exact List.Sublist.refl _
  · exact List.Sublist.map _ List.filter_sublist

theorem mem_fold_eagerAct (sched : List (Act ι σ)) :
    ∀ (v : List (ι × σ)) (p : ι × σ), p ∈ sched.foldl eagerAct v →
      p ∈ v ∨ (Act.listen p.1 p.2 : Act ι σ) ∈ sched := by
  induction sched with
  | nil => intro v p h; exact Or.inl h
  | cons a rest ih =>
    intro v p h
    simp only [List.foldl_cons] at h
    rcases ih _ p h with h1 | h1
    · cases a with
      | visit => exact Or.inl h1
      | cancel j =>
        simp only [eagerAct, List.mem_filter] at h1
        exact Or.inl h1.1
      | listen j st =>
        simp only [eagerAct, List.mem_append, List.mem_singleton] at h1
        rcases h1 with h1 | h1
        · exact Or.inl h1
        · subst h1; exact Or.inr List.mem_cons_self
    · exact Or.inr (List.mem_cons_of_mem _ h1)

theorem mem_fold_idle (acts : List (Act ι σ)) :
    ∀ (ls : List (Lsn ι σ)) (l' : Lsn ι σ), l' ∈ acts.foldl idle ls →
      (∃ l ∈ ls, l.id = l'.id ∧ l.st = l'.st) ∨ (Act.listen l'.id l'.st : Act ι σ) ∈ acts := by
  induction acts with
  | nil => intro ls l' h; exact Or.inl ⟨l', h, rfl, rfl⟩
  | cons a rest ih =>
    intro ls l' h
    simp only [List.foldl_cons] at h
    rcases ih _ l' h with ⟨l1, h1, hid, hst⟩ | h1
    · cases a with
      | visit => exact Or.inl ⟨l1, h1, hid, hst⟩
      | listen i st =>
        simp only [idle, mem_register] at h1
        rcases h1 with h1 | h1
        · exact Or.inl ⟨l1, h1, hid, hst⟩
        · subst h1
          simp only at hid hst
          exact Or.inr (by rw [← hid, ← hst]; exact List.mem_cons_self)
      | cancel i =>
        simp only [idle, markDead, List.mem_map] at h1
        obtain ⟨l, hl, rfl⟩ := h1
        refine Or.inl ⟨l, hl, ?_, ?_⟩
        · rw [← hid]; split <;> rfl
        · rw [← hst]; split <;> rfl
    · exact Or.inr (List.mem_cons_of_mem _ h1)

omit [DecidableEq ι] in
theorem mem_view_of_alive (ls : List (Lsn ι σ)) (l : Lsn ι σ) (hl : l ∈ ls) (ha : l.alive = true) :
    (l.id, l.st) ∈ view ls := by
  simp only [view, List.mem_map, List.mem_filter]
  exact ⟨l, ⟨hl, ha⟩, rfl⟩

def idsStep (ids : List ι) : Act ι σ → List ι
  | .visit => ids
  | .listen i _ => ids ++ [i]
  | .cancel i => ids.filter (· ≠ i)

theorem ids_fold_eagerAct (sched : List (Act ι σ)) :
    ∀ (v : List (ι × σ)), (sched.foldl eagerAct v).map (·.1) = sched.foldl idsStep (v.map (·.1)) := by
  induction sched with
  | nil => intro v; rfl
  | cons a rest ih =>
    intro v
    simp only [List.foldl_cons]
    rw [ih]
    congr 1
    cases a with
    | visit => rfl
    | listen i st => simp [eagerAct, idsStep]
    | cancel i =>
      simp only [eagerAct, idsStep, List.filter_map]
      rfl

end ScVerif.C04
