import ScVerif.C04.GSplit
/-!
# C04 — sessions in which subscribers also register between a write's commit and its publication

The session theorems of `PropsSession.lean` let subscriptions open and be cancelled between the writer's
calls and at any point of a `Send`'s delivery.  The code has one more point: between the commit of a
write (value stored, lock released) and the snapshot its `Send` takes of the listeners
(`value.set.beforeSend`, `coll.update.beforeSend` - the K4 family `raceb` parks the write there).
Here calls are split in `commit op` and `publish` (`GSplit.lean`), for every feed.
-/
namespace ScVerif.C04

variable {S Op E O σ : Type}

/-- every subscriber live at the end either registered between two calls (after `k` of them) and holds exactly
`gStream`, or registered between the commit and the publication of call `k`: it is seeded with the state that write left,
is handed the events of that very write (the stale duplicate: its seed already shows them), then the events of every
later call once, in order: nothing is missed in either case. -/
theorem C04_commit_publish_session_streams (F : Feed S Op E O σ) (s0 : S) (ops : List Op)
    (items : List (GItem (SplitOp Op) O)) (hcalls : gCallsOf items = splitOps ops)
    (hfresh : (gListenIds items).Nodup) :
    (∀ p ∈ view (gRunSession (splitFeed F) { s := (s0, []), ls := [], nw := 0 } items).ls,
      (∃ k, p.2.regAt = 2 * k ∧ k ≤ ops.length ∧
        p.2.st = gStream F p.2.o (gRun F s0 (ops.take k)).2 (ops.drop k)) ∨
      (∃ k op, p.2.regAt = 2 * k + 1 ∧ ops[k]? = some op ∧
        p.2.st = (gRun F (F.step (gRun F s0 (ops.take k)).2 op).2 (ops.drop (k + 1))).1.foldl
          (fun st evs => F.fwd evs st)
          (F.fwd (F.step (gRun F s0 (ops.take k)).2 op).1
            (F.open (F.step (gRun F s0 (ops.take k)).2 op).2 p.2.o)))) ∧
    (view (gRunSession (splitFeed F) { s := (s0, []), ls := [], nw := 0 } items).ls).map (·.1) =
      gEagerIds [] (gActsOf items) := by
  have hs := gSession_good (splitFeed F) (s0, []) items hfresh
  refine ⟨?_, hs.liveIds⟩
  intro p hp
  obtain ⟨hle, hst⟩ := hs.good.streams p hp
  rw [hcalls] at hle hst
  rw [splitOps_length] at hle
  obtain ⟨k, hk⟩ : ∃ k, p.2.regAt = 2 * k ∨ p.2.regAt = 2 * k + 1 := ⟨p.2.regAt / 2, by omega⟩
  rcases hk with hk | hk
  · left
    rw [hk] at hst hle
    refine ⟨k, hk, by omega, ?_⟩
    rw [hst, splitOps_take_even, splitOps_drop_even, (gRun_split F _ s0).1, gStream_split_even]
  · right
    rw [hk] at hst hle
    have hlt : k < ops.length := by omega
    refine ⟨k, ops[k], hk, List.getElem?_eq_getElem hlt, ?_⟩
    rw [hst, splitOps_take_odd ops _ _ (List.getElem?_eq_getElem hlt), splitOps_drop_odd ops _ hlt]
    have hrun := (gRun_split F (ops.take k) s0).1
    rw [gRun_append]
    simp only [gRun, hrun]
    exact gStream_split_odd F p.2.o (gRun F s0 (ops.take k)).2 ops[k] (ops.drop (k + 1))

/-- non-vacuity: sessions whose calls are a split history exist, e.g. one write with a subscriber
registering between its commit and its publication -/
example : gCallsOf ([.call (.commit ()) [], .idle (.listen 0 ()), .call .publish []] : List (GItem (SplitOp Unit) Unit))
    = splitOps [()] ∧ (gListenIds ([.call (.commit ()) [], .idle (.listen 0 ()), .call .publish []] : List (GItem (SplitOp Unit) Unit))).Nodup := by
  simp [gCallsOf, splitOps, gListenIds, gActIds]

end ScVerif.C04
