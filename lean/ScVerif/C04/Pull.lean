import ScVerif.C01.Model
/-!
# C04 — the stream a backpressured subscriber receives, as a function of the write history

Builds on C01's sequential model: every write's bus events are in its `COut.events` / `VOut.events`.
With backpressure and one writer at a time nothing is dropped or reordered, so what a subscriber
receives is a function of the state at subscription time, the subscription options and the later
writes.  The definitions FOLLOW `Collection.Pull` / `Value.Pull` (`pkg/resource/{collection,value,
change}.go`): seed from the snapshot (sorted by id, `SeedValue`, `LastSeedValue` on the last, stored
change time), then per bus event: read-mask filter → equivalence.

Pull with an include predicate re-labels events (`CollectionChange.include`); that is C08's subject
and is not part of this model: subscriptions here have no include predicate.
-/
namespace ScVerif.C04
open ScVerif.C01
variable {M K R : Type}

/-- Subscription options (`WithReadMask`, `WithUpdatesOnly`; `WithBackpressure(true)` throughout). -/
structure SubOpts (K : Type) where
  readMask : Option K := none
  updatesOnly : Bool := false

/-- `resource.WithEquivalence`: compares two possibly-nil messages. -/
abbrev Eqv (M : Type) := Option (Option M → Option M → Bool)

/-- `FilterClone` on a possibly-nil message. -/
def filterOpt (ops : MsgOps M K) (mask : Option K) (m : Option M) : Option M := m.map (ops.filter mask)

/-! ## Collection -/

def seedEvent (ops : MsgOps M K) (mask : Option K) (kv : String × Item M) (last : Bool) : CEvent M :=
  { id := kv.1, time := kv.2.time, kind := .add, old := none, new := some (ops.filter mask kv.2.body),
    seed := true, lastSeed := last }

/-- the seed loop of `Collection.Pull` over the sorted snapshot -/
def seedEvents (ops : MsgOps M K) (mask : Option K) : List (String × Item M) → List (CEvent M)
  | [] => []
  | [kv] => [seedEvent ops mask kv true]
  | kv :: rest => seedEvent ops mask kv false :: seedEvents ops mask rest

/-- what `Collection.Pull` sends first -/
def collSeed (cfg : Cfg M K R) (s : CState M R) (o : SubOpts K) : List (CEvent M) :=
  if o.updatesOnly then [] else seedEvents cfg.ops o.readMask (sortById (itemSlice s ({} : ReadReq M K)))

/-- one bus event through the forwarding loop of `Collection.Pull`: filter, then the equivalence on
the change's own (filtered) old and new value -/
def collForward (cfg : Cfg M K R) (eqv : Eqv M) (o : SubOpts K) (e : CEvent M) : Option (CEvent M) :=
  let e' : CEvent M := { e with old := filterOpt cfg.ops o.readMask e.old, new := filterOpt cfg.ops o.readMask e.new }
  match eqv with
  | some f => if f e'.old e'.new then none else some e'
  | none => some e'

def eventsOf : CRes M → List (CEvent M)
  | .wrote o => o.events
  | _ => []

/-- all bus events of a call sequence, in order -/
def busEvents (cfg : Cfg M K R) (s : CState M R) (ops : List (COp M K)) : List (CEvent M) :=
  (Coll.run cfg s ops).1.flatMap eventsOf

/-- The stream received by a subscriber that subscribes in state `s` and then watches `ops`. -/
def collStream (cfg : Cfg M K R) (eqv : Eqv M) (o : SubOpts K) (s : CState M R) (ops : List (COp M K)) :
    List (CEvent M) :=
  collSeed cfg s o ++ (busEvents cfg s ops).filterMap (collForward cfg eqv o)

/-! ## Value -/

/-- `ValueChange` as delivered -/
structure VDeliv (M : Type) where
  value : M
  time : Int
  seed : Bool
  lastSeed : Bool

/-- what `Value.Pull` sends first, and its `last` -/
def valSeed (cfg : Cfg M K R) (s : VState M) (o : SubOpts K) : List (VDeliv M) × Option M :=
  if o.updatesOnly then ([], none)
  else match s.value with
    | none => ([], none)
    | some v =>
      let fv := cfg.ops.filter o.readMask v
      ([{ value := fv, time := s.changeTime, seed := true, lastSeed := true }], some fv)

/-- one bus event through the forwarding loop of `Value.Pull`: filter, then the equivalence against
the last value sent -/
def valForward (cfg : Cfg M K R) (eqv : Eqv M) (o : SubOpts K) (last : Option M) (e : VEvent M) :
    Option (VDeliv M) × Option M :=
  let v := cfg.ops.filter o.readMask e.value
  let d : VDeliv M := { value := v, time := e.time, seed := false, lastSeed := false }
  match eqv with
  | some f => if f last (some v) then (none, last) else (some d, some v)
  | none => (some d, some v)

def forwardAll (cfg : Cfg M K R) (eqv : Eqv M) (o : SubOpts K) : Option M → List (VEvent M) → List (VDeliv M)
  | _, [] => []
  | last, e :: es =>
    match valForward cfg eqv o last e with
    | (some d, last') => d :: forwardAll cfg eqv o last' es
    | (none, last') => forwardAll cfg eqv o last' es

def vEventsOf : VRes M → List (VEvent M)
  | .wrote o => o.events
  | _ => []

def vBusEvents (cfg : Cfg M K R) (s : VState M) (ops : List (VOp M K)) : List (VEvent M) :=
  (Value.run cfg s ops).1.flatMap vEventsOf

def valStream (cfg : Cfg M K R) (eqv : Eqv M) (o : SubOpts K) (s : VState M) (ops : List (VOp M K)) :
    List (VDeliv M) :=
  (valSeed cfg s o).1 ++ forwardAll cfg eqv o (valSeed cfg s o).2 (vBusEvents cfg s ops)

/-! ## PullID

`Collection.PullID(id)` runs a `Pull` with the same options and forwards, as `ValueChange`s, the
changes of the one (intercepted) id: other ids are skipped, a REMOVE of the id ends the stream (the
channel is closed, nothing more is forwarded), so does a change without a new value.  The single seed
value of the item is flagged seed AND last-seed (fix 9e0ecc3: it used to copy the collection seed's
last-seed flag, which is only set on the item with the greatest id). -/

def toDeliv (e : CEvent M) (v : M) : VDeliv M :=
  { value := v, time := e.time, seed := e.seed, lastSeed := e.seed }

/-- the forwarding loop of `PullID` over what its `Pull` delivers: (forwarded, ended) -/
def pullIDLoop (id : String) : List (CEvent M) → List (VDeliv M) × Bool
  | [] => ([], false)
  | e :: es =>
    if e.id ≠ id then pullIDLoop id es
    else if e.kind = .remove then ([], true)
    else match e.new with
      | none => ([], true)
      | some v => ((toDeliv e v) :: (pullIDLoop id es).1, (pullIDLoop id es).2)

/-- what a `PullID` subscriber that subscribes in state `s` receives while `ops` run, and whether its
stream has ended -/
def pullIDStream (cfg : Cfg M K R) (eqv : Eqv M) (o : SubOpts K) (s : CState M R) (id : String)
    (ops : List (COp M K)) : List (VDeliv M) × Bool :=
  pullIDLoop (icptId cfg id) (collStream cfg eqv o s ops)

/-! ## A subscriber that opens while a write is in flight

`Collection.onUpdate` / `Value.onUpdate` take the snapshot for the seed and register on the bus while
holding `mu.RLock` (the `defer RUnlock` runs after `bus.Listen`), and a write commits under `mu.Lock`:
subscribing is ONE atomic step with respect to commits.  A write is two steps, commit and publish
(`Delete` publishes while still holding the lock: one step).  So one subscribe and one write interleave
in exactly three ways. -/
inductive SubOrder
  /-- subscribe, then commit and publish: seed without the write, event delivered -/
  | subFirst
  /-- commit, subscribe, publish: the seed already has the write, its event arrives afterwards -/
  | subBetween
  /-- commit and publish, then subscribe: seed has the write, nothing to deliver -/
  | subLast
  deriving DecidableEq, Repr

/-- the state the seed of a subscriber that subscribed at the given point of write `w` is taken from -/
def raceSeedState (cfg : Cfg M K R) (s : CState M R) (w : COp M K) : SubOrder → CState M R
  | .subFirst => s
  | _ => (Coll.step cfg s w).2

/-- the bus events that subscriber is sent (before the per-subscription filter/equivalence) -/
def raceBusEvents (cfg : Cfg M K R) (s : CState M R) (w : COp M K) (rest : List (COp M K)) :
    SubOrder → List (CEvent M)
  | .subLast => busEvents cfg (Coll.step cfg s w).2 rest
  | _ => eventsOf (Coll.step cfg s w).1 ++ busEvents cfg (Coll.step cfg s w).2 rest

def raceStream (cfg : Cfg M K R) (eqv : Eqv M) (o : SubOpts K) (s : CState M R) (w : COp M K)
    (rest : List (COp M K)) (ord : SubOrder) : List (CEvent M) :=
  collSeed cfg (raceSeedState cfg s w ord) o ++ (raceBusEvents cfg s w rest ord).filterMap (collForward cfg eqv o)

/-- a consumer's fold: apply one event to a view -/
def applyEv (view : String → Option M) (e : CEvent M) : String → Option M :=
  fun k => if k = e.id then e.new else view k

end ScVerif.C04
