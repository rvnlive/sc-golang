import ScVerif.C01.Drv
import ScVerif.C04.Pull
import ScVerif.C04.BusModel
import ScVerif.C04.StallModel
import ScVerif.C04.ConfigModel
import ScVerif.C04.WasteModel
/-!
Driver handler for C04 (stateful): a C01 resource plus its bus (`BusModel.lean`): the listeners of the
backpressured subscriptions opened so far.  `unsub` only marks a listener dead (its context is
cancelled); a write that announces an event runs `Bus.Send` — snapshot, deliver, `collect` iff a dead
listener was met — and `racec` registers a new listener while that `Send` is in flight.

```
newc|newv <C01 config> [eqv=<equal|sameA|nil>,…]      -> ok   (the equivalence options in order: `resolveEqv`, ConfigModel.lean)
sub name=<k> [rm=<mask>] [uo]                          -> seed=[…]
subid name=<k> id=<id> [rm=<mask>] [uo]                -> seed=[…]      (PullID; deliveries end with $ once the stream has ended)
unsub name=<k>                                         -> ok
upd|add|del|vset … (as C01)                            -> val=… err=… | k1=[delivered…] k2=[…]   (live subscriptions)
racea|raceb|racec w=<upd|add|del|vset> sname=<k> [srm=<mask>] [suo] … (the write's keys)
racee w=<upd|add|del|vset> cname=<k> … (the write's keys)   -> parked=… val=… err=… | k1=[…]   (subscriptions still open)
raced id=<id> [am] [ev=…] [chk=…] u=<upd|add|del> uid=<id> [umsg=<msg>] [ucia] [uwt=<t>]
                                                       -> uval=… uerr=… | k1=[…] || val=… err=… | k1=[…]
racef sname=<k> [srm=<mask>] [suo] tname=<m> [trm=<mask>] [tuo] order=<12|21>
                                                       -> seed=[…] seed2=[…]   (two Pulls whose Bus.Listen calls overlap; released in `order`)
hold name=<k>                                          -> ok            (the consumer of k stops receiving)
stallw w=<upd|add|del> rname=<k> … (the write's keys)  -> k=[…] || val=… err=… | k1=[…]   (Collection: the write waits for the held k)
resume name=<k>                                        -> k=[…]         (it receives again: what its forwarder was holding)
waste [hist=<id:area,…>] val=<id:area> [later=<id:area,…>] [rm=<id|area>] [uo]
                                                       -> stream=[…]    (stateless: wastepb PullWasteRecords, WasteModel.lean)
```
While a subscription is held its forwarder takes ONE change off the bus and blocks handing it on; the
next `vset` that announces a change finds it stalled: `Bus.Send` (`StallModel.lean`, `sendDl`) gives up at
the 5 s deadline, `Value.set` answers `val=nil err=Unknown` although the value is stored, the
subscriptions registered before the stalled one have the change, the others do not.
-/
namespace ScVerif.C04
open ScVerif.C01 ScVerif.Line

def namedEqv : String → Option (Option Msg → Option Msg → Bool)
  | "equal" => some (fun x y => decide (x = y))
  | "sameA" => some (fun x y => optA x == optA y)
  | _ => none

/-- one equivalence option of the resource: a named comparer, or `nil` = `WithEquivalence(nil)` -/
def parseEqvTok (s : String) : Option (ResOpt Msg) :=
  if s == "nil" then some (.equivalence none) else (namedEqv s).map (fun f => .equivalence (some f))

/-- `eqv=<opt>,<opt>,…`: the equivalence options of the resource in the order given, resolved as
`computeConfig` does (each overwrites) -/
def parseEqvList? (kv : KV) : Option (Eqv Msg) :=
  match kvGet kv "eqv" with
  | none => some none
  | some s => ((s.splitOn ",").mapM parseEqvTok).map resolveEqv

structure Sub where
  name : String
  opts : SubOpts Mask
  last : Option Msg   -- Value.Pull's `last`
  pid : Option String := none   -- PullID: the (intercepted) id
  ended : Bool := false         -- PullID: the stream has ended
  held : Bool := false          -- the consumer is not receiving (Value)
  hand : List (VDeliv Msg) := []   -- what the forwarder is blocked handing to a held consumer
  out : List (VDeliv Msg) := []    -- what the consumer received of the write being announced (transient)
  handC : List (CEvent Msg) := []  -- Collection: what the forwarder of a held consumer has taken off the bus

inductive Res
  | none
  | coll (cfg : FCfg) (s : CState Msg (List Nat))
  | val (cfg : FCfg) (s : VState Msg)

structure DrvState where
  res : Res := .none
  eqv : Eqv Msg := none
  /-- `b.listeners`: cancelled listeners stay until a `Send` collects them -/
  subs : List (Lsn String Sub) := []

/-- the subscriptions whose context is live, in registration order -/
def live (ls : List (Lsn String Sub)) : List Sub := (ls.filter (·.alive)).map (·.st)

def mkSub (sb : Sub) : Act String Sub := .listen sb.name sb

def parseSubOpts? (kv : KV) : Option (SubOpts Mask) := do
  let rm ← optKey kv "rm" parseMask?
  pure { readMask := rm, updatesOnly := kvHas kv "uo" }

def showVDeliv (d : VDeliv Msg) : String := s!"{showMsg d.value}|{d.time}|{showFlags d.seed d.lastSeed}"

/-- one subscription's share of the bus events of one collection write -/
def deliverSubC (cfg : FCfg) (eqv : Eqv Msg) (evs : List (CEvent Msg)) (sb : Sub) : String × Sub :=
  let got := evs.filterMap (collForward cfg eqv sb.opts)
  match sb.pid with
  | none =>
    -- a held consumer receives nothing; its forwarder keeps what it was handed
    if sb.held then (s!"{sb.name}=[]", { sb with handC := sb.handC ++ got })
    else (s!"{sb.name}={showList (got.map showCEvent)}", sb)
  | some id =>
    if sb.ended then (s!"{sb.name}=[]$", sb)
    else
      let r := pullIDLoop id got
      (s!"{sb.name}={showList (r.1.map showVDeliv)}" ++ (if r.2 then "$" else ""), { sb with ended := r.2 })

/-- what the live subscriptions receive of the bus events of one collection write -/
def deliverC (cfg : FCfg) (eqv : Eqv Msg) (subs : List Sub) (evs : List (CEvent Msg)) : String :=
  " ".intercalate (subs.map (fun sb => (deliverSubC cfg eqv evs sb).1))

/-- one subscription's share of the bus events of one value write (updates `Value.Pull`'s `last`) -/
def deliverSubV (cfg : FCfg) (eqv : Eqv Msg) (evs : List (VEvent Msg)) (sb : Sub) : String × Sub :=
  let r := evs.foldl (fun (acc : List (VDeliv Msg) × Option Msg) e =>
    match valForward cfg eqv sb.opts acc.2 e with
    | (some d, l) => (acc.1 ++ [d], l)
    | (none, l) => (acc.1, l)) ([], sb.last)
  (s!"{sb.name}={showList (r.1.map showVDeliv)}", { sb with last := r.2 })

/-- one bus event through the forwarding loop of `Value.Pull`, accumulating what is sent on -/
def fwdStep (cfg : FCfg) (eqv : Eqv Msg) (o : SubOpts Mask) (acc : List (VDeliv Msg) × Option Msg) (e : VEvent Msg) :
    List (VDeliv Msg) × Option Msg :=
  match valForward cfg eqv o acc.2 e with
  | (some d, l) => (acc.1 ++ [d], l)
  | (none, l) => (acc.1, l)

/-- `l.send` under the deadline of `Value.set`, for one subscription: a held one whose forwarder already
holds a change does not take another (`none`); a held one with a free forwarder takes it (and keeps it);
any other forwards to its consumer -/
def tryV (cfg : FCfg) (eqv : Eqv Msg) (evs : List (VEvent Msg)) (sb : Sub) : Option Sub :=
  let r := evs.foldl (fwdStep cfg eqv sb.opts) ([], sb.last)
  if sb.held then
    if sb.hand.isEmpty then some { sb with last := r.2, hand := r.1, out := [] } else none
  else some { sb with last := r.2, out := r.1 }

def clearOut (ls : List (Lsn String Sub)) : List (Lsn String Sub) :=
  ls.map (fun l => { l with st := { l.st with out := [] } })

def showOut (subs : List Sub) : String :=
  " ".intercalate (subs.map (fun sb => s!"{sb.name}={showList (sb.out.map showVDeliv)}"))

def deliverV (cfg : FCfg) (eqv : Eqv Msg) (subs : List Sub) (evs : List (VEvent Msg)) : String :=
  " ".intercalate (subs.map (fun sb => (deliverSubV cfg eqv evs sb).1))

/-- the bus side of a write: no event, no `Send` (whatever else happens, happens on an idle bus); else
one `Bus.Send` with `sched` happening while it delivers -/
def publish {ε : Type} (d : List ε → Sub → Sub) (ls : List (Lsn String Sub)) (evs : List ε)
    (sched : List (Act String Sub)) : List (Lsn String Sub) :=
  if evs.isEmpty then sched.foldl idle ls else send (d evs) ls sched

def dC (cfg : FCfg) (eqv : Eqv Msg) (evs : List (CEvent Msg)) (sb : Sub) : Sub := (deliverSubC cfg eqv evs sb).2
def dV (cfg : FCfg) (eqv : Eqv Msg) (evs : List (VEvent Msg)) (sb : Sub) : Sub := (deliverSubV cfg eqv evs sb).2

def raceKeys : List String := ["w", "sname", "srm", "suo"]

def raceSubOpts? (kv : KV) : Option (SubOpts Mask) := do
  let rm ← optKey kv "srm" parseMask?
  pure { readMask := rm, updatesOnly := kvHas kv "suo" }

inductive RaceKind | a | b | c
  deriving DecidableEq

/-- `racea` / `raceb` / `racec`: a subscriber opens while write `w` is in flight.
`racea`: the subscriber is held between its snapshot and its bus registration while the write runs;
a write that commits cannot proceed (the subscriber holds the read lock), so the subscribe step comes
first (`blocked=true`); a write that does not commit, or an updates-only subscriber (takes no lock and
registers only when released), lets the write finish first.
`raceb`: the write is held between commit and publication (Update/Add/Set have such a point) while
the subscriber opens: the seed has the write, its event arrives afterwards (`parked=true`).
`racec`: the write is held inside `Bus.Send`, after the snapshot of the listeners (`parked=true` iff it
announces an event), while the subscriber opens: the seed has the write, the new listener is not in
the snapshot (nothing of this write is delivered to it) but must survive the `collect` at the end of
that `Send`.  A Delete publishes under the resource lock, so a subscriber that wants a seed waits for
it (`blocked=true`) and registers right after. -/
def handleRace (st : DrvState) (rk : RaceKind) (kv : KV) : Option (DrvState × String) := do
  let w ← kvGet kv "w"
  let name ← kvGet kv "sname"
  let so ← raceSubOpts? kv
  let kvW := kv.filter (fun p => !(raceKeys.contains p.1))
  let wr ← parseWriteReq? kvW
  let flag (b : Bool) (blocked : Bool) : String := match rk with
    | .a => s!"blocked={b}"
    | .b => s!"parked={b}"
    | .c => s!"parked={b} blocked={blocked}"
  match st.res with
  | .coll cfg s =>
    let id ← kvGet kv "id"
    let r ← (match w with
      | "upd" => (kvGet kv "msg").bind parseMsg? |>.map (fun m => Coll.update cfg s id m wr)
      | "add" => (kvGet kv "msg").bind parseMsg? |>.map (fun m => Coll.add cfg s id m wr)
      | "del" => some (Coll.delete cfg s id wr)
      | _ => none)
    let (o, s') := r
    let commits := !o.events.isEmpty
    let subFirst := rk == .a && commits && !so.updatesOnly
    let subBetween := rk == .b && commits && (w == "upd" || w == "add")
    let newSub : Sub := { name := name, opts := so, last := none }
    let head := s!"val={showOptMsg o.val} err={showErr o.err} | "
    let old := deliverC cfg st.eqv (live st.subs) o.events
    let oldS := if (live st.subs).isEmpty then "" else old ++ " "
    if subFirst || subBetween then
      -- the new listener is registered before the `Send` takes its snapshot
      let ls := register st.subs name newSub
      pure ({ st with res := .coll cfg s', subs := publish (dC cfg st.eqv) ls o.events [] },
            flag true false ++ s!" seed={showList ((collSeed cfg (if subFirst then s else s') so).map showCEvent)} " ++ head ++
            deliverC cfg st.eqv (live ls) o.events)
    else if rk == .c && commits then
      -- the new listener registers while the `Send` is in flight, after its snapshot
      pure ({ st with res := .coll cfg s', subs := publish (dC cfg st.eqv) st.subs o.events [mkSub newSub] },
            flag true (w == "del" && !so.updatesOnly) ++ s!" seed={showList ((collSeed cfg s' so).map showCEvent)} " ++ head ++
            oldS ++ s!"{name}=[]")
    else
      pure ({ st with res := .coll cfg s', subs := register (publish (dC cfg st.eqv) st.subs o.events []) name newSub },
            flag false false ++ s!" seed={showList ((collSeed cfg s' so).map showCEvent)} " ++ head ++
            oldS ++ s!"{name}=[]")
  | .val cfg s =>
    if w != "vset" then none
    let m ← (kvGet kv "msg").bind parseMsg?
    let (o, s') := Value.set cfg s m wr
    let commits := !o.events.isEmpty
    let subFirst := rk == .a && commits && !so.updatesOnly
    let subBetween := rk == .b && commits
    let head := s!"val={showOptMsg o.val} err={showErr o.err} | "
    let old := deliverV cfg st.eqv (live st.subs) o.events
    let oldS := if (live st.subs).isEmpty then "" else old ++ " "
    if subFirst || subBetween then
      let sd := valSeed cfg (if subFirst then s else s') so
      let newSub : Sub := { name := name, opts := so, last := sd.2 }
      let ls := register st.subs name newSub
      pure ({ st with res := .val cfg s', subs := publish (dV cfg st.eqv) ls o.events [] },
            flag true false ++ s!" seed={showList (sd.1.map showVDeliv)} " ++ head ++ deliverV cfg st.eqv (live ls) o.events)
    else
      let sd := valSeed cfg s' so
      let newSub : Sub := { name := name, opts := so, last := sd.2 }
      let subs' := if rk == .c && commits then publish (dV cfg st.eqv) st.subs o.events [mkSub newSub]
        else register (publish (dV cfg st.eqv) st.subs o.events []) name newSub
      pure ({ st with res := .val cfg s', subs := subs' },
            flag (rk == .c && commits) false ++ s!" seed={showList (sd.1.map showVDeliv)} " ++ head ++
            oldS ++ s!"{name}=[]")
  | .none => none

/-- `racee`: the write is held inside `Bus.Send`, after the snapshot of the listeners, while the
subscription `cname` (in the snapshot) is cancelled: `Bus.Send` with the schedule `[cancel cname]`.  A
write that announces nothing never reaches the bus (`parked=false`): the cancel happens on an idle
bus.  Printed: what the subscriptions still open receive. -/
def handleRaceE (st : DrvState) (kv : KV) : Option (DrvState × String) := do
  let w ← kvGet kv "w"
  let cname ← kvGet kv "cname"
  let kvW := kv.filter (fun p => !(["w", "cname"].contains p.1))
  let wr ← parseWriteReq? kvW
  let sched : List (Act String Sub) := [.cancel cname]
  match st.res with
  | .coll cfg s =>
    let id ← kvGet kv "id"
    let r ← (match w with
      | "upd" => (kvGet kv "msg").bind parseMsg? |>.map (fun m => Coll.update cfg s id m wr)
      | "add" => (kvGet kv "msg").bind parseMsg? |>.map (fun m => Coll.add cfg s id m wr)
      | "del" => some (Coll.delete cfg s id wr)
      | _ => none)
    let (o, s') := r
    pure ({ st with res := .coll cfg s', subs := publish (dC cfg st.eqv) st.subs o.events sched },
          s!"parked={!o.events.isEmpty} val={showOptMsg o.val} err={showErr o.err} | " ++
          deliverC cfg st.eqv (live (markDead cname st.subs)) o.events)
  | .val cfg s =>
    if w != "vset" then none
    let m ← (kvGet kv "msg").bind parseMsg?
    let (o, s') := Value.set cfg s m wr
    pure ({ st with res := .val cfg s', subs := publish (dV cfg st.eqv) st.subs o.events sched },
          s!"parked={!o.events.isEmpty} val={showOptMsg o.val} err={showErr o.err} | " ++
          deliverV cfg st.eqv (live (markDead cname st.subs)) o.events)
  | .none => none

/-- `Collection.Update` / `Delete` announce with `context.TODO()`: no deadline.  A write that announces
something while the forwarder of a held consumer is still holding a change waits until that consumer
receives again - on its own it never returns -/
def collBlocked (st : DrvState) {ε : Type} (evs : List ε) : Bool :=
  !evs.isEmpty && (live st.subs).any (fun sb => sb.held && !sb.handC.isEmpty)

def handleBase (st : DrvState) (toks : List String) : Option (DrvState × String) :=
  match toks with
  | [] => none
  | op :: rest => do
    let kv ← parseKV rest
    match op, st.res with
    | "racea", _ => handleRace st .a kv
    | "raceb", _ => handleRace st .b kv
    | "racec", _ => handleRace st .c kv
    | "racee", _ => handleRaceE st kv
    | "raced", .coll cfg s =>
      -- a Delete is held right after its first read (coll.delete.afterRead) while another write of the
      -- writer runs to completion; then the Delete goes on with its now possibly stale read
      let id ← kvGet kv "id"
      let u ← kvGet kv "u"
      let uid ← kvGet kv "uid"
      let ukv : KV := kv.filterMap (fun p =>
        if p.1 == "ucia" then some ("cia", p.2) else if p.1 == "uwt" then some ("wt", p.2) else none)
      let uwr ← parseWriteReq? ukv
      let wr ← parseWriteReq? (kv.filter (fun p => !(["u", "uid", "umsg", "ucia", "uwt"].contains p.1)))
      let stale := lookup s.items (icptId cfg id)
      let r1 ← (match u with
        | "upd" => (kvGet kv "umsg").bind parseMsg? |>.map (fun m => Coll.update cfg s uid m uwr)
        | "add" => (kvGet kv "umsg").bind parseMsg? |>.map (fun m => Coll.add cfg s uid m uwr)
        | "del" => some (Coll.delete cfg s uid uwr)
        | _ => none)
      let (o1, s1) := r1
      let subs1 := publish (dC cfg st.eqv) st.subs o1.events []
      let (o2, s2) := deleteLoop cfg wr (icptId cfg id) 5 stale s1
      pure ({ st with res := .coll cfg s2, subs := publish (dC cfg st.eqv) subs1 o2.events [] },
            s!"uval={showOptMsg o1.val} uerr={showErr o1.err} | " ++ deliverC cfg st.eqv (live st.subs) o1.events ++
            s!" || val={showOptMsg o2.val} err={showErr o2.err} | " ++ deliverC cfg st.eqv (live subs1) o2.events)
    | "racef", _ =>
      -- two Pulls whose `Bus.Listen` calls overlap (both held at bus.listen.beforeRegister, released in
      -- `order`): `Listen` appends under the bus's write lock, so both are registered, in release order
      let n1 ← kvGet kv "sname"
      let n2 ← kvGet kv "tname"
      let o1 ← raceSubOpts? kv
      let rm2 ← optKey kv "trm" parseMask?
      let o2 : SubOpts Mask := { readMask := rm2, updatesOnly := kvHas kv "tuo" }
      let order ← kvGet kv "order"
      if order != "12" && order != "21" then none
      let mk : String → SubOpts Mask → Option (Sub × String) := fun n o =>
        match st.res with
        | .coll cfg s => some ({ name := n, opts := o, last := none }, showList ((collSeed cfg s o).map showCEvent))
        | .val cfg s => let sd := valSeed cfg s o
                        some ({ name := n, opts := o, last := sd.2 }, showList (sd.1.map showVDeliv))
        | .none => none
      let (sb1, seed1) ← mk n1 o1
      let (sb2, seed2) ← mk n2 o2
      let subs' := if order == "12" then register (register st.subs n1 sb1) n2 sb2
                   else register (register st.subs n2 sb2) n1 sb1
      pure ({ st with subs := subs' }, s!"seed={seed1} seed2={seed2}")
    | "hold", .val _ _ =>
      let name ← kvGet kv "name"
      if !(live st.subs).any (fun sb => sb.name == name) then none
      pure ({ st with subs := st.subs.map (fun l => if l.id == name && l.alive then { l with st := { l.st with held := true } } else l) }, "ok")
    | "resume", .val _ _ =>
      let name ← kvGet kv "name"
      let sb ← (live st.subs).find? (fun sb => sb.name == name)
      pure ({ st with subs := st.subs.map (fun l => if l.id == name && l.alive then { l with st := { l.st with held := false, hand := [] } } else l) },
            s!"{name}={showList (sb.hand.map showVDeliv)}")
    | "hold", .coll _ _ =>
      let name ← kvGet kv "name"
      if !(live st.subs).any (fun sb => sb.name == name && sb.pid.isNone) then none
      pure ({ st with subs := st.subs.map (fun l => if l.id == name && l.alive then { l with st := { l.st with held := true } } else l) }, "ok")
    | "resume", .coll _ _ =>
      let name ← kvGet kv "name"
      let sb ← (live st.subs).find? (fun sb => sb.name == name)
      pure ({ st with subs := st.subs.map (fun l => if l.id == name && l.alive then { l with st := { l.st with held := false, handC := [] } } else l) },
            s!"{name}={showList (sb.handC.map showCEvent)}")
    | "newc", _ =>
      let cfg ← parseCfg? kv
      let rng ← parseRng? ((kvGet kv "rng").getD "")
      let init ← parseInit? ((kvGet kv "init").getD "")
      let eqv ← parseEqvList? kv
      -- `NewCollection` keeps an initial record under the id interceptor's image of its id (fix 215ba16)
      pure ({ res := .coll cfg (Coll.init cfg (init.map (fun kv => (icptId cfg kv.1, kv.2))) rng), eqv := eqv, subs := [] }, "ok")
    | "newv", _ =>
      let cfg ← parseCfg? kv
      let init ← optKey kv "init" parseMsg?
      let eqv ← parseEqvList? kv
      pure ({ res := .val cfg (Value.init cfg init), eqv := eqv, subs := [] }, "ok")
    | "sub", .coll cfg s =>
      let name ← kvGet kv "name"
      let o ← parseSubOpts? kv
      pure ({ st with subs := register st.subs name { name := name, opts := o, last := none } },
            "seed=" ++ showList ((collSeed cfg s o).map showCEvent))
    | "subid", .coll cfg s =>
      let name ← kvGet kv "name"
      let id ← kvGet kv "id"
      let o ← parseSubOpts? kv
      let r := pullIDLoop (icptId cfg id) (collSeed cfg s o)
      pure ({ st with subs := register st.subs name { name := name, opts := o, last := none, pid := some (icptId cfg id), ended := r.2 } },
            "seed=" ++ showList (r.1.map showVDeliv))
    | "sub", .val cfg s =>
      let name ← kvGet kv "name"
      let o ← parseSubOpts? kv
      let sd := valSeed cfg s o
      pure ({ st with subs := register st.subs name { name := name, opts := o, last := sd.2 } },
            "seed=" ++ showList (sd.1.map showVDeliv))
    | "unsub", _ =>
      -- the context is cancelled; the listener stays registered until a `Send` collects it
      let name ← kvGet kv "name"
      pure ({ st with subs := markDead name st.subs }, "ok")
    | "upd", .coll cfg s =>
      let id ← kvGet kv "id"
      let msg ← (kvGet kv "msg").bind parseMsg?
      let wr ← parseWriteReq? kv
      let (o, s') := Coll.update cfg s id msg wr
      if collBlocked st o.events then none
      pure ({ st with res := .coll cfg s', subs := publish (dC cfg st.eqv) st.subs o.events [] },
            s!"val={showOptMsg o.val} err={showErr o.err} | " ++ deliverC cfg st.eqv (live st.subs) o.events)
    | "add", .coll cfg s =>
      let id ← kvGet kv "id"
      let msg ← (kvGet kv "msg").bind parseMsg?
      let wr ← parseWriteReq? kv
      let (o, s') := Coll.add cfg s id msg wr
      if collBlocked st o.events then none
      pure ({ st with res := .coll cfg s', subs := publish (dC cfg st.eqv) st.subs o.events [] },
            s!"val={showOptMsg o.val} err={showErr o.err} | " ++ deliverC cfg st.eqv (live st.subs) o.events)
    | "del", .coll cfg s =>
      let id ← kvGet kv "id"
      let wr ← parseWriteReq? kv
      let (o, s') := Coll.delete cfg s id wr
      if collBlocked st o.events then none
      pure ({ st with res := .coll cfg s', subs := publish (dC cfg st.eqv) st.subs o.events [] },
            s!"val={showOptMsg o.val} err={showErr o.err} | " ++ deliverC cfg st.eqv (live st.subs) o.events)
    | "vset", .val cfg s =>
      let msg ← (kvGet kv "msg").bind parseMsg?
      let wr ← parseWriteReq? kv
      let (o, s') := Value.set cfg s msg wr
      if (live st.subs).any (·.held) && !o.events.isEmpty then
        -- a consumer is not receiving: `Bus.Send` under the 5 s deadline of `Value.set`
        let r := sendDl (tryV cfg st.eqv o.events) (clearOut st.subs)
        let head := if r.2 then s!"val={showOptMsg o.val} err={showErr o.err} | " else "val=nil err=Unknown | "
        pure ({ st with res := .val cfg s', subs := r.1 }, head ++ showOut (live r.1))
      else
      pure ({ st with res := .val cfg s', subs := publish (dV cfg st.eqv) st.subs o.events [] },
            s!"val={showOptMsg o.val} err={showErr o.err} | " ++ deliverV cfg st.eqv (live st.subs) o.events)
    | _, _ => none

/-- a waste record as the driver sees it: (id, area) -/
abbrev WRec := String × String

def parseWRec? (s : String) : Option WRec :=
  match s.splitOn ":" with
  | [i, a] => some (i, a)
  | _ => none

def parseWRecs? (s : String) : Option (List WRec) :=
  if s = "" then some [] else (s.splitOn ",").mapM parseWRec?

def showWRec (r : WRec) : String := r.1 ++ ":" ++ r.2

/-- the read mask of a `PullWasteRecordsRequest` on the two fields the driver carries -/
def wProj (rm : Option String) (r : WRec) : WRec :=
  match rm with
  | some "id" => (r.1, "")
  | some "area" => ("", r.2)
  | _ => r

/-- `waste [hist=<id:area,…>] val=<id:area> [later=<id:area,…>] [rm=<id|area>] [uo]` (stateless): the stream of a
`PullWasteRecords` opened on the wastepb model whose history is `hist` and whose value is `val`, the bus
handing it `later` afterwards (`WasteModel.lean`, `wasteStream`).

`stallw w=<upd|add|del> rname=<k> …(the write's keys)`: the write is started while the forwarder of
the held subscription `rname` is full, so its `Send` waits at that listener (no deadline); then the
consumer of `rname` receives again: it is given what its forwarder held, the forwarder takes the write's
change and the `Send` goes on to the later listeners.  Observably: `resume rname`, then the write on a
bus where nobody is stalled.  Answer: `<resume answer> || <write answer>`. -/
def handleOpt (st : DrvState) (toks : List String) : Option (DrvState × String) :=
  match toks with
  | "waste" :: rest => do
    let kv ← parseKV rest
    let hist ← parseWRecs? ((kvGet kv "hist").getD "")
    let val ← parseWRec? ((kvGet kv "val").getD ":")
    let later ← parseWRecs? ((kvGet kv "later").getD "")
    let rm := kvGet kv "rm"
    if !(rm == none || rm == some "id" || rm == some "area") then none
    pure (st, "stream=" ++ showList ((wasteStream (wProj rm) (kvHas kv "uo") ⟨hist, val⟩ later).map showWRec))
  | "stallw" :: rest => do
    let kv ← parseKV rest
    let w ← kvGet kv "w"
    let rname ← kvGet kv "rname"
    if !(w == "upd" || w == "add" || w == "del") then none
    let (st1, a1) ← handleBase st ["resume", s!"name={rname}"]
    let keep := rest.filter (fun t => !(t.startsWith "w=" || t.startsWith "rname=" || (w == "del" && t.startsWith "msg=")))
    let (st2, a2) ← handleBase st1 (w :: keep)
    pure (st2, s!"{a1} || {a2}")
  | _ => handleBase st toks

def handleS (st : DrvState) (toks : List String) : DrvState × String :=
  match handleOpt st toks with
  | some r => r
  | none => (st, "!bad-op")

end ScVerif.C04
