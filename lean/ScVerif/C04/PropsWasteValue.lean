import ScVerif.C04.Lemmas
import ScVerif.C04.WasteModel
/-!
# C04 at trait level — `wasteStream` composed from the modelled `Value.Pull`

`WasteModel.lean` writes the `Value.Pull` part of a `PullWasteRecords` stream as `[proj val] ++ later.map proj`.
Here that shorthand is the model of the code: the history window, then the VALUES of `valStream` on the model's `Value`
without an equivalence (`wastepb.NewModel` configures none), is `wasteStream` with the read-mask filter as projection
and the values of the bus events of ANY later sequence of `Value` operations as `later`.
-/
namespace ScVerif.C04
open ScVerif.C01

variable {M K R : Type}

/-- The handler of `PullWasteRecords` over the modelled `Value.Pull` is `wasteStream`: `hist` is `allWasteRecords`, `s` the
state of `lastWasteRecord`, which holds a record (`hv`: `NewModel` gives it an initial value), `ops` any later calls on it. -/
theorem C04_waste_value_composition (cfg : Cfg M K R) (o : SubOpts K) (s : VState M) (v : M)
    (hv : s.value = some v) (hist : List M) (ops : List (VOp M K)) :
    (if o.updatesOnly then [] else (wasteWindow hist).map (cfg.ops.filter o.readMask))
        ++ (valStream cfg none o s ops).map (·.value)
      = wasteStream (cfg.ops.filter o.readMask) o.updatesOnly ⟨hist, v⟩
          ((vBusEvents cfg s ops).map (·.value)) := by
  cases hu : o.updatesOnly with
  | true => simp [valStream, valSeed, hu, wasteStream, forwardAll_none, Function.comp_def]
  | false => simp [valStream, valSeed, hu, hv, wasteStream, forwardAll_none, Function.comp_def]

/-- with an equivalence on the model's `Value` (an option a caller of `NewModel` may pass) the stream is a
sublist of that one: records may be suppressed, none is added or reordered -/
theorem C04_waste_value_composition_equivalence (cfg : Cfg M K R) (eqv : Eqv M) (o : SubOpts K)
    (last : Option M) (evs : List (VEvent M)) :
    ((forwardAll cfg eqv o last evs).map (·.value)).Sublist
      (evs.map (fun e => cfg.ops.filter o.readMask e.value)) := by
  induction evs generalizing last with
  | nil => simp [forwardAll]
  | cons e es ih =>
    rcases forwardAll_cons_cases cfg eqv o last e es with ⟨_, _, _, h⟩ | ⟨_, h⟩ <;> rw [h, List.map_cons]
    · exact (ih _).cons _
    · exact (ih _).cons_cons _

/-- non-vacuity of `hv`: a `Value` holding a record (`NewModel` gives it an initial value) -/
example : ({ value := some 1, changeTime := 0, clock := 0 } : VState Nat).value = some 1 := rfl

end ScVerif.C04
