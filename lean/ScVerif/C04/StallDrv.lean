import ScVerif.C04.Drv
import ScVerif.C04.StallSession
/-!
# C04 — the driver's `tryV` is the session model's `tryH`

The driver (`Drv.lean`) keeps a subscription as a `Sub` (no history: what a consumer receives of one
write is printed and forgotten, `out`); the theorems of `PropsStall.lean` are about `HSt` (with the
whole stream and ghost fields).  Both go through the same `sendDl`; this file shows that their
per-listener steps agree, so the answers the harness compares with the real code are those of the
model the theorems are about.
-/
namespace ScVerif.C04
open ScVerif.C01

theorem foldl_forward (cfg : FCfg) (eqv : Eqv Msg) (o : SubOpts Mask) (evs : List (VEvent Msg)) :
    ∀ (acc : List (VDeliv Msg)) (last : Option Msg),
      evs.foldl (fwdStep cfg eqv o) (acc, last) =
      (acc ++ forwardAll cfg eqv o last evs, forwardLast cfg eqv o last evs) := by
  induction evs with
  | nil => intro acc last; simp [forwardAll, forwardLast]
  | cons e es ih =>
    intro acc last
    simp only [List.foldl_cons, forwardAll_cons, forwardLast, fwdStep]
    rcases valForward cfg eqv o last e with ⟨d, l⟩
    cases d <;> simp [ih]

theorem tryV_refines_tryH (cfg : FCfg) (eqv : Eqv Msg) (evs : List (VEvent Msg)) (sb : Sub) (h : HSt Msg Mask)
    (ho : h.opts = sb.opts) (hl : h.last = sb.last) (hh : h.held = sb.held) (hd : h.hand = sb.hand) :
    match tryV cfg eqv evs sb, tryH cfg eqv evs h with
    | none, none => True
    | some sb', some h' => h'.opts = sb'.opts ∧ h'.last = sb'.last ∧ h'.held = sb'.held ∧ h'.hand = sb'.hand ∧
        h'.got = h.got ++ sb'.out ∧ h'.seen = h.seen ++ evs
    | _, _ => False := by
  unfold tryV tryH
  simp only [foldl_forward, List.nil_append, ho, hl, hh, hd]
  cases sb.held <;> cases hE : sb.hand.isEmpty <;> simp

end ScVerif.C04
