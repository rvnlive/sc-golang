import ScVerif.C04.Drv
import ScVerif.C04.StallWait
/-!
# C04 — the driver's Collection subscriptions as listeners of the no-deadline `Send`

`tryC`: what `l.send` does at a driver subscription when a Collection write announces `evs`: a held
subscription whose forwarder already holds a change does not take another (`none`: the writer waits);
any other is handed the change (`dC`: a held one with a free forwarder keeps it in `handC`).  `wakeC`:
its consumer receives again (the driver's `resume`).  The hypotheses of
`C04_waiting_send_serves_everyone` / `C04_waiting_send_is_resume_then_send` hold for them on EVERY
listener list, so the driver's answer to `stallw` (resume, then `publish` = the bus model's `send`) is
the outcome of the waiting Send the theorems are about.
-/
namespace ScVerif.C04
open ScVerif.C01

def tryC (cfg : FCfg) (eqv : Eqv Msg) (evs : List (CEvent Msg)) (sb : Sub) : Option Sub :=
  if sb.held && !sb.handC.isEmpty then none else some (dC cfg eqv evs sb)

def wakeC (sb : Sub) : Sub := { sb with held := false, handC := [] }

/-- waking makes `tryC` succeed whatever it did before; the premise only gives the lemma the shape of `hw` -/
theorem tryC_wake (cfg : FCfg) (eqv : Eqv Msg) (evs : List (CEvent Msg)) (sb : Sub) :
    tryC cfg eqv evs sb = none → (tryC cfg eqv evs (wakeC sb)).isSome = true := by
  intro _; simp [tryC, wakeC]

theorem tryC_resumed (cfg : FCfg) (eqv : Eqv Msg) (evs : List (CEvent Msg)) (ls : List (Lsn String Sub)) :
    ∀ l ∈ resumeStalled (tryC cfg eqv evs) wakeC ls, l.alive = true →
      tryC cfg eqv evs l.st = some (dC cfg eqv evs l.st) := by
  intro l hl ha
  have hs := (stalledAt_eq_false_iff _ l).mp
    (resumeStalled_none_stalled (tryC cfg eqv evs) wakeC (tryC_wake cfg eqv evs) ls l hl) ha
  unfold tryC at hs ⊢
  split
  · -- held with a full hand would be stalled, and after `resumeStalled` nobody is
    rename_i hc
    rw [if_pos hc] at hs
    cases hs
  · rfl

theorem collBlocked_iff (st : DrvState) (cfg : FCfg) (evs : List (CEvent Msg)) (hne : evs ≠ []) :
    collBlocked st evs = true ↔ ∃ l ∈ st.subs, stalledAt (tryC cfg st.eqv evs) l = true := by
  simp only [collBlocked, live, List.any_map, List.any_filter, Bool.and_eq_true, Bool.not_eq_true',
    List.isEmpty_eq_false_iff, ne_eq, hne, not_false_eq_true, true_and, List.any_eq_true, stalledAt, tryC,
    Function.comp]
  constructor
  · rintro ⟨l, hl, ha, hh, hc⟩
    exact ⟨l, hl, ha, by simp [hh, hc]⟩
  · rintro ⟨l, hl, ha, hs⟩
    refine ⟨l, hl, ha, ?_⟩
    simpa using hs

theorem driver_waiting_send (cfg : FCfg) (eqv : Eqv Msg) (evs : List (CEvent Msg)) (ls : List (Lsn String Sub))
    (hn : (ls.map (·.id)).Nodup) :
    ∃ r, sendWaitLoop (tryC cfg eqv evs) wakeC ls = some r ∧
      view r = view (send (dC cfg eqv evs) (resumeStalled (tryC cfg eqv evs) wakeC ls) []) :=
  waiting_send_view (tryC cfg eqv evs) wakeC (dC cfg eqv evs) (tryC_wake cfg eqv evs) ls hn
    (tryC_resumed cfg eqv evs ls)

end ScVerif.C04
