import ScVerif.C04.Masked
import ScVerif.C04.Props
/-!
# C04 — property theorem: read mask × old value (the REMOVE of a `Delete` included)

"each event carries the right … new value and old value (equal to the previous new value for that id)"
under the subscription option *read mask*: the subscriber never sees the stored messages, only their
projections, so "previous new value" means the projection it was given.  `CollectionChange.filter`
projects BOTH values of a change; a REMOVE has no new value (`FilterClone(nil) = nil`), and its old
value must still be projected — deciding "nothing to do" from the new value alone would hand the
subscriber the whole stored message.
-/
namespace ScVerif.C04
open ScVerif.C01
variable {M K R : Type}

/-- The stream of a subscriber with a read mask is an exact edit script of its masked view:
(1) folding the seed onto the empty view yields the masked contents at subscription time;
(2) without an equivalence, the events after the seed replay the masked contents at subscription time to the masked
contents at the end — every event, REMOVE included, is an edit of the masked view built by its predecessors;
(3) so the whole stream folds to the masked contents at the end;
(4) with an equivalence the subscriber is sent a sublist of those events (which ones: `C04_suppression_iff_equiv`). -/
theorem C04_masked_edit_script (cfg : Cfg M K R) (h : EqRefl cfg.ops) (eqv : Eqv M) (o : SubOpts K)
    (s : CState M R) (ops : List (COp M K)) (hn : NodupKeys s.items) :
    (o.updatesOnly = false →
      (collSeed cfg s o).foldl applyEv (fun _ => none) = mview cfg.ops o.readMask (contents s)) ∧
    Replay (mview cfg.ops o.readMask (contents s)) ((busEvents cfg s ops).filterMap (collForward cfg none o))
      (mview cfg.ops o.readMask (contents (Coll.run cfg s ops).2)) ∧
    (o.updatesOnly = false →
      (collStream cfg none o s ops).foldl applyEv (fun _ => none) =
        mview cfg.ops o.readMask (contents (Coll.run cfg s ops).2)) ∧
    ((busEvents cfg s ops).filterMap (collForward cfg eqv o)).Sublist
      ((busEvents cfg s ops).filterMap (collForward cfg none o)) := by
  have hseed : o.updatesOnly = false →
      (collSeed cfg s o).foldl applyEv (fun _ => none) = mview cfg.ops o.readMask (contents s) := by
    intro hu
    obtain ⟨_, hids, hmem, _⟩ := (C04_seed cfg s o hn).2 hu
    funext k
    rw [fold_applyEv_agree (mview cfg.ops o.readMask (contents s))]
    · split
      · rfl
      · rename_i hk
        have : (lookup s.items k).isSome = false := by
          cases hl : (lookup s.items k).isSome with
          | false => rfl
          | true => exact absurd ((hids k).mpr hl) hk
        simp only [mview, contents, filterOpt]
        cases hl : lookup s.items k with
        | none => rfl
        | some it => simp [hl] at this
    · intro e he
      obtain ⟨it, h1, _, _, _, h5, _⟩ := hmem e he
      simp [mview, contents, filterOpt, h1, h5]
  have hrep : Replay (mview cfg.ops o.readMask (contents s)) ((busEvents cfg s ops).filterMap (collForward cfg none o))
      (mview cfg.ops o.readMask (contents (Coll.run cfg s ops).2)) := by
    rw [forward_none_eq_map]
    exact replay_mask cfg.ops o.readMask (run_replay cfg h ops s)
  refine ⟨hseed, hrep, ?_, forward_sublist cfg eqv o _⟩
  intro hu
  simp only [collStream, List.foldl_append, hseed hu]
  exact replay_fold hrep

def mkCfg : Cfg Msg Mask (List Nat) := { ops := flatOps, gen := flatGen }

def mkInit : CState Msg (List Nat) := Coll.init mkCfg [("a", { a := 1, s := "x", c := some 3 })] []

/-- the hypothesis holds on every initial state -/
example : NodupKeys mkInit.items := nodupKeys_init mkCfg _ []

/-- update, delete, re-add, delete under read mask {a}: both REMOVE events carry the MASKED old value
(`s`, `c` hidden), equal to the new value delivered before -/
example : (collStream mkCfg none { readMask := some [.a] } mkInit
      [.update "a" { a := 2, s := "y", c := some 4 } {}, .delete "a" {},
       .add "a" { a := 5, s := "z", c := none } {}, .delete "a" {}]).map (fun e => (e.kind, e.old, e.new)) =
    [ (.add, none, some { a := 1, s := "", c := none }),
      (.update, some { a := 1, s := "", c := none }, some { a := 2, s := "", c := none }),
      (.remove, some { a := 2, s := "", c := none }, none),
      (.add, none, some { a := 5, s := "", c := none }),
      (.remove, some { a := 5, s := "", c := none }, none) ] := by decide +kernel

/-- the statement tells the faulty filter apart: an event whose old value is left unmasked is not an
edit of the masked view (its old value is not what the view holds) -/
example : ¬ IsEdit (mview flatOps (some [.a]) (fun k => if k = "a" then some { a := 2, s := "y", c := some 4 } else none))
      (fun _ => none)
      ({ id := "a", time := 0, kind := .remove, old := some { a := 2, s := "y", c := some 4 }, new := none } : CEvent Msg) := by
  intro hed
  have := hed.old_eq
  simp [mview, filterOpt, flatOps] at this
  revert this
  decide +kernel

end ScVerif.C04
