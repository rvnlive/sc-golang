import ScVerif.C04.Stall
/-!
# C04 — `Bus.Send` WITHOUT a deadline, with a listener that does not take the event

`Collection.Update` / `Add` / `Delete` announce with `context.TODO()`: `l.send` at a listener whose
forwarder is blocked (its consumer is not receiving) has no way out but that the forwarder comes back to
its bus channel - i.e. that the consumer receives again (`wake`).  The writer waits for that; then the
listener takes the event and the loop goes on to the later listeners.  `none`: the consumer never
receives again - the write never returns.
-/
namespace ScVerif.C04

variable {ι σ : Type}

/-- the delivery loop of `Bus.Send` with no deadline; `wake` = the consumer of a stalled listener receives -/
def sendWaitLoop (try_ : σ → Option σ) (wake : σ → σ) : List (Lsn ι σ) → Option (List (Lsn ι σ))
  | [] => some []
  | l :: rest =>
    if l.alive then
      match try_ l.st with
      | some st' => (sendWaitLoop try_ wake rest).map (fun r => { l with st := st' } :: r)
      | none =>
        match try_ (wake l.st) with
        | some st' => (sendWaitLoop try_ wake rest).map (fun r => { l with st := st' } :: r)
        | none => none
    else (sendWaitLoop try_ wake rest).map (fun r => l :: r)

/-- the consumers of the listeners at which a `Send` would stall receive again -/
def resumeStalled (try_ : σ → Option σ) (wake : σ → σ) (ls : List (Lsn ι σ)) : List (Lsn ι σ) :=
  ls.map (fun l => if stalledAt try_ l then { l with st := wake l.st } else l)

theorem sendWaitLoop_eq (try_ : σ → Option σ) (wake : σ → σ)
    (hw : ∀ st, try_ st = none → (try_ (wake st)).isSome = true) (ls : List (Lsn ι σ)) :
    sendWaitLoop try_ wake ls = some ((resumeStalled try_ wake ls).map (serve try_)) := by
  induction ls with
  | nil => rfl
  | cons l ls ih =>
    cases ha : l.alive with
    | false => simp [sendWaitLoop, ha, ih, resumeStalled, stalledAt, serve]
    | true =>
      cases ht : try_ l.st with
      | some st' => simp [sendWaitLoop, ha, ht, ih, resumeStalled, stalledAt, serve]
      | none =>
        have h := hw l.st ht
        cases htw : try_ (wake l.st) with
        | none => rw [htw] at h; cases h
        | some st' => simp [sendWaitLoop, ha, ht, htw, ih, resumeStalled, stalledAt, serve]

theorem resumeStalled_none_stalled (try_ : σ → Option σ) (wake : σ → σ)
    (hw : ∀ st, try_ st = none → (try_ (wake st)).isSome = true) (ls : List (Lsn ι σ)) :
    ∀ l ∈ resumeStalled try_ wake ls, stalledAt try_ l = false := by
  intro l hl
  simp only [resumeStalled, List.mem_map] at hl
  obtain ⟨x, _, rfl⟩ := hl
  cases hs : stalledAt try_ x with
  | false => simp [hs]
  | true =>
    simp only [if_true]
    exact (stalledAt_eq_false_iff _ _).mpr fun _ => hw x.st ((stalledAt_iff try_ x).mp hs).2

/-- whatever happens at `l` (skipped, served, woken and served), the result is mapped from that of the rest -/
theorem sendWaitLoop_cons_none (try_ : σ → Option σ) (wake : σ → σ) (l : Lsn ι σ) (ls : List (Lsn ι σ))
    (h : sendWaitLoop try_ wake ls = none) : sendWaitLoop try_ wake (l :: ls) = none := by
  simp only [sendWaitLoop, h, Option.map_none]
  split
  · split
    · rfl
    · split <;> rfl
  · rfl

theorem waiting_send_view [DecidableEq ι] (try_ : σ → Option σ) (wake d : σ → σ)
    (hw : ∀ st, try_ st = none → (try_ (wake st)).isSome = true)
    (ls : List (Lsn ι σ)) (hn : (ls.map (·.id)).Nodup)
    (h : ∀ l ∈ resumeStalled try_ wake ls, l.alive = true → try_ l.st = some (d l.st)) :
    ∃ r, sendWaitLoop try_ wake ls = some r ∧ view r = view (send d (resumeStalled try_ wake ls) []) := by
  refine ⟨_, sendWaitLoop_eq try_ wake hw ls, ?_⟩
  have hids : (resumeStalled try_ wake ls).map (·.id) = ls.map (·.id) :=
    ids_map_of_id _ (fun l => by split <;> rfl) ls
  rw [view_map_serve try_ d _ h, view_send_nil d _ (hids ▸ hn)]

end ScVerif.C04
