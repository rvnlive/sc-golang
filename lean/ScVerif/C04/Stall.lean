import ScVerif.C04.StallModel
import ScVerif.C04.Bus
/-! What the deadline `Send` of `StallModel.lean` leaves: `sendDlLoop_split` (the listeners split at the first stalled
one), and its readings for `sendDl`. -/
namespace ScVerif.C04

variable {ι σ : Type}

theorem stalledAt_iff (try_ : σ → Option σ) (l : Lsn ι σ) :
    stalledAt try_ l = true ↔ l.alive = true ∧ try_ l.st = none := by
  simp [stalledAt]

theorem stalledAt_eq_false_iff (try_ : σ → Option σ) (l : Lsn ι σ) :
    stalledAt try_ l = false ↔ (l.alive = true → (try_ l.st).isSome = true) := by
  cases ha : l.alive <;> cases ht : try_ l.st <;> simp [stalledAt, ha, ht]

theorem serve_of_dead {try_ : σ → Option σ} {l : Lsn ι σ} (ha : l.alive = false) : serve try_ l = l := by
  simp [serve, ha]

theorem serve_of_some {try_ : σ → Option σ} {l : Lsn ι σ} {st' : σ} (ha : l.alive = true) (ht : try_ l.st = some st') :
    serve try_ l = { l with st := st' } := by
  simp [serve, ha, ht]

theorem sendDlLoop_cons (try_ : σ → Option σ) (l : Lsn ι σ) (ls : List (Lsn ι σ)) :
    sendDlLoop try_ (l :: ls) =
      if stalledAt try_ l then (l :: ls, false)
      else (serve try_ l :: (sendDlLoop try_ ls).1, (sendDlLoop try_ ls).2) := by
  cases ha : l.alive <;> cases ht : try_ l.st <;> simp [sendDlLoop, stalledAt, serve, ha, ht]

theorem sendDlLoop_split (try_ : σ → Option σ) (ls : List (Lsn ι σ)) :
    ∃ pre rest, ls = pre ++ rest ∧ (sendDlLoop try_ ls).1 = pre.map (serve try_) ++ rest ∧
      (∀ l ∈ pre, stalledAt try_ l = false) ∧
      ((sendDlLoop try_ ls).2 = true ↔ rest = []) ∧
      (∀ l rest', rest = l :: rest' → stalledAt try_ l = true) := by
  induction ls with
  | nil => exact ⟨[], [], rfl, rfl, by simp, by simp [sendDlLoop], by simp⟩
  | cons l ls ih =>
    obtain ⟨pre, rest, h1, h2, h3, h4, h5⟩ := ih
    rw [sendDlLoop_cons]
    cases hs : stalledAt try_ l with
    | true =>
      refine ⟨[], l :: ls, rfl, rfl, by simp, by simp, ?_⟩
      intro x r hx
      cases hx
      exact hs
    | false =>
      refine ⟨l :: pre, rest, by rw [h1]; rfl, by simp [h2], ?_, by simpa using h4, h5⟩
      intro x hx
      rcases List.mem_cons.mp hx with hx | hx
      · rw [hx]; exact hs
      · exact h3 x hx

theorem sendDlLoop_all (try_ : σ → Option σ) (ls : List (Lsn ι σ))
    (h : ∀ l ∈ ls, stalledAt try_ l = false) :
    sendDlLoop try_ ls = (ls.map (serve try_), true) := by
  obtain ⟨pre, rest, h1, h2, _, h4, h5⟩ := sendDlLoop_split try_ ls
  cases rest with
  | nil =>
    rw [List.append_nil] at h1 h2
    exact Prod.ext (by rw [h2, h1]) (h4.mpr rfl)
  | cons l rest' =>
    have := h l (by rw [h1]; exact List.mem_append_right _ List.mem_cons_self)
    rw [h5 l rest' rfl] at this
    cases this

theorem sendDl_eq (try_ : σ → Option σ) (ls : List (Lsn ι σ)) :
    sendDl try_ ls = sendDlLoop try_ ls ∨
    ((sendDlLoop try_ ls).2 = true ∧ sendDl try_ ls = (collect (sendDlLoop try_ ls).1, true)) := by
  unfold sendDl
  simp only []
  split
  · rename_i hc
    exact Or.inr ⟨(Bool.and_eq_true _ _ ▸ hc).1, rfl⟩
  · exact Or.inl rfl

theorem mem_sendDl (try_ : σ → Option σ) (ls : List (Lsn ι σ)) (l' : Lsn ι σ) (h : l' ∈ (sendDl try_ ls).1) :
    (∃ l ∈ ls, stalledAt try_ l = false ∧ l' = serve try_ l) ∨ (l' ∈ ls ∧ (sendDl try_ ls).2 = false) := by
  obtain ⟨pre, rest, h1, h2, h3, h4, _⟩ := sendDlLoop_split try_ ls
  have served : l' ∈ pre.map (serve try_) → ∃ l ∈ ls, stalledAt try_ l = false ∧ l' = serve try_ l := by
    intro hl
    obtain ⟨l, hl0, rfl⟩ := List.mem_map.mp hl
    exact ⟨l, h1 ▸ List.mem_append_left _ hl0, h3 l hl0, rfl⟩
  rcases sendDl_eq try_ ls with he | ⟨hok, he⟩ <;> rw [he] at h ⊢
  · rw [h2] at h
    rcases List.mem_append.mp h with h | h
    · exact Or.inl (served h)
    · refine Or.inr ⟨h1 ▸ List.mem_append_right _ h, ?_⟩
      cases hb : (sendDlLoop try_ ls).2 with
      | false => rfl
      | true => exact absurd (h4.mp hb) (List.ne_nil_of_mem h)
  · have := (List.mem_filter.mp (show l' ∈ List.filter (·.alive) _ from h)).1
    rw [h2, h4.mp hok, List.append_nil] at this
    exact Or.inl (served this)

theorem serve_id_alive (try_ : σ → Option σ) (l : Lsn ι σ) :
    (serve try_ l).id = l.id ∧ (serve try_ l).alive = l.alive := by
  unfold serve
  split
  · split <;> exact ⟨rfl, rfl⟩
  · exact ⟨rfl, rfl⟩

theorem view_map_serve (try_ : σ → Option σ) (d : σ → σ) (ls : List (Lsn ι σ))
    (h : ∀ l ∈ ls, l.alive = true → try_ l.st = some (d l.st)) :
    view (ls.map (serve try_)) = (view ls).map (fun p => (p.1, d p.2)) := by
  induction ls with
  | nil => rfl
  | cons l ls ih =>
    have ih' := ih (fun x hx => h x (List.mem_cons_of_mem _ hx))
    simp only [view, List.map_cons, List.filter_cons] at ih' ⊢
    cases ha : l.alive with
    | false => simp [serve_of_dead ha, ha, ih']
    | true => simp [serve_of_some ha (h l List.mem_cons_self ha), ha, ih']

end ScVerif.C04
