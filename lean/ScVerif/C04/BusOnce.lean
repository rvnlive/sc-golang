import ScVerif.C04.Bus
/-!
# C04 — a `Send` hands its event to every listener AT MOST once, cancelled ones included

`send_view_nodup` (Bus.lean) is about the listeners that are live after a `Send`.  A subscription whose
context is cancelled while the `Send` delivers (or earlier, not yet collected) is still in the snapshot:
this file proves what can have happened to it — and to every other listener still registered before the
garbage collection: it has been handed the event once or not at all, never twice; only if it was live
at the snapshot; a listener registered meanwhile has not been handed it.  Nobody dies and comes back.
-/
namespace ScVerif.C04

variable {ι σ : Type} [DecidableEq ι]

/-- the bus's list when the delivery loop of a `Send` has finished, before `collect` -/
def sendRaw (d : σ → σ) (ls : List (Lsn ι σ)) (sched : List (Act ι σ)) : List (Lsn ι σ) :=
  (finish d (sched.foldl (act d) { ls := ls, todo := ls.map (·.id), needGc := false })).ls

theorem send_sub_raw (d : σ → σ) (ls : List (Lsn ι σ)) (sched : List (Act ι σ)) :
    ∀ l ∈ send d ls sched, l ∈ sendRaw d ls sched := by
  intro l hl
  rcases send_eq d ls sched with h | h <;> rw [h] at hl
  · exact hl
  · exact (List.mem_filter.mp hl).1

/-- what may have happened to listener `l` since the snapshot `ls0` while `todo` is still to be visited -/
def Served (d : σ → σ) (ls0 : List (Lsn ι σ)) (sched : List (Act ι σ)) (todo : List ι) (l : Lsn ι σ) : Prop :=
  (∃ l0 ∈ ls0, l0.id = l.id ∧ (l.alive = true → l0.alive = true) ∧
    (l.st = l0.st ∨ (l.st = d l0.st ∧ l0.alive = true ∧ l.id ∉ todo))) ∨
  (l.id ∉ ls0.map (·.id) ∧ (Act.listen l.id l.st : Act ι σ) ∈ sched)

omit [DecidableEq ι] in
theorem served_mono (d : σ → σ) (ls0 : List (Lsn ι σ)) (sched : List (Act ι σ)) (todo todo' : List ι)
    (l : Lsn ι σ) (hsub : ∀ x, x ∈ todo' → x ∈ todo) (h : Served d ls0 sched todo l) :
    Served d ls0 sched todo' l := by
  rcases h with ⟨l0, h0, hid, hal, hst⟩ | h
  · refine Or.inl ⟨l0, h0, hid, hal, ?_⟩
    rcases hst with hst | ⟨h1, h2, h3⟩
    · exact Or.inl hst
    · exact Or.inr ⟨h1, h2, fun hx => h3 (hsub _ hx)⟩
  · exact Or.inr h

omit [DecidableEq ι] in
theorem eq_of_mem_nodup_ids : ∀ {ls : List (Lsn ι σ)}, (ls.map (·.id)).Nodup →
    ∀ {a b : Lsn ι σ}, a ∈ ls → b ∈ ls → a.id = b.id → a = b := by
  intro ls
  induction ls with
  | nil => intro _ a b ha; simp at ha
  | cons x xs ih =>
    intro hn a b ha hb hab
    simp only [List.map_cons, List.nodup_cons, List.mem_map, not_exists, not_and] at hn
    simp only [List.mem_cons] at ha hb
    rcases ha with ha | ha <;> rcases hb with hb | hb
    · rw [ha, hb]
    · subst ha; exact absurd hab.symm (hn.1 b hb)
    · subst hb; exact absurd hab (hn.1 a ha)
    · exact ih hn.2 ha hb hab

/-- every registered listener has been handed the event at most once (`Served`), and what is left to visit is
part of the snapshot -/
structure Once (d : σ → σ) (ls0 : List (Lsn ι σ)) (sched : List (Act ι σ)) (s : SendSt ι σ) : Prop where
  served : ∀ l ∈ s.ls, Served d ls0 sched s.todo l
  todo0 : ∀ i ∈ s.todo, i ∈ ls0.map (·.id)

/-- `hf`: a `Listen` step is one of the schedule's (so that `Served` can point at it) and registers an identity the
snapshot does not have (so that it is not mistaken for a listener of the snapshot) -/
theorem act_once (d : σ → σ) (ls0 : List (Lsn ι σ)) (sched : List (Act ι σ)) (s : SendSt ι σ) (a : Act ι σ)
    (hi : Inv s) (ho : Once d ls0 sched s)
    (hf : ∀ i st, a = .listen i st → a ∈ sched ∧ i ∉ ls0.map (·.id)) :
    Once d ls0 sched (act d s a) := by
  cases a with
  | visit =>
    simp only [act]
    split
    · exact ho
    · rename_i i rest htodo
      have hn := hi.todoNodup
      rw [htodo] at hn
      have hirest : i ∉ rest := (List.nodup_cons.mp hn).1
      have hsub : ∀ x, x ∈ rest → x ∈ s.todo := fun x hx => by rw [htodo]; exact List.mem_cons_of_mem _ hx
      have htodo0 : ∀ j ∈ rest, j ∈ ls0.map (·.id) := fun j hj => ho.todo0 j (hsub j hj)
      split
      · rename_i halive
        refine ⟨?_, htodo0⟩
        intro l' hl'
        simp only [deliverTo, List.mem_map] at hl'
        obtain ⟨l, hl, rfl⟩ := hl'
        have hs := ho.served l hl
        by_cases hid : l.id = i
        · rw [if_pos hid]
          rcases hs with ⟨l0, h0, hid0, hal, hst⟩ | ⟨hnot, _⟩
          · -- `l` is the listener being visited: it cannot have been served already
            have hst0 : l.st = l0.st := by
              rcases hst with hst | ⟨_, _, h3⟩
              · exact hst
              · exact absurd (by rw [htodo, hid]; exact List.mem_cons_self) h3
            have hlalive : l.alive = true := by
              simp only [isAlive, List.any_eq_true, Bool.and_eq_true, decide_eq_true_eq] at halive
              obtain ⟨l2, hl2, hid2, hal2⟩ := halive
              have : l2 = l := eq_of_mem_nodup_ids hi.nodup hl2 hl (by rw [hid2, hid])
              rw [← this]; exact hal2
            exact Or.inl ⟨l0, h0, hid0, fun _ => hal hlalive, Or.inr ⟨congrArg d hst0, hal hlalive, hid ▸ hirest⟩⟩
          · exact absurd (ho.todo0 i (by rw [htodo]; exact List.mem_cons_self)) (by rw [← hid]; exact hnot)
        · rw [if_neg hid]
          exact served_mono d ls0 sched s.todo rest l hsub hs
      · refine ⟨?_, htodo0⟩
        intro l hl
        exact served_mono d ls0 sched s.todo rest l hsub (ho.served l hl)
  | listen j st =>
    obtain ⟨hmem, hfresh⟩ := hf j st rfl
    refine ⟨?_, ho.todo0⟩
    intro l hl
    simp only [act, mem_register] at hl
    rcases hl with hl | hl
    · exact ho.served l hl
    · subst hl
      exact Or.inr ⟨hfresh, hmem⟩
  | cancel j =>
    refine ⟨?_, ho.todo0⟩
    intro l' hl'
    simp only [act, markDead, List.mem_map] at hl'
    obtain ⟨l, hl, rfl⟩ := hl'
    have hs := ho.served l hl
    by_cases hid : l.id = j
    · rw [if_pos hid]
      rcases hs with ⟨l0, h0, hid0, _, hst⟩ | hs
      · exact Or.inl ⟨l0, h0, hid0, fun h => Bool.noConfusion h, hst⟩
      · exact Or.inr hs
    · rw [if_neg hid]
      exact hs

theorem fold_once (d : σ → σ) (ls0 : List (Lsn ι σ)) (sched : List (Act ι σ)) (part : List (Act ι σ)) :
    ∀ s : SendSt ι σ, (∀ a ∈ part, a ∈ sched) → Inv s → Once d ls0 sched s →
      (∀ i, i ∈ ls0.map (·.id) → i ∈ s.ls.map (·.id)) → (s.ls.map (·.id) ++ schedIds part).Nodup →
      Inv (part.foldl (act d) s) ∧ Once d ls0 sched (part.foldl (act d) s) := by
  induction part with
  | nil => intro s _ hi ho _ _; exact ⟨hi, ho⟩
  | cons a rest ih =>
    intro s hmem hi ho hsub hn
    have hf := fresh_head hn
    refine ih _ (fun b hb => hmem b (List.mem_cons_of_mem _ hb)) (act_inv d s a hi hf)
      (act_once d ls0 sched s a hi ho ?_) ?_ (nodup_act d s a rest hn)
    · intro i st h
      exact ⟨h ▸ hmem a List.mem_cons_self, fun hm => hf i st h (hsub i hm)⟩
    · -- the bus never forgets an identity while a `Send` is in flight
      intro i hi'
      rw [ids_act]
      cases a with
      | listen j st => exact List.mem_append_left _ (hsub i hi')
      | visit => exact hsub i hi'
      | cancel j => exact hsub i hi'

theorem sendRaw_served (d : σ → σ) (ls : List (Lsn ι σ)) (sched : List (Act ι σ))
    (hn : (ls.map (·.id) ++ schedIds sched).Nodup) :
    ∀ l ∈ sendRaw d ls sched, Served d ls sched [] l := by
  have ho0 : Once d ls sched (snapshot ls) :=
    ⟨fun l hl => Or.inl ⟨l, hl, rfl, fun h => h, Or.inl rfl⟩, fun i hi => hi⟩
  obtain ⟨h1, h2⟩ := fold_once d ls sched sched _ (fun a ha => ha) (snapshot_inv ls (List.nodup_append.mp hn).1)
    ho0 (fun i hi => hi) hn
  have h3 := finish_induct d (fun s => Inv s ∧ Once d ls sched s)
    (fun s h => ⟨act_inv d s .visit h.1 (fun _ _ h => nomatch h), act_once d ls sched s .visit h.1 h.2 (fun _ _ h => nomatch h)⟩) _ ⟨h1, h2⟩
  intro l hl
  exact served_mono d ls sched _ [] l (by intro x hx; simp at hx) (h3.2.served l hl)

/-! What the sessions need to know of the bus.  Between two states of a session the bus's list changes in one of two
ways: listeners register and are cancelled while a `Send` hands an event to its snapshot (`send`), or while nothing is
sent (`idle`).  `Churn` says what either does, so that the session files reason about one relation and never look inside
a `Send`. -/

/-- `ls` has become `ls'` while `acts` happened and the live listeners were handed an event (`d`): the live
ones are those of the eager bus; identities are only appended (those `acts` registers) or dropped; every
listener of `ls'` is one of `ls` holding what it held, or that with the event handed to it once (then it was
live), or was registered by `acts` and holds what it registered with. -/
structure Churn (d : σ → σ) (acts : List (Act ι σ)) (ls ls' : List (Lsn ι σ)) : Prop where
  live : view ls' = acts.foldl eagerAct ((view ls).map (fun p => (p.1, d p.2)))
  ids : (ls'.map (·.id)).Sublist (ls.map (·.id) ++ schedIds acts)
  origin : ∀ l' ∈ ls', (∃ l ∈ ls, l'.st = l.st ∨ (l'.st = d l.st ∧ l.alive = true)) ∨
    (Act.listen l'.id l'.st : Act ι σ) ∈ acts

theorem churn_send (d : σ → σ) (ls : List (Lsn ι σ)) (acts : List (Act ι σ))
    (hn : (ls.map (·.id) ++ schedIds acts).Nodup) : Churn d acts ls (send d ls acts) := by
  refine ⟨(send_view_nodup d ls acts hn).1, ids_send_sublist d ls acts, fun l' hl' => ?_⟩
  rcases sendRaw_served d ls acts hn l' (send_sub_raw d ls acts l' hl') with ⟨l0, h0, _, _, hst⟩ | ⟨_, h⟩
  · exact Or.inl ⟨l0, h0, hst.imp id (fun h => ⟨h.1, h.2.1⟩)⟩
  · exact Or.inr h

theorem churn_idle (d : σ → σ) (hd : ∀ st, d st = st) (ls : List (Lsn ι σ)) (acts : List (Act ι σ)) :
    Churn d acts ls (acts.foldl idle ls) := by
  refine ⟨?_, (ids_fold_idle acts ls) ▸ List.Sublist.refl _, fun l' hl' => ?_⟩
  · rw [view_fold_idle]
    simp only [hd, List.map_id']
  · exact (mem_fold_idle acts ls l' hl').imp (fun ⟨l, hl, _, hst⟩ => ⟨l, hl, Or.inl hst.symm⟩) id

variable {d : σ → σ} {acts : List (Act ι σ)} {ls ls' : List (Lsn ι σ)}

theorem Churn.forall_view (h : Churn d acts ls ls') (P : σ → Prop) (hv : ∀ p ∈ view ls, P (d p.2))
    (ha : ∀ i st, (Act.listen i st : Act ι σ) ∈ acts → P st) : ∀ p ∈ view ls', P p.2 := by
  rw [h.live]
  intro p hp
  rcases mem_fold_eagerAct acts _ p hp with hp | hp
  · obtain ⟨q, hq, rfl⟩ := List.mem_map.mp hp
    exact hv q hq
  · exact ha _ _ hp

theorem Churn.view_ids (h : Churn d acts ls ls') :
    (view ls').map (·.1) = acts.foldl idsStep ((view ls).map (·.1)) := by
  rw [h.live, ids_fold_eagerAct, List.map_map]
  rfl

end ScVerif.C04
