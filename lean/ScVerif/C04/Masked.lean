import ScVerif.C04.Lemmas
/-!
# C04 — a subscriber with a read mask: its stream is an edit script of the MASKED view

`Collection.Pull` applies the read mask to both values of every change (`CollectionChange.filter`:
`FilterClone(NewValue)` and `FilterClone(OldValue)`), and to the body of every seed event.  So what a
subscriber with a read mask is told is consistent in itself: the old value of every event — the REMOVE
of a `Delete` included, whose new value is nil — is the (masked) new value it was last given for that
id.  Lemmas; the theorem is in `PropsMasked.lean`.
-/
namespace ScVerif.C04
open ScVerif.C01
variable {M K R : Type}

/-- the view a subscriber with read mask `mask` can have of the contents `v` -/
def mview (ops : MsgOps M K) (mask : Option K) (v : String → Option M) : String → Option M :=
  fun k => filterOpt ops mask (v k)

theorem kindOf_map (f : M → M) (a b : Option M) : kindOf (a.map f) (b.map f) = kindOf a b := by
  cases a <;> cases b <;> rfl

theorem isEdit_mask (ops : MsgOps M K) (mask : Option K) {v v1 : String → Option M} {e : CEvent M}
    (h : IsEdit v v1 e) : IsEdit (mview ops mask v) (mview ops mask v1) (maskEv ops mask e) := by
  refine ⟨?_, ?_, ?_, ?_, ?_, h.not_seed⟩
  · simp only [maskEv, mview, h.old_eq]
  · simp only [maskEv, mview, h.new_eq]
  · intro k hk
    simp only [mview]
    rw [h.frame k hk]
  · simp only [maskEv, mview, filterOpt, Option.isSome_map]
    exact h.changed
  · simp only [maskEv, mview, filterOpt, kindOf_map]
    exact h.kind_eq

theorem replay_mask (ops : MsgOps M K) (mask : Option K) {v v' : String → Option M} {es : List (CEvent M)}
    (h : Replay v es v') : Replay (mview ops mask v) (es.map (maskEv ops mask)) (mview ops mask v') := by
  induction h with
  | nil v => exact Replay.nil _
  | cons he _ ih => exact Replay.cons (isEdit_mask ops mask he) ih

theorem forward_sublist (cfg : Cfg M K R) (eqv : Eqv M) (o : SubOpts K) (es : List (CEvent M)) :
    (es.filterMap (collForward cfg eqv o)).Sublist (es.filterMap (collForward cfg none o)) := by
  induction es with
  | nil => exact List.Sublist.slnil
  | cons e es ih =>
    rw [List.filterMap_cons, List.filterMap_cons,
      show collForward cfg none o e = some (maskEv cfg.ops o.readMask e) from rfl]
    rcases collForward_cases cfg eqv o e with h | h <;> rw [h]
    · exact List.Sublist.cons _ ih
    · exact List.Sublist.cons_cons _ ih

theorem fold_applyEv_agree (f : String → Option M) (es : List (CEvent M)) (hes : ∀ e ∈ es, e.new = f e.id) :
    ∀ (v : String → Option M) (k : String),
      es.foldl applyEv v k = if k ∈ es.map (·.id) then f k else v k := by
  induction es with
  | nil => intro v k; simp
  | cons e es ih =>
    intro v k
    simp only [List.foldl_cons, List.map_cons, List.mem_cons]
    rw [ih (fun e' he' => hes e' (List.mem_cons_of_mem _ he'))]
    by_cases hk : k ∈ es.map (·.id)
    · simp [hk]
    · simp only [hk, ↓reduceIte, or_false, applyEv]
      by_cases hke : k = e.id
      · subst hke; simp [hes e List.mem_cons_self]
      · simp [hke]

end ScVerif.C04
