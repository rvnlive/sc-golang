import ScVerif.C04.ValueSession
import ScVerif.C04.PullIDSession
import ScVerif.C01.Flat
/-!
# C04 — property theorems: sessions of `Value.Pull` and of `Collection.PullID` subscribers

`PropsChurn.lean` proves "exactly the seed and then one event per successful write, in order" for every
`Collection.Pull` subscriber of every session with subscriber churn.  The same must hold for the other
two kinds of backpressured subscriber the package offers, on the same `minibus.Bus`:

* `Value.Pull` — its equivalence compares against the last value *this subscription sent*, so its
  stream depends on per-subscription state that must survive the churn of the others;
* `Collection.PullID` — one listener (its inner `Pull`), forwarding the changes of one id until the
  item is removed, alongside ordinary `Pull`s on the same collection.

And for every feed: a listener that was cancelled and is still registered holds a prefix of its stream.
-/
namespace ScVerif.C04
open ScVerif.C01
variable {M K R : Type}

/-- Every `Value.Pull` subscriber live at the end of any session — calls on the `Value` (Sets that succeed or fail,
Gets), `Value.Pull`s opening with any options and subscriptions being cancelled between the calls and at any point of any
`Bus.Send` — has been sent exactly `valStream` from the state at its registration: projected by ITS read mask, suppressed
iff the equivalence relates a value to the last one sent to THIS subscriber.  The live subscribers are the `Pull`s opened
and not cancelled, in order. -/
theorem C04_value_session_streams (cfg : Cfg M K R) (eqv : Eqv M) (s0 : VState M)
    (items : List (GItem (VOp M K) (SubOpts K))) (hfresh : (gListenIds items).Nodup) :
    (∀ p ∈ view (gRunSession (valFeed cfg eqv) { s := s0, ls := [], nw := 0 } items).ls,
      p.2.regAt ≤ (gCallsOf items).length ∧ p.2.st.opts = p.2.o ∧
      p.2.st.got = valStream cfg eqv p.2.o (Value.run cfg s0 ((gCallsOf items).take p.2.regAt)).2
        ((gCallsOf items).drop p.2.regAt)) ∧
    (view (gRunSession (valFeed cfg eqv) { s := s0, ls := [], nw := 0 } items).ls).map (·.1) =
      gEagerIds [] (gActsOf items) ∧
    ((gRunSession (valFeed cfg eqv) { s := s0, ls := [], nw := 0 } items).ls.map (·.id)).Nodup := by
  have hs := gSession_good (valFeed cfg eqv) s0 items hfresh
  refine ⟨?_, hs.liveIds, hs.idsNodup⟩
  intro p hp
  obtain ⟨hle, hst⟩ := hs.good.streams p hp
  have hrun := (valFeed_run cfg eqv ((gCallsOf items).take p.2.regAt) s0).2
  have hstream := valFeed_stream cfg eqv p.2.o (Value.run cfg s0 ((gCallsOf items).take p.2.regAt)).2
    ((gCallsOf items).drop p.2.regAt)
  rw [hrun] at hst
  rw [hst]
  exact ⟨hle, hstream.2, hstream.1⟩

/-- what a subscription of a collection must hold: `collStream` for a `Pull`, `pullIDStream` for a `PullID` -/
def collSpec (cfg : Cfg M K R) (eqv : Eqv M) (s : CState M R) (ops : List (COp M K)) : COpen K → CSubSt M K
  | .pull o => .pull o (collStream cfg eqv o s ops)
  | .pullID o id => .pullID o (icptId cfg id) (pullIDStream cfg eqv o s id ops).1 (pullIDStream cfg eqv o s id ops).2

/-- `Pull` and `PullID` subscribers on one bus (any options, any id, with or without id interceptor, opening and
being cancelled between the calls and at any point of any `Bus.Send`): each one live at the end holds its spec. A `Pull`
has been sent `collStream`; a `PullID(id)` has forwarded `pullIDStream` — the item's seed value if it existed at
registration, then the new value of every later Add/Update of the intercepted id its inner `Pull` delivers, up to the
first REMOVE, and its channel is closed iff such a REMOVE was delivered — whatever the other subscribers did. -/
theorem C04_pullid_session_streams (cfg : Cfg M K R) (eqv : Eqv M) (s0 : CState M R)
    (items : List (GItem (COp M K) (COpen K))) (hfresh : (gListenIds items).Nodup) :
    (∀ p ∈ view (gRunSession (collFeed cfg eqv) { s := s0, ls := [], nw := 0 } items).ls,
      p.2.regAt ≤ (gCallsOf items).length ∧
      p.2.st = collSpec cfg eqv (Coll.run cfg s0 ((gCallsOf items).take p.2.regAt)).2
        ((gCallsOf items).drop p.2.regAt) p.2.o) ∧
    (view (gRunSession (collFeed cfg eqv) { s := s0, ls := [], nw := 0 } items).ls).map (·.1) =
      gEagerIds [] (gActsOf items) ∧
    ((gRunSession (collFeed cfg eqv) { s := s0, ls := [], nw := 0 } items).ls.map (·.id)).Nodup := by
  have hs := gSession_good (collFeed cfg eqv) s0 items hfresh
  refine ⟨?_, hs.liveIds, hs.idsNodup⟩
  intro p hp
  obtain ⟨hle, hst⟩ := hs.good.streams p hp
  have hrun := (collFeed_run cfg eqv ((gCallsOf items).take p.2.regAt) s0).2
  have hstream := collFeed_stream cfg eqv (Coll.run cfg s0 ((gCallsOf items).take p.2.regAt)).2
    ((gCallsOf items).drop p.2.regAt)
  rw [hrun] at hst
  refine ⟨hle, ?_⟩
  rw [hst]
  cases p.2.o with
  | pull o => exact hstream.1 o
  | pullID o id => exact hstream.2 o id

/-- A cancelled subscriber has received a prefix of its stream. For every feed and every listener still registered at
the end of a session — live, or cancelled between two calls or in the middle of a `Send` and not yet collected — what it
holds is its seed from the state at its registration folded with the events of the calls up to some call `k`, each
handed to it once, in order, none skipped; `k` is the last call if it is live. -/
theorem C04_cancelled_subscriber_prefix {S Op E O σ : Type} (F : Feed S Op E O σ) (s0 : S)
    (items : List (GItem Op O)) (hfresh : (gListenIds items).Nodup) :
    ∀ l ∈ (gRunSession F { s := s0, ls := [], nw := 0 } items).ls,
      ∃ k, l.st.regAt ≤ k ∧ k ≤ (gCallsOf items).length ∧ (l.alive = true → k = (gCallsOf items).length) ∧
        l.st.st = gStream F l.st.o (gRun F s0 ((gCallsOf items).take l.st.regAt)).2
          (((gCallsOf items).take k).drop l.st.regAt) := by
  have hs := gSession_good F s0 items hfresh
  intro l hl
  by_cases ha : l.alive = true
  · have hok := hs.good.streams _ (mem_view_of_alive _ l hl ha)
    exact ⟨_, hok.1, Nat.le_refl _, fun _ => rfl, by rw [List.take_length]; exact hok.2⟩
  · obtain ⟨k, k1, k2, k3⟩ := hs.allPrefix l hl
    exact ⟨k, k1, k2, fun h => absurd h ha, k3⟩

def seCfg : Cfg Msg Mask (List Nat) := { ops := flatOps, gen := flatGen }

/-- a `Value` session: subscriber 1 (equivalence "same a") opens, 2 opens and is cancelled; a Set is
delivered while 3 opens mid-`Send` (its seed has the Set) and the dead listener 2 is collected; a Set
that only changes `s` is suppressed for 1 and 3 by the equivalence; a third Set reaches both -/
def seValSession : List (GItem (VOp Msg Mask) (SubOpts Mask)) :=
  [ .idle (.listen 1 {}), .idle (.listen 2 {}), .idle (.cancel 2),
    .call (.set { a := 2, s := "", c := none } {}) [.visit, .listen 3 {}, .visit],
    .call (.set { a := 2, s := "x", c := none } {}) [],
    .call (.set { a := 3, s := "x", c := none } {}) [] ]

example : (gListenIds seValSession).Nodup := by decide +kernel

example : (view (gRunSession (valFeed seCfg (some (fun x y => x.map (·.a) == y.map (·.a))))
      { s := Value.init seCfg (some { a := 1, s := "", c := none }), ls := [], nw := 0 } seValSession).ls).map
      (fun p => (p.1, p.2.st.got.map (fun d => (d.value.a, d.value.s, d.seed)))) =
    [ (1, [(1, "", true), (2, "", false), (3, "x", false)]),
      (3, [(2, "", true), (3, "x", false)]) ] := by decide +kernel

/-- a collection session with a `Pull` (1), a `PullID("a")` (2) and a `PullID("b")` (3): update of a, add
of b, delete of a (ends 2), re-add of a (2 stays ended), while a fourth subscriber comes and goes -/
def seCollSession : List (GItem (COp Msg Mask) (COpen Mask)) :=
  [ .idle (.listen 1 (.pull { updatesOnly := true })), .idle (.listen 2 (.pullID {} "a")),
    .idle (.listen 3 (.pullID {} "b")),
    .call (.update "a" { a := 2, s := "", c := none } {}) [.visit, .listen 4 (.pull {})],
    .call (.add "b" { a := 7, s := "", c := none } {}) [.cancel 4],
    .call (.delete "a" {}) [],
    .call (.add "a" { a := 9, s := "", c := none } {}) [] ]

example : (gListenIds seCollSession).Nodup := by decide +kernel

example : (view (gRunSession (collFeed seCfg none)
      { s := Coll.init seCfg [("a", { a := 1, s := "", c := none })] [], ls := [], nw := 0 } seCollSession).ls).map
      (fun p => (p.1, match p.2.st with
        | .pull _ got => (got.map (fun e => (e.id, e.new.map (·.a))), false)
        | .pullID _ _ got ended => (got.map (fun d => ("", some d.value.a)), ended))) =
    [ (1, [("a", some 2), ("b", some 7), ("a", none), ("a", some 9)], false),
      (2, [("", some 1), ("", some 2)], true),
      (3, [("", some 7)], false) ] := by decide +kernel

/-- subscriber 2 is cancelled in the middle of the first `Send`, after its own turn (no dead listener is
met, nothing is collected); the second call fails and announces nothing (no `Send`): 2 is still
registered, dead, holding the prefix `k = 1` of its stream; subscriber 1 is live and holds everything -/
def sePrefixSession : List (GItem (COp Msg Mask) (COpen Mask)) :=
  [ .idle (.listen 1 (.pull { updatesOnly := true })), .idle (.listen 2 (.pull { updatesOnly := true })),
    .call (.update "a" { a := 2, s := "", c := none } {}) [.visit, .visit, .cancel 2],
    .call (.add "a" { a := 3, s := "", c := none } {}) [] ]

example : (gListenIds sePrefixSession).Nodup := by decide +kernel

example : ((gRunSession (collFeed seCfg none)
      { s := Coll.init seCfg [("a", { a := 1, s := "", c := none })] [], ls := [], nw := 0 } sePrefixSession).ls).map
      (fun l => (l.id, l.alive, match l.st.st with
        | .pull _ got => got.map (fun e => e.new.map (·.a))
        | .pullID _ _ _ _ => [])) =
    [ (1, true, [some 2]), (2, false, [some 2]) ] := by decide +kernel

end ScVerif.C04
