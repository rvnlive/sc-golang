/-!
# C04 — the bus's listener list under subscriber churn (`internal/minibus/bus.go`)

`Bus.Listen` appends a listener; cancelling a subscription's context only marks its listener dead — it
stays in `b.listeners` until some `Send` notices (`l.send` reports `active = false`) and calls
`collect`, which re-reads `b.listeners` under the write lock and keeps the listeners that are alive.
`Send` works on a *snapshot* of the list, so listeners may register and contexts may be cancelled
while it delivers.  This file models one `Send` as a small-step machine whose steps interleave, in any
order, with `Listen` and cancel steps, and the *eager* bus it is compared with (cancel removes at once, `Send`
delivers to every listener registered before it started); the theorems are in `Bus.lean`.

Generic in the listener identity `ι` and in the per-listener subscription state `σ` (what the
subscriber has received so far); `d : σ → σ` is "deliver this `Send`'s event".
-/
namespace ScVerif.C04

variable {ι σ : Type} [DecidableEq ι]

/-- a registered listener: its identity, whether its context is still live, the subscription it feeds -/
structure Lsn (ι σ : Type) where
  id : ι
  alive : Bool := true
  st : σ

/-- what can happen on a bus while one `Send` is in flight -/
inductive Act (ι σ : Type)
  /-- the loop of `Send` visits the next listener of its snapshot (`l.send`) -/
  | visit
  /-- `Bus.Listen` appends a new listener -/
  | listen (id : ι) (st : σ)
  /-- the context of a listener is cancelled -/
  | cancel (id : ι)

/-- `Send` in flight: the bus's list, the part of the snapshot not yet visited, `needGc` -/
structure SendSt (ι σ : Type) where
  ls : List (Lsn ι σ)
  todo : List ι
  needGc : Bool

/-- a `Send` starts from a snapshot of the whole list (`send`, `sendSwap`, `sendRaw` spell this record out) -/
abbrev snapshot (ls : List (Lsn ι σ)) : SendSt ι σ := { ls := ls, todo := ls.map (·.id), needGc := false }

def isAlive (i : ι) (ls : List (Lsn ι σ)) : Bool := ls.any (fun l => decide (l.id = i) && l.alive)

def deliverTo (d : σ → σ) (i : ι) (ls : List (Lsn ι σ)) : List (Lsn ι σ) :=
  ls.map (fun l => if l.id = i then { l with st := d l.st } else l)

def markDead (i : ι) (ls : List (Lsn ι σ)) : List (Lsn ι σ) :=
  ls.map (fun l => if l.id = i then { l with alive := false } else l)

/-- `Bus.Listen` -/
def register (ls : List (Lsn ι σ)) (i : ι) (st : σ) : List (Lsn ι σ) := ls ++ [{ id := i, alive := true, st := st }]

/-- `Bus.collect`: re-read the list, keep the listeners that are alive -/
def collect (ls : List (Lsn ι σ)) : List (Lsn ι σ) := ls.filter (·.alive)

/-- one step of anybody while a `Send` is in flight: the delivery loop at its next listener, a `Listen`, a cancel -/
def act (d : σ → σ) (s : SendSt ι σ) : Act ι σ → SendSt ι σ
  | .visit =>
    match s.todo with
    | [] => s
    | i :: rest =>
      -- `l.send`: a live listener is handed the event, a cancelled one reports `active = false`
      if isAlive i s.ls then { s with ls := deliverTo d i s.ls, todo := rest }
      else { s with todo := rest, needGc := true }
  | .listen i st => { s with ls := register s.ls i st }
  | .cancel i => { s with ls := markDead i s.ls }

/-- the visits a schedule leaves out: the loop of `Send` runs to the end of its snapshot -/
def finish (d : σ → σ) (s : SendSt ι σ) : SendSt ι σ :=
  (List.replicate s.todo.length (Act.visit : Act ι σ)).foldl (act d) s

/-- `Bus.Send` with whatever else happens meanwhile (`sched`; visits beyond the snapshot are no-ops,
visits the schedule leaves out are made at the end): snapshot, deliver, `collect` iff a dead listener
was met. -/
def send (d : σ → σ) (ls : List (Lsn ι σ)) (sched : List (Act ι σ)) : List (Lsn ι σ) :=
  let s := finish d (sched.foldl (act d) { ls := ls, todo := ls.map (·.id), needGc := false })
  if s.needGc then collect s.ls else s.ls

/-- NOT the code — a tempting shortcut kept here only to show that the theorems tell it apart (see
`PropsChurn.lean`): `collect` swaps in the listeners the delivery loop found active instead of
re-reading the list under the lock. -/
def sendSwap (d : σ → σ) (ls : List (Lsn ι σ)) (sched : List (Act ι σ)) : List (Lsn ι σ) :=
  let s := finish d (sched.foldl (act d) { ls := ls, todo := ls.map (·.id), needGc := false })
  if s.needGc then s.ls.filter (fun l => l.alive && ls.any (fun l0 => decide (l0.id = l.id))) else s.ls

/-- churn while no `Send` is in flight -/
def idle (ls : List (Lsn ι σ)) : Act ι σ → List (Lsn ι σ)
  | .visit => ls
  | .listen i st => register ls i st
  | .cancel i => markDead i ls

/-- what the live subscriptions are: identity and state, in registration order -/
def view (ls : List (Lsn ι σ)) : List (ι × σ) := (ls.filter (·.alive)).map (fun l => (l.id, l.st))

/-- the eager bus all headline statements compare with: it keeps only the live subscriptions, `Listen` appends, a
cancel removes at once, and a `Send` is not interleaved with anything (it is `map d` before the schedule) -/
def eagerAct (v : List (ι × σ)) : Act ι σ → List (ι × σ)
  | .visit => v
  | .listen i st => v ++ [(i, st)]
  | .cancel i => v.filter (fun p => p.1 ≠ i)

end ScVerif.C04
