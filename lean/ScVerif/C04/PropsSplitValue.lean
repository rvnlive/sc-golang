import ScVerif.C04.PropsSplit
import ScVerif.C04.ValueSession
/-!
# C04 — `Value.Pull` subscribers that register between the commit and the publication of a `Set`

`C04_commit_publish_session_streams` (`PropsSplit.lean`) instantiated for `Value.Set` / `Value.Pull`, the
received stream spelled out with `valSeed` / `forwardAll` (`Pull.lean`).
-/
namespace ScVerif.C04
open ScVerif.C01

variable {M K R : Type}

/-- every `Value.Pull` subscriber live after any session in which subscriptions also open between the commit of a `Set`
and its publication (`value.set.beforeSend`): registered between two calls, it has been sent `valStream`; registered
between the commit and the publication of call `k`, its seed from the state that `Set` left, then the forwarding -
equivalence against the last value sent to it, starting with that seed - of the event of that very `Set` and of all later
calls: an equivalence that relates equal values suppresses the stale duplicate, without one it is delivered once. -/
theorem C04_value_commit_publish_streams (cfg : Cfg M K R) (eqv : Eqv M) (s0 : VState M)
    (ops : List (VOp M K)) (items : List (GItem (SplitOp (VOp M K)) (SubOpts K)))
    (hcalls : gCallsOf items = splitOps ops) (hfresh : (gListenIds items).Nodup) :
    ∀ p ∈ view (gRunSession (splitFeed (valFeed cfg eqv)) { s := (s0, []), ls := [], nw := 0 } items).ls,
      (∃ k, p.2.regAt = 2 * k ∧ k ≤ ops.length ∧
        p.2.st.got = valStream cfg eqv p.2.o (Value.run cfg s0 (ops.take k)).2 (ops.drop k)) ∨
      (∃ k op, p.2.regAt = 2 * k + 1 ∧ ops[k]? = some op ∧
        p.2.st.got =
          (valSeed cfg (Value.step cfg (Value.run cfg s0 (ops.take k)).2 op).2 p.2.o).1 ++
          forwardAll cfg eqv p.2.o (valSeed cfg (Value.step cfg (Value.run cfg s0 (ops.take k)).2 op).2 p.2.o).2
            (vEventsOf (Value.step cfg (Value.run cfg s0 (ops.take k)).2 op).1 ++
              vBusEvents cfg (Value.step cfg (Value.run cfg s0 (ops.take k)).2 op).2 (ops.drop (k + 1)))) := by
  obtain ⟨h1, _⟩ := C04_commit_publish_session_streams (valFeed cfg eqv) s0 ops items hcalls hfresh
  intro p hp
  rcases h1 p hp with ⟨k, hk, hle, hst⟩ | ⟨k, op, hk, hop, hst⟩
  · left
    refine ⟨k, hk, hle, ?_⟩
    rw [hst, (valFeed_run cfg eqv (ops.take k) s0).2]
    exact (valFeed_stream cfg eqv p.2.o _ _).1
  · right
    refine ⟨k, op, hk, hop, ?_⟩
    -- the events of the write and of the later calls, as one batch
    rw [hst, (valFeed_run cfg eqv (ops.take k) s0).2, (valFeed_batch cfg eqv).foldl_fwd,
      (valFeed_run cfg eqv _ _).1]
    rfl

end ScVerif.C04
