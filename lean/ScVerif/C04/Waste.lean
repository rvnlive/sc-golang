import ScVerif.C04.WasteModel
/-! The stream of `PullWasteRecords` by the state it is opened in (quiet, an add complete, an add between its two steps),
and the shape of every state a session of one writer reaches. -/
namespace ScVerif.C04

variable {R : Type}

theorem Waste.add_quiet (m : Waste R) (r : R) : (m.add r).Quiet := by
  simp [Waste.Quiet, Waste.add, Waste.set, Waste.append]

theorem Waste.foldl_add_hist (rs : List R) (m : Waste R) : (rs.foldl Waste.add m).hist = m.hist ++ rs := by
  induction rs generalizing m with
  | nil => simp
  | cons r rs ih => simp [ih, Waste.add, Waste.set, Waste.append]

theorem Waste.foldl_add_quiet (rs : List R) (m : Waste R) (h : m.Quiet ∨ rs ≠ []) :
    (rs.foldl Waste.add m).Quiet := by
  induction rs generalizing m with
  | nil => cases h with
    | inl h => exact h
    | inr h => exact absurd rfl h
  | cons r rs ih => exact ih (m.add r) (Or.inl (m.add_quiet r))

theorem ne_nil_of_getLast? {α : Type} {l : List α} {a : α} (h : l.getLast? = some a) : l ≠ [] := by
  intro h0; rw [h0] at h; cases h

theorem dropLast_append_of_getLast? {α : Type} (l : List α) (a : α) (h : l.getLast? = some a) :
    l.dropLast ++ [a] = l := by
  obtain ⟨ys, rfl⟩ := List.getLast?_eq_some_iff.mp h
  simp

theorem wasteWindow_quiet (m : Waste R) (hq : m.Quiet) :
    wasteWindow m.hist ++ [m.val] = m.hist.drop (m.hist.length - 50) := by
  unfold Waste.Quiet at hq
  unfold wasteWindow
  apply dropLast_append_of_getLast?
  rw [List.getLast?_drop]
  have : 0 < m.hist.length := List.length_pos_iff.mpr (ne_nil_of_getLast? hq)
  have hlt : ¬ m.hist.length ≤ m.hist.length - 50 := by omega
  simp [hlt, hq]

theorem wasteWindow_concat (h : List R) (b : R) :
    wasteWindow (h ++ [b]) = h.drop (h.length + 1 - 50) := by
  unfold wasteWindow
  have hle : (h ++ [b]).length - 50 ≤ h.length := by simp only [List.length_append, List.length_singleton]; omega
  rw [List.drop_append_of_le_length hle]
  simp

theorem wasteStream_quiet (proj : R → R) (m : Waste R) (hq : m.Quiet) (later : List R) :
    wasteStream proj false m later = (m.hist.drop (m.hist.length - 50) ++ later).map proj := by
  simp only [wasteStream, Bool.false_eq_true, if_false, List.map_append]
  rw [← wasteWindow_quiet m hq]
  simp

theorem wasteStream_add (proj : R → R) (h : List R) (b v c : R) (later : List R) :
    wasteStream proj false ((⟨h ++ [b], v⟩ : Waste R).add c) later
      = ((h ++ [b, c]).drop ((h ++ [b, c]).length - 50) ++ later).map proj := by
  have := wasteStream_quiet proj _ ((⟨h ++ [b], v⟩ : Waste R).add_quiet c) later
  rwa [show ((⟨h ++ [b], v⟩ : Waste R).add c).hist = h ++ [b, c] from List.append_assoc h [b] [c]] at this

/-- the stream opened between the `Set` of `AddWasteRecord c` and its append (newest record of the history:
`b`): the window leaves `b` to the seed, and the seed is `c` -/
theorem wasteStream_midadd (proj : R → R) (h : List R) (b c : R) (later : List R) :
    wasteStream proj false ⟨h ++ [b], c⟩ later
      = (h.drop (h.length + 1 - 50)).map proj ++ proj c :: later.map proj := by
  simp [wasteStream, wasteWindow_concat]

/-- the states a session of one writer reaches from a quiet one: quiet again, or one `AddWasteRecord c` between its `Set`
and its append, with the newest record `b` of the history not yet followed by `c` -/
def WSess.Shape (s : WSess R) : Prop :=
  (s.pending = none ∧ s.m.Quiet) ∨ (∃ h b c, s.pending = some c ∧ s.m = ⟨h ++ [b], c⟩)

theorem WSess.step_shape (s : WSess R) (o : WOp R) (hs : s.Shape) : (s.step o).Shape := by
  cases o with
  | set r =>
    rcases hs with ⟨hp, hq⟩ | ⟨h, b, c, hp, hm⟩
    · right
      have hne : s.m.hist ≠ [] := ne_nil_of_getLast? hq
      refine ⟨s.m.hist.dropLast, s.m.hist.getLast hne, r, by simp [WSess.step, hp], ?_⟩
      simp [WSess.step, hp, Waste.set, List.dropLast_concat_getLast hne]
    · right; exact ⟨h, b, c, by simp [WSess.step, hp], by simp [WSess.step, hp, hm]⟩
  | append =>
    rcases hs with ⟨hp, hq⟩ | ⟨h, b, c, hp, hm⟩
    · left; simp [WSess.step, hp, hq]
    · left; simp [WSess.step, hp, hm, Waste.append, Waste.Quiet]

theorem WSess.foldl_shape (ops : List (WOp R)) (s : WSess R) (hs : s.Shape) : (ops.foldl WSess.step s).Shape := by
  induction ops generalizing s with
  | nil => exact hs
  | cons o ops ih => exact ih _ (s.step_shape o hs)

end ScVerif.C04
