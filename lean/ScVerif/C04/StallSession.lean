import ScVerif.C04.Stall
import ScVerif.C04.Lemmas
/-!
# C04 — a `Value` written while some consumers are not receiving

A session over a fixed set of `Value.Pull` subscriptions: `Value.Set`s, and consumers that stop
receiving (`hold`) and receive again (`resume`).  A held subscription's forwarder takes ONE bus event,
runs it through read mask and equivalence, and blocks handing the result on (`hand`); while it holds
something it does not come back to its bus channel, so the next announcement times out on it
(`StallModel.lean`): the writer is told the `Set` failed.
-/
namespace ScVerif.C04
open ScVerif.C01
variable {M K R : Type}

/-- a `Value.Pull` subscription whose consumer may stop receiving -/
structure HSt (M K : Type) where
  opts : SubOpts K
  /-- `Value.Pull`'s loop variable -/
  last : Option M
  /-- what the consumer has received -/
  got : List (VDeliv M)
  /-- what the forwarder is blocked handing to a consumer that is not receiving -/
  hand : List (VDeliv M)
  held : Bool
  /-- ghost: what it had received, and its `last`, when the session started -/
  seed : List (VDeliv M)
  last0 : Option M
  /-- ghost: the bus events its forwarder has been handed during the session -/
  seen : List (VEvent M)

/-- `l.send` under the deadline for such a subscription -/
def tryH (cfg : Cfg M K R) (eqv : Eqv M) (evs : List (VEvent M)) (st : HSt M K) : Option (HSt M K) :=
  let out := forwardAll cfg eqv st.opts st.last evs
  let last' := forwardLast cfg eqv st.opts st.last evs
  if st.held then
    if st.hand.isEmpty then some { st with last := last', hand := out, seen := st.seen ++ evs } else none
  else some { st with last := last', got := st.got ++ out, seen := st.seen ++ evs }

inductive HOp (M K : Type)
  | set (msg : M) (wr : WriteReq M K)
  | hold (i : Nat)
  | resume (i : Nat)

/-- the session state: the value, the bus's listeners, the log (newest first): the events each `Set`
announced and whether the writer was told it succeeded -/
structure HSess (M K : Type) where
  s : VState M
  ls : List (Lsn Nat (HSt M K))
  log : List (List (VEvent M) × Bool)

/-- the consumer of subscription `i` does something -/
def onId (i : Nat) (f : HSt M K → HSt M K) (ls : List (Lsn Nat (HSt M K))) : List (Lsn Nat (HSt M K)) :=
  ls.map (fun l => if l.id = i then { l with st := f l.st } else l)

def hStep (cfg : Cfg M K R) (eqv : Eqv M) (x : HSess M K) : HOp M K → HSess M K
  | .set msg wr =>
    let r := Value.set cfg x.s msg wr
    if r.1.events.isEmpty then
      -- nothing to announce: no `Send` (the writer is told whatever `Value.set` decided)
      { x with s := r.2, log := ([], r.1.err.isNone) :: x.log }
    else
      let b := sendDl (tryH cfg eqv r.1.events) x.ls
      -- the value is stored either way; a `Send` that timed out makes `Value.set` answer with an error
      { s := r.2, ls := b.1, log := (r.1.events, b.2) :: x.log }
  | .hold i => { x with ls := onId i (fun st => { st with held := true }) x.ls }
  | .resume i => { x with ls := onId i (fun st => { st with held := false, got := st.got ++ st.hand, hand := [] }) x.ls }

def hRun (cfg : Cfg M K R) (eqv : Eqv M) (x : HSess M K) (ops : List (HOp M K)) : HSess M K :=
  ops.foldl (hStep cfg eqv) x

/-- `seen` is made of the events of SOME of the logged writes, in write order, each once, and of every
write the writer was told succeeded (log newest first) -/
inductive Reached {E : Type} : List (List E × Bool) → List E → Prop
  | nil : Reached [] []
  | hit (evs : List E) (ok : Bool) (log : List (List E × Bool)) (seen : List E) :
      Reached log seen → Reached ((evs, ok) :: log) (seen ++ evs)
  | miss (evs : List E) (log : List (List E × Bool)) (seen : List E) :
      Reached log seen → Reached ((evs, false) :: log) seen

/-- what holds of every live subscription at any point of a session with held consumers: consumer and forwarder's hand
together hold the forwarding of the events it was handed (`stream`, `last`), those events are accounted for by the log
(`reached`), and only a held subscription has anything in hand (`free`) -/
structure HGood (cfg : Cfg M K R) (eqv : Eqv M) (log : List (List (VEvent M) × Bool)) (st : HSt M K) : Prop where
  stream : st.got ++ st.hand = st.seed ++ forwardAll cfg eqv st.opts st.last0 st.seen
  last : st.last = forwardLast cfg eqv st.opts st.last0 st.seen
  reached : Reached log st.seen
  free : st.held = false → st.hand = []

def AllGood (cfg : Cfg M K R) (eqv : Eqv M) (x : HSess M K) : Prop :=
  ∀ l ∈ x.ls, l.alive = true → HGood cfg eqv x.log l.st

theorem tryH_good (cfg : Cfg M K R) (eqv : Eqv M) (evs : List (VEvent M)) (ok : Bool)
    (log : List (List (VEvent M) × Bool)) (st st' : HSt M K)
    (h : HGood cfg eqv log st) (ht : tryH cfg eqv evs st = some st') :
    HGood cfg eqv ((evs, ok) :: log) st' := by
  -- a forwarder that takes the events holds nothing: what its consumer has is the whole stream so far
  have hgot : st.hand = [] → st.got = st.seed ++ forwardAll cfg eqv st.opts st.last0 st.seen := by
    intro hnil
    have := h.stream
    rwa [hnil, List.append_nil] at this
  unfold tryH at ht
  simp only [] at ht
  split at ht
  · rename_i hh
    split at ht
    · rename_i he
      cases ht
      refine ⟨?_, ?_, Reached.hit _ _ _ _ h.reached, fun hf => by simp [hh] at hf⟩
      · simp only [forwardAll_append, ← h.last, hgot (List.isEmpty_iff.mp he), List.append_assoc]
      · simp only [forwardLast_append, ← h.last]
    · cases ht
  · rename_i hh
    cases ht
    have hnil := h.free (Bool.eq_false_iff.mpr hh)
    refine ⟨?_, ?_, Reached.hit _ _ _ _ h.reached, fun _ => hnil⟩
    · simp only [hnil, List.append_nil, forwardAll_append, ← h.last, hgot hnil, List.append_assoc]
    · simp only [forwardLast_append, ← h.last]

theorem serve_good (cfg : Cfg M K R) (eqv : Eqv M) (evs : List (VEvent M)) (ok : Bool)
    (log : List (List (VEvent M) × Bool)) (l : Lsn Nat (HSt M K))
    (hs : stalledAt (tryH cfg eqv evs) l = false) (ha : (serve (tryH cfg eqv evs) l).alive = true)
    (h : l.alive = true → HGood cfg eqv log l.st) :
    HGood cfg eqv ((evs, ok) :: log) (serve (tryH cfg eqv evs) l).st := by
  have ha0 : l.alive = true := (serve_id_alive _ l).2 ▸ ha
  cases ht : tryH cfg eqv evs l.st with
  | none => have := (stalledAt_eq_false_iff _ l).mp hs ha0; rw [ht] at this; cases this
  | some st' => rw [serve_of_some ha0 ht]; exact tryH_good cfg eqv evs ok log l.st st' (h ha0) ht

theorem onId_good (cfg : Cfg M K R) (eqv : Eqv M) (i : Nat) (f : HSt M K → HSt M K) (x : HSess M K)
    (hf : ∀ st, HGood cfg eqv x.log st → HGood cfg eqv x.log (f st)) (h : AllGood cfg eqv x) :
    AllGood cfg eqv { x with ls := onId i f x.ls } := by
  intro l hl ha
  simp only [onId, List.mem_map] at hl
  obtain ⟨l0, hl0, rfl⟩ := hl
  by_cases hi : l0.id = i
  · simp only [hi, if_true] at ha ⊢
    exact hf _ (h l0 hl0 ha)
  · simp only [hi, if_false] at ha ⊢
    exact h l0 hl0 ha

theorem hStep_good (cfg : Cfg M K R) (eqv : Eqv M) (x : HSess M K) (op : HOp M K)
    (h : AllGood cfg eqv x) : AllGood cfg eqv (hStep cfg eqv x op) := by
  cases op with
  | set msg wr =>
    simp only [hStep]
    split
    · intro l hl ha
      have g := h l hl ha
      exact ⟨g.stream, g.last, by simpa using Reached.hit [] _ _ _ g.reached, g.free⟩
    · intro l hl ha
      rcases mem_sendDl _ _ l hl with ⟨l0, hl0, hs, rfl⟩ | ⟨hl0, hok⟩
      · exact serve_good cfg eqv _ _ x.log l0 hs ha (h l0 hl0)
      · -- at or after the stalled listener: untouched, and the writer is told the write failed
        have g := h l hl0 ha
        exact ⟨g.stream, g.last, hok ▸ Reached.miss _ _ _ g.reached, g.free⟩
  | hold i =>
    exact onId_good cfg eqv i _ x (fun st g => ⟨g.stream, g.last, g.reached, fun hf => by simp at hf⟩) h
  | resume i =>
    refine onId_good cfg eqv i _ x (fun st g => ⟨?_, g.last, g.reached, fun _ => rfl⟩) h
    simp only [List.append_nil]
    exact g.stream

theorem hRun_good (cfg : Cfg M K R) (eqv : Eqv M) (ops : List (HOp M K)) :
    ∀ x : HSess M K, AllGood cfg eqv x → AllGood cfg eqv (hRun cfg eqv x ops) := by
  induction ops with
  | nil => intro x h; exact h
  | cons op ops ih =>
    intro x h
    simp only [hRun, List.foldl_cons]
    exact ih _ (hStep_good cfg eqv x op h)

theorem reached_all_ok {E : Type} {log : List (List E × Bool)} {seen : List E}
    (h : Reached log seen) (hok : ∀ e ∈ log, e.2 = true) :
    seen = (log.reverse.map (·.1)).flatten := by
  induction h with
  | nil => rfl
  | hit evs ok log seen _ ih =>
    have := ih (fun e he => hok e (List.mem_cons_of_mem _ he))
    simp [this]
  | miss evs log seen _ _ =>
    have := hok (evs, false) List.mem_cons_self
    cases this

end ScVerif.C04
