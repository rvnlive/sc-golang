import ScVerif.C08.CollectionLemmas
/-!
# C08 — property theorems: include-filtered List/Pull behave as the filtered collection

Property (fixed text): "Listing or pulling a collection with an include predicate behaves as if the
collection contained only the items satisfying it: the seed is the filtered list, an update that
makes an item start or stop matching is reported as ADD or REMOVE, an update between two matching
versions is delivered as an update, and a change to an item that matches neither before nor after is
never delivered. Folding the filtered stream therefore always yields List with the same predicate."

Spec: the filtered collection `filterView p s` — an item is in it iff it is PRESENT and `p id (some v)`; `fold` of
events into a `View`.  Predicates are arbitrary functions `ι → Option μ → Bool`, including ones that answer `true`
for an absent value (`C08_absent_irrelevant`).
-/
namespace ScVerif.C08
open ScVerif.C09

variable {ι μ : Type} [DecidableEq ι]

/-- The decision table, with "matches" meaning "is in the filtered collection" before (`oldIn`) and after (`newIn`)
the change. -/
theorem C08_table (f : Pred ι μ) (s : View ι μ) (c : Change ι μ) (hc : WFChange s c) :
    let oldIn := (filterView (some f) s c.id).isSome
    let newIn := (filterView (some f) (apply c s) c.id).isSome
    (oldIn = true → newIn = true → includeChange (some f) c = some c) ∧
    (oldIn = false → newIn = true → ∃ d, includeChange (some f) c = some d ∧ d.id = c.id ∧
        d.kind = .add ∧ d.old = none ∧ d.new = c.new ∧ d.time = c.time) ∧
    (oldIn = true → newIn = false → ∃ d, includeChange (some f) c = some d ∧ d.id = c.id ∧
        d.kind = .remove ∧ d.old = c.old ∧ d.new = none ∧ d.time = c.time) ∧
    (oldIn = false → newIn = false → includeChange (some f) c = none) ∧
    includeChange (none : Option (Pred ι μ)) c = some c := by
  -- matching before / after is `filt` of the old / new value: the four cells of `include`
  obtain ⟨hold, hap⟩ := wf_old_new hc
  have hnew : (apply c s) c.id = c.new := by rw [hap s]; exact if_pos rfl
  simp only [filterView_apply, ← hold, hnew]
  exact ⟨include_stay, fun ha hb => ⟨_, include_enter ha hb, rfl, rfl, rfl, rfl, rfl⟩,
    fun ha hb => ⟨_, include_leave ha hb, rfl, rfl, rfl, rfl, rfl⟩, include_neither, rfl⟩

/-- Per change: what `include` forwards is well formed at the filtered view and has exactly the filtered effect. -/
theorem C08_include_sound (p : Option (Pred ι μ)) (s : View ι μ) (c : Change ι μ) (hc : WFChange s c) :
    match includeChange p c with
    | some d => d.id = c.id ∧ WFChange (filterView p s) d ∧
        apply d (filterView p s) = filterView p (apply c s)
    | none => filterView p (apply c s) = filterView p s := by
  have h := include_sim p s c hc
  revert h
  cases hinc : includeChange p c with
  | none => exact id
  | some d => exact fun h => ⟨(includeChange_fwd hinc).1, h⟩

/-- Fold commutation: the include-filtered stream is itself a well-formed history of the filtered collection (no
ADD of a listed id, no UPDATE/REMOVE of an unlisted one, old values chain).  `cs` is arbitrary, so this holds after
every prefix. -/
theorem C08_fold_commutes (p : Option (Pred ι μ)) (s : View ι μ) (cs : List (Change ι μ))
    (h : WFHist s cs) :
    WFHist (filterView p s) (cs.filterMap (includeChange p)) ∧
    fold (cs.filterMap (includeChange p)) (filterView p s) = filterView p (fold cs s) :=
  include_hist p s cs h

omit [DecidableEq ι] in
/-- What a predicate answers for an absent value never matters (after fix 8f4ed3d, which made `include` not
consult it), on EVERY change, well formed or not. -/
theorem C08_absent_irrelevant (f g : Pred ι μ) (hfg : ∀ i v, f i (some v) = g i (some v))
    (c : Change ι μ) : includeChange (some f) c = includeChange (some g) c := by
  -- `include` is C09's at the predicate's present part
  rw [includeChange_some, includeChange_some, show f.present = g.present from funext fun i => funext (hfg i)]

/-- `List(WithInclude p)` is the filtered collection, and so is the fold of the seed of `Pull(WithInclude p)`: the
listed items as ADDs in ANY order (`Pull` sorts them by id). -/
theorem C08_seed_is_filtered_list (p : Option (Pred ι μ)) (items : List (ι × μ)) (hn : NodupKeys items)
    (order : List (ι × μ)) (hperm : order.Perm (itemSlice p items)) (t : Nat) :
    viewOf (itemSlice p items) = filterView p (viewOf items) ∧
    WFHist View.empty (seedFrom t order) ∧
    fold (seedFrom t order) View.empty = filterView p (viewOf items) := by
  have hlist := viewOf_itemSlice p items hn
  have hseed := seed_perm t (l := itemSlice p items) (NodupKeys_filter _ hn) hperm
  exact ⟨hlist, hseed.1, hseed.2.trans hlist⟩

/-- The whole of `Pull(WithInclude p, WithBackpressure(true))` against `List(WithInclude p)`, over every write
history (failing writes included).  `ops` is arbitrary, so: after every write. -/
theorem C08_pull_matches_list (p : Option (Pred ι μ)) (items : List (ι × μ)) (hn : NodupKeys items)
    (order : List (ι × μ)) (hperm : order.Perm (itemSlice p items)) (t t' : Nat) (ops : List (Op ι μ)) :
    let r := runOps t items ops
    let stream := seedFrom t' order ++ r.2.filterMap (includeChange p)
    WFHist View.empty stream ∧
    fold stream View.empty = viewOf (itemSlice p r.1) ∧
    viewOf (itemSlice p r.1) = filterView p (viewOf r.1) := by
  have hops := runOps_publishes t hn ops
  have h := seed_include_hist p hn hperm t' hops.2.1
  exact ⟨h.1, h.2.trans (hops.list p), viewOf_itemSlice p _ hops.1⟩

/-- Read mask: `Pull` applies the mask's projection to seeds and, for live events, AFTER `include` — so the
predicate always judges the stored, unmasked values, exactly as `List` and the seed do.  `proj` is any function
on messages. -/
theorem C08_pull_masked_matches_list (p : Option (Pred ι μ)) (proj : μ → μ) (items : List (ι × μ))
    (hn : NodupKeys items) (order : List (ι × μ)) (hperm : order.Perm (itemSlice p items))
    (t t' : Nat) (ops : List (Op ι μ)) :
    let r := runOps t items ops
    let stream := (seedFrom t' order).map (maskChange proj) ++ r.2.filterMap (pullEvent p proj)
    WFHist View.empty stream ∧
    fold stream View.empty = projView proj (viewOf (itemSlice p r.1)) :=
  (runOps_publishes t hn ops).pull p proj hn hperm t'

/-- The same through lossy delivery (`WithBackpressure(false)`), for EVERY recv/emit pattern of the
`mergeCollectionExcess` goroutine. -/
theorem C08_fold_commutes_lossy (p : Option (Pred ι μ)) (s0 : View ι μ)
    (ms : List (Move (Change ι μ))) (hw : WFHist s0 (inputs ms)) :
    let c := run Cfg.init ms
    WFHist (filterView p s0) (c.emitted.filterMap (includeChange p)) ∧
    fold (c.emitted.filterMap (includeChange p)) (filterView p s0) = filterView p (fold c.emitted s0) ∧
    (c.st.pending = [] →
      fold (c.emitted.filterMap (includeChange p)) (filterView p s0) = filterView p (fold (inputs ms) s0)) := by
  have he := run_emitted s0 ms hw
  have hinc := include_hist p s0 _ he.1
  exact ⟨hinc.1, hinc.2, fun hd => hinc.2.trans (congrArg _ (he.2 hd))⟩

/-- The whole of `Pull(WithInclude p)` WITHOUT backpressure against `List(WithInclude p)`: the merging goroutine is
fed exactly the published events. -/
theorem C08_pull_lossy_matches_list (p : Option (Pred ι μ)) (items : List (ι × μ)) (hn : NodupKeys items)
    (order : List (ι × μ)) (hperm : order.Perm (itemSlice p items)) (t t' : Nat) (ops : List (Op ι μ))
    (ms : List (Move (Change ι μ))) (hms : inputs ms = (runOps t items ops).2) :
    let r := runOps t items ops
    let c := run Cfg.init ms
    let stream := seedFrom t' order ++ c.emitted.filterMap (includeChange p)
    WFHist View.empty stream ∧
    (c.st.pending = [] → fold stream View.empty = viewOf (itemSlice p r.1)) := by
  have hops := runOps_publishes t hn ops
  have he := run_emitted (viewOf items) ms (by rw [hms]; exact hops.2.1)
  have h := seed_include_hist p hn hperm t' he.1
  refine ⟨h.1, fun hd => ?_⟩
  rw [h.2, he.2 hd, hms, hops.list p]

/-- The base a subscriber folds onto: the masked filtered collection at subscribe time — what the (masked) seed
builds, and what an updates-only subscriber (`WithUpdatesOnly`: no seed) is assumed to hold already, e.g. from
`List` with the same options. -/
theorem C08_seed_masked_is_base (p : Option (Pred ι μ)) (proj : μ → μ) (items : List (ι × μ))
    (hn : NodupKeys items) (order : List (ι × μ)) (hperm : order.Perm (itemSlice p items)) (t : Nat) :
    fold ((seedFrom t order).map (maskChange proj)) View.empty = projView proj (filterView p (viewOf items)) ∧
    projView proj (filterView p (viewOf items)) = projView proj (viewOf (itemSlice p items)) := by
  have hs := C08_seed_is_filtered_list p items hn order hperm t
  exact ⟨(mask_hist proj hs.2).2, by rw [hs.1]⟩

/-- The full pipeline of `Collection.Pull` WITHOUT an equivalence, through the lossy machine and the forwarder with
its event in hand (`ScVerif/C09/Pipeline.lean`), under EVERY interleaving of recv / take / deliver.  With
backpressure there is no machine: that is the interleaving in which every recv is followed at once by its take. -/
theorem C08_pull_pipeline_exact (p : Option (Pred ι μ)) (proj : μ → μ) (s0 : View ι μ)
    (ms : List (PMove (Change ι μ))) (hw : WFHist s0 (pinputs ms)) :
    let c := prun (pullStep p proj none) PCfg.init ms
    let base := projView proj (filterView p s0)
    let sent := c.delivered ++ c.inHand.toList
    WFHist base sent ∧
    fold sent base = projView proj (filterView p (fold c.taken s0)) ∧
    (c.inHand = none → c.st.pending = [] →
      fold c.delivered base = projView proj (filterView p (fold (pinputs ms) s0))) := by
  obtain ⟨htaken, hout, hquiet⟩ := prun_taken (pullStep p proj none) s0 ms hw
  have hp := pullEvent_hist p proj s0 _ htaken
  rw [filterMap_pullStep_none] at hout
  refine ⟨hout ▸ hp.1, hout ▸ hp.2, fun hh hpend => ?_⟩
  rw [hh, Option.toList_none, List.append_nil] at hout
  rw [hout, hp.2, hquiet hpend]

/-- The whole of `Collection.Pull`: include ▸ read mask ▸ equivalence ▸ lossy machine ▸ forwarder ▸ consumer, for every
equivalence `E` on optional messages that is reflexive and transitive (`E old new` = "suppress this change").
For each id the subscriber's value and the listed value are related
by `E` (equal when the last change of the id was delivered). -/
theorem C08_pull_full_pipeline (p : Option (Pred ι μ)) (proj : μ → μ)
    (E : Option μ → Option μ → Bool) (hrefl : ∀ a, E a a = true)
    (htrans : ∀ a b c, E a b = true → E b c = true → E a c = true)
    (s0 : View ι μ) (ms : List (PMove (Change ι μ))) (hw : WFHist s0 (pinputs ms)) :
    let c := prun (pullStep p proj (some E)) PCfg.init ms
    let base := projView proj (filterView p s0)
    let sent := c.delivered ++ c.inHand.toList
    (∀ i, E (fold sent base i) (projView proj (filterView p (fold c.taken s0)) i) = true) ∧
    (c.inHand = none → c.st.pending = [] →
      ∀ i, E (fold c.delivered base i) (projView proj (filterView p (fold (pinputs ms) s0)) i) = true) := by
  obtain ⟨htaken, hout, hquiet⟩ := prun_taken (pullStep p proj (some E)) s0 ms hw
  have heq := pullStep_hist p proj E hrefl htrans s0 _ htaken
  rw [← hout] at heq
  refine ⟨heq, fun hh hpend => ?_⟩
  rw [hh, Option.toList_none, List.append_nil, hquiet hpend] at heq
  exact heq

/-- The same against the real objects: the published events are those of a write history on a collection. -/
theorem C08_pull_full_pipeline_list (p : Option (Pred ι μ)) (proj : μ → μ)
    (E : Option μ → Option μ → Bool) (hrefl : ∀ a, E a a = true)
    (htrans : ∀ a b c, E a b = true → E b c = true → E a c = true)
    (items : List (ι × μ)) (hn : NodupKeys items) (t : Nat) (ops : List (Op ι μ))
    (ms : List (PMove (Change ι μ))) (hms : pinputs ms = (runOps t items ops).2) :
    let r := runOps t items ops
    let c := prun (pullStep p proj (some E)) PCfg.init ms
    let base := projView proj (viewOf (itemSlice p items))
    c.inHand = none → c.st.pending = [] →
      ∀ i, E (fold c.delivered base i) (projView proj (viewOf (itemSlice p r.1)) i) = true := by
  intro r c base hh hpend i
  have hops := runOps_publishes t hn ops
  have h := (C08_pull_full_pipeline p proj E hrefl htrans (viewOf items) ms
    (by rw [hms]; exact hops.2.1)).2 hh hpend i
  rw [hms, hops.list p, ← viewOf_itemSlice p items hn] at h
  exact h

/-- a predicate that is TRUE on absent values and on value 20 only -/
private def pAbsentTrue : Pred Nat Nat := fun _ v => v.isNone || v == some 20

private def items0 : List (Nat × Nat) := [(1, 10), (2, 20)]

example : NodupKeys items0 := by decide +kernel

/-- the hypotheses of `C08_pull_matches_list` are satisfiable, with a predicate true on absent values -/
example : ([(2, 20)] : List (Nat × Nat)).Perm (itemSlice (some pAbsentTrue) items0) := by
  decide +kernel

/-- all four cells occur on a concrete run: id 1 goes 10 → 20 (out,in ⇒ ADD), 20 → 20 (in,in ⇒ UPDATE
delivered), 20 → 10 (in,out ⇒ REMOVE), 10 → 10 (out,out ⇒ nothing), then is deleted while not
matching (nothing, although the predicate is true on the absent value). -/
example :
    ((runOps 0 items0 [.update 1 20, .update 1 20, .update 1 10, .update 1 10, .delete 1]).2.filterMap
        (includeChange (some pAbsentTrue))).map (fun c => (c.kind, c.old, c.new))
      = [(.add, none, some 20), (.update, some 20, some 20), (.remove, some 20, none)] := by
  decide +kernel

/-- an equivalence satisfying the hypotheses of `C08_pull_full_pipeline`: equal modulo 10 (and absent
only equivalent to absent) — reflexive and transitive, not the identity -/
private def eMod10 : Option Nat → Option Nat → Bool
  | some a, some b => a % 10 == b % 10
  | none, none => true
  | _, _ => false

example : ∀ a, eMod10 a a = true := by intro a; cases a <;> simp [eMod10]
example : ∀ a b c, eMod10 a b = true → eMod10 b c = true → eMod10 a c = true := by
  intro a b c; cases a <;> cases b <;> cases c <;> simp [eMod10] <;> omega

/-- a run of the full pipeline in which the equivalence suppresses an update (10 → 20) that the
subscriber therefore never sees, while the forwarder holds an event in hand -/
example :
    ((prun (pullStep (none : Option (Pred Nat Nat)) id (some eMod10)) PCfg.init
        [.recv (mkChange 1 .add 0 none (some 10)), .take, .deliver,
         .recv (mkChange 1 .update 1 (some 10) (some 20)), .take,
         .recv (mkChange 1 .update 2 (some 20) (some 21)), .take]).delivered.map (·.new),
     (prun (pullStep (none : Option (Pred Nat Nat)) id (some eMod10)) PCfg.init
        [.recv (mkChange 1 .add 0 none (some 10)), .take, .deliver,
         .recv (mkChange 1 .update 1 (some 10) (some 20)), .take,
         .recv (mkChange 1 .update 2 (some 20) (some 21)), .take]).inHand.map (·.new))
      = ([some 10], some (some 21)) := by decide +kernel

end ScVerif.C08
