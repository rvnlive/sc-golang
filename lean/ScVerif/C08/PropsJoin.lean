import ScVerif.C08.ReentrantLemmas
/-!
C08 — a subscription that happens INSIDE a write: `Collection.Update` reads the item, runs the caller's change
function with no lock held (`WithExpectedCheck`, interceptors), re-checks by value under the write lock, saves
and announces.  Another writer can overtake it in between, and a `Pull(WithInclude p)` can subscribe after
that writer and before the first one's lock: its seed carries the overtaking write, and the overtaken write's
change - saved, stamped and published after the subscription - must reach it like any other.
-/
namespace ScVerif.C08
open ScVerif.C09

variable {ι μ : Type} [DecidableEq ι] [DecidableEq μ]

/-- The subscriber takes its seed AFTER the interference and BEFORE the write's lock (`mid`), and is then sent what the
write publishes from there on (`tail`: its own event, or nothing when the re-check aborts it) and everything later.
In particular the write's own event is never "older than the seed": include judges it from the value the seed
carried. -/
theorem C08_pull_joins_inside_write (p : Option (Pred ι μ)) (proj : μ → μ) (empty : μ)
    (items : List (ι × μ)) (hn : NodupKeys items) (i : ι) (v : μ) (create expectAbsent : Bool)
    (intf : List (Op ι μ))
    (hread : (getForUpdate empty create expectAbsent (items.lookup i)).isSome = true)
    (t t' t2 : Nat) (as : List (Act ι μ))
    (order : List (ι × μ)) (hperm : order.Perm (itemSlice p (runOps t items intf).1)) :
    let mid := runOps t items intf
    let w := writeRetry empty t items i v create expectAbsent intf
    let tail := w.2.drop mid.2.length
    let r := runActs t2 w.1 as
    let stream := (seedFrom t' order).map (maskChange proj) ++ (tail ++ r.2).filterMap (pullEvent p proj)
    w.2 = mid.2 ++ tail ∧ tail.length ≤ 1 ∧
    WFHist View.empty stream ∧
    fold stream View.empty = projView proj (viewOf (itemSlice p r.1)) := by
  intro mid w tail r stream
  have hmid := runOps_publishes t hn intf
  have hw : Publishes items w := stepAct_publishes t hn (.writeRetry i v create expectAbsent intf empty)
  have hsplit : w.2 = mid.2 ++ tail := writeRetry_split empty t items i v create expectAbsent intf hread
  have hr := runActs_publishes t2 hw.1 as
  -- the tail leads from the contents the subscriber saw to the write's final contents
  have htail : Hist (viewOf items) (mid.2 ++ tail) (viewOf w.1) := hsplit ▸ hw.2
  have hcs := (hmid.2.2 ▸ (Hist.split htail).2).append hr.2
  have hp := Publishes.pull p proj hmid.1 (r := (r.1, tail ++ r.2)) ⟨hr.1, hcs⟩ hperm t'
  refine ⟨hsplit, ?_, hp.1, hp.2⟩
  · have hlen : w.2.length ≤ mid.2.length + 1 := writeRetry_length empty t items i v create expectAbsent intf
    show (w.2.drop mid.2.length).length ≤ 1
    rw [List.length_drop]; omega

-- item 1 = 3 stored, predicate "below 5"; `Update(1, 9)` is overtaken by a write of the same value 3
-- (its by-value re-check passes); the subscriber joins in between, is seeded with 3 and then sent the REMOVE
example :
    let p : Pred Nat Nat := fun _ v => match v with | some x => decide (x < 5) | none => false
    let w := writeRetry 0 0 [(1, 3)] 1 9 false false [.update 1 3]
    w.2.drop 1 = [mkChange 1 .update 1 (some 3) (some 9)] ∧
    (w.2.drop 1).filterMap (pullEvent (some p) id) = [mkChange 1 .remove 1 (some 3) none] := by
  decide +kernel

end ScVerif.C08
