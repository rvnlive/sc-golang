import ScVerif.C08.SubscribeGc
import ScVerif.C08.SubscribeSendLemmas
/-! The system with listener slice, cancellation and `collect`: invariant and projection onto the
one-subscriber system. -/
namespace ScVerif.C08
open ScVerif.C09

variable {ι μ : Type}

theorem isListening_deliver (sub : Sub ι μ) (evs : List (Change ι μ)) :
    (sub.deliver evs).isListening = sub.isListening := by
  cases sub <;> rfl

theorem isListening_getD_updAt (f : Sub ι μ → Sub ι μ) (hf : ∀ sub, (f sub).isListening = sub.isListening)
    (subs : List (Sub ι μ)) (k m : Nat) :
    ((updAt f k subs).getD m .idle).isListening = (subs.getD m .idle).isListening := by
  rw [getD_updAt]
  split
  · exact hf _
  · rfl

theorem deliverTo_cons (evs : List (Change ι μ)) (k : Nat) (ks : List Nat) (subs : List (Sub ι μ)) :
    deliverTo evs (k :: ks) subs = deliverTo evs ks (updAt (·.deliver evs) k subs) := rfl

theorem isListening_getD_deliverTo (evs : List (Change ι μ)) (ks : List Nat) (subs : List (Sub ι μ)) (m : Nat) :
    ((deliverTo evs ks subs).getD m .idle).isListening = (subs.getD m .idle).isListening := by
  induction ks generalizing subs with
  | nil => rfl
  | cons k ks ih =>
    rw [deliverTo_cons, ih, isListening_getD_updAt _ (isListening_deliver · evs)]

theorem getD_deliverTo (evs : List (Change ι μ)) (ks : List Nat) (hnd : ks.Nodup) (subs : List (Sub ι μ))
    (j : Nat) :
    (deliverTo evs ks subs).getD j .idle
      = if j ∈ ks then (subs.getD j .idle).deliver evs else subs.getD j .idle := by
  induction ks generalizing subs with
  | nil => simp [deliverTo]
  | cons k ks ih =>
    have hk : k ∉ ks := (List.nodup_cons.mp hnd).1
    rw [deliverTo_cons, ih (List.nodup_cons.mp hnd).2]
    rw [getD_updAt_deliver]
    by_cases hjk : j = k
    · subst hjk
      simp only [hk, if_false, List.mem_cons, true_or, if_true]
    · simp only [List.mem_cons, hjk, false_or, if_false]

/-- the invariant of the bus's bookkeeping: `b.listeners` lists nobody twice, lists only subscribers that have
registered, and lists EVERY registered subscriber whose context is live; a copy in flight lists nobody twice -/
structure GInv (s : GSys ι μ) : Prop where
  nodup : s.listeners.Nodup
  listening : ∀ k ∈ s.listeners, (s.subs.getD k .idle).isListening = true
  registered : ∀ k, (s.subs.getD k .idle).isListening = true → k ∉ s.dead → k ∈ s.listeners
  flight : ∀ c ks gc, s.flight = some (c, ks, gc) → ks.Nodup

/-- `b.listeners` may shrink to a sub-list that keeps the live entries, and the cancelled set may grow -/
theorem GInv.shrink {s s' : GSys ι μ} (hinv : GInv s) (hsub : s'.listeners.Sublist s.listeners)
    (hkeep : ∀ k ∈ s.listeners, k ∉ s.dead → k ∈ s'.listeners)
    (hsubs : ∀ m, (s'.subs.getD m .idle).isListening = (s.subs.getD m .idle).isListening)
    (hdead : ∀ k ∈ s.dead, k ∈ s'.dead)
    (hflight : ∀ c ks gc, s'.flight = some (c, ks, gc) → ks.Nodup) : GInv s' where
  nodup := hsub.nodup hinv.nodup
  listening k hk := (hsubs k).trans (hinv.listening k (hsub.subset hk))
  registered k hk hd := hkeep k (hinv.registered k ((hsubs k).symm.trans hk) fun h => hd (hdead k h))
    fun h => hd (hdead k h)
  flight := hflight

/-- `b.listeners` and the cancelled set untouched -/
theorem GInv.frame {s s' : GSys ι μ} (hinv : GInv s) (hl : s'.listeners = s.listeners) (hd : s'.dead = s.dead)
    (hsubs : ∀ m, (s'.subs.getD m .idle).isListening = (s.subs.getD m .idle).isListening)
    (hflight : ∀ c ks gc, s'.flight = some (c, ks, gc) → ks.Nodup) : GInv s' :=
  hinv.shrink (hl ▸ .refl _) (fun _ h _ => hl ▸ h) hsubs (fun _ h => hd ▸ h) hflight

/-- a subscriber that was not listening registers: it joins the end of `b.listeners` -/
theorem GInv.register {s s' : GSys ι μ} (hinv : GInv s) {k : Nat}
    (hk : (s.subs.getD k .idle).isListening = false)
    (hl : s'.listeners = s.listeners ++ [k]) (hd : s'.dead = s.dead)
    (hsubs : ∀ m, (s'.subs.getD m .idle).isListening = if m = k then true else (s.subs.getD m .idle).isListening)
    (hflight : ∀ c ks gc, s'.flight = some (c, ks, gc) → ks.Nodup) : GInv s' where
  nodup := by
    rw [hl]
    refine List.nodup_append.mpr ⟨hinv.nodup, List.nodup_cons.mpr ⟨List.not_mem_nil, List.nodup_nil⟩,
      fun a ha b hb => ?_⟩
    rw [List.mem_singleton.mp hb]
    exact fun h => Bool.false_ne_true (hk.symm.trans (hinv.listening k (h ▸ ha)))
  listening m hm := by
    rw [hsubs]
    split
    · rfl
    · next h =>
      exact hinv.listening m ((List.mem_append.mp (hl ▸ hm)).resolve_right fun h' => h (List.mem_singleton.mp h'))
  registered m hm hdm := by
    rw [hl]
    rw [hsubs] at hm
    by_cases h : m = k
    · exact List.mem_append_right _ (List.mem_singleton.mpr h)
    · rw [if_neg h] at hm
      exact List.mem_append_left _ (hinv.registered m hm (hd ▸ hdm))
  flight := hflight

theorem liveOf_sublist (dead ls : List Nat) : (liveOf dead ls).Sublist ls := List.filter_sublist

theorem mem_liveOf_of_live {dead ls : List Nat} {k : Nat} (hk : k ∈ ls) (hd : k ∉ dead) : k ∈ liveOf dead ls :=
  List.mem_filter.mpr ⟨hk, by simpa using hd⟩

/-- what of the `Send` in progress is still on its way to `j` -/
def flightFor (j : Nat) : Option (Change ι μ × List Nat × Bool) → List (Change ι μ)
  | some (c, ks, _) => if j ∈ ks then [c] else []
  | none => []

theorem pendFor_eq (s : GSys ι μ) (j : Nat) : s.pendFor j = flightFor j s.flight ++ s.pend := rfl

theorem flightFor_ite (j : Nat) (c : Change ι μ) (ks : List Nat) (gc : Bool) :
    flightFor j (if ks.isEmpty then none else some (c, ks, gc)) = if j ∈ ks then [c] else [] := by
  cases ks <;> rfl

theorem GInv_init (items : List (ι × μ)) (n : Nat) : GInv (GSys.init items n) := by
  refine ⟨List.nodup_nil, fun _ h => (nomatch h), fun k h => ?_, fun _ _ _ h => (nomatch h)⟩
  rw [GSys.init, getD_replicate] at h
  cases h

theorem GSys.proj_init (items : List (ι × μ)) (n j : Nat) : (GSys.init items n).proj j = Sys.init items := by
  simp only [GSys.proj, GSys.init, getD_replicate]
  rfl

theorem getD_deliverTo_live {s : GSys ι μ} (hinv : GInv s) (evs : List (Change ι μ)) {j : Nat}
    (hj : j ∉ s.dead) :
    (deliverTo evs (liveOf s.dead s.listeners) s.subs).getD j .idle = (s.subs.getD j .idle).deliver evs := by
  rw [getD_deliverTo evs _ ((liveOf_sublist _ _).nodup hinv.nodup)]
  split
  · rfl
  · next h =>
    -- not in `b.listeners`, hence (being live) not registered: nothing is delivered to it either way
    have hnl : (s.subs.getD j .idle).isListening = false :=
      Bool.not_eq_true _ ▸ fun hl => h (mem_liveOf_of_live (hinv.registered j hl hj) hj)
    exact (deliver_not_listening _ evs hnl).symm

variable [DecidableEq ι]

theorem deliver_nil (sub : Sub ι μ) : sub.deliver [] = sub := by
  cases sub <;> simp [Sub.deliver]

/-- One case analysis over the step for three things that speak of the same successor state: the invariant, the
cancelled set only grows, and the projection onto the one-subscriber system for every live `j`. -/
theorem gsysStep_spec (preds : List (Option (Pred ι μ))) (s : GSys ι μ) (step : GStep ι μ) (hinv : GInv s) :
    GInv (gsysStep false preds s step) ∧ (∀ k ∈ s.dead, k ∈ (gsysStep false preds s step).dead) ∧
    ∀ j, j ∉ s.dead → Reach (preds.getD j none) (s.proj j) ((gsysStep false preds s step).proj j) := by
  have stay : GInv s ∧ (∀ k ∈ s.dead, k ∈ s.dead) ∧
      ∀ j, j ∉ s.dead → Reach (preds.getD j none) (s.proj j) (s.proj j) :=
    ⟨hinv, fun _ h => h, fun _ _ => .refl⟩
  generalize hs' : gsysStep false preds s step = s'
  cases step with
  | commit op =>
    simp only [gsysStep] at hs'
    split at hs'
    · subst hs'
      exact stay
    · next h =>
      subst hs'
      exact ⟨hinv.frame rfl rfl (fun _ => rfl) hinv.flight, fun _ h => h,
        fun j _ => .commit _ op (not_snapping h j)⟩
  | sendStart =>
    simp only [gsysStep] at hs'
    split at hs'
    · next c rest hf _ hp =>
      subst hs'
      refine ⟨hinv.frame rfl rfl (fun _ => rfl) ?_, fun _ h => h,
        fun j hj => ?_⟩
      · intro c' ks gc h
        cases hl : s.listeners with
        | nil => rw [hl] at h; cases h
        | cons a as => rw [hl] at h; cases h; exact hl ▸ hinv.nodup
      · simp only [GSys.proj, pendFor_eq, flightFor_ite, hf, hp]
        simp only [flightFor, List.nil_append]
        -- a live `j` that is not in the copy is not registered
        exact .copy c _ j fun hm => Bool.not_eq_true _ ▸ fun h => hm (hinv.registered j h hj)
    · subst hs'
      exact stay
  | sendNext =>
    simp only [gsysStep] at hs'
    split at hs'
    · next c k ks gc hf =>
      have hnd := hinv.flight c (k :: ks) gc hf
      have hl : ∀ m, ((if decide (k ∈ s.dead) = true then s.subs else updAt (·.deliver [c]) k s.subs).getD m
          .idle).isListening = (s.subs.getD m .idle).isListening := by
        intro m
        split
        · rfl
        · exact isListening_getD_updAt _ (isListening_deliver · _) _ _ _
      -- the projection, whichever way the `Send` records that it is over
      have hproj : ∀ j, j ∉ s.dead → Reach (preds.getD j none) (s.proj j)
          ⟨s.items, (if j ∈ ks then [c] else []) ++ s.pend,
            (if decide (k ∈ s.dead) = true then s.subs else updAt (·.deliver [c]) k s.subs).getD j .idle,
            s.t⟩ := by
        intro j hj
        simp only [GSys.proj, pendFor_eq, hf, flightFor]
        refine .serve c hnd j ?_
        -- a cancelled `k` is skipped, and is not the live `j`
        by_cases hk : k ∈ s.dead
        · rw [if_pos (decide_eq_true hk), if_neg fun h : j = k => hj (h ▸ hk)]
        · rw [if_neg (by simpa using hk), getD_updAt_deliver]
      split at hs'
      · next he =>
        subst hs'
        refine ⟨hinv.frame rfl rfl hl (fun _ _ _ h => nomatch h),
          fun _ h => h, fun j hj => ?_⟩
        have := hproj j hj
        rw [List.isEmpty_iff.mp he] at this
        exact this
      · subst hs'
        refine ⟨hinv.frame rfl rfl hl ?_, fun _ h => h, hproj⟩
        intro c' ks' gc' h
        cases h
        exact (List.nodup_cons.mp hnd).2
    · next c gc hf =>
      subst hs'
      refine ⟨hinv.frame rfl rfl (fun _ => rfl) (fun _ _ _ h => nomatch h),
        fun _ h => h, fun j _ => ?_⟩
      simp only [GSys.proj, pendFor_eq, hf, flightFor, List.not_mem_nil, if_false]
      exact .refl
    · subst hs'
      exact stay
  | collect =>
    simp only [gsysStep] at hs'
    split at hs'
    · subst hs'
      exact ⟨hinv.shrink (liveOf_sublist _ _) (fun _ => mem_liveOf_of_live) (fun _ => rfl) (fun _ h => h)
        hinv.flight, fun _ h => h, fun _ _ => .refl⟩
    · subst hs'
      exact stay
  | deleteNow i =>
    simp only [gsysStep] at hs'
    split at hs'
    · subst hs'
      exact stay
    · next h =>
      simp only [Bool.or_eq_true, not_or, Bool.not_eq_true', Bool.not_eq_false, List.isEmpty_iff,
        Bool.not_eq_true, Option.isSome_eq_false_iff, Option.isNone_iff_eq_none] at h
      obtain ⟨⟨⟨hp, hf⟩, _⟩, hany⟩ := h
      have hdel : ∀ j, Reach (preds.getD j none) (s.proj j)
          ⟨(stepOp s.t s.items (.delete i)).1, [],
            (s.subs.getD j .idle).deliver (stepOp s.t s.items (.delete i)).2.toList, s.t + 1⟩ := by
        intro j
        simp only [GSys.proj, pendFor_eq, hf, hp, flightFor, List.append_nil]
        exact .deleteNow i (not_snapping (Bool.not_eq_true _ ▸ hany) j)
      split at hs'
      · next hr =>
        subst hs'
        refine ⟨hinv.frame rfl rfl (fun _ => rfl) hinv.flight, fun _ h => h,
          fun j _ => ?_⟩
        have := hdel j
        rw [hr, Option.toList_none, deliver_nil] at this
        simpa only [GSys.proj, pendFor_eq, hf, hp, flightFor, List.append_nil] using this
      · next c hr =>
        subst hs'
        refine ⟨hinv.shrink (liveOf_sublist _ _) (fun _ => mem_liveOf_of_live)
          (isListening_getD_deliverTo _ _ _) (fun _ h => h) hinv.flight, fun _ h => h, fun j hj => ?_⟩
        have := hdel j
        rw [hr, Option.toList_some] at this
        simpa only [GSys.proj, pendFor_eq, hf, hp, flightFor, List.append_nil, getD_deliverTo_live hinv _ hj] using this
  | snapshot k =>
    subst hs'
    refine ⟨hinv.frame rfl rfl
      (isListening_getD_updAt _ (by intro sub; cases sub <;> rfl) _ _) hinv.flight,
      fun _ h => h, fun j _ => ?_⟩
    simp only [gsysStep, GSys.proj]
    exact .slot _ _ k j fun h => h ▸ .snapshot
  | listen k =>
    simp only [gsysStep] at hs'
    split at hs'
    · next seed hs =>
      subst hs'
      -- `k` was taking its seed, so it is in range and was not listening
      have hkl : k < s.subs.length := Nat.lt_of_not_le fun h => by
        rw [getD_oob _ _ h] at hs; cases hs
      refine ⟨hinv.register (k := k) (by rw [hs]; rfl) rfl rfl (fun m => ?_) hinv.flight, fun _ h => h,
        fun j _ => ?_⟩
      · show ((updAt (fun _ => Sub.listening seed []) k s.subs).getD m .idle).isListening = _
        rw [getD_updAt]
        by_cases h : m = k
        · rw [if_pos ⟨h, hkl⟩, if_pos h]; rfl
        · rw [if_neg fun h' => h h'.1, if_neg h]
      · simp only [GSys.proj, pendFor_eq]
        refine .slot _ _ k j fun h => ?_
        rw [h, hs]
        exact .listen
    · subst hs'
      exact stay
  | cancel k =>
    simp only [gsysStep] at hs'
    split at hs'
    · subst hs'
      exact stay
    · subst hs'
      exact ⟨hinv.shrink (.refl _) (fun _ h _ => h) (fun _ => rfl) (fun _ h => List.mem_cons_of_mem _ h)
        hinv.flight, fun _ h => List.mem_cons_of_mem _ h, fun _ _ => .refl⟩

theorem gsysRun_spec (preds : List (Option (Pred ι μ))) (s : GSys ι μ) (sched : List (GStep ι μ))
    (hinv : GInv s) :
    GInv (gsysRun false preds s sched) ∧ (∀ k ∈ s.dead, k ∈ (gsysRun false preds s sched).dead) ∧
    ∀ j, j ∉ (gsysRun false preds s sched).dead →
      Reach (preds.getD j none) (s.proj j) ((gsysRun false preds s sched).proj j) := by
  induction sched generalizing s with
  | nil => exact ⟨hinv, fun _ h => h, fun _ _ => .refl⟩
  | cons st sched ih =>
    obtain ⟨hinv', hdead, hproj⟩ := gsysStep_spec preds s st hinv
    obtain ⟨hinv'', hdead', hproj'⟩ := ih _ hinv'
    exact ⟨hinv'', fun k h => hdead' k (hdead k h),
      fun j hj => (hproj j fun h => hj (hdead' j (hdead j h))).trans (hproj' j hj)⟩

end ScVerif.C08
