import ScVerif.C08.PropsConc
import ScVerif.C08.BookingLemmas
import ScVerif.C18.PropsTime
/-!
# C08 — the booking server's `booking_intersects` filter

`ModelServer.ListBookings` / `PullBookings` pass `WithInclude(booked period intersects the request's)`
(`bookingInclude`) to `Collection.List` / `Pull`.
-/
namespace ScVerif.C08
open ScVerif.C09
open ScVerif.C18 (Period periodsIntersect)

variable {ι μ : Type} [DecidableEq ι] [DecidableEq μ]

/-- `PullBookings(booking_intersects = q, read_mask)` against `ListBookings` with the same request; and
`ListBookings` holds a stored booking iff `bookingListed` — no request period: every booking; otherwise exactly
those whose booked period intersects the request's (a booking without a booked period never does). -/
theorem C08_booking_pull_matches_list (booked : μ → Option Period) (q : Option Period) (proj : μ → μ)
    (items : List (ι × μ)) (hn : NodupKeys items) (order : List (ι × μ))
    (hperm : order.Perm (itemSlice (bookingInclude booked q) items)) (t t' : Nat) (as : List (Act ι μ)) :
    let p : Option (Pred ι μ) := bookingInclude booked q
    let r := runActs t items as
    let stream := (seedFrom t' order).map (maskChange proj) ++ r.2.filterMap (pullEvent p proj)
    WFHist View.empty stream ∧
    fold stream View.empty = projView proj (viewOf (itemSlice p r.1)) ∧
    (∀ i, viewOf (itemSlice p r.1) i =
      match viewOf r.1 i with
      | some b => if bookingListed booked q b then some b else none
      | none => none) := by
  have h := C08_pull_matches_list_reentrant (bookingInclude booked q) proj items hn order hperm t t' as
  refine ⟨h.1, h.2.1, ?_⟩
  intro i
  rw [h.2.2]
  simp only [filterView]
  cases viewOf (runActs t items as).1 i with
  | none => rfl
  | some b =>
    simp only [exclude_bookingInclude]
    cases bookingListed booked q b <;> rfl

omit [DecidableEq μ] in
/-- "Listed" for ANY two periods with normalised timestamps, proper or not (an absent bound satisfies its
comparison).  In particular a zero-length booking `[t,t)` is listed exactly when `t` lies strictly inside the request
period: `pkg/time` compares the four bounds pairwise and never asks whether either period holds an instant. -/
theorem C08_booking_listed_any_period (booked : μ → Option Period) (b : μ) (bp qp : Period)
    (hb : booked b = some bp)
    (hbn : ScVerif.C18.optNormal bp.start ∧ ScVerif.C18.optNormal bp.stop)
    (hqn : ScVerif.C18.optNormal qp.start ∧ ScVerif.C18.optNormal qp.stop) :
    bookingListed booked (some qp) b = true ↔
      (ScVerif.C18.bLt bp.lo qp.hi ∧ ScVerif.C18.bLt qp.lo bp.hi) := by
  simp only [bookingListed, hb]
  exact (ScVerif.C18.C18_period_predicates_general bp qp hbn hqn).1

/-- What "listed" means for proper periods (normalised bounds, start < end): the two periods share an instant. -/
theorem C08_booking_listed_iff_share_instant (booked : μ → Option Period) (b : μ) (qp : Period)
    (hq : qp.Proper) :
    (∀ bp, booked b = some bp → bp.Proper →
      (bookingListed booked (some qp) b = true ↔ ∃ x : Int, bp.Mem x ∧ qp.Mem x)) ∧
    (booked b = none → bookingListed booked (some qp) b = false) ∧
    bookingListed booked none b = true := by
  refine ⟨?_, ?_, rfl⟩
  · intro bp hb hp
    simp only [bookingListed, hb]
    exact ScVerif.C18.C18_intersect bp qp hp hq
  · intro hb
    simp only [bookingListed, hb]
    exact (ScVerif.C18.C18_intersect_symm none (some qp)).2.1

/-- The whole request: `PullBookings(booking_intersects, read_mask, updates_only)` against `ListBookings` with the
same request, for BOTH values of `updates_only`.  The base line `bookingBase` is empty, or with `updates_only` the
`ListBookings` answer taken at subscribe time.  Well-formed means: an ADD only for a booking the client does not
hold, an UPDATE / REMOVE only for one it holds, carrying as old value exactly the value it holds - so a booking moved
out of the period arrives as a REMOVE, one moved in as an ADD, also for a subscriber that got no seed. -/
theorem C08_booking_request_matches_list (booked : μ → Option Period) (req : BookingReq μ)
    (items : List (ι × μ)) (hn : NodupKeys items) (order : List (ι × μ))
    (hperm : order.Perm (itemSlice (bookingInclude booked req.intersects) items)) (t t' : Nat)
    (as : List (Act ι μ)) :
    let p : Option (Pred ι μ) := bookingInclude booked req.intersects
    let r := runActs t items as
    let stream := bookingPullStream booked req t' order r.2
    let base := bookingBase booked req items
    WFHist base stream ∧
    fold stream base = projView req.proj (viewOf (itemSlice p r.1)) := by
  obtain ⟨q, proj, uo⟩ := req
  cases uo with
  | false =>
    have h := C08_pull_matches_list_reentrant (bookingInclude booked q) proj items hn order hperm t t' as
    simpa [bookingPullStream, bookingBase] using ⟨h.1, h.2.1⟩
  | true =>
    simp only [bookingPullStream, bookingBase, if_true, List.nil_append]
    exact (runActs_publishes t hn as).events (bookingInclude booked q) proj hn

/-- `PeriodsIntersect` treats its arguments alike for ALL periods - missing, unbounded, empty (`[4,4)`) or inverted
(`[6,3)`) ones included: whichever of (booked period, request period) a handler passes first, `ListBookings` and
`PullBookings` build the same predicate. -/
theorem C08_booking_argument_order_irrelevant (a b : Option Period) :
    periodsIntersect a b = periodsIntersect b a :=
  (ScVerif.C18.C18_intersect_symm a b).1

/-! `CreateBooking` stores a booking under a GENERATED id (`ScVerif/C08/GenId.lean`); `CheckInBooking` /
`CheckOutBooking` update a booking under an update mask that leaves the booked period alone. -/

/-- A booking created without an id (`CreateBooking` → `Add` with `WithGenIDIfAbsent`), for every rng output
(`cands`), validity test, id interceptor and EVERY interference between the call's first read and its write lock:
a generating call is the act `.writeRetry i (v i) true true intf empty` at the generated id `i`, so all `Pull`
theorems hold over histories with such creations; the generated id was NOT a key when it was chosen; and
with no interference a generated id never replaces, updates or removes an existing item. -/
theorem C08_generated_id_add (empty : μ) (t : Nat) (items : List (ι × μ)) (hn : NodupKeys items)
    (canon : ι → ι) (valid : ι → Bool) (cands : List ι) (v : ι → μ) (intf : List (Op ι μ)) :
    let r := addGen empty t items canon valid cands v intf
    (NodupKeys r.1 ∧ WFHist (viewOf items) r.2 ∧ fold r.2 (viewOf items) = viewOf r.1) ∧
    (∀ i, genUniqueId canon valid (fun i => (items.lookup i).isSome) cands = some i →
      viewOf items i = none ∧ (∃ c, c ∈ cands ∧ valid c = true ∧ i = canon c) ∧
      (intf = [] → r.2 = [mkChange i .add t none (some (v i))] ∧
        viewOf r.1 = (viewOf items).set i (some (v i)))) ∧
    (genUniqueId canon valid (fun i => (items.lookup i).isSome) cands = none → r = (items, [])) := by
  refine ⟨?_, ?_, ?_⟩
  · simp only [addGen]
    split
    · exact ⟨hn, trivial, rfl⟩
    · rename_i i _
      exact stepAct_publishes t hn (Act.writeRetry i (v i) true true intf empty)
  · intro i hi
    have hs := genUniqueId_spec canon valid _ cands i hi
    have hnone : items.lookup i = none := by
      cases h : items.lookup i with
      | none => rfl
      | some x => simp [h] at hs
    refine ⟨hnone, hs.2, ?_⟩
    intro hintf
    subst hintf
    -- `writeRetry_shape` does not say WHEN a write commits: the undisturbed call is read off the definition
    simp only [addGen, hi, writeRetry, getForUpdate, hnone, runOps]
    simp [viewOf_setKey]
  · intro hnone
    simp only [addGen, hnone]

/-- The generated booking at the subscriber: its ADD is delivered - as an ADD - exactly when the request lists it. -/
theorem C08_generated_booking_event (booked : μ → Option Period) (q : Option Period) (proj : μ → μ)
    (i : ι) (t : Nat) (b : μ) :
    pullEvent (bookingInclude booked q) proj (mkChange i .add t none (some b)) =
      if bookingListed booked q b then some (mkChange i .add t none (some (proj b))) else none := by
  rw [pullEvent_add, exclude_bookingInclude]
  cases bookingListed booked q b <;> rfl

/-- A write that leaves the booked period alone (`CheckInBooking` / `CheckOutBooking`: an Update under the update mask
`check_in.start_time` / `check_in.end_time`) never changes membership: it is never reported as ADD or REMOVE. -/
theorem C08_booking_checkin_keeps_membership (booked : μ → Option Period) (q : Option Period) (proj : μ → μ)
    (i : ι) (t : Nat) (b b' : μ) (hsame : booked b' = booked b) :
    pullEvent (bookingInclude booked q) proj (mkChange i .update t (some b) (some b')) =
      if bookingListed booked q b then some (mkChange i .update t (some (proj b)) (some (proj b'))) else none := by
  -- old and new value have the same booked period, so they are listed alike
  have hlisted : bookingListed booked q b' = bookingListed booked q b := by
    cases q <;> simp only [bookingListed, hsame]
  rw [pullEvent_update_same _ _ _ _ _ _ (by rw [exclude_bookingInclude, exclude_bookingInclude, hlisted]),
    exclude_bookingInclude]
  cases bookingListed booked q b <;> rfl

/-- [2,4) and [3,5) intersect, [2,4) and [4,6) do not (the doc comment of `PeriodsIntersect`) -/
example :
    (bookingListed (μ := Option Period) id (some ⟨some ⟨3, 0⟩, some ⟨5, 0⟩⟩) (some ⟨some ⟨2, 0⟩, some ⟨4, 0⟩⟩),
     bookingListed (μ := Option Period) id (some ⟨some ⟨4, 0⟩, some ⟨6, 0⟩⟩) (some ⟨some ⟨2, 0⟩, some ⟨4, 0⟩⟩),
     bookingListed (μ := Option Period) id (some ⟨none, none⟩) none) = (true, false, false) := by decide +kernel

private def per (a b : Int) : Option Period := some ⟨some ⟨a, 0⟩, some ⟨b, 0⟩⟩
private def reqUO : BookingReq (Option Period) := ⟨some ⟨some ⟨3, 0⟩, some ⟨6, 0⟩⟩, id, true⟩

/-- updates_only + booking_intersects `[3,6)`: booking 1 moves out of the period (REMOVE carrying the value
the client holds), booking 2 moves in (ADD), booking 3 stays outside (nothing) -/
example :
    ((bookingPullStream (ι := Nat) id reqUO 0 []
        (runActs 0 [(1, per 4 5), (2, per 7 9), (3, per 0 1)]
          [.op (.upsert 1 (per 7 9)), .op (.upsert 2 (per 5 8)), .op (.upsert 3 (per 1 2))]).2).map
      (fun c => (c.id, c.kind, c.old, c.new)))
      = [(1, .remove, some (per 4 5), none), (2, .add, none, some (per 5 8))] := by
  decide +kernel

/-- a zero-length booking `[4,4)` strictly inside the request period `[3,6)` is listed, one on its border
(`[3,3)`, `[6,6)`) is not; an inverted `[5,4)` is, `[7,2)` is not -/
example :
    ([per 4 4, per 3 3, per 6 6, per 5 4, per 7 2].map
      (bookingListed (μ := Option Period) id (some ⟨some ⟨3, 0⟩, some ⟨6, 0⟩⟩))) = [true, false, false, true, false] := by
  decide +kernel

/-- the first candidate is invalid, the rng then repeats itself (`7`, taken, twice): the fourth
candidate is chosen -/
example :
    genUniqueId id (fun c => c ≠ 0) (fun i => (([(7, 1)] : List (Nat × Nat)).lookup i).isSome) [0, 7, 7, 9]
      = some 9 := by decide +kernel

/-- the call then publishes one ADD of the generated id, the message built by the id callback -/
example :
    (addGen 0 5 [(7, 1)] id (fun c => c ≠ 0) [0, 7, 7, 9] (fun i => 100 + i) []).2.map
        (fun c => (c.id, c.old, c.new)) = [(9, none, some 109)] := by decide +kernel

/-- with every candidate invalid or taken the call is aborted and nothing changes -/
example :
    ((addGen 0 5 [(7, 1)] id (fun c => c ≠ 0) [0, 7, 7] (fun i => 100 + i) []).1,
     (addGen 0 5 [(7, 1)] id (fun c => c ≠ 0) [0, 7, 7] (fun i => 100 + i) []).2.length)
      = ([(7, 1)], 0) := by decide +kernel

end ScVerif.C08
