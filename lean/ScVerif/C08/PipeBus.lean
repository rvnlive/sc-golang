import ScVerif.C08.Shared
import ScVerif.C08.SubscribeMany  -- for `updAt`
import ScVerif.C09.Pipeline
/-!
C08 — several subscribers on one collection, each with its WHOLE pipeline: merge machine ▸ forwarder ▸ consumer.

`Collection.onUpdate` puts a `mergeCollectionExcess` goroutine between the bus and the forwarding loop of every
`Pull` without backpressure; with backpressure the forwarding loop reads the bus channel itself.  Either way the
bus hands the one event object to the subscriber's first stage, which reads it (`newMessage := *(…)` copies
it into the machine; `include`/`filter` build new changes) and never writes to it.

* `deliverP`     `Bus.Send`: the object is offered (`recv`) to every subscriber's pipeline, in subscription order
* `PBusStep`     `publish c` | `join s` | `move k m` — subscriber `k`'s own goroutines move (`take`: the forwarder
                 takes the next change out of the machine and runs include ▸ mask ▸ equivalence on it; `deliver`:
                 the consumer receives what the forwarder holds); any interleaving of all subscribers' moves
                 with the publications.  A subscriber with backpressure is the special case in which every
                 `publish` is followed at once by its `take`.
-/
namespace ScVerif.C08
open ScVerif.C09

variable {ι μ : Type} [DecidableEq ι]

/-- the forwarding loop's transform of subscriber `s` -/
def SubOpts.turn (E : Option (Option μ → Option μ → Bool)) (s : SubOpts ι μ) : Change ι μ → Option (Change ι μ) :=
  pullStep s.pred s.proj E

/-- `Bus.Send`: the shared object `cell` is offered to every subscriber's pipeline; no stage writes to it. -/
def deliverP (E : Option (Option μ → Option μ → Bool)) :
    List (SubOpts ι μ × PCfg ι μ) → Change ι μ → List (SubOpts ι μ × PCfg ι μ)
  | [], _ => []
  | (s, cfg) :: rest, cell => (s, pstep (s.turn E) cfg (.recv cell)) :: deliverP E rest cell

inductive PBusStep (ι μ : Type) where
  | publish (c : Change ι μ)
  | join (s : SubOpts ι μ)
  | move (k : Nat) (m : PMove (Change ι μ))   -- `take` / `deliver` of subscriber `k` (a `recv` here does nothing)

def pbusStep (E : Option (Option μ → Option μ → Bool)) (st : List (SubOpts ι μ × PCfg ι μ)) :
    PBusStep ι μ → List (SubOpts ι μ × PCfg ι μ)
  | .publish c => deliverP E st c
  | .join s => st ++ [(s, PCfg.init)]
  | .move _ (.recv _) => st
  | .move k m => updAt (fun sc => (sc.1, pstep (sc.1.turn E) sc.2 m)) k st

def pbusRun (E : Option (Option μ → Option μ → Bool)) (st : List (SubOpts ι μ × PCfg ι μ))
    (steps : List (PBusStep ι μ)) : List (SubOpts ι μ × PCfg ι μ) :=
  steps.foldl (pbusStep E) st

def publishedP : List (PBusStep ι μ) → List (Change ι μ)
  | [] => []
  | .publish c :: rest => c :: publishedP rest
  | _ :: rest => publishedP rest

def joinsP : List (PBusStep ι μ) → Nat
  | [] => 0
  | .join _ :: rest => joinsP rest + 1
  | _ :: rest => joinsP rest

end ScVerif.C08
