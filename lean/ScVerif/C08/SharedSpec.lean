import ScVerif.C08.Shared
/-! Vocabulary of the shared-bus theorems that is no part of the model of `Bus.Send`. -/
namespace ScVerif.C08
open ScVerif.C09

variable {ι μ : Type}

/-- the number of `join`s of a run: how many subscribers it adds -/
def joins : List (BusStep ι μ) → Nat
  | [] => 0
  | .publish _ :: rest => joins rest
  | .join _ :: rest => joins rest + 1

end ScVerif.C08
