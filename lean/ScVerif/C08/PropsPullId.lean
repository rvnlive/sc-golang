import ScVerif.C08.PullIdLemmas
import ScVerif.C08.PropsConc
/-!
C08 — the single-item subscription `Collection.PullID(ctx, id, opts...)` with the caller's include predicate
(`ScVerif/C08/PullId.lean`).  PullID forwards the caller's read options to `Collection.Pull` unchanged and selects the
changes of its id from that stream, so the property holds for the one item too; the item leaving the FILTERED
collection (a delete, or an update to a version that stops matching) ends the stream as a delete does.
-/
namespace ScVerif.C08
open ScVerif.C09

variable {ι μ : Type} [DecidableEq ι] [DecidableEq μ]

/-- `PullID(id, WithInclude p, WithReadMask m)` against `List(WithInclude p, WithReadMask m)`, with `stream` what the
underlying Pull produces.  In particular an item that is stored but does not satisfy `p` is not sent, and the loop
closes the stream iff at some step the item LEFT the subscriber's view of the filtered collection (`everLeft`). -/
theorem C08_pullid_matches_list (p : Option (Pred ι μ)) (proj : μ → μ) (items : List (ι × μ))
    (hn : NodupKeys items) (order : List (ι × μ)) (hperm : order.Perm (itemSlice p items))
    (t t' : Nat) (as : List (Act ι μ)) (i : ι) :
    let r := runActs t items as
    let stream := (seedFrom t' order).map (maskChange proj) ++ r.2.filterMap (pullEvent p proj)
    let out := pullIdLoop i stream
    (out.2 = false → held none out.1 = projView proj (viewOf (itemSlice p r.1)) i) ∧
    (out.2 = false → (out.1 = [] ↔ projView proj (viewOf (itemSlice p r.1)) i = none)) ∧
    out.2 = everLeft i View.empty stream := by
  have h := C08_pull_matches_list_reentrant p proj items hn order hperm t t' as
  simp only at h ⊢
  have hl := pullIdLoop_held i _ View.empty h.1
  refine ⟨fun ho => ?_, fun ho => ?_, hl.2⟩
  · exact (hl.1 ho).trans (congrFun h.2.1 i)
  · rw [← (hl.1 ho).trans (congrFun h.2.1 i), held_eq_none_iff]
    exact ⟨fun h => ⟨h, rfl⟩, fun h => h.1⟩

/-- An item outside the filtered collection is never sent: every value sent - as seed or later - is the projection of
SOME message that satisfies the caller's predicate at THAT id (`Matches`; that the message was stored under the id is
not part of the statement). -/
theorem C08_pullid_values_match (p : Option (Pred ι μ)) (proj : μ → μ) (items : List (ι × μ))
    (order : List (ι × μ)) (hperm : order.Perm (itemSlice p items))
    (t t' : Nat) (as : List (Act ι μ)) (i : ι) :
    let r := runActs t items as
    let stream := (seedFrom t' order).map (maskChange proj) ++ r.2.filterMap (pullEvent p proj)
    ∀ vb ∈ (pullIdLoop i stream).1, ∃ w, vb.1 = proj w ∧ Matches p i w := by
  intro r stream vb hvb
  obtain ⟨c, hc, hid, hv⟩ := pullIdLoop_mem i stream vb hvb
  exact hid ▸ pullStream_matches p proj hperm t' r.2 hc hv

/-- The same on a collection with an id interceptor, the writers and the subscriber spelling ids as they like:
`PullID("DESK-2")` watches the item stored under `f "DESK-2"`.  That the stored keys are canonical (`hk`) is not needed. -/
theorem C08_pullid_matches_list_intercepted (f : ι → ι) (p : Option (Pred ι μ)) (proj : μ → μ)
    (items : List (ι × μ)) (hn : NodupKeys items) (hk : ∀ iv ∈ items, Canonical f iv.1)
    (order : List (ι × μ)) (hperm : order.Perm (itemSlice p items)) (t t' : Nat) (as : List (Act ι μ)) (i : ι) :
    let r := runActs t items (as.map (Act.canon f))
    let stream := (seedFrom t' order).map (maskChange proj) ++ r.2.filterMap (pullEvent p proj)
    let out := pullId f i stream
    (out.2 = false → held none out.1 = projView proj (viewOf (itemSlice p r.1)) (f i)) ∧
    out.2 = everLeft (f i) View.empty stream :=
  -- `C08_pullid_matches_list` at the canonical writes and the canonical id
  have h := C08_pullid_matches_list p proj items hn order hperm t t' (as.map (Act.canon f)) (f i)
  ⟨h.1, h.2.2⟩

/-- `PullID(id, WithInclude p)` WITHOUT backpressure (the default): the underlying Pull's stream goes through the
`mergeCollectionExcess` goroutine first, under EVERY recv/emit pattern.  The loop closes the stream iff in the
DELIVERED (merged) history the item left the filtered collection at some step; which of the item's intermediate
versions are sent, and whether a remove-and-re-add is seen as leaving, depends on the pattern. -/
theorem C08_pullid_lossy_matches_list (p : Option (Pred ι μ)) (items : List (ι × μ)) (hn : NodupKeys items)
    (order : List (ι × μ)) (hperm : order.Perm (itemSlice p items)) (t t' : Nat) (ops : List (Op ι μ))
    (ms : List (Move (Change ι μ))) (hms : inputs ms = (runOps t items ops).2) (i : ι) :
    let r := runOps t items ops
    let c := run Cfg.init ms
    let stream := seedFrom t' order ++ c.emitted.filterMap (includeChange p)
    let out := pullIdLoop i stream
    (out.2 = false → held none out.1 = fold stream View.empty i) ∧
    (out.2 = false → c.st.pending = [] → held none out.1 = viewOf (itemSlice p r.1) i) ∧
    out.2 = everLeft i View.empty stream := by
  have h := C08_pull_lossy_matches_list p items hn order hperm t t' ops ms hms
  simp only at h ⊢
  have hl := pullIdLoop_held i _ View.empty h.1
  exact ⟨fun ho => hl.1 ho, fun ho hd => (hl.1 ho).trans (congrFun (h.2 hd) i), hl.2⟩

/-- What forwarding the caller's predicate is needed for (NOT the code: a PullID that narrows the underlying
Pull to its id by an include option of its own, which takes the single include slot the caller's predicate
was in).  Item 1 = 7 stored, the caller's predicate "values below 5": `List(WithInclude p)` does not list the
item, the narrowed PullID seeds it. -/
theorem C08_pullid_own_include_fails :
    let items : List (Nat × Nat) := [(1, 7)]
    let p : Pred Nat Nat := fun _ v => match v with | some x => decide (x < 5) | none => false
    let own : Pred Nat Nat := fun i _ => decide (i = 1)
    itemSlice (some p) items = [] ∧
    (pullIdLoop 1 (seed (some p) items)).1 = [] ∧
    (pullIdLoop 1 (seed (some own) items)).1 = [(7, true)] := by
  decide +kernel

-- a stream that is sent a value, an update between matching versions, and is closed by the
-- update to a version that stops matching
example :
    let p : Pred Nat Nat := fun _ v => match v with | some x => decide (x < 5) | none => false
    let r := runActs 0 [(1, 2)] [Act.op (.update 1 3), Act.op (.update 2 1), Act.op (.update 1 9), Act.op (.update 1 4)]
    pullIdLoop 1 (seed (some p) [(1, 2)] ++ r.2.filterMap (pullEvent (some p) id)) = ([(2, true), (3, false)], true) := by
  decide +kernel

end ScVerif.C08
