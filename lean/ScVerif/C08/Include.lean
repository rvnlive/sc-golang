import ScVerif.C09.Merge
/-
C08 — model of include-filtered `List`/`Pull` of a `resource.Collection`.

* `includeChange`   `(*CollectionChange).include` (pkg/resource/change.go), as coded after the two `fix:`
                    commits (the `!newInclude` inversion; absent values are never included)
* `exclude`         `ReadRequest.Exclude` (pkg/resource/opt.go)
* `itemSlice/seed/pull`   `Collection.itemSlice` (what `List` shows), the seed loop and the forwarding loop of
                    `Collection.Pull` (pkg/resource/collection.go) with include alone
* `maskChange/pullEvent/pullStep`   one turn of that loop in full: include → read-mask filter (an arbitrary
                    projection on messages) → equivalence (an arbitrary function on the masked old/new values)
* `deleteLoop/Act/stepAct/runActs`   `Collection.Delete`'s optimistic read / callbacks without the lock /
                    re-check under the lock / retry loop, under arbitrary interference
* `getForUpdate/writeRetry/writeRetryLegacy`   `GetAndUpdate` when the item is written between its read and
                    its write lock (the code after / before the `fix:` commit)
* `Op/stepOp`       the writes `Add`, `Update`, `Update(WithCreateIfAbsent)`, `Delete` at the level of which
                    event they publish (failing writes publish nothing)

The collection's `byId` map is a list of (id, value) pairs with distinct ids (`NodupKeys`).
-/
namespace ScVerif.C08
open ScVerif.C09

variable {ι μ : Type}

/-- A `FilterFunc`: id and (possibly absent) message to bool. -/
abbrev Pred (ι μ : Type) := ι → Option μ → Bool

/-- `c.include(includeFunc)`; `none` stands for `ok == false` (do not forward). -/
def includeChange (p : Option (Pred ι μ)) (c : Change ι μ) : Option (Change ι μ) :=
  match p with
  | none => some c
  | some f =>
    let oldInclude := c.old.isSome && f c.id c.old
    let newInclude := c.new.isSome && f c.id c.new
    if oldInclude = newInclude then
      -- the only time we want to skip sending the update is if both the old and new values are excluded
      if newInclude then some c else none
    else if newInclude then
      -- treat this like an Add (LastSeedValue deliberately not copied)
      some { id := c.id, kind := .add, time := c.time, old := none, new := c.new,
             seed := c.seed, lastSeed := false }
    else
      -- treat this like a remove
      some { id := c.id, kind := .remove, time := c.time, old := c.old, new := none,
             seed := false, lastSeed := false }

/-- `rr.Exclude(id, m)` for a stored (present) message. -/
def exclude (p : Option (Pred ι μ)) (i : ι) (v : μ) : Bool :=
  match p with
  | none => false
  | some f => !f i (some v)

/-- `itemSlice(readConfig)`: the stored items that are not excluded (map order abstracted: the list's). -/
def itemSlice (p : Option (Pred ι μ)) (items : List (ι × μ)) : List (ι × μ) :=
  items.filter (fun iv => !exclude p iv.1 iv.2)

/-- The seed events of `Pull`: one ADD per listed item, SeedValue set, LastSeedValue on the last. -/
def seedFrom (time : Nat) : List (ι × μ) → List (Change ι μ)
  | [] => []
  | [iv] => [{ id := iv.1, kind := .add, time := time, old := none, new := some iv.2, seed := true, lastSeed := true }]
  | iv :: rest => { id := iv.1, kind := .add, time := time, old := none, new := some iv.2, seed := true, lastSeed := false }
                    :: seedFrom time rest

def seed (p : Option (Pred ι μ)) (items : List (ι × μ)) : List (Change ι μ) :=
  seedFrom 0 (itemSlice p items)

/-- What a `Pull(WithInclude p)` subscriber is sent: the seed, then every published event through `include`. -/
def pull (p : Option (Pred ι μ)) (items : List (ι × μ)) (events : List (Change ι μ)) : List (Change ι μ) :=
  seed p items ++ events.filterMap (includeChange p)

/-- `(*CollectionChange).filter(responseFilter)`: the read mask projects old and new value; everything
else is kept.  `proj` is the projection `ResponseFilter.FilterClone` performs on a message (identity
without a mask).  In `Pull` it is applied to seeds directly and to events AFTER `include`, so the
predicate always sees the stored, unmasked values. -/
def maskChange (proj : μ → μ) (c : Change ι μ) : Change ι μ :=
  { c with old := c.old.map proj, new := c.new.map proj }

/-- What a `Pull(WithInclude p, WithReadMask m)` subscriber is sent for one published event. -/
def pullEvent (p : Option (Pred ι μ)) (proj : μ → μ) (c : Change ι μ) : Option (Change ι μ) :=
  (includeChange p c).map (maskChange proj)

/-- One turn of the forwarding loop of `Collection.Pull` on a published (or merged) event:
include ▸ read mask ▸ `c.equivalence.Compare(change.OldValue, change.NewValue)` (on the masked values;
`none` = no equivalence configured).  `none` = `continue`. -/
def pullStep (p : Option (Pred ι μ)) (proj : μ → μ) (E : Option (Option μ → Option μ → Bool))
    (c : Change ι μ) : Option (Change ι μ) :=
  match pullEvent p proj c with
  | none => none
  | some d =>
    match E with
    | some e => if e d.old d.new then none else some d
    | none => some d

/-- The read-masked view: every value projected. -/
def projView (proj : μ → μ) (s : View ι μ) : View ι μ := fun i => (s i).map proj

variable [DecidableEq ι]

/-- The view of stored items: `byId[i]`. -/
def viewOf (items : List (ι × μ)) : View ι μ := fun i => items.lookup i

/-- The filtered collection (Spec): present and satisfying the predicate. -/
def filterView (p : Option (Pred ι μ)) (s : View ι μ) : View ι μ :=
  fun i => match s i with
    | some v => if exclude p i v then none else some v
    | none => none

def NodupKeys (items : List (ι × μ)) : Prop := (items.map Prod.fst).Nodup

/-- Write operations on a collection. -/
inductive Op (ι μ : Type) where
  | add (i : ι) (v : μ)        -- Add: WithExpectAbsent + WithCreateIfAbsent
  | update (i : ι) (v : μ)     -- Update (no create): NotFound when absent
  | upsert (i : ι) (v : μ)     -- Update(WithCreateIfAbsent)
  | delete (i : ι)             -- Delete: NotFound when absent

def eraseKey (i : ι) (items : List (ι × μ)) : List (ι × μ) := items.filter (fun jv => jv.1 ≠ i)

def setKey (i : ι) (v : μ) (items : List (ι × μ)) : List (ι × μ) := (i, v) :: eraseKey i items

def mkChange (i : ι) (k : Kind) (t : Nat) (o n : Option μ) : Change ι μ :=
  { id := i, kind := k, time := t, old := o, new := n, seed := false, lastSeed := false }

/-- One write at time `t`: new contents and the published event, if the write succeeds. -/
def stepOp (t : Nat) (items : List (ι × μ)) : Op ι μ → List (ι × μ) × Option (Change ι μ)
  | .add i v =>
    match items.lookup i with
    | some _ => (items, none)                                   -- ExpectAbsentPreconditionFailed
    | none => (setKey i v items, some (mkChange i .add t none (some v)))
  | .update i v =>
    match items.lookup i with
    | some o => (setKey i v items, some (mkChange i .update t (some o) (some v)))
    | none => (items, none)                                     -- NotFound
  | .upsert i v =>
    match items.lookup i with
    | some o => (setKey i v items, some (mkChange i .update t (some o) (some v)))
    | none => (setKey i v items, some (mkChange i .add t none (some v)))
  | .delete i =>
    match items.lookup i with
    | some o => (eraseKey i items, some (mkChange i .remove t (some o) none))
    | none => (items, none)                                     -- NotFound

/-- Run a write history; returns the final contents and the published events in order. -/
def runOps (t : Nat) (items : List (ι × μ)) : List (Op ι μ) → List (ι × μ) × List (Change ι μ)
  | [] => (items, [])
  | op :: ops =>
    let r := stepOp t items op
    let r' := runOps (t + 1) r.1 ops
    (r'.1, r.2.toList ++ r'.2)

/-! ### `Collection.Delete`: optimistic read, callbacks without the lock, re-check under the lock, retry

```go
c.mu.RLock(); oldVal, exists := c.byId[id]; c.mu.RUnlock()
for attempt := 0; attempt < 5; attempt++ {
    if !exists { return NotFound }
    expectedCheck(oldVal.body) …            // caller code, no lock held: may write to the collection itself
    c.mu.Lock()
    oldVal2, exists2 := c.byId[id]
    if oldVal2 != oldVal || exists2 != exists { c.mu.Unlock(); oldVal, exists = oldVal2, exists2; continue }
    delete(c.byId, id); c.bus.Send(REMOVE{OldValue: oldVal.body}); c.mu.Unlock(); return
}
return Unavailable
```
`intf` lists, attempt by attempt, the writes that land between the read and the lock (the check
callback writing to the collection, or other writers).  `oldVal2 != oldVal` compares `*item`
pointers; every successful write stores a fresh `*item` (or deletes it), so the pointer of id `i`
changed iff a successful write to `i` was published in between: `touched`. -/

def touched (i : ι) (evs : List (Change ι μ)) : Bool := evs.any (fun c => decide (c.id = i))

/-- `deleteLoop i guard attemptsLeft read t items intf`: the loop of `Delete` with `read` = the value of
`i` as last read.  `guard n o` = "with `n+1` attempts left, the preconditions accept the read value `o`":
`expectedCheck(oldVal.body)` returned no error and `oldVal.body` equals `WithExpectedValue` (when given);
both are evaluated on the value READ, after the callback ran.  Returns the final contents and every
event published meanwhile, in order. -/
def deleteLoop (i : ι) (guard : Nat → μ → Bool) : Nat → Option μ → Nat → List (ι × μ) → List (List (Op ι μ)) →
    List (ι × μ) × List (Change ι μ)
  | 0, _, _, items, _ => (items, [])                       -- Unavailable: "concurrent writes"
  | n + 1, read, t, items, intf =>
    match read with
    | none => (items, [])                                  -- NotFound (or nil, nil with WithAllowMissing)
    | some o =>
      let r := runOps t items (intf.headD [])              -- callbacks / other writers, no lock held
      if !guard n o then (r.1, r.2)                        -- precondition failed: return, nothing deleted
      else if touched i r.2 then                           -- under the lock: somebody changed the item
        let r' := deleteLoop i guard n (r.1.lookup i) (t + r.2.length) r.1 intf.tail
        (r'.1, r.2 ++ r'.2)
      else                                                 -- actually do the delete; event built HERE
        (eraseKey i r.1, r.2 ++ [mkChange i .remove (t + r.2.length) (some o) none])

/-! ### `Collection.Update` when the item is written between its read and its write lock

`GetAndUpdate`: `get()` under the read lock (an absent item reads as the provisional empty message
`created` when `WithCreateIfAbsent`), the change function — caller code: `WithExpectedCheck`, interceptors —
runs with no lock held, then under the write lock `get()` again and `proto.Equal(old, oldAgain)` decides
between `Aborted` and saving.  The comparison is BY VALUE, so the write goes through when the item was
written meanwhile to an equal value — in particular when it was absent at the first read and has been
created meanwhile holding exactly the empty message.  The event must then be an UPDATE from that stored
value, not an ADD (the code after `fix:`; `writeRetryLegacy` keeps the behaviour before it). -/

/-- what `get()` returns: `none` = the call fails here (ExpectAbsentPreconditionFailed / NotFound) -/
def getForUpdate (empty : μ) (create expectAbsent : Bool) (stored : Option μ) : Option μ :=
  match stored with
  | some o => if expectAbsent then none else some o
  | none => if create then some empty else none

/-- `Update(i, v, …)` with `intf` = the writes that land between its read and its write lock. -/
def writeRetry [DecidableEq μ] (empty : μ) (t : Nat) (items : List (ι × μ)) (i : ι) (v : μ)
    (create expectAbsent : Bool) (intf : List (Op ι μ)) : List (ι × μ) × List (Change ι μ) :=
  match getForUpdate empty create expectAbsent (items.lookup i) with
  | none => (items, [])
  | some rv =>
    let r := runOps t items intf                      -- the change function: caller code, no lock held
    match getForUpdate empty create expectAbsent (r.1.lookup i) with
    | none => (r.1, r.2)
    | some av =>
      if rv ≠ av then (r.1, r.2)                      -- Aborted: "concurrent update detected"
      else
        let ev := match r.1.lookup i with             -- what is stored when the write lock is held
          | none => mkChange i .add (t + r.2.length) none (some v)
          | some _ => mkChange i .update (t + r.2.length) (some rv) (some v)
        (setKey i v r.1, r.2 ++ [ev])

/-- before the `fix:` commit: an item absent at the FIRST read was announced as ADD (no old value)
whatever is stored at commit time. -/
def writeRetryLegacy [DecidableEq μ] (empty : μ) (t : Nat) (items : List (ι × μ)) (i : ι) (v : μ)
    (create expectAbsent : Bool) (intf : List (Op ι μ)) : List (ι × μ) × List (Change ι μ) :=
  match getForUpdate empty create expectAbsent (items.lookup i) with
  | none => (items, [])
  | some rv =>
    let r := runOps t items intf
    match getForUpdate empty create expectAbsent (r.1.lookup i) with
    | none => (r.1, r.2)
    | some av =>
      if rv ≠ av then (r.1, r.2)
      else
        let ev := match items.lookup i, r.1.lookup i with
          | some _, some _ => mkChange i .update (t + r.2.length) (some rv) (some v)
          | _, _ => mkChange i .add (t + r.2.length) none (some v)
        (setKey i v r.1, r.2 ++ [ev])

/-- A write as the harness drives it: a plain write, a `Delete` with its options — preconditions
(`guard`) and a check callback (or concurrent writers) writing to the collection between the attempts —
or an `Add`/`Update` whose change function (or concurrent writers) writes to the collection. -/
inductive Act (ι μ : Type) where
  | op (o : Op ι μ)
  | deleteRetry (i : ι) (intf : List (List (Op ι μ))) (guard : Nat → μ → Bool)
  | writeRetry (i : ι) (v : μ) (create expectAbsent : Bool) (intf : List (Op ι μ)) (empty : μ)

variable [DecidableEq μ]

def stepAct (t : Nat) (items : List (ι × μ)) : Act ι μ → List (ι × μ) × List (Change ι μ)
  | .op o => let r := stepOp t items o; (r.1, r.2.toList)
  | .deleteRetry i intf guard => deleteLoop i guard 5 (items.lookup i) t items intf
  | .writeRetry i v create expectAbsent intf empty => writeRetry empty t items i v create expectAbsent intf

def runActs (t : Nat) (items : List (ι × μ)) : List (Act ι μ) → List (ι × μ) × List (Change ι μ)
  | [] => (items, [])
  | a :: as =>
    let r := stepAct t items a
    let r' := runActs (t + 1 + r.2.length) r.1 as
    (r'.1, r.2 ++ r'.2)

end ScVerif.C08
