import ScVerif.C08.PipeBus
import ScVerif.C08.SlotLemmas
/-! Every subscriber's pipeline on a shared bus is a run of the single pipeline over the published events: the
bus of pipelines is a fan-out (`pbusStep_slot`, `pbusStep_length`), and a slot's own steps are the moves
`ownMove` picks out of the run. -/
namespace ScVerif.C08
open ScVerif.C09

variable {ι μ : Type} [DecidableEq ι]

theorem deliverP_eq_map (E : Option (Option μ → Option μ → Bool)) (l : List (SubOpts ι μ × PCfg ι μ))
    (c : Change ι μ) :
    deliverP E l c = l.map (fun sc => (sc.1, pstep (sc.1.turn E) sc.2 (.recv c))) := by
  induction l with
  | nil => rfl
  | cons sc l ih => obtain ⟨s, cfg⟩ := sc; simp [deliverP, ih]

omit [DecidableEq ι] in
/-- what a step of the bus is to the pipeline in slot `k`: a publication is a `recv`, a `take`/`deliver` of
subscriber `k` is that move, everything else nothing -/
def ownMove (k : Nat) : PBusStep ι μ → Option (PMove (Change ι μ))
  | .publish c => some (.recv c)
  | .join _ => none
  | .move _ (.recv _) => none
  | .move j m => if j = k then some m else none

def pbusOwn (E : Option (Option μ → Option μ → Bool)) (k : Nat) (st : PBusStep ι μ)
    (sc : SubOpts ι μ × PCfg ι μ) : SubOpts ι μ × PCfg ι μ :=
  match ownMove k st with
  | some m => (sc.1, pstep (sc.1.turn E) sc.2 m)
  | none => sc

theorem pbusStep_slot (E : Option (Option μ → Option μ → Bool)) (l : List (SubOpts ι μ × PCfg ι μ))
    (st : PBusStep ι μ) (k : Nat) (b : SubOpts ι μ × PCfg ι μ) (hk : l[k]? = some b) :
    (pbusStep E l st)[k]? = some (pbusOwn E k st b) := by
  cases st with
  | publish c => simp only [pbusStep, deliverP_eq_map, List.getElem?_map, hk]; rfl
  | join s' => exact (List.getElem?_append_left (List.getElem?_eq_some_iff.mp hk).1).trans hk
  | move j m =>
    cases m with
    | recv e => exact hk
    | take | deliver =>
      simp only [pbusStep, pbusOwn, ownMove, getElem?_updAt, hk]
      split <;> rfl

theorem pbusStep_length (E : Option (Option μ → Option μ → Bool)) (l : List (SubOpts ι μ × PCfg ι μ))
    (st : PBusStep ι μ) (rest : List (PBusStep ι μ)) :
    (pbusStep E l st).length + joinsP rest = l.length + joinsP (st :: rest) := by
  cases st with
  | publish c => simp only [pbusStep, deliverP_eq_map, List.length_map, joinsP]
  | join s' => simp only [pbusStep, List.length_append, List.length_singleton, joinsP]; omega
  | move j m => cases m <;> simp only [pbusStep, length_updAt, joinsP]

omit [DecidableEq ι] in
theorem pinputs_ownMove (k : Nat) (steps : List (PBusStep ι μ)) :
    pinputs (steps.filterMap (ownMove k)) = publishedP steps := by
  induction steps with
  | nil => rfl
  | cons st steps ih =>
    cases st with
    | publish c => exact congrArg (c :: ·) ih
    | join s' => exact ih
    | move j m =>
      cases m with
      | recv e => exact ih
      | take | deliver =>
        by_cases hj : j = k <;> simp only [List.filterMap_cons, ownMove, hj, if_true, if_false] <;> exact ih

theorem foldl_pbusOwn (E : Option (Option μ → Option μ → Bool)) (k : Nat) (steps : List (PBusStep ι μ))
    (s : SubOpts ι μ) (cfg : PCfg ι μ) :
    steps.foldl (fun b st => pbusOwn E k st b) (s, cfg)
      = (s, prun (s.turn E) cfg (steps.filterMap (ownMove k))) := by
  induction steps generalizing cfg with
  | nil => rfl
  | cons st steps ih =>
    rw [List.foldl_cons, List.filterMap_cons, pbusOwn]
    cases ownMove k st with
    | none => exact ih cfg
    | some m => exact ih _

theorem pbusRun_joined (E : Option (Option μ → Option μ → Bool)) (pre post : List (PBusStep ι μ))
    (s : SubOpts ι μ) :
    (pbusRun E [] (pre ++ .join s :: post))[joinsP pre]?
      = some (s, prun (s.turn E) PCfg.init (post.filterMap (ownMove (joinsP pre)))) :=
  (fan_joined (own := fun st k => pbusOwn E k st) (pbusStep_slot E) (pbusStep_length E) rfl pre post (.join s)
    (s, PCfg.init) fun _ => rfl).trans (congrArg some (foldl_pbusOwn E _ post s PCfg.init))

end ScVerif.C08
