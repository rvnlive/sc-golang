import ScVerif.C08.InterceptLemmas
import ScVerif.C08.PropsConc
/-!
C08 — include-filtered Pull/List of a collection with an ID INTERCEPTOR (`resource.WithIDInterceptor(f)`).

Writers may spell an id any way the interceptor accepts (`DESK-2` for `desk-2`); `Update`, `Add` and `Delete`
replace the id by `f id` first and use that id for the map and for the published change
(`ScVerif/C08/Intercept.lean`).  Predicates are over (id, value) and the stream is keyed by id, so the
property needs every published id to be the canonical one.
-/
namespace ScVerif.C08
open ScVerif.C09

variable {ι μ : Type} [DecidableEq ι] [DecidableEq μ]

/-- Whatever spellings the writers use, on a collection whose keys are canonical, for EVERY interceptor `f` (no
idempotence needed). -/
theorem C08_intercept_ids_canonical (f : ι → ι) (t : Nat) (items : List (ι × μ))
    (hk : ∀ iv ∈ items, Canonical f iv.1) (as : List (Act ι μ)) :
    let r := runActs t items (as.map (Act.canon f))
    (∀ c ∈ r.2, Canonical f c.id) ∧ (∀ iv ∈ r.1, Canonical f iv.1) := by
  apply runActs_ids (Canonical f) t
  · intro a ha
    obtain ⟨a0, _, rfl⟩ := List.mem_map.mp ha
    exact Act.canon_idsAll f a0
  · exact hk

/-- `Pull(WithInclude p, WithReadMask m)` against `List` on a collection with an id interceptor, over every history of
writes in the CALLERS' spellings; no spelling a writer used ever shows up as a second item. -/
theorem C08_pull_matches_list_intercepted (f : ι → ι) (p : Option (Pred ι μ)) (proj : μ → μ)
    (items : List (ι × μ)) (hn : NodupKeys items) (hk : ∀ iv ∈ items, Canonical f iv.1)
    (order : List (ι × μ)) (hperm : order.Perm (itemSlice p items)) (t t' : Nat) (as : List (Act ι μ)) :
    let r := runActs t items (as.map (Act.canon f))
    let stream := (seedFrom t' order).map (maskChange proj) ++ r.2.filterMap (pullEvent p proj)
    WFHist View.empty stream ∧
    fold stream View.empty = projView proj (viewOf (itemSlice p r.1)) ∧
    viewOf (itemSlice p r.1) = filterView p (viewOf r.1) ∧
    ∀ i, ¬ Canonical f i → fold stream View.empty i = none := by
  have h := C08_pull_matches_list_reentrant p proj items hn order hperm t t' (as.map (Act.canon f))
  have hc := C08_intercept_ids_canonical f t items hk as
  simp only at h hc ⊢
  refine ⟨h.1, h.2.1, h.2.2, ?_⟩
  intro i hi
  rw [h.2.1]
  have hkeys : ∀ iv ∈ itemSlice p (runActs t items (as.map (Act.canon f))).1, Canonical f iv.1 :=
    fun iv hiv => hc.2 iv (List.mem_filter.mp hiv).1
  simp only [projView, viewOf, lookup_none_of_keys (Canonical f) hkeys i hi, Option.map_none]

/-- What the interceptor's result must be used for: a `Delete` that removes the item stored under `f id` but
publishes the REMOVE under the caller's spelling (`stepOpRawDelete`, NOT the code).  Interceptor "last digit",
predicate "the item with id 2", item 2 = 5 stored; `Delete(12)` removes item 2, the REMOVE carries id 12,
which the predicate does not match before or after: `include` drops it, the subscriber keeps item 2 for ever
while `List(WithInclude)` is empty.  The code's Delete publishes under id 2 and the REMOVE is delivered. -/
theorem C08_intercept_raw_delete_fails :
    let f : Nat → Nat := (· % 10)
    let p : Option (Pred Nat Nat) := some (fun i _ => i == 2)
    let items : List (Nat × Nat) := [(2, 5)]
    (stepOpRawDelete f 0 items 12).1 = [] ∧
    ((stepOpRawDelete f 0 items 12).2.bind (includeChange p)).isNone = true ∧
    fold (seed p items ++ (stepOpRawDelete f 0 items 12).2.toList.filterMap (includeChange p)) View.empty 2
      = some 5 ∧
    viewOf (itemSlice p (stepOpRawDelete f 0 items 12).1) 2 = none ∧
    ((stepOp 0 items ((Op.delete 12 : Op Nat Nat).canon f)).2.bind (includeChange p)).map
      (fun c => (c.id, c.kind, c.old)) = some (2, .remove, some 5) := by
  decide +kernel

/-- two writers spelling one item differently: the update under `12` and the delete under `22` both act on,
and are published under, the canonical id 2 -/
example :
    ((runActs 0 [((2 : Nat), (5 : Nat))] ([.op (.update 12 6), .op (.delete 22)].map (Act.canon (· % 10)))).2.map
      (fun c => (c.id, c.kind, c.old, c.new))) = [(2, .update, some 5, some 6), (2, .remove, some 6, none)] := by
  decide +kernel

end ScVerif.C08
