import ScVerif.C08.ReentrantLemmas
/-! Ids of published events and of stored keys: only ids the writes mention. -/
namespace ScVerif.C08
open ScVerif.C09

variable {ι μ : Type}

theorem Op.canon_id (f : ι → ι) (o : Op ι μ) : (o.canon f).id = f o.id := by
  cases o <;> rfl

theorem Act.canon_idsAll (f : ι → ι) (a : Act ι μ) : (a.canon f).idsAll (Canonical f) := by
  cases a with
  | op o => exact ⟨o.id, Op.canon_id f o⟩
  | deleteRetry i intf guard =>
    refine ⟨⟨i, rfl⟩, ?_⟩
    intro ops hops op hop
    obtain ⟨ops0, _, rfl⟩ := List.mem_map.mp hops
    obtain ⟨op0, _, rfl⟩ := List.mem_map.mp hop
    exact ⟨op0.id, Op.canon_id f op0⟩
  | writeRetry i v c e intf empty =>
    refine ⟨⟨i, rfl⟩, ?_⟩
    intro op hop
    obtain ⟨op0, _, rfl⟩ := List.mem_map.mp hop
    exact ⟨op0.id, Op.canon_id f op0⟩

/-- every published event and every key stored afterwards has an id satisfying `P` -/
def IdsIn (P : ι → Prop) (r : List (ι × μ) × List (Change ι μ)) : Prop :=
  (∀ c ∈ r.2, P c.id) ∧ ∀ iv ∈ r.1, P iv.1

variable [DecidableEq ι]

theorem IdsIn.set {P : ι → Prop} {items : List (ι × μ)} {i : ι} {v : μ} {c : Change ι μ}
    (hk : ∀ iv ∈ items, P iv.1) (hi : P i) (hc : c.id = i := by rfl) : IdsIn P (setKey i v items, [c]) :=
  ⟨fun _ h => List.mem_singleton.mp h ▸ hc ▸ hi, fun iv hiv =>
    (List.mem_cons.mp hiv).elim (fun h => (congrArg Prod.fst h).symm ▸ hi) fun h => hk iv (List.mem_filter.mp h).1⟩

/-- a write publishes under the id it was given, and stores under no other new key -/
theorem IdsIn.closed (P : ι → Prop) :
    Closed (fun items : List (ι × μ) => ∀ iv ∈ items, P iv.1) P (fun _ r => IdsIn P r) where
  nil hk := ⟨fun _ h => (nomatch h), hk⟩
  good h := h.2
  append h h' := ⟨fun c hc => (List.mem_append.mp hc).elim (h.1 c) (h'.1 c), h'.2⟩
  add _ _ hk hi _ := .set hk hi
  update _ _ hk hi _ := .set hk hi
  remove _ hi hr _ _ := ⟨fun _ hc => List.mem_singleton.mp hc ▸ hi, fun iv hiv => hr.2 iv (List.mem_filter.mp hiv).1⟩

variable [DecidableEq μ]

theorem runActs_ids (P : ι → Prop) (t : Nat) {items : List (ι × μ)} (as : List (Act ι μ))
    (has : ∀ a ∈ as, a.idsAll P) (hk : ∀ iv ∈ items, P iv.1) : IdsIn P (runActs t items as) :=
  runActs_closed (IdsIn.closed P) t hk as has

omit [DecidableEq μ] in
theorem lookup_none_of_keys (P : ι → Prop) {items : List (ι × μ)} (hk : ∀ iv ∈ items, P iv.1) (i : ι)
    (hi : ¬ P i) : items.lookup i = none :=
  List.lookup_eq_none_iff.mpr fun iv h => bne_iff_ne.mpr fun e => hi (e ▸ hk iv h)

end ScVerif.C08
