import ScVerif.C08.SharedSpec
/-! The run of `ScVerif/C08/Shared.lean` is a fan-out in the sense of `SlotLemmas.lean` (`busStep_slot`, `busStep_length` are
the hypotheses of `fan_joined`, applied in `C08_shared_bus_independent`), each slot going through the subscriber's own
forwarding loop (`foldl_busOwn`). -/
namespace ScVerif.C08
open ScVerif.C09

variable {ι μ : Type}

/-- a step of the bus seen from one slot: a publication is one turn of the subscriber's own forwarding loop -/
def busOwn (E : Option (Option μ → Option μ → Bool)) :
    BusStep ι μ → SubOpts ι μ × List (Change ι μ) → SubOpts ι μ × List (Change ι μ)
  | .publish c, so => (so.1, so.2 ++ (pullStep so.1.pred so.1.proj E c).toList)
  | .join _, so => so

theorem deliver_eq_map (E : Option (Option μ → Option μ → Bool)) (l : List (SubOpts ι μ × List (Change ι μ)))
    (c : Change ι μ) : deliver E l c = l.map (busOwn E (.publish c)) := by
  induction l with
  | nil => rfl
  | cons so l ih => exact congrArg (_ :: ·) ih

theorem busStep_slot (E : Option (Option μ → Option μ → Bool)) (l : List (SubOpts ι μ × List (Change ι μ)))
    (st : BusStep ι μ) (k : Nat) (b : SubOpts ι μ × List (Change ι μ)) (hk : l[k]? = some b) :
    (busStep E l st)[k]? = some (busOwn E st b) := by
  cases st with
  | publish c => simp only [busStep, deliver_eq_map, List.getElem?_map, hk]; rfl
  | join s' => exact (List.getElem?_append_left (List.getElem?_eq_some_iff.mp hk).1).trans hk

theorem busStep_length (E : Option (Option μ → Option μ → Bool)) (l : List (SubOpts ι μ × List (Change ι μ)))
    (st : BusStep ι μ) (rest : List (BusStep ι μ)) :
    (busStep E l st).length + joins rest = l.length + joins (st :: rest) := by
  cases st with
  | publish c => simp only [busStep, deliver_eq_map, List.length_map, joins]
  | join s' => simp only [busStep, List.length_append, List.length_singleton, joins]; omega

theorem foldl_busOwn (E : Option (Option μ → Option μ → Bool)) (steps : List (BusStep ι μ))
    (so : SubOpts ι μ × List (Change ι μ)) :
    steps.foldl (fun b st => busOwn E st b) so
      = (so.1, so.2 ++ (published steps).filterMap (pullStep so.1.pred so.1.proj E)) := by
  induction steps generalizing so with
  | nil => exact (congrArg (so.1, ·) (List.append_nil _)).symm
  | cons st steps ih =>
    cases st with
    | publish c =>
      obtain ⟨s, out⟩ := so
      refine (ih _).trans (congrArg (s, ·) ?_)
      show out ++ (pullStep s.pred s.proj E c).toList ++ _ = out ++ (c :: published steps).filterMap _
      rw [List.filterMap_cons, List.append_assoc]
      cases pullStep s.pred s.proj E c <;> rfl
    | join s' => exact ih so

end ScVerif.C08
