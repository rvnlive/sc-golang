import ScVerif.C08.SubscribeGcLemmas
/-!
C08 — subscribing with an include predicate on a bus that holds CANCELLED, not yet collected listeners.

A filtered Pull must go on being sent every published change however many other subscribers have come and gone, and
whenever they are garbage collected (`ScVerif/C08/SubscribeGc.lean`).
-/
namespace ScVerif.C08
open ScVerif.C09

variable {ι μ : Type} [DecidableEq ι]

/-- The bus's bookkeeping, for EVERY schedule of writers, subscribers (registering, being cancelled) and Sends (copy,
deliveries, collect, with anything in between): `collect` never drops a live listener, whenever it registered. -/
theorem C08_bus_keeps_live_listeners (preds : List (Option (Pred ι μ))) (items : List (ι × μ)) (n : Nat)
    (sched : List (GStep ι μ)) :
    let s := gsysRun false preds (GSys.init items n) sched
    s.listeners.Nodup ∧
    (∀ k ∈ s.listeners, (s.subs.getD k .idle).isListening = true) ∧
    (∀ k, (s.subs.getD k .idle).isListening = true → k ∉ s.dead → k ∈ s.listeners) := by
  have h := (gsysRun_spec preds (GSys.init items n) sched (GInv_init items n)).1
  exact ⟨h.nodup, h.listening, h.registered⟩

/-- `C08_subscribe_atomic_split_send` on a bus with cancelled listeners and garbage collection: ANY subscriber
cancelled at ANY moment, a cancelled listener skipped and remembered by the `Send`, the final `collect` a step of its
own.  For every subscriber `j` that has not been cancelled. -/
theorem C08_subscribe_atomic_gc [DecidableEq μ] (preds : List (Option (Pred ι μ))) (items : List (ι × μ))
    (hn : NodupKeys items) (n : Nat) (sched : List (GStep ι μ)) (j : Nat)
    (hlive : j ∉ (gsysRun false preds (GSys.init items n) sched).dead) :
    let s := gsysRun false preds (GSys.init items n) sched
    let p := preds.getD j none
    let pend := s.pendFor j
    match s.subs.getD j .idle with
    | .idle => True
    | .snapping seed => seed = itemSlice p s.items
    | .listening seed recv =>
      (∃ (T : View ι μ) (k : Nat), k ≤ pend.length ∧ WFHist T pend ∧
        fold pend T = viewOf s.items ∧
        (∀ i, subView p seed recv i = filterView p (fold (pend.take k) T) i ∨
              subView p seed recv i = filterView p T i) ∧
        (k = 0 → subView p seed recv = filterView p T)) ∧
      (pend = [] → ∀ (order : List (ι × μ)) (t : Nat), order.Perm seed →
        fold (seedFrom t order ++ recv.filterMap (includeChange p)) View.empty
          = viewOf (itemSlice p s.items) ∧
        viewOf (itemSlice p s.items) = filterView p (viewOf s.items)) :=
  ((Ledger.init (preds.getD j none) items hn).reach (GSys.proj_init items n j ▸
    (gsysRun_spec preds (GSys.init items n) sched (GInv_init items n)).2.2 j hlive)).atomic

/-- slot 2 is a ghost (registers, is cancelled at once); subscriber 0 registers; a commit's Send copies the
listener slice [2, 0]; subscriber 1 takes its seed and registers; the Send skips the ghost, serves subscriber 0
and collects; a second commit is sent -/
private def lateJoinerSched : List (GStep Nat Nat) :=
  [.snapshot 2, .listen 2, .cancel 2, .snapshot 0, .listen 0, .commit (.update 1 20), .sendStart,
   .snapshot 1, .listen 1, .sendNext, .sendNext, .collect,
   .commit (.update 1 30), .sendStart, .sendNext, .sendNext]

/-- What `collect` must scan: a `collect` that filters the copy the Send has just walked and stores THAT as
`b.listeners` (`inPlace = true`, NOT the code) unsubscribes whoever registered since the copy was taken.
Subscriber 1 registered during the Send: afterwards it is live and registered but no longer in `b.listeners`;
the next update (20 → 30) is published and nothing is on its way to it, yet it was sent nothing: it holds
item 1 = 20 for ever while the collection has 30.  With the code's `collect` it stays listed and is sent it. -/
theorem C08_gc_collect_copy_fails :
    let bad := gsysRun true [none, none] (GSys.init [((1 : Nat), (10 : Nat))] 3) lateJoinerSched
    let good := gsysRun false [none, none] (GSys.init [((1 : Nat), (10 : Nat))] 3) lateJoinerSched
    bad.listeners = [0] ∧ 1 ∉ bad.dead ∧ bad.pendFor 1 = [] ∧ bad.items = [(1, 30)] ∧
    (match bad.subs.getD 1 .idle with
      | .listening seed recv => (seed, recv.map (fun (c : Change Nat Nat) => (c.old, c.new)))
      | _ => ([], [])) = ([(1, 20)], []) ∧
    good.listeners = [0, 1] ∧ good.pendFor 1 = [] ∧ good.collects = 1 ∧
    (match good.subs.getD 1 .idle with
      | .listening seed recv => (seed, recv.map (fun (c : Change Nat Nat) => (c.old, c.new)))
      | _ => ([], [])) = ([(1, 20)], [(some 20, some 30)]) := by
  decide +kernel

/-- the hypothesis `j ∉ dead` of `C08_subscribe_atomic_gc` holds for subscribers 0 and 1 of the run above while
the ghost is dead, found by the Send and collected -/
example :
    (gsysRun false [none, none] (GSys.init [((1 : Nat), (10 : Nat))] 3) lateJoinerSched).dead = [2] ∧
    (gsysRun false [none, none] (GSys.init [((1 : Nat), (10 : Nat))] 3) (lateJoinerSched.take 11)).gcDue = true ∧
    (gsysRun false [none, none] (GSys.init [((1 : Nat), (10 : Nat))] 3) (lateJoinerSched.take 11)).listeners
      = [2, 0, 1] := by
  decide +kernel

/-- a subscriber cancelled WHILE an event is in flight towards it is skipped, and a `Delete` (which sends under
the write lock) collects it in the same step -/
example :
    let s := gsysRun false [none, none] (GSys.init [((1 : Nat), (10 : Nat))] 2)
      [.snapshot 0, .listen 0, .snapshot 1, .listen 1, .commit (.update 1 20), .sendStart, .cancel 0,
       .sendNext, .sendNext, .collect, .snapshot 0, .listen 0, .cancel 1, .deleteNow 1]
    s.listeners = [] ∧ s.collects = 2 ∧ s.dead = [1, 0] ∧
    (match s.subs.getD 1 .idle with
      | .listening _ recv => recv.map (fun (c : Change Nat Nat) => (c.old, c.new))
      | _ => []) = [(some 10, some 20)] := by
  decide +kernel

end ScVerif.C08
