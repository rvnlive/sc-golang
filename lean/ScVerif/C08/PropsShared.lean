import ScVerif.C08.SharedLemmas
import ScVerif.C08.SubscribeSendLemmas
import ScVerif.C08.PipeBusLemmas
import ScVerif.C08.PropsConc
/-!
# C08 — several subscribers on one collection (the bus hands ONE event object to all of them)

The property is claimed for EVERY subscriber of a collection, whatever other subscribers — with other
predicates, read masks, paces — are registered on the same bus and are handed the very same
`*CollectionChange` earlier in `Bus.Send`'s loop; and, second half, for every subscriber of the concurrent systems
`SubscribeMany.lean` / `SubscribeSend.lean`, with exact and with lossy delivery.  Tie: `pull-shared-bus` (driver op `mpull` runs `deliver` and,
beside it, `pbusStep` on 2-3 subscribers of the real collection, answering `!models-differ` should the two disagree).
-/
namespace ScVerif.C08
open ScVerif.C09

variable {ι μ : Type}

/-- Non-interference: a subscriber joining after any run `pre` has been sent exactly what its own forwarding
loop makes of the events published since — what it would have been sent as the only subscriber. -/
theorem C08_shared_bus_independent (E : Option (Option μ → Option μ → Bool)) (pre post : List (BusStep ι μ))
    (s : SubOpts ι μ) :
    (busRun E [] (pre ++ .join s :: post))[joins pre]? =
      some (s, (published post).filterMap (pullStep s.pred s.proj E)) :=
  (fan_joined (own := fun st _ => busOwn E st) (busStep_slot E) (busStep_length E) rfl pre post (.join s)
    (s, []) fun _ => rfl).trans (congrArg some (foldl_busOwn E post (s, [])))

variable [DecidableEq ι] [DecidableEq μ]

/-- Every subscriber of a shared collection, without an equivalence, whatever subscribers registered before it
(`pre`) or join meanwhile (the `join`s of `post`) and are handed the same event objects. -/
theorem C08_shared_bus_matches_list (p : Option (Pred ι μ)) (proj : μ → μ) (items : List (ι × μ))
    (hn : NodupKeys items) (order : List (ι × μ)) (hperm : order.Perm (itemSlice p items))
    (t t' : Nat) (as : List (Act ι μ)) (pre post : List (BusStep ι μ))
    (hpub : published post = (runActs t items as).2) :
    ∃ out, (busRun none [] (pre ++ .join ⟨p, proj⟩ :: post))[joins pre]? = some (⟨p, proj⟩, out) ∧
      let stream := (seedFrom t' order).map (maskChange proj) ++ out
      WFHist View.empty stream ∧
      fold stream View.empty = projView proj (viewOf (itemSlice p (runActs t items as).1)) := by
  refine ⟨_, C08_shared_bus_independent none pre post ⟨p, proj⟩, ?_⟩
  simp only [hpub, filterMap_pullStep_none]
  have h := (C08_pull_matches_list_reentrant p proj items hn order hperm t t' as)
  exact ⟨h.1, h.2.1⟩

/-- The same on a collection configured with an equivalence `E` (reflexive, transitive); the base is the masked
filtered collection at the moment the subscriber joined (its seed, or what an updates-only subscriber holds). -/
theorem C08_shared_bus_matches_list_equiv (p : Option (Pred ι μ)) (proj : μ → μ)
    (E : Option μ → Option μ → Bool) (hrefl : ∀ a, E a a = true)
    (htrans : ∀ a b c, E a b = true → E b c = true → E a c = true)
    (items : List (ι × μ)) (hn : NodupKeys items) (t : Nat) (as : List (Act ι μ))
    (pre post : List (BusStep ι μ)) (hpub : published post = (runActs t items as).2) :
    ∃ out, (busRun (some E) [] (pre ++ .join ⟨p, proj⟩ :: post))[joins pre]? = some (⟨p, proj⟩, out) ∧
      ∀ i, E (fold out (projView proj (viewOf (itemSlice p items))) i)
             (projView proj (viewOf (itemSlice p (runActs t items as).1)) i) = true := by
  refine ⟨_, C08_shared_bus_independent (some E) pre post ⟨p, proj⟩, ?_⟩
  have hops := runActs_publishes t hn as
  have heq := pullStep_hist p proj E hrefl htrans _ _ hops.2.1
  rwa [hops.list p, ← viewOf_itemSlice p items hn, ← hpub] at heq

/-- Every subscriber of a shared collection with its WHOLE pipeline, lossy or not (`ScVerif/C08/PipeBus.lean`): all
subscribers' forwarders and consumers move in ANY interleaving with the publications; a backpressured subscriber
is the interleaving in which its `take` follows each publication at once. -/
theorem C08_shared_bus_full_pipeline (p : Option (Pred ι μ)) (proj : μ → μ)
    (E : Option μ → Option μ → Bool) (hrefl : ∀ a, E a a = true)
    (htrans : ∀ a b c, E a b = true → E b c = true → E a c = true)
    (items : List (ι × μ)) (hn : NodupKeys items) (t : Nat) (as : List (Act ι μ))
    (pre post : List (PBusStep ι μ)) (hpub : publishedP post = (runActs t items as).2) :
    ∃ cfg, (pbusRun (some E) [] (pre ++ .join ⟨p, proj⟩ :: post))[joinsP pre]? = some (⟨p, proj⟩, cfg) ∧
      (cfg.inHand = none → cfg.st.pending = [] →
        ∀ i, E (fold cfg.delivered (projView proj (viewOf (itemSlice p items))) i)
               (projView proj (viewOf (itemSlice p (runActs t items as).1)) i) = true) :=
  ⟨_, pbusRun_joined (some E) pre post ⟨p, proj⟩,
    C08_pull_full_pipeline_list_reentrant p proj E hrefl htrans items hn t as _ ((pinputs_ownMove _ post).trans hpub)⟩

/-- The same without an equivalence. -/
theorem C08_shared_bus_full_pipeline_exact (p : Option (Pred ι μ)) (proj : μ → μ)
    (items : List (ι × μ)) (hn : NodupKeys items) (t : Nat) (as : List (Act ι μ))
    (pre post : List (PBusStep ι μ)) (hpub : publishedP post = (runActs t items as).2) :
    ∃ cfg, (pbusRun none [] (pre ++ .join ⟨p, proj⟩ :: post))[joinsP pre]? = some (⟨p, proj⟩, cfg) ∧
      WFHist (projView proj (viewOf (itemSlice p items))) (cfg.delivered ++ cfg.inHand.toList) ∧
      (cfg.inHand = none → cfg.st.pending = [] →
        fold cfg.delivered (projView proj (viewOf (itemSlice p items)))
          = projView proj (viewOf (itemSlice p (runActs t items as).1))) := by
  have hin := (pinputs_ownMove (joinsP pre) post).trans hpub
  have hops := runActs_publishes t hn as
  have h := C08_pull_pipeline_exact p proj (viewOf items) _ (by rw [hin]; exact hops.2.1)
  simp only at h
  rw [← viewOf_itemSlice p items hn] at h
  refine ⟨_, pbusRun_joined none pre post ⟨p, proj⟩, h.1, ?_⟩
  intro hh hpend
  have := h.2.2 hh hpend
  rw [hin, hops.list p] at this
  exact this

/-- `C08_subscribe_atomic` with ANY NUMBER of subscribers (`ScVerif/C08/SubscribeMany.lean`), each with its own
predicate and taking the read lock at a moment of its own (several may hold it together), every `publish` handing
the event to all that listen. -/
theorem C08_subscribe_atomic_many (preds : List (Option (Pred ι μ))) (items : List (ι × μ))
    (hn : NodupKeys items) (n : Nat) (sched : List (MStep ι μ)) (j : Nat) :
    let s := msysRun true preds (MSys.init items n) sched
    let p := preds.getD j none
    match s.subs.getD j .idle with
    | .idle => True
    | .snapping seed => seed = itemSlice p s.items
    | .listening seed recv =>
      (∃ (T : View ι μ) (k : Nat), k ≤ s.pend.length ∧ WFHist T s.pend ∧
        fold s.pend T = viewOf s.items ∧
        (∀ i, subView p seed recv i = filterView p (fold (s.pend.take k) T) i ∨
              subView p seed recv i = filterView p T i) ∧
        (k = 0 → subView p seed recv = filterView p T)) ∧
      (s.pend = [] → ∀ (order : List (ι × μ)) (t : Nat), order.Perm seed →
        fold (seedFrom t order ++ recv.filterMap (includeChange p)) View.empty
          = viewOf (itemSlice p s.items) ∧
        viewOf (itemSlice p s.items) = filterView p (viewOf s.items)) :=
  ((Ledger.init (preds.getD j none) items hn).reach
    (MSys.proj_init items n j ▸ msysRun_proj preds (MSys.init items n) sched j)).atomic

/-- The same with `Bus.Send` taken apart (`ScVerif/C08/SubscribeSend.lean`): other threads move between the copy of
the listener slice and each delivery, and a subscriber registering after the copy is not sent the event.
`pendFor j` = what is still on its way to `j`.  (One `Send` in flight at a time, started in commit order: C03's
`ordered` hypothesis.) -/
theorem C08_subscribe_atomic_split_send (preds : List (Option (Pred ι μ))) (items : List (ι × μ))
    (hn : NodupKeys items) (n : Nat) (sched : List (FStep ι μ)) (j : Nat) :
    let s := fsysRun true preds (FSys.init items n) sched
    let p := preds.getD j none
    let pend := s.pendFor j
    match s.subs.getD j .idle with
    | .idle => True
    | .snapping seed => seed = itemSlice p s.items
    | .listening seed recv =>
      (∃ (T : View ι μ) (k : Nat), k ≤ pend.length ∧ WFHist T pend ∧
        fold pend T = viewOf s.items ∧
        (∀ i, subView p seed recv i = filterView p (fold (pend.take k) T) i ∨
              subView p seed recv i = filterView p T i) ∧
        (k = 0 → subView p seed recv = filterView p T)) ∧
      (pend = [] → ∀ (order : List (ι × μ)) (t : Nat), order.Perm seed →
        fold (seedFrom t order ++ recv.filterMap (includeChange p)) View.empty
          = viewOf (itemSlice p s.items) ∧
        viewOf (itemSlice p s.items) = filterView p (viewOf s.items)) :=
  ((Ledger.init (preds.getD j none) items hn).reach
    (FSys.proj_init items n j ▸ (fsysRun_spec preds (FSys.init items n) sched (FInv_init items n)).2.2 j)).atomic

/-! Lossy delivery (`WithBackpressure(false)`, the default).  `C08_subscribe_atomic` needs exact delivery: a
subscriber that takes its seed between a commit and its publication is sent the event of a commit its seed already
contains, and only the NEXT event of the id repairs what `include` may have made of it.  The lossy machine can
merge the stale event with that next event, and `include` then judges the merged change from the stale old value. -/

/-- KNOWN FINDING (`C08/sched/lossy/stale-event-merged/…`; root cause: `Collection.Update` publishes after
releasing the lock — C03's known finding).  Predicate "value 20", item 1 = 10.  A writer commits 10 → 20;
before the event is published a lossy subscriber takes its seed ([1 = 20]) and registers; the event
10 → 20 and a further update 20 → 30 are published and the merge machine, not yet read, merges them to
10 → 30: neither 10 nor 30 matches, `include` drops it.  Everything is published and drained, the
subscriber still holds item 1, `List(WithInclude)` is empty — until the item changes again. -/
theorem C08_subscribe_lossy_stale_fails :
    ∃ (items : List (Nat × Nat)) (p : Pred Nat Nat) (sched : List (Step Nat Nat)) (seed : List (Nat × Nat))
      (recv : List (Change Nat Nat)) (ms : List (Move (Change Nat Nat))),
      NodupKeys items ∧
      (sysRun true (some p) (Sys.init items) sched).sub = .listening seed recv ∧
      (sysRun true (some p) (Sys.init items) sched).pend = [] ∧
      inputs ms = recv ∧ (run Cfg.init ms).st.pending = [] ∧
      fold ((run Cfg.init ms).emitted.filterMap (includeChange (some p))) (viewOf seed) 1
        ≠ viewOf (itemSlice (some p) (sysRun true (some p) (Sys.init items) sched).items) 1 := by
  refine ⟨[(1, 10)], fun _ v => v == some 20,
    [.commit (.update 1 20), .snapshot, .listen, .publish, .commit (.update 1 30), .publish],
    [(1, 20)], [mkChange 1 .update 0 (some 10) (some 20), mkChange 1 .update 1 (some 20) (some 30)],
    [.recv (mkChange 1 .update 0 (some 10) (some 20)), .recv (mkChange 1 .update 1 (some 20) (some 30)), .emit],
    ?_, ?_, ?_, ?_, ?_, ?_⟩
  · decide +kernel
  · rfl
  · rfl
  · rfl
  · decide +kernel
  · decide +kernel

omit [DecidableEq μ] in
/-- What holds with lossy delivery, for a subscriber that registered CLEANLY: nothing was pending when it took its
seed (`hclean`; e.g. no write was in progress, or the writers publish before they release the lock). -/
theorem C08_subscribe_lossy_partial (p : Option (Pred ι μ)) (items : List (ι × μ)) (hn : NodupKeys items)
    (pre post : List (Step ι μ))
    (hidle : (sysRun true p (Sys.init items) pre).sub = .idle)
    (hclean : (sysRun true p (Sys.init items) pre).pend = []) :
    let s := sysRun true p (Sys.init items) (pre ++ .snapshot :: post)
    match s.sub with
    | .listening seed recv =>
      ∀ ms : List (Move (Change ι μ)), inputs ms = recv →
        let c := run Cfg.init ms
        WFHist (viewOf seed) (c.emitted.filterMap (includeChange p)) ∧
        (c.st.pending = [] → s.pend = [] →
          fold (c.emitted.filterMap (includeChange p)) (viewOf seed) = viewOf (itemSlice p s.items))
    | _ => True := by
  have h0 := sysRun_ledger p false (Sys.init items) pre (Ledger.init p items hn)
  have h := (sysRun_ledger p true _ post (h0.start hidle hclean)).lossy
  rw [sysRun_append]
  exact h

omit [DecidableEq μ] in
/-- The lossy theorem for ANY NUMBER of subscribers and `Bus.Send` taken apart; clean means `pendFor j = []`: no
commit unpublished, no `Send` in flight whose copy contains `j`. -/
theorem C08_subscribe_lossy_partial_many (preds : List (Option (Pred ι μ))) (items : List (ι × μ))
    (hn : NodupKeys items) (n : Nat) (pre post : List (FStep ι μ)) (j : Nat) (hj : j < n)
    (hidle : (match (fsysRun true preds (FSys.init items n) pre).subs.getD j .idle with
      | .idle => true | _ => false) = true)
    (hclean : (fsysRun true preds (FSys.init items n) pre).pendFor j = []) :
    let s := fsysRun true preds (FSys.init items n) (pre ++ .snapshot j :: post)
    let p := preds.getD j none
    match s.subs.getD j .idle with
    | .listening seed recv =>
      ∀ ms : List (Move (Change ι μ)), inputs ms = recv →
        let c := run Cfg.init ms
        WFHist (viewOf seed) (c.emitted.filterMap (includeChange p)) ∧
        (c.st.pending = [] → s.pendFor j = [] →
          fold (c.emitted.filterMap (includeChange p)) (viewOf seed) = viewOf (itemSlice p s.items))
    | _ => True := by
  obtain ⟨hinv0, hlen, hproj⟩ := fsysRun_spec preds (FSys.init items n) pre (FInv_init items n)
  have h0 := (Ledger.init (preds.getD j none) items hn).reach (FSys.proj_init items n j ▸ hproj j)
  have hidle' : ((fsysRun true preds (FSys.init items n) pre).proj j).sub = .idle := by
    show (fsysRun true preds (FSys.init items n) pre).subs.getD j .idle = .idle
    cases hsub : (fsysRun true preds (FSys.init items n) pre).subs.getD j .idle with
    | idle => rfl
    | snapping seed => rw [hsub] at hidle; cases hidle
    | listening seed recv => rw [hsub] at hidle; cases hidle
  have hstart := h0.start hidle' hclean
  rw [← fsysStep_snapshot_proj preds _ j (by rw [hlen]; simpa [FSys.init] using hj)] at hstart
  rw [fsysRun_append]
  exact (hstart.reach ((fsysRun_spec preds _ post (fsysStep_spec preds _ (.snapshot j) hinv0).1).2.2 j)).lossy

/-! What the theorems rest on: no turn writes to the object it was handed.
Messages are pairs (title, room); subscriber 1 has no predicate and a read mask keeping the title (the room
reads 0), subscriber 2 lists the items of room 1 unmasked. -/

private def titles : SubOpts Nat (Nat × Nat) := ⟨none, fun m => (m.1, 0)⟩
private def room1 : SubOpts Nat (Nat × Nat) := ⟨some (fun _ v => v.map (·.2) == some 1), id⟩
/-- item 7 moves from room 1 to room 2 -/
private def moveOut : Change Nat (Nat × Nat) := mkChange 7 .update 3 (some (5, 1)) (some (5, 2))

/-- If `filter` stored the masked clones into the change it was handed (`deliverInPlace`, NOT the code),
an earlier subscriber's read mask would decide what a later subscriber's predicate sees: `room1` alone is
sent the REMOVE of item 7, behind `titles` on the same bus it is sent nothing — and keeps an item
`List(WithInclude)` no longer has.  With the code's `deliver` it is sent the REMOVE. -/
theorem C08_shared_inplace_fails :
    pullStep room1.pred room1.proj none moveOut = some (mkChange 7 .remove 3 (some (5, 1)) none) ∧
    (deliverInPlace none [(titles, []), (room1, [])] moveOut).map (·.2)
      = [[mkChange 7 .update 3 (some (5, 0)) (some (5, 0))], []] ∧
    (deliver none [(titles, []), (room1, [])] moveOut).map (·.2)
      = [[mkChange 7 .update 3 (some (5, 0)) (some (5, 0))], [mkChange 7 .remove 3 (some (5, 1)) none]] := by
  decide +kernel

/-- a run with three differently configured subscribers, one of them joining late: each is sent its own
filtered, masked edit script of the events published since it joined -/
example :
    (busRun none [] [.join titles, .join room1,
        .publish (mkChange 7 .add 1 none (some (5, 1))),
        .join ⟨some (fun _ v => v.map (·.2) == some 2), id⟩,
        .publish moveOut]).map (fun so => so.2.map (fun c => (c.kind, c.old, c.new)))
      = [[(.add, none, some (5, 0)), (.update, some (5, 0), some (5, 0))],
         [(.add, none, some (5, 1)), (.remove, some (5, 1), none)],
         [(.add, none, some (5, 2))]] := by decide +kernel

/-- the hypothesis `published post = (runActs …).2` of `C08_shared_bus_matches_list` is met by a run in
which another subscriber joins between two published writes -/
example :
    published ([.publish (mkChange 7 .add 0 none (some (5, 1))), .join titles,
        .publish (mkChange 7 .update 2 (some (5, 1)) (some (5, 2)))] : List (BusStep Nat (Nat × Nat)))
      = (runActs 0 [] [.op (.add 7 (5, 1)), .op (.update 7 (5, 2))]).2 := by decide +kernel

private def twoSubs : MSys Nat Nat :=
  msysRun true [some (fun _ v => v == some 20), some (fun _ v => v == some 10)] (MSys.init [(1, 10)] 2)
    [.snapshot 0, .listen 0, .commit (.update 1 20), .snapshot 1, .commit (.update 1 30), .listen 1, .publish]

/-- two subscribers with different predicates on one collection; the second snapshots between a commit and
its publication while the first already listens (a further commit is blocked by its lock): the first is
sent the update and folds to its list [20]; the second's seed is empty already and the stale update, which
it is sent as well, is none of its business -/
example :
    twoSubs.subs.map (fun (sub : ScVerif.C08.Sub Nat Nat) => match sub with
      | .listening seed _ => seed
      | _ => [(0, 0)]) = [[], []] ∧
    twoSubs.subs.map (fun (sub : ScVerif.C08.Sub Nat Nat) => match sub with
      | .listening _ recv => recv.map (fun (c : Change Nat Nat) => (c.old, c.new))
      | _ => []) = [[(some 10, some 20)], [(some 10, some 20)]] ∧
    twoSubs.items = [(1, 20)] ∧ twoSubs.pend = [] := by
  decide +kernel

/-- a lossy and a backpressured subscriber on one bus: two updates are published before the lossy one's
forwarder moves - its machine merges them (10 → 30), the other one is sent both -/
example :
    (pbusRun none [] [.join (⟨none, id⟩ : SubOpts Nat Nat), .join ⟨none, id⟩,
        .publish (mkChange 1 .update 0 (some 10) (some 20)), .move 1 .take, .move 1 .deliver,
        .publish (mkChange 1 .update 1 (some 20) (some 30)), .move 1 .take, .move 1 .deliver,
        .move 0 .take, .move 0 .deliver]).map (fun sc => sc.2.delivered.map (fun c => (c.old, c.new)))
      = [[(some 10, some 30)], [(some 10, some 20), (some 20, some 30)]] := by decide +kernel

private def lateListener : FSys Nat Nat :=
  fsysRun true [none, none] (FSys.init [(1, 10)] 2)
    [.snapshot 0, .listen 0, .commit (.update 1 20), .sendStart, .snapshot 1, .listen 1, .sendNext]

/-- a subscriber that registers between a `Send`'s copy of the listener slice and its deliveries: the event
(10 → 20) is in flight towards subscriber 0 only; subscriber 1's seed already holds 20, it is not in the copy
and is sent nothing; nothing is on its way to either at the end -/
example :
    lateListener.subs.map (fun (sub : ScVerif.C08.Sub Nat Nat) => match sub with
      | .listening seed _ => seed
      | _ => []) = [[(1, 10)], [(1, 20)]] ∧
    lateListener.subs.map (fun (sub : ScVerif.C08.Sub Nat Nat) => match sub with
      | .listening _ recv => recv.map (fun (c : Change Nat Nat) => (c.old, c.new))
      | _ => []) = [[(some 10, some 20)], []] ∧
    lateListener.pendFor 0 = [] ∧ lateListener.pendFor 1 = [] := by
  decide +kernel

/-- the hypotheses of `C08_subscribe_lossy_partial` are met by a run in which a write was committed AND
published before the subscriber took its seed -/
example :
    (sysRun true (none : Option (Pred Nat Nat)) (Sys.init [(1, 10)]) [.commit (.update 1 20), .publish]).pend = [] ∧
    (match (sysRun true (none : Option (Pred Nat Nat)) (Sys.init [(1, 10)]) [.commit (.update 1 20), .publish]).sub with
      | .idle => true | _ => false) = true := by decide +kernel

/-- the hypotheses of `C08_subscribe_lossy_partial_many` hold for subscriber 1 after a run in which a commit's
`Send` is IN FLIGHT towards subscriber 0 only: nothing is on its way to subscriber 1, which is still idle -/
example :
    (fsysRun true [none, none] (FSys.init [((1 : Nat), (10 : Nat))] 2)
      [.snapshot 0, .listen 0, .commit (.update 1 20), .sendStart]).pendFor 1 = [] ∧
    (fsysRun true [none, none] (FSys.init [((1 : Nat), (10 : Nat))] 2)
      [.snapshot 0, .listen 0, .commit (.update 1 20), .sendStart]).pendFor 0
        = [mkChange 1 .update 0 (some 10) (some 20)] ∧
    (match (fsysRun true [none, none] (FSys.init [((1 : Nat), (10 : Nat))] 2)
      [.snapshot 0, .listen 0, .commit (.update 1 20), .sendStart]).subs.getD 1 .idle with
      | .idle => true | _ => false) = true := by decide +kernel

end ScVerif.C08
