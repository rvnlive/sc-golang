import ScVerif.C08.IncludeLemmas
import ScVerif.C08.Intercept  -- for `Op.id`
/-! The collection as a list of (id, value) pairs with distinct keys: the graph of its `lookup`; what its writes
publish, and the seed of a Pull. -/
namespace ScVerif.C08
open ScVerif.C09

variable {ι μ : Type}

instance [DecidableEq ι] (items : List (ι × μ)) : Decidable (NodupKeys items) :=
  inferInstanceAs (Decidable (items.map Prod.fst).Nodup)

theorem NodupKeys_filter (q : ι × μ → Bool) {items : List (ι × μ)} (h : NodupKeys items) :
    NodupKeys (items.filter q) :=
  (List.Sublist.map _ List.filter_sublist).nodup h

theorem NodupKeys_cons {k : ι} {v : μ} {l : List (ι × μ)} :
    NodupKeys ((k, v) :: l) ↔ (∀ jv ∈ l, jv.1 ≠ k) ∧ NodupKeys l := by
  unfold NodupKeys
  rw [List.map_cons, List.nodup_cons, List.mem_map]
  exact and_congr_left fun _ => ⟨fun h jv hj he => h ⟨jv, hj, he⟩, fun h ⟨jv, hj, he⟩ => h jv hj he⟩

theorem NodupKeys_perm {l l' : List (ι × μ)} (hp : l'.Perm l) (hn : NodupKeys l) : NodupKeys l' :=
  ((hp.map Prod.fst).nodup_iff).mpr hn

variable [DecidableEq ι]

theorem lookup_cons_if (k : ι) (v : μ) (l : List (ι × μ)) (j : ι) :
    ((k, v) :: l).lookup j = if j = k then some v else l.lookup j := by
  rw [List.lookup_cons]
  by_cases h : j = k
  · rw [if_pos h, beq_iff_eq.mpr h]
  · rw [if_neg h, beq_false_of_ne h]

theorem lookup_eraseKey (i j : ι) (l : List (ι × μ)) :
    (eraseKey i l).lookup j = if j = i then none else l.lookup j := by
  induction l with
  | nil => exact (ite_self _).symm
  | cons kv l ih =>
    obtain ⟨k, v⟩ := kv
    unfold eraseKey at ih ⊢
    by_cases hk : k = i
    · -- the head is erased; it could only have answered for `j = i`
      rw [List.filter_cons_of_neg (by simpa using hk), ih, lookup_cons_if, hk]
      by_cases hj : j = i
      · rw [if_pos hj, if_pos hj]
      · rw [if_neg hj, if_neg hj, if_neg hj]
    · rw [List.filter_cons_of_pos (by simpa using hk), lookup_cons_if, lookup_cons_if, ih]
      by_cases hj : j = k
      · rw [if_pos hj, if_pos hj, if_neg (hj ▸ hk)]
      · rw [if_neg hj, if_neg hj]

theorem viewOf_eraseKey (i : ι) (items : List (ι × μ)) :
    viewOf (eraseKey i items) = (viewOf items).set i none :=
  funext fun j => lookup_eraseKey i j items

theorem viewOf_setKey (i : ι) (v : μ) (items : List (ι × μ)) :
    viewOf (setKey i v items) = (viewOf items).set i (some v) := by
  funext j
  simp only [viewOf, setKey, View.set, lookup_cons_if, lookup_eraseKey]
  by_cases hj : j = i
  · rw [if_pos hj, if_pos hj]
  · rw [if_neg hj, if_neg hj, if_neg hj]

theorem NodupKeys_eraseKey (i : ι) {items : List (ι × μ)} (h : NodupKeys items) :
    NodupKeys (eraseKey i items) :=
  NodupKeys_filter _ h

theorem NodupKeys_setKey (i : ι) (v : μ) {items : List (ι × μ)} (h : NodupKeys items) :
    NodupKeys (setKey i v items) :=
  NodupKeys_cons.mpr ⟨fun _ hj => of_decide_eq_true (List.mem_filter.mp hj).2, NodupKeys_eraseKey i h⟩

theorem lookup_eq_some_iff_mem {l : List (ι × μ)} (hn : NodupKeys l) (i : ι) (v : μ) :
    l.lookup i = some v ↔ (i, v) ∈ l := by
  induction l with
  | nil => simp
  | cons kv l ih =>
    obtain ⟨k, w⟩ := kv
    obtain ⟨hk, hn⟩ := NodupKeys_cons.mp hn
    rw [lookup_cons_if, List.mem_cons, ← ih hn]
    by_cases hi : i = k
    · -- `k` is no key of `l`
      have : l.lookup i ≠ some v := fun h => hk (i, v) ((ih hn).mp h) hi
      simp [hi, eq_comm, hi ▸ this]
    · simp [hi]

theorem lookup_filter (q : ι × μ → Bool) {l : List (ι × μ)} (hn : NodupKeys l) (i : ι) :
    (l.filter q).lookup i = (l.lookup i).filter (fun v => q (i, v)) := by
  apply Option.ext
  intro v
  rw [lookup_eq_some_iff_mem (NodupKeys_filter q hn), List.mem_filter, Option.filter_eq_some_iff,
    lookup_eq_some_iff_mem hn]

/-- `List(WithInclude p)` shows exactly the filtered collection. -/
theorem viewOf_itemSlice (p : Option (Pred ι μ)) (items : List (ι × μ)) (hn : NodupKeys items) :
    viewOf (itemSlice p items) = filterView p (viewOf items) := by
  funext i
  rw [filterView_apply]
  show (items.filter _).lookup i = filt p i (items.lookup i)
  rw [lookup_filter _ hn]
  cases items.lookup i with
  | none => rfl
  | some v => simp only [filt, Option.filter_some]; cases exclude p i v <;> rfl

theorem viewOf_perm {l l' : List (ι × μ)} (hn : NodupKeys l) (hp : l'.Perm l) : viewOf l' = viewOf l := by
  funext i
  apply Option.ext
  intro v
  show l'.lookup i = some v ↔ l.lookup i = some v
  rw [lookup_eq_some_iff_mem (NodupKeys_perm hp hn), lookup_eq_some_iff_mem hn, hp.mem_iff]

/-- `r` = (contents afterwards, events published) of some writes on `items`: the keys stay distinct and the
events lead from `items` to the contents afterwards. -/
def Publishes (items : List (ι × μ)) (r : List (ι × μ) × List (Change ι μ)) : Prop :=
  NodupKeys r.1 ∧ Hist (viewOf items) r.2 (viewOf r.1)

theorem not_touched_ne {i : ι} {evs : List (Change ι μ)} (h : touched i evs = false) :
    ∀ c ∈ evs, c.id ≠ i := by
  intro c hc hci
  have : touched i evs = true := List.any_eq_true.mpr ⟨c, hc, decide_eq_true hci⟩
  rw [h] at this
  cases this

/-- What a property `R items r` of (contents before, (contents after, events)) needs in order to hold of every
write history whose ids satisfy `Ok`, from contents satisfying `Good`: it holds of doing nothing, of one run
after another, of a single ADD or UPDATE, and of a REMOVE announcing the value an item had before a run that
did not touch it. -/
structure Closed (Good : List (ι × μ) → Prop) (Ok : ι → Prop)
    (R : List (ι × μ) → List (ι × μ) × List (Change ι μ) → Prop) : Prop where
  nil : ∀ {items}, Good items → R items (items, [])
  good : ∀ {items r}, R items r → Good r.1
  append : ∀ {items r r'}, R items r → R r.1 r' → R items (r'.1, r.2 ++ r'.2)
  add : ∀ {items i} (t : Nat) (v : μ), Good items → Ok i → items.lookup i = none →
    R items (setKey i v items, [mkChange i .add t none (some v)])
  update : ∀ {items i o} (t : Nat) (v : μ), Good items → Ok i → items.lookup i = some o →
    R items (setKey i v items, [mkChange i .update t (some o) (some v)])
  remove : ∀ {items i o r} (t : Nat), Ok i → R items r → touched i r.2 = false →
    items.lookup i = some o → R r.1 (eraseKey i r.1, [mkChange i .remove t (some o) none])

theorem Publishes.closed : Closed (ι := ι) (μ := μ) NodupKeys (fun _ => True) Publishes where
  nil hn := ⟨hn, trivial, rfl⟩
  good h := h.1
  append h h' := ⟨h'.1, h.2.append h'.2⟩
  -- each single event: keys stay distinct; the event is well formed (the clauses of `WFChange`) and has the
  -- effect `setKey` / `eraseKey` has on the view
  add {items i} t v hn _ hl :=
    ⟨NodupKeys_setKey i v hn, ⟨⟨hl, rfl, rfl⟩, trivial⟩, (viewOf_setKey i v items).symm⟩
  update {items i _} t v hn _ hl :=
    ⟨NodupKeys_setKey i v hn, ⟨⟨congrArg Option.isSome hl, hl.symm, rfl⟩, trivial⟩, (viewOf_setKey i v items).symm⟩
  remove {_ i _ r} t _ hr ht hl := by
    -- nobody wrote to `i` meanwhile: what was stored then is what is stored now
    have hl' : viewOf r.1 i = _ := (congrFun hr.2.2 i).symm.trans ((fold_other _ _ _ (not_touched_ne ht)).trans hl)
    exact ⟨NodupKeys_eraseKey i hr.1, ⟨⟨congrArg Option.isSome hl', hl'.symm, rfl⟩, trivial⟩,
      (viewOf_eraseKey i r.1).symm⟩

section closed
variable {Good : List (ι × μ) → Prop} {Ok : ι → Prop}
  {R : List (ι × μ) → List (ι × μ) × List (Change ι μ) → Prop} (C : Closed Good Ok R)
include C

/-- One write: a failed write changes and publishes nothing. -/
theorem stepOp_closed (t : Nat) {items : List (ι × μ)} (hg : Good items) (op : Op ι μ) (hop : Ok op.id) :
    R items ((stepOp t items op).1, (stepOp t items op).2.toList) := by
  cases op with
  | add i v =>
    simp only [stepOp]
    cases hl : items.lookup i with
    | some o => exact C.nil hg
    | none => exact C.add t v hg hop hl
  | update i v =>
    simp only [stepOp]
    cases hl : items.lookup i with
    | none => exact C.nil hg
    | some o => exact C.update t v hg hop hl
  | upsert i v =>
    simp only [stepOp]
    cases hl : items.lookup i with
    | none => exact C.add t v hg hop hl
    | some o => exact C.update t v hg hop hl
  | delete i =>
    simp only [stepOp]
    cases hl : items.lookup i with
    | none => exact C.nil hg
    | some o => exact C.remove t hop (C.nil hg) rfl hl

theorem runOps_closed (t : Nat) {items : List (ι × μ)} (hg : Good items) (ops : List (Op ι μ))
    (hops : ∀ op ∈ ops, Ok op.id) : R items (runOps t items ops) := by
  induction ops generalizing t items with
  | nil => exact C.nil hg
  | cons op ops ih =>
    have hs := stepOp_closed C t hg op (hops op List.mem_cons_self)
    exact C.append hs (ih (t + 1) (C.good hs) fun o ho => hops o (List.mem_cons_of_mem _ ho))

end closed

theorem stepOp_publishes (t : Nat) {items : List (ι × μ)} (hn : NodupKeys items) (op : Op ι μ) :
    Publishes items ((stepOp t items op).1, (stepOp t items op).2.toList) :=
  stepOp_closed Publishes.closed t hn op trivial

theorem runOps_publishes (t : Nat) {items : List (ι × μ)} (hn : NodupKeys items) (ops : List (Op ι μ)) :
    Publishes items (runOps t items ops) :=
  runOps_closed Publishes.closed t hn ops fun _ _ => trivial

/-- After the writes, `List(WithInclude p)` shows the filter of what the published events fold to. -/
theorem Publishes.list (p : Option (Pred ι μ)) {items : List (ι × μ)}
    {r : List (ι × μ) × List (Change ι μ)} (h : Publishes items r) :
    filterView p (fold r.2 (viewOf items)) = viewOf (itemSlice p r.1) := by
  rw [h.2.2, viewOf_itemSlice p _ h.1]

omit [DecidableEq ι] in
/-- the two equations of `seedFrom` on a non-empty list differ in the LastSeedValue flag only -/
theorem seedFrom_cons (t : Nat) (iv : ι × μ) (l : List (ι × μ)) :
    ∃ ls, seedFrom t (iv :: l) =
      { id := iv.1, kind := .add, time := t, old := none, new := some iv.2, seed := true, lastSeed := ls }
        :: seedFrom t l := by
  cases l with
  | nil => exact ⟨true, rfl⟩
  | cons jv l => exact ⟨false, rfl⟩

omit [DecidableEq ι] in
theorem seedFrom_mem (t : Nat) (l : List (ι × μ)) (c : Change ι μ) (hc : c ∈ seedFrom t l) :
    ∃ iv ∈ l, c.id = iv.1 ∧ c.new = some iv.2 := by
  induction l with
  | nil => cases hc
  | cons iv l ih =>
    obtain ⟨ls, h⟩ := seedFrom_cons t iv l
    rw [h, List.mem_cons] at hc
    rcases hc with rfl | hc
    · exact ⟨iv, List.mem_cons_self, rfl, rfl⟩
    · obtain ⟨jv, hj, h⟩ := ih hc
      exact ⟨jv, List.mem_cons_of_mem _ hj, h⟩

omit [DecidableEq ι] in
theorem seedFrom_shape (t : Nat) (l : List (ι × μ)) :
    ∀ c ∈ seedFrom t l, c.kind = .add ∧ c.old = none ∧ c.new.isSome = true ∧ c.seed = true := by
  induction l with
  | nil => intro c hc; cases hc
  | cons iv l ih =>
    obtain ⟨ls, h⟩ := seedFrom_cons t iv l
    intro c hc
    rw [h, List.mem_cons] at hc
    rcases hc with rfl | hc
    · exact ⟨rfl, rfl, rfl, rfl⟩
    · exact ih c hc

/-- seed ADDs of distinct ids folded into a view that holds none of them: `lookup`, or else the view -/
theorem seed_fold (t : Nat) (l : List (ι × μ)) (s : View ι μ) (hn : NodupKeys l)
    (hs : ∀ iv ∈ l, s iv.1 = none) :
    WFHist s (seedFrom t l) ∧ ∀ i, fold (seedFrom t l) s i = (l.lookup i).or (s i) := by
  induction l generalizing s with
  | nil => exact ⟨trivial, fun i => rfl⟩
  | cons iv l ih =>
    obtain ⟨k, v⟩ := iv
    obtain ⟨hk, hn⟩ := NodupKeys_cons.mp hn
    obtain ⟨ls, h⟩ := seedFrom_cons t (k, v) l
    rw [h]
    have hs' : ∀ jv ∈ l, s.set k (some v) jv.1 = none := fun jv hj =>
      (if_neg (hk jv hj)).trans (hs jv (List.mem_cons_of_mem _ hj))
    obtain ⟨hw, hf⟩ := ih (s.set k (some v)) hn hs'
    refine ⟨⟨⟨hs (k, v) List.mem_cons_self, rfl, rfl⟩, hw⟩, fun i => ?_⟩
    rw [fold_cons, lookup_cons_if]
    refine (hf i).trans ?_
    by_cases hi : i = k
    · -- `k` is no key of `l`
      have : l.lookup k = none := List.lookup_eq_none_iff.mpr fun jv hj => bne_iff_ne.mpr (hk jv hj).symm
      rw [if_pos hi, hi, this]
      exact congrArg _ (if_pos rfl)
    · rw [if_neg hi]
      exact congrArg _ (if_neg hi)

theorem seed_perm (t : Nat) {l order : List (ι × μ)} (hn : NodupKeys l) (hp : order.Perm l) :
    Hist View.empty (seedFrom t order) (viewOf l) := by
  have h := seed_fold t order View.empty (NodupKeys_perm hp hn) (fun _ _ => rfl)
  refine ⟨h.1, ?_⟩
  rw [← viewOf_perm hn hp]
  funext i
  exact (h.2 i).trans Option.or_none

theorem seed_include_hist (p : Option (Pred ι μ)) {items : List (ι × μ)} (hn : NodupKeys items)
    {order : List (ι × μ)} (hperm : order.Perm (itemSlice p items)) (t : Nat)
    {cs : List (Change ι μ)} (hw : WFHist (viewOf items) cs) :
    Hist View.empty (seedFrom t order ++ cs.filterMap (includeChange p))
      (filterView p (fold cs (viewOf items))) := by
  have hseed := seed_perm t (l := itemSlice p items) (NodupKeys_filter _ hn) hperm
  rw [viewOf_itemSlice p items hn] at hseed
  exact hseed.append (include_hist p (viewOf items) cs hw)

/-- A `Pull(WithInclude p, WithReadMask m)` subscriber seeded from `items` (in any order) and sent the
include-filtered, masked form of any well-formed history from `items`. -/
theorem pull_from (p : Option (Pred ι μ)) (proj : μ → μ) {items : List (ι × μ)} (hn : NodupKeys items)
    {order : List (ι × μ)} (hperm : order.Perm (itemSlice p items)) (t : Nat)
    {cs : List (Change ι μ)} (hw : WFHist (viewOf items) cs) :
    Hist View.empty ((seedFrom t order).map (maskChange proj) ++ cs.filterMap (pullEvent p proj))
      (projView proj (filterView p (fold cs (viewOf items)))) := by
  rw [filterMap_pullEvent, ← List.map_append]
  exact mask_hist proj (seed_include_hist p hn hperm t hw)

/-- The same over what writes publish: the stream leads to the projection of `List(WithInclude p)` afterwards. -/
theorem Publishes.pull (p : Option (Pred ι μ)) (proj : μ → μ) {items : List (ι × μ)} (hn : NodupKeys items)
    {r : List (ι × μ) × List (Change ι μ)} (h : Publishes items r)
    {order : List (ι × μ)} (hperm : order.Perm (itemSlice p items)) (t : Nat) :
    Hist View.empty ((seedFrom t order).map (maskChange proj) ++ r.2.filterMap (pullEvent p proj))
      (projView proj (viewOf (itemSlice p r.1))) := by
  have hp := pull_from p proj hn hperm t h.2.1
  rwa [h.list p] at hp

/-- Without a seed (`WithUpdatesOnly`): from the projection of `List(WithInclude p)` before to that afterwards. -/
theorem Publishes.events (p : Option (Pred ι μ)) (proj : μ → μ) {items : List (ι × μ)} (hn : NodupKeys items)
    {r : List (ι × μ) × List (Change ι μ)} (h : Publishes items r) :
    Hist (projView proj (viewOf (itemSlice p items))) (r.2.filterMap (pullEvent p proj))
      (projView proj (viewOf (itemSlice p r.1))) := by
  have hp := pullEvent_hist p proj _ _ h.2.1
  rwa [h.list p, ← viewOf_itemSlice p items hn] at hp

end ScVerif.C08
