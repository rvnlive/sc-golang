import ScVerif.C08.Include
/-!
# C08 — generated ids: `Add(id = "", …, WithGenIDIfAbsent(), WithIDCallback(cb))`

`bookingpb.Model.CreateBooking` (the only way the booking server creates a booking) calls
`m.bookings.Add(booking.Id, booking, WithGenIDIfAbsent(), WithIDCallback(func(id){ booking.Id = id }))`.
For an empty id `Collection.Update`'s first read (under the read lock) runs `c.genID()`:

```go
id, err := GenerateUniqueId(c.rng, func(candidate string) bool {
    if c.idInterceptor != nil { candidate = c.idInterceptor(candidate) }
    _, exists := c.byId[candidate]; return exists })          // pkg/resource/id.go: ten candidates,
if c.idInterceptor != nil { id = c.idInterceptor(id) }           // `idCandidate != "" && !exists(idCandidate)`
```
then the id callback, and goes on exactly as an `Add` of that id (`writeRetry … create expectAbsent`): the
re-validation under the write lock refuses the write if somebody stored the id meanwhile.
-/
namespace ScVerif.C08
open ScVerif.C09

variable {ι μ : Type} [DecidableEq ι]

/-- `GenerateUniqueId` composed with the interceptor, over the candidates the rng yields in order (`valid` =
non-empty): the first valid candidate whose canonical form is not taken, in canonical form; `none` = Aborted
("id generation attempts exhausted"). -/
def genUniqueId (canon : ι → ι) (valid taken : ι → Bool) : List ι → Option ι
  | [] => none
  | c :: cs => if valid c && !taken (canon c) then some (canon c) else genUniqueId canon valid taken cs

/-- `Add("", msg, WithGenIDIfAbsent, WithIDCallback)`: `v i` is the message once the callback has written the
id `i` into it; `intf` are the writes landing between the first read and the write lock. -/
def addGen [DecidableEq μ] (empty : μ) (t : Nat) (items : List (ι × μ)) (canon : ι → ι) (valid : ι → Bool)
    (cands : List ι) (v : ι → μ) (intf : List (Op ι μ)) : List (ι × μ) × List (Change ι μ) :=
  match genUniqueId canon valid (fun i => (items.lookup i).isSome) cands with
  | none => (items, [])
  | some i => writeRetry empty t items i (v i) true true intf

end ScVerif.C08
