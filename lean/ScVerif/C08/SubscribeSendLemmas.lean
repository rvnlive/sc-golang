import ScVerif.C08.SubscribeSend
import ScVerif.C08.SubscribeManyLemmas
/-! The split-send system projects, subscriber by subscriber, onto the one-subscriber system. -/
namespace ScVerif.C08
open ScVerif.C09

variable {ι μ : Type}

theorem mem_listeningIdx (subs : List (Sub ι μ)) (j : Nat) :
    j ∈ listeningIdx subs ↔ (subs.getD j .idle).isListening = true := by
  simp only [listeningIdx, List.mem_filter, List.mem_range]
  refine ⟨fun h => h.2, fun h => ⟨Nat.lt_of_not_le fun hj => ?_, h⟩⟩
  -- out of range `getD` answers `idle`, which is not listening
  rw [getD_oob _ _ hj] at h
  cases h

theorem nodup_listeningIdx (subs : List (Sub ι μ)) : (listeningIdx subs).Nodup :=
  List.Nodup.sublist List.filter_sublist List.nodup_range

theorem deliver_not_listening (sub : Sub ι μ) (evs : List (Change ι μ)) (h : sub.isListening = false) :
    sub.deliver evs = sub := by
  cases sub <;> simp_all [Sub.deliver, Sub.isListening]

theorem getD_updAt_deliver (subs : List (Sub ι μ)) (evs : List (Change ι μ)) (k j : Nat) :
    (updAt (·.deliver evs) k subs).getD j .idle
      = if j = k then (subs.getD j .idle).deliver evs else subs.getD j .idle := by
  rw [getD_updAt]
  by_cases hjk : j = k
  · by_cases hk : k < subs.length
    · rw [if_pos ⟨hjk, hk⟩, if_pos hjk]
    · -- there is no slot `k`: it reads `idle`, which receives nothing
      rw [if_neg fun h => hk h.2, if_pos hjk, getD_oob _ _ (hjk ▸ Nat.le_of_not_lt hk)]
      rfl
  · rw [if_neg fun h => hjk h.1, if_neg hjk]

/-- the copy of a `Send` in flight lists no subscriber twice -/
def FInv (s : FSys ι μ) : Prop := ∀ c ks, s.flight = some (c, ks) → ks.Nodup

theorem FInv_init (items : List (ι × μ)) (n : Nat) : FInv (FSys.init items n) :=
  fun _ _ h => nomatch h

/-- the invariant at the flight field as the step writes it (`none` once nobody is left to serve) -/
theorem FInv_flight {items : List (ι × μ)} {pend : List (Change ι μ)} {subs : List (Sub ι μ)} {t : Nat}
    (c : Change ι μ) {ks : List Nat} (h : ks.Nodup) :
    FInv ⟨items, pend, if ks.isEmpty then none else some (c, ks), subs, t⟩ := by
  intro c' ks' h'
  cases ks with
  | nil => cases h'
  | cons k ks => cases h'; exact h

theorem FSys.proj_init (items : List (ι × μ)) (n j : Nat) : (FSys.init items n).proj j = Sys.init items := by
  simp only [FSys.proj, FSys.init, getD_replicate]
  rfl

theorem pendFor_flight (items : List (ι × μ)) (pend : List (Change ι μ)) (c : Change ι μ) (ks : List Nat)
    (subs : List (Sub ι μ)) (t j : Nat) :
    (⟨items, pend, if ks.isEmpty then none else some (c, ks), subs, t⟩ : FSys ι μ).pendFor j
      = (if j ∈ ks then [c] else []) ++ pend := by
  cases ks <;> rfl

variable [DecidableEq ι]

section
variable {p : Option (Pred ι μ)} {items : List (ι × μ)} {pend : List (Change ι μ)} {sub : Sub ι μ} {t : Nat}

/-- a `Send` copies the listener slice: the oldest pending event is now on its way to the subscribers `ls` -/
theorem Reach.copy (c : Change ι μ) (ls : List Nat) (j : Nat) (h : j ∉ ls → sub.isListening = false) :
    Reach p ⟨items, c :: pend, sub, t⟩ ⟨items, (if j ∈ ls then [c] else []) ++ pend, sub, t⟩ := by
  split
  · exact .refl
  · next hj =>
    -- published while the subscriber is not registered, the event passes it by
    have h' := Reach.publish (p := p) (items := items) (pend := pend) (sub := sub) (t := t) c
    rwa [deliver_not_listening sub [c] (h hj)] at h'

/-- the `Send` in flight serves `k`, the next subscriber of its copy -/
theorem Reach.serve (c : Change ι μ) {k : Nat} {ks : List Nat} (hnd : (k :: ks).Nodup) (j : Nat)
    {sub' : Sub ι μ} (h : sub' = if j = k then sub.deliver [c] else sub) :
    Reach p ⟨items, (if j ∈ k :: ks then [c] else []) ++ pend, sub, t⟩
      ⟨items, (if j ∈ ks then [c] else []) ++ pend, sub', t⟩ := by
  subst h
  by_cases hjk : j = k
  · subst hjk
    simp only [List.mem_cons, true_or, if_true, (List.nodup_cons.mp hnd).1, if_false]
    exact .publish c
  · simp only [List.mem_cons, hjk, false_or, if_false]
    exact .refl

end

theorem fsysStep_spec (preds : List (Option (Pred ι μ))) (s : FSys ι μ) (step : FStep ι μ) (hinv : FInv s) :
    FInv (fsysStep true preds s step) ∧ (fsysStep true preds s step).subs.length = s.subs.length ∧
    ∀ j, Reach (preds.getD j none) (s.proj j) ((fsysStep true preds s step).proj j) := by
  have stay : FInv s ∧ s.subs.length = s.subs.length ∧
      ∀ j, Reach (preds.getD j none) (s.proj j) (s.proj j) := ⟨hinv, rfl, fun _ => .refl⟩
  -- all three conjuncts speak of the same successor state: name it, and split its defining equation
  generalize hs' : fsysStep true preds s step = s'
  cases step with
  | commit op =>
    simp only [fsysStep, Bool.true_and] at hs'
    split at hs'
    · subst hs'
      exact stay
    · next h =>
      subst hs'
      exact ⟨hinv, rfl, fun j => .commit _ op (not_snapping h j)⟩
  | sendStart =>
    simp only [fsysStep] at hs'
    split at hs'
    · next c rest hf hp =>
      subst hs'
      refine ⟨FInv_flight _ (nodup_listeningIdx _), rfl, fun j => ?_⟩
      simp only [FSys.proj, pendFor_flight]
      simp only [FSys.pendFor, hf, hp, List.nil_append]
      exact .copy c _ j fun hj => Bool.not_eq_true _ ▸ fun h => hj ((mem_listeningIdx _ j).mpr h)
    · subst hs'
      exact stay
  | sendNext =>
    simp only [fsysStep] at hs'
    split at hs'
    · next c k ks hf =>
      subst hs'
      have hnd := hinv c _ hf
      refine ⟨FInv_flight c (List.nodup_cons.mp hnd).2, length_updAt .., fun j => ?_⟩
      simp only [FSys.proj, pendFor_flight]
      simp only [FSys.pendFor, hf]
      exact .serve c hnd j (getD_updAt_deliver ..)
    · next c hf =>
      subst hs'
      refine ⟨fun _ _ h => (nomatch h), rfl, fun j => ?_⟩
      simp only [FSys.proj, FSys.pendFor, hf, List.not_mem_nil, if_false]
      exact .refl
    · subst hs'
      exact stay
  | deleteNow i =>
    simp only [fsysStep, Bool.true_and] at hs'
    split at hs'
    · subst hs'
      exact stay
    · next h =>
      subst hs'
      simp only [Bool.or_eq_true, not_or, Bool.not_eq_true', Bool.not_eq_false, List.isEmpty_iff,
        Bool.not_eq_true, Option.isSome_eq_false_iff, Option.isNone_iff_eq_none] at h
      refine ⟨hinv, List.length_map .., fun j => ?_⟩
      simp only [FSys.proj, FSys.pendFor, h.1.1, h.1.2, getD_map_deliver, List.append_nil]
      exact .deleteNow i (not_snapping (Bool.not_eq_true _ ▸ h.2) j)
  | snapshot k =>
    subst hs'
    refine ⟨hinv, length_updAt .., fun j => ?_⟩
    simp only [fsysStep, FSys.proj]
    exact .slot _ _ k j fun h => h ▸ .snapshot
  | listen k =>
    subst hs'
    refine ⟨hinv, length_updAt .., fun j => ?_⟩
    simp only [fsysStep, FSys.proj]
    exact .slot _ _ k j fun _ => .listen

theorem fsysRun_spec (preds : List (Option (Pred ι μ))) (s : FSys ι μ) (sched : List (FStep ι μ))
    (hinv : FInv s) :
    FInv (fsysRun true preds s sched) ∧ (fsysRun true preds s sched).subs.length = s.subs.length ∧
    ∀ j, Reach (preds.getD j none) (s.proj j) ((fsysRun true preds s sched).proj j) := by
  induction sched generalizing s with
  | nil => exact ⟨hinv, rfl, fun _ => .refl⟩
  | cons st sched ih =>
    obtain ⟨hinv', hlen, hproj⟩ := fsysStep_spec preds s st hinv
    obtain ⟨hinv'', hlen', hproj'⟩ := ih _ hinv'
    exact ⟨hinv'', hlen'.trans hlen, fun j => (hproj j).trans (hproj' j)⟩

theorem fsysStep_snapshot_proj (preds : List (Option (Pred ι μ))) (s : FSys ι μ) (j : Nat)
    (hj : j < s.subs.length) :
    (fsysStep true preds s (.snapshot j)).proj j = sysStep true (preds.getD j none) (s.proj j) .snapshot := by
  simp only [fsysStep, sysStep, FSys.proj, FSys.pendFor, getD_updAt, hj, and_self, if_true]
  cases s.subs.getD j .idle <;> rfl

theorem fsysRun_append (preds : List (Option (Pred ι μ))) (s : FSys ι μ) (a b : List (FStep ι μ)) :
    fsysRun true preds s (a ++ b) = fsysRun true preds (fsysRun true preds s a) b :=
  List.foldl_append ..

end ScVerif.C08
