import ScVerif.C08.Subscribe
import ScVerif.C08.CollectionLemmas
/-! The one-subscriber concurrent system.  Its invariant over all schedules (`Ledger`) is bookkeeping only: what
the subscriber has been and will be sent is one history, and its seed was taken after a prefix of it.  What
`include` makes of such a history is a statement about lists (`stale_near`).  Reachability (`Reach`) with one
lemma per move is what the larger systems are projected onto it through. -/
namespace ScVerif.C08
open ScVerif.C09

variable {ι μ : Type} [DecidableEq ι]

/-- the subscriber's view `S` against the view `V0` its seed was taken from and the published view `T`: id by id the
filter of one of the two -/
def Near (p : Option (Pred ι μ)) (S V0 T : View ι μ) : Prop :=
  ∀ i, S i = filterView p V0 i ∨ S i = filterView p T i

omit [DecidableEq ι] in
theorem Near_self {p : Option (Pred ι μ)} {S T : View ι μ} (h : Near p S T T) : S = filterView p T := by
  funext i; rcases h i with h | h <;> exact h

/-- Delivered events, well formed from the published view `T` on, keep the subscriber near the published view:
at its own id a forwarded change decides, whatever was there; elsewhere nothing moves on either side. -/
theorem Near_run (p : Option (Pred ι μ)) {S V T : View ι μ} {cs : List (Change ι μ)} (hw : WFHist T cs)
    (h : Near p S V T) : Near p (fold (cs.filterMap (includeChange p)) S) V (fold cs T) := by
  induction cs generalizing S T with
  | nil => exact h
  | cons c cs ih =>
    have hi := include_sim p _ _ hw.1
    rw [List.filterMap_cons]
    cases hinc : includeChange p c with
    | none =>
      rw [hinc] at hi
      exact ih hw.2 fun i => by rw [hi]; exact h i
    | some d =>
      rw [hinc] at hi
      refine ih (S := apply d S) hw.2 fun i => ?_
      rw [← hi.2]
      by_cases hid : i = d.id
      · subst hid
        exact .inr (by rw [apply_same, apply_same])
      · rw [apply_other d S hid, apply_other d _ hid]
        exact h i

/-- What `include` makes of a history whose prefix `stale` the seed already contains; `k` of the pending events are
stale ones still to come. -/
theorem stale_near (p : Option (Pred ι μ)) {V0 S0 : View ι μ} {recv pend stale : List (Change ι μ)}
    (hw : WFHist V0 recv) (hpre : stale <+: recv ++ pend) (hS : S0 = filterView p (fold stale V0)) :
    ∃ k, k ≤ pend.length ∧
      Near p (fold (recv.filterMap (includeChange p)) S0) (fold (pend.take k) (fold recv V0)) (fold recv V0) := by
  obtain ⟨rest, h⟩ := hpre
  have hself : Near p S0 (fold stale V0) V0 := fun i => .inl (hS ▸ rfl)
  rcases List.append_eq_append_iff.mp h with ⟨a, rfl, rfl⟩ | ⟨b, rfl, rfl⟩
  · -- the stale events are through: the view was exactly the filter of the seed's view then, and stays exact
    refine ⟨0, Nat.zero_le _, fun i => .inr ?_⟩
    have hw' := WFHist_append.mp hw
    rw [List.filterMap_append, fold_append, fold_append, Near_self (Near_run p hw'.1 hself),
      (include_hist p _ a hw'.2).2]
  · -- some of them (`b`) are still pending
    refine ⟨b.length, by simp, ?_⟩
    rw [List.take_left' rfl, ← fold_append]
    exact Near_run p hw hself

def Sub.recv : Sub ι μ → List (Change ι μ)
  | .listening _ recv => recv
  | _ => []

/-- The one-subscriber system's books.  What the subscriber has been sent since it registered, followed by
what is still pending, is one well-formed history from `V0` (the view published when it registered, or
now if it has not) to the contents; its seed is the filtered contents after a prefix `stale` of that
history: the events that were pending when it took its snapshot.  `clean = true` claims that none was; that can be
claimed only from a snapshot taken with nothing pending on (`Ledger.start`), so an idle subscriber's books are
never clean. -/
def Ledger (p : Option (Pred ι μ)) (clean : Bool) (s : Sys ι μ) : Prop :=
  NodupKeys s.items ∧ ∃ V0 : View ι μ, Hist V0 (s.sub.recv ++ s.pend) (viewOf s.items) ∧
    match s.sub with
    | .idle => clean = false
    | .snapping seed => seed = itemSlice p s.items ∧ (clean = true → s.pend = [])
    | .listening seed _ => NodupKeys seed ∧
      ∃ stale, stale <+: s.sub.recv ++ s.pend ∧ (clean = true → stale = []) ∧
        viewOf seed = filterView p (fold stale V0)

theorem Ledger.init (p : Option (Pred ι μ)) (items : List (ι × μ)) (hn : NodupKeys items) :
    Ledger p false (Sys.init items) :=
  ⟨hn, viewOf items, ⟨trivial, rfl⟩, rfl⟩

theorem sysStep_ledger (p : Option (Pred ι μ)) (clean : Bool) (s : Sys ι μ) (st : Step ι μ)
    (h : Ledger p clean s) : Ledger p clean (sysStep true p s st) := by
  rcases s with ⟨items, pend, sub, t⟩
  obtain ⟨hn, V0, hl, hsub⟩ := h
  simp only at hn hl hsub
  have hsame : Ledger p clean ⟨items, pend, sub, t⟩ := ⟨hn, V0, hl, hsub⟩
  cases st with
  | commit op =>
    -- appends to the end of the history
    have hs := stepOp_publishes t hn op
    have hl' := List.append_assoc .. ▸ hl.append hs.2
    cases sub with
    | idle => exact ⟨hs.1, V0, hl', hsub⟩
    | snapping seed => exact hsame
    | listening seed recv =>
      obtain ⟨hns, stale, hpre, hc, hseed⟩ := hsub
      exact ⟨hs.1, V0, hl', hns, stale, List.append_assoc .. ▸ hpre.trans (List.prefix_append _ _), hc, hseed⟩
  | publish =>
    -- moves the boundary between received and pending; while nobody listens, `V0` advances instead
    cases pend with
    | nil => exact hsame
    | cons c rest =>
      cases sub with
      | idle => exact ⟨hn, _, (Hist.split (xs := [c]) hl).2, hsub⟩
      | snapping seed => exact ⟨hn, _, (Hist.split (xs := [c]) hl).2, hsub.1, fun hc => nomatch hsub.2 hc⟩
      | listening seed recv =>
        exact ⟨hn, V0, (List.append_cons recv c rest ▸ hl :), (List.append_cons recv c rest ▸ hsub :)⟩
  | deleteNow i =>
    -- a commit published at once (nothing is pending)
    cases pend with
    | cons c rest => exact hsame
    | nil =>
      have hs := stepOp_publishes t hn (.delete i)
      cases sub with
      | idle => exact ⟨hs.1, _, ⟨trivial, rfl⟩, hsub⟩
      | snapping seed => exact hsame
      | listening seed recv =>
        obtain ⟨hns, stale, hpre, hc, hseed⟩ := hsub
        rw [List.append_nil] at hl hpre
        exact ⟨hs.1, V0, (List.append_nil _).symm ▸ hl.append hs.2, hns, stale,
          (List.append_nil _).symm ▸ hpre.trans (List.prefix_append _ _), hc, hseed⟩
  | snapshot =>
    cases sub with
    | idle => exact ⟨hn, V0, hl, rfl, fun hc => nomatch hsub.symm.trans hc⟩
    | snapping seed => exact hsame
    | listening seed recv => exact hsame
  | listen =>
    cases sub with
    | idle => exact hsame
    | listening seed recv => exact hsame
    | snapping seed =>
      -- registers: everything pending is stale, its seed contains it
      obtain ⟨rfl, hc⟩ := hsub
      exact ⟨hn, V0, hl, NodupKeys_filter _ hn, pend, List.prefix_refl _, hc,
        by rw [viewOf_itemSlice p items hn]; exact congrArg _ hl.2.symm⟩

theorem sysRun_ledger (p : Option (Pred ι μ)) (clean : Bool) (s : Sys ι μ) (sched : List (Step ι μ))
    (h : Ledger p clean s) : Ledger p clean (sysRun true p s sched) := by
  induction sched generalizing s with
  | nil => exact h
  | cons st rest ih => exact ih _ (sysStep_ledger p clean s st h)

theorem sysRun_append (locked : Bool) (p : Option (Pred ι μ)) (s : Sys ι μ) (a b : List (Step ι μ)) :
    sysRun locked p s (a ++ b) = sysRun locked p (sysRun locked p s a) b :=
  List.foldl_append ..

/-- the conclusion of `C08_subscribe_atomic`, for every state that keeps the books -/
theorem Ledger.atomic {p : Option (Pred ι μ)} {clean : Bool} {σ : Sys ι μ} (h : Ledger p clean σ) :
    match σ.sub with
    | .idle => True
    | .snapping seed => seed = itemSlice p σ.items
    | .listening seed recv =>
      (∃ (T : View ι μ) (k : Nat), k ≤ σ.pend.length ∧ WFHist T σ.pend ∧ fold σ.pend T = viewOf σ.items ∧
        Near p (subView p seed recv) (fold (σ.pend.take k) T) T ∧
        (k = 0 → subView p seed recv = filterView p T)) ∧
      (σ.pend = [] → ∀ (order : List (ι × μ)) (t : Nat), order.Perm seed →
        fold (seedFrom t order ++ recv.filterMap (includeChange p)) View.empty = viewOf (itemSlice p σ.items) ∧
        viewOf (itemSlice p σ.items) = filterView p (viewOf σ.items)) := by
  rcases σ with ⟨its, pend, sub, t⟩
  obtain ⟨hn', V0, hl, hsub⟩ := h
  cases sub with
  | idle => trivial
  | snapping seed => exact hsub.1
  | listening seed recv =>
    obtain ⟨hns, stale, hpre, -, hseed⟩ := hsub
    obtain ⟨k, hk, hnear⟩ := stale_near p (WFHist_append.mp hl.1).1 hpre hseed
    -- the published view is what the received events fold to; the pending ones lead on from it
    have hT := (Hist.split hl).2
    have hzero : k = 0 → subView p seed recv = filterView p (fold recv V0) := fun hk0 =>
      Near_self (by subst hk0; exact hnear)
    refine ⟨⟨_, k, hk, hT.1, hT.2, hnear, hzero⟩, fun hp order t' hperm => ?_⟩
    cases hp
    have hlist := viewOf_itemSlice p its hn'
    refine ⟨?_, hlist⟩
    rw [fold_append, (seed_perm t' hns hperm).2, hlist, ← hT.2]
    exact hzero (Nat.le_zero.mp hk)

/-- the only way into clean books: a snapshot taken with nothing pending -/
theorem Ledger.start {p : Option (Pred ι μ)} {σ : Sys ι μ} (h : Ledger p false σ) (hidle : σ.sub = .idle)
    (hclean : σ.pend = []) : Ledger p true (sysStep true p σ .snapshot) := by
  rcases σ with ⟨items, pend, sub, t⟩
  cases hidle
  cases hclean
  obtain ⟨hn, V0, hl, -⟩ := h
  exact ⟨hn, V0, hl, rfl, fun _ => rfl⟩

/-- What a cleanly registered subscriber's merge machine delivers, under every recv/emit pattern: the conclusion of
`C08_subscribe_lossy_partial`. -/
theorem Ledger.lossy {p : Option (Pred ι μ)} {σ : Sys ι μ} (h : Ledger p true σ) :
    match σ.sub with
    | .listening seed recv =>
      ∀ ms : List (Move (Change ι μ)), inputs ms = recv →
        WFHist (viewOf seed) ((run Cfg.init ms).emitted.filterMap (includeChange p)) ∧
        ((run Cfg.init ms).st.pending = [] → σ.pend = [] →
          fold ((run Cfg.init ms).emitted.filterMap (includeChange p)) (viewOf seed)
            = viewOf (itemSlice p σ.items))
    | _ => True := by
  rcases σ with ⟨items, pend, sub, t⟩
  obtain ⟨hn, V0, hl, hsub⟩ := h
  cases sub with
  | idle => trivial
  | snapping seed => trivial
  | listening seed recv =>
    obtain ⟨-, stale, -, hc, hseed⟩ := hsub
    cases hc rfl
    have hseed : viewOf seed = filterView p V0 := hseed
    intro ms hms
    have he := run_emitted V0 ms (hms ▸ (WFHist_append.mp hl.1).1)
    have hinc := include_hist p V0 _ he.1
    rw [hseed]
    refine ⟨hinc.1, fun hpend hp => ?_⟩
    cases hp
    rw [hinc.2, he.2 hpend, hms, ← List.append_nil recv]
    exact (congrArg _ hl.2).trans (viewOf_itemSlice p items hn).symm

/-! The systems with several subscribers, a split `Send` and a listener slice are related to this one
subscriber by subscriber: each of their steps moves the projection by at most one of the moves below. -/

def Reach (p : Option (Pred ι μ)) (σ σ' : Sys ι μ) : Prop := ∃ sched, σ' = sysRun true p σ sched

section
variable {p : Option (Pred ι μ)} {σ σ' σ'' : Sys ι μ} {items : List (ι × μ)} {pend : List (Change ι μ)}
  {sub : Sub ι μ} {t : Nat}

theorem Reach.refl : Reach p σ σ := ⟨[], rfl⟩

theorem Ledger.reach {clean : Bool} (h : Ledger p clean σ) (hr : Reach p σ σ') : Ledger p clean σ' := by
  obtain ⟨sched, rfl⟩ := hr
  exact sysRun_ledger p clean σ sched h

theorem Reach.trans (h : Reach p σ σ') (h' : Reach p σ' σ'') : Reach p σ σ'' := by
  obtain ⟨a, rfl⟩ := h
  obtain ⟨b, rfl⟩ := h'
  exact ⟨a ++ b, (List.foldl_append ..).symm⟩

/-- a commit appends to the pending events, whatever is ahead of them (`F`: an event in flight) -/
theorem Reach.commit (F : List (Change ι μ)) (op : Op ι μ) (h : sub.isSnapping = false) :
    Reach p ⟨items, F ++ pend, sub, t⟩
      ⟨(stepOp t items op).1, F ++ (pend ++ (stepOp t items op).2.toList), sub, t + 1⟩ :=
  ⟨[.commit op], by simp only [sysRun, List.foldl, sysStep, h, Bool.and_false, Bool.false_eq_true, if_false,
    List.append_assoc]⟩

theorem Reach.publish (c : Change ι μ) : Reach p ⟨items, c :: pend, sub, t⟩ ⟨items, pend, sub.deliver [c], t⟩ :=
  ⟨[.publish], rfl⟩

theorem Reach.deleteNow (i : ι) (h : sub.isSnapping = false) :
    Reach p ⟨items, [], sub, t⟩
      ⟨(stepOp t items (.delete i)).1, [], sub.deliver (stepOp t items (.delete i)).2.toList, t + 1⟩ :=
  ⟨[.deleteNow i], by simp only [sysRun, List.foldl, sysStep, h, List.isEmpty_nil, Bool.not_true, Bool.and_false,
    Bool.or_false, Bool.false_eq_true, if_false]⟩

theorem Reach.snapshot :
    Reach p ⟨items, pend, sub, t⟩
      ⟨items, pend, match sub with | .idle => .snapping (itemSlice p items) | other => other, t⟩ :=
  ⟨[.snapshot], by cases sub <;> rfl⟩

theorem Reach.listen :
    Reach p ⟨items, pend, sub, t⟩
      ⟨items, pend, match sub with | .snapping seed => .listening seed [] | other => other, t⟩ :=
  ⟨[.listen], by cases sub <;> rfl⟩

end

end ScVerif.C08
