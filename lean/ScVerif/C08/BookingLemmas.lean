import ScVerif.C08.Booking
import ScVerif.C08.GenId
/-! What `PropsBooking` reads of `Booking.lean` and of `GenId.lean`. -/
namespace ScVerif.C08
open ScVerif.C18 (Period)

theorem exclude_bookingInclude {ι μ : Type} (booked : μ → Option Period) (q : Option Period) (i : ι) (b : μ) :
    exclude (bookingInclude booked q) i b = !bookingListed booked q b := by
  cases q <;> rfl

variable {ι : Type}

theorem genUniqueId_spec (canon : ι → ι) (valid taken : ι → Bool) (cands : List ι) (i : ι)
    (h : genUniqueId canon valid taken cands = some i) :
    taken i = false ∧ ∃ c, c ∈ cands ∧ valid c = true ∧ i = canon c := by
  induction cands with
  | nil => simp [genUniqueId] at h
  | cons c cs ih =>
    simp only [genUniqueId] at h
    split at h
    · rename_i hc
      simp only [Bool.and_eq_true, Bool.not_eq_true'] at hc
      cases h
      exact ⟨hc.2, c, List.mem_cons_self, hc.1, rfl⟩
    · obtain ⟨h1, c', hc', hv, he⟩ := ih h
      exact ⟨h1, c', List.mem_cons_of_mem _ hc', hv, he⟩

end ScVerif.C08
