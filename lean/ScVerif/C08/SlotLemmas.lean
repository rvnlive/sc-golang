import ScVerif.C08.SubscribeMany  -- for `updAt`
/-! Lists of slots.  A fan-out — every step acting on each slot by a function of that slot alone and possibly
appending slots — keeps its slots apart (`fan_at`, `fan_joined`); `updAt`, which rewrites one slot, is the library's
`List.modify` (`getD_updAt`). -/
namespace ScVerif.C08

section fan
variable {β σ : Type} {step : List β → σ → List β} {own : σ → Nat → β → β} {count : List σ → Nat}

/-- slot `k` goes through a run on its own: by the fold of `own · k` -/
theorem fan_at (hown : ∀ l st k b, l[k]? = some b → (step l st)[k]? = some (own st k b))
    (steps : List σ) {l : List β} {k : Nat} {b : β} (hk : l[k]? = some b) :
    (steps.foldl step l)[k]? = some (steps.foldl (fun b st => own st k b) b) := by
  induction steps generalizing l b with
  | nil => exact hk
  | cons st steps ih => exact ih (hown l st k b hk)

/-- `count` = how many slots a run appends; `hcount` says without subtraction that the step `st` appends
`count [st]` of them -/
theorem fan_length (hcount : ∀ l st rest, (step l st).length + count rest = l.length + count (st :: rest))
    (steps : List σ) (l : List β) : (steps.foldl step l).length + count [] = l.length + count steps := by
  induction steps generalizing l with
  | nil => rfl
  | cons st steps ih => exact (ih _).trans (hcount l st steps)

/-- the slot appended by `j` after `pre` ends up at position `count pre` as its own fold over `post` -/
theorem fan_joined (hown : ∀ l st k b, l[k]? = some b → (step l st)[k]? = some (own st k b))
    (hcount : ∀ l st rest, (step l st).length + count rest = l.length + count (st :: rest))
    (h0 : count [] = 0) (pre post : List σ) (j : σ) (b0 : β) (hj : ∀ l, step l j = l ++ [b0]) :
    ((pre ++ j :: post).foldl step [])[count pre]?
      = some (post.foldl (fun b st => own st (count pre) b) b0) := by
  have hlen := fan_length hcount pre []
  rw [h0, List.length_nil, Nat.add_zero, Nat.zero_add] at hlen
  rw [List.foldl_append, List.foldl_cons, hj]
  exact fan_at hown post (by rw [← hlen, List.getElem?_concat_length])

end fan

theorem updAt_eq_modify {α : Type} (f : α → α) (k : Nat) (l : List α) : updAt f k l = l.modify k f := by
  induction l generalizing k with
  | nil => cases k <;> rfl
  | cons x xs ih =>
    cases k with
    | zero => rfl
    | succ k => rw [updAt, ih, List.modify_succ_cons]

theorem getElem?_updAt {α : Type} (f : α → α) (j k : Nat) (l : List α) :
    (updAt f j l)[k]? = if j = k then l[k]?.map f else l[k]? := by
  rw [updAt_eq_modify, List.getElem?_modify]
  by_cases h : j = k
  · simp only [h, if_true]; rfl
  · simp only [h, if_false]; exact Option.map_id'

theorem length_updAt {α : Type} (f : α → α) (k : Nat) (l : List α) : (updAt f k l).length = l.length := by
  rw [updAt_eq_modify, List.length_modify]

theorem getD_updAt {α : Type} (f : α → α) (d : α) (j k : Nat) (l : List α) :
    (updAt f k l).getD j d = if j = k ∧ k < l.length then f (l.getD j d) else l.getD j d := by
  rw [List.getD_eq_getElem?_getD, getElem?_updAt, List.getD_eq_getElem?_getD]
  by_cases hjk : k = j
  · subst hjk
    by_cases hk : k < l.length
    · rw [if_pos rfl, if_pos ⟨rfl, hk⟩, List.getElem?_eq_getElem hk]
      rfl
    · rw [if_pos rfl, if_neg fun h => hk h.2, List.getElem?_eq_none (Nat.le_of_not_lt hk)]
      rfl
  · rw [if_neg hjk, if_neg fun h => hjk h.1.symm]

theorem getD_replicate {α : Type} (n j : Nat) (d : α) : (List.replicate n d).getD j d = d := by
  rw [List.getD_eq_getElem?_getD, List.getElem?_replicate]
  split <;> rfl

theorem getD_oob {α : Type} (l : List α) (d : α) {j : Nat} (h : l.length ≤ j) : l.getD j d = d := by
  simp [List.getD, List.getElem?_eq_none h]

end ScVerif.C08
