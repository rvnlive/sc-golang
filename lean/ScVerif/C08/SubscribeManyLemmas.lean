import ScVerif.C08.SubscribeMany
import ScVerif.C08.SubscribeLemmas
import ScVerif.C08.SlotLemmas
/-! The many-subscriber system projects, subscriber by subscriber, onto the one-subscriber system. -/
namespace ScVerif.C08
open ScVerif.C09

variable {ι μ : Type}

theorem getD_map_deliver (l : List (Sub ι μ)) (evs : List (Change ι μ)) (j : Nat) :
    (l.map (·.deliver evs)).getD j .idle = (l.getD j .idle).deliver evs := by
  rw [List.getD_eq_getElem?_getD, List.getElem?_map, List.getD_eq_getElem?_getD]
  cases l[j]? <;> rfl

theorem not_snapping {l : List (Sub ι μ)} (h : ¬ l.any Sub.isSnapping = true) (j : Nat) :
    (l.getD j .idle).isSnapping = false := by
  induction l generalizing j with
  | nil => rfl
  | cons x xs ih =>
    rw [List.any_cons, Bool.or_eq_true, not_or] at h
    cases j with
    | zero => exact Bool.not_eq_true _ ▸ h.1
    | succ j => exact ih h.2 j

theorem MSys.proj_init (items : List (ι × μ)) (n j : Nat) : (MSys.init items n).proj j = Sys.init items := by
  simp only [MSys.proj, MSys.init, getD_replicate]
  rfl

variable [DecidableEq ι]

theorem Reach.slot {p : Option (Pred ι μ)} {items : List (ι × μ)} {pend : List (Change ι μ)} {t : Nat}
    (f : Sub ι μ → Sub ι μ) (subs : List (Sub ι μ)) (k j : Nat)
    (h : j = k → Reach p ⟨items, pend, subs.getD j .idle, t⟩ ⟨items, pend, f (subs.getD j .idle), t⟩) :
    Reach p ⟨items, pend, subs.getD j .idle, t⟩ ⟨items, pend, (updAt f k subs).getD j .idle, t⟩ := by
  rw [getD_updAt]
  split
  · next hjk => exact h hjk.1
  · exact .refl

theorem msysStep_proj (preds : List (Option (Pred ι μ))) (s : MSys ι μ) (step : MStep ι μ) (j : Nat) :
    Reach (preds.getD j none) (s.proj j) ((msysStep true preds s step).proj j) := by
  cases step with
  | commit op =>
    simp only [msysStep, Bool.true_and]
    split
    · exact .refl
    · next h => exact .commit [] op (not_snapping h j)
  | publish =>
    simp only [msysStep]
    split
    · exact .refl
    · next c rest h =>
      simp only [MSys.proj, h, getD_map_deliver]
      exact .publish c
  | deleteNow i =>
    simp only [msysStep, Bool.true_and]
    split
    · exact .refl
    · next h =>
      rw [Bool.or_eq_true, not_or, Bool.not_eq_true', Bool.not_eq_false, List.isEmpty_iff] at h
      simp only [MSys.proj, h.1, getD_map_deliver]
      exact .deleteNow i (not_snapping h.2 j)
  | snapshot k =>
    simp only [msysStep, MSys.proj]
    exact .slot _ _ k j fun h => h ▸ .snapshot
  | listen k =>
    simp only [msysStep, MSys.proj]
    exact .slot _ _ k j fun _ => .listen

theorem msysRun_proj (preds : List (Option (Pred ι μ))) (s : MSys ι μ) (sched : List (MStep ι μ)) (j : Nat) :
    Reach (preds.getD j none) (s.proj j) ((msysRun true preds s sched).proj j) := by
  induction sched generalizing s with
  | nil => exact .refl
  | cons st sched ih => exact (msysStep_proj preds s st j).trans (ih _)

end ScVerif.C08
