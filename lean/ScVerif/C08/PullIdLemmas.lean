import ScVerif.C08.PullId
import ScVerif.C08.CollectionLemmas
/-! `PullID`'s loop asks of a change of its id only which value it leaves (C09's `Change.val`: none for a REMOVE or
a change without new value), which is all `apply` asks too. -/
namespace ScVerif.C08
open ScVerif.C09

variable {ι μ : Type} [DecidableEq ι]

theorem held_cons (init : Option μ) (vb : μ × Bool) (l : List (μ × Bool)) :
    held init (vb :: l) = held (some vb.1) l := rfl

theorem held_eq_none_iff (init : Option μ) (l : List (μ × Bool)) :
    held init l = none ↔ l = [] ∧ init = none := by
  induction l generalizing init with
  | nil => exact ⟨fun h => ⟨rfl, h⟩, fun h => h.2⟩
  | cons vb l ih =>
    rw [held_cons, ih]
    exact ⟨fun h => (nomatch h.2), fun h => (nomatch h.1)⟩

theorem pullIdLoop_cons (i : ι) (c : Change ι μ) (cs : List (Change ι μ)) :
    pullIdLoop i (c :: cs) =
      if c.id = i then
        match c.val with
        | none => ([], true)
        | some v => ((v, c.seed) :: (pullIdLoop i cs).1, (pullIdLoop i cs).2)
      else pullIdLoop i cs := by
  unfold Change.val
  rw [pullIdLoop]
  split
  · split
    · rfl
    · cases c.new <;> rfl
  · rfl

/-- While the loop has not closed the stream, the value last sent is the folded view's entry for the id; it closes
the stream iff the item ever leaves the view. -/
theorem pullIdLoop_held (i : ι) (cs : List (Change ι μ)) (s : View ι μ) (hw : WFHist s cs) :
    ((pullIdLoop i cs).2 = false → held (s i) (pullIdLoop i cs).1 = fold cs s i) ∧
    (pullIdLoop i cs).2 = everLeft i s cs := by
  induction cs generalizing s with
  | nil => exact ⟨fun _ => rfl, rfl⟩
  | cons c cs ih =>
    have ih := ih (apply c s) hw.2
    rw [pullIdLoop_cons, fold_cons, everLeft, apply_eq_set]
    rw [apply_eq_set] at ih
    by_cases hid : c.id = i
    · subst hid
      rw [if_pos rfl, View.set_same]
      rw [View.set_same] at ih
      cases hv : c.val with
      | none => exact ⟨nofun, by rw [wf_val_none hw.1 hv]; rfl⟩
      | some v =>
        rw [hv] at ih
        exact ⟨ih.1, by rw [ih.2]; simp⟩
    · rw [if_neg hid, View.set_other _ _ (Ne.symm hid)]
      rw [View.set_other _ _ (Ne.symm hid)] at ih
      refine ⟨ih.1, ?_⟩
      rw [ih.2]
      cases s i <;> rfl

theorem pullIdLoop_mem (i : ι) (cs : List (Change ι μ)) (vb : μ × Bool) (h : vb ∈ (pullIdLoop i cs).1) :
    ∃ c ∈ cs, c.id = i ∧ c.val = some vb.1 := by
  induction cs with
  | nil => cases h
  | cons c cs ih =>
    rw [pullIdLoop_cons] at h
    split at h
    · next hid =>
      split at h
      · cases h
      · next v hv =>
        rcases List.mem_cons.mp h with rfl | h
        · exact ⟨c, List.mem_cons_self, hid, hv⟩
        · obtain ⟨d, hd, h3⟩ := ih h
          exact ⟨d, List.mem_cons_of_mem _ hd, h3⟩
    · obtain ⟨d, hd, h3⟩ := ih h
      exact ⟨d, List.mem_cons_of_mem _ hd, h3⟩

omit [DecidableEq ι] in
theorem matches_of_not_exclude (p : Option (Pred ι μ)) (i : ι) (w : μ) (h : exclude p i w = false) :
    Matches p i w := by
  cases p with
  | none => trivial
  | some f => simpa [exclude, Matches] using h

omit [DecidableEq ι] in
theorem pullStream_matches (p : Option (Pred ι μ)) (proj : μ → μ) {items order : List (ι × μ)}
    (hperm : order.Perm (itemSlice p items)) (t : Nat) (cs : List (Change ι μ)) {c : Change ι μ}
    (hc : c ∈ (seedFrom t order).map (maskChange proj) ++ cs.filterMap (pullEvent p proj))
    {v : μ} (hv : c.val = some v) : ∃ w, v = proj w ∧ Matches p c.id w := by
  rcases List.mem_append.mp hc with hs | he
  · -- a seed event announces a listed item
    obtain ⟨d, hd, rfl⟩ := List.mem_map.mp hs
    obtain ⟨iv, hiv, h1, h2⟩ := seedFrom_mem t order d hd
    have hex : exclude p iv.1 iv.2 = false := by simpa using (List.mem_filter.mp (hperm.subset hiv)).2
    rw [maskChange_val, Change.val, (seedFrom_shape t order d hd).1, if_neg nofun, h2] at hv
    exact ⟨iv.2, (Option.some.inj hv).symm, h1 ▸ matches_of_not_exclude p iv.1 iv.2 hex⟩
  · obtain ⟨e, _, hpe⟩ := List.mem_filterMap.mp he
    obtain ⟨d, hd, rfl⟩ := Option.map_eq_some_iff.mp hpe
    rw [maskChange_val] at hv
    obtain ⟨w, hw, hpw⟩ := Option.map_eq_some_iff.mp hv
    obtain ⟨hid, hm⟩ := includeChange_fwd hd
    exact ⟨w, hpw.symm, hid ▸ hm w hw⟩

end ScVerif.C08
