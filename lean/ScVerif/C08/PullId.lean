import ScVerif.C08.Include
/-!
C08 — model of `Collection.PullID` (pkg/resource/collection.go): the single-item subscription that
publicationpb, vendingpb, metadatapb and hailpb models forward their callers' read options to.

```go
func (c *Collection) PullID(ctx, id, opts ...ReadOption) <-chan *ValueChange {
    if c.idInterceptor != nil { id = c.idInterceptor(id) }
    changes := c.Pull(ctx, opts...)                 // the caller's options, WithInclude among them, untouched
    go func() {
        defer close(send); defer cancel()
        for change := range changes {
            if change.Id != id { continue }
            if change.ChangeType == REMOVE { return }
            if change.NewValue == nil { return }      // "not sure how this case could happen"
            send <- &ValueChange{Value: change.NewValue, SeedValue: change.SeedValue, …}
        }
    }()
}
```
`pullIdLoop i stream` is that goroutine over the stream the underlying `Pull` produces (seed ++ events
through include ▸ mask ▸ equivalence, `Include.lean`): the values sent (with their seed flag) and whether
the stream was closed by the loop itself.  The caller's include predicate therefore decides, through the
underlying Pull, what the single-item subscriber sees: the item leaving the FILTERED collection is a REMOVE
and ends the stream; an item outside it is never sent.

Spec side: `held` (the value a subscriber that keeps the last value holds) and `everLeft` (at some step of
the history the item goes from present to absent in the view).
-/
namespace ScVerif.C08
open ScVerif.C09

variable {ι μ : Type} [DecidableEq ι]

/-- the loop of `PullID`'s goroutine: (values sent with their SeedValue flag, closed by the loop) -/
def pullIdLoop (i : ι) : List (Change ι μ) → List (μ × Bool) × Bool
  | [] => ([], false)
  | c :: cs =>
    if c.id = i then
      if c.kind = .remove then ([], true)
      else match c.new with
        | none => ([], true)
        | some v => ((v, c.seed) :: (pullIdLoop i cs).1, (pullIdLoop i cs).2)
    else pullIdLoop i cs

/-- `PullID` on a collection with an id interceptor: the id is replaced first. -/
def pullId (canon : ι → ι) (i : ι) (stream : List (Change ι μ)) : List (μ × Bool) × Bool :=
  pullIdLoop (canon i) stream

/-- Spec: what a subscriber keeping the last value it was sent holds (`init` before anything is sent). -/
def held (init : Option μ) (sent : List (μ × Bool)) : Option μ :=
  sent.foldl (fun _ vb => some vb.1) init

/-- Spec: at some step of the history the item `i` leaves the view (present before, absent after). -/
def everLeft (i : ι) : View ι μ → List (Change ι μ) → Bool
  | _, [] => false
  | s, c :: cs => ((s i).isSome && (apply c s i).isNone) || everLeft i (apply c s) cs

/-- what satisfying the (optional) predicate means for a stored value -/
def Matches (p : Option (Pred ι μ)) (i : ι) (w : μ) : Prop :=
  match p with
  | none => True
  | some f => f i (some w) = true

end ScVerif.C08
