import ScVerif.C08.Props
import ScVerif.C08.ReentrantLemmas
import ScVerif.C08.SubscribeLemmas
/-!
# C08 — re-entrant deletes and writes, and subscribing under a running writer

* `Collection.Delete` reads optimistically, runs caller code without the lock and re-checks under the
  lock (up to five attempts).  `include` decides from `OldValue` whether the subscriber has the item,
  so the REMOVE must carry the value that was actually removed — for every interference.
* `Collection.onUpdate` computes the seed (evaluating the include predicate) and registers the listener under ONE
  read lock, while writers commit under the write lock and publish after releasing it, in commit order.
-/
namespace ScVerif.C08
open ScVerif.C09

variable {ι μ : Type} [DecidableEq ι] [DecidableEq μ]

/-- `Delete` under interference: `guard` is the outcome of `WithExpectedCheck` / `WithExpectedValue` on the value
read, per attempt; `intf` the writes that land, attempt by attempt, between Delete's read and its write lock (its own
check callback writing to the collection, or other writers).  If Delete ends by publishing a REMOVE, that event's
`old` is the value stored when it was removed, not the value first read. -/
theorem C08_delete_retry_removes_current (t : Nat) (items : List (ι × μ)) (hn : NodupKeys items)
    (i : ι) (intf : List (List (Op ι μ))) (guard : Nat → μ → Bool) :
    let r := stepAct t items (.deleteRetry i intf guard)
    NodupKeys r.1 ∧ WFHist (viewOf items) r.2 ∧ fold r.2 (viewOf items) = viewOf r.1 ∧
    (∀ pre c, r.2 = pre ++ [c] → c.kind = .remove → c.old = fold pre (viewOf items) c.id) := by
  have h : Publishes items _ := stepAct_publishes t hn (Act.deleteRetry i intf guard)
  refine ⟨h.1, h.2.1, h.2.2, ?_⟩
  -- holds of the last event whatever its kind; stated for the REMOVE the property speaks of
  intro pre c hpc _
  have hw := h.2.1
  rw [hpc, WFHist_append] at hw
  exact (wf_old_new hw.2.1).1

/-- `Add`/`Update` under interference (the code after fix 4fcd11c), for every option pair (create-if-absent,
expect-absent) and EVERY sequence of writes landing between Update's read and its write lock.  The statement is the
well-formedness of everything published, from the contents at the start to the final contents.  Which event a
committing write publishes is the lemma `writeRetry_shape` (an ADD exactly when nothing is stored when it commits,
otherwise an UPDATE whose `old` is the stored value); well-formedness at the stored view forces the same. -/
theorem C08_update_retry_event_current (t : Nat) (items : List (ι × μ)) (hn : NodupKeys items)
    (i : ι) (v : μ) (create expectAbsent : Bool) (intf : List (Op ι μ)) (empty : μ) :
    let r := stepAct t items (.writeRetry i v create expectAbsent intf empty)
    NodupKeys r.1 ∧ WFHist (viewOf items) r.2 ∧ fold r.2 (viewOf items) = viewOf r.1 :=
  stepAct_publishes t hn (Act.writeRetry i v create expectAbsent intf empty)

/-- The defect fix 4fcd11c repaired, on the model of the code before it (`writeRetryLegacy`): an
upsert of an absent id whose callback creates the id holding exactly the empty message goes through
(`proto.Equal(created, stored)`), and announced itself as an ADD without old value although the item
existed: not a well-formed history — and with a predicate matching the empty message but not the new
value `include` drops that ADD, so the subscriber keeps an item `List(WithInclude)` no longer has. -/
theorem C08_update_retry_legacy_fails :
    ∃ (items : List (Nat × Nat)) (i v e : Nat) (intf : List (Op Nat Nat)) (p : Pred Nat Nat),
      NodupKeys items ∧
      ¬ WFHist (viewOf items) (writeRetryLegacy e 0 items i v true false intf).2 ∧
      fold ((writeRetryLegacy e 0 items i v true false intf).2.filterMap (includeChange (some p)))
          (filterView (some p) (viewOf items)) i
        ≠ filterView (some p) (viewOf (writeRetryLegacy e 0 items i v true false intf).1) i := by
  refine ⟨[], 1, 7, 0, [.add 1 0], fun _ m => m == some 0, ?_, ?_, ?_⟩
  · decide +kernel
  · -- the second event is an ADD of the id the callback's ADD has just created
    intro h
    have h2 := h.2.1
    simp [runOps, stepOp, mkChange, WFChange, apply, View.set, setKey, eraseKey] at h2
  · decide +kernel

/-- `Pull(WithInclude p, WithReadMask m)` against `List` over histories of plain writes, interfered deletes and
overtaken writes. -/
theorem C08_pull_matches_list_reentrant (p : Option (Pred ι μ)) (proj : μ → μ) (items : List (ι × μ))
    (hn : NodupKeys items) (order : List (ι × μ)) (hperm : order.Perm (itemSlice p items))
    (t t' : Nat) (as : List (Act ι μ)) :
    let r := runActs t items as
    let stream := (seedFrom t' order).map (maskChange proj) ++ r.2.filterMap (pullEvent p proj)
    WFHist View.empty stream ∧
    fold stream View.empty = projView proj (viewOf (itemSlice p r.1)) ∧
    viewOf (itemSlice p r.1) = filterView p (viewOf r.1) := by
  have hops := runActs_publishes t hn as
  have h := hops.pull p proj hn hperm t'
  exact ⟨h.1, h.2, viewOf_itemSlice p _ hops.1⟩

/-- The full pipeline over such histories. -/
theorem C08_pull_full_pipeline_list_reentrant (p : Option (Pred ι μ)) (proj : μ → μ)
    (E : Option μ → Option μ → Bool) (hrefl : ∀ a, E a a = true)
    (htrans : ∀ a b c, E a b = true → E b c = true → E a c = true)
    (items : List (ι × μ)) (hn : NodupKeys items) (t : Nat) (as : List (Act ι μ))
    (ms : List (PMove (Change ι μ))) (hms : pinputs ms = (runActs t items as).2) :
    let r := runActs t items as
    let c := prun (pullStep p proj (some E)) PCfg.init ms
    let base := projView proj (viewOf (itemSlice p items))
    c.inHand = none → c.st.pending = [] →
      ∀ i, E (fold c.delivered base i) (projView proj (viewOf (itemSlice p r.1)) i) = true := by
  intro r c base hh hpend i
  have hops := runActs_publishes t hn as
  have h := (C08_pull_full_pipeline p proj E hrefl htrans (viewOf items) ms
    (by rw [hms]; exact hops.2.1)).2 hh hpend i
  rw [hms, hops.list p, ← viewOf_itemSlice p items hn] at h
  exact h

/-- Subscribing while writers run (the code as it is: seed and `Listen` under one read lock), for EVERY schedule of
commit / publish / deleteNow of any number of writers — publications in commit order (C03's `ordered` hypothesis; one
writer thread satisfies it by construction) — and snapshot / listen of the subscriber.  `T` is the PUBLISHED view (the
contents as of the last published commit) and `k` counts the pending events committed before the snapshot, so
`fold (pend.take k) T` is the view the seed was taken from.  The subscriber is sent those `k` events although its
seed contains them: until they are through, its view is at one id the filter of the seed's view and at another
already the filter of `T` — the filter of neither as a whole — and the last stale event of an id makes the two
agree there (`stale_near`). -/
theorem C08_subscribe_atomic (p : Option (Pred ι μ)) (items : List (ι × μ)) (hn : NodupKeys items)
    (sched : List (Step ι μ)) :
    let s := sysRun true p (Sys.init items) sched
    match s.sub with
    | .idle => True
    | .snapping seed => seed = itemSlice p s.items
    | .listening seed recv =>
      (∃ (T : View ι μ) (k : Nat), k ≤ s.pend.length ∧ WFHist T s.pend ∧
        fold s.pend T = viewOf s.items ∧
        (∀ i, subView p seed recv i = filterView p (fold (s.pend.take k) T) i ∨
              subView p seed recv i = filterView p T i) ∧
        (k = 0 → subView p seed recv = filterView p T)) ∧
      (s.pend = [] → ∀ (order : List (ι × μ)) (t : Nat), order.Perm seed →
        fold (seedFrom t order ++ recv.filterMap (includeChange p)) View.empty
          = viewOf (itemSlice p s.items) ∧
        viewOf (itemSlice p s.items) = filterView p (viewOf s.items)) :=
  (sysRun_ledger p false (Sys.init items) sched (Ledger.init p items hn)).atomic

/-- The lock is what makes it true: in the hypothetical code that releases the read lock before the
predicate runs and before `Listen` (`locked = false`: the writer may commit between `snapshot` and
`listen`), a schedule exists after which the subscriber listens, nothing is pending, and its fold
differs from `List(WithInclude p)` for ever — the write is in neither the seed nor the stream. -/
theorem C08_subscribe_needs_lock :
    ∃ (items : List (Nat × Nat)) (sched : List (Step Nat Nat)) (seed : List (Nat × Nat))
      (recv : List (Change Nat Nat)),
      NodupKeys items ∧
      (sysRun false (none : Option (Pred Nat Nat)) (Sys.init items) sched).sub = .listening seed recv ∧
      (sysRun false (none : Option (Pred Nat Nat)) (Sys.init items) sched).pend = [] ∧
      subView (none : Option (Pred Nat Nat)) seed recv 1
        ≠ viewOf (itemSlice none (sysRun false (none : Option (Pred Nat Nat)) (Sys.init items) sched).items) 1 := by
  refine ⟨[(1, 10)], [.snapshot, .commit (.update 1 20), .publish, .listen], [(1, 10)], [], ?_, rfl, rfl, ?_⟩
  · decide +kernel
  · decide +kernel

/-- predicate: value 20 only (and TRUE on absent values) -/
private def p20 : Pred Nat Nat := fun _ v => v.isNone || v == some 20

/-- a Delete whose check callback updates the item first (10 → 20): with the predicate "value 20" the
subscriber is sent ADD 20 (the nested update makes the item match) and then REMOVE with old = 20, the
value actually removed — had the REMOVE carried the value first read (10, not matching) `include` would
have swallowed it. -/
example :
    ((stepAct 0 [(1, 10)] (.deleteRetry 1 [[.update 1 20]] (fun _ _ => true))).2.filterMap
        (includeChange (some p20))).map (fun c => (c.kind, c.old, c.new))
      = [(.add, none, some 20), (.remove, some 20, none)] := by decide +kernel

/-- five interfering writes exhaust Delete's attempts: five UPDATEs are published, no REMOVE, the item stays -/
example :
    ((stepAct 0 [(1, 10)] (.deleteRetry 1 (List.replicate 5 [.update 1 20]) (fun _ _ => true))).2.map (·.kind),
     (stepAct 0 [(1, 10)] (.deleteRetry 1 (List.replicate 5 [.update 1 20]) (fun _ _ => true))).1)
      = ([.update, .update, .update, .update, .update], [(1, 20)]) := by decide +kernel

/-- `Delete(WithExpectedValue 10)` whose check callback first updates the item to 20: the precondition is
judged on the value READ (10: accepted), the re-check under the lock sees another item, and the second
attempt reads 20, which the precondition rejects: an UPDATE was published, nothing was deleted -/
example :
    ((stepAct 0 [(1, 10)] (.deleteRetry 1 [[.update 1 20]] (fun _ o => o == 10))).2.map (·.kind),
     (stepAct 0 [(1, 10)] (.deleteRetry 1 [[.update 1 20]] (fun _ o => o == 10))).1)
      = ([.update], [(1, 20)]) := by decide +kernel

/-- the fixed code on the witness of `C08_update_retry_legacy_fails`: ADD of the empty message by the
callback, then UPDATE from it — with the predicate "is the empty message" the subscriber is sent ADD, REMOVE -/
example :
    ((stepAct 0 ([] : List (Nat × Nat)) (.writeRetry 1 7 true false [.add 1 0] 0)).2.filterMap
        (includeChange (some (fun _ m => m == some 0)))).map (fun c => (c.kind, c.old, c.new))
      = [(.add, none, some 0), (.remove, some 0, none)] := by decide +kernel

/-- a callback writing a DIFFERENT value makes the outer update abort: only the callback's event -/
example :
    (stepAct 0 [(1, 10)] (.writeRetry 1 7 false false [.update 1 20] 0)).2.map (fun c => (c.kind, c.old, c.new))
      = [(.update, some 10, some 20)] := by decide +kernel

/-- a schedule of `C08_subscribe_atomic` in which the subscriber snapshots BETWEEN a commit and its
publication: the seed already holds 20, the late UPDATE 10→20 arrives as well (stale), and the fold is
still the filtered collection.  While it held the lock a second commit was attempted and blocked. -/
example :
    let s := sysRun true (some p20) (Sys.init [(1, 10)])
      [.commit (.update 1 20), .snapshot, .commit (.update 1 30), .listen, .publish]
    (match s.sub with
     | .listening seed recv => (seed, recv.map (fun c => (c.kind, c.old, c.new)), subView (some p20) seed recv 1)
     | _ => ([], [], none)) = ([(1, 20)], [(.update, some 10, some 20)], some 20) ∧ s.items = [(1, 20)] := by
  decide +kernel

/-- two writers' commits pending when the subscriber snapshots (contents 30, not matching "value 20"):
the stale UPDATE 10→20 reaches it as an ADD of 20 — its view is then the filter of the published view `T` (20), no
longer that of its snapshot (30: nothing listed) nor of the contents — and the second stale event (20→30, REMOVE)
makes them agree again -/
example :
    let run := fun (n : Nat) => sysRun true (some p20) (Sys.init [(1, 10)])
      ([Step.commit (.update 1 20), .commit (.update 1 30), .snapshot, .listen] ++ List.replicate n Step.publish)
    let view := fun (n : Nat) => match (run n).sub with
      | .listening seed recv => subView (some p20) seed recv 1
      | _ => none
    (view 0, view 1, view 2, (run 2).pend.length) = (none, some 20, none, 0) := by
  decide +kernel

end ScVerif.C08
