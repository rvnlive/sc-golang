import ScVerif.C08.CollectionLemmas
/-! The `Delete` retry loop, a write overtaken between its read and its lock, and histories of such writes:
every `Closed` property holds of them; in particular what they publish (`Publishes`). -/
namespace ScVerif.C08
open ScVerif.C09

variable {ι μ : Type} [DecidableEq ι]

/-- The outcomes of `Update` under interference (code after fix 4fcd11c): refused at its first read; given up at
its re-check, leaving what the interference did; or committed after the interference, and then its own event
is an ADD exactly when nothing is stored at commit time and otherwise an UPDATE from the stored value. -/
theorem writeRetry_shape [DecidableEq μ] (empty : μ) (t : Nat) (items : List (ι × μ)) (i : ι) (v : μ)
    (create expectAbsent : Bool) (intf : List (Op ι μ)) :
    (getForUpdate empty create expectAbsent (items.lookup i) = none ∧
      writeRetry empty t items i v create expectAbsent intf = (items, [])) ∨
    writeRetry empty t items i v create expectAbsent intf = runOps t items intf ∨
    ∃ k o, writeRetry empty t items i v create expectAbsent intf
        = (setKey i v (runOps t items intf).1,
           (runOps t items intf).2 ++ [mkChange i k (t + (runOps t items intf).2.length) o (some v)]) ∧
      (runOps t items intf).1.lookup i = o ∧ k = if o.isSome then .update else .add := by
  unfold writeRetry
  cases getForUpdate empty create expectAbsent (items.lookup i) with
  | none => exact .inl ⟨rfl, rfl⟩
  | some rv =>
    simp only
    cases h2 : getForUpdate empty create expectAbsent ((runOps t items intf).1.lookup i) with
    | none => exact .inr (.inl rfl)
    | some av =>
      simp only
      split
      · exact .inr (.inl rfl)
      · next hne =>
        cases hcur : (runOps t items intf).1.lookup i with
        | none => exact .inr (.inr ⟨.add, none, rfl, rfl, rfl⟩)
        | some c =>
          -- the re-read value is the stored one, and equals the value first read
          rw [hcur] at h2
          have hc : c = rv := by
            simp only [getForUpdate] at h2
            split at h2
            · cases h2
            · exact (Option.some.inj h2).trans (Decidable.of_not_not hne).symm
          exact .inr (.inr ⟨.update, some rv, rfl, congrArg some hc, rfl⟩)

/-- When the write's first read succeeds (its change function runs), what it publishes begins with what the
interference published. -/
theorem writeRetry_split [DecidableEq μ] (empty : μ) (t : Nat) (items : List (ι × μ)) (i : ι) (v : μ)
    (create expectAbsent : Bool) (intf : List (Op ι μ))
    (h1 : (getForUpdate empty create expectAbsent (items.lookup i)).isSome = true) :
    (writeRetry empty t items i v create expectAbsent intf).2
      = (runOps t items intf).2 ++
        (writeRetry empty t items i v create expectAbsent intf).2.drop (runOps t items intf).2.length := by
  rcases writeRetry_shape empty t items i v create expectAbsent intf with h | h | ⟨k, o, h, _⟩
  · rw [h.1] at h1
    cases h1
  · rw [h, List.drop_length, List.append_nil]
  · rw [h, List.drop_left]

theorem writeRetry_length [DecidableEq μ] (empty : μ) (t : Nat) (items : List (ι × μ)) (i : ι) (v : μ)
    (create expectAbsent : Bool) (intf : List (Op ι μ)) :
    (writeRetry empty t items i v create expectAbsent intf).2.length ≤ (runOps t items intf).2.length + 1 := by
  rcases writeRetry_shape empty t items i v create expectAbsent intf with h | h | ⟨k, o, h, _⟩
  · rw [h.2]
    exact Nat.zero_le _
  · rw [h]
    exact Nat.le_succ _
  · rw [h, List.length_append]
    exact Nat.le_refl _

variable [DecidableEq μ]

section closed
variable {Good : List (ι × μ) → Prop} {Ok : ι → Prop}
  {R : List (ι × μ) → List (ι × μ) × List (Change ι μ) → Prop} (C : Closed Good Ok R)
include C

omit [DecidableEq μ] in
/-- The retry loop, for every number of attempts left, every interference and every contents, as long
as `read` is what is stored when the attempt starts (true at the first read and after every re-read
under the lock).  In particular the REMOVE carries as `old` exactly the value stored when it was removed
(`C.remove`: the value before an interference that did not touch the item). -/
theorem deleteLoop_closed (i : ι) (hi : Ok i) (guard : Nat → μ → Bool) (n : Nat) (read : Option μ) (t : Nat)
    {items : List (ι × μ)} (hg : Good items) (intf : List (List (Op ι μ)))
    (hintf : ∀ ops ∈ intf, ∀ op ∈ ops, Ok op.id) (hread : read = items.lookup i) :
    R items (deleteLoop i guard n read t items intf) := by
  induction n generalizing read t items intf with
  | zero => exact C.nil hg
  | succ n ih =>
    cases read with
    | none => exact C.nil hg
    | some o =>
      have hhead : ∀ op ∈ intf.headD [], Ok op.id := by
        cases intf with
        | nil => intro op h; cases h
        | cons a as => exact hintf a List.mem_cons_self
      have hr := runOps_closed C t hg (intf.headD []) hhead
      simp only [deleteLoop]
      split
      · exact hr
      · split
        · exact C.append hr (ih _ _ (C.good hr) intf.tail (fun ops h => hintf ops (List.mem_of_mem_tail h)) rfl)
        · next ht => exact C.append hr (C.remove _ hi hr (Bool.not_eq_true _ ▸ ht) hread.symm)

theorem writeRetry_closed (empty : μ) (t : Nat) {items : List (ι × μ)} (hg : Good items) (i : ι) (hi : Ok i)
    (v : μ) (create expectAbsent : Bool) (intf : List (Op ι μ)) (hintf : ∀ op ∈ intf, Ok op.id) :
    R items (writeRetry empty t items i v create expectAbsent intf) := by
  have hr := runOps_closed C t hg intf hintf
  rcases writeRetry_shape empty t items i v create expectAbsent intf with h | h | ⟨k, o, h, hl, rfl⟩
  · rw [h.2]
    exact C.nil hg
  · rw [h]
    exact hr
  · rw [h]
    cases o with
    | none => exact C.append hr (C.add _ v (C.good hr) hi hl)
    | some c => exact C.append hr (C.update _ v (C.good hr) hi hl)

theorem stepAct_closed (t : Nat) {items : List (ι × μ)} (hg : Good items) (a : Act ι μ) (ha : a.idsAll Ok) :
    R items (stepAct t items a) := by
  cases a with
  | op o => exact stepOp_closed C t hg o ha
  | deleteRetry i intf guard => exact deleteLoop_closed C i ha.1 guard 5 _ t hg intf ha.2 rfl
  | writeRetry i v create expectAbsent intf empty =>
    exact writeRetry_closed C empty t hg i ha.1 v create expectAbsent intf ha.2

theorem runActs_closed (t : Nat) {items : List (ι × μ)} (hg : Good items) (as : List (Act ι μ))
    (has : ∀ a ∈ as, a.idsAll Ok) : R items (runActs t items as) := by
  induction as generalizing t items with
  | nil => exact C.nil hg
  | cons a as ih =>
    have hs := stepAct_closed C t hg a (has a List.mem_cons_self)
    exact C.append hs (ih _ (C.good hs) fun b hb => has b (List.mem_cons_of_mem _ hb))

end closed

omit [DecidableEq ι] [DecidableEq μ] in
theorem Act.idsAll_true (a : Act ι μ) : a.idsAll fun _ => True := by
  cases a with
  | op o => trivial
  | deleteRetry i intf guard => exact ⟨trivial, fun _ _ _ _ => trivial⟩
  | writeRetry i v create expectAbsent intf empty => exact ⟨trivial, fun _ _ => trivial⟩

theorem stepAct_publishes (t : Nat) {items : List (ι × μ)} (hn : NodupKeys items) (a : Act ι μ) :
    Publishes items (stepAct t items a) :=
  stepAct_closed Publishes.closed t hn a a.idsAll_true

theorem runActs_publishes (t : Nat) {items : List (ι × μ)} (hn : NodupKeys items) (as : List (Act ι μ)) :
    Publishes items (runActs t items as) :=
  runActs_closed Publishes.closed t hn as fun a _ => a.idsAll_true

end ScVerif.C08
