import ScVerif.C09.Codec
import ScVerif.C08.Include
import ScVerif.C08.Intercept
import ScVerif.C08.Subscribe
import ScVerif.C08.Shared
import ScVerif.C08.SubscribeMany
import ScVerif.C08.SubscribeSend
import ScVerif.C08.SubscribeGc
import ScVerif.C08.PipeBus
import ScVerif.C08.Booking
import ScVerif.C08.GenId
import ScVerif.C08.PullId
/-! Driver handler for C08.

Predicates are the closed family shared with the Go harness: `nil` (no include option) or a truth
table `T:<id.id…>:<val.val…>:<mask>` over (id, value ∈ {absent} ∪ vals): bit `idIdx*(nvals+1)+valIdx`
of `mask` (valIdx 0 = absent) is the answer; unknown ids/values answer false; the reserved fence id
`~` answers `present`.

* `include <pred> <change>`            → `includeChange` (`drop` when `ok == false`)
* `pull <pred> <nBefore> <op>*`        run the first `nBefore` writes on an empty collection, subscribe
                                       (`Pull(WithInclude pred, WithBackpressure(true))`), run the rest →
                                       `seed=<events>` then per later write ` <event|drop|fail>@<List(WithInclude)>`
* `burst <pred> <nBefore> <op>*`       lossy pull: the writes after `nBefore` reach `mergeCollectionExcess`
                                       under every recv/emit pattern (then drain) → the set of streams the
                                       subscriber can be sent, `|`-separated, sorted
ops: `add:i:v` `upd:i:v` `ups:i:v` `del:i`; times are dropped from `pull`/`burst` answers (`0`).
`delc:i:v:k` is `Delete(i, WithExpectedCheck(cb))` whose callback, on its first `k` invocations, writes
to the collection itself: `Update(i, v)`, or `Delete(i)` when `v` is `-` (`Act.deleteRetry`); `delv:i:w` is
`Delete(i, WithExpectedValue(w))`, `dela:i` is `Delete(i, WithAllowMissing(true))`; `addc/updc/upsc:i:v:w`
is `Add` / `Update` / `Update(WithCreateIfAbsent)` of `i` to `v` whose check callback first upserts `i`
to `w` (`Act.writeRetry`; the token `e`, resp. `__`, is the empty message).  A write
that publishes several events answers them `;`-separated.
`pull:keep1` / `pull:keep2` (and `burst:…`) add a read mask: messages are two-field tokens `ab`, the
mask keeps the first resp. second field and the stripped one reads `_`.
`pull:<mask>:<equiv>:<0|1>` additionally configures an equivalence (`none`/`same`/`first`, applied to the
masked old/new after include) and `WithUpdatesOnly` (no seed).
`pull:<mask>:<equiv>:<0|1>:<none|lower>` additionally an id interceptor on the collection (`lower` =
`strings.ToLower`): the ops carry the ids as the callers spell them, every write goes through `Act.canon`
(`ScVerif/C08/Intercept.lean`); `mpull` takes it as `<equiv>+lower`.
* `mpull <equiv> <n> (<pred> <mask> <updatesOnly 0|1> <at>){n} <op>*`
                                       the fan-out models (`ScVerif/C08/Shared.lean`, `PipeBus.lean`): `n` subscribers on ONE
                                       collection, subscriber k joining (seed, `Listen`) just before the write
                                       number `at_k` (`at` non-decreasing: subscription order); every published event
                                       goes through `deliver` (one object, the subscribers' turns in order) AND through
                                       `pbusStep` (every subscriber's pipeline), `!models-differ` should they disagree →
                                       per subscriber `seed=<events>` then per later write
                                       ` <events|drop|fail>@<List with its options>`, subscribers separated by ` # `
* `sched <pred> <nBefore> <op>* <step>*`   the concurrent subscribe model (`ScVerif/C08/Subscribe.lean`, code as
                                       it is: `locked = true`): the first `nBefore` tokens are writes building the
                                       initial contents, the rest is a schedule of steps `c=<op>` (commit),
                                       `p` (publish), `d=<id>` (deleteNow), `s` (snapshot), `l` (listen) →
                                       `seed=<seed events> recv=<include-filtered received events> list=<List(WithInclude)> pend=<number pending> sub=<idle|snap|listen>`
* `msched <n> <pred>{n} <nBefore> <op>* <step>*`   the same with `n` subscribers (`ScVerif/C08/SubscribeMany.lean`),
                                       subscriber `j` filtering with the `j`-th predicate; steps `c=<op>` `p` `d=<id>`
                                       `s=<j>` (snapshot of subscriber j) `l=<j>` (listen) → per subscriber
                                       `seed=… recv=… list=… sub=…`, separated by ` # `, then ` | pend=<number pending>`
* `fsched <n> <pred>{n} <nBefore> <op>* <step>*`   the same with `Bus.Send` taken apart (`ScVerif/C08/SubscribeSend.lean`):
                                       steps `ps` (sendStart: the oldest pending commit's Send copies the listener
                                       slice) and `pn` (sendNext: the event in flight is handed to the next listener
                                       of the copy) instead of `p` → as `msched`, then ` | pend=<n> flight=<0|1>`
* `gsched <n> <pred>{n} <nBefore> <op>* <step>*`   `fsched` with the bus's listener slice, cancelled listeners and
                                       `Bus.collect` (`ScVerif/C08/SubscribeGc.lean`): further steps `gc` (collect),
                                       `x=<j>` (subscriber j's context is cancelled), `g=<j>` (slot j >= n: a ghost
                                       pulls, registers and is cancelled at once) → as `fsched`, then
                                       ` collects=<times collect ran> listeners=<b.listeners, `.`-separated>`
* `lsched <n> <pred>{n} <nBefore> <op>* <step>*`   `msched` with LOSSY subscribers (`WithBackpressure(false)`) that read
                                       nothing before the end: what a subscriber is sent goes through the
                                       `mergeCollectionExcess` machine under every recv/emit pattern → per subscriber
                                       `seed=… list=… sub=… streams=<s1>|<s2>|…` (the include-filtered streams it can be
                                       delivered), separated by ` # `, then ` | pend=<number pending>`
* `bpull <q> <nBefore> <op>*`          as `pull`, with the booking server's include option (`bookingInclude`,
                                       `ScVerif/C08/Booking.lean`): message tokens are booked periods `s/e`
                                       (`-` = unbounded side, seconds) or `nil` (no booked period); `<q>` is the
                                       request's `booking_intersects` period or `absent`
* `genid <none|lower|ns> <cands|-> <taken|->`  `Collection.genID` (`ScVerif/C08/GenId.lean`): the id chosen from the
                                       candidates the rng yields (comma separated, in order), given the stored ids,
                                       on a collection without id interceptor / with the lower-casing one / with the
                                       name-space prefix `ns/`; `Aborted`
* `pullid[:<mask>:<equiv>:<0|1>[:<none|lower>]] <pred> <id> <nBefore> <op>*`  `Collection.PullID(id, WithInclude pred, …)`
                                       with backpressure (`ScVerif/C08/PullId.lean`: `pullIdLoop` over the underlying
                                       Pull's stream; the id goes through the interceptor) → `seed=<values sent as
                                       seed> <values sent for each later write> … end=<open|closed> list=<List(WithInclude)
                                       at the end>`; a value reads `<token>/<SeedValue 0|1>`, `-` = nothing sent
* `bpullx <q> <u 0|1> <mask> <nBefore> <op>*`  the same with `updates_only` (no seed) and a read mask (`none`, or
                                       `id`: the booked period is stripped, every delivered / listed value reads `nil`;
                                       include still judges the stored period)
-/
namespace ScVerif.C08
open ScVerif.Line ScVerif.C09

def indexOf? (x : String) : List String → Option Nat
  | [] => none
  | y :: ys => if x = y then some 0 else (indexOf? x ys).map (· + 1)

def tablePred (ids vals : List String) (mask : Nat) : Pred String String := fun i v =>
  if i = "~" then v.isSome
  else match indexOf? i ids with
    | none => false
    | some ii =>
      match v with
      | none => mask.testBit (ii * (vals.length + 1))
      | some x =>
        match indexOf? x vals with
        | none => false
        | some vi => mask.testBit (ii * (vals.length + 1) + vi + 1)

def parsePred? (s : String) : Option (Option (Pred String String)) :=
  if s = "nil" then some none
  else match s.splitOn ":" with
    | ["T", ids, vals, mask] => do
      let m ← parseNat? mask
      pure (some (tablePred (ids.splitOn ".") (vals.splitOn ".") m))
    | _ => none

def parseOp? (s : String) : Option (Op String String) :=
  match s.splitOn ":" with
  | ["add", i, v] => if i = "" ∨ v = "" then none else some (.add i v)
  | ["upd", i, v] => if i = "" ∨ v = "" then none else some (.update i v)
  | ["ups", i, v] => if i = "" ∨ v = "" then none else some (.upsert i v)
  | ["del", i] => if i = "" then none else some (.delete i)
  | _ => none

def parseAct? (s : String) : Option (Act String String) :=
  match s.splitOn ":" with
  | ["delc", i, v, k] =>
    if i = "" ∨ v = "" then none else do
      let k ← parseNat? k
      pure (.deleteRetry i (List.replicate k [if v = "-" then Op.delete i else Op.update i v]) (fun _ _ => true))
  | [k, i, v, w] =>
    -- `addc/updc/upsc:i:v:w`: Add / Update / Update(WithCreateIfAbsent) of `i` to `v` whose check callback
    -- first upserts `i` itself to `w`; the empty message is the token `e` (`__` for two-field messages)
    if i = "" ∨ v = "" ∨ w = "" then none else
    let empty := if v.length = 2 then "__" else "e"
    if k = "addc" then some (.writeRetry i v true true [.upsert i w] empty)
    else if k = "updc" then some (.writeRetry i v false false [.upsert i w] empty)
    else if k = "upsc" then some (.writeRetry i v true false [.upsert i w] empty)
    else none
  | ["delv", i, w] =>
    -- `Delete(i, WithExpectedValue(w))`
    if i = "" ∨ w = "" then none else some (.deleteRetry i [] (fun _ o => o == w))
  | ["dela", i] =>
    -- `Delete(i, WithAllowMissing(true))`: same events as a plain delete (a missing item is not an error)
    if i = "" then none else some (.deleteRetry i [] (fun _ _ => true))
  | _ => (parseOp? s).map Act.op

/-- insertion sort by id: `sort.Slice(currentValues, id <)` (ids are distinct) -/
def insertById (x : String × String) : List (String × String) → List (String × String)
  | [] => [x]
  | y :: ys => if x.1 < y.1 then x :: y :: ys else y :: insertById x ys

def sortById (l : List (String × String)) : List (String × String) := l.foldr insertById []

def showItems (l : List (String × String)) : String :=
  if l.isEmpty then "-" else ",".intercalate (l.map (fun iv => iv.1 ++ "=" ++ iv.2))

/-- `List(WithInclude p)` with ids attached (the harness re-attaches them through the values). -/
def listOf (p : Option (Pred String String)) (proj : String → String) (items : List (String × String)) : String :=
  showItems ((sortById (itemSlice p items)).map (fun iv => (iv.1, proj iv.2)))

def zeroTime (c : SChange) : SChange := { c with time := 0 }

/-- The projections of the read masks the harness uses on two-field message tokens. -/
def maskProj (m : String) : Option (String → String) :=
  if m = "none" then some id
  else if m = "keep1" then some (fun s => match s.toList with | [a, _] => String.ofList [a, '_'] | _ => s)
  else if m = "keep2" then some (fun s => match s.toList with | [_, b] => String.ofList ['_', b] | _ => s)
  else none

/-- The equivalences the harness configures (`WithEquivalence`), on optional message tokens; both are
reflexive and transitive. `same`: equal; `first`: both present with the same first field, or both absent. -/
def equivOf (e : String) : Option (Option (Option String → Option String → Bool)) :=
  if e = "none" then some none
  else if e = "same" then some (some (fun a b => a == b))
  else if e = "first" then some (some (fun a b =>
    match a, b with
    | some x, some y => x.toList.head? == y.toList.head?
    | none, none => true
    | _, _ => false))
  else none

/-- The id interceptors the harness configures (`WithIDInterceptor`): `none`, or `lower` = `strings.ToLower`
(ids are ASCII). -/
def icptOf (s : String) : Option (String → String) :=
  if s = "none" then some id
  else if s = "lower" then some String.toLower
  else none

structure PullOpts where
  proj : String → String
  equiv : Option (Option String → Option String → Bool)
  updatesOnly : Bool
  canon : String → String := id

/-- `pull` / `pull:<mask>` / `pull:<mask>:<equiv>:<updatesOnly 0|1>` / `pull:<mask>:<equiv>:<updatesOnly 0|1>:<none|lower>` -/
def parseOpName? (name : String) (s : String) : Option PullOpts :=
  if s = name then some ⟨id, none, false, id⟩
  else match s.splitOn ":" with
    | [n, m] => if n = name then (maskProj m).map (fun pr => ⟨pr, none, false, id⟩) else none
    | [n, m, e, u] =>
      if n = name then do
        let pr ← maskProj m
        let eq ← equivOf e
        let uo ← parseFlag? u
        pure ⟨pr, eq, uo, id⟩
      else none
    | [n, m, e, u, ic] =>
      if n = name then do
        let pr ← maskProj m
        let eq ← equivOf e
        let uo ← parseFlag? u
        let cn ← icptOf ic
        pure ⟨pr, eq, uo, cn⟩
      else none
    | _ => none

def pullAfter (p : Option (Pred String String)) (o : PullOpts) (items : List (String × String)) :
    List (Act String String) → List String
  | [] => []
  | a :: as =>
    let r := stepAct 0 items a
    let ev := match r.2 with
      | [] => (match a with | .op _ => "fail" | _ => "drop")  -- a re-entrant delete's result is not part of the answer
      | evs =>
        match evs.filterMap (fun c => (pullStep p o.proj o.equiv c).map zeroTime) with
        | [] => "drop"
        | ds => ";".intercalate (ds.map showChange)
    (ev ++ "@" ++ listOf p o.proj r.1) :: pullAfter p o r.1 as

/-- Every stream `mergeCollectionExcess` can emit for the inputs `ins`, over all recv/emit patterns,
draining at the end. -/
def allEmits : (fuel : Nat) → MState String String → List SChange → List (List SChange)
  | 0, _, _ => []
  | fuel + 1, st, ins =>
    let viaEmit := match emit st with
      | some (o, st') => (allEmits fuel st' ins).map (o :: ·)
      | none => []
    match ins with
    | [] => if st.pending.isEmpty then [[]] else viaEmit
    | e :: rest => allEmits fuel (recv st e) rest ++ viaEmit

/-- a period token `s/e` with `-` for an unbounded side; anything else (`nil`) is "no period" -/
def periodOfTok (s : String) : Option ScVerif.C18.Period :=
  match s.splitOn "/" with
  | [a, b] =>
    let bound (x : String) : Option (Option ScVerif.C18.Ts) :=
      if x = "-" then some none else (parseNat? x).map (fun n => some ⟨n, 0⟩)
    match bound a, bound b with
    | some lo, some hi => some ⟨lo, hi⟩
    | _, _ => none
  | _ => none

/-- the read masks the booking family uses: `none` (all fields) and `id` (`booked` is stripped: every value
reads `nil`) -/
def bookingMaskProj (m : String) : Option (String → String) :=
  if m = "none" then some id
  else if m = "id" then some (fun _ => "nil")
  else none

/-- `bpull` (no mask, with seed) and `bpullx <q> <updatesOnly 0|1> <mask none|id> <nBefore> <op>*`: PullBookings
passes `WithReadMask`, `WithUpdatesOnly` and - when the request has a period - `WithInclude` to `Collection.Pull`;
ListBookings the same mask and include to `Collection.List`. -/
def handleBPullX? (q : String) (uo : Bool) (proj : String → String) (n : String) (ops : List String) :
    Option String := do
  let qp ← if q = "absent" then some none else (periodOfTok q).map some
  let p : Option (Pred String String) := bookingInclude periodOfTok qp
  let n ← parseNat? n
  let ops ← ops.mapM parseAct?
  if n > ops.length then none
  let before := runActs 0 [] (ops.take n)
  let o : PullOpts := ⟨proj, none, uo, id⟩
  let seedEvs := if uo then [] else (seedFrom 0 (sortById (itemSlice p before.1))).map (maskChange proj)
  pure (" ".intercalate (("seed=" ++ showChanges seedEvs) :: pullAfter p o before.1 (ops.drop n)))

def handleBPull? (q n : String) (ops : List String) : Option String :=
  handleBPullX? q false id n ops

structure MSubCfg where
  sub : SubOpts String String
  updatesOnly : Bool
  joinAt : Nat

def parseMSubs? : Nat → List String → Option (List MSubCfg × List String)
  | 0, rest => some ([], rest)
  | n + 1, p :: m :: u :: a :: rest => do
    let p ← parsePred? p
    let pr ← maskProj m
    let uo ← parseFlag? u
    let a ← parseNat? a
    let (cfgs, rest') ← parseMSubs? n rest
    pure (⟨⟨p, pr⟩, uo, a⟩ :: cfgs, rest')
  | _, _ => none

def nondecreasing : List Nat → Bool
  | a :: b :: rest => a ≤ b && nondecreasing (b :: rest)
  | _ => true

/-- The `mpull` loop: before write number `j` the subscribers with `joinAt = j` join the bus (their seed is
taken from the contents at that moment); the write's events go, one object each, through BOTH fan-out models:
`deliver` (forwarding turns on the shared object, `Shared.lean`) and `pbusStep` (`PipeBus.lean`: offered to every
subscriber's machine, then - backpressure - each forwarder takes and the consumer receives at once).  The
answer is `!models-differ` should the two ever disagree. -/
def mpullLoop (E : Option (Option String → Option String → Bool)) (cfgs : List MSubCfg) :
    Nat → List (String × String) → List (SubOpts String String × PCfg String String) → List (List String) →
    List (Act String String) → List (List String)
  | j, items, bus, acc, acts =>
    let joining := cfgs.filter (fun c => c.joinAt = j)
    let bus := joining.foldl (fun b c => pbusStep E b (.join c.sub)) bus
    let acc := acc ++ joining.map (fun c =>
      ["seed=" ++ showChanges (if c.updatesOnly then [] else
        (seedFrom 0 (sortById (itemSlice c.sub.pred items))).map (maskChange c.sub.proj))])
    match acts with
    | [] => acc
    | a :: as =>
      let r := stepAct 0 items a
      let before := bus.map (fun sc => sc.2.delivered.length)
      let ks := List.range bus.length
      let bus' := r.2.foldl (fun b c =>
        ks.foldl (fun b k => pbusStep E (pbusStep E b (.move k .take)) (.move k .deliver)) (pbusStep E b (.publish c))) bus
      let viaTurns := r.2.foldl (deliver E) (bus.map (fun sc => (sc.1, [])))
      let sent := List.zipWith (fun sc n => sc.2.delivered.drop n) bus' before
      let agree := sent == viaTurns.map (·.2)
      let toks := List.zipWith (fun sc ds =>
        let ev := match r.2 with
          | [] => (match a with | .op _ => "fail" | _ => "drop")
          | _ => match ds.map zeroTime with
            | [] => "drop"
            | ds => ";".intercalate (ds.map showChange)
        (if agree then ev else "!models-differ") ++ "@" ++ listOf sc.1.pred sc.1.proj r.1) bus' sent
      mpullLoop E cfgs (j + 1) r.1 bus' (List.zipWith (fun l t => l ++ [t]) acc toks) as

def handleMPull? (e n : String) (rest : List String) : Option String := do
  -- `<equiv>` or `<equiv>+<interceptor>`
  let (e, cn) ← match e.splitOn "+" with
    | [e] => some (e, id)
    | [e, ic] => (icptOf ic).map (fun cn => (e, cn))
    | _ => none
  let eq ← equivOf e
  let n ← parseNat? n
  let (cfgs, ops) ← parseMSubs? n rest
  let acts ← ops.mapM parseAct?
  let acts := acts.map (Act.canon cn)
  if !nondecreasing (cfgs.map (·.joinAt)) then none
  if cfgs.any (fun c => c.joinAt > acts.length) then none
  pure (" # ".intercalate ((mpullLoop eq cfgs 0 [] [] [] acts).map (" ".intercalate ·)))

def parseStep? (s : String) : Option (Step String String) :=
  if s = "p" then some .publish
  else if s = "s" then some .snapshot
  else if s = "l" then some .listen
  else match s.splitOn "=" with
    | ["c", op] => (parseOp? op).map Step.commit
    | ["d", i] => if i = "" then none else some (.deleteNow i)
    | _ => none

def handleSched? (p n : String) (toks : List String) : Option String := do
  let p ← parsePred? p
  let n ← parseNat? n
  if n > toks.length then none
  let ops ← (toks.take n).mapM parseOp?
  let steps ← (toks.drop n).mapM parseStep?
  let s := sysRun true p (Sys.init (runOps 0 [] ops).1) steps
  let (sub, seed, recv) := match s.sub with
    | .idle => ("idle", [], [])
    | .snapping seed => ("snap", seed, [])
    | .listening seed recv => ("listen", seed, recv)
  pure (" ".intercalate [
    "seed=" ++ showChanges (seedFrom 0 (sortById seed)),
    "recv=" ++ showChanges ((recv.filterMap (includeChange p)).map zeroTime),
    "list=" ++ listOf p id s.items,
    "pend=" ++ toString s.pend.length,
    "sub=" ++ sub])

def parseMStep? (s : String) : Option (MStep String String) :=
  if s = "p" then some .publish
  else match s.splitOn "=" with
    | ["c", op] => (parseOp? op).map MStep.commit
    | ["d", i] => if i = "" then none else some (.deleteNow i)
    | ["s", j] => (parseNat? j).map MStep.snapshot
    | ["l", j] => (parseNat? j).map MStep.listen
    | _ => none

def handleMSched? (n : String) (rest : List String) : Option String := do
  let n ← parseNat? n
  if n + 1 > rest.length then none
  let preds ← (rest.take n).mapM parsePred?
  let nb ← parseNat? ((rest.drop n).headD "")
  let toks := rest.drop (n + 1)
  if nb > toks.length then none
  let ops ← (toks.take nb).mapM parseOp?
  let steps ← (toks.drop nb).mapM parseMStep?
  let s := msysRun true preds (MSys.init (runOps 0 [] ops).1 n) steps
  let showSub := fun (ps : Option (Pred String String) × ScVerif.C08.Sub String String) =>
    let (sub, seed, recv) := match ps.2 with
      | .idle => ("idle", [], [])
      | .snapping seed => ("snap", seed, [])
      | .listening seed recv => ("listen", seed, recv)
    " ".intercalate [
      "seed=" ++ showChanges (seedFrom 0 (sortById seed)),
      "recv=" ++ showChanges ((recv.filterMap (includeChange ps.1)).map zeroTime),
      "list=" ++ listOf ps.1 id s.items,
      "sub=" ++ sub]
  pure (" # ".intercalate ((preds.zip s.subs).map showSub) ++ " | pend=" ++ toString s.pend.length)

def parseFStep? (s : String) : Option (FStep String String) :=
  if s = "ps" then some .sendStart
  else if s = "pn" then some .sendNext
  else match s.splitOn "=" with
    | ["c", op] => (parseOp? op).map FStep.commit
    | ["d", i] => if i = "" then none else some (.deleteNow i)
    | ["s", j] => (parseNat? j).map FStep.snapshot
    | ["l", j] => (parseNat? j).map FStep.listen
    | _ => none

def showSubOf (items : List (String × String)) (ps : Option (Pred String String) × ScVerif.C08.Sub String String) : String :=
  let (sub, seed, recv) := match ps.2 with
    | .idle => ("idle", [], [])
    | .snapping seed => ("snap", seed, [])
    | .listening seed recv => ("listen", seed, recv)
  " ".intercalate [
    "seed=" ++ showChanges (seedFrom 0 (sortById seed)),
    "recv=" ++ showChanges ((recv.filterMap (includeChange ps.1)).map zeroTime),
    "list=" ++ listOf ps.1 id items,
    "sub=" ++ sub]

def handleFSched? (n : String) (rest : List String) : Option String := do
  let n ← parseNat? n
  if n + 1 > rest.length then none
  let preds ← (rest.take n).mapM parsePred?
  let nb ← parseNat? ((rest.drop n).headD "")
  let toks := rest.drop (n + 1)
  if nb > toks.length then none
  let ops ← (toks.take nb).mapM parseOp?
  let steps ← (toks.drop nb).mapM parseFStep?
  let s := fsysRun true preds (FSys.init (runOps 0 [] ops).1 n) steps
  pure (" # ".intercalate ((preds.zip s.subs).map (showSubOf s.items)) ++ " | pend=" ++ toString s.pend.length
    ++ " flight=" ++ (if s.flight.isSome then "1" else "0"))

/-- `g=<j>` (a ghost: subscriber slot `j` pulls - seed and `Listen` under the read lock - and its context is
cancelled at once) is the three steps snapshot, listen, cancel -/
def parseGSteps? (s : String) : Option (List (GStep String String)) :=
  if s = "ps" then some [.sendStart]
  else if s = "pn" then some [.sendNext]
  else if s = "gc" then some [.collect]
  else match s.splitOn "=" with
    | ["c", op] => (parseOp? op).map (fun o => [GStep.commit o])
    | ["d", i] => if i = "" then none else some [.deleteNow i]
    | ["s", j] => (parseNat? j).map (fun j => [GStep.snapshot j])
    | ["l", j] => (parseNat? j).map (fun j => [GStep.listen j])
    | ["x", j] => (parseNat? j).map (fun j => [GStep.cancel j])
    | ["g", j] => (parseNat? j).map (fun j => [GStep.snapshot j, .listen j, .cancel j])
    | _ => none

def handleGSched? (inPlace : Bool) (n : String) (rest : List String) : Option String := do
  let n ← parseNat? n
  if n + 1 > rest.length then none
  let preds ← (rest.take n).mapM parsePred?
  let nb ← parseNat? ((rest.drop n).headD "")
  let toks := rest.drop (n + 1)
  if nb > toks.length then none
  let ops ← (toks.take nb).mapM parseOp?
  let steps ← (toks.drop nb).mapM parseGSteps?
  -- the slots `n …` are ghosts (subscribers without options that are cancelled as soon as they have registered)
  let s := gsysRun inPlace preds (GSys.init (runOps 0 [] ops).1 (n + 16)) steps.flatten
  pure (" # ".intercalate ((preds.zip s.subs).map (showSubOf s.items)) ++ " | pend=" ++ toString s.pend.length
    ++ " flight=" ++ (if s.flight.isSome || s.gcDue then "1" else "0")
    ++ " collects=" ++ toString s.collects
    ++ " listeners=" ++ ".".intercalate (s.listeners.map toString))

def handleLSched? (n : String) (rest : List String) : Option String := do
  let n ← parseNat? n
  if n + 1 > rest.length then none
  let preds ← (rest.take n).mapM parsePred?
  let nb ← parseNat? ((rest.drop n).headD "")
  let toks := rest.drop (n + 1)
  if nb > toks.length then none
  let ops ← (toks.take nb).mapM parseOp?
  let steps ← (toks.drop nb).mapM parseMStep?
  let s := msysRun true preds (MSys.init (runOps 0 [] ops).1 n) steps
  let showSub := fun (ps : Option (Pred String String) × ScVerif.C08.Sub String String) =>
    let (sub, seed, recv) := match ps.2 with
      | .idle => ("idle", [], [])
      | .snapping seed => ("snap", seed, [])
      | .listening seed recv => ("listen", seed, recv)
    let ins := recv.map zeroTime
    let streams := (allEmits (2 * ins.length + 2) MState.init ins).map
      (fun em => showChanges (em.filterMap (includeChange ps.1)))
    " ".intercalate [
      "seed=" ++ showChanges (seedFrom 0 (sortById seed)),
      "list=" ++ listOf ps.1 id s.items,
      "sub=" ++ sub,
      "streams=" ++ "|".intercalate streams.eraseDups]
  pure (" # ".intercalate ((preds.zip s.subs).map showSub) ++ " | pend=" ++ toString s.pend.length)

/-- `pull…` / `burst…` -/
def handlePullLike? (op p n : String) (ops : List String) : Option String := do
  if let some o := parseOpName? "pull" op then
  let p ← parsePred? p
  let n ← parseNat? n
  let ops ← ops.mapM parseAct?
  let ops := ops.map (Act.canon o.canon)   -- `id = c.idInterceptor(id)` at the top of every write
  if n > ops.length then none
  let before := runActs 0 [] (ops.take n)
  let seedEvs := if o.updatesOnly then [] else (seedFrom 0 (sortById (itemSlice p before.1))).map (maskChange o.proj)
  pure (" ".intercalate (("seed=" ++ showChanges seedEvs) :: pullAfter p o before.1 (ops.drop n)))
  else
  let o ← parseOpName? "burst" op
  let p ← parsePred? p
  let n ← parseNat? n
  let ops ← ops.mapM parseAct?
  let ops := ops.map (Act.canon o.canon)
  if n > ops.length then none
  let before := runActs 0 [] (ops.take n)
  let after := runActs 0 before.1 (ops.drop n)
  let ins := after.2.map zeroTime
  let streams := (allEmits (2 * ins.length + 2) MState.init ins).map
    (fun em => showChanges (em.filterMap (pullStep p o.proj o.equiv)))
  pure ("|".intercalate streams.eraseDups)

def showSent (l : List (String × Bool)) : String :=
  if l.isEmpty then "-" else ",".intercalate (l.map (fun vb => vb.1 ++ "/" ++ (if vb.2 then "1" else "0")))

/-- what `PullID`'s loop sends for each later write (nothing any more once it has closed the stream) -/
def pullIdAfter (p : Option (Pred String String)) (o : PullOpts) (i : String) :
    Bool → List (String × String) → List (Act String String) → List String × Bool
  | closed, _, [] => ([], closed)
  | closed, items, a :: as =>
    let r := stepAct 0 items a
    let out := if closed then ([], true) else pullIdLoop i (r.2.filterMap (pullStep p o.proj o.equiv))
    let rest := pullIdAfter p o i out.2 r.1 as
    (showSent out.1 :: rest.1, rest.2)

/-- `pullid[:<mask>:<equiv>:<u>[:<icpt>]] <pred> <id> <nBefore> <op>*`: `Collection.PullID(id, WithInclude pred, …)`
(`ScVerif/C08/PullId.lean`) → `seed=<values sent as seed> <values sent for write 1> … end=<open|closed>
list=<List(WithInclude) at the end>`; a value reads `<token>/<SeedValue 0|1>`, `-` = nothing sent. -/
def handlePullId? (o : PullOpts) (p i n : String) (ops : List String) : Option String := do
  let p ← parsePred? p
  let n ← parseNat? n
  let ops ← ops.mapM parseAct?
  let ops := ops.map (Act.canon o.canon)
  if n > ops.length then none
  let before := runActs 0 [] (ops.take n)
  let seedEvs := if o.updatesOnly then [] else (seedFrom 0 (sortById (itemSlice p before.1))).map (maskChange o.proj)
  let s := pullId o.canon i seedEvs
  let rest := pullIdAfter p o (o.canon i) s.2 before.1 (ops.drop n)
  let final := runActs 0 before.1 (ops.drop n)
  pure (" ".intercalate (("seed=" ++ showSent s.1) :: rest.1) ++ " end=" ++ (if rest.2 then "closed" else "open")
    ++ " list=" ++ listOf p o.proj final.1)

def handle? (toks : List String) : Option String :=
  match toks with
  | ["include", p, c] => do
    let p ← parsePred? p
    let c ← parseChange? c
    pure (showOptChange (includeChange p c))
  | "sched" :: p :: n :: rest => handleSched? p n rest
  | "mpull" :: e :: n :: rest => handleMPull? e n rest
  | "msched" :: n :: rest => handleMSched? n rest
  | "fsched" :: n :: rest => handleFSched? n rest
  | "lsched" :: n :: rest => handleLSched? n rest
  | "gsched" :: n :: rest => handleGSched? false n rest
  | "bpull" :: q :: n :: rest => handleBPull? q n rest
  | ["genid", canon, cs, tk] => do
    -- `genid <none|lower|ns> <candidates,…|-> <taken ids,…|->`: Collection.genID over the candidates the rng yields
    let f ← if canon = "none" then some (id : String → String) else if canon = "lower" then some String.toLower
      else if canon = "ns" then some (fun s => if s.startsWith "ns/" then s else "ns/" ++ s) else none
    let cands := if cs = "-" then [] else cs.splitOn ","
    let taken := if tk = "-" then [] else tk.splitOn ","
    pure (match genUniqueId f (fun c => c ≠ "") (fun i => taken.contains i) cands with
      | some i => i
      | none => "Aborted")
  | "bpullx" :: q :: u :: m :: n :: rest => do
    let uo ← parseFlag? u
    let proj ← bookingMaskProj m
    handleBPullX? q uo proj n rest
  | op :: p :: n :: ops =>
    match parseOpName? "pullid" op, ops with
    | some o, nb :: rest => handlePullId? o p n nb rest
    | some _, [] => none
    | none, _ => handlePullLike? op p n ops
  | _ => none

def handle (toks : List String) : String :=
  match handle? toks with
  | some r => r
  | none => "!bad-op"

end ScVerif.C08
