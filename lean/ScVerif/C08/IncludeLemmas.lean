import ScVerif.C09.Pipeline
import ScVerif.C08.Include
import ScVerif.C08.PullId  -- for `Matches`
/-! `include` against the filtered collection. -/
namespace ScVerif.C08
open ScVerif.C09

variable {ι μ : Type}

/-- The filtered value: what the filtered collection holds at `i` when the collection holds `v`. -/
def filt (p : Option (Pred ι μ)) (i : ι) (v : Option μ) : Option μ :=
  match v with
  | some x => if exclude p i x then none else some x
  | none => none

theorem filterView_apply (p : Option (Pred ι μ)) (s : View ι μ) (i : ι) :
    filterView p s i = filt p i (s i) := rfl

theorem filt_isSome (f : Pred ι μ) (i : ι) (v : Option μ) :
    (filt (some f) i v).isSome = (v.isSome && f i v) := by
  cases v with
  | none => rfl
  | some x => cases hf : f i (some x) <;> simp [filt, exclude, hf]

theorem filterView_none (s : View ι μ) : filterView (none : Option (Pred ι μ)) s = s :=
  funext fun j => by show filt none j (s j) = s j; cases s j <;> rfl

theorem filterView_empty (p : Option (Pred ι μ)) : filterView p (View.empty : View ι μ) = View.empty := rfl

/-- `include`'s two tests are membership of the old and of the new value in the filtered collection: its decision
table as one equation. -/
theorem includeChange_table (f : Pred ι μ) (c : Change ι μ) :
    includeChange (some f) c =
      match (filt (some f) c.id c.old).isSome, (filt (some f) c.id c.new).isSome with
      | true, true => some c
      | false, true => some { id := c.id, kind := .add, time := c.time, old := none, new := c.new,
                              seed := c.seed, lastSeed := false }
      | true, false => some { id := c.id, kind := .remove, time := c.time, old := c.old, new := none,
                              seed := false, lastSeed := false }
      | false, false => none := by
  rw [filt_isSome, filt_isSome]
  simp only [includeChange]
  generalize (c.old.isSome && f c.id c.old) = a
  generalize (c.new.isSome && f c.id c.new) = b
  cases a <;> cases b <;> rfl

section table
variable {f : Pred ι μ} {c : Change ι μ}

theorem include_stay (ha : (filt (some f) c.id c.old).isSome = true)
    (hb : (filt (some f) c.id c.new).isSome = true) : includeChange (some f) c = some c := by
  rw [includeChange_table, ha, hb]

theorem include_enter (ha : (filt (some f) c.id c.old).isSome = false)
    (hb : (filt (some f) c.id c.new).isSome = true) :
    includeChange (some f) c =
      some { id := c.id, kind := .add, time := c.time, old := none, new := c.new, seed := c.seed, lastSeed := false } := by
  rw [includeChange_table, ha, hb]

theorem include_leave (ha : (filt (some f) c.id c.old).isSome = true)
    (hb : (filt (some f) c.id c.new).isSome = false) :
    includeChange (some f) c =
      some { id := c.id, kind := .remove, time := c.time, old := c.old, new := none, seed := false, lastSeed := false } := by
  rw [includeChange_table, ha, hb]

theorem include_neither (ha : (filt (some f) c.id c.old).isSome = false)
    (hb : (filt (some f) c.id c.new).isSome = false) : includeChange (some f) c = none := by
  rw [includeChange_table, ha, hb]

end table

theorem filterMap_pullEvent (p : Option (Pred ι μ)) (proj : μ → μ) (cs : List (Change ι μ)) :
    cs.filterMap (pullEvent p proj) = (cs.filterMap (includeChange p)).map (maskChange proj) :=
  List.map_filterMap.symm

theorem filterMap_pullStep (p : Option (Pred ι μ)) (proj : μ → μ) (E : Option μ → Option μ → Bool)
    (cs : List (Change ι μ)) :
    cs.filterMap (pullStep p proj (some E)) =
      (cs.filterMap (pullEvent p proj)).filter (fun d => !E d.old d.new) := by
  rw [List.filter_filterMap]
  congr 1
  funext c
  unfold pullStep
  cases pullEvent p proj c with
  | none => rfl
  | some d => cases hE : E d.old d.new <;> simp [Option.filter_some, hE]

theorem filterMap_pullStep_none (p : Option (Pred ι μ)) (proj : μ → μ) (cs : List (Change ι μ)) :
    cs.filterMap (pullStep p proj none) = cs.filterMap (pullEvent p proj) := by
  congr 1
  funext c
  unfold pullStep
  cases pullEvent p proj c <;> rfl

theorem pullEvent_add (p : Option (Pred ι μ)) (proj : μ → μ) (i : ι) (t : Nat) (b : μ) :
    pullEvent p proj (mkChange i .add t none (some b)) =
      if exclude p i b then none else some (mkChange i .add t none (some (proj b))) := by
  cases p with
  | none => rfl
  | some f => cases h : f i (some b) <;> simp [pullEvent, includeChange, exclude, maskChange, mkChange, h]

theorem pullEvent_update_same (p : Option (Pred ι μ)) (proj : μ → μ) (i : ι) (t : Nat) (b b' : μ)
    (h : exclude p i b' = exclude p i b) :
    pullEvent p proj (mkChange i .update t (some b) (some b')) =
      if exclude p i b then none else some (mkChange i .update t (some (proj b)) (some (proj b'))) := by
  cases p with
  | none => rfl
  | some f =>
    simp only [exclude, Bool.not_eq_eq_eq_not, Bool.not_not] at h
    cases hb : f i (some b) <;> simp [pullEvent, includeChange, exclude, maskChange, mkChange, h, hb]

variable [DecidableEq ι]

theorem wf_old_new {s : View ι μ} {c : Change ι μ} (h : WFChange s c) :
    c.old = s c.id ∧ ∀ V : View ι μ, apply c V = V.set c.id c.new := by
  rcases c with ⟨ci, ck, ct, co, cn, cs, cl⟩
  cases ck <;> simp only [WFChange] at h
  · exact ⟨h.2.1.trans h.1.symm, fun _ => rfl⟩
  · exact ⟨h.2.1, fun _ => rfl⟩
  · exact ⟨h.2.1, fun _ => by rw [h.2.2]; rfl⟩
  · exact ⟨h.2.1, fun _ => rfl⟩

omit [DecidableEq ι] in
theorem wf_val_none {s : View ι μ} {c : Change ι μ} (h : WFChange s c) (hv : c.val = none) :
    (s c.id).isSome = true := by
  obtain ⟨-, -, h3, h4⟩ := WFChange_iff.mp h
  -- not an ADD (an ADD carries a value), so the item was there
  refine Option.isSome_iff_ne_none.mpr fun hn => ?_
  have hk := h3.mpr hn
  unfold Change.val at hv
  rw [hk, if_neg nofun] at hv
  exact absurd (h4.mpr hv) (hk ▸ nofun)

omit [DecidableEq ι] in
theorem maskChange_val (proj : μ → μ) (c : Change ι μ) : (maskChange proj c).val = c.val.map proj := by
  unfold Change.val
  show (if c.kind = .remove then none else c.new.map proj) = _
  split <;> rfl

/-! C09 models the same method for a filter on present values (`ScVerif.C09.includeChange`, `restrict`) and proves
that it simulates the filtered view (`Sim_include`).  This directory's `include`, whose predicate may also be asked
about absent values and is never listened to there, is that one at the predicate's present part: the per-change
heart of C08 is transported, not proved again. -/

def Pred.present (f : Pred ι μ) : ι → μ → Bool := fun i v => f i (some v)

omit [DecidableEq ι] in
theorem includeChange_some (f : Pred ι μ) : includeChange (some f) = ScVerif.C09.includeChange f.present := by
  funext c
  rcases c with ⟨ci, ck, ct, co, cn, cs, cl⟩
  cases co <;> cases cn <;> rfl

omit [DecidableEq ι] in
theorem filterView_some (f : Pred ι μ) : filterView (some f) = restrict f.present := by
  funext s i
  simp only [filterView, restrict, exclude, Pred.present]
  cases s i with
  | none => rfl
  | some v => cases h : f i (some v) <;> simp [h]

/-- `include` maps a change that is well formed at a view to a change that is well formed at the filtered view
and has the filtered effect; when it forwards nothing the filtered view does not change. -/
theorem include_sim (p : Option (Pred ι μ)) : Sim (includeChange p) (filterView p) := by
  cases p with
  | none => exact fun s c hc => by rw [filterView_none, filterView_none]; exact ⟨hc, rfl⟩
  | some f => rw [includeChange_some, filterView_some]; exact Sim_include _

omit [DecidableEq ι] in
theorem includeChange_fwd {p : Option (Pred ι μ)} {c d : Change ι μ} (h : includeChange p c = some d) :
    d.id = c.id ∧ ∀ w, d.val = some w → Matches p c.id w := by
  cases p with
  | none => cases h; exact ⟨rfl, fun _ _ => trivial⟩
  | some f =>
    cases ha : (filt (some f) c.id c.old).isSome <;> cases hb : (filt (some f) c.id c.new).isSome
    · rw [include_neither ha hb] at h; cases h
    · rw [include_enter ha hb] at h; cases h
      exact ⟨rfl, fun w hw => by rw [filt_isSome, show c.new = some w from hw] at hb; exact hb⟩
    · rw [include_leave ha hb] at h; cases h; exact ⟨rfl, nofun⟩
    · rw [include_stay ha hb] at h; cases h
      refine ⟨rfl, fun w hw => ?_⟩
      unfold Change.val at hw
      split at hw
      · cases hw
      · rw [filt_isSome, hw] at hb; exact hb

theorem include_hist (p : Option (Pred ι μ)) (s : View ι μ) (cs : List (Change ι μ)) (h : WFHist s cs) :
    Hist (filterView p s) (cs.filterMap (includeChange p)) (filterView p (fold cs s)) :=
  filterMap_sim (include_sim p) h

/-- of C09's machine invariant `Inv`: what the lossy machine has emitted is a well-formed history, with the net
effect of everything fed once it is drained -/
theorem run_emitted (s0 : View ι μ) (ms : List (Move (Change ι μ))) (hw : WFHist s0 (inputs ms)) :
    WFHist s0 (run Cfg.init ms).emitted ∧
    ((run Cfg.init ms).st.pending = [] → fold (run Cfg.init ms).emitted s0 = fold (inputs ms) s0) := by
  have hinv := Inv_run (s0 := s0) ms (Inv_init s0) hw
  refine ⟨(WFHist_append.mp hinv.wf).1, fun hd => ?_⟩
  have hv := hinv.view
  rw [hd, List.append_nil, run_received] at hv
  exact hv

/-- of C09's pipeline invariant `PInv`: the same for what the forwarder has taken out of the machine, and what it has
sent on is its transform -/
theorem prun_taken (T : Change ι μ → Option (Change ι μ)) (s0 : View ι μ) (ms : List (PMove (Change ι μ)))
    (hw : WFHist s0 (pinputs ms)) :
    WFHist s0 (prun T PCfg.init ms).taken ∧
    (prun T PCfg.init ms).delivered ++ (prun T PCfg.init ms).inHand.toList
      = (prun T PCfg.init ms).taken.filterMap T ∧
    ((prun T PCfg.init ms).st.pending = [] → fold (prun T PCfg.init ms).taken s0 = fold (pinputs ms) s0) := by
  have h := PInv_run (T := T) (s0 := s0) ms (PInv_init _ s0) hw
  refine ⟨(WFHist_append.mp h.inv.wf).1, h.out, fun hd => ?_⟩
  have hv := h.inv.view
  simp only [hd, List.append_nil, prun_received] at hv
  exact hv

theorem projView_set (proj : μ → μ) (s : View ι μ) (i : ι) (v : Option μ) :
    projView proj (s.set i v) = (projView proj s).set i (v.map proj) := by
  funext j
  simp only [projView, View.set]
  by_cases h : j = i
  · rw [if_pos h, if_pos h]
  · rw [if_neg h, if_neg h]

theorem mask_wf (proj : μ → μ) {s : View ι μ} {c : Change ι μ} (hc : WFChange s c) :
    WFChange (projView proj s) (maskChange proj c) ∧
    apply (maskChange proj c) (projView proj s) = projView proj (apply c s) := by
  obtain ⟨h1, h2, h3, h4⟩ := WFChange_iff.mp hc
  -- `Option.map proj` keeps presence and absence, so each clause of well-formedness is carried to its image
  have hm : WFChange (projView proj s) (maskChange proj c) :=
    WFChange_iff.mpr ⟨h1, congrArg (Option.map proj) h2, h3.trans Option.map_eq_none_iff.symm,
      h4.trans Option.map_eq_none_iff.symm⟩
  exact ⟨hm, by rw [(wf_old_new hm).2, (wf_old_new hc).2, projView_set]; rfl⟩

theorem mask_hist (proj : μ → μ) {s V : View ι μ} {cs : List (Change ι μ)} (h : Hist s cs V) :
    Hist (projView proj s) (cs.map (maskChange proj)) (projView proj V) := by
  obtain ⟨hw, rfl⟩ := h
  rw [← List.filterMap_eq_map]
  exact filterMap_sim (T := some ∘ maskChange proj) (fun _ _ hc => mask_wf proj hc) hw

theorem pullEvent_hist (p : Option (Pred ι μ)) (proj : μ → μ) (s : View ι μ) (cs : List (Change ι μ))
    (h : WFHist s cs) :
    Hist (projView proj (filterView p s)) (cs.filterMap (pullEvent p proj))
      (projView proj (filterView p (fold cs s))) := by
  rw [filterMap_pullEvent]
  exact mask_hist proj (include_hist p s cs h)

/-- dropping the changes whose old and new value `E` equates keeps the fold `E`-related, id by id, to the true one -/
theorem equiv_hist (E : Option μ → Option μ → Bool) (hrefl : ∀ a, E a a = true)
    (htrans : ∀ a b c, E a b = true → E b c = true → E a c = true)
    (U V : View ι μ) (hUV : ∀ i, E (U i) (V i) = true) (cs : List (Change ι μ)) (h : WFHist V cs) :
    ∀ i, E (fold (cs.filter (fun d => !E d.old d.new)) U i) (fold cs V i) = true := by
  induction cs generalizing U V with
  | nil => exact hUV
  | cons c cs ih =>
    obtain ⟨hold, hap⟩ := wf_old_new h.1
    rw [fold_cons, List.filter_cons]
    cases hE : E c.old c.new with
    | true =>
      -- suppressed: `U` stays, and stays related at `c.id` through the old value
      have hnew : apply c V c.id = c.new := by rw [hap]; exact if_pos rfl
      refine ih U (apply c V) (fun i => ?_) h.2
      by_cases hi : i = c.id
      · rw [hi, hnew]
        exact htrans _ _ _ (hUV c.id) (hold ▸ hE)
      · rw [apply_other c V hi]
        exact hUV i
    | false =>
      refine ih (apply c U) (apply c V) (fun i => ?_) h.2
      by_cases hi : i = c.id
      · rw [hi, apply_same, apply_same]
        exact hrefl _
      · rw [apply_other c U hi, apply_other c V hi]
        exact hUV i

/-- include ▸ mask ▸ equivalence on a well-formed history: id by id `E`-related to the masked filter of the fold. -/
theorem pullStep_hist (p : Option (Pred ι μ)) (proj : μ → μ) (E : Option μ → Option μ → Bool)
    (hrefl : ∀ a, E a a = true) (htrans : ∀ a b c, E a b = true → E b c = true → E a c = true)
    (s : View ι μ) (cs : List (Change ι μ)) (h : WFHist s cs) :
    ∀ i, E (fold (cs.filterMap (pullStep p proj (some E))) (projView proj (filterView p s)) i)
      (projView proj (filterView p (fold cs s)) i) = true := by
  have hp := pullEvent_hist p proj s cs h
  have heq := equiv_hist E hrefl htrans _ _ (fun i => hrefl _) _ hp.1
  rwa [hp.2, ← filterMap_pullStep] at heq

end ScVerif.C08
