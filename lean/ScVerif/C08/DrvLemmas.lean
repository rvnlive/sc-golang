import ScVerif.C08.Drv
import ScVerif.Base.InsertSort
/-! The driver's `sortById` is Pull's `sort.Slice(currentValues, id <)`; it only permutes. -/
namespace ScVerif.C08

theorem sortById_isSort : IsInsertSort (·.1) insertById sortById :=
  ⟨fun _ => rfl, fun _ _ _ => rfl, rfl, fun _ _ => rfl⟩

theorem sortById_perm (l : List (String × String)) : (sortById l).Perm l :=
  sortById_isSort.perm l

/-- the seed-order hypothesis of `C08_pull_matches_list`/`C08_seed_is_filtered_list` is met, for every
predicate and contents, by the order the code (and the driver) uses: the listed items sorted by id -/
example (p : Option (Pred String String)) (items : List (String × String)) :
    (sortById (itemSlice p items)).Perm (itemSlice p items) := sortById_perm _

end ScVerif.C08
