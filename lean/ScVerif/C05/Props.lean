import ScVerif.C05.Merge
import ScVerif.C05.Legacy
import ScVerif.C05.Validate
/-!
# C05 — writes respect update, writable-field and reset masks

Model: `ScVerif/C05/Update.lean` (`FieldUpdater.Validate`, `FieldUpdater.Merge`, `pruneEmpty`,
`WriteRequest.fieldUpdater`, `Value.set`) over the library models of `ScVerif/C05/Lib.lean`, following
/repo after the fixes 4d3ae38 (per-path writable test), 37d17a7 (`pruneEmpty` prunes inside a message
the written message lacks), 40c1599 (`nestedMask`: nested paths dropped) and 70b9b73 (reset applied
when nothing is writable).  `merge … = none` is a panic inside fmutils; a mask is
`Option (List Path)`, `none` being Go's nil.  The defects those commits repaired are kept as
`…_legacy_…` witnesses over the old definitions (`ScVerif/C05/Legacy.lean`).
-/
namespace ScVerif.C05
open ScVerif.C06 (GoodPath validPath_iff)

/-- An empty non-nil update mask changes nothing in the stored message, whatever the
other masks (reset mask included) are. -/
theorem C05_empty_mask (S : Schema) (ty : Nat) (u : Updater) (dst src : Fields) (r : Merged)
    (hM : u.update = some []) (h : merge S ty u dst src = some r) : r.dst = dst :=
  merge_empty_mask hM h

/-- An update path that is not well-formed for the message type (unknown segment,
empty path, continuation through a scalar, map or repeated field) or — with writable fields
configured — neither a writable path nor below one (a strict parent of writable paths counts) gets
`InvalidArgument`; `Value.set` / `Collection.Update` then return before touching the store. -/
theorem C05_rejects (S : Schema) (ty : Nat) (u : Updater) (M : List Path)
    (hM : u.update = some M)
    (h : (∃ p ∈ M, ¬ GoodPath S ty p) ∨ (∃ W, u.writable = some W ∧ ∃ p ∈ M, ¬ InsideWritable W p)) :
    validate S ty u = .invalidArgument ∧
      ∀ stored src, valueSet S ty u stored src = .err .invalidArgument := by
  have := validate_rejects S ty u M hM h
  exact ⟨this, fun stored src => by rw [valueSet_err (by rw [this]; simp), this]⟩

/-- `Validate` accepts exactly the update masks whose paths are well-formed and inside the
writable fields, with a well-formed reset mask; duplicates and overlapping paths included. -/
theorem C05_accepts (S : Schema) (ty : Nat) (u : Updater) :
    validate S ty u = .ok ↔
      (∀ M, u.update = some M → (∀ p ∈ M, GoodPath S ty p) ∧
          ∀ W, u.writable = some W → ∀ p ∈ M, InsideWritable W p) ∧
      (∀ R, u.reset = some R → ∀ p ∈ R, GoodPath S ty p) := by
  rw [← validateReset_ok_iff]
  unfold validate
  cases u.update with
  | none => simp
  | some M =>
    cases u.writable with
    | none =>
      simp only [← isValid_iff, Option.some.injEq, forall_eq', reduceCtorEq, false_imp_iff,
        implies_true, and_true]
      cases isValid S ty M <;> simp
    | some W =>
      simp only [← isValid_iff, ← all_isWritablePath_iff, Option.some.injEq, forall_eq']
      cases isValid S ty M <;> cases M.all (isWritablePath W) <;> simp

/-- A read-only resource: writable mask NON-NIL WITHOUT PATHS (a nil one
means everything is writable).  Every update mask with a path is rejected; an accepted write copies
nothing from the written message; only the reset mask applies, and not even that under an empty
non-nil update mask. -/
theorem C05_nothing_writable (S : Schema) (ty : Nat) (u : Updater) (dst src : Fields)
    (hW : u.writable = some []) :
    (∀ M, u.update = some M → M ≠ [] →
      validate S ty u = .invalidArgument ∧ ∀ stored src', valueSet S ty u stored src' = .err .invalidArgument) ∧
    (∀ r, merge S ty u dst src = some r →
      r.src = src ∧
      ((u.update = some [] ∨ u.reset = none) → r.dst = dst) ∧
      (u.update ≠ some [] → resetDst u dst = some r.dst) ∧
      ∀ p, p ≠ [] → (∀ R, u.reset = some R → Clean R ∧ Unrelated p R) →
        r.dst.getPath p = dst.getPath p) := by
  constructor
  · intro M hM hne
    cases M with
    | nil => exact absurd rfl hne
    | cons m ms =>
      refine C05_rejects S ty u (m :: ms) hM (Or.inr ⟨[], hW, m, List.mem_cons_self .., ?_⟩)
      rintro ⟨w, hw, _⟩; cases hw
  · intro r h
    rw [merge_nothing_writable hW] at h
    by_cases hM : u.update = some []
    · rw [if_pos hM] at h
      cases h
      exact ⟨rfl, fun _ => rfl, fun hc => absurd hM hc, fun _ _ _ => rfl⟩
    · rw [if_neg hM] at h
      simp only [Option.map_eq_some_iff] at h
      obtain ⟨d', hd, rfl⟩ := h
      refine ⟨rfl, ?_, fun _ => hd, fun p hp hR => getPath_resetDst_unrelated hp hR hd⟩
      rintro (hc | hr)
      · exact absurd hc hM
      · rw [resetDst_none hr] at hd; exact (Option.some.inj hd).symm

/-- After a write whose update mask is not the empty one, everything at or below a path of
the reset mask is absent from the stored message: at any depth, for parent+child and duplicate reset
paths, and also when nothing is writable.  (Reset paths are non-empty without empty segments, as every
validated mask is when no field has the empty name: `C06_valid_masks_are_proper` in
`ScVerif/C06/Props.lean`.) -/
theorem C05_reset (S : Schema) (ty : Nat) (u : Updater) (dst src : Fields) (r : Merged)
    (R : List Path) (hM : u.update ≠ some [])
    (hR : u.reset = some R) (hRc : Clean R) (hRn : NonNil R)
    (h : merge S ty u dst src = some r) :
    ∀ q ∈ R, ∀ p, q <+: p → r.dst.getPath p = none := by
  intro q hq p hpre
  -- the reset mask is applied last, whichever way the write goes
  have key : ∀ d, resetDst u d = some r.dst → r.dst.getPath p = none := by
    intro d hd
    rw [resetDst_some hR] at hd
    exact getPath_prune_covered hRc hRn hq hpre hd
  rcases merge_cases h with ⟨hM', _⟩ | ⟨_, hd⟩ | ⟨_, _, _, _, _, _, _, _, _, hd⟩ | ⟨_, _, _, _, _, _, hd⟩
  · exact absurd hM' hM
  all_goals exact key _ hd

/-- Non-nil update mask, any depth.  A path unrelated to every update path and every
reset path (for a leaf path: `p ∉ ⟦M⟧`, `p ∉ ⟦R⟧`; `Validate` only accepts update paths inside `W`, so
`⟦M⟧∩⟦W⟧ = ⟦M⟧`) holds after the write what it held before.  The remaining hypotheses are about the
*representation* and hold of every message the harness serialises from a real protobuf message:
unique keys along `p` (`NoDupAlong`), no non-message in the written message where the stored one has a
message (`Agree`: both follow one schema), no oneof assignment that can displace a field of `p`
(`NoDispAlong`; clearing the other members of a oneof is inherent in assigning one). -/
theorem C05_frame (S : Schema) (ty : Nat) (u : Updater) (dst src : Fields) (r : Merged)
    (m : Path) (ms : List Path) (p : Path)
    (hM : u.update = some (m :: ms)) (hMc : Clean (m :: ms)) (hMn : NonNil (m :: ms))
    (hp : p ≠ []) (hpM : Unrelated p (m :: ms))
    (hR : ∀ R, u.reset = some R → Clean R ∧ Unrelated p R)
    (hdisp : NoDispAlong S ty p)
    (hnd : NoDupAlong p dst) (hns : NoDupAlong p src) (hag : Agree p dst src)
    (h : merge S ty u dst src = some r) :
    r.dst.getPath p = dst.getPath p :=
  (merge_avoidsPath_agree S ty u dst src r p (.of_update hM hMc hMn hpM hR) hp hdisp hnd hns hag h).1

/-- The same for a nil update mask ("all writable fields"), against the
writable paths; with `W` nil everything is writable and nothing is framed. -/
theorem C05_frame_nil_mask (S : Schema) (ty : Nat) (u : Updater) (dst src : Fields) (r : Merged)
    (w : Path) (ws : List Path) (p : Path)
    (hM : u.update = none) (hW : u.writable = some (w :: ws)) (hWc : Clean (w :: ws)) (hWn : NonNil (w :: ws))
    (hp : p ≠ []) (hpW : Unrelated p (w :: ws))
    (hR : ∀ R, u.reset = some R → Clean R ∧ Unrelated p R)
    (hdisp : NoDispAlong S ty p)
    (hnd : NoDupAlong p dst) (hns : NoDupAlong p src) (hag : Agree p dst src)
    (h : merge S ty u dst src = some r) :
    r.dst.getPath p = dst.getPath p :=
  (merge_avoidsPath_agree S ty u dst src r p (.of_nil hM hW hWc hWn hpW hR) hp hdisp
    hnd hns hag h).1

/-- Non-nil update mask, any depth.  `p` is an *outermost* path of the update mask
(`{f, f.c}` names `f`), inside the writable fields (what `Validate` enforces) and unrelated to every
reset path: **absent from the written message ⇒ cleared** (whether the leaf or one of its parent
messages is absent; stored parents are kept), **present ⇒ merged into what is stored at `p`** by
`proto.Merge`'s rules (`mergeVal`): a scalar overwrites, a singular message is merged field-wise, a
repeated field is *appended*, a map replaces per key.  No kind-agreement hypothesis is needed here. -/
theorem C05_named_path (S : Schema) (ty : Nat) (u : Updater) (dst src : Fields) (r : Merged)
    (m : Path) (ms : List Path) (p : Path)
    (hM : u.update = some (m :: ms)) (hMc : Clean (m :: ms)) (hMn : NonNil (m :: ms))
    (hp : p ∈ m :: ms) (hout : ∀ q ∈ m :: ms, strictPrefix q p = false)
    (hW : ∀ W, u.writable = some W → Clean W ∧ NonNil W ∧ ∃ w ∈ W, w <+: p)
    (hR : ∀ R, u.reset = some R → Clean R ∧ Unrelated p R)
    (hdisp : NoDispAlong S ty p) (hnd : NoDupAlong p dst) (hns : NoDupAlong p src)
    (h : merge S ty u dst src = some r) :
    r.dst.getPath p = (src.getPath p).map (mergeVal S (childAt S ty p) (dst.getPath p)) := by
  have hp0 : p ≠ [] := hMn p hp
  rcases merge_cases h with ⟨hM', _⟩ | ⟨hW', _⟩ | ⟨M, src1, src2, d3, hM', _, hf1, hf2, hd3, hd'⟩ |
    ⟨_, _, hM', _⟩
  · rw [hM] at hM'; cases hM'
  · obtain ⟨_, _, w, hwm, _⟩ := hW [] hW'
    cases hwm
  · cases hM.symm.trans hM'
    obtain ⟨hs1, hn1⟩ := getPath_filter_writable hW hns hf1
    have hnm := names_nestedMask hMc hMn (mem_minimal.mpr ⟨hp, hout⟩)
    have hn2 := filterWalk.msg_noDupAlong hf2 hn1
    have hs2 : src2.getPath p = src.getPath p := (filterWalk.msg_getPath_kept (names_reach hnm) hf2).trans hs1
    -- what the written message lacks at `p` is cleared, whatever `proto.Merge` left there
    rw [getPath_resetDst_unrelated hp0 hR hd',
      getPath_pruneEmpty_names p _ src2 _ d3 hnm (noDupAlong_mergeFields S p ty dst src2 hnd hn2 hdisp)
        (agree_mergeFields S p ty dst src2 hn2 hdisp) hd3, hs2]
    cases hs : src.getPath p with
    | none => rfl
    | some v =>
      rw [getPath_mergeFields S p ty dst src2 hn2 hdisp (fun e => by rw [hs2, hs] at e; cases e), hs2, hs]
      rfl
  · rw [hM] at hM'; cases hM'

/-- Where the written message holds a scalar at `p` or nothing, the result holds
exactly that: *absent there means cleared*, whichever of `p`'s parents exist in the written message. -/
theorem C05_scalar_in (S : Schema) (ty : Nat) (u : Updater) (dst src : Fields) (r : Merged)
    (m : Path) (ms : List Path) (p : Path)
    (hM : u.update = some (m :: ms)) (hMc : Clean (m :: ms)) (hMn : NonNil (m :: ms))
    (hp : p ∈ m :: ms) (hout : ∀ q ∈ m :: ms, strictPrefix q p = false)
    (hW : ∀ W, u.writable = some W → Clean W ∧ NonNil W ∧ ∃ w ∈ W, w <+: p)
    (hR : ∀ R, u.reset = some R → Clean R ∧ Unrelated p R)
    (hdisp : NoDispAlong S ty p) (hnd : NoDupAlong p dst) (hns : NoDupAlong p src)
    (hsc : ∀ v, src.getPath p = some v → ∃ s, v = .sc s)
    (h : merge S ty u dst src = some r) :
    r.dst.getPath p = src.getPath p := by
  rw [C05_named_path S ty u dst src r m ms p hM hMc hMn hp hout hW hR hdisp hnd hns h]
  cases hs : src.getPath p with
  | none => rfl
  | some v =>
    obtain ⟨s, rfl⟩ := hsc v hs
    rw [Option.map_some, mergeVal_sc]

/-- `C05_named_path` read per kind: absent ⇒ cleared; a singular message is merged
field-wise into the stored one (replacing a stored non-message, created when nothing is stored); a
repeated field is appended to the stored list; a map replaces per key and keeps the other stored keys. -/
theorem C05_message_list (S : Schema) (ty : Nat) (u : Updater) (dst src : Fields) (r : Merged)
    (m : Path) (ms : List Path) (p : Path)
    (hM : u.update = some (m :: ms)) (hMc : Clean (m :: ms)) (hMn : NonNil (m :: ms))
    (hp : p ∈ m :: ms) (hout : ∀ q ∈ m :: ms, strictPrefix q p = false)
    (hW : ∀ W, u.writable = some W → Clean W ∧ NonNil W ∧ ∃ w ∈ W, w <+: p)
    (hR : ∀ R, u.reset = some R → Clean R ∧ Unrelated p R)
    (hdisp : NoDispAlong S ty p) (hnd : NoDupAlong p dst) (hns : NoDupAlong p src)
    (h : merge S ty u dst src = some r) :
    (src.getPath p = none → r.dst.getPath p = none) ∧
    (∀ sf, src.getPath p = some (.msg sf) →
      (∀ df, dst.getPath p = some (.msg df) →
        r.dst.getPath p = some (.msg (mergeFields S (childAt S ty p) df sf))) ∧
      ((∀ df, dst.getPath p ≠ some (.msg df)) → r.dst.getPath p = some (.msg sf))) ∧
    (∀ xs, src.getPath p = some (.scs xs) →
      (∀ ys, dst.getPath p = some (.scs ys) → r.dst.getPath p = some (.scs (ys ++ xs))) ∧
      ((∀ ys, dst.getPath p ≠ some (.scs ys)) → r.dst.getPath p = some (.scs xs))) ∧
    (∀ xs, src.getPath p = some (.msgs xs) →
      (∀ ys, dst.getPath p = some (.msgs ys) → r.dst.getPath p = some (.msgs (ys.append xs))) ∧
      ((∀ ys, dst.getPath p ≠ some (.msgs ys)) → r.dst.getPath p = some (.msgs xs))) ∧
    (∀ es, src.getPath p = some (.map es) →
      (∀ ds, dst.getPath p = some (.map ds) → r.dst.getPath p = some (.map (mapMerge ds es))) ∧
      ((∀ ds, dst.getPath p ≠ some (.map ds)) → r.dst.getPath p = some (.map es))) := by
  have key := C05_named_path S ty u dst src r m ms p hM hMc hMn hp hout hW hR hdisp hnd hns h
  refine ⟨fun hs => by rw [key, hs]; rfl, ?_, ?_, ?_, ?_⟩
  · intro sf hs
    rw [key, hs]
    exact ⟨fun df hd => by rw [hd]; rfl, fun hd => congrArg some (mergeVal_old_nonmsg S _ _ sf hd)⟩
  · intro xs hs
    rw [key, hs]
    exact ⟨fun ys hd => by rw [hd]; rfl, fun hd => congrArg some (mergeVal_scs_other S _ _ xs hd)⟩
  · intro xs hs
    rw [key, hs]
    exact ⟨fun ys hd => by rw [hd]; rfl, fun hd => congrArg some (mergeVal_msgs_other S _ _ xs hd)⟩
  · intro es hs
    rw [key, hs]
    exact ⟨fun ds hd => by rw [hd]; rfl, fun hd => congrArg some (mergeVal_map_other S _ _ es hd)⟩

/-- Strictly below a named path `q`.  What the written message holds at
`q ++ t` is merged into what was stored there.  (What it does not hold below `q` is kept from the stored
message when it has `q` itself — FieldMask "merge into the existing sub-message" — and cleared together
with `q` when it has not: `C05_named_path` at `q`.) -/
theorem C05_inside_written (S : Schema) (ty : Nat) (u : Updater) (dst src : Fields) (r : Merged)
    (m : Path) (ms : List Path) (q t : Path) (v : Val)
    (hM : u.update = some (m :: ms)) (hMc : Clean (m :: ms)) (hMn : NonNil (m :: ms))
    (hq : q ∈ m :: ms) (hout : ∀ q' ∈ m :: ms, strictPrefix q' q = false)
    (hW : ∀ W, u.writable = some W → Clean W ∧ NonNil W ∧ ∃ w ∈ W, w <+: q)
    (hR : ∀ R, u.reset = some R → Clean R ∧ Unrelated q R)
    (ht : t ≠ [])
    (hdisp : NoDispAlong S ty (q ++ t)) (hnd : NoDupAlong (q ++ t) dst) (hns : NoDupAlong (q ++ t) src)
    (hsv : src.getPath (q ++ t) = some v)
    (h : merge S ty u dst src = some r) :
    r.dst.getPath (q ++ t) = some (mergeVal S (childAt S ty (q ++ t)) (dst.getPath (q ++ t)) v) := by
  have hq0 : q ≠ [] := hMn q hq
  obtain ⟨hdq, hdt⟩ := noDispAlong_append S q t ty hdisp
  obtain ⟨hndq, _⟩ := noDupAlong_append q t dst hnd
  obtain ⟨hnsq, hnst⟩ := noDupAlong_append q t src hns
  have key := C05_named_path S ty u dst src r m ms q hM hMc hMn hq hout hW hR hdq hndq hnsq h
  rw [getPath_append q t src hq0 ht] at hsv
  rw [getPath_append q t r.dst hq0 ht, getPath_append q t dst hq0 ht, childAt_append, key]
  -- the written message holds a message at `q` (it holds something below it)
  cases hsq : src.getPath q with
  | none => rw [hsq] at hsv; cases hsv
  | some w =>
    rw [hsq] at hsv
    cases w with
    | msg sf => exact getPath_mergeVal S _ (hnst hq0 sf hsq) hdt hsv
    | _ => cases hsv

/-- Nil update mask: "all writable fields".  At or below a writable path
(anywhere when `W` is nil) the result holds what the written message holds — *absent there means
cleared*: the stored writable part is pruned first, so nothing is merged or appended. -/
theorem C05_inside_nil_mask (S : Schema) (ty : Nat) (u : Updater) (dst src : Fields) (r : Merged) (p : Path)
    (hM : u.update = none) (hp : p ≠ [])
    (hW : ∀ W, u.writable = some W → Clean W ∧ NonNil W ∧ ∃ w ∈ W, w <+: p)
    (hR : ∀ R, u.reset = some R → Clean R ∧ Unrelated p R)
    (hdisp : NoDispAlong S ty p) (hns : NoDupAlong p src)
    (h : merge S ty u dst src = some r) :
    r.dst.getPath p = src.getPath p := by
  rcases merge_cases h with ⟨hM', _⟩ | ⟨hW', _⟩ | ⟨_, _, _, _, hM', _⟩ | ⟨src1, dst1, _, _, hf1, hd1, hd'⟩
  · rw [hM] at hM'; cases hM'
  · obtain ⟨_, _, w, hwm, _⟩ := hW [] hW'
    cases hwm
  · rw [hM] at hM'; cases hM'
  obtain ⟨hs1, hn1⟩ := getPath_filter_writable hW hns hf1
  have hg1 := getPath_mergeBase_writable hM hW hd1
  rw [getPath_resetDst_unrelated hp hR hd',
    getPath_mergeFields S p ty dst1 src1 hn1 hdisp (fun _ => Or.inr hg1), hs1, hg1]
  cases src.getPath p <;> simp [mergeVal_none]

/-- For a top-level field that no update and no reset path starts with, none of
the tree hypotheses of `C05_frame` is needed, only that no oneof assignment can displace it. -/
theorem C05_frame_toplevel (S : Schema) (ty : Nat) (u : Updater) (dst src : Fields) (r : Merged)
    (m : Path) (ms : List Path) (k : Name)
    (hM : u.update = some (m :: ms)) (hMc : Clean (m :: ms)) (hMn : NonNil (m :: ms))
    (hk : NoHead k (m :: ms))
    (hR : ∀ R, u.reset = some R → Clean R ∧ NoHead k R)
    (hd : NotDisplaced S ty k)
    (h : merge S ty u dst src = some r) :
    r.dst.get k = dst.get k ∧ ∀ p, r.dst.getPath (k :: p) = dst.getPath (k :: p) := by
  have hget : r.dst.get k = dst.get k :=
    merge_avoids S ty u dst src r k (.of_update hM hMc hMn hk hR) hd h
  exact ⟨hget, Fields.getPath_congr hget⟩

/-- The same for a nil update mask, against the writable paths. -/
theorem C05_frame_toplevel_nil_mask (S : Schema) (ty : Nat) (u : Updater) (dst src : Fields) (r : Merged)
    (w : Path) (ws : List Path) (k : Name)
    (hM : u.update = none) (hW : u.writable = some (w :: ws)) (hWc : Clean (w :: ws)) (hWn : NonNil (w :: ws))
    (hk : NoHead k (w :: ws))
    (hR : ∀ R, u.reset = some R → Clean R ∧ NoHead k R)
    (hd : NotDisplaced S ty k)
    (h : merge S ty u dst src = some r) :
    r.dst.get k = dst.get k :=
  merge_avoids S ty u dst src r k (.of_nil hM hW hWc hWn hk hR) hd h

/-- A schema for the examples: type 0 = {f : message 1, g : scalar}, type 1 = {c, d : scalar}. -/
def wSchema : Schema :=
  [[⟨"f", .message 1, 0⟩, ⟨"g", .scalar, 0⟩], [⟨"c", .scalar, 0⟩, ⟨"d", .scalar, 0⟩]]

/-- stored `{f={c=1,d=2}, g=7}` -/
def wStored : Fields :=
  .cons "f" (.msg (.cons "c" (.sc "i1") (.cons "d" (.sc "i2") .nil))) (.cons "g" (.sc "i7") .nil)

/-- `C05_rejects` applies: `g.x` continues through a scalar, `nope` is unknown, `f` is a strict
parent of the writable `f.c`, `g` is unrelated to it. -/
example : ¬ GoodPath wSchema 0 ["g", "x"] ∧ ¬ GoodPath wSchema 0 ["nope"] := by
  constructor <;> (intro h; have := (validPath_iff wSchema 0 _).mpr h; revert this; decide +kernel)
example : ¬ InsideWritable [["f", "c"]] ["f"] ∧ ¬ InsideWritable [["f", "c"]] ["g"] := by
  constructor <;> (intro h; have := (isWritablePath_iff _ _).mpr h; revert this; decide +kernel)
/-- A mask naming a strict parent of the writable path is rejected, also next to a path unrelated to
it; a duplicated path is accepted. -/
example : validate wSchema 0 ⟨some [["f", "c"]], some [["f"]], none⟩ = .invalidArgument ∧
    validate wSchema 0 ⟨some [["f", "c"], ["f", "d"]], some [["f"], ["g"]], none⟩ = .invalidArgument ∧
    validate wSchema 0 ⟨some [["g"]], some [["g"], ["g"]], none⟩ = .ok := by decide +kernel
/-- `C05_nothing_writable` applies: `W = some []` rejects the valid mask `{g}`, a bare write and a
write with an empty mask are accepted and change nothing, a bare write with reset `{g}` only resets
`g` — and a NIL writable mask behaves differently (everything is written). -/
example : validate wSchema 0 ⟨some [], some [["g"]], none⟩ = .invalidArgument ∧
    (merge wSchema 0 ⟨some [], none, none⟩ wStored (.cons "g" (.sc "i9") .nil)).map (·.dst) = some wStored ∧
    (merge wSchema 0 ⟨some [], some [], some [["g"]]⟩ wStored (.cons "g" (.sc "i9") .nil)).map (·.dst) = some wStored ∧
    (merge wSchema 0 ⟨some [], none, some [["g"]]⟩ wStored (.cons "g" (.sc "i9") .nil)).map (·.dst.getPath ["f", "d"])
      = some (wStored.getPath ["f", "d"]) ∧
    (merge wSchema 0 ⟨none, none, none⟩ wStored (.cons "g" (.sc "i9") .nil)).map (·.dst)
      = some (.cons "g" (.sc "i9") .nil) := by decide +kernel
/-- `C05_reset` applies with nothing writable, and to parent+child reset paths. -/
example : (merge wSchema 0 ⟨some [], none, some [["g"]]⟩ wStored .nil).map (·.dst.get "g") = some none := by decide +kernel
example : Clean [["f"], ["f", "c"]] ∧ NonNil [["f"], ["f", "c"]] ∧
    (merge wSchema 0 ⟨none, none, some [["f"], ["f", "c"]]⟩ wStored wStored).map (·.dst.get "f") = some none := by decide +kernel
/-- The hypotheses of the frame theorems hold for nested masks. -/
example : Clean [["f", "c"]] ∧ NonNil [["f", "c"]] ∧ NoHead "g" [["f", "c"]] ∧
    (merge wSchema 0 ⟨none, some [["f", "c"]], none⟩ wStored .nil).isSome = true ∧
    (merge wSchema 0 ⟨some [["f", "c"]], none, none⟩ wStored .nil).isSome = true := by decide +kernel
example : NotDisplaced wSchema 0 "g" := notDisplaced_of_no_oneof (by decide +kernel) _
/-- The hypotheses of `C05_frame` hold for the nested path `f.d` under the update mask `{f.c}`. -/
example : Unrelated ["f", "d"] [["f", "c"]] ∧ Clean [["f", "c"]] ∧ NonNil [["f", "c"]] := by decide +kernel
example : NoDupAlong ["f", "d"] wStored ∧ NoDupAlong ["f", "d"] (.cons "g" (.sc "i9") .nil) ∧
    Agree ["f", "d"] wStored (.cons "g" (.sc "i9") .nil) := by
  refine ⟨?_, ?_, ?_⟩
  · simp [NoDupAlong, wStored, Fields.keys, Fields.get]
  · simp [NoDupAlong, Fields.keys, Fields.get]
  · simp [Agree, Fields.get]
/-- The hypotheses of `C05_named_path` / `C05_scalar_in` / `C05_message_list` hold for `f.c` under the
update mask `{f.c, g}` (no path of it is a strict prefix of `f.c`) with writable `{f}`. -/
example : ["f", "c"] ∈ [["f", "c"], ["g"]] ∧ (∀ q ∈ [["f", "c"], ["g"]], strictPrefix q ["f", "c"] = false) ∧
    (∃ w ∈ [["f"]], w <+: ["f", "c"]) ∧ Clean [["f"]] ∧ NonNil [["f"]] := by decide +kernel
example : NoDupAlong ["f", "c"] wStored ∧ NoDispAlong wSchema 0 ["f", "c"] :=
  ⟨by simp [NoDupAlong, wStored, Fields.keys, Fields.get],
    notDisplaced_of_no_oneof (by decide +kernel) _, notDisplaced_of_no_oneof (by decide +kernel) _, trivial⟩
/-- The write of `C05_frame_legacy_fails_nested` under the current `merge`: `{f.c}` without `f` in the
written message clears only `f.c`. -/
example : (merge wSchema 0 ⟨none, some [["f", "c"]], none⟩ wStored (.cons "g" (.sc "i9") .nil)).map (·.dst)
    = some (.cons "f" (.msg (.cons "d" (.sc "i2") .nil)) (.cons "g" (.sc "i7") .nil)) := by decide +kernel

/-- Before 4d3ae38.  Writable `{f.c, f.d}`, update mask `{f, g}`: `g` is
related to no writable path, yet the count comparison accepted it and the write cleared the stored
`g`.  The current `validate` rejects it (`C05_rejects`). -/
theorem C05_rejects_legacy_fails :
    ∃ (u : Updater) (src : Fields),
      u.writable = some [["f", "c"], ["f", "d"]] ∧ u.update = some [["f"], ["g"]] ∧
      Legacy.validate wSchema 0 u = .ok ∧
      (Legacy.merge wSchema 0 u wStored src).map (·.dst.get "g") = some none ∧
      validate wSchema 0 u = .invalidArgument :=
  ⟨⟨some [["f", "c"], ["f", "d"]], some [["f"], ["g"]], none⟩, .cons "g" (.sc "i9") .nil,
   rfl, rfl, by decide +kernel, by decide +kernel, by decide +kernel⟩

/-- Before 37d17a7.  Update mask `{f.c}`, written message without `f`: all of `f` was cleared, `f.d`
included; now only `f.c` is. -/
theorem C05_frame_legacy_fails_nested :
    ∃ (u : Updater) (src : Fields),
      u = ⟨none, some [["f", "c"]], none⟩ ∧ Legacy.validate wSchema 0 u = .ok ∧
      wStored.getPath ["f", "d"] = some (.sc "i2") ∧
      (Legacy.merge wSchema 0 u wStored src).map (·.dst.getPath ["f", "d"]) = some none ∧
      (merge wSchema 0 u wStored src).map (·.dst.getPath ["f", "d"]) = some (some (.sc "i2")) ∧
      (merge wSchema 0 u wStored src).map (·.dst.getPath ["f", "c"]) = some none :=
  ⟨_, .cons "g" (.sc "i9") .nil, rfl, by decide +kernel, by decide +kernel, by decide +kernel, by decide +kernel, by decide +kernel⟩

/-- Before 4d3ae38.  Update mask `{f}` with writable `{f.c}` was accepted and cleared `f.d`, which is
not writable; now it is rejected. -/
theorem C05_frame_legacy_fails_wider :
    ∃ (u : Updater) (src : Fields),
      u = ⟨some [["f", "c"]], some [["f"]], none⟩ ∧ Legacy.validate wSchema 0 u = .ok ∧
      (Legacy.merge wSchema 0 u wStored src).map (·.dst.getPath ["f", "d"]) = some none ∧
      validate wSchema 0 u = .invalidArgument :=
  ⟨_, .cons "g" (.sc "i9") .nil, rfl, by decide +kernel, by decide +kernel, by decide +kernel⟩

/-- Before 40c1599.  Update mask `{f, f.c}`: `f.d`, written as 6, kept its stored value 2; now the mask
means `{f}` and `f.d` becomes 6. -/
theorem C05_scalar_in_legacy_fails :
    ∃ (u : Updater) (src : Fields),
      u = ⟨none, some [["f"], ["f", "c"]], none⟩ ∧ Legacy.validate wSchema 0 u = .ok ∧
      src.getPath ["f", "d"] = some (.sc "i6") ∧
      (Legacy.merge wSchema 0 u wStored src).map (·.dst.getPath ["f", "d"]) = some (some (.sc "i2")) ∧
      (merge wSchema 0 u wStored src).map (·.dst.getPath ["f", "d"]) = some (some (.sc "i6")) :=
  ⟨_, .cons "f" (.msg (.cons "c" (.sc "i5") (.cons "d" (.sc "i6") .nil))) .nil,
   rfl, by decide +kernel, by decide +kernel, by decide +kernel, by decide +kernel⟩

/-- Before 70b9b73.  With a non-nil empty writable mask the reset mask was skipped. -/
theorem C05_reset_legacy_fails_nothing_writable :
    ∃ (u : Updater), u = ⟨some [], none, some [["g"]]⟩ ∧
      (Legacy.merge wSchema 0 u wStored .nil).map (·.dst.get "g") = some (some (.sc "i7")) ∧
      (merge wSchema 0 u wStored .nil).map (·.dst.get "g") = some none :=
  ⟨_, rfl, by decide +kernel, by decide +kernel⟩

end ScVerif.C05
