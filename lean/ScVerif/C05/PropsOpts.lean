import ScVerif.C05.Props
import ScVerif.C05.SeqDepth
import ScVerif.C05.OptSpec
/-!
# C05 — the masks a write runs with, as computed from its options, and sequences of writes

Model: `ScVerif/C05/Opts.lean` (`WOpt.apply`, `ComputeWriteConfig`, `WriteRequest.fieldUpdater`,
resource construction options, `runSeq`/`finalStored`: sequences of writes on one resource), following
`pkg/resource/opt.go` after 5cc1d68 (`WithMoreUpdateMask` keeps the paths as given).  The masks the
code's forward fold computes are the ones the options denote (specification: scan from the last option
backwards, path sets); the write theorems of `Props.lean` are lifted to option lists, to the option
CONSTRUCTORS as a caller writes them (`WCtor`), to read-only resources and to all sequences of writes.
-/
namespace ScVerif.C05
open ScVerif.C06 (GoodPath validPath_iff)

/-- The mask of the LAST `WithUpdateMask/Paths` option decides: nil ("all writable
fields") when that is nil or there is none — *whatever `WithMoreUpdate*` options are present* — and
otherwise that mask followed by the paths of the `WithMoreUpdate*` options after it (those before it
are overwritten). -/
theorem C05_options_update (opts : List WOpt) :
    (computeWriteConfig opts).update = specUpdate opts := cwc_update opts

/-- `WithMoreUpdateMask/Paths` never turns "all writable fields" into a
narrow mask. -/
theorem C05_more_update_keeps_nil (opts : List WOpt) (h : ∀ m, WOpt.updateMask (some m) ∉ opts) :
    (computeWriteConfig opts).update = none := by
  rw [cwc_eq]; exact foldl_update_none opts h

/-- The same as path sets, after a non-nil `WithUpdateMask(B)`. -/
theorem C05_options_update_paths (pre post : List WOpt) (B : List Path)
    (hpost : ∀ m, WOpt.updateMask m ∉ post) :
    ∃ M, (computeWriteConfig (pre ++ WOpt.updateMask (some B) :: post)).update = some M ∧
      ∀ p, Covers M p ↔ Covers B p ∨ ∃ m, WOpt.moreUpdateMask (some m) ∈ post ∧ Covers m p := by
  obtain ⟨M, hM, hmem⟩ := cwc_update_mem pre post B hpost
  refine ⟨M, hM, fun p => ?_⟩
  constructor
  · rintro ⟨q, hq, hqp⟩
    rcases (hmem q).mp hq with h | ⟨m, hm, hqm⟩
    · exact Or.inl ⟨q, h, hqp⟩
    · exact Or.inr ⟨m, hm, q, hqm, hqp⟩
  · rintro (⟨q, hq, hqp⟩ | ⟨m, hm, q, hqm, hqp⟩)
    · exact ⟨q, (hmem q).mpr (Or.inl hq), hqp⟩
    · exact ⟨q, (hmem q).mpr (Or.inr ⟨m, hm, hqm⟩), hqp⟩

/-- The `rejects` clause at the level of option lists.  ONE path of `B` or of a `WithMoreUpdate*` option
after it that is not well-formed for the message type — also when it lies inside another path of the
mask — or lies outside the write's writable mask is enough for `InvalidArgument`, whatever the other
options are. -/
theorem C05_write_rejects_options (S : Schema) (ty : Nat) (resW : Option (List Path))
    (pre post : List WOpt) (B : List Path) (hpost : ∀ m, WOpt.updateMask m ∉ post) (p : Path)
    (hp : p ∈ B ∨ ∃ m, WOpt.moreUpdateMask (some m) ∈ post ∧ p ∈ m)
    (hbad : ¬ GoodPath S ty p ∨
      ∃ W, ((computeWriteConfig (pre ++ WOpt.updateMask (some B) :: post)).fieldUpdater resW).writable = some W ∧
        ¬ InsideWritable W p) :
    ∀ stored src, writeWith S ty resW (pre ++ WOpt.updateMask (some B) :: post) stored src
      = .err .invalidArgument := by
  obtain ⟨M, hM, hmem⟩ := cwc_update_mem pre post B hpost
  exact writeWith_rejects S ty resW _ M hM p ((hmem p).mpr hp) hbad

/-- The last `WithResetMask/Paths` option decides (nil without one); no other
option touches the reset mask. -/
theorem C05_options_reset (opts : List WOpt) :
    (computeWriteConfig opts).reset = specReset opts := cwc_reset opts

/-- `W` as computed from the options = the specification.  Nil (everything
writable) exactly when the resource has no writable mask or the write carries `WithAllFieldsWritable`;
otherwise exactly the paths named by the resource's writable fields or by one of the write's OWN
`WithMoreWritableFields/Paths` options (any number, any order, `fieldmaskpb.Union`'s normalisation
included). -/
theorem C05_options_writable (resW : Option (List Path)) (opts : List WOpt) :
    (((computeWriteConfig opts).fieldUpdater resW).writable = none ↔ resW = none ∨ WOpt.allWritable ∈ opts) ∧
    (∀ W, ((computeWriteConfig opts).fieldUpdater resW).writable = some W → ∀ p,
      Covers W p ↔ (∃ w, resW = some w ∧ Covers w p) ∨ ∃ m, WOpt.moreWritable (some m) ∈ opts ∧ Covers m p) := by
  rw [writeWith_writable]
  by_cases hall : WOpt.allWritable ∈ opts
  · simp [hall]
  · cases resW with
    | none => simp [hall]
    | some w =>
      refine ⟨by simp [hall], fun W hW p => ?_⟩
      rw [if_neg hall, Option.map_some, Option.some.injEq] at hW
      subst hW
      rw [covers_union, cwc_moreWritable_covers]
      simp

/-- "nil M means all of W", at the level of `Value.Set` / `Collection.Update` with an option list.
Without a non-nil `WithUpdateMask` — whatever `WithMoreUpdate*`, `WithMoreWritable*`,
`WithAllFieldsWritable`, `WithResetMask` options there are, in any order — an accepted write leaves at
every writable path unrelated to the reset paths what the written message holds there: absent there
means cleared. -/
theorem C05_write_nil_update_replaces (S : Schema) (ty : Nat) (resW : Option (List Path))
    (opts : List WOpt) (stored src st src' : Fields) (p : Path)
    (hU : ∀ m, WOpt.updateMask (some m) ∉ opts) (hp : p ≠ [])
    (hW : WOpt.allWritable ∈ opts ∨ resW = none ∨
      ∃ w, resW = some w ∧ Clean w ∧ NonNil w ∧
        (∀ m, WOpt.moreWritable (some m) ∈ opts → Clean m ∧ NonNil m) ∧
        (Covers w p ∨ ∃ m, WOpt.moreWritable (some m) ∈ opts ∧ Covers m p))
    (hR : ∀ R, specReset opts = some R → Clean R ∧ Unrelated p R)
    (hdisp : NoDispAlong S ty p) (hns : NoDupAlong p src)
    (h : writeWith S ty resW opts stored src = .ok st src') :
    st.getPath p = src.getPath p := by
  obtain ⟨_, hm⟩ := valueSet_ok h
  generalize hu : (computeWriteConfig opts).fieldUpdater resW = u at hm
  have hupd : u.update = none := by
    rw [← hu, fieldUpdater_update]; exact C05_more_update_keeps_nil opts hU
  have hres : u.reset = specReset opts := by rw [← hu]; exact (writeWith_updater resW opts).2
  obtain ⟨hnone, hsome⟩ := C05_options_writable resW opts
  rw [hu] at hnone hsome
  refine C05_inside_nil_mask S ty u stored src _ p hupd hp ?_ (fun R hr => hR R (hres ▸ hr)) hdisp hns hm
  intro W hWu
  have hnn : ¬ (resW = none ∨ WOpt.allWritable ∈ opts) := fun hc => by
    rw [hnone.mpr hc] at hWu; cases hWu
  rcases hW with hall | hnil | ⟨w, hw, hwc, hwn, hmore, hcov⟩
  · exact absurd (Or.inr hall) hnn
  · exact absurd (Or.inl hnil) hnn
  · have hWeq : W = union w ((computeWriteConfig opts).moreWritable.getD []) := by
      rw [← hu, writeWith_writable, if_neg fun hc => hnn (Or.inr hc), hw] at hWu
      exact (Option.some.inj hWu).symm
    have hmc : Clean ((computeWriteConfig opts).moreWritable.getD []) := fun x hx => by
      obtain ⟨m, hm, hxm⟩ := cwc_moreWritable_mem opts x hx
      exact (hmore m hm).1 x hxm
    have hmn : NonNil ((computeWriteConfig opts).moreWritable.getD []) := fun x hx => by
      obtain ⟨m, hm, hxm⟩ := cwc_moreWritable_mem opts x hx
      exact (hmore m hm).2 x hxm
    refine ⟨hWeq ▸ clean_union hwc hmc, hWeq ▸ nonNil_union hwn hmn, ?_⟩
    exact (hsome W hWu p).mpr (hcov.imp (fun hc => ⟨w, hw, hc⟩) id)

/-- The frame over ALL sequences of writes on one resource: `Value.Set` /
`Collection.Update` of the item, `Collection.Add` of other items; accepted, rejected or panicking, each
with its own option list.  A field no write of the sequence names, and that no oneof assignment can
displace, holds after the whole sequence what it held before it; no hypothesis on the messages. -/
theorem C05_sequence_frame (S : Schema) (ty : Nat) (resW : Option (List Path)) (k : Name)
    (hd : NotDisplaced S ty k) :
    ∀ (steps : List Step) (stored : Fields),
      (∀ s ∈ steps, Avoids k ((computeWriteConfig s.opts).fieldUpdater resW)) →
      (finalStored S ty resW stored steps).get k = stored.get k := by
  intro steps stored hall
  refine finalStored_induction S ty resW (fun st => st.get k = stored.get k) steps stored rfl ?_
  intro s hs _ st st' src' hP ho
  exact (merge_avoids S ty _ st s.src _ k (hall s hs) hd (valueSet_ok ho).2).trans hP

/-- The same AT ANY DEPTH.  The hypotheses speak of the INITIAL stored
message and of the written messages only (`Fits`: messages on the way down, no non-message at `p` where
a message is stored); that the tree hypotheses of `C05_frame` hold again for every intermediate stored
message is part of the proof (`merge_avoidsPath`). -/
theorem C05_sequence_frame_depth (S : Schema) (ty : Nat) (resW : Option (List Path)) (p : Path)
    (hp : p ≠ []) (hdisp : NoDispAlong S ty p) :
    ∀ (steps : List Step) (stored : Fields), NoDupAlong p stored →
      (∀ s ∈ steps, s.fresh = false →
        AvoidsPath p ((computeWriteConfig s.opts).fieldUpdater resW) ∧
        NoDupAlong p s.src ∧ Fits (stored.getPath p) p s.src) →
      (finalStored S ty resW stored steps).getPath p = stored.getPath p ∧
        NoDupAlong p (finalStored S ty resW stored steps) := by
  intro steps stored hn hall
  refine finalStored_induction S ty resW (fun st => st.getPath p = stored.getPath p ∧ NoDupAlong p st)
    steps stored ⟨rfl, hn⟩ ?_
  intro s hs hf st st' src' ⟨hg, hn'⟩ ho
  obtain ⟨hav, hns, hfit⟩ := hall s hs hf
  obtain ⟨hget, hn''⟩ :=
    merge_avoidsPath S ty _ st s.src _ p hav hp hdisp hn' hns (hg ▸ hfit) (valueSet_ok ho).2
  exact ⟨hget.trans hg, hn''⟩

/-- The `Fits` hypothesis of `C05_sequence_frame_depth` is what typing gives: along a path through singular
message fields (`MsgPath`: the paths `fieldmaskpb` lets a mask continue through) a written message that
conforms to the schema fits against every conforming stored message.  Every field populated with a value
of its declared kind, recursively, is all it takes. -/
theorem C05_fits_of_conforms (S : Schema) (ty : Nat) (p : Path) (stored src : Fields)
    (hp : MsgPath S ty p) (hst : Fields.conforms S ty stored = true) (hsrc : Fields.conforms S ty src = true) :
    Fits (stored.getPath p) p src :=
  fits_of_conforms S _ p ty src hp hsrc fun _ hdf => ⟨stored, hst, hdf⟩

/-- Later writes depend on earlier ones only through the stored message:
no updater, no mask, no privilege is carried from one write to the next. -/
theorem C05_sequence_history_free (S : Schema) (ty : Nat) (resW : Option (List Path)) (rest : List Step) :
    ∀ (pre : List Step) (stored : Fields), SetOut.panic ∉ runSeq S ty resW stored pre →
      runSeq S ty resW stored (pre ++ rest) =
        runSeq S ty resW stored pre ++ runSeq S ty resW (finalStored S ty resW stored pre) rest := by
  intro pre
  induction pre with
  | nil => intro stored _; rfl
  | cons s more ih =>
    intro stored hnp
    cases ho : s.run S ty resW stored with
    | panic => simp [runSeq, ho] at hnp
    | err c =>
      simp only [List.cons_append, runSeq, finalStored, ho]
      rw [ih]
      intro hp; apply hnp; simp [runSeq, ho, hp]
    | ok st src' =>
      simp only [List.cons_append, runSeq, finalStored, ho]
      rw [ih]
      intro hp; apply hnp; simp [runSeq, ho, hp]

/-- Over ALL option constructors, in any list.  Every `resource.With…Paths(paths...)` is its `With…Mask`
sibling on a non-nil mask holding the variadic paths as given (`WCtor.opt`), and NO constructor sorts,
de-duplicates, normalises or drops an update or reset path: `Validate` sees every path the caller wrote
— in order, with duplicates, paths inside other paths and paths unknown to the message.  (The writable
side is the one family that normalises — `WithMoreWritable*` use `fieldmaskpb.Union` — and there only
the covered path-set matters: `C05_options_writable`.) -/
theorem C05_constructors_keep_paths (pre post : List WCtor) (c : WCtor) :
    (∀ B, c.updateGiven = some (some B) → (∀ c' ∈ post, c'.updateGiven = none) →
      (computeWriteConfig ((pre ++ c :: post).map WCtor.opt)).update
        = some (B ++ (post.map WCtor.moreUpdateGiven).flatten)) ∧
    (∀ R, c.resetGiven = some R → (∀ c' ∈ post, c'.resetGiven = none) →
      (computeWriteConfig ((pre ++ c :: post).map WCtor.opt)).reset = R) := by
  rw [List.map_append, List.map_cons]
  constructor
  · intro B hB hpost
    have hno : ∀ m, WOpt.updateMask m ∉ post.map WCtor.opt := fun m hm => by
      obtain ⟨c', hc', e⟩ := List.mem_map.mp hm
      exact nomatch (hpost c' hc').symm.trans (WCtor.opt_eq_updateMask.mp e)
    rw [WCtor.opt_eq_updateMask.mpr hB, cwc_update_after, foldl_update_eq _ B hno, List.map_map]
    exact congrArg (fun f => some (B ++ (post.map f).flatten)) (funext WCtor.moreUpdate_opt)
  · intro R hR hpost
    rw [WCtor.opt_eq_resetMask.mpr hR, cwc_reset_after]
    refine foldl_reset_other _ R fun m hm => ?_
    obtain ⟨c', hc', e⟩ := List.mem_map.mp hm
    exact nomatch (hpost c' hc').symm.trans (WCtor.opt_eq_resetMask.mp e)

/-- The `rejects` clause for the constructors as called.  Also when
the bad path lies below another, valid, path of the same call (`WithUpdatePaths("f", "f.nope")`). -/
theorem C05_write_rejects_constructors (S : Schema) (ty : Nat) (resW : Option (List Path))
    (pre post : List WCtor) (c : WCtor) (B : List Path)
    (hc : c.updateGiven = some (some B)) (hpost : ∀ c' ∈ post, c'.updateGiven = none) (p : Path)
    (hp : p ∈ B ∨ ∃ c' ∈ post, p ∈ c'.moreUpdateGiven)
    (hbad : ¬ GoodPath S ty p ∨
      ∃ W, ((computeWriteConfig ((pre ++ c :: post).map WCtor.opt)).fieldUpdater resW).writable = some W ∧
        ¬ InsideWritable W p) :
    ∀ stored src, writeWith S ty resW ((pre ++ c :: post).map WCtor.opt) stored src
      = .err .invalidArgument := by
  refine writeWith_rejects S ty resW _ _ ((C05_constructors_keep_paths pre post c).1 B hc hpost) p ?_ hbad
  rcases hp with h | ⟨c', hc', h⟩
  · exact List.mem_append.mpr (Or.inl h)
  · exact List.mem_append.mpr (Or.inr (List.mem_flatten.mpr ⟨_, List.mem_map.mpr ⟨c', hc', rfl⟩, h⟩))

/-- One ordinary write on a read-only resource: writable mask NON-NIL WITHOUT
PATHS, `WithWritableFields(&FieldMask{})` or `WithWritablePaths(m)`.  The mask is NOT turned into nil =
"everything writable" anywhere between the resource and `Merge`; an update mask with a path — valid or
not — is rejected; an accepted write copies nothing, only its reset mask applies. -/
theorem C05_read_only_write (S : Schema) (ty : Nat) (opts : List WOpt) (hro : OrdinaryWrite opts)
    (stored src : Fields) :
    ((computeWriteConfig opts).fieldUpdater (some [])).writable = some [] ∧
    (∀ M, specUpdate opts = some M → M ≠ [] →
      writeWith S ty (some []) opts stored src = .err .invalidArgument) ∧
    (∀ st src', writeWith S ty (some []) opts stored src = .ok st src' →
      ((specUpdate opts = some [] ∨ specReset opts = none) → st = stored) ∧
      ∀ p, p ≠ [] → (∀ R, specReset opts = some R → Clean R ∧ Unrelated p R) →
        st.getPath p = stored.getPath p) := by
  have hW := writable_of_readOnly opts hro
  obtain ⟨hupd, hres⟩ := writeWith_updater (some []) opts
  refine ⟨hW, ?_, ?_⟩
  · intro M hM hne
    unfold writeWith
    exact ((C05_nothing_writable S ty _ stored src hW).1 M (hupd.trans hM) hne).2 stored src
  · intro st src' h
    obtain ⟨_, hsame, _, hframe⟩ := (C05_nothing_writable S ty _ stored src hW).2 _ (valueSet_ok h).2
    exact ⟨fun hc => hsame (hc.imp (fun e => hupd.trans e) (fun e => hres.trans e)),
      fun p hp hR => hframe p hp (fun R hr => hR R (hres ▸ hr))⟩

/-- A read-only resource stays what it is under every sequence of ordinary
writes that carry no reset mask (or carry it under an empty non-nil update mask). -/
theorem C05_read_only_sequence (S : Schema) (ty : Nat) :
    ∀ (steps : List Step) (stored : Fields),
      (∀ s ∈ steps, s.fresh = false →
        OrdinaryWrite s.opts ∧ (specUpdate s.opts = some [] ∨ specReset s.opts = none)) →
      finalStored S ty (some []) stored steps = stored := by
  intro steps stored hall
  refine finalStored_induction S ty (some []) (fun st => st = stored) steps stored rfl ?_
  intro s hs hf st st' src' hP ho
  obtain ⟨hro, hq⟩ := hall s hs hf
  exact (((C05_read_only_write S ty s.opts hro st s.src).2.2 st' src' ho).1 hq).trans hP

/-- The last write that names a field decides it.  `C05_scalar_in` for `s`,
`C05_sequence_frame` for `post`: whatever `post` did elsewhere and however many of its writes were
rejected or panicked. -/
theorem C05_sequence_last_write (S : Schema) (ty : Nat) (resW : Option (List Path)) (k : Name)
    (hd : NotDisplaced S ty k) (s : Step) (post : List Step) (stored st src' : Fields)
    (m : Path) (ms : List Path)
    (hf : s.fresh = false)
    (hM : ((computeWriteConfig s.opts).fieldUpdater resW).update = some (m :: ms))
    (hMc : Clean (m :: ms)) (hMn : NonNil (m :: ms)) (hk : [k] ∈ m :: ms)
    (hW : ∀ W, ((computeWriteConfig s.opts).fieldUpdater resW).writable = some W →
      Clean W ∧ NonNil W ∧ ∃ w ∈ W, w <+: [k])
    (hR : ∀ R, ((computeWriteConfig s.opts).fieldUpdater resW).reset = some R → Clean R ∧ Unrelated [k] R)
    (hnd : stored.keys.Nodup) (hns : s.src.keys.Nodup)
    (hsc : ∀ v, s.src.get k = some v → ∃ x, v = .sc x)
    (ho : s.run S ty resW stored = .ok st src')
    (hpost : ∀ s' ∈ post, Avoids k ((computeWriteConfig s'.opts).fieldUpdater resW)) :
    (finalStored S ty resW stored (s :: post)).get k = s.src.get k := by
  have hfin : finalStored S ty resW stored (s :: post) = finalStored S ty resW st post := by
    rw [finalStored]
    simp [ho, Step.next, hf]
  rw [hfin, C05_sequence_frame S ty resW k hd post st hpost]
  unfold Step.run at ho
  rw [hf] at ho
  have hout : ∀ q ∈ m :: ms, strictPrefix q [k] = false := by
    intro q hq
    cases q with
    | nil => exact absurd rfl (hMn _ hq)
    | cons a t => simp [strictPrefix]
  exact C05_scalar_in S ty _ stored s.src _ m ms [k] hM hMc hMn hk hout hW hR
    ⟨hd, trivial⟩ ⟨hnd, fun _ _ => trivial⟩ ⟨hns, fun _ _ => trivial⟩ hsc (valueSet_ok ho).2

/-- Before 5cc1d68.  `WithUpdatePaths("f", "f.zz")` names the unknown field `f.zz` and is rejected with
`InvalidArgument` — but followed by `WithMoreUpdatePaths("g")` the former `fieldmaskpb.Union` normalised
the mask to `{f, g}`, which `Validate` accepted, and the write went through.  Now the paths are kept and
the write is rejected. -/
theorem C05_more_update_legacy_fails :
    ∃ (opts : List WOpt) (src : Fields),
      opts = [.updateMask (some [["f"], ["f", "zz"]]), .moreUpdateMask (some [["g"]])] ∧
      ¬ GoodPath wSchema 0 ["f", "zz"] ∧
      validate wSchema 0 ((opts.foldl WOpt.applyLegacy .empty).fieldUpdater none) = .ok ∧
      writeWith wSchema 0 none (opts.take 1) wStored src = .err .invalidArgument ∧
      writeWith wSchema 0 none opts wStored src = .err .invalidArgument :=
  ⟨_, .cons "g" (.sc "i9") .nil, rfl,
    fun h => by have := (validPath_iff wSchema 0 _).mpr h; revert this; decide +kernel,
    by decide +kernel, by decide +kernel, by decide +kernel⟩

/-- The lightpb preset write: the caller passes no update mask, `lightpb.Model` adds
`WithMoreUpdatePaths("g")` — the mask stays nil; with an explicit mask it is widened. -/
example : (computeWriteConfig [.moreUpdateMask (some [["g"]])]).update = none ∧
    (computeWriteConfig [.updateMask none, .moreUpdateMask (some [["g"]])]).update = none ∧
    (computeWriteConfig [.updateMask (some [["f", "c"]]), .moreUpdateMask (some [["g"]])]).update
      = some [["f", "c"], ["g"]] ∧
    (computeWriteConfig [.moreUpdateMask (some [["g"]]), .updateMask (some [["f", "c"]])]).update
      = some [["f", "c"]] := by decide +kernel

/-- `C05_write_rejects_options` applies to an unknown path brought by `WithMoreUpdatePaths`, and to one
outside the writable fields of the resource. -/
example : writeWith wSchema 0 none [.updateMask (some [["g"]]), .moreUpdateMask (some [["nope"]])] wStored .nil
      = .err .invalidArgument ∧
    writeWith wSchema 0 (some [["g"]]) [.updateMask (some [["g"]]), .allWritable, .moreUpdateMask (some [["f"]])] wStored .nil
      = .ok .nil .nil ∧
    writeWith wSchema 0 (some [["g"]]) [.updateMask (some [["g"]]), .moreUpdateMask (some [["f"]])] wStored .nil
      = .err .invalidArgument := by decide +kernel

/-- `C05_options_writable`: resource `{g}`, write `WithMoreWritablePaths("f.c")`, twice. -/
example : ((computeWriteConfig [.moreWritable (some [["f", "c"]]), .moreWritable (some [["f", "c"]])]).fieldUpdater
      (some [["g"]])).writable = some [["f", "c"], ["g"]] ∧
    ((computeWriteConfig [.moreWritable (some [["f", "c"]]), .allWritable]).fieldUpdater (some [["g"]])).writable = none ∧
    ((computeWriteConfig [.moreWritable (some [["f", "c"]])]).fieldUpdater none).writable = none := by decide +kernel

/-- `C05_write_nil_update_replaces` applies (and its conclusion is not trivially true): resource
writable `{g}`, write `{g=9}` with `WithMoreUpdatePaths("f")` only — accepted, `g` becomes 9. -/
example : writeWith wSchema 0 (some [["g"]]) [.moreUpdateMask (some [["f"]])] wStored (.cons "g" (.sc "i9") .nil)
    = .ok (.cons "f" (.msg (.cons "c" (.sc "i1") (.cons "d" (.sc "i2") .nil))) (.cons "g" (.sc "i9") .nil))
        (.cons "g" (.sc "i9") .nil) := by decide +kernel

/-- `C05_sequence_frame` applies: `f` is avoided by an ordinary bare write (writable `{g}`), by a
masked write of `g` with a reset of `g`, and the hypothesis fails — as it must — for a bare
privileged write. -/
example : Avoids "f" ((computeWriteConfig []).fieldUpdater (some [["g"]])) ∧
    Avoids "f" ((computeWriteConfig [.updateMask (some [["g"]]), .resetMask (some [["g"]])]).fieldUpdater (some [["g"]])) ∧
    ¬ Avoids "f" ((computeWriteConfig [.allWritable]).fieldUpdater (some [["g"]])) := by
  refine ⟨.of_nil (W := [["g"]]) rfl rfl (by decide +kernel) (by decide +kernel) (by decide +kernel)
      (fun _ h => nomatch h),
    .of_update (M := [["g"]]) rfl (by decide +kernel) (by decide +kernel) (by decide +kernel) fun R h => ?_, ?_⟩
  · cases (h : some [["g"]] = some R); decide +kernel
  · rintro ⟨⟨W, hW, _⟩, _⟩
    cases hW

/-- …and a two-write sequence (a bare ordinary write, then a masked one) on one resource with writable
fields `{g}` changes `g` twice and keeps `f`. -/
example : (finalStored wSchema 0 (some [["g"]]) wStored
      [⟨[], .cons "g" (.sc "i8") .nil, false⟩, ⟨[.updateMask (some [["g"]])], .cons "g" (.sc "i9") .nil, false⟩]).get "f"
    = wStored.get "f" := by decide +kernel

/-- `C05_sequence_frame_depth` applies to the nested path `f.d` on a resource with writable fields
`{f.c, g}`: a bare ordinary write of `{f={c=5}, g=8}` and a masked write `{f.c}` of `{g=9}` both avoid
`f.d`, their written messages fit it … -/
example : AvoidsPath ["f", "d"] ((computeWriteConfig []).fieldUpdater (some [["f", "c"], ["g"]])) ∧
    AvoidsPath ["f", "d"] ((computeWriteConfig [.updateMask (some [["f", "c"]])]).fieldUpdater (some [["f", "c"], ["g"]])) ∧
    ¬ AvoidsPath ["f", "d"] ((computeWriteConfig [.updateMask (some [["f"]])]).fieldUpdater (some [["f", "c"], ["g"]])) := by
  refine ⟨.of_nil (W := [["f", "c"], ["g"]]) rfl rfl (by decide +kernel) (by decide +kernel) (by decide +kernel)
      (fun _ h => nomatch h),
    .of_update (M := [["f", "c"]]) rfl (by decide +kernel) (by decide +kernel) (by decide +kernel)
      (fun _ h => nomatch h), ?_⟩
  · rintro ⟨⟨_, _, hu⟩, _⟩
    exact (hu ["f"] (List.mem_cons_self ..)).1 (by decide +kernel)
example : Fits (wStored.getPath ["f", "d"]) ["f", "d"]
      (.cons "f" (.msg (.cons "c" (.sc "i5") .nil)) (.cons "g" (.sc "i8") .nil)) ∧
    Fits (wStored.getPath ["f", "d"]) ["f", "d"] (.cons "g" (.sc "i9") .nil) ∧
    NoDupAlong ["f", "d"] (.cons "f" (.msg (.cons "c" (.sc "i5") .nil)) (.cons "g" (.sc "i8") .nil)) := by
  refine ⟨by simp [Fits, Fields.get], by simp [Fits, Fields.get], by simp [NoDupAlong, Fields.keys, Fields.get]⟩
/-- `C05_fits_of_conforms` applies: `f.d` runs through the singular message field `f`, the stored and
written messages of these examples conform to `wSchema`. -/
example : MsgPath wSchema 0 ["f", "d"] ∧ Fields.conforms wSchema 0 wStored = true ∧
    Fields.conforms wSchema 0 (.cons "f" (.msg (.cons "c" (.sc "i5") .nil)) (.cons "g" (.sc "i8") .nil)) = true :=
  ⟨⟨⟨⟨"f", .message 1, 0⟩, 1, by decide +kernel, rfl⟩, trivial⟩, by decide +kernel, by decide +kernel⟩
/-- … and the sequence changes `f.c` twice (5, then cleared) and `g`, and keeps `f.d`. -/
example : (finalStored wSchema 0 (some [["f", "c"], ["g"]]) wStored
      [⟨[], .cons "f" (.msg (.cons "c" (.sc "i5") .nil)) (.cons "g" (.sc "i8") .nil), false⟩,
       ⟨[.updateMask (some [["f", "c"]])], .cons "g" (.sc "i9") .nil, false⟩])
    = .cons "f" (.msg (.cons "d" (.sc "i2") .nil)) (.cons "g" (.sc "i8") .nil) := by decide +kernel

/-- `C05_constructors_keep_paths`: `WithUpdatePaths("f", "f.zz", "f")` then `WithMoreUpdatePaths("g", "f")`
— the mask is the five paths as given; `WithUpdatePaths("f", "f.zz")` is rejected exactly like
`WithUpdateMask` of the same paths (the unknown `f.zz` is not normalised away under `f`). -/
example : (computeWriteConfig ([WCtor.withUpdatePaths [["f"], ["f", "zz"], ["f"]],
        WCtor.withMoreUpdatePaths [["g"], ["f"]]].map WCtor.opt)).update
      = some [["f"], ["f", "zz"], ["f"], ["g"], ["f"]] ∧
    writeWith wSchema 0 none ([WCtor.withUpdatePaths [["f"], ["f", "zz"]]].map WCtor.opt) wStored .nil
      = .err .invalidArgument ∧
    writeWith wSchema 0 none ([WCtor.withUpdateMask (some [["f", "zz"], ["f"]])].map WCtor.opt) wStored .nil
      = .err .invalidArgument ∧
    writeWith wSchema 0 none ([WCtor.withUpdatePaths [["f"]]].map WCtor.opt) wStored .nil
      = .ok (.cons "g" (.sc "i7") .nil) .nil := by decide +kernel

/-- `C05_read_only_write` / `C05_read_only_sequence` apply: bare writes and masked writes are ordinary
writes; on the read-only resource a bare write is accepted and changes nothing, a masked one is
rejected, an empty mask with a reset mask changes nothing — while the same bare write on a resource
WITHOUT writable mask replaces the stored message. -/
example : OrdinaryWrite [] ∧ OrdinaryWrite [.updateMask (some [["g"]]), .moreWritable (some [])] ∧
    ¬ OrdinaryWrite [.moreWritable (some [["g"]])] := by
  refine ⟨⟨by simp, by simp⟩, ⟨by simp, by simp⟩, ?_⟩
  rintro ⟨_, h⟩
  exact absurd (h [["g"]] (List.mem_cons_self ..)) (by simp)
example : writeWith wSchema 0 (some []) [] wStored (.cons "g" (.sc "i9") .nil)
      = .ok wStored (.cons "g" (.sc "i9") .nil) ∧
    writeWith wSchema 0 (some []) [.updateMask (some [["g"]])] wStored (.cons "g" (.sc "i9") .nil)
      = .err .invalidArgument ∧
    writeWith wSchema 0 (some []) [.updateMask (some []), .resetMask (some [["g"]])] wStored (.cons "g" (.sc "i9") .nil)
      = .ok wStored (.cons "g" (.sc "i9") .nil) ∧
    writeWith wSchema 0 none [] wStored (.cons "g" (.sc "i9") .nil)
      = .ok (.cons "g" (.sc "i9") .nil) (.cons "g" (.sc "i9") .nil) := by decide +kernel

/-- `C05_sequence_last_write` applies: `WithUpdatePaths("g")` of `{g=9}` resp. of `{}` (clears `g`),
followed by a masked write of `f.c` that avoids `g`. -/
example : (finalStored wSchema 0 none wStored
      [⟨[.updateMask (some [["g"]])], .cons "g" (.sc "i9") .nil, false⟩,
       ⟨[.updateMask (some [["f", "c"]])], .nil, false⟩]).get "g" = some (.sc "i9") ∧
    (finalStored wSchema 0 none wStored
      [⟨[.updateMask (some [["g"]])], .nil, false⟩,
       ⟨[.updateMask (some [["f", "c"]])], .nil, false⟩]).get "g" = none ∧
    (Step.run wSchema 0 none wStored ⟨[.updateMask (some [["g"]])], .nil, false⟩ matches .ok _ _) ∧
    Avoids "g" ((computeWriteConfig [.updateMask (some [["f", "c"]])]).fieldUpdater none) := by
  exact ⟨by decide +kernel, by decide +kernel, by decide +kernel,
    .of_update (M := [["f", "c"]]) rfl (by decide +kernel) (by decide +kernel) (by decide +kernel)
      fun _ h => nomatch h⟩

end ScVerif.C05
