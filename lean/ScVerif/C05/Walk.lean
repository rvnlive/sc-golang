import ScVerif.C05.Nested
import ScVerif.C05.Lemmas
/-
`fmutils.Filter` and `fmutils.Prune` are one walk over the populated fields that differs in one bit:
a field the mask names with no continuation is kept by `Filter` and cleared by `Prune`, a field the
mask does not name is cleared by `Filter` and kept by `Prune`; where the mask continues below a field
both go on in its value.  `Walk` is that description; every fact about either is proved for a `Walk`.
The elements of a repeated message field (`msgs`) are left without an equation on purpose: paths run
through singular messages only, and nothing is claimed below a repeated field.
-/
namespace ScVerif.C05

structure Walk where
  fields : Mask → Fields → Out Fields
  val : Mask → Val → Out Val
  msgs : Mask → Msgs → Out Msgs
  isFilter : Bool
  fields_nil : ∀ mask, fields mask .nil = some .nil
  fields_cons : ∀ mask k v rest, fields mask (.cons k v rest) =
    match mask.find k with
    | none => if isFilter then fields mask rest else (fields mask rest).map (.cons k v)
    | some sub =>
      if sub.isEmpty then (if isFilter then (fields mask rest).map (.cons k v) else fields mask rest)
      else
        match val sub v with
        | none => none
        | some v' => (fields mask rest).map (.cons k v')
  val_eq : ∀ sub v, val sub v =
    match v with
    | .sc s => some (.sc s)
    | .msg fs => (fields sub fs).map .msg
    | .scs _ => none
    | .msgs xs => (msgs sub xs).map .msgs
    | .map _ => none

def filterWalk : Walk where
  fields := filterFields
  val := filterVal
  msgs := filterMsgs
  isFilter := true
  fields_nil mask := by rw [filterFields]
  fields_cons mask k v rest := by rw [filterFields]; rfl
  val_eq sub v := by cases v <;> rw [filterVal]

def pruneWalk : Walk where
  fields := pruneFields
  val := pruneVal
  msgs := pruneMsgs
  isFilter := false
  fields_nil mask := by rw [pruneFields]
  fields_cons mask k v rest := by rw [pruneFields]; rfl
  val_eq sub v := by cases v <;> rw [pruneVal]

namespace Walk
variable (W : Walk)

/-- The walk's verdict on the entry `k ↦ v` (in the encoding of `Fields.mapEntries`). -/
def entry (mask : Mask) (k : Name) (v : Val) : Out (Option Val) :=
  match mask.find k with
  | none => some (if W.isFilter then none else some v)
  | some sub =>
    if sub.isEmpty then some (if W.isFilter then some v else none) else (W.val sub v).map some

theorem fields_eq (mask : Mask) : ∀ fs, W.fields mask fs = fs.mapEntries (W.entry mask)
  | .nil => by rw [W.fields_nil, Fields.mapEntries]
  | .cons k v rest => by
    rw [W.fields_cons, Fields.mapEntries, entry, fields_eq mask rest]
    cases mask.find k with
    | none => cases W.isFilter <;> rfl
    | some sub =>
      dsimp only
      cases sub.isEmpty with
      | true => cases W.isFilter <;> rfl
      | false => cases W.val sub v <;> rfl

/-- `NestedMask.Filter(msg)` / `NestedMask.Prune(msg)`: with an empty mask nothing happens.  `filterMsg` and
`pruneMsg` are this for the two walks, by definition, so hypotheses about them are handed to the
`msg_…` lemmas as they are. -/
def msg (mask : Mask) (fs : Fields) : Out Fields := if mask.isEmpty then some fs else W.fields mask fs

variable {W} {mask sub : Mask} {k : Name} {fs fs' : Fields}

theorem msg_cases (h : W.msg mask fs = some fs') : fs' = fs ∨ W.fields mask fs = some fs' := by
  unfold msg at h
  split at h
  · exact Or.inl (Option.some.inj h).symm
  · exact Or.inr h

theorem nodup (h : W.fields mask fs = some fs') (hn : fs.keys.Nodup) : fs'.keys.Nodup :=
  Fields.nodup_mapEntries (W.fields_eq mask fs ▸ h) hn

theorem get_absent (h : W.fields mask fs = some fs') (hg : fs.get k = none) : fs'.get k = none :=
  Fields.get_mapEntries_none (W.fields_eq mask fs ▸ h) hg

/-- Whether the walk clears an entry depends on the key only, so no later entry of the same name takes
the place of a cleared one. -/
theorem get_some (h : W.fields mask fs = some fs') {v : Val} (hg : fs.get k = some v) :
    W.entry mask k v = some (fs'.get k) := by
  refine Fields.get_mapEntries_some (W.fields_eq mask fs ▸ h) (Or.inr fun hd w v' => ?_) hg
  unfold entry at hd ⊢
  cases hf : mask.find k with
  | none => rw [hf] at hd; cases hb : W.isFilter <;> simp_all
  | some sub =>
    rw [hf] at hd
    cases he : sub.isEmpty with
    | true => cases hb : W.isFilter <;> simp_all
    | false => simp [he] at hd

theorem get_unnamed (hk : mask.find k = none) (h : W.fields mask fs = some fs') :
    fs'.get k = if W.isFilter then none else fs.get k := by
  cases hg : fs.get k with
  | none => rw [get_absent h hg, ite_self]
  | some v =>
    have := get_some h hg
    simp only [entry, hk, Option.some.injEq] at this
    exact this.symm

theorem get_named (hk : mask.find k = some sub) (he : sub.isEmpty = true)
    (h : W.fields mask fs = some fs') : fs'.get k = if W.isFilter then fs.get k else none := by
  cases hg : fs.get k with
  | none => rw [get_absent h hg, ite_self]
  | some v =>
    have := get_some h hg
    simp only [entry, hk, he, if_true, Option.some.injEq] at this
    exact this.symm

theorem get_sub (hk : mask.find k = some sub) (he : sub.isEmpty = false)
    (h : W.fields mask fs = some fs') {v : Val} (hg : fs.get k = some v) :
    ∃ v', W.val sub v = some v' ∧ fs'.get k = some v' := by
  have := get_some h hg
  simp only [entry, hk, he, Bool.false_eq_true, if_false] at this
  cases hv : W.val sub v with
  | none => rw [hv] at this; cases this
  | some v' => rw [hv] at this; exact ⟨v', rfl, (Option.some.inj this).symm⟩

theorem get_inv (h : W.fields mask fs = some fs') {v' : Val} (hg : fs'.get k = some v') :
    ∃ v, fs.get k = some v ∧ (v' = v ∨ ∃ sub, W.val sub v = some v') := by
  cases hgf : fs.get k with
  | none => rw [get_absent h hgf] at hg; cases hg
  | some v =>
    refine ⟨v, rfl, ?_⟩
    cases hf : mask.find k with
    | none =>
      have := get_unnamed hf h
      rw [hg, hgf] at this
      split at this
      · cases this
      · exact Or.inl (Option.some.inj this)
    | some sub =>
      cases he : sub.isEmpty with
      | true =>
        have := get_named hf he h
        rw [hg, hgf] at this
        split at this
        · exact Or.inl (Option.some.inj this)
        · cases this
      | false =>
        obtain ⟨w, hw, hg'⟩ := get_sub hf he h hgf
        rw [hg] at hg'
        cases hg'
        exact Or.inr ⟨sub, hw⟩

theorem val_cases {v v' : Val} (h : W.val sub v = some v') :
    (∃ fs fs', v = .msg fs ∧ v' = .msg fs' ∧ W.fields sub fs = some fs') ∨
    ((∀ df, v ≠ .msg df) ∧ (∀ df, v' ≠ .msg df)) := by
  rw [W.val_eq] at h
  cases v with
  | msg fs =>
    obtain ⟨fs', hf, rfl⟩ := Option.map_eq_some_iff.mp h
    exact Or.inl ⟨fs, fs', rfl, rfl, hf⟩
  | sc x => cases h; exact Or.inr ⟨by simp, by simp⟩
  | scs _ => cases h
  | map _ => cases h
  | msgs xs =>
    obtain ⟨_, _, rfl⟩ := Option.map_eq_some_iff.mp h
    exact Or.inr ⟨by simp, by simp⟩

theorem getPath_kept : ∀ (p : Path) (mask : Mask) (fs fs' : Fields),
    reach p mask = some W.isFilter → W.fields mask fs = some fs' → fs'.getPath p = fs.getPath p
  | [], _, _, _, h, _ => by cases h
  | k :: rest, mask, fs, fs', h, hp => by
    rcases reach_cons h with ⟨hf, hc⟩ | ⟨sub, hf, ⟨he, hc⟩ | ⟨he, hr, hm⟩⟩
    · exact Fields.getPath_congr (by rw [get_unnamed hf hp, hc]; rfl) rest
    · exact Fields.getPath_congr (by rw [get_named hf he hp, hc]; rfl) rest
    · rw [Fields.getPath_cons _ _ hr, Fields.getPath_cons _ _ hr]
      cases hg : fs.get k with
      | none => rw [get_absent hp hg]
      | some v =>
        obtain ⟨v', hv, hg'⟩ := get_sub hf he hp hg
        rw [hg']
        rcases val_cases hv with ⟨df, df', rfl, rfl, hd⟩ | ⟨hnv, hnv'⟩
        · exact getPath_kept rest sub df df' hm hd
        · exact (Val.getPath_nonmsg hnv' rest).trans (Val.getPath_nonmsg hnv rest).symm

theorem getPath_cleared : ∀ (p : Path) (mask : Mask) (fs fs' : Fields),
    reach p mask = some (!W.isFilter) → W.fields mask fs = some fs' → fs'.getPath p = none
  | [], _, _, _, h, _ => by cases h
  | k :: rest, mask, fs, fs', h, hp => by
    rcases reach_cons h with ⟨hf, hc⟩ | ⟨sub, hf, ⟨he, hc⟩ | ⟨he, hr, hm⟩⟩
    · refine Fields.getPath_of_get_none ?_ rest
      rw [get_unnamed hf hp, if_pos (by simpa using hc)]
    · refine Fields.getPath_of_get_none ?_ rest
      rw [get_named hf he hp, if_neg (by simpa using hc)]
    · rw [Fields.getPath_cons _ _ hr]
      cases hg : fs.get k with
      | none => rw [get_absent hp hg]; rfl
      | some v =>
        obtain ⟨v', hv, hg'⟩ := get_sub hf he hp hg
        rw [hg']
        rcases val_cases hv with ⟨df, df', _, rfl, hd⟩ | ⟨_, hnm⟩
        · exact getPath_cleared rest sub df df' hm hd
        · exact Val.getPath_nonmsg hnm rest

theorem msg_getPath_kept {p : Path} (hr : reach p mask = some W.isFilter) (h : W.msg mask fs = some fs') :
    fs'.getPath p = fs.getPath p := by
  rcases msg_cases h with rfl | h
  · rfl
  · exact getPath_kept p mask fs fs' hr h

/-- The same under a key (`Fields.getPath_single`). -/
theorem msg_get_kept (hr : reach [k] mask = some W.isFilter) (h : W.msg mask fs = some fs') :
    fs'.get k = fs.get k :=
  msg_getPath_kept (p := [k]) hr h

theorem msg_of_not_empty (he : mask.isEmpty = false) (fs : Fields) : W.msg mask fs = W.fields mask fs := by
  unfold msg; rw [he]; rfl

end Walk

theorem filterMsg_of_not_empty {mask : Mask} (he : mask.isEmpty = false) (fs : Fields) :
    filterMsg mask fs = filterFields mask fs :=
  filterWalk.msg_of_not_empty he fs

theorem pruneMsg_of_not_empty {mask : Mask} (he : mask.isEmpty = false) (fs : Fields) :
    pruneMsg mask fs = pruneFields mask fs :=
  pruneWalk.msg_of_not_empty he fs

end ScVerif.C05
