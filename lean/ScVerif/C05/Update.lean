import ScVerif.C05.Lib
/-
Model of `pkg/masks/update.go` (`FieldUpdater.Validate`, `FieldUpdater.Merge`, `pruneEmpty`) and of the
option plumbing in `pkg/resource/opt.go` (`WriteRequest.fieldUpdater`) and
`Value.set` as far as masks are concerned.  A mask is `Option (List Path)`: `none` is Go's nil
`*FieldMask`.
-/
namespace ScVerif.C05

structure Updater where
  writable : Option (List Path)
  update : Option (List Path)
  reset : Option (List Path)
deriving Repr, Inhabited

/-- gRPC status codes returned by `Validate`. -/
inductive Code where
  | ok | invalidArgument | internal
deriving DecidableEq, Repr, Inhabited

def Code.show : Code → String
  | .ok => "OK"
  | .invalidArgument => "InvalidArgument"
  | .internal => "Internal"

/-- The reset-mask clause of `Validate`. -/
def validateReset (S : Schema) (ty : Nat) (u : Updater) : Code :=
  match u.reset with
  | some R => if isValid S ty R then .ok else .internal
  | none => .ok

/-- `isWritablePath(path, writable)`: the path is a writable path or lies inside one. -/
def isWritablePath (W : List Path) (p : Path) : Bool := W.any (fun w => hasPrefix p w)

/-- `FieldUpdater.Validate(m)`. -/
def validate (S : Schema) (ty : Nat) (u : Updater) : Code :=
  match u.update with
  | some M =>
    if !isValid S ty M then .invalidArgument
    else
      match u.writable with
      | some W =>
        if !M.all (isWritablePath W) then .invalidArgument else validateReset S ty u
      | none => validateReset S ty u
  | none => validateReset S ty u

/-- `pruneEmpty(dst, src, mask)`: a populated field of dst that the mask names and src lacks is
cleared — unless it is a singular message that the mask only names through deeper paths, then just
those are pruned from it (`fieldMask.Prune`, which may panic: `none`); singular message fields
present on both sides are visited with the nested mask. -/
def pruneEmpty (mask : Mask) (src : Fields) : Fields → Out Fields
  | .nil => some .nil
  | .cons k v rest =>
    match mask.find k with
    | none => (pruneEmpty mask src rest).map (.cons k v)
    | some sub =>
      match src.get k with
      | none =>
        match v with
        | .msg df =>
          if sub.isEmpty then pruneEmpty mask src rest            -- dstPr.Clear(d)
          else
            match pruneFields sub df with                         -- fieldMask.Prune(dst.f)
            | none => none
            | some df' => (pruneEmpty mask src rest).map (.cons k (.msg df'))
        | _ => pruneEmpty mask src rest                           -- dstPr.Clear(d)
      | some sv =>
        match v, sv with
        | .msg df, .msg sf =>
          match pruneEmpty sub sf df with
          | none => none
          | some df' => (pruneEmpty mask src rest).map (.cons k (.msg df'))
        | _, _ => (pruneEmpty mask src rest).map (.cons k v)

/-- Result of `Merge`: the new dst and the (mutated in place) src. -/
structure Merged where
  dst : Fields
  src : Fields
deriving DecidableEq, Repr, Inhabited

/-- `FieldUpdater.reset(dst)`. -/
def resetDst (u : Updater) (dst : Fields) : Out Fields :=
  match u.reset with
  | none => some dst
  | some R => pruneMsg (nestedMask R) dst

/-- `FieldUpdater.Merge(dst, src)`; `none` is a panic inside fmutils. -/
def merge (S : Schema) (ty : Nat) (u : Updater) (dst src : Fields) : Out Merged :=
  if u.writable = some [] then
    -- nothing is writable: only the reset mask applies (an empty update mask still means no changes)
    if u.update = some [] then some ⟨dst, src⟩ else (resetDst u dst).map (⟨·, src⟩)
  else
    let wmask : Mask := match u.writable with
      | some W => nestedMask W
      | none => .nil
    -- writableMask.Filter(src)
    match filterMsg wmask src with
    | none => none
    | some src1 =>
      -- mask == nil: make dst look like src;  empty non-nil mask: no changes
      let dst1? : Option (Out Fields) :=
        match u.update with
        | none => some (if u.writable.isNone then some .nil else pruneMsg wmask dst)
        | some [] => none
        | some _ => some (some dst)
      match dst1? with
      | none => some ⟨dst, src1⟩                               -- early return
      | some none => none
      | some (some dst1) =>
        let umask := nestedMask (u.update.getD [])
        match filterMsg umask src1 with
        | none => none
        | some src2 =>
          let dst2 := mergeFields S ty dst1 src2
          match pruneEmpty umask src2 dst2 with
          | none => none
          | some dst3 => (resetDst u dst3).map (⟨·, src2⟩)

/-- The `masks.FieldUpdaterOption`s that `WriteRequest.fieldUpdater` uses. -/
inductive FUOpt where
  | withUpdateMask (m : Option (List Path))       -- masks.WithUpdateMask
  | withResetMask (m : Option (List Path))        -- masks.WithResetMask
  | withWritableFields (m : Option (List Path))   -- masks.WithWritableFields
deriving DecidableEq, Repr, Inhabited

/-- `opt(updater)`.  `WithUpdateMask` and `WithWritableFields` return `emptyFieldUpdaterOption` for a
NIL mask only (`== nil`, not `len(paths) == 0`): a non-nil mask without paths is stored as it is —
for the writable fields it means "nothing is writable", for the update mask "no changes". -/
def FUOpt.apply (u : Updater) : FUOpt → Updater
  | .withUpdateMask none => u
  | .withUpdateMask (some M) => { u with update := some M }
  | .withResetMask m => { u with reset := m }
  | .withWritableFields none => u
  | .withWritableFields (some W) => { u with writable := some W }

/-- `masks.NewFieldUpdater(opts...)` (the default option only sets the field name of error texts). -/
def newFieldUpdater (opts : List FUOpt) : Updater := opts.foldl FUOpt.apply ⟨none, none, none⟩

/-- `WriteRequest.fieldUpdater(writableFields)`, the request's fields given as loose arguments (what the
driver's `set` / `iset` lines carry; `WriteRequest.fieldUpdater` in `Opts.lean` is this on a request
record): update and reset mask of the request, and — unless
`WithAllFieldsWritable` or the resource has no writable fields — `masks.WithWritableFields` of the
resource writable fields ∪ per-call extra writable fields (already normalised by
`WithMoreWritableFields`). -/
def fieldUpdater (resWritable more : Option (List Path)) (allWritable : Bool)
    (update reset : Option (List Path)) : Updater :=
  let opts : List FUOpt := [.withUpdateMask update, .withResetMask reset]
  let opts : List FUOpt :=
    if !allWritable then
      match resWritable with
      | some w => opts ++ [.withWritableFields (some (union w (more.getD [])))]
      | none => opts
    else opts
  newFieldUpdater opts

/-- `WithMoreWritableFields(m)` on a fresh request: `Union(nil, m)`. -/
def moreWritable (m : Option (List Path)) : Option (List Path) := m.map normalize

inductive SetOut where
  | err (c : Code)
  | panic
  | ok (stored : Fields) (src : Fields)
deriving DecidableEq, Repr, Inhabited

/-- `Value.set` (no interceptors, no expectations): validate, then merge into a clone of the stored
value (an empty message when nothing is stored) and save. -/
def valueSet (S : Schema) (ty : Nat) (u : Updater) (stored src : Fields) : SetOut :=
  match validate S ty u with
  | .ok =>
    match merge S ty u stored src with
    | none => .panic
    | some r => .ok r.dst r.src
  | c => .err c

end ScVerif.C05
