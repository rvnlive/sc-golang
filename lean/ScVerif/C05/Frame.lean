import ScVerif.C05.Walk
/-
`proto.Merge` and `pruneEmpty` along a path through singular messages, and the shape every pass keeps
along the path (unique keys, kinds that agree with the other message).
-/
namespace ScVerif.C05

/-- No oneof assignment can displace a field of `p` (clearing the other members of a oneof is inherent in
assigning one and is not counted against the frame). -/
def NoDispAlong (S : Schema) : Nat → Path → Prop
  | _, [] => True
  | ty, k :: rest => (∀ n, k ∉ S.sibs ty n) ∧ NoDispAlong S (S.child ty k) rest

/-- Keys are unique in every message on the way down `p`, as in every message the harness serialises from
a real protobuf message. -/
def NoDupAlong : Path → Fields → Prop
  | [], _ => True
  | k :: rest, fs => fs.keys.Nodup ∧ ∀ sub, fs.get k = some (.msg sub) → NoDupAlong rest sub

/-- On the way down `p`, `src` never holds a non-message where `dst` holds a message (both follow
one schema). -/
def Agree : Path → Fields → Fields → Prop
  | [], _, _ => True
  | k :: rest, dst, src =>
    match src.get k with
    | none => True
    | some (.msg sf) => ∀ df, dst.get k = some (.msg df) → Agree rest df sf
    | some _ => ∀ df, dst.get k ≠ some (.msg df)

/-- The message type of what lies at `p`: the type `proto.Merge` recurses with. -/
def childAt (S : Schema) : Nat → Path → Nat
  | ty, [] => ty
  | ty, k :: rest => childAt S (S.child ty k) rest

theorem agree_cons {k : Name} {rest : Path} {dst src : Fields} :
    Agree (k :: rest) dst src ↔
      ∀ v, src.get k = some v → ∀ df, dst.get k = some (.msg df) → ∃ sf, v = .msg sf ∧ Agree rest df sf := by
  rw [Agree]
  cases src.get k with
  | none => exact ⟨fun _ _ h => (nomatch h), fun _ => trivial⟩
  | some v =>
    cases v with
    | msg sf =>
      exact ⟨fun h _ hv df hd => by cases hv; exact ⟨sf, rfl, h df hd⟩,
        fun h df hd => by obtain ⟨_, e, ha⟩ := h _ rfl df hd; cases e; exact ha⟩
    | _ =>
      exact ⟨fun h _ _ df hd => absurd hd (h df),
        fun h df hd => by obtain ⟨_, e, _⟩ := h _ rfl df hd; cases e⟩

theorem mergeVal_sc (S : Schema) (c : Nat) (old : Option Val) (s : String) : mergeVal S c old (.sc s) = .sc s := rfl

theorem mergeVal_msg_msg (S : Schema) (c : Nat) (df sf : Fields) :
    mergeVal S c (some (.msg df)) (.msg sf) = .msg (mergeFields S c df sf) := rfl

theorem mergeVal_none (S : Schema) (c : Nat) (v : Val) : mergeVal S c none v = v := by
  cases v <;> simp [mergeVal]

theorem mergeVal_old_nonmsg (S : Schema) (c : Nat) (old : Option Val) (sf : Fields)
    (h : ∀ df, old ≠ some (.msg df)) : mergeVal S c old (.msg sf) = .msg sf := by
  cases old with
  | none => simp [mergeVal]
  | some w =>
    cases w with
    | msg df => exact absurd rfl (h df)
    | _ => simp [mergeVal]

theorem mergeVal_scs_other (S : Schema) (c : Nat) (old : Option Val) (xs : List String)
    (h : ∀ ys, old ≠ some (.scs ys)) : mergeVal S c old (.scs xs) = .scs xs := by
  cases old with
  | none => simp [mergeVal]
  | some w =>
    cases w with
    | scs ys => exact absurd rfl (h ys)
    | _ => simp [mergeVal]

theorem mergeVal_msgs_other (S : Schema) (c : Nat) (old : Option Val) (xs : Msgs)
    (h : ∀ ys, old ≠ some (.msgs ys)) : mergeVal S c old (.msgs xs) = .msgs xs := by
  cases old with
  | none => simp [mergeVal]
  | some w =>
    cases w with
    | msgs ys => exact absurd rfl (h ys)
    | _ => simp [mergeVal]

theorem mergeVal_map_other (S : Schema) (c : Nat) (old : Option Val) (es : List (String × String))
    (h : ∀ ds, old ≠ some (.map ds)) : mergeVal S c old (.map es) = .map es := by
  cases old with
  | none => simp [mergeVal]
  | some w =>
    cases w with
    | map ds => exact absurd rfl (h ds)
    | _ => simp [mergeVal]

theorem mergeVal_nonmsg (S : Schema) (c : Nat) (old : Option Val) (v : Val) (h : ∀ sf, v ≠ .msg sf) :
    ∀ df, mergeVal S c old v ≠ .msg df := by
  intro df
  cases v with
  | msg sf => exact absurd rfl (h sf)
  | sc _ => simp [mergeVal]
  | scs _ => simp only [mergeVal]; split <;> simp
  | msgs _ => simp only [mergeVal]; split <;> simp
  | map _ => simp only [mergeVal]; split <;> simp

theorem mergeVal_eq_msg {S : Schema} {c : Nat} {old : Option Val} {v : Val} {X : Fields}
    (h : mergeVal S c old v = .msg X) :
    ∃ sf, v = .msg sf ∧
      ((∃ df, old = some (.msg df) ∧ X = mergeFields S c df sf) ∨ (∀ df, old ≠ some (.msg df)) ∧ X = sf) := by
  cases hvm : v.msg? with
  | none => exact absurd h (mergeVal_nonmsg S c old v (Val.msg?_eq_none.mp hvm) X)
  | some sf =>
    cases Val.msg?_eq_some.mp hvm
    refine ⟨sf, rfl, ?_⟩
    by_cases hdm : ∃ df, old = some (.msg df)
    · obtain ⟨df, rfl⟩ := hdm
      rw [mergeVal_msg_msg, Val.msg.injEq] at h
      exact Or.inl ⟨df, rfl, h.symm⟩
    · have hnm : ∀ df, old ≠ some (.msg df) := fun df e => hdm ⟨df, e⟩
      rw [mergeVal_old_nonmsg S c old sf hnm, Val.msg.injEq] at h
      exact Or.inr ⟨hnm, h.symm⟩

/-- Where the source holds nothing at `p` what is stored stays only if the source does not replace a
stored message on the way by a non-message (`Agree`), or nothing is stored at `p` anyway.  By induction
on `p`: `get_mergeFields` under the first segment, then by whether the source and the stored side hold
a message there (both: one level down; source only: the source's message is stored as it is; source a
non-message: nothing lies below on either side). -/
theorem getPath_mergeFields (S : Schema) : ∀ (p : Path) (ty : Nat) (dst src : Fields),
    NoDupAlong p src → NoDispAlong S ty p →
    (src.getPath p = none → Agree p dst src ∨ dst.getPath p = none) →
    (mergeFields S ty dst src).getPath p =
      match src.getPath p with
      | none => dst.getPath p
      | some v => some (mergeVal S (childAt S ty p) (dst.getPath p) v)
  | [], _, _, _, _, _, _ => rfl
  | k :: rest, ty, dst, src, hn, hd, hc => by
    have hg := get_mergeFields S ty k hd.1 src dst hn.1
    by_cases hr : rest = []
    · subst hr
      simp only [Fields.getPath_single, childAt]
      rw [hg]
      cases src.get k <;> rfl
    rw [Fields.getPath_cons src _ hr, Fields.getPath_cons dst _ hr] at hc
    rw [Fields.getPath_cons _ _ hr, Fields.getPath_cons src _ hr, Fields.getPath_cons dst _ hr, hg]
    cases hs : src.get k with
    | none => rfl
    | some w =>
      rw [hs] at hc
      simp only [Option.bind_some] at hc ⊢
      by_cases hw : ∃ sf, w = .msg sf
      · obtain ⟨sf, rfl⟩ := hw
        by_cases hdm : ∃ df, dst.get k = some (.msg df)
        · obtain ⟨df, hdg⟩ := hdm
          rw [hdg]
          simp only [mergeVal_msg_msg, Val.getPath, Option.bind_some, childAt]
          refine getPath_mergeFields S rest _ df sf (hn.2 sf hs) hd.2 fun hnone => ?_
          refine (hc hnone).imp (fun ha => ?_) (fun h => by simpa [hdg, Val.getPath] using h)
          obtain ⟨_, e, ha'⟩ := agree_cons.mp ha _ hs df hdg
          cases e; exact ha'
        · have hnm : ∀ df, dst.get k ≠ some (.msg df) := fun df e => hdm ⟨df, e⟩
          rw [mergeVal_old_nonmsg S _ _ sf hnm, Val.bind_getPath_nonmsg hnm rest]
          simp only [Val.getPath]
          cases sf.getPath rest with
          | none => rfl
          | some v => simp only [mergeVal_none]
      · have hnw : ∀ sf, w ≠ .msg sf := fun sf e => hw ⟨sf, e⟩
        rw [Val.getPath_nonmsg hnw rest] at hc ⊢
        rw [Val.getPath_nonmsg (mergeVal_nonmsg S _ _ w hnw) rest]
        rcases hc rfl with ha | h
        · refine (Val.bind_getPath_nonmsg (fun df e => ?_) rest).symm
          obtain ⟨sf, e', _⟩ := agree_cons.mp ha _ hs df e
          exact hnw sf e'
        · exact h.symm

theorem getPath_mergeVal (S : Schema) {t : Path} {c : Nat} (old : Option Val) {sf : Fields} {v : Val}
    (hn : NoDupAlong t sf) (hd : NoDispAlong S c t) (hv : sf.getPath t = some v) :
    (mergeVal S c old (.msg sf)).getPath t =
      some (mergeVal S (childAt S c t) (old.bind (·.getPath t)) v) := by
  by_cases hdm : ∃ df, old = some (.msg df)
  · obtain ⟨df, rfl⟩ := hdm
    simp only [mergeVal_msg_msg, Val.getPath, Option.bind_some]
    rw [getPath_mergeFields S t c df sf hn hd (fun e => by rw [hv] at e; cases e), hv]
  · have hnm : ∀ df, old ≠ some (.msg df) := fun df e => hdm ⟨df, e⟩
    rw [mergeVal_old_nonmsg S _ _ sf hnm, Val.bind_getPath_nonmsg hnm t, Val.getPath, hv, mergeVal_none]

theorem noDupAlong_mergeFields (S : Schema) : ∀ (p : Path) (ty : Nat) (dst src : Fields),
    NoDupAlong p dst → NoDupAlong p src → NoDispAlong S ty p →
    NoDupAlong p (mergeFields S ty dst src)
  | [], _, _, _, _, _, _ => trivial
  | k :: rest, ty, dst, src, hd, hs, hnd => by
    refine ⟨nodup_mergeFields S ty src dst hd.1, fun X hX => ?_⟩
    rw [get_mergeFields S ty k hnd.1 src dst hs.1] at hX
    cases hsg : src.get k with
    | none => rw [hsg] at hX; exact hd.2 X hX
    | some v =>
      rw [hsg] at hX
      obtain ⟨sf, rfl, ⟨df, hdg, rfl⟩ | ⟨_, rfl⟩⟩ := mergeVal_eq_msg (Option.some.inj hX)
      · exact noDupAlong_mergeFields S rest _ df sf (hd.2 df hdg) (hs.2 sf hsg) hnd.2
      · exact hs.2 _ hsg

theorem agree_self : ∀ (p : Path) (fs : Fields), Agree p fs fs
  | [], _ => trivial
  | k :: rest, fs => by
    rw [agree_cons]
    intro v hv df hd
    rw [hv] at hd; cases hd
    exact ⟨df, rfl, agree_self rest df⟩

theorem agree_mergeFields (S : Schema) : ∀ (p : Path) (ty : Nat) (dst src : Fields),
    NoDupAlong p src → NoDispAlong S ty p → Agree p (mergeFields S ty dst src) src
  | [], _, _, _, _, _ => trivial
  | k :: rest, ty, dst, src, hn, hd => by
    rw [agree_cons]
    intro v hv X hX
    rw [get_mergeFields S ty k hd.1 src dst hn.1, hv] at hX
    obtain ⟨sf, rfl, ⟨df, _, rfl⟩ | ⟨_, rfl⟩⟩ := mergeVal_eq_msg (Option.some.inj hX)
    · exact ⟨sf, rfl, agree_mergeFields S rest _ df sf (hn.2 sf hv) hd.2⟩
    · exact ⟨_, rfl, agree_self rest _⟩

namespace Walk
variable {W : Walk}

theorem noDupAlong : ∀ (p : Path) (mask : Mask) (fs fs' : Fields),
    W.fields mask fs = some fs' → NoDupAlong p fs → NoDupAlong p fs'
  | [], _, _, _, _, _ => trivial
  | k :: rest, mask, fs, fs', hp, h => by
    refine ⟨nodup hp h.1, fun df' hg => ?_⟩
    obtain ⟨v, hgf, rfl | ⟨sub, hv⟩⟩ := get_inv hp hg
    · exact h.2 _ hgf
    · rcases val_cases hv with ⟨df, _, rfl, e, hd⟩ | ⟨_, hnm⟩
      · cases e; exact noDupAlong rest sub df df' hd (h.2 df hgf)
      · exact absurd rfl (hnm df')

theorem agree_src : ∀ (p : Path) (mask : Mask) (dst fs fs' : Fields),
    W.fields mask fs = some fs' → Agree p dst fs → Agree p dst fs'
  | [], _, _, _, _, _, _ => trivial
  | k :: rest, mask, dst, fs, fs', hp, h => by
    rw [agree_cons] at h ⊢
    intro v' hg df hdf
    obtain ⟨v, hgf, rfl | ⟨sub, hv⟩⟩ := get_inv hp hg
    · exact h _ hgf df hdf
    · obtain ⟨sf, rfl, ha⟩ := h v hgf df hdf
      rcases val_cases hv with ⟨_, sf', e, rfl, hd⟩ | ⟨hnv, _⟩
      · cases e; exact ⟨sf', rfl, agree_src rest sub df sf sf' hd ha⟩
      · exact absurd rfl (hnv sf)

theorem agree_dst : ∀ (p : Path) (mask : Mask) (dst dst' src : Fields),
    W.fields mask dst = some dst' → Agree p dst src → Agree p dst' src
  | [], _, _, _, _, _, _ => trivial
  | k :: rest, mask, dst, dst', src, hp, h => by
    rw [agree_cons] at h ⊢
    intro v hs df' hg
    obtain ⟨w, hgf, rfl | ⟨sub, hv⟩⟩ := get_inv hp hg
    · exact h v hs df' hgf
    · rcases val_cases hv with ⟨df, _, rfl, e, hd⟩ | ⟨_, hnm⟩
      · cases e
        obtain ⟨sf, rfl, ha⟩ := h v hs df hgf
        exact ⟨sf, rfl, agree_dst rest sub df df' sf hd ha⟩
      · exact absurd rfl (hnm df')

variable {p : Path} {mask : Mask} {fs fs' : Fields}

theorem msg_noDupAlong (h : W.msg mask fs = some fs') (hn : NoDupAlong p fs) : NoDupAlong p fs' := by
  rcases msg_cases h with rfl | h
  · exact hn
  · exact noDupAlong p mask fs fs' h hn

theorem msg_agree_src {dst : Fields} (h : W.msg mask fs = some fs') (ha : Agree p dst fs) :
    Agree p dst fs' := by
  rcases msg_cases h with rfl | h
  · exact ha
  · exact agree_src p mask dst fs fs' h ha

theorem msg_agree_dst {src : Fields} (h : W.msg mask fs = some fs') (ha : Agree p fs src) :
    Agree p fs' src := by
  rcases msg_cases h with rfl | h
  · exact ha
  · exact agree_dst p mask fs fs' src h ha

end Walk

theorem pruneEmpty_nil (src : Fields) : ∀ dst : Fields, pruneEmpty .nil src dst = some dst
  | .nil => by simp [pruneEmpty]
  | .cons a v rest => by
    rw [pruneEmpty]
    simp [Mask.find, pruneEmpty_nil src rest]

theorem getPath_pruneEmpty_kept : ∀ (p : Path) (mask : Mask) (src dst dst' : Fields),
    reach p mask = some false → NoDupAlong p dst → pruneEmpty mask src dst = some dst' →
    dst'.getPath p = dst.getPath p
  | [], _, _, _, _, h, _, _ => by cases h
  | k :: rest, mask, src, dst, dst', h, hn, hp => by
    rcases reach_cons h with ⟨hf, _⟩ | ⟨sub, hf, ⟨_, hc⟩ | ⟨he, hr, hm⟩⟩
    · exact Fields.getPath_congr (get_pruneEmpty_other hf hp) rest
    · cases hc
    · rw [Fields.getPath_cons _ _ hr, Fields.getPath_cons _ _ hr]
      cases hs : src.get k with
      | none =>
        rcases get_pruneEmpty_lacking hf hs hn.1 hp with ⟨hg', he' | hnm⟩ | ⟨df, df', _, hg, hd, hg'⟩
        · rw [he] at he'; cases he'
        · rw [hg', Val.bind_getPath_nonmsg hnm rest]; rfl
        · rw [hg', hg]; exact pruneWalk.getPath_kept rest sub df df' hm hd
      | some sv =>
        rcases get_pruneEmpty_present hf hs hn.1 hp with ⟨df, sf, df', hg, _, hd, hg'⟩ | ⟨hg', _⟩
        · rw [hg', hg]; exact getPath_pruneEmpty_kept rest sub sf df df' hm (hn.2 df hg) hd
        · rw [hg']

theorem noDupAlong_pruneEmpty : ∀ (p : Path) (mask : Mask) (src dst dst' : Fields),
    pruneEmpty mask src dst = some dst' → NoDupAlong p dst → NoDupAlong p dst'
  | [], _, _, _, _, _, _ => trivial
  | k :: rest, mask, src, dst, dst', hp, h => by
    refine ⟨nodup_pruneEmpty hp h.1, fun X hX => ?_⟩
    cases hf : mask.find k with
    | none => exact h.2 X (get_pruneEmpty_other hf hp ▸ hX)
    | some sub =>
      cases hs : src.get k with
      | none =>
        rcases get_pruneEmpty_lacking hf hs h.1 hp with ⟨hg', _⟩ | ⟨df, df', _, hg, hd, hg'⟩
        · rw [hg'] at hX; cases hX
        · rw [hg'] at hX; cases hX; exact pruneWalk.noDupAlong rest sub df X hd (h.2 df hg)
      | some sv =>
        rcases get_pruneEmpty_present hf hs h.1 hp with ⟨df, sf, df', hg, _, hd, hg'⟩ | ⟨hg', _⟩
        · rw [hg'] at hX; cases hX; exact noDupAlong_pruneEmpty rest sub sf df X hd (h.2 df hg)
        · exact h.2 X (hg' ▸ hX)

/-- Holds for any dst that has no message where the written message has a non-message on the way down
(`Agree`); what `proto.Merge` returns is so (`agree_mergeFields`). -/
theorem getPath_pruneEmpty_names : ∀ (p : Path) (mask : Mask) (src dst dst' : Fields),
    names p mask = true → NoDupAlong p dst → Agree p dst src → pruneEmpty mask src dst = some dst' →
    dst'.getPath p = if src.getPath p = none then none else dst.getPath p
  | [], _, _, _, _, h, _, _, _ => by simp [names] at h
  | k :: rest, mask, src, dst, dst', h, hn, ha, hp => by
    obtain ⟨sub, hf, ⟨rfl, he⟩ | ⟨hr, he, hnm⟩⟩ := names_cons h
    · -- restated, not rewritten: the `Decidable` instance of the `if` has to speak of `src.get k` as well
      show dst'.get k = if src.get k = none then none else dst.get k
      cases hs : src.get k with
      | none =>
        rcases get_pruneEmpty_lacking hf hs hn.1 hp with ⟨hg', _⟩ | ⟨_, _, he', _⟩
        · rw [hg', if_pos rfl]
        · rw [he] at he'; cases he'
      | some sv =>
        rw [if_neg (by simp)]
        rcases get_pruneEmpty_present hf hs hn.1 hp with ⟨df, sf, df', hg, _, hd, hg'⟩ | ⟨hg', _⟩
        · rw [mask_eq_nil_of_isEmpty he, pruneEmpty_nil] at hd
          cases hd; rw [hg', hg]
        · exact hg'
    · rw [Fields.getPath_cons _ _ hr, Fields.getPath_cons src _ hr, Fields.getPath_cons dst _ hr]
      cases hs : src.get k with
      | none =>
        -- nothing written under `k`: what is stored there is pruned below `k`, or cleared
        rw [Option.bind_none, if_pos rfl]
        rcases get_pruneEmpty_lacking hf hs hn.1 hp with ⟨hg', _⟩ | ⟨df, df', _, _, hd, hg'⟩
        · rw [hg']; rfl
        · rw [hg']; exact pruneWalk.getPath_cleared rest sub df df' (names_reach hnm) hd
      | some sv =>
        rcases get_pruneEmpty_present hf hs hn.1 hp with ⟨df, sf, df', hg, rfl, hd, hg'⟩ | ⟨hg', hnv⟩
        · obtain ⟨_, e, ha'⟩ := agree_cons.mp ha _ hs df hg
          cases e
          rw [hg', hg]
          exact getPath_pruneEmpty_names rest sub sf df df' hnm (hn.2 df hg) ha' hd
        · -- one side holds a non-message under `k`; then, by `Agree`, the stored side does
          have hd : ∀ df, dst.get k ≠ some (.msg df) := hnv.elim id fun hsv df e => by
            obtain ⟨sf, e', _⟩ := agree_cons.mp ha _ hs df e
            exact hsv sf e'
          rw [hg', Val.bind_getPath_nonmsg hd rest, ite_self]

theorem getPath_append : ∀ (q t : Path) (fs : Fields), q ≠ [] → t ≠ [] →
    fs.getPath (q ++ t) = (fs.getPath q).bind (·.getPath t)
  | [], _, _, h, _ => absurd rfl h
  | [k], t, fs, _, ht => Fields.getPath_cons fs k ht
  | k :: k' :: r, t, fs, _, ht => by
    rw [List.cons_append, Fields.getPath_cons _ _ (by simp), Fields.getPath_cons _ _ (by simp)]
    cases fs.get k with
    | none => rfl
    | some v =>
      cases v with
      | msg X => exact getPath_append (k' :: r) t X (by simp) ht
      | _ => rfl

theorem noDupAlong_append : ∀ (q t : Path) (fs : Fields), NoDupAlong (q ++ t) fs →
    NoDupAlong q fs ∧ (q ≠ [] → ∀ X, fs.getPath q = some (.msg X) → NoDupAlong t X)
  | [], _, _, _ => ⟨trivial, fun h => absurd rfl h⟩
  | [k], t, fs, h =>
    ⟨⟨h.1, fun _ _ => trivial⟩, fun _ X hX => h.2 X hX⟩
  | k :: k' :: r, t, fs, h => by
    refine ⟨⟨h.1, fun sub hs => (noDupAlong_append (k' :: r) t sub (h.2 sub hs)).1⟩, fun _ X hX => ?_⟩
    rw [Fields.getPath_cons _ _ (by simp)] at hX
    cases hg : fs.get k with
    | none => rw [hg] at hX; cases hX
    | some v =>
      rw [hg] at hX
      cases v with
      | msg sub => exact (noDupAlong_append (k' :: r) t sub (h.2 sub hg)).2 (by simp) X hX
      | _ => cases hX

theorem childAt_append (S : Schema) : ∀ (q t : Path) (ty : Nat),
    childAt S ty (q ++ t) = childAt S (childAt S ty q) t
  | [], _, _ => rfl
  | k :: r, t, ty => by simp [childAt, childAt_append S r t]

theorem noDispAlong_append (S : Schema) : ∀ (q t : Path) (ty : Nat), NoDispAlong S ty (q ++ t) →
    NoDispAlong S ty q ∧ NoDispAlong S (childAt S ty q) t
  | [], _, _, h => ⟨trivial, h⟩
  | k :: r, t, ty, h => by
    have := noDispAlong_append S r t (S.child ty k) h.2
    exact ⟨⟨h.1, this.1⟩, this.2⟩

end ScVerif.C05
