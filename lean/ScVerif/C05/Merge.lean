import ScVerif.C05.Frame
/-
What a `FieldUpdater.Merge` has done, by cases and as a sequence of passes (`MergeCase`), and the frame
theorems every other frame statement is an instance of.
-/
namespace ScVerif.C05

/-- The writable mask as `Merge` builds it (nil: everything is writable). -/
def writableMask (u : Updater) : Mask :=
  match u.writable with
  | some W => nestedMask W
  | none => .nil

/-- What the written message is merged into: with a nil update mask ("make dst look like src") the
stored message without its writable part. -/
def mergeBase (u : Updater) (dst : Fields) : Out Fields :=
  match u.update with
  | none => if u.writable.isNone then some .nil else pruneMsg (writableMask u) dst
  | some _ => some dst

theorem merge_nothing_writable {S : Schema} {ty : Nat} {u : Updater} {dst src : Fields}
    (hW : u.writable = some []) :
    merge S ty u dst src =
      if u.update = some [] then some ⟨dst, src⟩ else (resetDst u dst).map (⟨·, src⟩) := by
  unfold merge; rw [if_pos hW]

theorem merge_empty_mask {S : Schema} {ty : Nat} {u : Updater} {dst src : Fields} {r : Merged}
    (hM : u.update = some []) (h : merge S ty u dst src = some r) : r.dst = dst := by
  unfold merge at h
  simp only [hM, if_true] at h
  split at h
  · cases h; rfl
  · split at h
    · cases h
    · cases h; rfl

/-- What a `Merge` that does not panic has done, by the branch of the Go code: `unchanged`, the early
return on an empty non-nil update mask; `resetOnly`, nothing is writable and only `reset(dst)` runs;
`masked`, a non-empty update mask: src filtered to the writable fields and to `M`, `proto.Merge`,
`pruneEmpty`, reset; `replaced`, a nil update mask: the writable part of dst pruned away, the writable
part of src merged in, reset. -/
inductive MergeCase (S : Schema) (ty : Nat) (u : Updater) (dst src : Fields) (r : Merged) : Prop
  | unchanged (hM : u.update = some []) (hd : r.dst = dst)
  | resetOnly (hW : u.writable = some []) (hd : resetDst u dst = some r.dst)
  | masked (M : List Path) (src1 src2 d3 : Fields) (hM : u.update = some M) (hne : M ≠ [])
      (hf1 : filterMsg (writableMask u) src = some src1)
      (hf2 : filterMsg (nestedMask M) src1 = some src2)
      (hd3 : pruneEmpty (nestedMask M) src2 (mergeFields S ty dst src2) = some d3)
      (hd : resetDst u d3 = some r.dst)
  | replaced (src1 dst1 : Fields) (hM : u.update = none) (hW : u.writable ≠ some [])
      (hf1 : filterMsg (writableMask u) src = some src1) (hd1 : mergeBase u dst = some dst1)
      (hd : resetDst u (mergeFields S ty dst1 src1) = some r.dst)

theorem merge_cases {S : Schema} {ty : Nat} {u : Updater} {dst src : Fields} {r : Merged}
    (h : merge S ty u dst src = some r) : MergeCase S ty u dst src r := by
  by_cases hM : u.update = some []
  · exact .unchanged hM (merge_empty_mask hM h)
  by_cases hW : u.writable = some []
  · rw [merge_nothing_writable hW, if_neg hM] at h
    obtain ⟨d', hd', rfl⟩ := Option.map_eq_some_iff.mp h
    exact .resetOnly hW hd'
  unfold merge at h
  rw [if_neg hW] at h
  simp only at h
  split at h
  · cases h
  next src1 hf1 =>
    cases hu : u.update with
    | none =>
      simp only [hu] at h
      split at h
      next heq => cases heq
      · cases h
      next dst1 hd1 =>
        have hd1 := Option.some.inj hd1
        -- the second filter and `pruneEmpty` run with the mask of no paths: they do nothing
        simp only [Option.getD_none, show nestedMask [] = .nil from rfl, filterMsg, Mask.isEmpty, if_true,
          pruneEmpty_nil] at h
        obtain ⟨d', hd', rfl⟩ := Option.map_eq_some_iff.mp h
        exact .replaced src1 dst1 hu hW hf1 (by rw [mergeBase, hu]; exact hd1) hd'
    | some M =>
      cases M with
      | nil => exact absurd hu hM
      | cons m ms =>
        simp only [hu, Option.getD_some] at h
        split at h
        · cases h
        next src2 hf2 =>
          split at h
          · cases h
          next d3 hd3 =>
            obtain ⟨d', hd', rfl⟩ := Option.map_eq_some_iff.mp h
            exact .masked (m :: ms) src1 src2 d3 hu (List.cons_ne_nil m ms) hf1 hf2 hd3 hd'

theorem getPath_filter_writable {u : Updater} {p : Path} {src src1 : Fields}
    (hW : ∀ W, u.writable = some W → Clean W ∧ NonNil W ∧ ∃ w ∈ W, w <+: p) (hns : NoDupAlong p src)
    (hf : filterMsg (writableMask u) src = some src1) :
    src1.getPath p = src.getPath p ∧ NoDupAlong p src1 := by
  unfold writableMask at hf
  cases hw : u.writable with
  | none => rw [hw] at hf; cases hf; exact ⟨rfl, hns⟩
  | some W =>
    rw [hw] at hf
    obtain ⟨hWc, hWn, w, hwm, hwp⟩ := hW W hw
    exact ⟨filterWalk.msg_getPath_kept (reach_nestedMask_covered hWc hWn hwm hwp) hf,
      filterWalk.msg_noDupAlong hf hns⟩

theorem resetDst_none {u : Updater} (hr : u.reset = none) (d : Fields) : resetDst u d = some d := by
  unfold resetDst; rw [hr]

theorem resetDst_some {u : Updater} {R : List Path} (hr : u.reset = some R) (d : Fields) :
    resetDst u d = pruneMsg (nestedMask R) d := by
  unfold resetDst; rw [hr]

theorem resetDst_cases {u : Updater} {d d' : Fields} (h : resetDst u d = some d') :
    u.reset = none ∧ d' = d ∨ ∃ R, u.reset = some R ∧ pruneMsg (nestedMask R) d = some d' := by
  cases hr : u.reset with
  | none => rw [resetDst_none hr] at h; exact Or.inl ⟨rfl, (Option.some.inj h).symm⟩
  | some R => rw [resetDst_some hr] at h; exact Or.inr ⟨R, rfl, h⟩

theorem getPath_resetDst_unrelated {u : Updater} {p : Path} {d d' : Fields} (hp : p ≠ [])
    (hR : ∀ R, u.reset = some R → Clean R ∧ Unrelated p R) (h : resetDst u d = some d') :
    d'.getPath p = d.getPath p := by
  rcases resetDst_cases h with ⟨_, rfl⟩ | ⟨R, hr, h⟩
  · rfl
  · exact pruneWalk.msg_getPath_kept (reach_nestedMask_unrelated (hR R hr).1 hp (hR R hr).2) h

theorem getPath_prune_covered {R : List Path} (hc : Clean R) (hn : NonNil R) {p r : Path} (hr : r ∈ R)
    (hpre : r <+: p) {fs fs' : Fields} (h : pruneMsg (nestedMask R) fs = some fs') :
    fs'.getPath p = none := by
  rw [pruneMsg_of_not_empty (nestedMask_not_empty hc hn (List.ne_nil_of_mem hr))] at h
  exact pruneWalk.getPath_cleared p _ fs fs' (reach_nestedMask_covered hc hn hr hpre) h

theorem getPath_mergeBase_writable {u : Updater} {p : Path} {dst dst1 : Fields} (hM : u.update = none)
    (hW : ∀ W, u.writable = some W → Clean W ∧ NonNil W ∧ ∃ w ∈ W, w <+: p)
    (h : mergeBase u dst = some dst1) : dst1.getPath p = none := by
  rw [mergeBase, hM] at h
  cases hw : u.writable with
  | none =>
    simp only [hw, Option.isNone_none, if_true, Option.some.injEq] at h
    subst h; exact getPath_nil p
  | some W =>
    simp only [hw, writableMask, Option.isNone_some, Bool.false_eq_true, if_false] at h
    obtain ⟨hWc, hWn, w, hwm, hwp⟩ := hW W hw
    exact getPath_prune_covered hWc hWn hwm hwp h

theorem get_resetDst_noHead {u : Updater} {k : Name} {d d' : Fields}
    (hR : ∀ R, u.reset = some R → Clean R ∧ NoHead k R) (h : resetDst u d = some d') :
    d'.get k = d.get k := by
  rcases resetDst_cases h with ⟨_, rfl⟩ | ⟨R, hr, h⟩
  · rfl
  · exact pruneWalk.msg_get_kept (reach_of_find_none (find_nestedMask_noHead (hR R hr).1 (hR R hr).2)) h

theorem noDupAlong_resetDst {p : Path} {u : Updater} {d d' : Fields}
    (h : resetDst u d = some d') (hn : NoDupAlong p d) : NoDupAlong p d' := by
  rcases resetDst_cases h with ⟨_, rfl⟩ | ⟨_, _, h⟩
  · exact hn
  · exact pruneWalk.msg_noDupAlong h hn

/-- No write issued with `u` names the top-level field `k`: no path of the update mask — of the
writable fields when the update mask is nil ("all writable fields") — and none of the reset mask goes
through `k`.  With a nil update mask AND nil writable fields the whole message is replaced, so nothing
is avoided: the predicate is false there.  The masks are non-empty paths without empty segments
(`Clean`, `NonNil`: what `Validate` leaves when no field has the empty name). -/
def Avoids (k : Name) (u : Updater) : Prop :=
  (match u.update with
   | some M => Clean M ∧ NonNil M ∧ NoHead k M
   | none => ∃ W, u.writable = some W ∧ Clean W ∧ NonNil W ∧ NoHead k W) ∧
  (∀ R, u.reset = some R → Clean R ∧ NoHead k R)

namespace Avoids
variable {k : Name} {u : Updater}

theorem of_update {M : List Path} (hM : u.update = some M) (hc : Clean M) (hn : NonNil M) (hk : NoHead k M)
    (hR : ∀ R, u.reset = some R → Clean R ∧ NoHead k R) : Avoids k u :=
  ⟨by rw [hM]; exact ⟨hc, hn, hk⟩, hR⟩

theorem of_nil {W : List Path} (hM : u.update = none) (hW : u.writable = some W) (hc : Clean W) (hn : NonNil W)
    (hk : NoHead k W) (hR : ∀ R, u.reset = some R → Clean R ∧ NoHead k R) : Avoids k u :=
  ⟨by rw [hM]; exact ⟨W, hW, hc, hn, hk⟩, hR⟩

theorem update {M : List Path} (ha : Avoids k u) (hM : u.update = some M) : Clean M ∧ NonNil M ∧ NoHead k M := by
  have := ha.1; rwa [hM] at this

theorem nil (ha : Avoids k u) (hM : u.update = none) :
    ∃ W, u.writable = some W ∧ Clean W ∧ NonNil W ∧ NoHead k W := by
  have := ha.1; rwa [hM] at this

/-- Dropping the reset mask only makes the write touch less. -/
theorem drop_reset {w m R : Option (List Path)} (ha : Avoids k ⟨w, m, R⟩) : Avoids k ⟨w, m, none⟩ :=
  ⟨ha.1, fun _ h => nomatch h⟩

end Avoids

/-- The masked copy of the written message holds nothing under `k`, so `proto.Merge` leaves `k` alone
unless a oneof assignment displaces it; neither `pruneEmpty` nor the reset mask names `k`. -/
theorem merge_avoids (S : Schema) (ty : Nat) (u : Updater) (dst src : Fields) (r : Merged) (k : Name)
    (ha : Avoids k u) (hd : NotDisplaced S ty k) (h : merge S ty u dst src = some r) :
    r.dst.get k = dst.get k := by
  have hreset := ha.2
  rcases merge_cases h with ⟨_, hd'⟩ | ⟨_, hd'⟩ | ⟨M, src1, src2, d3, hM, hne, _, hf2, hd3, hd'⟩ |
    ⟨src1, dst1, hM, hW, hf1, hd1, hd'⟩
  · rw [hd']
  · exact get_resetDst_noHead hreset hd'
  · obtain ⟨hMc, hMn, hMk⟩ := ha.update hM
    have hfind := find_nestedMask_noHead hMc hMk
    rw [filterMsg_of_not_empty (nestedMask_not_empty hMc hMn hne)] at hf2
    rw [get_resetDst_noHead hreset hd', get_pruneEmpty_other hfind hd3,
      get_mergeFields_other S ty k hd src2 dst (filterWalk.get_unnamed hfind hf2)]
  · obtain ⟨W, hWw, hWc, hWn, hWk⟩ := ha.nil hM
    have hfind := find_nestedMask_noHead hWc hWk
    simp only [mergeBase, hM, writableMask, hWw, Option.isNone_some, Bool.false_eq_true, if_false] at hd1 hf1
    rw [filterMsg_of_not_empty (nestedMask_not_empty hWc hWn fun e => hW (hWw.trans (e ▸ rfl)))] at hf1
    rw [get_resetDst_noHead hreset hd',
      get_mergeFields_other S ty k hd src1 dst1 (filterWalk.get_unnamed hfind hf1)]
    exact pruneWalk.msg_get_kept (reach_of_find_none hfind) hd1

/-- The same for a path `p` at any depth: the masks are unrelated to `p` (none of their paths is a
prefix of `p`, `p` is a prefix of none). -/
def AvoidsPath (p : Path) (u : Updater) : Prop :=
  (match u.update with
   | some M => Clean M ∧ NonNil M ∧ Unrelated p M
   | none => ∃ W, u.writable = some W ∧ Clean W ∧ NonNil W ∧ Unrelated p W) ∧
  (∀ R, u.reset = some R → Clean R ∧ Unrelated p R)

namespace AvoidsPath
variable {p : Path} {u : Updater}

theorem of_update {M : List Path} (hM : u.update = some M) (hc : Clean M) (hn : NonNil M) (hp : Unrelated p M)
    (hR : ∀ R, u.reset = some R → Clean R ∧ Unrelated p R) : AvoidsPath p u :=
  ⟨by rw [hM]; exact ⟨hc, hn, hp⟩, hR⟩

theorem of_nil {W : List Path} (hM : u.update = none) (hW : u.writable = some W) (hc : Clean W) (hn : NonNil W)
    (hp : Unrelated p W) (hR : ∀ R, u.reset = some R → Clean R ∧ Unrelated p R) : AvoidsPath p u :=
  ⟨by rw [hM]; exact ⟨W, hW, hc, hn, hp⟩, hR⟩

theorem update {M : List Path} (ha : AvoidsPath p u) (hM : u.update = some M) :
    Clean M ∧ NonNil M ∧ Unrelated p M := by
  have := ha.1; rwa [hM] at this

theorem nil (ha : AvoidsPath p u) (hM : u.update = none) :
    ∃ W, u.writable = some W ∧ Clean W ∧ NonNil W ∧ Unrelated p W := by
  have := ha.1; rwa [hM] at this

end AvoidsPath

/-- The masked copy of the written message holds nothing at `p` (the mask does not get to `p`) and
agrees in kind with what it is merged into, so `proto.Merge` leaves `p` alone; `pruneEmpty` and the
reset mask do not get to `p` either; each pass keeps keys unique. -/
theorem merge_avoidsPath_agree (S : Schema) (ty : Nat) (u : Updater) (dst src : Fields) (r : Merged) (p : Path)
    (ha : AvoidsPath p u) (hp : p ≠ []) (hdisp : NoDispAlong S ty p)
    (hnd : NoDupAlong p dst) (hns : NoDupAlong p src) (hag : Agree p dst src)
    (h : merge S ty u dst src = some r) :
    r.dst.getPath p = dst.getPath p ∧ NoDupAlong p r.dst := by
  have hreset := ha.2
  rcases merge_cases h with ⟨_, hd'⟩ | ⟨_, hd'⟩ | ⟨M, src1, src2, d3, hM, hne, hf1, hf2, hd3, hd'⟩ |
    ⟨src1, dst1, hM, hW, hf1, hd1, hd'⟩
  · rw [hd']; exact ⟨rfl, hnd⟩
  · exact ⟨getPath_resetDst_unrelated hp hreset hd', noDupAlong_resetDst hd' hnd⟩
  · obtain ⟨hMc, hMn, hMu⟩ := ha.update hM
    have hmiss := reach_nestedMask_unrelated hMc hp hMu
    rw [filterMsg_of_not_empty (nestedMask_not_empty hMc hMn hne)] at hf2
    have hn2 := filterWalk.noDupAlong p _ src1 src2 hf2 (filterWalk.msg_noDupAlong hf1 hns)
    have ha2 := filterWalk.agree_src p _ dst src1 src2 hf2 (filterWalk.msg_agree_src hf1 hag)
    have hmerge := getPath_mergeFields S p ty dst src2 hn2 hdisp (fun _ => Or.inl ha2)
    rw [filterWalk.getPath_cleared p _ src1 src2 hmiss hf2] at hmerge
    have hn3 := noDupAlong_mergeFields S p ty dst src2 hnd hn2 hdisp
    exact ⟨by rw [getPath_resetDst_unrelated hp hreset hd',
        getPath_pruneEmpty_kept p _ src2 _ d3 hmiss hn3 hd3, hmerge],
      noDupAlong_resetDst hd' (noDupAlong_pruneEmpty p _ src2 _ d3 hd3 hn3)⟩
  · obtain ⟨W, hWw, hWc, hWn, hWu⟩ := ha.nil hM
    have hmiss := reach_nestedMask_unrelated hWc hp hWu
    simp only [mergeBase, hM, writableMask, hWw, Option.isNone_some, Bool.false_eq_true, if_false] at hd1 hf1
    rw [filterMsg_of_not_empty (nestedMask_not_empty hWc hWn fun e => hW (hWw.trans (e ▸ rfl)))] at hf1
    have hn2 := filterWalk.noDupAlong p _ src src1 hf1 hns
    have ha2 := filterWalk.agree_src p _ dst1 src src1 hf1 (pruneWalk.msg_agree_dst hd1 hag)
    have hmerge := getPath_mergeFields S p ty dst1 src1 hn2 hdisp (fun _ => Or.inl ha2)
    rw [filterWalk.getPath_cleared p _ src src1 hmiss hf1] at hmerge
    exact ⟨by rw [getPath_resetDst_unrelated hp hreset hd', hmerge,
        pruneWalk.msg_getPath_kept hmiss hd1],
      noDupAlong_resetDst hd'
        (noDupAlong_mergeFields S p ty dst1 src1 (pruneWalk.msg_noDupAlong hd1 hnd) hn2 hdisp)⟩

end ScVerif.C05
