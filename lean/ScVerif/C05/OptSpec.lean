import ScVerif.C05.OptLemmas
/-
Specification of the option plumbing, written by scanning the option list from the LAST option
backwards (the code folds it forwards), and `ComputeWriteConfig`'s fold taken apart into one fold per
field of the request (`foldl_apply_eq`), on which every `C05_options_*` theorem rests.
-/
namespace ScVerif.C05

/-- The update mask a list of options denotes, options given LAST FIRST: the mask of the last
`WithUpdateMask` decides — nil (or no such option) is nil whatever `WithMoreUpdateMask` options
follow it; a non-nil one is extended by the paths of the `WithMoreUpdateMask` options after it. -/
def specUpdateRev : List WOpt → Option (List Path)
  | [] => none
  | .updateMask m :: _ => m
  | .moreUpdateMask m :: earlier => (specUpdateRev earlier).map (· ++ m.getD [])
  | _ :: earlier => specUpdateRev earlier

def specUpdate (opts : List WOpt) : Option (List Path) := specUpdateRev opts.reverse

/-- The reset mask a list of options denotes, options given last first: the last `WithResetMask`. -/
def specResetRev : List WOpt → Option (List Path)
  | [] => none
  | .resetMask m :: _ => m
  | _ :: earlier => specResetRev earlier

def specReset (opts : List WOpt) : Option (List Path) := specResetRev opts.reverse

namespace WOpt

/-! What one option does to each field of the request, given what the field holds. -/

def update (acc : Option (List Path)) : WOpt → Option (List Path)
  | .updateMask m => m
  | .moreUpdateMask m => acc.map (· ++ m.getD [])
  | _ => acc

def reset (acc : Option (List Path)) : WOpt → Option (List Path)
  | .resetMask m => m
  | _ => acc

def all (acc : Bool) : WOpt → Bool
  | .allWritable => true
  | _ => acc

def more (acc : Option (List Path)) : WOpt → Option (List Path)
  | .moreWritable m => some (union (acc.getD []) (m.getD []))
  | _ => acc

def moreUpdate : WOpt → List Path
  | .moreUpdateMask m => m.getD []
  | _ => []

theorem mem_moreUpdate {x : Path} {o : WOpt} :
    x ∈ o.moreUpdate ↔ ∃ m, o = .moreUpdateMask (some m) ∧ x ∈ m := by
  cases o with
  | moreUpdateMask m => cases m <;> simp [moreUpdate]
  | _ => simp [moreUpdate]

end WOpt

/-- `opt.apply` writes one field of the request and reads no other: the fold over an option list is
four folds, one per field. -/
theorem foldl_apply_eq : ∀ (opts : List WOpt) (r : WriteRequest),
    opts.foldl WOpt.apply r =
      ⟨opts.foldl WOpt.update r.update, opts.foldl WOpt.reset r.reset,
        opts.foldl WOpt.all r.nilWritable, opts.foldl WOpt.more r.moreWritable⟩
  | [], _ => rfl
  | o :: rest, r => by
    rw [List.foldl_cons, foldl_apply_eq rest]
    cases o with
    | moreUpdateMask m => obtain ⟨_ | M, _, _, _⟩ := r <;> rfl
    | _ => rfl

theorem cwc_eq (opts : List WOpt) :
    computeWriteConfig opts =
      ⟨opts.foldl WOpt.update none, opts.foldl WOpt.reset none, opts.foldl WOpt.all false,
        opts.foldl WOpt.more none⟩ :=
  foldl_apply_eq opts .empty

theorem foldl_all_eq_true : ∀ (opts : List WOpt) (b : Bool),
    opts.foldl WOpt.all b = true ↔ b = true ∨ WOpt.allWritable ∈ opts
  | [], b => by simp
  | o :: rest, b => by
    rw [List.foldl_cons, foldl_all_eq_true rest]
    cases o <;> simp [WOpt.all]

theorem cwc_nilWritable (opts : List WOpt) :
    (computeWriteConfig opts).nilWritable = true ↔ WOpt.allWritable ∈ opts := by
  rw [cwc_eq]; exact (foldl_all_eq_true opts false).trans (by simp)

/-- The backward scans of the specification are the same folds, read from the other end. -/
theorem specUpdateRev_eq : ∀ rs : List WOpt, specUpdateRev rs = rs.foldr (fun o acc => WOpt.update acc o) none
  | [] => rfl
  | .updateMask _ :: _ => rfl
  | .moreUpdateMask m :: rs => congrArg (·.map (· ++ m.getD [])) (specUpdateRev_eq rs)
  | .resetMask _ :: rs => specUpdateRev_eq rs
  | .moreWritable _ :: rs => specUpdateRev_eq rs
  | .allWritable :: rs => specUpdateRev_eq rs

theorem specResetRev_eq : ∀ rs : List WOpt, specResetRev rs = rs.foldr (fun o acc => WOpt.reset acc o) none
  | [] => rfl
  | .resetMask _ :: _ => rfl
  | .updateMask _ :: rs => specResetRev_eq rs
  | .moreUpdateMask _ :: rs => specResetRev_eq rs
  | .moreWritable _ :: rs => specResetRev_eq rs
  | .allWritable :: rs => specResetRev_eq rs

theorem cwc_update (opts : List WOpt) : (computeWriteConfig opts).update = specUpdate opts := by
  rw [cwc_eq, specUpdate, specUpdateRev_eq, List.foldr_reverse]

theorem cwc_reset (opts : List WOpt) : (computeWriteConfig opts).reset = specReset opts := by
  rw [cwc_eq, specReset, specResetRev_eq, List.foldr_reverse]

/-- A `WithUpdateMask` overwrites: what comes before it does not matter. -/
theorem cwc_update_after (pre post : List WOpt) (m : Option (List Path)) :
    (computeWriteConfig (pre ++ .updateMask m :: post)).update = post.foldl WOpt.update m := by
  simp only [cwc_eq, List.foldl_append, List.foldl_cons]; rfl

theorem cwc_reset_after (pre post : List WOpt) (m : Option (List Path)) :
    (computeWriteConfig (pre ++ .resetMask m :: post)).reset = post.foldl WOpt.reset m := by
  simp only [cwc_eq, List.foldl_append, List.foldl_cons]; rfl

theorem foldl_update_eq : ∀ (post : List WOpt) (M : List Path), (∀ m, WOpt.updateMask m ∉ post) →
    post.foldl WOpt.update (some M) = some (M ++ (post.map WOpt.moreUpdate).flatten)
  | [], M, _ => by simp
  | o :: rest, M, hno => by
    have hrest : ∀ m, WOpt.updateMask m ∉ rest := fun m hm => hno m (List.mem_cons_of_mem _ hm)
    cases o with
    | updateMask m => exact absurd (List.mem_cons_self ..) (hno m)
    | moreUpdateMask m => simp [WOpt.update, WOpt.moreUpdate, foldl_update_eq rest _ hrest]
    | _ => simp [WOpt.update, WOpt.moreUpdate, foldl_update_eq rest M hrest]

theorem foldl_update_none : ∀ opts : List WOpt, (∀ m, WOpt.updateMask (some m) ∉ opts) →
    opts.foldl WOpt.update none = none
  | [], _ => rfl
  | o :: rest, h => by
    have hrest : ∀ m, WOpt.updateMask (some m) ∉ rest := fun m hm => h m (List.mem_cons_of_mem _ hm)
    cases o with
    | updateMask m =>
      cases m with
      | none => exact foldl_update_none rest hrest
      | some m => exact absurd (List.mem_cons_self ..) (h m)
    | _ => exact foldl_update_none rest hrest

theorem cwc_update_mem (pre post : List WOpt) (B : List Path) (hpost : ∀ m, WOpt.updateMask m ∉ post) :
    ∃ M, (computeWriteConfig (pre ++ WOpt.updateMask (some B) :: post)).update = some M ∧
      ∀ x, x ∈ M ↔ x ∈ B ∨ ∃ m, WOpt.moreUpdateMask (some m) ∈ post ∧ x ∈ m := by
  refine ⟨_, (cwc_update_after pre post _).trans (foldl_update_eq post B hpost), fun x => ?_⟩
  simp only [List.mem_append, List.mem_flatten, List.mem_map]
  refine or_congr Iff.rfl ⟨?_, ?_⟩
  · rintro ⟨_, ⟨o, ho, rfl⟩, hx⟩
    obtain ⟨m, rfl, hxm⟩ := WOpt.mem_moreUpdate.mp hx
    exact ⟨m, ho, hxm⟩
  · rintro ⟨m, hm, hx⟩
    exact ⟨_, ⟨_, hm, rfl⟩, WOpt.mem_moreUpdate.mpr ⟨m, rfl, hx⟩⟩

theorem foldl_reset_other : ∀ (post : List WOpt) (R : Option (List Path)),
    (∀ m, WOpt.resetMask m ∉ post) → post.foldl WOpt.reset R = R
  | [], _, _ => rfl
  | o :: rest, R, hno => by
    have hrest : ∀ m, WOpt.resetMask m ∉ rest := fun m hm => hno m (List.mem_cons_of_mem _ hm)
    cases o with
    | resetMask m => exact absurd (List.mem_cons_self ..) (hno m)
    | _ => exact foldl_reset_other rest R hrest

theorem mem_foldl_more (x : Path) : ∀ (opts : List WOpt) (acc : Option (List Path)),
    x ∈ (opts.foldl WOpt.more acc).getD [] →
      x ∈ acc.getD [] ∨ ∃ m, WOpt.moreWritable (some m) ∈ opts ∧ x ∈ m
  | [], _, h => Or.inl h
  | o :: rest, acc, h => by
    have lift : (∃ m, WOpt.moreWritable (some m) ∈ rest ∧ x ∈ m) →
        ∃ m, WOpt.moreWritable (some m) ∈ o :: rest ∧ x ∈ m :=
      fun ⟨m, hm, hx⟩ => ⟨m, List.mem_cons_of_mem _ hm, hx⟩
    rcases mem_foldl_more x rest _ h with h | h
    · cases o with
      | moreWritable m =>
        rcases mem_union h with h | h
        · exact Or.inl h
        · cases m with
          | none => cases h
          | some m => exact Or.inr ⟨m, List.mem_cons_self .., h⟩
      | _ => exact Or.inl h
    · exact Or.inr (lift h)

theorem covers_foldl_more (p : Path) : ∀ (opts : List WOpt) (acc : Option (List Path)),
    Covers ((opts.foldl WOpt.more acc).getD []) p ↔
      Covers (acc.getD []) p ∨ ∃ m, WOpt.moreWritable (some m) ∈ opts ∧ Covers m p
  | [], acc => by simp
  | o :: rest, acc => by
    rw [List.foldl_cons, covers_foldl_more p rest]
    cases o with
    | moreWritable m =>
      cases m with
      | none => simp [WOpt.more, covers_union, covers_nil]
      | some m => simp [WOpt.more, covers_union, or_assoc, or_and_right, exists_or]
    | _ => simp [WOpt.more]

theorem cwc_moreWritable_mem (opts : List WOpt) (x : Path)
    (h : x ∈ (computeWriteConfig opts).moreWritable.getD []) :
    ∃ m, WOpt.moreWritable (some m) ∈ opts ∧ x ∈ m := by
  rw [cwc_eq] at h
  exact (mem_foldl_more x opts none h).resolve_left (by simp)

theorem cwc_moreWritable_covers (opts : List WOpt) (p : Path) :
    Covers ((computeWriteConfig opts).moreWritable.getD []) p ↔
      ∃ m, WOpt.moreWritable (some m) ∈ opts ∧ Covers m p := by
  rw [cwc_eq]
  exact (covers_foldl_more p opts none).trans (or_iff_right (covers_nil p))

namespace WCtor

theorem opt_eq_updateMask {c : WCtor} {m : Option (List Path)} :
    c.opt = .updateMask m ↔ c.updateGiven = some m := by
  cases c <;> simp [opt, updateGiven, maskOfPaths]

theorem opt_eq_resetMask {c : WCtor} {m : Option (List Path)} :
    c.opt = .resetMask m ↔ c.resetGiven = some m := by
  cases c <;> simp [opt, resetGiven, maskOfPaths]

theorem moreUpdate_opt (c : WCtor) : c.opt.moreUpdate = c.moreUpdateGiven := by
  cases c <;> rfl

end WCtor

theorem fieldUpdater_eq (resWritable more : Option (List Path)) (allWritable : Bool)
    (update reset : Option (List Path)) :
    fieldUpdater resWritable more allWritable update reset =
      { writable := if allWritable then none
          else match resWritable with
            | some w => some (union w (more.getD []))
            | none => none,
        update := update, reset := reset } := by
  cases allWritable <;> cases resWritable <;> cases update <;>
    simp [fieldUpdater, newFieldUpdater, FUOpt.apply]

theorem fieldUpdater_writable (r : WriteRequest) (resW : Option (List Path)) :
    (r.fieldUpdater resW).writable =
      if r.nilWritable then none else resW.map (fun w => union w (r.moreWritable.getD [])) := by
  unfold WriteRequest.fieldUpdater
  rw [fieldUpdater_eq]
  cases r.nilWritable <;> cases resW <;> simp

theorem fieldUpdater_update (r : WriteRequest) (resW : Option (List Path)) :
    (r.fieldUpdater resW).update = r.update := by
  unfold WriteRequest.fieldUpdater; rw [fieldUpdater_eq]

theorem fieldUpdater_reset (r : WriteRequest) (resW : Option (List Path)) :
    (r.fieldUpdater resW).reset = r.reset := by
  unfold WriteRequest.fieldUpdater; rw [fieldUpdater_eq]

theorem writeWith_updater (resW : Option (List Path)) (opts : List WOpt) :
    ((computeWriteConfig opts).fieldUpdater resW).update = specUpdate opts ∧
    ((computeWriteConfig opts).fieldUpdater resW).reset = specReset opts :=
  ⟨(fieldUpdater_update _ resW).trans (cwc_update opts), (fieldUpdater_reset _ resW).trans (cwc_reset opts)⟩

theorem writeWith_writable (resW : Option (List Path)) (opts : List WOpt) :
    ((computeWriteConfig opts).fieldUpdater resW).writable =
      if WOpt.allWritable ∈ opts then none
      else resW.map fun w => union w ((computeWriteConfig opts).moreWritable.getD []) := by
  rw [fieldUpdater_writable]
  by_cases h : WOpt.allWritable ∈ opts
  · rw [(cwc_nilWritable opts).mpr h, if_pos rfl, if_pos h]
  · rw [Bool.eq_false_iff.mpr (mt (cwc_nilWritable opts).mp h), if_neg h]; rfl

/-- An ordinary write: not privileged (`WithAllFieldsWritable`) and without extra writable paths
(`WithMoreWritable*` options, if any, carry no path). -/
def OrdinaryWrite (opts : List WOpt) : Prop :=
  WOpt.allWritable ∉ opts ∧ ∀ m, WOpt.moreWritable (some m) ∈ opts → m = []

theorem cwc_moreWritable_nil (opts : List WOpt) (h : ∀ m, WOpt.moreWritable (some m) ∈ opts → m = []) :
    (computeWriteConfig opts).moreWritable.getD [] = [] := by
  apply List.eq_nil_iff_forall_not_mem.mpr
  intro x hx
  obtain ⟨m, hm, hxm⟩ := cwc_moreWritable_mem opts x hx
  rw [h m hm] at hxm
  cases hxm

theorem writable_of_readOnly (opts : List WOpt) (h : OrdinaryWrite opts) :
    ((computeWriteConfig opts).fieldUpdater (some [])).writable = some [] := by
  rw [writeWith_writable, if_neg h.1, cwc_moreWritable_nil opts h.2]; rfl

end ScVerif.C05
