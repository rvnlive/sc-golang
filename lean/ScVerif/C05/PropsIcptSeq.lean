import ScVerif.C05.PropsIcpt
import ScVerif.C05.SeqDepth
/-!
# C05 — sequences of intercepted writes

Sequences of intercepted writes on one resource: the way a trait server is used over its life — every
Update RPC is one `Value.Set` with the request's own mask, its own written message and its own
interceptors (delta / relative before the merge, derived fields after it).
-/
namespace ScVerif.C05

/-- The frame over ALL sequences of intercepted writes: accepted, rejected or panicking, each with its
own option list, written message, ANY before-interceptor and an after-interceptor that leaves `k` alone.
A counter no request's mask names never moves, however many delta requests are served; no hypothesis on
the messages. -/
theorem C05_intercept_sequence_frame (S : Schema) (ty : Nat) (resW : Option (List Path)) (k : Name)
    (hd : NotDisplaced S ty k) :
    ∀ (steps : List IStep) (stored : Fields),
      (∀ s ∈ steps, Avoids k ((computeWriteConfig s.opts).fieldUpdater resW) ∧ KeepsField k s.after) →
      (finalStoredI S ty resW stored steps).get k = stored.get k := by
  intro steps stored hall
  refine finalStoredI_induction S ty resW (fun st => st.get k = stored.get k) steps stored rfl ?_
  intro s hs st st' src' hP ho
  exact (C05_intercept_frame S ty _ s.before s.after st s.src st' src' k (hall s hs).1 hd
    (hall s hs).2 ho).trans hP

/-- A sequence of requests that all carry an empty non-nil update mask leaves the stored message as it
was, whatever their messages, flags and before-interceptors are (after-interceptors quiet on an
unchanged message). -/
theorem C05_intercept_sequence_empty_masks (S : Schema) (ty : Nat) (resW : Option (List Path)) :
    ∀ (steps : List IStep) (stored : Fields),
      (∀ s ∈ steps, ((computeWriteConfig s.opts).fieldUpdater resW).update = some [] ∧
        QuietWhenUnchanged s.after) →
      finalStoredI S ty resW stored steps = stored := by
  intro steps stored hall
  refine finalStoredI_induction S ty resW (fun st => st = stored) steps stored rfl ?_
  intro s hs st st' src' hP ho
  exact (C05_intercept_empty_mask S ty _ s.before s.after st s.src st' src' (hall s hs).1
    (hall s hs).2 ho).trans hP

/-- Two delta requests with mask `{g}` on the example message: the first makes `g` 7 + 7 = 14 (the one
line of the witness table `add7`; its other lines return the written token), `f` never moves; the
hypotheses of `C05_intercept_sequence_frame` hold for `f`. -/
example :
    let s : IStep := ⟨[.updateMask (some [["g"]])], .cons "g" (.sc "i7") .nil, some (deltaIcptWith add7 ["g"]), none⟩
    (∀ t ∈ [s, s], Avoids "f" ((computeWriteConfig t.opts).fieldUpdater none) ∧ KeepsField "f" t.after) ∧
    (finalStoredI wSchema 0 none wStored [s, s]).get "f" = wStored.get "f" ∧
    (finalStoredI wSchema 0 none wStored [s]).get "g" = some (.sc "i14") := by
  intro s
  refine ⟨?_, by decide +kernel, by decide +kernel⟩
  intro t ht
  simp only [List.mem_cons, List.mem_nil_iff, or_false, or_self] at ht
  subst ht
  exact ⟨.of_update (M := [["g"]]) rfl (by decide +kernel) (by decide +kernel) (by decide +kernel)
    (fun _ h => nomatch (h : none = some _)), .none _⟩

end ScVerif.C05
