import ScVerif.C05.Icpt
/-
Models of the two lightpb RPCs that hand a request's `update_mask` to the store (trait-servers tie).

`lightpb.MemoryDevice.UpdateBrightness` passes `resource.WithUpdateMask(request.UpdateMask)` on both of
its paths since d3fb08f (`rpcUpdateBrightness`); before, the request's mask was not among the options
(`rpcMaskDropped`: NOT the code, kept for the `_fails` / `_partial` witnesses that the option is what
makes the difference; signature `C05/trait/lightpb.MemoryDevice/UpdateBrightness/update-mask-ignored`).

`lightpb.ModelServer.UpdateBrightness` hands `WithUpdateMask(request.UpdateMask)` to
`lightpb.Model.UpdateBrightness`, which — when the request selects a configured preset
(`setLevelFromPreset`: the written message gets the preset's level and configured title) — appends
`WithMoreUpdatePaths("level_percent")` to the caller's options before `Value.Set` (`rpcModelBrightness`).
-/
namespace ScVerif.C05

/-- The RPC as it was coded before d3fb08f (NOT the code): the request's mask is dropped. -/
def rpcMaskDropped (S : Schema) (ty : Nat) (resW R : Option (List Path)) (_reqMask : Option (List Path))
    (before : Option Icpt) (stored src : Fields) : SetOut :=
  valueSetI S ty (fieldUpdater resW none false none R) before none stored src

/-- One `Set` call of the RPC as coded since d3fb08f (and as the property states it): the write runs
with the request's mask next to the server's writable fields, reset paths and before-interceptor. -/
def rpcAsStated (S : Schema) (ty : Nat) (resW R : Option (List Path)) (reqMask : Option (List Path))
    (before : Option Icpt) (stored src : Fields) : SetOut :=
  valueSetI S ty (fieldUpdater resW none false reqMask R) before none stored src

/-- `lightpb.MemoryDevice.UpdateBrightness` since d3fb08f, the two paths that write the caller's
message: a request with a preset writes it with the request's mask and nothing else (no reset paths,
no interceptor); a request without preset and without tween writes it with the request's mask, the
reset paths `R` of the server (`target_level_percent`, `brightness_tween`) and the before-interceptor
`capDelta` (delta added, level capped).  (The tween path writes with explicit update paths of its own
and starts a timer: not modelled here.) -/
def rpcUpdateBrightness (S : Schema) (ty : Nat) (resW R reqMask : Option (List Path)) (preset : Bool)
    (capDelta : Icpt) (stored src : Fields) : SetOut :=
  if preset then rpcAsStated S ty resW none reqMask none stored src
  else rpcAsStated S ty resW R reqMask (some capDelta) stored src

/-- The option list `lightpb.Model.UpdateBrightness` writes with. -/
def presetOpts (reqMask : Option (List Path)) (known : Bool) (level : Name) : List WOpt :=
  if known then [(WCtor.withUpdateMask reqMask).opt, (WCtor.withMoreUpdatePaths [[level]]).opt]
  else [(WCtor.withUpdateMask reqMask).opt]

/-- `lightpb.ModelServer.UpdateBrightness`: `edit` is what `setLevelFromPreset` makes of the written
message (any function). -/
def rpcModelBrightness (S : Schema) (ty : Nat) (resW reqMask : Option (List Path)) (known : Bool)
    (level : Name) (edit : Fields → Fields) (stored src : Fields) : SetOut :=
  writeWith S ty resW (presetOpts reqMask known level) stored (if known then edit src else src)

end ScVerif.C05
