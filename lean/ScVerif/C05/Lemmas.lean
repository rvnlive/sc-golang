import ScVerif.C05.Update
/-
Populated fields as an association list (`get` after `erase` / `put` / `set`), and the passes of `Merge`
under one key.  `fmutils.Filter`, `fmutils.Prune` (shown in `Walk.fields_eq`) and `pruneEmpty` (here) walk
over the populated fields once and treat each entry on its own (`Fields.mapEntries`): what such a pass
does to the keys and to the value under a key is proved once, from its verdict on one entry.
`proto.Merge` is not of that form (it appends) and has its own lemmas (`get_mergeFields`).  At the end,
`Value.set` taken apart.
-/
namespace ScVerif.C05

namespace Fields

theorem get_erase_other {k n : Name} (h : k ≠ n) : ∀ fs : Fields, (fs.erase n).get k = fs.get k
  | .nil => rfl
  | .cons a v rest => by
    by_cases ha : a = n
    · subst ha
      have hak : ¬ a = k := fun e => h e.symm
      simp [erase, get, hak, get_erase_other h rest]
    · by_cases hk : a = k
      · subst hk; simp [erase, get, h]
      · simp [erase, get, ha, hk, get_erase_other h rest]

theorem get_eraseAll_other {k : Name} : ∀ (ns : List Name) (fs : Fields), k ∉ ns →
    (fs.eraseAll ns).get k = fs.get k
  | [], _, _ => rfl
  | n :: ns, fs, h => by
    have h1 : k ≠ n := fun e => h (e ▸ List.mem_cons_self ..)
    have h2 : k ∉ ns := fun e => h (List.mem_cons_of_mem _ e)
    simp [eraseAll, get_eraseAll_other ns (fs.erase n) h2, get_erase_other h1]

theorem get_put_other {k n : Name} (v : Val) (h : k ≠ n) : ∀ fs : Fields, (fs.put n v).get k = fs.get k
  | .nil => by
    have : ¬ n = k := fun e => h e.symm
    simp [put, get, this]
  | .cons a w rest => by
    by_cases ha : a = n
    · subst ha
      have hak : ¬ a = k := fun e => h e.symm
      simp [put, get, hak, get_erase_other h rest]
    · by_cases hk : a = k
      · subst hk; simp [put, get, h]
      · simp [put, get, ha, hk, get_put_other v h rest]

theorem get_set_other {k n : Name} (sibs : List Name) (v : Val) (h : k ≠ n) (hs : k ∉ sibs)
    (fs : Fields) : (fs.set sibs n v).get k = fs.get k := by
  simp [set, get_put_other v h, get_eraseAll_other sibs fs hs]

theorem get_eq_none_iff (k : Name) : ∀ fs : Fields, fs.get k = none ↔ k ∉ fs.keys
  | .nil => by simp [get, keys]
  | .cons a v rest => by
    by_cases h : a = k
    · subst h; simp [get, keys]
    · have := get_eq_none_iff k rest
      have hk : ¬ k = a := fun e => h e.symm
      simp [get, keys, h, hk, this]

theorem keys_erase (n : Name) : ∀ fs : Fields, (fs.erase n).keys = fs.keys.filter (· ≠ n)
  | .nil => rfl
  | .cons a v rest => by
    by_cases h : a = n <;> simp [erase, keys, h, keys_erase n rest]

theorem mem_keys_erase {k n : Name} (fs : Fields) : k ∈ (fs.erase n).keys ↔ k ∈ fs.keys ∧ k ≠ n := by
  simp [keys_erase]

theorem nodup_erase (n : Name) (fs : Fields) (h : fs.keys.Nodup) : (fs.erase n).keys.Nodup := by
  rw [keys_erase]; exact List.Pairwise.filter _ h

theorem nodup_eraseAll : ∀ (ns : List Name) (fs : Fields), fs.keys.Nodup → (fs.eraseAll ns).keys.Nodup
  | [], _, h => h
  | n :: ns, fs, h => nodup_eraseAll ns _ (nodup_erase n fs h)

theorem mem_keys_put {k n : Name} (v : Val) : ∀ fs : Fields, k ∈ (fs.put n v).keys → k ∈ fs.keys ∨ k = n
  | .nil, h => by simp [put, keys] at h; exact Or.inr h
  | .cons a w rest, h => by
    by_cases ha : a = n
    · subst ha
      simp only [put, if_true, keys, List.mem_cons] at h ⊢
      rcases h with h | h
      · exact Or.inr h
      · exact Or.inl (Or.inr ((mem_keys_erase rest).mp h).1)
    · simp only [put, ha, if_false, keys, List.mem_cons] at h ⊢
      rcases h with h | h
      · exact Or.inl (Or.inl h)
      · rcases mem_keys_put v rest h with h' | h'
        · exact Or.inl (Or.inr h')
        · exact Or.inr h'

theorem nodup_put (n : Name) (v : Val) : ∀ fs : Fields, fs.keys.Nodup → (fs.put n v).keys.Nodup
  | .nil, _ => by simp [put, keys]
  | .cons a w rest, h => by
    have ⟨h1, h2⟩ := List.nodup_cons.mp h
    by_cases ha : a = n
    · subst ha
      simp only [put, if_true, keys, List.nodup_cons]
      exact ⟨fun hm => ((mem_keys_erase rest).mp hm).2 rfl, nodup_erase a rest h2⟩
    · simp only [put, ha, if_false, keys, List.nodup_cons]
      refine ⟨fun hm => ?_, nodup_put n v rest h2⟩
      rcases mem_keys_put v rest hm with h' | h'
      · exact h1 h'
      · exact ha h'

theorem nodup_set (sibs : List Name) (n : Name) (v : Val) (fs : Fields) (h : fs.keys.Nodup) :
    (fs.set sibs n v).keys.Nodup := nodup_put n v _ (nodup_eraseAll sibs fs h)

theorem get_put_same (n : Name) (v : Val) : ∀ fs : Fields, (fs.put n v).get n = some v
  | .nil => by simp [put, get]
  | .cons a w rest => by
    by_cases ha : a = n
    · subst ha; simp [put, get]
    · simp [put, get, ha, get_put_same n v rest]

theorem get_set_same (sibs : List Name) (n : Name) (v : Val) (fs : Fields) :
    (fs.set sibs n v).get n = some v := get_put_same n v _

/-- One pass over the populated fields: `f k v` is `none` for a panic, `some none` when the entry is
cleared, `some (some v')` when it stays with value `v'`. -/
def mapEntries (f : Name → Val → Out (Option Val)) : Fields → Out Fields
  | .nil => some .nil
  | .cons k v rest =>
    match f k v with
    | none => none
    | some none => mapEntries f rest
    | some (some v') => (mapEntries f rest).map (.cons k v')

variable {f : Name → Val → Out (Option Val)}

theorem mapEntries_cons {a : Name} {v : Val} {rest fs' : Fields}
    (h : mapEntries f (.cons a v rest) = some fs') :
    ∃ r rest', f a v = some r ∧ mapEntries f rest = some rest' ∧
      fs' = match r with
        | none => rest'
        | some v' => .cons a v' rest' := by
  rw [mapEntries] at h
  cases hf : f a v with
  | none => rw [hf] at h; cases h
  | some r =>
    rw [hf] at h
    cases r with
    | none => exact ⟨none, fs', rfl, h, rfl⟩
    | some v' =>
      cases hr : mapEntries f rest with
      | none => rw [hr] at h; cases h
      | some rest' => rw [hr] at h; cases h; exact ⟨some v', rest', rfl, rfl, rfl⟩

theorem mem_keys_mapEntries {k : Name} : ∀ {fs fs' : Fields},
    mapEntries f fs = some fs' → k ∈ fs'.keys → k ∈ fs.keys
  | .nil, _, h, hk => by cases h; exact hk
  | .cons a v rest, _, h, hk => by
    obtain ⟨r, rest', _, hr, rfl⟩ := mapEntries_cons h
    cases r with
    | none => exact List.mem_cons_of_mem _ (mem_keys_mapEntries hr hk)
    | some v' =>
      rcases List.mem_cons.mp hk with e | hk
      · exact e ▸ List.mem_cons_self ..
      · exact List.mem_cons_of_mem _ (mem_keys_mapEntries hr hk)

theorem nodup_mapEntries : ∀ {fs fs' : Fields},
    mapEntries f fs = some fs' → fs.keys.Nodup → fs'.keys.Nodup
  | .nil, _, h, hn => by cases h; exact hn
  | .cons a v rest, _, h, hn => by
    obtain ⟨r, rest', _, hr, rfl⟩ := mapEntries_cons h
    have ⟨h1, h2⟩ := List.nodup_cons.mp hn
    cases r with
    | none => exact nodup_mapEntries hr h2
    | some v' =>
      exact List.nodup_cons.mpr ⟨fun hm => h1 (mem_keys_mapEntries hr hm), nodup_mapEntries hr h2⟩

theorem get_mapEntries_dropped {k : Name} (hd : ∀ w v', f k w ≠ some (some v')) : ∀ {fs fs' : Fields},
    mapEntries f fs = some fs' → fs'.get k = none
  | .nil, _, h => by cases h; rfl
  | .cons a v rest, _, h => by
    obtain ⟨r, rest', hf, hr, rfl⟩ := mapEntries_cons h
    cases r with
    | none => exact get_mapEntries_dropped hd hr
    | some v' =>
      have hak : ¬ a = k := fun e => hd v v' (e ▸ hf)
      simp only [get, hak, if_false]
      exact get_mapEntries_dropped hd hr

theorem get_mapEntries_none {k : Name} {fs fs' : Fields} (h : mapEntries f fs = some fs')
    (hg : fs.get k = none) : fs'.get k = none :=
  (get_eq_none_iff k fs').mpr fun hm => (get_eq_none_iff k fs).mp hg (mem_keys_mapEntries h hm)

/-- What a pass leaves under `k` is its verdict on the first entry named `k`.  When that entry is
cleared a later one could take its place, unless keys are unique or the pass clears by key. -/
theorem get_mapEntries_some {k : Name} {v : Val} : ∀ {fs fs' : Fields}, mapEntries f fs = some fs' →
    (fs.keys.Nodup ∨ (f k v = some none → ∀ w v', f k w ≠ some (some v'))) →
    fs.get k = some v → f k v = some (fs'.get k)
  | .nil, _, _, _, hg => by cases hg
  | .cons a v₀ rest, _, h, hu, hg => by
    obtain ⟨r, rest', hf, hr, rfl⟩ := mapEntries_cons h
    by_cases hak : a = k
    · subst hak
      simp only [get, if_true, Option.some.injEq] at hg
      subst hg
      rw [hf]
      cases r with
      | some v' => simp [get]
      | none =>
        congr 1
        rcases hu with hn | hu
        · exact ((get_eq_none_iff a rest').mpr fun hm =>
            (List.nodup_cons.mp hn).1 (mem_keys_mapEntries hr hm)).symm
        · exact (get_mapEntries_dropped (hu hf) hr).symm
    · simp only [get, hak, if_false] at hg
      have ih := get_mapEntries_some hr (hu.imp (fun hn => (List.nodup_cons.mp hn).2) id) hg
      cases r <;> simpa [get, hak] using ih

end Fields

/-- Field `k` of a message of type `ty` can not be displaced by assigning another field: it is not
a member of any oneof that has another member. -/
def NotDisplaced (S : Schema) (ty : Nat) (k : Name) : Prop := ∀ n, k ∉ S.sibs ty n

theorem notDisplaced_of_no_oneof {S : Schema} {ty : Nat} (h : (S.fields ty).all (·.oneof = 0) = true)
    (k : Name) : NotDisplaced S ty k := by
  intro n
  unfold Schema.sibs
  cases hf : S.field ty n with
  | none => simp
  | some fd =>
    have := List.all_eq_true.mp h fd (List.mem_of_find?_eq_some hf)
    simp only [decide_eq_true_eq] at this
    simp [this]

theorem get_mergeFields_other (S : Schema) (ty : Nat) (k : Name) (hk : NotDisplaced S ty k) :
    ∀ (src dst : Fields), src.get k = none → (mergeFields S ty dst src).get k = dst.get k
  | .nil, _, _ => by rw [mergeFields]
  | .cons n v rest, dst, h => by
    have hn : ¬ n = k := by
      intro e; subst e; rw [Fields.get] at h; simp at h
    have hrest : rest.get k = none := by rw [Fields.get] at h; simpa [hn] using h
    rw [mergeFields]
    rw [get_mergeFields_other S ty k hk rest _ hrest]
    exact Fields.get_set_other _ _ (fun e => hn e.symm) (hk n) dst

theorem nodup_mergeFields (S : Schema) (ty : Nat) : ∀ (src dst : Fields), dst.keys.Nodup →
    (mergeFields S ty dst src).keys.Nodup
  | .nil, _, h => by rw [mergeFields]; exact h
  | .cons n v rest, dst, h => by
    rw [mergeFields]
    exact nodup_mergeFields S ty rest _ (Fields.nodup_set _ _ _ _ h)

theorem get_mergeFields (S : Schema) (ty : Nat) (k : Name) (hk : NotDisplaced S ty k) :
    ∀ (src dst : Fields), src.keys.Nodup →
      (mergeFields S ty dst src).get k =
        match src.get k with
        | none => dst.get k
        | some v => some (mergeVal S (S.child ty k) (dst.get k) v)
  | .nil, dst, _ => by rw [mergeFields]; simp [Fields.get]
  | .cons n v rest, dst, h => by
    have hh : (n :: rest.keys).Nodup := by simpa [Fields.keys] using h
    have ⟨h1, h2⟩ := List.nodup_cons.mp hh
    rw [mergeFields]
    by_cases hn : n = k
    · subst hn
      have hrest : rest.get n = none := (Fields.get_eq_none_iff n rest).mpr h1
      rw [get_mergeFields_other S ty n hk rest _ hrest, Fields.get_set_same]
      simp [Fields.get]
    · rw [get_mergeFields S ty k hk rest _ h2]
      have : (dst.set (S.sibs ty n) n (mergeVal S (S.child ty n) (dst.get n) v)).get k = dst.get k :=
        Fields.get_set_other _ _ (fun e => hn e.symm) (hk n) dst
      simp [Fields.get, hn, this]

def Val.msg? : Val → Option Fields
  | .msg fs => some fs
  | _ => none

theorem Val.msg?_eq_some {v : Val} {fs : Fields} : v.msg? = some fs ↔ v = .msg fs := by
  cases v <;> simp [Val.msg?]

theorem Val.msg?_eq_none {v : Val} : v.msg? = none ↔ ∀ fs, v ≠ .msg fs := by
  cases v <;> simp [Val.msg?]

/-- `pruneEmpty`'s verdict on the entry `k ↦ v` of dst (in the encoding of `mapEntries`). -/
def pruneEmptyEntry (mask : Mask) (src : Fields) (k : Name) (v : Val) : Out (Option Val) :=
  match mask.find k with
  | none => some (some v)
  | some sub =>
    match src.get k with
    | none =>
      match v.msg? with
      | some df => if sub.isEmpty then some none else (pruneFields sub df).map fun df' => some (.msg df')
      | none => some none
    | some sv =>
      match v.msg?, sv.msg? with
      | some df, some sf => (pruneEmpty sub sf df).map fun df' => some (.msg df')
      | _, _ => some (some v)

theorem pruneEmpty_eq (mask : Mask) (src : Fields) :
    ∀ dst, pruneEmpty mask src dst = dst.mapEntries (pruneEmptyEntry mask src)
  | .nil => by rw [pruneEmpty, Fields.mapEntries]
  | .cons k v rest => by
    rw [pruneEmpty, Fields.mapEntries, pruneEmptyEntry, pruneEmpty_eq mask src rest]
    cases mask.find k with
    | none => rfl
    | some sub =>
      cases src.get k with
      | none =>
        cases v with
        | msg df =>
          dsimp only [Val.msg?]
          cases sub.isEmpty with
          | true => rfl
          | false => cases pruneFields sub df <;> rfl
        | _ => rfl
      | some sv =>
        cases v with
        | msg df =>
          cases sv with
          | msg sf => dsimp only [Val.msg?]; cases pruneEmpty sub sf df <;> rfl
          | _ => rfl
        | _ => rfl

variable {mask : Mask} {k : Name} {src dst dst' : Fields}

theorem get_pruneEmpty_other (hk : mask.find k = none) (h : pruneEmpty mask src dst = some dst') :
    dst'.get k = dst.get k := by
  have h' := pruneEmpty_eq mask src dst ▸ h
  cases hg : dst.get k with
  | none => exact Fields.get_mapEntries_none h' hg
  | some v =>
    have := Fields.get_mapEntries_some h' (Or.inr fun hd => by simp [pruneEmptyEntry, hk] at hd) hg
    simpa [pruneEmptyEntry, hk] using this.symm

theorem get_pruneEmpty_absent (h : pruneEmpty mask src dst = some dst') (hg : dst.get k = none) :
    dst'.get k = none :=
  Fields.get_mapEntries_none (pruneEmpty_eq mask src dst ▸ h) hg

theorem get_pruneEmpty_some (hn : dst.keys.Nodup) (h : pruneEmpty mask src dst = some dst')
    {v : Val} (hg : dst.get k = some v) : pruneEmptyEntry mask src k v = some (dst'.get k) :=
  Fields.get_mapEntries_some (pruneEmpty_eq mask src dst ▸ h) (Or.inl hn) hg

theorem nodup_pruneEmpty (h : pruneEmpty mask src dst = some dst') (hn : dst.keys.Nodup) :
    dst'.keys.Nodup :=
  Fields.nodup_mapEntries (pruneEmpty_eq mask src dst ▸ h) hn

variable {sub : Mask}

/-- The mask names `k` and the written message lacks it: the field is CLEARED (the mask ends at `k`, or
the field is no message), or it is a message and is PRUNED below `k` with the continuing nested mask. -/
theorem get_pruneEmpty_lacking (hk : mask.find k = some sub) (hs : src.get k = none)
    (hn : dst.keys.Nodup) (h : pruneEmpty mask src dst = some dst') :
    (dst'.get k = none ∧ (sub.isEmpty = true ∨ ∀ df, dst.get k ≠ some (.msg df))) ∨
      (∃ df df', sub.isEmpty = false ∧ dst.get k = some (.msg df) ∧ pruneFields sub df = some df' ∧
        dst'.get k = some (.msg df')) := by
  cases hg : dst.get k with
  | none => exact Or.inl ⟨get_pruneEmpty_absent h hg, Or.inr fun _ e => nomatch e⟩
  | some v =>
    have hv := get_pruneEmpty_some hn h hg
    simp only [pruneEmptyEntry, hk, hs] at hv
    cases hm : v.msg? with
    | none =>
      rw [hm] at hv
      exact Or.inl ⟨(Option.some.inj hv).symm,
        Or.inr fun df e => Val.msg?_eq_none.mp hm df (Option.some.inj e)⟩
    | some df =>
      rw [hm] at hv
      cases Val.msg?_eq_some.mp hm
      cases he : sub.isEmpty with
      | true => rw [he] at hv; exact Or.inl ⟨(Option.some.inj hv).symm, Or.inl rfl⟩
      | false =>
        simp only [he, Bool.false_eq_true, if_false, Option.map_eq_some_iff] at hv
        obtain ⟨df', hd, e⟩ := hv
        exact Or.inr ⟨df, df', rfl, rfl, hd, e.symm⟩

/-- The mask names `k` and the written message holds it: where both sides hold a message `pruneEmpty`
RECURSES with the nested mask; otherwise the field is UNTOUCHED. -/
theorem get_pruneEmpty_present {sv : Val} (hk : mask.find k = some sub) (hs : src.get k = some sv)
    (hn : dst.keys.Nodup) (h : pruneEmpty mask src dst = some dst') :
    (∃ df sf df', dst.get k = some (.msg df) ∧ sv = .msg sf ∧ pruneEmpty sub sf df = some df' ∧
        dst'.get k = some (.msg df')) ∨
      (dst'.get k = dst.get k ∧ ((∀ df, dst.get k ≠ some (.msg df)) ∨ ∀ sf, sv ≠ .msg sf)) := by
  cases hg : dst.get k with
  | none => exact Or.inr ⟨get_pruneEmpty_absent h hg, Or.inl fun _ e => nomatch e⟩
  | some v =>
    have hv := get_pruneEmpty_some hn h hg
    simp only [pruneEmptyEntry, hk, hs] at hv
    cases hm : v.msg? with
    | none =>
      rw [hm] at hv
      exact Or.inr ⟨(Option.some.inj hv).symm,
        Or.inl fun df e => Val.msg?_eq_none.mp hm df (Option.some.inj e)⟩
    | some df =>
      cases hsm : sv.msg? with
      | none =>
        rw [hm, hsm] at hv
        exact Or.inr ⟨(Option.some.inj hv).symm, Or.inr (Val.msg?_eq_none.mp hsm)⟩
      | some sf =>
        simp only [hm, hsm, Option.map_eq_some_iff] at hv
        obtain ⟨df', hd, e⟩ := hv
        exact Or.inl ⟨df, sf, df', congrArg some (Val.msg?_eq_some.mp hm), Val.msg?_eq_some.mp hsm,
          hd, e.symm⟩

theorem valueSet_ok {S : Schema} {ty : Nat} {u : Updater} {stored src st s : Fields}
    (h : valueSet S ty u stored src = .ok st s) :
    validate S ty u = .ok ∧ merge S ty u stored src = some ⟨st, s⟩ := by
  unfold valueSet at h
  split at h
  next hv =>
    split at h
    · cases h
    next r hm => cases h; exact ⟨hv, hm⟩
  · cases h

theorem valueSet_err {S : Schema} {ty : Nat} {u : Updater} (hv : validate S ty u ≠ .ok) (stored src : Fields) :
    valueSet S ty u stored src = .err (validate S ty u) := by
  unfold valueSet
  cases hc : validate S ty u with
  | ok => exact absurd hc hv
  | _ => rfl

theorem valueSet_of_merge {S : Schema} {ty : Nat} {u : Updater} {stored src : Fields} {r : Merged}
    (hv : validate S ty u = .ok) (hm : merge S ty u stored src = some r) :
    valueSet S ty u stored src = .ok r.dst r.src := by
  unfold valueSet; rw [hv]; simp only [hm]

end ScVerif.C05
