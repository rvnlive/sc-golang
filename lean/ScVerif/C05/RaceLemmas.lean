import ScVerif.C05.Race
import ScVerif.C05.Lemmas
/-
`raceSet` is `valueSet` on the message read first followed by the re-check (`raceSet_eq`); reading a
field commutes with the normal form that `proto.Equal` compares (`get_norm`).
-/
namespace ScVerif.C05

theorem protoEqual_refl (a : Fields) : protoEqual a a = true := by simp [protoEqual]

theorem raceSetPhased_eq (eq : Fields → Fields → Bool) (S : Schema) (ty : Nat) (u : Updater)
    (stored src : Fields) (pre post : List Rival) (h : merge S ty u stored src ≠ none) :
    raceSetPhased eq S ty u stored src pre post = raceSet eq S ty u stored src (pre ++ post) := by
  unfold raceSetPhased
  cases hm : merge S ty u stored src with
  | none => exact absurd hm h
  | some r => rfl

theorem get_insertSorted (k : Name) (v : Val) (n : Name) :
    ∀ fs : Fields, (Fields.insertSorted k v fs).get n = if k = n then some v else fs.get n
  | .nil => by simp [Fields.insertSorted, Fields.get]
  | .cons k' v' rest => by
    unfold Fields.insertSorted
    by_cases hlt : k' < k
    · simp only [hlt, if_true, Fields.get]
      rw [get_insertSorted k v n rest]
      by_cases hk : k = n
      · subst hk
        have : k' ≠ k := fun h => by subst h; exact absurd hlt (String.lt_irrefl _)
        simp [this]
      · simp [hk]
    · simp only [hlt, if_false, Fields.get]

/-- First match on both sides: the sort is stable. -/
theorem get_norm (n : Name) : ∀ fs : Fields, (Fields.norm fs).get n = (fs.get n).map Val.norm
  | .nil => by simp [Fields.norm, Fields.get]
  | .cons k v rest => by
    rw [Fields.norm, get_insertSorted, get_norm n rest]
    by_cases hk : k = n <;> simp [Fields.get, hk]

theorem protoEqual_get (a b : Fields) (h : protoEqual a b = true) (k : Name) :
    (a.get k).map Val.norm = (b.get k).map Val.norm := by
  have h' : Fields.norm a = Fields.norm b := by simpa [protoEqual] using h
  rw [← get_norm, ← get_norm, h']

theorem raceSet_eq (eq : Fields → Fields → Bool) (S : Schema) (ty : Nat) (u : Updater)
    (stored src : Fields) (rivals : List Rival) :
    raceSet eq S ty u stored src rivals =
      match valueSet S ty u stored src with
      | .err c => ⟨.err c, stored⟩
      | .panic => ⟨.panic, commitAll S ty stored rivals⟩
      | .ok st s =>
        if eq stored (commitAll S ty stored rivals) then ⟨.ok st s, st⟩
        else ⟨.aborted, commitAll S ty stored rivals⟩ := by
  unfold raceSet valueSet
  cases validate S ty u <;> simp only
  cases merge S ty u stored src <;> rfl

theorem raceSetPhased_rejected (eq : Fields → Fields → Bool) (S : Schema) (ty : Nat) (u : Updater)
    (stored src : Fields) (pre post : List Rival) (h : validate S ty u ≠ .ok) :
    (raceSetPhased eq S ty u stored src pre post).stored = stored := by
  have hr : ∀ rs, (raceSet eq S ty u stored src rs).stored = stored := fun rs => by
    rw [raceSet_eq, valueSet_err h]
  unfold raceSetPhased
  cases merge S ty u stored src <;> exact hr _

theorem resourceWritable_foldl_other (S : Schema) (ty : Nat) :
    ∀ (opts : List ROpt) (w : Out (Option (List Path))),
      opts.foldl (ROpt.apply S ty) w = (opts.filter (fun o => !o.isOther)).foldl (ROpt.apply S ty) w
  | [], _ => rfl
  | o :: rest, w => by
    cases o with
    | other n =>
      simp only [List.foldl_cons, ROpt.apply, ROpt.isOther, Bool.not_true, List.filter_cons_of_neg,
        Bool.false_eq_true, not_false_eq_true]
      exact resourceWritable_foldl_other S ty rest w
    | writableFields m =>
      simp only [List.foldl_cons, ROpt.isOther, Bool.not_false, List.filter_cons_of_pos]
      exact resourceWritable_foldl_other S ty rest _
    | writablePaths ps =>
      simp only [List.foldl_cons, ROpt.isOther, Bool.not_false, List.filter_cons_of_pos]
      exact resourceWritable_foldl_other S ty rest _

end ScVerif.C05
