import ScVerif.C05.Lib
/-
What the nested mask `NestedMaskFromPaths` builds from a list of paths holds under a key is the mask
built from the *tails* of the paths that start with that key (`find_insertAll`): the bridge between
fmutils' recursive-map view of a mask and the path-set view of the specifications.  Then
`withoutNestedPaths` (`minimal`: every path lies at or below an outermost one, and these are
prefix-free) and what follows for `nestedMask` (`nestedMask_eq`, `nestedMask_not_empty`,
`find_nestedMask_noHead`).
-/
namespace ScVerif.C05

/-- No path has an empty segment (so `NestedMaskFromPaths` drops nothing). -/
def Clean (ps : List Path) : Prop := ∀ p ∈ ps, "" ∉ p

/-- No path is a proper prefix of another one ("normalised" in fmutils' words, duplicates allowed). -/
def PrefixFree (ps : List Path) : Prop := ∀ p ∈ ps, ∀ q ∈ ps, p <+: q → p = q

instance (ps : List Path) : Decidable (Clean ps) := by unfold Clean; infer_instance
instance (ps : List Path) : Decidable (PrefixFree ps) := by unfold PrefixFree; infer_instance

theorem mem_tails {k : Name} {t : Path} : ∀ {ps : List Path}, t ∈ tails k ps ↔ (k :: t) ∈ ps
  | [] => by simp [tails]
  | [] :: ps => by simp [tails, mem_tails (ps := ps)]
  | (a :: u) :: ps => by
    by_cases h : a = k
    · subst h; simp [tails, mem_tails (ps := ps)]
    · simp only [tails, h, if_false, mem_tails (ps := ps), List.mem_cons, List.cons.injEq]
      constructor
      · intro hm; exact Or.inr hm
      · rintro (⟨hk, _⟩ | hm)
        · exact absurd hk.symm h
        · exact hm

theorem clean_tails {k : Name} {ps : List Path} (h : Clean ps) : Clean (tails k ps) := by
  intro t ht hmem
  exact h (k :: t) (mem_tails.mp ht) (List.mem_cons_of_mem _ hmem)

theorem prefixFree_tails {k : Name} {ps : List Path} (h : PrefixFree ps) : PrefixFree (tails k ps) := by
  intro t ht u hu hpre
  have := h (k :: t) (mem_tails.mp ht) (k :: u) (mem_tails.mp hu) (by
    obtain ⟨r, hr⟩ := hpre
    exact ⟨r, by simp [← hr]⟩)
  exact (List.cons.inj this).2

theorem prefixFree_all_nil {k : Name} {ps : List Path} (h : PrefixFree ps)
    (hn : [] ∈ tails k ps) : ∀ t ∈ tails k ps, t = [] := by
  intro t ht
  have := prefixFree_tails (k := k) h [] hn t ht (List.nil_prefix)
  exact this.symm

namespace Mask

theorem clean_eq {p : Path} (h : "" ∉ p) : clean p = p := by
  unfold clean
  apply List.filter_eq_self.mpr
  intro a ha
  simp only [ne_eq, decide_not, Bool.not_eq_eq_eq_not, Bool.not_true, decide_eq_false_iff_not]
  intro hE; subst hE; exact h ha

theorem insert_nil_path (m : Mask) : m.insert [] = m := by
  cases m <;> rfl

theorem nil_insert (t : Path) : Mask.nil.insert t = chain t := by
  cases t <;> rfl

theorem find_insert_same (k : Name) (t : Path) :
    ∀ m : Mask, (m.insert (k :: t)).find k = some (((m.find k).getD .nil).insert t)
  | .nil => by simp [insert, find, nil_insert]
  | .cons k' sub rest => by
    by_cases h : k' = k
    · subst h; simp [insert, find]
    · simp [insert, find, h, find_insert_same k t rest]

theorem find_insert_other {k k' : Name} (t : Path) (hne : k ≠ k') :
    ∀ m : Mask, (m.insert (k :: t)).find k' = m.find k'
  | .nil => by simp [insert, find, hne]
  | .cons a sub rest => by
    by_cases h : a = k
    · subst h; simp [insert, find, hne]
    · by_cases h' : a = k'
      · subst h'; simp [insert, find, h]
      · simp [insert, find, h, h', find_insert_other t hne rest]

/-- `NestedMaskFromPaths` on paths without empty segments (`fromPaths_eq`). -/
def insertAll (m : Mask) (ps : List Path) : Mask := ps.foldl Mask.insert m

theorem fromPaths_eq {ps : List Path} (h : Clean ps) : fromPaths ps = insertAll .nil ps := by
  unfold fromPaths insertAll
  suffices ∀ m, List.foldl (fun m p => m.insert (clean p)) m ps = List.foldl Mask.insert m ps from this _
  induction ps with
  | nil => intro m; rfl
  | cons p ps ih =>
    intro m
    simp only [List.foldl_cons]
    rw [clean_eq (h p (List.mem_cons_self ..))]
    exact ih (fun q hq => h q (List.mem_cons_of_mem _ hq)) _

theorem find_insertAll (k : Name) : ∀ (ps : List Path) (m : Mask),
    (insertAll m ps).find k =
      if (tails k ps).isEmpty then m.find k
      else some (insertAll ((m.find k).getD .nil) (tails k ps))
  | [], m => by simp [insertAll, tails]
  | [] :: ps, m => by
    have := find_insertAll k ps m
    simpa [insertAll, tails, insert_nil_path] using this
  | (a :: t) :: ps, m => by
    have ih := find_insertAll k ps (m.insert (a :: t))
    by_cases h : a = k
    · subst h
      simp only [insertAll, List.foldl_cons, tails, if_true] at ih ⊢
      rw [ih, find_insert_same]
      cases ht : tails a ps <;> simp
    · simp only [insertAll, List.foldl_cons, tails, h, if_false] at ih ⊢
      rw [ih, find_insert_other t h]

theorem find_fromPaths {k : Name} {ps : List Path} (h : Clean ps) :
    (fromPaths ps).find k =
      if (tails k ps).isEmpty then none else some (insertAll .nil (tails k ps)) := by
  rw [fromPaths_eq h, find_insertAll]
  simp [find]

theorem insert_cons_not_empty (k : Name) (t : Path) : ∀ m : Mask, (m.insert (k :: t)).isEmpty = false
  | .nil => rfl
  | .cons k' sub rest => by
    by_cases h : k' = k <;> simp [insert, h, isEmpty]

theorem insert_not_empty {m : Mask} (p : Path) (h : m.isEmpty = false) : (m.insert p).isEmpty = false := by
  cases p with
  | nil => rw [insert_nil_path]; exact h
  | cons k t => exact insert_cons_not_empty k t m

theorem insertAll_not_empty : ∀ (ps : List Path) {m : Mask}, m.isEmpty = false → (insertAll m ps).isEmpty = false
  | [], _, h => h
  | p :: ps, _, h => insertAll_not_empty ps (insert_not_empty p h)

theorem insertAll_nil_isEmpty : ∀ (ps : List Path),
    (insertAll .nil ps).isEmpty = true ↔ ∀ p ∈ ps, p = []
  | [] => by simp [insertAll, isEmpty]
  | [] :: ps => by
    have := insertAll_nil_isEmpty ps
    simpa [insertAll, insert_nil_path] using this
  | (a :: t) :: ps => by
    have h1 : (insertAll .nil ((a :: t) :: ps)).isEmpty = false := by
      simp only [insertAll, List.foldl_cons]
      exact insertAll_not_empty ps (insert_cons_not_empty a t .nil)
    simp [h1]

end Mask

/-- Every path has at least one segment (true of every path that comes from a string). -/
def NonNil (ps : List Path) : Prop := ∀ p ∈ ps, p ≠ []
instance (ps : List Path) : Decidable (NonNil ps) := by unfold NonNil; infer_instance

theorem hasPrefix_iff : ∀ (p q : Path), hasPrefix p q = true ↔ q <+: p
  | _, [] => by simp [hasPrefix]
  | [], b :: bs => by simp [hasPrefix]
  | a :: as, b :: bs => by
    simp only [hasPrefix, Bool.and_eq_true, decide_eq_true_eq, List.cons_prefix_cons, hasPrefix_iff as bs]
    constructor
    · rintro ⟨h1, h2⟩; exact ⟨h1.symm, h2⟩
    · rintro ⟨h1, h2⟩; exact ⟨h1.symm, h2⟩

theorem strictPrefix_iff (q p : Path) : strictPrefix q p = true ↔ q <+: p ∧ q.length < p.length := by
  simp [strictPrefix, hasPrefix_iff]

theorem strictPrefix_cons (a k : Name) (u t : Path) :
    strictPrefix (a :: u) (k :: t) = (decide (a = k) && strictPrefix u t) := by
  by_cases h : a = k
  · subst h
    rw [Bool.eq_iff_iff]
    simp [strictPrefix_iff, List.cons_prefix_cons]
  · rw [Bool.eq_iff_iff]
    simp [strictPrefix_iff, List.cons_prefix_cons, h]

theorem strictPrefix_nil_right (q : Path) : strictPrefix q [] = false := by
  cases h : strictPrefix q [] with
  | false => rfl
  | true => have := (strictPrefix_iff q []).mp h; simp at this

theorem mem_minimal {p : Path} {ps : List Path} :
    p ∈ minimal ps ↔ p ∈ ps ∧ ∀ q ∈ ps, strictPrefix q p = false := by
  simp [minimal, List.mem_filter]

theorem minimal_subset {p : Path} {ps : List Path} (h : p ∈ minimal ps) : p ∈ ps := (mem_minimal.mp h).1

theorem prefixFree_minimal (ps : List Path) : PrefixFree (minimal ps) := by
  intro p hp q hq hpre
  by_cases hlen : p.length < q.length
  · have := (mem_minimal.mp hq).2 p (minimal_subset hp)
    rw [(strictPrefix_iff p q).mpr ⟨hpre, hlen⟩] at this
    cases this
  · exact List.IsPrefix.eq_of_length_le hpre (by omega)

theorem clean_minimal {ps : List Path} (h : Clean ps) : Clean (minimal ps) :=
  fun p hp => h p (minimal_subset hp)

theorem nonNil_minimal {ps : List Path} (h : NonNil ps) : NonNil (minimal ps) :=
  fun p hp => h p (minimal_subset hp)

theorem exists_minimal_prefix (ps : List Path) : ∀ (n : Nat) (p : Path), p.length ≤ n → p ∈ ps →
    ∃ q ∈ minimal ps, q <+: p
  | 0, p, hn, hp => by
    refine ⟨p, mem_minimal.mpr ⟨hp, fun q _ => ?_⟩, List.prefix_refl _⟩
    cases h : strictPrefix q p with
    | false => rfl
    | true => have := ((strictPrefix_iff q p).mp h).2; omega
  | n + 1, p, hn, hp => by
    cases ha : ps.any (fun q => strictPrefix q p) with
    | false => exact ⟨p, List.mem_filter.mpr ⟨hp, by simp [ha]⟩, List.prefix_refl _⟩
    | true =>
      -- some path of the list is a strict prefix: it is shorter, and below an outermost one
      obtain ⟨q, hq, hs⟩ := List.any_eq_true.mp ha
      obtain ⟨hpre, hlen⟩ := (strictPrefix_iff q p).mp hs
      obtain ⟨q', hq', hpre'⟩ := exists_minimal_prefix ps n q (by omega) hq
      exact ⟨q', hq', List.IsPrefix.trans hpre' hpre⟩

theorem minimal_eq_nil_iff (ps : List Path) : minimal ps = [] ↔ ps = [] := by
  constructor
  · intro h
    cases ps with
    | nil => rfl
    | cons p rest =>
      obtain ⟨q, hq, _⟩ := exists_minimal_prefix (p :: rest) p.length p (Nat.le_refl _) (List.mem_cons_self ..)
      rw [h] at hq; cases hq
  · intro h; subst h; rfl

theorem nil_mem_minimal_iff (ps : List Path) : [] ∈ minimal ps ↔ [] ∈ ps := by
  constructor
  · exact minimal_subset
  · intro h; exact mem_minimal.mpr ⟨h, fun q _ => strictPrefix_nil_right q⟩

theorem tails_filter (k : Name) (P : Path → Bool) (Q : Path → Bool) (hPQ : ∀ t, P (k :: t) = Q t) :
    ∀ ps : List Path, tails k (ps.filter P) = (tails k ps).filter Q
  | [] => rfl
  | [] :: ps => by
    by_cases h : P [] <;> simp [List.filter_cons, h, tails, tails_filter k P Q hPQ ps]
  | (a :: t) :: ps => by
    by_cases ha : a = k
    · subst ha
      by_cases h : P (a :: t)
      · have hq : Q t = true := by rw [← hPQ]; exact h
        simp [List.filter_cons, h, hq, tails, tails_filter a P Q hPQ ps]
      · have hq : Q t = false := by rw [← hPQ]; simpa using h
        simp [List.filter_cons, h, hq, tails, tails_filter a P Q hPQ ps]
    · by_cases h : P (a :: t) <;> simp [List.filter_cons, h, tails, ha, tails_filter k P Q hPQ ps]

theorem any_strictPrefix_tails (k : Name) (t : Path) : ∀ (ps : List Path), NonNil ps →
    ps.any (fun q => strictPrefix q (k :: t)) = (tails k ps).any (fun u => strictPrefix u t)
  | [], _ => rfl
  | [] :: ps, h => absurd rfl (h [] (List.mem_cons_self ..))
  | (a :: u) :: ps, h => by
    have ih := any_strictPrefix_tails k t ps (fun p hp => h p (List.mem_cons_of_mem _ hp))
    by_cases ha : a = k
    · subst ha; simp [tails, strictPrefix_cons, ih]
    · simp [tails, strictPrefix_cons, ha, ih]

theorem tails_minimal (k : Name) (ps : List Path) (h : NonNil ps) :
    tails k (minimal ps) = minimal (tails k ps) := by
  unfold minimal
  apply tails_filter
  intro t
  rw [any_strictPrefix_tails k t ps h]

theorem insertAll_not_empty_of_mem {ts : List Path} {u : Path} (hu : u ∈ ts) (hn : u ≠ []) :
    (Mask.insertAll .nil ts).isEmpty = false := by
  cases hh : (Mask.insertAll .nil ts).isEmpty with
  | false => rfl
  | true => exact absurd ((Mask.insertAll_nil_isEmpty _).mp hh u hu) hn

theorem find_insertAll_tails {k : Name} {ps : List Path} (h : tails k ps ≠ []) :
    (Mask.insertAll .nil ps).find k = some (Mask.insertAll .nil (tails k ps)) := by
  rw [Mask.find_insertAll]
  cases ht : tails k ps with
  | nil => exact absurd ht h
  | cons _ _ => simp [Mask.find]

theorem mask_eq_nil_of_isEmpty {m : Mask} (h : m.isEmpty = true) : m = .nil := by
  cases m with
  | nil => rfl
  | cons _ _ _ => simp [Mask.isEmpty] at h

theorem nestedMask_eq {ps : List Path} (hc : Clean ps) :
    nestedMask ps = Mask.insertAll .nil (minimal ps) := by
  unfold nestedMask; exact Mask.fromPaths_eq (clean_minimal hc)

theorem fromPaths_not_empty {p : Path} {ps : List Path} (hc : Clean (p :: ps)) (hn : p ≠ []) :
    (Mask.fromPaths (p :: ps)).isEmpty = false := by
  rw [Mask.fromPaths_eq hc]
  exact insertAll_not_empty_of_mem (List.mem_cons_self ..) hn

theorem nestedMask_not_empty {ps : List Path} (hc : Clean ps) (hn : NonNil ps) (hne : ps ≠ []) :
    (nestedMask ps).isEmpty = false := by
  rw [nestedMask_eq hc]
  obtain ⟨q, hq⟩ := List.exists_mem_of_ne_nil _ (mt (minimal_eq_nil_iff ps).mp hne)
  exact insertAll_not_empty_of_mem hq (nonNil_minimal hn q hq)

/-- No path of `ps` starts with `k`: the mask names neither the top-level field `k` nor anything below it. -/
def NoHead (k : Name) (ps : List Path) : Prop := tails k ps = []
instance (k : Name) (ps : List Path) : Decidable (NoHead k ps) := by unfold NoHead; infer_instance

theorem noHead_iff {k : Name} {ps : List Path} : NoHead k ps ↔ ∀ t, (k :: t) ∉ ps := by
  unfold NoHead
  constructor
  · intro h t ht
    have := mem_tails.mpr ht
    rw [h] at this; cases this
  · intro h
    cases ht : tails k ps with
    | nil => rfl
    | cons t ts =>
      have : t ∈ tails k ps := by rw [ht]; exact List.mem_cons_self ..
      exact absurd (mem_tails.mp this) (h t)

theorem noHead_minimal {k : Name} {ps : List Path} (h : NoHead k ps) : NoHead k (minimal ps) := by
  rw [noHead_iff] at *
  exact fun t ht => h t (minimal_subset ht)

theorem find_nestedMask_noHead {k : Name} {ps : List Path} (hc : Clean ps) (h : NoHead k ps) :
    (nestedMask ps).find k = none := by
  rw [nestedMask_eq hc, Mask.find_insertAll, noHead_minimal h]; rfl

end ScVerif.C05
