import ScVerif.C05.Rpc
import ScVerif.C05.OptSpec
import ScVerif.C05.Lemmas
/-
A successful intercepted write in terms of `merge` (`valueSetI_ok`), what the predicates on an
after-interceptor give, and the updater of the lightpb RPC models of `Rpc.lean`.
-/
namespace ScVerif.C05

theorem valueSetI_before (S : Schema) (ty : Nat) (u : Updater) (before : Option Icpt)
    (stored src : Fields) :
    valueSetI S ty u before none stored src = valueSet S ty u stored (Icpt.run before stored src) := by
  unfold valueSetI valueSet
  cases validate S ty u <;> simp only [Icpt.run]
  cases merge S ty u stored (Icpt.run before stored src) <;> rfl

theorem valueSetI_none (S : Schema) (ty : Nat) (u : Updater) (stored src : Fields) :
    valueSetI S ty u none none stored src = valueSet S ty u stored src :=
  valueSetI_before S ty u none stored src

theorem valueSetI_ok (S : Schema) (ty : Nat) (u : Updater) (before after : Option Icpt)
    (stored src st s : Fields) (h : valueSetI S ty u before after stored src = .ok st s) :
    validate S ty u = .ok ∧
      ∃ r, merge S ty u stored (Icpt.run before stored src) = some r ∧
        st = Icpt.run after stored r.dst ∧ s = r.src := by
  unfold valueSetI at h
  cases hv : validate S ty u <;> rw [hv] at h <;> simp only at h
  · cases hm : merge S ty u stored (Icpt.run before stored src) with
    | none => rw [hm] at h; cases h
    | some r =>
      rw [hm] at h
      simp only [SetOut.ok.injEq] at h
      exact ⟨rfl, r, rfl, h.1.symm, h.2.symm⟩
  all_goals cases h

theorem KeepsField.none (k : Name) : KeepsField k none := fun _ h => nomatch h

theorem KeepsPath.none (p : Path) : KeepsPath p none := fun _ h => nomatch h

theorem QuietWhenUnchanged.none : QuietWhenUnchanged none := fun _ h => nomatch h

theorem KeepsField.run {k : Name} {after : Option Icpt} (hk : KeepsField k after) (old m : Fields) :
    (Icpt.run after old m).get k = m.get k := by
  cases after with
  | none => rfl
  | some g => exact hk g rfl old m

theorem KeepsPath.run {p : Path} {after : Option Icpt} (hk : KeepsPath p after) (old m : Fields) :
    (Icpt.run after old m).getPath p = m.getPath p := by
  cases after with
  | none => rfl
  | some g => exact hk g rfl old m

theorem deltaIcptWith_get_other (add : Option Val → Option Val → Option Val) (k : Name) :
    ∀ (keys : List Name) (old new : Fields), k ∉ keys → (deltaIcptWith add keys old new).get k = new.get k := by
  intro keys
  induction keys with
  | nil => intro old new _; rfl
  | cons a rest ih =>
    intro old new hk
    have hne : k ≠ a := fun e => hk (e ▸ List.mem_cons_self)
    have hrest : k ∉ rest := fun e => hk (List.mem_cons_of_mem _ e)
    show (deltaIcptWith add rest old (addFieldWith add old new a)).get k = new.get k
    rw [ih old _ hrest]
    unfold addFieldWith
    split
    · exact Fields.get_erase_other hne new
    · exact Fields.get_put_other _ hne new

theorem rpcAsStated_updater (resW R reqMask : Option (List Path)) :
    (fieldUpdater resW none false reqMask R).update = reqMask ∧
    (fieldUpdater resW none false reqMask R).reset = R ∧
    (fieldUpdater resW none false reqMask R).writable = resW.map (fun w => union w []) := by
  rw [fieldUpdater_eq]; cases resW <;> simp

/-- Both paths of `UpdateBrightness` are one `Set` call; the preset path has no reset paths and no
interceptor. -/
theorem rpcUpdateBrightness_eq (S : Schema) (ty : Nat) (resW R reqMask : Option (List Path)) (preset : Bool)
    (capDelta : Icpt) (stored src : Fields) :
    rpcUpdateBrightness S ty resW R reqMask preset capDelta stored src =
      valueSetI S ty (fieldUpdater resW none false reqMask (if preset then none else R))
        (if preset then none else some capDelta) none stored src := by
  cases preset <;> rfl

end ScVerif.C05
