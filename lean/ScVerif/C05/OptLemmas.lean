import ScVerif.C05.Opts
import ScVerif.C05.Nested
/-
The path-set meaning of `fieldmaskpb`'s `normalizePaths` / `Union`: they keep which paths a list of
mask paths names (`Covers`) and add no path, so what holds of every path of two masks holds of every
path of their union (`forall_mem_union`).
-/
namespace ScVerif.C05

/-- `p` is a writable path or lies below one: what `isWritablePath` tests for every update path. -/
def InsideWritable (W : List Path) (p : Path) : Prop := ∃ w ∈ W, w <+: p

theorem isWritablePath_iff (W : List Path) (p : Path) : isWritablePath W p = true ↔ InsideWritable W p := by
  simp [isWritablePath, InsideWritable, hasPrefix_iff]

/-- The path-set view of any mask: `p` is at or below one of its paths (`InsideWritable`, read for the
update and reset masks as well). -/
def Covers (ps : List Path) (p : Path) : Prop := ∃ q ∈ ps, q <+: p

theorem covers_iff_insideWritable (ps : List Path) (p : Path) : Covers ps p ↔ InsideWritable ps p := Iff.rfl

theorem covers_append (a b : List Path) (p : Path) : Covers (a ++ b) p ↔ Covers a p ∨ Covers b p := by
  unfold Covers
  constructor
  · rintro ⟨q, hq, hp⟩
    rcases List.mem_append.mp hq with h | h
    · exact Or.inl ⟨q, h, hp⟩
    · exact Or.inr ⟨q, h, hp⟩
  · rintro (⟨q, hq, hp⟩ | ⟨q, hq, hp⟩)
    · exact ⟨q, List.mem_append.mpr (Or.inl hq), hp⟩
    · exact ⟨q, List.mem_append.mpr (Or.inr hq), hp⟩

theorem covers_nil (p : Path) : ¬ Covers [] p := by rintro ⟨q, hq, _⟩; cases hq

theorem mem_insertSorted (x p : Path) : ∀ ps : List Path, x ∈ insertSorted p ps ↔ x = p ∨ x ∈ ps
  | [] => by simp [insertSorted]
  | q :: rest => by
    unfold insertSorted
    split
    · simp only [List.mem_cons, mem_insertSorted x p rest]
      constructor
      · rintro (h | h | h)
        · exact Or.inr (Or.inl h)
        · exact Or.inl h
        · exact Or.inr (Or.inr h)
      · rintro (h | h | h)
        · exact Or.inr (Or.inl h)
        · exact Or.inl h
        · exact Or.inr (Or.inr h)
    · simp [List.mem_cons]

theorem mem_sortPaths (x : Path) : ∀ ps : List Path, x ∈ sortPaths ps ↔ x ∈ ps
  | [] => by simp [sortPaths]
  | p :: rest => by simp [sortPaths, mem_insertSorted, mem_sortPaths x rest]

theorem mem_elide (x : Path) : ∀ (ps : List Path) (l : Option Path), x ∈ elide l ps → x ∈ ps
  | [], l, h => by cases l <;> simp [elide] at h
  | p :: rest, none, h => by
    simp only [elide, List.mem_cons] at h
    rcases h with h | h
    · exact h ▸ List.mem_cons_self ..
    · exact List.mem_cons_of_mem _ (mem_elide x rest _ h)
  | p :: rest, some l, h => by
    simp only [elide] at h
    split at h
    · exact List.mem_cons_of_mem _ (mem_elide x rest _ h)
    · simp only [List.mem_cons] at h
      rcases h with h | h
      · exact h ▸ List.mem_cons_self ..
      · exact List.mem_cons_of_mem _ (mem_elide x rest _ h)

/-- Whatever the elision loop drops lies inside a path it kept (sortedness is not needed for this:
it only makes the result minimal). -/
theorem elide_covers (x : Path) : ∀ (ps : List Path) (l : Option Path), x ∈ ps →
    Covers (elide l ps) x ∨ ∃ l', l = some l' ∧ l' <+: x
  | [], _, h => by cases h
  | p :: rest, none, h => by
    left
    simp only [elide]
    rcases List.mem_cons.mp h with h | h
    · exact ⟨p, List.mem_cons_self .., h ▸ List.prefix_refl _⟩
    · rcases elide_covers x rest (some p) h with ⟨q, hq, hqx⟩ | ⟨l', hl, hl'⟩
      · exact ⟨q, List.mem_cons_of_mem _ hq, hqx⟩
      · cases hl; exact ⟨p, List.mem_cons_self .., hl'⟩
  | p :: rest, some l, h => by
    simp only [elide]
    split
    next hpre =>
      rcases List.mem_cons.mp h with h | h
      · right; exact ⟨l, rfl, h ▸ (hasPrefix_iff p l).mp hpre⟩
      · exact elide_covers x rest (some l) h
    next =>
      left
      rcases List.mem_cons.mp h with h | h
      · exact ⟨p, List.mem_cons_self .., h ▸ List.prefix_refl _⟩
      · rcases elide_covers x rest (some p) h with ⟨q, hq, hqx⟩ | ⟨l', hl, hl'⟩
        · exact ⟨q, List.mem_cons_of_mem _ hq, hqx⟩
        · cases hl; exact ⟨p, List.mem_cons_self .., hl'⟩

theorem mem_normalize {x : Path} {ps : List Path} (h : x ∈ normalize ps) : x ∈ ps :=
  (mem_sortPaths x ps).mp (mem_elide x _ _ h)

theorem covers_normalize (ps : List Path) (p : Path) : Covers (normalize ps) p ↔ Covers ps p := by
  constructor
  · rintro ⟨q, hq, hp⟩; exact ⟨q, mem_normalize hq, hp⟩
  · rintro ⟨q, hq, hp⟩
    rcases elide_covers q (sortPaths ps) none ((mem_sortPaths q ps).mpr hq) with ⟨r, hr, hrq⟩ | ⟨_, hl, _⟩
    · exact ⟨r, hr, List.IsPrefix.trans hrq hp⟩
    · cases hl

theorem covers_union (a b : List Path) (p : Path) : Covers (union a b) p ↔ Covers a p ∨ Covers b p := by
  unfold union; rw [covers_normalize, covers_append]

theorem mem_union {x : Path} {a b : List Path} (h : x ∈ union a b) : x ∈ a ∨ x ∈ b :=
  List.mem_append.mp (mem_normalize h)

theorem insertSorted_ne_nil (p : Path) : ∀ xs : List Path, insertSorted p xs ≠ []
  | [] => by simp [insertSorted]
  | q :: rest => by simp only [insertSorted]; split <;> simp

theorem normalize_eq_nil {ps : List Path} : normalize ps = [] ↔ ps = [] := by
  constructor
  · intro h
    cases ps with
    | nil => rfl
    | cons p rest =>
      exfalso
      unfold normalize at h
      simp only [sortPaths] at h
      cases hs : insertSorted p (sortPaths rest) with
      | nil => exact insertSorted_ne_nil _ _ hs
      | cons a as => rw [hs] at h; simp [elide] at h
  · rintro rfl; rfl

theorem union_eq_nil {a b : List Path} : union a b = [] ↔ a = [] ∧ b = [] := by
  unfold union
  rw [normalize_eq_nil]
  simp

theorem forall_mem_union {Q : Path → Prop} {a b : List Path} (ha : ∀ x ∈ a, Q x) (hb : ∀ x ∈ b, Q x) :
    ∀ x ∈ union a b, Q x :=
  fun x hx => (mem_union hx).elim (ha x) (hb x)

theorem clean_union {a b : List Path} (ha : Clean a) (hb : Clean b) : Clean (union a b) :=
  forall_mem_union ha hb

theorem nonNil_union {a b : List Path} (ha : NonNil a) (hb : NonNil b) : NonNil (union a b) :=
  forall_mem_union ha hb

theorem unrelated_union {p : Path} {a b : List Path} (ha : Unrelated p a) (hb : Unrelated p b) :
    Unrelated p (union a b) :=
  forall_mem_union ha hb

theorem noHead_union {k : Name} {a b : List Path} (ha : NoHead k a) (hb : NoHead k b) : NoHead k (union a b) := by
  rw [noHead_iff] at *
  exact fun t ht => forall_mem_union (Q := (· ≠ k :: t)) (fun _ h e => ha t (e ▸ h)) (fun _ h e => hb t (e ▸ h)) _ ht rfl

theorem noHead_append_single {k l : Name} {M : List Path} (h : NoHead k M) (hl : l ≠ k) :
    NoHead k (M ++ [[l]]) := by
  rw [noHead_iff] at *
  intro t ht
  rcases List.mem_append.mp ht with h1 | h1
  · exact h t h1
  · simp at h1; exact hl h1.1.symm

theorem computeWriteConfig_split (pre post : List WOpt) (o : WOpt) :
    computeWriteConfig (pre ++ o :: post) = post.foldl WOpt.apply (WOpt.apply (computeWriteConfig pre) o) := by
  simp [computeWriteConfig, List.foldl_append]

theorem computeWriteConfig_snoc (opts : List WOpt) (o : WOpt) :
    computeWriteConfig (opts ++ [o]) = WOpt.apply (computeWriteConfig opts) o :=
  computeWriteConfig_split opts [] o

end ScVerif.C05
