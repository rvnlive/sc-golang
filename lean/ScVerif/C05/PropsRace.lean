import ScVerif.C05.Props
import ScVerif.C05.RaceLemmas
/-!
# C05 — writes that race with the commits of other writers, and resource options that are not masks

`raceSet` (Race.lean) is `Value.set` / `Collection.Update` through `resource.GetAndUpdate` with a LIST
of whole writes of other callers committed between the write's first read and its re-check.  "What
it was before" in the property is, for a write that succeeds, the message stored immediately before
its commit: `commitAll S ty stored rivals`.

All theorems quantify over every schema, updater (i.e. every option list), stored and written
message and EVERY list of rival writes (each with its own updater and message; accepted, rejected
or panicking).
-/
namespace ScVerif.C05

/-- For any equality test `eq` in the place of `proto.Equal`: a write that succeeds although others
committed in its window was re-checked, and what it stores is the one-write function `valueSet` applied
to the message it read. -/
theorem C05_race_commit_base (eq : Fields → Fields → Bool) (S : Schema) (ty : Nat) (u : Updater)
    (stored src : Fields) (rivals : List Rival) (st src' : Fields)
    (h : (raceSet eq S ty u stored src rivals).out = .ok st src') :
    eq stored (commitAll S ty stored rivals) = true ∧
    valueSet S ty u stored src = .ok st src' ∧
    (raceSet eq S ty u stored src rivals).stored = st := by
  rw [raceSet_eq] at h ⊢
  cases hv : valueSet S ty u stored src with
  | err c => rw [hv] at h; cases h
  | panic => rw [hv] at h; cases h
  | ok st' s' =>
    rw [hv] at h
    dsimp only at h ⊢
    split at h
    next he => cases h; exact ⟨he, rfl, by rw [if_pos he]⟩
    · cases h

/-- When the equality test only relates identical messages, every one-write theorem of `Props.lean`
holds with "before" = what the last rival left. -/
theorem C05_race_success_is_write_on_current (eq : Fields → Fields → Bool)
    (heq : ∀ a b, eq a b = true → a = b) (S : Schema) (ty : Nat) (u : Updater)
    (stored src : Fields) (rivals : List Rival) (st src' : Fields)
    (h : (raceSet eq S ty u stored src rivals).out = .ok st src') :
    valueSet S ty u (commitAll S ty stored rivals) src = .ok st src' := by
  obtain ⟨he, hv, _⟩ := C05_race_commit_base eq S ty u stored src rivals st src' h
  rw [← heq _ _ he]; exact hv

/-- The frame under interleaved commits (`proto.Equal` = equality up to the order of populated fields).  A
top-level field `k` that the write's masks avoid (`Avoids k u`) and no oneof assignment can displace
holds after a successful write the protobuf value it held in the message stored IMMEDIATELY BEFORE the
commit — what the last rival left, not what the write read first.  (A retry that merges into the message
based on the first read breaks exactly this.) -/
theorem C05_race_frame (S : Schema) (ty : Nat) (u : Updater) (stored src : Fields)
    (rivals : List Rival) (st src' : Fields) (k : Name)
    (ha : Avoids k u) (hd : NotDisplaced S ty k)
    (h : (raceSet protoEqual S ty u stored src rivals).out = .ok st src') :
    (st.get k).map Val.norm = ((commitAll S ty stored rivals).get k).map Val.norm ∧
    ((raceSet protoEqual S ty u stored src rivals).stored.get k).map Val.norm
      = ((commitAll S ty stored rivals).get k).map Val.norm := by
  obtain ⟨he, hv, hs⟩ := C05_race_commit_base protoEqual S ty u stored src rivals st src' h
  have hk : st.get k = stored.get k := merge_avoids S ty u stored src ⟨st, src'⟩ k ha hd (valueSet_ok hv).2
  have := protoEqual_get _ _ he k
  rw [hs, hk]
  exact ⟨this, this⟩

/-- A write that lost the race answers Aborted and changes nothing: the stored message
is what the last rival left. -/
theorem C05_race_lost (eq : Fields → Fields → Bool) (S : Schema) (ty : Nat) (u : Updater)
    (stored src : Fields) (rivals : List Rival) (r : Merged)
    (hv : validate S ty u = .ok) (hm : merge S ty u stored src = some r)
    (hne : eq stored (commitAll S ty stored rivals) = false) :
    raceSet eq S ty u stored src rivals = ⟨.aborted, commitAll S ty stored rivals⟩ := by
  rw [raceSet_eq, valueSet_of_merge hv hm]
  simp [hne]

/-- A write that Validate rejects never reaches the window: nobody's
callback runs, nothing is stored. -/
theorem C05_race_rejected_first (eq : Fields → Fields → Bool) (S : Schema) (ty : Nat) (u : Updater)
    (stored src : Fields) (rivals : List Rival) (hv : validate S ty u ≠ .ok) :
    raceSet eq S ty u stored src rivals = ⟨.err (validate S ty u), stored⟩ := by
  rw [raceSet_eq, valueSet_err hv]

/-- Without rival commits `raceSet` is the one-write function (`proto.Equal` is
reflexive). -/
theorem C05_race_alone (S : Schema) (ty : Nat) (u : Updater) (stored src : Fields) :
    raceSet protoEqual S ty u stored src [] =
      match valueSet S ty u stored src with
      | .ok st s => ⟨.ok st s, st⟩
      | .err c => ⟨.err c, stored⟩
      | .panic => ⟨.panic, stored⟩ := by
  rw [raceSet_eq]
  cases valueSet S ty u stored src <;> simp [commitAll, protoEqual_refl]

/-- The options that are not masks (`WithClock`, `WithEquivalence` / `WithNoDuplicates`, `WithRNG`,
`WithIDInterceptor`), in any position, do not decide the writable fields — hence, `runSeq`/`raceSet`
being functions of those, no outcome and no stored message. -/
theorem C05_resource_options_other (S : Schema) (ty : Nat) (opts : List ROpt) :
    resourceWritable S ty opts = resourceWritable S ty (opts.filter (fun o => !o.isOther)) := by
  unfold resourceWritable
  exact resourceWritable_foldl_other S ty opts _

/-- The window of `GetAndUpdate` has two halves around `writer.Merge`
(`raceSetPhased`).  Unless `Merge` panics the halves do not matter; when it panics in an accepted write
the call ends there and exactly the first half has been committed, by the others alone. -/
theorem C05_race_window_halves (eq : Fields → Fields → Bool) (S : Schema) (ty : Nat) (u : Updater)
    (stored src : Fields) (pre post : List Rival) :
    (merge S ty u stored src ≠ none →
      raceSetPhased eq S ty u stored src pre post = raceSet eq S ty u stored src (pre ++ post)) ∧
    (validate S ty u = .ok → merge S ty u stored src = none →
      raceSetPhased eq S ty u stored src pre post = ⟨.panic, commitAll S ty stored pre⟩) := by
  refine ⟨raceSetPhased_eq eq S ty u stored src pre post, ?_⟩
  intro hv hm
  unfold raceSetPhased raceSet
  simp only [hm, hv]

/-- the outer write `WithUpdatePaths("g")` of `{g=9}` -/
def rOuter : Updater := ⟨none, some [["g"]], none⟩
/-- a rival `WithUpdatePaths("f.c")` of `{f={c=5}}` -/
def rRival : Rival := ⟨⟨none, some [["f", "c"]], none⟩, .cons "f" (.msg (.cons "c" (.sc "i5") .nil)) .nil⟩
/-- a rival that stores what is stored: nil mask, the stored message -/
def rSame : Rival := ⟨⟨none, none, none⟩, wStored⟩

/-- `C05_race_lost` applies: the rival changes `f.c` (outside the outer mask `{g}`); the outer write
is aborted and `f.c=5`, `g=7` stay. -/
example : raceSet protoEqual wSchema 0 rOuter wStored (.cons "g" (.sc "i9") .nil) [rRival] =
    ⟨.aborted, .cons "f" (.msg (.cons "c" (.sc "i5") (.cons "d" (.sc "i2") .nil))) (.cons "g" (.sc "i7") .nil)⟩ := by
  decide +kernel

/-- `C05_race_frame` / `C05_race_commit_base` apply with a NON-EMPTY rival list: a rival that stores
an equal message lets the write through; `f` is avoided by the outer masks and not displaceable. -/
example : (raceSet protoEqual wSchema 0 rOuter wStored (.cons "g" (.sc "i9") .nil) [rSame]).out =
      .ok (.cons "f" (.msg (.cons "c" (.sc "i1") (.cons "d" (.sc "i2") .nil))) (.cons "g" (.sc "i9") .nil))
        (.cons "g" (.sc "i9") .nil) ∧
    Avoids "f" rOuter ∧ NotDisplaced wSchema 0 "f" := by
  exact ⟨by decide +kernel,
    .of_update (M := [["g"]]) rfl (by decide +kernel) (by decide +kernel) (by decide +kernel) (fun _ h => nomatch h),
    notDisplaced_of_no_oneof (by decide +kernel) _⟩

/-- The panic case of `C05_race_window_halves` is reachable: a writable path that continues below a
map field (`m.x`, server configuration nobody validates) passes `Validate` and makes `Merge` panic on
a written message that holds the map; a rival placed after `Merge` is then never committed. -/
example :
    let S : Schema := [[⟨"f", .message 1, 0⟩, ⟨"g", .scalar, 0⟩, ⟨"m", .map, 0⟩], [⟨"c", .scalar, 0⟩, ⟨"d", .scalar, 0⟩]]
    let u : Updater := ⟨some [["m", "x"]], none, none⟩
    let src : Fields := .cons "m" (.map [("a", "b")]) .nil
    let rv : Rival := ⟨⟨none, none, none⟩, .cons "g" (.sc "i9") .nil⟩
    validate S 0 u = .ok ∧ merge S 0 u wStored src = none ∧
    raceSetPhased protoEqual S 0 u wStored src [] [rv] = ⟨.panic, wStored⟩ ∧
    (raceSetPhased protoEqual S 0 u wStored src [rv] []).stored.get "g" = some (.sc "i9") := by
  decide +kernel

/-- `proto.Equal` relates messages that differ in field order only, and structural equality
satisfies the hypothesis of `C05_race_success_is_write_on_current`. -/
example : protoEqual (.cons "g" (.sc "i7") (.cons "f" (.msg .nil) .nil)) (.cons "f" (.msg .nil) (.cons "g" (.sc "i7") .nil)) = true ∧
    (∀ a b : Fields, (decide (a = b)) = true → a = b) := ⟨by decide +kernel, fun _ _ h => of_decide_eq_true h⟩

/-- `C05_resource_options_other`: a clock before and an equivalence after `WithWritablePaths("g")`. -/
example : resourceWritable wSchema 0 [.other "clock", .writablePaths [["g"]], .other "equivalence"] = some (some [["g"]]) := by
  decide +kernel

end ScVerif.C05
