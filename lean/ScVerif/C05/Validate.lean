import ScVerif.C05.OptSpec
import ScVerif.C05.Lemmas
import ScVerif.C06.ValidLemmas
/-
`Validate` in terms of the path-set reading of masks: `fieldmaskpb.IsValid` is well-formedness of
every path (`GoodPath`, C06), the writable test is `InsideWritable` for every path.
-/
namespace ScVerif.C05
open ScVerif.C06 (GoodPath validPath_iff)

theorem isValid_iff (S : Schema) (ty : Nat) (ps : List Path) :
    isValid S ty ps = true ↔ ∀ p ∈ ps, GoodPath S ty p := by
  simp only [isValid, List.all_eq_true, validPath_iff]

theorem all_isWritablePath_iff (W M : List Path) :
    M.all (isWritablePath W) = true ↔ ∀ p ∈ M, InsideWritable W p := by
  simp only [List.all_eq_true, isWritablePath_iff]

theorem validateReset_ok_iff (S : Schema) (ty : Nat) (u : Updater) :
    validateReset S ty u = .ok ↔ ∀ R, u.reset = some R → ∀ p ∈ R, GoodPath S ty p := by
  unfold validateReset
  cases u.reset with
  | none => simp
  | some R =>
    simp only [← isValid_iff, Option.some.injEq, forall_eq']
    cases isValid S ty R <;> simp

theorem validate_rejects (S : Schema) (ty : Nat) (u : Updater) (M : List Path) (hM : u.update = some M)
    (h : (∃ p ∈ M, ¬ GoodPath S ty p) ∨ (∃ W, u.writable = some W ∧ ∃ p ∈ M, ¬ InsideWritable W p)) :
    validate S ty u = .invalidArgument := by
  unfold validate
  rw [hM]
  by_cases hv : isValid S ty M = true
  · rcases h with ⟨p, hp, hbad⟩ | ⟨W, hW, p, hp, hout⟩
    · exact absurd ((isValid_iff S ty M).mp hv p hp) hbad
    · have : M.all (isWritablePath W) ≠ true := fun hh => hout ((all_isWritablePath_iff W M).mp hh p hp)
      simp [hv, hW, this]
  · simp [hv]

/-- The same for a write with an option list: one bad path in the mask the options compute. -/
theorem writeWith_rejects (S : Schema) (ty : Nat) (resW : Option (List Path)) (opts : List WOpt)
    (M : List Path) (hM : (computeWriteConfig opts).update = some M) (p : Path) (hp : p ∈ M)
    (hbad : ¬ GoodPath S ty p ∨
      ∃ W, ((computeWriteConfig opts).fieldUpdater resW).writable = some W ∧ ¬ InsideWritable W p)
    (stored src : Fields) : writeWith S ty resW opts stored src = .err .invalidArgument := by
  have hv := validate_rejects S ty _ M ((fieldUpdater_update _ resW).trans hM)
    (hbad.imp (fun h => ⟨p, hp, h⟩) fun ⟨W, hW, h⟩ => ⟨W, hW, p, hp, h⟩)
  rw [writeWith, valueSet_err (by rw [hv]; simp), hv]

end ScVerif.C05
