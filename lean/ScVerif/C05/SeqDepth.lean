import ScVerif.C05.Merge
import ScVerif.C05.Icpt
/-
Sequences of writes: an invariant of the accepted writes holds at the end (`finalStored_induction`,
`finalStoredI_induction`).  The frame at depth carried through a sequence needs a hypothesis on a written
message that does not mention the intermediate stored messages: `Fits`, which conformance to the schema
gives.
-/
namespace ScVerif.C05

/-- The written message *fits* the path `p`, given what the resource holds at `p` (`old`): on the way
down `p` it holds messages only (or nothing), and at the end of `p` it does not hold a non-message
where the resource holds a message. -/
def Fits (old : Option Val) : Path → Fields → Prop
  | [], _ => True
  | [k], src => ∀ v, src.get k = some v → (∀ sf, v ≠ .msg sf) → ∀ df, old ≠ some (.msg df)
  | k :: k' :: rest, src =>
    match src.get k with
    | none => True
    | some (.msg sf) => Fits old (k' :: rest) sf
    | some _ => False

theorem agree_of_fits : ∀ (p : Path) (dst src : Fields), Fits (dst.getPath p) p src → Agree p dst src
  | [], _, _, _ => trivial
  | [k], dst, src, h => by
    rw [agree_cons]
    intro v hs df hdf
    cases hv : v.msg? with
    | some sf => exact ⟨sf, Val.msg?_eq_some.mp hv, trivial⟩
    | none => exact absurd hdf (h v hs (Val.msg?_eq_none.mp hv) df)
  | k :: k' :: rest, dst, src, h => by
    rw [agree_cons]
    intro v hs df hdf
    rw [Fits, hs] at h
    cases v with
    | msg sf =>
      refine ⟨sf, rfl, agree_of_fits (k' :: rest) df sf ?_⟩
      rwa [Fields.getPath, hdf] at h
    | _ => exact h.elim

/-- Every segment of `p` but the last names a singular message field (a path `fieldmaskpb` can
continue through). -/
def MsgPath (S : Schema) : Nat → Path → Prop
  | _, [] => True
  | _, [_] => True
  | ty, k :: k' :: rest =>
    (∃ fd t, S.field ty k = some fd ∧ fd.kind = .message t) ∧ MsgPath S (S.child ty k) (k' :: rest)

theorem hasKind_msg {df : Fields} {kind : Kind} (h : (Val.msg df).hasKind kind = true) : ∃ t, kind = .message t := by
  cases kind <;> simp [Val.hasKind] at h
  exact ⟨_, rfl⟩

theorem msg_of_hasKind {v : Val} {t : Nat} (h : v.hasKind (.message t) = true) : ∃ sf, v = .msg sf := by
  cases v <;> simp [Val.hasKind] at h
  exact ⟨_, rfl⟩

theorem conforms_get (S : Schema) (ty : Nat) (k : Name) : ∀ (fs : Fields) (v : Val),
    Fields.conforms S ty fs = true → fs.get k = some v →
    ∃ fd, S.field ty k = some fd ∧ v.hasKind fd.kind = true ∧ Val.conforms S (S.child ty k) v = true
  | .nil, _, _, hg => by simp [Fields.get] at hg
  | .cons a w rest, v, hc, hg => by
    rw [Fields.conforms] at hc
    simp only [Bool.and_eq_true] at hc
    by_cases hak : a = k
    · subst hak
      simp only [Fields.get, if_true, Option.some.injEq] at hg
      subst hg
      cases hf : S.field ty a with
      | none => rw [hf] at hc; simp at hc
      | some fd =>
        rw [hf] at hc
        simp only [Bool.and_eq_true] at hc
        exact ⟨fd, rfl, hc.1.1, hc.1.2⟩
    · simp only [Fields.get, hak, if_false] at hg
      exact conforms_get S ty k rest v hc.2 hg

/-- By descent in both messages at once, `conforms_get` at each segment: before the end of `p` the field
is a singular message field (`MsgPath`), so what the written message holds there is a message; at the
end the two values are read under one field descriptor, so if the stored one is a message the written
one is. -/
theorem fits_of_conforms (S : Schema) (old : Option Val) : ∀ (p : Path) (ty : Nat) (src : Fields),
    MsgPath S ty p → Fields.conforms S ty src = true →
    (∀ df, old = some (.msg df) →
      ∃ stored, Fields.conforms S ty stored = true ∧ stored.getPath p = some (.msg df)) →
    Fits old p src
  | [], _, _, _, _, _ => trivial
  | [k], ty, src, _, hc, hold => by
    intro v hg hnm df hdf
    obtain ⟨stored, hst, hgs⟩ := hold df hdf
    obtain ⟨fd, hf, hk, _⟩ := conforms_get S ty k stored _ hst hgs
    obtain ⟨fd', hf', hk', _⟩ := conforms_get S ty k src v hc hg
    rw [hf] at hf'; cases hf'
    obtain ⟨t, ht⟩ := hasKind_msg hk
    rw [ht] at hk'
    obtain ⟨sf, rfl⟩ := msg_of_hasKind hk'
    exact hnm sf rfl
  | k :: k' :: rest, ty, src, hp, hc, hold => by
    obtain ⟨⟨fd, t, hf, ht⟩, hrest⟩ := hp
    rw [Fits]
    cases hg : src.get k with
    | none => trivial
    | some v =>
      obtain ⟨fd', hf', hk', hsub⟩ := conforms_get S ty k src v hc hg
      rw [hf] at hf'; cases hf'
      rw [ht] at hk'
      obtain ⟨sf, rfl⟩ := msg_of_hasKind hk'
      rw [Val.conforms] at hsub
      refine fits_of_conforms S old (k' :: rest) _ sf hrest hsub fun df hdf => ?_
      obtain ⟨stored, hst, hgs⟩ := hold df hdf
      rw [Fields.getPath_cons _ _ (List.cons_ne_nil _ _)] at hgs
      cases hgk : stored.get k with
      | none => rw [hgk] at hgs; cases hgs
      | some w =>
        rw [hgk] at hgs
        cases w with
        | msg sub =>
          obtain ⟨_, _, _, hsubc⟩ := conforms_get S ty k stored _ hst hgk
          rw [Val.conforms] at hsubc
          exact ⟨sub, hsubc, hgs⟩
        | _ => cases hgs

/-- `Fits` speaks of the written message and of what is stored AT `p` only, so this invariant carries
through a sequence. -/
theorem merge_avoidsPath (S : Schema) (ty : Nat) (u : Updater) (dst src : Fields) (r : Merged) (p : Path)
    (ha : AvoidsPath p u) (hp : p ≠ []) (hdisp : NoDispAlong S ty p)
    (hnd : NoDupAlong p dst) (hns : NoDupAlong p src) (hfit : Fits (dst.getPath p) p src)
    (h : merge S ty u dst src = some r) :
    r.dst.getPath p = dst.getPath p ∧ NoDupAlong p r.dst :=
  merge_avoidsPath_agree S ty u dst src r p ha hp hdisp hnd hns (agree_of_fits p dst src hfit) h

/-- Rejected writes, panics and `Add`s of other items store nothing in the tracked item. -/
theorem finalStored_induction (S : Schema) (ty : Nat) (resW : Option (List Path)) (P : Fields → Prop) :
    ∀ (steps : List Step) (stored : Fields), P stored →
      (∀ s ∈ steps, s.fresh = false → ∀ st st' src', P st →
        writeWith S ty resW s.opts st s.src = .ok st' src' → P st') →
      P (finalStored S ty resW stored steps)
  | [], _, h0, _ => h0
  | s :: rest, stored, h0, hstep => by
    have hrest := fun s' hs' => hstep s' (List.mem_cons_of_mem _ hs')
    unfold finalStored
    cases ho : s.run S ty resW stored with
    | panic => exact h0
    | err c => exact finalStored_induction S ty resW P rest stored h0 hrest
    | ok st src' =>
      simp only [Step.next]
      cases hf : s.fresh with
      | true => exact finalStored_induction S ty resW P rest stored h0 hrest
      | false =>
        refine finalStored_induction S ty resW P rest st ?_ hrest
        unfold Step.run at ho
        rw [hf] at ho
        exact hstep s (List.mem_cons_self ..) hf stored st src' h0 ho

/-- The same for intercepted writes (`IStep` has no `Add` of other items). -/
theorem finalStoredI_induction (S : Schema) (ty : Nat) (resW : Option (List Path)) (P : Fields → Prop) :
    ∀ (steps : List IStep) (stored : Fields), P stored →
      (∀ s ∈ steps, ∀ st st' src', P st → s.run S ty resW st = .ok st' src' → P st') →
      P (finalStoredI S ty resW stored steps)
  | [], _, h0, _ => h0
  | s :: rest, stored, h0, hstep => by
    have hrest := fun s' hs' => hstep s' (List.mem_cons_of_mem _ hs')
    unfold finalStoredI
    cases ho : s.run S ty resW stored with
    | panic => exact h0
    | err c => exact finalStoredI_induction S ty resW P rest stored h0 hrest
    | ok st src' =>
      exact finalStoredI_induction S ty resW P rest st
        (hstep s (List.mem_cons_self ..) stored st src' h0 ho) hrest

end ScVerif.C05
