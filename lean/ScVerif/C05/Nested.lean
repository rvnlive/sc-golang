import ScVerif.C05.MaskLemmas
/-
Paths through singular messages (`Fields.getPath_cons`), and how a nested mask meets a path, as functions
of the mask: it does not get there, it ends at or above it (`reach`), it ends exactly there (`names`).
The passes over a message are stated with these and never look at the list of paths the mask was built
from; only the last statements of this file do.
-/
namespace ScVerif.C05

/-- What lies at `q` below a value: only a singular message holds anything below it. -/
def Val.getPath : Val → Path → Option Val
  | .msg fs, q => fs.getPath q
  | _, _ => none

theorem Val.getPath_nonmsg {v : Val} (h : ∀ df, v ≠ .msg df) (q : Path) : v.getPath q = none := by
  cases v with
  | msg df => exact absurd rfl (h df)
  | _ => rfl

theorem Val.bind_getPath_nonmsg {o : Option Val} (h : ∀ df, o ≠ some (.msg df)) (q : Path) :
    o.bind (·.getPath q) = none := by
  cases o with
  | none => rfl
  | some v => exact Val.getPath_nonmsg (fun df e => h df (e ▸ rfl)) q

namespace Fields

theorem getPath_single (fs : Fields) (k : Name) : fs.getPath [k] = fs.get k := rfl

theorem getPath_cons (fs : Fields) (k : Name) {rest : Path} (hr : rest ≠ []) :
    fs.getPath (k :: rest) = (fs.get k).bind (·.getPath rest) := by
  cases rest with
  | nil => exact absurd rfl hr
  | cons k' r =>
    rw [getPath]
    cases fs.get k with
    | none => rfl
    | some v => cases v <;> rfl

theorem getPath_congr {fs fs' : Fields} {k : Name} (h : fs'.get k = fs.get k) (rest : Path) :
    fs'.getPath (k :: rest) = fs.getPath (k :: rest) := by
  cases rest with
  | nil => exact h
  | cons k' r => rw [getPath_cons _ _ (by simp), getPath_cons _ _ (by simp), h]

theorem getPath_of_get_none {fs : Fields} {k : Name} (h : fs.get k = none) (rest : Path) :
    fs.getPath (k :: rest) = none := by
  cases rest with
  | nil => exact h
  | cons k' r => rw [getPath_cons _ _ (by simp), h]; rfl

end Fields

theorem getPath_nil : ∀ p : Path, Fields.nil.getPath p = none
  | [] => rfl
  | [_] => rfl
  | _ :: _ :: _ => rfl

/-- Does the mask get to `p`?  `some true`: walking down `p` the mask ends — an entry with no
continuation, which names everything below it — at or above the end of `p`; `some false`: some
segment of `p` is not a key while the mask still continues; `none`: `p` ends first. -/
def reach : Path → Mask → Option Bool
  | [], _ => none
  | k :: rest, m =>
    match m.find k with
    | none => some false
    | some sub => if sub.isEmpty then some true else reach rest sub

/-- Walking down `p`, the mask ends exactly where `p` does: `p` is one of its paths. -/
def names : Path → Mask → Bool
  | [], _ => false
  | k :: rest, m =>
    match m.find k with
    | none => false
    | some sub => if rest.isEmpty then sub.isEmpty else !sub.isEmpty && names rest sub

theorem reach_cons {k : Name} {rest : Path} {mask : Mask} {c : Bool} (h : reach (k :: rest) mask = some c) :
    mask.find k = none ∧ c = false ∨
      ∃ sub, mask.find k = some sub ∧
        (sub.isEmpty = true ∧ c = true ∨ sub.isEmpty = false ∧ rest ≠ [] ∧ reach rest sub = some c) := by
  cases hf : mask.find k with
  | none => simp only [reach, hf, Option.some.injEq] at h; exact Or.inl ⟨rfl, h.symm⟩
  | some sub =>
    refine Or.inr ⟨sub, rfl, ?_⟩
    cases he : sub.isEmpty with
    | true => simp only [reach, hf, he, if_true, Option.some.injEq] at h; exact Or.inl ⟨rfl, h.symm⟩
    | false =>
      simp only [reach, hf, he, Bool.false_eq_true, if_false] at h
      exact Or.inr ⟨rfl, (fun e => by subst e; cases h), h⟩

theorem reach_of_find_none {k : Name} {rest : Path} {mask : Mask} (h : mask.find k = none) :
    reach (k :: rest) mask = some false := by
  rw [reach, h]

theorem reach_of_ends {k : Name} {rest : Path} {mask sub : Mask} (hf : mask.find k = some sub)
    (he : sub.isEmpty = true) : reach (k :: rest) mask = some true := by
  simp only [reach, hf, he, if_true]

theorem reach_of_continues {k : Name} {rest : Path} {mask sub : Mask} (hf : mask.find k = some sub)
    (he : sub.isEmpty = false) : reach (k :: rest) mask = reach rest sub := by
  simp only [reach, hf, he, Bool.false_eq_true, if_false]

theorem names_cons {k : Name} {rest : Path} {mask : Mask} (h : names (k :: rest) mask = true) :
    ∃ sub, mask.find k = some sub ∧
      (rest = [] ∧ sub.isEmpty = true ∨ rest ≠ [] ∧ sub.isEmpty = false ∧ names rest sub = true) := by
  cases hf : mask.find k with
  | none => simp [names, hf] at h
  | some sub =>
    refine ⟨sub, rfl, ?_⟩
    cases rest with
    | nil => exact Or.inl ⟨rfl, by simpa [names, hf] using h⟩
    | cons a r =>
      simp only [names, hf, List.isEmpty_cons, Bool.false_eq_true, if_false, Bool.and_eq_true,
        Bool.not_eq_eq_eq_not, Bool.not_true] at h
      exact Or.inr ⟨by simp, h.1, h.2⟩

theorem names_reach : ∀ {p : Path} {mask : Mask}, names p mask = true → reach p mask = some true
  | [], _, h => by simp [names] at h
  | k :: rest, mask, h => by
    obtain ⟨sub, hf, ⟨_, he⟩ | ⟨_, he, hn⟩⟩ := names_cons h
    · exact reach_of_ends hf he
    · rw [reach_of_continues hf he]; exact names_reach hn

/-- No path of `ps` is at, above or below `p`. -/
def Unrelated (p : Path) (ps : List Path) : Prop := ∀ q ∈ ps, ¬ q <+: p ∧ ¬ p <+: q
instance (p : Path) (ps : List Path) : Decidable (Unrelated p ps) := by unfold Unrelated; infer_instance

/-- The premise `q ≠ []` is for C06's callers, whose lists may hold the empty path. -/
theorem unrelated_tails {k : Name} {rest : Path} {ps : List Path}
    (h : ∀ q ∈ ps, q ≠ [] → ¬ q <+: k :: rest ∧ ¬ k :: rest <+: q) : Unrelated rest (tails k ps) := by
  intro t ht
  have := h (k :: t) (mem_tails.mp ht) (List.cons_ne_nil _ _)
  exact ⟨fun hp => this.1 (List.cons_prefix_cons.mpr ⟨rfl, hp⟩),
         fun hp => this.2 (List.cons_prefix_cons.mpr ⟨rfl, hp⟩)⟩

theorem reach_insertAll_unrelated : ∀ (p : Path) (ps : List Path), p ≠ [] → Unrelated p ps →
    reach p (Mask.insertAll .nil ps) = some false
  | [], _, h, _ => absurd rfl h
  | k :: rest, ps, _, hu => by
    cases hts : tails k ps with
    | nil => exact reach_of_find_none (by rw [Mask.find_insertAll, hts]; rfl)
    | cons t ts =>
      -- some path goes through `k`: none ends there, and `rest` goes on, unrelated to their tails
      have ht : t ∈ tails k ps := hts ▸ List.mem_cons_self ..
      have hut := unrelated_tails fun q hq _ => hu q hq
      have hrest : rest ≠ [] := fun e => (hut t ht).2 (e ▸ List.nil_prefix)
      have ht0 : t ≠ [] := fun e => (hut t ht).1 (e ▸ List.nil_prefix)
      rw [reach_of_continues (find_insertAll_tails (by rw [hts]; simp)) (insertAll_not_empty_of_mem ht ht0)]
      exact reach_insertAll_unrelated rest (tails k ps) hrest hut

/-- Under the first segment either one of the prefix-free paths ends, and then all do, or the tails
go on. -/
theorem reach_insertAll_covered : ∀ (p : Path) (ps : List Path) (q : Path), PrefixFree ps →
    q ∈ ps → q ≠ [] → q <+: p → reach p (Mask.insertAll .nil ps) = some true
  | _, _, [], _, _, hne, _ => absurd rfl hne
  | [], _, _ :: _, _, _, _, hpre => by simp at hpre
  | k :: rest, ps, a :: u, hpf, hq, _, hpre => by
    obtain ⟨rfl, hu⟩ := List.cons_prefix_cons.mp hpre
    have hmem : u ∈ tails a ps := mem_tails.mpr hq
    have hf := find_insertAll_tails (List.ne_nil_of_mem hmem)
    by_cases hn : [] ∈ tails a ps
    · exact reach_of_ends hf ((Mask.insertAll_nil_isEmpty _).mpr (prefixFree_all_nil hpf hn))
    · have hu0 : u ≠ [] := fun e => hn (e ▸ hmem)
      rw [reach_of_continues hf (insertAll_not_empty_of_mem hmem hu0)]
      exact reach_insertAll_covered rest (tails a ps) u (prefixFree_tails hpf) hmem hu0 hu

theorem names_insertAll : ∀ (p : Path) (ps : List Path), PrefixFree ps → p ∈ ps → p ≠ [] →
    names p (Mask.insertAll .nil ps) = true
  | [], _, _, _, h => absurd rfl h
  | k :: rest, ps, hpf, hp, _ => by
    have hmem : rest ∈ tails k ps := mem_tails.mpr hp
    rw [names, find_insertAll_tails (List.ne_nil_of_mem hmem)]
    cases rest with
    | nil => simpa using (Mask.insertAll_nil_isEmpty _).mpr (prefixFree_all_nil hpf hmem)
    | cons a r =>
      simp [insertAll_not_empty_of_mem hmem (List.cons_ne_nil a r),
        names_insertAll (a :: r) (tails k ps) (prefixFree_tails hpf) hmem (List.cons_ne_nil a r)]

variable {ps : List Path} {p : Path}

theorem reach_nestedMask_unrelated (hc : Clean ps) (hp : p ≠ []) (h : Unrelated p ps) :
    reach p (nestedMask ps) = some false := by
  rw [nestedMask_eq hc]
  exact reach_insertAll_unrelated p _ hp fun q hq => h q (minimal_subset hq)

theorem reach_nestedMask_covered (hc : Clean ps) (hn : NonNil ps) {q : Path} (hq : q ∈ ps)
    (hpre : q <+: p) : reach p (nestedMask ps) = some true := by
  rw [nestedMask_eq hc]
  obtain ⟨q', hq', hqq⟩ := exists_minimal_prefix ps q.length q (Nat.le_refl _) hq
  exact reach_insertAll_covered p _ q' (prefixFree_minimal ps) hq' (nonNil_minimal hn q' hq') (hqq.trans hpre)

theorem names_nestedMask (hc : Clean ps) (hn : NonNil ps) (hp : p ∈ minimal ps) :
    names p (nestedMask ps) = true := by
  rw [nestedMask_eq hc]
  exact names_insertAll p _ (prefixFree_minimal ps) hp (nonNil_minimal hn p hp)

end ScVerif.C05
