import ScVerif.C05.Opts
/-
Model of `resource.GetAndUpdate` (`pkg/resource/atomic.go`) as `Value.set` and `Collection.Update` use
it, with writes of OTHER callers committed while the write holds no lock:

    Validate(value)                            -- before GetAndUpdate: a rejected write reaches nothing
    RLock; old := get(); RUnlock
    new := change(old, Clone(old))             -- no lock held: expected-check, InterceptBefore,
                                               --   Merge, InterceptAfter; others may commit here
    Lock; again := get()
    if !proto.Equal(old, again) → Aborted      -- nothing saved
    save(new)

The writes of others that land in the window are whole writes (each takes the write lock for its own
re-check and save), so from the point of view of this write they are a LIST of writes applied to the
stored message between its read and its re-check.  `proto.Equal` is a parameter `eq`.

Also: the resource options that are not masks (`WithClock`, `WithEquivalence`/`WithNoDuplicates`/
`WithMessageEquivalence`, `WithRNG`, `WithIDInterceptor`) as `ROpt.other` (`ROpt` is in `Opts.lean`): `computeConfig` stores them
in other fields of `config`; neither `Value.set`'s nor `Collection.Update`'s save callback reads them
(the clock only stamps the change time), so the stored message does not depend on them.
-/
namespace ScVerif.C05

/-- Sort key insertion (stable: an entry stays in front of later entries with the same key). -/
def Fields.insertSorted (k : Name) (v : Val) : Fields → Fields
  | .nil => .cons k v .nil
  | .cons k' v' rest =>
    if k' < k then .cons k' v' (Fields.insertSorted k v rest) else .cons k v (.cons k' v' rest)

def insertEntry (e : String × String) : List (String × String) → List (String × String)
  | [] => [e]
  | e' :: rest => if e'.1 < e.1 then e' :: insertEntry e rest else e :: e' :: rest

def sortEntries : List (String × String) → List (String × String)
  | [] => []
  | e :: rest => insertEntry e (sortEntries rest)

mutual
  /-- Normal form of a message value: fields sorted by name, map entries by key, recursively (the
  order of the populated fields of a protobuf message is not part of its value). -/
  def Val.norm : Val → Val
    | .msg fs => .msg (Fields.norm fs)
    | .msgs xs => .msgs (Msgs.norm xs)
    | .map es => .map (sortEntries es)
    | v => v
  def Fields.norm : Fields → Fields
    | .nil => .nil
    | .cons k v rest => Fields.insertSorted k (Val.norm v) (Fields.norm rest)
  def Msgs.norm : Msgs → Msgs
    | .nil => .nil
    | .cons m rest => .cons (Fields.norm m) (Msgs.norm rest)
end

/-- `proto.Equal` on message trees: equality of normal forms. -/
def protoEqual (a b : Fields) : Bool := decide (Fields.norm a = Fields.norm b)

/-- A write by somebody else: its updater (from its own options) and the message it writes. -/
structure Rival where
  u : Updater
  src : Fields
deriving Repr, Inhabited

/-- One whole write by somebody else applied to the stored message: stored if accepted, else nothing. -/
def Rival.commit (S : Schema) (ty : Nat) (stored : Fields) (r : Rival) : Fields :=
  match valueSet S ty r.u stored r.src with
  | .ok st _ => st
  | _ => stored

/-- The stored message after the writes of others, in the order they commit. -/
def commitAll (S : Schema) (ty : Nat) (stored : Fields) (rivals : List Rival) : Fields :=
  rivals.foldl (Rival.commit S ty) stored

inductive RaceOut where
  | err (c : Code)                     -- rejected by Validate
  | aborted                            -- "concurrent update detected"
  | panic
  | ok (stored : Fields) (src : Fields) -- saved: the new stored message and the written message as left
deriving DecidableEq, Repr, Inhabited

structure RaceResult where
  out : RaceOut
  stored : Fields
deriving DecidableEq, Repr, Inhabited

/-- `Value.set` / `Collection.Update` with the writes `rivals` of others committed between its read
and its re-check (in `change`: expected-check, interceptors, or between the statements). -/
def raceSet (eq : Fields → Fields → Bool) (S : Schema) (ty : Nat) (u : Updater)
    (stored src : Fields) (rivals : List Rival) : RaceResult :=
  match validate S ty u with
  | .ok =>
    -- change(old, Clone(old)) on the message read first; the others commit meanwhile
    let cur := commitAll S ty stored rivals
    match merge S ty u stored src with
    | none => ⟨.panic, cur⟩
    | some r =>
      if eq stored cur then ⟨.ok r.dst r.src, r.dst⟩   -- save(new)
      else ⟨.aborted, cur⟩
  | c => ⟨.err c, stored⟩                              -- before GetAndUpdate: nobody has run yet

/-- The window has two halves: `pre` are the writes of others committed before `writer.Merge` runs
(after the read, in the expected-check, in `InterceptBefore`), `post` the ones after it (in
`InterceptAfter`, before the lock is taken again).  A panic inside `Merge` unwinds the call: the
places of the second half are never reached, so only `pre` has been committed. -/
def raceSetPhased (eq : Fields → Fields → Bool) (S : Schema) (ty : Nat) (u : Updater)
    (stored src : Fields) (pre post : List Rival) : RaceResult :=
  match merge S ty u stored src with
  | none => raceSet eq S ty u stored src pre
  | some _ => raceSet eq S ty u stored src (pre ++ post)

/-- The construction options that are not masks. -/
def ROpt.isOther : ROpt → Bool
  | .other _ => true
  | _ => false

end ScVerif.C05
