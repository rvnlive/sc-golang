import ScVerif.C05.Opts
/-
Model of the two interceptors of a write, `resource.InterceptBefore` / `resource.InterceptAfter`
(`pkg/resource/opt.go`, `WriteRequest.changeFn`), as the trait servers use them together with the
request's `update_mask` (countpb/speakerpb/fanspeedpb/modepb: a `delta` / `relative` flag adds the
stored value to the written one in `InterceptBefore`; emergencypb/fanspeedpb: derived fields are set
in `InterceptAfter`):

```
writer.Validate(value)                       -- Value.set / Collection.Update, before anything else
... GetAndUpdate(...):
  interceptBefore(old, value)                -- edits the WRITTEN message, sees the stored one
  writer.Merge(dst, value)                   -- dst: a clone of the stored message
  interceptAfter(old, dst)                   -- edits the MERGED message: nothing filters it afterwards
```

Go's interceptors edit their second argument in place; the model's return the edited message.  The
theorems quantify over ALL functions; the driver knows one closed family (`deltaIcpt`: add the stored
integer to the written one on named top-level fields), shared with the harness.
-/
namespace ScVerif.C05

/-- `resource.UpdateInterceptor` (`func(old, new proto.Message)`), returning the edited `new`. -/
abbrev Icpt := Fields → Fields → Fields

/-- `if wr.interceptX != nil { wr.interceptX(old, m) }`. -/
def Icpt.run : Option Icpt → Fields → Fields → Fields
  | none, _, m => m
  | some f, old, m => f old m

/-- `Value.set` / `Collection.Update` with interceptors (no expectations, no rivals): validate the
request, let `before` edit the written message, merge it into a clone of the stored one, let `after`
edit the merged message, save. -/
def valueSetI (S : Schema) (ty : Nat) (u : Updater) (before after : Option Icpt)
    (stored src : Fields) : SetOut :=
  match validate S ty u with
  | .ok =>
    match merge S ty u stored (Icpt.run before stored src) with
    | none => .panic
    | some r => .ok (Icpt.run after stored r.dst) r.src
  | c => .err c

/-- What the frame needs of an after-interceptor (caller code that edits the MERGED message): it leaves
field `k` as it finds it. -/
def KeepsField (k : Name) (after : Option Icpt) : Prop :=
  ∀ g, after = some g → ∀ old m, (g old m).get k = m.get k

/-- …it leaves what lies at `p` as it finds it. -/
def KeepsPath (p : Path) (after : Option Icpt) : Prop :=
  ∀ g, after = some g → ∀ old m, (g old m).getPath p = m.getPath p

/-- …it does nothing when the merge changed nothing (what an empty update mask needs). -/
def QuietWhenUnchanged (after : Option Icpt) : Prop :=
  ∀ g, after = some g → ∀ m, g m m = m

/-- One `Value.Set` of a sequence: its options, written message and interceptors. -/
structure IStep where
  opts : List WOpt
  src : Fields
  before : Option Icpt
  after : Option Icpt

/-- One `Value.Set` with options and interceptors. -/
def IStep.run (S : Schema) (ty : Nat) (resW : Option (List Path)) (stored : Fields) (s : IStep) : SetOut :=
  valueSetI S ty ((computeWriteConfig s.opts).fieldUpdater resW) s.before s.after stored s.src

/-- The stored message after a sequence of intercepted writes (a rejected write stores nothing, a
panic ends the sequence). -/
def finalStoredI (S : Schema) (ty : Nat) (resW : Option (List Path)) : Fields → List IStep → Fields
  | stored, [] => stored
  | stored, s :: rest =>
    match s.run S ty resW stored with
    | .panic => stored
    | .err _ => finalStoredI S ty resW stored rest
    | .ok st _ => finalStoredI S ty resW st rest

/-- An integer token (`i<decimal>`; an unpopulated field is 0). -/
def tokInt : Option Val → Int
  | some (.sc s) => if s.startsWith "i" then ((s.drop 1).toString.toInt?).getD 0 else 0
  | _ => 0

/-- Integer addition on scalar tokens of a proto3 message (`none`: not populated = 0).  No
wrap-around: the harness keeps the sums far inside int32. -/
def intAdd (a b : Option Val) : Option Val :=
  let s := tokInt a + tokInt b
  if s = 0 then none else some (.sc ("i" ++ toString s))

/-- `new.k += old.k` on a scalar field, for an addition `add` on (possibly unpopulated) tokens. -/
def addFieldWith (add : Option Val → Option Val → Option Val) (old new : Fields) (k : Name) : Fields :=
  match add (new.get k) (old.get k) with
  | none => new.erase k
  | some v => new.put k v

/-- The `delta` interceptor of the count device (and of every "relative update" of scalar fields):
`for k in keys { new.k += old.k }`, the arithmetic on tokens being a parameter. -/
def deltaIcptWith (add : Option Val → Option Val → Option Val) (keys : List Name) : Icpt :=
  fun old new => keys.foldl (addFieldWith add old) new

def deltaIcpt (keys : List Name) : Icpt := deltaIcptWith intAdd keys

end ScVerif.C05
