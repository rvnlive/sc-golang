import ScVerif.C05.Props
import ScVerif.C05.IcptLemmas
/-!
# C05 — writes with interceptors, and the lightpb RPCs

C05 through the write interceptors (`resource.InterceptBefore` / `InterceptAfter`), the way the
trait servers combine them with the request's `update_mask` (model: `Icpt.lean`, `valueSetI`).

The interceptors are caller code: every theorem quantifies over ALL functions.  A before-interceptor
edits the written message BEFORE the masks are applied, so no clause of the property depends on it;
an after-interceptor edits the merged message AFTER them, so the frame holds for exactly the fields
it leaves alone (`KeepsField`), and an empty mask changes nothing only if it is quiet on an unchanged
message (`QuietWhenUnchanged`) — `C05_intercept_after_unrestricted_fails` shows that neither
hypothesis can be dropped (the `delta` adder registered as an after-interceptor).
-/
namespace ScVerif.C05
open ScVerif.C06 (GoodPath)

/-- A successful write whose masks avoid the top-level field `k` leaves `k` as stored, for ALL
before-interceptors (a delta, a relative adjustment, anything) and every after-interceptor that leaves
`k` alone; no hypothesis on the stored message, the written message or what the before-interceptor makes
of it. -/
theorem C05_intercept_frame (S : Schema) (ty : Nat) (u : Updater) (before after : Option Icpt)
    (stored src st s : Fields) (k : Name)
    (ha : Avoids k u) (hd : NotDisplaced S ty k) (hk : KeepsField k after)
    (h : valueSetI S ty u before after stored src = .ok st s) :
    st.get k = stored.get k := by
  obtain ⟨_, r, hm, hst, _⟩ := valueSetI_ok S ty u before after stored src st s h
  rw [hst, hk.run]
  exact merge_avoids S ty u stored _ r k ha hd hm

/-- The same at ANY depth; the tree hypotheses of `C05_frame` are stated
for the message the before-interceptor hands to `Merge`. -/
theorem C05_intercept_frame_depth (S : Schema) (ty : Nat) (u : Updater) (before after : Option Icpt)
    (stored src st s : Fields) (m : Path) (ms : List Path) (p : Path)
    (hM : u.update = some (m :: ms)) (hMc : Clean (m :: ms)) (hMn : NonNil (m :: ms))
    (hp : p ≠ []) (hpM : Unrelated p (m :: ms))
    (hR : ∀ R, u.reset = some R → Clean R ∧ Unrelated p R)
    (hdisp : NoDispAlong S ty p)
    (hnd : NoDupAlong p stored) (hns : NoDupAlong p (Icpt.run before stored src))
    (hag : Agree p stored (Icpt.run before stored src))
    (hk : KeepsPath p after)
    (h : valueSetI S ty u before after stored src = .ok st s) :
    st.getPath p = stored.getPath p := by
  obtain ⟨_, r, hm, hst, _⟩ := valueSetI_ok S ty u before after stored src st s h
  rw [hst, hk.run]
  exact C05_frame S ty u stored _ r m ms p hM hMc hMn hp hpM hR hdisp hnd hns hag hm

/-- An empty non-nil update mask changes nothing, for ALL before-interceptors
and every after-interceptor that is quiet on an unchanged message. -/
theorem C05_intercept_empty_mask (S : Schema) (ty : Nat) (u : Updater) (before after : Option Icpt)
    (stored src st s : Fields)
    (hM : u.update = some []) (hq : QuietWhenUnchanged after)
    (h : valueSetI S ty u before after stored src = .ok st s) :
    st = stored := by
  obtain ⟨_, r, hm, hst, _⟩ := valueSetI_ok S ty u before after stored src st s h
  have he := C05_empty_mask S ty u stored _ r hM hm
  subst hst
  rw [he]
  cases after with
  | none => rfl
  | some g => exact hq g rfl stored

/-- The request is rejected before any interceptor runs. -/
theorem C05_intercept_rejects (S : Schema) (ty : Nat) (u : Updater) (M : List Path)
    (hM : u.update = some M)
    (hbad : (∃ p ∈ M, ¬ GoodPath S ty p) ∨ (∃ W, u.writable = some W ∧ ∃ p ∈ M, ¬ InsideWritable W p))
    (before after : Option Icpt) (stored src : Fields) :
    valueSetI S ty u before after stored src = .err .invalidArgument := by
  have hv := (C05_rejects S ty u M hM hbad).1
  unfold valueSetI
  rw [hv]

/-- Inside the masks the result holds what the BEFORE-INTERCEPTOR MADE of the
written message (the delta already added), not what the caller sent. -/
theorem C05_intercept_scalar_in (S : Schema) (ty : Nat) (u : Updater) (before after : Option Icpt)
    (stored src st s : Fields) (m : Path) (ms : List Path) (p : Path)
    (hM : u.update = some (m :: ms)) (hMc : Clean (m :: ms)) (hMn : NonNil (m :: ms))
    (hp : p ∈ m :: ms) (hout : ∀ q ∈ m :: ms, strictPrefix q p = false)
    (hW : ∀ W, u.writable = some W → Clean W ∧ NonNil W ∧ ∃ w ∈ W, w <+: p)
    (hR : ∀ R, u.reset = some R → Clean R ∧ Unrelated p R)
    (hdisp : NoDispAlong S ty p) (hnd : NoDupAlong p stored)
    (hns : NoDupAlong p (Icpt.run before stored src))
    (hsc : ∀ v, (Icpt.run before stored src).getPath p = some v → ∃ t, v = .sc t)
    (hk : KeepsPath p after)
    (h : valueSetI S ty u before after stored src = .ok st s) :
    st.getPath p = (Icpt.run before stored src).getPath p := by
  obtain ⟨_, r, hm, hst, _⟩ := valueSetI_ok S ty u before after stored src st s h
  rw [hst, hk.run]
  exact C05_scalar_in S ty u stored _ r m ms p hM hMc hMn hp hout hW hR hdisp hnd hns hsc hm

/-- The one line of the addition table the witness below needs (7 + 7 = 14; the kernel does not
evaluate decimal parsing of strings, the driver's `intAdd` does the same on every pair). -/
def add7 (a b : Option Val) : Option Val :=
  if a = some (.sc "i7") ∧ b = some (.sc "i7") then some (.sc "i14") else a

/-- The hypotheses on the after-interceptor cannot be
dropped: the `delta` adder (`new.g += old.g`) registered as an AFTER-interceptor, with an empty
non-nil update mask, is accepted and doubles the stored `g` (7 → 14) — it is neither quiet on an
unchanged message nor does it keep `g`; registered as a BEFORE-interceptor the same function, mask
and messages change nothing. -/
theorem C05_intercept_after_unrestricted_fails :
    ∃ (g : Icpt) (u : Updater) (src : Fields),
      u.update = some [] ∧ ¬ QuietWhenUnchanged (some g) ∧ ¬ KeepsField "g" (some g) ∧
      (∃ st s, valueSetI wSchema 0 u none (some g) wStored src = .ok st s ∧
        st.get "g" = some (.sc "i14") ∧ wStored.get "g" = some (.sc "i7")) ∧
      (∃ s, valueSetI wSchema 0 u (some g) none wStored src = .ok wStored s) := by
  have hrun : deltaIcptWith add7 ["g"] wStored wStored
      = .cons "f" (.msg (.cons "c" (.sc "i1") (.cons "d" (.sc "i2") .nil))) (.cons "g" (.sc "i14") .nil) := by
    decide +kernel
  refine ⟨deltaIcptWith add7 ["g"], ⟨none, some [], none⟩, .cons "g" (.sc "i3") .nil, rfl, ?_, ?_, ?_, ?_⟩
  · intro hq
    have := hq _ rfl wStored
    rw [hrun] at this
    revert this; decide +kernel
  · intro hk
    have := hk _ rfl wStored wStored
    rw [hrun] at this
    revert this; decide +kernel
  · refine ⟨deltaIcptWith add7 ["g"] wStored wStored, .cons "g" (.sc "i3") .nil, by decide +kernel, ?_, by decide +kernel⟩
    rw [hrun]; decide +kernel
  · exact ⟨.cons "g" (.sc "i3") .nil, by decide +kernel⟩

/-- With an empty non-nil `update_mask` the call that drops the mask (`rpcMaskDropped`) is accepted and
changes the stored message (`g`: 7 → 9) where the write with the request's mask changes nothing; and a
mask naming an unknown path is accepted where the write with the mask is rejected. -/
theorem C05_trait_mask_dropped_fails :
    ∃ (src st : Fields),
      rpcMaskDropped wSchema 0 (some [["g"]]) none (some []) none wStored src = .ok st src ∧
      st.get "g" = some (.sc "i9") ∧ wStored.get "g" = some (.sc "i7") ∧
      rpcAsStated wSchema 0 (some [["g"]]) none (some []) none wStored src = .ok wStored src ∧
      rpcMaskDropped wSchema 0 (some [["g"]]) none (some [["nope"]]) none wStored src = .ok st src ∧
      rpcAsStated wSchema 0 (some [["g"]]) none (some [["nope"]]) none wStored src = .err .invalidArgument :=
  ⟨.cons "g" (.sc "i9") .nil,
   .cons "f" (.msg (.cons "c" (.sc "i1") (.cons "d" (.sc "i2") .nil))) (.cons "g" (.sc "i9") .nil),
   by decide +kernel, by decide +kernel, by decide +kernel, by decide +kernel, by decide +kernel, by decide +kernel⟩

/-- For a request WITHOUT `update_mask` (nil) the call that drops the
mask is the write the property describes: every theorem of this file and of `Props.lean` applies. -/
theorem C05_trait_mask_dropped_partial (S : Schema) (ty : Nat) (resW R reqMask : Option (List Path))
    (before : Option Icpt) (stored src : Fields) (h : reqMask = none) :
    rpcMaskDropped S ty resW R reqMask before stored src = rpcAsStated S ty resW R reqMask before stored src := by
  subst h; rfl

/-- The hypothesis of the partial theorem is the ordinary request (no mask): there the RPC merges the
writable part of the written message — `g` is replaced, the read-only `f` stays. -/
example : ∃ s, rpcMaskDropped wSchema 0 (some [["g"]]) none none none wStored (.cons "g" (.sc "i9") .nil)
    = .ok (.cons "f" (.msg (.cons "c" (.sc "i1") (.cons "d" (.sc "i2") .nil))) (.cons "g" (.sc "i9") .nil)) s :=
  ⟨.cons "g" (.sc "i9") .nil, by decide +kernel⟩

/-- `UpdateBrightness` answers `InvalidArgument` to a request whose `update_mask`
names an unknown path or a path outside the server's writable fields, on both of its paths. -/
theorem C05_trait_rpc_rejects (S : Schema) (ty : Nat) (resW R : Option (List Path)) (M : List Path)
    (hbad : (∃ p ∈ M, ¬ GoodPath S ty p) ∨
      (∃ W, resW = some W ∧ ∃ p ∈ M, ¬ InsideWritable (union W []) p))
    (preset : Bool) (capDelta : Icpt) (stored src : Fields) :
    rpcUpdateBrightness S ty resW R (some M) preset capDelta stored src = .err .invalidArgument := by
  rw [rpcUpdateBrightness_eq]
  refine C05_intercept_rejects S ty _ M (rpcAsStated_updater resW _ (some M)).1 ?_ _ none stored src
  rcases hbad with h | ⟨W, hW, p, hp, hout⟩
  · exact Or.inl h
  · refine Or.inr ⟨union W [], ?_, p, hp, hout⟩
    rw [(rpcAsStated_updater resW _ (some M)).2.2, hW]; rfl

/-- A request with an empty non-nil `update_mask` changes nothing on either
path — the server's own reset paths included, whatever the delta / cap interceptor makes of the written
message. -/
theorem C05_trait_rpc_empty_mask (S : Schema) (ty : Nat) (resW R : Option (List Path))
    (preset : Bool) (capDelta : Icpt) (stored src st s : Fields)
    (h : rpcUpdateBrightness S ty resW R (some []) preset capDelta stored src = .ok st s) :
    st = stored := by
  rw [rpcUpdateBrightness_eq] at h
  exact C05_intercept_empty_mask S ty _ _ none stored src st s (rpcAsStated_updater resW _ (some [])).1 .none h

/-- A top-level field that neither the request's mask (the server's writable fields
for a request without mask) nor the server's reset paths go through is as stored after a successful
call, on either path and for ALL interceptors `capDelta`. -/
theorem C05_trait_rpc_frame (S : Schema) (ty : Nat) (resW R reqMask : Option (List Path))
    (preset : Bool) (capDelta : Icpt) (stored src st s : Fields) (k : Name)
    (ha : Avoids k (fieldUpdater resW none false reqMask R)) (hd : NotDisplaced S ty k)
    (h : rpcUpdateBrightness S ty resW R reqMask preset capDelta stored src = .ok st s) :
    st.get k = stored.get k := by
  rw [rpcUpdateBrightness_eq] at h
  refine C05_intercept_frame S ty _ _ none stored src st s k ?_ hd (.none k) h
  rw [fieldUpdater_eq] at ha ⊢
  cases preset
  · exact ha
  · exact ha.drop_reset

/-- Inside the request's mask a `Set` call of the RPC stores what its
before-interceptor (none on the preset path, delta + cap on the plain path: ANY function) made of the
written message. -/
theorem C05_trait_rpc_scalar_in (S : Schema) (ty : Nat) (resW R : Option (List Path)) (before : Option Icpt)
    (stored src st s : Fields) (m : Path) (ms : List Path) (p : Path)
    (hMc : Clean (m :: ms)) (hMn : NonNil (m :: ms))
    (hp : p ∈ m :: ms) (hout : ∀ q ∈ m :: ms, strictPrefix q p = false)
    (hW : ∀ W, resW = some W → Clean (union W []) ∧ NonNil (union W []) ∧ ∃ w ∈ union W [], w <+: p)
    (hR : ∀ R', R = some R' → Clean R' ∧ Unrelated p R')
    (hdisp : NoDispAlong S ty p) (hnd : NoDupAlong p stored)
    (hns : NoDupAlong p (Icpt.run before stored src))
    (hsc : ∀ v, (Icpt.run before stored src).getPath p = some v → ∃ t, v = .sc t)
    (h : rpcAsStated S ty resW R (some (m :: ms)) before stored src = .ok st s) :
    st.getPath p = (Icpt.run before stored src).getPath p := by
  unfold rpcAsStated at h
  obtain ⟨hu, hr, hw⟩ := rpcAsStated_updater resW R (some (m :: ms))
  refine C05_intercept_scalar_in S ty _ before none stored src st s m ms p hu hMc hMn hp hout ?_ ?_
    hdisp hnd hns hsc (.none p) h
  · intro W hW'
    rw [hw] at hW'
    cases resW with
    | none => cases hW'
    | some W0 =>
      simp only [Option.map_some, Option.some.injEq] at hW'
      subst hW'
      exact hW W0 rfl
  · intro R' hR'
    rw [hr] at hR'
    exact hR R' hR'

/-- `rpcUpdateBrightness` on the witness of `C05_trait_mask_dropped_fails`: the empty mask changes
nothing, the unknown path is rejected, and the ordinary request still replaces `g`. -/
example : ∀ preset, ∃ s,
    rpcUpdateBrightness wSchema 0 (some [["g"]]) none (some []) preset (fun _ m => m) wStored (.cons "g" (.sc "i9") .nil)
      = .ok wStored s ∧
    rpcUpdateBrightness wSchema 0 (some [["g"]]) none (some [["nope"]]) preset (fun _ m => m) wStored (.cons "g" (.sc "i9") .nil)
      = .err .invalidArgument ∧
    (rpcUpdateBrightness wSchema 0 (some [["g"]]) none (some [["g"]]) preset (fun _ m => m) wStored (.cons "g" (.sc "i9") .nil)
      = .ok (.cons "f" (.msg (.cons "c" (.sc "i1") (.cons "d" (.sc "i2") .nil))) (.cons "g" (.sc "i9") .nil)) s) := by
  intro preset; cases preset <;> exact ⟨.cons "g" (.sc "i9") .nil, by decide +kernel, by decide +kernel, by decide +kernel⟩

/-- With a configured preset `level_percent` is appended to a non-nil mask (an
EMPTY non-nil mask becomes `{level_percent}`: the rule applies to it too); a nil mask — the whole
message — stays nil; there is never a reset mask. -/
theorem C05_trait_preset_mask (resW reqMask : Option (List Path)) (known : Bool) (level : Name) :
    ((computeWriteConfig (presetOpts reqMask known level)).fieldUpdater resW).update
        = (if known then reqMask.map (· ++ [[level]]) else reqMask) ∧
    ((computeWriteConfig (presetOpts reqMask known level)).fieldUpdater resW).reset = none := by
  rw [(writeWith_updater resW _).1, (writeWith_updater resW _).2]
  cases known <;> cases reqMask <;> simp [presetOpts, specUpdate, specUpdateRev, specReset, specResetRev, WCtor.opt, maskOfPaths]

/-- A top-level field other than `level_percent` that the request's non-nil mask
has no path through is as stored after a successful call, whether or not a preset is selected and
whatever the preset rule writes into the message. -/
theorem C05_trait_preset_frame (S : Schema) (ty : Nat) (resW : Option (List Path)) (M : List Path)
    (known : Bool) (level : Name) (edit : Fields → Fields) (stored src st s : Fields) (k : Name)
    (hMc : Clean M) (hMn : NonNil M) (hMk : NoHead k M) (hl : level ≠ k) (hlc : level ≠ "")
    (hd : NotDisplaced S ty k)
    (h : rpcModelBrightness S ty resW (some M) known level edit stored src = .ok st s) :
    st.get k = stored.get k := by
  unfold rpcModelBrightness writeWith at h
  obtain ⟨hu, hr⟩ := C05_trait_preset_mask resW (some M) known level
  have hno : ∀ R, ((computeWriteConfig (presetOpts (some M) known level)).fieldUpdater resW).reset = some R →
      Clean R ∧ NoHead k R := fun R hR => by rw [hr] at hR; cases hR
  have ha : Avoids k ((computeWriteConfig (presetOpts (some M) known level)).fieldUpdater resW) := by
    cases known
    · exact .of_update hu hMc hMn hMk hno
    · exact .of_update hu (List.forall_mem_append.mpr ⟨hMc, by simpa using hlc.symm⟩)
        (List.forall_mem_append.mpr ⟨hMn, by simp⟩) (noHead_append_single hMk hl) hno
  rw [← valueSetI_none] at h
  exact C05_intercept_frame S ty _ none none stored _ st s k ha hd (.none k) h

/-- The rule on the witness schema (`g` plays `level_percent`): an empty non-nil mask with a selected
preset writes `g` (what `edit` made of it) and nothing else; without a preset it changes nothing. -/
example : ∃ s s',
    rpcModelBrightness wSchema 0 none (some []) true "g" (fun m => m.put "g" (.sc "i40")) wStored .nil
      = .ok (.cons "f" (.msg (.cons "c" (.sc "i1") (.cons "d" (.sc "i2") .nil))) (.cons "g" (.sc "i40") .nil)) s ∧
    rpcModelBrightness wSchema 0 none (some []) false "g" (fun m => m.put "g" (.sc "i40")) wStored .nil
      = .ok wStored s' :=
  ⟨.cons "g" (.sc "i40") .nil, .nil, by decide +kernel, by decide +kernel⟩

/-- The hypotheses of `C05_intercept_frame` are satisfiable with a before- AND an after-interceptor
that really edit (delta on `g`, whatever the arithmetic), update mask `{g}`, field `f` avoided. -/
example (add : Option Val → Option Val → Option Val) :
    Avoids "f" ⟨none, some [["g"]], none⟩ ∧ NotDisplaced wSchema 0 "f" ∧
    KeepsField "f" (some (deltaIcptWith add ["g"])) := by
  refine ⟨.of_update (M := [["g"]]) rfl (by decide +kernel) (by decide +kernel) (by decide +kernel)
    (fun _ h => nomatch h), ?_, ?_⟩
  · exact notDisplaced_of_no_oneof (by decide +kernel) _
  · intro g hg old m
    cases hg
    exact deltaIcptWith_get_other add "f" ["g"] old m (by decide +kernel)

/-- ... and the conclusion is visible on a delta write: `g` becomes 7 + 7, `f` stays. -/
example : ∃ s, valueSetI wSchema 0 ⟨none, some [["g"]], none⟩ (some (deltaIcptWith add7 ["g"])) none
    wStored (.cons "g" (.sc "i7") .nil) =
      .ok (.cons "f" (.msg (.cons "c" (.sc "i1") (.cons "d" (.sc "i2") .nil))) (.cons "g" (.sc "i14") .nil)) s :=
  ⟨.cons "g" (.sc "i14") .nil, by decide +kernel⟩

/-- An after-interceptor that sets a derived field (emergencypb's change time, fanspeedpb's
DeriveValues) keeps every other field and is quiet on an unchanged message when it compares first. -/
example : KeepsField "f" (some (fun old m => if old.get "f" = m.get "f" then m else m.put "g" (.sc "i0"))) ∧
    QuietWhenUnchanged (some (fun old m => if old.get "f" = m.get "f" then m else m.put "g" (.sc "i0"))) := by
  constructor
  · intro g hg old m
    cases hg
    by_cases h : old.get "f" = m.get "f"
    · simp [h]
    · simp only [h, if_false]; exact Fields.get_put_other _ (by decide +kernel) m
  · intro g hg m
    cases hg
    simp

end ScVerif.C05
