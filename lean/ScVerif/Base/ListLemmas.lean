/-! Facts about lists that several directories use and Lean's core library does not have. -/
namespace ScVerif.Base

variable {α β : Type}

/-- one entry of a list and the two pieces around it; the list with that entry replaced has the same pieces -/
theorem set_split {l : List α} {i : Nat} {a : α} (b : α) (h : l[i]? = some a) :
    l = l.take i ++ a :: l.drop (i + 1) ∧ l.set i b = l.take i ++ b :: l.drop (i + 1) := by
  obtain ⟨hi, rfl⟩ := List.getElem?_eq_some_iff.mp h
  exact ⟨by simp, by rw [List.set_eq_take_append_cons_drop, if_pos hi]⟩

theorem sum_map_set (f : α → Nat) {l : List α} {i : Nat} {a : α} (b : α) (h : l[i]? = some a) :
    ((l.set i b).map f).sum + f a = (l.map f).sum + f b := by
  obtain ⟨h1, h2⟩ := set_split b h
  rw [h2]
  conv => rhs; rw [h1]
  simp only [List.map_append, List.map_cons, List.sum_append, List.sum_cons]
  omega

/-- where an entry of `l ++ [p]` lies -/
theorem getElem?_concat_cases (l : List α) (p x : α) (i : Nat)
    (h : (l ++ [p])[i]? = some x) : (i < l.length ∧ l[i]? = some x) ∨ (i = l.length ∧ x = p) := by
  rw [List.getElem?_append] at h
  split at h
  · exact Or.inl ⟨‹_›, h⟩
  · rw [List.getElem?_singleton] at h
    split at h
    · exact Or.inr ⟨by omega, (Option.some.inj h).symm⟩
    · cases h

/-- core has this for `Array` only -/
theorem filterMap_congr {f g : α → Option β} {l : List α} (h : ∀ x ∈ l, f x = g x) :
    l.filterMap f = l.filterMap g := by
  induction l with
  | nil => rfl
  | cons x l ih =>
    rw [List.filterMap_cons, List.filterMap_cons, h x List.mem_cons_self,
      ih fun y hy => h y (List.mem_cons_of_mem _ hy)]

/-- a predicate of index and entry, carried across the replacement of one entry (`own` may use the old entry) -/
theorem forall_getElem?_set {Q Q' : Nat → α → Prop} {l : List α} {t : Nat} {x : α}
    (h : ∀ i y, l[i]? = some y → Q i y) (own : ∀ a, l[t]? = some a → Q t a → Q' t x)
    (other : ∀ i y, i ≠ t → Q i y → Q' i y) : ∀ i y, (l.set t x)[i]? = some y → Q' i y := by
  intro i y hi
  rw [List.getElem?_set] at hi
  split at hi
  · next hti =>
    subst hti
    split at hi <;> cases hi
    exact own _ (List.getElem?_eq_getElem ‹_›) (h _ _ (List.getElem?_eq_getElem ‹_›))
  · next hti => exact other i y (Ne.symm hti) (h i y hi)

end ScVerif.Base
