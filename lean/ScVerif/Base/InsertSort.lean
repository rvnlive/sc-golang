/-! `sort.Slice(tmp, func(i, j) bool { return tmp[i].id < tmp[j].id })` of `Collection.List` / `Pull` is an insertion
sort in C01, C06, C08 and C15, each at its own element type; what is proved of it needs only the two equations. -/
namespace ScVerif

/-- `srt` is the insertion sort by `key`, with `ins` its insertion -/
structure IsInsertSort {α : Type} (key : α → String) (ins : α → List α → List α) (srt : List α → List α) : Prop where
  ins_nil : ∀ x, ins x [] = [x]
  ins_cons : ∀ x y ys, ins x (y :: ys) = if key x < key y then x :: y :: ys else y :: ins x ys
  srt_nil : srt [] = []
  srt_cons : ∀ x xs, srt (x :: xs) = ins x (srt xs)

namespace IsInsertSort
variable {α : Type} {key : α → String} {ins : α → List α → List α} {srt : List α → List α}
  (S : IsInsertSort key ins srt)
include S

theorem ins_perm (x : α) : ∀ l : List α, (ins x l).Perm (x :: l)
  | [] => S.ins_nil x ▸ .refl _
  | y :: ys => by
    rw [S.ins_cons]
    split
    · exact .refl _
    · exact ((ins_perm x ys).cons y).trans (.swap x y ys)

theorem perm : ∀ l : List α, (srt l).Perm l
  | [] => by rw [S.srt_nil]
  | x :: xs => S.srt_cons x xs ▸ (S.ins_perm x _).trans ((perm xs).cons x)

/-- `lt` is what the caller wants of neighbours: strict order (distinct keys) or `¬ >`. -/
theorem ins_pairwise {lt : String → String → Prop} (htr : ∀ {a b c}, a < b → lt b c → lt a c)
    (hlt : ∀ {a b}, a < b → lt a b) (x : α) {l : List α} (hx : ∀ y ∈ l, ¬ key x < key y → lt (key y) (key x))
    (h : l.Pairwise (fun a b => lt (key a) (key b))) : (ins x l).Pairwise (fun a b => lt (key a) (key b)) := by
  induction l with
  | nil => exact S.ins_nil x ▸ List.pairwise_singleton ..
  | cons y ys ih =>
    obtain ⟨h1, h2⟩ := List.pairwise_cons.mp h
    rw [S.ins_cons]
    split
    · next hxy =>
      refine List.pairwise_cons.mpr ⟨fun z hz => ?_, h⟩
      rcases List.mem_cons.mp hz with rfl | hz
      · exact hlt hxy
      · exact htr hxy (h1 z hz)
    · next hxy =>
      refine List.pairwise_cons.mpr ⟨fun z hz => ?_, ih (fun z hz => hx z (List.mem_cons_of_mem _ hz)) h2⟩
      rcases List.mem_cons.mp ((S.ins_perm x ys).subset hz) with rfl | hz
      · exact hx y List.mem_cons_self hxy
      · exact h1 z hz

/-- distinct keys: strictly ascending -/
theorem sorted : ∀ {l : List α}, (l.map key).Nodup → ((srt l).map key).Pairwise (· < ·)
  | [], _ => by rw [S.srt_nil]; exact .nil
  | x :: xs, h => by
    obtain ⟨hx, hxs⟩ := List.nodup_cons.mp h
    rw [S.srt_cons]
    refine List.pairwise_map.mpr (S.ins_pairwise (lt := (· < ·)) Std.lt_trans id x (fun y hy hxy => ?_)
      (List.pairwise_map.mp (sorted hxs)))
    refine Std.lt_of_le_of_ne (Std.not_lt.mp hxy) fun e => hx ?_
    exact e ▸ List.mem_map_of_mem ((S.perm xs).subset hy)

/-- any keys: no element above a later one -/
theorem sorted_le : ∀ l : List α, (srt l).Pairwise (fun a b => ¬ key b < key a)
  | [] => by rw [S.srt_nil]; exact .nil
  | x :: xs => S.srt_cons x xs ▸ S.ins_pairwise (lt := fun a b => ¬ b < a)
      (fun hab hbc hca => hbc (Std.lt_trans hca hab)) (fun h h' => Std.lt_irrefl (Std.lt_trans h h')) x
      (fun _ _ h => h) (sorted_le xs)

end IsInsertSort
end ScVerif
