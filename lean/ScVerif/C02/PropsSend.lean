import ScVerif.C02.Send
import ScVerif.C02.Props
/-!
# C02 — property theorems about the windows outside the commit

The optimistic phase before the commit, and the publication phase of `Value.set` after it (`Pub.lean`; its lemmas: `Send.lean`).  As in
`Props.lean` everything is for arbitrary initial contents, programs, check / interceptor functions, environments
(clock, id generator) and schedules; here schedules carry a fault bit per step (does the publication made at this
step, if it is one, time out).
-/
namespace ScVerif.C02

variable {M : Type} [DecidableEq M] [Msg M]

/-- Whatever thread is released in whatever reachable configuration: either the step leaves the store and the commit
log exactly as they were, or it appends one log entry and finishes a call of that thread with success.  Nothing a
call does between its optimistic read and its commit, and nothing a call that ends up refused or aborted does, is
visible in the resource. -/
theorem C02_only_a_successful_commit_changes_the_contents (env : Env) (s₀ : SStore M) (progs : Nat → List (Op M))
    (sched : List Nat) (t : Nat) :
    let c : Config M := run true env (initCfg s₀ progs) sched
    let c' : Config M := step true env c t
    (c'.store = c.store ∧ c'.log = c.log) ∨
    (∃ (r : Rec M) (e : Entry M) (v : M), c'.log = c.log ++ [e] ∧
      (c'.threads t).done = (c.threads t).done ++ [r] ∧ r.kind = .committed ∧ r.res = .ok (some v)) := by
  intro c c'
  cases (stepCore_move true env c t).effect with
  | none hl _ hs => exact Or.inl ⟨hs, hl⟩
  | fin _ hl _ hs => exact Or.inl ⟨hs, hl⟩
  | commit r e v hl hd hk hres => exact Or.inr ⟨r, e, v, hl, hd, hk, hres⟩

/-- The core configuration under the publication layer is the core model's configuration after the schedule with the
publication steps left out. -/
theorem C02_publications_refine_the_core (env : Env) (s₀ : SStore M) (progs : Nat → List (Op M))
    (psched : List (Nat × Bool)) :
    (prun false true env (pinit s₀ progs) psched).core =
      run true env (initCfg s₀ progs) (proj true env (pinit s₀ progs) psched) :=
  prun_core true env (pinit s₀ progs) psched

/-- `C02_linearizable`, word for word, for the core configuration under any schedule of the publication layer; a
call whose publication timed out counts with the result of its commit. -/
theorem C02_linearizable_under_failed_publications (env : Env) (s₀ : SStore M) (progs : Nat → List (Op M))
    (psched : List (Nat × Bool)) :
    let c : Config M := (prun false true env (pinit s₀ progs) psched).core
    ∀ (arr : Nat → List (Ev M)), (∀ k, (arr k).Perm (c.refusedAt k)) →
      seqRun s₀ (linSeq s₀ c.log arr) = some (absS c.store) ∧
      (∀ (t n : Nat) (r : Rec M), (c.threads t).done[n]? = some r → r.kind ≠ .raced →
        ∃ ev, ev ∈ linSeq s₀ c.log arr ∧ ev.tid = t ∧ ev.idx = n ∧ ev.op = r.op ∧ ev.res = r.res ∧ ev.lin = r.lin) ∧
      (∀ ev, ev ∈ linSeq s₀ c.log arr →
        ∃ r, (c.threads ev.tid).done[ev.idx]? = some r ∧ r.kind ≠ .raced ∧ r.op = ev.op ∧ r.res = ev.res ∧
          r.lin = ev.lin ∧ (ev.committed = true ↔ r.kind = .committed)) ∧
      (linSeq s₀ c.log arr).Pairwise (fun x y => ¬ (x.tid = y.tid ∧ x.idx = y.idx)) ∧
      (linSeq s₀ c.log arr).Pairwise LinOrd := by
  intro c
  have hc : c = run true env (initCfg s₀ progs) (proj true env (pinit s₀ progs) psched) :=
    prun_core true env (pinit s₀ progs) psched
  rw [hc]
  exact C02_linearizable env s₀ progs _

/-- **The stored value is the last committed write, whatever publications time out**: the contents are the replay
of the commit log on the sequential specification (no write-back, no lost update in the publication phase). -/
theorem C02_contents_survive_failed_publications (env : Env) (s₀ : SStore M) (progs : Nat → List (Op M))
    (psched : List (Nat × Bool)) :
    let c : Config M := (prun false true env (pinit s₀ progs) psched).core
    absS c.store = replay s₀ c.log := by
  exact (Inv.prun env s₀ progs psched).store

/-- Every publication made (timed out or delivered) belongs to a `Value.Set` call that had committed: the call owns
exactly one entry of the commit log — it HAS taken effect, exactly once, also when it then reports the publication's
time-out as an error. -/
theorem C02_failed_publication_is_reported_after_the_commit (env : Env) (s₀ : SStore M)
    (progs : Nat → List (Op M)) (psched : List (Nat × Bool)) :
    let pc : PConfig M := prun false true env (pinit s₀ progs) psched
    ∀ (t n : Nat) (f : Bool), (n, f) ∈ pc.sent t →
      ∃ (r : Rec M) (v : M) (u : UpdOp M), (pc.core.threads t).done[n]? = some r ∧ r.op = .upd u ∧ u.isValue = true ∧
        r.res = .ok (some v) ∧ (∃ tm, pc.core.log[r.lin]? = some ⟨t, n, r.op, tm⟩) ∧
        ∀ (k : Nat) (e : Entry M), pc.core.log[k]? = some e → e.tid = t → e.idx = n → k = r.lin := by
  intro pc t n f hm
  have hinv : PInv pc := (PInv.init s₀ progs).prun true env psched
  have h : Inv s₀ pc.core := Inv.prun env s₀ progs psched
  obtain ⟨r, hr, hk, u, hop, hv⟩ := hinv.sent t n f hm
  obtain ⟨_, _, _, v, hres⟩ := (h.recOK hr).committed hk
  obtain ⟨h1, h2⟩ := once_of_ok h hr hres
  exact ⟨r, v, u, hr, hop, hv, hres, h1, h2⟩

/-- Whatever a call has reported is the result of the core model — with one exception: `Unknown`, and then the call
is a `Value.Set` that committed.  No call that lost a race or was refused reports a failed publication. -/
theorem C02_reported_results_under_failed_publications (env : Env) (s₀ : SStore M) (progs : Nat → List (Op M))
    (psched : List (Nat × Bool)) :
    let pc : PConfig M := prun false true env (pinit s₀ progs) psched
    ∀ (t n : Nat) (res : Res M), reported pc t n = some res →
      ∃ r : Rec M, (pc.core.threads t).done[n]? = some r ∧
        (res = r.res ∨
          (res = .error (.other 2) ∧ r.kind = .committed ∧ (∃ v, r.res = .ok (some v)) ∧
            ∃ u, r.op = .upd u ∧ u.isValue = true)) := by
  intro pc t n res hrep
  exact reported_cases ((PInv.init s₀ progs).prun true env psched) (Inv.prun env s₀ progs psched) hrep

/-- **One publication per committed `Value.Set`, in program order, and only once the commit is made**: the calls
of a thread whose publications have been made are listed with strictly increasing positions, all of them finished
calls, and the call that still owes its publication (the thread's last record) is not among them. -/
theorem C02_one_publication_per_call (env : Env) (s₀ : SStore M) (progs : Nat → List (Op M))
    (psched : List (Nat × Bool)) (t : Nat) :
    let pc : PConfig M := prun false true env (pinit s₀ progs) psched
    ((pc.sent t).map (·.1)).Pairwise (· < ·) ∧
    (∀ n f, (n, f) ∈ pc.sent t → n < (pc.core.threads t).done.length) ∧
    ((pc.pending t).isSome = true → ∀ f, ((pc.core.threads t).done.length - 1, f) ∉ pc.sent t) := by
  intro pc
  have hq : QInv pc := (QInv.init s₀ progs).prun true env (PInv.init s₀ progs) psched
  refine ⟨hq.incr t, ?_, ?_⟩
  · intro n f hm
    exact Nat.lt_of_lt_of_le (hq.fresh t n f hm) (Nat.sub_le _ _)
  · intro hp f hm
    have := hq.fresh t _ f hm
    simp only [nrep, hp, if_true] at this
    omega

/-- `Value.Set(v)` on the Value (id 9) -/
def vset (v : Int) : Op Int :=
  .upd { id := 9, isValue := true, expectAbsent := false, createIfAbsent := false, expect := none,
         check := fun _ => none, f := fun _ => v }

/-- `Value.Set` with a delta interceptor -/
def vinc (δ : Int) : Op Int :=
  .upd { id := 9, isValue := true, expectAbsent := false, createIfAbsent := false, expect := none,
         check := fun _ => none, f := fun old => old.getD 0 + δ }

def sendProgs : Nat → List (Op Int) := fun t => if t = 0 then [vset 2] else if t = 1 then [vinc 1] else []

/-- A reads, changes, commits (2); B reads, changes, commits (3); A's publication times out; B's is delivered -/
def sendSched : List (Nat × Bool) :=
  [(0, false), (0, false), (0, false), (1, false), (1, false), (1, false), (0, true), (1, false)]

def sendInit : SStore Int := fun i => if i = 9 then some 1 else none

def sendRun (rollback : Bool) : PConfig Int := prun rollback true env₀ (pinit sendInit sendProgs) sendSched

/-- **With a blind write-back on time-out (NOT the code), a committed and successfully published write is lost**: B reported
success with 3 and owns the last entry of the commit log, A's time-out puts the value A had read (1) back, and
the Value ends up holding 1 — a value no sequential order of the two writes produces last. -/
theorem C02_blind_rollback_loses_a_committed_write :
    ((sendRun true).core.threads 1).done.map (·.res) = [.ok (some 3)] ∧
    (sendRun true).sent 1 = [(0, false)] ∧ (sendRun true).sent 0 = [(0, true)] ∧
    (sendRun true).core.log.map (·.tid) = [0, 1] ∧
    absS (sendRun true).core.store 9 = some 1 ∧
    replay sendInit (sendRun true).core.log 9 = some 3 := by
  decide +kernel

/-- the code as it is: the same schedule leaves B's value in place; A reports the failed publication
(`Unknown`) although its write is the first entry of the log, B reports success -/
example :
    absS (sendRun false).core.store 9 = some 3 ∧
    reported (sendRun false) 0 0 = some (.error (.other 2)) ∧
    reported (sendRun false) 1 0 = some (.ok (some 3)) ∧
    (sendRun false).sent 0 = [(0, true)] ∧ (sendRun false).core.log.map (·.tid) = [0, 1] := by
  decide +kernel

/-- while a publication is pending the call has not reported anything yet -/
example :
    reported (prun false true env₀ (pinit sendInit sendProgs) (sendSched.take 3)) 0 0 = none ∧
    ((prun false true env₀ (pinit sendInit sendProgs) (sendSched.take 3)).pending 0).isSome = true := by
  decide +kernel

/-- the projected schedule of the witness: the two publication steps are left out -/
example : proj true env₀ (pinit sendInit sendProgs) sendSched = [0, 0, 0, 1, 1, 1] := by decide +kernel

/-- a change step in a reachable configuration: store and log stay as they are (first disjunct), and a commit step:
the second disjunct -/
example :
    (step true env₀ (run true env₀ (initCfg sendInit sendProgs) [0]) 0).store 9 =
      (run true env₀ (initCfg sendInit sendProgs) [0]).store 9 ∧
    (step true env₀ (run true env₀ (initCfg sendInit sendProgs) [0, 0]) 0).log.length = 1 := by
  decide +kernel

end ScVerif.C02
