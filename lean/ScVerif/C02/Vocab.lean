import ScVerif.C02.Model
/-!
# C02 — what the invariants and the property statements say about operations and program counters
-/
namespace ScVerif.C02

variable {M : Type} [DecidableEq M] [Msg M]

def opId : Op M → Nat
  | .upd u => u.id
  | .del d => d.id

def opGen : Op M → Bool
  | .upd u => u.genId
  | .del _ => false

def pcOps : Pc M → List (Op M)
  | .idle => []
  | .uChange u _ _ => [.upd u]
  | .uCommit u _ _ _ => [.upd u]
  | .dTry d _ _ => [.del d]

/-- A call as the program text has it: the id of a generate-id call is not known before it runs. -/
def forget : Op M → Op M
  | .upd u => if u.genId then .upd { u with id := 0 } else .upd u
  | .del d => .del d

/-- what the `SaveFn` of a committing `op` does to the change times: `Delete` has none -/
def stampAfter (st : Nat → Nat) (op : Op M) (tm : Nat) : Nat → Nat :=
  match op with
  | .upd u => setAt st u.id tm
  | .del _ => st

end ScVerif.C02
