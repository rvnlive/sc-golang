import ScVerif.C02.Facts
import ScVerif.C02.LinSeq
/-!
# C02 — the linearization sequence: the filing it is built from, and what it satisfies

`LInv`: the ghost filing of refused calls (`Config.refusedAt`) is exact: every filed event stands for a finished
refused call of that index, every such call is filed, once.  In closed form (`linSeq_eq`) the sequence of
`LinSeq.lean` is the blocks `linBlock 0 … linBlock log.length` one after the other; membership, execution and order
are read off that.
-/
-- the file-wide `variable` also reaches lemmas that need less of it
set_option linter.unusedSectionVars false
namespace ScVerif.C02

variable {M : Type} [DecidableEq M] [Msg M]

def EvSound (threads : Nat → Thread M) (k : Nat) (ev : Ev M) : Prop :=
  ev.lin = k ∧ ev.committed = false ∧
    ∃ r : Rec M, (threads ev.tid).done[ev.idx]? = some r ∧ r.kind = .refused ∧ r.lin = k ∧ r.op = ev.op ∧ r.res = ev.res

structure LInv (c : Config M) : Prop where
  sound : ∀ k ev, ev ∈ c.refusedAt k → EvSound c.threads k ev
  complete : ∀ t n r, (c.threads t).done[n]? = some r → r.kind = .refused →
    (⟨t, n, r.op, r.res, r.lin, false⟩ : Ev M) ∈ c.refusedAt r.lin
  nodup : ∀ k, ((c.refusedAt k).map (fun ev => (ev.tid, ev.idx))).Nodup

theorem LInv.lin {c : Config M} (hl : LInv c) (k : Nat) (ev : Ev M) (hev : ev ∈ c.refusedAt k) :
    ev.lin = k ∧ ev.committed = false :=
  ⟨(hl.sound k ev hev).1, (hl.sound k ev hev).2.1⟩

theorem LInv.init (s₀ : SStore M) (progs : Nat → List (Op M)) : LInv (initCfg s₀ progs) := by
  refine ⟨?_, ?_, ?_⟩
  · intro k ev h; simp [initCfg] at h
  · intro t n r h; simp [initCfg] at h
  · intro k; simp [initCfg]

theorem LInv.step {c : Config M} (h : LInv c) (fixed : Bool) (env : Env) (t : Nat) :
    LInv (ScVerif.C02.step fixed env c t) := by
  have hm := stepCore_move fixed env c t
  have old : ∀ k ev, ev ∈ c.refusedAt k → EvSound (stepCore fixed env c t).threads k ev := by
    intro k ev hev
    obtain ⟨h1, h2, r₀, hr₀, h3⟩ := h.sound k ev hev
    exact ⟨h1, h2, r₀, hm.done_persist hr₀, h3⟩
  unfold ScVerif.C02.step
  rcases hm.filing with ⟨hra, hnew⟩ | ⟨r, hd, hkr, hra⟩ <;> rw [hra]
  · exact ⟨old, fun t' n r' hr' hk' => h.complete t' n r' (hnew t' n r' hr' hk') hk', h.nodup⟩
  · refine ⟨?_, ?_, ?_⟩
    · intro k ev hev
      rcases mem_setAt_snoc.mp hev with hev | ⟨rfl, rfl⟩
      · exact old k ev hev
      · exact ⟨rfl, rfl, r, by show ((stepCore fixed env c t).threads t).done[_]? = _; rw [hd]; simp, hkr, rfl, rfl, rfl⟩
    · intro t' n r' hr' hk'
      refine mem_setAt_snoc.mpr ?_
      rcases hm.done_new hd hr' with hold | ⟨rfl, rfl, rfl⟩
      · exact Or.inl (h.complete t' n r' hold hk')
      · exact Or.inr ⟨rfl, rfl⟩
    · intro k
      -- the new event is call `done.length` of `t`, which no event filed so far can be
      rw [List.Nodup, List.pairwise_map]
      refine pairwise_setAt_snoc (fun k => List.pairwise_map.mp (h.nodup k)) ?_ k
      intro ev hev hpair
      obtain ⟨_, _, r₀, hr₀, _⟩ := h.sound r.lin ev hev
      simp only [Prod.mk.injEq] at hpair
      rw [hpair.1, hpair.2, List.getElem?_eq_none (Nat.le_refl _)] at hr₀
      cases hr₀

theorem LInv.run {c : Config M} (h : LInv c) (fixed : Bool) (env : Env) (sched : List Nat) :
    LInv (run fixed env c sched) :=
  List.foldlRecOn sched _ h (fun _ hc t _ => hc.step fixed env t)

theorem seqRun_append (s : SStore M) (l₁ l₂ : List (Ev M)) :
    seqRun s (l₁ ++ l₂) = (seqRun s l₁).bind (fun s' => seqRun s' l₂) := by
  induction l₁ generalizing s with
  | nil => rfl
  | cons ev rest ih =>
    simp only [List.cons_append, seqRun]
    split
    · exact ih _
    · rfl

theorem seqRun_refused (s : SStore M) (l : List (Ev M))
    (h : ∀ ev, ev ∈ l → specStep ev.op s = (ev.res, s)) : seqRun s l = some s := by
  induction l with
  | nil => rfl
  | cons ev rest ih =>
    have hev := h ev List.mem_cons_self
    simp only [seqRun, hev, if_true]
    exact ih (fun ev' h' => h ev' (List.mem_cons_of_mem _ h'))

/-- block `k` of the sequence: the refused calls of index `k`, then log entry `k` if there is one -/
def linBlock (s₀ : SStore M) (log : List (Entry M)) (arr : Nat → List (Ev M)) (k : Nat) : List (Ev M) :=
  arr k ++ (log[k]?.map (comEv s₀ log k)).toList

theorem linUpto_eq (s₀ : SStore M) (log : List (Entry M)) (arr : Nat → List (Ev M)) (n : Nat) :
    linUpto s₀ log arr n = (List.range n).flatMap (linBlock s₀ log arr) := by
  induction n with
  | zero => rfl
  | succ n ih =>
    rw [List.range_succ, List.flatMap_append, ← ih, linUpto, List.append_assoc, List.flatMap_singleton, linBlock]
    cases log[n]? <;> rfl

/-- The sequence in closed form: blocks `0 … log.length` one after the other (the last one holds refused calls only). -/
theorem linSeq_eq (s₀ : SStore M) (log : List (Entry M)) (arr : Nat → List (Ev M)) :
    linSeq s₀ log arr = (List.range (log.length + 1)).flatMap (linBlock s₀ log arr) := by
  rw [linSeq, linUpto_eq, List.range_succ, List.flatMap_append, List.flatMap_singleton, linBlock,
    List.getElem?_eq_none (Nat.le_refl _)]
  simp

theorem mem_linBlock {s₀ : SStore M} {log : List (Entry M)} {arr : Nat → List (Ev M)} {k : Nat} {ev : Ev M} :
    ev ∈ linBlock s₀ log arr k ↔ ev ∈ arr k ∨ ∃ e, log[k]? = some e ∧ ev = comEv s₀ log k e := by
  simp only [linBlock, List.mem_append, Option.mem_toList, Option.map_eq_some_iff, eq_comm (a := ev)]

theorem mem_linSeq {s₀ : SStore M} {log : List (Entry M)} {arr : Nat → List (Ev M)} {ev : Ev M} :
    ev ∈ linSeq s₀ log arr ↔
      (∃ k, k ≤ log.length ∧ ev ∈ arr k) ∨ (∃ k e, log[k]? = some e ∧ ev = comEv s₀ log k e) := by
  simp only [linSeq_eq, List.mem_flatMap, List.mem_range, mem_linBlock, Nat.lt_succ_iff]
  constructor
  · rintro ⟨k, hk, h | h⟩
    · exact Or.inl ⟨k, hk, h⟩
    · exact Or.inr ⟨k, h⟩
  · rintro (⟨k, hk, h⟩ | ⟨k, e, he, h⟩)
    · exact ⟨k, hk, Or.inl h⟩
    · exact ⟨k, Nat.le_of_lt (List.getElem?_eq_some_iff.mp he).1, Or.inr ⟨e, he, h⟩⟩

theorem seqRun_linBlock (s₀ : SStore M) (log : List (Entry M)) (arr : Nat → List (Ev M)) (k : Nat)
    (harr : ∀ ev, ev ∈ arr k → specStep ev.op (replay s₀ (log.take k)) = (ev.res, replay s₀ (log.take k))) :
    seqRun (replay s₀ (log.take k)) (linBlock s₀ log arr k) = some (replay s₀ (log.take (k + 1))) := by
  rw [linBlock, seqRun_append, seqRun_refused _ _ harr, Option.bind_some, List.take_add_one]
  cases log[k]? with
  | none => simp [seqRun]
  | some e => simp [seqRun, comEv, replay_snoc]

theorem seqRun_linSeq (s₀ : SStore M) (log : List (Entry M)) (arr : Nat → List (Ev M))
    (harr : ∀ k ev, ev ∈ arr k →
      specStep ev.op (replay s₀ (log.take k)) = (ev.res, replay s₀ (log.take k))) :
    seqRun s₀ (linSeq s₀ log arr) = some (replay s₀ log) := by
  have upto : ∀ n, seqRun s₀ ((List.range n).flatMap (linBlock s₀ log arr)) = some (replay s₀ (log.take n)) := by
    intro n
    induction n with
    | zero => rfl
    | succ n ih =>
      rw [List.range_succ, List.flatMap_append, seqRun_append, ih, Option.bind_some, List.flatMap_singleton]
      exact seqRun_linBlock s₀ log arr n (harr n)
  rw [linSeq_eq, upto, List.take_of_length_le (Nat.le_succ _)]

/-- The sequence is ordered by any relation that orders each block of refused calls, members of increasing index, and
a refused member before the committed member of its index. -/
theorem pairwise_linSeq_of (s₀ : SStore M) (log : List (Entry M)) (arr : Nat → List (Ev M))
    (R : Ev M → Ev M → Prop)
    (harr : ∀ k ev, ev ∈ arr k → ev.lin = k ∧ ev.committed = false)
    (hin : ∀ k, (arr k).Pairwise R)
    (hlt : ∀ x y, x ∈ linSeq s₀ log arr → y ∈ linSeq s₀ log arr → x.lin < y.lin → R x y)
    (hrc : ∀ x y, x ∈ linSeq s₀ log arr → y ∈ linSeq s₀ log arr →
      x.lin = y.lin → x.committed = false → y.committed = true → R x y) :
    (linSeq s₀ log arr).Pairwise R := by
  have hblock : ∀ k ev, ev ∈ linBlock s₀ log arr k → ev.lin = k := by
    intro k ev hev
    rcases mem_linBlock.mp hev with h | ⟨e, _, rfl⟩
    · exact (harr k ev h).1
    · rfl
  have hmem : ∀ k ev, k ∈ List.range (log.length + 1) → ev ∈ linBlock s₀ log arr k → ev ∈ linSeq s₀ log arr := by
    intro k ev hk hev
    rw [linSeq_eq]
    exact List.mem_flatMap.mpr ⟨k, hk, hev⟩
  rw [linSeq_eq, List.pairwise_flatMap]
  constructor
  · intro k hk
    rw [linBlock, List.pairwise_append]
    refine ⟨hin k, by cases log[k]? <;> simp, ?_⟩
    intro a ha b hb
    obtain ⟨e, he, rfl⟩ := Option.map_eq_some_iff.mp (Option.mem_toList.mp hb)
    exact hrc a _ (hmem k a hk (mem_linBlock.mpr (Or.inl ha))) (hmem k _ hk (mem_linBlock.mpr (Or.inr ⟨e, he, rfl⟩)))
      (harr k a ha).1 (harr k a ha).2 rfl
  · refine List.pairwise_lt_range.imp_of_mem ?_
    intro j k hj hk hjk x hx y hy
    refine hlt x y (hmem j x hj hx) (hmem k y hk hy) ?_
    rw [hblock j x hx, hblock k y hy]; exact hjk

/-- The order the sequence is built in: needs no invariant, only that block `k` of the arrangement holds refused
events of index `k`. -/
theorem linSeq_linOrd (s₀ : SStore M) (log : List (Entry M)) (arr : Nat → List (Ev M))
    (harr : ∀ k ev, ev ∈ arr k → ev.lin = k ∧ ev.committed = false) :
    (linSeq s₀ log arr).Pairwise LinOrd :=
  pairwise_linSeq_of s₀ log arr LinOrd harr
    (fun k => List.pairwise_of_forall_mem_list (fun a ha b hb =>
      ⟨Nat.le_of_eq ((harr k a ha).1.trans (harr k b hb).1.symm), fun hc => by rw [(harr k a ha).2] at hc; cases hc⟩))
    (fun _ _ _ _ h => ⟨Nat.le_of_lt h, fun _ => h⟩)
    (fun x _ _ _ h hx _ => ⟨Nat.le_of_eq h, fun hc => by rw [hx] at hc; cases hc⟩)

section Linearization

variable {s₀ : SStore M} {c : Config M}

/-- Any arrangement of the filed calls is as good a filing: what follows is said of `c.refusedAt` only. -/
theorem LInv.perm (hl : LInv c) {arr : Nat → List (Ev M)} (hperm : ∀ k, (arr k).Perm (c.refusedAt k)) :
    LInv { c with refusedAt := arr } :=
  ⟨fun k ev hev => hl.sound k ev ((hperm k).mem_iff.mp hev),
   fun t n r hr hk => (hperm r.lin).mem_iff.mpr (hl.complete t n r hr hk),
   fun k => ((hperm k).map _).nodup_iff.mpr (hl.nodup k)⟩

theorem linSeq_runs (h : Inv s₀ c) (hl : LInv c) :
    seqRun s₀ (linSeq s₀ c.log c.refusedAt) = some (absS c.store) := by
  rw [h.store]
  refine seqRun_linSeq s₀ c.log c.refusedAt (fun k ev hev => ?_)
  obtain ⟨_, _, r, hr, hk, hlin, hop, hres⟩ := hl.sound k ev hev
  rw [← hop, ← hres, ← hlin]
  exact ((h.recOK hr).refused hk).1

theorem linSeq_complete (h : Inv s₀ c) (hl : LInv c)
    {t n : Nat} {r : Rec M} (hr : (c.threads t).done[n]? = some r) (hnr : r.kind ≠ .raced) :
    ∃ ev, ev ∈ linSeq s₀ c.log c.refusedAt ∧ ev.tid = t ∧ ev.idx = n ∧ ev.op = r.op ∧ ev.res = r.res ∧ ev.lin = r.lin := by
  obtain ⟨_, h2, h3⟩ := (h.recOK hr).bounds
  cases hk : r.kind with
  | raced => exact absurd hk hnr
  | refused =>
    exact ⟨_, mem_linSeq.mpr (Or.inl ⟨r.lin, Nat.le_trans h2 h3, hl.complete t n r hr hk⟩), rfl, rfl, rfl, rfl, rfl⟩
  | committed =>
    obtain ⟨⟨tm, he⟩, _, hres, _⟩ := (h.recOK hr).committed hk
    exact ⟨comEv s₀ c.log r.lin ⟨t, n, r.op, tm⟩, mem_linSeq.mpr (Or.inr ⟨r.lin, _, he, rfl⟩), rfl, rfl, rfl, hres, rfl⟩

theorem linSeq_sound (h : Inv s₀ c) (hl : LInv c) {ev : Ev M}
    (hev : ev ∈ linSeq s₀ c.log c.refusedAt) :
    ∃ r, (c.threads ev.tid).done[ev.idx]? = some r ∧ r.kind ≠ .raced ∧ r.op = ev.op ∧ r.res = ev.res ∧
      r.lin = ev.lin ∧ (ev.committed = true ↔ r.kind = .committed) := by
  rcases mem_linSeq.mp hev with ⟨k, _, hk⟩ | ⟨k, e, he, hev'⟩
  · obtain ⟨hlin, hcom, r, hr, hkind, hrl, hop, hres⟩ := hl.sound k ev hk
    refine ⟨r, hr, by rw [hkind]; simp, hop, hres, by rw [hrl, hlin], ?_⟩
    rw [hcom, hkind]; simp
  · obtain ⟨r, v, hr, hlin, hop, hres⟩ := owner_of_entry h he
    have hkind := kind_of_ok (h.recOK hr) hres
    obtain ⟨_, _, hspec⟩ := committed_of_ok (h.recOK hr) hres
    subst hev'
    refine ⟨r, hr, by rw [hkind]; simp, hop, ?_, hlin, by simp [comEv, hkind]⟩
    show r.res = (specStep e.op (replay s₀ (c.log.take k))).1
    rw [← hspec, hop, hlin]

theorem linSeq_nodup (h : Inv s₀ c) (hl : LInv c) :
    (linSeq s₀ c.log c.refusedAt).Pairwise (fun x y => ¬ (x.tid = y.tid ∧ x.idx = y.idx)) := by
  -- two occurrences of one call stand for one record, hence have one index and one kind
  have same : ∀ x y, x ∈ linSeq s₀ c.log c.refusedAt → y ∈ linSeq s₀ c.log c.refusedAt → x.tid = y.tid ∧ x.idx = y.idx →
      x.lin = y.lin ∧ (y.committed = true → x.committed = true) := by
    intro x y hx hy hsame
    obtain ⟨rx, hrx, _, _, _, hlx, hcx⟩ := linSeq_sound h hl hx
    obtain ⟨ry, hry, _, _, _, hly, hcy⟩ := linSeq_sound h hl hy
    rw [hsame.1, hsame.2, hry] at hrx
    cases hrx
    exact ⟨by rw [← hlx, ← hly], fun hyc => hcx.mpr (hcy.mp hyc)⟩
  refine pairwise_linSeq_of s₀ c.log c.refusedAt _ hl.lin ?_
    (fun x y hx hy hlt hsame => Nat.ne_of_lt hlt (same x y hx hy hsame).1)
    (fun x y hx hy _ hxc hyc hsame => by rw [(same x y hx hy hsame).2 hyc] at hxc; cases hxc)
  intro k
  have := hl.nodup k
  rw [List.Nodup, List.pairwise_map] at this
  exact this.imp (fun hne hsame => hne (by rw [hsame.1, hsame.2]))

end Linearization

end ScVerif.C02
