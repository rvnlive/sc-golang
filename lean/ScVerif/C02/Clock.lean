import ScVerif.C02.Model
/-!
# C02 — real time at the granularity of single steps (ghost instrumentation)

The records of `Model.lean` measure time in commit-log lengths, which cannot tell apart two calls that were
invoked, refused and answered while the log did not grow.  Here every step of a run is additionally stamped with
the step counter (`Config.tick`, the instant the injected clock shows): `Times.invT t n` is the step at which call
`n` of thread `t` was invoked (its first locked section), `Times.respT t n` the step at which it responded, and
`Times.lenAt k` the length of the commit log when step `k` began.  `trun` is `run` with that bookkeeping on the
side.
-/
namespace ScVerif.C02

variable {M : Type} [DecidableEq M] [Msg M]

/-- ghost: step-level clock readings -/
structure Times where
  invT : Nat → Nat → Nat := fun _ _ => 0
  respT : Nat → Nat → Nat := fun _ _ => 0
  lenAt : Nat → Nat := fun _ => 0

def set2 (f : Nat → Nat → Nat) (t n v : Nat) : Nat → Nat → Nat :=
  fun t' n' => if t' = t ∧ n' = n then v else f t' n'

/-- the thread's next step invokes a call -/
def starts (th : Thread M) : Bool :=
  match th.pc, th.prog with
  | .idle, _ :: _ => true
  | _, _ => false

/-- bookkeeping for the step that thread `t` takes from `c` (at instant `c.tick`) -/
def tstep (fixed : Bool) (env : Env) (c : Config M) (g : Times) (t : Nat) : Times :=
  let n := (c.threads t).done.length
  { invT := if starts (c.threads t) = true then set2 g.invT t n c.tick else g.invT
    respT := if n < ((stepCore fixed env c t).threads t).done.length then set2 g.respT t n c.tick else g.respT
    lenAt := setAt g.lenAt (c.tick + 1) (stepCore fixed env c t).log.length }

def trun (fixed : Bool) (env : Env) : Config M → Times → List Nat → Config M × Times
  | c, g, [] => (c, g)
  | c, g, t :: rest => trun fixed env (step fixed env c t) (tstep fixed env c g t) rest

end ScVerif.C02
