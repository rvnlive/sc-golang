import ScVerif.C02.Pub
/-!
# C02 — what a write HANDLER answers with

A trait server's write handler (`countpb.MemoryDevice.UpdateCount`, `ResetCount`, …) makes one `Value.Set` and
answers its client.  The code answers with the message `Set` handed back (`res.(*traits.Count)`), i.e. with the
result the call *reported* (`reported`).  The *answer layer* `arun` puts that on top of the publication
layer: when a call of a thread reports (at its last core step, or — for a committed `Value.Set` — at its
publication step, with other writers' commits in between), the thread's handler files its answer.

`AnswerBy.own` is the code.  `AnswerBy.fresh` is NOT the code: it is the variant in which the handler drops what
`Set` returned and answers with a fresh `Get` made once `Set` has returned (modelled at the earliest possible
moment, inside the very step in which the call reports) — kept as a witness of what that breaks: a writer that
committed between this call's save and its return is included in the answer.
-/
namespace ScVerif.C02

variable {M : Type} [DecidableEq M] [Msg M]

inductive AnswerBy
  | own
  | fresh
  deriving DecidableEq, Repr

/-- the answer of the handler around call `n` of thread `t`, given now -/
def answerOf (how : AnswerBy) (pc : PConfig M) (t n : Nat) : Option (Res M) :=
  match how with
  | .own => reported pc t n
  | .fresh =>
    match reported pc t n, (pc.core.threads t).done[n]? with
    | some (.ok (some _)), some r =>
      (match r.op with
       | .upd u => some (.ok (absS pc.core.store u.id))
       | .del _ => reported pc t n)
    | res, _ => res

structure AConfig (M : Type) where
  p : PConfig M
  /-- per thread: the answers its handlers have given, one per reported call -/
  answers : Nat → List (Res M)

def astep (how : AnswerBy) (fixed : Bool) (env : Env) (a : AConfig M) (tf : Nat × Bool) : AConfig M :=
  { p := pstep false fixed env a.p tf
    answers :=
      if nrep (pstep false fixed env a.p tf) tf.1 = nrep a.p tf.1 + 1 then
        match answerOf how (pstep false fixed env a.p tf) tf.1 (nrep a.p tf.1) with
        | some r => setAt a.answers tf.1 (a.answers tf.1 ++ [r])
        | none => a.answers
      else a.answers }

def arun (how : AnswerBy) (fixed : Bool) (env : Env) (a : AConfig M) (sched : List (Nat × Bool)) : AConfig M :=
  sched.foldl (astep how fixed env) a

def ainit (s₀ : SStore M) (progs : Nat → List (Op M)) : AConfig M := ⟨pinit s₀ progs, fun _ => []⟩

end ScVerif.C02
