import ScVerif.C02.Vocab
/-!
# C02 — the sequential specification by itself: `specRead`, `specStep`, `replay`

A call reads and writes the cell of its id and nothing else; what a commit log does to one cell between two
positions is carried entry by entry (`replay_preserves`).
-/
-- the file-wide `variable` also reaches lemmas that need less of it
set_option linter.unusedSectionVars false
namespace ScVerif.C02

variable {M : Type} [DecidableEq M] [Msg M]

theorem replay_append (s₀ : SStore M) (l₁ l₂ : List (Entry M)) :
    replay s₀ (l₁ ++ l₂) = replay (replay s₀ l₁) l₂ := by
  simp [replay, List.foldl_append]

theorem replay_snoc (s₀ : SStore M) (l : List (Entry M)) (e : Entry M) :
    replay s₀ (l ++ [e]) = (specStep e.op (replay s₀ l)).2 := by
  simp [replay, List.foldl_append]

theorem take_succ_of_getElem? {α : Type} {l : List α} {k : Nat} {e : α} (h : l[k]? = some e) :
    l.take (k + 1) = l.take k ++ [e] := by
  rw [List.take_add_one, h]; rfl

theorem specUpd_of_read {u : UpdOp M} {s : SStore M} {rd : Option M} {new : M}
    (hr : specRead u (s u.id) = .ok rd) (hc : u.change rd = .ok new) :
    specUpd u s = (.ok (some new), setAt s u.id (some new)) := by
  simp [specUpd, hr, hc]

theorem specUpd_refused_read {u : UpdOp M} {s : SStore M} {e : Err}
    (hr : specRead u (s u.id) = .error e) : specUpd u s = (.error e, s) := by
  simp [specUpd, hr]

theorem specUpd_refused_change {u : UpdOp M} {s : SStore M} {rd : Option M} {e : Err}
    (hr : specRead u (s u.id) = .ok rd) (hc : u.change rd = .error e) : specUpd u s = (.error e, s) := by
  simp [specUpd, hr, hc]

/-- a `Value` reads whatever is there, and never fails -/
theorem specRead_value {u : UpdOp M} (hv : u.isValue = true) (cell : Option M) : specRead u cell = .ok cell := by
  unfold specRead; rw [if_pos hv]

theorem specRead_isSome {u : UpdOp M} {cell rd : Option M} (h : specRead u cell = .ok rd)
    (hv : u.isValue = false) : rd.isSome = true := by
  unfold specRead at h
  simp only [hv, Bool.false_eq_true, if_false] at h
  cases cell with
  | none => by_cases h3 : u.createIfAbsent <;> simp [h3] at h; rw [← h]; rfl
  | some b => by_cases h2 : u.expectAbsent <;> simp [h2] at h; rw [← h]; rfl

theorem specUpd_ok_inv {u : UpdOp M} {s : SStore M} {v : M} (h : (specUpd u s).1 = .ok (some v)) :
    ∃ old, specRead u (s u.id) = .ok old ∧ (u.expect.isSome → old = u.expect) ∧ u.check old = none ∧
      v = u.f old ∧ (specUpd u s).2 = setAt s u.id (some v) := by
  unfold specUpd at h ⊢
  cases hr : specRead u (s u.id) with
  | error e => rw [hr] at h; cases h
  | ok old =>
    rw [hr] at h
    simp only [] at h ⊢
    refine ⟨old, rfl, ?_⟩
    unfold UpdOp.change at h ⊢
    by_cases hexp : u.expect.isSome ∧ old ≠ u.expect
    · rw [if_pos hexp] at h; cases h
    · rw [if_neg hexp] at h ⊢
      cases hck : u.check old with
      | some e => rw [hck] at h; cases h
      | none =>
        rw [hck] at h
        simp only [] at h ⊢
        have hv : u.f old = v := by
          injection h with h; injection h
        refine ⟨?_, trivial, hv.symm, by rw [hv]⟩
        intro hs
        by_cases ho : old = u.expect
        · exact ho
        · exact absurd ⟨hs, ho⟩ hexp

theorem specDel_ok_inv {d : DelOp M} {s : SStore M} {b : M} (h : (specDel d s).1 = .ok (some b)) :
    s d.id = some b ∧ d.pre b = none ∧ (specDel d s).2 = setAt s d.id none := by
  unfold specDel at h ⊢
  cases hs : s d.id with
  | none =>
    rw [hs] at h
    by_cases ham : d.allowMissing <;> simp [ham] at h
  | some b' =>
    rw [hs] at h
    simp only [] at h ⊢
    cases hp : d.pre b' with
    | some e => rw [hp] at h; cases h
    | none =>
      rw [hp] at h
      simp only [] at h ⊢
      have : b' = b := by injection h with h; injection h
      subst this
      exact ⟨rfl, hp, trivial⟩

/-- a specification step leaves the contents alone or rewrites the one cell of the call's id; only a Delete empties it -/
theorem specStep_shape (op : Op M) (s : SStore M) :
    (specStep op s).2 = s ∨
    ∃ cell, (specStep op s).2 = setAt s (opId op) cell ∧ (cell = none → ∃ d, op = .del d) := by
  cases op with
  | upd u =>
    simp only [specStep, specUpd]
    cases specRead u (s u.id) with
    | error e => exact Or.inl rfl
    | ok old =>
      simp only []
      cases u.change old with
      | error e => exact Or.inl rfl
      | ok new => exact Or.inr ⟨some new, rfl, fun h => by cases h⟩
  | del d =>
    simp only [specStep, specDel]
    cases s d.id with
    | none => exact Or.inl (by by_cases ham : d.allowMissing <;> simp [ham])
    | some b =>
      simp only []
      cases d.pre b with
      | some e => exact Or.inl rfl
      | none => exact Or.inr ⟨none, rfl, fun _ => ⟨d, rfl⟩⟩

theorem specStep_other (op : Op M) (s : SStore M) {i : Nat} (h : opId op ≠ i) : (specStep op s).2 i = s i := by
  rcases specStep_shape op s with hs | ⟨cell, hs, _⟩ <;> rw [hs]
  exact setAt_other _ _ (Ne.symm h)

theorem specStep_keeps (op : Op M) (s : SStore M) {i : Nat} (hs : (s i).isSome = true)
    (hnd : ∀ d, op = .del d → d.id ≠ i) : ((specStep op s).2 i).isSome = true := by
  rcases specStep_shape op s with h | ⟨cell, h, hdel⟩ <;> rw [h]
  · exact hs
  · by_cases hid : opId op = i
    · rw [← hid, setAt_same]
      cases cell with
      | some v => rfl
      | none =>
        obtain ⟨d, hd⟩ := hdel rfl
        exact absurd (by rw [hd] at hid; exact hid) (hnd d hd)
    · rw [setAt_other _ _ (Ne.symm hid)]; exact hs

theorem replay_preserves (P : Option M → Prop) (s₀ : SStore M) (log : List (Entry M)) (i a : Nat) :
    ∀ b, a ≤ b → b ≤ log.length → P ((replay s₀ (log.take a)) i) →
      (∀ k e s, a ≤ k → k < b → log[k]? = some e → P (s i) → P ((specStep e.op s).2 i)) →
      P ((replay s₀ (log.take b)) i) := by
  intro b
  induction b with
  | zero =>
    intro hab _ hs _
    have : a = 0 := by omega
    subst this; exact hs
  | succ b ih =>
    intro hab hb hs hstep
    by_cases heq : a = b + 1
    · subst heq; exact hs
    · have hget : log[b]? = some log[b] := List.getElem?_eq_getElem (by omega)
      rw [take_succ_of_getElem? hget, replay_snoc]
      exact hstep b log[b] _ (by omega) (by omega) hget
        (ih (by omega) (by omega) hs (fun k e s h1 h2 => hstep k e s h1 (by omega)))

theorem present_persists (s₀ : SStore M) (log : List (Entry M)) (i a : Nat) :
    ∀ b, a ≤ b → b ≤ log.length → ((replay s₀ (log.take a)) i).isSome = true →
      (∀ k e d, a ≤ k → k < b → log[k]? = some e → e.op = .del d → d.id ≠ i) →
      ((replay s₀ (log.take b)) i).isSome = true :=
  fun b hab hb hs hnd => replay_preserves (·.isSome = true) s₀ log i a b hab hb hs
    (fun k e s h1 h2 he hp => specStep_keeps e.op s hp (fun d hd => hnd k e d h1 h2 he hd))

theorem replay_quiet (s₀ : SStore M) (log : List (Entry M)) (i a : Nat) :
    ∀ b, a ≤ b → b ≤ log.length →
      (∀ k e, a ≤ k → k < b → log[k]? = some e → opId e.op ≠ i) →
      (replay s₀ (log.take b)) i = (replay s₀ (log.take a)) i :=
  fun b hab hb hq => replay_preserves (· = (replay s₀ (log.take a)) i) s₀ log i a b hab hb rfl
    (fun k e s h1 h2 he hp => by rw [specStep_other _ _ (hq k e h1 h2 he)]; exact hp)

theorem specStep_res_congr (op : Op M) {s₁ s₂ : SStore M} (h : s₁ (opId op) = s₂ (opId op)) :
    (specStep op s₁).1 = (specStep op s₂).1 := by
  cases op with
  | upd u =>
    simp only [opId] at h
    simp only [specStep, specUpd, h]
    cases specRead u (s₂ u.id) with
    | error e => rfl
    | ok old =>
      simp only []
      cases u.change old <;> rfl
  | del d =>
    simp only [opId] at h
    simp only [specStep, specDel, h]
    cases s₂ d.id with
    | none => by_cases ham : d.allowMissing <;> simp [ham]
    | some b =>
      simp only []
      cases d.pre b <;> rfl

theorem specRead_expectAbsent {u : UpdOp M} {cell old : Option M} (h : specRead u cell = .ok old)
    (hea : u.expectAbsent = true) (hv : u.isValue = false) : cell = none := by
  unfold specRead at h
  simp only [hv, Bool.false_eq_true, if_false] at h
  cases cell with
  | none => rfl
  | some b => simp [hea] at h

theorem specRead_some {u : UpdOp M} {b : M} {old : Option M} (h : specRead u (some b) = .ok old) :
    old = some b := by
  unfold specRead at h
  by_cases hv : u.isValue = true
  · simp [hv] at h; exact h.symm
  · by_cases hea : u.expectAbsent = true
    · simp [hv, hea] at h
    · simp [hv, hea] at h; exact h.symm

theorem DelOp.pre_none_expect {d : DelOp M} {b v : M} (h : d.pre b = none) (hex : d.expect = some v) : b = v := by
  unfold DelOp.pre at h
  cases hck : d.check b with
  | some e => rw [hck] at h; cases h
  | none =>
    rw [hck, hex] at h
    by_cases hbv : b = v
    · exact hbv
    · have : (some v).isSome = true ∧ some b ≠ some v := ⟨rfl, fun hh => hbv (Option.some.inj hh)⟩
      simp [this] at h

instance instMsgInt : Msg Int := ⟨0⟩

/-- unconditional read-modify-write `old ↦ old + δ` on id `i` (an `interceptBefore` that adds δ) -/
def incOp (i : Nat) (δ : Int) : Op Int :=
  .upd { id := i, isValue := false, expectAbsent := false, createIfAbsent := false, expect := none,
         check := fun _ => none, f := fun old => old.getD 0 + δ }

def incDelta : Op Int → Int
  | .upd u => u.f (some 0)
  | .del _ => 0

theorem replay_incs (s₀ : SStore Int) (log : List (Entry Int)) (i : Nat)
    (hall : ∀ e, e ∈ log → opId e.op = i → ∃ δ, e.op = incOp i δ) :
    replay s₀ log i
      = (s₀ i).map (fun v₀ => v₀ + ((log.filter (fun e => opId e.op == i)).map (fun e => incDelta e.op)).sum) := by
  -- entry by entry: an increment on `i` adds its δ to a present counter and is refused on an absent one
  induction log generalizing s₀ with
  | nil => cases h : s₀ i <;> simp [replay, h]
  | cons e l ih =>
    have hrep : replay s₀ (e :: l) = replay (specStep e.op s₀).2 l := by simp [replay]
    rw [hrep]
    by_cases hid : opId e.op = i
    · obtain ⟨δ, hδ⟩ := hall e (List.mem_cons_self) hid
      have hstep : (specStep e.op s₀).2 i = (s₀ i).map (· + δ) := by
        rw [hδ]
        cases h0 : s₀ i with
        | none => simp [specStep, specUpd, specRead, incOp, h0]
        | some v₀ => simp [specStep, specUpd, specRead, incOp, h0, UpdOp.change]
      rw [ih _ (fun e' he' => hall e' (List.mem_cons_of_mem _ he')), hstep]
      have hd : incDelta e.op = δ := by rw [hδ]; simp [incDelta, incOp]
      simp only [List.filter_cons, hid, beq_self_eq_true, if_true, List.map_cons, List.sum_cons, hd]
      cases s₀ i with
      | none => rfl
      | some v₀ =>
        simp only [Option.map_some]
        congr 1
        omega
    · have hstep : (specStep e.op s₀).2 i = s₀ i := specStep_other _ _ hid
      rw [ih _ (fun e' he' => hall e' (List.mem_cons_of_mem _ he')), hstep]
      have : (opId e.op == i) = false := by simpa using hid
      simp only [List.filter_cons, this, Bool.false_eq_true, if_false]

end ScVerif.C02
