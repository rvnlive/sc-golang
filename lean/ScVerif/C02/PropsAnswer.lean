import ScVerif.C02.Answer
import ScVerif.C02.PropsSend
/-!
# C02 — property theorems about the ANSWERS of write handlers

"All results are explainable by some one-at-a-time order": the results are what the clients are told.  A write
handler of a trait server (`countpb.MemoryDevice.UpdateCount` / `ResetCount` and every handler of that shape)
answers with the message `Value.Set` handed back.  The answer layer (`Ans.lean`, `arun`) files an answer per
call at the step in which the call reports — for a committed `Value.Set` that is its publication step, i.e. after
ANY number of commits of other writers (a subscriber with backpressure that is slow to receive holds a writer there
as long as it likes).
-/
namespace ScVerif.C02

variable {M : Type} [DecidableEq M] [Msg M]

/-- Whatever a call has reported (the result of its last core step, or — once its publication was made — the result
of its commit, or `Unknown` for a publication that timed out) is what it reports for ever: no step of any thread, no
commit of another writer, no later publication or time-out changes it. -/
theorem C02_reported_result_is_final (env : Env) (s₀ : SStore M) (progs : Nat → List (Op M))
    (psched more : List (Nat × Bool)) (t n : Nat) (r : Res M) :
    reported (prun false true env (pinit s₀ progs) psched) t n = some r →
    reported (prun false true env (pinit s₀ progs) (psched ++ more)) t n = some r := by
  intro h
  rw [prun_append]
  exact reported_stays true env _ more h

/-- Run with handlers that answer the way the code does (with what `Set` / `Update` / `Delete` handed back): every
thread has given exactly one answer per call that has reported, in program order, and the `n`-th answer IS the
result the publication layer reports for call `n`, whatever other writers committed between its save and its return.
The core configuration underneath is the publication layer's, so `C02_linearizable_under_failed_publications` is a
statement about these answers. -/
theorem C02_handler_answers_are_the_reported_results (env : Env) (s₀ : SStore M) (progs : Nat → List (Op M))
    (psched : List (Nat × Bool)) (t : Nat) :
    let a : AConfig M := arun .own true env (ainit s₀ progs) psched
    a.p = prun false true env (pinit s₀ progs) psched ∧
    (a.answers t).length = nrep a.p t ∧
    ∀ n, (a.answers t)[n]? = reported a.p t n := by
  exact ⟨arun_p .own true env (ainit s₀ progs) psched,
    (ansOwn_arun true env (AnsOwn.init s₀ progs) (PInv.init s₀ progs) psched).getElem? t⟩

/-- **An answer, once given, is never revised** (the two theorems above together): the `n`-th answer of thread
`t` after a schedule is still its `n`-th answer after any continuation. -/
theorem C02_handler_answers_are_final (env : Env) (s₀ : SStore M) (progs : Nat → List (Op M))
    (psched more : List (Nat × Bool)) (t n : Nat) (r : Res M) :
    ((arun .own true env (ainit s₀ progs) psched).answers t)[n]? = some r →
    ((arun .own true env (ainit s₀ progs) (psched ++ more)).answers t)[n]? = some r := by
  intro h
  rw [arun_append]
  exact (ansOwn_arun true env (AnsOwn.init s₀ progs) (PInv.init s₀ progs) psched).final true env more h

/-- two clients of one count (the Value, id 9, starting at 0), each a fetch-and-add of 1 -/
def ticketProgs : Nat → List (Op Int) := fun t => if t = 0 ∨ t = 1 then [vinc 1] else []

def ticketInit : SStore Int := fun i => if i = 9 then some 0 else none

/-- A reads, changes, saves (1) and is held in front of its publication; B reads (1), changes, saves (2),
publishes and answers; then A publishes and answers -/
def ticketSched : List (Nat × Bool) :=
  [(0, false), (0, false), (0, false), (1, false), (1, false), (1, false), (1, false), (0, false)]

def ticketRun (how : AnswerBy) : AConfig Int := arun how true env₀ (ainit ticketInit ticketProgs) ticketSched

/-- **Answering with a fresh read (NOT the code) breaks linearizability of the answers**: both clients are told 2, although one
at a time — in either order, the two calls are the same — the first fetch-and-add of 1 on a count of 0 answers 1
and the second answers 2; the stored count (2) and the commit log are right, so nothing but the answers shows it. -/
theorem C02_fresh_read_answers_are_not_linearizable :
    (ticketRun .fresh).answers 0 = [.ok (some 2)] ∧ (ticketRun .fresh).answers 1 = [.ok (some 2)] ∧
    absS (ticketRun .fresh).p.core.store 9 = some 2 ∧
    (ticketRun .fresh).p.core.log.map (·.tid) = [0, 1] ∧
    (specStep (vinc 1) ticketInit).1 = .ok (some 1) ∧
    (specStep (vinc 1) (specStep (vinc 1) ticketInit).2).1 = .ok (some 2) := by
  decide +kernel

/-- the code as it is, on the same schedule: the client whose write is first in the log is told 1, the other 2 -/
example :
    (ticketRun .own).answers 0 = [.ok (some 1)] ∧ (ticketRun .own).answers 1 = [.ok (some 2)] ∧
    absS (ticketRun .own).p.core.store 9 = some 2 := by
  decide +kernel

/-- the hypothesis of `C02_handler_answers_are_final` is met half-way: B has answered while A is still held -/
example :
    ((arun .own true env₀ (ainit ticketInit ticketProgs) (ticketSched.take 7)).answers 1)[0]? = some (.ok (some 2)) ∧
    (arun .own true env₀ (ainit ticketInit ticketProgs) (ticketSched.take 7)).answers 0 = [] ∧
    nrep (arun .own true env₀ (ainit ticketInit ticketProgs) (ticketSched.take 7)).p 0 = 0 := by
  decide +kernel

end ScVerif.C02
