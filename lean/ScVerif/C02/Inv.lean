import ScVerif.C02.Move
import ScVerif.C02.Spec
/-!
# C02 — the invariant behind commit-order linearization

`Inv s₀ c`: replaying the commit log on the sequential specification from the initial contents `s₀`
yields the current contents; every finished call is explained at its linearization index; every
in-flight call carries what it needs to be explained later; every log entry is owned by exactly one
finished, success-reporting call.
-/
-- the file-wide `variable` also reaches lemmas that need less of it
set_option linter.unusedSectionVars false
namespace ScVerif.C02

variable {M : Type} [DecidableEq M] [Msg M]

theorem absS_setAt (s : Store M) (i : Nat) (v : Option (Nat × M)) :
    absS (setAt s i v) = setAt (absS s) i (v.map (·.2)) := by
  funext j
  simp only [absS, setAt]
  split <;> rfl

/-- `ks` are `n` increasing positions of the commit log inside `[a, b)`, each holding a commit on id `i`. -/
def RivalCommits (log : List (Entry M)) (i a b n : Nat) (ks : List Nat) : Prop :=
  ks.length = n ∧ ks.Pairwise (· < ·) ∧
  ∀ k, k ∈ ks → a ≤ k ∧ k < b ∧ ∃ e, log[k]? = some e ∧ opId e.op = i

/-- no commit on id `i` at or after position `a` -/
def Quiet (log : List (Entry M)) (i a : Nat) : Prop :=
  ∀ k e, a ≤ k → log[k]? = some e → opId e.op ≠ i

/-- How the commit log explains a finished call, by the way the call is accounted for (`Kind`); `inv ≤ lin ≤ resp`
puts the linearization index inside the call. -/
def RecOK (s₀ : SStore M) (log : List (Entry M)) (t : Nat) (n : Nat) (r : Rec M) : Prop :=
  r.inv ≤ r.lin ∧ r.lin ≤ r.resp ∧ r.resp ≤ log.length ∧
  match r.kind with
  | .committed =>
      (∃ tm, log[r.lin]? = some ⟨t, n, r.op, tm⟩) ∧ r.lin < r.resp ∧
      (specStep r.op (replay s₀ (log.take r.lin))).1 = r.res ∧ ∃ v, r.res = .ok (some v)
  | .refused =>
      specStep r.op (replay s₀ (log.take r.lin)) = (r.res, replay s₀ (log.take r.lin)) ∧
      (r.res = .ok none ∨ ∃ e, r.res = .error e)
  | .raced =>
      -- lost a race: a commit on the same id landed inside this call's interval (five distinct ones for a Delete
      -- that gave up); the only other source of Aborted is an id generator that ran out of attempts
      (r.res = .error .aborted ∧ (opGen r.op = true ∨ ∃ ks, RivalCommits log (opId r.op) r.inv r.resp 1 ks)) ∨
      (r.res = .error .unavailable ∧ ∃ ks, RivalCommits log (opId r.op) r.inv r.resp 5 ks)

/-- What the read of an in-flight write established: `rd` is the specification's read of the contents at log length
`k`, and `created` stands for the provisional empty message of the create path. -/
def ReadView (s₀ : SStore M) (log : List (Entry M)) (k : Nat) (u : UpdOp M) (rd : Option M) (created : Bool) :
    Prop :=
  specRead u ((replay s₀ (log.take k)) u.id) = .ok rd ∧
  (created = true → rd = some Msg.empty ∧ u.createIfAbsent = true ∧ u.isValue = false) ∧
  (u.isValue = false → rd.isSome = true)

/-- What an in-flight call carries.  For a write: its read, explained at `readAt`, and the "no spurious Aborted"
clause: as long as no commit on its id has landed since (`Quiet`), the re-validation read still returns the value
it read.  For a Delete: the item it saw, and the pointer-identity clause: a stored item with the reference it saw has
the body it saw (references are never reused), so an unchanged pointer means an unchanged item; plus one rival
commit per invalidated attempt. -/
def PcOK (s₀ : SStore M) (log : List (Entry M)) (store : Store M) (nextRef : Nat) (th : Thread M) : Prop :=
  match th.pc with
  | .idle => True
  | .uChange u rd created =>
      th.invAt ≤ th.readAt ∧ th.readAt ≤ log.length ∧ ReadView s₀ log th.readAt u rd created ∧
      (Quiet log u.id th.readAt → secondGet true u created (store u.id) = rd)
  | .uCommit u rd created new =>
      th.invAt ≤ th.readAt ∧ th.readAt ≤ log.length ∧ ReadView s₀ log th.readAt u rd created ∧
      u.change rd = .ok new ∧
      (Quiet log u.id th.readAt → secondGet true u created (store u.id) = rd)
  | .dTry d seen attempt =>
      th.invAt ≤ th.readAt ∧ th.readAt ≤ log.length ∧ attempt < 5 ∧
      (replay s₀ (log.take th.readAt)) d.id = seen.map (·.2) ∧
      (∀ r b, seen = some (r, b) → r < nextRef ∧ ∀ b', store d.id = some (r, b') → b' = b) ∧
      (Quiet log d.id th.readAt → store d.id = seen) ∧
      ∃ ks, RivalCommits log d.id th.invAt th.readAt attempt ks

section Accessors

variable {s₀ : SStore M} {log : List (Entry M)} {t n : Nat} {r : Rec M}

theorem RecOK.bounds (h : RecOK s₀ log t n r) : r.inv ≤ r.lin ∧ r.lin ≤ r.resp ∧ r.resp ≤ log.length :=
  ⟨h.1, h.2.1, h.2.2.1⟩

theorem RecOK.committed (h : RecOK s₀ log t n r) (hk : r.kind = .committed) :
    (∃ tm, log[r.lin]? = some ⟨t, n, r.op, tm⟩) ∧ r.lin < r.resp ∧
      (specStep r.op (replay s₀ (log.take r.lin))).1 = r.res ∧ ∃ v, r.res = .ok (some v) := by
  have h4 := h.2.2.2
  rw [hk] at h4
  exact h4

theorem RecOK.refused (h : RecOK s₀ log t n r) (hk : r.kind = .refused) :
    specStep r.op (replay s₀ (log.take r.lin)) = (r.res, replay s₀ (log.take r.lin)) ∧
      (r.res = .ok none ∨ ∃ e, r.res = .error e) := by
  have h4 := h.2.2.2
  rw [hk] at h4
  exact h4

theorem RecOK.raced (h : RecOK s₀ log t n r) (hk : r.kind = .raced) :
    (r.res = .error .aborted ∧ (opGen r.op = true ∨ ∃ ks, RivalCommits log (opId r.op) r.inv r.resp 1 ks)) ∨
    (r.res = .error .unavailable ∧ ∃ ks, RivalCommits log (opId r.op) r.inv r.resp 5 ks) := by
  have h4 := h.2.2.2
  rw [hk] at h4
  exact h4

theorem RecOK.of_committed (hk : r.kind = .committed)
    (hb : r.inv ≤ r.lin ∧ r.lin ≤ r.resp ∧ r.resp ≤ log.length)
    (h : (∃ tm, log[r.lin]? = some ⟨t, n, r.op, tm⟩) ∧ r.lin < r.resp ∧
      (specStep r.op (replay s₀ (log.take r.lin))).1 = r.res ∧ ∃ v, r.res = .ok (some v)) : RecOK s₀ log t n r := by
  unfold RecOK; rw [hk]; exact ⟨hb.1, hb.2.1, hb.2.2, h⟩

theorem RecOK.of_refused (hk : r.kind = .refused) (hb : r.inv ≤ r.lin ∧ r.lin ≤ r.resp ∧ r.resp ≤ log.length)
    (h : specStep r.op (replay s₀ (log.take r.lin)) = (r.res, replay s₀ (log.take r.lin)))
    (hres : r.res = .ok none ∨ ∃ e, r.res = .error e) : RecOK s₀ log t n r := by
  unfold RecOK; rw [hk]; exact ⟨hb.1, hb.2.1, hb.2.2, h, hres⟩

theorem RecOK.of_raced (hk : r.kind = .raced) (hb : r.inv ≤ r.lin ∧ r.lin ≤ r.resp ∧ r.resp ≤ log.length)
    (h : (r.res = .error .aborted ∧ (opGen r.op = true ∨ ∃ ks, RivalCommits log (opId r.op) r.inv r.resp 1 ks)) ∨
      (r.res = .error .unavailable ∧ ∃ ks, RivalCommits log (opId r.op) r.inv r.resp 5 ks)) :
    RecOK s₀ log t n r := by
  unfold RecOK; rw [hk]; exact ⟨hb.1, hb.2.1, hb.2.2, h⟩

theorem RecOK.spec_res (h : RecOK s₀ log t n r) (hk : r.kind ≠ .raced) :
    (specStep r.op (replay s₀ (log.take r.lin))).1 = r.res := by
  cases hkind : r.kind with
  | committed => exact (h.committed hkind).2.2.1
  | refused => rw [(h.refused hkind).1]
  | raced => exact absurd hkind hk

variable {store : Store M} {nr : Nat} {th : Thread M}

theorem PcOK_idle (h : th.pc = .idle) :
    PcOK s₀ log store nr th := by
  unfold PcOK; rw [h]; trivial

theorem PcOK.uChange {u : UpdOp M} {rd : Option M} {created : Bool} (hpc : th.pc = .uChange u rd created) :
    PcOK s₀ log store nr th ↔
      (th.invAt ≤ th.readAt ∧ th.readAt ≤ log.length ∧ ReadView s₀ log th.readAt u rd created ∧
        (Quiet log u.id th.readAt → secondGet true u created (store u.id) = rd)) := by
  unfold PcOK; rw [hpc]

theorem PcOK.uCommit {u : UpdOp M} {rd : Option M} {created : Bool} {new : M}
    (hpc : th.pc = .uCommit u rd created new) :
    PcOK s₀ log store nr th ↔
      (th.invAt ≤ th.readAt ∧ th.readAt ≤ log.length ∧ ReadView s₀ log th.readAt u rd created ∧
        u.change rd = .ok new ∧ (Quiet log u.id th.readAt → secondGet true u created (store u.id) = rd)) := by
  unfold PcOK; rw [hpc]

theorem PcOK.dTry {d : DelOp M} {seen : Option (Nat × M)} {attempt : Nat} (hpc : th.pc = .dTry d seen attempt) :
    PcOK s₀ log store nr th ↔
      (th.invAt ≤ th.readAt ∧ th.readAt ≤ log.length ∧ attempt < 5 ∧
        (replay s₀ (log.take th.readAt)) d.id = seen.map (·.2) ∧
        (∀ r b, seen = some (r, b) → r < nr ∧ ∀ b', store d.id = some (r, b') → b' = b) ∧
        (Quiet log d.id th.readAt → store d.id = seen) ∧
        ∃ ks, RivalCommits log d.id th.invAt th.readAt attempt ks) := by
  unfold PcOK; rw [hpc]

end Accessors

theorem PcOK.invAt_le {s₀ : SStore M} {log : List (Entry M)} {store : Store M} {nr : Nat} {th : Thread M}
    (h : PcOK s₀ log store nr th) {op : Op M} (hops : pcOps th.pc = [op]) : th.invAt ≤ log.length := by
  cases hpc : th.pc with
  | idle => rw [hpc] at hops; cases hops
  | uChange _ _ _ => rw [PcOK.uChange hpc] at h; exact Nat.le_trans h.1 h.2.1
  | uCommit _ _ _ _ => rw [PcOK.uCommit hpc] at h; exact Nat.le_trans h.1 h.2.1
  | dTry _ _ _ => rw [PcOK.dTry hpc] at h; exact Nat.le_trans h.1 h.2.1

structure ThreadOK (s₀ : SStore M) (log : List (Entry M)) (store : Store M) (nextRef : Nat) (t : Nat)
    (th : Thread M) : Prop where
  recs : ∀ n r, th.done[n]? = some r → RecOK s₀ log t n r
  pc : PcOK s₀ log store nextRef th

structure Inv (s₀ : SStore M) (c : Config M) : Prop where
  store : absS c.store = replay s₀ c.log
  refs : ∀ i r b, c.store i = some (r, b) → r < c.nextRef
  thr : ∀ t, ThreadOK s₀ c.log c.store c.nextRef t (c.threads t)
  owned : ∀ (k : Nat) (e : Entry M), c.log[k]? = some e →
    ∃ r : Rec M, (c.threads e.tid).done[e.idx]? = some r ∧ r.kind = .committed ∧ r.lin = k

theorem Inv.recOK {s₀ : SStore M} {c : Config M} (h : Inv s₀ c) {t n : Nat} {r : Rec M}
    (hr : (c.threads t).done[n]? = some r) : RecOK s₀ c.log t n r :=
  (h.thr t).recs n r hr

theorem RivalCommits.mono {log : List (Entry M)} {i a b n : Nat} {ks : List Nat}
    (h : RivalCommits log i a b n ks) (hb : b ≤ log.length) (e : Entry M) :
    RivalCommits (log ++ [e]) i a b n ks := by
  obtain ⟨h1, h2, h3⟩ := h
  refine ⟨h1, h2, ?_⟩
  intro k hk
  obtain ⟨ha, hb', e', he', hid⟩ := h3 k hk
  exact ⟨ha, hb', e', by rw [List.getElem?_append_left (by omega)]; exact he', hid⟩

theorem Quiet.of_snoc {log : List (Entry M)} {i a : Nat} {e : Entry M} (h : Quiet (log ++ [e]) i a)
    (ha : a ≤ log.length) : Quiet log i a ∧ opId e.op ≠ i := by
  constructor
  · intro k e' hk he'
    have hlt : k < log.length := (List.getElem?_eq_some_iff.mp he').1
    exact h k e' hk (by rw [List.getElem?_append_left hlt]; exact he')
  · exact h log.length e ha (by simp)

theorem exists_of_not_quiet {log : List (Entry M)} {i a : Nat} (h : ¬ Quiet log i a) :
    ∃ k e, a ≤ k ∧ k < log.length ∧ log[k]? = some e ∧ opId e.op = i := by
  apply Classical.byContradiction
  intro hno
  apply h
  intro k e hk he hid
  exact hno ⟨k, e, hk, (List.getElem?_eq_some_iff.mp he).1, he, hid⟩

theorem RivalCommits.snoc {log : List (Entry M)} {i a b n : Nat} {ks : List Nat}
    (h : RivalCommits log i a b n ks) {k : Nat} {e : Entry M} (hbk : b ≤ k) (hk : k < log.length)
    (he : log[k]? = some e) (hid : opId e.op = i) (hab : a ≤ b) :
    RivalCommits log i a log.length (n + 1) (ks ++ [k]) := by
  obtain ⟨h1, h2, h3⟩ := h
  refine ⟨by simp [h1], ?_, ?_⟩
  · rw [List.pairwise_append]
    refine ⟨h2, List.pairwise_singleton _ _, ?_⟩
    intro x hx y hy
    simp only [List.mem_singleton] at hy
    subst hy
    have := (h3 x hx).2.1
    omega
  · intro x hx
    rcases List.mem_append.mp hx with hx | hx
    · obtain ⟨ha, hb', e', he', hid'⟩ := h3 x hx
      exact ⟨ha, by omega, e', he', hid'⟩
    · simp only [List.mem_singleton] at hx
      subst hx
      exact ⟨by omega, hk, e, he, hid⟩

theorem RecOK.mono {s₀ : SStore M} {log : List (Entry M)} {t n} {r : Rec M} (h : RecOK s₀ log t n r)
    (e : Entry M) : RecOK s₀ (log ++ [e]) t n r := by
  obtain ⟨h1, h2, h3⟩ := h.bounds
  have hb : r.inv ≤ r.lin ∧ r.lin ≤ r.resp ∧ r.resp ≤ (log ++ [e]).length := ⟨h1, h2, by simp; omega⟩
  have htake : (log ++ [e]).take r.lin = log.take r.lin := List.take_append_of_le_length (Nat.le_trans h2 h3)
  cases hk : r.kind with
  | committed =>
    obtain ⟨⟨tm, ha⟩, hlt, hc, hd⟩ := h.committed hk
    refine .of_committed hk hb ⟨⟨tm, ?_⟩, hlt, by rw [htake]; exact hc, hd⟩
    rw [List.getElem?_append_left (by omega)]; exact ha
  | refused =>
    obtain ⟨hs, hres⟩ := h.refused hk
    exact .of_refused hk hb (by rw [htake]; exact hs) hres
  | raced =>
    refine .of_raced hk hb ?_
    rcases h.raced hk with ⟨hr, hg | ⟨ks, hks⟩⟩ | ⟨hr, ks, hks⟩
    · exact Or.inl ⟨hr, Or.inl hg⟩
    · exact Or.inl ⟨hr, Or.inr ⟨ks, hks.mono h3 e⟩⟩
    · exact Or.inr ⟨hr, ks, hks.mono h3 e⟩

theorem PcOK.mono {s₀ : SStore M} {log : List (Entry M)} {store store' : Store M} {nr nr' : Nat}
    {th : Thread M} (h : PcOK s₀ log store nr th) (e : Entry M) (hnr : nr ≤ nr')
    (hst : ∀ j r b, store' j = some (r, b) → store j = some (r, b) ∨ nr ≤ r)
    (hoth : ∀ j, j ≠ opId e.op → store' j = store j) :
    PcOK s₀ (log ++ [e]) store' nr' th := by
  -- what holds of a cell while nothing commits on its id survives an entry: it is on another id, or the premise fails
  have quiet : ∀ (i : Nat) (P : Option (Nat × M) → Prop), th.readAt ≤ log.length →
      (Quiet log i th.readAt → P (store i)) → Quiet (log ++ [e]) i th.readAt → P (store' i) := by
    intro i P h2 hq hquiet
    obtain ⟨hq', hne⟩ := hquiet.of_snoc h2
    rw [hoth _ (Ne.symm hne)]; exact hq hq'
  have view : ∀ u rd cr, th.readAt ≤ log.length → ReadView s₀ log th.readAt u rd cr →
      ReadView s₀ (log ++ [e]) th.readAt u rd cr := by
    intro u rd cr h2 h3
    unfold ReadView at h3 ⊢
    rw [List.take_append_of_le_length h2]; exact h3
  cases hpc : th.pc with
  | idle => exact PcOK_idle hpc
  | uChange u rd cr =>
    rw [PcOK.uChange hpc] at h ⊢
    obtain ⟨h1, h2, h3, hq⟩ := h
    exact ⟨h1, by simp; omega, view _ _ _ h2 h3, quiet u.id (secondGet true u cr · = rd) h2 hq⟩
  | uCommit u rd cr new =>
    rw [PcOK.uCommit hpc] at h ⊢
    obtain ⟨h1, h2, h3, h4, hq⟩ := h
    exact ⟨h1, by simp; omega, view _ _ _ h2 h3, h4, quiet u.id (secondGet true u cr · = rd) h2 hq⟩
  | dTry d seen attempt =>
    rw [PcOK.dTry hpc] at h ⊢
    obtain ⟨h1, h2, h3, h4, h5, hq, ks, hks⟩ := h
    refine ⟨h1, by simp; omega, h3, ?_, ?_, quiet d.id (· = seen) h2 hq, ks, hks.mono h2 e⟩
    · rw [List.take_append_of_le_length h2]; exact h4
    · intro r b hs
      obtain ⟨h6, h7⟩ := h5 r b hs
      refine ⟨by omega, ?_⟩
      intro b' hb'
      rcases hst _ _ _ hb' with h8 | h8
      · exact h7 b' h8
      · omega

theorem ThreadOK.mono {s₀ : SStore M} {log : List (Entry M)} {store store' : Store M} {nr nr' : Nat}
    {t : Nat} {th : Thread M} (h : ThreadOK s₀ log store nr t th) (e : Entry M) (hnr : nr ≤ nr')
    (hst : ∀ j r b, store' j = some (r, b) → store j = some (r, b) ∨ nr ≤ r)
    (hoth : ∀ j, j ≠ opId e.op → store' j = store j) :
    ThreadOK s₀ (log ++ [e]) store' nr' t th :=
  ⟨fun n r hr => (h.recs n r hr).mono e, h.pc.mono e hnr hst hoth⟩

theorem Inv.setThread {s₀ : SStore M} {c : Config M} (h : Inv s₀ c) (t : Nat) (th' : Thread M)
    (hth : ThreadOK s₀ c.log c.store c.nextRef t th')
    (hdone : ∃ l, th'.done = (c.threads t).done ++ l) : Inv s₀ (c.setThread t th') := by
  refine ⟨h.store, h.refs, ?_, ?_⟩
  · intro t'
    show ThreadOK s₀ c.log c.store c.nextRef t' (setAt c.threads t th' t')
    rcases setAt_cases c.threads t th' t' with ⟨heq, h'⟩ | ⟨_, h'⟩ <;> rw [h']
    · subst heq; exact hth
    · exact h.thr t'
  · intro k e he
    obtain ⟨r, hr, hk⟩ := h.owned k e he
    refine ⟨r, ?_, hk⟩
    show (setAt c.threads t th' e.tid).done[e.idx]? = some r
    rcases setAt_cases c.threads t th' e.tid with ⟨heq, h'⟩ | ⟨_, h'⟩ <;> rw [h']
    · obtain ⟨l, hl⟩ := hdone
      rw [hl, ← heq]
      rw [List.getElem?_append_left]
      · exact hr
      · exact (List.getElem?_eq_some_iff.mp hr).1
    · exact hr

theorem readUpd_spec (u : UpdOp M) (cur : Option (Nat × M)) :
    (readUpd u cur).map (·.1) = specRead u (cur.map (·.2)) := by
  unfold readUpd specRead
  cases cur with
  | none => by_cases h1 : u.isValue <;> by_cases h2 : u.createIfAbsent <;> simp [h1, h2, Except.map]
  | some p =>
    obtain ⟨r, b⟩ := p
    by_cases h1 : u.isValue <;> by_cases h2 : u.expectAbsent <;> simp [h1, h2, Except.map]

/-- an error of the second `get` reads as nil (`GetAndUpdate` ignores it) -/
def orNil : Except Err (Option M) → Option M
  | .ok rd => rd
  | .error _ => none

theorem secondGet_eq (u : UpdOp M) (created : Bool) (cur : Option (Nat × M))
    (hcr : created = true → u.createIfAbsent = true) :
    secondGet true u created cur = orNil (specRead u (cur.map (·.2))) := by
  unfold secondGet specRead
  by_cases h1 : u.isValue
  · simp [h1, orNil]
  · cases created with
    | false =>
      rcases cur with _ | ⟨r, b⟩
      · by_cases h3 : u.createIfAbsent <;> simp [h1, h3, orNil]
      · by_cases h2 : u.expectAbsent <;> simp [h1, h2, orNil]
    | true =>
      rcases cur with _ | ⟨r, b⟩
      · simp [h1, hcr rfl, orNil]
      · by_cases h2 : u.expectAbsent <;> simp [h1, h2, orNil]

/-- The two clauses of `ReadView` that do not mention the store: `ReadView … u rd created` unfolds to
`specRead … = .ok rd ∧ ReadShape u rd created`, and the proofs build and take apart a `ReadView` that way. -/
def ReadShape (u : UpdOp M) (rd : Option M) (created : Bool) : Prop :=
  (created = true → rd = some Msg.empty ∧ u.createIfAbsent = true ∧ u.isValue = false) ∧
  (u.isValue = false → rd.isSome = true)

theorem readUpd_ok {u : UpdOp M} {cur : Option (Nat × M)} {rd : Option M} {created : Bool}
    (h : readUpd u cur = .ok (rd, created)) :
    specRead u (cur.map (·.2)) = .ok rd ∧ ReadShape u rd created ∧ secondGet true u created cur = rd := by
  have hspec := readUpd_spec u cur
  rw [h] at hspec
  have hcr : created = true → rd = some Msg.empty ∧ u.createIfAbsent = true ∧ u.isValue = false := by
    unfold readUpd at h
    intro hc
    subst hc
    by_cases h1 : u.isValue
    · simp [h1] at h
    · rcases cur with _ | ⟨r, b⟩
      · by_cases h3 : u.createIfAbsent <;> simp [h1, h3] at h
        exact ⟨h.symm, h3, by simpa using h1⟩
      · by_cases h2 : u.expectAbsent <;> simp [h1, h2] at h
  refine ⟨hspec.symm, ⟨hcr, specRead_isSome hspec.symm⟩, ?_⟩
  rw [secondGet_eq u created cur (fun hc => (hcr hc).2.1), ← hspec]; rfl

theorem readUpd_err {u : UpdOp M} {cur : Option (Nat × M)} {e : Err}
    (h : readUpd u cur = .error e) : specRead u (cur.map (·.2)) = .error e := by
  have := readUpd_spec u cur
  rw [h] at this
  simpa [Except.map] using this.symm

/-- Key lemma of the optimistic protocol (fixed code): a re-validation that passes has read what the specification
reads from the current contents. -/
theorem secondGet_sound {u : UpdOp M} {rd : Option M} {created : Bool} {cur : Option (Nat × M)}
    (hsh : ReadShape u rd created) (heq : rd = secondGet true u created cur) :
    specRead u (cur.map (·.2)) = .ok rd := by
  obtain ⟨hcr, hsome⟩ := hsh
  rw [secondGet_eq u created cur (fun h => (hcr h).2.1)] at heq
  cases hs : specRead u (cur.map (·.2)) with
  | ok rd' => rw [hs] at heq; rw [heq]; rfl
  | error e =>
    -- a read that fails reads as nil; only a collection's read fails, and what a collection read is never nil
    rw [hs] at heq
    have hv : u.isValue = false := by
      cases hv : u.isValue with
      | false => rfl
      | true => rw [specRead_value hv] at hs; cases hs
    have := hsome hv
    rw [heq] at this
    cases this

end ScVerif.C02
