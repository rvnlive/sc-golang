import ScVerif.C02.Model
/-!
# C02 — the linearization as an explicit sequence (definitions)

The commit log orders the calls that took effect; a refused call (NotFound, AlreadyExists, FailedPrecondition,
a check's own error, an allow-missing no-op) is linearized at its index `lin`, i.e. just before log entry
`lin`.  `linSeq` spells the whole order out: for k = 0, 1, …: the refused calls of index k, then entry k;
finally the refused calls of index `log.length`.
-/
namespace ScVerif.C02

variable {M : Type} [DecidableEq M] [Msg M]

/-- Execute the calls one at a time on the specification; `none` as soon as a reported result is not the one the
specification gives. -/
def seqRun (s : SStore M) : List (Ev M) → Option (SStore M)
  | [] => some s
  | ev :: rest => if (specStep ev.op s).1 = ev.res then seqRun (specStep ev.op s).2 rest else none

/-- the event of log entry `k`: what the specification reports for it on the contents just before it -/
def comEv (s₀ : SStore M) (log : List (Entry M)) (k : Nat) (e : Entry M) : Ev M :=
  ⟨e.tid, e.idx, e.op, (specStep e.op (replay s₀ (log.take k))).1, k, true⟩

/-- blocks 0 … n-1: the refused calls of index k (as arranged by `arr`), then log entry k -/
def linUpto (s₀ : SStore M) (log : List (Entry M)) (arr : Nat → List (Ev M)) : Nat → List (Ev M)
  | 0 => []
  | n + 1 => linUpto s₀ log arr n ++ arr n ++ (match log[n]? with
      | some e => [comEv s₀ log n e]
      | none => [])

def linSeq (s₀ : SStore M) (log : List (Entry M)) (arr : Nat → List (Ev M)) : List (Ev M) :=
  linUpto s₀ log arr log.length ++ arr log.length

/-- the order of the sequence: by linearization index, a committed call after the refused ones of its index -/
def LinOrd (x y : Ev M) : Prop := x.lin ≤ y.lin ∧ (x.committed = true → x.lin < y.lin)

end ScVerif.C02
