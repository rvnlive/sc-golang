import ScVerif.C02.Model
/-!
# C02 — the publication after the commit (the publication layer)

Between the commit and the return `Value.set` publishes the change (`bus.Send` with a budget of five seconds;
value.go): when the budget runs out (a subscriber with backpressure that does not receive) the call reports an error
although its commit happened.  `Collection.Update` publishes without a budget and cannot fail.  The core model
(`Model.lean`) does not spell that phase out as a step; the *publication layer* `prun` puts it on top: after a
committed `Value.Set` the thread has a pending publication; its next step is the publication, which times out or
not (decided by the schedule: an arbitrary fault oracle).  A publication step does not touch the core
configuration.  `rollback` is NOT the code: it is the variant in which a timed-out publication writes the value the
call had read back into the store (without re-validation), kept as a witness of what that would break.
-/
namespace ScVerif.C02

variable {M : Type} [DecidableEq M] [Msg M]

/-- a committed `Value.Set` that still has to publish: the id, the value it had read, the value it stored -/
structure Pending (M : Type) where
  id : Nat
  old : Option M
  new : M

structure PConfig (M : Type) where
  core : Config M
  /-- per thread: the publication its current call still has to make -/
  pending : Nat → Option (Pending M)
  /-- per thread: the publications made so far: (index of the call among the thread's finished calls, timed out) -/
  sent : Nat → List (Nat × Bool)

/-- the publication thread `t` owes after the core step `c → c'`: only `Value.set` has a send budget -/
def commitOf (c c' : Config M) (t : Nat) : Option (Pending M) :=
  match (c.threads t).pc with
  | .uCommit u rd _ new =>
    if u.isValue = true ∧ c'.log.length = c.log.length + 1 then some ⟨u.id, rd, new⟩ else none
  | _ => none

/-- one step of thread `tf.1`; `tf.2`: if this step is a publication, it times out.  A publication step does not
advance `tick`: the clock is read by core steps only. -/
def pstep (rollback fixed : Bool) (env : Env) (pc : PConfig M) (tf : Nat × Bool) : PConfig M :=
  match pc.pending tf.1 with
  | some p =>
    { core :=
        if rollback && tf.2 then
          { pc.core with
            store := setAt pc.core.store p.id (p.old.map (fun b => (pc.core.nextRef, b)))
            nextRef := pc.core.nextRef + 1 }
        else pc.core
      pending := setAt pc.pending tf.1 none
      sent := setAt pc.sent tf.1 (pc.sent tf.1 ++ [((pc.core.threads tf.1).done.length - 1, tf.2)]) }
  | none =>
    { core := step fixed env pc.core tf.1
      pending := setAt pc.pending tf.1 (commitOf pc.core (step fixed env pc.core tf.1) tf.1)
      sent := pc.sent }

def prun (rollback fixed : Bool) (env : Env) (pc : PConfig M) (sched : List (Nat × Bool)) : PConfig M :=
  sched.foldl (pstep rollback fixed env) pc

def pinit (s₀ : SStore M) (progs : Nat → List (Op M)) : PConfig M :=
  ⟨initCfg s₀ progs, fun _ => none, fun _ => []⟩

/-- the schedule of the core model inside a schedule of the publication layer: the publication steps left out -/
def proj (fixed : Bool) (env : Env) : PConfig M → List (Nat × Bool) → List Nat
  | _, [] => []
  | pc, tf :: rest =>
    if (pc.pending tf.1).isSome then proj fixed env (pstep false fixed env pc tf) rest
    else tf.1 :: proj fixed env (pstep false fixed env pc tf) rest

/-- what call `n` of thread `t` has reported: nothing while its publication is pending, the error of the failed
publication (`Unknown`: a plain Go error) when it timed out, the core result otherwise -/
def reported (pc : PConfig M) (t n : Nat) : Option (Res M) :=
  match (pc.core.threads t).done[n]? with
  | none => none
  | some r =>
    if (pc.pending t).isSome ∧ n + 1 = (pc.core.threads t).done.length then none
    else if (n, true) ∈ pc.sent t then some (.error (.other 2))
    else some r.res

/-- the number of calls of thread `t` that have reported (all its finished calls but the one that still owes its
publication) -/
def nrep (pc : PConfig M) (t : Nat) : Nat :=
  (pc.core.threads t).done.length - (if (pc.pending t).isSome then 1 else 0)

end ScVerif.C02
