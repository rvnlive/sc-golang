import ScVerif.Base.Line
import ScVerif.C02.Vocab
import ScVerif.C02.LinSeq
import ScVerif.C02.Clock
import ScVerif.C02.Pub
import ScVerif.C02.Ans
/-!
Driver handler for C02.  Messages are pairs of integers `a.b` (`durationpb.Duration{seconds, nanos}` on the
Go side, the empty message is `0.0`), so that update masks can select one field and leave the other.

Request:  `run <fixed:0|1> <clock> <cands> <init> <progs> <sched>`
* clock  `t` (instant = number of the step, the constructor read 0) | `f` (frozen at 0) | `c` (coarse: step / 3)
* cands  `-` or comma separated numbers: the `n`-th `rng.Read` yields candidate `100 + 10 * cands[n % len] + i`
         on try `i` (an empty script: `cands[n] = n`)
* init   `-` or `id:a.b,id:a.b`
* progs  threads separated by `|`, operations by `;` (an empty thread is `-`); an operation is
         `u/<id|g>/<V|C>/<expectAbsent>/<createIfAbsent>/<expect>/<check>/<f>/<mask>/<writeTime>` or
         `d/<id>/<allowMissing>/<expect>/<check>`
         id `g` = empty id + WithGenIDIfAbsent; expect `-` or `a.b`; check `n` | `eq<k>` | `ne<k>` on field a
         (fails with OutOfRange) | `ve<k>` (a = k, or FailedPrecondition) | `ak<k>` (a = k, or VersionMismatch;
         then b ∉ {2, 3}, or FailedPrecondition: the check of AcknowledgePublication); f `s<a>.<b>` (write a.b) | `a<k>` | `b<k>` (interceptor: field += k) |
         `x<k>` (the interceptor of `vendingpb.Model.DispenseInstantly`: a += k, b := max 0 (b - k));
         mask `-` (none) | `a` | `b` | `ab`, followed by `+` when an InterceptAfter sets field b of the result
         to the old b + 1; writeTime `-` or a number
* sched  `-` or comma separated thread ids; one entry = one atomic step of that thread

Answer: `T0=[r,r,...]|T1=[...]|store=id:a.b@t,...|log=<n>|pc=<per thread i/c/m/d>|rng=<n>|rt=<t.n:i-r,...>|lin=<t.n,t.n,...>`
with `rt` the steps (clock instants) at which each finished call was invoked and responded (`Times.invT/respT` of
`trun`, the real time of the theorem `C02_linearization_respects_step_order`) and
`lin` the linearization sequence of the theorem `C02_linearizable` (call `n` of thread `t`; refused calls of one
index in the order they finished),
r = `ok:<a.b>` | `ok:<a.b>#<generated id>` | `ok:nil` | `err:<Code>`, `@t` the stored change time.

Request:  `send <rollback:0|1> <clock> <init> <progs> <psched>`: the publication layer (`Pub.lean`, `prun` on the
fixed code with the empty candidate script); `psched` entries are thread ids, followed by `!` when the step, if it is
a publication, times out.  Answer: `T0=[r,...]|T1=[...]|store=id:a.b,...` with r as above, `err:Unknown` for a call
whose publication timed out and `pending` for a call whose publication is still to be made.

Request:  `answer <own|fresh> <clock> <init> <progs> <psched>`: the answer layer on top of it (`Ans.lean`, `arun`):
what the write HANDLER around each call answered (`own`: with what the call handed back — the code; `fresh`: with a
fresh read made when the call has returned — not the code).  Same answer format, r = the handler's answer.
-/
namespace ScVerif.C02
open ScVerif.Line

structure P where
  a : Int
  b : Int
  deriving DecidableEq, Repr

instance instMsgP : Msg P := ⟨⟨0, 0⟩⟩

def showP (p : P) : String := s!"{p.a}.{p.b}"

def parseP? (s : String) : Option P :=
  match s.splitOn "." with
  | [a, b] => do
    let a ← parseInt? a
    let b ← parseInt? b
    pure ⟨a, b⟩
  | _ => none

def showErr : Err → String
  | .aborted => "Aborted"
  | .alreadyExists => "AlreadyExists"
  | .failedPrecondition => "FailedPrecondition"
  | .notFound => "NotFound"
  | .unavailable => "Unavailable"
  | .other 11 => "OutOfRange"
  | .other 10 => "VersionMismatch"
  | .other 2 => "Unknown"
  | .other n => s!"Other{n}"

def showRes (op : Op P) (res : Res P) : String :=
  match res with
  | .ok (some v) => if opGen op then s!"ok:{showP v}#{opId op}" else s!"ok:{showP v}"
  | .ok none => "ok:nil"
  | .error e => s!"err:{showErr e}"

def parseOptP? (s : String) : Option (Option P) :=
  if s = "-" then some none else (parseP? s).map some

def parseOptNat? (s : String) : Option (Option Nat) :=
  if s = "-" then some none else (parseNat? s).map some

def parseCheck? (s : String) : Option (Option P → Option Err) :=
  if s = "n" then some (fun _ => none)
  else if s.startsWith "eq" then
    (parseInt? (s.drop 2).toString).map (fun k => fun old => if old.map (·.a) = some k then none else some (.other 11))
  else if s.startsWith "ne" then
    (parseInt? (s.drop 2).toString).map (fun k => fun old => if old.map (·.a) = some k then some (.other 11) else none)
  -- the version checks of `publicationpb.ModelServer` (the version is a function of field a, the body):
  -- UpdatePublication / DeletePublication refuse another version with FailedPrecondition …
  else if s.startsWith "ve" then
    (parseInt? (s.drop 2).toString).map (fun k => fun old =>
      if old.map (·.a) = some k then none else some .failedPrecondition)
  -- … AcknowledgePublication refuses another version (its own code for that, printed `VersionMismatch`) and a
  -- version whose receipt (field b) is already ACCEPTED (2) or REJECTED (3)
  else if s.startsWith "ak" then
    (parseInt? (s.drop 2).toString).map (fun k => fun old =>
      if old.map (·.a) ≠ some k then some (.other 10)
      else if old.map (·.b) = some 2 ∨ old.map (·.b) = some 3 then some .failedPrecondition else none)
  else none

/-- the message handed to `Set`/`Update` after `interceptBefore` ran, as a function of the old value -/
def parseWritten? (s : String) : Option (P → P) :=
  if s.startsWith "s" then (parseP? (s.drop 1).toString).map (fun v => fun _ => v)
  else if s.startsWith "a" then (parseInt? (s.drop 1).toString).map (fun k => fun o => ⟨o.a + k, o.b⟩)
  else if s.startsWith "b" then (parseInt? (s.drop 1).toString).map (fun k => fun o => ⟨o.a, o.b + k⟩)
  -- `vendingpb.updateStock`: a dispense of `k` (used grows by `k`, remaining shrinks by `k` but not below zero)
  else if s.startsWith "x" then
    (parseInt? (s.drop 1).toString).map (fun k => fun o => ⟨o.a + k, if o.b - k < 0 then 0 else o.b - k⟩)
  else none

/-- `FieldUpdater.Merge` under the update mask: masked fields come from the written message, the others stay -/
def parseMask1? (s : String) : Option (P → P → P) :=
  if s = "-" || s = "ab" then some (fun _ v => v)
  else if s = "a" then some (fun o v => ⟨v.a, o.b⟩)
  else if s = "b" then some (fun o v => ⟨o.a, v.b⟩)
  else none

/-- …followed by `interceptAfter(old, dst)` -/
def parseMask? (s : String) : Option (P → P → P) :=
  if s.endsWith "+" then
    (parseMask1? (s.dropEnd 1).toString).map (fun m => fun o v => ⟨(m o v).a, o.b + 1⟩)
  else parseMask1? s

def parseOp? (s : String) : Option (Op P) :=
  match s.splitOn "/" with
  | ["u", id, vc, ea, cia, ex, ck, f, mask, wt] => do
    let (id, gen) ← (if id = "g" then some (0, true) else (parseNat? id).map (·, false))
    let isV ← (if vc = "V" then some true else if vc = "C" then some false else none)
    let ea ← parseBool? ea
    let cia ← parseBool? cia
    let ex ← parseOptP? ex
    let ck ← parseCheck? ck
    let w ← parseWritten? f
    let m ← parseMask? mask
    let wt ← parseOptNat? wt
    pure (.upd { id := id, isValue := isV, expectAbsent := ea, createIfAbsent := cia, expect := ex, check := ck,
                 f := fun old => let o := old.getD ⟨0, 0⟩; m o (w o), writeTime := wt, genId := gen })
  | ["d", id, am, ex, ck] => do
    let id ← parseNat? id
    let am ← parseBool? am
    let ex ← parseOptP? ex
    let ck ← parseCheck? ck
    pure (.del ⟨id, am, ex, fun b => ck (some b)⟩)
  | _ => none

def parseProg? (s : String) : Option (List (Op P)) :=
  if s = "-" || s = "" then some [] else (s.splitOn ";").mapM parseOp?

def parseInit? (s : String) : Option (List (Nat × P)) :=
  if s = "-" || s = "" then some []
  else (s.splitOn ",").mapM (fun kv =>
    match kv.splitOn ":" with
    | [k, v] => do
      let k ← parseNat? k
      let v ← parseP? v
      pure (k, v)
    | _ => none)

def parseNats? (s : String) : Option (List Nat) :=
  if s = "-" || s = "" then some [] else (s.splitOn ",").mapM parseNat?

def parseClock? (s : String) : Option (Nat → Nat) :=
  if s = "t" then some (fun k => k)
  else if s = "f" then some (fun _ => 0)
  else if s = "c" then some (fun k => k / 3)
  else none

def candOf (script : List Nat) (n i : Nat) : Nat :=
  100 + 10 * (if script.isEmpty then n else script.getD (n % script.length) 0) + i

def showPc : Pc P → String
  | .idle => "i"
  | .uChange .. => "c"
  | .uCommit .. => "m"
  | .dTry .. => "d"

/-- ids the harness uses: 0..9 given, 100.. generated -/
def showStore (c : Config P) : String :=
  ",".intercalate ((List.range 400).filterMap (fun i =>
    (absS c.store i).map (fun v => s!"{i}:{showP v}@{c.stamp i}")))

def parsePSched? (s : String) : Option (List (Nat × Bool)) :=
  if s = "-" || s = "" then some []
  else (s.splitOn ",").mapM (fun e =>
    if e.endsWith "!" then (parseNat? (e.dropEnd 1).toString).map (·, true) else (parseNat? e).map (·, false))

def showStorePlain (c : Config P) : String :=
  ",".intercalate ((List.range 400).filterMap (fun i => (absS c.store i).map (fun v => s!"{i}:{showP v}")))

def handleSend (rollback : Bool) (clock : Nat → Nat) (init : List (Nat × P)) (progs : List (List (Op P)))
    (psched : List (Nat × Bool)) : String :=
  let s₀ : SStore P := fun i => (init.find? (fun kv => kv.1 == i)).map (·.2)
  let env : Env := ⟨clock, candOf []⟩
  let pc := prun rollback true env (pinit s₀ (fun t => progs.getD t [])) psched
  let ths := (List.range progs.length).map (fun t =>
    s!"T{t}=[" ++ ",".intercalate ((List.range (pc.core.threads t).done.length).map (fun n =>
      match reported pc t n, (pc.core.threads t).done[n]? with
      | some res, some r => showRes r.op res
      | _, _ => "pending")) ++ "]")
  "|".intercalate ths ++ s!"|store={showStorePlain pc.core}"

def handleAnswer (how : AnswerBy) (clock : Nat → Nat) (init : List (Nat × P)) (progs : List (List (Op P)))
    (psched : List (Nat × Bool)) : String :=
  let s₀ : SStore P := fun i => (init.find? (fun kv => kv.1 == i)).map (·.2)
  let env : Env := ⟨clock, candOf []⟩
  let a := arun how true env (ainit s₀ (fun t => progs.getD t [])) psched
  let ths := (List.range progs.length).map (fun t =>
    s!"T{t}=[" ++ ",".intercalate ((List.range (a.p.core.threads t).done.length).map (fun n =>
      match (a.answers t)[n]?, (a.p.core.threads t).done[n]? with
      | some res, some r => showRes r.op res
      | _, _ => "pending")) ++ "]")
  "|".intercalate ths ++ s!"|store={showStorePlain a.p.core}"

def parseHow? (s : String) : Option AnswerBy :=
  if s = "own" then some .own else if s = "fresh" then some .fresh else none

def handle (toks : List String) : String :=
  match toks with
  | ["answer", how, clock, init, progs, psched] =>
    match parseHow? how, parseClock? clock, parseInit? init, (progs.splitOn "|").mapM parseProg?,
        parsePSched? psched with
    | some how, some clock, some init, some progs, some psched => handleAnswer how clock init progs psched
    | _, _, _, _, _ => "!bad-op"
  | ["send", rollback, clock, init, progs, psched] =>
    match parseBool? rollback, parseClock? clock, parseInit? init, (progs.splitOn "|").mapM parseProg?,
        parsePSched? psched with
    | some rollback, some clock, some init, some progs, some psched => handleSend rollback clock init progs psched
    | _, _, _, _, _ => "!bad-op"
  | ["run", fixed, clock, cands, init, progs, sched] =>
    match parseBool? fixed, parseClock? clock, parseNats? cands, parseInit? init,
        (progs.splitOn "|").mapM parseProg?, parseNats? sched with
    | some fixed, some clock, some cands, some init, some progs, some sched =>
      let s₀ : SStore P := fun i => (init.find? (fun kv => kv.1 == i)).map (·.2)
      let env : Env := ⟨clock, candOf cands⟩
      let cg := trun fixed env (initCfg s₀ (fun t => progs.getD t [])) {} sched
      let c := cg.1
      let g := cg.2
      let ths := (List.range progs.length).map (fun t =>
        s!"T{t}=[" ++ ",".intercalate ((c.threads t).done.map (fun r => showRes r.op r.res)) ++ "]")
      "|".intercalate ths ++ s!"|store={showStore c}|log={c.log.length}|pc=" ++
        "".intercalate ((List.range progs.length).map (fun t => showPc (c.threads t).pc)) ++ s!"|rng={c.rng}|rt=" ++
        ",".intercalate (((List.range progs.length).map (fun t =>
          (List.range (c.threads t).done.length).map (fun n => s!"{t}.{n}:{g.invT t n}-{g.respT t n}"))).flatten) ++ "|lin=" ++
        ",".intercalate ((linSeq s₀ c.log c.refusedAt).map (fun ev => s!"{ev.tid}.{ev.idx}"))
    | _, _, _, _, _, _ => "!bad-op"
  | _ => "!bad-op"

end ScVerif.C02
