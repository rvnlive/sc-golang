import ScVerif.C02.Facts
/-!
# C02 — a generated id was free when it was handed out (invariant over all schedules)

`Collection.genID` runs inside the first locked read of the call: the candidate it returns is not stored at that
instant.  `GInv` keeps that fact attached to the call — while it is in flight and in its record once it has
finished (unless it reported Aborted, which has no effect) — in terms of the commit log: the id is absent from the
replay of the log prefix of length `inv`.
-/
namespace ScVerif.C02

variable {M : Type} [DecidableEq M] [Msg M]

def FreeAt (s₀ : SStore M) (log : List (Entry M)) (op : Op M) (i : Nat) : Prop :=
  opGen op = true → (replay s₀ (log.take i)) (opId op) = none

structure GThread (s₀ : SStore M) (log : List (Entry M)) (th : Thread M) : Prop where
  recs : ∀ (n : Nat) (r : Rec M), th.done[n]? = some r → r.res ≠ .error .aborted → FreeAt s₀ log r.op r.inv
  fly : ∀ op : Op M, pcOps th.pc = [op] → FreeAt s₀ log op th.invAt

def GInv (s₀ : SStore M) (c : Config M) : Prop := ∀ t, GThread s₀ c.log (c.threads t)

theorem GInv.init (s₀ : SStore M) (progs : Nat → List (Op M)) : GInv s₀ (initCfg s₀ progs) :=
  fun t => ⟨fun n r h => by simp [initCfg] at h, fun op h => by cases h⟩

theorem GInv.move {s₀ : SStore M} {env : Env} {c c' : Config M} {t : Nat} (h : GInv s₀ c) (hi : Inv s₀ c)
    (hm : Move env c c' t) : GInv s₀ c' := by
  -- the log as it stood at an earlier invocation is still a prefix
  have old : ∀ (op : Op M) (k : Nat), k ≤ c.log.length → FreeAt s₀ c.log op k → FreeAt s₀ c'.log op k :=
    fun op k hk hf hg => by rw [hm.log_take hk]; exact hf hg
  have oldT : ∀ t', GThread s₀ c'.log (c.threads t') := by
    intro t'
    refine ⟨fun n r hr hres => ?_, fun op hops => old _ _ ((hi.thr t').pc.invAt_le hops) ((h t').fly op hops)⟩
    obtain ⟨a, b, d⟩ := (hi.recOK hr).bounds
    exact old _ _ (by omega) ((h t').recs n r hr hres)
  have now : ∀ op : Op M, c.store (opId op) = none → FreeAt s₀ c'.log op c.log.length := by
    intro op hfree _
    rw [hm.log_take (Nat.le_refl _), List.take_length, ← hi.store]
    simp [absS, hfree]
  cases hm with
  | noop _ hc => rw [hc]; exact h
  | call op i rest hb he hoth =>
    intro t'
    by_cases ht : t' = t
    · subst ht
      -- the call at work was given a free id, now or when it was invoked
      have hcall : ((c.threads t').pc = .idle → opGen op = true → c.store (opId op) = none) →
          FreeAt s₀ c'.log op i := by
        intro hfree
        cases hb with
        | start _ hpc _ _ hi' => intro hg; rw [hi']; exact now op (hfree hpc hg) hg
        | cont hops hi' _ => rw [hi']; exact (oldT t').fly op hops
      cases he with
      | fly pc' ra hops hth hfree =>
        rw [hth]
        exact ⟨(oldT t').recs, fun op' hf => by rw [hops] at hf; cases hf; exact hcall hfree⟩
      | fin res kind lin ra hth hfree =>
        rw [hth]
        exact ⟨forall_getElem?_snoc (oldT t').recs (fun hres hg => hcall (fun hpc hg => hfree hpc hg hres) hg),
          fun _ hf => by cases hf⟩
      | commit v tm ra hops hth =>
        rw [hth]
        exact ⟨forall_getElem?_snoc (oldT t').recs
          (fun _ => hcall (fun hpc => absurd hpc (not_idle_of_pcOps hops))), fun _ hf => by cases hf⟩
    · rw [hoth t' ht]; exact oldT t'

/-- `step` differs from `stepCore` in `tick` and `refusedAt` only, which `GInv` does not mention -/
theorem GInv.step {s₀ : SStore M} {c : Config M} (h : GInv s₀ c) (hi : Inv s₀ c) (env : Env) (t : Nat) :
    GInv s₀ (step true env c t) :=
  GInv.move (c' := stepCore true env c t) h hi (stepCore_move true env c t)

theorem GInv.run {s₀ : SStore M} {c : Config M} (h : GInv s₀ c) (hi : Inv s₀ c) (env : Env) (sched : List Nat) :
    GInv s₀ (run true env c sched) :=
  (List.foldlRecOn sched _ (motive := fun c => Inv s₀ c ∧ GInv s₀ c) ⟨hi, h⟩
    (fun _ hc t _ => ⟨hc.1.step env t, hc.2.step hc.1 env t⟩)).2

/-- the id was free at the invocation, but the cell has been there all along -/
theorem no_gen_on_present {s₀ : SStore M} {c : Config M} (h : Inv s₀ c) (hg : GInv s₀ c) {i : Nat}
    (hpres : (s₀ i).isSome = true)
    (hdel : ∀ (k : Nat) (e : Entry M) (d : DelOp M), c.log[k]? = some e → e.op = .del d → d.id ≠ i) :
    ∀ e, e ∈ c.log → opId e.op = i → opGen e.op = false := by
  intro e he hid
  obtain ⟨k, hk⟩ := List.getElem?_of_mem he
  cases hgen : opGen e.op with
  | false => rfl
  | true =>
    exfalso
    obtain ⟨r, v, hr, hlin, hop, hres⟩ := owner_of_entry h hk
    obtain ⟨a1, a2, a3⟩ := (h.recOK hr).bounds
    have hfree := (hg e.tid).recs e.idx r hr (by rw [hres]; simp) (by rw [hop]; exact hgen)
    rw [hop, hid] at hfree
    have hthere := present_persists s₀ c.log i 0 r.inv (Nat.zero_le _) (by omega) hpres
      (fun k' e' d _ _ he' hd => hdel k' e' d he' hd)
    rw [hfree] at hthere
    cases hthere

end ScVerif.C02
