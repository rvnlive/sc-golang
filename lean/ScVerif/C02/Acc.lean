import ScVerif.C02.Move
/-!
# C02 — program order: the finished calls of a thread, the call in flight and the calls to come are its program
(holds for the unfixed code too)
-/
-- the file-wide `variable` also reaches lemmas that need less of it
set_option linter.unusedSectionVars false
namespace ScVerif.C02

variable {M : Type} [DecidableEq M] [Msg M]

theorem forget_of_not_gen {op : Op M} (h : opGen op = false) : forget op = op := by
  cases op with
  | upd u => simp only [opGen] at h; simp [forget, h]
  | del d => rfl

theorem opGen_forget (op : Op M) : opGen (forget op) = opGen op := by
  cases op with
  | upd u =>
    by_cases h : u.genId
    · simp [forget, opGen, h]
    · simp [forget, opGen, h]
  | del d => rfl

def AccT (prog : List (Op M)) (th : Thread M) : Prop :=
  (th.done.map (·.op) ++ pcOps th.pc ++ th.prog).map forget = prog.map forget

theorem AccT.finish {prog : List (Op M)} {th : Thread M} {op : Op M} (res kind lin resp)
    (h : (th.done.map (·.op) ++ [op] ++ th.prog).map forget = prog.map forget) :
    AccT prog (th.finish op res kind lin resp) := by
  simp only [AccT, Thread.finish, pcOps, List.map_append, List.map_cons, List.map_nil, List.append_nil] at h ⊢
  exact h

theorem AccT.move {env : Env} {progs : Nat → List (Op M)} {c c' : Config M} {t : Nat} (hm : Move env c c' t)
    (h : ∀ t, AccT (progs t) (c.threads t)) : ∀ t', AccT (progs t') (c'.threads t') := by
  cases hm with
  | noop _ hc => rw [hc]; exact h
  | call op i rest hb he hoth =>
    intro t'
    by_cases ht : t' = t
    · subst ht
      have hcall : ((c.threads t').done.map (·.op) ++ [op] ++ rest).map forget = (progs t').map forget := by
        have ht := h t'
        unfold AccT at ht
        cases hb with
        | start op₀ hpc hprog hfg _ => rw [hpc, hprog] at ht; simpa [pcOps, hfg] using ht
        | cont hops _ hprog => rw [hops, ← hprog] at ht; exact ht
      cases he with
      | fly pc' ra hops hth => rw [hth]; simp only [AccT, hops]; exact hcall
      | fin res kind lin ra hth => rw [hth]; simpa [AccT, pcOps] using hcall
      | commit v tm ra _ hth => rw [hth]; simpa [AccT, pcOps] using hcall
    · rw [hoth t' ht]; exact h t'

/-- `run` folds `step`, `AccT.move` speaks of `stepCore`: the two differ in `tick` and `refusedAt` only, which `AccT`
does not read -/
theorem acc_run' (fixed : Bool) (env : Env) (progs : Nat → List (Op M)) (c : Config M) (sched : List Nat)
    (h : ∀ t, AccT (progs t) (c.threads t)) : ∀ t, AccT (progs t) ((run fixed env c sched).threads t) :=
  List.foldlRecOn sched _ h
    (fun c hc t _ => AccT.move (c' := stepCore fixed env c t) (stepCore_move fixed env c t) hc)

theorem acc_run (env : Env) (s₀ : SStore M) (progs : Nat → List (Op M)) (sched : List Nat) (t : Nat) :
    AccT (progs t) ((run true env (initCfg s₀ progs) sched).threads t) := by
  apply acc_run' true env progs (initCfg s₀ progs) sched
  intro t
  simp [AccT, initCfg, pcOps]

theorem done_op_in_prog (env : Env) (s₀ : SStore M) (progs : Nat → List (Op M)) (sched : List Nat) {t n : Nat}
    {r : Rec M} (hr : ((run true env (initCfg s₀ progs) sched).threads t).done[n]? = some r) :
    ∃ op', op' ∈ progs t ∧ forget op' = forget r.op := by
  have hmem : forget r.op ∈ (progs t).map forget := by
    have hacc := acc_run env s₀ progs sched t
    unfold AccT at hacc
    rw [← hacc]
    simp only [List.map_append, List.mem_append, List.mem_map]
    exact Or.inl (Or.inl ⟨r.op, ⟨r, List.mem_of_getElem? hr, rfl⟩, rfl⟩)
  exact List.mem_map.mp hmem

theorem done_op_mem_prog (env : Env) (s₀ : SStore M) (progs : Nat → List (Op M)) (sched : List Nat) {t n : Nat}
    {r : Rec M} (hr : ((run true env (initCfg s₀ progs) sched).threads t).done[n]? = some r)
    (hng : opGen r.op = false) : r.op ∈ progs t := by
  obtain ⟨op', hop', hfg⟩ := done_op_in_prog env s₀ progs sched hr
  have hng' : opGen op' = false := by rw [← opGen_forget, hfg, opGen_forget]; exact hng
  rw [forget_of_not_gen hng', forget_of_not_gen hng] at hfg
  rw [← hfg]; exact hop'

end ScVerif.C02
