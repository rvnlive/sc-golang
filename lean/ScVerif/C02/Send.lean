import ScVerif.C02.Step
import ScVerif.C02.Pub
/-!
# C02 — the publication layer of `Pub.lean` refines the core model; the kinds of step of the layer and its invariants
-/
-- the file-wide `variable` also reaches lemmas that need less of it
set_option linter.unusedSectionVars false
namespace ScVerif.C02

variable {M : Type} [DecidableEq M] [Msg M]

theorem commitOf_some {env : Env} {c c' : Config M} {t : Nat} (hm : Move env c c' t) {p : Pending M}
    (h : commitOf c c' t = some p) :
    ∃ r, (c'.threads t).done = (c.threads t).done ++ [r] ∧ r.kind = .committed ∧ r.res = .ok (some p.new) ∧
      ∃ u, r.op = .upd u ∧ u.isValue = true := by
  unfold commitOf at h
  split at h
  · next u rd cr new hpc =>
    split at h
    · next hcond =>
      cases h
      cases hm.effect with
      | none hl => rw [hl] at hcond; omega
      | fin _ hl => rw [hl] at hcond; omega
      | commit r _ _ _ hd hk hres _ _ hops hv =>
        rw [hpc] at hops
        refine ⟨r, hd, hk, by rw [hres, hv _ _ _ _ hpc], u, ?_, hcond.1⟩
        injection hops with hop
        exact hop.symm
    · cases h
  · cases h

theorem commitOf_none {c c' : Config M} {t : Nat} (hl : c'.log = c.log) : commitOf c c' t = none := by
  unfold commitOf
  split
  · rw [hl]; simp
  · rfl

theorem prun_append (fixed : Bool) (env : Env) (pc : PConfig M) (s₁ s₂ : List (Nat × Bool)) :
    prun false fixed env pc (s₁ ++ s₂) = prun false fixed env (prun false fixed env pc s₁) s₂ := by
  simp [prun, List.foldl_append]

theorem proj_cons (fixed : Bool) (env : Env) (pc : PConfig M) (tf : Nat × Bool) (rest : List (Nat × Bool)) :
    proj fixed env pc (tf :: rest) =
      if (pc.pending tf.1).isSome then proj fixed env (pstep false fixed env pc tf) rest
      else tf.1 :: proj fixed env (pstep false fixed env pc tf) rest := by
  simp [proj]

theorem pstep_publish (fixed : Bool) (env : Env) {pc : PConfig M} {t : Nat} {p : Pending M}
    (hp : pc.pending t = some p) (f : Bool) :
    pstep false fixed env pc (t, f) =
      ⟨pc.core, setAt pc.pending t none,
        setAt pc.sent t (pc.sent t ++ [((pc.core.threads t).done.length - 1, f)])⟩ := by
  unfold pstep
  rw [hp]
  rfl

theorem pstep_core (fixed : Bool) (env : Env) {pc : PConfig M} {t : Nat} (hp : pc.pending t = none) (f : Bool) :
    pstep false fixed env pc (t, f) =
      ⟨step fixed env pc.core t, setAt pc.pending t (commitOf pc.core (step fixed env pc.core t) t), pc.sent⟩ := by
  unfold pstep
  rw [hp]

theorem prun_core (fixed : Bool) (env : Env) (pc : PConfig M) (sched : List (Nat × Bool)) :
    (prun false fixed env pc sched).core = run fixed env pc.core (proj fixed env pc sched) := by
  induction sched generalizing pc with
  | nil => rfl
  | cons tf rest ih =>
    rw [proj_cons]
    show (prun false fixed env (pstep false fixed env pc tf) rest).core = _
    rw [ih]
    obtain ⟨t, f⟩ := tf
    cases hp : pc.pending t with
    | some p =>
      rw [pstep_publish fixed env hp]
      simp only [Option.isSome_some, if_true]
    | none =>
      rw [pstep_core fixed env hp]
      simp only [Option.isSome_none, Bool.false_eq_true, if_false]
      rfl

theorem Inv.prun (env : Env) (s₀ : SStore M) (progs : Nat → List (Op M)) (psched : List (Nat × Bool)) :
    Inv s₀ (prun false true env (pinit s₀ progs) psched).core := by
  rw [prun_core]
  exact (Inv.init s₀ progs).run env _

/-- One step of thread `t` in the publication layer (the code, no write-back): the publication owed is made; or a
core step that finishes at most one call, which owes no publication; or one that commits a `Value.Set`, which owes one. -/
inductive PMove (pc pc' : PConfig M) (t : Nat) : Prop
  | publish (p : Pending M) (f : Bool) (hp : pc.pending t = some p)
      (hd : (pc'.core.threads t).done = (pc.core.threads t).done) (hp' : pc'.pending t = none)
      (hs : pc'.sent t = pc.sent t ++ [((pc.core.threads t).done.length - 1, f)])
  | core (l : List (Rec M)) (hl : l.length ≤ 1) (hp : pc.pending t = none)
      (hd : (pc'.core.threads t).done = (pc.core.threads t).done ++ l) (hp' : pc'.pending t = none)
      (hs : pc'.sent t = pc.sent t)
  | owe (r : Rec M) (p : Pending M) (hp : pc.pending t = none)
      (hd : (pc'.core.threads t).done = (pc.core.threads t).done ++ [r]) (hp' : pc'.pending t = some p)
      (hs : pc'.sent t = pc.sent t)
      (hk : r.kind = .committed) (hres : r.res = .ok (some p.new)) (hu : ∃ u, r.op = .upd u ∧ u.isValue = true)

theorem pstep_move (fixed : Bool) (env : Env) (pc : PConfig M) (t : Nat) (f : Bool) :
    PMove pc (pstep false fixed env pc (t, f)) t ∧
    ∀ t', t' ≠ t → ((pstep false fixed env pc (t, f)).core.threads t').done = (pc.core.threads t').done ∧
      (pstep false fixed env pc (t, f)).pending t' = pc.pending t' ∧
      (pstep false fixed env pc (t, f)).sent t' = pc.sent t' := by
  cases hp : pc.pending t with
  | some p =>
    rw [pstep_publish fixed env hp]
    exact ⟨.publish p f hp rfl (setAt_same _ _ _) (setAt_same _ _ _),
      fun t' ht => ⟨rfl, setAt_other _ _ ht, setAt_other _ _ ht⟩⟩
  | none =>
    rw [pstep_core fixed env hp]
    have hm := stepCore_move fixed env pc.core t
    refine ⟨?_, fun t' ht => ⟨congrArg Thread.done (hm.threads_other ht), setAt_other _ _ ht, rfl⟩⟩
    cases hc : commitOf pc.core (step fixed env pc.core t) t with
    | some p =>
      obtain ⟨r, hd, hk, hres, hu⟩ := commitOf_some (c' := stepCore fixed env pc.core t) hm hc
      exact .owe r p hp hd (by rw [← hc]; exact setAt_same _ _ _) rfl hk hres hu
    | none =>
      have hp' : setAt pc.pending t (none : Option (Pending M)) t = none := setAt_same _ _ _
      cases hm.effect with
      | none _ hd => exact .core [] (Nat.zero_le _) hp (hd.trans (List.append_nil _).symm) hp' rfl
      | fin r _ hd => exact .core [r] (Nat.le_refl _) hp hd hp' rfl
      | commit r _ _ _ hd => exact .core [r] (Nat.le_refl _) hp hd hp' rfl

theorem nrep_of_pending {pc : PConfig M} {t : Nat} {p : Pending M} (hp : pc.pending t = some p) :
    nrep pc t = (pc.core.threads t).done.length - 1 := by
  unfold nrep; rw [hp]; rfl

theorem nrep_of_none {pc : PConfig M} {t : Nat} (hp : pc.pending t = none) :
    nrep pc t = (pc.core.threads t).done.length := by
  unfold nrep; rw [hp]; rfl

theorem PMove.nrep {pc pc' : PConfig M} {t : Nat} (hm : PMove pc pc' t) :
    nrep pc t ≤ nrep pc' t ∧ nrep pc' t ≤ nrep pc t + 1 := by
  cases hm with
  | publish p f hp hd hp' hs => rw [nrep_of_pending hp, nrep_of_none hp', hd]; omega
  | core l hl hp hd hp' hs => rw [nrep_of_none hp, nrep_of_none hp', hd, List.length_append]; omega
  | owe r p hp hd hp' hs => rw [nrep_of_none hp, nrep_of_pending hp', hd, List.length_append]; simp

/-- invariant of the publication layer: whoever owes or has made a publication has committed -/
structure PInv (pc : PConfig M) : Prop where
  pend : ∀ t p, pc.pending t = some p →
    ∃ r, (pc.core.threads t).done[(pc.core.threads t).done.length - 1]? = some r ∧ r.kind = .committed ∧
      r.res = .ok (some p.new) ∧ ∃ u, r.op = .upd u ∧ u.isValue = true
  sent : ∀ t n f, (n, f) ∈ pc.sent t →
    ∃ r, (pc.core.threads t).done[n]? = some r ∧ r.kind = .committed ∧ ∃ u, r.op = .upd u ∧ u.isValue = true

theorem PInv.init (s₀ : SStore M) (progs : Nat → List (Op M)) : PInv (pinit s₀ progs) :=
  ⟨fun t p h => by simp [pinit] at h, fun t n f h => by simp [pinit] at h⟩

theorem PInv.step {pc : PConfig M} (h : PInv pc) (fixed : Bool) (env : Env) (tf : Nat × Bool) :
    PInv (pstep false fixed env pc tf) := by
  obtain ⟨t, f⟩ := tf
  obtain ⟨hm, hoth⟩ := pstep_move fixed env pc t f
  constructor
  · intro t' p' hp'
    by_cases ht : t' = t
    · subst ht
      cases hm with
      | publish _ _ _ _ hp'' => rw [hp''] at hp'; cases hp'
      | core _ _ _ _ hp'' => rw [hp''] at hp'; cases hp'
      | owe r p _ hd hp'' _ hk hres hu =>
        rw [hp''] at hp'
        cases hp'
        exact ⟨r, by rw [hd]; simp, hk, hres, hu⟩
    · obtain ⟨h1, h2, _⟩ := hoth t' ht
      rw [h2] at hp'
      rw [h1]; exact h.pend t' p' hp'
  · intro t' n f' hm'
    by_cases ht : t' = t
    · subst ht
      -- what was published stays published, in a list of records that only grows
      have keep : ∀ l, (n, f') ∈ pc.sent t' → ∃ r, ((pc.core.threads t').done ++ l)[n]? = some r ∧
          r.kind = .committed ∧ ∃ u, r.op = .upd u ∧ u.isValue = true := by
        intro l hm
        obtain ⟨r, hr, rest⟩ := h.sent t' n f' hm
        exact ⟨r, by rw [List.getElem?_append_left (List.getElem?_eq_some_iff.mp hr).1]; exact hr, rest⟩
      cases hm with
      | publish p f hp hd _ hs =>
        rw [hs] at hm'
        rw [hd]
        rcases List.mem_append.mp hm' with hm' | hm'
        · exact h.sent t' n f' hm'
        · simp only [List.mem_singleton, Prod.mk.injEq] at hm'
          obtain ⟨r, hr, hk, _, hu⟩ := h.pend t' p hp
          exact ⟨r, by rw [hm'.1]; exact hr, hk, hu⟩
      | core _ _ _ hd _ hs => rw [hs] at hm'; rw [hd]; exact keep _ hm'
      | owe _ _ _ hd _ hs => rw [hs] at hm'; rw [hd]; exact keep _ hm'
    · obtain ⟨h1, _, h3⟩ := hoth t' ht
      rw [h3] at hm'
      rw [h1]; exact h.sent t' n f' hm'

/-- second invariant: publications are made once per call, in program order, and only by calls that have reported
(so never by the call that still owes its publication) -/
structure QInv (pc : PConfig M) : Prop where
  fresh : ∀ t n f, (n, f) ∈ pc.sent t → n < nrep pc t
  incr : ∀ t, ((pc.sent t).map (·.1)).Pairwise (· < ·)

theorem QInv.init (s₀ : SStore M) (progs : Nat → List (Op M)) : QInv (pinit s₀ progs) :=
  ⟨fun t n f h => by simp [pinit] at h, fun t => by simp [pinit]⟩

theorem QInv.step {pc : PConfig M} (hq : QInv pc) (h : PInv pc) (fixed : Bool) (env : Env) (tf : Nat × Bool) :
    QInv (pstep false fixed env pc tf) := by
  obtain ⟨t, f⟩ := tf
  obtain ⟨hm, hoth⟩ := pstep_move fixed env pc t f
  have others : ∀ t', t' ≠ t → nrep (pstep false fixed env pc (t, f)) t' = nrep pc t' := by
    intro t' ht
    obtain ⟨h1, h2, _⟩ := hoth t' ht
    rw [nrep, h1, h2]; rfl
  constructor
  · intro t' n f' hm'
    by_cases ht : t' = t
    · subst ht
      have old : (n, f') ∈ pc.sent t' → n < nrep (pstep false fixed env pc (t', f)) t' :=
        fun hm₀ => Nat.lt_of_lt_of_le (hq.fresh t' n f' hm₀) hm.nrep.1
      cases hm with
      | publish p f hp hd hp' hs =>
        rw [hs] at hm'
        rcases List.mem_append.mp hm' with hm' | hm'
        · exact old hm'
        · -- the call that owed the publication reports now
          obtain ⟨r, hr, _⟩ := h.pend t' p hp
          have hlen := (List.getElem?_eq_some_iff.mp hr).1
          simp only [List.mem_singleton, Prod.mk.injEq] at hm'
          rw [nrep_of_none hp', hd]
          omega
      | core _ _ _ _ _ hs => rw [hs] at hm'; exact old hm'
      | owe _ _ _ _ _ hs => rw [hs] at hm'; exact old hm'
    · rw [others t' ht]
      rw [(hoth t' ht).2.2] at hm'
      exact hq.fresh t' n f' hm'
  · intro t'
    by_cases ht : t' = t
    · subst ht
      cases hm with
      | publish p f hp hd hp' hs =>
        -- the publication made now is of the last call, those made before are of earlier ones
        rw [hs, List.map_append, List.pairwise_append]
        refine ⟨hq.incr t', by simp, ?_⟩
        intro a ha b hb
        simp only [List.map_cons, List.map_nil, List.mem_singleton] at hb
        obtain ⟨⟨n, f'⟩, hm, rfl⟩ := List.mem_map.mp ha
        have := hq.fresh t' n f' hm
        rw [nrep_of_pending hp] at this
        subst hb
        dsimp only
        omega
      | core _ _ _ _ _ hs => rw [hs]; exact hq.incr t'
      | owe _ _ _ _ _ hs => rw [hs]; exact hq.incr t'
    · rw [(hoth t' ht).2.2]; exact hq.incr t'

theorem reported_cases {s₀ : SStore M} {pc : PConfig M} (hinv : PInv pc) (h : Inv s₀ pc.core) {t n : Nat}
    {res : Res M} (hrep : reported pc t n = some res) :
    ∃ r : Rec M, (pc.core.threads t).done[n]? = some r ∧
      (res = r.res ∨
        (res = .error (.other 2) ∧ r.kind = .committed ∧ (∃ v, r.res = .ok (some v)) ∧
          ∃ u, r.op = .upd u ∧ u.isValue = true)) := by
  unfold reported at hrep
  cases hd : (pc.core.threads t).done[n]? with
  | none => rw [hd] at hrep; cases hrep
  | some r =>
    rw [hd] at hrep
    simp only [] at hrep
    refine ⟨r, rfl, ?_⟩
    split at hrep
    · cases hrep
    · split at hrep
      · next hm =>
        cases hrep
        obtain ⟨r', hr', hk, hu⟩ := hinv.sent t n true hm
        rw [hd] at hr'
        cases hr'
        exact Or.inr ⟨rfl, hk, ((h.recOK hd).committed hk).2.2.2, hu⟩
      · cases hrep
        exact Or.inl rfl

theorem PInv.prun (fixed : Bool) (env : Env) {pc : PConfig M} (h : PInv pc) (sched : List (Nat × Bool)) :
    PInv (prun false fixed env pc sched) :=
  List.foldlRecOn sched _ h (fun _ hc tf _ => hc.step fixed env tf)

theorem QInv.prun (fixed : Bool) (env : Env) {pc : PConfig M} (hq : QInv pc) (h : PInv pc)
    (sched : List (Nat × Bool)) : QInv (prun false fixed env pc sched) :=
  (List.foldlRecOn sched _ (motive := fun pc => PInv pc ∧ QInv pc) ⟨h, hq⟩
    (fun _ hc tf _ => ⟨hc.1.step fixed env tf, hc.2.step hc.1 fixed env tf⟩)).2

end ScVerif.C02
