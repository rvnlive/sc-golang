/-!
# C02 — model of concurrent writers on a `resource.Value` / `resource.Collection`

The model follows `/repo/pkg/resource/{atomic,collection,value,opt}.go` (as of fix 41c35d0; the later 4fcd11c only
changes which event type `Collection.Update` publishes after the commit, which is C03's subject):

* `GetAndUpdate` = `read` (RLock; first `get`) ▸ `change` (no lock; `WriteRequest.changeFn`) ▸
  `commit` (Lock; second `get`; `proto.Equal`; `Aborted` or `save`).  In this file `Value.set` and
  `Collection.Update` return after the commit; the events of the publication that follows are C03's subject, that
  `Value.set`'s publication can time out and turn the call's result into an error is put on top in `Pub.lean`.
* `Collection.Update`'s `GetFn`: expect-absent, not-found, create-if-absent with the provisional
  `created` message; on the re-validation read of the create path existence is re-checked (the fix).
* `Collection.Delete` = `read` (RLock) ▸ up to five attempts, each `check` (no lock) ▸ `Lock`; compare the
  item *pointer* with the one read; retry with the item just seen, or delete.
* `Value.set` has its own `GetFn` (`r.value`, possibly nil, never an error) and its own `SaveFn`
  (`r.value = message; r.changeTime = request.updateTime(r.clock)`); `Collection.Update`'s `SaveFn` stores a
  fresh `*item` with `changeTime = writeRequest.updateTime(c.clock)`.  The stamp is modelled (`Config.stamp`)
  together with the clock it is read from (`Env.clock`, read through the step counter `Config.tick`) and
  `WithWriteTime`: the stamp is NOT a version (a frozen or coarse clock, or equal write times, repeat it).
* `WithGenIDIfAbsent` with an empty id: `Collection.genID` runs inside the first `get` (RLock held, `rngMu`
  held): up to ten candidates are drawn from the rng (`Env.cand`, read through the counter `Config.rng`),
  the first one that is not stored is the id of this call from then on (the closure variable `id`).

One step of a thread is exactly one lock-delimited section (or the lock-free change function); for `Delete` the
checks on the item last seen (no lock) and the locked section that follows them are one step.
Messages are abstract: any type with decidable equality (`proto.Equal`) and a distinguished `empty`
message (`msg.ProtoReflect().New()`).  Stored items carry a `Ref` (a fresh number per `save`): Go
pointer identity of `*item`, which is what `Delete` compares.

Ghost state (not in the code; only to state the theorems): the commit log, and per operation the
log length at invocation, at its linearization point, and at its response.
-/
namespace ScVerif.C02

/- Ids, refs (item pointer identities) and thread ids are natural numbers. -/

/-- gRPC status codes the write path produces itself, plus `other n`: whatever an expected-check callback returns.
The driver decodes three numbers: 2 = `Unknown`, the plain Go error of a failed publication (`Pub.lean`, not a
callback's), 10 = `VersionMismatch` and 11 = `OutOfRange` of the trait callers' checks. -/
inductive Err
  | aborted | alreadyExists | failedPrecondition | notFound | unavailable
  | other (n : Nat)
  deriving DecidableEq, Repr

/-- Abstract messages: `proto.Equal` is decidable equality, `empty` is a freshly allocated message. -/
class Msg (M : Type) where
  empty : M

def setAt {α : Type} (f : Nat → α) (i : Nat) (v : α) : Nat → α := fun j => if j = i then v else f j

@[simp] theorem setAt_same {α : Type} (f : Nat → α) (i : Nat) (v : α) : setAt f i v i = v := by
  simp [setAt]

theorem setAt_other {α : Type} (f : Nat → α) {i j : Nat} (v : α) (h : j ≠ i) : setAt f i v j = f j := by
  simp [setAt, h]

/-- `Value.Set` / `Collection.Update` / `Collection.Add` with the options that matter under concurrency. -/
structure UpdOp (M : Type) where
  id : Nat
  /-- `Value.set`: `get` is `r.value` (possibly nil), never an error; the flags below are unused. -/
  isValue : Bool
  expectAbsent : Bool
  createIfAbsent : Bool
  /-- `WithExpectedValue` -/
  expect : Option M
  /-- `WithExpectedCheck`; sees the old value as Go passes it (nil or a message).  That `check` and `f` are Lean
  functions is the trusted abstraction: callbacks are functions of the old value and do not write; a rival write made
  from a callback is a call of another thread. -/
  check : Option M → Option Err
  /-- `interceptBefore ▸ masked merge ▸ interceptAfter` as a function of the old value -/
  f : Option M → M
  /-- `WithWriteTime` -/
  writeTime : Option Nat := none
  /-- empty id + `WithGenIDIfAbsent`: `id` is chosen by `Collection.genID` during the first read; in a
  program the `id` field of such a call is meaningless, in a record it is the generated id -/
  genId : Bool := false

/-- `Collection.Delete`. -/
structure DelOp (M : Type) where
  id : Nat
  allowMissing : Bool
  expect : Option M
  check : M → Option Err

inductive Op (M : Type)
  | upd (u : UpdOp M)
  | del (d : DelOp M)

abbrev Res (M : Type) := Except Err (Option M)

instance instDecEqRes {M : Type} [DecidableEq M] : DecidableEq (Res M) := fun a b =>
  match a, b with
  | .ok x, .ok y =>
    if h : x = y then isTrue (by rw [h]) else isFalse (by intro h'; injection h' with h'; exact h h')
  | .error x, .error y =>
    if h : x = y then isTrue (by rw [h]) else isFalse (by intro h'; injection h' with h'; exact h h')
  | .ok _, .error _ => isFalse (by intro h; cases h)
  | .error _, .ok _ => isFalse (by intro h; cases h)

variable {M : Type} [DecidableEq M] [Msg M]

/-- `WriteRequest.changeFn` (opt.go): expected value, expected check, then the merge pipeline. -/
def UpdOp.change (u : UpdOp M) (old : Option M) : Except Err M :=
  if u.expect.isSome ∧ old ≠ u.expect then .error .failedPrecondition
  else match u.check old with
    | some e => .error e
    | none => .ok (u.f old)

/-- The checks `Collection.Delete` runs on the item it read (check first, then expected value). -/
def DelOp.pre (d : DelOp M) (b : M) : Option Err :=
  match d.check b with
  | some e => some e
  | none => if d.expect.isSome ∧ some b ≠ d.expect then some .failedPrecondition else none

/-! ## Sequential specification: a map `Id → Option M`, one step per call -/

abbrev SStore (M : Type) := Nat → Option M

/-- The old value a write sees, or the error that refuses it. -/
def specRead (u : UpdOp M) (cur : Option M) : Except Err (Option M) :=
  if u.isValue then .ok cur
  else match cur with
    | some b => if u.expectAbsent then .error .alreadyExists else .ok (some b)
    | none => if u.createIfAbsent then .ok (some Msg.empty) else .error .notFound

def specUpd (u : UpdOp M) (s : SStore M) : Res M × SStore M :=
  match specRead u (s u.id) with
  | .error e => (.error e, s)
  | .ok old =>
    match u.change old with
    | .error e => (.error e, s)
    | .ok new => (.ok (some new), setAt s u.id (some new))

def specDel (d : DelOp M) (s : SStore M) : Res M × SStore M :=
  match s d.id with
  | none => if d.allowMissing then (.ok none, s) else (.error .notFound, s)
  | some b =>
    match d.pre b with
    | some e => (.error e, s)
    | none => (.ok (some b), setAt s d.id none)

def specStep (op : Op M) (s : SStore M) : Res M × SStore M :=
  match op with
  | .upd u => specUpd u s
  | .del d => specDel d s

/-! ## The concurrent model -/

abbrev Store (M : Type) := Nat → Option (Nat × M)

def absS (s : Store M) : SStore M := fun i => (s i).map (·.2)

/-- First `get` of `Collection.Update` / `Value.set` (under RLock): value read and the `created` flag. -/
def readUpd (u : UpdOp M) (cur : Option (Nat × M)) : Except Err (Option M × Bool) :=
  if u.isValue then .ok (cur.map (·.2), false)
  else match cur with
    | some (_, b) => if u.expectAbsent then .error .alreadyExists else .ok (some b, false)
    | none => if u.createIfAbsent then .ok (some Msg.empty, true) else .error .notFound

/-- Second `get` (under Lock); its error is ignored by `GetAndUpdate`, so an error reads as nil.
`fixed = false` is the code before 41c35d0, where the create path returned `created` unconditionally. -/
def secondGet (fixed : Bool) (u : UpdOp M) (created : Bool) (cur : Option (Nat × M)) : Option M :=
  if u.isValue then cur.map (·.2)
  else if created then
    (if fixed then
      match cur with
      | some (_, b) => if u.expectAbsent then none else some b
      | none => some Msg.empty
     else some Msg.empty)
  else match cur with
    | some (_, b) => if u.expectAbsent then none else some b
    | none => if u.createIfAbsent then some Msg.empty else none

/-- Where a thread stands inside a call: between calls; `GetAndUpdate` after its first read (before the change
function); after the change function (before the locked re-validation); `Delete` before attempt `attempt`, holding the
item it last saw. -/
inductive Pc (M : Type)
  | idle
  | uChange (u : UpdOp M) (rd : Option M) (created : Bool)
  | uCommit (u : UpdOp M) (rd : Option M) (created : Bool) (new : M)
  | dTry (d : DelOp M) (seen : Option (Nat × M)) (attempt : Nat)

/-- How a finished call is accounted for (ghost). -/
inductive Kind
  /-- took effect: it owns the commit-log entry at its linearization index -/
  | committed
  /-- the sequential specification itself refuses it (or it is a no-op) at its linearization index -/
  | refused
  /-- lost a race: `Aborted` / `Unavailable` -/
  | raced
  deriving DecidableEq, Repr

/-- Record of a finished call.  `inv`, `lin`, `resp` are commit-log lengths (ghost logical time):
at invocation, at the linearization point, at response. -/
structure Rec (M : Type) where
  op : Op M
  res : Res M
  kind : Kind
  inv : Nat
  lin : Nat
  resp : Nat

structure Thread (M : Type) where
  prog : List (Op M)
  pc : Pc M
  done : List (Rec M)
  /-- ghost: the log length at the invocation of the call in flight -/
  invAt : Nat
  /-- ghost: the log length when the call in flight last looked at its cell: the linearization index of a refusal -/
  readAt : Nat

/-- Commit-log entry (ghost): which call of which thread took effect. -/
structure Entry (M : Type) where
  tid : Nat
  idx : Nat
  op : Op M
  /-- the change time stamped by this commit (unused for Delete) -/
  time : Nat := 0

/-- What the model is parametric in besides the programs: the clock (`resource.Clock`, instant shown at the
`k`-th step; the constructor read instant 0) and the id generator (`cand n i` = candidate decoded from the
`n`-th `rng.Read`, which was the `i`-th try of its `genID` call, i.e. `6+i` bytes long). -/
structure Env where
  clock : Nat → Nat
  cand : Nat → Nat → Nat

/-- A linearization event (ghost): call `idx` of thread `tid`, what it reported, and its linearization index
(a commit-log position: committed calls ARE the log entry at that position, refused calls are linearized
just before it). -/
structure Ev (M : Type) where
  tid : Nat
  idx : Nat
  op : Op M
  res : Res M
  lin : Nat
  committed : Bool

structure Config (M : Type) where
  store : Store M
  nextRef : Nat
  log : List (Entry M)
  threads : Nat → Thread M
  /-- `Value.changeTime` / `item.changeTime` per id -/
  stamp : Nat → Nat
  /-- steps executed so far: the instant the clock shows -/
  tick : Nat
  /-- `rng.Read` calls made so far -/
  rng : Nat
  /-- ghost: the refused calls finished so far, by linearization index, in the order they finished -/
  refusedAt : Nat → List (Ev M) := fun _ => []

def replay (s₀ : SStore M) (log : List (Entry M)) : SStore M :=
  log.foldl (fun s e => (specStep e.op s).2) s₀

def Thread.finish (th : Thread M) (op : Op M) (res : Res M) (kind : Kind) (lin resp : Nat) : Thread M :=
  { th with pc := .idle, done := th.done ++ [⟨op, res, kind, th.invAt, lin, resp⟩] }

def Config.setThread (c : Config M) (t : Nat) (th : Thread M) : Config M :=
  { c with threads := setAt c.threads t th }

/-- `GenerateUniqueId` (id.go) as `Collection.genID` calls it: `fuel` tries left, this is try `i`;
returns the id (none = attempts exhausted) and the rng position afterwards. -/
def genID (cand : Nat → Nat → Nat) (present : Nat → Bool) : (fuel : Nat) → (i : Nat) → (rng : Nat) → Option Nat × Nat
  | 0, _, rng => (none, rng)
  | n + 1, i, rng =>
    if present (cand rng i) then genID cand present n (i + 1) (rng + 1) else (some (cand rng i), rng + 1)

/-- "handle empty ids, generating them": the call with its id filled in (none: generation failed, Aborted). -/
def resolveId (env : Env) (c : Config M) (u : UpdOp M) : Option (UpdOp M) × Nat :=
  if u.genId then
    match genID env.cand (fun i => (c.store i).isSome) 10 0 c.rng with
    | (some i, r) => (some { u with id := i }, r)
    | (none, r) => (none, r)
  else (some u, c.rng)

/-- invoke + first locked section -/
def stepIdle (env : Env) (c : Config M) (t : Nat) (th : Thread M) : Config M :=
  match th.prog with
  | [] => c
  | .upd u₀ :: rest =>
    let now := c.log.length
    let th := { th with prog := rest, invAt := now, readAt := now }
    match resolveId env c u₀ with
    | (none, r) =>
      ({ c with rng := r }).setThread t (th.finish (.upd u₀) (.error .aborted) .raced now now)
    | (some u, r) =>
      let c := { c with rng := r }
      match readUpd u (c.store u.id) with
      | .error e => c.setThread t (th.finish (.upd u) (.error e) .refused now now)
      | .ok (rd, created) => c.setThread t { th with pc := .uChange u rd created }
  | .del d :: rest =>
    let now := c.log.length
    c.setThread t { th with prog := rest, invAt := now, readAt := now, pc := .dTry d (c.store d.id) 0 }

/-- the change function, no lock held -/
def stepChange (c : Config M) (t : Nat) (th : Thread M) (u : UpdOp M) (rd : Option M) (created : Bool) :
    Config M :=
  match u.change rd with
  | .error e => c.setThread t (th.finish (.upd u) (.error e) .refused th.readAt c.log.length)
  | .ok new => c.setThread t { th with pc := .uCommit u rd created new }

/-- `WriteRequest.updateTime` -/
def UpdOp.updateTime (u : UpdOp M) (env : Env) (tick : Nat) : Nat :=
  match u.writeTime with
  | some w => w
  | none => env.clock tick

/-- re-validation and save under the write lock (`SaveFn`: the value and its change time) -/
def stepCommit (fixed : Bool) (env : Env) (c : Config M) (t : Nat) (th : Thread M) (u : UpdOp M) (rd : Option M)
    (created : Bool) (new : M) : Config M :=
  let now := c.log.length
  if rd ≠ secondGet fixed u created (c.store u.id) then
    c.setThread t (th.finish (.upd u) (.error .aborted) .raced now now)
  else
    { c with
      store := setAt c.store u.id (some (c.nextRef, new))
      nextRef := c.nextRef + 1
      log := c.log ++ [⟨t, th.done.length, .upd u, u.updateTime env c.tick⟩]
      threads := setAt c.threads t (th.finish (.upd u) (.ok (some new)) .committed now (now + 1))
      stamp := setAt c.stamp u.id (u.updateTime env c.tick) }

/-- one attempt of `Collection.Delete`: checks on the item last seen, then the locked section -/
def stepDel (c : Config M) (t : Nat) (th : Thread M) (d : DelOp M) (seen : Option (Nat × M)) (attempt : Nat) :
    Config M :=
  let now := c.log.length
  match seen with
  | none =>
    c.setThread t (th.finish (.del d) (if d.allowMissing then .ok none else .error .notFound) .refused th.readAt now)
  | some (r, b) =>
    match d.pre b with
    | some e => c.setThread t (th.finish (.del d) (.error e) .refused th.readAt now)
    | none =>
      if (c.store d.id).map (·.1) ≠ some r then
        -- someone changed the item: retry with what is stored now, at most 5 attempts in all
        if attempt + 1 < 5 then
          c.setThread t { th with pc := .dTry d (c.store d.id) (attempt + 1), readAt := now }
        else
          c.setThread t (th.finish (.del d) (.error .unavailable) .raced now now)
      else
        { c with
          store := setAt c.store d.id none
          nextRef := c.nextRef
          log := c.log ++ [⟨t, th.done.length, .del d, 0⟩]
          threads := setAt c.threads t (th.finish (.del d) (.ok (some b)) .committed now (now + 1)) }

/-- One atomic step of thread `t`. Every step is enabled: locks are only held inside a step. -/
def stepCore (fixed : Bool) (env : Env) (c : Config M) (t : Nat) : Config M :=
  let th := c.threads t
  match th.pc with
  | .idle => stepIdle env c t th
  | .uChange u rd created => stepChange c t th u rd created
  | .uCommit u rd created new => stepCommit fixed env c t th u rd created new
  | .dTry d seen attempt => stepDel c t th d seen attempt

/-- ghost bookkeeping: if the step finished a call that the specification itself refuses, file its event
under its linearization index -/
def noteRefused (c c' : Config M) (t : Nat) : Nat → List (Ev M) :=
  match (c'.threads t).done.drop (c.threads t).done.length with
  | [r] =>
    if r.kind = .refused then
      setAt c.refusedAt r.lin (c.refusedAt r.lin ++ [⟨t, (c.threads t).done.length, r.op, r.res, r.lin, false⟩])
    else c.refusedAt
  | _ => c.refusedAt

def step (fixed : Bool) (env : Env) (c : Config M) (t : Nat) : Config M :=
  { stepCore fixed env c t with tick := c.tick + 1, refusedAt := noteRefused c (stepCore fixed env c t) t }

def run (fixed : Bool) (env : Env) (c : Config M) (sched : List Nat) : Config M :=
  sched.foldl (step fixed env) c

/-- Initial configuration: contents `s₀`, thread `t` runs `progs t`. -/
def initCfg (s₀ : SStore M) (progs : Nat → List (Op M)) : Config M :=
  { store := fun i => (s₀ i).map (fun b => (0, b))
    nextRef := 1
    log := []
    threads := fun t => ⟨progs t, .idle, [], 0, 0⟩
    stamp := fun _ => 0
    tick := 1
    rng := 0
    refusedAt := fun _ => [] }

end ScVerif.C02
