import ScVerif.C02.Lin
import ScVerif.C02.Clock
/-!
# C02 — the invariant of the step clock of `Clock.lean`

`TInv` links the two notions of time: `r.inv = lenAt (invT)`, `r.resp = lenAt (respT + 1)`, the log only grows,
and the refused calls filed under one linearization index are listed in the order they responded.
-/
-- the file-wide `variable` also reaches lemmas that need less of it
set_option linter.unusedSectionVars false
namespace ScVerif.C02

variable {M : Type} [DecidableEq M] [Msg M]

theorem set2_same (f : Nat → Nat → Nat) (t n v : Nat) : set2 f t n v t n = v := by simp [set2]

theorem set2_other (f : Nat → Nat → Nat) {t n t' n' : Nat} (v : Nat) (h : ¬ (t' = t ∧ n' = n)) :
    set2 f t n v t' n' = f t' n' := by simp [set2, h]

theorem starts_of_idle {th : Thread M} {op : Op M} {rest : List (Op M)} (hpc : th.pc = .idle)
    (hprog : th.prog = op :: rest) : starts th = true := by
  unfold starts; rw [hpc, hprog]

theorem starts_of_pcOps {th : Thread M} {op : Op M} (h : pcOps th.pc = [op]) : starts th = false := by
  unfold starts
  cases hpc : th.pc with
  | idle => rw [hpc] at h; cases h
  | uChange _ _ _ => rfl
  | uCommit _ _ _ _ => rfl
  | dTry _ _ _ => rfl

theorem trun_fst (fixed : Bool) (env : Env) (c : Config M) (g : Times) (sched : List Nat) :
    (trun fixed env c g sched).1 = run fixed env c sched := by
  induction sched generalizing c g with
  | nil => rfl
  | cons t rest ih => exact ih _ _

def Stamped (g : Times) (tick t n : Nat) (r : Rec M) : Prop :=
  g.invT t n ≤ g.respT t n ∧ g.respT t n < tick ∧
  r.inv = g.lenAt (g.invT t n) ∧ r.resp = g.lenAt (g.respT t n + 1)

def Flying (g : Times) (tick t : Nat) (th : Thread M) : Prop :=
  g.invT t th.done.length < tick ∧ th.invAt = g.lenAt (g.invT t th.done.length)

structure TThread (g : Times) (tick t : Nat) (th : Thread M) : Prop where
  fin : ∀ n r, th.done[n]? = some r → Stamped g tick t n r
  fly : ∀ op, pcOps th.pc = [op] → Flying g tick t th

structure TInv (c : Config M) (g : Times) : Prop where
  now : g.lenAt c.tick = c.log.length
  mono : ∀ k k', k ≤ k' → k' ≤ c.tick → g.lenAt k ≤ g.lenAt k'
  thr : ∀ t, TThread g c.tick t (c.threads t)
  ord : ∀ k, (c.refusedAt k).Pairwise (fun x y => g.respT x.tid x.idx < g.respT y.tid y.idx)

theorem TInv.init (s₀ : SStore M) (progs : Nat → List (Op M)) : TInv (initCfg s₀ progs) {} := by
  refine ⟨rfl, fun _ _ _ _ => Nat.le_refl _, fun t => ⟨?_, ?_⟩, ?_⟩
  · intro n r h; simp [initCfg] at h
  · intro op h; cases h
  · intro k; simp [initCfg]

theorem TInv.move {env : Env} {c c' : Config M} {g g' : Times} {t : Nat} (h : TInv c g) (hl : LInv c)
    (hm : Move env c c' t)
    (hinv : g'.invT = if starts (c.threads t) = true then set2 g.invT t (c.threads t).done.length c.tick else g.invT)
    (hresp : g'.respT = if (c.threads t).done.length < (c'.threads t).done.length
      then set2 g.respT t (c.threads t).done.length c.tick else g.respT)
    (hlen : g'.lenAt = setAt g.lenAt (c.tick + 1) c'.log.length) :
    TInv { c' with tick := c.tick + 1, refusedAt := noteRefused c c' t } g' := by
  have hlenOld : ∀ k, k ≤ c.tick → g'.lenAt k = g.lenAt k := fun k hk => by
    rw [hlen]; exact setAt_other _ _ (Nat.ne_of_lt (Nat.lt_succ_of_le hk))
  have hlenNew : g'.lenAt (c.tick + 1) = c'.log.length := by rw [hlen]; exact setAt_same _ _ _
  have hinvO : ∀ t' n, ¬ (t' = t ∧ n = (c.threads t).done.length) → g'.invT t' n = g.invT t' n := by
    intro t' n hne
    rw [hinv]
    split
    · exact set2_other _ _ hne
    · rfl
  have hrespO : ∀ t' n, ¬ (t' = t ∧ n = (c.threads t).done.length) → g'.respT t' n = g.respT t' n := by
    intro t' n hne
    rw [hresp]
    split
    · exact set2_other _ _ hne
    · rfl
  -- a finished call is not call `done.length` of its thread: its stamps and its explanation are kept
  have oldNe : ∀ {t' n : Nat} {r : Rec M}, (c.threads t').done[n]? = some r →
      ¬ (t' = t ∧ n = (c.threads t).done.length) := by
    intro t' n r hr hh
    have := (List.getElem?_eq_some_iff.mp hr).1
    rw [hh.1] at this
    omega
  have keepOld : ∀ t' n r, (c.threads t').done[n]? = some r → Stamped g' (c.tick + 1) t' n r := by
    intro t' n r hr
    unfold Stamped
    obtain ⟨h1, h2, h3, h4⟩ := (h.thr t').fin n r hr
    rw [hinvO _ _ (oldNe hr), hrespO _ _ (oldNe hr), hlenOld _ (Nat.le_of_lt (Nat.lt_of_le_of_lt h1 h2)), hlenOld _ h2]
    exact ⟨h1, Nat.lt_succ_of_lt h2, h3, h4⟩
  -- entries already filed are finished calls: their response stamp is old and is kept
  have keepBlock : ∀ k', (c.refusedAt k').Pairwise (fun x y => g'.respT x.tid x.idx < g'.respT y.tid y.idx) := by
    intro k'
    refine (h.ord k').imp_of_mem ?_
    intro x y hx hy hxy
    obtain ⟨_, _, rx, hrx, _⟩ := hl.sound k' x hx
    obtain ⟨_, _, ry, hry, _⟩ := hl.sound k' y hy
    rw [hrespO _ _ (oldNe hrx), hrespO _ _ (oldNe hry)]; exact hxy
  have others : ∀ t', t' ≠ t → TThread g' (c.tick + 1) t' (c.threads t') := by
    intro t' ht
    refine ⟨keepOld t', fun op hf => ?_⟩
    obtain ⟨f1, f2⟩ := (h.thr t').fly op hf
    unfold Flying
    rw [hinvO _ _ (fun hh => ht hh.1), hlenOld _ (Nat.le_of_lt f1)]
    exact ⟨Nat.lt_succ_of_lt f1, f2⟩
  -- a call filed now responded at this very step, later than all those filed before
  have hord : ∀ k, ((noteRefused c c' t) k).Pairwise (fun x y => g'.respT x.tid x.idx < g'.respT y.tid y.idx) := by
    rcases hm.filing with ⟨hra, _⟩ | ⟨r, hd, _, hra⟩
    · rw [hra]; exact keepBlock
    · rw [hra]
      refine pairwise_setAt_snoc keepBlock ?_
      intro x hx
      obtain ⟨_, _, rx, hrx, _⟩ := hl.sound _ x hx
      show _ < g'.respT t (c.threads t).done.length
      rw [hresp, hd, if_pos (by simp), set2_same, set2_other _ _ (oldNe hrx)]
      exact ((h.thr _).fin _ rx hrx).2.1
  suffices hself : TThread g' (c.tick + 1) t (c'.threads t) by
    have hlog := hm.log_le
    refine ⟨hlenNew, ?_, ?_, hord⟩
    · intro k k' hkk hk'
      replace hk' : k' ≤ c.tick + 1 := hk'
      by_cases hnew : k' = c.tick + 1
      · subst hnew
        rw [hlenNew]
        by_cases hk : k = c.tick + 1
        · subst hk; rw [hlenNew]; exact Nat.le_refl _
        · rw [hlenOld k (by omega)]
          have := h.mono k c.tick (by omega) (Nat.le_refl _)
          rw [h.now] at this
          omega
      · rw [hlenOld k (by omega), hlenOld k' (by omega)]
        exact h.mono k k' hkk (by omega)
    · intro t'
      show TThread g' (c.tick + 1) t' (c'.threads t')
      by_cases ht : t' = t
      · rw [ht]; exact hself
      · rw [hm.threads_other ht]; exact others t' ht
  cases hm with
  | noop hpc hc =>
    subst hc
    exact ⟨keepOld t, fun op hf => by rw [hpc] at hf; cases hf⟩
  | call op i rest hb he hoth =>
    -- the call at work was invoked at this step or an earlier one, at log length `i`
    have hcall : g'.invT t (c.threads t).done.length ≤ c.tick ∧ i = g'.lenAt (g'.invT t (c.threads t).done.length) := by
      cases hb with
      | start _ hpc hprog _ hi =>
        rw [hinv, if_pos (starts_of_idle hpc hprog), set2_same, hlenOld _ (Nat.le_refl _), h.now]
        exact ⟨Nat.le_refl _, hi⟩
      | cont hops hi _ =>
        obtain ⟨f1, f2⟩ := (h.thr t).fly op hops
        rw [hinv, if_neg (by rw [starts_of_pcOps hops]; exact Bool.false_ne_true), hlenOld _ (Nat.le_of_lt f1), hi]
        exact ⟨Nat.le_of_lt f1, f2⟩
    -- a record made now: the step stamps explain its log-length stamps
    have newRec : ∀ (r : Rec M) (ra : Nat), c'.threads t = ⟨rest, .idle, (c.threads t).done ++ [r], i, ra⟩ →
        r.inv = i → r.resp = c'.log.length →
        TThread g' (c.tick + 1) t (c'.threads t) := by
      intro r ra hth hri hrr
      have hrn : g'.respT t (c.threads t).done.length = c.tick := by
        rw [hresp, hth, if_pos (by simp)]; exact set2_same _ _ _ _
      rw [hth]
      refine ⟨forall_getElem?_snoc (keepOld t) ?_, fun _ hf => by cases hf⟩
      unfold Stamped
      rw [hrn, hlenNew, hri, hrr]
      exact ⟨hcall.1, Nat.lt_succ_self _, hcall.2, rfl⟩
    cases he with
    | fly pc' ra hops hth _ hl' =>
      rw [hth]
      exact ⟨keepOld t, fun _ _ => ⟨Nat.lt_succ_of_le hcall.1, hcall.2⟩⟩
    | fin res kind lin ra hth _ hl' =>
      exact newRec _ ra hth rfl (by rw [hl'])
    | commit v tm ra _ hth hl' =>
      exact newRec _ ra hth rfl (by rw [hl']; simp)

theorem TInv.step {c : Config M} {g : Times} (h : TInv c g) (hl : LInv c) (fixed : Bool) (env : Env) (t : Nat) :
    TInv (step fixed env c t) (tstep fixed env c g t) :=
  h.move hl (stepCore_move fixed env c t) rfl rfl rfl

theorem TInv.run {c : Config M} {g : Times} (h : TInv c g) (hl : LInv c) (fixed : Bool) (env : Env)
    (sched : List Nat) : TInv (trun fixed env c g sched).1 (trun fixed env c g sched).2 := by
  induction sched generalizing c g with
  | nil => exact h
  | cons t rest ih => exact ih (h.step hl fixed env t) (hl.step fixed env t)

theorem TInv.linSeq_ordered {s₀ : SStore M} {c : Config M} {g : Times} (ht : TInv c g) (h : Inv s₀ c) (hl : LInv c) :
    (linSeq s₀ c.log c.refusedAt).Pairwise (fun x y => ¬ (g.respT y.tid y.idx < g.invT x.tid x.idx)) := by
  -- if y responded before x was invoked, then in log time y.resp ≤ x.inv, which puts y first
  have link : ∀ x y, x ∈ linSeq s₀ c.log c.refusedAt → y ∈ linSeq s₀ c.log c.refusedAt →
      g.respT y.tid y.idx < g.invT x.tid x.idx → y.lin ≤ x.lin ∧ (y.committed = true → y.lin < x.lin) := by
    intro x y hx hy hlt
    obtain ⟨rx, hrx, _, _, _, hlx, _⟩ := linSeq_sound h hl hx
    obtain ⟨ry, hry, _, _, _, hly, hcy⟩ := linSeq_sound h hl hy
    obtain ⟨x1, x2, x3, _⟩ := (ht.thr _).fin _ rx hrx
    obtain ⟨_, _, _, y4⟩ := (ht.thr _).fin _ ry hry
    have hle : ry.resp ≤ rx.inv := by
      rw [x3, y4]
      exact ht.mono _ _ (by omega) (by omega)
    obtain ⟨h1, h2⟩ := h.real_time hry hrx hle
    rw [← hlx, ← hly]
    exact ⟨h1, fun hyc => h2 (hcy.mp hyc)⟩
  refine pairwise_linSeq_of s₀ c.log c.refusedAt _ hl.lin ?_
    (fun x y hx hy hxy hlt => by have := (link x y hx hy hlt).1; omega)
    (fun x y hx hy hxy _ hyc hlt => by have := (link x y hx hy hlt).2 hyc; omega)
  -- one block: listed as they responded
  intro k
  refine (ht.ord k).imp_of_mem ?_
  intro x y hx _ hxy hlt
  obtain ⟨_, _, rx, hrx, _⟩ := hl.sound k x hx
  obtain ⟨this, _⟩ := (ht.thr _).fin _ rx hrx
  omega

end ScVerif.C02
