import ScVerif.C02.Step
/-!
# C02 — what the invariant says about single calls and single cells
-/
namespace ScVerif.C02

variable {M : Type} [DecidableEq M] [Msg M]

theorem kind_of_ok {s₀ : SStore M} {log : List (Entry M)} {t n : Nat} {r : Rec M} {v : M}
    (h : RecOK s₀ log t n r) (hres : r.res = .ok (some v)) : r.kind = .committed := by
  cases hk : r.kind with
  | committed => rfl
  | refused => rcases (h.refused hk).2 with h5 | ⟨e, h5⟩ <;> rw [hres] at h5 <;> cases h5
  | raced => rcases h.raced hk with ⟨h5, _⟩ | ⟨h5, _⟩ <;> rw [hres] at h5 <;> cases h5

theorem committed_of_ok {s₀ : SStore M} {log : List (Entry M)} {t n : Nat} {r : Rec M} {v : M}
    (h : RecOK s₀ log t n r) (hres : r.res = .ok (some v)) :
    (∃ tm, log[r.lin]? = some ⟨t, n, r.op, tm⟩) ∧ r.lin < r.resp ∧
      (specStep r.op (replay s₀ (log.take r.lin))).1 = r.res :=
  have h4 := h.committed (kind_of_ok h hres)
  ⟨h4.1, h4.2.1, h4.2.2.1⟩

theorem owner_of_entry {s₀ : SStore M} {c : Config M} (h : Inv s₀ c) {k : Nat} {e : Entry M}
    (he : c.log[k]? = some e) :
    ∃ r v, (c.threads e.tid).done[e.idx]? = some r ∧ r.lin = k ∧ r.op = e.op ∧ r.res = .ok (some v) := by
  obtain ⟨r, hr, hkind, hlin⟩ := h.owned k e he
  obtain ⟨⟨tm, ha⟩, _, _, v, hv⟩ := (h.recOK hr).committed hkind
  rw [hlin, he] at ha
  refine ⟨r, v, hr, hlin, ?_, hv⟩
  have := Option.some.inj ha
  rw [this]

theorem not_owner_of_error {s₀ : SStore M} {c : Config M} (h : Inv s₀ c) {t n : Nat} {r : Rec M} {err : Err}
    (hr : (c.threads t).done[n]? = some r) (hres : r.res = .error err) {k : Nat} {e : Entry M}
    (he : c.log[k]? = some e) : ¬ (e.tid = t ∧ e.idx = n) := by
  intro htag
  obtain ⟨r', v, hr', _, _, hv⟩ := owner_of_entry h he
  rw [htag.1, htag.2, hr] at hr'
  cases hr'
  rw [hres] at hv
  cases hv

theorem once_of_ok {s₀ : SStore M} {c : Config M} (h : Inv s₀ c) {t n : Nat} {r : Rec M} {v : M}
    (hr : (c.threads t).done[n]? = some r) (hres : r.res = .ok (some v)) :
    (∃ tm, c.log[r.lin]? = some ⟨t, n, r.op, tm⟩) ∧ ∀ k e, c.log[k]? = some e → e.tid = t → e.idx = n → k = r.lin := by
  refine ⟨(committed_of_ok (h.recOK hr) hres).1, ?_⟩
  intro k e he ht hn
  obtain ⟨r', _, hr', hlin, _, _⟩ := owner_of_entry h he
  rw [ht, hn, hr] at hr'
  cases hr'
  exact hlin.symm

theorem Inv.real_time {s₀ : SStore M} {c : Config M} (h : Inv s₀ c) {t₁ n₁ t₂ n₂ : Nat} {a b : Rec M}
    (ha : (c.threads t₁).done[n₁]? = some a) (hb : (c.threads t₂).done[n₂]? = some b) (hab : a.resp ≤ b.inv) :
    a.lin ≤ b.lin ∧ (a.kind = .committed → a.lin < b.lin) := by
  obtain ⟨_, a2, _⟩ := (h.recOK ha).bounds
  obtain ⟨b1, _, _⟩ := (h.recOK hb).bounds
  exact ⟨Nat.le_trans a2 (Nat.le_trans hab b1),
    fun hk => Nat.lt_of_lt_of_le ((h.recOK ha).committed hk).2.1 (Nat.le_trans hab b1)⟩

theorem lost_race_of_raced {s₀ : SStore M} {c : Config M} (h : Inv s₀ c) {t n : Nat} {r : Rec M}
    (hr : (c.threads t).done[n]? = some r) (hk : r.kind = .raced) :
    ∃ (m : Nat) (ks : List Nat),
      ((r.res = .error .aborted ∧ (opGen r.op = true ∨ m = 1)) ∨ (r.res = .error .unavailable ∧ m = 5)) ∧
      (opGen r.op = true ∨ (ks.length = m ∧ ks.Pairwise (· < ·))) ∧
      ∀ k, k ∈ ks → r.inv ≤ k ∧ k < r.resp ∧
        ∃ e, c.log[k]? = some e ∧ opId e.op = opId r.op ∧ ¬ (e.tid = t ∧ e.idx = n) := by
  have lift : ∀ (err : Err) (m : Nat) (ks : List Nat), r.res = .error err →
      RivalCommits c.log (opId r.op) r.inv r.resp m ks →
      ∀ k, k ∈ ks → r.inv ≤ k ∧ k < r.resp ∧
        ∃ e, c.log[k]? = some e ∧ opId e.op = opId r.op ∧ ¬ (e.tid = t ∧ e.idx = n) := by
    intro err m ks hres hks k hk
    obtain ⟨ha, hb, e, he, hid⟩ := hks.2.2 k hk
    -- an entry inside the interval is not this call's: this call reported an error
    exact ⟨ha, hb, e, he, hid, not_owner_of_error h hr hres he⟩
  rcases (h.recOK hr).raced hk with ⟨hres, hg | ⟨ks, hks⟩⟩ | ⟨hres, ks, hks⟩
  · exact ⟨0, [], Or.inl ⟨hres, Or.inl hg⟩, Or.inl hg, by intro k hk; cases hk⟩
  · exact ⟨1, ks, Or.inl ⟨hres, Or.inr rfl⟩, Or.inr ⟨hks.1, hks.2.1⟩, lift _ _ _ hres hks⟩
  · exact ⟨5, ks, Or.inr ⟨hres, rfl⟩, Or.inr ⟨hks.1, hks.2.1⟩, lift _ _ _ hres hks⟩

theorem sequential_of_uncontended {s₀ : SStore M} {c : Config M} (h : Inv s₀ c) {t n : Nat} {r : Rec M}
    (hr : (c.threads t).done[n]? = some r)
    (halone : ∀ k e, r.inv ≤ k → k < r.resp → c.log[k]? = some e → opId e.op = opId r.op → e.tid = t ∧ e.idx = n) :
    (r.kind ≠ .raced ∧ (specStep r.op (replay s₀ (c.log.take r.inv))).1 = r.res) ∨
    (r.kind = .raced ∧ opGen r.op = true ∧ r.res = .error .aborted) := by
  obtain ⟨h1, h2, h3⟩ := (h.recOK hr).bounds
  by_cases hk : r.kind = .raced
  · -- a rival commit inside the interval would be this call's own entry, but this call reported an error
    have hno : ∀ (m : Nat) (ks : List Nat) (err : Err), r.res = .error err → 0 < m →
        RivalCommits c.log (opId r.op) r.inv r.resp m ks → False := by
      intro m ks err hres hm hks
      obtain ⟨hl, _, hall⟩ := hks
      cases ks with
      | nil => simp at hl; omega
      | cons k rest =>
        obtain ⟨ha, hb, e, he, hid⟩ := hall k List.mem_cons_self
        exact not_owner_of_error h hr hres he (halone k e ha hb he hid)
    rcases (h.recOK hr).raced hk with ⟨hres, hg | ⟨ks, hks⟩⟩ | ⟨hres, ks, hks⟩
    · exact Or.inr ⟨hk, hg, hres⟩
    · exact (hno 1 ks _ hres (by omega) hks).elim
    · exact (hno 5 ks _ hres (by omega) hks).elim
  · -- this call's own commit, if any, sits at `r.lin`: nothing on its id lies in `[inv, lin)`
    have quiet : ∀ k e, r.inv ≤ k → k < r.lin → c.log[k]? = some e → opId e.op ≠ opId r.op := by
      intro k e hk1 hk2 he hid
      obtain ⟨ht, hn⟩ := halone k e hk1 (by omega) he hid
      obtain ⟨r', v, hr', hlin, _, _⟩ := owner_of_entry h he
      rw [ht, hn, hr] at hr'
      cases hr'
      omega
    have hsame := replay_quiet s₀ c.log (opId r.op) r.inv r.lin h1 (by omega) quiet
    refine Or.inl ⟨hk, ?_⟩
    rw [← (h.recOK hr).spec_res hk]
    exact specStep_res_congr r.op hsame.symm

theorem stored_after_last {s₀ : SStore M} {c : Config M} (h : Inv s₀ c) {t n : Nat} {r : Rec M} {v : M} (i : Nat)
    (hr : (c.threads t).done[n]? = some r) (hres : r.res = .ok (some v))
    (hq : ∀ k e, r.lin < k → c.log[k]? = some e → opId e.op ≠ i) :
    absS c.store i = (replay s₀ (c.log.take (r.lin + 1))) i := by
  obtain ⟨_, _, h3⟩ := (h.recOK hr).bounds
  obtain ⟨_, hlt, _⟩ := committed_of_ok (h.recOK hr) hres
  rw [h.store]
  have := replay_quiet s₀ c.log i (r.lin + 1) c.log.length (Nat.le_trans hlt h3) (Nat.le_refl _)
    (fun k e h1 _ he => hq k e h1 he)
  rw [List.take_length] at this
  exact this

theorem cas_of_ok {s₀ : SStore M} {c : Config M} (h : Inv s₀ c) {t n : Nat} {r : Rec M} {u : UpdOp M} {v : M}
    (hr : (c.threads t).done[n]? = some r) (hop : r.op = .upd u) (hres : r.res = .ok (some v)) :
    ∃ old, specRead u ((replay s₀ (c.log.take r.lin)) u.id) = .ok old ∧
      (u.expect.isSome → old = u.expect) ∧ u.check old = none ∧ v = u.f old ∧
      (replay s₀ (c.log.take (r.lin + 1))) u.id = some v := by
  obtain ⟨⟨tm, hlog⟩, _, hspec⟩ := committed_of_ok (h.recOK hr) hres
  rw [hop, hres] at hspec
  obtain ⟨old, h1, h2, h3, h4, h5⟩ := specUpd_ok_inv (u := u) hspec
  refine ⟨old, h1, h2, h3, h4, ?_⟩
  rw [take_succ_of_getElem? hlog, replay_snoc, hop]
  show (specUpd u _).2 u.id = some v
  rw [h5]; simp

theorem del_of_ok {s₀ : SStore M} {c : Config M} (h : Inv s₀ c) {t n : Nat} {r : Rec M} {d : DelOp M} {b : M}
    (hr : (c.threads t).done[n]? = some r) (hop : r.op = .del d) (hres : r.res = .ok (some b)) :
    (replay s₀ (c.log.take r.lin)) d.id = some b ∧ d.pre b = none ∧
      (replay s₀ (c.log.take (r.lin + 1))) d.id = none := by
  obtain ⟨⟨tm, hlog⟩, _, hspec⟩ := committed_of_ok (h.recOK hr) hres
  rw [hop, hres] at hspec
  obtain ⟨h1, h2, h3⟩ := specDel_ok_inv (d := d) hspec
  refine ⟨h1, h2, ?_⟩
  rw [take_succ_of_getElem? hlog, replay_snoc, hop]
  show (specDel d _).2 d.id = none
  rw [h3]; simp

theorem add_exclusive {s₀ : SStore M} {c : Config M} (h : Inv s₀ c)
    {t₁ n₁ t₂ n₂ : Nat} {r₁ r₂ : Rec M} {u₁ u₂ : UpdOp M} {v₁ v₂ : M}
    (h1 : (c.threads t₁).done[n₁]? = some r₁) (h2 : (c.threads t₂).done[n₂]? = some r₂)
    (ho1 : r₁.op = .upd u₁) (ho2 : r₂.op = .upd u₂) (hid : u₁.id = u₂.id)
    (hea : u₂.expectAbsent = true) (hv : u₂.isValue = false)
    (hr1 : r₁.res = .ok (some v₁)) (hr2 : r₂.res = .ok (some v₂)) (hlt : r₁.lin < r₂.lin) :
    ∃ k e d, r₁.lin < k ∧ k < r₂.lin ∧ c.log[k]? = some e ∧ e.op = .del d ∧ d.id = u₂.id := by
  obtain ⟨_, _, _, _, _, hafter⟩ := cas_of_ok h h1 ho1 hr1
  obtain ⟨old, hread, _⟩ := cas_of_ok h h2 ho2 hr2
  have hlen : r₂.lin ≤ c.log.length := by
    obtain ⟨_, a2, a3⟩ := (h.recOK h2).bounds
    omega
  have habsent := specRead_expectAbsent hread hea hv
  apply Classical.byContradiction
  intro hno
  have hp := present_persists s₀ c.log u₂.id (r₁.lin + 1) r₂.lin (by omega) hlen
    (by rw [← hid, hafter]; rfl)
    (by
      intro k e d hk1 hk2 hke hed hdi
      exact hno ⟨k, e, d, by omega, hk2, hke, hed, hdi⟩)
  rw [habsent] at hp
  cases hp

theorem guarded_exclusive {s₀ : SStore M} {c : Config M} (h : Inv s₀ c) (acked : M → Prop)
    {t₁ n₁ t₂ n₂ : Nat} {r₁ r₂ : Rec M} {u₁ u₂ : UpdOp M} {v₁ v₂ : M}
    (h1 : (c.threads t₁).done[n₁]? = some r₁) (h2 : (c.threads t₂).done[n₂]? = some r₂)
    (ho1 : r₁.op = .upd u₁) (ho2 : r₂.op = .upd u₂) (hid : u₁.id = u₂.id)
    (hw : ∀ old, acked (u₁.f old)) (hck : ∀ b, acked b → u₂.check (some b) ≠ none)
    (hr1 : r₁.res = .ok (some v₁)) (hr2 : r₂.res = .ok (some v₂)) (hlt : r₁.lin < r₂.lin) :
    ∃ (k : Nat) (e : Entry M), r₁.lin < k ∧ k < r₂.lin ∧ c.log[k]? = some e ∧ opId e.op = u₂.id := by
  obtain ⟨old₁, _, _, _, hv₁, hst₁⟩ := cas_of_ok h h1 ho1 hr1
  obtain ⟨old₂, hrd₂, _, hc₂, _, _⟩ := cas_of_ok h h2 ho2 hr2
  obtain ⟨_, b2, b3⟩ := (h.recOK h2).bounds
  apply Classical.byContradiction
  intro hno
  -- nothing on the id in between: call 2 read what call 1 stored, which its check refuses
  have hcell := replay_quiet s₀ c.log u₂.id (r₁.lin + 1) r₂.lin (by omega) (by omega)
    (fun k e hk1 hk2 he hid' => hno ⟨k, e, by omega, hk2, he, hid'⟩)
  rw [← hid, hst₁] at hcell
  rw [← hid, hcell] at hrd₂
  rw [specRead_some hrd₂] at hc₂
  exact hck v₁ (by rw [hv₁]; exact hw old₁) hc₂

end ScVerif.C02
