import ScVerif.C02.Acc
import ScVerif.C02.Gen
import ScVerif.C02.Time
import ScVerif.C02.Stamp
/-!
# C02 — property theorems

Property (fixed text): "When several goroutines write the same Value or Collection concurrently, every
call that reports success takes effect exactly once and all results are explainable by some
one-at-a-time order consistent with real time; a call that loses a race reports Aborted,
AlreadyExists, FailedPrecondition, NotFound or Unavailable and has no effect. In particular a write
with an expected value or check succeeds only if the stored value satisfied it at the instant of the
write, read-modify-write interceptors never lose an increment, two concurrent Adds of one id never
both succeed, and a Delete never removes a version its precondition did not see."

All theorems are about `run true env (initCfg s₀ progs) sched` (`C02_linearization_respects_step_order` through
`trun`, which computes the same configuration; the pre-fix witness runs `run false`): the model of the code with fix 41c35d0, for
ARBITRARY initial contents, thread programs (any number of threads, any operations, arbitrary check / interceptor
functions, any message type with decidable equality), environments (clock and id generator) and schedules.
Ghost logical time is the length of the commit log: `inv ≤ lin ≤ resp` puts the linearization point of a call
between its invocation and its response.
-/
namespace ScVerif.C02

variable {M : Type} [DecidableEq M] [Msg M]

/-- The current contents are the replay, on the sequential map specification, of the committed calls in commit
order; and every finished call is explained at its linearization index `r.lin`, which lies within the call: a
success owns log entry `r.lin`; a refused call (NotFound / AlreadyExists / FailedPrecondition / a check's own error
/ allow-missing no-op) is refused by the specification too, without effect, on the contents it read; a lost race
(Aborted / Unavailable; no log entry: `C02_losers_have_no_effect`) was real: commits on the same id landed inside
the call's interval (`RivalCommits log i a b n ks`: `ks` are `n` increasing log positions in `[a, b)` holding
commits on id `i`; five for Unavailable) — the only other Aborted is an id generator that ran out of attempts. -/
theorem C02_commit_order_linearizes (env : Env) (s₀ : SStore M) (progs : Nat → List (Op M)) (sched : List Nat) :
    let c : Config M := run true env (initCfg s₀ progs) sched
    absS c.store = replay s₀ c.log ∧
    ∀ (t n : Nat) (r : Rec M), (c.threads t).done[n]? = some r →
      r.inv ≤ r.lin ∧ r.lin ≤ r.resp ∧ r.resp ≤ c.log.length ∧
      match r.kind with
      | .committed =>
          (∃ tm, c.log[r.lin]? = some ⟨t, n, r.op, tm⟩) ∧ r.lin < r.resp ∧
          (specStep r.op (replay s₀ (c.log.take r.lin))).1 = r.res ∧ ∃ v, r.res = .ok (some v)
      | .refused =>
          specStep r.op (replay s₀ (c.log.take r.lin)) = (r.res, replay s₀ (c.log.take r.lin)) ∧
          (r.res = .ok none ∨ ∃ e, r.res = .error e)
      | .raced =>
          (r.res = .error .aborted ∧ (opGen r.op = true ∨ ∃ ks, RivalCommits c.log (opId r.op) r.inv r.resp 1 ks)) ∨
          (r.res = .error .unavailable ∧ ∃ ks, RivalCommits c.log (opId r.op) r.inv r.resp 5 ks) := by
  intro c
  have h := (Inv.init s₀ progs).run env sched
  exact ⟨h.store, fun t n r hr => (h.thr t).recs n r hr⟩

/-- The finished calls of a thread, then the call in flight, then the calls still to come are exactly the thread's
program (`forget` blanks the id of a generate-id call, which the program text does not have). -/
theorem C02_program_order (env : Env) (s₀ : SStore M) (progs : Nat → List (Op M)) (sched : List Nat) (t : Nat) :
    let th : Thread M := (run true env (initCfg s₀ progs) sched).threads t
    (th.done.map (·.op) ++ pcOps th.pc ++ th.prog).map forget = (progs t).map forget :=
  acc_run env s₀ progs sched t

/-- A call that reported success with a value owns exactly one entry of the commit log, and every entry of the
commit log is owned by exactly one such call. -/
theorem C02_exactly_once (env : Env) (s₀ : SStore M) (progs : Nat → List (Op M)) (sched : List Nat) :
    let c : Config M := run true env (initCfg s₀ progs) sched
    (∀ (t n : Nat) (r : Rec M) (v : M), (c.threads t).done[n]? = some r → r.res = .ok (some v) →
        (∃ tm, c.log[r.lin]? = some ⟨t, n, r.op, tm⟩) ∧ ∀ (k : Nat) (e : Entry M), c.log[k]? = some e → e.tid = t → e.idx = n → k = r.lin) ∧
    (∀ (k : Nat) (e : Entry M), c.log[k]? = some e →
        ∃ (r : Rec M) (v : M), (c.threads e.tid).done[e.idx]? = some r ∧ r.lin = k ∧ r.op = e.op ∧ r.res = .ok (some v)) := by
  intro c
  have h := (Inv.init s₀ progs).run env sched
  exact ⟨fun t n r v hr hres => once_of_ok h hr hres, fun k e he => owner_of_entry h he⟩

/-- A call that returned an error (Aborted, AlreadyExists, FailedPrecondition, NotFound, Unavailable, or a check's
own error) owns no entry of the commit log. -/
theorem C02_losers_have_no_effect (env : Env) (s₀ : SStore M) (progs : Nat → List (Op M)) (sched : List Nat) :
    let c : Config M := run true env (initCfg s₀ progs) sched
    ∀ (t n : Nat) (r : Rec M) (err : Err), (c.threads t).done[n]? = some r → r.res = .error err →
      ∀ (k : Nat) (e : Entry M), c.log[k]? = some e → ¬ (e.tid = t ∧ e.idx = n) := by
  intro c t n r err hr hres k e he
  exact not_owner_of_error ((Inv.init s₀ progs).run env sched) hr hres he

/-- A write that reported success saw its precondition hold on the contents at the instant of its commit, and its
result is the change applied to exactly that old value. -/
theorem C02_cas_sound (env : Env) (s₀ : SStore M) (progs : Nat → List (Op M)) (sched : List Nat) :
    let c : Config M := run true env (initCfg s₀ progs) sched
    ∀ (t n : Nat) (r : Rec M) (u : UpdOp M) (v : M), (c.threads t).done[n]? = some r → r.op = .upd u → r.res = .ok (some v) →
      ∃ old, specRead u ((replay s₀ (c.log.take r.lin)) u.id) = .ok old ∧
        (u.expect.isSome → old = u.expect) ∧ u.check old = none ∧ v = u.f old ∧
        (replay s₀ (c.log.take (r.lin + 1))) u.id = some v := by
  intro c t n r u v hr hop hres
  have h := (Inv.init s₀ progs).run env sched
  exact cas_of_ok h hr hop hres

/-- A Delete that reported success removed exactly the stored value its preconditions inspected, and the id is
absent right after. -/
theorem C02_delete_sees_its_version (env : Env) (s₀ : SStore M) (progs : Nat → List (Op M)) (sched : List Nat) :
    let c : Config M := run true env (initCfg s₀ progs) sched
    ∀ (t n : Nat) (r : Rec M) (d : DelOp M) (b : M), (c.threads t).done[n]? = some r → r.op = .del d → r.res = .ok (some b) →
      (replay s₀ (c.log.take r.lin)) d.id = some b ∧ d.pre b = none ∧
      (replay s₀ (c.log.take (r.lin + 1))) d.id = none := by
  intro c t n r d b hr hop hres
  have h := (Inv.init s₀ progs).run env sched
  exact del_of_ok h hr hop hres

/-- Of two successful Adds (expect-absent writes) of one id, the later one in commit order is preceded, after the
earlier one, by a committed Delete of that id: overlapping Adds never both succeed. -/
theorem C02_add_exclusive (env : Env) (s₀ : SStore M) (progs : Nat → List (Op M)) (sched : List Nat) :
    let c : Config M := run true env (initCfg s₀ progs) sched
    ∀ (t₁ n₁ : Nat) (r₁ : Rec M) (t₂ n₂ : Nat) (r₂ : Rec M) (u₁ u₂ : UpdOp M) (v₁ v₂ : M),
      (c.threads t₁).done[n₁]? = some r₁ → (c.threads t₂).done[n₂]? = some r₂ →
      r₁.op = .upd u₁ → r₂.op = .upd u₂ → u₁.id = u₂.id →
      u₂.expectAbsent = true → u₂.isValue = false →
      r₁.res = .ok (some v₁) → r₂.res = .ok (some v₂) → r₁.lin < r₂.lin →
      ∃ (k : Nat) (e : Entry M) (d : DelOp M), r₁.lin < k ∧ k < r₂.lin ∧ c.log[k]? = some e ∧ e.op = .del d ∧ d.id = u₂.id := by
  intro c t₁ n₁ r₁ t₂ n₂ r₂ u₁ u₂ v₁ v₂ h1 h2 ho1 ho2 hid hea hv hr1 hr2 hlt
  have h := (Inv.init s₀ progs).run env sched
  exact add_exclusive h h1 h2 ho1 ho2 hid hea hv hr1 hr2 hlt

/-- If call `a` responded no later than call `b` was invoked, `a` is linearized no later than `b`; strictly earlier
(as a log position) when `a` took effect. -/
theorem C02_real_time (env : Env) (s₀ : SStore M) (progs : Nat → List (Op M)) (sched : List Nat) :
    let c : Config M := run true env (initCfg s₀ progs) sched
    ∀ (t₁ n₁ : Nat) (a : Rec M) (t₂ n₂ : Nat) (b : Rec M), (c.threads t₁).done[n₁]? = some a → (c.threads t₂).done[n₂]? = some b →
      a.resp ≤ b.inv → a.lin ≤ b.lin ∧ (a.kind = .committed → a.lin < b.lin) := by
  intro c t₁ n₁ a t₂ n₂ b ha hb hab
  exact ((Inv.init s₀ progs).run env sched).real_time ha hb hab

/-- **Linearizability, spelled out as one sequence.**  Take the calls that did not lose a race, in this order:
for k = 0, 1, 2, …: the refused calls whose linearization index is k (in ANY arrangement `arr k` of them —
they have no effect, so they commute), then the call that owns commit-log entry k; finally the refused calls
of index `log.length`.  Executed one call at a time on the sequential map specification the sequence reproduces
every reported result and ends in the current contents; it holds exactly the finished calls that did not lose a
race, each once; and it is ordered by `LinOrd` — `C02_real_time` says exactly that a call which responded before
another was invoked is `LinOrd`-before it, so the sequence is consistent with real time (two refused calls of one
index can be arranged either way).  Calls that lost a race are not in it and have no effect. -/
theorem C02_linearizable (env : Env) (s₀ : SStore M) (progs : Nat → List (Op M)) (sched : List Nat) :
    let c : Config M := run true env (initCfg s₀ progs) sched
    ∀ (arr : Nat → List (Ev M)), (∀ k, (arr k).Perm (c.refusedAt k)) →
      seqRun s₀ (linSeq s₀ c.log arr) = some (absS c.store) ∧
      (∀ (t n : Nat) (r : Rec M), (c.threads t).done[n]? = some r → r.kind ≠ .raced →
        ∃ ev, ev ∈ linSeq s₀ c.log arr ∧ ev.tid = t ∧ ev.idx = n ∧ ev.op = r.op ∧ ev.res = r.res ∧ ev.lin = r.lin) ∧
      (∀ ev, ev ∈ linSeq s₀ c.log arr →
        ∃ r, (c.threads ev.tid).done[ev.idx]? = some r ∧ r.kind ≠ .raced ∧ r.op = ev.op ∧ r.res = ev.res ∧
          r.lin = ev.lin ∧ (ev.committed = true ↔ r.kind = .committed)) ∧
      (linSeq s₀ c.log arr).Pairwise (fun x y => ¬ (x.tid = y.tid ∧ x.idx = y.idx)) ∧
      (linSeq s₀ c.log arr).Pairwise LinOrd := by
  intro c arr hperm
  have h : Inv s₀ { c with refusedAt := arr } := ((Inv.init s₀ progs).run env sched).frame _ _ _ _
  have hl := ((LInv.init s₀ progs).run true env sched).perm hperm
  exact ⟨linSeq_runs h hl, fun t n r => linSeq_complete h hl, fun ev => linSeq_sound h hl, linSeq_nodup h hl,
    linSeq_linOrd s₀ c.log arr hl.lin⟩

/-- `C02_linearizable` orders two refused calls of one linearization index arbitrarily; `C02_real_time` measures
time in commit-log lengths, which do not separate calls that came and went while the log stood still.  Here time is
the step counter itself (`trun` is `run` with, on the side, the step `invT t n` at which call `n` of thread `t` was
invoked and the step `respT t n` at which it responded), and the refused calls of one index are listed as they
responded (`c.refusedAt`, the arrangement the driver prints and the harness certifies against real executions): the
log-length stamps of every record are the log lengths at its invocation and response steps, and no call of the
sequence responded before a call standing EARLIER in it was invoked.  Together with `C02_linearizable` (for `arr :=
c.refusedAt`) this is linearizability in the textbook sense. -/
theorem C02_linearization_respects_step_order (env : Env) (s₀ : SStore M) (progs : Nat → List (Op M))
    (sched : List Nat) :
    let c : Config M := (trun true env (initCfg s₀ progs) {} sched).1
    let g : Times := (trun true env (initCfg s₀ progs) {} sched).2
    c = run true env (initCfg s₀ progs) sched ∧
    (∀ (t n : Nat) (r : Rec M), (c.threads t).done[n]? = some r →
      g.invT t n ≤ g.respT t n ∧ g.respT t n < c.tick ∧
      r.inv = g.lenAt (g.invT t n) ∧ r.resp = g.lenAt (g.respT t n + 1)) ∧
    (∀ k k', k ≤ k' → k' ≤ c.tick → g.lenAt k ≤ g.lenAt k') ∧
    (linSeq s₀ c.log c.refusedAt).Pairwise (fun x y => ¬ (g.respT y.tid y.idx < g.invT x.tid x.idx)) := by
  intro c g
  have hc : c = run true env (initCfg s₀ progs) sched := trun_fst true env _ _ sched
  have ht : TInv c g := (TInv.init s₀ progs).run (LInv.init s₀ progs) true env sched
  have h : Inv s₀ c := by rw [hc]; exact (Inv.init s₀ progs).run env sched
  have hl : LInv c := by rw [hc]; exact (LInv.init s₀ progs).run true env sched
  exact ⟨hc, fun t n r hr => (ht.thr t).fin n r hr, ht.mono, ht.linSeq_ordered h hl⟩

/-- A call reports Aborted only when another call committed ON THE SAME ID inside its interval (or its id generator
ran out of attempts), and a Delete gives up with Unavailable only after five different commits of other calls on its
id landed inside its interval — one per invalidated attempt. -/
theorem C02_lost_races_are_real (env : Env) (s₀ : SStore M) (progs : Nat → List (Op M)) (sched : List Nat) :
    let c : Config M := run true env (initCfg s₀ progs) sched
    ∀ (t n : Nat) (r : Rec M), (c.threads t).done[n]? = some r → r.kind = .raced →
      ∃ (m : Nat) (ks : List Nat),
        ((r.res = .error .aborted ∧ (opGen r.op = true ∨ m = 1)) ∨ (r.res = .error .unavailable ∧ m = 5)) ∧
        (opGen r.op = true ∨ (ks.length = m ∧ ks.Pairwise (· < ·))) ∧
        ∀ k, k ∈ ks → r.inv ≤ k ∧ k < r.resp ∧
          ∃ e, c.log[k]? = some e ∧ opId e.op = opId r.op ∧ ¬ (e.tid = t ∧ e.idx = n) := by
  intro c t n r hr hk
  exact lost_race_of_raced ((Inv.init s₀ progs).run env sched) hr hk

/-- If no OTHER call commits on a call's id between its invocation and its response (calls on other ids may commit
freely), then the call does not lose a race and reports exactly what the sequential specification reports on the
contents at its invocation.  For a call that generates its id (`Add("")` with `WithGenIDIfAbsent`; the specification
is asked about the call with the id it was given) there is one more outcome, Aborted: an id generator that ran out
of its ten attempts. -/
theorem C02_uncontended_call_is_sequential (env : Env) (s₀ : SStore M) (progs : Nat → List (Op M))
    (sched : List Nat) :
    let c : Config M := run true env (initCfg s₀ progs) sched
    ∀ (t n : Nat) (r : Rec M), (c.threads t).done[n]? = some r →
      (∀ k e, r.inv ≤ k → k < r.resp → c.log[k]? = some e → opId e.op = opId r.op → e.tid = t ∧ e.idx = n) →
      (r.kind ≠ .raced ∧ (specStep r.op (replay s₀ (c.log.take r.inv))).1 = r.res) ∨
      (r.kind = .raced ∧ opGen r.op = true ∧ r.res = .error .aborted) := by
  intro c t n r hr halone
  exact sequential_of_uncontended ((Inv.init s₀ progs).run env sched) hr halone

/-- If a call reported success and no later commit touches its id, the stored value is the value that call returned
(absent, for a Delete): a success is never silently overwritten by a stale write. -/
theorem C02_last_success_is_stored (env : Env) (s₀ : SStore M) (progs : Nat → List (Op M)) (sched : List Nat) :
    let c : Config M := run true env (initCfg s₀ progs) sched
    (∀ (t n : Nat) (r : Rec M) (u : UpdOp M) (v : M), (c.threads t).done[n]? = some r → r.op = .upd u →
        r.res = .ok (some v) → (∀ k e, r.lin < k → c.log[k]? = some e → opId e.op ≠ u.id) →
        absS c.store u.id = some v) ∧
    (∀ (t n : Nat) (r : Rec M) (d : DelOp M) (b : M), (c.threads t).done[n]? = some r → r.op = .del d →
        r.res = .ok (some b) → (∀ k e, r.lin < k → c.log[k]? = some e → opId e.op ≠ d.id) →
        absS c.store d.id = none) := by
  intro c
  have h := (Inv.init s₀ progs).run env sched
  constructor
  · intro t n r u v hr hop hres hq
    obtain ⟨_, _, _, _, _, hafter⟩ := cas_of_ok h hr hop hres
    rw [stored_after_last h u.id hr hres hq]
    exact hafter
  · intro t n r d b hr hop hres hq
    rw [stored_after_last h d.id hr hres hq]
    exact (del_of_ok h hr hop hres).2.2

/-- A Delete in flight is in one of at most five attempts, and every attempt but the first was caused by a commit of
another call since the previous look. -/
theorem C02_delete_attempts_bounded (env : Env) (s₀ : SStore M) (progs : Nat → List (Op M)) (sched : List Nat) :
    let c : Config M := run true env (initCfg s₀ progs) sched
    ∀ (t : Nat) (d : DelOp M) (seen : Option (Nat × M)) (attempt : Nat),
      (c.threads t).pc = .dTry d seen attempt →
      attempt < 5 ∧ (∃ ks, RivalCommits c.log d.id (c.threads t).invAt c.log.length attempt ks) ∧
      -- the item it will check is the one that was stored when it last looked
      (replay s₀ (c.log.take (c.threads t).readAt)) d.id = seen.map (·.2) := by
  intro c t d seen attempt hpc
  have h := (Inv.init s₀ progs).run env sched
  obtain ⟨_, h2, h3, h4, _, _, ks, h7, h8, h9⟩ := (PcOK.dTry hpc).mp (h.thr t).pc
  refine ⟨h3, ⟨ks, h7, h8, ?_⟩, h4⟩
  intro k hk
  obtain ⟨ha, hb, he⟩ := h9 k hk
  exact ⟨ha, Nat.lt_of_lt_of_le hb h2, he⟩

/-- A successful expect-absent write (in particular `Add("")` with `WithGenIDIfAbsent`, whatever id the generator
proposed) found its id absent at the instant of its commit and holds it right after. -/
theorem C02_add_takes_an_absent_id (env : Env) (s₀ : SStore M) (progs : Nat → List (Op M)) (sched : List Nat) :
    let c : Config M := run true env (initCfg s₀ progs) sched
    ∀ (t n : Nat) (r : Rec M) (u : UpdOp M) (v : M), (c.threads t).done[n]? = some r → r.op = .upd u →
      u.expectAbsent = true → u.isValue = false → r.res = .ok (some v) →
      (replay s₀ (c.log.take r.lin)) u.id = none ∧ (replay s₀ (c.log.take (r.lin + 1))) u.id = some v := by
  intro c t n r u v hr hop hea hv hres
  have h := (Inv.init s₀ progs).run env sched
  obtain ⟨old, hread, _, _, _, hafter⟩ := cas_of_ok h hr hop hres
  exact ⟨specRead_expectAbsent hread hea hv, hafter⟩

/-- If two different calls `Add("")` with `WithGenIDIfAbsent` both report success and were given the same id — by
ANY generator, in any interleaving — then a committed Delete of that id lies between their commits. -/
theorem C02_generated_ids_never_collide (env : Env) (s₀ : SStore M) (progs : Nat → List (Op M)) (sched : List Nat) :
    let c : Config M := run true env (initCfg s₀ progs) sched
    ∀ (t₁ n₁ : Nat) (r₁ : Rec M) (t₂ n₂ : Nat) (r₂ : Rec M) (u₁ u₂ : UpdOp M) (v₁ v₂ : M),
      (c.threads t₁).done[n₁]? = some r₁ → (c.threads t₂).done[n₂]? = some r₂ →
      r₁.op = .upd u₁ → r₂.op = .upd u₂ → u₁.genId = true → u₂.genId = true →
      u₁.expectAbsent = true → u₂.expectAbsent = true → u₁.isValue = false → u₂.isValue = false →
      u₁.id = u₂.id → r₁.res = .ok (some v₁) → r₂.res = .ok (some v₂) → ¬ (t₁ = t₂ ∧ n₁ = n₂) →
      ∃ (k : Nat) (e : Entry M) (d : DelOp M), min r₁.lin r₂.lin < k ∧ k < max r₁.lin r₂.lin ∧
        c.log[k]? = some e ∧ e.op = .del d ∧ d.id = u₁.id := by
  -- holds of any two expect-absent writes: the generator plays no part, the two `genId` hypotheses are not used
  intro c t₁ n₁ r₁ t₂ n₂ r₂ u₁ u₂ v₁ v₂ h1 h2 ho1 ho2 _ _ hea1 hea2 hv1 hv2 hid hr1 hr2 hne
  have h := (Inv.init s₀ progs).run env sched
  rcases Nat.lt_trichotomy r₁.lin r₂.lin with hlt | heq | hgt
  · obtain ⟨k, e, d, a, b, c', d', e'⟩ := add_exclusive h h1 h2 ho1 ho2 hid hea2 hv2 hr1 hr2 hlt
    exact ⟨k, e, d, by rw [Nat.min_eq_left (Nat.le_of_lt hlt)]; exact a,
      by rw [Nat.max_eq_right (Nat.le_of_lt hlt)]; exact b, c', d', by rw [hid]; exact e'⟩
  · -- one index, one log entry, one owner
    exfalso
    obtain ⟨⟨tm1, hl1⟩, _⟩ := once_of_ok h h1 hr1
    obtain ⟨⟨tm2, hl2⟩, _⟩ := once_of_ok h h2 hr2
    rw [heq, hl2] at hl1
    have := Option.some.inj hl1
    injection this with ht hn _ _
    exact hne ⟨ht.symm, hn.symm⟩
  · obtain ⟨k, e, d, a, b, c', d', e'⟩ := add_exclusive h h2 h1 ho2 ho1 hid.symm hea1 hv1 hr2 hr1 hgt
    exact ⟨k, e, d, by rw [Nat.min_eq_right (Nat.le_of_lt hgt)]; exact a,
      by rw [Nat.max_eq_left (Nat.le_of_lt hgt)]; exact b, c', d', e'⟩

/-- **Change times are stamps, not versions.**  The change time stored with a value (`Value.changeTime`,
`item.changeTime`, written by the `SaveFn`s under the write lock) is the update time of the last committed
write of that id in commit order — the caller's `WithWriteTime` if given, else what the clock showed at the
commit step — and 0 (the constructor's instant) if there is none.  Nothing makes it unique or increasing; the
re-validation compares contents, never stamps. -/
theorem C02_change_time_is_last_committed_write (env : Env) (s₀ : SStore M) (progs : Nat → List (Op M))
    (sched : List Nat) :
    let c : Config M := run true env (initCfg s₀ progs) sched
    c.stamp = stampOf c.log ∧
    ∀ (e : Entry M), e ∈ c.log → ∀ (u : UpdOp M), e.op = .upd u →
      ∃ k, 1 ≤ k ∧ k < c.tick ∧ e.time = (match u.writeTime with | some w => w | none => env.clock k) := by
  intro c
  have h := (SInv.init env s₀ progs).run true sched
  exact ⟨h.stamp, h.times⟩

/-- For every environment `env` (here an auto-bound implicit argument: it stands in no binder of the signature): on an `Int`
counter stored under id `i`, if every operation of every program that
targets `i` is an unconditional read-modify-write `old ↦ old + δ` (and no call generates its id), then at
every moment the stored value is the initial one plus the sum of the `δ` of the commit-log entries on `i` —
and by `C02_exactly_once` those entries are, one for one, the calls that reported success.  (An absent
counter stays absent: every increment is refused with NotFound and none is counted.) -/
theorem C02_no_lost_increment (s₀ : SStore Int) (progs : Nat → List (Op Int)) (sched : List Nat)
    (i : Nat)
    (hprog : ∀ t op, op ∈ progs t → (opGen op = true ∨ opId op = i) → ∃ δ, op = incOp i δ) :
    let c : Config Int := run true env (initCfg s₀ progs) sched
    absS c.store i
      = (s₀ i).map (fun v₀ => v₀ + ((c.log.filter (fun e => opId e.op == i)).map (fun e => incDelta e.op)).sum) := by
  intro c
  have h := (Inv.init s₀ progs).run env sched
  rw [h.store]
  apply replay_incs s₀ c.log i
  intro e he hid
  obtain ⟨k, hk⟩ := List.getElem?_of_mem he
  obtain ⟨r, v, hr, _, hop, _⟩ := owner_of_entry h hk
  obtain ⟨op', hop', hfg⟩ := done_op_in_prog env s₀ progs sched hr
  -- the program has no generate-id call, so `forget` changed nothing
  have hng' : opGen op' = false := by
    cases hg : opGen op' with
    | false => rfl
    | true =>
      obtain ⟨δ, hδ⟩ := hprog e.tid op' hop' (Or.inl hg)
      rw [hδ] at hg
      simp [opGen, incOp] at hg
  have hng : opGen r.op = false := by
    rw [← opGen_forget, ← hfg, opGen_forget]; exact hng'
  rw [← hop] at hid ⊢
  exact hprog e.tid r.op (done_op_mem_prog env s₀ progs sched hr hng) (Or.inr hid)

/-- Every finished call that generated its id and did not report Aborted was given an id absent from the contents at
the instant of its invocation: `Collection.genID` skips stored candidates under the read lock. -/
theorem C02_generated_id_was_free (env : Env) (s₀ : SStore M) (progs : Nat → List (Op M)) (sched : List Nat) :
    let c : Config M := run true env (initCfg s₀ progs) sched
    ∀ (t n : Nat) (r : Rec M), (c.threads t).done[n]? = some r → opGen r.op = true → r.res ≠ .error .aborted →
      r.inv ≤ c.log.length ∧ (replay s₀ (c.log.take r.inv)) (opId r.op) = none := by
  intro c t n r hr hg hres
  have h := (Inv.init s₀ progs).run env sched
  have hgi := (GInv.init s₀ progs).run (Inv.init s₀ progs) env sched
  obtain ⟨a, b, d⟩ := (h.recOK hr).bounds
  exact ⟨Nat.le_trans a (Nat.le_trans b d), (hgi t).recs n r hr hres hg⟩

/-- As `C02_no_lost_increment` (`env` again auto-bound), on a counter that exists under id `i`, when only the
operations that NAME `i` are known to be increments: the programs may contain any number of generate-id calls
(`Add("")` with `WithGenIDIfAbsent`, with any options and any id generator, e.g. one that keeps proposing `i`) — a
generated id never lands on the counter. -/
theorem C02_no_lost_increment_next_to_generated_ids (s₀ : SStore Int) (progs : Nat → List (Op Int))
    (sched : List Nat) (i : Nat) (v₀ : Int) (hpres : s₀ i = some v₀)
    (hprog : ∀ t op, op ∈ progs t → opGen op = false → opId op = i → ∃ δ, op = incOp i δ) :
    let c : Config Int := run true env (initCfg s₀ progs) sched
    absS c.store i
      = some (v₀ + ((c.log.filter (fun e => opId e.op == i)).map (fun e => incDelta e.op)).sum) ∧
    ∀ e, e ∈ c.log → opId e.op = i → opGen e.op = false := by
  intro c
  have h := (Inv.init s₀ progs).run env sched
  have hgi := (GInv.init s₀ progs).run (Inv.init s₀ progs) env sched
  -- an entry on `i` that did not generate its id is an increment: it stands in a program under that very id
  have nongen : ∀ (k : Nat) (e : Entry Int), c.log[k]? = some e → opId e.op = i → opGen e.op = false →
      ∃ δ, e.op = incOp i δ := by
    intro k e hk hid hng
    obtain ⟨r, v, hr, _, hop, _⟩ := owner_of_entry h hk
    rw [← hop] at hid hng ⊢
    exact hprog e.tid r.op (done_op_mem_prog env s₀ progs sched hr hng) hng hid
  -- nothing deletes the counter: a Delete does not generate its id, so a Delete on `i` would be an increment
  have noGen := no_gen_on_present h hgi (i := i) (by rw [hpres]; rfl) (by
    intro k e d he hdel hdid
    obtain ⟨δ, hδ⟩ := nongen k e he (by rw [hdel]; exact hdid) (by rw [hdel]; rfl)
    rw [hδ] at hdel
    simp [incOp] at hdel)
  refine ⟨?_, noGen⟩
  rw [h.store, replay_incs s₀ c.log i ?_, hpres]
  · rfl
  · intro e he hid
    obtain ⟨k, hk⟩ := List.getElem?_of_mem he
    exact nongen k e hk hid (noGen e he hid)

/-! ### The defect repaired by 41c35d0, on the model of the code as it was

Before the fix the re-validation read of the create path returned the provisional `created` message
without looking at the map again, so the equality check passed although another writer had created the
id in between. -/

/-- two threads, each one `Add(id 0, v)` -/
def addOp (v : Int) : Op Int :=
  .upd { id := 0, isValue := false, expectAbsent := true, createIfAbsent := true, expect := none,
         check := fun _ => none, f := fun _ => v }

/-- a fixed environment for the concrete runs: a frozen clock, a generator that always proposes id 7 -/
def env₀ : Env := ⟨fun _ => 0, fun _ _ => 7⟩

def twoAdds : Nat → List (Op Int) := fun t => if t = 0 then [addOp 1] else if t = 1 then [addOp 2] else []

/-- the witness schedule: both read (absent), both run the change function, both commit -/
def twoAddsSched : List Nat := [0, 1, 0, 1, 0, 1]

def unfixedRun : Config Int := run false env₀ (initCfg (fun _ => none) twoAdds) twoAddsSched
def fixedRun : Config Int := run true env₀ (initCfg (fun _ => none) twoAdds) twoAddsSched

/-- **Unfixed code: two overlapping Adds of one id both succeed** and the second overwrites the first. -/
theorem C02_unfixed_two_adds_both_succeed :
    (unfixedRun.threads 0).done.map (·.res) = [.ok (some 1)] ∧
    (unfixedRun.threads 1).done.map (·.res) = [.ok (some 2)] ∧
    absS unfixedRun.store 0 = some 2 := by
  decide +kernel

/-- On the fixed code the same schedule makes the second Add lose with Aborted and leaves the first value. -/
example :
    (fixedRun.threads 0).done.map (·.res) = [.ok (some 1)] ∧
    (fixedRun.threads 1).done.map (·.res) = [.error .aborted] ∧
    absS fixedRun.store 0 = some 1 := by
  decide +kernel

/-! ### Non-vacuity: runs that reach every kind of outcome -/

def incRun : Config Int :=
  run true env₀ (initCfg (fun i => if i = 0 then some 100 else none) (fun t => if t < 2 then [incOp 0 5] else []))
    [0, 1, 0, 1, 0, 1]

/-- increments by two threads with an interleaved read: one aborts, the other's increment is kept -/
example :
    (incRun.threads 0).done.map (·.res) = [.ok (some 105)] ∧
    (incRun.threads 1).done.map (·.res) = [.error .aborted] ∧
    (incRun.threads 0).done.map (·.kind) = [.committed] ∧ (incRun.threads 1).done.map (·.kind) = [.raced] ∧
    absS incRun.store 0 = some 105 ∧ incRun.log.length = 1 := by
  decide +kernel

/-- the same race under a frozen clock: the stamp does not move (0 = 0), the loser is still detected -/
example : incRun.stamp 0 = 0 ∧ incRun.tick = 7 := by decide +kernel

def incAt42 : Op Int :=
  .upd { id := 0, isValue := false, expectAbsent := false, createIfAbsent := false, expect := none,
         check := fun _ => none, f := fun old => old.getD 0 + 1, writeTime := some 42 }

/-- `WithWriteTime 42`: that is the stored change time -/
example :
    (run true env₀ (initCfg (fun i => if i = 0 then some (100 : Int) else none)
      (fun t => if t = 0 then [incAt42] else [])) [0, 0, 0]).stamp 0 = 42 := by decide +kernel

/-- `Add("")` with `WithGenIDIfAbsent` -/
def genAdd (v : Int) : Op Int :=
  .upd { id := 0, isValue := false, expectAbsent := true, createIfAbsent := true, expect := none,
         check := fun _ => none, f := fun _ => v, genId := true }

/-- two generate-id Adds whose generator proposes the same id (7) to both before either commits -/
def genRun : Config Int :=
  run true env₀ (initCfg (fun _ => none) (fun t => if t = 0 then [genAdd 1] else if t = 1 then [genAdd 2] else []))
    [0, 1, 0, 1, 0, 1]

/-- only one of them gets the id; the other one loses with Aborted and has no effect -/
example :
    (genRun.threads 0).done.map (·.res) = [.ok (some 1)] ∧ (genRun.threads 1).done.map (·.res) = [.error .aborted] ∧
    (genRun.threads 0).done.map (fun r => opId r.op) = [7] ∧ absS genRun.store 7 = some 1 ∧ genRun.rng = 2 := by
  decide +kernel

/-- one after the other: the second call's ten candidates are all taken, generation gives up with Aborted -/
example :
    ((run true env₀ (initCfg (fun _ => none) (fun t => if t = 0 then [genAdd 1, genAdd 2] else []))
      [0, 0, 0, 0]).threads 0).done.map (fun r => (r.res, r.kind)) = [(.ok (some 1), .committed), (.error .aborted, .raced)] := by
  decide +kernel

/-- a generator that moves on: candidate = number of the read; the second call skips nothing and gets id 1 -/
example :
    ((run true ⟨fun _ => 0, fun n _ => n⟩ (initCfg (fun i => if i = 0 then some (5 : Int) else none)
      (fun t => if t = 0 then [genAdd 1] else []))
      [0, 0, 0]).threads 0).done.map (fun r => (opId r.op, r.res)) = [(1, .ok (some 1))] := by
  decide +kernel

def inc1 : Op Int := incOp 0 1

/-- a Delete whose item is replaced before each of its five attempts gives up with Unavailable;
five commits of the rival lie inside its interval -/
def giveUpRun : Config Int :=
  run true env₀ (initCfg (fun i => if i = 0 then some 0 else none)
    (fun t => if t = 0 then [.del ⟨0, false, none, fun _ => none⟩] else if t = 1 then [inc1, inc1, inc1, inc1, inc1] else []))
    [0, 1, 1, 1, 0, 1, 1, 1, 0, 1, 1, 1, 0, 1, 1, 1, 0, 1, 1, 1, 0]

example :
    (giveUpRun.threads 0).done.map (fun r => (r.res, r.kind, r.inv, r.resp)) = [(.error .unavailable, .raced, 0, 5)] ∧
    giveUpRun.log.map (fun e => (e.tid, opId e.op)) = [(1, 0), (1, 0), (1, 0), (1, 0), (1, 0)] ∧
    absS giveUpRun.store 0 = some 5 := by
  decide +kernel

def delRun : Config Int :=
  run true env₀ (initCfg (fun i => if i = 0 then some 7 else none)
    (fun t =>
      if t = 0 then [.del ⟨0, false, none, fun _ => none⟩, .del ⟨0, false, none, fun _ => none⟩]
      else if t = 1 then [incOp 0 1] else []))
    [0, 1, 1, 1, 0, 0, 0, 0]

/-- a Delete whose item is replaced between its read and its lock retries and then deletes the new version;
a second Delete finds nothing -/
example :
    (delRun.threads 0).done.map (·.res) = [.ok (some 8), .error .notFound] ∧
    (delRun.threads 0).done.map (·.kind) = [.committed, .refused] ∧
    (delRun.threads 1).done.map (·.res) = [.ok (some 8)] ∧ absS delRun.store 0 = none := by
  decide +kernel

/-- the linearization of that run: the increment, the Delete that retried, then the refused second Delete;
executing it on the specification from the initial contents ends with id 0 absent -/
example :
    (linSeq (fun i => if i = 0 then some 7 else none) delRun.log delRun.refusedAt).map
      (fun ev => (ev.tid, ev.idx, ev.lin, ev.committed, ev.res)) =
      [(1, 0, 0, true, .ok (some 8)), (0, 0, 1, true, .ok (some 8)), (0, 1, 2, false, .error .notFound)] ∧
    ((seqRun (fun i => if i = 0 then some 7 else none)
      (linSeq (fun i => if i = 0 then some 7 else none) delRun.log delRun.refusedAt)).map (fun s => s 0)) = some none := by
  decide +kernel

/-- refused calls are filed under the index of the contents they read: two Adds of a present id -/
example :
    ((run true env₀ (initCfg (fun i => if i = 0 then some (7 : Int) else none)
        (fun t => if t < 2 then [addOp 1] else [])) [0, 1]).refusedAt 0).map (fun ev => (ev.tid, ev.idx, ev.res)) =
      [(0, 0, .error .alreadyExists), (1, 0, .error .alreadyExists)] := by
  decide +kernel

/-- step-level real time: two Adds of a present id, one after the other, both refused under linearization index 0
while the log stands still; log-length stamps cannot order them (0 ≤ 0), the step stamps do, and the sequence
lists them as they responded -/
def twoRefused : Config Int × Times :=
  trun true env₀ (initCfg (fun i => if i = 0 then some (7 : Int) else none) (fun t => if t < 2 then [addOp 1] else []))
    {} [0, 1]

example :
    (twoRefused.2.invT 0 0, twoRefused.2.respT 0 0, twoRefused.2.invT 1 0, twoRefused.2.respT 1 0) = (1, 1, 2, 2) ∧
    ((twoRefused.1.threads 0).done.map (fun r => (r.inv, r.resp))) = [(0, 0)] ∧
    ((twoRefused.1.threads 1).done.map (fun r => (r.inv, r.resp))) = [(0, 0)] ∧
    (linSeq (fun i => if i = 0 then some (7 : Int) else none) twoRefused.1.log twoRefused.1.refusedAt).map
      (fun ev => (ev.tid, ev.idx)) = [(0, 0), (1, 0)] := by
  decide +kernel

/-- an increment that overlaps a Delete's retry: invocation and response steps, and the log lengths at those steps -/
example :
    let cg := trun true env₀ (initCfg (fun i => if i = 0 then some (7 : Int) else none)
      (fun t => if t = 0 then [.del ⟨0, false, none, fun _ => none⟩] else if t = 1 then [incOp 0 1] else []))
      {} [0, 1, 1, 1, 0, 0]
    (cg.2.invT 0 0, cg.2.respT 0 0, cg.2.invT 1 0, cg.2.respT 1 0) = (1, 6, 2, 4) ∧
    (List.range 8).map cg.2.lenAt = [0, 0, 0, 0, 0, 1, 1, 2] ∧ cg.1.tick = 7 := by
  decide +kernel

/-- a generator that keeps proposing the counter's own id: the generate-id Add gives up (Aborted), the increment
next to it is kept — the hypotheses of `C02_no_lost_increment_next_to_generated_ids` are met by this program -/
def genOnCounter : Config Int :=
  run true ⟨fun _ => 0, fun _ _ => 0⟩ (initCfg (fun i => if i = 0 then some 100 else none)
    (fun t => if t = 0 then [incOp 0 5] else if t = 1 then [genAdd 1] else [])) [0, 1, 0, 0]

example :
    (genOnCounter.threads 0).done.map (·.res) = [.ok (some 105)] ∧
    (genOnCounter.threads 1).done.map (·.res) = [.error .aborted] ∧
    absS genOnCounter.store 0 = some 105 ∧ genOnCounter.rng = 10 := by
  decide +kernel

example : ∀ t op, op ∈ (fun t => if t = 0 then [incOp 0 5] else if t = 1 then [genAdd 1] else []) t →
    opGen op = false → opId op = 0 → ∃ δ, op = incOp 0 δ := by
  intro t op hop hg hid
  by_cases h0 : t = 0
  · simp [h0] at hop; exact ⟨5, hop⟩
  · by_cases h1 : t = 1
    · simp [h1] at hop; rw [hop] at hg; simp [genAdd, opGen] at hg
    · simp [h0, h1] at hop

/-- the generated id 7 of `genRun` was free at the invocation of the call that took it -/
example :
    (genRun.threads 0).done.map (fun r => (opGen r.op, opId r.op, r.inv)) = [(true, 7, 0)] ∧
    (replay (fun _ => (none : Option Int)) (genRun.log.take 0)) 7 = none := by
  decide +kernel

end ScVerif.C02
