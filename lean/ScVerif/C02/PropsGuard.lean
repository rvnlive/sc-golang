import ScVerif.C02.Props
/-!
# C02 — property theorems about the library's own guarded writers

"A write with an expected value or check succeeds only if the stored value satisfied it at the instant of the
write … and a Delete never removes a version its precondition did not see."  Two users of the write path inside the
library rely on exactly that; their obligations are stated here on the model of the write path:

* the SWEEP of expired hails (`hailpb.Model.gc`, run by `CreateHail`): `List`, then per hail its expiry test
  accepted a `Delete(allow missing, expected value = the listed copy)` — with other writers between the `List` and
  the `Delete` and inside the `Delete`'s own read / lock window, which makes it retry;
* ACKNOWLEDGEMENTS of a publication (`publicationpb.ModelServer.AcknowledgePublication`): a check-guarded masked
  `Update` whose check refuses a version that is already acknowledged and which stores an acknowledged version.
-/
namespace ScVerif.C02

variable {M : Type} [DecidableEq M] [Msg M]

/-- A Delete that was given the expected value `v` (the sweep: the copy its `List` returned, on which it took its
expiry decision) and reports that it removed `b`: then `b = v`, `v` is what the id held at the instant of the
removal, and so every predicate of the listed copy — "expired" — holds of the version removed. -/
theorem C02_guarded_delete_removes_the_listed_version (env : Env) (s₀ : SStore M) (progs : Nat → List (Op M))
    (sched : List Nat) :
    let c : Config M := run true env (initCfg s₀ progs) sched
    ∀ (t n : Nat) (r : Rec M) (d : DelOp M) (v b : M), (c.threads t).done[n]? = some r → r.op = .del d →
      d.expect = some v → r.res = .ok (some b) →
      b = v ∧ (replay s₀ (c.log.take r.lin)) d.id = some v ∧ (replay s₀ (c.log.take (r.lin + 1))) d.id = none ∧
      ∀ expired : M → Prop, expired v → expired b := by
  intro c t n r d v b hr hop hex hres
  obtain ⟨h1, h2, h3⟩ := del_of_ok ((Inv.init s₀ progs).run env sched) hr hop hres
  have hb := DelOp.pre_none_expect h2 hex
  subst hb
  exact ⟨rfl, h1, h3, fun _ hp => hp⟩

/-- Thread `t` runs the sweep: every Delete of ITS program carries an expected value — the copy its `List` returned
— and that copy is expired.  Then every hail thread `t` reports removed was removed in an expired version, which is
what the id held at that instant.  (The program of the thread is what the harness hands the model for an observed
execution of `CreateHail`: tie `hail-sweep`.) -/
theorem C02_sweep_removes_only_expired_hails (env : Env) (s₀ : SStore M) (progs : Nat → List (Op M))
    (sched : List Nat) (expired : M → Prop) (t : Nat)
    (hsweep : ∀ d : DelOp M, Op.del d ∈ progs t → ∃ v, d.expect = some v ∧ expired v) :
    let c : Config M := run true env (initCfg s₀ progs) sched
    ∀ (n : Nat) (r : Rec M) (d : DelOp M) (b : M), (c.threads t).done[n]? = some r → r.op = .del d →
      r.res = .ok (some b) → expired b ∧ (replay s₀ (c.log.take r.lin)) d.id = some b := by
  intro c n r d b hr hop hres
  have hmem : Op.del d ∈ progs t := by
    rw [← hop]
    exact done_op_mem_prog env s₀ progs sched hr (by rw [hop]; rfl)
  obtain ⟨v, hex, hv⟩ := hsweep d hmem
  obtain ⟨hb, hcell, _, _⟩ := C02_guarded_delete_removes_the_listed_version env s₀ progs sched t n r d v b hr hop hex hres
  subst hb
  exact ⟨hv, hcell⟩

/-- Let `acked` be any predicate on messages (the receipt is ACCEPTED or REJECTED).  Call 1 stores a message that
satisfies it; call 2 — on the same id — carries a check that refuses every stored message satisfying it.  If both
report success and call 1 is linearized first, some OTHER committed call on that id lies strictly between them: two
acknowledgements of one version never both succeed. -/
theorem C02_guarded_writes_exclude_each_other (env : Env) (s₀ : SStore M) (progs : Nat → List (Op M))
    (sched : List Nat) (acked : M → Prop) :
    let c : Config M := run true env (initCfg s₀ progs) sched
    ∀ (t₁ n₁ : Nat) (r₁ : Rec M) (t₂ n₂ : Nat) (r₂ : Rec M) (u₁ u₂ : UpdOp M) (v₁ v₂ : M),
      (c.threads t₁).done[n₁]? = some r₁ → (c.threads t₂).done[n₂]? = some r₂ →
      r₁.op = .upd u₁ → r₂.op = .upd u₂ → u₁.id = u₂.id →
      (∀ old, acked (u₁.f old)) → (∀ b, acked b → u₂.check (some b) ≠ none) →
      r₁.res = .ok (some v₁) → r₂.res = .ok (some v₂) → r₁.lin < r₂.lin →
      ∃ (k : Nat) (e : Entry M), r₁.lin < k ∧ k < r₂.lin ∧ c.log[k]? = some e ∧ opId e.op = u₂.id := by
  intro c t₁ n₁ r₁ t₂ n₂ r₂ u₁ u₂ v₁ v₂ h1 h2 ho1 ho2 hid hw hck hr1 hr2 hlt
  exact guarded_exclusive ((Inv.init s₀ progs).run env sched) acked h1 h2 ho1 ho2 hid hw hck hr1 hr2 hlt

/-- the hail 4 is `1` (expired) at first; thread 0 is the sweep's Delete of hail 4 with a check that is constantly
satisfied (the expiry test evaluated on the listed copy instead of on the message it is handed), thread 1 a
re-dispatch that stores `7` (not expired) -/
def unguardedSweep : Config Int :=
  run true env₀ (initCfg (fun i => if i = 4 then some 1 else none)
      (fun t =>
        if t = 0 then [.del ⟨4, true, none, fun _ => none⟩]
        else if t = 1 then [.upd { id := 4, isValue := false, expectAbsent := false, createIfAbsent := false,
                                   expect := none, check := fun _ => none, f := fun _ => 7 }]
        else []))
    [0, 1, 1, 1, 0, 0]

/-- **An unguarded sweep (NOT the code) removes a version it never judged**: the re-dispatch reports success and its hail is gone. -/
theorem C02_unguarded_sweep_removes_a_fresh_version :
    (unguardedSweep.threads 1).done.map (·.res) = [.ok (some 7)] ∧
    (unguardedSweep.threads 0).done.map (·.res) = [.ok (some 7)] ∧
    absS unguardedSweep.store 4 = none := by
  decide +kernel

/-- the sweep of the code on the same schedule (expected value = the listed copy `1`): refused, the hail stays -/
example :
    let c : Config Int := run true env₀ (initCfg (fun i => if i = 4 then some 1 else none)
      (fun t =>
        if t = 0 then [.del ⟨4, true, some 1, fun _ => none⟩]
        else if t = 1 then [.upd { id := 4, isValue := false, expectAbsent := false, createIfAbsent := false,
                                   expect := none, check := fun _ => none, f := fun _ => 7 }]
        else []))
      [0, 1, 1, 1, 0, 0]
    (c.threads 0).done.map (·.res) = [.error .failedPrecondition] ∧ absS c.store 4 = some 7 := by
  decide +kernel

/-- non-vacuity of `C02_guarded_delete_removes_the_listed_version`: an undisturbed sweep removes the listed hail -/
example :
    let c : Config Int := run true env₀ (initCfg (fun i => if i = 4 then some 1 else none)
      (fun t => if t = 0 then [.del ⟨4, true, some 1, fun _ => none⟩] else [])) [0, 0]
    (c.threads 0).done.map (·.res) = [.ok (some 1)] ∧ absS c.store 4 = none := by
  decide +kernel

/-- an acknowledgement with the receipt `r` (a message is its receipt: 0 none, 2 ACCEPTED, 3 REJECTED) -/
def ackOp (r : Int) : Op Int :=
  .upd { id := 5, isValue := false, expectAbsent := false, createIfAbsent := false, expect := none,
         check := fun old => if old.getD 0 ≥ 2 then some .failedPrecondition else none, f := fun _ => r }

/-- non-vacuity of `C02_guarded_writes_exclude_each_other`: two acknowledgements (the check refuses a message ≥ 2,
the write stores 2 / 3) interleaved read-read-commit-commit: the first succeeds, the second loses the race; run one
after the other, the second is refused by its check -/
example :
    let progs : Nat → List (Op Int) := fun t => if t = 0 then [ackOp 2] else if t = 1 then [ackOp 3] else []
    let c₁ : Config Int := run true env₀ (initCfg (fun i => if i = 5 then some 0 else none) progs) [0, 1, 0, 1, 0, 1]
    let c₂ : Config Int := run true env₀ (initCfg (fun i => if i = 5 then some 0 else none) progs) [0, 0, 0, 1, 1, 1]
    (c₁.threads 0).done.map (·.res) = [.ok (some 2)] ∧ (c₁.threads 1).done.map (·.res) = [.error .aborted] ∧
    (c₂.threads 0).done.map (·.res) = [.ok (some 2)] ∧ (c₂.threads 1).done.map (·.res) = [.error .failedPrecondition] := by
  decide +kernel

end ScVerif.C02
