import ScVerif.C02.Inv
/-!
# C02 — every atomic step of the (fixed) code preserves the invariant; hence every schedule does

A step leaves its thread in flight with a new assertion (`Inv.setThread`), finishes a call without effect
(`Inv.finish_local`) or commits (`Inv.commit`); the `Inv.step*` supply per branch what these ask for: what was read,
why a re-validation failed, which pointer changed.
-/
namespace ScVerif.C02

variable {M : Type} [DecidableEq M] [Msg M]

theorem PcOK_congr {s₀ : SStore M} {log store nr} {th th' : Thread M}
    (hpc : th'.pc = th.pc) (hi : th'.invAt = th.invAt) (hr : th'.readAt = th.readAt)
    (h : PcOK s₀ log store nr th) : PcOK s₀ log store nr th' := by
  unfold PcOK at h ⊢
  rw [hpc, hi, hr]; exact h

theorem Inv.finish_local {s₀ : SStore M} {c : Config M} (h : Inv s₀ c) (t : Nat) (th : Thread M)
    (hdone : th.done = (c.threads t).done) (op : Op M) (res : Res M) (kind : Kind) (lin : Nat)
    (hrec : RecOK s₀ c.log t th.done.length ⟨op, res, kind, th.invAt, lin, c.log.length⟩) :
    Inv s₀ (c.setThread t (th.finish op res kind lin c.log.length)) := by
  apply h.setThread
  · refine ⟨?_, PcOK_idle rfl⟩
    simp only [Thread.finish]
    apply forall_getElem?_snoc
    · rw [hdone]; exact (h.thr t).recs
    · exact hrec
  · exact ⟨[⟨op, res, kind, th.invAt, lin, c.log.length⟩], by simp [Thread.finish, hdone]⟩

theorem Inv.finish_refused {s₀ : SStore M} {c : Config M} (h : Inv s₀ c) (t : Nat) (th : Thread M)
    (hdone : th.done = (c.threads t).done) (op : Op M) (res : Res M) (lin : Nat)
    (h1 : th.invAt ≤ lin) (h2 : lin ≤ c.log.length)
    (hspec : specStep op (replay s₀ (c.log.take lin)) = (res, replay s₀ (c.log.take lin)))
    (hres : res = .ok none ∨ ∃ e, res = .error e) :
    Inv s₀ (c.setThread t (th.finish op res .refused lin c.log.length)) :=
  h.finish_local t th hdone op res .refused lin (.of_refused rfl ⟨h1, h2, Nat.le_refl _⟩ hspec hres)

theorem Inv.finish_raced {s₀ : SStore M} {c : Config M} (h : Inv s₀ c) (t : Nat) (th : Thread M)
    (hdone : th.done = (c.threads t).done) (op : Op M) (res : Res M) (h1 : th.invAt ≤ c.log.length)
    (hrace : (res = .error .aborted ∧
        (opGen op = true ∨ ∃ ks, RivalCommits c.log (opId op) th.invAt c.log.length 1 ks)) ∨
      (res = .error .unavailable ∧ ∃ ks, RivalCommits c.log (opId op) th.invAt c.log.length 5 ks)) :
    Inv s₀ (c.setThread t (th.finish op res .raced c.log.length c.log.length)) :=
  h.finish_local t th hdone op res .raced c.log.length (.of_raced rfl ⟨h1, Nat.le_refl _, Nat.le_refl _⟩ hrace)

/-- The simulation step: a commit is one step of the specification on the abstract contents (`hspec`).  The log grows
by the entry thread `t` owns, one cell gets a fresh reference, the stepping thread gets the record of the committed
call; the assertions of every other thread survive by `ThreadOK.mono` (the cell replaced is that of the entry's id,
references below `nextRef` are untouched). -/
theorem Inv.commit {s₀ : SStore M} {c : Config M} (h : Inv s₀ c) (t : Nat) (th : Thread M)
    (hth : th = c.threads t) (op : Op M) (v : M) (i : Nat) (cell : Option (Nat × M)) (nr' : Nat)
    (hnr : c.nextRef ≤ nr') (hcell : ∀ r b, cell = some (r, b) → c.nextRef ≤ r ∧ r < nr')
    (hinv : th.invAt ≤ c.log.length)
    (hspec : specStep op (absS c.store) = (.ok (some v), setAt (absS c.store) i (cell.map (·.2))))
    (hopid : opId op = i)
    (tm : Nat) (st : Nat → Nat) (tk rg : Nat) (ra : Nat → List (Ev M)) :
    Inv s₀ { store := setAt c.store i cell
             nextRef := nr'
             log := c.log ++ [⟨t, th.done.length, op, tm⟩]
             threads := setAt c.threads t
               (th.finish op (.ok (some v)) .committed c.log.length (c.log.length + 1))
             stamp := st, tick := tk, rng := rg, refusedAt := ra } := by
  have hst : ∀ j r b, setAt c.store i cell j = some (r, b) → c.store j = some (r, b) ∨ c.nextRef ≤ r := by
    intro j r b hj
    rcases setAt_cases c.store i cell j with ⟨_, h'⟩ | ⟨_, h'⟩ <;> rw [h'] at hj
    · exact Or.inr (hcell r b hj).1
    · exact Or.inl hj
  refine ⟨?_, ?_, ?_, ?_⟩
  · show absS (setAt c.store i cell) = replay s₀ (c.log ++ [⟨t, th.done.length, op, tm⟩])
    rw [replay_snoc, ← h.store, absS_setAt]
    show _ = (specStep op (absS c.store)).2
    rw [hspec]
  · intro j r b hj
    replace hj : setAt c.store i cell j = some (r, b) := hj
    rcases hst j r b hj with h1 | h1
    · have := h.refs j r b h1; show r < nr'; omega
    · rcases setAt_cases c.store i cell j with ⟨_, h'⟩ | ⟨_, h'⟩ <;> rw [h'] at hj
      · exact (hcell r b hj).2
      · have := h.refs j r b hj; show r < nr'; omega
  · intro t'
    show ThreadOK s₀ (c.log ++ _) (setAt c.store i cell) nr' t' (setAt c.threads t _ t')
    rcases setAt_cases c.threads t (th.finish op (.ok (some v)) .committed c.log.length (c.log.length + 1)) t'
      with ⟨heq, h'⟩ | ⟨_, h'⟩ <;> rw [h']
    · subst heq
      refine ⟨?_, PcOK_idle rfl⟩
      simp only [Thread.finish]
      apply forall_getElem?_snoc
      · intro n r hr
        rw [hth] at hr
        exact ((h.thr t').recs n r hr).mono _
      · refine ⟨hinv, by simp, by simp, ?_⟩
        simp only []
        refine ⟨⟨tm, by simp⟩, by simp, ?_, v, rfl⟩
        rw [List.take_append_of_le_length (Nat.le_refl _), List.take_length, ← h.store, hspec]
    · refine (h.thr t').mono _ hnr hst ?_
      intro j hj
      exact setAt_other _ _ (by rw [← hopid]; exact hj)
  · intro k e he
    show ∃ r : Rec M, (setAt c.threads t _ e.tid).done[e.idx]? = some r ∧ _
    by_cases hk : k < c.log.length
    · rw [List.getElem?_append_left hk] at he
      obtain ⟨r, hr, hkind⟩ := h.owned k e he
      refine ⟨r, ?_, hkind⟩
      rcases setAt_cases c.threads t (th.finish op (.ok (some v)) .committed c.log.length (c.log.length + 1)) e.tid
        with ⟨heq, h'⟩ | ⟨_, h'⟩ <;> rw [h']
      · simp only [Thread.finish]
        rw [List.getElem?_append_left]
        · rw [hth, ← heq]; exact hr
        · rw [hth, ← heq]; exact (List.getElem?_eq_some_iff.mp hr).1
      · exact hr
    · have hk' : k = c.log.length := by
        have := (List.getElem?_eq_some_iff.mp he).1
        simp at this; omega
      subst hk'
      simp at he
      subst he
      refine ⟨⟨op, .ok (some v), .committed, th.invAt, c.log.length, c.log.length + 1⟩, ?_, rfl, rfl⟩
      rw [setAt_same]; simp [Thread.finish]

theorem Inv.frame {s₀ : SStore M} {c : Config M} (h : Inv s₀ c) (st : Nat → Nat) (tk rg : Nat)
    (ra : Nat → List (Ev M)) : Inv s₀ { c with stamp := st, tick := tk, rng := rg, refusedAt := ra } :=
  ⟨h.store, h.refs, h.thr, h.owned⟩

theorem resolveId_gen {env : Env} {c : Config M} {u₀ u : UpdOp M} {r : Nat}
    (h : resolveId env c u₀ = (some u, r)) : u.genId = u₀.genId := by
  rcases resolveId_cases env c u₀ with ⟨_, h'⟩ | ⟨_, i, r', h', _⟩ | ⟨_, r', h'⟩
  · rw [h'] at h; cases h; rfl
  · rw [h'] at h; cases h; rfl
  · rw [h'] at h; cases h

theorem resolveId_none {env : Env} {c : Config M} {u₀ : UpdOp M} {r : Nat}
    (h : resolveId env c u₀ = (none, r)) : u₀.genId = true := by
  rcases resolveId_cases env c u₀ with ⟨_, h'⟩ | ⟨hg, _⟩ | ⟨hg, _⟩
  · rw [h'] at h; cases h
  · exact hg
  · exact hg

/-- a Delete looks at its cell under a lock: it is in flight with the item stored now -/
theorem Inv.look {s₀ : SStore M} {c : Config M} (h : Inv s₀ c) (t : Nat) (prog : List (Op M)) (d : DelOp M)
    (attempt i : Nat) (hi : i ≤ c.log.length) (ha : attempt < 5) {ks : List Nat}
    (hks : RivalCommits c.log d.id i c.log.length attempt ks) :
    Inv s₀ (c.setThread t ⟨prog, .dTry d (c.store d.id) attempt, (c.threads t).done, i, c.log.length⟩) := by
  apply h.setThread
  · refine ⟨(h.thr t).recs, (PcOK.dTry rfl).mpr ?_⟩
    refine ⟨hi, Nat.le_refl _, ha, ?_, ?_, fun _ => rfl, ks, hks⟩
    · rw [List.take_length, ← h.store]; rfl
    · intro r b hs
      refine ⟨h.refs _ _ _ hs, ?_⟩
      intro b' hb'
      rw [hs] at hb'
      cases hb'; rfl
  · exact ⟨[], by simp⟩

theorem Inv.stepIdle {s₀ : SStore M} {c : Config M} (h : Inv s₀ c) (env : Env) (t : Nat) :
    Inv s₀ (stepIdle env c t (c.threads t)) := by
  unfold ScVerif.C02.stepIdle
  cases hprog : (c.threads t).prog with
  | nil => exact h
  | cons op rest =>
    cases op with
    | upd u₀ =>
      simp only []
      cases hres : resolveId env c u₀ with
      | mk ou r =>
        have h' : Inv s₀ { c with rng := r } := h.frame c.stamp c.tick r c.refusedAt
        cases ou with
        | none =>
          simp only []
          exact h'.finish_raced t _ (by rfl) _ _ (Nat.le_refl _) (Or.inl ⟨rfl, Or.inl (resolveId_none hres)⟩)
        | some u =>
          simp only []
          cases hread : readUpd u (c.store u.id) with
          | error e =>
            simp only []
            have hs := readUpd_err hread
            refine h'.finish_refused t _ (by rfl) _ _ _ (Nat.le_refl _) (Nat.le_refl _) ?_ (Or.inr ⟨e, rfl⟩)
            rw [List.take_length]
            show specStep (Op.upd u) (replay s₀ c.log) = _
            rw [← h.store]
            exact specUpd_refused_read hs
          | ok p =>
            obtain ⟨rd, created⟩ := p
            simp only []
            obtain ⟨hs, hsh, hagain⟩ := readUpd_ok hread
            apply h'.setThread
            · refine ⟨(h.thr t).recs, (PcOK.uChange rfl).mpr ⟨Nat.le_refl _, Nat.le_refl _, ⟨?_, hsh⟩, fun _ => hagain⟩⟩
              rw [List.take_length]
              show specRead u ((replay s₀ c.log) u.id) = _
              rw [← h.store]; exact hs
            · exact ⟨[], by simp⟩
    | del d =>
      exact h.look t rest d 0 c.log.length (Nat.le_refl _) (by omega)
        ⟨rfl, List.Pairwise.nil, fun k hk => by cases hk⟩

theorem Inv.stepChange {s₀ : SStore M} {c : Config M} (h : Inv s₀ c) (t : Nat)
    (u : UpdOp M) (rd : Option M) (created : Bool)
    (hpc : (c.threads t).pc = .uChange u rd created) :
    Inv s₀ (stepChange c t (c.threads t) u rd created) := by
  obtain ⟨h1, h2, hv, hsame⟩ := (PcOK.uChange hpc).mp (h.thr t).pc
  unfold ScVerif.C02.stepChange
  cases hch : u.change rd with
  | error e =>
    simp only []
    exact h.finish_refused t _ rfl _ _ _ h1 h2 (specUpd_refused_change hv.1 hch) (Or.inr ⟨e, rfl⟩)
  | ok new =>
    simp only []
    apply h.setThread
    · exact ⟨(h.thr t).recs, (PcOK.uCommit rfl).mpr ⟨h1, h2, hv, hch, hsame⟩⟩
    · exact ⟨[], by simp⟩

theorem Inv.stepCommit {s₀ : SStore M} {c : Config M} (h : Inv s₀ c) (t : Nat)
    (u : UpdOp M) (rd : Option M) (created : Bool) (new : M)
    (env : Env) (hpc : (c.threads t).pc = .uCommit u rd created new) :
    Inv s₀ (stepCommit true env c t (c.threads t) u rd created new) := by
  obtain ⟨h1, h2, hv, hch, hsame⟩ := (PcOK.uCommit hpc).mp (h.thr t).pc
  unfold ScVerif.C02.stepCommit
  simp only []
  split
  · next hne =>
    -- Aborted: the cell was rewritten since the first read, so the log has grown
    refine h.finish_raced t _ rfl _ _ (Nat.le_trans h1 h2) (Or.inl ⟨rfl, Or.inr ?_⟩)
    have hnq : ¬ Quiet c.log u.id (c.threads t).readAt := fun hq => hne (hsame hq).symm
    obtain ⟨k, e, hk1, hk2, he, hid⟩ := exists_of_not_quiet hnq
    refine ⟨[k], rfl, List.pairwise_singleton _ _, ?_⟩
    intro x hx
    simp only [List.mem_singleton] at hx
    subst hx
    exact ⟨Nat.le_trans h1 hk1, hk2, e, he, hid⟩
  · next heq =>
    have heq' : rd = secondGet true u created (c.store u.id) := by
      simpa using heq
    have hs := secondGet_sound hv.2 heq'
    have hspec : specStep (.upd u) (absS c.store)
        = (.ok (some new), setAt (absS c.store) u.id ((some (c.nextRef, new)).map (·.2))) := by
      show specUpd u (absS c.store) = _
      exact specUpd_of_read hs hch
    exact Inv.commit h t (c.threads t) rfl (.upd u) new u.id (some (c.nextRef, new)) (c.nextRef + 1)
      (by omega) (by intro r b hrb; cases hrb; omega) (by omega) hspec rfl _ _ _ _ _

theorem Inv.stepDel {s₀ : SStore M} {c : Config M} (h : Inv s₀ c) (t : Nat)
    (d : DelOp M) (seen : Option (Nat × M)) (attempt : Nat)
    (hpc : (c.threads t).pc = .dTry d seen attempt) :
    Inv s₀ (stepDel c t (c.threads t) d seen attempt) := by
  obtain ⟨h1, h2, h3, hview, hseen, hsame, ks, hks⟩ := (PcOK.dTry hpc).mp (h.thr t).pc
  unfold ScVerif.C02.stepDel
  simp only []
  cases seen with
  | none =>
    simp only []
    simp only [Option.map_none] at hview
    refine h.finish_refused t _ rfl _ _ _ h1 h2 ?_ ?_ <;> by_cases ham : d.allowMissing <;>
      simp [specStep, specDel, hview, ham]
  | some p =>
    obtain ⟨r, b⟩ := p
    simp only []
    simp only [Option.map_some] at hview
    cases hpre : d.pre b with
    | some e =>
      simp only []
      exact h.finish_refused t _ rfl _ _ _ h1 h2 (by simp [specStep, specDel, hview, hpre]) (Or.inr ⟨e, rfl⟩)
    | none =>
      simp only []
      split
      · next hchg =>
        -- the pointer changed since the last look: some call committed in between
        have hnq : ¬ Quiet c.log d.id (c.threads t).readAt := by
          intro hq
          apply hchg
          rw [hsame hq]; rfl
        obtain ⟨k, e, hk1, hk2, he, hid⟩ := exists_of_not_quiet hnq
        have hks' := hks.snoc hk1 hk2 he hid h1
        split
        · exact h.look t _ d (attempt + 1) _ (Nat.le_trans h1 h2) (by omega) hks'
        · refine h.finish_raced t _ rfl _ _ (Nat.le_trans h1 h2) (Or.inr ⟨rfl, ks ++ [k], ?_⟩)
          have h5 : attempt + 1 = 5 := by omega
          rw [← h5]; exact hks'
      · next hne =>
        -- the pointer is unchanged: the stored body is the one the checks inspected
        have hcur : ∃ b', c.store d.id = some (r, b') := by
          cases hc : c.store d.id with
          | none => simp [hc] at hne
          | some q =>
            obtain ⟨r', b'⟩ := q
            simp [hc] at hne
            exact ⟨b', by rw [hne]⟩
        obtain ⟨b', hb'⟩ := hcur
        have hbb : b' = b := (hseen r b rfl).2 b' hb'
        subst hbb
        have hspec : specStep (.del d) (absS c.store)
            = (.ok (some b'), setAt (absS c.store) d.id ((none : Option (Nat × M)).map (·.2))) := by
          simp [specStep, specDel, absS, hb', hpre]
        exact Inv.commit h t (c.threads t) rfl (.del d) b' d.id none c.nextRef
          (Nat.le_refl _) (by intro r b hrb; cases hrb) (by omega) hspec rfl _ _ _ _ _

theorem Inv.stepCore {s₀ : SStore M} {c : Config M} (h : Inv s₀ c) (env : Env) (t : Nat) :
    Inv s₀ (stepCore true env c t) := by
  unfold ScVerif.C02.stepCore
  simp only []
  cases hpc : (c.threads t).pc with
  | idle => exact h.stepIdle env t
  | uChange u rd created => exact h.stepChange t u rd created hpc
  | uCommit u rd created new => exact h.stepCommit t u rd created new env hpc
  | dTry d seen attempt => exact h.stepDel t d seen attempt hpc

theorem Inv.step {s₀ : SStore M} {c : Config M} (h : Inv s₀ c) (env : Env) (t : Nat) :
    Inv s₀ (step true env c t) :=
  (h.stepCore env t).frame _ _ _ _

theorem Inv.init (s₀ : SStore M) (progs : Nat → List (Op M)) : Inv s₀ (initCfg s₀ progs) := by
  refine ⟨?_, ?_, ?_, ?_⟩
  · funext i
    simp only [initCfg, absS, replay, List.foldl_nil]
    cases s₀ i <;> rfl
  · intro i r b hi
    simp only [initCfg] at hi ⊢
    cases hs : s₀ i with
    | none => simp [hs] at hi
    | some b' => simp [hs] at hi; omega
  · intro t
    refine ⟨?_, PcOK_idle rfl⟩
    intro n r hr
    simp [initCfg] at hr
  · intro k e he
    simp [initCfg] at he

theorem Inv.run {s₀ : SStore M} {c : Config M} (h : Inv s₀ c) (env : Env) (sched : List Nat) :
    Inv s₀ (run true env c sched) :=
  List.foldlRecOn sched _ h (fun _ hc t _ => hc.step env t)

end ScVerif.C02
