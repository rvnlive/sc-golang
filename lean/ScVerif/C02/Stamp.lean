import ScVerif.C02.Move
/-!
# C02 — change times: what `SaveFn` stamps (`stampOf`), and the invariant `SInv` that says so for every schedule
and every clock

`Value.set`'s save is `r.value = message; r.changeTime = request.updateTime(r.clock)`, `Collection.Update`'s
save stores a fresh item with `changeTime = writeRequest.updateTime(c.clock)`.  The stamp is whatever
`WithWriteTime` says, else what the clock shows: it is not a version.
-/
-- the file-wide `variable` also reaches lemmas that need less of it
set_option linter.unusedSectionVars false
namespace ScVerif.C02

variable {M : Type} [DecidableEq M] [Msg M]

/-- The change times a commit log leaves behind (0 = the instant the constructor read). -/
def stampOf (log : List (Entry M)) : Nat → Nat :=
  log.foldl (fun st e => match e.op with
    | .upd u => setAt st u.id e.time
    | .del _ => st) (fun _ => 0)

theorem stampOf_snoc (log : List (Entry M)) (e : Entry M) :
    stampOf (log ++ [e]) = stampAfter (stampOf log) e.op e.time := by
  simp only [stampOf, List.foldl_append, List.foldl_cons, List.foldl_nil, stampAfter]
  cases e.op <;> rfl

structure SInv (env : Env) (c : Config M) : Prop where
  stamp : c.stamp = stampOf c.log
  times : ∀ e, e ∈ c.log → ∀ u, e.op = .upd u → ∃ k, 1 ≤ k ∧ k < c.tick ∧ e.time = u.updateTime env k
  tick : 1 ≤ c.tick

theorem SInv.init (env : Env) (s₀ : SStore M) (progs : Nat → List (Op M)) : SInv env (initCfg s₀ progs) :=
  ⟨rfl, by intro e he; simp [initCfg] at he, Nat.le_refl _⟩

theorem SInv.step {env : Env} {c : Config M} (h : SInv env c) (fixed : Bool) (t : Nat) :
    SInv env (step fixed env c t) := by
  have old : ∀ e, e ∈ c.log → ∀ u, e.op = .upd u → ∃ k, 1 ≤ k ∧ k < c.tick + 1 ∧ e.time = u.updateTime env k := by
    intro e he u hu
    obtain ⟨k, h1, h2, h3⟩ := h.times e he u hu
    exact ⟨k, h1, by omega, h3⟩
  have same : (stepCore fixed env c t).log = c.log → (stepCore fixed env c t).stamp = c.stamp →
      SInv env (ScVerif.C02.step fixed env c t) := by
    intro hl hst
    refine ⟨?_, ?_, Nat.le_succ_of_le h.tick⟩
    · show (stepCore fixed env c t).stamp = stampOf (stepCore fixed env c t).log
      rw [hl, hst]; exact h.stamp
    · show ∀ e, e ∈ (stepCore fixed env c t).log → _
      rw [hl]; exact old
  cases (stepCore_move fixed env c t).effect with
  | none hl _ _ hst => exact same hl hst
  | fin _ hl _ _ hst => exact same hl hst
  | commit r e v hl _ _ _ hst htm =>
    refine ⟨?_, ?_, Nat.le_succ_of_le h.tick⟩
    · show (stepCore fixed env c t).stamp = stampOf (stepCore fixed env c t).log
      rw [hl, hst, stampOf_snoc, h.stamp]
    · show ∀ e, e ∈ (stepCore fixed env c t).log → _
      rw [hl]
      intro e' he u hu
      rcases List.mem_append.mp he with he | he
      · exact old e' he u hu
      · rw [List.mem_singleton.mp he] at hu ⊢
        exact ⟨c.tick, h.tick, Nat.lt_succ_self _, htm u hu⟩

theorem SInv.run {env : Env} {c : Config M} (h : SInv env c) (fixed : Bool) (sched : List Nat) :
    SInv env (run fixed env c sched) :=
  List.foldlRecOn sched _ h (fun _ hc t _ => hc.step fixed t)

end ScVerif.C02
