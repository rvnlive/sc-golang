import ScVerif.C02.Send
import ScVerif.C02.Ans
import ScVerif.Base.ListLemmas
/-!
# C02 — the answers of the code are the reported results, and a reported result is final (answer layer: `Ans.lean`)
-/
-- the file-wide `variable` also reaches lemmas that need less of it
set_option linter.unusedSectionVars false
namespace ScVerif.C02

variable {M : Type} [DecidableEq M] [Msg M]

theorem arun_p (how : AnswerBy) (fixed : Bool) (env : Env) (a : AConfig M) (sched : List (Nat × Bool)) :
    (arun how fixed env a sched).p = prun false fixed env a.p sched := by
  induction sched generalizing a with
  | nil => rfl
  | cons tf rest ih =>
    show (arun how fixed env (astep how fixed env a tf) rest).p = _
    rw [ih]; rfl

theorem arun_append (how : AnswerBy) (fixed : Bool) (env : Env) (a : AConfig M) (s₁ s₂ : List (Nat × Bool)) :
    arun how fixed env a (s₁ ++ s₂) = arun how fixed env (arun how fixed env a s₁) s₂ := by
  simp [arun, List.foldl_append]

/-- `reported` in closed form: exactly the calls below `nrep` have reported (what the two layers' invariants compare) -/
theorem reported_eq (pc : PConfig M) (t n : Nat) :
    reported pc t n =
      if n < nrep pc t then
        (pc.core.threads t).done[n]?.map (fun r => if (n, true) ∈ pc.sent t then .error (.other 2) else r.res)
      else none := by
  unfold reported nrep
  cases hd : (pc.core.threads t).done[n]? with
  | none => simp
  | some r =>
    have hlt : n < (pc.core.threads t).done.length := (List.getElem?_eq_some_iff.mp hd).1
    simp only [Option.map_some]
    by_cases hp : (pc.pending t).isSome = true
    · simp only [hp, true_and, if_true]
      by_cases hn : n + 1 = (pc.core.threads t).done.length
      · rw [if_pos hn, if_neg (show ¬ n < (pc.core.threads t).done.length - 1 by omega)]
      · rw [if_neg hn, if_pos (show n < (pc.core.threads t).done.length - 1 by omega)]
        split <;> rfl
    · have hp' : (pc.pending t).isSome = false := by simpa using hp
      simp only [hp', Bool.false_eq_true, false_and, if_false, Nat.sub_zero, if_pos hlt]
      split <;> rfl

theorem reported_none_of_ge {pc : PConfig M} {t n : Nat} (h : nrep pc t ≤ n) : reported pc t n = none := by
  rw [reported_eq, if_neg (Nat.not_lt.mpr h)]

theorem reported_some_of_lt {pc : PConfig M} {t n : Nat} (h : n < nrep pc t) : ∃ r, reported pc t n = some r := by
  have hlt : n < (pc.core.threads t).done.length := Nat.lt_of_lt_of_le h (Nat.sub_le _ _)
  rw [reported_eq, if_pos h, List.getElem?_eq_getElem hlt]
  exact ⟨_, rfl⟩

/-- what one step of the publication layer does to who has reported what -/
theorem pstep_reporting (fixed : Bool) (env : Env) (pc : PConfig M) (tf : Nat × Bool) :
    (∀ t', t' ≠ tf.1 → nrep (pstep false fixed env pc tf) t' = nrep pc t' ∧
      ∀ n, reported (pstep false fixed env pc tf) t' n = reported pc t' n) ∧
    (nrep (pstep false fixed env pc tf) tf.1 = nrep pc tf.1 ∨
      nrep (pstep false fixed env pc tf) tf.1 = nrep pc tf.1 + 1) ∧
    (∀ n, n < nrep pc tf.1 → reported (pstep false fixed env pc tf) tf.1 n = reported pc tf.1 n) := by
  obtain ⟨t, f⟩ := tf
  obtain ⟨hm, hoth⟩ := pstep_move fixed env pc t f
  refine ⟨fun t' ht => ?_, by have := hm.nrep; dsimp only; omega, fun n hn => ?_⟩
  · obtain ⟨hd, hp, hs⟩ := hoth t' ht
    unfold reported nrep
    rw [hd, hp, hs]
    exact ⟨rfl, fun _ => rfl⟩
  replace hn : n < nrep pc t := hn
  show reported _ t n = reported pc t n
  have hlen : n < (pc.core.threads t).done.length := Nat.lt_of_lt_of_le hn (Nat.sub_le _ _)
  rw [reported_eq, reported_eq, if_pos hn, if_pos (Nat.lt_of_lt_of_le hn hm.nrep.1)]
  have hd : ((pstep false fixed env pc (t, f)).core.threads t).done[n]? = (pc.core.threads t).done[n]? := by
    cases hm with
    | publish _ _ _ hd => rw [hd]
    | core _ _ _ hd => rw [hd, List.getElem?_append_left hlen]
    | owe _ _ _ hd => rw [hd, List.getElem?_append_left hlen]
  have hs : (n, true) ∈ (pstep false fixed env pc (t, f)).sent t ↔ (n, true) ∈ pc.sent t := by
    cases hm with
    | publish p f hp _ _ hs =>
      rw [nrep_of_pending hp] at hn
      rw [hs]
      simp
      omega
    | core _ _ _ _ _ hs => rw [hs]
    | owe _ _ _ _ _ hs => rw [hs]
  rw [hd]
  simp only [hs]

/-- for ANY configuration of the publication layer: no invariant is needed -/
theorem reported_keeps (fixed : Bool) (env : Env) (pc : PConfig M) (tf : Nat × Bool) {t n : Nat} {r : Res M}
    (h : reported pc t n = some r) : reported (pstep false fixed env pc tf) t n = some r := by
  obtain ⟨hother, _, hkeep⟩ := pstep_reporting fixed env pc tf
  have hlt : n < nrep pc t := Nat.lt_of_not_le (fun hge => by rw [reported_none_of_ge hge] at h; cases h)
  by_cases ht : t = tf.1
  · subst ht; rw [hkeep n hlt]; exact h
  · rw [(hother t ht).2 n]; exact h

theorem reported_stays (fixed : Bool) (env : Env) (pc : PConfig M) (sched : List (Nat × Bool))
    {t n : Nat} {r : Res M} (h : reported pc t n = some r) :
    reported (prun false fixed env pc sched) t n = some r :=
  List.foldlRecOn sched _ (motive := fun pc => reported pc t n = some r) h
    (fun _ hc tf _ => reported_keeps fixed env _ tf hc)

-- `hinv` plays no part (the fact is `reported_stays`, for any configuration); this is the form the property's evidence cites
set_option linter.unusedVariables false in
theorem reported_stable (fixed : Bool) (env : Env) {pc : PConfig M} (hinv : PInv pc) (sched : List (Nat × Bool))
    {t n : Nat} {r : Res M} (h : reported pc t n = some r) :
    reported (prun false fixed env pc sched) t n = some r :=
  reported_stays fixed env pc sched h

/-- invariant of the answer layer run as the code does (`own`): the answers filed are exactly the results reported
so far, in order -/
def AnsOwn (a : AConfig M) : Prop :=
  ∀ t, a.answers t = (List.range (nrep a.p t)).filterMap (reported a.p t)

theorem AnsOwn.init (s₀ : SStore M) (progs : Nat → List (Op M)) : AnsOwn (ainit s₀ progs) := by
  intro t
  simp [ainit, pinit, nrep, initCfg]

theorem filterMap_range_getElem? {α : Type} (f : Nat → Option α) (k : Nat) (hsome : ∀ n, n < k → (f n).isSome)
    (hnone : ∀ n, k ≤ n → f n = none) :
    ((List.range k).filterMap f).length = k ∧ ∀ n, ((List.range k).filterMap f)[n]? = f n := by
  induction k generalizing f with
  | zero =>
    refine ⟨rfl, fun n => ?_⟩
    rw [hnone n (Nat.zero_le n)]; rfl
  | succ k ih =>
    -- cut `f` off at `k` for the induction hypothesis
    have ih' := ih (f := fun n => if n < k then f n else none)
      (fun n hn => by simp only [if_pos hn]; exact hsome n (by omega))
      (fun n hn => by simp only [if_neg (Nat.not_lt.mpr hn)])
    have hcut : (List.range k).filterMap (fun n => if n < k then f n else none) = (List.range k).filterMap f :=
      Base.filterMap_congr (fun n hn => by simp only [if_pos (List.mem_range.mp hn)])
    rw [hcut] at ih'
    obtain ⟨v, hv⟩ := Option.isSome_iff_exists.mp (hsome k (by omega))
    rw [List.range_succ, List.filterMap_append]
    have hlast : List.filterMap f [k] = [v] := by simp [hv]
    rw [hlast]
    refine ⟨by simp [ih'.1], fun n => ?_⟩
    by_cases hn : n < k
    · rw [List.getElem?_append_left (by rw [ih'.1]; exact hn), ih'.2 n, if_pos hn]
    · by_cases hk : n = k
      · subst hk
        rw [List.getElem?_append_right (by rw [ih'.1]; exact Nat.le_refl _), ih'.1]
        simp [hv]
      · rw [hnone n (by omega)]
        apply List.getElem?_eq_none
        simp [ih'.1]; omega

theorem AnsOwn.step {a : AConfig M} (h : AnsOwn a) (fixed : Bool) (env : Env)
    (tf : Nat × Bool) : AnsOwn (astep .own fixed env a tf) := by
  obtain ⟨hother, hgrow, hkeep⟩ := pstep_reporting fixed env a.p tf
  intro t
  by_cases ht : t = tf.1
  · subst ht
    show (astep .own fixed env a tf).answers tf.1 =
      (List.range (nrep (pstep false fixed env a.p tf) tf.1)).filterMap (reported (pstep false fixed env a.p tf) tf.1)
    unfold astep
    simp only []
    -- the step makes call `nrep` report: its answer goes to the end of the list; or the list and the reports stay
    by_cases hg : nrep (pstep false fixed env a.p tf) tf.1 = nrep a.p tf.1 + 1
    · rw [if_pos hg, hg, List.range_succ, List.filterMap_append]
      obtain ⟨r, hr⟩ := reported_some_of_lt (pc := pstep false fixed env a.p tf) (t := tf.1) (n := nrep a.p tf.1)
        (by omega)
      simp only [answerOf, hr, setAt_same]
      rw [h tf.1, Base.filterMap_congr (fun n hn => hkeep n (List.mem_range.mp hn))]
      simp [hr]
    · rw [if_neg hg]
      rcases hgrow with hg' | hg'
      · rw [hg', h tf.1, Base.filterMap_congr (fun n hn => hkeep n (List.mem_range.mp hn))]
      · exact absurd hg' hg
  · have hans : (astep .own fixed env a tf).answers t = a.answers t := by
      unfold astep
      simp only []
      split
      · generalize answerOf AnswerBy.own (pstep false fixed env a.p tf) tf.1 (nrep a.p tf.1) = x
        cases x with
        | none => rfl
        | some r => exact setAt_other _ _ ht
      · rfl
    rw [hans, h t]
    show _ = (List.range (nrep (pstep false fixed env a.p tf) t)).filterMap (reported (pstep false fixed env a.p tf) t)
    rw [(hother t ht).1]
    exact Base.filterMap_congr (fun n _ => ((hother t ht).2 n).symm)

-- `hinv` plays no part (`AnsOwn.step` asks for no invariant); this is the form the property's evidence cites
set_option linter.unusedVariables false in
theorem ansOwn_arun (fixed : Bool) (env : Env) {a : AConfig M} (h : AnsOwn a) (hinv : PInv a.p)
    (sched : List (Nat × Bool)) : AnsOwn (arun .own fixed env a sched) :=
  List.foldlRecOn sched _ h (fun _ hc tf _ => hc.step fixed env tf)

theorem AnsOwn.getElem? {a : AConfig M} (h : AnsOwn a) (t : Nat) :
    (a.answers t).length = nrep a.p t ∧ ∀ n, (a.answers t)[n]? = reported a.p t n := by
  rw [h t]
  exact filterMap_range_getElem? (reported a.p t) (nrep a.p t)
    (fun n hn => by obtain ⟨r, hr⟩ := reported_some_of_lt (pc := a.p) (t := t) hn; rw [hr]; rfl)
    (fun n hn => reported_none_of_ge hn)

theorem AnsOwn.final (fixed : Bool) (env : Env) {a : AConfig M} (h : AnsOwn a) (more : List (Nat × Bool))
    {t n : Nat} {r : Res M} (hr : (a.answers t)[n]? = some r) :
    ((arun .own fixed env a more).answers t)[n]? = some r := by
  have h' : AnsOwn (arun .own fixed env a more) := List.foldlRecOn more _ h (fun _ hc tf _ => hc.step fixed env tf)
  rw [(h'.getElem? t).2, arun_p]
  exact reported_stays fixed env a.p more (((h.getElem? t).2 n).symm.trans hr)

end ScVerif.C02
