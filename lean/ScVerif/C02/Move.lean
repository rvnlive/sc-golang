import ScVerif.C02.Vocab
import ScVerif.Base.ListLemmas
/-!
# C02 — the shape of a step of the core model

A step of thread `t` works on one call: `Begin` says whether that call is taken from the program now or was in
flight, and names it and its invocation stamp either way; `End` says how the step leaves it — in flight, finished
without effect, committed — and gives the stepping thread afterwards in full.  `Move env c c' t` is the two together
(or nothing left to run); `stepCore_move` is the case analysis of `stepCore` behind every invariant that needs only
the SHAPE of a step; `Effect` is the coarse view of shared state and records.  `Inv` (`Inv.lean`; its preservation:
`Step.lean`) needs more — what each branch read, why a re-validation failed — and goes through the four step
functions themselves.
-/
-- the file-wide `variable` also reaches lemmas that need less of it
set_option linter.unusedSectionVars false
namespace ScVerif.C02

variable {M : Type} [DecidableEq M] [Msg M]

theorem setThread_self (c : Config M) (t : Nat) (th' : Thread M) : (c.setThread t th').threads t = th' :=
  setAt_same _ _ _

/-- reading an updated function: at the updated place, or elsewhere -/
theorem setAt_cases {α : Type} (f : Nat → α) (i : Nat) (v : α) (j : Nat) :
    (j = i ∧ setAt f i v j = v) ∨ (j ≠ i ∧ setAt f i v j = f j) := by
  by_cases h : j = i
  · exact Or.inl ⟨h, by rw [h]; exact setAt_same _ _ _⟩
  · exact Or.inr ⟨h, setAt_other _ _ h⟩

theorem genID_free (cand : Nat → Nat → Nat) (present : Nat → Bool) :
    ∀ (fuel i rng x r : Nat), genID cand present fuel i rng = (some x, r) → present x = false := by
  intro fuel
  induction fuel with
  | zero => intro i rng x r h; cases h
  | succ n ih =>
    intro i rng x r h
    simp only [genID] at h
    split at h
    · exact ih _ _ _ _ h
    · next hp =>
      cases h
      simpa using hp

theorem resolveId_cases (env : Env) (c : Config M) (u₀ : UpdOp M) :
    (u₀.genId = false ∧ resolveId env c u₀ = (some u₀, c.rng)) ∨
    (u₀.genId = true ∧ ∃ i r, resolveId env c u₀ = (some { u₀ with id := i }, r) ∧ c.store i = none) ∨
    (u₀.genId = true ∧ ∃ r, resolveId env c u₀ = (none, r)) := by
  unfold resolveId
  by_cases hg : u₀.genId = true
  · right
    rw [if_pos hg]
    cases hgen : genID env.cand (fun i => (c.store i).isSome) 10 0 c.rng with
    | mk oi r =>
      cases oi with
      | none => exact Or.inr ⟨hg, r, rfl⟩
      | some i =>
        have hfree := genID_free _ _ _ _ _ _ _ hgen
        exact Or.inl ⟨hg, i, r, rfl, by simpa using hfree⟩
  · rw [if_neg hg]
    exact Or.inl ⟨by simpa using hg, rfl⟩

/-- The call thread `t` works on in this step — `op`, invoked at log length `i`, with `rest` to run after it — is
taken from the program now (as `op₀`, its id not yet resolved) or was in flight already. -/
inductive Begin (c : Config M) (t : Nat) (op : Op M) (i : Nat) (rest : List (Op M)) : Prop
  | start (op₀ : Op M) (hpc : (c.threads t).pc = .idle) (hprog : (c.threads t).prog = op₀ :: rest)
      (hfg : forget op = forget op₀) (hi : i = c.log.length)
  | cont (hops : pcOps (c.threads t).pc = [op]) (hi : i = (c.threads t).invAt)
      (hprog : rest = (c.threads t).prog)

/-- How the step leaves the call `op` (invoked at `i`): in flight; finished without touching shared state; or
committed — one log entry appended and stamped, the call finished with success.  `hth` is the stepping thread
afterwards, `hfree` what `genID` established if the call was invoked in this very step. -/
inductive End (env : Env) (c c' : Config M) (t : Nat) (op : Op M) (i : Nat) (rest : List (Op M)) : Prop
  | fly (pc' : Pc M) (ra : Nat) (hops : pcOps pc' = [op])
      (hth : c'.threads t = ⟨rest, pc', (c.threads t).done, i, ra⟩)
      (hfree : (c.threads t).pc = .idle → opGen op = true → c.store (opId op) = none)
      (hl : c'.log = c.log) (hs : c'.store = c.store) (hst : c'.stamp = c.stamp)
  | fin (res : Res M) (kind : Kind) (lin ra : Nat)
      (hth : c'.threads t = ⟨rest, .idle, (c.threads t).done ++ [⟨op, res, kind, i, lin, c.log.length⟩], i, ra⟩)
      (hfree : (c.threads t).pc = .idle → opGen op = true → res ≠ .error .aborted → c.store (opId op) = none)
      (hl : c'.log = c.log) (hs : c'.store = c.store) (hst : c'.stamp = c.stamp)
  | commit (v : M) (tm ra : Nat) (hops : pcOps (c.threads t).pc = [op])
      (hth : c'.threads t =
        ⟨rest, .idle, (c.threads t).done ++ [⟨op, .ok (some v), .committed, i, c.log.length, c.log.length + 1⟩], i, ra⟩)
      (hl : c'.log = c.log ++ [⟨t, (c.threads t).done.length, op, tm⟩])
      (hst : c'.stamp = stampAfter c.stamp op tm)
      (htm : ∀ u, op = .upd u → tm = u.updateTime env c.tick)
      (hv : ∀ u rd cr new, (c.threads t).pc = .uCommit u rd cr new → v = new)

inductive Move (env : Env) (c c' : Config M) (t : Nat) : Prop
  | noop (hpc : (c.threads t).pc = .idle) (hc : c' = c)
  | call (op : Op M) (i : Nat) (rest : List (Op M)) (hb : Begin c t op i rest) (he : End env c c' t op i rest)
      (hoth : ∀ t', t' ≠ t → c'.threads t' = c.threads t')

theorem not_idle_of_pcOps {pc : Pc M} {op : Op M} (h : pcOps pc = [op]) : pc ≠ .idle := by
  intro hi; rw [hi] at h; cases h

theorem stepIdle_move (env : Env) (c : Config M) (t : Nat) (hpc : (c.threads t).pc = .idle) :
    Move env c (stepIdle env c t (c.threads t)) t := by
  unfold stepIdle
  cases hprog : (c.threads t).prog with
  | nil => exact .noop hpc rfl
  | cons op rest =>
    have oth : ∀ (c₁ : Config M) (th' : Thread M) t', t' ≠ t → (c₁.setThread t th').threads t' = c₁.threads t' :=
      fun c₁ th' t' ht => setAt_other _ _ ht
    cases op with
    | del d =>
      exact .call (.del d) _ rest (.start _ hpc hprog rfl rfl)
        (.fly _ _ rfl (setThread_self _ _ _) (fun _ h => by cases h) rfl rfl rfl) (oth _ _)
    | upd u₀ =>
      simp only []
      rcases resolveId_cases env c u₀ with ⟨hg, hres⟩ | ⟨hg, i, r, hres, hfree⟩ | ⟨hg, r, hres⟩
      · rw [hres]
        simp only []
        have hng : opGen (.upd u₀) = true → False := fun h => by rw [opGen, hg] at h; cases h
        cases readUpd u₀ (c.store u₀.id) with
        | error e =>
          exact .call (.upd u₀) _ rest (.start _ hpc hprog rfl rfl)
            (.fin _ _ _ _ (setThread_self _ _ _) (fun _ h => (hng h).elim) rfl rfl rfl) (oth _ _)
        | ok p =>
          exact .call (.upd u₀) _ rest (.start _ hpc hprog rfl rfl)
            (.fly (.uChange u₀ p.1 p.2) _ rfl (setThread_self _ _ _) (fun _ h => (hng h).elim) rfl rfl rfl) (oth _ _)
      · have hfg : forget (.upd { u₀ with id := i }) = forget (.upd u₀) := by simp [forget, hg]
        rw [hres]
        simp only []
        cases readUpd { u₀ with id := i } (c.store i) with
        | error e =>
          exact .call (.upd { u₀ with id := i }) _ rest (.start _ hpc hprog hfg rfl)
            (.fin _ _ _ _ (setThread_self _ _ _) (fun _ _ _ => hfree) rfl rfl rfl) (oth _ _)
        | ok p =>
          exact .call (.upd { u₀ with id := i }) _ rest (.start _ hpc hprog hfg rfl)
            (.fly (.uChange _ p.1 p.2) _ rfl (setThread_self _ _ _) (fun _ _ => hfree) rfl rfl rfl) (oth _ _)
      · rw [hres]
        exact .call (.upd u₀) _ rest (.start _ hpc hprog rfl rfl)
          (.fin _ _ _ _ (setThread_self _ _ _) (fun _ _ h => absurd rfl h) rfl rfl rfl) (oth _ _)

theorem Move.ofCont {env : Env} {c c' : Config M} {t : Nat} {op : Op M} (hops : pcOps (c.threads t).pc = [op])
    (he : End env c c' t op (c.threads t).invAt (c.threads t).prog)
    (hoth : ∀ t', t' ≠ t → c'.threads t' = c.threads t') : Move env c c' t :=
  .call op _ _ (.cont hops rfl rfl) he hoth

theorem stepChange_move (env : Env) (c : Config M) (t : Nat) {u : UpdOp M} {rd : Option M} {created : Bool}
    (hpc : (c.threads t).pc = .uChange u rd created) :
    Move env c (stepChange c t (c.threads t) u rd created) t := by
  have hops : pcOps (c.threads t).pc = [.upd u] := by rw [hpc]; rfl
  have hni := not_idle_of_pcOps hops
  unfold stepChange
  cases u.change rd with
  | error e =>
    exact .ofCont hops (.fin _ _ _ _ (setThread_self _ _ _) (fun h => absurd h hni) rfl rfl rfl)
      (fun _ ht => setAt_other _ _ ht)
  | ok new =>
    exact .ofCont hops (.fly _ _ rfl (setThread_self _ _ _) (fun h => absurd h hni) rfl rfl rfl)
      (fun _ ht => setAt_other _ _ ht)

theorem stepCommit_move (fixed : Bool) (env : Env) (c : Config M) (t : Nat) {u : UpdOp M} {rd : Option M}
    {created : Bool} {new : M} (hpc : (c.threads t).pc = .uCommit u rd created new) :
    Move env c (stepCommit fixed env c t (c.threads t) u rd created new) t := by
  have hops : pcOps (c.threads t).pc = [.upd u] := by rw [hpc]; rfl
  have hni := not_idle_of_pcOps hops
  unfold stepCommit
  simp only []
  split
  · exact .ofCont hops (.fin _ _ _ _ (setThread_self _ _ _) (fun h => absurd h hni) rfl rfl rfl)
      (fun _ ht => setAt_other _ _ ht)
  · exact .ofCont hops (.commit new _ _ hops (setAt_same _ _ _) rfl rfl (fun u' hu' => by cases hu'; rfl)
      (fun _ _ _ _ h => by rw [hpc] at h; cases h; rfl)) (fun _ ht => setAt_other _ _ ht)

theorem stepDel_move (env : Env) (c : Config M) (t : Nat) {d : DelOp M} {seen : Option (Nat × M)} {attempt : Nat}
    (hpc : (c.threads t).pc = .dTry d seen attempt) :
    Move env c (stepDel c t (c.threads t) d seen attempt) t := by
  have hops : pcOps (c.threads t).pc = [.del d] := by rw [hpc]; rfl
  have hni := not_idle_of_pcOps hops
  have fin : ∀ res kind lin,
      Move env c (c.setThread t ((c.threads t).finish (.del d) res kind lin c.log.length)) t :=
    fun res kind lin => .ofCont hops
      (.fin _ _ _ _ (setThread_self _ _ _) (fun h => absurd h hni) rfl rfl rfl) (fun _ ht => setAt_other _ _ ht)
  unfold stepDel
  simp only []
  cases seen with
  | none => exact fin _ _ _
  | some p =>
    obtain ⟨r, b⟩ := p
    simp only []
    cases d.pre b with
    | some e => exact fin _ _ _
    | none =>
      simp only []
      split
      · split
        · exact .ofCont hops (.fly _ _ rfl (setThread_self _ _ _) (fun h => absurd h hni) rfl rfl rfl)
            (fun _ ht => setAt_other _ _ ht)
        · exact fin _ _ _
      · exact .ofCont hops (.commit b 0 _ hops (setAt_same _ _ _) rfl rfl (fun _ h => by cases h)
          (fun _ _ _ _ h => by rw [hpc] at h; cases h)) (fun _ ht => setAt_other _ _ ht)

theorem stepCore_move (fixed : Bool) (env : Env) (c : Config M) (t : Nat) :
    Move env c (stepCore fixed env c t) t := by
  unfold stepCore
  simp only []
  cases hpc : (c.threads t).pc with
  | idle => exact stepIdle_move env c t hpc
  | uChange u rd created => exact stepChange_move env c t hpc
  | uCommit u rd created new => exact stepCommit_move fixed env c t hpc
  | dTry d seen attempt => exact stepDel_move env c t hpc

theorem Move.threads_other {env : Env} {c c' : Config M} {t : Nat} (h : Move env c c' t) {t' : Nat}
    (ht : t' ≠ t) : c'.threads t' = c.threads t' := by
  cases h with
  | noop _ hc => rw [hc]
  | call _ _ _ _ _ hoth => exact hoth t' ht

/-- The coarse view of a move: what it does to the shared state and to the records of the stepping thread — nothing;
one record of a call without effect; or a commit: one log entry, its stamp, the record of the call that owns it. -/
inductive Effect (env : Env) (c c' : Config M) (t : Nat) : Prop
  | none (hl : c'.log = c.log) (hd : (c'.threads t).done = (c.threads t).done)
      (hs : c'.store = c.store) (hst : c'.stamp = c.stamp)
  | fin (r : Rec M) (hl : c'.log = c.log) (hd : (c'.threads t).done = (c.threads t).done ++ [r])
      (hs : c'.store = c.store) (hst : c'.stamp = c.stamp)
  | commit (r : Rec M) (e : Entry M) (v : M) (hl : c'.log = c.log ++ [e])
      (hd : (c'.threads t).done = (c.threads t).done ++ [r])
      (hk : r.kind = .committed) (hres : r.res = .ok (some v))
      (hst : c'.stamp = stampAfter c.stamp e.op e.time)
      (htm : ∀ u, e.op = .upd u → e.time = u.updateTime env c.tick)
      (hops : pcOps (c.threads t).pc = [r.op])
      (hv : ∀ u rd cr new, (c.threads t).pc = .uCommit u rd cr new → v = new)

theorem Move.effect {env : Env} {c c' : Config M} {t : Nat} (h : Move env c c' t) : Effect env c c' t := by
  cases h with
  | noop _ hc => subst hc; exact .none rfl rfl rfl rfl
  | call op i rest _ he _ =>
    cases he with
    | fly _ _ _ hth _ hl hs hst => exact .none hl (by rw [hth]) hs hst
    | fin _ _ _ _ hth _ hl hs hst => exact .fin _ hl (by rw [hth]) hs hst
    | commit v _ _ hops hth hl hst htm hv => exact .commit _ _ v hl (by rw [hth]) rfl rfl hst htm hops hv

theorem forall_getElem?_snoc {α : Type} {P : Nat → α → Prop} {l : List α} {a : α}
    (hold : ∀ n x, l[n]? = some x → P n x) (hnew : P l.length a) : ∀ n x, (l ++ [a])[n]? = some x → P n x := by
  intro n x hn
  rcases Base.getElem?_concat_cases _ _ _ _ hn with ⟨_, hn⟩ | ⟨rfl, rfl⟩
  · exact hold n x hn
  · exact hnew

theorem Move.log_take {env : Env} {c c' : Config M} {t : Nat} (hm : Move env c c' t) {k : Nat}
    (hk : k ≤ c.log.length) : c'.log.take k = c.log.take k := by
  cases hm.effect with
  | none hl => rw [hl]
  | fin _ hl => rw [hl]
  | commit _ _ _ hl => rw [hl]; exact List.take_append_of_le_length hk

theorem Move.log_le {env : Env} {c c' : Config M} {t : Nat} (hm : Move env c c' t) :
    c.log.length ≤ c'.log.length := by
  cases hm.effect with
  | none hl => rw [hl]; exact Nat.le_refl _
  | fin _ hl => rw [hl]; exact Nat.le_refl _
  | commit _ _ _ hl => rw [hl]; simp

theorem Move.done_persist {env : Env} {c c' : Config M} {t : Nat} (h : Move env c c' t) {t' n : Nat} {r : Rec M}
    (hr : (c.threads t').done[n]? = some r) : (c'.threads t').done[n]? = some r := by
  by_cases ht : t' = t
  · subst ht
    have hlt : n < (c.threads t').done.length := (List.getElem?_eq_some_iff.mp hr).1
    cases h.effect with
    | none _ hd => rw [hd]; exact hr
    | fin _ _ hd => rw [hd, List.getElem?_append_left hlt]; exact hr
    | commit _ _ _ _ hd => rw [hd, List.getElem?_append_left hlt]; exact hr
  · rw [h.threads_other ht]; exact hr

theorem Move.done_same {env : Env} {c c' : Config M} {t : Nat} (hm : Move env c c' t)
    (hd : (c'.threads t).done = (c.threads t).done) {t' n : Nat} {r' : Rec M}
    (h : (c'.threads t').done[n]? = some r') : (c.threads t').done[n]? = some r' := by
  by_cases ht : t' = t
  · rw [ht, hd] at h; rw [ht]; exact h
  · rw [hm.threads_other ht] at h; exact h

theorem Move.done_new {env : Env} {c c' : Config M} {t : Nat} (hm : Move env c c' t) {r : Rec M}
    (hd : (c'.threads t).done = (c.threads t).done ++ [r]) {t' n : Nat} {r' : Rec M}
    (h : (c'.threads t').done[n]? = some r') :
    (c.threads t').done[n]? = some r' ∨ (t' = t ∧ n = (c.threads t).done.length ∧ r' = r) := by
  by_cases ht : t' = t
  · rw [ht, hd] at h
    rcases Base.getElem?_concat_cases _ _ _ _ h with ⟨_, h⟩ | ⟨hn, hr⟩
    · rw [ht]; exact Or.inl h
    · exact Or.inr ⟨ht, hn, hr⟩
  · rw [hm.threads_other ht] at h; exact Or.inl h

theorem mem_setAt_snoc {α : Type} {f : Nat → List α} {i k : Nat} {x y : α} :
    y ∈ setAt f i (f i ++ [x]) k ↔ y ∈ f k ∨ (k = i ∧ y = x) := by
  simp only [setAt]
  split
  · next h => subst h; simp
  · next h => simp [h]

theorem pairwise_setAt_snoc {α : Type} {R : α → α → Prop} {f : Nat → List α} {i : Nat} {x : α}
    (h : ∀ k, (f k).Pairwise R) (hx : ∀ y, y ∈ f i → R y x) (k : Nat) :
    (setAt f i (f i ++ [x]) k).Pairwise R := by
  simp only [setAt]
  split
  · rw [List.pairwise_append]
    exact ⟨h i, List.pairwise_singleton _ _, fun y hy z hz => by rw [List.mem_singleton.mp hz]; exact hx y hy⟩
  · exact h k

theorem noteRefused_none {c c' : Config M} {t : Nat} (hd : (c'.threads t).done = (c.threads t).done) :
    noteRefused c c' t = c.refusedAt := by
  unfold noteRefused
  rw [hd, List.drop_length]

theorem noteRefused_fin {c c' : Config M} {t : Nat} {r : Rec M}
    (hd : (c'.threads t).done = (c.threads t).done ++ [r]) :
    noteRefused c c' t =
      if r.kind = .refused then
        setAt c.refusedAt r.lin (c.refusedAt r.lin ++ [⟨t, (c.threads t).done.length, r.op, r.res, r.lin, false⟩])
      else c.refusedAt := by
  unfold noteRefused
  rw [hd, List.drop_left]

/-- What a move files (`noteRefused`): nothing, and then no record of a refused call is new; or it appends one
refused record and files exactly its event. -/
theorem Move.filing {env : Env} {c c' : Config M} {t : Nat} (hm : Move env c c' t) :
    (noteRefused c c' t = c.refusedAt ∧ ∀ (t' n : Nat) (r' : Rec M), (c'.threads t').done[n]? = some r' →
      r'.kind = .refused → (c.threads t').done[n]? = some r') ∨
    ∃ r : Rec M, (c'.threads t).done = (c.threads t).done ++ [r] ∧ r.kind = .refused ∧
      noteRefused c c' t = setAt c.refusedAt r.lin
        (c.refusedAt r.lin ++ [⟨t, (c.threads t).done.length, r.op, r.res, r.lin, false⟩]) := by
  have notNew : ∀ r : Rec M, (c'.threads t).done = (c.threads t).done ++ [r] → r.kind ≠ .refused →
      ∀ (t' n : Nat) (r' : Rec M), (c'.threads t').done[n]? = some r' →
      r'.kind = .refused → (c.threads t').done[n]? = some r' := by
    intro r hd hk t' n r' hr' hk'
    rcases hm.done_new hd hr' with hold | ⟨_, _, hrr⟩
    · exact hold
    · rw [hrr] at hk'; exact absurd hk' hk
  cases hm.effect with
  | none _ hd => exact Or.inl ⟨noteRefused_none hd, fun t' n r' hr' _ => hm.done_same hd hr'⟩
  | commit r _ _ _ hd hk =>
    have hk' : r.kind ≠ .refused := by rw [hk]; simp
    exact Or.inl ⟨by rw [noteRefused_fin hd, if_neg hk'], notNew r hd hk'⟩
  | fin r _ hd =>
    by_cases hkr : r.kind = .refused
    · exact Or.inr ⟨r, hd, hkr, by rw [noteRefused_fin hd, if_pos hkr]⟩
    · exact Or.inl ⟨by rw [noteRefused_fin hd, if_neg hkr], notNew r hd hkr⟩

end ScVerif.C02
