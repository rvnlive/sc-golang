import ScVerif.C10.Pipe
/-!
C10 — the net effect of `mergeChanges` on a receiver's view of one item.

A receiver of `Collection.Pull` changes knows of each item whether it exists (`Bool`).  The collection publishes, about
an item in state `s`, only the change types `okKind s`: ADD when it does not exist, UPDATE / REPLACE / REMOVE when it
does; `applyKind` is what the change does to the receiver's view.  The lossy stage folds the changes of an item that
arrive while the receiver is away into at most one held change (`mergeKind`, `mergeQ`).
-/
namespace ScVerif.C10

/-- the receiver's view after the change: only a REMOVE leaves the item gone, whatever the view was (the argument is
there so that `applySeq` is a `foldl` and the statements read like `okKind`'s) -/
def applyKind (_ : Bool) : Kind → Bool
  | .remove => false
  | _ => true

/-- a change the collection publishes about an item in state `s` -/
def okKind (s : Bool) : Kind → Bool
  | .add => !s
  | _ => s

def validSeq : Bool → List Kind → Bool
  | _, [] => true
  | s, k :: ks => okKind s k && validSeq (applyKind s k) ks

def applySeq (s : Bool) (ks : List Kind) : Bool := ks.foldl applyKind s

/-- what the stage holds for the item after the changes `ks` arrived on top of `q` (nothing taken out in between) -/
def mergeSeq : Option Kind → List Kind → Option Kind
  | q, [] => q
  | none, k :: ks => mergeSeq (some k) ks
  | some a, k :: ks => mergeSeq (mergeKind a k) ks

/-- the held change, applied to what the receiver was last told (`s0`), gives the item's state `s` — and is a change
the receiver can apply; nothing held: the receiver is up to date -/
def NetOK (s0 s : Bool) : Option Kind → Prop
  | none => s = s0
  | some a => okKind s0 a = true ∧ applyKind s0 a = s

theorem applyKind_eq_false {s : Bool} {k : Kind} : applyKind s k = false ↔ k = .remove := by
  cases k <;> simp [applyKind]

/-- only an ADD that nobody has seen followed by the REMOVE annihilate -/
theorem mergeKind_none {a b : Kind} (h : mergeKind a b = none) : a = .add ∧ b = .remove := by
  cases a <;> cases b <;> simp [mergeKind] at h ⊢

theorem mergeKind_net (s : Bool) (a b : Kind) (ha : okKind s a = true) (hb : okKind (applyKind s a) b = true) :
    NetOK s (applyKind (applyKind s a) b) (mergeKind a b) := by
  cases s <;> cases a <;> cases b <;> simp_all [NetOK, okKind, applyKind, mergeKind]

theorem NetOK.merge {s0 s : Bool} {q : Option Kind} (hq : NetOK s0 s q) {k : Kind} (hk : okKind s k = true) :
    NetOK s0 (applyKind s k) (q.elim (some k) (mergeKind · k)) := by
  cases q with
  | none => cases (hq : s = s0); exact ⟨hk, rfl⟩
  | some a =>
    obtain ⟨ha, hs⟩ := hq
    subst hs
    exact mergeKind_net s0 a k ha hk

theorem mergeSeq_net (s0 : Bool) (ks : List Kind) : ∀ (s : Bool) (q : Option Kind),
    NetOK s0 s q → validSeq s ks = true → NetOK s0 (applySeq s ks) (mergeSeq q ks) := by
  induction ks with
  | nil => intro s q hq _; cases q <;> exact hq
  | cons k ks ih =>
    intro s q hq hv
    simp only [validSeq, Bool.and_eq_true] at hv
    have := ih _ _ (hq.merge hv.1) hv.2
    cases q <;> exact this

theorem applySeq_false_mem (ks : List Kind) : ∀ s : Bool, applySeq s ks = false → s = false ∨ Kind.remove ∈ ks := by
  induction ks with
  | nil => intro s h; exact Or.inl h
  | cons k ks ih =>
    intro s h
    have h' : applySeq (applyKind s k) ks = false := h
    rcases ih _ h' with h1 | h1
    · exact .inr (applyKind_eq_false.1 h1 ▸ List.mem_cons_self)
    · exact Or.inr (List.mem_cons_of_mem _ h1)

end ScVerif.C10
