/-
C10 — model of the forwarding goroutines of ONE subscription in `pkg/resource`:

    bus listener channel ─▶ [excess stage] ─▶ forwarder ─▶ [PullID stage] ─▶ consumer

* excess stage (only without backpressure): `minibus.DropExcess` (keeps the newest message) or
  `mergeCollectionExcess` (a queue, one entry per id, changes of one id merged by `mergeChanges`: ADD then
  REMOVE annihilate); it ALWAYS accepts input, offers its head when it
  holds something, and exits only when its input is closed (it never looks at the context).
* forwarder: the goroutine of `Value.Pull` / `Collection.Pull`: offers its seed values first, then
  `for event := range in` ▸ filter ▸ `select { out <- change | <-ctx.Done() }`.  While it holds a message it
  does not receive; while it waits for input it does not look at the context.
* PullID stage: the goroutine of `Collection.PullID` (after the fixes 0f3ccd4/d125dc4: it derives a child
  context shared with the inner `Pull` and cancels it when it returns; `fixed = false` is the code before).
* environment: `push m` (a `Bus.Send` delivers `m` on the listener channel — possible only while the first
  stage accepts), `consume`, `cancel` (the subscriber's context), `closeIn` (the bus watcher closes the
  listener channel; by the bus model this happens only, and always eventually, after the cancel).

Every unbuffered channel is a rendezvous: a transfer step needs the sender offering and the receiver
receiving.
-/
namespace ScVerif.C10

/-- `types.ChangeType` of a `CollectionChange` (a `ValueChange` has none: `Value.Set` events are `update`) -/
inductive Kind
  | add | update | remove | replace
deriving DecidableEq, Repr

/-- a change as the stages hand it on: the item, the change type, and `tag` for the written (new) value -/
structure Msg where
  id : Nat
  kind : Kind
  tag : Nat
deriving DecidableEq, Repr

/-- the event is a REMOVE (`change.ChangeType == types.ChangeType_REMOVE`) -/
def Msg.remove (m : Msg) : Bool := m.kind == .remove

/-- `mergeChanges(a, b)` of `pkg/resource/backpressure.go` on the change types: the type of the merged change, or
`none` when the two annihilate (`send = false`: an ADD that nobody has seen yet followed by the REMOVE of the same
item).  The merged change carries `b`'s new value (here: its tag). -/
def mergeKind : Kind → Kind → Option Kind
  | .add, .remove => none
  | .add, _ => some .add
  | .update, .add => some .replace
  | .update, k => some k
  | .replace, .remove => some .remove
  | .replace, _ => some .replace
  | .remove, .remove => some .remove
  | .remove, _ => some .replace

structure PConfig where
  hasEx : Bool                 -- no backpressure: an excess stage sits behind the bus channel
  exMerge : Bool               -- it is mergeCollectionExcess (else DropExcess)
  hasPid : Bool                -- the subscription is a PullID
  target : Nat                 -- … of this id
  fixed : Bool                 -- PullID cancels the inner Pull's (child) context when it returns
  keep : Msg → Bool            -- the forwarder's include/equivalence filter
  cancelled : Bool := false    -- the context the stages select on
  inClosed : Bool := false     -- the bus listener channel is closed
  exQ : List Msg := []
  exDone : Bool := false
  fwQ : List Msg := []         -- initially the seed values
  fwDone : Bool := false
  pidQ : List Msg := []
  pidDone : Bool := false
  out : List Msg := []         -- what the consumer has received

inductive PMove
  | push (m : Msg) | consume | cancel | closeIn
  | xferEF | xferFP | exExit | fwExitIn | fwExitCtx | pidExitIn | pidExitCtx
deriving DecidableEq, Repr

/-- the input channel of the forwarder is closed -/
def PConfig.fwInClosed (c : PConfig) : Bool := if c.hasEx then c.exDone else c.inClosed
/-- the channel handed to the consumer is closed -/
def PConfig.outClosed (c : PConfig) : Bool := if c.hasPid then c.pidDone else c.fwDone
/-- every goroutine of the subscription has returned -/
def PConfig.allDone (c : PConfig) : Bool :=
  (!c.hasEx || c.exDone) && c.fwDone && (!c.hasPid || c.pidDone)

/-- what the excess stage holds after receiving `m`.  `DropExcess`: just `m`.  `mergeCollectionExcess`: if a change
of the same id is still queued it is taken out of the queue and merged with `m` (`mergeChanges`); the merged change
goes to the BACK of the queue, or — ADD then REMOVE — nothing does. -/
def mergeQ (q : List Msg) (m : Msg) : List Msg :=
  match q.find? (fun x => x.id = m.id) with
  | none => q ++ [m]
  | some old =>
    match mergeKind old.kind m.kind with
    | none => q.filter (fun x => x.id ≠ m.id)
    | some k => q.filter (fun x => x.id ≠ m.id) ++ [{ m with kind := k }]

def exRecv (c : PConfig) (m : Msg) : PConfig :=
  if c.exMerge then { c with exQ := mergeQ c.exQ m } else { c with exQ := [m] }

def fwRecv (c : PConfig) (m : Msg) : PConfig :=
  if c.keep m then { c with fwQ := [m] } else c

def pidRecv (c : PConfig) (m : Msg) : PConfig :=
  if m.id ≠ c.target then c
  else if m.remove then { c with pidDone := true, cancelled := c.cancelled || c.fixed }
  else { c with pidQ := [m] }

def pstep (c : PConfig) : PMove → Option PConfig
  | .push m =>
    if c.inClosed then none
    else if c.hasEx then (if c.exDone then none else some (exRecv c m))
    else if c.fwDone = false ∧ c.fwQ = [] then some (fwRecv c m) else none
  | .consume =>
    if c.hasPid then
      match c.pidQ with
      | m :: r => if c.pidDone then none else some { c with pidQ := r, out := c.out ++ [m] }
      | [] => none
    else
      match c.fwQ with
      | m :: r => if c.fwDone then none else some { c with fwQ := r, out := c.out ++ [m] }
      | [] => none
  | .cancel => some { c with cancelled := true }
  | .closeIn => if c.cancelled = true ∧ c.inClosed = false then some { c with inClosed := true } else none
  | .xferEF =>
    match c.exQ with
    | m :: r =>
      if c.hasEx = true ∧ c.exDone = false ∧ c.fwDone = false ∧ c.fwQ = [] then some (fwRecv { c with exQ := r } m)
      else none
    | [] => none
  | .xferFP =>
    match c.fwQ with
    | m :: r =>
      if c.hasPid = true ∧ c.fwDone = false ∧ c.pidDone = false ∧ c.pidQ = [] then some (pidRecv { c with fwQ := r } m)
      else none
    | [] => none
  | .exExit =>
    if c.hasEx = true ∧ c.exDone = false ∧ c.inClosed = true then some { c with exDone := true, exQ := [] } else none
  | .fwExitIn =>
    if c.fwDone = false ∧ c.fwQ = [] ∧ c.fwInClosed = true then some { c with fwDone := true } else none
  | .fwExitCtx =>
    if c.fwDone = false ∧ c.fwQ ≠ [] ∧ c.cancelled = true then some { c with fwDone := true, fwQ := [] } else none
  | .pidExitIn =>
    if c.hasPid = true ∧ c.pidDone = false ∧ c.pidQ = [] ∧ c.fwDone = true then
      some { c with pidDone := true, cancelled := c.cancelled || c.fixed }
    else none
  | .pidExitCtx =>
    if c.hasPid = true ∧ c.pidDone = false ∧ c.pidQ ≠ [] ∧ c.cancelled = true then
      some { c with pidDone := true, pidQ := [] }
    else none

def pnext (c : PConfig) (m : PMove) : PConfig := (pstep c m).getD c
def prun (c : PConfig) (sched : List PMove) : PConfig := sched.foldl pnext c

/-! ### ids as the callers spell them

`Collection.Update`, `Collection.Delete` and `Collection.PullID` first run the caller's id through the
collection's id interceptor (`c.idInterceptor`; the identity when none is configured): the item is stored,
and every event about it is published, under the intercepted id. -/

/-- the event `Collection.Update(raw, …)` / `Collection.Delete(raw)` publishes on the bus -/
def changeOf (icpt : Nat → Nat) (raw : Nat) (kind : Kind) (tag : Nat) : Msg := ⟨icpt raw, kind, tag⟩

/-- the id `Collection.PullID(ctx, raw)` compares the events of its inner `Pull` with -/
def pullIDTarget (icpt : Nat → Nat) (raw : Nat) : Nat := icpt raw

/-! ### a consumer that ranges over the channel

The generated gRPC `Pull…` handlers of the trait models are `for change := range model.Pull…(ctx) { send }`:
they do not look at the context themselves and return only when the channel is closed. -/

structure RConfig where
  p : PConfig
  hDone : Bool := false        -- the handler has returned

inductive RMove
  | pipe (m : PMove)           -- a step of the subscription or its environment (`consume` = one loop iteration)
  | hExit                      -- `range` sees the close: the handler returns

def rstep (h : RConfig) : RMove → Option RConfig
  | .pipe m =>
    if m = .consume ∧ h.hDone = true then none    -- a handler that has returned does not receive
    else (pstep h.p m).map fun p' => { h with p := p' }
  | .hExit =>
    if h.hDone = false ∧ h.p.outClosed = true ∧ (if h.p.hasPid then h.p.pidQ = [] else h.p.fwQ = []) then
      some { h with hDone := true }
    else none

/-! ### a trait-model adapter

`onoffpb.Model.PullOnOff` and its siblings: a goroutine that ranges over the `pkg/resource` channel and hands each
change, converted, to the subscriber on a channel of its own.  After fix aa57613 that hand-over is
`select { case <-ctx.Done(): return; case send <- change: }` (`watchesCtx = true`); before, it was a bare
`send <- change`. -/

structure AConfig where
  p : PConfig
  watchesCtx : Bool
  hold : Bool := false         -- the adapter has a change in hand and offers it to the subscriber
  aDone : Bool := false        -- the adapter goroutine has returned (its channel is closed)

inductive AMove
  | pipe (m : PMove)           -- a step of the underlying subscription or its environment (not `consume`)
  | aRecv                      -- the adapter receives one change from the pkg/resource channel
  | aSend                      -- the subscriber receives the change the adapter offers
  | aExitIn                    -- `range` sees the close
  | aExitCtx                   -- the `ctx.Done()` case of the hand-over
deriving DecidableEq

def astep (a : AConfig) : AMove → Option AConfig
  | .pipe m => if m = .consume then none else (pstep a.p m).map fun p' => { a with p := p' }
  | .aRecv =>
    if a.aDone = false ∧ a.hold = false then (pstep a.p .consume).map fun p' => { a with p := p', hold := true }
    else none
  | .aSend => if a.aDone = false ∧ a.hold = true then some { a with hold := false } else none
  | .aExitIn =>
    if a.aDone = false ∧ a.hold = false ∧ a.p.outClosed = true ∧
        (if a.p.hasPid then a.p.pidQ = [] else a.p.fwQ = []) then some { a with aDone := true }
    else none
  | .aExitCtx =>
    if a.watchesCtx = true ∧ a.aDone = false ∧ a.hold = true ∧ a.p.cancelled = true then
      some { a with aDone := true, hold := false }
    else none

/-! ### the gRPC handler of a trait `ModelServer` on top of an adapter

`for change := range model.Pull…(server.Context(), …) { if err := server.Send(…); err != nil { return err } }`: the
handler receives from the ADAPTER's channel; it returns when that channel is closed, or — at any moment — when the
stream's `Send` fails (the client went away), leaving the adapter with nobody receiving.  (`GroupFan.lean` uses the names
`GConfig` / `GMove` / `gstep` for another model, the Group fan-in; it cannot be imported together with this file.) -/

structure GConfig where
  a : AConfig
  gDone : Bool := false        -- the handler has returned

inductive GMove
  | ad (m : AMove)             -- a step of the adapter, the subscription or its environment (`aSend` = one loop iteration)
  | gFail                      -- `server.Send` returned an error: the handler returns
  | gExit                      -- `range` sees the adapter's channel closed: the handler returns

def gstep (g : GConfig) : GMove → Option GConfig
  | .ad m => if m = .aSend ∧ g.gDone = true then none else (astep g.a m).map fun a' => { g with a := a' }
  | .gFail => if g.gDone = false then some { g with gDone := true } else none
  | .gExit => if g.gDone = false ∧ g.a.aDone = true ∧ g.a.hold = false then some { g with gDone := true } else none

/-- termination measure: one unit per live goroutine plus, per held message, its distance to the exit -/
def pmu (c : PConfig) : Nat :=
  (if c.hasEx && !c.exDone then 1 + 3 * c.exQ.length else 0) +
  (if !c.fwDone then 1 + 2 * c.fwQ.length else 0) +
  (if c.hasPid && !c.pidDone then 1 + c.pidQ.length else 0)

end ScVerif.C10
