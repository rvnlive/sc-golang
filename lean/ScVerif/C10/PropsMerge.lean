import ScVerif.C10.NetRun
/-!
# C10 — property theorems, part 7: what `mergeChanges` owes the receiver

Without backpressure the changes of an item that arrive while the consumer is away are folded into one held change
(`mergeCollectionExcess` / `mergeChanges`; model: `mergeQ` / `mergeKind`).  "A single-item subscription also ends when
the item is removed" — and a `Collection.Pull` subscriber is told of the removal — only if that fold never loses the
net effect: a receiver that was shown the item and is behind by delete, re-add, delete is still owed a REMOVE.
-/
namespace ScVerif.C10

/-- One merge: for every view `s` a receiver can have of the item and every two changes the collection can publish in that
order, the merged change is one the receiver can apply and takes its view where the two would have; and when nothing
is left (ADD then REMOVE) the view is back where it was. -/
theorem C10_mergeChanges_preserves_net_effect (s : Bool) (a b : Kind)
    (ha : okKind s a = true) (hb : okKind (applyKind s a) b = true) :
    match mergeKind a b with
    | none => applyKind (applyKind s a) b = s
    | some k => okKind s k = true ∧ applyKind s k = applyKind (applyKind s a) b := by
  exact mergeKind_net s a b ha hb

/-- The merge stage, for every item `t`: the receiver has been told `s0`, the stage holds for `t` a change that brings `s0`
to the item's state `s` (or nothing), and ANY sequence of changes arrives — of any items, interleaved in any way, those
of `t` being changes the collection can publish one after the other from `s`.  Then the stage holds for `t` a change the
receiver can apply and that brings it to the item's final state, or nothing and the receiver is up to date. -/
theorem C10_merge_stage_preserves_net_effect (t : Nat) (s0 s : Bool) (q ms : List Msg)
    (hq : NetOK s0 s ((ent t q).map (·.kind))) (hv : validSeq s (kindsOf t ms) = true) :
    NetOK s0 (applySeq s (kindsOf t ms)) ((ent t (ms.foldl mergeQ q)).map (·.kind)) := by
  rw [ent_foldl_mergeQ]
  exact mergeSeq_net s0 (kindsOf t ms) s _ hq hv

/-- … for the case the property is about: the receiver was shown the item, the item is gone in the end — then a REMOVE of
it is queued, whatever was merged on the way. -/
theorem C10_merge_stage_owes_remove (t : Nat) (s : Bool) (q ms : List Msg)
    (hq : NetOK true s ((ent t q).map (·.kind))) (hv : validSeq s (kindsOf t ms) = true)
    (hgone : applySeq s (kindsOf t ms) = false) :
    ∃ m, ent t (ms.foldl mergeQ q) = some m ∧ m.kind = .remove := by
  have h := C10_merge_stage_preserves_net_effect t true s q ms hq hv
  rw [hgone] at h
  cases he : ent t (ms.foldl mergeQ q) with
  | none => rw [he] at h; exact absurd (show false = true from h) (by decide)
  | some m =>
    rw [he] at h
    exact ⟨m, rfl, applyKind_eq_false.1 h.2⟩

/-- The merge stage as a machine, EVERY run (arrivals in any order, the forwarder taking the head of the queue at any
moments in between): the queue holds at most one change of `t`, and what the receiver has been handed so far (`told`)
plus that queued change add up to the item's state — so whenever nothing of `t` is queued the receiver's view of the
item is right: every removal and every re-creation has been handed on. -/
theorem C10_merge_stage_every_run_adds_up (t : Nat) (s : Bool) (moves : List EMove) :
    let e := erun t { q := [], told := s, st := s } moves
    cnt t e.q ≤ 1 ∧ NetOK e.told e.st ((ent t e.q).map (·.kind)) ∧ (ent t e.q = none → e.told = e.st) := by
  intro e
  have h : EInv t e := einv_run t moves _ ⟨by simp, rfl⟩
  refine ⟨h.uniq, h.net, fun hn => ?_⟩
  have := h.net
  rw [hn] at this
  exact this.symm

/-- non-vacuity: update, (taken), delete, re-add, delete, (taken): the receiver saw the update, then the REMOVE -/
example :
    let e := erun 7 { q := [], told := true, st := true }
      [.arrive ⟨7, .update, 1⟩, .take, .arrive ⟨7, .remove, 0⟩, .arrive ⟨3, .add, 9⟩, .arrive ⟨7, .add, 2⟩,
       .arrive ⟨7, .remove, 0⟩]
    e.q = [⟨3, .add, 9⟩, ⟨7, .remove, 0⟩] ∧ e.told = true ∧ e.st = false ∧
      (erun 7 e [.take, .take]).told = false ∧ (erun 7 e [.take, .take]).q = [] := by decide

/-- non-vacuity: two updates queued behind a receiver that knows the item, then delete, re-add, delete with changes of
another item in between: one REMOVE is queued (behind the other item's ADD) -/
example :
    let ms : List Msg := [⟨7, .update, 1⟩, ⟨7, .update, 2⟩, ⟨7, .remove, 0⟩, ⟨3, .add, 9⟩, ⟨7, .add, 4⟩, ⟨7, .remove, 0⟩]
    validSeq true (kindsOf 7 ms) = true ∧ applySeq true (kindsOf 7 ms) = false ∧
      ms.foldl mergeQ [] = [⟨3, .add, 9⟩, ⟨7, .remove, 0⟩] := by decide

/-- … and an item the receiver never saw, added and deleted behind it, leaves nothing -/
example :
    let ms : List Msg := [⟨7, .add, 1⟩, ⟨7, .update, 2⟩, ⟨7, .remove, 0⟩]
    validSeq false (kindsOf 7 ms) = true ∧ ms.foldl mergeQ [] = [] := by decide

end ScVerif.C10
