import ScVerif.C10.BusReach
import ScVerif.C10.BusMeasure
/-!
# C10 — property theorems, part 1: the event bus (`internal/minibus/bus.go`)

Property (fixed text): "Cancelling a subscription's context at any moment (before, during or after
deliveries, with writers active) closes its channel, never panics, never deadlocks or stalls writers
or other subscribers beyond the cancel itself, and every goroutine started for it terminates; a
single-item subscription also ends when the item is removed. An event sent on the bus reaches every
listener that is live for the whole send exactly once, in per-sender order, and never reaches a
channel after it was closed."

All theorems: any number of listeners and senders, any number of `Send` calls per sender (`todo`), EVERY schedule,
`cancel`, `cancelSend` and `recvReq` at arbitrary positions.
-/
namespace ScVerif.C10

/-- No schedule reaches a Go runtime panic (send on a closed non-nil channel, close of a closed channel). -/
theorem C10_no_panic (todo : Nat → Nat) (sched : List Move) :
    (run (init todo) sched).panicked = false :=
  (Reachable.inv ⟨todo, sched, rfl⟩).lock.noPanic

/-- RLock held ⇒ no close in between: a sender that holds `l.m.RLock` (inside `select`, or past it and not yet unlocked)
excludes the write lock, and the channel is not in the closed-but-not-nil window; hence every enabled delivery targets
an open channel. -/
theorem C10_no_send_on_closed (c : Config) (hc : Reachable c) (t l : Nat) :
    (Holding (c.ss t) l → (c.ls l).wHeld = false ∧ ¬ ((c.ls l).closed = true ∧ (c.ls l).isNil = false)) ∧
    (∀ c', step c (.sDeliver t) = some c' → (c.ss t).rest.head? = some l →
        (c.ls l).closed = false ∧ c'.panicked = false) := by
  have hI := hc.inv
  refine ⟨fun h => hI.lock.not_closing h, ?_⟩
  intro c' hs hl
  have hs' := Step.of_step hs
  have hp := (inv_step hI hs').lock.noPanic
  refine ⟨?_, hp⟩
  cases hs' with
  | sDeliverPanic => cases hp
  | sDeliver _ l2 r hrest _ _ _ hopen => rw [hrest] at hl; cases hl; exact hopen

/-- Exactly once: when the loop of a `Send` call has gone through its whole snapshot, every listener of the snapshot whose
context is still not cancelled (live for the whole send: `C10_cancelled_stable`) has received this call's event exactly
once. -/
theorem C10_exactly_once (c : Config) (hc : Reachable c) (t l : Nat) :
    (c.ss t).pc = .loop → (c.ss t).rest = [] → l ∈ (c.ss t).snap → (c.ls l).cancelled = false →
    (c.ls l).recvd.count ⟨t, (c.ss t).cur⟩ = 1 := by
  intro hpc hrest hl hcan
  -- at loop exit `visited` is the whole snapshot
  have h := hc.inv.struct.split (t := t) (by simp [hpc])
  rw [hrest, List.append_nil] at h
  exact hc.inv.visited_once (h ▸ hl) hcan

/-- non-vacuity of `C10_exactly_once`: one listener, one Send -/
example :
    let c := run (init fun _ => 1)
      [.lSpawn 0, .lRegister 0, .sSnapshot 0, .sAcquire 0, .recvReq 0, .sDeliver 0, .sRelease 0]
    (c.ss 0).pc = .loop ∧ (c.ss 0).rest = [] ∧ 0 ∈ (c.ss 0).snap ∧ (c.ls 0).cancelled = false ∧
      (c.ls 0).recvd = [⟨0, 1⟩] := by decide

/-- …and the listener cancelled during the send: nothing delivered, the call still returns `true`, the dead listener is
collected -/
example :
    let c := run (init fun _ => 1)
      [.lSpawn 0, .lRegister 0, .sSnapshot 0, .sAcquire 0, .cancel 0, .sListenCancelled 0, .sRelease 0,
       .sFinish 0, .sCollect 0]
    (c.ss 0).results = [true] ∧ (c.ls 0).recvd = [] ∧ c.bus = [] := by decide

/-- `cancelled` never reverts, along any schedule -/
theorem C10_cancelled_stable_run (c : Config) (sched : List Move) (l : Nat) :
    (c.ls l).cancelled = true → ((run c sched).ls l).cancelled = true :=
  run_induct (P := fun c => (c.ls l).cancelled = true) (fun _ _ _ h hs => hs.cancelled_mono h) sched

/-- A cancelled listen context stays cancelled (so "not cancelled at the end of the send" means "live for the whole send"). -/
theorem C10_cancelled_stable (c : Config) (m : Move) (l : Nat) :
    (c.ls l).cancelled = true → ((next c m).ls l).cancelled = true :=
  C10_cancelled_stable_run c [m] l

/-- Churn: a registered listener whose context is live is never dropped from `b.listeners`, whoever collects and whenever
(`Bus.collect` of any sender may run while other Sends are in flight).  So it is in the snapshot of every later Send,
and `C10_exactly_once` applies to it. -/
theorem C10_live_listener_stays_registered (c : Config) (sched : List Move) (l : Nat) :
    l ∈ c.bus → ((run c sched).ls l).cancelled = false → l ∈ (run c sched).bus := by
  intro hb hfin
  -- along the schedule: `l` is cancelled (for good) or still registered
  refine (run_induct (P := fun c => (c.ls l).cancelled = true ∨ l ∈ c.bus) (fun c m c' h hs => ?_) sched
    (.inr hb)).resolve_left (by simp [hfin])
  rcases h with h | h
  · exact .inl (hs.cancelled_mono h)
  -- only `Bus.Listen` adds to `b.listeners`, and `Bus.collect` drops cancelled listeners only
  cases hs with
  | lRegister => exact .inr (List.mem_append_left _ h)
  | sCollect =>
    cases hc : (c.ls l).cancelled with
    | true => exact .inl hc
    | false => exact .inr (List.mem_filter.2 ⟨h, by simp [hc]⟩)
  | _ => exact .inr h

/-- churn: sender 1 collects the cancelled listener 1 while sender 0's Send is in flight; listener 0 stays registered and
receives sender 0's event once; sender 0, on its own snapshot that still names listener 1, completes -/
example :
    let c := run (init fun _ => 1)
      [.lSpawn 0, .lRegister 0, .lSpawn 1, .lRegister 1, .sSnapshot 0, .sSnapshot 1, .cancel 1,
       .sAcquire 1, .recvReq 0, .sDeliver 1, .sRelease 1, .sAcquire 1, .sListenCancelled 1, .sRelease 1,
       .sFinish 1, .sCollect 1,
       .sAcquire 0, .recvReq 0, .sDeliver 0, .sRelease 0, .sAcquire 0, .sListenCancelled 0, .sRelease 0]
    c.bus = [0] ∧ (c.ss 0).snap = [0, 1] ∧ (c.ss 0).pc = .loop ∧ (c.ss 0).rest = [] ∧
      (c.ls 0).recvd = [⟨1, 1⟩, ⟨0, 1⟩] := by decide

/-- Per-sender order on every listener: of two events received on one channel from the same sender, the earlier received
one comes from the earlier `Send` call. -/
theorem C10_per_sender_order (todo : Nat → Nat) (sched : List Move) (l : Nat) :
    ((run (init todo) sched).ls l).recvd.Pairwise (fun a b => a.sender = b.sender → a.seq < b.seq) :=
  (Reachable.inv ⟨todo, sched, rfl⟩).deliv.order l

/-- Nothing is received that was not sent: a received event's number is at most the number of `Send` calls its sender has
started.  (Numbers start at 1; the bound does not need the hypothesis `1 ≤ e.seq`.) -/
theorem C10_received_was_sent (todo : Nat → Nat) (sched : List Move) (l : Nat) (e : Ev) :
    e ∈ ((run (init todo) sched).ls l).recvd → 1 ≤ e.seq → e.seq ≤ ((run (init todo) sched).ss e.sender).cur :=
  fun h _ => (Reachable.inv ⟨todo, sched, rfl⟩).deliv.bound l e h

/-- `cancel l` is always enabled, changes nothing but `l`'s `cancelled` flag, and never disables a move of anybody else. -/
theorem C10_others_unaffected (c : Config) (l : Nat) :
    ∃ c', step c (.cancel l) = some c' ∧
      c'.ss = c.ss ∧ c'.bus = c.bus ∧ c'.panicked = c.panicked ∧
      (∀ l', l' ≠ l → c'.ls l' = c.ls l') ∧
      (c'.ls l).recvd = (c.ls l).recvd ∧ (c'.ls l).readers = (c.ls l).readers ∧
      (∀ m, (step c m).isSome → (step c' m).isSome) := by
  refine ⟨_, rfl, rfl, rfl, rfl, ?_, ?_, ?_, ?_⟩
  · intro l' h; simp [upd_apply, h]
  · simp
  · simp
  · -- the guards of `step` read every record as before, but for `l`'s `cancelled`, and that one only positively
    -- (`wAwake`, `sListenCancelled`)
    generalize hc1 : c.setL l { c.ls l with cancelled := true } = c1
    have hss : c1.ss = c.ss := by subst hc1; rfl
    have hls : ∀ l', (c1.ls l').closed = (c.ls l').closed ∧ (c1.ls l').isNil = (c.ls l').isNil ∧
        (c1.ls l').readers = (c.ls l').readers ∧ (c1.ls l').wWait = (c.ls l').wWait ∧
        (c1.ls l').wHeld = (c.ls l').wHeld ∧ (c1.ls l').wpc = (c.ls l').wpc ∧ (c1.ls l').lpc = (c.ls l').lpc ∧
        (c1.ls l').rcvReady = (c.ls l').rcvReady ∧ (c1.ls l').sawClose = (c.ls l').sawClose ∧
        ((c.ls l').cancelled = true → (c1.ls l').cancelled = true) := by
      intro l'
      subst hc1
      simp only [Config.setL_ls, upd_apply]
      split <;> simp_all
    intro m hm
    obtain ⟨c2, h2⟩ := Option.isSome_iff_exists.1 hm
    clear hm hc1
    -- the guards of the outcome that was enabled hold of `c1` as well
    cases Step.of_step h2 <;> clear h2 <;> simp_all [step]

/-- The writer is not held beyond the cancel: a sender blocked in the `select` of `listener.send` on `l` can move as soon as
`l` is cancelled, then releases the lock and goes on with its snapshot. -/
theorem C10_cancel_unblocks_writer (c : Config) (t l : Nat) (tl : List Nat)
    (hpc : (c.ss t).pc = .rlocked) (hrest : (c.ss t).rest = l :: tl) :
    ∃ c2, step (next c (.cancel l)) (.sListenCancelled t) = some c2 ∧
      ∃ c3, step c2 (.sRelease t) = some c3 ∧ (c3.ss t).pc = .loop ∧ (c3.ss t).rest = tl := by
  simp [next, step, hrest, hpc]

/-- is `m` a step of listener `l`'s watcher goroutine? -/
def watcherMove (l : Nat) (m : Move) : Bool :=
  m = .wAwake l || m = .wLockReq l || m = .wLockAcq l || m = .wClose l || m = .wNil l || m = .wUnlock l

/-- After `cancel l` the goroutines that must finish for `l`'s channel to be closed are never all blocked: the watcher has an
enabled step, or it waits for the write lock and a sender that still holds `l`'s read lock has one (`listenCancelled`
in its `select`, or its `RUnlock`) — and no new reader can get in (`wWait`). -/
theorem C10_cancel_releases (c : Config) (hc : Reachable c) (l : Nat)
    (hcan : (c.ls l).cancelled = true) (hw : (c.ls l).wpc ≠ .none) (hd : (c.ls l).wpc ≠ .done) :
    (∃ m, watcherMove l m = true ∧ (step c m).isSome) ∨
    ((c.ls l).wpc = .wait ∧ (c.ls l).wWait = true ∧
      ∃ t, t ∈ (c.ls l).readers ∧ ((step c (.sListenCancelled t)).isSome ∨ (step c (.sRelease t)).isSome)) := by
  have hI := hc.inv
  cases hpc : (c.ls l).wpc with
  | none => exact absurd hpc hw
  | done => exact absurd hpc hd
  | await => exact Or.inl ⟨.wAwake l, by simp [watcherMove], by simp [step, hpc, hcan]⟩
  | enter => exact Or.inl ⟨.wLockReq l, by simp [watcherMove], by simp [step, hpc]⟩
  | locked => exact Or.inl ⟨.wClose l, by simp [watcherMove], by
    -- `wClose` is enabled whatever the channel's state: nil, closed (the panic outcome) or open
    cases hn : (c.ls l).isNil <;> cases hcl : (c.ls l).closed <;> simp [step, hpc, hn, hcl]⟩
  | closing => exact Or.inl ⟨.wNil l, by simp [watcherMove], by simp [step, hpc]⟩
  | unlock => exact Or.inl ⟨.wUnlock l, by simp [watcherMove], by simp [step, hpc]⟩
  | wait =>
    cases hr : (c.ls l).readers with
    | nil => exact Or.inl ⟨.wLockAcq l, by simp [watcherMove], by simp [step, hpc, hr]⟩
    | cons t ts =>
      refine Or.inr ⟨rfl, by rw [hI.lock.wait l, hpc]; rfl, t, by simp, ?_⟩
      have hmem : t ∈ (c.ls l).readers := by rw [hr]; simp
      obtain ⟨hpcs, hhead⟩ := (hI.lock.readers t l).1 hmem
      cases hrest : (c.ss t).rest with
      | nil => rw [hrest] at hhead; cases hhead
      | cons l' tl =>
        have hl : l' = l := by rw [hrest] at hhead; simpa using hhead
        subst hl
        rcases hpcs with h | ⟨o, h⟩
        · exact Or.inl (by simp [step, hrest, h, hcan])
        · refine Or.inr ?_
          simp only [step, hrest, h]
          split <;> simp

/-- non-vacuity of `C10_cancel_releases`: the watcher waits for the write lock while a sender parked inside `listener.send`
holds the read lock — the situation the K4 tie observes on the real code -/
example :
    let c := run (init fun _ => 1)
      [.lSpawn 0, .lRegister 0, .sSnapshot 0, .sAcquire 0, .cancel 0, .wAwake 0, .wLockReq 0, .wLockAcq 0]
    (c.ls 0).cancelled = true ∧ (c.ls 0).wpc = .wait ∧ (c.ls 0).readers = [0] ∧
      (step c (.sListenCancelled 0)).isSome = true ∧ (step c (.wLockAcq 0)).isSome = false := by decide

/-- The waiting watcher cannot be starved: a queued `Lock` makes new `RLock` calls wait, so the readers it waits for only
get fewer. -/
theorem C10_waiting_watcher_not_starved (c c' : Config) (hc : Reachable c) (m : Move) (l : Nat)
    (hw : (c.ls l).wpc = .wait) (hs : step c m = some c') :
    ∀ t, t ∈ (c'.ls l).readers → t ∈ (c.ls l).readers :=
  fun _ ht => ((Step.of_step hs).readers_sublist (by rw [hc.inv.lock.wait l, hw]; rfl)).subset ht

/-- The watcher's own steps strictly decrease `wsteps`, and nobody else's step changes it: it terminates after at most six
of its own steps. -/
theorem C10_watcher_terminates (c c' : Config) (m : Move) (l : Nat) (hs : step c m = some c')
    (hm : m ≠ .lSpawn l) :
    (watcherMove l m = true → wsteps (c'.ls l).wpc < wsteps (c.ls l).wpc) ∧
    (watcherMove l m = false → (c'.ls l).wpc = (c.ls l).wpc) := by
  cases Step.of_step hs with
  | cancelSend | sSnapshot | sListenCancelled | sSendCancelled | sFinishGc | sFinish | sCollect
  | sDeliverPanic => exact ⟨fun h => by simp [watcherMove] at h, fun _ => rfl⟩
  | lSpawn l' =>
    refine ⟨fun h => by simp [watcherMove] at h, fun _ => ?_⟩
    exact Config.setL_ind (P := fun L => L.wpc = (c.ls l).wpc) (fun hl => absurd (hl ▸ rfl) hm) fun _ => rfl
  | wAwake l' hw | wLockReq l' hw | wLockAcq l' hw | wCloseNil l' hw | wClosePanic l' hw | wClose l' hw
  | wNil l' hw | wUnlock l' hw =>
    refine Config.setL_ind (P := fun L => (watcherMove l _ = true → wsteps L.wpc < wsteps (c.ls l).wpc) ∧
      (watcherMove l _ = false → L.wpc = (c.ls l).wpc)) (fun hl => ?_) fun hl => ?_
    · subst hl
      exact ⟨fun _ => by simp [hw, wsteps], fun h => by simp [watcherMove] at h⟩
    · exact ⟨fun h => by simp [watcherMove, Ne.symm hl] at h, fun _ => rfl⟩
  | _ =>
    refine ⟨fun h => by simp [watcherMove] at h, fun _ => ?_⟩
    refine Config.setL_stable (P := fun L => L.wpc = (c.ls l).wpc) ?_ l rfl
    exact id

/-- termination measure of `l`'s shutdown at bus level, lexicographic: the watcher's remaining steps, then (while it waits
for the write lock) the steps its readers still need -/
def busMu (c : Config) (l : Nat) : Nat × Nat :=
  (wsteps (c.ls l).wpc, if (c.ls l).wpc = .wait then rsum c l else 0)

/-- Termination at bus level, not only progress: no step of anybody (but the `Listen` call that creates the watcher)
increases `busMu · l`; the watcher's steps decrease its first component, and while it waits the steps of a sender holding
`l`'s read lock decrease the second.  With `C10_cancel_releases` and well-foundedness, every fair schedule closes the
channel (`C10_done_closed`). -/
theorem C10_cancel_terminates_bus (c c' : Config) (hc : Reachable c) (m : Move) (l : Nat)
    (hs : step c m = some c') (hm : m ≠ .lSpawn l) :
    ((busMu c' l).1 < (busMu c l).1 ∨ ((busMu c' l).1 = (busMu c l).1 ∧ (busMu c' l).2 ≤ (busMu c l).2)) ∧
    (watcherMove l m = true → (busMu c' l).1 < (busMu c l).1) ∧
    (∀ t, (c.ls l).wpc = .wait → t ∈ (c.ls l).readers → readerMove t m = true →
        (busMu c' l).1 = (busMu c l).1 ∧ (busMu c' l).2 < (busMu c l).2) := by
  have hW := C10_watcher_terminates c c' m l hs hm
  have hI := hc.inv.lock
  cases hwm : watcherMove l m with
  | true =>
    have := hW.1 hwm
    refine ⟨Or.inl this, fun _ => this, ?_⟩
    intro t _ _ hr
    exfalso
    cases m <;> simp [watcherMove, readerMove] at hwm hr
  | false =>
    have hpc := hW.2 hwm
    refine ⟨Or.inr ⟨by simp [busMu, hpc], ?_⟩, fun h => by simp at h, ?_⟩
    · simp only [busMu, hpc]
      split
      · rename_i hw; exact rsum_step_le hI hw hs
      · exact Nat.le_refl _
    · intro t hw ht hr
      refine ⟨by simp [busMu, hpc], ?_⟩
      simp only [busMu, hpc, hw, if_true]
      exact rsum_step_lt hI ht hr hs

/-- the order `busMu` is compared in (`C10_cancel_terminates_bus`) is well founded: the descent ends -/
theorem C10_busMu_order_wf : WellFounded (Prod.Lex (· < ·) (· < ·) : Nat × Nat → Nat × Nat → Prop) :=
  (Prod.lex ⟨_, Nat.lt_wfRel.wf⟩ ⟨_, Nat.lt_wfRel.wf⟩).wf

/-- …and when the watcher has returned, the channel is closed and nil. -/
theorem C10_done_closed (c : Config) (hc : Reachable c) (l : Nat) (hd : (c.ls l).wpc = .done) :
    (c.ls l).closed = true ∧ (c.ls l).isNil = true ∧ (c.ls l).wHeld = false := by
  have hI := hc.inv.lock
  refine ⟨?_, ?_, ?_⟩
  · rw [hI.closed l, hd]; rfl
  · rw [hI.nil l, hd]; rfl
  · rw [hI.held l, hd]; rfl

/-- A `Send` without a deadline is never abandoned.  `Collection.Update` / `Collection.Delete` publish with
`context.TODO()`: no `cancelSend t` ever happens.  Then `t` never takes the `<-ctx.Done()` case of `listener.send` and every
call it finished returned `true`: it went through its WHOLE snapshot, also past a listener that stalled for however
long. -/
theorem C10_send_without_deadline_never_abandons (todo : Nat → Nat) (sched : List Move) (t : Nat)
    (h : ∀ m ∈ sched, m ≠ .cancelSend t) :
    let c := run (init todo) sched
    (c.ss t).pc ≠ .selected .sendCancelled ∧ (∀ r ∈ (c.ss t).results, r = true) :=
  (noAbandon_run (init todo) sched t h (noAbandon_init todo t)).2

/-- … and it waits for as long as it takes: parked on a listener that neither receives nor is cancelled, a sender whose
own context is live has no enabled step. -/
theorem C10_send_without_deadline_waits (c : Config) (t l : Nat) (tl : List Nat)
    (hpc : (c.ss t).pc = .rlocked) (hrest : (c.ss t).rest = l :: tl) (hctx : (c.ss t).ctxDone = false)
    (hlive : (c.ls l).cancelled = false) (hidle : (c.ls l).rcvReady = false) :
    step c (.sDeliver t) = none ∧ step c (.sListenCancelled t) = none ∧ step c (.sSendCancelled t) = none ∧
    step c (.sRelease t) = none ∧ step c (.sFinish t) = none ∧ step c (.sAcquire t) = none := by
  simp [step, hpc, hrest, hctx, hlive, hidle]

/-- Why the hypothesis matters: a `Send` whose context ends while it is parked on the stalled listener 0 returns `false` and
SKIPS listener 1 behind it, which is live and receiving — for a REMOVE, a single-item subscription that does not end. -/
theorem C10_send_deadline_skips_listeners_behind :
    ∃ sched : List Move,
      let c := run (init fun _ => 1) sched
      (c.ss 0).results = [false] ∧ (c.ss 0).pc = .idle ∧ (c.ss 0).snap = [0, 1] ∧
      (c.ls 1).cancelled = false ∧ (c.ls 1).rcvReady = true ∧ (c.ls 1).recvd = [] :=
  ⟨[.lSpawn 0, .lRegister 0, .lSpawn 1, .lRegister 1, .recvReq 1, .sSnapshot 0, .sAcquire 0, .cancelSend 0,
    .sSendCancelled 0, .sRelease 0], by decide⟩

/-- non-vacuity of `C10_send_without_deadline_waits` -/
example :
    let c := run (init fun _ => 1) [.lSpawn 0, .lRegister 0, .sSnapshot 0, .sAcquire 0]
    (c.ss 0).pc = .rlocked ∧ (c.ss 0).rest = [0] ∧ (c.ss 0).ctxDone = false ∧ (c.ls 0).cancelled = false ∧
      (c.ls 0).rcvReady = false := by decide

end ScVerif.C10
