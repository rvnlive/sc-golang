import ScVerif.C10.PipeExec
import ScVerif.C10.MergeAux
/-!
C10 — what flows through a subscription's pipeline, relative to its history `H` (the seed values followed by
everything pushed so far): stages drop (lossy stage, filter, PullID's other items, exits) and merge, they never
duplicate, reorder or invent (`flow`); with backpressure and a pass-all filter what the user gets is EXACTLY `H`
(`Lossless`), for a PullID `H` restricted to the item (`PidInv`).
-/
namespace ScVerif.C10

/-- what identifies an event for its writer: the item and the written value (the change type is rewritten by
`mergeChanges`) -/
def Msg.key (m : Msg) : Nat × Nat := (m.id, m.tag)

/-- everything inside the subscription, oldest first: received by the user, held by the PullID stage, by the
forwarder (initially: the seed values), by the excess stage -/
def PConfig.flow (c : PConfig) : List Msg :=
  c.out ++ ((if c.hasPid then c.pidQ else []) ++ (c.fwQ ++ (if c.hasEx then c.exQ else [])))

theorem mergeQ_sub (q : List Msg) (m : Msg) : ((mergeQ q m).map Msg.key).Sublist ((q ++ [m]).map Msg.key) := by
  unfold mergeQ
  split
  · exact List.Sublist.refl _
  · split
    · exact ((List.filter_sublist).trans (List.sublist_append_left _ _)).map _
    · rename_i k _
      have h1 : ((q.filter fun (x : Msg) => x.id ≠ m.id) ++ [{ m with kind := k }]).map Msg.key =
          ((q.filter fun (x : Msg) => x.id ≠ m.id) ++ [m]).map Msg.key := by simp [Msg.key]
      rw [h1]
      exact (List.Sublist.append (List.filter_sublist) (List.Sublist.refl _)).map _

theorem sub_mid {α} {a b c b' : List α} (h : b'.Sublist b) : (a ++ (b' ++ c)).Sublist (a ++ (b ++ c)) :=
  List.Sublist.append (List.Sublist.refl _) (List.Sublist.append h (List.Sublist.refl _))

theorem flow_step {c c' : PConfig} {m : PMove} (hs : pstep c m = some c') :
    c'.hasPid = c.hasPid ∧ c'.hasEx = c.hasEx ∧
    (c'.flow.map Msg.key).Sublist ((c.flow ++ pushesOf [m]).map Msg.key) := by
  have hs' := PStep.of_pstep hs
  refine ⟨(pstep_static hs).hasPid, (pstep_static hs).hasEx, ?_⟩
  cases hs' with
  | pushEx x _ hex =>
    simp [PConfig.flow, pushesOf, exRecv_eq, hex]
    split
    · simpa using mergeQ_sub c.exQ x
    · simp
  | pushFw x _ hex _ hq =>
    simp [PConfig.flow, pushesOf, fwRecv_eq, hex, hq]
    split <;> simp
  | xferEF x r hq hex _ _ hfq =>
    simp [PConfig.flow, pushesOf, fwRecv_eq, hex, hq, hfq]
    split <;> simp
  | xferFP x r hq hp _ _ hpq =>
    simp [PConfig.flow, pushesOf, pidRecv_eq, hp, hq, hpq]
    split <;> simp
  | _ => simp_all [PConfig.flow, pushesOf]

theorem flow_pexec {p c : PConfig} {ps : List PMove} (h : pexec p ps = some c) :
    (c.flow.map Msg.key).Sublist ((p.flow ++ pushesOf ps).map Msg.key) := by
  refine pexec_induct (P := fun c H => (c.flow.map Msg.key).Sublist (H.map Msg.key)) (fun c m c' H hc hs => ?_)
    (List.Sublist.refl _) h
  rw [List.map_append]
  exact (flow_step hs).2.2.trans (by rw [List.map_append]; exact hc.append_right _)

/-- `H` is the history; the prefix clause is what survives the forwarder's return -/
def Lossless (c : PConfig) (H : List Msg) : Prop :=
  (c.fwDone = false → c.out ++ c.fwQ = H) ∧ c.out <+: H

theorem lossless_step {c c' : PConfig} {m : PMove} {H : List Msg} (hex : c.hasEx = false) (hpid : c.hasPid = false)
    (hk : ∀ x, c.keep x = true) (hI : Lossless c H) (hs : pstep c m = some c') :
    Lossless c' (H ++ pushesOf [m]) := by
  obtain ⟨h1, h2⟩ := hI
  have hpre : c.out <+: H ++ pushesOf [m] := h2.trans (List.prefix_append _ _)
  cases PStep.of_pstep hs with
  | pushEx _ _ hex' | xferEF _ _ _ hex' | exExit hex' => rw [hex] at hex'; cases hex'
  | consumePid _ _ hp | xferFP _ _ _ hp | pidExitIn hp | pidExitCtx hp => rw [hpid] at hp; cases hp
  | pushFw x _ _ hd hq =>
    exact ⟨fun _ => by simp [fwRecv_eq, hk, ← h1 hd, hq, pushesOf], by simpa [fwRecv_eq] using hpre⟩
  | consumeFw x r _ hq hd =>
    have := h1 hd
    rw [hq] at this
    exact ⟨fun _ => by simp [← this, pushesOf], ⟨r, by simp [← this, pushesOf]⟩⟩
  | fwExitIn | fwExitCtx => exact ⟨by simp, hpre⟩
  | cancel | closeIn => exact ⟨by simpa [pushesOf] using h1, hpre⟩

theorem pexec_lossless {p c : PConfig} {ps : List PMove} (hex : p.hasEx = false) (hpid : p.hasPid = false)
    (hk : ∀ x, p.keep x = true) (h : pexec p ps = some c) : Lossless c (p.out ++ p.fwQ ++ pushesOf ps) :=
  (pexec_induct (P := fun c H => p.SameShape c ∧ Lossless c H)
    (fun _ _ _ _ hc hs => ⟨hc.1.trans (pstep_static hs),
      lossless_step (hc.1.hasEx.trans hex) (hc.1.hasPid.trans hpid) (by rw [hc.1.keep]; exact hk) hc.2 hs⟩)
    ⟨⟨rfl, rfl, rfl, rfl, rfl, rfl⟩, fun _ => rfl, List.prefix_append _ _⟩ h).2

/-- the item's part of the history `H` is `out ++ pidQ ++ (the item's part of fwQ)` while both goroutines run (`exact`);
once one has returned, what it dropped is absorbed into the `t` of `pre`; `live`: the REMOVE is never handed on -/
structure PidInv (c : PConfig) (H : List Msg) : Prop where
  exact : c.fwDone = false → c.pidDone = false → c.out ++ (c.pidQ ++ onItem c.target c.fwQ) = onItem c.target H
  pre : ∃ t, c.out ++ (c.pidQ ++ t) = onItem c.target H
  live : ∀ x, x ∈ c.out ++ c.pidQ → x.remove = false

theorem pidInv_step {c c' : PConfig} {m : PMove} {H : List Msg} (hex : c.hasEx = false) (hpid : c.hasPid = true)
    (hk : ∀ x, c.keep x = true) (hI : PidInv c H) (hs : pstep c m = some c') : PidInv c' (H ++ pushesOf [m]) := by
  obtain ⟨h1, ⟨t, h2⟩, h3⟩ := hI
  -- a push extends `H` and `fwQ` alike; `xferFP` / `consumePid` move the item's events along `fwQ → pidQ → out`; an exit
  -- drops what the stage held, which goes into the `t` of `pre`
  cases PStep.of_pstep hs with
  | pushEx _ _ hex' | xferEF _ _ _ hex' | exExit hex' => rw [hex] at hex'; cases hex'
  | consumeFw _ _ hp => rw [hpid] at hp; cases hp
  | pushFw x _ _ hd hq =>
    simp only [fwRecv_eq, hk, if_true]
    refine ⟨fun _ hp => ?_, ⟨t ++ onItem c.target [x], ?_⟩, h3⟩
    · have e := h1 hd hp
      rw [hq] at e
      simp only [pushesOf, onItem_append]
      rw [← e]
      simp [onItem, List.append_assoc]
    · simp only [pushesOf, onItem_append]
      rw [← h2]
      simp [List.append_assoc]
  | consumePid x r _ hq hd =>
    refine ⟨fun hf _ => ?_, ⟨t, ?_⟩, fun y hy => h3 y ?_⟩
    · simpa [hq, pushesOf, List.append_assoc] using h1 hf hd
    · simpa [hq, pushesOf, List.append_assoc] using h2
    · simpa [hq, or_assoc] using hy
  | cancel | closeIn => exact ⟨by simpa [pushesOf] using h1, ⟨t, by simpa [pushesOf] using h2⟩, h3⟩
  | xferFP x r hq _ hfd hd hpq =>
    have e1 := h1 hfd hd
    simp only [hpq, List.nil_append, hq] at e1
    simp only [pidRecv_eq]
    by_cases hid : x.id = c.target
    · have hx : onItem c.target (x :: r) = x :: onItem c.target r := by simp [onItem, hid]
      cases hrm : x.remove with
      | true => exact ⟨by simp [hid], ⟨t, by simpa [pushesOf] using h2⟩, by simpa using h3⟩
      | false =>
        refine ⟨fun _ _ => ?_, ⟨onItem c.target r, ?_⟩, fun y hy => ?_⟩
        · simpa [pushesOf, hx, hid] using e1
        · simpa [pushesOf, hx, hid] using e1
        · simp only [hid, and_self, if_true, List.mem_append, List.mem_singleton] at hy
          rcases hy with hy | hy
          · exact h3 y (by simp [hy])
          · exact hy ▸ hrm
    · have hx : onItem c.target (x :: r) = onItem c.target r := by simp [onItem, hid]
      refine ⟨fun _ _ => ?_, ⟨t, by simpa [pushesOf, hid] using h2⟩, by simpa [hid] using h3⟩
      simpa [pushesOf, hpq, hx, hid] using e1
  | fwExitIn | fwExitCtx | pidExitIn => exact ⟨by simp, ⟨t, by simpa [pushesOf] using h2⟩, h3⟩
  | pidExitCtx =>
    refine ⟨by simp, ⟨c.pidQ ++ t, by simpa [pushesOf] using h2⟩, fun y hy => h3 y ?_⟩
    simp only [List.append_nil] at hy
    simp [hy]

theorem pidInv_pexec {p c : PConfig} {ps : List PMove} {H : List Msg} (hex : p.hasEx = false) (hpid : p.hasPid = true)
    (hk : ∀ x, p.keep x = true) (hI : PidInv p H) (h : pexec p ps = some c) : PidInv c (H ++ pushesOf ps) :=
  (pexec_induct (P := fun c H => p.SameShape c ∧ PidInv c H)
    (fun _ _ _ _ hc hs => ⟨hc.1.trans (pstep_static hs),
      pidInv_step (hc.1.hasEx.trans hex) (hc.1.hasPid.trans hpid) (by rw [hc.1.keep]; exact hk) hc.2 hs⟩)
    ⟨⟨rfl, rfl, rfl, rfl, rfl, rfl⟩, hI⟩ h).2

theorem prefix_takeWhile {α} (p : α → Bool) :
    ∀ (l F : List α), l <+: F → (∀ x, x ∈ l → p x = true) → l <+: F.takeWhile p := by
  rintro l F ⟨t, rfl⟩ h
  rw [List.takeWhile_append_of_pos h]
  exact List.prefix_append _ _

theorem count_map_inj {α β} [DecidableEq α] [DecidableEq β] (f : α → β) (hf : ∀ x y, f x = f y → x = y) (a : α) :
    ∀ l : List α, (l.map f).count (f a) = l.count a
  | [] => rfl
  | b :: l => by
    simp only [List.map_cons, List.count_cons, count_map_inj f hf a l]
    by_cases h : b = a
    · subst h; simp
    · have : f b ≠ f a := fun e => h (hf _ _ e)
      simp [h, this]

theorem count_onItem (t : Nat) (m : Msg) (hm : m.id = t) (l : List Msg) : (onItem t l).count m = l.count m :=
  List.count_filter (by simpa using hm)

end ScVerif.C10
