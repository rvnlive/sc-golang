import ScVerif.C10.Include
/-!
# C10 — property theorems, part 8: subscriptions made `WithInclude`

`Collection.Pull`, `Collection.PullID` and every trait `Pull…` adapter that forwards read options can be given a filter
(`resource.WithInclude(f)`); the forwarder then passes every change through `(*CollectionChange).include`
(model: `includeChg`).  "A single-item subscription also ends when the item is removed" — and a `Collection.Pull`
subscriber is told of the removal — needs the filter stage never to swallow the removal of an item the subscriber had
been shown.  (In the late-subscription model the forwarder's filter is the parameter `keep`, and this is its
hypothesis "never drops a REMOVE of the target".)
-/
namespace ScVerif.C10

/-- The removal of an item whose value the filter includes is forwarded, as a REMOVE carrying the old value — whatever type
the change had (REMOVE, or a REMOVE the lossy stage made of REPLACE + REMOVE …). -/
theorem C10_include_forwards_remove_of_shown_item {V : Type} (f : V → Bool) (c : Chg V)
    (hshown : incl f c.old = true) (hgone : c.new = none) :
    ∃ c', includeChg f c = some c' ∧ c'.kind = .remove ∧ c'.old = c.old ∧ c'.new = none := by
  have hn : incl f c.new = false := by rw [hgone]; rfl
  refine ⟨⟨.remove, c.old, none⟩, ?_, rfl, rfl, rfl⟩
  unfold includeChg
  rw [hshown, hn]
  simp

/-- Every filter, every run of changes of an item (`v` = the item when the subscription was made): the change types the
subscriber receives are a sequence it can apply one after the other to "I am shown the item" — ADD only when it is not
shown, UPDATE / REPLACE / REMOVE only when it is — and leave it at exactly "the item exists and the filter includes its
value". -/
theorem C10_include_subscriber_view_tracks_filter {V : Type} (f : V → Bool) (v : Option V) (cs : List (Chg V))
    (hc : Chain v cs) :
    validSeq (incl f v) (forwarded f cs) = true ∧
    applySeq (incl f v) (forwarded f cs) = incl f (lastVal v cs) :=
  forwarded_chain f cs v hc

/-- The same holds behind the lossy stage: `mergeChanges` makes of two consecutive changes of an item one change of the
kind the theorem above is about, or nothing, and then the item was absent before and is absent after. -/
theorem C10_include_sees_merged_changes_as_changes {V : Type} (v : Option V) (a b : Chg V) (hc : Chain v [a, b]) :
    match mergeChg a b with
    | none => v = none ∧ lastVal v [a, b] = none
    | some c => Chain v [c] ∧ lastVal v [c] = lastVal v [a, b] := by
  obtain ⟨ha, hav, hb, hba, _⟩ := hc
  have h := mergeChg_ends a b ha hb hba
  cases hm : mergeChg a b with
  | none => rw [hm] at h; exact ⟨hav ▸ h.1, h.2⟩
  | some c =>
    rw [hm] at h
    exact ⟨⟨h.1, h.2.1.trans hav, trivial⟩, h.2.2⟩

/-- … in particular: the subscriber was shown the item and the item is gone in the end — then it has been sent a REMOVE. -/
theorem C10_include_owes_remove {V : Type} (f : V → Bool) (v : Option V) (cs : List (Chg V)) (hc : Chain v cs)
    (hshown : incl f v = true) (hgone : lastVal v cs = none) : Kind.remove ∈ forwarded f cs := by
  have h := (forwarded_chain f cs v hc).2
  rw [hgone, hshown] at h
  rcases applySeq_false_mem _ _ h with h1 | h1
  · cases h1
  · exact h1

/-- The theorems are about the early-out as it is.  Widened to "the inclusion did not change, OR there is no new value" (a
guard that saves the copy of a change that has nothing to reclassify) the stage swallows the removal of a shown item. -/
theorem C10_include_early_out_on_absent_new_value_loses_remove :
    ∃ (f : Unit → Bool) (c : Chg Unit), c.WF ∧ incl f c.old = true ∧ c.new = none ∧ includeEarly f c = none := by
  refine ⟨fun _ => true, ⟨.remove, some (), none⟩, ?_, rfl, rfl, ?_⟩
  · simp [Chg.WF]
  · simp [includeEarly, incl]

/-- non-vacuity: an item that is updated out of the filter, back into it, and deleted: the subscriber is told REMOVE, ADD,
REMOVE -/
example : forwarded (fun n : Nat => n % 3 != 2)
    [⟨.update, some 0, some 1⟩, ⟨.update, some 1, some 2⟩, ⟨.update, some 2, some 3⟩, ⟨.remove, some 3, none⟩]
    = [.update, .remove, .add, .remove] := by decide

/-- non-vacuity of the `Chain` hypothesis of the theorems above -/
example : Chain (some 0) ([⟨.update, some 0, some 1⟩, ⟨.remove, some 1, none⟩] : List (Chg Nat)) := by
  simp [Chain, Chg.WF]

end ScVerif.C10
