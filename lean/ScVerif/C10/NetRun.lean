import ScVerif.C10.NetEffect
import ScVerif.C10.MergeAux
import ScVerif.C10.Run
/-!
C10 — the merge stage as a machine: changes arrive (`mergeQ`), the forwarder takes the head of the queue.  `told` is a
receiver's view of item `t` after everything taken so far, `st` the item's state.
-/
namespace ScVerif.C10

/-- the change types of item `t` among `ms`, in order -/
def kindsOf (t : Nat) (ms : List Msg) : List Kind := (ms.filter fun m => m.id = t).map (·.kind)

/-- ties the queue model to the fold `mergeSeq` that the K2 tie compares with the real `mergeChanges` -/
theorem ent_foldl_mergeQ (t : Nat) (ms : List Msg) : ∀ q : List Msg,
    (ent t (ms.foldl mergeQ q)).map (·.kind) = mergeSeq ((ent t q).map (·.kind)) (kindsOf t ms) := by
  induction ms with
  | nil => intro q; rfl
  | cons m ms ih =>
    intro q
    rw [List.foldl_cons, ih (mergeQ q m), entKind_mergeQ]
    by_cases hm : m.id = t
    · have hk : kindsOf t (m :: ms) = m.kind :: kindsOf t ms := by simp [kindsOf, hm]
      rw [if_pos hm, hk]
      cases (ent t q).map (·.kind) <;> rfl
    · have hk : kindsOf t (m :: ms) = kindsOf t ms := by simp [kindsOf, hm]
      rw [if_neg hm, hk]

structure EState where
  q : List Msg
  told : Bool
  st : Bool

inductive EMove
  | arrive (m : Msg)
  | take

def estep (t : Nat) (e : EState) : EMove → Option EState
  | .arrive m =>
    if m.id = t then
      -- the collection publishes about `t` only what fits its state
      (if okKind e.st m.kind then some { q := mergeQ e.q m, told := e.told, st := applyKind e.st m.kind } else none)
    else some { e with q := mergeQ e.q m }
  | .take =>
    match e.q with
    | [] => none
    | h :: r => some { q := r, told := if h.id = t then applyKind e.told h.kind else e.told, st := e.st }

def enext (t : Nat) (e : EState) (m : EMove) : EState := (estep t e m).getD e
def erun (t : Nat) (e : EState) (ms : List EMove) : EState := ms.foldl (enext t) e

/-- the queue holds at most one change of `t`, and that change accounts for the difference between what the receiver was
told and the item's state -/
structure EInv (t : Nat) (e : EState) : Prop where
  uniq : cnt t e.q ≤ 1
  net : NetOK e.told e.st ((ent t e.q).map (·.kind))

theorem EInv.arrive {t : Nat} {q : List Msg} {told st : Bool} (h : EInv t ⟨q, told, st⟩) (m : Msg)
    (hok : m.id = t → okKind st m.kind = true) :
    EInv t ⟨mergeQ q m, told, if m.id = t then applyKind st m.kind else st⟩ := by
  refine ⟨cnt_mergeQ_le m h.uniq, ?_⟩
  show NetOK told _ ((ent t (mergeQ q m)).map _)
  rw [entKind_mergeQ]
  split
  · exact h.net.merge (hok ‹_›)
  · exact h.net

theorem EInv.take {t : Nat} {x : Msg} {r : List Msg} {told st : Bool} (h : EInv t ⟨x :: r, told, st⟩) :
    EInv t ⟨r, if x.id = t then applyKind told x.kind else told, st⟩ := by
  obtain ⟨hT, hO⟩ := ent_pop t x r h.uniq
  have hn : NetOK told st ((ent t (x :: r)).map _) := h.net
  by_cases hid : x.id = t
  · obtain ⟨he, hr, hc⟩ := hT hid
    rw [he] at hn
    refine ⟨hc ▸ Nat.zero_le 1, ?_⟩
    show NetOK (if x.id = t then applyKind told x.kind else told) st ((ent t r).map _)
    rw [if_pos hid, hr, hn.2]
    exact rfl
  · obtain ⟨he, hc⟩ := hO hid
    refine ⟨hc, ?_⟩
    show NetOK (if x.id = t then applyKind told x.kind else told) st ((ent t r).map _)
    rw [if_neg hid, he]
    exact hn

theorem einv_step {t : Nat} {e e' : EState} {m : EMove} (h : EInv t e) (hs : estep t e m = some e') : EInv t e' := by
  obtain ⟨q, told, st⟩ := e
  cases m with
  | arrive x =>
    by_cases hid : x.id = t
    · obtain ⟨hok, rfl⟩ := guard_some.1 ((if_pos hid).symm.trans hs)
      simpa [hid] using h.arrive x fun _ => hok
    · cases (if_neg hid).symm.trans hs
      simpa [hid] using h.arrive x fun e => absurd e hid
  | take =>
    cases q with
    | nil => cases hs
    | cons x r => cases hs; exact h.take

theorem einv_run (t : Nat) (ms : List EMove) (e : EState) : EInv t e → EInv t (erun t e ms) :=
  foldl_getD_induct (step := estep t) ms fun _ _ _ _ h hs => einv_step h hs

end ScVerif.C10
