import ScVerif.C10.Bus
import ScVerif.C10.Pipe
/-!
C10 — the composed model: the bus, with the forwarding pipeline of `pkg/resource` as the consumer of
each listener.  The environment assumptions each model made about the other become synchronised steps:

* `deliver t`  : the rendezvous `l.ch <- event` of sender `t` with the FIRST pipeline stage of its current
                 listener `l` = bus steps `recvReq l` ▸ `sDeliver t` together with pipeline step `push`
                 (enabled only if both sides are: the sender is inside `select`, the stage is receiving);
* `cancel l`   : the subscription's context = the bus listener's context = the pipeline's context;
* `close l`    : the watcher's `close(l.ch)` = the pipeline's `closeIn`;
* `pipe l m`   : an internal step of `l`'s pipeline (transfer, consume, exit); when the fixed PullID cancels
                 its child context on return, the same context is the inner Pull's listen context, so the
                 bus listener is cancelled in the same step;
* `bus m`      : every other bus step (snapshots, lock steps, select outcomes without rendezvous, collect …).
-/
namespace ScVerif.C10

structure Sys where
  bus : Config
  pipe : Nat → PConfig

inductive SMove
  | bus (m : Move) | deliver (t : Nat) | cancel (l : Nat) | close (l : Nat) | pipe (l : Nat) (m : PMove)

/-- bus moves that do not involve the consumer of a listener -/
def busFree : Move → Bool
  | .sDeliver _ | .recvReq _ | .cancel _ | .wClose _ => false
  | _ => true

/-- pipeline moves that are not synchronised with the bus -/
def internalP : PMove → Bool
  | .push _ | .cancel | .closeIn => false
  | _ => true

def sstep (payload : Ev → Msg) (s : Sys) : SMove → Option Sys
  | .bus m => if busFree m then (step s.bus m).map fun b => { s with bus := b } else none
  | .deliver t =>
    match (s.bus.ss t).rest with
    | [] => none
    | l :: _ =>
      (step s.bus (.recvReq l)).bind fun b1 =>
      (step b1 (.sDeliver t)).bind fun b2 =>
      (pstep (s.pipe l) (.push (payload ⟨t, (s.bus.ss t).cur⟩))).map fun p' =>
        { bus := b2, pipe := upd s.pipe l p' }
  | .cancel l =>
    some { bus := next s.bus (.cancel l), pipe := upd s.pipe l (pnext (s.pipe l) .cancel) }
  | .close l =>
    (step s.bus (.wClose l)).map fun b => { bus := b, pipe := upd s.pipe l (pnext (s.pipe l) .closeIn) }
  | .pipe l m =>
    if internalP m then
      (pstep (s.pipe l) m).map fun p' =>
        { bus := if p'.cancelled = true ∧ (s.bus.ls l).cancelled = false then next s.bus (.cancel l) else s.bus,
          pipe := upd s.pipe l p' }
    else none

def snext (payload : Ev → Msg) (s : Sys) (m : SMove) : Sys := (sstep payload s m).getD s
def srun (payload : Ev → Msg) (s : Sys) (sched : List SMove) : Sys := sched.foldl (snext payload) s

/-- a fresh pipeline: any shape, nothing held but the seed values, nothing cancelled or closed -/
def PConfig.Fresh (p : PConfig) : Prop :=
  p.cancelled = false ∧ p.inClosed = false ∧ p.exQ = [] ∧ p.exDone = false ∧ p.fwDone = false ∧
  p.pidQ = [] ∧ p.pidDone = false ∧ p.out = []

/-- reachable composed states: any `todo`, any pipeline shapes/filters/seeds, any payload, any schedule -/
def SReachable (payload : Ev → Msg) (s : Sys) : Prop :=
  ∃ todo pipes sched, (∀ l, (pipes l).Fresh) ∧ s = srun payload ⟨init todo, pipes⟩ sched

end ScVerif.C10
