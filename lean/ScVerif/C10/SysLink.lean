import ScVerif.C10.Sys
import ScVerif.C10.BusInv
import ScVerif.C10.PipeExec
/-!
The composed model step by step: its outcomes as a relation (`SStep`), and the coupling of the two halves (`Link`: the
pipeline's context and input are the listener's context and channel), which every composed step keeps (`link_step`).
-/
namespace ScVerif.C10

namespace PConfig.Fresh
variable {p : PConfig} (h : p.Fresh)
include h
theorem cancelled : p.cancelled = false := h.1
theorem inClosed : p.inClosed = false := h.2.1
theorem exQ : p.exQ = [] := h.2.2.1
theorem exDone : p.exDone = false := h.2.2.2.1
theorem fwDone : p.fwDone = false := h.2.2.2.2.1
theorem pidQ : p.pidQ = [] := h.2.2.2.2.2.1
theorem pidDone : p.pidDone = false := h.2.2.2.2.2.2.1
theorem out : p.out = [] := h.2.2.2.2.2.2.2
end PConfig.Fresh

/-- the two halves of a composed state agree: the pipeline's context and input are the listener's context and channel,
and between composed steps no receive is pending on the bus side (the rendezvous is one step) -/
structure Link (s : Sys) : Prop where
  cancelled : ∀ l, (s.pipe l).cancelled = (s.bus.ls l).cancelled
  closed : ∀ l, (s.pipe l).inClosed = (s.bus.ls l).closed
  ready : ∀ l, (s.bus.ls l).rcvReady = false
  noSaw : ∀ l, (s.bus.ls l).sawClose = false

/-- what the consumer of a listener's channel sees of it -/
def Listener.face (L : Listener) : Bool × Bool × Bool × Bool := (L.cancelled, L.closed, L.rcvReady, L.sawClose)

theorem Step.face {c c' : Config} {m : Move} (hs : Step c m c') (hfree : busFree m = true) (l : Nat) :
    (c'.ls l).face = (c.ls l).face := by
  cases hs with
  | cancel | recvClosed | recvOpen | wCloseNil | wClosePanic | wClose | sDeliverPanic | sDeliver => cases hfree
  | cancelSend | sSnapshot | sListenCancelled | sSendCancelled | sFinishGc | sFinish | sCollect => rfl
  | _ =>
    refine Config.setL_stable (P := fun L => L.face = (c.ls l).face) ?_ l rfl
    exact id

theorem Link.iff_face {s : Sys} :
    Link s ↔ ∀ l, (s.bus.ls l).face = ((s.pipe l).cancelled, (s.pipe l).inClosed, false, false) := by
  refine ⟨fun h l => ?_, fun h => ⟨fun l => ?_, fun l => ?_, fun l => ?_, fun l => ?_⟩⟩
  · simp [Listener.face, h.cancelled, h.closed, h.ready, h.noSaw]
  · exact (congrArg (·.1) (h l)).symm
  · exact (congrArg (·.2.1) (h l)).symm
  · exact congrArg (·.2.2.1) (h l)
  · exact congrArg (·.2.2.2) (h l)

/-- the rendezvous `recvReq l` ▸ `sDeliver t`: the channel is open, and the receive that was posted is consumed, so
all that changes on the listeners' side is that `l` has received the event -/
theorem deliver_ls {c b1 b2 : Config} {t l : Nat} {tl : List Nat} (hrest : (c.ss t).rest = l :: tl)
    (h1 : Step c (.recvReq l) b1) (h2 : Step b1 (.sDeliver t) b2) :
    b2.ls = upd c.ls l { c.ls l with recvd := (c.ls l).recvd ++ [⟨t, (c.ss t).cur⟩], rcvReady := false } := by
  have hhead : ∀ {l2 r}, (c.ss t).rest = l2 :: r → l2 = l := fun h => by rw [hrest] at h; cases h; rfl
  cases h1 with
  | recvClosed _ hr =>
    -- a receive that found the channel closed does not wait for a sender
    cases h2 with
    | sDeliverPanic _ l2 r hrest2 _ _ hr2 | sDeliver _ l2 r hrest2 _ _ hr2 =>
      cases hhead hrest2
      simp [hr] at hr2
  | recvOpen _ hr hsaw hc =>
    cases h2 with
    | sDeliverPanic _ l2 r hrest2 _ _ _ hc2 =>
      cases hhead hrest2
      simp [hc] at hc2
    | sDeliver _ l2 r hrest2 =>
      cases hhead hrest2
      funext l'
      simp only [Config.setL_ls, Config.setS_ls, upd_apply]
      split <;> rfl

inductive SStep (pl : Ev → Msg) (s : Sys) : SMove → Sys → Prop
  | bus (m : Move) (b : Config) (hfree : busFree m = true) (hb : step s.bus m = some b) :
      SStep pl s (.bus m) { s with bus := b }
  | deliver (t l : Nat) (tl : List Nat) (b1 b2 : Config) (p' : PConfig) (hrest : (s.bus.ss t).rest = l :: tl)
      (h1 : step s.bus (.recvReq l) = some b1) (h2 : step b1 (.sDeliver t) = some b2)
      (hp : pstep (s.pipe l) (.push (pl ⟨t, (s.bus.ss t).cur⟩)) = some p') :
      SStep pl s (.deliver t) ⟨b2, upd s.pipe l p'⟩
  | cancel (l : Nat) :
      SStep pl s (.cancel l) ⟨next s.bus (.cancel l), upd s.pipe l (pnext (s.pipe l) .cancel)⟩
  | close (l : Nat) (b : Config) (hb : step s.bus (.wClose l) = some b) :
      SStep pl s (.close l) ⟨b, upd s.pipe l (pnext (s.pipe l) .closeIn)⟩
  | pipe (l : Nat) (m : PMove) (p' : PConfig) (hint : internalP m = true) (hp : pstep (s.pipe l) m = some p') :
      SStep pl s (.pipe l m)
        ⟨if p'.cancelled = true ∧ (s.bus.ls l).cancelled = false then next s.bus (.cancel l) else s.bus,
         upd s.pipe l p'⟩

theorem SStep.of_sstep {pl : Ev → Msg} {s s' : Sys} {m : SMove} (h : sstep pl s m = some s') :
    SStep pl s m s' := by
  cases m with
  | bus m =>
    obtain ⟨hfree, b, hb, rfl⟩ := guard_map.1 h
    exact .bus m b hfree hb
  | deliver t =>
    simp only [sstep] at h
    split at h
    · cases h
    · rename_i l tl hrest
      obtain ⟨b1, h1, h⟩ := Option.bind_eq_some_iff.1 h
      obtain ⟨b2, h2, h⟩ := Option.bind_eq_some_iff.1 h
      obtain ⟨p', hp, rfl⟩ := Option.map_eq_some_iff.1 h
      exact .deliver t l tl b1 b2 p' hrest h1 h2 hp
  | cancel l => cases h; exact .cancel l
  | close l =>
    obtain ⟨b, hb, rfl⟩ := Option.map_eq_some_iff.1 h
    exact .close l b hb
  | pipe l m =>
    obtain ⟨hint, p', hp, rfl⟩ := guard_map.1 h
    exact .pipe l m p' hint hp

theorem pstep_internal_flags {p p' : PConfig} {m : PMove} (hm : internalP m = true) (h : pstep p m = some p') :
    p'.inClosed = p.inClosed ∧ (p.cancelled = true → p'.cancelled = true) := by
  have h' := PStep.of_pstep h
  refine ⟨?_, h'.mono.1⟩
  cases h' with
  | pushEx | pushFw | cancel | closeIn => cases hm
  | xferEF => simp [fwRecv_eq]
  | xferFP => simp [pidRecv_eq]
  | _ => rfl

theorem pstep_push_flags {p p' : PConfig} {x : Msg} (h : pstep p (.push x) = some p') :
    p'.cancelled = p.cancelled ∧ p'.inClosed = p.inClosed := by
  cases PStep.of_pstep h with
  | pushEx => simp [exRecv_eq]
  | pushFw => simp [fwRecv_eq]

theorem link_step {pl : Ev → Msg} {s s' : Sys} {m : SMove} (hI : LockInv s.bus) (hW : WatcherInv s.bus)
    (hL : Link s) (h : sstep pl s m = some s') : Link s' := by
  have hf := Link.iff_face.1 hL
  rw [Link.iff_face]
  intro l'
  cases SStep.of_sstep h with
  | bus m b hfree hb => exact ((Step.of_step hb).face hfree l').trans (hf l')
  | deliver t l tl b1 b2 p' hrest h1 h2 hp =>
    obtain ⟨hpc, hpi⟩ := pstep_push_flags hp
    rw [deliver_ls hrest (.of_step h1) (.of_step h2)]
    by_cases hl : l' = l
    · subst hl
      simpa [Listener.face, hpc, hpi, hL.ready l'] using hf l'
    · simpa [upd_apply, hl] using hf l'
  | cancel l =>
    by_cases hl : l' = l
    · subst hl
      simp [next, step, pnext, pstep, Listener.face, hL.closed, hL.ready, hL.noSaw]
    · simpa [next, step, upd_apply, hl] using hf l'
  | close l b hb =>
    cases Step.of_step hb with
    | wCloseNil _ hw hn => have := hI.nil l; simp [hw, hn, WPc.nilled] at this
    | wClosePanic _ hw _ hc => have := hI.closed l; simp [hw, hc, WPc.isClosed] at this
    | wClose _ hw hn hc =>
      -- the watcher closes only after the cancel, so the pipeline's `closeIn` is enabled
      have hcan := hW l (by simp [hw]) (by simp [hw])
      by_cases hl : l' = l
      · subst hl
        simp [pnext, pstep, Listener.face, hL.cancelled, hcan, hL.closed, hc, hL.ready, hL.noSaw]
      · simpa [upd_apply, hl] using hf l'
  | pipe l m p' hint hp =>
    obtain ⟨hfin, hfc⟩ := pstep_internal_flags hint hp
    by_cases hl : l' = l
    · subst hl
      by_cases hcond : p'.cancelled = true ∧ (s.bus.ls l').cancelled = false
      · simp [hcond, next, step, Listener.face, hfin, hL.closed, hL.ready, hL.noSaw]
      · have hpc : p'.cancelled = (s.pipe l').cancelled := by
          cases hb : (s.pipe l').cancelled with
          | true => exact hfc hb
          | false =>
            cases hp' : p'.cancelled with
            | false => rfl
            | true => exact absurd ⟨hp', by rw [← hL.cancelled, hb]⟩ hcond
        simp only [hcond, if_false, upd_same]
        rw [hf l', hfin, hpc]
    · have hb : (if p'.cancelled = true ∧ (s.bus.ls l).cancelled = false then next s.bus (.cancel l)
          else s.bus).ls l' = s.bus.ls l' := by
        split
        · simp [next, step, upd_apply, hl]
        · rfl
      rw [hb]
      simpa [upd_apply, hl] using hf l'

end ScVerif.C10
