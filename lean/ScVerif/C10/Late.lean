import ScVerif.C10.Pipe
/-!
C10 — WHEN a single-item trait adapter subscribes.

`metadatapb.Collection.PullMetadata`, `hailpb.Model.PullHail`, `publicationpb.Model.PullPublication`,
`vendingpb.Model.PullConsumable` / `PullStock`:

    recv := collection.PullID(ctx, id, opts...)      -- `sync = true` (after fix b83c31f: all of them)
    go func() { defer close(send); for change := range recv { … } }()
    return send

Before the fix four of them ranged over the call INSIDE the goroutine (`sync = false`): the subscription was made
whenever that goroutine got to run, possibly after the subscribing call had returned.

The model has the item (`present`), the subscribing call (`ret`), the moment the `PullID` subscription is made
(`sub`: the listener is registered and the seed taken in one step, as `Collection.onUpdate` does under the
collection's read lock), writers (`upd` / `del`: `Collection.Update` / `Collection.Delete` of the watched item,
which publish to the subscription only if it exists at that moment; `other`: any change of any other item) and the
steps of the subscription's pipeline (`Pipe.lean`, with its PullID stage).  `missed` records a REMOVE published after the
call had returned and before the subscription existed; `removed` a REMOVE handed to the subscription.
-/
namespace ScVerif.C10

structure LConfig where
  sync : Bool
  uo : Bool                    -- WithUpdatesOnly: no seed
  present : Bool := true       -- the item exists in the collection
  returned : Bool := false     -- the subscribing call has returned
  subscribed : Bool := false   -- the PullID subscription has been made
  missed : Bool := false
  removed : Bool := false
  p : PConfig

inductive LMove
  | ret | sub | upd (tag : Nat) | del | other (m : Msg) | pipe (m : PMove)

/-- the pipeline of a `PullID(target)` subscription at the moment it is made -/
def LConfig.seed (c : LConfig) : List Msg :=
  if c.present && !c.uo then [⟨c.p.target, .add, 0⟩] else []

def lstep (c : LConfig) : LMove → Option LConfig
  | .ret =>
    -- a synchronous adapter returns only after its PullID call
    if c.returned = false ∧ (c.sync = true → c.subscribed = true) then some { c with returned := true } else none
  | .sub =>
    -- an asynchronous adapter's goroutine exists from the `go` statement on: it may run before or after the return
    if c.subscribed = false then some { c with subscribed := true, p := { c.p with fwQ := c.seed } } else none
  | .upd tag =>
    if c.subscribed then
      (pstep c.p (.push ⟨c.p.target, if c.present then .update else .add, tag⟩)).map fun p' =>
        { c with present := true, p := p' }
    else some { c with present := true }
  | .del =>
    if c.present = false then none
    else if c.subscribed then
      (pstep c.p (.push ⟨c.p.target, .remove, 0⟩)).map fun p' => { c with present := false, removed := true, p := p' }
    else some { c with present := false, missed := c.missed || c.returned }
  | .other m =>
    -- a write on ANOTHER item of the collection: published to the same subscription (its PullID stage skips it)
    if m.id = c.p.target then none
    else if c.subscribed then (pstep c.p (.push m)).map fun p' => { c with p := p' }
    else some c
  | .pipe m =>
    match m with
    | .push _ => none            -- events reach the pipeline through `upd` / `del` only
    | m => if c.subscribed then (pstep c.p m).map fun p' => { c with p := p' } else none

def lnext (c : LConfig) (m : LMove) : LConfig := (lstep c m).getD c
def lrun (c : LConfig) (sched : List LMove) : LConfig := sched.foldl lnext c

/-- a fresh subscription call on an existing item -/
def linit (sync uo : Bool) (p : PConfig) : LConfig := { sync := sync, uo := uo, p := p }

end ScVerif.C10
