import ScVerif.C10.BusStep
/-!
Invariants of the bus model that stand by themselves: the lock discipline (`LockInv`), the watcher getting past
`<-ctx.Done()` only after the cancel (`WatcherInv`), a `Send` without a deadline never abandoned (`NoAbandon`).
-/
namespace ScVerif.C10

def WPc.held : WPc → Bool | .locked | .closing | .unlock => true | _ => false
def WPc.isClosed : WPc → Bool | .closing | .unlock | .done => true | _ => false
def WPc.nilled : WPc → Bool | .unlock | .done => true | _ => false

/-- sender `s` holds the read lock of listener `l` -/
def Holding (s : Sender) (l : Nat) : Prop :=
  (s.pc = .rlocked ∨ ∃ o, s.pc = .selected o) ∧ s.rest.head? = some l

/-- the program counters between `RLock` and `RUnlock` -/
def SPc.locks : SPc → Bool | .rlocked | .selected _ => true | _ => false

theorem holding_iff {s : Sender} {l : Nat} : Holding s l ↔ s.pc.locks = true ∧ s.rest.head? = some l := by
  unfold Holding
  cases s.pc <;> simp [SPc.locks]

/-- the `sync.RWMutex` discipline on each `l.m`: the reader list is exactly the senders between `RLock` and `RUnlock` on `l`,
a held write lock excludes readers, and the lock and channel flags are functions of the watcher's program counter -/
structure LockInv (c : Config) : Prop where
  noPanic : c.panicked = false
  readers : ∀ t l, t ∈ (c.ls l).readers ↔ Holding (c.ss t) l
  mutex : ∀ l, (c.ls l).wHeld = true → (c.ls l).readers = []
  held : ∀ l, (c.ls l).wHeld = (c.ls l).wpc.held
  wait : ∀ l, (c.ls l).wWait = decide ((c.ls l).wpc = .wait)
  closed : ∀ l, (c.ls l).closed = (c.ls l).wpc.isClosed
  nil : ∀ l, (c.ls l).isNil = (c.ls l).wpc.nilled
  fresh : ∀ l, (c.ls l).lpc = .init → (c.ls l).wpc = .none

/-- `LockInv` without `noPanic` and `readers`, clause by clause, for one listener's record: what a move that rewrites one
record has to re-establish -/
def Listener.LockOk (L : Listener) : Prop :=
  (L.wHeld = true → L.readers = []) ∧ L.wHeld = L.wpc.held ∧ L.wWait = decide (L.wpc = .wait) ∧
  L.closed = L.wpc.isClosed ∧ L.isNil = L.wpc.nilled ∧ (L.lpc = .init → L.wpc = .none)

theorem LockInv.ok {c : Config} (h : LockInv c) (l : Nat) : (c.ls l).LockOk :=
  ⟨h.mutex l, h.held l, h.wait l, h.closed l, h.nil l, h.fresh l⟩

theorem LockInv.of_ok {c : Config} (hp : c.panicked = false)
    (hr : ∀ t l, t ∈ (c.ls l).readers ↔ Holding (c.ss t) l) (hok : ∀ l, (c.ls l).LockOk) : LockInv c :=
  ⟨hp, hr, fun l => (hok l).1, fun l => (hok l).2.1, fun l => (hok l).2.2.1, fun l => (hok l).2.2.2.1,
    fun l => (hok l).2.2.2.2.1, fun l => (hok l).2.2.2.2.2⟩

theorem lockInv_init (todo : Nat → Nat) : LockInv (init todo) := by
  constructor <;> simp [init, Holding, WPc.held, WPc.isClosed, WPc.nilled]

theorem LockInv.not_closing {c : Config} (h : LockInv c) {t l : Nat} (ht : Holding (c.ss t) l) :
    (c.ls l).wHeld = false ∧ ¬ ((c.ls l).closed = true ∧ (c.ls l).isNil = false) := by
  have hne : (c.ls l).readers ≠ [] := List.ne_nil_of_mem ((h.readers t l).2 ht)
  have hheld : (c.ls l).wHeld = false := Bool.eq_false_iff.2 fun hh => hne (h.mutex l hh)
  refine ⟨hheld, ?_⟩
  have h1 := h.held l; have h2 := h.closed l; have h3 := h.nil l
  rw [hheld] at h1
  intro ⟨hc, hn⟩
  rw [hc] at h2; rw [hn] at h3
  cases hw : (c.ls l).wpc <;> simp [hw, WPc.held, WPc.isClosed, WPc.nilled] at h1 h2 h3

theorem LockInv.withBus {c : Config} (h : LockInv c) (b : List Nat) : LockInv { c with bus := b } :=
  ⟨h.noPanic, h.readers, h.mutex, h.held, h.wait, h.closed, h.nil, h.fresh⟩

theorem LockInv.setL {c : Config} (h : LockInv c) {l : Nat} {L' : Listener}
    (hr : L'.readers = (c.ls l).readers) (hok : L'.LockOk) : LockInv (c.setL l L') := by
  refine .of_ok h.noPanic (fun t l' => ?_) (fun l' => ?_) <;> simp only [Config.setL_ls, upd_apply] <;> split
  · subst l'; rw [hr]; exact h.readers t l
  · exact h.readers t l'
  · exact hok
  · exact h.ok l'

theorem LockInv.setS {c : Config} (h : LockInv c) {t : Nat} {S' : Sender}
    (hh : ∀ l, Holding S' l ↔ Holding (c.ss t) l) : LockInv (c.setS t S') := by
  refine .of_ok h.noPanic (fun t' l => ?_) h.ok
  simp only [Config.setS_ss, Config.setS_ls, upd_apply]
  split
  · subst t'; exact (h.readers t l).trans (hh l).symm
  · exact h.readers t' l

theorem LockInv.setLS {c : Config} (h : LockInv c) {l t : Nat} {L' : Listener} {S' : Sender} (hok : L'.LockOk)
    (hself : t ∈ L'.readers ↔ Holding S' l)
    (hreaders : ∀ t', t' ≠ t → (t' ∈ L'.readers ↔ t' ∈ (c.ls l).readers))
    (hlocks : ∀ l', l' ≠ l → (Holding S' l' ↔ Holding (c.ss t) l')) : LockInv ((c.setL l L').setS t S') := by
  refine .of_ok h.noPanic (fun t' l' => ?_) (fun l' => ?_) <;>
    simp only [Config.setL_ls, Config.setS_ss, Config.setS_ls, upd_apply]
  · by_cases hl : l' = l <;> by_cases ht : t' = t <;> simp only [hl, ht, if_true, if_false]
    · exact hself
    · exact (hreaders t' ht).trans (h.readers t' l)
    · exact (h.readers t l').trans (hlocks l' hl).symm
    · exact h.readers t' l'
  · split
    · exact hok
    · exact h.ok l'

attribute [local simp] Listener.LockOk WPc.held WPc.isClosed WPc.nilled holding_iff SPc.locks

theorem lockInv_step {c c' : Config} {m : Move} (h : LockInv c) (hs : Step c m c') : LockInv c' := by
  cases hs with
  | cancel l | recvClosed l | recvOpen l => exact h.setL rfl (h.ok l)
  | lSpawn l | wAwake l | wLockReq l | wLockAcq l | wCloseNil l | wClose l | wNil l | wUnlock l =>
    -- the lock and channel flags the move sets are those of the watcher's new program counter
    exact h.setL rfl (by have := h.ok l; simp_all)
  | lRegister l => exact (h.withBus _).setL rfl (by have := h.ok l; simp_all)
  | wClosePanic l hw _ hc => have := h.closed l; simp [hw, hc] at this
  | cancelSend t => exact h.setS fun _ => Iff.rfl
  | sSnapshot t | sListenCancelled t | sSendCancelled t | sFinishGc t | sFinish t =>
    exact h.setS fun _ => by simp [*]
  | sCollect t hpc => exact (h.withBus _).setS fun _ => by simp [hpc]
  | sAcquire t l r hrest hpc hw hh =>
    -- the new reader is admitted only while the write lock is neither held nor queued
    refine h.setLS (by simpa [hh] using h.ok l) (by simp [hrest]) (fun t' ht => by simp [ht]) fun l' hl => ?_
    simp [hrest, hpc, Ne.symm hl]
  | sDeliverPanic t l r hrest hpc hn _ hc =>
    exact absurd ⟨hc, hn⟩ (h.not_closing (t := t) (by simp [hpc, hrest])).2
  | sDeliver t l r hrest hpc =>
    exact h.setLS (h.ok l) ((h.readers t l).trans (by simp [hpc])) (fun _ _ => Iff.rfl) fun _ _ => by simp [hpc]
  | sReleaseAbort t l r hrest hpc | sRelease t l r o hrest hpc =>
    refine h.setLS ?_ (by simp) (fun t' ht => by simp [ht]) fun l' hl => ?_
    · have := h.ok l
      simp_all
    · simp [hrest, hpc, Ne.symm hl]

/-- the bus-side fact the pipeline relies on: the watcher only gets past `<-ctx.Done()` after the cancel -/
def WatcherInv (c : Config) : Prop :=
  ∀ l, (c.ls l).wpc ≠ .none → (c.ls l).wpc ≠ .await → (c.ls l).cancelled = true

theorem watcherInv_init (todo : Nat → Nat) : WatcherInv (init todo) := by
  intro l h; simp [init] at h

theorem watcherInv_step {c c' : Config} {m : Move} (h : WatcherInv c) (hs : Step c m c') : WatcherInv c' := by
  intro l
  -- a listener's record keeps the property when rewritten to one that has it whenever the old one had
  have key : ∀ {l' : Nat} {L' : Listener},
      (((c.ls l').wpc ≠ .none → (c.ls l').wpc ≠ .await → (c.ls l').cancelled = true) →
        L'.wpc ≠ .none → L'.wpc ≠ .await → L'.cancelled = true) →
      ((c.setL l' L').ls l).wpc ≠ .none → ((c.setL l' L').ls l).wpc ≠ .await →
        ((c.setL l' L').ls l).cancelled = true :=
    fun hP => Config.setL_stable (P := fun L => L.wpc ≠ .none → L.wpc ≠ .await → L.cancelled = true) hP l (h l)
  cases hs with
  | cancelSend | sSnapshot | sListenCancelled | sSendCancelled | sFinishGc | sFinish | sCollect
  | sDeliverPanic => exact h l
  | cancel => exact key fun _ _ _ => rfl
  | lSpawn => exact key fun _ _ ha => absurd rfl ha
  | wAwake l' hw hc => exact key fun _ _ _ => hc
  | wLockReq l' hw | wLockAcq l' hw | wCloseNil l' hw | wClosePanic l' hw | wClose l' hw | wNil l' hw
  | wUnlock l' hw =>
    -- the watcher was already past `<-ctx.Done()`
    exact key fun hP _ _ => hP (by simp [hw]) (by simp [hw])
  | _ => exact key fun hP => hP

theorem watcherInv_run {c : Config} (sched : List Move) (h : WatcherInv c) : WatcherInv (run c sched) :=
  run_induct (fun _ _ _ => watcherInv_step) sched h

/-! A `Send` whose context never ends (`Collection.Update` / `Collection.Delete` publish with `context.TODO()`) is never
abandoned half way through its snapshot. -/

/-- sender `t` has never given up a call: its send context is live, it is not past the `<-ctx.Done()` case of
`listener.send`, and every call it finished returned `true` -/
def NoAbandon (S : Sender) : Prop :=
  S.ctxDone = false ∧ S.pc ≠ .selected .sendCancelled ∧ ∀ r ∈ S.results, r = true

theorem noAbandon_init (todo : Nat → Nat) (t : Nat) : NoAbandon ((init todo).ss t) := by
  simp [NoAbandon, init]

theorem Step.noAbandon {c c' : Config} {m : Move} {t : Nat} (hs : Step c m c') (hm : m ≠ .cancelSend t)
    (h : NoAbandon (c.ss t)) : NoAbandon (c'.ss t) := by
  cases hs with
  | cancelSend t' =>
    have ht : t ≠ t' := fun ht => hm (ht ▸ rfl)
    simpa [upd_apply, ht] using h
  | sListenCancelled | sFinishGc | sAcquire | sDeliverPanic | sDeliver | sRelease =>
    exact Config.setS_stable (fun h => ⟨h.1, by simp, h.2.2⟩) t h
  | sSnapshot => exact Config.setS_stable (fun h => ⟨rfl, by simp, h.2.2⟩) t h
  | sSendCancelled t' l r hrest hpc hd =>
    -- this `select` case needs the send context to be done
    exact Config.setS_stable (fun h => absurd hd (by simp [h.1])) t h
  | sReleaseAbort t' l r hrest hpc => exact Config.setS_stable (fun h => absurd hpc h.2.1) t h
  | sFinish | sCollect =>
    refine Config.setS_stable (fun h => ⟨h.1, by simp, ?_⟩) t h
    simpa using h.2.2
  | _ => exact h

theorem noAbandon_run (c : Config) (sched : List Move) (t : Nat) (hs : ∀ m ∈ sched, m ≠ .cancelSend t) :
    NoAbandon (c.ss t) → NoAbandon ((run c sched).ss t) :=
  foldl_getD_induct (step := step) (P := fun c => NoAbandon (c.ss t)) sched
    fun _ m _ hm h hst => (Step.of_step hst).noAbandon (hs m hm) h

end ScVerif.C10
