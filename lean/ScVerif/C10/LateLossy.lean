import ScVerif.C10.LateInv
import ScVerif.C10.PipeInv
import ScVerif.C10.NetRun
/-!
C10 — a single-item subscription WITHOUT backpressure (`mergeCollectionExcess` in front of the forwarder): the
REMOVE of the watched item is never merged away.

Seen from the watched item, the merge stage of the subscription is the machine of `NetRun.lean`: writes are its
arrivals, the forwarder taking the head of the queue is its `take`, the item's state is `present`.  Its invariant says
that the queued change of the item, merged, is exactly the difference between what has gone downstream (`told`) and
the item's state.  So the forwarder side believes the item gone only when a REMOVE went downstream — and that REMOVE
is kept by the forwarder's filter and ends the subscription.  (ADD followed by REMOVE annihilate, which is harmless
precisely because an ADD can only be queued when the REMOVE before it has already gone downstream.)
-/
namespace ScVerif.C10

structure LLossy (c : LConfig) : Prop where
  hasEx : c.p.hasEx = true
  exMerge : c.p.exMerge = true
  hasPid : c.p.hasPid = true
  /-- the forwarder's include filter / the collection's equivalence may drop anything but a REMOVE of the item -/
  keep : ∀ tag, c.p.keep ⟨c.p.target, .remove, tag⟩ = true
  sub : c.subscribed = true
  causal : c.p.Causal
  /-- the merge stage is the machine of `NetRun.lean` for the watched item, `told` being what has gone downstream; the
  forwarder side has been told the item is gone only by a REMOVE, which ends the subscription -/
  net : ∃ told, EInv c.p.target ⟨c.p.exQ, told, c.present⟩ ∧ (told = false → c.p.InFlight)

theorem push_lossy {p p1 : PConfig} {m : Msg} (hex : p.hasEx = true) (hmg : p.exMerge = true)
    (hs : pstep p (.push m) = some p1) : p1.exQ = mergeQ p.exQ m := by
  cases PStep.of_pstep hs with
  | pushEx => simp [exRecv_eq, hmg]
  | pushFw _ _ hex' => rw [hex] at hex'; cases hex'

theorem LLossy.of_pstep {c c' : LConfig} (h : LLossy c) {m : PMove} (hsub : c'.subscribed = true)
    (hp : pstep c.p m = some c'.p)
    (hnet : ∃ told, EInv c.p.target ⟨c'.p.exQ, told, c'.present⟩ ∧ (told = false → c'.p.InFlight)) : LLossy c' := by
  have hst := pstep_static hp
  exact ⟨hst.hasEx ▸ h.hasEx, hst.exMerge ▸ h.exMerge, hst.hasPid ▸ h.hasPid,
    fun x => by rw [hst.keep, hst.target]; exact h.keep x, hsub, causal_step h.causal hp,
    by rw [hst.target]; exact hnet⟩

theorem LLossy.push {c c' : LConfig} (h : LLossy c) {m : Msg} (hsub : c'.subscribed = true)
    (hp : pstep c.p (.push m) = some c'.p)
    (hok : m.id = c.p.target → okKind c.present m.kind = true)
    (hpr : c'.present = if m.id = c.p.target then applyKind c.present m.kind else c.present) : LLossy c' := by
  obtain ⟨told, hE, hend⟩ := h.net
  refine h.of_pstep hsub hp ⟨told, ?_, fun ht => inFlight_step h.hasPid (hend ht) hp⟩
  rw [hpr, push_lossy h.hasEx h.exMerge hp]
  exact hE.arrive m hok

theorem llossy_step {c c' : LConfig} {m : LMove} (h : LLossy c) (hc : LStep c m c') : LLossy c' := by
  obtain ⟨told, hE, hend⟩ := h.net
  cases hc with
  | ret => exact ⟨h.hasEx, h.exMerge, h.hasPid, h.keep, h.sub, h.causal, h.net⟩
  | upd tag p' _ hp =>
    exact h.push h.sub hp (fun _ => by cases c.present <;> rfl) (by cases c.present <;> simp [applyKind])
  | del p' hpr _ hp => exact h.push h.sub hp (fun _ => by rw [hpr]; rfl) (by simp [applyKind])
  | other x p' hid _ hp => exact h.push h.sub hp (fun e => absurd e hid) (by simp [hid])
  | pipe m' p' hnp _ hp =>
    refine h.of_pstep h.sub hp ?_
    cases PStep.of_pstep hp with
    | pushEx x | pushFw x => exact absurd rfl (hnp x)
    | xferEF x r hq _ _ hfd hfq =>
      -- the forwarder takes the head of the queue; if that is the item's REMOVE, its filter keeps it
      rw [hq] at hE
      refine ⟨_, by simpa [fwRecv_eq] using hE.take, fun ht => ?_⟩
      by_cases hid : x.id = c.p.target
      · rw [if_pos hid] at ht
        have hx : x = ⟨c.p.target, .remove, x.tag⟩ := by
          rw [← hid, ← applyKind_eq_false.1 ht]
        simp only [fwRecv_eq]
        exact .inr (.inr ⟨hfd, x.tag, by rw [hx]; simp [h.keep]⟩)
      · rw [if_neg hid] at ht
        exact inFlight_step h.hasPid (hend ht) hp
    | exExit _ _ hin =>
      -- the queue is dropped: start again from the item's state; the stage returns only after the close, which
      -- comes after the cancel
      exact ⟨c.present, ⟨by simp, rfl⟩, fun _ => .inr (.inl (h.causal.1 hin))⟩
    | xferFP => exact ⟨told, by simpa [pidRecv_eq] using hE, fun ht => inFlight_step h.hasPid (hend ht) hp⟩
    | _ => exact ⟨told, hE, fun ht => inFlight_step h.hasPid (hend ht) hp⟩
  | sub hsub | updUnsub _ hsub | delUnsub _ hsub | otherUnsub _ _ hsub =>
    rw [h.sub] at hsub
    cases hsub

theorem llossy_run (c : LConfig) (sched : List LMove) : LLossy c → LLossy (lrun c sched) :=
  foldl_getD_induct (step := lstep) sched fun _ _ _ _ h hs => llossy_step h (.of_lstep hs)

/-- the state right after a subscription WITHOUT backpressure to an existing item has been made -/
def lsubscribed (sync uo : Bool) (target : Nat) (fixed : Bool) : LConfig :=
  { sync := sync, uo := uo, subscribed := true,
    p := { hasEx := true, exMerge := true, hasPid := true, target := target, fixed := fixed, keep := fun _ => true,
           fwQ := if uo then [] else [⟨target, .add, 0⟩] } }

/-- the same with an arbitrary include filter / equivalence in the forwarder -/
def lsubscribedK (sync uo : Bool) (target : Nat) (fixed : Bool) (keep : Msg → Bool) : LConfig :=
  { sync := sync, uo := uo, subscribed := true,
    p := { hasEx := true, exMerge := true, hasPid := true, target := target, fixed := fixed, keep := keep,
           fwQ := if uo then [] else [⟨target, .add, 0⟩] } }

theorem llossy_initK (sync uo : Bool) (target : Nat) (fixed : Bool) (keep : Msg → Bool)
    (hk : ∀ tag, keep ⟨target, .remove, tag⟩ = true) : LLossy (lsubscribedK sync uo target fixed keep) :=
  ⟨rfl, rfl, rfl, hk, rfl, by simp [PConfig.Causal, lsubscribedK], true, ⟨by simp [lsubscribedK], rfl⟩, nofun⟩

theorem LLossy.gone {c : LConfig} (hI : LLossy c) (hgone : c.present = false) :
    c.p.pidDone = true ∨ c.p.cancelled = true ∨
      (∃ m ∈ c.p.exQ, m.id = c.p.target ∧ m.kind = .remove) ∨ c.p.RemoveInHand := by
  obtain ⟨told, hE, hend⟩ := hI.net
  have hn := hE.net
  rw [hgone] at hn
  cases he : ent c.p.target c.p.exQ with
  | none =>
    rw [he] at hn
    rcases hend hn.symm with h | h | h
    · exact .inl h
    · exact .inr (.inl h)
    · exact .inr (.inr (.inr h))
  | some m =>
    rw [he] at hn
    exact .inr (.inr (.inl ⟨m, List.mem_of_find?_eq_some he, by simpa using List.find?_some he,
      applyKind_eq_false.1 hn.2⟩))

end ScVerif.C10
