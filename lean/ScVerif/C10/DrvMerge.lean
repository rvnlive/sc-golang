import ScVerif.C10.NetEffect
/-!
Driver glue for the kind algebra of `mergeChanges` (`mergeKind`, `mergeSeq`): `mseq <kinds>` folds the change types
(letters a u r p, in order of arrival, nothing taken out in between) and answers the held change type or `none`.
-/
namespace ScVerif.C10

def kindOfChar? : Char → Option Kind
  | 'a' => some .add | 'u' => some .update | 'r' => some .remove | 'p' => some .replace | _ => none

def showHeld : Option Kind → String
  | none => "none" | some .add => "a" | some .update => "u" | some .remove => "r" | some .replace => "p"

def handleMerge (toks : List String) : String :=
  match toks with
  | [ks] =>
    match ks.toList.mapM kindOfChar? with
    | some kinds => if kinds.isEmpty then "!bad-op" else showHeld (mergeSeq none kinds)
    | none => "!bad-op"
  | _ => "!bad-op"

end ScVerif.C10
