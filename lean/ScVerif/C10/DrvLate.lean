import ScVerif.Base.Line
import ScVerif.C10.Late
/-!
Driver glue for the late-subscription model (`Late.lean`): an acceptor for the single-item scenarios of the harness.

`late <sync> <uo> <bp> <pre> <del|cancel> <observed>`: a single-item adapter (`sync`: it subscribes before it
returns) on an existing item; once the subscribing call has returned the scenario updates the item `pre` times and
then deletes it (or cancels); the subscriber receives all the time.  The driver explores EVERY interleaving of the
subscribing call, the subscription step, the writes and the pipeline's goroutines, collects the outcomes of the
quiescent end states (`closed=<the subscriber's channel is closed>,n=<changes received>`; for `cancel` only
`closed=…`), and answers `ok <observed>` if the observation is among them, else `no <outcome1>|<outcome2>|…`.
I/O glue, nothing proved about it.
-/
namespace ScVerif.C10

open ScVerif.Line

structure LNode where
  c : LConfig
  todo : List LMove

def showKindL : Kind → String | .add => "a" | .update => "u" | .remove => "r" | .replace => "p"
def showMsgsL (l : List Msg) : String := ",".intercalate (l.map fun m => s!"{showKindL m.kind}{m.tag}")

def LNode.key (n : LNode) : String :=
  let c := n.c; let p := c.p
  s!"{c.present}{c.returned}{c.subscribed}{c.missed}{c.removed}|{p.cancelled}{p.inClosed}{p.exDone}{p.fwDone}{p.pidDone}|" ++
  s!"{showMsgsL p.exQ}|{showMsgsL p.fwQ}|{showMsgsL p.pidQ}|{p.out.length}|{n.todo.length}"

def latePipeMoves : List PMove :=
  [.consume, .xferEF, .xferFP, .exExit, .fwExitIn, .fwExitCtx, .pidExitIn, .pidExitCtx, .closeIn]

/-- every enabled step: of the subscribing call, of the subscription's goroutines and the (always receiving)
subscriber, and — once the call has returned — the scenario's next write -/
def LNode.succs (n : LNode) : List LNode :=
  let own := ([LMove.ret, LMove.sub] ++ latePipeMoves.map LMove.pipe).filterMap fun m =>
    (lstep n.c m).map fun c' => { n with c := c' }
  let wr := match n.todo with
    | w :: r => if n.c.returned then (match lstep n.c w with | some c' => [{ c := c', todo := r }] | none => []) else []
    | [] => []
  own ++ wr

def lateOutcome (withN : Bool) (n : LNode) : String :=
  let base := s!"closed={n.c.p.outClosed}"
  let base := if withN then base ++ s!",n={n.c.p.out.length}" else base
  if n.todo.isEmpty then base else base ++ ",writer-blocked"

def lateExplore (withN : Bool) : Nat → List LNode → List String → List String → List String
  | 0, _, _, finals => finals ++ ["!fuel"]
  | _, [], _, finals => finals
  | fuel + 1, n :: rest, seen, finals =>
    let k := n.key
    if seen.contains k then lateExplore withN fuel rest seen finals
    else
      let ss := n.succs
      if ss.isEmpty then
        let o := lateOutcome withN n
        lateExplore withN fuel rest (k :: seen) (if finals.contains o then finals else finals ++ [o])
      else lateExplore withN fuel (ss ++ rest) (k :: seen) finals

def handleLate (toks : List String) : String :=
  match toks with
  | [sync, uo, bp, pre, action, observed] =>
    match parseBool? sync, parseBool? uo, parseBool? bp, parseNat? pre with
    | some sync, some uo, some bp, some pre =>
      if pre > 8 then "!bad-op" else
      let p : PConfig := { hasEx := !bp, exMerge := true, hasPid := true, target := 7, fixed := true, keep := fun _ => true }
      let ws := (List.range pre).map fun i => LMove.upd (i + 1)
      let last? : Option LMove :=
        if action = "del" then some .del else if action = "cancel" then some (.pipe .cancel) else none
      match last? with
      | none => "!bad-op"
      | some last =>
        let outs := lateExplore (action = "del") 20000 [{ c := linit sync uo p, todo := ws ++ [last] }] [] []
        if outs.contains observed then "ok " ++ observed else "no " ++ "|".intercalate outs
    | _, _, _, _ => "!bad-op"
  | _ => "!bad-op"

end ScVerif.C10
