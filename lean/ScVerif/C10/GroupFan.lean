/-!
C10 — the Pull fan-in of a trait Group (pkg/trait/lightpb/group.go `(*Group).PullBrightness`, pkg/trait/onoffpb/group.go
`(*Group).PullOnOff`, on top of pkg/group `Execute`): the model, its invariant and its measure.

Goroutines of one group subscription:
* the handler: `for { select { case err := <-returnErr: return err; case msg := <-memberValues: … server.Send … } }`;
  when `Send` fails it cancels the members' context and receives `returnErr` before it returns; a deferred
  cancel runs on every return;
* the fan-in goroutine: `_, err := group.Execute(ctx, strategy, actions); returnErr <- err` — `Execute` returns when
  every member action has returned; `returnErr` has capacity 1;
* one member action per member: `for { response, err := stream.Recv(); if err != nil { break }; select { case
  memberValues <- …: case <-ctx.Done(): return } }`.

The members are interchangeable, so the state counts them: `nRecv` inside `Recv`, `nHand` offering a value to the
handler; the rest have returned.  `buffered` (capacity of `returnErr`) and `waits` (the receive on the failed-Send path)
are parameters: the theorems hold whenever at least one of them is as in the code.

`GConfig`, `GMove` and `gstep` are also the names of the ModelServer handler model in `Pipe.lean`: this file and
`PropsGroup.lean` import nothing else of the directory and cannot be imported together with anything that imports `Pipe.lean`.
-/
namespace ScVerif.C10

inductive ESt | waiting | sending | done
deriving DecidableEq, Repr

inductive HSt | loop | waitErr | done
deriving DecidableEq, Repr

structure GConfig where
  buffered : Bool            -- `returnErr := make(chan error, 1)`
  waits : Bool               -- failed Send: `cancelFunc(); <-returnErr; return err`
  cancelled : Bool := false  -- the context the member actions run on (the handler's derived context)
  nRecv : Nat                -- members inside stream.Recv
  nHand : Nat := 0           -- members in `select { case memberValues <- v: case <-ctx.Done(): }`
  exec : ESt := .waiting     -- the fan-in goroutine: inside group.Execute / at `returnErr <- err` / returned
  buf : Bool := false        -- returnErr's buffer holds the result
  handler : HSt := .loop
deriving Repr

inductive GMove
  | value                          -- a member's Recv returns a change (its context is live)
  | memberErr (cancelsOthers : Bool) -- a member's Recv (or its Pull call) returns an error — its own stream failed, or
                                   -- the context is done; under ExecuteAll an error cancels the other members, under
                                   -- the other strategies it may not
  | handOver (sendOk : Bool)       -- rendezvous on memberValues; the handler then Sends (or skips an unchanged value)
  | handGiveUp                     -- a member offering a value sees ctx.Done
  | execDone                       -- every member action has returned: group.Execute returns
  | execSend                       -- `returnErr <- err` into the buffer
  | recvErr                        -- the handler receives returnErr (from the buffer, or by rendezvous) and returns
  | streamCancel                   -- the stream's context is cancelled (the client went away)
deriving DecidableEq, Repr

def genabled (c : GConfig) : GMove → Bool
  | .value => !c.cancelled && decide (0 < c.nRecv)
  | .memberErr _ => decide (0 < c.nRecv)
  | .handOver _ => decide (0 < c.nHand) && decide (c.handler = .loop)
  | .handGiveUp => decide (0 < c.nHand) && c.cancelled
  | .execDone => decide (c.exec = .waiting) && decide (c.nRecv = 0) && decide (c.nHand = 0)
  | .execSend => decide (c.exec = .sending) && c.buffered && !c.buf
  | .recvErr => decide (c.handler ≠ .done) && (c.buf || decide (c.exec = .sending))
  | .streamCancel => !c.cancelled

def gstep (c : GConfig) (m : GMove) : GConfig :=
  if genabled c m = false then c else
  match m with
  | .value => { c with nRecv := c.nRecv - 1, nHand := c.nHand + 1 }
  | .memberErr b => { c with nRecv := c.nRecv - 1, cancelled := c.cancelled || b }
  | .handOver ok =>
    let c' := { c with nHand := c.nHand - 1, nRecv := c.nRecv + 1 }
    if ok then c'
    else if c.waits then { c' with cancelled := true, handler := .waitErr }
    else { c' with cancelled := true, handler := .done }   -- `return err`, the deferred cancel runs
  | .handGiveUp => { c with nHand := c.nHand - 1 }
  | .execDone => { c with exec := .sending }
  | .execSend => { c with exec := .done, buf := true }
  | .recvErr =>
    if c.buf then { c with buf := false, handler := .done, cancelled := true }
    else { c with exec := .done, handler := .done, cancelled := true }
  | .streamCancel => { c with cancelled := true }

def grun (c : GConfig) (sched : List GMove) : GConfig := sched.foldl gstep c

def ginit (buffered waits : Bool) (n : Nat) : GConfig := { buffered := buffered, waits := waits, nRecv := n }

def GConfig.allDone (c : GConfig) : Prop :=
  c.nRecv = 0 ∧ c.nHand = 0 ∧ c.exec = .done ∧ c.handler = .done

def ESt.w : ESt → Nat | .waiting => 2 | .sending => 1 | .done => 0
def HSt.w : HSt → Nat | .loop => 2 | .waitErr => 1 | .done => 0

/-- steps still to be taken by the subscription's goroutines once the members' context is cancelled -/
def gmeasure (c : GConfig) : Nat := c.nRecv + 2 * c.nHand + c.exec.w + c.handler.w

/-- where the fan-in goroutine's result is: `Execute` returns only when no member runs (`execMembers`); its result is in the
buffer or taken (`bufExec`, `execBuf`); a handler that returned without taking it left a buffered channel (`doneExec`,
from `safe`); a handler out of its loop has cancelled (`doneCancelled`) -/
structure GInv (c : GConfig) : Prop where
  safe : c.buffered = true ∨ c.waits = true
  bufExec : c.buf = true → c.exec = .done
  doneCancelled : c.handler ≠ .loop → c.cancelled = true
  doneExec : c.handler = .done → c.exec = .done ∨ c.buffered = true
  execBuf : c.exec = .done → c.handler = .done ∨ c.buf = true
  execMembers : c.exec ≠ .waiting → c.nRecv = 0 ∧ c.nHand = 0

theorem ginv_init (buffered waits : Bool) (n : Nat) (h : buffered = true ∨ waits = true) :
    GInv (ginit buffered waits n) := by
  refine ⟨h, ?_, ?_, ?_, ?_, ?_⟩ <;> simp [ginit]

theorem gstep_params (c : GConfig) (m : GMove) :
    (gstep c m).buffered = c.buffered ∧ (gstep c m).waits = c.waits := by
  unfold gstep
  split
  · exact ⟨rfl, rfl⟩
  · cases m <;> simp <;> (repeat' split) <;> simp

theorem exec_waiting {c : GConfig} (h : c.exec ≠ .waiting → c.nRecv = 0 ∧ c.nHand = 0)
    (hn : 0 < c.nRecv ∨ 0 < c.nHand) : c.exec = .waiting := by
  by_cases hx : c.exec = .waiting
  · exact hx
  · have := h hx
    omega

theorem GInv.frame {c c' : GConfig} (h : GInv c) (hb : c'.buffered = c.buffered) (hw : c'.waits = c.waits)
    (he : c'.exec = c.exec) (hf : c'.buf = c.buf) (hh : c'.handler = c.handler)
    (hc : c.cancelled = true → c'.cancelled = true) (hm : c.exec ≠ .waiting → c'.nRecv = 0 ∧ c'.nHand = 0) :
    GInv c' :=
  ⟨hb ▸ hw ▸ h.safe, by rw [hf, he]; exact h.bufExec, fun x => hc (h.doneCancelled (hh ▸ x)),
    by rw [hh, he, hb]; exact h.doneExec, by rw [he, hh, hf]; exact h.execBuf, by rw [he]; exact hm⟩

theorem ginv_step (c : GConfig) (m : GMove) (h : GInv c) : GInv (gstep c m) := by
  unfold gstep
  by_cases he : genabled c m = false
  · rw [if_pos he]; exact h
  rw [if_neg he]
  have he' : genabled c m = true := by simpa using he
  -- a move of a member: `group.Execute` has not returned, and stays so
  have member : ∀ {c' : GConfig}, 0 < c.nRecv ∨ 0 < c.nHand → c'.buffered = c.buffered → c'.waits = c.waits →
      c'.exec = c.exec → c'.buf = c.buf → c'.handler = c.handler → (c.cancelled = true → c'.cancelled = true) →
      GInv c' :=
    fun hn hb hw hx hf hh hc => h.frame hb hw hx hf hh hc fun hne => absurd (exec_waiting h.execMembers hn) hne
  cases m with
  | value =>
    simp only [genabled, Bool.and_eq_true, decide_eq_true_eq] at he'
    exact member (.inl he'.2) rfl rfl rfl rfl rfl id
  | memberErr b =>
    simp only [genabled, decide_eq_true_eq] at he'
    exact member (.inl he') rfl rfl rfl rfl rfl fun hc => by simp [hc]
  | handGiveUp =>
    simp only [genabled, Bool.and_eq_true, decide_eq_true_eq] at he'
    exact member (.inr he'.1) rfl rfl rfl rfl rfl id
  | streamCancel => exact h.frame rfl rfl rfl rfl rfl (fun _ => rfl) h.execMembers
  | handOver ok =>
    simp only [genabled, Bool.and_eq_true, decide_eq_true_eq] at he'
    have hw := exec_waiting h.execMembers (.inr he'.1)
    cases ok with
    | true => exact member (.inr he'.1) rfl rfl rfl rfl rfl id
    | false =>
      -- the Send failed: the handler cancels and either waits for `returnErr` or — `returnErr` buffered — returns
      have hb : c.waits = false → c.buffered = true := fun hwt => h.safe.resolve_right (by simp [hwt])
      cases hwt : c.waits <;> simp only [Bool.false_eq_true, if_false, if_true]
      · exact ⟨.inl (hb hwt), h.bufExec, fun _ => rfl, fun _ => .inr (hb hwt), by simp [hw], by simp [hw]⟩
      · exact ⟨.inr rfl, h.bufExec, fun _ => rfl, nofun, by simp [hw], by simp [hw]⟩
  | execDone =>
    simp only [genabled, Bool.and_eq_true, decide_eq_true_eq] at he'
    obtain ⟨⟨hw, hr⟩, hh⟩ := he'
    exact ⟨h.safe, fun hb => by simpa [hw] using h.bufExec hb, h.doneCancelled,
      fun hd => .inr ((h.doneExec hd).resolve_left (by simp [hw])), nofun, fun _ => ⟨hr, hh⟩⟩
  | execSend =>
    simp only [genabled, Bool.and_eq_true, decide_eq_true_eq, Bool.not_eq_true'] at he'
    exact ⟨h.safe, fun _ => rfl, h.doneCancelled, fun _ => .inl rfl, fun _ => .inr rfl,
      fun _ => h.execMembers (by simp [he'.1.1])⟩
  | recvErr =>
    simp only [genabled, Bool.and_eq_true, decide_eq_true_eq, Bool.or_eq_true] at he'
    -- the result comes from the buffer (the goroutine is gone) or by rendezvous (it goes now)
    have hx : c.exec ≠ .waiting := fun hw => by
      rcases he'.2 with hb | hs
      · simpa [hw] using h.bufExec hb
      · simp [hw] at hs
    cases hb : c.buf <;> simp only [Bool.false_eq_true, if_false, if_true]
    · exact ⟨h.safe, nofun, fun _ => rfl, fun _ => .inl rfl, fun _ => .inl rfl, fun _ => h.execMembers hx⟩
    · exact ⟨h.safe, nofun, fun _ => rfl, fun _ => .inl (h.bufExec hb), fun _ => .inl rfl, fun _ => h.execMembers hx⟩

theorem ginv_run (sched : List GMove) : ∀ c, GInv c → GInv (grun c sched) := by
  induction sched with
  | nil => intro c h; exact h
  | cons m ms ih => intro c h; exact ih _ (ginv_step c m h)

/-- the fan-in goroutine sits in `returnErr <- err` after the handler has returned: the channel is buffered and empty -/
theorem GInv.sending_done {c : GConfig} (h : GInv c) (hx : c.exec = .sending) (hd : c.handler = .done) :
    c.buffered = true ∧ c.buf = false :=
  ⟨(h.doneExec hd).resolve_left (by simp [hx]), Bool.eq_false_iff.2 fun hb => by simpa [hx] using h.bufExec hb⟩

theorem gprogress (c : GConfig) (h : GInv c) (hc : c.cancelled = true) :
    c.allDone ∨ ∃ m, genabled c m = true := by
  by_cases hr : 0 < c.nRecv
  · exact Or.inr ⟨.memberErr false, by simp [genabled, hr]⟩
  by_cases hh : 0 < c.nHand
  · exact Or.inr ⟨.handGiveUp, by simp [genabled, hh, hc]⟩
  have hr0 : c.nRecv = 0 := by omega
  have hh0 : c.nHand = 0 := by omega
  cases hx : c.exec with
  | waiting => exact Or.inr ⟨.execDone, by simp [genabled, hx, hr0, hh0]⟩
  | sending =>
    by_cases hd : c.handler = .done
    · obtain ⟨hb, hnb⟩ := h.sending_done hx hd
      exact Or.inr ⟨.execSend, by simp [genabled, hx, hb, hnb]⟩
    · exact Or.inr ⟨.recvErr, by simp [genabled, hx, hd]⟩
  | done =>
    by_cases hd : c.handler = .done
    · exact Or.inl ⟨hr0, hh0, hx, hd⟩
    · have hb : c.buf = true := by
        rcases h.execBuf hx with h' | h'
        · exact absurd h' hd
        · exact h'
      exact Or.inr ⟨.recvErr, by simp [genabled, hd, hb]⟩

theorem gdecreases (c : GConfig) (m : GMove) (hc : c.cancelled = true) (he : genabled c m = true) :
    gmeasure (gstep c m) < gmeasure c := by
  unfold gstep
  rw [if_neg (by simp [he])]
  cases m with
  | value => simp [genabled, hc] at he
  | memberErr b =>
    simp only [genabled, decide_eq_true_eq] at he
    simp only [gmeasure]; omega
  | handOver ok =>
    simp only [genabled, Bool.and_eq_true, decide_eq_true_eq] at he
    obtain ⟨hn, hl⟩ := he
    cases ok with
    | true => simp only [gmeasure, if_true]; omega
    | false =>
      cases hw : c.waits <;> simp only [gmeasure, Bool.false_eq_true, if_false, if_true, hl, HSt.w] <;> omega
  | handGiveUp =>
    simp only [genabled, Bool.and_eq_true, decide_eq_true_eq] at he
    simp only [gmeasure]; omega
  | execDone =>
    simp only [genabled, Bool.and_eq_true, decide_eq_true_eq] at he
    simp only [gmeasure, he.1.1, ESt.w]; omega
  | execSend =>
    simp only [genabled, Bool.and_eq_true, decide_eq_true_eq] at he
    simp only [gmeasure, he.1.1, ESt.w]; omega
  | recvErr =>
    simp only [genabled, Bool.and_eq_true, decide_eq_true_eq, Bool.or_eq_true] at he
    obtain ⟨hnd, _⟩ := he
    -- the handler returns: its weight, at least 1, goes to 0, and `exec` stays or becomes `done`
    have hw : 0 < c.handler.w := by
      cases hh : c.handler with
      | done => exact absurd hh hnd
      | _ => simp [HSt.w]
    have hd : HSt.done.w = 0 := rfl
    have ed : ESt.done.w = 0 := rfl
    cases hb : c.buf <;> simp only [gmeasure, if_true, if_false, Bool.false_eq_true] <;> omega
  | streamCancel => simp [genabled, hc] at he

end ScVerif.C10
