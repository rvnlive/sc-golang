import ScVerif.C10.NetEffect
/-!
C10 — `CollectionChange.include` (pkg/resource/change.go), the forwarder-side filter of a subscription made with
`resource.WithInclude(f)`: the model and its lemmas.

A change carries the item's old and new value (`none` = absent) besides its type.  The forwarder of `Collection.Pull`
asks the filter about both ends: an absent value is never included; a change between two included states is passed on
as it is, one between two excluded states is not forwarded, one that moves the item into the filter becomes an ADD, one
that moves it out of the filter — an update to an excluded value, or the removal of an included item — becomes a
REMOVE.  The lossy stage in front of it (`mergeChanges`) joins two consecutive changes of an item into one that keeps
the first one's old value and the second one's new value (`mergeChg`).
-/
namespace ScVerif.C10

structure Chg (V : Type) where
  kind : Kind
  old : Option V
  new : Option V

/-- an absent value is never included, whatever the filter says -/
def incl {V : Type} (f : V → Bool) : Option V → Bool
  | none => false
  | some v => f v

/-- `(*CollectionChange).include` with a non-nil filter: `none` = not forwarded -/
def includeChg {V : Type} (f : V → Bool) (c : Chg V) : Option (Chg V) :=
  if incl f c.old = incl f c.new then
    (if incl f c.new then some c else none)
  else if incl f c.new then some ⟨.add, none, c.new⟩
  else some ⟨.remove, c.old, none⟩

/-- the variant with the early-out widened to "or there is no new value" (what an allocation-saving guard would do):
used only to show that the theorems below are about the code as it is -/
def includeEarly {V : Type} (f : V → Bool) (c : Chg V) : Option (Chg V) :=
  if incl f c.old = incl f c.new ∨ c.new = none then
    (if incl f c.new then some c else none)
  else if incl f c.new then some ⟨.add, none, c.new⟩
  else some ⟨.remove, c.old, none⟩

/-- the changes a collection publishes (and `mergeChanges` produces): the type agrees with the two ends -/
def Chg.WF {V : Type} (c : Chg V) : Prop :=
  match c.kind with
  | .add => c.old = none ∧ c.new ≠ none
  | .remove => c.old ≠ none ∧ c.new = none
  | _ => c.old ≠ none ∧ c.new ≠ none

/-- a run of changes of one item, each starting where the previous one ended (`v` = the item before the first) -/
def Chain {V : Type} : Option V → List (Chg V) → Prop
  | _, [] => True
  | v, c :: cs => c.WF ∧ c.old = v ∧ Chain c.new cs

def lastVal {V : Type} : Option V → List (Chg V) → Option V
  | v, [] => v
  | _, c :: cs => lastVal c.new cs

/-- the change types the subscriber receives -/
def forwarded {V : Type} (f : V → Bool) (cs : List (Chg V)) : List Kind :=
  cs.filterMap fun c => (includeChg f c).map (·.kind)

/-- `mergeChanges` on two consecutive changes of one item -/
def mergeChg {V : Type} (a b : Chg V) : Option (Chg V) :=
  (mergeKind a.kind b.kind).map fun k => ⟨k, a.old, b.new⟩

theorem Chg.wf_iff {V : Type} (c : Chg V) : c.WF ↔ NetOK c.old.isSome c.new.isSome (some c.kind) := by
  obtain ⟨k, o, n⟩ := c
  cases k <;> cases o <;> cases n <;> simp [Chg.WF, NetOK, okKind, applyKind]

theorem incl_none {V : Type} (f : V → Bool) : incl f (none : Option V) = false := rfl

theorem incl_true_ne_none {V : Type} (f : V → Bool) (v : Option V) (h : incl f v = true) : v ≠ none := by
  cases v with
  | none => simp [incl] at h
  | some _ => simp

theorem includeChg_step {V : Type} (f : V → Bool) (c : Chg V) (hw : c.WF) :
    match includeChg f c with
    | none => incl f c.new = incl f c.old
    | some c' => okKind (incl f c.old) c'.kind = true ∧ applyKind (incl f c.old) c'.kind = incl f c.new := by
  unfold includeChg
  cases ho : incl f c.old <;> cases hn : incl f c.new
  · exact rfl
  · exact ⟨rfl, rfl⟩
  · exact ⟨rfl, rfl⟩
  · -- included before and after: passed on as it is, and both values exist
    have h := (Chg.wf_iff c).1 hw
    rwa [Option.isSome_iff_ne_none.2 (incl_true_ne_none f _ ho),
      Option.isSome_iff_ne_none.2 (incl_true_ne_none f _ hn)] at h

theorem forwarded_cons {V : Type} (f : V → Bool) (c : Chg V) (cs : List (Chg V)) :
    forwarded f (c :: cs) = match includeChg f c with
      | none => forwarded f cs
      | some c' => c'.kind :: forwarded f cs := by
  unfold forwarded
  cases h : includeChg f c <;> simp [h]

theorem forwarded_chain {V : Type} (f : V → Bool) (cs : List (Chg V)) : ∀ v : Option V, Chain v cs →
    validSeq (incl f v) (forwarded f cs) = true ∧
    applySeq (incl f v) (forwarded f cs) = incl f (lastVal v cs) := by
  induction cs with
  | nil => intro v _; exact ⟨rfl, rfl⟩
  | cons c cs ih =>
    intro v hc
    obtain ⟨hw, ho, hrest⟩ := hc
    have hstep := includeChg_step f c hw
    have hih := ih c.new hrest
    rw [forwarded_cons]
    subst ho
    cases hi : includeChg f c with
    | none =>
      rw [hi] at hstep
      simp only [lastVal]
      rw [← hstep]
      exact hih
    | some c' =>
      rw [hi] at hstep
      obtain ⟨hk, ha⟩ := hstep
      simp only [lastVal, validSeq, applySeq, List.foldl_cons, Bool.and_eq_true]
      rw [ha]
      exact ⟨⟨hk, hih.1⟩, hih.2⟩

theorem mergeChg_ends {V : Type} (a b : Chg V) (ha : a.WF) (hb : b.WF) (hab : b.old = a.new) :
    match mergeChg a b with
    | none => a.old = none ∧ b.new = none
    | some c => c.WF ∧ c.old = a.old ∧ c.new = b.new := by
  obtain ⟨oka, hap⟩ := (Chg.wf_iff a).1 ha
  obtain ⟨okb, hbp⟩ := (Chg.wf_iff b).1 hb
  rw [hab, ← hap] at okb hbp
  -- `mergeChanges` on the types keeps the net effect on "the item exists"
  have h := hbp ▸ mergeKind_net a.old.isSome a.kind b.kind oka okb
  unfold mergeChg
  cases hk : mergeKind a.kind b.kind with
  | none =>
    obtain ⟨ka, kb⟩ := mergeKind_none hk
    rw [ka] at oka
    rw [kb] at hbp
    exact ⟨by simpa [okKind] using oka, by simpa [applyKind] using hbp.symm⟩
  | some k => exact ⟨(Chg.wf_iff ⟨k, a.old, b.new⟩).2 (hk ▸ h), rfl, rfl⟩

end ScVerif.C10
