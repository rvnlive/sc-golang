import ScVerif.Base.Line
import ScVerif.C10.Window
import ScVerif.C10.DrvLate
/-!
Driver glue for the seed-and-register window (`Window.lean`): an acceptor for the harness's park=listen scenarios.

`window <locked> <uo> <bp> <pre> <observed>`: a synchronous single-item subscription on an existing item has taken its
snapshot and not yet registered its listener; the scenario's writes (`pre` updates of the item, then its delete) are
started NOW.  `through` = the first write is enabled in that state; if so the harness lets all the writes finish inside
the window before the subscription goes on (the model applies them right away), otherwise they stay pending and are
interleaved with everything else.  The driver explores every interleaving from there (registration, the call's
return, the pending writes, the pipeline's goroutines, an always-receiving subscriber), collects the outcomes of the
quiescent end states (`through=<b>,closed=<the subscriber's channel is closed>,n=<changes received>`) and answers
`ok <observed>` if the observation is among them, else `no <outcome1>|<outcome2>|…`.  I/O glue, nothing proved about it.
-/
namespace ScVerif.C10

open ScVerif.Line

structure WNode where
  w : WConfig
  todo : List LMove

def WNode.key (n : WNode) : String :=
  LNode.key ⟨n.w.l, n.todo⟩ ++ s!"|{n.w.snapped.isSome}{n.w.shown}"

def WNode.succs (n : WNode) : List WNode :=
  let own := ([WMove.reg, WMove.mv .ret] ++ latePipeMoves.map fun m => WMove.mv (.pipe m)).filterMap fun m =>
    (wstep n.w m).map fun w' => { n with w := w' }
  let wr := match n.todo with
    | x :: r => (match wstep n.w (.mv x) with | some w' => [{ w := w', todo := r }] | none => [])
    | [] => []
  own ++ wr

def windowOutcome (through : Bool) (n : WNode) : String :=
  let base := s!"through={through},closed={n.w.l.p.outClosed},n={n.w.l.p.out.length}"
  if n.todo.isEmpty then base else base ++ ",writer-blocked"

def windowExplore (through : Bool) : Nat → List WNode → List String → List String → List String
  | 0, _, _, finals => finals ++ ["!fuel"]
  | _, [], _, finals => finals
  | fuel + 1, n :: rest, seen, finals =>
    let k := n.key
    if seen.contains k then windowExplore through fuel rest seen finals
    else
      let ss := n.succs
      if ss.isEmpty then
        let o := windowOutcome through n
        windowExplore through fuel rest (k :: seen) (if finals.contains o then finals else finals ++ [o])
      else windowExplore through fuel (ss ++ rest) (k :: seen) finals

def handleWindow (toks : List String) : String :=
  match toks with
  | [locked, uo, bp, pre, observed] =>
    match parseBool? locked, parseBool? uo, parseBool? bp, parseNat? pre with
    | some locked, some uo, some bp, some pre =>
      if pre > 8 then "!bad-op" else
      let p : PConfig := { hasEx := !bp, exMerge := true, hasPid := true, target := 7, fixed := true, keep := fun _ => true }
      let ws := ((List.range pre).map fun i => LMove.upd (i + 1)) ++ [LMove.del]
      let w0 := wnext (winit locked true uo p) .snap
      let through := (wstep w0 (.mv (ws.headD .del))).isSome
      let start : WNode :=
        if through then { w := ws.foldl (fun w m => wnext w (.mv m)) w0, todo := [] } else { w := w0, todo := ws }
      let outs := windowExplore through 20000 [start] [] []
      if outs.contains observed then "ok " ++ observed else "no " ++ "|".intercalate outs
    | _, _, _, _ => "!bad-op"
  | _ => "!bad-op"

end ScVerif.C10
