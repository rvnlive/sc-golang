import ScVerif.C10.Bus
import ScVerif.C10.Run
/-!
The enabled outcomes of `step` as a relation: one constructor per branch of the function, its guards as
hypotheses, its result as `step` computes it.  Every enabled step is one of them (`Step.of_step`); proofs about all
moves go by cases on `Step`.
-/
namespace ScVerif.C10

inductive Step (c : Config) : Move → Config → Prop
  | cancel (l : Nat) : Step c (.cancel l) (c.setL l { c.ls l with cancelled := true })
  | cancelSend (t : Nat) (hpc : (c.ss t).pc ≠ .idle) :
      Step c (.cancelSend t) (c.setS t { c.ss t with ctxDone := true })
  | recvClosed (l : Nat) (hr : (c.ls l).rcvReady = false) (hsaw : (c.ls l).sawClose = false)
      (hc : (c.ls l).closed = true) : Step c (.recvReq l) (c.setL l { c.ls l with sawClose := true })
  | recvOpen (l : Nat) (hr : (c.ls l).rcvReady = false) (hsaw : (c.ls l).sawClose = false)
      (hc : (c.ls l).closed = false) : Step c (.recvReq l) (c.setL l { c.ls l with rcvReady := true })
  | lSpawn (l : Nat) (hl : (c.ls l).lpc = .init) :
      Step c (.lSpawn l) (c.setL l { c.ls l with lpc := .spawned, wpc := .await })
  | lRegister (l : Nat) (hl : (c.ls l).lpc = .spawned) :
      Step c (.lRegister l) (Config.setL { c with bus := c.bus ++ [l] } l { c.ls l with lpc := .registered })
  | wAwake (l : Nat) (hw : (c.ls l).wpc = .await) (hc : (c.ls l).cancelled = true) :
      Step c (.wAwake l) (c.setL l { c.ls l with wpc := .enter })
  | wLockReq (l : Nat) (hw : (c.ls l).wpc = .enter) :
      Step c (.wLockReq l) (c.setL l { c.ls l with wpc := .wait, wWait := true })
  | wLockAcq (l : Nat) (hw : (c.ls l).wpc = .wait) (hr : (c.ls l).readers = []) :
      Step c (.wLockAcq l) (c.setL l { c.ls l with wpc := .locked, wWait := false, wHeld := true })
  | wCloseNil (l : Nat) (hw : (c.ls l).wpc = .locked) (hn : (c.ls l).isNil = true) :
      Step c (.wClose l) (c.setL l { c.ls l with wpc := .unlock })
  | wClosePanic (l : Nat) (hw : (c.ls l).wpc = .locked) (hn : (c.ls l).isNil = false)
      (hc : (c.ls l).closed = true) :
      Step c (.wClose l) (Config.setL { c with panicked := true } l { c.ls l with wpc := .closing })
  | wClose (l : Nat) (hw : (c.ls l).wpc = .locked) (hn : (c.ls l).isNil = false)
      (hc : (c.ls l).closed = false) :
      Step c (.wClose l)
        (c.setL l { c.ls l with wpc := .closing, closed := true, rcvReady := false,
                                sawClose := (c.ls l).sawClose || (c.ls l).rcvReady })
  | wNil (l : Nat) (hw : (c.ls l).wpc = .closing) :
      Step c (.wNil l) (c.setL l { c.ls l with wpc := .unlock, isNil := true })
  | wUnlock (l : Nat) (hw : (c.ls l).wpc = .unlock) :
      Step c (.wUnlock l) (c.setL l { c.ls l with wpc := .done, wHeld := false })
  | sSnapshot (t : Nat) (hpc : (c.ss t).pc = .idle) (htodo : 0 < (c.ss t).todo) :
      Step c (.sSnapshot t)
        (c.setS t { c.ss t with pc := .loop, cur := (c.ss t).cur + 1, todo := (c.ss t).todo - 1, snap := c.bus,
                                visited := [], rest := c.bus, needGc := false, ctxDone := false })
  | sAcquire (t l : Nat) (r : List Nat) (hrest : (c.ss t).rest = l :: r) (hpc : (c.ss t).pc = .loop)
      (hw : (c.ls l).wWait = false) (hh : (c.ls l).wHeld = false) :
      Step c (.sAcquire t)
        ((c.setL l { c.ls l with readers := t :: (c.ls l).readers }).setS t { c.ss t with pc := .rlocked })
  | sDeliverPanic (t l : Nat) (r : List Nat) (hrest : (c.ss t).rest = l :: r) (hpc : (c.ss t).pc = .rlocked)
      (hn : (c.ls l).isNil = false) (hr : (c.ls l).rcvReady = true) (hc : (c.ls l).closed = true) :
      Step c (.sDeliver t)
        (Config.setS { c with panicked := true } t { c.ss t with pc := .selected .delivered })
  | sDeliver (t l : Nat) (r : List Nat) (hrest : (c.ss t).rest = l :: r) (hpc : (c.ss t).pc = .rlocked)
      (hn : (c.ls l).isNil = false) (hr : (c.ls l).rcvReady = true) (hc : (c.ls l).closed = false) :
      Step c (.sDeliver t)
        ((c.setL l { c.ls l with recvd := (c.ls l).recvd ++ [⟨t, (c.ss t).cur⟩], rcvReady := false }).setS t
          { c.ss t with pc := .selected .delivered })
  | sListenCancelled (t l : Nat) (r : List Nat) (hrest : (c.ss t).rest = l :: r)
      (hpc : (c.ss t).pc = .rlocked) (hc : (c.ls l).cancelled = true) :
      Step c (.sListenCancelled t) (c.setS t { c.ss t with pc := .selected .listenCancelled })
  | sSendCancelled (t l : Nat) (r : List Nat) (hrest : (c.ss t).rest = l :: r)
      (hpc : (c.ss t).pc = .rlocked) (hd : (c.ss t).ctxDone = true) :
      Step c (.sSendCancelled t) (c.setS t { c.ss t with pc := .selected .sendCancelled })
  | sReleaseAbort (t l : Nat) (r : List Nat) (hrest : (c.ss t).rest = l :: r)
      (hpc : (c.ss t).pc = .selected .sendCancelled) :
      Step c (.sRelease t)
        ((c.setL l { c.ls l with readers := (c.ls l).readers.filter (· ≠ t) }).setS t
          { c.ss t with pc := .idle, rest := [], results := (c.ss t).results ++ [false] })
  | sRelease (t l : Nat) (r : List Nat) (o : Sel) (hrest : (c.ss t).rest = l :: r)
      (hpc : (c.ss t).pc = .selected o) (ho : o ≠ .sendCancelled) :
      Step c (.sRelease t)
        ((c.setL l { c.ls l with readers := (c.ls l).readers.filter (· ≠ t) }).setS t
          { c.ss t with pc := .loop, rest := r, visited := (c.ss t).visited ++ [l],
                        needGc := (c.ss t).needGc || decide (o = .listenCancelled) })
  | sFinishGc (t : Nat) (hpc : (c.ss t).pc = .loop) (hrest : (c.ss t).rest = [])
      (hg : (c.ss t).needGc = true) : Step c (.sFinish t) (c.setS t { c.ss t with pc := .gc })
  | sFinish (t : Nat) (hpc : (c.ss t).pc = .loop) (hrest : (c.ss t).rest = [])
      (hg : (c.ss t).needGc = false) :
      Step c (.sFinish t) (c.setS t { c.ss t with pc := .idle, results := (c.ss t).results ++ [true] })
  | sCollect (t : Nat) (hpc : (c.ss t).pc = .gc) :
      Step c (.sCollect t)
        (Config.setS { c with bus := c.bus.filter (fun l => !(c.ls l).cancelled) } t
          { c.ss t with pc := .idle, results := (c.ss t).results ++ [true] })

theorem Step.of_step {c c' : Config} {m : Move} (hs : step c m = some c') : Step c m c' := by
  -- by inspection; the guards sit under a `match` on `rest`, which the `guard_…` lemmas of `Run.lean` do not read
  cases m <;> simp only [step] at hs <;> (repeat' split at hs) <;> cases hs <;> constructor <;>
    first | assumption | simp_all

theorem next_of_step {c c' : Config} {m : Move} (h : step c m = some c') : next c m = c' := by
  simp [next, h]

theorem run_induct {P : Config → Prop} (hP : ∀ c m c', P c → Step c m c' → P c') {c : Config} (sched : List Move)
    (h : P c) : P (run c sched) :=
  foldl_getD_induct (step := step) sched (fun c m c' _ h hs => hP c m c' h (.of_step hs)) h

@[simp] theorem Config.setL_ls (c : Config) (l : Nat) (L : Listener) : (c.setL l L).ls = upd c.ls l L := rfl
@[simp] theorem Config.setL_ss (c : Config) (l : Nat) (L : Listener) : (c.setL l L).ss = c.ss := rfl
@[simp] theorem Config.setL_bus (c : Config) (l : Nat) (L : Listener) : (c.setL l L).bus = c.bus := rfl
@[simp] theorem Config.setL_panicked (c : Config) (l : Nat) (L : Listener) : (c.setL l L).panicked = c.panicked := rfl
@[simp] theorem Config.setS_ss (c : Config) (t : Nat) (S : Sender) : (c.setS t S).ss = upd c.ss t S := rfl
@[simp] theorem Config.setS_ls (c : Config) (t : Nat) (S : Sender) : (c.setS t S).ls = c.ls := rfl
@[simp] theorem Config.setS_bus (c : Config) (t : Nat) (S : Sender) : (c.setS t S).bus = c.bus := rfl
@[simp] theorem Config.setS_panicked (c : Config) (t : Nat) (S : Sender) : (c.setS t S).panicked = c.panicked := rfl

theorem Config.setL_ind {P : Listener → Prop} {c : Config} {l l' : Nat} {L' : Listener} (hnew : l = l' → P L')
    (hold : l ≠ l' → P (c.ls l)) : P ((c.setL l' L').ls l) := by
  simp only [Config.setL_ls, upd_apply]
  split
  · exact hnew ‹_›
  · exact hold ‹_›

theorem Config.setL_stable {P : Listener → Prop} {c : Config} {l' : Nat} {L' : Listener} (hP : P (c.ls l') → P L')
    (l : Nat) (h : P (c.ls l)) : P ((c.setL l' L').ls l) :=
  Config.setL_ind (fun hl => hP (hl ▸ h)) fun _ => h

theorem Config.setS_ind {P : Sender → Prop} {c : Config} {t t' : Nat} {S' : Sender} (hnew : t = t' → P S')
    (hold : t ≠ t' → P (c.ss t)) : P ((c.setS t' S').ss t) := by
  simp only [Config.setS_ss, upd_apply]
  split
  · exact hnew ‹_›
  · exact hold ‹_›

theorem Config.setS_stable {P : Sender → Prop} {c : Config} {t' : Nat} {S' : Sender} (hP : P (c.ss t') → P S')
    (t : Nat) (h : P (c.ss t)) : P ((c.setS t' S').ss t) :=
  Config.setS_ind (fun ht => hP (ht ▸ h)) fun _ => h

theorem Step.cancelled_mono {c c' : Config} {m : Move} (hs : Step c m c') {l : Nat}
    (h : (c.ls l).cancelled = true) : (c'.ls l).cancelled = true := by
  cases hs with
  | cancel => exact Config.setL_stable (P := (·.cancelled = true)) (fun _ => rfl) l h
  -- these rewrite a sender's record only: the listeners are as before
  | cancelSend | sSnapshot | sListenCancelled | sSendCancelled | sFinishGc | sFinish | sCollect
  | sDeliverPanic => exact h
  | _ =>
    -- the rest rewrite one listener's record to `{ old with … }` without naming this field, so `P new` unfolds to `P old`
    refine Config.setL_stable (P := (·.cancelled = true)) ?_ l h
    exact id

theorem Step.wpc_ne_none {c c' : Config} {m : Move} (hs : Step c m c') {l : Nat}
    (h : (c.ls l).wpc ≠ .none) : (c'.ls l).wpc ≠ .none := by
  cases hs with
  | cancelSend | sSnapshot | sListenCancelled | sSendCancelled | sFinishGc | sFinish | sCollect
  | sDeliverPanic => exact h
  | lSpawn | wAwake | wLockReq | wLockAcq | wCloseNil | wClosePanic | wClose | wNil | wUnlock =>
    refine Config.setL_stable (P := (·.wpc ≠ .none)) (fun _ => ?_) l h
    simp
  | _ =>
    refine Config.setL_stable (P := (·.wpc ≠ .none)) ?_ l h
    exact id

theorem wpc_ne_none_run (c : Config) (sched : List Move) (l : Nat) :
    (c.ls l).wpc ≠ .none → ((run c sched).ls l).wpc ≠ .none :=
  run_induct (P := fun c => (c.ls l).wpc ≠ .none) (fun _ _ _ h hs => hs.wpc_ne_none h) sched

end ScVerif.C10
