/-
C10 — executable interleaving model of `internal/minibus/bus.go`.

One atomic step = one lock-delimited section or one channel rendezvous of the Go code:

* `Bus.Send`      : `sSnapshot` (copy of `b.listeners` under `listenerM.RLock`) ▸ per listener of the copy
                    `sAcquire` (`l.m.RLock`) ▸ one of `sDeliver` / `sListenCancelled` / `sSendCancelled`
                    (the three `select` cases of `listener.send`) ▸ `sRelease` (deferred `RUnlock`, loop
                    bookkeeping, early `return false`) ▸ `sFinish` ▸ optional `sCollect` (`Bus.collect`)
* `Bus.Listen`    : `lSpawn` (the `go func(){ <-ctx.Done(); l.stop() }`) ▸ `lRegister` (append under `listenerM.Lock`)
* watcher / `stop`: `wAwake` (`<-ctx.Done()` returns) ▸ `wLockReq` (`l.m.Lock()` announced: new readers wait, as
                    `sync.RWMutex` does) ▸ `wLockAcq` (no reader left) ▸ `wClose` (`close(l.ch)`, guarded by
                    `l.ch != nil`) ▸ `wNil` (`l.ch = nil`) ▸ `wUnlock`
* environment     : `cancel l` (the listen context), `cancelSend t` (the send context), `recvReq l` (the
                    consumer of listener `l` posts one receive).  All enabled at any time.

A panic of the Go runtime (send on a closed, non-nil channel; close of a closed channel) is an explicit
outcome: it sets `panicked`.  Listeners and senders are indexed by `Nat` (any number of each).
-/
namespace ScVerif.C10

/-- Point update of a `Nat`-indexed family. -/
def upd {α : Type} (f : Nat → α) (i : Nat) (v : α) : Nat → α := fun j => if j = i then v else f j

@[simp] theorem upd_same {α : Type} (f : Nat → α) (i : Nat) (v : α) : upd f i v i = v := by simp [upd]
theorem upd_other {α : Type} (f : Nat → α) {i j : Nat} (v : α) (h : j ≠ i) : upd f i v j = f j := by simp [upd, h]
theorem upd_apply {α : Type} (f : Nat → α) (i j : Nat) (v : α) : upd f i v j = if j = i then v else f j := rfl

/-- an event on the bus: the `seq`-th `Send` call of `sender` (`Sender.cur` at the time) -/
structure Ev where
  sender : Nat
  seq : Nat
deriving DecidableEq, Repr

/-- program counter of the goroutine `go func(){ <-ctx.Done(); l.stop() }` -/
inductive WPc | none | await | enter | wait | locked | closing | unlock | done
deriving DecidableEq, Repr

/-- program counter of the `Bus.Listen` call -/
inductive LPc | init | spawned | registered
deriving DecidableEq, Repr

structure Listener where
  cancelled : Bool := false      -- l.ctx is Done
  closed : Bool := false         -- close(l.ch) has been executed
  isNil : Bool := false          -- l.ch == nil
  readers : List Nat := []       -- senders holding l.m.RLock
  wWait : Bool := false          -- a Lock() is queued on l.m (new RLock calls wait)
  wHeld : Bool := false          -- l.m is write-locked
  wpc : WPc := .none
  lpc : LPc := .init
  rcvReady : Bool := false       -- the consumer is blocked in a receive on l.ch
  recvd : List Ev := []          -- what the consumer has received, oldest first
  sawClose : Bool := false       -- a receive of the consumer returned !ok

/-- which `select` case of `listener.send` fired -/
inductive Sel | delivered | listenCancelled | sendCancelled
deriving DecidableEq, Repr

inductive SPc | idle | loop | rlocked | selected (o : Sel) | gc
deriving DecidableEq, Repr

structure Sender where
  pc : SPc := .idle
  cur : Nat := 0                 -- sequence number of the current (or last) Send call
  todo : Nat := 0                -- Send calls still to make
  snap : List Nat := []          -- the copy of b.listeners taken by the current call
  visited : List Nat := []       -- prefix of `snap` already processed
  rest : List Nat := []          -- suffix of `snap` still to process (head = current listener)
  needGc : Bool := false
  ctxDone : Bool := false        -- the send context of the current call is Done
  results : List Bool := []      -- `ok` of the finished calls, oldest first

structure Config where
  ls : Nat → Listener
  ss : Nat → Sender
  bus : List Nat                 -- b.listeners
  panicked : Bool

inductive Move
  | cancel (l : Nat) | cancelSend (t : Nat) | recvReq (l : Nat)
  | lSpawn (l : Nat) | lRegister (l : Nat)
  | wAwake (l : Nat) | wLockReq (l : Nat) | wLockAcq (l : Nat) | wClose (l : Nat) | wNil (l : Nat) | wUnlock (l : Nat)
  | sSnapshot (t : Nat) | sAcquire (t : Nat) | sDeliver (t : Nat) | sListenCancelled (t : Nat)
  | sSendCancelled (t : Nat) | sRelease (t : Nat) | sFinish (t : Nat) | sCollect (t : Nat)
deriving DecidableEq, Repr

def Config.setL (c : Config) (l : Nat) (v : Listener) : Config := { c with ls := upd c.ls l v }
def Config.setS (c : Config) (t : Nat) (v : Sender) : Config := { c with ss := upd c.ss t v }

/-- One atomic step; `none` = the move is not enabled in `c`. -/
def step (c : Config) : Move → Option Config
  | .cancel l => some (c.setL l { c.ls l with cancelled := true })
  | .cancelSend t =>
    if (c.ss t).pc ≠ .idle then some (c.setS t { c.ss t with ctxDone := true }) else none
  | .recvReq l =>
    let L := c.ls l
    if L.rcvReady = false ∧ L.sawClose = false then
      if L.closed then some (c.setL l { L with sawClose := true })
      else some (c.setL l { L with rcvReady := true })
    else none
  | .lSpawn l =>
    let L := c.ls l
    if L.lpc = .init then some (c.setL l { L with lpc := .spawned, wpc := .await }) else none
  | .lRegister l =>
    let L := c.ls l
    if L.lpc = .spawned then some { (c.setL l { L with lpc := .registered }) with bus := c.bus ++ [l] } else none
  | .wAwake l =>
    let L := c.ls l
    if L.wpc = .await ∧ L.cancelled = true then some (c.setL l { L with wpc := .enter }) else none
  | .wLockReq l =>
    let L := c.ls l
    if L.wpc = .enter then some (c.setL l { L with wpc := .wait, wWait := true }) else none
  | .wLockAcq l =>
    let L := c.ls l
    if L.wpc = .wait ∧ L.readers = [] then some (c.setL l { L with wpc := .locked, wWait := false, wHeld := true })
    else none
  | .wClose l =>
    let L := c.ls l
    if L.wpc = .locked then
      if L.isNil then some (c.setL l { L with wpc := .unlock })
      else if L.closed then some { (c.setL l { L with wpc := .closing }) with panicked := true }
      else some (c.setL l { L with wpc := .closing, closed := true, rcvReady := false,
                                   sawClose := L.sawClose || L.rcvReady })
    else none
  | .wNil l =>
    let L := c.ls l
    if L.wpc = .closing then some (c.setL l { L with wpc := .unlock, isNil := true }) else none
  | .wUnlock l =>
    let L := c.ls l
    if L.wpc = .unlock then some (c.setL l { L with wpc := .done, wHeld := false }) else none
  | .sSnapshot t =>
    let S := c.ss t
    if S.pc = .idle ∧ 0 < S.todo then
      some (c.setS t { S with pc := .loop, cur := S.cur + 1, todo := S.todo - 1, snap := c.bus, visited := [],
                              rest := c.bus, needGc := false, ctxDone := false })
    else none
  | .sAcquire t =>
    let S := c.ss t
    match S.rest with
    | [] => none
    | l :: _ =>
      let L := c.ls l
      if S.pc = .loop ∧ L.wWait = false ∧ L.wHeld = false then
        some ((c.setL l { L with readers := t :: L.readers }).setS t { S with pc := .rlocked })
      else none
  | .sDeliver t =>
    let S := c.ss t
    match S.rest with
    | [] => none
    | l :: _ =>
      let L := c.ls l
      if S.pc = .rlocked ∧ L.isNil = false ∧ L.rcvReady = true then
        if L.closed then
          some { (c.setS t { S with pc := .selected .delivered }) with panicked := true }
        else
          some ((c.setL l { L with recvd := L.recvd ++ [⟨t, S.cur⟩], rcvReady := false }).setS t
                  { S with pc := .selected .delivered })
      else none
  | .sListenCancelled t =>
    let S := c.ss t
    match S.rest with
    | [] => none
    | l :: _ =>
      if S.pc = .rlocked ∧ (c.ls l).cancelled = true then
        some (c.setS t { S with pc := .selected .listenCancelled })
      else none
  | .sSendCancelled t =>
    let S := c.ss t
    match S.rest with
    | [] => none
    | _ :: _ =>
      if S.pc = .rlocked ∧ S.ctxDone = true then
        some (c.setS t { S with pc := .selected .sendCancelled })
      else none
  | .sRelease t =>
    let S := c.ss t
    match S.rest with
    | [] => none
    | l :: r =>
      let L := c.ls l
      match S.pc with
      | .selected o =>
        let c1 := c.setL l { L with readers := L.readers.filter (· ≠ t) }
        if o = .sendCancelled then
          some (c1.setS t { S with pc := .idle, rest := [], results := S.results ++ [false] })
        else
          some (c1.setS t { S with pc := .loop, rest := r, visited := S.visited ++ [l],
                                   needGc := S.needGc || decide (o = .listenCancelled) })
      | _ => none
  | .sFinish t =>
    let S := c.ss t
    if S.pc = .loop ∧ S.rest = [] then
      if S.needGc then some (c.setS t { S with pc := .gc })
      else some (c.setS t { S with pc := .idle, results := S.results ++ [true] })
    else none
  | .sCollect t =>
    let S := c.ss t
    if S.pc = .gc then
      some { (c.setS t { S with pc := .idle, results := S.results ++ [true] }) with
             bus := c.bus.filter (fun l => !(c.ls l).cancelled) }
    else none

/-- A disabled move leaves the configuration unchanged (the scheduler picked a blocked goroutine). -/
def next (c : Config) (m : Move) : Config := (step c m).getD c

/-- A schedule is a list of moves; running it is a fold. -/
def run (c : Config) (sched : List Move) : Config := sched.foldl next c

/-- Initial configuration: nothing subscribed, sender `t` has `todo t` calls to make. -/
def init (todo : Nat → Nat) : Config :=
  { ls := fun _ => {}, ss := fun t => { todo := todo t }, bus := [], panicked := false }

theorem run_nil (c : Config) : run c [] = c := rfl
theorem run_cons (c : Config) (m : Move) (ms : List Move) : run c (m :: ms) = run (next c m) ms := rfl
theorem run_append (c : Config) (a b : List Move) : run c (a ++ b) = run (run c a) b := by
  simp [run, List.foldl_append]

end ScVerif.C10
