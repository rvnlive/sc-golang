import ScVerif.C10.PipeStep
import ScVerif.C10.MergeAux
/-! Invariants of one subscription's pipeline and of the adapter on top of it. -/
namespace ScVerif.C10

/-- a stage that has returned holds nothing (its channel is closed and empty).  Kept by every step (`tidy_step`,
`tidy_prun`; for the adapter `ATidy`, `atidy_step`); the three progress theorems of `PropsPipe` take it as a hypothesis, no
lemma ties it to the start states. -/
def PConfig.Tidy (c : PConfig) : Prop :=
  (c.fwDone = true → c.fwQ = []) ∧ (c.pidDone = true → c.pidQ = [])

theorem tidy_step {c c' : PConfig} {m : PMove} (h : c.Tidy) (hs : pstep c m = some c') : c'.Tidy := by
  obtain ⟨h1, h2⟩ := h
  cases PStep.of_pstep hs <;> simp_all [PConfig.Tidy, exRecv_eq, fwRecv_eq, pidRecv_eq]

theorem tidy_prun {c : PConfig} (sched : List PMove) (h : c.Tidy) : (prun c sched).Tidy :=
  foldl_getD_induct (step := pstep) sched (fun _ _ _ _ => tidy_step) h

theorem drained_of_allDone {p : PConfig} (ht : p.Tidy) (ha : p.allDone = true) :
    p.outClosed = true ∧ if p.hasPid = true then p.pidQ = [] else p.fwQ = [] := by
  unfold PConfig.allDone at ha
  unfold PConfig.outClosed
  obtain ⟨t1, t2⟩ := ht
  cases hP : p.hasPid <;> simp_all

theorem exit_ne_consume {pm : PMove}
    (h : pm ∈ [PMove.exExit, .fwExitIn, .fwExitCtx, .pidExitIn, .pidExitCtx]) : pm ≠ .consume := by
  rintro rfl
  simp at h

/-- an adapter that has returned offers nothing -/
def AConfig.ATidy (a : AConfig) : Prop := a.aDone = true → a.hold = false

theorem atidy_step {a a' : AConfig} {m : AMove} (h : a.ATidy) (hs : astep a m = some a') : a'.ATidy := by
  cases AStep.of_astep hs with
  | pipe => exact h
  | aRecv _ hd => exact fun hd' => by rw [hd] at hd'; cases hd'
  | aSend => exact fun _ => rfl
  | aExitIn _ hh => exact fun _ => hh
  | aExitCtx => exact fun _ => rfl

/-- the excess stage returns only after its input, the bus channel, was closed -/
def PConfig.ExOrder (c : PConfig) : Prop := c.exDone = true → c.inClosed = true

/-- nothing of a subscription ends by itself: the bus channel is closed only after the cancel, the forwarder returns
only after the cancel (or the close, which comes after it), and — `fixed` — when the PullID goroutine
has returned the (child) context is cancelled -/
def PConfig.Causal (c : PConfig) : Prop :=
  (c.inClosed = true → c.cancelled = true) ∧ (c.exDone = true → c.inClosed = true) ∧
  (c.fwDone = true → c.cancelled = true) ∧ (c.fixed = true → c.pidDone = true → c.cancelled = true)

theorem causal_step {c c' : PConfig} {m : PMove} (h : c.Causal) (hs : pstep c m = some c') : c'.Causal := by
  obtain ⟨h1, h2, h3, h4⟩ := h
  cases PStep.of_pstep hs with
  | fwExitIn hd hq hin =>
    -- the forwarder's input is closed: the excess stage has returned or the bus channel is closed
    have : c.cancelled = true := by
      unfold PConfig.fwInClosed at hin
      split at hin
      · exact h1 (h2 hin)
      · exact h1 hin
    simp_all [PConfig.Causal]
  | _ => simp_all [PConfig.Causal, exRecv_eq, fwRecv_eq, pidRecv_eq]

theorem uniq_step {c c' : PConfig} {m : PMove} (h : ∀ t, cnt t c.exQ ≤ 1) (hs : pstep c m = some c') :
    ∀ t, cnt t c'.exQ ≤ 1 := by
  intro t
  have ht := h t
  cases PStep.of_pstep hs with
  | pushEx x =>
    simp only [exRecv_eq]
    split
    · exact cnt_mergeQ_le x ht
    · exact cnt_singleton_le t x
  | xferEF x r hq =>
    rw [hq] at ht
    simpa [fwRecv_eq] using Nat.le_trans (cnt_tail_le t x r) ht
  | exExit => simp
  | xferFP => simpa [pidRecv_eq] using ht
  | pushFw => simpa [fwRecv_eq] using ht
  | _ => exact ht

/-- a measure clause carried from a machine to the one built around it: the move is wrapped injectively (`w`), the
measure goes through a strictly monotone `F` (scaled, plus what the wrapper adds, which such a move leaves alone) -/
theorem measure_lift {α β : Type} {w : α → β} (hw : ∀ a b, w a = w b → a = b) {m c : α} {μ' μ : Nat} {F : Nat → Nat}
    (hF : ∀ a b, a < b → F a < F b) (h : (m = c → μ' = μ) ∧ (m ≠ c → μ' < μ)) :
    (w m = w c → F μ' = F μ) ∧ (w m ≠ w c → F μ' < F μ) :=
  ⟨fun e => congrArg F (h.1 (hw _ _ e)), fun e => hF _ _ (h.2 fun e' => e (e' ▸ rfl))⟩

end ScVerif.C10
