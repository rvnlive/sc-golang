/-!
C10 — what the machines of this directory share.  Each has a partial step function `step : σ → μ → Option σ`; a
schedule is run by folding "take the step if it is enabled" (`run`, `prun`, `srun`, `lrun`, `wrun`, `erun` all unfold
to the fold below; the Group fan-in of `GroupFan.lean` is the exception: a Boolean `genabled` and a total `gstep`).  A
branch of a step function is a guard in front of a result, and the models built around another one (`rstep`, `astep`,
the ModelServer handler's `gstep` of `Pipe.lean`, `sstep`, `lstep`, `wstep`) let a step of the inner machine through
under a guard: the `guard_…` lemmas read such a branch backwards.
-/
namespace ScVerif.C10

section
variable {α β : Type} {g : Prop} [Decidable g] {o : Option α} {f : α → β} {a a' : α} {b : β}

theorem guard_some : (if g then some a else none) = some a' ↔ g ∧ a = a' := by
  split <;> simp [*]

theorem guard_map : (if g then o.map f else none) = some b ↔ g ∧ ∃ a, o = some a ∧ f a = b := by
  split <;> simp [*]

theorem guard_not : (if g then none else o) = some a ↔ ¬g ∧ o = some a := by
  split <;> simp [*]

theorem guard_not_map : (if g then none else o.map f) = some b ↔ ¬g ∧ ∃ a, o = some a ∧ f a = b := by
  split <;> simp [*]

theorem guard_map_or {b' : β} :
    (if g then o.map f else some b') = some b ↔ (g ∧ ∃ a, o = some a ∧ f a = b) ∨ (¬g ∧ b' = b) := by
  split <;> simp [*]

end

theorem foldl_getD_induct {σ μ : Type} {step : σ → μ → Option σ} {P : σ → Prop} (ms : List μ)
    (hP : ∀ c m c', m ∈ ms → P c → step c m = some c' → P c') {c : σ} (h : P c) :
    P (ms.foldl (fun c m => (step c m).getD c) c) :=
  List.foldlRecOn ms _ h fun c hc m hm => by
    cases hs : step c m with
    | none => exact hc
    | some c' => exact hP c m c' hm hc hs

end ScVerif.C10
