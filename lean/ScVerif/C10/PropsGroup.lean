import ScVerif.C10.GroupFan
/-!
# C10 — property theorems, part 9: the Pull fan-in of a trait Group

A Group's Pull handler (lightpb `(*Group).PullBrightness`, onoffpb `(*Group).PullOnOff`) subscribes to every member
through pkg/group `Execute` in a goroutine of its own and folds the members' changes into one stream.  The
subscription ends when the stream's context is cancelled, when the members fail, or when the hand-over to the client
(`server.Send`) fails in the middle of it; in each case every goroutine started for it has to terminate.  Model:
`GroupFan.lean` (`buffered` = `returnErr` has capacity 1, `waits` = the handler receives `returnErr` before it returns
a Send error; any number of members, any execution strategy: an erroring member may or may not cancel the others).
-/
namespace ScVerif.C10

/-- Whenever the handler has left its loop — `returnErr` received, or its Send failed — the context the members run on is
cancelled, by the handler itself: the stream's context need not be (the client's transport may have gone without it). -/
theorem C10_group_pull_return_cancels_members (buffered waits : Bool) (n : Nat)
    (h : buffered = true ∨ waits = true) (sched : List GMove) :
    let c := grun (ginit buffered waits n) sched
    c.handler ≠ .loop → c.cancelled = true := by
  intro c
  exact (ginv_run sched _ (ginv_init buffered waits n h)).doneCancelled

/-- With `returnErr` buffered or the failed-Send path waiting for it (the code has both), any number of members, any
schedule: once the members' context is cancelled — by the stream, by a member error under ExecuteAll, or by the handler
on its way out — either every goroutine of the subscription has returned or one of them can take a step, and every step
that can be taken strictly decreases `gmeasure`. -/
theorem C10_group_pull_ends_once_cancelled (buffered waits : Bool) (n : Nat)
    (h : buffered = true ∨ waits = true) (sched : List GMove) :
    let c := grun (ginit buffered waits n) sched
    c.cancelled = true →
      (c.allDone ∨ ∃ m, genabled c m = true) ∧
      ∀ m, genabled c m = true → gmeasure (gstep c m) < gmeasure c := by
  intro c hc
  have hI : GInv c := ginv_run sched _ (ginv_init buffered waits n h)
  exact ⟨gprogress c hI hc, fun m he => gdecreases c m hc he⟩

/-- … and nothing is left parked on the way: when `group.Execute` has returned and the fan-in goroutine is gone, the handler
has returned too or the result sits in the buffer for it. -/
theorem C10_group_pull_result_never_stranded (buffered waits : Bool) (n : Nat)
    (h : buffered = true ∨ waits = true) (sched : List GMove) :
    let c := grun (ginit buffered waits n) sched
    (c.exec = .sending → c.handler = .done → c.buffered = true ∧ c.buf = false) ∧
    (c.exec = .done → c.handler = .done ∨ c.buf = true) := by
  intro c
  have hI : GInv c := ginv_run sched _ (ginv_init buffered waits n h)
  exact ⟨hI.sending_done, hI.execBuf⟩

/-- The hypothesis is needed: an unbuffered `returnErr` together with a failed-Send path that just returns (each harmless
alone) strands the fan-in goroutine: one member sends a change, the Send of it fails, the handler returns, `group.Execute`
returns — and the goroutine sits in `returnErr <- err` with nobody left to receive. -/
theorem C10_group_pull_unbuffered_without_wait_strands_fan_in :
    ∃ sched : List GMove,
      let c := grun (ginit false false 1) sched
      c.handler = .done ∧ c.cancelled = true ∧ c.exec = .sending ∧ ∀ m, genabled c m = false := by
  refine ⟨[.value, .handOver false, .memberErr false, .execDone], rfl, rfl, rfl, ?_⟩
  intro m
  cases m <;> rfl

/-- non-vacuity: a whole life — two members, a change handed over and sent, the next Send fails, the handler waits for the
members and the fan-in goroutine, everything has returned -/
example : (grun (ginit true true 2)
    [.value, .handOver true, .value, .value, .handOver false, .handGiveUp, .memberErr true, .memberErr false,
     .execDone, .execSend, .recvErr]).allDone := by
  refine ⟨rfl, rfl, rfl, rfl⟩

/-- non-vacuity: the stream is cancelled while the handler sits in its loop: the members fail, the result is handed over by
rendezvous (unbuffered, but the handler waits) -/
example : (grun (ginit false true 1) [.streamCancel, .memberErr false, .execDone, .recvErr]).allDone := by
  refine ⟨rfl, rfl, rfl, rfl⟩

end ScVerif.C10
