import ScVerif.C10.PropsSys
/-!
# C10 — property theorems, part 4: what reaches the user's end of ANY subscription

"An event sent on the bus reaches every listener that is live for the whole send exactly once, in per-sender order" is
proved on the bus (`PropsBus.lean`) and carried to the user's end of a backpressure `Pull` by
`C10_e2e_backpressure_lossless`.  This file covers the other shapes — lossy stages (`DropExcess`,
`mergeCollectionExcess` with `mergeChanges`, ADD-then-REMOVE annihilation included), any filter, `PullID` — for every
schedule, cancel at any position included.
-/
namespace ScVerif.C10

/-- Pipeline level, every shape, filter, start state and strict schedule (cancel, close and exits anywhere): the events the
user has received, as (item, value) pairs — the change type is what `mergeChanges` rewrites —, are a SUBSEQUENCE of
what the subscription held at the start followed by what was pushed into it: never a duplicate, never two events
swapped, never an event nobody wrote. -/
theorem C10_pipeline_no_dup_no_reorder (p c : PConfig) (ps : List PMove) (h : pexec p ps = some c) :
    (c.out.map Msg.key).Sublist ((p.flow ++ pushesOf ps).map Msg.key) := by
  refine List.Sublist.trans ?_ (flow_pexec h)
  unfold PConfig.flow
  rw [List.map_append]
  exact List.sublist_append_left _ _

/-- END TO END: … a subsequence of its seed values followed by the payloads of the events the bus model records as
delivered to listener `l` — for which `C10_exactly_once` / `C10_per_sender_order` hold.  So no subscription of any kind
sees an event twice or two events of one writer out of order, however cancels, closes, merges and drops interleave. -/
theorem C10_e2e_no_dup_no_reorder (pl : Ev → Msg) (todo : Nat → Nat) (pipes : Nat → PConfig)
    (sched : List SMove) (l : Nat) (hf : (pipes l).Fresh) :
    let s := srun pl ⟨init todo, pipes⟩ sched
    ((s.pipe l).out.map Msg.key).Sublist (((pipes l).fwQ ++ (s.bus.ls l).recvd.map pl).map Msg.key) := by
  intro s
  obtain ⟨bs, ps, _, h2, h3⟩ := C10_e2e_refines pl todo pipes sched l
  have h := C10_pipeline_no_dup_no_reorder _ _ ps h2
  have hflow : (pipes l).flow = (pipes l).fwQ := by
    unfold PConfig.flow; rw [hf.exQ, hf.pidQ, hf.out]; simp
  rw [hflow, h3] at h
  exact h

/-- the annihilation: a lossy `Collection.Pull` whose consumer is not receiving; the forwarder holds ADD(5), the queue of
`mergeCollectionExcess` gets ADD(6), UPDATE(5), then REMOVE(6): ADD(6) and REMOVE(6) annihilate; the user then
receives ADD(5)#1 and UPDATE(5)#3 -/
example :
    let p : PConfig := { hasEx := true, exMerge := true, hasPid := false, target := 0, fixed := true, keep := fun _ => true }
    let c := prun p [.push ⟨5, .add, 1⟩, .xferEF, .push ⟨6, .add, 2⟩, .push ⟨5, .update, 3⟩, .push ⟨6, .remove, 0⟩,
                     .consume, .xferEF, .consume]
    c.exQ = [] ∧ c.out = [⟨5, .add, 1⟩, ⟨5, .update, 3⟩] := by decide

/-- … and the other merges a subscription's shutdown can meet: REMOVE then ADD of one item is handed on as one REPLACE (a
`PullID` of that item then does NOT end: the item exists), UPDATE then REMOVE as the REMOVE -/
example :
    mergeQ [⟨5, .remove, 0⟩] ⟨5, .add, 7⟩ = [⟨5, .replace, 7⟩] ∧
    mergeQ [⟨4, .add, 1⟩, ⟨5, .update, 2⟩] ⟨5, .remove, 0⟩ = [⟨4, .add, 1⟩, ⟨5, .remove, 0⟩] ∧
    mergeQ [⟨4, .add, 1⟩, ⟨5, .update, 2⟩] ⟨4, .update, 3⟩ = [⟨5, .update, 2⟩, ⟨4, .add, 3⟩] := by decide

/-- A backpressure `PullID` (no excess stage, pass-all filter) is lossless on its item: (1) as long as the inner Pull's
forwarder and the PullID goroutine are alive, received ++ held by the PullID goroutine ++ the item's events in the
forwarder's hand is EXACTLY the item's part of `seeds ++ pushed`; (2) always, the user has received a prefix of the
item's events up to (excluding) its first REMOVE: nothing after the removal, and never the removal itself. -/
theorem C10_pullid_lossless (p c : PConfig) (ps : List PMove) (hf : p.Fresh) (hex : p.hasEx = false)
    (hpid : p.hasPid = true) (hk : ∀ x, p.keep x = true) (h : pexec p ps = some c) :
    (c.fwDone = false → c.pidDone = false →
      c.out ++ (c.pidQ ++ onItem p.target c.fwQ) = onItem p.target (p.fwQ ++ pushesOf ps)) ∧
    c.out <+: (onItem p.target (p.fwQ ++ pushesOf ps)).takeWhile (fun x => !x.remove) := by
  have h0 : PidInv p p.fwQ := by
    refine ⟨fun _ _ => by rw [hf.pidQ, hf.out]; rfl, ⟨onItem p.target p.fwQ, by rw [hf.pidQ, hf.out]; rfl⟩, ?_⟩
    intro x hx; rw [hf.pidQ, hf.out] at hx; cases hx
  obtain ⟨h1, ⟨t, h2⟩, h3⟩ := pidInv_pexec hex hpid hk h0 h
  rw [(pexec_static h).target] at h1 h2
  refine ⟨h1, ?_⟩
  apply prefix_takeWhile
  · exact ⟨c.pidQ ++ t, h2⟩
  · intro x hx
    have := h3 x (List.mem_append_left _ hx)
    simp [this]

/-- END TO END: the same with `pushed` = the payloads of the events the bus delivered to the inner Pull's listener. -/
theorem C10_e2e_pullid_lossless (pl : Ev → Msg) (todo : Nat → Nat) (pipes : Nat → PConfig)
    (sched : List SMove) (l : Nat) (hf : (pipes l).Fresh) (hex : (pipes l).hasEx = false)
    (hpid : (pipes l).hasPid = true) (hk : ∀ x, (pipes l).keep x = true) :
    let s := srun pl ⟨init todo, pipes⟩ sched
    let hist := onItem (pipes l).target ((pipes l).fwQ ++ (s.bus.ls l).recvd.map pl)
    ((s.pipe l).fwDone = false → (s.pipe l).pidDone = false →
      (s.pipe l).out ++ ((s.pipe l).pidQ ++ onItem (pipes l).target (s.pipe l).fwQ) = hist) ∧
    (s.pipe l).out <+: hist.takeWhile (fun x => !x.remove) := by
  intro s hist
  obtain ⟨bs, ps, _, h2, h3⟩ := C10_e2e_refines pl todo pipes sched l
  have := C10_pullid_lossless _ _ ps hf hex hpid hk h2
  rw [h3] at this
  exact this

/-- non-vacuity: backpressure `PullID(7)` with seed value #1; the bus delivers UPDATE(8)#2, UPDATE(7)#3, REMOVE(7), and —
to the forwarder, before the cancel reaches the bus — UPDATE(7)#4 written after the removal: the user receives exactly
#1, #3 and the close -/
example :
    let p : PConfig := { hasEx := false, exMerge := false, hasPid := true, target := 7, fixed := true,
                         keep := fun _ => true, fwQ := [⟨7, .add, 1⟩] }
    let c := prun p [.xferFP, .consume, .push ⟨8, .update, 2⟩, .xferFP, .push ⟨7, .update, 3⟩, .xferFP, .consume,
                     .push ⟨7, .remove, 0⟩, .xferFP, .push ⟨7, .update, 4⟩]
    c.out = [⟨7, .add, 1⟩, ⟨7, .update, 3⟩] ∧ c.outClosed = true ∧ c.cancelled = true := by decide

/-- EXACTLY ONCE AT THE USER'S END of a backpressure `Pull` (pass-all filter): when sender `t`'s `Send` has gone through its
whole snapshot, every subscription of the snapshot that is still not cancelled has this call's event exactly once among
what the user has received and what the forwarding goroutine holds out to the user.  (`pl` maps distinct events to
distinct messages, none of them a seed value.) -/
theorem C10_e2e_exactly_once_at_user (pl : Ev → Msg) (hinj : ∀ x y, pl x = pl y → x = y) (todo : Nat → Nat)
    (pipes : Nat → PConfig) (sched : List SMove) (l t : Nat) (hf : ∀ l, (pipes l).Fresh)
    (hex : (pipes l).hasEx = false) (hpid : (pipes l).hasPid = false) (hk : ∀ x, (pipes l).keep x = true)
    (hseed : ∀ e, pl e ∉ (pipes l).fwQ) :
    let s := srun pl ⟨init todo, pipes⟩ sched
    (s.bus.ss t).pc = .loop → (s.bus.ss t).rest = [] → l ∈ (s.bus.ss t).snap → (s.bus.ls l).cancelled = false →
    ((s.pipe l).out ++ (s.pipe l).fwQ).count (pl ⟨t, (s.bus.ss t).cur⟩) = 1 := by
  intro s hpc hrest hl hcan
  have hr : SReachable pl s := ⟨todo, pipes, sched, hf, rfl⟩
  have hI := hr.sinv
  have hone := C10_exactly_once s.bus hI.reach t l hpc hrest hl hcan
  obtain ⟨_, _, _, _, halive, _⟩ := hI.live hcan
  have hloss := (C10_e2e_backpressure_lossless pl todo pipes sched l (hf l) hex hpid hk).2 halive
  rw [hloss, List.count_append, List.count_eq_zero_of_not_mem (hseed _), count_map_inj pl hinj, hone]

/-- … and of a backpressure `PullID` (`fixed`): an event ABOUT THE ITEM is exactly once among:
received by the user, held out by the PullID goroutine, in the inner Pull's forwarder on its way. -/
theorem C10_e2e_pullid_exactly_once_at_user (pl : Ev → Msg) (hinj : ∀ x y, pl x = pl y → x = y) (todo : Nat → Nat)
    (pipes : Nat → PConfig) (sched : List SMove) (l t : Nat) (hf : ∀ l, (pipes l).Fresh)
    (hex : (pipes l).hasEx = false) (hpid : (pipes l).hasPid = true) (hfix : (pipes l).fixed = true)
    (hk : ∀ x, (pipes l).keep x = true) (hseed : ∀ e, pl e ∉ (pipes l).fwQ) :
    let s := srun pl ⟨init todo, pipes⟩ sched
    (s.bus.ss t).pc = .loop → (s.bus.ss t).rest = [] → l ∈ (s.bus.ss t).snap → (s.bus.ls l).cancelled = false →
    (pl ⟨t, (s.bus.ss t).cur⟩).id = (pipes l).target →
    ((s.pipe l).out ++ ((s.pipe l).pidQ ++ (s.pipe l).fwQ)).count (pl ⟨t, (s.bus.ss t).cur⟩) = 1 := by
  intro s hpc hrest hl hcan hid
  have hr : SReachable pl s := ⟨todo, pipes, sched, hf, rfl⟩
  have hI := hr.sinv
  have hone := C10_exactly_once s.bus hI.reach t l hpc hrest hl hcan
  obtain ⟨bs, ps, _, h2, h3⟩ := C10_e2e_refines pl todo pipes sched l
  obtain ⟨_, _, _, _, halive, hpalive⟩ := hI.live hcan
  have hloss := (C10_e2e_pullid_lossless pl todo pipes sched l (hf l) hex hpid hk).1 halive
    (hpalive (by rw [(pexec_static h2).fixed, hfix]))
  have hc := congrArg (List.count (pl ⟨t, (s.bus.ss t).cur⟩)) hloss
  simp only [List.count_append] at hc
  rw [count_onItem _ _ hid, count_onItem _ _ hid, List.count_append,
    List.count_eq_zero_of_not_mem (hseed _), count_map_inj pl hinj, hone] at hc
  simp only [List.count_append]
  omega

/-- non-vacuity of the two theorems: one listener, one `Send`, the loop is through; the event is in the forwarder's hand -/
example :
    let pipes : Nat → PConfig := fun _ =>
      { hasEx := false, exMerge := false, hasPid := false, target := 0, fixed := true, keep := fun _ => true }
    let s := srun (fun e => ⟨e.sender, .update, e.seq⟩) ⟨init fun _ => 1, pipes⟩
      [.bus (.lSpawn 0), .bus (.lRegister 0), .bus (.sSnapshot 0), .bus (.sAcquire 0), .deliver 0, .bus (.sRelease 0)]
    (s.bus.ss 0).pc = .loop ∧ (s.bus.ss 0).rest = [] ∧ 0 ∈ (s.bus.ss 0).snap ∧ (s.bus.ls 0).cancelled = false ∧
      (s.pipe 0).out = [] ∧ (s.pipe 0).fwQ = [⟨0, .update, 1⟩] := by decide

/-- END TO END: a subscription WITHOUT backpressure never makes a writer wait, whatever its consumer does: a sender inside
`listener.send` on a listener whose pipeline starts with an excess stage can complete its `select` at once, by the
rendezvous with the stage (which always receives, and exits only after the bus channel was closed) or, once the
subscription is cancelled, through `l.ctx.Done()`. -/
theorem C10_e2e_lossy_never_blocks_writer (pl : Ev → Msg) (s : Sys) (h : SReachable pl s) (t l : Nat) (tl : List Nat)
    (hpc : (s.bus.ss t).pc = .rlocked) (hrest : (s.bus.ss t).rest = l :: tl) (hex : (s.pipe l).hasEx = true) :
    (sstep pl s (.deliver t)).isSome ∨ (sstep pl s (.bus (.sListenCancelled t))).isSome := by
  have hI := h.sinv
  cases hcan : (s.bus.ls l).cancelled with
  | true => exact Or.inr (C10_e2e_writer_released pl s t l tl hpc hrest hcan)
  | false =>
    left
    obtain ⟨hcl, hnil, hin, hexd, _⟩ := hI.live hcan
    simp [sstep, hrest, step, hI.link.ready l, hI.link.noSaw l, hcl, hnil, hpc, pstep, hin, hex,
      hexd]

/-- non-vacuity: a lossy `Value.Pull` whose consumer never receives; two writers inside `listener.send` at the same time
can both deliver — `DropExcess` takes both, keeping the newer -/
example :
    let pipes : Nat → PConfig := fun _ =>
      { hasEx := true, exMerge := false, hasPid := false, target := 0, fixed := true, keep := fun _ => true }
    let pl : Ev → Msg := fun e => ⟨0, .update, e.sender + 1⟩
    let s := srun pl ⟨init fun _ => 1, pipes⟩
      [.bus (.lSpawn 0), .bus (.lRegister 0), .bus (.sSnapshot 0), .bus (.sSnapshot 1), .bus (.sAcquire 0),
       .bus (.sAcquire 1)]
    (s.bus.ss 0).pc = .rlocked ∧ (s.bus.ss 1).pc = .rlocked ∧
      (((srun pl s [.deliver 0, .deliver 1]).pipe 0).exQ = [⟨0, .update, 2⟩]) := by decide

end ScVerif.C10
