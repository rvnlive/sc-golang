import ScVerif.C10.Pipe
import ScVerif.C10.Run
/-!
The enabled outcomes of `pstep` as a relation: one constructor per branch of the function, its guards as
hypotheses.  Proofs about all pipeline moves go by cases on `PStep`, reading a receiving stage through its normal form
(`exRecv_eq`, `fwRecv_eq`, `pidRecv_eq`); what no move changes (`SameShape`) or resets (`PStep.mono`); the same relation
for the adapter (`AStep`).
-/
namespace ScVerif.C10

/-- a stage that receives rewrites its own queue (the PullID stage: or returns, cancelling the child context) -/
theorem exRecv_eq (c : PConfig) (m : Msg) :
    exRecv c m = { c with exQ := if c.exMerge then mergeQ c.exQ m else [m] } := by
  unfold exRecv; split <;> rfl

theorem fwRecv_eq (c : PConfig) (m : Msg) :
    fwRecv c m = { c with fwQ := if c.keep m then [m] else c.fwQ } := by
  unfold fwRecv; split <;> rfl

theorem pidRecv_eq (c : PConfig) (m : Msg) :
    pidRecv c m =
      { c with pidDone := c.pidDone || (m.id = c.target && m.remove)
               cancelled := c.cancelled || (m.id = c.target && m.remove && c.fixed)
               pidQ := if m.id = c.target ∧ m.remove = false then [m] else c.pidQ } := by
  unfold pidRecv
  by_cases h : m.id = c.target <;> cases hr : m.remove <;> simp [h]

inductive PStep (c : PConfig) : PMove → PConfig → Prop
  | pushEx (m : Msg) (hin : c.inClosed = false) (hex : c.hasEx = true) (hd : c.exDone = false) :
      PStep c (.push m) (exRecv c m)
  | pushFw (m : Msg) (hin : c.inClosed = false) (hex : c.hasEx = false) (hd : c.fwDone = false)
      (hq : c.fwQ = []) : PStep c (.push m) (fwRecv c m)
  | consumePid (m : Msg) (r : List Msg) (hp : c.hasPid = true) (hq : c.pidQ = m :: r) (hd : c.pidDone = false) :
      PStep c .consume { c with pidQ := r, out := c.out ++ [m] }
  | consumeFw (m : Msg) (r : List Msg) (hp : c.hasPid = false) (hq : c.fwQ = m :: r) (hd : c.fwDone = false) :
      PStep c .consume { c with fwQ := r, out := c.out ++ [m] }
  | cancel : PStep c .cancel { c with cancelled := true }
  | closeIn (hc : c.cancelled = true) (hin : c.inClosed = false) : PStep c .closeIn { c with inClosed := true }
  | xferEF (m : Msg) (r : List Msg) (hq : c.exQ = m :: r) (hex : c.hasEx = true) (hd : c.exDone = false)
      (hfd : c.fwDone = false) (hfq : c.fwQ = []) : PStep c .xferEF (fwRecv { c with exQ := r } m)
  | xferFP (m : Msg) (r : List Msg) (hq : c.fwQ = m :: r) (hp : c.hasPid = true) (hfd : c.fwDone = false)
      (hd : c.pidDone = false) (hpq : c.pidQ = []) : PStep c .xferFP (pidRecv { c with fwQ := r } m)
  | exExit (hex : c.hasEx = true) (hd : c.exDone = false) (hin : c.inClosed = true) :
      PStep c .exExit { c with exDone := true, exQ := [] }
  | fwExitIn (hd : c.fwDone = false) (hq : c.fwQ = []) (hin : c.fwInClosed = true) :
      PStep c .fwExitIn { c with fwDone := true }
  | fwExitCtx (hd : c.fwDone = false) (hq : c.fwQ ≠ []) (hc : c.cancelled = true) :
      PStep c .fwExitCtx { c with fwDone := true, fwQ := [] }
  | pidExitIn (hp : c.hasPid = true) (hd : c.pidDone = false) (hq : c.pidQ = []) (hfd : c.fwDone = true) :
      PStep c .pidExitIn { c with pidDone := true, cancelled := c.cancelled || c.fixed }
  | pidExitCtx (hp : c.hasPid = true) (hd : c.pidDone = false) (hq : c.pidQ ≠ []) (hc : c.cancelled = true) :
      PStep c .pidExitCtx { c with pidDone := true, pidQ := [] }

theorem PStep.of_pstep {c c' : PConfig} {m : PMove} (hs : pstep c m = some c') : PStep c m c' := by
  -- by inspection, as `Step.of_step`
  cases m <;> simp only [pstep] at hs <;> (repeat' split at hs) <;> cases hs <;> constructor <;>
    first | assumption | simp_all

/-- two pipelines of the same shape: kind of subscription, item and filter -/
structure PConfig.SameShape (c c' : PConfig) : Prop where
  hasEx : c'.hasEx = c.hasEx
  exMerge : c'.exMerge = c.exMerge
  hasPid : c'.hasPid = c.hasPid
  target : c'.target = c.target
  fixed : c'.fixed = c.fixed
  keep : c'.keep = c.keep

theorem pstep_static {c c' : PConfig} {m : PMove} (hs : pstep c m = some c') : c.SameShape c' := by
  cases PStep.of_pstep hs <;> constructor <;> simp [exRecv_eq, fwRecv_eq, pidRecv_eq]

theorem PConfig.SameShape.trans {a b c : PConfig} (h1 : a.SameShape b) (h2 : b.SameShape c) : a.SameShape c :=
  ⟨h2.hasEx.trans h1.hasEx, h2.exMerge.trans h1.exMerge, h2.hasPid.trans h1.hasPid, h2.target.trans h1.target,
    h2.fixed.trans h1.fixed, h2.keep.trans h1.keep⟩

theorem PStep.mono {c c' : PConfig} {m : PMove} (hs : PStep c m c') :
    (c.cancelled = true → c'.cancelled = true) ∧ (c.inClosed = true → c'.inClosed = true) ∧
      (c.exDone = true → c'.exDone = true) ∧ (c.fwDone = true → c'.fwDone = true) ∧
      (c.pidDone = true → c'.pidDone = true) := by
  cases hs <;> simp +contextual [exRecv_eq, fwRecv_eq, pidRecv_eq]

inductive AStep (a : AConfig) : AMove → AConfig → Prop
  | pipe (m : PMove) (p' : PConfig) (hm : m ≠ .consume) (hp : pstep a.p m = some p') :
      AStep a (.pipe m) { a with p := p' }
  | aRecv (p' : PConfig) (hd : a.aDone = false) (hh : a.hold = false) (hp : pstep a.p .consume = some p') :
      AStep a .aRecv { a with p := p', hold := true }
  | aSend (hd : a.aDone = false) (hh : a.hold = true) : AStep a .aSend { a with hold := false }
  | aExitIn (hd : a.aDone = false) (hh : a.hold = false) (hc : a.p.outClosed = true)
      (hq : if a.p.hasPid then a.p.pidQ = [] else a.p.fwQ = []) : AStep a .aExitIn { a with aDone := true }
  | aExitCtx (hw : a.watchesCtx = true) (hd : a.aDone = false) (hh : a.hold = true)
      (hc : a.p.cancelled = true) : AStep a .aExitCtx { a with aDone := true, hold := false }

theorem AStep.of_astep {a a' : AConfig} {m : AMove} (hs : astep a m = some a') : AStep a m a' := by
  cases m with
  | pipe m =>
    obtain ⟨hm, p', hp, rfl⟩ := guard_not_map.1 hs
    exact .pipe m p' hm hp
  | aRecv =>
    obtain ⟨hg, p', hp, rfl⟩ := guard_map.1 hs
    exact .aRecv p' hg.1 hg.2 hp
  | aSend =>
    obtain ⟨hg, rfl⟩ := guard_some.1 hs
    exact .aSend hg.1 hg.2
  | aExitIn =>
    obtain ⟨hg, rfl⟩ := guard_some.1 hs
    exact .aExitIn hg.1 hg.2.1 hg.2.2.1 hg.2.2.2
  | aExitCtx =>
    obtain ⟨hg, rfl⟩ := guard_some.1 hs
    exact .aExitCtx hg.1 hg.2.1 hg.2.2.1 hg.2.2.2

end ScVerif.C10
