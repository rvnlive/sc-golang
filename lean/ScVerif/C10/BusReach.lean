import ScVerif.C10.BusDeliv
/-!
`Inv` = `LockInv` ∧ `StructInv` ∧ `DelivInv` (the third needs the other two to be inductive), for every schedule.
`WatcherInv` and `NoAbandon` (`BusInv.lean`) are not part of it: each has its own run lemma, and the composed model
carries the first as `SInv.watcher`.
-/
namespace ScVerif.C10

structure Inv (c : Config) : Prop where
  lock : LockInv c
  struct : StructInv c
  deliv : DelivInv c

theorem inv_init (todo : Nat → Nat) : Inv (init todo) :=
  ⟨lockInv_init todo, structInv_init todo, delivInv_init todo⟩

theorem inv_step {c c' : Config} {m : Move} (h : Inv c) (hs : Step c m c') : Inv c' :=
  ⟨lockInv_step h.lock hs, structInv_step h.struct hs, delivInv_step h.lock h.struct h.deliv hs⟩

theorem inv_run {c : Config} (sched : List Move) (h : Inv c) : Inv (run c sched) :=
  run_induct (fun _ _ _ => inv_step) sched h

def Reachable (c : Config) : Prop := ∃ todo sched, c = run (init todo) sched

theorem Reachable.inv {c : Config} (h : Reachable c) : Inv c := by
  obtain ⟨todo, sched, rfl⟩ := h
  exact inv_run sched (inv_init todo)

theorem Reachable.run {c : Config} (h : Reachable c) (sched : List Move) : Reachable (run c sched) := by
  obtain ⟨todo, s0, rfl⟩ := h
  exact ⟨todo, s0 ++ sched, (run_append _ _ _).symm⟩

/-- the loop invariant of `Bus.Send` behind exactly-once: DURING the call, every listener the loop has passed and that is
not cancelled has this call's event once -/
theorem Inv.visited_once {c : Config} (hI : Inv c) {t l : Nat} (hv : l ∈ (c.ss t).visited)
    (hcan : (c.ls l).cancelled = false) : (c.ls l).recvd.count ⟨t, (c.ss t).cur⟩ = 1 := by
  have hmem := (hI.deliv.visitedOk t l hv).resolve_right (by simp [hcan])
  have hle := count_le_one_of_pairwise _ (hI.deliv.order l) ⟨t, (c.ss t).cur⟩
  have hpos := List.count_pos_iff.mpr hmem
  omega

end ScVerif.C10
