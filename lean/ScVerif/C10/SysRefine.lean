import ScVerif.C10.SysLink
/-!
C10 — the composed model refines both of its halves.

`Refines pl l s s' bs ps es`: from `s` to `s'` the bus half makes the strict run `bs` and listener `l`'s pipeline the
strict run `ps` (`exec` / `pexec`: every move ENABLED, not the "skip if disabled" runs), and the two agree on the
data: the events `es` the bus model records as received by `l` on the way are, through the payload function, exactly
the messages `ps` pushes into the pipeline, in the same order.  It holds of every composed step (`SStep.refines`, the
witnesses given per outcome) and is closed under `refl` / `trans`, hence holds of every composed run.
-/
namespace ScVerif.C10

def exec (c : Config) : List Move → Option Config
  | [] => some c
  | m :: ms => (step c m).bind fun c' => exec c' ms

theorem run_of_exec {c c' : Config} {a : List Move} (h : exec c a = some c') : run c a = c' := by
  induction a generalizing c with
  | nil => simp only [exec, Option.some.injEq] at h; simpa [run] using h
  | cons m ms ih =>
    obtain ⟨c1, hs, h⟩ := Option.bind_eq_some_iff.1 h
    rw [run_cons, next_of_step hs]
    exact ih h

theorem exec_append {c c' c'' : Config} {a b : List Move} (h1 : exec c a = some c') (h2 : exec c' b = some c'') :
    exec c (a ++ b) = some c'' := by
  induction a generalizing c with
  | nil => simp only [exec, Option.some.injEq] at h1; subst h1; simpa using h2
  | cons m ms ih =>
    obtain ⟨c1, hs, h1⟩ := Option.bind_eq_some_iff.1 h1
    simp [exec, hs, ih h1]

theorem step_recvd {c c' : Config} {m : Move} (hm : ∀ t, m ≠ .sDeliver t) (hs : step c m = some c') (l : Nat) :
    (c'.ls l).recvd = (c.ls l).recvd := by
  cases Step.of_step hs with
  | sDeliver t => exact absurd rfl (hm t)
  | cancelSend | sSnapshot | sListenCancelled | sSendCancelled | sFinishGc | sFinish | sCollect
  | sDeliverPanic => rfl
  | _ =>
    refine Config.setL_stable (P := fun L => L.recvd = (c.ls l).recvd) ?_ l rfl
    exact id

structure Refines (pl : Ev → Msg) (l : Nat) (s s' : Sys) (bs : List Move) (ps : List PMove) (es : List Ev) : Prop where
  bus : exec s.bus bs = some s'.bus
  pipe : pexec (s.pipe l) ps = some (s'.pipe l)
  recvd : (s'.bus.ls l).recvd = (s.bus.ls l).recvd ++ es
  pushes : pushesOf ps = es.map pl

theorem Refines.refl (pl : Ev → Msg) (l : Nat) (s : Sys) : Refines pl l s s [] [] [] :=
  ⟨rfl, rfl, (List.append_nil _).symm, rfl⟩

theorem Refines.trans {pl : Ev → Msg} {l : Nat} {s s' s'' : Sys} {bs bs' ps ps' es es'}
    (h : Refines pl l s s' bs ps es) (h' : Refines pl l s' s'' bs' ps' es') :
    Refines pl l s s'' (bs ++ bs') (ps ++ ps') (es ++ es') :=
  ⟨exec_append h.bus h'.bus, pexec_append h.pipe h'.pipe, by rw [h'.recvd, h.recvd, List.append_assoc],
    by rw [pushesOf_append, h.pushes, h'.pushes, List.map_append]⟩

theorem SStep.refines {pl : Ev → Msg} {s s' : Sys} {m : SMove} (h : SStep pl s m s') (l : Nat) :
    ∃ bs ps es, Refines pl l s s' bs ps es ∧ (ps = [] ∨ ∃ pm, ps = [pm]) := by
  -- a step that concerns another listener's pipeline leaves `l`'s alone
  have other : ∀ {l' : Nat} {p' : PConfig}, l' ≠ l → pexec (s.pipe l) [] = some (upd s.pipe l' p' l) :=
    fun hl => by simp [pexec, upd_apply, Ne.symm hl]
  have hcan : ∀ l', ((next s.bus (.cancel l')).ls l).recvd = (s.bus.ls l).recvd :=
    fun l' => step_recvd (c := s.bus) (m := .cancel l') nofun rfl l
  cases h with
  | bus m b hfree hb =>
    exact ⟨[m], [], [], ⟨by simp [exec, hb], rfl, by simp [step_recvd (fun t e => by subst e; cases hfree) hb l], rfl⟩,
      .inl rfl⟩
  | deliver t l' tl b1 b2 p' hrest h1 h2 hp =>
    have hb : exec s.bus [.recvReq l', .sDeliver t] = some b2 := by simp [exec, h1, h2]
    have hr := congrFun (deliver_ls hrest (.of_step h1) (.of_step h2)) l
    by_cases hl : l' = l
    · subst hl
      exact ⟨_, [.push (pl ⟨t, (s.bus.ss t).cur⟩)], [⟨t, (s.bus.ss t).cur⟩], ⟨hb, by simp [pexec, hp], by simp [hr], rfl⟩,
        .inr ⟨_, rfl⟩⟩
    · exact ⟨_, [], [], ⟨hb, other hl, by simp [hr, upd_apply, Ne.symm hl], rfl⟩, .inl rfl⟩
  | cancel l' =>
    have hb : exec s.bus [.cancel l'] = some (next s.bus (.cancel l')) := rfl
    have hr := hcan l'
    by_cases hl : l' = l
    · subst hl
      exact ⟨_, [.cancel], [], ⟨hb, by simp [pexec, pnext, pstep], by simpa using hr, rfl⟩, .inr ⟨_, rfl⟩⟩
    · exact ⟨_, [], [], ⟨hb, other hl, by simpa using hr, rfl⟩, .inl rfl⟩
  | close l' b hb =>
    have hr := step_recvd (m := .wClose l') nofun hb l
    have hb : exec s.bus [.wClose l'] = some b := by simp [exec, hb]
    by_cases hl : l' = l
    · subst hl
      -- the pipeline's `closeIn` is taken if enabled
      cases hp : pstep (s.pipe l') .closeIn with
      | none => exact ⟨_, [], [], ⟨hb, by simp [pexec, pnext, hp], by simpa using hr, rfl⟩, .inl rfl⟩
      | some p' => exact ⟨_, [.closeIn], [], ⟨hb, by simp [pexec, pnext, hp], by simpa using hr, rfl⟩, .inr ⟨_, rfl⟩⟩
    · exact ⟨_, [], [], ⟨hb, other hl, by simpa using hr, rfl⟩, .inl rfl⟩
  | pipe l' m p' hint hp =>
    -- the bus half: the cancel of the fixed PullID's child context, or nothing
    have hb : ∃ bs, exec s.bus bs = some (if p'.cancelled = true ∧ (s.bus.ls l').cancelled = false
        then next s.bus (.cancel l') else s.bus) ∧ ((if p'.cancelled = true ∧ (s.bus.ls l').cancelled = false
        then next s.bus (.cancel l') else s.bus).ls l).recvd = (s.bus.ls l).recvd := by
      split
      · exact ⟨[.cancel l'], rfl, hcan l'⟩
      · exact ⟨[], rfl, rfl⟩
    obtain ⟨bs, hb, hr⟩ := hb
    by_cases hl : l' = l
    · subst hl
      refine ⟨bs, [m], [], ⟨hb, by simp [pexec, hp], by simpa using hr, ?_⟩, .inr ⟨_, rfl⟩⟩
      cases m <;> first | rfl | cases hint
    · exact ⟨bs, [], [], ⟨hb, other hl, by simpa using hr, rfl⟩, .inl rfl⟩

theorem sstep_bus_run {pl : Ev → Msg} {s s' : Sys} {m : SMove} (h : sstep pl s m = some s') :
    ∃ sched, s'.bus = run s.bus sched := by
  obtain ⟨bs, _, _, hr, _⟩ := (SStep.of_sstep h).refines 0
  exact ⟨bs, (run_of_exec hr.bus).symm⟩

theorem sstep_pipe {pl : Ev → Msg} {s s' : Sys} {m : SMove} (h : sstep pl s m = some s') (l : Nat) :
    s'.pipe l = s.pipe l ∨ ∃ pm, pstep (s.pipe l) pm = some (s'.pipe l) := by
  obtain ⟨_, _, _, hr, rfl | ⟨pm, rfl⟩⟩ := (SStep.of_sstep h).refines l
  · exact .inl (Option.some.inj hr.pipe).symm
  · exact .inr ⟨pm, by simpa [pexec] using hr.pipe⟩

theorem srun_refines (pl : Ev → Msg) (s : Sys) (sched : List SMove) (l : Nat) :
    ∃ bs ps es, Refines pl l s (srun pl s sched) bs ps es :=
  foldl_getD_induct (step := sstep pl) (P := fun s' => ∃ bs ps es, Refines pl l s s' bs ps es) sched
    (fun _ _ _ _ ⟨_, _, _, h⟩ hs =>
      have ⟨_, _, _, h', _⟩ := (SStep.of_sstep hs).refines l
      ⟨_, _, _, h.trans h'⟩)
    ⟨_, _, _, .refl pl l s⟩

theorem srun_bus_run (pl : Ev → Msg) (s : Sys) (sched : List SMove) :
    ∃ bs, (srun pl s sched).bus = run s.bus bs :=
  have ⟨bs, _, _, h⟩ := srun_refines pl s sched 0
  ⟨bs, (run_of_exec h.bus).symm⟩

end ScVerif.C10
