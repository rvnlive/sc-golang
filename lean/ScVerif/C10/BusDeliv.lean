import ScVerif.C10.BusInv
/-!
The bookkeeping of one `Send` call (`StructInv`) and what the listeners have received against it (`DelivInv`, which
needs `LockInv` and `StructInv` to be inductive).
-/
namespace ScVerif.C10

/-- shape of the per-call bookkeeping of `Bus.Send` -/
structure StructInv (c : Config) : Prop where
  snapSplit : ∀ t, (c.ss t).pc = .idle ∨ (c.ss t).visited ++ (c.ss t).rest = (c.ss t).snap
  snapNodup : ∀ t, (c.ss t).snap.Nodup
  busNodup : c.bus.Nodup
  busReg : ∀ l, l ∈ c.bus → (c.ls l).lpc = .registered

theorem structInv_init (todo : Nat → Nat) : StructInv (init todo) := by
  constructor <;> simp [init]

theorem StructInv.split {c : Config} (h : StructInv c) {t : Nat} (hpc : (c.ss t).pc ≠ .idle) :
    (c.ss t).visited ++ (c.ss t).rest = (c.ss t).snap :=
  (h.snapSplit t).resolve_left hpc

theorem StructInv.panic {c : Config} (h : StructInv c) : StructInv { c with panicked := true } :=
  ⟨h.snapSplit, h.snapNodup, h.busNodup, h.busReg⟩

theorem StructInv.filterBus {c : Config} (h : StructInv c) (p : Nat → Bool) :
    StructInv { c with bus := c.bus.filter p } :=
  ⟨h.snapSplit, h.snapNodup, h.busNodup.sublist List.filter_sublist,
    fun l hb => h.busReg l (List.mem_filter.1 hb).1⟩

theorem StructInv.setL {c : Config} (h : StructInv c) {l : Nat} {L' : Listener}
    (hl : l ∈ c.bus → L'.lpc = .registered) : StructInv (c.setL l L') := by
  refine ⟨h.snapSplit, h.snapNodup, h.busNodup, fun l' hb => ?_⟩
  simp only [Config.setL_ls, upd_apply]
  split
  · subst l'; exact hl hb
  · exact h.busReg l' hb

theorem StructInv.setS {c : Config} (h : StructInv c) {t : Nat} {S' : Sender}
    (hs : S'.pc = .idle ∨ S'.visited ++ S'.rest = S'.snap) (hn : S'.snap.Nodup) : StructInv (c.setS t S') := by
  refine ⟨fun t' => ?_, fun t' => ?_, h.busNodup, h.busReg⟩ <;> simp only [Config.setS_ss, upd_apply] <;> split
  · exact hs
  · exact h.snapSplit t'
  · exact hn
  · exact h.snapNodup t'

theorem StructInv.setLS {c : Config} (h : StructInv c) {l t : Nat} {L' : Listener} {S' : Sender}
    (hl : l ∈ c.bus → L'.lpc = .registered) (hs : S'.pc = .idle ∨ S'.visited ++ S'.rest = S'.snap)
    (hn : S'.snap.Nodup) : StructInv ((c.setL l L').setS t S') :=
  (h.setL hl).setS hs hn

theorem structInv_step {c c' : Config} {m : Move} (h : StructInv c) (hs : Step c m c') : StructInv c' := by
  cases hs with
  | wClosePanic l => exact h.panic.setL (h.busReg l)
  | lSpawn l hl => exact h.setL fun hb => by rw [h.busReg l hb] at hl; cases hl
  | lRegister l hl =>
    -- a listener is appended once: before, its `Listen` call is not yet `registered`
    have hnew : l ∉ c.bus := fun hb => by rw [h.busReg l hb] at hl; cases hl
    refine ⟨h.snapSplit, h.snapNodup, ?_, fun l' hb => ?_⟩
    · simpa [List.nodup_append, h.busNodup] using fun a ha (hal : a = l) => hnew (hal ▸ ha)
    · simp only [Config.setL_ls, upd_apply]
      split
      · rfl
      · rename_i hne
        exact h.busReg l' (by simpa [hne] using hb)
  | cancelSend t hpc | sListenCancelled t _ _ _ hpc | sSendCancelled t _ _ _ hpc | sFinishGc t hpc =>
    exact h.setS (.inr (h.split (by simp [hpc]))) (h.snapNodup t)
  | sSnapshot t => exact h.setS (.inr rfl) h.busNodup
  | sFinish t => exact h.setS (.inl rfl) (h.snapNodup t)
  | sCollect t => exact (h.filterBus _).setS (.inl rfl) (h.snapNodup t)
  | sAcquire t l _ _ hpc | sDeliver t l _ _ hpc =>
    exact h.setLS (h.busReg l) (.inr (h.split (by simp [hpc]))) (h.snapNodup t)
  | sDeliverPanic t l _ _ hpc => exact h.panic.setS (.inr (h.split (by simp [hpc]))) (h.snapNodup t)
  | sReleaseAbort t l => exact h.setLS (h.busReg l) (.inl rfl) (h.snapNodup t)
  | sRelease t l r o hrest hpc =>
    have := h.split (t := t) (by simp [hpc])
    exact h.setLS (h.busReg l) (.inr (by simpa [hrest] using this)) (h.snapNodup t)
  | _ => exact h.setL (h.busReg _)

/-- the order relation between two events received on one channel: per sender, increasing -/
def OrdRel (a b : Ev) : Prop := a.sender = b.sender → a.seq < b.seq

theorem count_le_one_of_pairwise (xs : List Ev) (h : xs.Pairwise OrdRel) (e : Ev) : xs.count e ≤ 1 := by
  have hn : xs.Nodup := h.imp fun {a b} (hab : OrdRel a b) (hne : a = b) => by
    subst hne
    exact Nat.lt_irrefl _ (hab rfl)
  rw [hn.count]
  split <;> omega

/-- what the listeners have received against where the senders are in their calls -/
structure DelivInv (c : Config) : Prop where
  /-- nothing carries the number of a call that has not started -/
  bound : ∀ l e, e ∈ (c.ls l).recvd → e.seq ≤ (c.ss e.sender).cur
  /-- the current call's event is only where the loop has already been, or where its `select` just delivered -/
  fresh : ∀ l e, e ∈ (c.ls l).recvd → e.seq = (c.ss e.sender).cur →
      l ∈ (c.ss e.sender).visited ∨
        ((c.ss e.sender).rest.head? = some l ∧ (c.ss e.sender).pc = .selected .delivered)
  order : ∀ l, (c.ls l).recvd.Pairwise OrdRel
  /-- a listener the loop is through with got the event, unless it was cancelled -/
  visitedOk : ∀ t l, l ∈ (c.ss t).visited →
      (⟨t, (c.ss t).cur⟩ ∈ (c.ls l).recvd ∨ (c.ls l).cancelled = true)
  /-- the `select` outcome recorded in the program counter is true of the current listener -/
  selOk : ∀ t l, (c.ss t).rest.head? = some l →
      ((c.ss t).pc = .selected .delivered → ⟨t, (c.ss t).cur⟩ ∈ (c.ls l).recvd) ∧
      ((c.ss t).pc = .selected .listenCancelled → (c.ls l).cancelled = true)

theorem delivInv_init (todo : Nat → Nat) : DelivInv (init todo) := by
  constructor <;> simp [init]

/-- `DelivInv` without `order`, clause by clause, for one sender's record and one listener's record -/
structure Deliv (t : Nat) (S : Sender) (l : Nat) (L : Listener) : Prop where
  bound : ∀ e, e ∈ L.recvd → e.sender = t → e.seq ≤ S.cur
  fresh : ∀ e, e ∈ L.recvd → e.sender = t → e.seq = S.cur →
      l ∈ S.visited ∨ (S.rest.head? = some l ∧ S.pc = .selected .delivered)
  visited : l ∈ S.visited → (⟨t, S.cur⟩ ∈ L.recvd ∨ L.cancelled = true)
  sel : S.rest.head? = some l →
      (S.pc = .selected .delivered → ⟨t, S.cur⟩ ∈ L.recvd) ∧ (S.pc = .selected .listenCancelled → L.cancelled = true)

theorem DelivInv.rel {c : Config} (h : DelivInv c) (t l : Nat) : Deliv t (c.ss t) l (c.ls l) :=
  ⟨fun e he hs => by subst hs; exact h.bound l e he, fun e he hs => by subst hs; exact h.fresh l e he,
    h.visitedOk t l, h.selOk t l⟩

theorem DelivInv.of_rel {c : Config} (hrel : ∀ t l, Deliv t (c.ss t) l (c.ls l))
    (hord : ∀ l, (c.ls l).recvd.Pairwise OrdRel) : DelivInv c :=
  ⟨fun l e he => (hrel e.sender l).bound e he rfl, fun l e he => (hrel e.sender l).fresh e he rfl, hord,
    fun t l => (hrel t l).visited, fun t l => (hrel t l).sel⟩

theorem DelivInv.withBus {c : Config} (h : DelivInv c) (b : List Nat) : DelivInv { c with bus := b } :=
  ⟨h.bound, h.fresh, h.order, h.visitedOk, h.selOk⟩

theorem Deliv.listener {t l : Nat} {S : Sender} {L L' : Listener} (h : Deliv t S l L)
    (hr : L'.recvd = L.recvd) (hc : L.cancelled = true → L'.cancelled = true) : Deliv t S l L' :=
  ⟨hr ▸ h.bound, hr ▸ h.fresh, fun hv => hr ▸ (h.visited hv).imp id hc,
    fun hh => hr ▸ ⟨(h.sel hh).1, fun hp => hc ((h.sel hh).2 hp)⟩⟩

theorem Deliv.sender {t l : Nat} {S S' : Sender} {L : Listener} (h : Deliv t S l L) (hcur : S'.cur = S.cur)
    (hvis : S'.visited = S.visited) (hrest : S'.rest = S.rest)
    (hdel : S'.pc = .selected .delivered ↔ S.pc = .selected .delivered)
    (hlc : S'.pc = .selected .listenCancelled → S.rest.head? = some l → L.cancelled = true) : Deliv t S' l L := by
  constructor <;> simp only [hcur, hvis, hrest, hdel]
  · exact h.bound
  · exact h.fresh
  · exact h.visited
  · exact fun hh => ⟨(h.sel hh).1, fun hp => hlc hp hh⟩

theorem DelivInv.setS {c : Config} (h : DelivInv c) {t : Nat} {S' : Sender}
    (hS : ∀ l, Deliv t S' l (c.ls l)) : DelivInv (c.setS t S') := by
  refine .of_rel (fun t' l => ?_) h.order
  simp only [Config.setS_ss, Config.setS_ls, upd_apply]
  split
  · subst t'; exact hS l
  · exact h.rel t' l

theorem DelivInv.setLS {c : Config} (h : DelivInv c) {l t : Nat} {L' : Listener} {S' : Sender}
    (hL : ∀ t', t' ≠ t → Deliv t' (c.ss t') l L') (hS : ∀ l', l' ≠ l → Deliv t S' l' (c.ls l'))
    (hLS : Deliv t S' l L') (hord : L'.recvd.Pairwise OrdRel) : DelivInv ((c.setL l L').setS t S') := by
  refine .of_rel (fun t' l' => ?_) (fun l' => ?_) <;>
    simp only [Config.setL_ls, Config.setS_ss, Config.setS_ls, upd_apply]
  · by_cases hl : l' = l <;> by_cases ht : t' = t <;> simp only [hl, ht, if_true, if_false]
    · exact hLS
    · exact hL t' ht
    · exact hS l' hl
    · exact h.rel t' l'
  · split
    · exact hord
    · exact h.order l'

theorem DelivInv.frameL {c : Config} (h : DelivInv c) {l : Nat} {L' : Listener} (hr : L'.recvd = (c.ls l).recvd)
    (hc : (c.ls l).cancelled = true → L'.cancelled = true) : DelivInv (c.setL l L') := by
  refine .of_rel (fun t l' => ?_) (fun l' => ?_) <;> simp only [Config.setL_ls, upd_apply] <;> split
  · subst l'; exact (h.rel t l).listener hr hc
  · exact h.rel t l'
  · exact hr ▸ h.order l
  · exact h.order l'

theorem DelivInv.frameS {c : Config} (h : DelivInv c) {t : Nat} {S' : Sender} (hcur : S'.cur = (c.ss t).cur)
    (hvis : S'.visited = (c.ss t).visited) (hrest : S'.rest = (c.ss t).rest)
    (hdel : S'.pc = .selected .delivered ↔ (c.ss t).pc = .selected .delivered)
    (hlc : S'.pc = .selected .listenCancelled → ∀ l, (c.ss t).rest.head? = some l → (c.ls l).cancelled = true) :
    DelivInv (c.setS t S') :=
  h.setS fun l => (h.rel t l).sender hcur hvis hrest hdel fun hp => hlc hp l

theorem delivInv_step {c c' : Config} {m : Move} (hL : LockInv c) (hS : StructInv c) (h : DelivInv c)
    (hs : Step c m c') : DelivInv c' := by
  have hnp := (lockInv_step hL hs).noPanic
  cases hs with
  | cancel l => exact h.frameL rfl fun _ => rfl
  | lRegister l => exact (h.withBus _).frameL rfl id
  | wClosePanic | sDeliverPanic => cases hnp
  | cancelSend t => exact h.frameS rfl rfl rfl Iff.rfl fun hp l hh => (h.selOk t l hh).2 hp
  | sListenCancelled t l r hrest hpc hc =>
    refine h.frameS rfl rfl rfl (by simp [hpc]) fun _ l' hh => ?_
    rw [hrest] at hh
    cases hh
    exact hc
  | sSendCancelled t _ _ _ hpc | sFinishGc t hpc | sFinish t hpc =>
    exact h.frameS rfl rfl rfl (by simp [hpc]) (by simp)
  | sCollect t hpc => exact (h.withBus _).frameS rfl rfl rfl (by simp [hpc]) (by simp)
  | sSnapshot t =>
    -- a new call: its number is above everything received so far, and it has visited nobody yet
    refine h.setS fun l => ⟨fun e he hs => Nat.le_succ_of_le ((h.rel t l).bound e he hs), fun e he hs heq => ?_,
      by simp, by simp⟩
    have := (h.rel t l).bound e he hs
    simp only at heq
    omega
  | sAcquire t l r hrest hpc =>
    have hsend : ∀ {l' L}, Deliv t (c.ss t) l' L → Deliv t { c.ss t with pc := .rlocked } l' L :=
      fun hd => hd.sender rfl rfl rfl (by simp [hpc]) (by simp)
    exact h.setLS (fun t' _ => (h.rel t' l).listener rfl id) (fun l' _ => hsend (h.rel t l'))
      (hsend ((h.rel t l).listener rfl id)) (h.order l)
  | sDeliver t l r hrest hpc =>
    -- `l` is the head of `rest`, so not yet visited in this call: nothing of this call has reached it
    have hnv : l ∉ (c.ss t).visited := by
      have hnd := hS.snapNodup t
      rw [← hS.split (t := t) (by simp [hpc]), hrest] at hnd
      intro hv
      exact (List.nodup_append.1 hnd).2.2 l hv l (by simp) rfl
    have hlt : ∀ e, e ∈ (c.ls l).recvd → e.sender = t → e.seq < (c.ss t).cur := fun e he hs => by
      have hle := (h.rel t l).bound e he hs
      rcases Nat.lt_or_ge e.seq (c.ss t).cur with hlt | hge
      · exact hlt
      · rcases (h.rel t l).fresh e he hs (by omega) with hv | ⟨_, hp⟩
        · exact absurd hv hnv
        · rw [hpc] at hp; cases hp
    refine h.setLS (fun t' ht' => ?_) (fun l' hl' => ?_) ?_ ?_
    · have hd := h.rel t' l
      refine ⟨fun e he hs => hd.bound e ?_ hs, fun e he hs => hd.fresh e ?_ hs,
        fun hv => (hd.visited hv).imp (by simp +contextual) id,
        fun hh => ⟨fun hp => by simp [(hd.sel hh).1 hp], (hd.sel hh).2⟩⟩ <;>
      · rcases List.mem_append.1 he with he | he
        · exact he
        · simp only [List.mem_singleton] at he; subst he; exact absurd hs.symm ht'
    · have hd := h.rel t l'
      refine ⟨hd.bound, fun e he hs heq => ?_, hd.visited, fun hh => ?_⟩
      · rcases hd.fresh e he hs heq with hv | ⟨_, hp⟩
        · exact .inl hv
        · rw [hpc] at hp; cases hp
      · rw [hrest] at hh; cases hh; exact absurd rfl hl'
    · have hd := h.rel t l
      refine ⟨fun e he hs => ?_, fun e he hs heq => ?_, fun hv => absurd hv hnv, fun _ => ⟨by simp, by simp⟩⟩
      · rcases List.mem_append.1 he with he | he
        · exact hd.bound e he hs
        · simp only [List.mem_singleton] at he; subst he; exact Nat.le_refl _
      · exact .inr ⟨by simp [hrest], rfl⟩
    · simp only [List.pairwise_append, List.pairwise_cons, List.Pairwise.nil, List.mem_singleton]
      refine ⟨h.order l, ⟨by simp, trivial⟩, ?_⟩
      intro a ha b hb; subst hb
      exact hlt a ha
  | sReleaseAbort t l r hrest hpc =>
    refine h.setLS (fun t' _ => (h.rel t' l).listener rfl id) (fun l' _ => ?_) ?_ (h.order l) <;>
    · refine ⟨(h.rel t _).bound, fun e he hs heq => ?_, (h.rel t _).visited, by simp⟩
      rcases (h.rel t _).fresh e he hs heq with hv | ⟨_, hp⟩
      · exact .inl hv
      · rw [hpc] at hp; cases hp
  | sRelease t l r o hrest hpc ho =>
    -- `l` moves from the head of `rest` to `visited`; what `selOk` said of it is what `visitedOk` wants
    have hsel := (h.rel t l).sel (by simp [hrest])
    refine h.setLS (fun t' _ => (h.rel t' l).listener rfl id) (fun l' hl' => ?_) ?_ (h.order l)
    · have hd := h.rel t l'
      refine ⟨hd.bound, fun e he hs heq => ?_, fun hv => ?_, by simp⟩
      · -- `l'` is not the head of `rest`, so this call's event reached it while it was visited
        rcases hd.fresh e he hs heq with hv | ⟨hh, _⟩
        · exact .inl (List.mem_append_left _ hv)
        · simp [hrest, Ne.symm hl'] at hh
      · rcases List.mem_append.1 hv with hv | hv
        · exact hd.visited hv
        · simp only [List.mem_singleton] at hv; exact absurd hv hl'
    · have hd := h.rel t l
      refine ⟨hd.bound, fun e he hs heq => .inl (by simp), fun _ => ?_, by simp⟩
      cases o with
      | delivered => exact .inl (hsel.1 hpc)
      | listenCancelled => exact .inr (hsel.2 hpc)
      | sendCancelled => exact absurd rfl ho
  | _ => exact h.frameL rfl id

end ScVerif.C10
