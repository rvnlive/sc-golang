import ScVerif.C10.PipeInv
/-!
# C10 — property theorems, part 2: the forwarding goroutines of one subscription (`pkg/resource`)

"… closes its channel, … every goroutine started for it terminates; a single-item subscription also
ends when the item is removed."  All theorems: every pipeline shape (backpressure on/off, DropExcess/mergeExcess,
Pull/PullID), every filter `keep`, every state and every schedule of the pipeline's moves.
-/
namespace ScVerif.C10

/-- Once the bus channel is closed (the watcher does that after the cancel), EVERY enabled step of the pipeline other than
a repeated `cancel` strictly decreases `pmu`: no message can enter any more, and each transfer, consumption or exit
brings the pipeline closer to empty. -/
theorem C10_pipeline_measure (c c' : PConfig) (m : PMove) (hin : c.inClosed = true)
    (hs : pstep c m = some c') :
    c'.inClosed = true ∧ (m = .cancel → pmu c' = pmu c) ∧ (m ≠ .cancel → pmu c' < pmu c) := by
  have hs' := PStep.of_pstep hs
  refine ⟨hs'.mono.2.1 hin, fun hm => ?_, fun hm => ?_⟩
  · subst hm
    cases hs'
    rfl
  cases hs' with
  | pushEx _ hin' | pushFw _ hin' | closeIn _ hin' => rw [hin] at hin'; cases hin'
  | cancel => exact absurd rfl hm
  | consumePid m r hp hq hd => simp [pmu, hp, hq, hd]
  | consumeFw m r hp hq hd => simp [pmu, hp, hq, hd]
  | xferEF m r hq hex hd hfd hfq =>
    -- a message moves from weight 3 to weight 2, or is filtered out
    simp [pmu, fwRecv_eq, hq, hex, hd, hfd, hfq]
    split <;> simp <;> omega
  | xferFP m r hq hp hfd hd hpq =>
    -- from weight 2 to weight 1, or skipped, or the PullID stage returns
    simp [pmu, pidRecv_eq, hq, hp, hfd, hd, hpq]
    by_cases hk : m.id = c.target ∧ m.remove = false
    · simp [hk]
      omega
    · simp only [hk, if_false, List.length_nil]
      split <;> split <;> omega
  | exExit hex hd =>
    simp [pmu, hex, hd]
    omega
  | fwExitIn hd hq => simp [pmu, hd, hq]
  | fwExitCtx hd hq =>
    simp [pmu, hd]
    omega
  | pidExitIn hp hd hq hfd => simp [pmu, hp, hd, hq]
  | pidExitCtx hp hd hq =>
    simp [pmu, hp, hd]
    omega

/-- …so at most `pmu c` further steps (other than repeated cancels) can ever be taken by the subscription's goroutines. -/
theorem C10_pipeline_bounded (c : PConfig) (sched : List PMove) (hin : c.inClosed = true) :
    (prun c sched).inClosed = true ∧ pmu (prun c sched) ≤ pmu c := by
  refine foldl_getD_induct (step := pstep) (P := fun c' => c'.inClosed = true ∧ pmu c' ≤ pmu c) sched
    (fun c1 m c2 _ h hs => ?_)
    ⟨hin, Nat.le_refl _⟩
  obtain ⟨h1, h2, h3⟩ := C10_pipeline_measure c1 c2 m h.1 hs
  refine ⟨h1, Nat.le_trans ?_ h.2⟩
  by_cases hm : m = .cancel
  · exact Nat.le_of_eq (h2 hm)
  · exact Nat.le_of_lt (h3 hm)

/-- Progress (no deadlock inside the subscription): after cancel the watcher's `closeIn` is enabled, and once the channel is
closed some goroutine of the subscription can take an exit step until all have returned — whatever each of them holds,
with or without a consumer. -/
theorem C10_cancel_releases_pipeline (c : PConfig) (hc : c.cancelled = true) :
    (c.inClosed = false → (pstep c .closeIn).isSome) ∧
    (c.inClosed = true → c.allDone = false →
      ∃ m, m ∈ [PMove.exExit, .fwExitIn, .fwExitCtx, .pidExitIn, .pidExitCtx] ∧ (pstep c m).isSome) := by
  refine ⟨fun h => by simp [pstep, hc, h], ?_⟩
  intro hin hnd
  by_cases h1 : c.hasEx = true ∧ c.exDone = false
  · exact ⟨.exExit, by simp, by simp [pstep, h1, hin]⟩
  · have hfin : c.fwInClosed = true := by
      unfold PConfig.fwInClosed
      cases hE : c.hasEx <;> cases hD : c.exDone <;> simp_all
    by_cases h2 : c.fwDone = false
    · by_cases h3 : c.fwQ = []
      · exact ⟨.fwExitIn, by simp, by simp [pstep, h2, h3, hfin]⟩
      · exact ⟨.fwExitCtx, by simp, by simp [pstep, h2, h3, hc]⟩
    · have hfd : c.fwDone = true := by simpa using h2
      have hp : c.hasPid = true ∧ c.pidDone = false := by
        unfold PConfig.allDone at hnd
        cases hE : c.hasEx <;> cases hD : c.exDone <;> cases hP : c.hasPid <;> cases hQ : c.pidDone <;> simp_all
      by_cases h4 : c.pidQ = []
      · exact ⟨.pidExitIn, by simp, by simp [pstep, hp, h4, hfd]⟩
      · exact ⟨.pidExitCtx, by simp, by simp [pstep, hp, h4, hc]⟩

/-- All goroutines have returned exactly when the measure is zero, and then the consumer's channel is closed. -/
theorem C10_pipeline_done (c : PConfig) :
    (pmu c = 0 ↔ c.allDone = true) ∧ (c.allDone = true → c.outClosed = true) := by
  unfold pmu PConfig.allDone PConfig.outClosed
  cases c.hasEx <;> cases c.exDone <;> cases c.fwDone <;> cases c.hasPid <;> cases c.pidDone <;> simp <;> omega

/-- A single-item subscription ends when the item is removed: when the PullID goroutine receives the REMOVE of its id its
output channel is closed, and (`fixed`) the context of the inner Pull is cancelled — so everything
upstream terminates as well and no writer is left facing a subscriber that nobody drains. -/
theorem C10_pullid_ends_on_remove (c c' : PConfig) (m : Msg) (r : List Msg)
    (hp : c.hasPid = true) (hf : c.fixed = true) (hq : c.fwQ = m :: r)
    (hid : m.id = c.target) (hrm : m.remove = true) (hs : pstep c .xferFP = some c') :
    c'.outClosed = true ∧ c'.cancelled = true ∧ (c'.inClosed = false → (pstep c' .closeIn).isSome) := by
  cases PStep.of_pstep hs with
  | xferFP m' r' hq' =>
    cases hq.symm.trans hq'
    simp [pidRecv_eq, hid, hrm, hf, hp, PConfig.outClosed, pstep]

/-- non-vacuity: a backpressure PullID(7) that holds the REMOVE of item 7 in its forwarder -/
example : ∃ c c' : PConfig, c.hasPid = true ∧ c.fixed = true ∧ c.fwQ = [⟨7, .remove, 1⟩] ∧
    pstep c .xferFP = some c' ∧ c'.outClosed = true :=
  ⟨{ hasEx := false, exMerge := false, hasPid := true, target := 7, fixed := true, keep := fun _ => true,
     fwQ := [⟨7, .remove, 1⟩] }, _, rfl, rfl, rfl, rfl, rfl⟩

/-- … however the ids are spelled: for EVERY id interceptor of the collection, `PullID(ctx, rawSub)` ends on the event of
`Delete(rawDel)` whenever the two spellings name the same item; `Delete` publishes the intercepted id (`changeOf`),
`PullID` compares with the intercepted id (`pullIDTarget`). -/
theorem C10_pullid_ends_any_spelling (icpt : Nat → Nat) (rawSub rawDel tag : Nat) (c c' : PConfig) (r : List Msg)
    (hsame : icpt rawSub = icpt rawDel) (hp : c.hasPid = true) (hf : c.fixed = true)
    (ht : c.target = pullIDTarget icpt rawSub) (hq : c.fwQ = changeOf icpt rawDel .remove tag :: r)
    (hs : pstep c .xferFP = some c') :
    c'.outClosed = true ∧ c'.cancelled = true ∧ (c'.inClosed = false → (pstep c' .closeIn).isSome) :=
  C10_pullid_ends_on_remove c c' _ r hp hf hq (by simp [changeOf, ht, pullIDTarget, hsame]) rfl hs

/-- … and only then: an event about another item, removal or not, is skipped by the PullID stage. -/
theorem C10_pullid_other_item_ignored (icpt : Nat → Nat) (rawSub rawOther tag : Nat) (rm : Kind) (c c' : PConfig)
    (r : List Msg) (hne : icpt rawSub ≠ icpt rawOther) (ht : c.target = pullIDTarget icpt rawSub)
    (hq : c.fwQ = changeOf icpt rawOther rm tag :: r) (hs : pstep c .xferFP = some c') :
    c'.pidDone = c.pidDone ∧ c'.pidQ = c.pidQ ∧ c'.cancelled = c.cancelled ∧ c'.out = c.out ∧ c'.fwQ = r := by
  cases PStep.of_pstep hs with
  | xferFP m' r' hq' =>
    cases hq.symm.trans hq'
    have : icpt rawOther ≠ icpt rawSub := fun h => hne h.symm
    simp [pidRecv_eq, changeOf, ht, pullIDTarget, this]

/-- why `Delete` has to publish the INTERCEPTED id: with the interceptor `n ↦ n - n % 4`, `PullID(…, 5)` ends on the event
of `Delete(6)` (same item 4), whereas an event carrying the caller's raw id 6 is skipped -/
example :
    let c : PConfig := { hasEx := false, exMerge := false, hasPid := true, target := pullIDTarget (fun n => n - n % 4) 5,
                         fixed := true, keep := fun _ => true }
    ((pstep { c with fwQ := [changeOf (fun n => n - n % 4) 6 .remove 0] } .xferFP).map (·.outClosed)) = some true ∧
    ((pstep { c with fwQ := [⟨6, .remove, 0⟩] } .xferFP).map (·.outClosed)) = some false := by decide

/-- measure of a subscription consumed by a handler that ranges over the channel -/
def rmu (h : RConfig) : Nat := pmu h.p + (if h.hDone then 0 else 1)

/-- The generated gRPC `Pull…` handlers (`for change := range model.Pull…(ctx) { … }`: no `ctx` case of their own) terminate
too: once the bus channel is closed every enabled step of the subscription's goroutines AND of the handler strictly
decreases `rmu`; only a repeated `cancel` leaves it unchanged. -/
theorem C10_range_handler_measure (h h' : RConfig) (m : RMove) (hin : h.p.inClosed = true)
    (hs : rstep h m = some h') :
    h'.p.inClosed = true ∧ (m = .pipe .cancel → rmu h' = rmu h) ∧ (m ≠ .pipe .cancel → rmu h' < rmu h) := by
  cases m with
  | hExit =>
    obtain ⟨hg, rfl⟩ := guard_some.1 hs
    exact ⟨hin, nofun, fun _ => by simp [rmu, hg.1]⟩
  | pipe pm =>
    obtain ⟨_, p', hp, rfl⟩ := guard_not_map.1 hs
    obtain ⟨a, b⟩ := C10_pipeline_measure h.p p' pm hin hp
    exact ⟨a, measure_lift (w := RMove.pipe) (F := fun n => n + if h.hDone then 0 else 1) (fun _ _ e => RMove.pipe.inj e)
      (fun _ _ h => Nat.add_lt_add_right h _) b⟩

/-- … and they cannot get stuck: after the cancel and the close, until everything has returned, an exit step of a stage or
the handler's own exit is enabled without any cooperation of the handler.  (`Tidy`: a returned stage holds nothing.) -/
theorem C10_range_handler_progress (h : RConfig) (hc : h.p.cancelled = true) (hin : h.p.inClosed = true)
    (ht : h.p.Tidy) (hnd : ¬ (h.p.allDone = true ∧ h.hDone = true)) :
    ∃ m, m ∈ [RMove.pipe .exExit, .pipe .fwExitIn, .pipe .fwExitCtx, .pipe .pidExitIn, .pipe .pidExitCtx, .hExit] ∧
      (rstep h m).isSome := by
  by_cases ha : h.p.allDone = true
  · have hd : h.hDone = false := Bool.eq_false_iff.2 fun hd => hnd ⟨ha, hd⟩
    refine ⟨.hExit, by simp, ?_⟩
    obtain ⟨hoc, hq⟩ := drained_of_allDone ht ha
    simp [rstep, hd, hoc, hq]
  · obtain ⟨pm, hmem, hen⟩ := (C10_cancel_releases_pipeline h.p hc).2 hin (by simpa using ha)
    have hne := exit_ne_consume hmem
    refine ⟨.pipe pm, ?_, ?_⟩
    · simp only [List.mem_cons, List.not_mem_nil, or_false] at hmem ⊢
      rcases hmem with rfl | rfl | rfl | rfl | rfl <;> simp
    · simpa [rstep, hne] using hen

/-- non-vacuity: a lossy `Value.Pull` ranged over by a handler; after cancel and close, DropExcess, the forwarder and the
handler return -/
example :
    let h0 : RConfig := ⟨{ hasEx := true, exMerge := false, hasPid := false, target := 0, fixed := true,
                            keep := fun _ => true, cancelled := true, inClosed := true }, false⟩
    rmu h0 = 3 ∧
    (((rstep h0 (.pipe .exExit)).bind fun h => (rstep h (.pipe .fwExitIn)).bind fun h => rstep h .hExit).map rmu) = some 0 := by
  decide

/-- measure of a subscription behind a trait-model adapter -/
def amu (a : AConfig) : Nat := 2 * pmu a.p + (if a.aDone then 0 else 1 + (if a.hold then 1 else 0))

/-- Trait-model adapters (`watchesCtx`) terminate: once the bus channel is closed every enabled step of the subscription,
of the adapter goroutine and of the subscriber strictly decreases `amu` (a repeated `cancel` leaves it unchanged). -/
theorem C10_adapter_measure (a a' : AConfig) (m : AMove) (hin : a.p.inClosed = true) (hs : astep a m = some a') :
    a'.p.inClosed = true ∧ (m = .pipe .cancel → amu a' = amu a) ∧ (m ≠ .pipe .cancel → amu a' < amu a) := by
  cases AStep.of_astep hs with
  | pipe pm p' _ hp =>
    obtain ⟨x, y⟩ := C10_pipeline_measure a.p p' pm hin hp
    exact ⟨x, measure_lift (w := AMove.pipe) (F := fun n => 2 * n + if a.aDone then 0 else 1 + if a.hold then 1 else 0)
      (fun _ _ e => AMove.pipe.inj e) (fun _ _ h => by omega) y⟩
  | aRecv p' hd hh hp =>
    obtain ⟨x, _, z⟩ := C10_pipeline_measure a.p p' .consume hin hp
    have := z nofun
    refine ⟨x, nofun, fun _ => ?_⟩
    simp only [amu, hd, hh]
    simp
    omega
  | aSend hd hh => exact ⟨hin, nofun, fun _ => by simp [amu, hd, hh]⟩
  | aExitIn hd =>
    refine ⟨hin, nofun, fun _ => ?_⟩
    simp [amu, hd]
    omega
  | aExitCtx _ hd =>
    refine ⟨hin, nofun, fun _ => ?_⟩
    simp [amu, hd]
    omega

/-- … and cannot get stuck, whatever the subscriber does: until the subscription AND the adapter have returned, a step
that needs no cooperation of the subscriber (an exit of a stage, the adapter's `range` seeing the close, or — holding a
change nobody takes — its `ctx.Done()` case) is enabled. -/
theorem C10_adapter_progress (a : AConfig) (hw : a.watchesCtx = true) (hc : a.p.cancelled = true)
    (hin : a.p.inClosed = true) (ht : a.p.Tidy) (hnd : ¬ (a.p.allDone = true ∧ a.aDone = true)) :
    ∃ m, m ≠ .aSend ∧ m ≠ .aRecv ∧ (astep a m).isSome := by
  by_cases ha : a.p.allDone = true
  · have hd : a.aDone = false := Bool.eq_false_iff.2 fun hd => hnd ⟨ha, hd⟩
    cases hh : a.hold with
    | true => exact ⟨.aExitCtx, by simp, by simp, by simp [astep, hw, hd, hh, hc]⟩
    | false =>
      obtain ⟨hoc, hq⟩ := drained_of_allDone ht ha
      exact ⟨.aExitIn, by simp, by simp, by simp [astep, hd, hh, hoc, hq]⟩
  · obtain ⟨pm, hmem, hen⟩ := (C10_cancel_releases_pipeline a.p hc).2 hin (by simpa using ha)
    have hne := exit_ne_consume hmem
    refine ⟨.pipe pm, by simp, by simp, ?_⟩
    simpa [astep, hne] using hen

/-- measure of a `ModelServer` Pull handler on top of an adapter -/
def gmu (g : GConfig) : Nat := amu g.a + (if g.gDone then 0 else 1)

/-- The gRPC Pull handlers of the trait `ModelServer`s (a loop over the ADAPTER's channel that returns on the close or as
soon as `server.Send` fails) terminate together with everything underneath. -/
theorem C10_server_handler_measure (g g' : GConfig) (m : GMove) (hin : g.a.p.inClosed = true)
    (hs : gstep g m = some g') :
    g'.a.p.inClosed = true ∧ (m = .ad (.pipe .cancel) → gmu g' = gmu g) ∧ (m ≠ .ad (.pipe .cancel) → gmu g' < gmu g) := by
  cases m with
  | ad am =>
    obtain ⟨_, a', ha, rfl⟩ := guard_not_map.1 hs
    obtain ⟨x, y⟩ := C10_adapter_measure g.a a' am hin ha
    exact ⟨x, measure_lift (w := GMove.ad) (F := fun n => n + if g.gDone then 0 else 1) (fun _ _ e => GMove.ad.inj e)
      (fun _ _ h => Nat.add_lt_add_right h _) y⟩
  | gFail =>
    obtain ⟨hg, rfl⟩ := guard_some.1 hs
    exact ⟨hin, nofun, fun _ => by simp [gmu, hg]⟩
  | gExit =>
    obtain ⟨hg, rfl⟩ := guard_some.1 hs
    exact ⟨hin, nofun, fun _ => by simp [gmu, hg.1]⟩

/-- … and cannot get stuck, whether the stream's `Send` ever fails or not and whether the handler keeps receiving or has
long returned: a step that needs neither another loop iteration of the handler nor a failing `Send` is enabled.
(`Tidy`, `ATidy`: a returned stage / adapter holds nothing.) -/
theorem C10_server_handler_progress (g : GConfig) (hw : g.a.watchesCtx = true) (hc : g.a.p.cancelled = true)
    (hin : g.a.p.inClosed = true) (ht : g.a.p.Tidy) (hat : g.a.ATidy)
    (hnd : ¬ (g.a.p.allDone = true ∧ g.a.aDone = true ∧ g.gDone = true)) :
    ∃ m, m ≠ .ad .aSend ∧ m ≠ .ad .aRecv ∧ m ≠ .gFail ∧ (gstep g m).isSome := by
  by_cases ha : g.a.p.allDone = true ∧ g.a.aDone = true
  · have hd : g.gDone = false := Bool.eq_false_iff.2 fun hd => hnd ⟨ha.1, ha.2, hd⟩
    exact ⟨.gExit, by simp, by simp, by simp, by simp [gstep, hd, ha.2, hat ha.2]⟩
  · obtain ⟨am, h1, h2, hen⟩ := C10_adapter_progress g.a hw hc hin ht ha
    refine ⟨.ad am, ?_, ?_, by simp, ?_⟩
    · intro e; cases e; exact h1 rfl
    · intro e; cases e; exact h2 rfl
    · simpa [gstep, h1] using hen

/-- non-vacuity: an `onoffpb`-like server stream (lossy Value.Pull ▸ adapter ▸ handler) whose `Send` failed while the
adapter holds a change: DropExcess, the forwarder and the adapter (through `ctx.Done()`) return without any step of the
handler or the client -/
example :
    let g0 : GConfig := ⟨⟨{ hasEx := true, exMerge := false, hasPid := false, target := 0, fixed := true,
                             keep := fun _ => true, cancelled := true, inClosed := true }, true, true, false⟩, true⟩
    gmu g0 = 6 ∧
    (((gstep g0 (.ad (.pipe .exExit))).bind fun g => (gstep g (.ad (.pipe .fwExitIn))).bind fun g =>
        gstep g (.ad .aExitCtx)).map gmu) = some 0 := by
  decide

/-- The adapters before fix aa57613 (`watchesCtx = false`, a bare `send <- change`) violate the property, in the model as on
the real code (signature `C10/trait/model/goroutine-leak`): the subscriber stopped receiving, a write arrived, then
the cancel — the subscription underneath has terminated, the adapter still holds the change, and no step but the
subscriber's own receive is enabled. -/
theorem C10_adapter_unwatched_leaks :
    ∃ a : AConfig, a.watchesCtx = false ∧ a.p.cancelled = true ∧ a.p.inClosed = true ∧ a.p.allDone = true ∧
      a.aDone = false ∧ a.hold = true ∧
      (∀ pm, astep a (.pipe pm) = none ∨ pm = .cancel) ∧ astep a .aRecv = none ∧ astep a .aExitIn = none ∧
      astep a .aExitCtx = none := by
  refine ⟨⟨{ hasEx := false, exMerge := false, hasPid := false, target := 0, fixed := true, keep := fun _ => true,
             cancelled := true, inClosed := true, fwDone := true }, false, true, false⟩,
    rfl, rfl, rfl, rfl, rfl, rfl, ?_, rfl, rfl, rfl⟩
  intro pm
  cases pm <;> simp [astep, pstep, PConfig.fwInClosed]

/-- The code before fix 0f3ccd4 (`fixed = false`) violates the property, in the model as on the real code (signature
`C10/PullID/after-remove/backpressure/writer-blocked`): after the REMOVE the consumer's channel is closed, the context
is not cancelled, the next event is taken by the inner Pull's forwarder — and from then on no `push` (a writer's
`Bus.Send`) and no step of the subscription is enabled. -/
theorem C10_pullid_unfixed_stalls :
    ∃ c : PConfig, c.fixed = false ∧ c.outClosed = true ∧ c.cancelled = false ∧ c.allDone = false ∧
      (∀ m, pstep c (.push m) = none) ∧
      (∀ mv, mv ∈ [PMove.consume, .closeIn, .xferEF, .xferFP, .exExit, .fwExitIn, .fwExitCtx, .pidExitIn, .pidExitCtx] →
        pstep c mv = none) := by
  refine ⟨prun { hasEx := false, exMerge := false, hasPid := true, target := 7, fixed := false,
                 keep := fun _ => true } [.push ⟨7, .remove, 1⟩, .xferFP, .push ⟨8, .update, 2⟩], rfl, rfl, rfl, rfl, ?_, ?_⟩
  · intro m; rfl
  · intro mv hmv
    simp only [List.mem_cons, List.not_mem_nil, or_false] at hmv
    rcases hmv with h | h | h | h | h | h | h | h | h <;> subst h <;> rfl

/-- One entry per id in the excess stage: `mergeCollectionExcess` takes the queued change of the incoming change's id out
and re-queues the merged one at the back (or nothing: ADD+REMOVE), `DropExcess` keeps one message.  (This is what makes
the model's "take every change of that id out" and the code's "take THE change of that id out" the same thing.) -/
theorem C10_merge_queue_one_entry_per_id (p : PConfig) (sched : List PMove) (h0 : p.exQ = []) (t : Nat) :
    cnt t (prun p sched).exQ ≤ 1 := by
  exact foldl_getD_induct (step := pstep) (P := fun c => ∀ t, cnt t c.exQ ≤ 1) sched (fun _ _ _ _ => uniq_step)
    (fun t => by rw [h0]; simp) t

/-- non-vacuity: three changes of item 7 and one of item 3 pushed into an undrained merge stage leave one entry each -/
example :
    let p : PConfig := { hasEx := true, exMerge := true, hasPid := false, target := 0, fixed := true, keep := fun _ => true,
                         fwQ := [⟨9, .add, 0⟩] }
    (prun p [.push ⟨7, .update, 1⟩, .push ⟨3, .add, 2⟩, .push ⟨7, .remove, 3⟩, .push ⟨7, .add, 4⟩]).exQ
      = [⟨3, .add, 2⟩, ⟨7, .replace, 4⟩] := by decide

end ScVerif.C10
