import ScVerif.C10.SysReach
import ScVerif.C10.PipeFlow
import ScVerif.C10.PropsBus
import ScVerif.C10.PropsPipe
/-!
# C10 — property theorems, part 3: bus and forwarding pipeline composed (end to end)

The bus model treated a listener's consumer as environment (`recvReq`), the pipeline model treated the bus as
environment (`push`, `closeIn`).  In the composed model (`Sys.lean`) these are synchronised steps; the theorems below
say that each side's assumptions about the other are met, so that the shutdown theorems of parts 1 and 2 hold END TO
END: every number of senders/listeners, every pipeline shape, filter and seed list, every payload function and EVERY
schedule of the composed system.
-/
namespace ScVerif.C10

/-- Assume–guarantee, bus side: the bus half of every reachable composed state is a reachable state of the bus model, so
every theorem of part 1 holds in the composed system with the real consumers attached. -/
theorem C10_e2e_bus (pl : Ev → Msg) (s : Sys) (h : SReachable pl s) :
    Reachable s.bus ∧ s.bus.panicked = false :=
  ⟨h.sinv.reach, h.sinv.reach.inv.lock.noPanic⟩

/-- Assume–guarantee, pipeline side: the pipeline's context is the listener's context, its input is closed exactly when the
bus channel is, and every composed step is on each pipeline no step or one step of the pipeline model; hence `closeIn`
only happens after the cancel and `push` only while the channel is open — the two things part 2 assumed of its
environment. -/
theorem C10_e2e_pipeline (pl : Ev → Msg) (s s' : Sys) (m : SMove) (h : SReachable pl s)
    (hs : sstep pl s m = some s') (l : Nat) :
    (s.pipe l).cancelled = (s.bus.ls l).cancelled ∧ (s.pipe l).inClosed = (s.bus.ls l).closed ∧
    (s'.pipe l = s.pipe l ∨ ∃ pm, pstep (s.pipe l) pm = some (s'.pipe l)) :=
  ⟨h.sinv.link.cancelled l, h.sinv.link.closed l, sstep_pipe hs l⟩

/-- is `m` a step of one of the goroutines started for subscription `l` (watcher, pipeline stages), or of a sender that
still holds `l`'s read lock? -/
def groupMove (s : Sys) (l : Nat) : SMove → Bool
  | .bus m => watcherMove l m || (s.bus.ls l).readers.any fun t => readerMove t m
  | .close l' => l' = l
  | .pipe l' _ => l' = l
  | _ => false

/-- END TO END progress: after the subscription's context is cancelled, as long as its watcher has not returned or one of
its forwarding goroutines is alive, some step of the subscription's own goroutines (or of a sender still inside
`listener.send` on it) is enabled. -/
theorem C10_e2e_cancel_releases (pl : Ev → Msg) (s : Sys) (h : SReachable pl s) (l : Nat)
    (hcan : (s.bus.ls l).cancelled = true) (hsub : (s.bus.ls l).wpc ≠ .none)
    (hnd : ¬ ((s.bus.ls l).wpc = .done ∧ (s.pipe l).allDone = true)) :
    ∃ m, groupMove s l m = true ∧ (sstep pl s m).isSome := by
  have hI := h.sinv
  by_cases hd : (s.bus.ls l).wpc = .done
  · -- the watcher has closed the channel: the pipeline drains by itself
    have hcl := (C10_done_closed s.bus hI.reach l hd).1
    have hin : (s.pipe l).inClosed = true := by rw [hI.link.closed l, hcl]
    have hpc : (s.pipe l).cancelled = true := by rw [hI.link.cancelled l, hcan]
    have hall : (s.pipe l).allDone = false := Bool.eq_false_iff.2 fun ha => hnd ⟨hd, ha⟩
    obtain ⟨pm, hmem, hen⟩ := (C10_cancel_releases_pipeline (s.pipe l) hpc).2 hin hall
    refine ⟨.pipe l pm, by simp [groupMove], ?_⟩
    have hint : internalP pm = true := by
      simp only [List.mem_cons, List.not_mem_nil, or_false] at hmem
      rcases hmem with rfl | rfl | rfl | rfl | rfl <;> rfl
    simpa [sstep, hint] using hen
  · rcases C10_cancel_releases s.bus hI.reach l hcan hsub hd with ⟨m, hwm, hen⟩ | ⟨_, _, t, ht, hen⟩
    · by_cases hcl : m = .wClose l
      · subst hcl
        refine ⟨.close l, by simp [groupMove], ?_⟩
        simpa [sstep] using hen
      · refine ⟨.bus m, by simp [groupMove, hwm], ?_⟩
        have hfree : busFree m = true := by
          cases m <;> simp [watcherMove] at hwm <;> first | rfl | (subst hwm; exact absurd rfl hcl)
        simpa [sstep, hfree] using hen
    · rcases hen with hen | hen
      · refine ⟨.bus (.sListenCancelled t), ?_, ?_⟩
        · simp only [groupMove, Bool.or_eq_true, List.any_eq_true]
          exact Or.inr ⟨t, ht, by simp [readerMove]⟩
        · simpa [sstep, busFree] using hen
      · refine ⟨.bus (.sRelease t), ?_, ?_⟩
        · simp only [groupMove, Bool.or_eq_true, List.any_eq_true]
          exact Or.inr ⟨t, ht, by simp [readerMove]⟩
        · simpa [sstep, busFree] using hen

/-- END TO END measure, second phase: once the bus channel of `l` is closed, no composed step of anybody increases
`pmu (pipe l)` (no writer can push into it any more), and every step of `l`'s own pipeline strictly decreases it.  (First
phase: `C10_cancel_terminates_bus` on the bus half.) -/
theorem C10_e2e_drain (pl : Ev → Msg) (s s' : Sys) (m : SMove) (h : SReachable pl s) (l : Nat)
    (hcl : (s.bus.ls l).closed = true) (hs : sstep pl s m = some s') :
    (s'.bus.ls l).closed = true ∧ pmu (s'.pipe l) ≤ pmu (s.pipe l) ∧
    (∀ pm, m = .pipe l pm → pmu (s'.pipe l) < pmu (s.pipe l)) := by
  have hin : (s.pipe l).inClosed = true := by rw [h.sinv.link.closed l, hcl]
  -- on `l`'s pipeline the composed step is no step or one: `C10_pipeline_bounded` at the one-move schedule
  have hle : (s'.pipe l).inClosed = true ∧ pmu (s'.pipe l) ≤ pmu (s.pipe l) := by
    rcases sstep_pipe hs l with he | ⟨pm, hp⟩
    · rw [he]; exact ⟨hin, Nat.le_refl _⟩
    · simpa [prun, pnext, hp] using C10_pipeline_bounded (s.pipe l) [pm] hin
  refine ⟨by rw [← (sinv_step h.sinv hs).link.closed l]; exact hle.1, hle.2, ?_⟩
  · intro pm hm; subst hm
    cases SStep.of_sstep hs with
    | pipe _ _ p' hint hp =>
      have hne : pm ≠ .cancel := fun hc => by subst hc; cases hint
      simpa using (C10_pipeline_measure _ _ pm hin hp).2.2 hne

/-- END TO END: a single-item subscription ends when its item is removed, and nothing is left behind: when the PullID stage
takes the REMOVE of its id, the user's channel is closed AND the bus listener of the inner Pull is cancelled in the same
step — so progress and the two measures apply from there on. -/
theorem C10_e2e_pullid_ends_on_remove (pl : Ev → Msg) (s s' : Sys) (h : SReachable pl s) (l : Nat)
    (msg : Msg) (r : List Msg) (hp : (s.pipe l).hasPid = true) (hf : (s.pipe l).fixed = true)
    (hq : (s.pipe l).fwQ = msg :: r) (hid : msg.id = (s.pipe l).target) (hrm : msg.remove = true)
    (hs : sstep pl s (.pipe l .xferFP) = some s') :
    (s'.pipe l).outClosed = true ∧ (s'.bus.ls l).cancelled = true := by
  have hI' := sinv_step h.sinv hs
  cases SStep.of_sstep hs with
  | pipe _ _ p' _ hx =>
    have hres := C10_pullid_ends_on_remove (s.pipe l) p' msg r hp hf hq hid hrm hx
    refine ⟨by simpa using hres.1, ?_⟩
    have := hI'.link.cancelled l
    simp only [upd_same] at this
    rw [← this]
    exact hres.2.1

/-- END TO END: writers are never blocked beyond the current rendezvous by a cancelled subscription, whatever state its
pipeline is in: a sender inside `select` on a cancelled listener can take the `listenCancelled` branch. -/
theorem C10_e2e_writer_released (pl : Ev → Msg) (s : Sys) (t l : Nat) (tl : List Nat)
    (hpc : (s.bus.ss t).pc = .rlocked) (hrest : (s.bus.ss t).rest = l :: tl)
    (hcan : (s.bus.ls l).cancelled = true) :
    (sstep pl s (.bus (.sListenCancelled t))).isSome := by
  simp [sstep, busFree, step, hrest, hpc, hcan]

/-- REFINEMENT: for every composed schedule there are a bus schedule and, for each listener `l`, a pipeline schedule — all of
whose moves are ENABLED (`exec` / `pexec` are strict) — that lead to the bus half / `l`'s pipeline half of the composed
state, and the messages the pipeline schedule pushes are exactly the payloads of the events the bus model records as
received by `l`, in the same order.  So nothing the bus theorems say about `recvd` is lost on the way into the pipeline,
and the pipeline theorems apply to exactly the inputs the bus produces. -/
theorem C10_e2e_refines (pl : Ev → Msg) (todo : Nat → Nat) (pipes : Nat → PConfig) (sched : List SMove) (l : Nat) :
    ∃ bs ps, exec (init todo) bs = some (srun pl ⟨init todo, pipes⟩ sched).bus ∧
      pexec (pipes l) ps = some ((srun pl ⟨init todo, pipes⟩ sched).pipe l) ∧
      pushesOf ps = ((srun pl ⟨init todo, pipes⟩ sched).bus.ls l).recvd.map pl := by
  obtain ⟨bs, ps, es, h⟩ := srun_refines pl ⟨init todo, pipes⟩ sched l
  exact ⟨bs, ps, h.bus, h.pipe, by rw [h.pushes, h.recvd]; simp [init]⟩

/-- END TO END delivery for a backpressure `Pull` (no excess stage, no PullID stage, pass-all filter): what the user has
received is a prefix of `seed values ++ payloads of the events the bus delivered to l`, and as long as the forwarding
goroutine is alive nothing is lost either: received ++ in the forwarder's hand = seeds ++ delivered. -/
theorem C10_e2e_backpressure_lossless (pl : Ev → Msg) (todo : Nat → Nat) (pipes : Nat → PConfig)
    (sched : List SMove) (l : Nat) (hf : (pipes l).Fresh) (hex : (pipes l).hasEx = false)
    (hpid : (pipes l).hasPid = false) (hk : ∀ x, (pipes l).keep x = true) :
    let s := srun pl ⟨init todo, pipes⟩ sched
    (s.pipe l).out <+: (pipes l).fwQ ++ (s.bus.ls l).recvd.map pl ∧
    ((s.pipe l).fwDone = false → (s.pipe l).out ++ (s.pipe l).fwQ = (pipes l).fwQ ++ (s.bus.ls l).recvd.map pl) := by
  intro s
  obtain ⟨bs, ps, _, h2, h3⟩ := C10_e2e_refines pl todo pipes sched l
  obtain ⟨i1, i2⟩ := pexec_lossless hex hpid hk h2
  rw [h3, hf.out, List.nil_append] at i1 i2
  exact ⟨i2, i1⟩

/-- Subscribing with a context that is ALREADY cancelled (a client that hung up before the handler called `Pull`): for a
listener slot `l` not used so far, cancel ▸ `Bus.Listen` starts the watcher ▸ any schedule whatsoever: the context stays
cancelled, the watcher exists, and until the watcher is done and every forwarding goroutine has returned some step of
the subscription's own goroutines is enabled — it cannot hang, whatever happens around it. -/
theorem C10_e2e_precancelled (pl : Ev → Msg) (s : Sys) (h : SReachable pl s) (l : Nat)
    (hfresh : (s.bus.ls l).lpc = .init) (sched : List SMove) :
    let s' := srun pl s (.cancel l :: .bus (.lSpawn l) :: sched)
    (s'.bus.ls l).cancelled = true ∧ (s'.bus.ls l).wpc ≠ .none ∧
    (¬ ((s'.bus.ls l).wpc = .done ∧ (s'.pipe l).allDone = true) →
      ∃ m, groupMove s' l m = true ∧ (sstep pl s' m).isSome) := by
  intro s'
  have hr : SReachable pl s' := h.srun _
  let s1 := srun pl s [.cancel l, .bus (.lSpawn l)]
  have hs' : s' = srun pl s1 sched := by
    show srun pl s ([.cancel l, .bus (.lSpawn l)] ++ sched) = _
    rw [srun_append]
  have h1 : (s1.bus.ls l).cancelled = true ∧ (s1.bus.ls l).wpc ≠ .none := by
    simp [s1, srun, snext, sstep, busFree, next, step, hfresh]
  obtain ⟨bs, hb⟩ := srun_bus_run pl s1 sched
  rw [← hs'] at hb
  have hc : (s'.bus.ls l).cancelled = true := by rw [hb]; exact C10_cancelled_stable_run _ _ l h1.1
  have hw : (s'.bus.ls l).wpc ≠ .none := by rw [hb]; exact wpc_ne_none_run _ _ l h1.2
  exact ⟨hc, hw, fun hnd => C10_e2e_cancel_releases pl s' hr l hc hw hnd⟩

/-- END TO END, however the ids are spelled: when the REMOVE event that `Delete(rawDel)` published reaches the PullID stage
of a `PullID(ctx, rawSub)` subscription and the two spellings name the same item, the user's channel is closed and the bus
listener of the inner Pull is cancelled in the same step. -/
theorem C10_e2e_pullid_ends_any_spelling (pl : Ev → Msg) (s s' : Sys) (h : SReachable pl s) (l : Nat)
    (icpt : Nat → Nat) (rawSub rawDel tag : Nat) (r : List Msg) (hsame : icpt rawSub = icpt rawDel)
    (hp : (s.pipe l).hasPid = true) (hf : (s.pipe l).fixed = true)
    (ht : (s.pipe l).target = pullIDTarget icpt rawSub) (hq : (s.pipe l).fwQ = changeOf icpt rawDel .remove tag :: r)
    (hs : sstep pl s (.pipe l .xferFP) = some s') :
    (s'.pipe l).outClosed = true ∧ (s'.bus.ls l).cancelled = true :=
  C10_e2e_pullid_ends_on_remove pl s s' h l _ r hp hf hq (by simp [changeOf, ht, pullIDTarget, hsame]) rfl hs

/-- non-vacuity: a backpressure `Pull` on listener 0, one sender; the event is delivered through the composed rendezvous,
consumed, then cancel ▸ watcher ▸ close ▸ the forwarder exits: everything done, user channel closed -/
example :
    let pipes : Nat → PConfig := fun _ =>
      { hasEx := false, exMerge := false, hasPid := false, target := 0, fixed := true, keep := fun _ => true }
    let s := srun (fun e => ⟨0, .update, e.seq⟩) ⟨init fun _ => 1, pipes⟩
      [.bus (.lSpawn 0), .bus (.lRegister 0), .bus (.sSnapshot 0), .bus (.sAcquire 0), .deliver 0,
       .bus (.sRelease 0), .pipe 0 .consume, .cancel 0, .bus (.wAwake 0), .bus (.wLockReq 0),
       .bus (.wLockAcq 0), .close 0, .bus (.wNil 0), .bus (.wUnlock 0), .pipe 0 .fwExitIn]
    (s.bus.ls 0).wpc = .done ∧ (s.pipe 0).allDone = true ∧ (s.pipe 0).outClosed = true ∧
      (s.pipe 0).out = [⟨0, .update, 1⟩] ∧ (s.bus.ls 0).recvd = [⟨0, 1⟩] := by decide

/-- non-vacuity: subscribe with a cancelled context; a writer sends meanwhile and meets the dead listener; everything of
the subscription terminates without any consumer -/
example :
    let pipes : Nat → PConfig := fun _ =>
      { hasEx := false, exMerge := false, hasPid := false, target := 0, fixed := true, keep := fun _ => true }
    let s := srun (fun e => ⟨0, .update, e.seq⟩) ⟨init fun _ => 1, pipes⟩
      [.cancel 0, .bus (.lSpawn 0), .bus (.lRegister 0), .bus (.sSnapshot 0), .bus (.sAcquire 0),
       .bus (.sListenCancelled 0), .bus (.sRelease 0), .bus (.wAwake 0), .bus (.wLockReq 0), .bus (.wLockAcq 0),
       .close 0, .bus (.wNil 0), .bus (.wUnlock 0), .pipe 0 .fwExitIn, .bus (.sFinish 0), .bus (.sCollect 0)]
    (s.bus.ls 0).wpc = .done ∧ (s.pipe 0).allDone = true ∧ (s.pipe 0).outClosed = true ∧ (s.pipe 0).out = [] ∧
      s.bus.bus = [] ∧ (s.bus.ss 0).results = [true] := by decide

end ScVerif.C10
