import ScVerif.C10.Include
/-!
Driver glue for `includeChg` (`Include.lean`): `incl <start> <steps>` — the item starts absent (`n`), with a value the
filter includes (`i`) or one it excludes (`e`); every letter of `<steps>` is the state the next change takes it to
(absent → value = ADD, value → absent = REMOVE, value → value = UPDATE).  Answers the change types a subscriber with
the filter receives (letters a u r p, `-` = nothing).  Values are numbers, the filter is "even": the k-th change writes
2k (included) or 2k+1 (excluded); an initial value is 0 or 1.
-/
namespace ScVerif.C10

def inclVal (k : Nat) : Char → Option (Option Nat)
  | 'n' => some none
  | 'i' => some (some (2 * k))
  | 'e' => some (some (2 * k + 1))
  | _ => none

def inclChain : Nat → Option Nat → List Char → Option (List (Chg Nat))
  | _, _, [] => some []
  | k, v, c :: cs =>
    match inclVal k c with
    | none => none
    | some nv =>
      match v, nv with
      | none, none => none   -- not a change
      | _, _ =>
        let kind : Kind := match v, nv with
          | none, _ => .add
          | _, none => .remove
          | _, _ => .update
        (inclChain (k + 1) nv cs).map fun rest => ⟨kind, v, nv⟩ :: rest

def showKinds (ks : List Kind) : String :=
  if ks.isEmpty then "-" else
  String.ofList (ks.map fun | .add => 'a' | .update => 'u' | .remove => 'r' | .replace => 'p')

def handleInclude (toks : List String) : String :=
  match toks with
  | [start, steps] =>
    match start.toList with
    | [s] =>
      match inclVal 0 s with
      | some v0 =>
        match inclChain 1 v0 steps.toList with
        | some cs => showKinds (forwarded (fun n : Nat => n % 2 == 0) cs)
        | none => "!bad-op"
      | none => "!bad-op"
    | _ => "!bad-op"
  | _ => "!bad-op"

end ScVerif.C10
