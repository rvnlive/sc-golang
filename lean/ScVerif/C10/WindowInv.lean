import ScVerif.C10.Window
import ScVerif.C10.LateInv
/-!
With the read lock the split model of `Window.lean` does nothing the atomic model of `Late.lean` does not do: one induction
(`winv_run`) carries the invariant `WInv` and the schedule of the atomic model that reaches the same state.
-/
namespace ScVerif.C10

/-- invariant of the split model with the lock: a pending snapshot is what the atomic step would take right now -/
structure WInv (w : WConfig) : Prop where
  fresh : ∀ s, w.snapped = some s → s = w.l.seed ∧ w.l.subscribed = false
  told : w.l.subscribed = true → w.shown = true → w.l.present = false → w.l.removed = true
  shownSub : w.shown = true → w.l.subscribed = true

theorem seed_eq_of (c c' : LConfig) (hu : c'.uo = c.uo) (ht : c'.p.target = c.p.target)
    (h : c.uo = true ∨ c'.present = c.present) : c'.seed = c.seed := by
  unfold LConfig.seed
  rcases h with h | h
  · simp [hu, h]
  · simp [hu, h, ht]

theorem winv_lift {w : WConfig} {l' : LConfig} (h : WInv w)
    (hu : l'.uo = w.l.uo) (ht : l'.p.target = w.l.p.target) (hsb : l'.subscribed = w.l.subscribed)
    (hseed : ∀ s, w.snapped = some s → w.l.uo = true ∨ l'.present = w.l.present)
    (htold : l'.subscribed = true → w.shown = true → l'.present = false → l'.removed = true) :
    WInv { w with l := l' } where
  fresh := fun s hs => by
    obtain ⟨h1, h2⟩ := h.fresh s hs
    exact ⟨by rw [h1]; exact (seed_eq_of w.l l' hu ht (hseed s hs)).symm, by rw [hsb]; exact h2⟩
  told := htold
  shownSub := fun hsh => by rw [hsb]; exact h.shownSub hsh

/-- the writers: `Collection.Update` / `Collection.Delete` of any item -/
def LMove.writes : LMove → Bool
  | .upd _ | .del | .other _ => true
  | _ => false

theorem LStep.frame {c c' : LConfig} {m : LMove} (h : LStep c m c') (hm : m ≠ .sub) :
    c'.uo = c.uo ∧ c'.p.target = c.p.target ∧ c'.subscribed = c.subscribed ∧
      (m.writes = false → c'.present = c.present) := by
  cases h with
  | sub => exact absurd rfl hm
  | upd _ _ _ hp | del _ _ _ hp | other _ _ _ _ hp => exact ⟨rfl, (pstep_static hp).target, rfl, nofun⟩
  | pipe _ _ _ _ hp => exact ⟨rfl, (pstep_static hp).target, rfl, fun _ => rfl⟩
  | updUnsub | delUnsub | otherUnsub => exact ⟨rfl, rfl, rfl, nofun⟩
  | ret => exact ⟨rfl, rfl, rfl, fun _ => rfl⟩

theorem LStep.told {c c' : LConfig} {m : LMove} (h : LStep c m c') (hm : m ≠ .sub) {shown : Bool}
    (ht : c.subscribed = true → shown = true → c.present = false → c.removed = true) :
    c'.subscribed = true → shown = true → c'.present = false → c'.removed = true := by
  cases h with
  | sub => exact absurd rfl hm
  | upd | updUnsub => exact fun _ _ => nofun
  | del => exact fun _ _ _ => rfl
  | delUnsub _ hsub => exact fun a => by rw [hsub] at a; cases a
  | _ => exact ht

inductive WStep (w : WConfig) : WMove → WConfig → Prop
  | snap (hs : w.l.subscribed = false) (hn : w.snapped = none) : WStep w .snap { w with snapped := some w.l.seed }
  | reg (s : List Msg) (hsn : w.snapped = some s) (hs : w.l.subscribed = false) :
      WStep w .reg
        { w with snapped := none, shown := !s.isEmpty, l := { w.l with subscribed := true, p := { w.l.p with fwQ := s } } }
  | mv (m : LMove) (l' : LConfig) (hm : m ≠ .sub) (hx : m.writes = true → w.writersExcluded = false)
      (hl : lstep w.l m = some l') : WStep w (.mv m) { w with l := l' }

theorem WStep.of_wstep {w w' : WConfig} {m : WMove} (h : wstep w m = some w') : WStep w m w' := by
  cases m with
  | snap =>
    obtain ⟨hg, rfl⟩ := guard_some.1 h
    exact .snap hg.1 hg.2
  | reg =>
    simp only [wstep] at h
    split at h
    · obtain ⟨hs, rfl⟩ := guard_some.1 h
      exact .reg _ ‹_› hs
    · cases h
  | mv lm =>
    cases lm with
    | sub => cases h
    | ret | pipe =>
      obtain ⟨l', hq, rfl⟩ := Option.map_eq_some_iff.1 h
      exact .mv _ l' nofun nofun hq
    | upd | del | other =>
      obtain ⟨hx, l', hq, rfl⟩ := guard_not_map.1 h
      exact .mv _ l' nofun (fun _ => Bool.eq_false_iff.2 hx) hq

theorem winv_step {w w' : WConfig} {m : WMove} (hl : w.locked = true) (h : WInv w) (hs : wstep w m = some w') :
    WInv w' ∧ w'.locked = true ∧ (w'.l = w.l ∨ ∃ lm, lstep w.l lm = some w'.l) := by
  cases WStep.of_wstep hs with
  | snap hc => exact ⟨⟨fun s hs => by cases hs; exact ⟨rfl, hc⟩, h.told, h.shownSub⟩, hl, .inl rfl⟩
  | reg s hsn hns =>
    have hseed : s = w.l.seed := (h.fresh s hsn).1
    refine ⟨⟨nofun, fun _ hsh hpr => ?_, fun _ => rfl⟩, hl, .inr ⟨.sub, by simp [lstep, hns, hseed]⟩⟩
    -- shown, so the seed was taken while the item existed
    simp only [hseed, LConfig.seed] at hsh
    simp only at hpr
    simp [hpr] at hsh
  | mv lm l' hm hx hq =>
    have hL := LStep.of_lstep hq
    obtain ⟨hu, ht, hsb, hpr⟩ := hL.frame hm
    refine ⟨winv_lift h hu ht hsb (fun s hsn => ?_) (hL.told hm h.told), hl, .inr ⟨lm, hq⟩⟩
    -- a writer got through a pending snapshot: updates-only, the seed is empty whatever `present` is
    cases hw : lm.writes with
    | false => exact .inr (hpr hw)
    | true => exact .inl (by simpa [WConfig.writersExcluded, hl, hsn] using hx hw)

theorem winv_init (locked sync uo : Bool) (p : PConfig) : WInv (winit locked sync uo p) where
  fresh := fun s hs => by simp [winit] at hs
  told := fun hsub => by simp [winit, linit] at hsub
  shownSub := fun hsh => by simp [winit] at hsh

theorem lrun_snoc (c : LConfig) (sched : List LMove) (m : LMove) : lrun c (sched ++ [m]) = lnext (lrun c sched) m := by
  simp [lrun, List.foldl_append]

theorem winv_run (l0 : LConfig) (sched : List WMove) (w : WConfig) (hl : w.locked = true) (h : WInv w)
    (hr : ∃ ls, w.l = lrun l0 ls) :
    WInv (wrun w sched) ∧ ∃ ls, (wrun w sched).l = lrun l0 ls := by
  refine (foldl_getD_induct (step := wstep) (P := fun w => w.locked = true ∧ WInv w ∧ ∃ ls, w.l = lrun l0 ls) sched
    (fun w m w' _ h hs => ?_) ⟨hl, h, hr⟩).2
  obtain ⟨hl, h, ls, hls⟩ := h
  obtain ⟨hi, hl', href⟩ := winv_step hl h hs
  refine ⟨hl', hi, ?_⟩
  rcases href with he | ⟨lm, hlm⟩
  · exact ⟨ls, by rw [he]; exact hls⟩
  · exact ⟨ls ++ [lm], by rw [lrun_snoc, ← hls]; simp [lnext, hlm]⟩

end ScVerif.C10
