import ScVerif.C10.Late
import ScVerif.C10.PipeStep
/-!
C10 — the late-subscription model (`Late.lean`) along every schedule: a synchronous adapter misses no REMOVE (`LSync`),
and with backpressure a REMOVE handed to the subscription stays in flight until it ends it (`InFlight`, `LFlight`).
-/
namespace ScVerif.C10

inductive LStep (c : LConfig) : LMove → LConfig → Prop
  | ret (hr : c.returned = false) (hs : c.sync = true → c.subscribed = true) :
      LStep c .ret { c with returned := true }
  | sub (hsub : c.subscribed = false) :
      LStep c .sub { c with subscribed := true, p := { c.p with fwQ := c.seed } }
  | upd (tag : Nat) (p' : PConfig) (hsub : c.subscribed = true)
      (hp : pstep c.p (.push ⟨c.p.target, if c.present then .update else .add, tag⟩) = some p') :
      LStep c (.upd tag) { c with present := true, p := p' }
  | updUnsub (tag : Nat) (hsub : c.subscribed = false) : LStep c (.upd tag) { c with present := true }
  | del (p' : PConfig) (hpr : c.present = true) (hsub : c.subscribed = true)
      (hp : pstep c.p (.push ⟨c.p.target, .remove, 0⟩) = some p') :
      LStep c .del { c with present := false, removed := true, p := p' }
  | delUnsub (hpr : c.present = true) (hsub : c.subscribed = false) :
      LStep c .del { c with present := false, missed := c.missed || c.returned }
  | other (m : Msg) (p' : PConfig) (hid : m.id ≠ c.p.target) (hsub : c.subscribed = true)
      (hp : pstep c.p (.push m) = some p') : LStep c (.other m) { c with p := p' }
  | otherUnsub (m : Msg) (hid : m.id ≠ c.p.target) (hsub : c.subscribed = false) : LStep c (.other m) c
  | pipe (m : PMove) (p' : PConfig) (hnp : ∀ x, m ≠ .push x) (hsub : c.subscribed = true)
      (hp : pstep c.p m = some p') : LStep c (.pipe m) { c with p := p' }

theorem LStep.of_lstep {c c' : LConfig} {m : LMove} (h : lstep c m = some c') : LStep c m c' := by
  cases m with
  | ret =>
    obtain ⟨hg, rfl⟩ := guard_some.1 h
    exact .ret hg.1 hg.2
  | sub =>
    obtain ⟨hg, rfl⟩ := guard_some.1 h
    exact .sub hg
  | upd tag =>
    rcases guard_map_or.1 h with ⟨hs, p', hp, rfl⟩ | ⟨hs, rfl⟩
    · exact .upd tag p' hs hp
    · exact .updUnsub tag (Bool.eq_false_iff.2 hs)
  | del =>
    obtain ⟨hpr, h⟩ := guard_not.1 h
    have hpr : c.present = true := by simpa using hpr
    rcases guard_map_or.1 h with ⟨hs, p', hp, rfl⟩ | ⟨hs, rfl⟩
    · exact .del p' hpr hs hp
    · exact .delUnsub hpr (Bool.eq_false_iff.2 hs)
  | other x =>
    obtain ⟨hid, h⟩ := guard_not.1 h
    rcases guard_map_or.1 h with ⟨hs, p', hp, rfl⟩ | ⟨hs, rfl⟩
    · exact .other x p' hid hs hp
    · exact .otherUnsub x hid (Bool.eq_false_iff.2 hs)
  | pipe m =>
    cases m with
    | push x => cases h
    | _ =>
      obtain ⟨hs, p', hp, rfl⟩ := guard_map.1 h
      exact .pipe _ p' nofun hs hp

/-- invariant of a synchronous adapter: once the call has returned the subscription exists, and no REMOVE was missed -/
def LSync (c : LConfig) : Prop := (c.returned = true → c.subscribed = true) ∧ c.missed = false

theorem lsync_step {c c' : LConfig} {m : LMove} (hs : c.sync = true) (h : LSync c) (hc : LStep c m c') :
    LSync c' ∧ c'.sync = true := by
  obtain ⟨h1, h2⟩ := h
  cases hc with
  | ret hr hsy => exact ⟨⟨fun _ => hsy hs, h2⟩, hs⟩
  | sub => exact ⟨⟨fun _ => rfl, h2⟩, hs⟩
  | delUnsub hpr hsub =>
    -- a delete before the subscription exists: the call has not returned yet, so nothing is missed
    have hr : c.returned = false := Bool.eq_false_iff.2 fun hr => by simp [h1 hr] at hsub
    exact ⟨⟨h1, by simp [h2, hr]⟩, hs⟩
  | _ => exact ⟨⟨h1, h2⟩, hs⟩

theorem lsync_run (c : LConfig) (sched : List LMove) (hs : c.sync = true) :
    LSync c → LSync (lrun c sched) :=
  fun h => (foldl_getD_induct (step := lstep) (P := fun c => LSync c ∧ c.sync = true) sched
    (fun _ _ _ _ h hst => lsync_step h.2 h.1 (.of_lstep hst)) ⟨h, hs⟩).1

/-- no excess stage (backpressure), a PullID stage, and a forwarder filter that never drops a REMOVE of the watched item.
The filter (`WithInclude`, the collection's `WithEquivalence` / `WithMessageEquivalence` / `WithNoDuplicates`) is
otherwise ARBITRARY; a comparer like `cmp.Equal` never relates a message to the absent new value of a REMOVE. -/
def PConfig.Plain (p : PConfig) : Prop :=
  p.hasEx = false ∧ p.hasPid = true ∧ ∀ tag, p.keep ⟨p.target, .remove, tag⟩ = true

theorem plain_step {p p1 : PConfig} {m : PMove} (h : p.Plain) (hs : pstep p m = some p1) : p1.Plain := by
  have hst := pstep_static hs
  exact ⟨hst.hasEx ▸ h.1, hst.hasPid ▸ h.2.1, fun x => by rw [hst.keep, hst.target]; exact h.2.2 x⟩

/-- the REMOVE handed to the subscription has ended it, or is on its way: it sits in the forwarder's hand, next in
line for the PullID stage — unless the subscriber has cancelled in the meantime (then everything ends anyway) -/
def PConfig.InFlight (p : PConfig) : Prop :=
  p.pidDone = true ∨ p.cancelled = true ∨ (p.fwDone = false ∧ ∃ tag, p.fwQ = [⟨p.target, .remove, tag⟩])

/-- the REMOVE is in the forwarder's hand, next in line for the PullID stage: the third case of `InFlight`, under the name
the lossy statements use -/
def PConfig.RemoveInHand (p : PConfig) : Prop := p.fwDone = false ∧ ∃ tag, p.fwQ = [⟨p.target, .remove, tag⟩]

theorem inFlight_step {p p1 : PConfig} {m : PMove} (hpid : p.hasPid = true) (h : p.InFlight)
    (hs : pstep p m = some p1) : p1.InFlight := by
  have hs' := PStep.of_pstep hs
  rcases h with h | h | ⟨hfd, tag, hq⟩
  · exact .inl (hs'.mono.2.2.2.2 h)
  · exact .inr (.inl (hs'.mono.1 h))
  · -- the forwarder holds the REMOVE: it can hand it to the PullID stage, which then returns, or leave on cancel
    cases hs' with
    | pushFw _ _ _ _ hq' | xferEF _ _ _ _ _ _ hq' | fwExitIn _ hq' => rw [hq] at hq'; cases hq'
    | consumeFw _ _ hp => rw [hpid] at hp; cases hp
    | xferFP m r hq' =>
      rw [hq] at hq'
      cases hq'
      exact .inl (by simp [pidRecv_eq, Msg.remove])
    | fwExitCtx _ _ hc => exact .inr (.inl hc)
    | cancel => exact .inr (.inl rfl)
    | pidExitIn | pidExitCtx => exact .inl rfl
    | consumePid | closeIn | exExit => exact .inr (.inr ⟨hfd, tag, hq⟩)
    | pushEx => exact .inr (.inr ⟨by simpa [exRecv_eq] using hfd, tag, by simpa [exRecv_eq] using hq⟩)

/-- once a REMOVE of the watched item has been handed to the subscription, it stays in flight or has ended it -/
def LFlight (c : LConfig) : Prop :=
  c.p.Plain ∧ (c.removed = true → c.subscribed = true) ∧ (c.removed = true → c.p.InFlight)

theorem lflight_step {c c' : LConfig} {m : LMove} (h : LFlight c) (hc : LStep c m c') : LFlight c' := by
  obtain ⟨hpl, hsb, hf⟩ := h
  cases hc with
  | sub hsub => exact ⟨hpl, fun _ => rfl, fun hr => by rw [hsb hr] at hsub; cases hsub⟩
  | upd _ p' _ hp | other _ p' _ _ hp | pipe _ p' _ _ hp =>
    exact ⟨plain_step hpl hp, hsb, fun hr => inFlight_step hpl.2.1 (hf hr) hp⟩
  | del p' hpr hsub hp =>
    refine ⟨plain_step hpl hp, fun _ => hsub, fun _ => ?_⟩
    -- a backpressure forwarder takes the event into its (empty) hand
    cases PStep.of_pstep hp with
    | pushEx _ _ hex => rw [hpl.1] at hex; cases hex
    | pushFw _ _ _ hd => simp [PConfig.InFlight, fwRecv_eq, hpl.2.2, hd]
  | _ => exact ⟨hpl, hsb, hf⟩

theorem lflight_run (c : LConfig) (sched : List LMove) : LFlight c → LFlight (lrun c sched) :=
  foldl_getD_induct (step := lstep) sched fun _ _ _ _ h hs => lflight_step h (.of_lstep hs)

end ScVerif.C10
