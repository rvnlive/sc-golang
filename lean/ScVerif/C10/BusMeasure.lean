import ScVerif.C10.BusInv
/-! Termination measure of one listener's shutdown at bus level. -/
namespace ScVerif.C10

/-- remaining steps of the goroutine `go func(){ <-ctx.Done(); l.stop() }` -/
def wsteps : WPc → Nat
  | .none => 7 | .await => 6 | .enter => 5 | .wait => 4 | .locked => 3 | .closing => 2 | .unlock => 1 | .done => 0

/-- steps a sender that holds a read lock still needs before it has released it: `select`, `RUnlock` -/
def left (s : Sender) : Nat := match s.pc with | .rlocked => 2 | _ => 1

theorem left_pos (s : Sender) : 0 < left s := by unfold left; split <;> omega

theorem left_eq_one {S : Sender} (h : S.pc ≠ .rlocked) : left S = 1 := by
  unfold left
  split
  · contradiction
  · rfl

theorem left_le {S S' : Sender} (h : S'.pc ≠ .rlocked) : left S' ≤ left S :=
  left_eq_one h ▸ left_pos S

/-- total number of steps the readers of `l` need before `l.m` is free -/
def rsum (c : Config) (l : Nat) : Nat := ((c.ls l).readers.map fun t => left (c.ss t)).sum

theorem sum_map_sublist_le {xs' xs : List Nat} {f g : Nat → Nat} (hs : xs'.Sublist xs)
    (h : ∀ x, x ∈ xs' → g x ≤ f x) : (xs'.map g).sum ≤ (xs.map f).sum := by
  induction hs with
  | slnil => exact Nat.le_refl _
  | cons a _ ih =>
    have := ih h
    simp only [List.map_cons, List.sum_cons]
    omega
  | cons_cons a _ ih =>
    have := h a (by simp)
    have := ih fun x hx => h x (by simp [hx])
    simp only [List.map_cons, List.sum_cons]
    omega

/-- strict if `t` is dropped (`hpos`) or kept with `g t < f t` -/
theorem sum_map_sublist_lt {xs' xs : List Nat} {f g : Nat → Nat} {t : Nat} (hs : xs'.Sublist xs)
    (h : ∀ x, x ∈ xs' → g x ≤ f x) (ht : t ∈ xs) (hpos : 0 < f t) (hlt : t ∈ xs' → g t < f t) :
    (xs'.map g).sum < (xs.map f).sum := by
  induction hs with
  | slnil => cases ht
  | cons a hs0 ih =>
    simp only [List.map_cons, List.sum_cons]
    rcases List.mem_cons.1 ht with rfl | hm
    · have := sum_map_sublist_le hs0 h
      omega
    · have := ih h hm hlt
      omega
  | cons_cons a hs0 ih =>
    have hle := sum_map_sublist_le hs0 fun x hx => h x (by simp [hx])
    have := h a (by simp)
    simp only [List.map_cons, List.sum_cons]
    by_cases hat : a = t
    · have := hlt (by simp [hat])
      subst hat
      omega
    · have := ih (fun x hx => h x (by simp [hx])) ((List.mem_cons.1 ht).resolve_left (Ne.symm hat))
        fun hx => hlt (by simp [hx])
      omega

theorem rsum_lt {c c' : Config} {l t : Nat} (hr : (c'.ls l).readers.Sublist (c.ls l).readers)
    (ht : t ∈ (c.ls l).readers) (hlt : t ∈ (c'.ls l).readers → left (c'.ss t) < left (c.ss t))
    (hs : ∀ x, x ≠ t → c'.ss x = c.ss x) : rsum c' l < rsum c l := by
  refine sum_map_sublist_lt hr (fun x hx => ?_) ht (left_pos _) hlt
  by_cases hxt : x = t
  · exact hxt ▸ Nat.le_of_lt (hlt (hxt ▸ hx))
  · rw [hs x hxt]
    exact Nat.le_refl _

theorem Step.readers_sublist {c c' : Config} {m : Move} (hs : Step c m c') {l : Nat} (hw : (c.ls l).wWait = true) :
    (c'.ls l).readers.Sublist (c.ls l).readers := by
  cases hs with
  | cancelSend | sSnapshot | sListenCancelled | sSendCancelled | sFinishGc | sFinish | sCollect
  | sDeliverPanic => exact .refl _
  | sAcquire t' l' r hrest hpc hw' =>
    refine Config.setL_ind (P := fun L => L.readers.Sublist (c.ls l).readers) (fun hl => ?_) fun _ => .refl _
    rw [← hl, hw] at hw'
    cases hw'
  | sReleaseAbort | sRelease =>
    exact Config.setL_ind (P := fun L => L.readers.Sublist (c.ls l).readers) (fun hl => hl ▸ List.filter_sublist)
      fun _ => .refl _
  | _ =>
    refine Config.setL_stable (P := fun L => L.readers.Sublist (c.ls l).readers) ?_ l (.refl _)
    exact id

theorem Step.left_mono {c c' : Config} {m : Move} (hs : Step c m c') (t : Nat) (h : (c.ss t).pc ≠ .loop) :
    left (c'.ss t) ≤ left (c.ss t) := by
  cases hs with
  | cancelSend =>
    exact Config.setS_ind (P := fun S => left S ≤ left (c.ss t)) (fun ht => ht ▸ Nat.le_refl _) fun _ => Nat.le_refl _
  | sAcquire t' l' r hrest hpc =>
    exact Config.setS_ind (P := fun S => left S ≤ left (c.ss t)) (fun ht => absurd (ht ▸ hpc) h) fun _ => Nat.le_refl _
  | sSnapshot | sListenCancelled | sSendCancelled | sFinishGc | sFinish | sCollect | sDeliverPanic | sDeliver
  | sReleaseAbort | sRelease =>
    exact Config.setS_ind (P := fun S => left S ≤ left (c.ss t)) (fun _ => left_le (by simp)) fun _ => Nat.le_refl _
  | _ => exact Nat.le_refl _

theorem rsum_step_le {c c' : Config} {m : Move} {l : Nat} (hI : LockInv c) (hw : (c.ls l).wpc = .wait)
    (hs : step c m = some c') : rsum c' l ≤ rsum c l := by
  have hsub := (Step.of_step hs).readers_sublist (l := l) (by rw [hI.wait l, hw]; rfl)
  refine sum_map_sublist_le hsub fun t ht => (Step.of_step hs).left_mono t ?_
  -- a reader is past `RLock`
  rcases ((hI.readers t l).1 (hsub.subset ht)).1 with h | ⟨o, h⟩ <;> simp [h]

/-- is `m` a step of sender `t` inside `listener.send` (after `RLock`): its `select` or its `RUnlock` -/
def readerMove (t : Nat) (m : Move) : Bool :=
  m = .sDeliver t || m = .sListenCancelled t || m = .sSendCancelled t || m = .sRelease t

theorem rsum_step_lt {c c' : Config} {m : Move} {l t : Nat} (hI : LockInv c) (ht : t ∈ (c.ls l).readers)
    (hm : readerMove t m = true) (hs : step c m = some c') : rsum c' l < rsum c l := by
  obtain ⟨_, hhead⟩ := (hI.readers t l).1 ht
  have hl : ∀ {l' r}, (c.ss t).rest = l' :: r → l' = l := fun h => by rw [h] at hhead; simpa using hhead
  cases Step.of_step hs with
  | sDeliverPanic t' l' r hrest hpc | sListenCancelled t' l' r hrest hpc | sSendCancelled t' l' r hrest hpc =>
    -- a `select` outcome: only the sender's own record changes, and it leaves `rlocked`
    obtain rfl : t' = t := by simpa [readerMove] using hm
    exact rsum_lt (.refl _) ht (fun _ => by simp [left, hpc]) fun x hx => by
      simp [upd_apply, hx]
  | sDeliver t' l' r hrest hpc =>
    obtain rfl : t' = t := by simpa [readerMove] using hm
    cases hl hrest
    exact rsum_lt (by simp) ht (fun _ => by simp [left, hpc])
      fun x hx => by simp [upd_apply, hx]
  | sReleaseAbort t' l' r hrest | sRelease t' l' r o hrest =>
    obtain rfl : t' = t := by simpa [readerMove] using hm
    cases hl hrest
    refine rsum_lt ?_ ht (fun h => ?_) fun x hx => by simp [upd_apply, hx]
    · simp
    · simp at h
  | _ => simp [readerMove] at hm

end ScVerif.C10
