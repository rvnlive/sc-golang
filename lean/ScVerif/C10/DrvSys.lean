import ScVerif.Base.Line
import ScVerif.C10.Sys
/-!
Driver side of the K4 tie for the forwarding goroutines: the COMPOSED model (`Sys.lean`, one listener =
one real `Value.Pull` / `Collection.Pull` / `PullID` subscription, one sender per write) run as an
acceptor.  Everything free-runs between two macro moves of the harness (`write`, `recv`, `cancel`); the
observation is: how many goroutines of the subscription are alive, which writers are still blocked, what
the consumer has received, whether it saw the close.  I/O glue, nothing proved about it.
-/
namespace ScVerif.C10

open ScVerif.Line

structure HSys where
  s : Sys
  pay : Nat → Msg        -- payload of sender t's single event
  icpt : Nat → Nat := id -- the collection's id interceptor
  nS : Nat
  kinds : Bool := false  -- the consumer sees change types (a `Collection.Pull`): the observation lists them
  want : Bool := false   -- the consumer is blocked in a receive
  sawClose : Bool := false

def HSys.payload (h : HSys) : Ev → Msg := fun e => h.pay e.sender

def showTags (ms : List Msg) : String := ",".intercalate (ms.map fun m => toString m.tag)

def kindLetter : Kind → String
  | .add => "a" | .update => "u" | .remove => "r" | .replace => "p"

def parseKind? : String → Option Kind
  | "a" => some .add | "u" => some .update | "r" => some .remove | "p" => some .replace | _ => none

def showKindTags (ms : List Msg) : String := ",".intercalate (ms.map fun m => kindLetter m.kind ++ toString m.tag)

/-- live goroutines of the subscription -/
def liveCount (h : HSys) : Nat :=
  let L := h.s.bus.ls 0
  let p := h.s.pipe 0
  (if L.wpc = .none ∨ L.wpc = .done then 0 else 1) + (if p.hasEx ∧ p.exDone = false then 1 else 0) +
  (if p.fwDone = false then 1 else 0) + (if p.hasPid ∧ p.pidDone = false then 1 else 0)

def sobs (h : HSys) : String :=
  let ws := String.join ((List.range h.nS).map fun t =>
    let S := h.s.bus.ss t
    if S.pc = .idle then (if S.results.isEmpty then "-" else "d") else "b")
  let pend := if h.want then "?" else ""
  let cl := if h.sawClose then "x" else ""
  s!"G={liveCount h};W={ws};C=[{if h.kinds then showKindTags (h.s.pipe 0).out else showTags (h.s.pipe 0).out}]{pend}{cl}"

def sfull (h : HSys) : String :=
  let ss := (List.range h.nS).map fun t =>
    let S := h.s.bus.ss t
    let pc := match S.pc with
      | .idle => "i" | .loop => "l" | .rlocked => "r" | .selected .delivered => "sd"
      | .selected .listenCancelled => "sl" | .selected .sendCancelled => "ss" | .gc => "g"
    s!"{pc}/{S.rest.length}/{S.results.length}/{S.needGc}"
  let L := h.s.bus.ls 0
  let p := h.s.pipe 0
  let w := match L.wpc with
    | .none => "n" | .await => "a" | .enter => "e" | .wait => "w" | .locked => "L" | .closing => "C"
    | .unlock => "U" | .done => "d"
  sobs h ++ "#" ++ " ".intercalate ss ++
    s!"#{w}/{L.cancelled}/{L.closed}/{L.isNil}/{L.readers.length}/{h.s.bus.bus.length}" ++
    s!"#{p.cancelled}/{p.inClosed}/{showTags p.exQ}/{p.exDone}/{showTags p.fwQ}/{p.fwDone}/{showTags p.pidQ}/{p.pidDone}"

def sysMoves (h : HSys) : List SMove :=
  let sm := (List.range h.nS).flatMap fun t =>
    match (h.s.bus.ss t).pc with
    | .loop => if (h.s.bus.ss t).rest = [] then [SMove.bus (.sFinish t)] else [SMove.bus (.sAcquire t)]
    | .rlocked => [SMove.deliver t, .bus (.sListenCancelled t), .bus (.sSendCancelled t)]
    | .selected _ => [SMove.bus (.sRelease t)]
    | .gc => [SMove.bus (.sCollect t)]
    | .idle => []
  let wm := match (h.s.bus.ls 0).wpc with
    | .await => [SMove.bus (.wAwake 0)]
    | .enter => [SMove.bus (.wLockReq 0)]
    | .wait => [SMove.bus (.wLockAcq 0)]
    | .locked => [SMove.close 0]
    | .closing => [SMove.bus (.wNil 0)]
    | .unlock => [SMove.bus (.wUnlock 0)]
    | _ => []
  let pm := [PMove.xferEF, .xferFP, .exExit, .fwExitIn, .fwExitCtx, .pidExitIn, .pidExitCtx].map (SMove.pipe 0)
  sm ++ wm ++ pm ++ (if h.want then [SMove.pipe 0 .consume] else [])

/-- a pending receive on a closed channel returns `!ok` -/
def normalise (h : HSys) : HSys :=
  if h.want ∧ (h.s.pipe 0).outClosed ∧
      (if (h.s.pipe 0).hasPid then (h.s.pipe 0).pidQ = [] else (h.s.pipe 0).fwQ = []) then
    { h with want := false, sawClose := true }
  else h

def ssuccs (h : HSys) : List HSys :=
  (sysMoves h).filterMap fun m =>
    (sstep h.payload h.s m).map fun s' =>
      match m with
      | .pipe _ .consume => normalise { h with s := s', want := false }
      | _ => normalise { h with s := s' }

def ssettle : Nat → List HSys → List String → List HSys → List HSys
  | 0, _, _, done => done
  | _, [], _, done => done
  | fuel + 1, h :: work, seen, done =>
    let key := sfull h
    if seen.contains key then ssettle fuel work seen done
    else
      match ssuccs h with
      | [] => ssettle fuel work (key :: seen) (h :: done)
      | ss => ssettle fuel (ss ++ work) (key :: seen) done

def parseMsgs (s : String) : Option (List Msg) :=
  if s = "-" then some [] else (s.splitOn ",").mapM fun x => (parseNat? x).map fun id => (⟨id, .add, 0⟩ : Msg)

/-- the closed family of named id interceptors shared with the harness (which numbers the spellings of item
`k` as `4k … 4k+3`, the canonical one first) -/
def parseIcpt? : String → Option (Nat → Nat)
  | "none" => some id
  | "fold4" => some fun n => n - n % 4
  | _ => none

/-- `pinit hasEx exMerge hasPid icpt target seeds nS pre kinds`: `target` is the id as the subscriber spells
it, `seeds` are stored ids (seed values are ADD changes); `pre` = the context is already cancelled when the
subscription is made; `kinds` = the consumer reports change types -/
def sInit : List String → Option HSys
  | [hasEx, exMerge, hasPid, icpt, target, seeds, nS, pre, kinds] => do
    let hasEx ← parseBool? hasEx
    let exMerge ← parseBool? exMerge
    let hasPid ← parseBool? hasPid
    let icpt ← parseIcpt? icpt
    let target ← parseNat? target
    let seeds ← parseMsgs seeds
    let nS ← parseNat? nS
    let pre ← parseBool? pre
    let kinds ← parseBool? kinds
    let p : PConfig := { hasEx := hasEx, exMerge := exMerge, hasPid := hasPid, target := pullIDTarget icpt target,
                         fixed := true, keep := fun _ => true, fwQ := seeds }
    let s0 : Sys := ⟨init fun _ => 1, fun _ => p⟩
    let s1 := srun (fun _ => ⟨0, .update, 0⟩) s0
      ((if pre then [SMove.cancel 0] else []) ++ [.bus (.lSpawn 0), .bus (.lRegister 0)])
    some { s := s1, pay := fun _ => ⟨0, .update, 0⟩, icpt := icpt, nS := nS, kinds := kinds }
  | _ => none

def sMacro (h : HSys) : List String → Option HSys
  | ["write", t, id, rm, tag] => do
    let t ← parseNat? t
    let id ← parseNat? id
    let rm ← parseKind? rm
    let tag ← parseNat? tag
    let h1 := { h with pay := upd h.pay t (changeOf h.icpt id rm tag) }
    (sstep h1.payload h1.s (.bus (.sSnapshot t))).map fun s' => { h1 with s := s' }
  | ["recv"] =>
    if h.want ∨ h.sawClose then none else some (normalise { h with want := true })
  | ["cancel"] => (sstep h.payload h.s (.cancel 0)).map fun s' => { h with s := s' }
  | _ => none

def sDedupObs (hs : List HSys) : List String :=
  hs.foldl (fun acc h => let o := sobs h; if acc.contains o then acc else acc ++ [o]) []

/-- `pop <observed> <macro…>` on a frontier -/
def sHandle (fr : List HSys) (observed : String) (mac : List String) : List HSys × String :=
  let next := ssettle 40000 (fr.filterMap fun h => sMacro h mac) [] []
  if next.isEmpty then (fr, "!bad-op")
  else
    let keep := next.filter fun h => sobs h == observed
    if keep.isEmpty then (next, "no " ++ "|".intercalate (sDedupObs next))
    else (keep, "ok " ++ observed)

end ScVerif.C10
