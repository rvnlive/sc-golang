import ScVerif.C10.Pipe
/-!
C10 — list lemmas about `mergeQ` (`mergeCollectionExcess`'s queue) seen from ONE item `t`: what the queue holds for
`t` (`ent`), and that it holds at most one change of it.
-/
namespace ScVerif.C10

/-- the queued change of item `t`, if any -/
def ent (t : Nat) (q : List Msg) : Option Msg := q.find? fun x => x.id = t
/-- number of queued changes of item `t` -/
def cnt (t : Nat) (q : List Msg) : Nat := q.countP fun x => x.id = t

/-- the events about item `t` in any list of messages: of the queue (`ent` is its head, `cnt` its length), of the
history (`PipeFlow.lean`) -/
def onItem (t : Nat) (l : List Msg) : List Msg := l.filter fun x => x.id = t

theorem ent_eq (t : Nat) (q : List Msg) : ent t q = (onItem t q).head? := (List.head?_filter ..).symm
theorem cnt_eq (t : Nat) (q : List Msg) : cnt t q = (onItem t q).length := List.countP_eq_length_filter

theorem onItem_append (t : Nat) (a b : List Msg) : onItem t (a ++ b) = onItem t a ++ onItem t b := by
  simp [onItem]

-- stated with `!decide (x.id = u)`, simp's normal form of `mergeQ`'s `x.id ≠ m.id`
theorem onItem_filter_ne (t u : Nat) (q : List Msg) :
    onItem t (q.filter fun x => !decide (x.id = u)) = if u = t then [] else onItem t q := by
  simp only [onItem, List.filter_filter]
  split
  · subst u
    simp
  · rename_i hne
    refine List.filter_congr fun x _ => ?_
    by_cases hx : x.id = t <;> simp [hx, Ne.symm hne]

/-- `mergeQ` takes EVERY change of the id out, so its effect on one item's part needs no hypothesis on the queue -/
theorem onItem_mergeQ (t : Nat) (q : List Msg) (m : Msg) :
    onItem t (mergeQ q m) =
      if m.id = t then
        (match (onItem t q).head? with
         | none => [m]
         | some old => ((mergeKind old.kind m.kind).map fun k => { m with kind := k }).toList)
      else onItem t q := by
  have hm : ∀ x : Msg, x.id = m.id → onItem t [x] = if m.id = t then [x] else [] := fun x hx => by
    simp only [onItem, List.filter_cons, List.filter_nil, decide_eq_true_eq, hx]
  have hf : (q.find? fun x => x.id = m.id) = (onItem m.id q).head? := ent_eq m.id q
  unfold mergeQ
  rw [hf]
  by_cases ht : m.id = t
  · subst t
    rw [if_pos rfl]
    cases hh : (onItem m.id q).head? with
    | none => simp [onItem_append, List.head?_eq_none_iff.1 hh, hm m rfl]
    | some old =>
      cases hk : mergeKind old.kind m.kind <;> simp [hk, onItem_append, onItem_filter_ne, hm]
  · rw [if_neg ht]
    cases (onItem m.id q).head? with
    | none => simp [onItem_append, hm m rfl, ht]
    | some old =>
      cases hk : mergeKind old.kind m.kind <;> simp [hk, onItem_append, onItem_filter_ne, hm, ht]

@[simp] theorem cnt_nil (t : Nat) : cnt t [] = 0 := rfl

theorem cnt_singleton_le (t : Nat) (m : Msg) : cnt t [m] ≤ 1 := by
  simp only [cnt, List.countP_cons, List.countP_nil]
  split <;> omega

theorem cnt_tail_le (t : Nat) (h : Msg) (r : List Msg) : cnt t r ≤ cnt t (h :: r) := by
  simp only [cnt, List.countP_cons]; omega

theorem entKind_mergeQ (t : Nat) (q : List Msg) (m : Msg) :
    (ent t (mergeQ q m)).map (·.kind) =
      if m.id = t then ((ent t q).map (·.kind)).elim (some m.kind) (mergeKind · m.kind) else (ent t q).map (·.kind) := by
  simp only [ent_eq, onItem_mergeQ]
  split
  · cases (onItem t q).head? with
    | none => rfl
    | some old => cases hk : mergeKind old.kind m.kind <;> simp [hk]
  · rfl

theorem cnt_mergeQ_le {t : Nat} {q : List Msg} (m : Msg) (h : cnt t q ≤ 1) : cnt t (mergeQ q m) ≤ 1 := by
  rw [cnt_eq, onItem_mergeQ]
  split
  · cases (onItem t q).head? with
    | none => exact Nat.le_refl 1
    | some old => cases mergeKind old.kind m.kind <;> simp
  · exact cnt_eq t q ▸ h

theorem ent_pop (t : Nat) (h : Msg) (r : List Msg) (hc : cnt t (h :: r) ≤ 1) :
    (h.id = t → ent t (h :: r) = some h ∧ ent t r = none ∧ cnt t r = 0) ∧
    (h.id ≠ t → ent t r = ent t (h :: r) ∧ cnt t r ≤ 1) := by
  constructor
  · intro hid
    have : cnt t r = 0 := by simp only [cnt, List.countP_cons, hid, decide_true, if_true] at hc ⊢; omega
    refine ⟨by simp [ent, hid], ?_, this⟩
    rw [ent_eq, List.head?_eq_none_iff, ← List.length_eq_zero_iff, ← cnt_eq]
    exact this
  · intro hid
    refine ⟨by simp [ent, hid], ?_⟩
    simp only [cnt, List.countP_cons, hid, decide_false] at hc ⊢
    simpa using hc

end ScVerif.C10
