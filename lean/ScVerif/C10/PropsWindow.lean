import ScVerif.C10.WindowInv
import ScVerif.C10.PropsLate
/-!
# C10 — property theorems, part 6: the seed-and-register window of a subscription

"A single-item subscription also ends when the item is removed" rests on `Collection.onUpdate` taking the seed values
and registering the bus listener as ONE step with respect to writers.  `Window.lean` splits the step in two (`snap`,
`reg`) and models what makes them one: the collection's read lock, held from the snapshot until `bus.Listen` has
returned, which keeps `Collection.Update` / `Collection.Delete` out.  All theorems: every schedule, every pipeline
shape, every adapter shape.
-/
namespace ScVerif.C10

/-- REFINEMENT: with the lock, the state reached by any schedule of the split model is reached by a schedule of the atomic
model of `Late.lean` (`snap` maps to nothing, `reg` to `sub`, every other step to itself) — so every theorem of
`PropsLate` holds of the split model. -/
theorem C10_subscribe_under_read_lock_refines_atomic_step (sync uo : Bool) (p : PConfig) (sched : List WMove) :
    ∃ ls : List LMove, (wrun (winit true sync uo p) sched).l = lrun (linit sync uo p) ls :=
  (winv_run (linit sync uo p) sched (winit true sync uo p) rfl (winv_init true sync uo p) ⟨[], rfl⟩).2

/-- With the lock: a subscription that was SHOWN the item (its seed contained it) and whose item is gone has been handed a
REMOVE of it — no delete falls between the snapshot and the registration. -/
theorem C10_shown_then_removed_is_told (sync uo : Bool) (p : PConfig) (sched : List WMove) :
    let w := wrun (winit true sync uo p) sched
    w.l.subscribed = true → w.shown = true → w.l.present = false → w.l.removed = true :=
  (winv_run (linit sync uo p) sched (winit true sync uo p) rfl (winv_init true sync uo p) ⟨[], rfl⟩).1.told

/-- … and (backpressure pipeline) that REMOVE has ended the subscription, or the subscriber cancelled, or it sits in the
forwarder's hand next in line for the PullID stage. -/
theorem C10_shown_then_removed_ends_or_in_flight (sync uo : Bool) (p : PConfig) (hp : p.Plain) (sched : List WMove) :
    let w := wrun (winit true sync uo p) sched
    w.l.subscribed = true → w.shown = true → w.l.present = false → w.l.p.InFlight := by
  intro w hs hsh hg
  have hr : w.l.removed = true := C10_shown_then_removed_is_told sync uo p sched hs hsh hg
  obtain ⟨ls, hls⟩ := C10_subscribe_under_read_lock_refines_atomic_step sync uo p sched
  have := C10_adapter_remove_in_flight sync uo p hp ls
  simp only at this
  change w.l = _ at hls
  rw [← hls] at this
  exact this hr

/-- The lock is what does it.  Released before `bus.Listen` (the `defer c.mu.RUnlock()` moved into a helper that returns the
snapshot), there is a schedule — snapshot, delete, registration, the seed handed on and received — after which the
subscriber has been shown the item, the item is gone, no REMOVE was handed to the subscription, its channel is open, and
no step of its goroutines is enabled: it ends only if the subscriber cancels. -/
theorem C10_window_without_lock_misses_remove :
    ∃ (p : PConfig) (sched : List WMove), p.Plain ∧
      let w := wrun (winit false true false p) sched
      w.l.subscribed = true ∧ w.shown = true ∧ w.l.present = false ∧ w.l.removed = false ∧
      w.l.p.out = [⟨p.target, .add, 0⟩] ∧ w.l.p.outClosed = false ∧ w.l.p.cancelled = false ∧
      ∀ m : PMove, m ≠ .cancel → lstep w.l (.pipe m) = none := by
  refine ⟨{ hasEx := false, exMerge := false, hasPid := true, target := 7, fixed := true, keep := fun _ => true },
    [.snap, .mv .del, .reg, .mv (.pipe .xferFP), .mv (.pipe .consume)], ⟨rfl, rfl, fun _ => rfl⟩,
    rfl, rfl, rfl, rfl, rfl, rfl, rfl, ?_⟩
  intro m hm
  cases m <;> first | rfl | exact absurd rfl hm

/-- the lock at work: after the snapshot of a subscription that is not updates-only neither a delete nor an update nor a
write on another item is enabled; after the registration the delete hands its REMOVE to the subscription that was shown
the item -/
example :
    let p : PConfig := { hasEx := false, exMerge := false, hasPid := true, target := 7, fixed := true, keep := fun _ => true }
    let w := wrun (winit true true false p) [.snap]
    (wstep w (.mv .del)).isNone = true ∧ (wstep w (.mv (.upd 1))).isNone = true ∧
      (wstep w (.mv (.other ⟨3, .add, 1⟩))).isNone = true ∧
      (let w' := wrun w [.mv .del, .reg, .mv .ret, .mv (.pipe .xferFP), .mv .del]
       w'.l.subscribed = true ∧ w'.shown = true ∧ w'.l.present = false ∧ w'.l.removed = true ∧
         w'.l.p.fwQ = [⟨7, .remove, 0⟩]) := by decide

/-- an updates-only subscription takes no lock (and no seed): a delete inside its window goes through, the subscription was
shown nothing -/
example :
    let p : PConfig := { hasEx := false, exMerge := false, hasPid := true, target := 7, fixed := true, keep := fun _ => true }
    let w := wrun (winit true true true p) [.snap, .mv .del, .reg]
    w.l.subscribed = true ∧ w.l.present = false ∧ w.shown = false ∧ w.l.p.fwQ = [] := by decide

end ScVerif.C10
