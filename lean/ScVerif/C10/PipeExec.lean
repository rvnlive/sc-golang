import ScVerif.C10.PipeStep
/-!
C10 — strict executions of a pipeline (every move enabled), and the history they build up: the seed values, then
everything pushed into the first stage.  What a subscription hands to its user is stated relative to that history
(`PipeFlow.lean`); `pexec_induct` is the one induction behind those statements.
-/
namespace ScVerif.C10

def pexec (p : PConfig) : List PMove → Option PConfig
  | [] => some p
  | m :: ms => (pstep p m).bind fun p' => pexec p' ms

theorem pexec_append {c c' c'' : PConfig} {a b : List PMove} (h1 : pexec c a = some c') (h2 : pexec c' b = some c'') :
    pexec c (a ++ b) = some c'' := by
  induction a generalizing c with
  | nil => simp only [pexec, Option.some.injEq] at h1; subst h1; simpa using h2
  | cons m ms ih =>
    obtain ⟨c1, hs, h1⟩ := Option.bind_eq_some_iff.1 h1
    simp [pexec, hs, ih h1]

/-- the messages a pipeline schedule pushes into the first stage -/
def pushesOf : List PMove → List Msg
  | [] => []
  | .push m :: r => m :: pushesOf r
  | _ :: r => pushesOf r

theorem pushesOf_append (a b : List PMove) : pushesOf (a ++ b) = pushesOf a ++ pushesOf b := by
  induction a with
  | nil => rfl
  | cons m ms ih => cases m <;> simp [pushesOf, ih]

theorem pexec_induct {P : PConfig → List Msg → Prop}
    (hP : ∀ c m c' H, P c H → pstep c m = some c' → P c' (H ++ pushesOf [m])) {p c : PConfig} {ps : List PMove}
    {H : List Msg} (h0 : P p H) (h : pexec p ps = some c) : P c (H ++ pushesOf ps) := by
  induction ps generalizing p H with
  | nil => cases h; simpa [pushesOf] using h0
  | cons m ms ih =>
    obtain ⟨p1, hs, h⟩ := Option.bind_eq_some_iff.1 h
    rw [show pushesOf (m :: ms) = pushesOf [m] ++ pushesOf ms from pushesOf_append [m] ms, ← List.append_assoc]
    exact ih (hP p m p1 H h0 hs) h

theorem pexec_static {p c : PConfig} {ps : List PMove} (h : pexec p ps = some c) : p.SameShape c :=
  pexec_induct (P := fun c _ => p.SameShape c) (H := []) (fun _ _ _ _ h hs => h.trans (pstep_static hs))
    ⟨rfl, rfl, rfl, rfl, rfl, rfl⟩ h

end ScVerif.C10
