import ScVerif.C10.Late
/-!
C10 — the seed-and-register window of a subscription, and the collection's read lock.

`Collection.onUpdate` (behind `Collection.Pull`, hence `PullID` and every adapter on top):

    if !config.UpdatesOnly { c.mu.RLock(); defer c.mu.RUnlock(); res = c.itemSlice(config) }     -- `snap`
    ch := c.bus.Listen(ctx)                                                                         -- `reg`
    return ch, res                                                                                  -- (RUnlock)

`Late.lean` has this as ONE step (`sub`).  Here it is two, and what makes them one is in the model: between `snap`
and `reg` of a subscription that is not updates-only the read lock is held (`locked = true`, the code), and
`Collection.Update` / `Collection.Delete` of ANY item (they take `c.mu.Lock()`) are not enabled.  With
`locked = false` (the lock released before `Listen`: a `defer` that moved into a helper) writers run in the window.

`shown` is a ghost: the seed the subscription was given contained the item.
-/
namespace ScVerif.C10

structure WConfig where
  locked : Bool                          -- the read lock is held from the snapshot until the listener is registered
  snapped : Option (List Msg) := none    -- the seed taken by a subscription that has not registered its listener yet
  shown : Bool := false
  l : LConfig

inductive WMove
  | snap | reg | mv (m : LMove)

/-- a writer needs the collection's write lock -/
def WConfig.writersExcluded (w : WConfig) : Bool := w.locked && w.snapped.isSome && !w.l.uo

def wstep (w : WConfig) : WMove → Option WConfig
  | .snap =>
    if w.l.subscribed = false ∧ w.snapped = none then some { w with snapped := some w.l.seed } else none
  | .reg =>
    match w.snapped with
    | some s =>
      if w.l.subscribed = false then
        some { w with snapped := none, shown := !s.isEmpty, l := { w.l with subscribed := true, p := { w.l.p with fwQ := s } } }
      else none
    | none => none
  | .mv m =>
    match m with
    | .sub => none                          -- not a move of this model: `snap` ; `reg` stand for it
    | .upd tag => if w.writersExcluded then none else (lstep w.l (.upd tag)).map fun l' => { w with l := l' }
    | .del => if w.writersExcluded then none else (lstep w.l .del).map fun l' => { w with l := l' }
    | .other x => if w.writersExcluded then none else (lstep w.l (.other x)).map fun l' => { w with l := l' }
    | .ret => (lstep w.l .ret).map fun l' => { w with l := l' }
    | .pipe x => (lstep w.l (.pipe x)).map fun l' => { w with l := l' }

def wnext (w : WConfig) (m : WMove) : WConfig := (wstep w m).getD w
def wrun (w : WConfig) (sched : List WMove) : WConfig := sched.foldl wnext w

def winit (locked sync uo : Bool) (p : PConfig) : WConfig := { locked := locked, l := linit sync uo p }

end ScVerif.C10
