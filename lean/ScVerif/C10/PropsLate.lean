import ScVerif.C10.LateLossy
/-!
# C10 — property theorems, part 5: "a single-item subscription also ends when the item is removed", from the moment
# the subscribing call has returned

The single-item trait adapters (`metadatapb.Collection.PullMetadata`, `hailpb.Model.PullHail`,
`publicationpb.Model.PullPublication`, `vendingpb.Model.PullConsumable` / `PullStock`) on top of
`Collection.PullID`; model in `Late.lean`.  All of them make the `PullID` subscription before they return
(`sync = true`); the other shape (`sync = false`: subscription made by the goroutine the call starts) is kept in the
model and proved to miss a removal.  All theorems: every schedule of subscribing call, writers (updates, deletes and
re-adds of the watched item), pipeline goroutines, consumer and cancel.
-/
namespace ScVerif.C10

/-- A synchronous adapter: once the subscribing call has returned the subscription exists, and no REMOVE of the item
published after the return was sent to nobody — for every pipeline shape. -/
theorem C10_adapter_subscribes_before_return (uo : Bool) (p : PConfig) (sched : List LMove) :
    let c := lrun (linit true uo p) sched
    (c.returned = true → c.subscribed = true) ∧ c.missed = false :=
  lsync_run (linit true uo p) sched rfl ⟨fun h => by simp [linit] at h, rfl⟩

/-- … so a `Delete` of the item after the return hands its REMOVE to the subscription's pipeline (`removed`), where
`C10_pullid_ends_on_remove` takes over. -/
theorem C10_adapter_remove_after_return_reaches_subscription (uo : Bool) (p : PConfig) (sched : List LMove)
    (c' : LConfig) :
    let c := lrun (linit true uo p) sched
    c.returned = true → lstep c .del = some c' → c'.removed = true ∧ c'.missed = false := by
  intro c hr hs
  have hI := C10_adapter_subscribes_before_return uo p sched
  have hsub : c.subscribed = true := hI.1 hr
  have hmiss : c.missed = false := hI.2
  clear_value c
  cases LStep.of_lstep hs with
  | del => exact ⟨rfl, hmiss⟩
  | delUnsub _ hns => rw [hsub] at hns; cases hns

/-- End of a backpressure single-item subscription (any adapter shape): from the step in which a REMOVE of the item is
handed to the subscription on, the subscription has ended, or the subscriber has cancelled, or the REMOVE sits in the
forwarder's hand as the next thing the PullID stage will see — never dropped, overtaken or merged away.  `p.Plain`: the
forwarder's filter (`WithInclude`, the collection's equivalence) is ARBITRARY except that it never drops a REMOVE of the
watched item. -/
theorem C10_adapter_remove_in_flight (sync uo : Bool) (p : PConfig) (hp : p.Plain) (sched : List LMove) :
    let c := lrun (linit sync uo p) sched
    c.removed = true → c.p.InFlight :=
  (lflight_run (linit sync uo p) sched ⟨hp, fun h => by simp [linit] at h, fun h => by simp [linit] at h⟩).2.2

/-- … and while it sits there the subscription is not stuck: the PullID stage can take it — which closes the subscriber's
channel and cancels the inner Pull — or the subscriber still has an earlier change to receive. -/
theorem C10_in_flight_remove_progress (p : PConfig) (hpl : p.Plain) (hfix : p.fixed = true) (tag : Nat)
    (hpd : p.pidDone = false) (hfd : p.fwDone = false) (hq : p.fwQ = [⟨p.target, .remove, tag⟩]) :
    (∃ p', pstep p .xferFP = some p' ∧ p'.outClosed = true ∧ p'.cancelled = true) ∨ (pstep p .consume).isSome := by
  obtain ⟨_, hpid, _⟩ := hpl
  cases hpq : p.pidQ with
  | nil =>
    left
    refine ⟨_, by simp only [pstep, hq]; rw [if_pos ⟨hpid, hfd, hpd, hpq⟩], ?_, ?_⟩ <;>
      simp [pidRecv, Msg.remove, PConfig.outClosed, hpid, hfix]
  | cons m r =>
    right
    simp [pstep, hpid, hpq, hpd]

/-- The adapter shape before fix b83c31f (`for change := range collection.PullID(…)` inside the goroutine): there is a
schedule — the call returns, the item is deleted, only then the goroutine subscribes — after which the item is gone, the
REMOVE was sent to nobody, the subscription is live and idle, its channel open: it ends only if the subscriber cancels. -/
theorem C10_late_subscribe_misses_remove :
    ∃ (p : PConfig) (sched : List LMove), p.Plain ∧
      let c := lrun (linit false false p) sched
      c.returned = true ∧ c.present = false ∧ c.missed = true ∧ c.removed = false ∧ c.subscribed = true ∧
      c.p.outClosed = false ∧ c.p.cancelled = false ∧
      ∀ m : PMove, m ≠ .cancel → lstep c (.pipe m) = none := by
  refine ⟨{ hasEx := false, exMerge := false, hasPid := true, target := 7, fixed := true, keep := fun _ => true },
    [.ret, .del, .sub], ⟨rfl, rfl, fun _ => rfl⟩, rfl, rfl, rfl, rfl, rfl, rfl, rfl, ?_⟩
  intro m hm
  cases m <;> first | rfl | exact absurd rfl hm

/-- non-vacuity of the synchronous theorems: subscribe, return, delete — the REMOVE is in the forwarder's hand; one step of
the PullID stage later the channel is closed -/
example :
    let p : PConfig := { hasEx := false, exMerge := false, hasPid := true, target := 7, fixed := true, keep := fun _ => true }
    let c := lrun (linit true true p) [.sub, .ret, .del]
    c.returned = true ∧ c.removed = true ∧ c.missed = false ∧ c.p.fwQ = [⟨7, .remove, 0⟩] ∧
      (lrun c [.pipe .xferFP]).p.outClosed = true := by decide

/-- … and a synchronous adapter cannot return first: `ret` is not enabled before `sub` -/
example :
    let p : PConfig := { hasEx := false, exMerge := false, hasPid := true, target := 7, fixed := true, keep := fun _ => true }
    (lstep (linit true false p) .ret).isNone = true := by decide

/-- WITHOUT backpressure (`mergeCollectionExcess` in front of the forwarder, `mergeChanges` incl. ADD+REMOVE annihilation
and REMOVE+ADD = REPLACE): under every schedule of updates, deletes and re-adds of the item, changes of other items,
pipeline goroutines, subscriber and cancel — whenever the item is gone, the subscription has ended, or the subscriber
has cancelled, or the REMOVE is still on its way: queued in the merge stage, or in the forwarder's hand.  It is never
merged away (an ADD can only annihilate a REMOVE whose predecessor REMOVE already went downstream), dropped or overtaken. -/
theorem C10_lossy_single_item_remove_never_merged_away (sync uo fixed : Bool) (target : Nat) (sched : List LMove) :
    let c := lrun (lsubscribed sync uo target fixed) sched
    c.present = false →
      c.p.pidDone = true ∨ c.p.cancelled = true ∨
      (∃ m ∈ c.p.exQ, m.id = c.p.target ∧ m.kind = .remove) ∨ c.p.RemoveInHand :=
  -- `lsubscribed` is `lsubscribedK` at the pass-all filter, by `rfl`
  fun hgone => (llossy_run _ sched (llossy_initK sync uo target fixed (fun _ => true) fun _ => rfl)).gone hgone

/-- … under ANY include filter and ANY equivalence of the collection (`WithInclude`, `WithEquivalence`,
`WithMessageEquivalence`, `WithNoDuplicates`) that never drops a REMOVE of the watched item — as no comparer does that,
like `cmp.Equal`, does not relate a message to the absent new value of a REMOVE. -/
theorem C10_lossy_remove_never_lost_under_any_filter (sync uo fixed : Bool) (target : Nat) (keep : Msg → Bool)
    (hk : ∀ tag, keep ⟨target, .remove, tag⟩ = true) (sched : List LMove) :
    let c := lrun (lsubscribedK sync uo target fixed keep) sched
    c.present = false →
      c.p.pidDone = true ∨ c.p.cancelled = true ∨
      (∃ m ∈ c.p.exQ, m.id = c.p.target ∧ m.kind = .remove) ∨ c.p.RemoveInHand :=
  fun hgone => (llossy_run _ sched (llossy_initK sync uo target fixed keep hk)).gone hgone

/-- The hypothesis is what the code must provide.  An equivalence that DOES relate the old value of a REMOVE to its absent
new value (a comparer wrapper that reads nil as the empty message, on an item whose view is empty) makes the forwarder
drop the REMOVE: after subscribe, return, the seed received, delete, the REMOVE was handed to the subscription and is
nowhere, the channel open, not cancelled, and no step of the subscription's goroutines enabled. -/
theorem C10_equivalence_relating_remove_to_nil_never_ends :
    ∃ (p : PConfig) (sched : List LMove), p.hasEx = false ∧ p.hasPid = true ∧
      (∀ m, m.kind ≠ .remove → p.keep m = true) ∧
      let c := lrun (linit true false p) sched
      c.returned = true ∧ c.present = false ∧ c.removed = true ∧ c.missed = false ∧
      c.p.fwQ = [] ∧ c.p.pidQ = [] ∧ c.p.out = [⟨p.target, .add, 0⟩] ∧ c.p.outClosed = false ∧ c.p.cancelled = false ∧
      ∀ m : PMove, m ≠ .cancel → lstep c (.pipe m) = none := by
  refine ⟨{ hasEx := false, exMerge := false, hasPid := true, target := 7, fixed := true,
            keep := fun m => match m.kind with | .remove => false | _ => true },
    [.sub, .ret, .pipe .xferFP, .pipe .consume, .del], rfl, rfl, ?_, rfl, rfl, rfl, rfl, rfl, rfl, rfl, rfl, rfl, ?_⟩
  · intro m hm
    cases hk : m.kind <;> simp_all
  · intro m hm
    cases m <;> first | rfl | exact absurd rfl hm

/-- … and a queued change does not sit there for ever: while the merge stage holds something and nothing has ended, the
merge stage can hand over, the PullID stage can take the forwarder's change, or the subscriber has a change to receive. -/
theorem C10_lossy_queued_change_progress (p : PConfig) (m : Msg) (r : List Msg) (hex : p.hasEx = true)
    (hpid : p.hasPid = true) (hq : p.exQ = m :: r) (hxd : p.exDone = false) (hfd : p.fwDone = false)
    (hpd : p.pidDone = false) :
    (pstep p .xferEF).isSome ∨ (pstep p .xferFP).isSome ∨ (pstep p .consume).isSome := by
  cases hf : p.fwQ with
  | nil => left; simp [pstep, hq, hex, hxd, hfd, hf]
  | cons x xs =>
    cases hpq : p.pidQ with
    | nil => right; left; simp [pstep, hf, hpid, hfd, hpd, hpq]
    | cons y ys => right; right; simp [pstep, hpid, hpq, hpd]

/-- non-vacuity: an update and the delete are merged into one REMOVE behind the undelivered seed; the item re-added before
the merge stage was drained makes it a REPLACE (the subscription goes on, the item exists) -/
example :
    let c := lrun (lsubscribed true false 7 true) [.upd 1, .other ⟨3, .add, 5⟩, .del]
    c.present = false ∧ c.p.exQ = [⟨3, .add, 5⟩, ⟨7, .remove, 0⟩] ∧ c.p.fwQ = [⟨7, .add, 0⟩] ∧
      (lrun c [.upd 2]).p.exQ = [⟨3, .add, 5⟩, ⟨7, .replace, 2⟩] ∧ (lrun c [.upd 2]).present = true := by decide

/-- The adapter's own channel follows: once the subscription underneath has ended (its channel is closed and drained) the
adapter goroutine returns, closing the channel it gave to the subscriber, or still offers its last change, which the
subscriber can receive. -/
theorem C10_adapter_ends_when_subscription_ends (a : AConfig) (hd : a.aDone = false) (hc : a.p.outClosed = true)
    (hq : if a.p.hasPid then a.p.pidQ = [] else a.p.fwQ = []) :
    (∃ a', astep a .aExitIn = some a' ∧ a'.aDone = true) ∨ (astep a .aSend).isSome := by
  cases hh : a.hold with
  | false =>
    left
    exact ⟨{ a with aDone := true }, by simp only [astep]; rw [if_pos ⟨hd, hh, hc, hq⟩], rfl⟩
  | true => right; simp [astep, hd, hh]

end ScVerif.C10
