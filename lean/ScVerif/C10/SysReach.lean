import ScVerif.C10.SysRefine
import ScVerif.C10.BusReach
import ScVerif.C10.PipeInv
/-! Invariants of the composed model along every schedule. -/
namespace ScVerif.C10

/-- the bus half is a reachable bus state (so `Inv` holds of it) and satisfies `WatcherInv`, which `Inv` does not include;
the halves are linked; each pipeline is `Causal`.  `ex` repeats a clause of `causal` and is read by nothing. -/
structure SInv (s : Sys) : Prop where
  reach : Reachable s.bus
  watcher : WatcherInv s.bus
  link : Link s
  ex : ∀ l, (s.pipe l).ExOrder
  causal : ∀ l, (s.pipe l).Causal

theorem sinv_init (todo : Nat → Nat) (pipes : Nat → PConfig) (hf : ∀ l, (pipes l).Fresh) :
    SInv ⟨init todo, pipes⟩ := by
  refine ⟨⟨todo, [], rfl⟩, watcherInv_init todo, ?_, fun l h => by simp [(hf l).exDone] at h, fun l => ?_⟩
  · constructor <;> intro l
    · simp [init, (hf l).cancelled]
    · simp [init, (hf l).inClosed]
    · simp [init]
    · simp [init]
  · -- nothing has ended yet
    simp [PConfig.Causal, (hf l).inClosed, (hf l).exDone, (hf l).fwDone, (hf l).pidDone]

theorem sinv_step {pl : Ev → Msg} {s s' : Sys} {m : SMove} (h : SInv s) (hs : sstep pl s m = some s') : SInv s' := by
  obtain ⟨sched, hb⟩ := sstep_bus_run hs
  have hcausal : ∀ l, (s'.pipe l).Causal := fun l => by
    rcases sstep_pipe hs l with he | ⟨pm, hp⟩
    · rw [he]
      exact h.causal l
    · exact causal_step (h.causal l) hp
  refine ⟨?_, ?_, link_step h.reach.inv.lock h.watcher h.link hs, fun l => (hcausal l).2.1, hcausal⟩
  · rw [hb]
    exact h.reach.run sched
  · rw [hb]
    exact watcherInv_run sched h.watcher

theorem sinv_run {pl : Ev → Msg} {s : Sys} (sched : List SMove) (h : SInv s) : SInv (srun pl s sched) :=
  foldl_getD_induct (step := sstep pl) sched (fun _ _ _ _ => sinv_step) h

theorem SReachable.sinv {pl : Ev → Msg} {s : Sys} (h : SReachable pl s) : SInv s := by
  obtain ⟨todo, pipes, sched, hf, rfl⟩ := h
  exact sinv_run sched (sinv_init todo pipes hf)

theorem srun_append (pl : Ev → Msg) (s : Sys) (a b : List SMove) :
    srun pl s (a ++ b) = srun pl (srun pl s a) b := by
  simp [srun, List.foldl_append]

theorem SReachable.srun {pl : Ev → Msg} {s : Sys} (h : SReachable pl s) (sched : List SMove) :
    SReachable pl (srun pl s sched) := by
  obtain ⟨todo, pipes, s0, hf, rfl⟩ := h
  exact ⟨todo, pipes, s0 ++ sched, hf, (srun_append pl _ s0 sched).symm⟩

/-- nothing of a subscription ends by itself: while its context is live the bus channel is open and every goroutine
started for it is running (the PullID goroutine: if `fixed`) -/
theorem SInv.live {s : Sys} (h : SInv s) {l : Nat} (hc : (s.bus.ls l).cancelled = false) :
    (s.bus.ls l).closed = false ∧ (s.bus.ls l).isNil = false ∧ (s.pipe l).inClosed = false ∧
      (s.pipe l).exDone = false ∧ (s.pipe l).fwDone = false ∧ ((s.pipe l).fixed = true → (s.pipe l).pidDone = false) := by
  have hI := h.reach.inv.lock
  -- the watcher is still at (or before) `<-ctx.Done()`
  have hw : (s.bus.ls l).wpc = .none ∨ (s.bus.ls l).wpc = .await := by
    have := h.watcher l
    cases hwp : (s.bus.ls l).wpc <;> simp_all
  have hcl : (s.bus.ls l).closed = false := by rw [hI.closed l]; rcases hw with hw | hw <;> rw [hw] <;> rfl
  have hnil : (s.bus.ls l).isNil = false := by rw [hI.nil l]; rcases hw with hw | hw <;> rw [hw] <;> rfl
  obtain ⟨c1, c2, c3, c4⟩ := h.causal l
  rw [h.link.cancelled l, hc] at c1 c3 c4
  have hin : (s.pipe l).inClosed = false := by rw [h.link.closed l, hcl]
  rw [hin] at c2
  exact ⟨hcl, hnil, hin, by simpa using c2, by simpa using c3, fun hf => by simpa using c4 hf⟩

end ScVerif.C10
