import ScVerif.C12.LinStep
/-! Progress in `Lin.lean`: every own step lowers a thread's rank and nothing ever waits for another thread. -/
namespace ScVerif.C12

/-- Steps a thread still needs at most before the operation in flight is over. -/
def LPC.rank : LPC → Nat
  | .idle => 0
  | .notify _ _ => 1
  | .insert _ _ => 2
  | .factory _ => 3
  | .fallback _ => 4

/-- Steps a thread still needs at most to finish its program (an operation takes at most five). -/
def LThread.rank (th : LThread) : Nat := 5 * th.prog.length + th.pc.rank

theorem rank_zero_iff (th : LThread) : th.rank = 0 ↔ th.prog = [] ∧ th.pc = .idle := by
  unfold LThread.rank
  constructor
  · intro h
    have h1 : th.prog.length = 0 := by omega
    have h2 : th.pc.rank = 0 := by omega
    refine ⟨List.eq_nil_of_length_eq_zero h1, ?_⟩
    cases hp : th.pc <;> simp [hp, LPC.rank] at h2 ⊢
  · rintro ⟨h1, h2⟩
    simp [h1, h2, LPC.rank]

theorem acts_rank {cfg : Cfg} {s : St} {th : LThread} {e : Effect} (h : Acts cfg s th e) :
    e.th.rank + 1 ≤ th.rank := by
  cases h <;> simp [LThread.rank, LPC.rank] <;> omega

/-- A thread that is not finished can always take a step (nothing ever waits for another thread). -/
theorem action_enabled (cfg : Cfg) (s : St) (th : LThread) (h : th.rank ≠ 0) :
    ∃ e, action cfg s th = some e := by
  obtain ⟨prog, pc, rs, sn⟩ := th
  cases pc with
  | idle =>
    cases prog with
    | nil => exact absurd rfl h
    | cons op rest =>
      cases op with
      | add n c | has n => exact ⟨_, rfl⟩
      | remove n | get n => simp only [action]; split <;> exact ⟨_, rfl⟩
  | notify ch r => exact ⟨_, rfl⟩
  | _ => simp only [action]; split <;> exact ⟨_, rfl⟩

theorem lstep_rank (cfg : Cfg) (t : Nat) (c : LConf) (u r : Nat) (h : c.ths[t]?.map LThread.rank = some r) :
    ∃ r', (lstep cfg c u).ths[t]?.map LThread.rank = some r' ∧ r' ≤ r - (if u == t then 1 else 0) := by
  obtain ⟨th, hth, rfl⟩ := Option.map_eq_some_iff.mp h
  rcases lstep_cases cfg c u with ⟨heq, hnone⟩ | ⟨thu, e, hu, hact, heq⟩
  · refine ⟨_, by rw [heq]; exact h, ?_⟩
    by_cases hut : u = t
    · subst hut
      have : th.rank = 0 := Decidable.byContradiction fun hr => by
        obtain ⟨e, he⟩ := action_enabled cfg c.st th hr
        rw [hnone th hth] at he; cases he
      simp [this]
    · simp [hut]
  · rw [heq]
    by_cases hut : u = t
    · subst hut
      rw [hth] at hu; cases hu
      refine ⟨e.th.rank, by simp [List.getElem?_set_self (List.getElem?_eq_some_iff.mp hth).1], ?_⟩
      have := acts_rank hact
      simp; omega
    · exact ⟨th.rank, by simp [List.getElem?_set_ne hut, hth], by simp [hut]⟩

theorem lrun_rank (cfg : Cfg) (sched : List Nat) (c : LConf) (t : Nat) (th : LThread)
    (h : c.ths[t]? = some th) :
    ∃ th', (lrun cfg c sched).ths[t]? = some th' ∧ th'.rank ≤ th.rank - sched.count t := by
  obtain ⟨r', h', l⟩ := run_rank (run := lrun cfg) (fun _ => rfl) (fun _ _ _ => rfl) _ t (lstep_rank cfg t)
    sched c th.rank (by rw [h]; rfl)
  obtain ⟨th', hth', rfl⟩ := Option.map_eq_some_iff.mp h'
  exact ⟨th', hth', l⟩

end ScVerif.C12
