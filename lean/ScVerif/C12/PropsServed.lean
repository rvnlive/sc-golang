import ScVerif.C12.Props
import ScVerif.C12.ServedLemmas
import ScVerif.C12.SpanLemmas
/-!
# C12 — property theorems, requests served behind the default-name interceptors

"… a request naming N is forwarded exactly once to the client currently registered under N … and the
default-name interceptor fills in only empty names" — composed: transport ▸ interceptor ▸ generated
handler ▸ router ▸ forwarder (`Served.lean`), for unary calls and for server-streaming calls over EVERY
transport: the stream interceptor acts on what the transport's `RecvMsg` delivered, whatever the handler's
message held before and whether the transport overwrites or merges.  Last (`C12_concurrent_forward`), forwarding
with the result of a Get that ran while other goroutines changed the registry.
-/
namespace ScVerif.C12

/-- **Unary calls behind the interceptor.** For a request whose string `name` field holds `nm`: the forwarder is
handed the request with only an empty name filled in, the router is asked for `servedName d nm`, exactly one child
call is made — on the client that resolves under that name, carrying that request — and the child's answer is
returned unaltered; when nothing resolves no client is touched and the answer is NotFound. A request that names a
client is handed on identical. -/
theorem C12_served_unary (d : String) (cfg : Cfg) (s : St) (enc : Msg → Tok) (method : Tok)
    (wire : Msg) (child : Client → Tok → Tok → UOut) (nm : String) (hn : nameOf wire = some nm) :
    FilledFrom wire (serveUnary d cfg s enc method wire child).2.1 (servedName d nm) ∧
    (nm ≠ "" → (serveUnary d cfg s enc method wire child).2.1 = wire) ∧
    (serveUnary d cfg s enc method wire child).1 = (get cfg s (servedName d nm)).1 ∧
    (∀ c, resolve cfg s (servedName d nm) = some c →
      (serveUnary d cfg s enc method wire child).2.2 =
        ([⟨c, method, enc (serveUnary d cfg s enc method wire child).2.1⟩],
          child c method (enc (serveUnary d cfg s enc method wire child).2.1))) ∧
    (resolve cfg s (servedName d nm) = none →
      (serveUnary d cfg s enc method wire child).2.2 = ([], .err notFoundTok)) := by
  rw [serveUnary_eq d cfg s enc method wire child nm hn]
  have hf := C12_forward_unary cfg s (servedName d nm) method (enc (replaceEmptyName d wire)) child
  exact ⟨filledFrom_replace d wire nm hn, replace_named d wire nm hn, rfl, hf.1, hf.2⟩

/-- **Server-streaming calls behind the interceptor, over every transport.**  Whatever the transport's
`RecvMsg` is (`inner`: any function of what the handler's message holds) and whatever the handler's
message `m0` held: if `RecvMsg` delivers `w` without error, the forwarder is handed `w` with only an empty
name filled in — nothing of `m0`, nothing set before the transport ran — and the call is pumped exactly as
`forwardStream` pumps a request naming `servedName d nm`. -/
theorem C12_served_stream (d : String) (inner : Msg → RecvOut) (cfg : Cfg) (s : St) (enc : Msg → Tok)
    (method : Tok) (m0 w : Msg) (cs : ChildScript) (k : CallerScript) (nm : String)
    (hrecv : inner m0 = ⟨w, none⟩) (hn : nameOf w = some nm) :
    ∃ req, FilledFrom w req (servedName d nm) ∧ (nm ≠ "" → req = w) ∧
      serveStream d inner cfg s enc method m0 cs k =
        ((get cfg s (servedName d nm)).1, some req,
          forwardStream (get cfg s (servedName d nm)).2 method (enc req) cs k) ∧
      (∀ c, resolve cfg s (servedName d nm) = some c →
        (serveStream d inner cfg s enc method m0 cs k).2.2.calls = [⟨c, method, enc req⟩]) ∧
      (resolve cfg s (servedName d nm) = none →
        (serveStream d inner cfg s enc method m0 cs k).2.2 = Obs.failed notFoundTok) := by
  have hs := serveStream_eq d inner cfg s enc method m0 w cs k nm hrecv hn
  have hf := C12_forward_stream_call cfg s (servedName d nm) method (enc (replaceEmptyName d w)) cs k
  rw [hs]
  exact ⟨_, filledFrom_replace d w nm hn, replace_named d w nm hn, rfl, hf.1, hf.2⟩

/-- **A failing `RecvMsg` is passed on and nothing else happens**: the handler returns the transport's
error unaltered, the router is not consulted (its state, fallback and factory counters are unchanged),
no client is touched, nothing is sent. -/
theorem C12_served_stream_recv_error (d : String) (inner : Msg → RecvOut) (cfg : Cfg) (s : St)
    (enc : Msg → Tok) (method : Tok) (m0 x : Msg) (e : Tok) (cs : ChildScript) (k : CallerScript)
    (hrecv : inner m0 = ⟨x, some e⟩) :
    serveStream d inner cfg s enc method m0 cs k = (s, none, Obs.failed e) ∧
    (wrappedRecv d inner m0) = ⟨x, some e⟩ := by
  simp [serveStream, wrappedRecv, hrecv]

/-- **Real gRPC and the in-process transport serve a request alike.**  On the message a generated
handler allocates (`new(Req)`, the zero message of the request's type) a transport that overwrites
(grpc's codec) and one that merges (`pkg/wrap`) deliver the same message, so a server-streaming call is
served identically over both — in particular a nameless request reaches the default client over a real
connection exactly as it does in process. -/
theorem C12_served_stream_transport_independent (d : String) (cfg : Cfg) (s : St) (enc : Msg → Tok)
    (method : Tok) (wire : Msg) (cs : ChildScript) (k : CallerScript)
    (io im : Msg → RecvOut)
    (ho : Transport.overwrite.recv wire wire.zero = some (io wire.zero))
    (hm : Transport.merge.recv wire wire.zero = some (im wire.zero)) :
    Transport.merge.recv wire wire.zero = Transport.overwrite.recv wire wire.zero ∧
    serveStream d io cfg s enc method wire.zero cs k = serveStream d im cfg s enc method wire.zero cs k := by
  have h1 : io wire.zero = ⟨wire, none⟩ := by
    simp [Transport.recv] at ho; exact ho.symm
  have h2 : im wire.zero = ⟨wire, none⟩ := by
    simp [Transport.recv, mergeMsg_zero] at hm; exact hm.symm
  refine ⟨by simp [Transport.recv, mergeMsg_zero], ?_⟩
  simp [serveStream, wrappedRecv, h1, h2]

/-- **Stacked interceptors: the outermost non-empty default wins, and applying one twice changes
nothing** (`grpc.ChainUnaryInterceptor(IfAbsent(d₁), IfAbsent(d₂))`). -/
theorem C12_default_name_chain (d₁ d₂ : String) (m : Msg) :
    replaceEmptyName d₁ (replaceEmptyName d₁ m) = replaceEmptyName d₁ m ∧
    (d₁ ≠ "" → replaceEmptyName d₂ (replaceEmptyName d₁ m) = replaceEmptyName d₁ m) :=
  ⟨replace_chain d₁ d₁ m (.inr rfl), fun h => replace_chain d₁ d₂ m (.inl h)⟩

/-- **Forwarding while the registry changes.**  Under every schedule of concurrent Add / Remove / Has /
Get programs, take any finished `Get n` of any thread — the `r.GetXxxClient(request.Name)` of a
forwarder serving a request while other goroutines add and remove clients — and forward with its
result: either exactly one child call is made, on a client that (unless the fallback supplied it) was
registered under `n` at some moment between the Get's invocation and its response, with the method and
request unaltered and the child's answer returned as it is; or no client is touched, the answer is
NotFound and `n` was not registered when the Get started. -/
theorem C12_concurrent_forward (cfg : Cfg) (reg0 : Reg) (k1 k2 : Nat) (progs : List (List Op))
    (sched : List Nat) (t : Nat) (sp : Span) (n : Name) (method req : Tok)
    (child : Client → Tok → Tok → UOut)
    (hsp : sp ∈ (trun cfg (TConf.start reg0 k1 k2 progs) sched).done.getD t [])
    (hop : sp.op = .get n) :
    let glog := (lrun cfg (LConf.start reg0 k1 k2 progs) sched).glog
    (∃ c src, sp.res = .got c src ∧
      forwardUnary sp.res method req child = ([⟨c, method, req⟩], child c method req) ∧
      (src ≠ .fallback → ∃ i, sp.first ≤ i ∧ i < sp.last ∧ sp.last ≤ glog.length ∧
        mapAt reg0 glog (i + 1) n = some c)) ∨
    (sp.res = .notFound ∧ forwardUnary sp.res method req child = ([], .err notFoundTok) ∧
      mapAt reg0 glog sp.first n = none) := by
  intro glog
  obtain ⟨h2, h3⟩ := span_get hsp hop
  rcases h3.get_cases with ⟨hr, hm⟩ | ⟨c, hr, _⟩ | ⟨c, src, hr, _, i, a1, a2, _, a4⟩
  · exact .inr ⟨hr, by simp [hr, forwardUnary], hm⟩
  · exact .inl ⟨c, .fallback, hr, by simp [hr, forwardUnary], fun h => absurd rfl h⟩
  · exact .inl ⟨c, src, hr, by simp [hr, forwardUnary], fun _ => ⟨i, a1, a2, h2, a4⟩⟩

/-- A nameless Pull request (fields `name`, `read_mask`, `updates_only`), default name `dev`, router
holding `dev ↦ 1`, `other ↦ 2`, an overwriting transport, a handler message that already held a name:
the request reaches client 1 carrying the name `dev`; the child's two messages are pumped. -/
example :
    serveStream "dev" (fun _ => ⟨[⟨"name", true, .str ""⟩, ⟨"read_mask", false, .other 7⟩], none⟩)
      ⟨none, none⟩ ⟨[("dev", 1), ("other", 2)], [], 0, 0⟩ (fun m => m.length) 3
      [⟨"name", true, .str "stale"⟩, ⟨"read_mask", false, .other unsetTok⟩]
      ⟨none, none, some 9, [1, 2], .eof, some 4⟩ ⟨none, none, 0⟩ =
    (⟨[("dev", 1), ("other", 2)], [], 0, 0⟩,
      some [⟨"name", true, .str "dev"⟩, ⟨"read_mask", false, .other 7⟩],
      ⟨[⟨1, 3, 2⟩], some (some 9), [1, 2], 2, 3, some 4, none, false⟩) := by decide +kernel

/-- `C12_served_stream_transport_independent`'s hypotheses are met (a nameless request with a mask). -/
example : ∃ io im : Msg → RecvOut,
    let wire : Msg := [⟨"name", true, .str ""⟩, ⟨"read_mask", false, .other 7⟩]
    Transport.overwrite.recv wire wire.zero = some (io wire.zero) ∧
    Transport.merge.recv wire wire.zero = some (im wire.zero) :=
  ⟨fun _ => ⟨[⟨"name", true, .str ""⟩, ⟨"read_mask", false, .other 7⟩], none⟩,
   fun _ => ⟨[⟨"name", true, .str ""⟩, ⟨"read_mask", false, .other 7⟩], none⟩, by decide, by decide +kernel⟩

/-- The merging transport keeps a name the handler's message already held when the request has none —
which is why the statement above is about the message a handler really allocates. -/
example : Transport.merge.recv [⟨"name", true, .str ""⟩] [⟨"name", true, .str "stale"⟩] =
    some ⟨[⟨"name", true, .str "stale"⟩], none⟩ := by decide +kernel

end ScVerif.C12
