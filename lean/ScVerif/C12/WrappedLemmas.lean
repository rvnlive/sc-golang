import ScVerif.C12.WrapMore
import ScVerif.C12.ForwardLemmas
/-! The wrapped-server stream as a fold: the recursive statements `attached` / `headerGone` / `sentVals` /
`trailers` are the fields of `wrun` (`wrun_eq`); the rest is got by running the fold. -/
namespace ScVerif.C12

/-- The content of the handler's message after the calls `ops`. -/
def bufAfter (buf : Tok) : List HOp → Tok
  | [] => buf
  | .write v :: r => bufAfter v r
  | _ :: r => bufAfter buf r

@[simp] theorem wrun_nil (s : WStream) : wrun s [] = s := rfl

@[simp] theorem wrun_cons (s : WStream) (op : HOp) (r : List HOp) : wrun s (op :: r) = wrun (wstep s op) r := rfl

/-- The fold in closed form from any stream; a header that has gone stays as it went. -/
theorem wrun_eq (ops : List HOp) (s : WStream) :
    wrun s ops = ⟨if s.headerSent then s.header else s.header ++ attached ops,
      s.headerSent || headerGone ops, bufAfter s.buf ops, s.out ++ sentVals s.buf ops,
      s.trailer ++ trailers ops⟩ := by
  induction ops generalizing s with
  | nil => cases s; simp [attached, headerGone, bufAfter, sentVals, trailers]
  | cons op r ih =>
    rw [wrun_cons, ih]
    cases op <;> cases h : s.headerSent <;>
      simp [wstep, WStream.flush, h, attached, headerGone, bufAfter, sentVals, trailers]

theorem wrun_init (buf : Tok) (ops : List HOp) :
    wrun (WStream.init buf) ops =
      ⟨attached ops, headerGone ops, bufAfter buf ops, sentVals buf ops, trailers ops⟩ := by
  simp [wrun_eq, WStream.init]

theorem wclose_eq (buf : Tok) (ops : List HOp) :
    wclose buf ops = ⟨attached ops, true, bufAfter buf ops, sentVals buf ops, trailers ops⟩ := by
  simp [wclose, wrun_init, WStream.flush]

theorem wrun_append (s : WStream) (a b : List HOp) : wrun s (a ++ b) = wrun (wrun s a) b :=
  List.foldl_append ..

/-- Run `a` from the initial stream, then `b` from the stream `a` left, and compare fields. -/
theorem spec_append (buf : Tok) (a b : List HOp) :
    attached (a ++ b) = (if headerGone a then attached a else attached a ++ attached b) ∧
    headerGone (a ++ b) = (headerGone a || headerGone b) ∧
    bufAfter buf (a ++ b) = bufAfter (bufAfter buf a) b ∧
    sentVals buf (a ++ b) = sentVals buf a ++ sentVals (bufAfter buf a) b ∧
    trailers (a ++ b) = trailers a ++ trailers b := by
  have h := wrun_init buf (a ++ b)
  rw [wrun_append, wrun_init, wrun_eq] at h
  injection h with h1 h2 h3 h4 h5
  exact ⟨h1.symm, h2.symm, h3.symm, h4.symm, h5.symm⟩

theorem wrun_staged (hs ts : List Tok) (s : WStream) (h : s.headerSent = false) :
    wrun s (hs.map .setHeader ++ ts.map .setTrailer) =
      { s with header := s.header ++ hs, trailer := s.trailer ++ ts } := by
  induction hs generalizing s with
  | nil =>
    induction ts generalizing s with
    | nil => simp
    | cons t r ih => simpa [wstep] using ih { s with trailer := s.trailer ++ [t] } h
  | cons x r ih => simpa [wstep, h] using ih { s with header := s.header ++ [x] } h

theorem staged_spec (buf : Tok) (hs ts : List Tok) :
    attached (hs.map HOp.setHeader ++ ts.map HOp.setTrailer) = hs ∧
    headerGone (hs.map HOp.setHeader ++ ts.map HOp.setTrailer) = false ∧
    sentVals buf (hs.map HOp.setHeader ++ ts.map HOp.setTrailer) = [] ∧
    trailers (hs.map HOp.setHeader ++ ts.map HOp.setTrailer) = ts := by
  have h := wrun_staged hs ts (WStream.init buf) rfl
  rw [wrun_init] at h
  injection h with h1 h2 _ h4 h5
  exact ⟨h1, h2, h4, h5⟩

/-- The messages are handed over as they are whether or not the device overwrites its message afterwards; only
what the handler's message holds in the end (`b`) depends on that, and nothing after the pairs reads it. -/
theorem wrun_pairs (reuse : Bool) (scr : Tok) (ms : List Tok) (tail : List PEv) (s : WStream)
    (h : s.headerSent = true) :
    ∃ b, wrun s (hopsOfEvents reuse scr (pairs ms ++ tail)) =
      wrun { s with buf := b, out := s.out ++ ms } (hopsOfEvents reuse scr tail) := by
  induction ms generalizing s with
  | nil => exact ⟨s.buf, by simp [pairs]⟩
  | cons m r ih =>
    obtain ⟨b, hb⟩ := ih { s with buf := if reuse then scr else m, out := s.out ++ [m] } h
    refine ⟨b, ?_⟩
    have e : pairs (m :: r) = .recv :: .send m :: pairs r := by simp [pairs]
    rw [e]
    cases reuse <;> simpa [hopsOfEvents, wstep, WStream.flush, h] using hb

theorem attached_pairs (reuse : Bool) (scr : Tok) (ms : List Tok) (tail : List PEv)
    (ht : attached (hopsOfEvents reuse scr tail) = []) :
    attached (hopsOfEvents reuse scr (pairs ms ++ tail)) = [] := by
  cases ms with
  | nil => simpa [pairs] using ht
  | cons m r =>
    have e : pairs (m :: r) = .recv :: .send m :: pairs r := by simp [pairs]
    rw [e]; simp [hopsOfEvents, attached]

theorem sentVals_nosend (a : List HOp) (h : ∀ op ∈ a, op ≠ .send) (b : Tok) : sentVals b a = [] := by
  induction a generalizing b with
  | nil => rfl
  | cons op r ih =>
    have h1 := h op List.mem_cons_self
    have h2 := fun b => ih (fun o ho => h o (List.mem_cons_of_mem _ ho)) b
    cases op with
    | send => exact absurd rfl h1
    | write v => exact h2 v
    | _ => exact h2 b

theorem pumpEvents_healthy (c : Client) (src : Src) (cs : ChildScript)
    (hopen : cs.openErr = none) (hhdr : cs.headerErr = none) :
    pumpEvents (.got c src) cs healthy =
      [.openChild, .childHeader, .sendHeader cs.header] ++ (pairs cs.msgs ++ (.recv :: trailerEvents cs.trailer)) := by
  have hp := pumpLoop_all none cs.msgs 0 (by intro j hj; cases hj)
  have hl := loopEvents_eq none cs.msgs 0
  rw [hp] at hl
  simp only [Bool.false_eq_true, if_false] at hl
  simp [pumpEvents, hopen, hhdr, healthy, hl]

theorem wrun_deviceOps (sh st : Option Tok) (cs : ChildScript) (reuse : Bool) (scr : Tok)
    (hopen : cs.openErr = none) (hhdr : cs.headerErr = none) :
    ∃ b, wrun (WStream.init 0) (deviceOps sh st cs reuse scr) =
      ⟨sh.toList ++ cs.header.toList, true, b, cs.msgs, st.toList ++ cs.trailer.toList⟩ := by
  unfold deviceOps
  rw [wrun_append, wrun_staged _ _ _ rfl, pumpEvents_healthy 0 .registered cs hopen hhdr]
  obtain ⟨b, hb⟩ := wrun_pairs reuse scr cs.msgs (.recv :: trailerEvents cs.trailer)
    ⟨sh.toList ++ cs.header.toList, true, 0, [], st.toList⟩ rfl
  have htr : ∀ s, wrun s (hopsOfEvents reuse scr (.recv :: trailerEvents cs.trailer)) =
      { s with trailer := s.trailer ++ cs.trailer.toList } := fun s => by
    cases cs.trailer <;> simp [trailerEvents, hopsOfEvents, wstep]
  rw [htr] at hb
  -- the inner forwarder's `SendHeader` lets the joined header go; then the pairs; then the trailer
  exact ⟨b, by simpa [hopsOfEvents, wstep, WStream.init] using hb⟩

/-- A fold of point updates read at one address: when every option naming `a` stores `v` there, `a` holds `v`
as soon as one option names it. -/
theorem collect_at (hdr tr : List Tok) (opts : List COpt) (mem : Mem) (a : Nat) (v : List Tok)
    (hh : COpt.header a ∈ opts → v = hdr) (ht : COpt.trailer a ∈ opts → v = tr) :
    collectMetadata hdr tr opts mem a =
      if COpt.header a ∈ opts ∨ COpt.trailer a ∈ opts then some v else mem a := by
  induction opts generalizing mem with
  | nil => simp [collectMetadata]
  | cons op r ih =>
    have := ih (collectStep hdr tr mem op) (fun h => hh (List.mem_cons_of_mem _ h))
      (fun h => ht (List.mem_cons_of_mem _ h))
    simp only [collectMetadata, List.foldl_cons] at this ⊢
    rw [this]
    cases op with
    | header b =>
      by_cases e : a = b
      · subst e; simp [collectStep, hh]
      · simp [collectStep, e]
    | trailer b =>
      by_cases e : a = b
      · subst e; simp [collectStep, ht]
      · simp [collectStep, e]
    | other => simp [collectStep]

theorem trailers_stagedLists (hs ts : List Tok) :
    trailers (hs.map HOp.setHeader ++ ts.map HOp.setTrailer) = ts := by
  obtain ⟨_, _, _, h⟩ := staged_spec 0 hs ts
  exact h

theorem wrun_parkedOps (sh st : Option Tok) (cs : ChildScript) (park : Option Nat) (reuse : Bool) (scr : Tok) :
    ∃ b, wrun (WStream.init 0) (parkedOps sh st cs park reuse scr) =
      match park with
      | none => ⟨sh.toList, false, b, [], st.toList⟩
      | some n => ⟨sh.toList ++ cs.header.toList, true, b, cs.msgs.take n, st.toList⟩ := by
  unfold parkedOps
  rw [wrun_append, wrun_staged _ _ _ rfl]
  cases park with
  | none => exact ⟨0, by simp [parkedEvents, hopsOfEvents, WStream.init]⟩
  | some n =>
    obtain ⟨b, hb⟩ := wrun_pairs reuse scr (cs.msgs.take n) [.recv]
      ⟨sh.toList ++ cs.header.toList, true, 0, [], st.toList⟩ rfl
    exact ⟨b, by simpa [parkedEvents, hopsOfEvents, wstep, WStream.init] using hb⟩

end ScVerif.C12
