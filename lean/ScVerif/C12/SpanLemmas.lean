import ScVerif.C12.Span
import ScVerif.C12.LinLemmas
/-! The span bookkeeping is consistent along every run: `ThreadOK` is kept for the stepping thread by
`threadOK_step` and for the others because their spans survive a longer ghost log (`threadOK_mono`). -/
namespace ScVerif.C12

theorem mapAt_append (reg0 : Reg) (glog x : List GEntry) (i : Nat) (h : i ≤ glog.length) :
    mapAt reg0 (glog ++ x) i = mapAt reg0 glog i := by
  simp only [mapAt, List.take_append_of_le_length h]

theorem mapAt_full (reg0 : Reg) (c : LConf) (h : LInv reg0 c) :
    mapAt reg0 c.glog c.glog.length = c.st.reg.get := by
  simp only [mapAt, List.take_length]
  rw [h.lin]

theorem justified_append (cfg : Cfg) (reg0 : Reg) (glog x : List GEntry) (t : Nat) (op : Op) (r : Res)
    (a b b' : Nat) (hab : a < b) (hb : b ≤ glog.length) (hbb : b ≤ b')
    (h : Justified cfg reg0 glog t op r a b) : Justified cfg reg0 (glog ++ x) t op r a b' := by
  have ha : a ≤ glog.length := by omega
  have ha1 : a + 1 ≤ glog.length := by omega
  cases op with
  | get n =>
    cases r with
    | got c src =>
      cases src with
      | fallback => simp only [Justified, mapAt_append _ _ _ _ ha] at h ⊢; exact h
      | _ =>
        simp only [Justified] at h ⊢
        obtain ⟨i, h1, h2, h3, h4⟩ := h
        exact ⟨i, h1, by omega, by rw [List.getElem?_append_left (by omega)]; exact h3,
          by rw [mapAt_append _ _ _ _ (by omega)]; exact h4⟩
    | notFound => simp only [Justified, mapAt_append _ _ _ _ ha] at h ⊢; exact h
    | _ => simp only [Justified] at h
  | _ =>
    cases r <;> simp only [Justified, mapAt_append _ _ _ _ ha, mapAt_append _ _ _ _ ha1] at h ⊢ <;> exact h

theorem Justified.get_cases {cfg : Cfg} {reg0 : Reg} {glog : List GEntry} {t : Nat} {n : Name} {r : Res} {a b : Nat}
    (h : Justified cfg reg0 glog t (.get n) r a b) :
    (r = .notFound ∧ mapAt reg0 glog a n = none) ∨
    (∃ c, r = .got c .fallback ∧ mapAt reg0 glog a n = none) ∨
    ∃ c src, r = .got c src ∧ src ≠ .fallback ∧
      ∃ i, a ≤ i ∧ i < b ∧ (glog[i]?).map (·.tid) = some t ∧ mapAt reg0 glog (i + 1) n = some c := by
  cases r with
  | notFound => exact .inl ⟨rfl, h⟩
  | got c src =>
    cases src with
    | fallback => exact .inr (.inl ⟨c, rfl, h.1⟩)
    | registered | factory => exact .inr (.inr ⟨c, _, rfl, nofun, h⟩)
  | _ => exact h.elim

/-- The bookkeeping of thread `t`.  `pc`: an operation in flight has started and knows what its result will rest
on — a Get past its first read that the name was absent then, a thread about to call `onChange` all of it. -/
structure ThreadOK (cfg : Cfg) (reg0 : Reg) (glog : List GEntry) (t : Nat) (prog0 : List Op)
    (th : LThread) (cur : Option (Op × Nat)) (done : List Span) : Prop where
  results : th.results = done.map (·.res)
  prog : prog0 = done.map (·.op) ++ (cur.map (·.1)).toList ++ th.prog
  spans : ∀ sp ∈ done, sp.first < sp.last ∧ sp.last ≤ glog.length ∧
    Justified cfg reg0 glog t sp.op sp.res sp.first sp.last
  pc : match th.pc with
    | .idle => cur = none
    | .fallback n => ∃ a, cur = some (.get n, a) ∧ a < glog.length ∧ mapAt reg0 glog a n = none
    | .factory n => ∃ a, cur = some (.get n, a) ∧ a < glog.length ∧ mapAt reg0 glog a n = none
    | .insert n _ => ∃ a, cur = some (.get n, a) ∧ a < glog.length ∧ mapAt reg0 glog a n = none
    | .notify _ r => ∃ op a, cur = some (op, a) ∧ a < glog.length ∧
        Justified cfg reg0 glog t op r a glog.length

section
variable {cfg : Cfg} {reg0 : Reg} {glog : List GEntry} {t : Nat} {prog0 : List Op}
  {th : LThread} {cur : Option (Op × Nat)} {done : List Span}

theorem ThreadOK.spans_append (h : ThreadOK cfg reg0 glog t prog0 th cur done) (x : List GEntry) :
    ∀ sp ∈ done, sp.first < sp.last ∧ sp.last ≤ (glog ++ x).length ∧
      Justified cfg reg0 (glog ++ x) t sp.op sp.res sp.first sp.last := by
  intro sp hsp
  obtain ⟨h1, h2, h3⟩ := h.spans sp hsp
  exact ⟨h1, by rw [List.length_append]; omega, justified_append _ _ _ x _ _ _ _ _ _ h1 h2 (Nat.le_refl _) h3⟩

theorem threadOK_mono (x : List GEntry)
    (h : ThreadOK cfg reg0 glog t prog0 th cur done) :
    ThreadOK cfg reg0 (glog ++ x) t prog0 th cur done := by
  refine ⟨h.results, h.prog, h.spans_append x, ?_⟩
  · have hp := h.pc
    cases hpc : th.pc with
    | idle => rw [hpc] at hp; exact hp
    | fallback n | factory n | insert n _ =>
      rw [hpc] at hp; obtain ⟨a, h1, h2, h3⟩ := hp
      exact ⟨a, h1, by simp; omega, by rw [mapAt_append _ _ _ _ (by omega)]; exact h3⟩
    | notify ch r =>
      rw [hpc] at hp; obtain ⟨op, a, h1, h2, h3⟩ := hp
      refine ⟨op, a, h1, by simp; omega, ?_⟩
      exact justified_append _ _ _ x _ _ _ _ _ _ h2 (Nat.le_refl _) (by simp) h3

theorem getD_set_self {α : Type} (l : List α) (t : Nat) (v d : α) (h : t < l.length) :
    (l.set t v).getD t d = v := by
  simp [List.getD, List.getElem?_set_self h]

theorem getD_set_ne {α : Type} (l : List α) (t t' : Nat) (v d : α) (h : t ≠ t') :
    (l.set t v).getD t' d = l.getD t' d := by
  simp [List.getD, List.getElem?_set_ne h]

theorem ThreadOK.close (h : ThreadOK cfg reg0 glog t prog0 th cur done) (x : List GEntry)
    {op : Op} {a : Nat} {r : Res} {prog' : List Op} (sn' : List (LOp × LRes))
    (hp : (cur.map (·.1)).toList ++ th.prog = op :: prog') (ha : a < (glog ++ x).length)
    (hj : Justified cfg reg0 (glog ++ x) t op r a (glog ++ x).length) :
    ThreadOK cfg reg0 (glog ++ x) t prog0 ⟨prog', .idle, th.results ++ [r], sn'⟩ none
      (done ++ [⟨op, r, a, (glog ++ x).length⟩]) := by
  refine ⟨by simp [h.results], ?_, ?_, rfl⟩
  · have := h.prog
    rw [List.append_assoc, hp] at this
    simp [this]
  · intro sp hsp
    rcases List.mem_append.mp hsp with hsp | hsp
    · exact h.spans_append x sp hsp
    · cases List.mem_singleton.mp hsp
      exact ⟨ha, Nat.le_refl _, hj⟩

theorem closeOp_idle (p : List Op) (rs : List Res) (r : Res) (sn : List (LOp × LRes)) (op : Op) (a : Nat) :
    closeOp ⟨p, .idle, rs ++ [r], sn⟩ (some (op, a)) = some (op, a, r) := by
  simp [closeOp]

theorem threadOK_step (s : St) (e : Effect) (glog' : List GEntry)
    (hg : glog' = glog ++ (optList e.g).map (fun p => (⟨t, p.1, p.2⟩ : GEntry)))
    (h : ThreadOK cfg reg0 glog t prog0 th cur done)
    (hact : Acts cfg s th e)
    (hmap : mapAt reg0 glog glog.length = s.reg.get)
    (hmap' : mapAt reg0 glog' glog'.length = e.st.reg.get) :
    match closeOp e.th (startCur th glog.length cur) with
    | some (op, a, r) => ThreadOK cfg reg0 glog' t prog0 e.th none (done ++ [⟨op, r, a, glog'.length⟩])
    | none => ThreadOK cfg reg0 glog' t prog0 e.th (startCur th glog.length cur) done := by
  -- A step from `idle` opens an operation at time `glog.length`, a step into `idle` closes it (`ThreadOK.close`).
  -- `hmap` / `hmap'`: the registry just before and after the step's lock section, which is what `Justified` asks.
  subst hg
  cases hact <;>
    (have hpc := h.pc
     simp only [optList, List.map_cons, List.map_nil, List.append_nil, startCur] at hpc hmap' ⊢)
  case has =>
    subst hpc
    rw [closeOp_idle]
    refine h.close _ _ rfl (by simp) ?_
    simp only [Justified]
    rw [mapAt_append _ _ _ _ (Nat.le_refl _), hmap]
  case getMiss n rest rs sn hr =>
    subst hpc
    simp only [closeOp]
    exact ⟨h.results, by simpa using h.prog, h.spans_append _,
      ⟨_, rfl, by simp, by rw [mapAt_append _ _ _ _ (Nat.le_refl _), hmap, hr]⟩⟩
  case notify =>
    obtain ⟨op, a, rfl, ha, hj⟩ := hpc
    rw [closeOp_idle]
    simpa using h.close [] _ rfl (by simpa using ha) (by simpa using hj)
  case fallbackNone | factorySome =>
    obtain ⟨a, rfl, ha, hm⟩ := hpc
    simp only [closeOp]
    exact ⟨h.results, h.prog, h.spans, ⟨a, rfl, ha, hm⟩⟩
  case fallbackSome n c prog rs sn hi =>
    obtain ⟨a, rfl, ha, hm⟩ := hpc
    rw [closeOp_idle]
    simpa using h.close [] _ rfl (by simpa using ha) (by simpa [Justified] using ⟨hm, s.nfb, hi⟩)
  case factoryNone =>
    obtain ⟨a, rfl, ha, hm⟩ := hpc
    rw [closeOp_idle]
    simpa using h.close [] _ rfl (by simpa using ha) (by simpa [Justified] using hm)
  case insertLost n w prog c rs sn hr =>
    obtain ⟨a, rfl, ha, hm⟩ := hpc
    rw [closeOp_idle]
    refine h.close _ _ rfl (by simp; omega) ?_
    simp only [Justified]
    exact ⟨glog.length, Nat.le_of_lt ha, by simp, by simp, by simpa [hr] using congrFun hmap' n⟩
  case insertWon n prog c rs sn hr =>
    obtain ⟨a, rfl, ha, hm⟩ := hpc
    simp only [closeOp]
    refine ⟨h.results, h.prog, h.spans_append _, ⟨_, a, rfl, by simp; omega, ?_⟩⟩
    simp only [Justified]
    exact ⟨glog.length, Nat.le_of_lt ha, by simp, by simp, by simpa [Reg.get_set] using congrFun hmap' n⟩
  case add n c rest rs sn =>
    subst hpc
    simp only [closeOp]
    refine ⟨h.results, by simpa using h.prog, h.spans_append _, ⟨_, _, rfl, by simp, ?_⟩⟩
    simp only [Justified]
    exact ⟨by rw [mapAt_append _ _ _ _ (Nat.le_refl _), hmap], by simpa [Reg.get_set] using congrFun hmap' n⟩
  case remove n o rest rs sn hr =>
    subst hpc
    simp only [closeOp]
    refine ⟨h.results, by simpa using h.prog, h.spans_append _, ⟨_, _, rfl, by simp, ?_⟩⟩
    simp only [Justified]
    exact ⟨by rw [mapAt_append _ _ _ _ (Nat.le_refl _), hmap, hr], by simpa [Reg.get_erase] using congrFun hmap' n⟩
  case removeAbsent n rest rs sn hr =>
    subst hpc
    rw [closeOp_idle]
    refine h.close _ _ rfl (by simp) ?_
    simp only [Justified]
    exact ⟨by rw [mapAt_append _ _ _ _ (Nat.le_refl _), hmap, hr], by simpa [hr] using congrFun hmap' n⟩
  case getHit n w rest rs sn hr =>
    subst hpc
    rw [closeOp_idle]
    refine h.close _ _ rfl (by simp) ?_
    simp only [Justified]
    exact ⟨glog.length, Nat.le_refl _, by simp, by simp, by simpa [hr] using congrFun hmap' n⟩

end

/-- `LInv` of the run, bookkeeping lists as long as the thread list, `ThreadOK` for every thread. -/
structure TInv (cfg : Cfg) (reg0 : Reg) (progs : List (List Op)) (tc : TConf) : Prop where
  linv : LInv reg0 tc.c
  len : tc.cur.length = tc.c.ths.length ∧ tc.done.length = tc.c.ths.length
  ok : ∀ t th, tc.c.ths[t]? = some th →
    ThreadOK cfg reg0 tc.c.glog t (progs.getD t []) th (tc.cur.getD t none) (tc.done.getD t [])

theorem tinv_start (cfg : Cfg) (reg0 : Reg) (k1 k2 : Nat) (progs : List (List Op)) :
    TInv cfg reg0 progs (TConf.start reg0 k1 k2 progs) := by
  refine ⟨linv_start reg0 k1 k2 progs, by simp [TConf.start, LConf.start], start_forall fun t p hp => ?_⟩
  simp only [TConf.start, LConf.start, List.getD, List.getElem?_map, hp, Option.map_some, Option.getD_some]
  exact ⟨rfl, by simp, (fun _ h => nomatch h), rfl⟩

theorem tinv_update {cfg : Cfg} {reg0 : Reg} {progs : List (List Op)} {tc : TConf} {t : Nat} {th : LThread}
    {e : Effect} (h : TInv cfg reg0 progs tc) (hth : tc.c.ths[t]? = some th) (ha : Acts cfg tc.c.st th e)
    (cur' : List (Option (Op × Nat))) (done' : List (List Span))
    (hcl : cur'.length = tc.cur.length) (hdl : done'.length = tc.done.length)
    (hco : ∀ t', t' ≠ t → cur'.getD t' none = tc.cur.getD t' none)
    (hdo : ∀ t', t' ≠ t → done'.getD t' [] = tc.done.getD t' [])
    (hok : ThreadOK cfg reg0 (tc.c.after t e).glog t (progs.getD t []) e.th (cur'.getD t none) (done'.getD t [])) :
    TInv cfg reg0 progs ⟨tc.c.after t e, cur', done'⟩ :=
  ⟨linv_step hth ha h.linv, by simp [hcl, hdl, h.len.1, h.len.2],
    forall_set hth h.ok (fun _ => hok) fun i _ hi ho => by
      rw [hco i hi, hdo i hi]; exact threadOK_mono _ ho⟩

theorem tstep_cases (cfg : Cfg) (tc : TConf) (t : Nat) :
    (tstep cfg tc t = tc ∧ lstep cfg tc.c t = tc.c) ∨
    ∃ th e, tc.c.ths[t]? = some th ∧ Acts cfg tc.c.st th e ∧ lstep cfg tc.c t = tc.c.after t e ∧
      tstep cfg tc t =
        match closeOp e.th (startCur th tc.c.glog.length (tc.cur.getD t none)) with
        | some (op, a, r) =>
          ⟨tc.c.after t e, tc.cur.set t none,
            tc.done.set t (tc.done.getD t [] ++ [⟨op, r, a, (tc.c.after t e).glog.length⟩])⟩
        | none => ⟨tc.c.after t e, tc.cur.set t (startCur th tc.c.glog.length (tc.cur.getD t none)), tc.done⟩ := by
  unfold tstep
  cases hth : tc.c.ths[t]? with
  | none => exact .inl ⟨rfl, by simp only [lstep, hth]⟩
  | some th =>
    simp only
    cases hact : action cfg tc.c.st th with
    | none => exact .inl ⟨rfl, by simp only [lstep, hth, hact]⟩
    | some e =>
      have hl : lstep cfg tc.c t = tc.c.after t e := by simp only [lstep, hth, hact, LConf.after]
      exact .inr ⟨th, e, rfl, acts_of_action hact, hl, by
        simp only [hl]
        cases closeOp e.th (startCur th tc.c.glog.length (tc.cur.getD t none)) <;> rfl⟩

theorem tinv_tstep {cfg : Cfg} {reg0 : Reg} {progs : List (List Op)} {tc : TConf}
    (h : TInv cfg reg0 progs tc) (t : Nat) : TInv cfg reg0 progs (tstep cfg tc t) := by
  rcases tstep_cases cfg tc t with ⟨heq, _⟩ | ⟨th, e, hth, ha, _, heq⟩ <;> rw [heq]
  · exact h
  have hlt : t < tc.c.ths.length := (List.getElem?_eq_some_iff.mp hth).1
  have hcur : t < tc.cur.length := by rw [h.len.1]; exact hlt
  have hdone : t < tc.done.length := by rw [h.len.2]; exact hlt
  have hstep := threadOK_step tc.c.st e _ rfl (h.ok t th hth) ha (mapAt_full reg0 tc.c h.linv)
    (mapAt_full reg0 _ (linv_step hth ha h.linv))
  -- the two outcomes of `closeOp`: the operation ends (its span joins `done`) or goes on
  split <;> rename_i hclose <;> rw [hclose] at hstep
  · refine tinv_update h hth ha _ _ (by simp) (by simp) (fun t' ht' => getD_set_ne _ _ _ _ _ ht'.symm)
      (fun t' ht' => getD_set_ne _ _ _ _ _ ht'.symm) ?_
    rw [getD_set_self _ _ _ _ hcur, getD_set_self _ _ _ _ hdone]
    exact hstep
  · refine tinv_update h hth ha _ _ (by simp) rfl (fun t' ht' => getD_set_ne _ _ _ _ _ ht'.symm)
      (fun _ _ => rfl) ?_
    rw [getD_set_self _ _ _ _ hcur]
    exact hstep

theorem tstep_c (cfg : Cfg) (tc : TConf) (t : Nat) : (tstep cfg tc t).c = lstep cfg tc.c t := by
  rcases tstep_cases cfg tc t with ⟨heq, hl⟩ | ⟨th, e, _, _, hl, heq⟩ <;> rw [heq, hl]
  split <;> rfl

theorem trun_c (cfg : Cfg) (tc : TConf) (sched : List Nat) : (trun cfg tc sched).c = lrun cfg tc.c sched := by
  induction sched generalizing tc with
  | nil => rfl
  | cons t ts ih => rw [trun, lrun, ih, tstep_c]

theorem tinv_reach (cfg : Cfg) (reg0 : Reg) (k1 k2 : Nat) (progs : List (List Op)) (sched : List Nat) :
    TInv cfg reg0 progs (trun cfg (TConf.start reg0 k1 k2 progs) sched) :=
  run_inv (run := trun cfg) (fun _ => rfl) (fun _ _ _ => rfl) (TInv cfg reg0 progs) (fun _ t h => tinv_tstep h t)
    (tinv_start cfg reg0 k1 k2 progs) sched

theorem span_get {cfg : Cfg} {reg0 : Reg} {k1 k2 : Nat} {progs : List (List Op)} {sched : List Nat} {t : Nat}
    {sp : Span} {n : Name} (hsp : sp ∈ (trun cfg (TConf.start reg0 k1 k2 progs) sched).done.getD t [])
    (hop : sp.op = .get n) :
    sp.last ≤ (lrun cfg (LConf.start reg0 k1 k2 progs) sched).glog.length ∧
    Justified cfg reg0 (lrun cfg (LConf.start reg0 k1 k2 progs) sched).glog t (.get n) sp.res sp.first sp.last := by
  have h := tinv_reach cfg reg0 k1 k2 progs sched
  have hc : (trun cfg (TConf.start reg0 k1 k2 progs) sched).c = lrun cfg (LConf.start reg0 k1 k2 progs) sched :=
    trun_c cfg _ sched
  rw [← hc]
  rcases Nat.lt_or_ge t (trun cfg (TConf.start reg0 k1 k2 progs) sched).c.ths.length with hl | hl
  · obtain ⟨_, h2, h3⟩ := (h.ok t _ (List.getElem?_eq_getElem hl)).spans sp hsp
    exact ⟨h2, hop ▸ h3⟩
  · -- no such thread: its bookkeeping is empty
    rw [List.getD_eq_getElem?_getD, List.getElem?_eq_none (by rw [h.len.2]; exact hl)] at hsp
    cases hsp

end ScVerif.C12
