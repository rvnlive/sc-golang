import ScVerif.Base.Line
import ScVerif.C12.Registry
import ScVerif.C12.Conc
import ScVerif.C12.Forward
import ScVerif.C12.NameDefault
import ScVerif.C12.Lin
import ScVerif.C12.Reentrant
import ScVerif.C12.PumpTrace
import ScVerif.C12.Served
import ScVerif.C12.Naming
import ScVerif.C12.Wrapped
import ScVerif.C12.WrapMore
import ScVerif.C12.Options
/-!
Driver handler for C12: parses one request line, runs the model, prints the canonical answer.

Tokens never contain spaces.  `~` is the empty string, `-` is "absent"/empty list.

```
reg   <fb> <fac> <ops>                                   registry history
route <fb> <fac> <ops> <name> <method> <req> U <childout>           history, then a unary call
route <fb> <fac> <ops> <name> <method> <req> S <childscript> <callerscript>   … a server-stream call
conc  <fb> <fac> <reg0> <names> <sched>                  concurrent Gets, fine-grained schedule
name  <default> <fields>                                 replaceEmptyNameField
namechain <outer> <inner> <fields>                       two chained IfAbsentUnaryInterceptors
lin   <fb> <fac> <reg0> <progs> <sched>                  concurrent Add/Remove/Has/Get, macro schedule
rre   <fb> <fac> <callback> <depth> <ops>                registry history with a callback that re-enters the router
nrecv <default> <transport> <m0> <wire>                  absentNameReplaceServerStream.RecvMsg over a transport
srv   <default> <fb> <fac> <ops> <method> U <wire> <childout>       history, then a unary call behind the interceptor
srv   <default> <fb> <fac> <ops> <method> S <transport> <m0> <wire> <childscript> <callerscript>   … a stream call
gen   <dir> <file> <service>
      what the two generators emit for a service (path type path type)
wroute <fb> <fac> <ops> <name> <method> <req> <stagedHdr> <stagedTrailer> <devicescript> <reuse r|f> <callerscript>
      a stream call routed to a wrapped server (inner router + device)
wcall <method> <req> <stagedHdr> <sentHdr> <stagedTrailer> <out> <opts>
      a unary call on a wrapper with call options `h<var>` grpc.Header(&var) / `t<var>` grpc.Trailer(&var) /
      `o` other, separated by `.`; answers the variables
wcallc <method> <req> <stagedHdr> <sentHdr> <stagedTrailer> <opts> <ce>
      the same call, the device parked (after staging / sending its header) when the caller's context ends
      with error `ce` (1 cancelled, 2 deadline)
wcancel <fb> <fac> <ops> <name> <method> <req> <stagedHdr> <stagedTrailer> <devicescript> <reuse r|f> <park h|r<k>> <ce>
      a stream call routed to a wrapped server whose device parks (in Header() / in the Recv after k messages)
      until the caller cancels
ropts <opts> <ops>
      registry history on `NewRouter(opts...)`: options separated by `.`, in call order, `b<kind>` WithFallback,
      `f<kind>` WithFactory, `t<kind>` the generated With<Client>Factory, `c` WithOnChange; kind `none` passes a
      nil function; the history may contain `w:<name>:<what>` = Add of a value that is not a client of the
      router's service (answer `pp`: the generated Add panics); the function of option i (from 0) makes clients
      1000*(i+1)+k; every change is prefixed with the position of the listener that was told; `calls=` per option
```
Transports: `ow` overwrite, `mg` merge, `f<e>` fail, `of<e>` overwrite then fail; `<m0>` = `z` is the zero message.
Callback kinds (shared with the Go harness, `callbackOf`): `has get rm add sib mix undo`.
Factory kinds (shared with the Go harness): `none new err nil both pfx odd`; the fallback makes
clients `2000+k`, the factory `1000+k` (k = number of earlier calls).
-/
namespace ScVerif.C12
open ScVerif.Line

def unTilde (s : String) : String := if s = "~" then "" else s
def tilde (s : String) : String := if s = "" then "~" else s

def splitList (s : String) (sep : String) : List String :=
  if s = "-" || s = "" then [] else s.splitOn sep

/-- The closed family of factories shared with the harness. -/
def factoryOf (base : Nat) (kind : String) : Option (Option Factory) :=
  match kind with
  | "none" => some none
  | "new" => some (some fun _ k => ⟨some (base + k), false⟩)
  | "err" => some (some fun _ _ => ⟨none, true⟩)
  | "nil" => some (some fun _ _ => ⟨none, false⟩)
  | "both" => some (some fun _ k => ⟨some (base + k), true⟩)
  | "pfx" => some (some fun n k => if n.startsWith "a" then ⟨some (base + k), false⟩ else ⟨none, false⟩)
  | "odd" => some (some fun _ k => if k % 2 = 1 then ⟨some (base + k), false⟩ else ⟨none, true⟩)
  | _ => none

def cfgOf (fb fac : String) : Option Cfg := do
  let a ← factoryOf 2000 fb
  let b ← factoryOf 1000 fac
  pure ⟨a, b⟩

def parseOp? (s : String) : Option Op :=
  match s.splitOn ":" with
  | ["a", n, c] => do let k ← parseNat? c; pure (.add (unTilde n) k)
  | ["r", n] => some (.remove (unTilde n))
  | ["h", n] => some (.has (unTilde n))
  | ["g", n] => some (.get (unTilde n))
  | _ => none

def parseOps? (s : String) : Option (List Op) := (splitList s ",").mapM parseOp?

def showOptNat : Option Nat → String
  | none => "-"
  | some n => toString n

def showRes : Res → String
  | .prev c => "p" ++ showOptNat c
  | .bool b => if b then "bT" else "bF"
  | .got c _ => "g" ++ toString c
  | .notFound => "nf"

def showChange (c : Change) : String :=
  tilde c.name ++ ":" ++ showOptNat c.old ++ ":" ++ showOptNat c.new ++ ":" ++ (if c.auto then "A" else "M")

def commaList (xs : List String) : String := if xs.isEmpty then "-" else ",".intercalate xs

def insertSorted (p : String × Nat) : List (String × Nat) → List (String × Nat)
  | [] => [p]
  | q :: qs => if p.1 < q.1 then p :: q :: qs else q :: insertSorted p qs

def sortReg (r : List (String × Nat)) : List (String × Nat) := r.foldr insertSorted []

def showReg (r : Reg) : String :=
  commaList ((sortReg r).map fun p => tilde p.1 ++ ":" ++ toString p.2)

def showSt (s : St) : String :=
  "log=" ++ commaList (s.log.map showChange) ++ " reg=" ++ showReg s.reg ++
    " nfb=" ++ toString s.nfb ++ " nfac=" ++ toString s.nfac

/-- One option token at position `i`. -/
def parseROpt? (i : Nat) (s : String) : Option ROpt :=
  let kind := (s.drop 1).toString
  if s = "c" then some (.onChange i)
  else if s.startsWith "b" then (factoryOf (1000 * (i + 1)) kind).map (.fallback i)
  else if s.startsWith "f" then (factoryOf (1000 * (i + 1)) kind).map (.factory i)
  else if s.startsWith "t" && kind != "none" then (factoryOf (1000 * (i + 1)) kind).map (.factory i)
  else none

def parseGOp? (s : String) : Option GOp :=
  match s.splitOn ":" with
  | ["w", n, _] => some (.addForeign (unTilde n))
  | _ => (parseOp? s).map .op

def showGRes : GRes → String
  | .res r => showRes r
  | .panicked => "pp"

def parseROpts? (s : String) : Option (List ROpt) :=
  let toks := splitList s "."
  (List.range toks.length).zip toks |>.mapM fun p => parseROpt? p.1 p.2

def parseErr? (s : String) : Option Err :=
  if s = "eof" then some .eof
  else if s.startsWith "e" then (parseNat? (s.drop 1).toString).map .status else none

def parseOptTok? (s : String) : Option (Option Tok) :=
  if s = "-" then some none else (parseNat? s).map some

def parseUOut? (s : String) : Option UOut :=
  if s.startsWith "m" then (parseNat? (s.drop 1).toString).map .resp
  else if s.startsWith "e" then (parseNat? (s.drop 1).toString).map .err
  else none

def showUOut : UOut → String
  | .resp m => "m" ++ toString m
  | .err e => "e" ++ toString e

/-- `open:hdrErr:hdr:msgs:final:trailer`, msgs separated by `.` -/
def parseChild? (s : String) : Option ChildScript :=
  match s.splitOn ":" with
  | [o, he, h, ms, f, t] => do
    let o ← parseOptTok? o
    let he ← parseOptTok? he
    let h ← parseOptTok? h
    let ms ← (splitList ms ".").mapM parseNat?
    let f ← parseErr? f
    let t ← parseOptTok? t
    pure ⟨o, he, h, ms, f, t⟩
  | _ => none

/-- `sendHeaderErr:failAt:sendErr` -/
def parseCaller? (s : String) : Option CallerScript :=
  match s.splitOn ":" with
  | [he, fa, e] => do
    let he ← parseOptTok? he
    let fa ← parseOptTok? fa
    let e ← parseNat? e
    pure ⟨he, fa, e⟩
  | _ => none

def showCalls (cs : List Call) : String :=
  commaList (cs.map fun c => toString c.client ++ ":" ++ toString c.method ++ ":" ++ toString c.req)

/-- Joined metadata as one token (injective on lists of tokens < 999) and back. -/
def encL (l : List Tok) : Tok := l.foldl (fun a t => a * 1000 + (t + 1)) 0
def decLF : Nat → Nat → List Tok
  | 0, _ => []
  | f + 1, n => if n = 0 then [] else decLF f (n / 1000) ++ [n % 1000 - 1]
def showMDList (l : List Tok) : String := if l.isEmpty then "-" else "+".intercalate (l.map toString)

def showWObs (o : Obs) : String :=
  "calls=" ++ showCalls o.calls ++
    " hdr=" ++ (match o.header with
      | none => "none" | some none => "nil" | some (some h) => showMDList (decLF 30 h)) ++
    " sent=" ++ commaList (o.sent.map toString) ++ " sends=" ++ toString o.sends ++
    " tr=" ++ (match o.trailer with | none => "-" | some t => showMDList (decLF 30 t)) ++
    " st=" ++ showOptNat o.status

/-- `showWObs` for a cancelled call: a nil header offered to the caller prints as empty metadata (`-`). -/
def showCObs (o : Obs) : String :=
  "calls=" ++ showCalls o.calls ++
    " hdr=" ++ (match o.header with
      | none => "none" | some none => "-" | some (some h) => showMDList (decLF 30 h)) ++
    " sent=" ++ commaList (o.sent.map toString) ++ " sends=" ++ toString o.sends ++
    " tr=" ++ (match o.trailer with | none => "-" | some t => showMDList (decLF 30 t)) ++
    " st=" ++ showOptNat o.status

def parseCOpts? (s : String) : Option (List COpt) :=
  (splitList s ".").mapM fun t =>
    if t = "o" then some .other
    else if t.startsWith "h" then (parseNat? (t.drop 1).toString).map .header
    else if t.startsWith "t" then (parseNat? (t.drop 1).toString).map .trailer
    else none

/-- The variables the options name, in order of first appearance. -/
def coptVars (opts : List COpt) : List Nat :=
  opts.foldl (fun acc o => match o with
    | .header a => if acc.contains a then acc else acc ++ [a]
    | .trailer a => if acc.contains a then acc else acc ++ [a]
    | .other => acc) []

def parsePark? (s : String) : Option (Option Nat) :=
  if s = "h" then some none
  else if s.startsWith "r" then (parseNat? (s.drop 1).toString).map some
  else none

def showHeader : Option (Option Tok) → String
  | none => "none"
  | some none => "nil"
  | some (some h) => toString h

def showObs (o : Obs) : String :=
  "calls=" ++ showCalls o.calls ++ " hdr=" ++ showHeader o.header ++
    " sent=" ++ commaList (o.sent.map toString) ++ " sends=" ++ toString o.sends ++
    " recvs=" ++ toString o.recvs ++ " tr=" ++ showOptNat o.trailer ++
    " st=" ++ showOptNat o.status ++ " cancel=" ++ showBool o.cancelled

/-- Calls as the harness fakes can observe them in order (`reqDone()` is visible only as the state of the
child context, field `cancel=`). -/
def showPEv : PEv → Option String
  | .openChild => some "o"
  | .childHeader => some "ch"
  | .sendHeader _ => some "H"
  | .recv => some "r"
  | .send _ => some "s"
  | .childTrailer => some "ct"
  | .setTrailer _ => some "T"
  | .cancel => none

def showEvents (es : List PEv) : String :=
  let xs := es.filterMap showPEv
  if xs.isEmpty then "-" else ".".intercalate xs

def showPC : PC → String
  | .lookup => "@lookup"
  | .fallback => "@fallback"
  | .factory => "@factory"
  | .insert c => "@insert" ++ toString c
  | .notify c => "@notify" ++ toString c
  | .done r => showRes r

def parseReg? (s : String) : Option Reg :=
  (splitList s ",").mapM fun e =>
    match e.splitOn ":" with
    | [n, c] => do let k ← parseNat? c; pure (unTilde n, k)
    | _ => none

def parseField? (s : String) : Option Field :=
  match s.splitOn ":" with
  | [n, "S", v] => some ⟨n, true, .str (unTilde v)⟩
  | [n, "X", v] => some ⟨n, false, .str (unTilde v)⟩      -- a string-valued field that is not singular string kind
  | [n, "O", v] => do let k ← parseNat? v; pure ⟨n, false, .other k⟩
  | _ => none

def showField (f : Field) : String :=
  match f.val with
  | .str s => f.fname ++ ":" ++ (if f.isString then "S" else "X") ++ ":" ++ tilde s
  | .other k => f.fname ++ ":O:" ++ toString k

/-- One *macro* step as the harness can force it: one atomic step, except that the fallback and the
factory call of a Get run together (there is no yield point between them). -/
def lmacro (cfg : Cfg) (c : LConf) (t : Nat) : LConf :=
  let c1 := lstep cfg c t
  match c1.ths[t]? with
  | some ⟨_, .factory _, _, _⟩ => lstep cfg c1 t
  | _ => c1

def showLPC : LPC → String
  | .idle => "idle"
  | .notify _ _ => "callback"
  | .fallback _ => "afterMiss"
  | .factory _ => "factory"
  | .insert _ _ => "beforeInsert"

def showLThread (th : LThread) : String :=
  (if th.results.isEmpty then "-" else ".".intercalate (th.results.map showRes)) ++ "@" ++ showLPC th.pc ++
    (if th.prog.isEmpty then "" else "+" ++ toString th.prog.length)

/-- The closed family of re-entrant callbacks shared with the harness (`d` = nesting depth). -/
def callbackOf (kind : String) : Option Callback :=
  match kind with
  | "has" => some fun _ ch => [.has ch.name]
  | "get" => some fun _ ch => [.get ch.name]
  | "rm" => some fun _ ch => [.remove ch.name]
  | "add" => some fun d ch => [.add ch.name (70 + d)]
  | "sib" => some fun _ ch => [.get "s", .has ch.name]
  | "mix" => some fun d ch => [.has ch.name, .add "m" (50 + d), .remove "m", .get ch.name]
  | "undo" => some fun _ ch =>
    match ch.new, ch.old with
    | some _, _ => if ch.auto then [] else [.remove ch.name]
    | none, some o => [.add ch.name o]
    | none, none => []
  | _ => none

def showOp : Op → String
  | .add n c => "a:" ++ tilde n ++ ":" ++ toString c
  | .remove n => "r:" ++ tilde n
  | .has n => "h:" ++ tilde n
  | .get n => "g:" ++ tilde n

def parseTransport? (s : String) : Option Transport :=
  if s = "ow" then some .overwrite
  else if s = "mg" then some .merge
  else if s.startsWith "of" then (parseNat? (s.drop 2).toString).map .overwriteFail
  else if s.startsWith "f" then (parseNat? (s.drop 1).toString).map .fail
  else none

def parseMsg? (s : String) : Option Msg := (splitList s ",").mapM parseField?

def showMsg (m : Msg) : String := commaList (m.map showField)

/-- The handler's message: `z` = `new(Req)`. -/
def parseM0? (s : String) (wire : Msg) : Option Msg :=
  if s = "z" then some wire.zero else do
    let m ← parseMsg? s
    if m.length = wire.length then some m else none

def handle? (toks : List String) : Option String :=
  match toks with
  | ["gen", dir, file, svc] =>
    let r := emitRouter dir.toList file.toList svc.toList
    let w := emitWrapper dir.toList file.toList svc.toList
    some (String.ofList r.path ++ " " ++ tilde (String.ofList r.typeName) ++ " " ++
      String.ofList w.path ++ " " ++ tilde (String.ofList w.typeName))
  | ["nrecv", dflt, tr, m0, wire] => do
    let t ← parseTransport? tr
    let wire ← parseMsg? wire
    let m0 ← parseM0? m0 wire
    let r0 ← t.recv wire m0
    -- the transport's RecvMsg: a function of what the handler's message holds (total outside the case at hand)
    let inner : Msg → RecvOut := fun m => (t.recv wire m).getD r0
    let r := wrappedRecv (unTilde dflt) inner m0
    pure (showMsg r.msg ++ " err=" ++ showOptNat r.err)
  | ["srv", dflt, fb, fac, ops, method, "U", wire, co] => do
    let cfg ← cfgOf fb fac
    let ops ← parseOps? ops
    let method ← parseNat? method
    let wire ← parseMsg? wire
    let co ← parseUOut? co
    let (s, _) := run cfg St.init ops
    let (s', req, calls, out) := serveUnary (unTilde dflt) cfg s (fun _ => 5) method wire (fun _ _ _ => co)
    pure ("req=" ++ (if calls.isEmpty then "-" else showMsg req) ++ " calls=" ++ showCalls calls ++
      " out=" ++ showUOut out ++ " " ++ showSt s')
  | ["srv", dflt, fb, fac, ops, method, "S", tr, m0, wire, cs, ks] => do
    let cfg ← cfgOf fb fac
    let ops ← parseOps? ops
    let method ← parseNat? method
    let t ← parseTransport? tr
    let wire ← parseMsg? wire
    let m0 ← parseM0? m0 wire
    let cs ← parseChild? cs
    let ks ← parseCaller? ks
    let r0 ← t.recv wire m0
    let inner : Msg → RecvOut := fun m => (t.recv wire m).getD r0
    let (s, _) := run cfg St.init ops
    let (s', req, o) := serveStream (unTilde dflt) inner cfg s (fun _ => 5) method m0 cs ks
    let reqS := match req with
      | some r => if o.calls.isEmpty then "-" else showMsg r
      | none => "-"
    pure ("req=" ++ reqS ++ " " ++ showObs o ++ " " ++ showSt s')
  | ["rre", fb, fac, cbk, depth, ops] => do
    let cfg ← cfgOf fb fac
    let cb ← callbackOf cbk
    let depth ← parseNat? depth
    let ops ← parseOps? ops
    let (s, tr) := runRe cfg cb depth 0 St.init ops
    pure ("tr=" ++ commaList (tr.map fun p => showOp p.1 ++ ">" ++ showRes p.2) ++ " " ++ showSt s)
  | ["ropts", opts, ops] => do
    let opts ← parseROpts? opts
    let ops ← (splitList ops ",").mapM parseGOp?
    let r := newRouter opts
    let (s, rs) := grun r.cfg St.init ops
    let heard := match r.onChange with
      | some t => s.log.map fun c => toString t ++ ">" ++ showChange c
      | none => []
    let calls := (List.range opts.length).map fun t => toString (callsOf r s t)
    pure ("res=" ++ commaList (rs.map showGRes) ++ " log=" ++ commaList heard ++ " reg=" ++ showReg s.reg ++
      " calls=" ++ (if calls.isEmpty then "-" else ".".intercalate calls))
  | ["reg", fb, fac, ops] => do
    let cfg ← cfgOf fb fac
    let ops ← parseOps? ops
    let (s, rs) := run cfg St.init ops
    pure ("res=" ++ commaList (rs.map showRes) ++ " " ++ showSt s)
  | ["wroute", fb, fac, ops, name, method, req, sh, st, cs, reuse, ks] => do
    let cfg ← cfgOf fb fac
    let ops ← parseOps? ops
    let method ← parseNat? method
    let req ← parseNat? req
    let sh ← parseOptTok? sh
    let st ← parseOptTok? st
    let cs ← parseChild? cs
    let ks ← parseCaller? ks
    let reuse ← (if reuse = "r" then some true else if reuse = "f" then some false else none)
    let (s, _) := run cfg St.init ops
    let (s', got) := get cfg s (unTilde name)
    pure (showWObs (routeWrapped encL got method req sh st cs reuse 998 ks) ++ " " ++ showSt s')
  | ["wcall", method, req, sh, h, st, co, opts] => do
    let method ← parseNat? method
    let req ← parseNat? req
    let sh ← parseOptTok? sh
    let h ← parseOptTok? h
    let st ← parseOptTok? st
    let co ← parseUOut? co
    let opts ← parseCOpts? opts
    let ops := sh.toList.map HOp.setHeader ++ st.toList.map HOp.setTrailer ++ h.toList.map (fun x => HOp.sendHeader (some x))
    let (out, mem) := invokeWrappedOpts ops co opts (fun _ => none)
    pure ("calls=1:" ++ toString method ++ ":" ++ toString req ++
      " vars=" ++ commaList ((coptVars opts).map fun a => toString a ++ ":" ++ (match mem a with | none => "-" | some l => showMDList l)) ++
      " out=" ++ showUOut out)
  | ["wcallc", method, req, sh, h, st, opts, ce] => do
    let method ← parseNat? method
    let req ← parseNat? req
    let sh ← parseOptTok? sh
    let h ← parseOptTok? h
    let st ← parseOptTok? st
    let opts ← parseCOpts? opts
    let ce ← parseNat? ce
    let ops := sh.toList.map HOp.setHeader ++ st.toList.map HOp.setTrailer ++ h.toList.map (fun x => HOp.sendHeader (some x))
    let (out, mem) := invokeCancelled ops ce opts (fun _ => none)
    pure ("calls=1:" ++ toString method ++ ":" ++ toString req ++
      " vars=" ++ commaList ((coptVars opts).map fun a => toString a ++ ":" ++ (match mem a with | none => "-" | some l => showMDList l)) ++
      " out=" ++ showUOut out)
  | ["wcancel", fb, fac, ops, name, method, req, sh, st, cs, reuse, park, ce] => do
    let ce ← parseNat? ce
    let cfg ← cfgOf fb fac
    let ops ← parseOps? ops
    let method ← parseNat? method
    let req ← parseNat? req
    let sh ← parseOptTok? sh
    let st ← parseOptTok? st
    let cs ← parseChild? cs
    let park ← parsePark? park
    let reuse ← (if reuse = "r" then some true else if reuse = "f" then some false else none)
    if cs.openErr.isSome || cs.headerErr.isSome || (match park with | some k => k > cs.msgs.length | none => false) then none else
    let (s, _) := run cfg St.init ops
    let (s', got) := get cfg s (unTilde name)
    pure (showCObs (routeCancelled encL got method req sh st cs park reuse 998 ce healthy) ++ " " ++ showSt s')
  | ["route", fb, fac, ops, name, method, req, "U", co] => do
    let cfg ← cfgOf fb fac
    let ops ← parseOps? ops
    let method ← parseNat? method
    let req ← parseNat? req
    let co ← parseUOut? co
    let (s, _) := run cfg St.init ops
    let (s', got) := get cfg s (unTilde name)
    let (calls, out) := forwardUnary got method req (fun _ _ _ => co)
    pure ("calls=" ++ showCalls calls ++ " out=" ++ showUOut out ++ " " ++ showSt s')
  | ["route", fb, fac, ops, name, method, req, "S", cs, ks] => do
    let cfg ← cfgOf fb fac
    let ops ← parseOps? ops
    let method ← parseNat? method
    let req ← parseNat? req
    let cs ← parseChild? cs
    let ks ← parseCaller? ks
    let (s, _) := run cfg St.init ops
    let (s', got) := get cfg s (unTilde name)
    pure (showObs (forwardStream got method req cs ks) ++ " ev=" ++ showEvents (pumpEvents got cs ks) ++ " " ++ showSt s')
  | ["conc", fb, fac, reg0, names, sched] => do
    let cfg ← cfgOf fb fac
    let reg0 ← parseReg? reg0
    let names := (splitList names ",").map unTilde
    let sched ← (splitList sched ",").mapM parseNat?
    if sched.any (· ≥ names.length) then none else
    let c0 := Conf.start reg0 0 0 (fun t => names.getD t "")
    let c := crun cfg c0 sched
    pure ("th=" ++ commaList ((List.range names.length).map fun t => showPC (c.th t).pc) ++ " " ++ showSt c.st)
  | ["lin", fb, fac, reg0, progs, sched] => do
    let cfg ← cfgOf fb fac
    let reg0 ← parseReg? reg0
    let progs ← (splitList progs "|").mapM parseOps?
    let sched ← (splitList sched ",").mapM parseNat?
    let c := sched.foldl (lmacro cfg) (LConf.start reg0 0 0 progs)
    pure ("th=" ++ "|".intercalate (c.ths.map showLThread) ++ " " ++ showSt c.st)
  | ["namechain", d1, d2, fields] => do
    let fs ← parseMsg? fields
    pure (showMsg (replaceEmptyName (unTilde d2) (replaceEmptyName (unTilde d1) fs)))
  | ["name", dflt, fields] => do
    let fs ← parseMsg? fields
    pure (showMsg (replaceEmptyName (unTilde dflt) fs))
  | _ => none

def handle (toks : List String) : String :=
  match handle? toks with
  | some r => r
  | none => "!bad-op"

end ScVerif.C12
