import ScVerif.C12.SpanLemmas
/-!
# C12 — property theorems, what concurrent operations may return (mixed Add / Remove / Has / Get)

`C12_registry_linearizable` (PropsLin.lean) is about the lock sections.  Here the statement is about
whole *operations*, under every schedule of threads running arbitrary programs of all four operations:
each finished operation has a span `[first, last)` of global lock-section time inside its own
invoke–response interval, and its result is the map specification's answer at one of the thread's own
lock sections inside that span.  For `Get` (which is not atomic: read ▸ fallback ▸ factory ▸
put-if-absent) this says: the client it returns was registered under the name at some moment between
its invocation and its response — possibly put there by a concurrent `Add`, or by its own or another
thread's factory commit — and never a client that had been removed before the Get started and was not
put back.
-/
namespace ScVerif.C12

/-- **Every result of every concurrent operation is justified inside its own span.**  With the ghost
bookkeeping of `Span.lean` (which does not change the run): for every thread, its results are exactly those of
its finished operations, these are (with the at most one operation in flight and the operations not yet
started) its program, in order; every finished operation ran during a non-empty span of lock-section time
that lies in the past; and its result is `Justified` there (Span.lean: the map specification's answer at the
operation's first lock section, or for a `Get` that found a client at one of the thread's own lock sections
inside the span). -/
theorem C12_concurrent_results_justified (cfg : Cfg) (reg0 : Reg) (k1 k2 : Nat) (progs : List (List Op))
    (sched : List Nat) :
    let tc := trun cfg (TConf.start reg0 k1 k2 progs) sched
    tc.c = lrun cfg (LConf.start reg0 k1 k2 progs) sched ∧
    ∀ t th, tc.c.ths[t]? = some th →
      th.results = (tc.done.getD t []).map (·.res) ∧
      progs.getD t [] =
        (tc.done.getD t []).map (·.op) ++ ((tc.cur.getD t none).map (·.1)).toList ++ th.prog ∧
      ∀ sp ∈ tc.done.getD t [], sp.first < sp.last ∧ sp.last ≤ tc.c.glog.length ∧
        Justified cfg reg0 tc.c.glog t sp.op sp.res sp.first sp.last := by
  intro tc
  have h : TInv cfg reg0 progs tc := tinv_reach cfg reg0 k1 k2 progs sched
  refine ⟨trun_c cfg _ sched, ?_⟩
  intro t th hth
  have ok := h.ok t th hth
  exact ⟨ok.results, ok.prog, ok.spans⟩

/-- **A concurrent Get returns a client that was live during the Get.**  A client that did not come from the
fallback was registered under `n` right after one of the thread's own lock sections between the Get's invocation
and its response; hence a client removed before the Get started and not put back is not returned; NotFound or
the fallback's client mean `n` was not registered when the Get started. -/
theorem C12_get_live_client (cfg : Cfg) (reg0 : Reg) (k1 k2 : Nat) (progs : List (List Op))
    (sched : List Nat) (t : Nat) (sp : Span) (n : Name)
    (hsp : sp ∈ (trun cfg (TConf.start reg0 k1 k2 progs) sched).done.getD t [])
    (hop : sp.op = .get n) :
    let glog := (lrun cfg (LConf.start reg0 k1 k2 progs) sched).glog
    (∀ c src, sp.res = .got c src → src ≠ .fallback →
      ∃ i, sp.first ≤ i ∧ i < sp.last ∧ sp.last ≤ glog.length ∧ (glog[i]?).map (·.tid) = some t ∧
        mapAt reg0 glog (i + 1) n = some c) ∧
    (∀ c, (∀ i, sp.first ≤ i → i < sp.last → mapAt reg0 glog (i + 1) n ≠ some c) →
      sp.res ≠ .got c .registered ∧ sp.res ≠ .got c .factory) ∧
    ((sp.res = .notFound ∨ ∃ c, sp.res = .got c .fallback) → mapAt reg0 glog sp.first n = none) := by
  intro glog
  obtain ⟨h2, h3⟩ := span_get hsp hop
  -- the three shapes of a Get's result, each against the three clauses
  rcases h3.get_cases with ⟨hr, hm⟩ | ⟨c0, hr, hm⟩ | ⟨c0, src0, hr, hs, i, a1, a2, a3, a4⟩ <;> rw [hr]
  · exact ⟨nofun, fun _ _ => ⟨nofun, nofun⟩, fun _ => hm⟩
  · exact ⟨fun c src e hne => by cases e; exact absurd rfl hne, fun _ _ => ⟨nofun, nofun⟩, fun _ => hm⟩
  · refine ⟨fun c src e _ => by cases e; exact ⟨i, a1, a2, h2, a3, a4⟩,
      fun c hall => ⟨fun e => by cases e; exact hall i a1 a2 a4, fun e => by cases e; exact hall i a1 a2 a4⟩, ?_⟩
    rintro (e | ⟨c, e⟩) <;> cases e
    exact absurd rfl hs

/-- Non-vacuity: a Get racing with an Add and a Remove of the same name, with a factory.  Thread 0's Get
misses (time 0), thread 1 adds client 1 (time 1) — thread 0's put-if-absent (time 2) then finds and
returns client 1, registered during the Get's span `[0, 3)`; thread 1's Remove comes later (time 3). -/
example :
    (trun ⟨none, some fun _ k => ⟨some (1000 + k), false⟩⟩
      (TConf.start [] 0 0 [[.get "n"], [.add "n" 1, .remove "n"]]) [0, 1, 0, 0, 0, 1, 1, 1]).done =
      [[⟨.get "n", .got 1 .registered, 0, 3⟩],
       [⟨.add "n" 1, .prev none, 1, 3⟩, ⟨.remove "n", .prev (some 1), 3, 4⟩]] := by
  decide +kernel

/-- …and when the Remove is over before the Get starts, the Get cannot return the removed client: the
factory makes a new one. -/
example :
    (trun ⟨none, some fun _ k => ⟨some (1000 + k), false⟩⟩
      (TConf.start [("n", 1)] 0 0 [[.get "n"], [.remove "n"]]) [1, 1, 0, 0, 0, 0, 0]).done =
      [[⟨.get "n", .got 1000 .factory, 1, 3⟩], [⟨.remove "n", .prev (some 1), 0, 1⟩]] := by
  decide +kernel

end ScVerif.C12
