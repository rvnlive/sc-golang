/-!
# C12 — tables of services, routers and wrappers (K3)

The *types* of the facts regenerated on every run into `ScVerif/Generated/C12Facts.lean` by
`harness/cmd/c12 -facts` (from the compiled API descriptors and from the Go AST of the checked-in
`*_router.pb.go` / `*_wrap.pb.go`), the Boolean checker `allRouted`, and its soundness proof —
valid for every table, so the per-run obligation is a single evaluation of the checker.

Strings are interned by the translator (`Nat` ids, injective; the id ↦ string table is emitted too).
-/
namespace ScVerif.C12

/-- A method of a service descriptor. -/
structure MethodD where
  name : Nat
  serverStream : Bool
  clientStream : Bool
deriving DecidableEq, Repr

/-- A service of the API descriptors; `svc` identifies (Go import path, Go service name). -/
structure ServiceD where
  svc : Nat
  methods : List MethodD
deriving DecidableEq, Repr

/-- What the translator saw of one forwarder method of a router type. -/
structure FwdFact where
  name : Nat
  streaming : Bool        -- signature `(request, server) error` rather than `(ctx, request) (resp, error)`
  readsName : Bool        -- the client is obtained by `r.Get<Client>(request.Name)`
  childCalls : List Nat   -- methods invoked on that client anywhere in the body
deriving DecidableEq, Repr

/-- One router type found in `pkg/trait`. `svc`: the service whose `Unimplemented…Server` it embeds
and whose `Register…Server` its `Register` calls. -/
structure RouterFact where
  svc : Nat
  registers : Nat
  methods : List FwdFact
deriving DecidableEq, Repr

/-- One wrapper found in `pkg/trait`: the services named by its server parameter, by the
`_ServiceDesc` it passes to `wrap.ServerToClient`, and by the client constructor it calls. -/
structure WrapperFact where
  serverSvc : Nat
  descSvc : Nat
  clientSvc : Nat
deriving DecidableEq, Repr

/-- Canonical forwarder of method `m`: same name, same streaming shape, the client is chosen by
`request.Name`, and the one call made on it is the method of the same name. -/
def Canonical (m : MethodD) (f : FwdFact) : Prop :=
  f.name = m.name ∧ f.streaming = m.serverStream ∧ f.readsName = true ∧ f.childCalls = [m.name]

def fwdOk (m : MethodD) (f : FwdFact) : Bool :=
  f.name == m.name && f.streaming == m.serverStream && f.readsName && f.childCalls == [m.name]

/-- Router `r` is the router of service `s`: it embeds and registers `s`, forwards every method of `s`
canonically and nothing else.  (The first test is `Nat.beq`, not `==`: the kernel evaluates it for every pair of
rows when `allRouted` is checked on the tables.) -/
def routerCovers (s : ServiceD) (r : RouterFact) : Bool :=
  r.svc.beq s.svc && r.registers == s.svc &&
  s.methods.all (fun m => !m.clientStream && r.methods.any (fwdOk m)) &&
  r.methods.all (fun f => s.methods.any (fun m => m.name == f.name))

def wrapperCovers (s : ServiceD) (w : WrapperFact) : Bool :=
  w.serverSvc.beq s.svc && w.descSvc == s.svc && w.clientSvc == s.svc

def allRouted (ds : List ServiceD) (rs : List RouterFact) (ws : List WrapperFact) : Bool :=
  ds.all (fun s => rs.any (routerCovers s) && ws.any (wrapperCovers s)) &&
  rs.all (fun r => ds.any (fun s => s.svc.beq r.svc)) &&
  ws.all (fun w => ds.any (fun s => s.svc.beq w.serverSvc))

theorem fwdOk_iff (m : MethodD) (f : FwdFact) : fwdOk m f = true ↔ Canonical m f := by
  simp [fwdOk, Canonical, and_assoc]

/-- Soundness of the checker, for all tables. -/
theorem allRouted_sound (ds : List ServiceD) (rs : List RouterFact) (ws : List WrapperFact)
    (h : allRouted ds rs ws = true) :
    (∀ s ∈ ds,
      (∃ r ∈ rs, r.svc = s.svc ∧ r.registers = s.svc ∧
        (∀ m ∈ s.methods, m.clientStream = false ∧ ∃ f ∈ r.methods, Canonical m f) ∧
        (∀ f ∈ r.methods, ∃ m ∈ s.methods, m.name = f.name)) ∧
      (∃ w ∈ ws, w.serverSvc = s.svc ∧ w.descSvc = s.svc ∧ w.clientSvc = s.svc)) ∧
    (∀ r ∈ rs, ∃ s ∈ ds, s.svc = r.svc) ∧
    (∀ w ∈ ws, ∃ s ∈ ds, s.svc = w.serverSvc) := by
  simp only [allRouted, Bool.and_eq_true, List.all_eq_true, List.any_eq_true] at h
  obtain ⟨⟨h1, h2⟩, h3⟩ := h
  refine ⟨?_, ?_, ?_⟩
  · intro s hs
    obtain ⟨⟨r, hr, hc⟩, ⟨w, hw, hwc⟩⟩ := h1 s hs
    constructor
    · simp only [routerCovers, Bool.and_eq_true, List.all_eq_true, List.any_eq_true, beq_iff_eq,
        Bool.not_eq_true'] at hc
      obtain ⟨⟨⟨a, b⟩, c⟩, d⟩ := hc
      refine ⟨r, hr, Nat.eq_of_beq_eq_true a, b, ?_, ?_⟩
      · intro m hm
        obtain ⟨c1, f, hf, hok⟩ := c m hm
        exact ⟨c1, f, hf, (fwdOk_iff m f).mp hok⟩
      · intro f hf
        obtain ⟨m, hm, e⟩ := d f hf
        exact ⟨m, hm, e⟩
    · simp only [wrapperCovers, Bool.and_eq_true, beq_iff_eq] at hwc
      exact ⟨w, hw, Nat.eq_of_beq_eq_true hwc.1.1, hwc.1.2, hwc.2⟩
  · intro r hr
    obtain ⟨s, hs, e⟩ := h2 r hr
    exact ⟨s, hs, Nat.eq_of_beq_eq_true e⟩
  · intro w hw
    obtain ⟨s, hs, e⟩ := h3 w hw
    exact ⟨s, hs, Nat.eq_of_beq_eq_true e⟩

end ScVerif.C12
