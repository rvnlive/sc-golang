import ScVerif.C12.NameDefault
/-! `replaceEmptyNameField` touches only an empty string `name` (`replaceEmptyName_eq`); the rest follows from what
`setName` does. -/
namespace ScVerif.C12

theorem findName_setName (d : String) (m : Msg) (f : Field) (h : findName m = some f) :
    findName (setName d m) = some { f with val := .str d } := by
  induction m with
  | nil => simp [findName] at h
  | cons g gs ih =>
    simp only [findName] at h
    simp only [setName]
    split
    · next hg => simp [hg] at h; subst h; simp [findName, hg]
    · next hg => simp [hg] at h; simp [findName, hg, ih h]

theorem findName_fname (m : Msg) (f : Field) (h : findName m = some f) : f.fname = "name" := by
  induction m with
  | nil => simp [findName] at h
  | cons g gs ih =>
    simp only [findName] at h
    split at h
    · next hg => simp at h; subst h; exact hg
    · exact ih h

theorem setName_frame (d : String) (m : Msg) :
    (setName d m).length = m.length ∧
    ∀ i (hi : i < m.length) (hi' : i < (setName d m).length), (m[i]).fname ≠ "name" → (setName d m)[i] = m[i] := by
  induction m with
  | nil => simp [setName]
  | cons g gs ih =>
    simp only [setName]
    split
    · next hg =>
      refine ⟨by simp, fun i hi hi' => ?_⟩
      cases i with
      | zero => simp [hg]
      | succ k => simp
    · next hg =>
      refine ⟨by simp [ih.1], fun i hi hi' => ?_⟩
      cases i with
      | zero => simp
      | succ k =>
        simp only [List.getElem_cons_succ]
        exact ih.2 k (by simpa using hi) (by simpa using hi')

theorem replaceEmptyName_eq (d : String) (m : Msg) :
    replaceEmptyName d m = if nameOf m = some "" then setName d m else m := by
  unfold replaceEmptyName nameOf
  cases hf : findName m with
  | none => simp
  | some f =>
    obtain ⟨fname, isS, v⟩ := f
    cases isS <;> cases v <;> simp

theorem nameOf_setName (d : String) (m : Msg) (s : String) (h : nameOf m = some s) :
    nameOf (setName d m) = some d := by
  unfold nameOf at h ⊢
  cases hf : findName m with
  | none => simp [hf] at h
  | some f =>
    obtain ⟨fname, isS, v⟩ := f
    rw [findName_setName d m _ hf]
    cases isS <;> simp_all

theorem replaceEmptyName_frame (d : String) (m : Msg) :
    (replaceEmptyName d m).length = m.length ∧
    ∀ i (hi : i < m.length) (hi' : i < (replaceEmptyName d m).length),
      (m[i]).fname ≠ "name" → (replaceEmptyName d m)[i] = m[i] := by
  rw [replaceEmptyName_eq]
  split
  · exact setName_frame d m
  · exact ⟨rfl, fun _ _ _ _ => rfl⟩

theorem nameOf_replaceEmptyName (d : String) (m : Msg) (s : String) (hs : nameOf m = some s) :
    nameOf (replaceEmptyName d m) = some (if s = "" then d else s) := by
  rw [replaceEmptyName_eq, hs]
  by_cases h : s = ""
  · subst h; rw [if_pos rfl, if_pos rfl]; exact nameOf_setName d m "" hs
  · rw [if_neg (fun e => h (Option.some.inj e)), if_neg h]; exact hs

theorem replace_named (d : String) (m : Msg) (nm : String) (hn : nameOf m = some nm) (hne : nm ≠ "") :
    replaceEmptyName d m = m := by
  rw [replaceEmptyName_eq, if_neg]
  rw [hn]
  exact fun e => hne (Option.some.inj e)

theorem setName_setName (d d' : String) (m : Msg) : setName d (setName d' m) = setName d m := by
  induction m with
  | nil => rfl
  | cons g gs ih =>
    simp only [setName]
    split
    · next hg => simp [setName, hg]
    · next hg => simp [setName, hg, ih]

theorem replace_chain (d₁ d₂ : String) (m : Msg) (h : d₁ ≠ "" ∨ d₂ = d₁) :
    replaceEmptyName d₂ (replaceEmptyName d₁ m) = replaceEmptyName d₁ m := by
  rw [replaceEmptyName_eq d₁ m]
  split
  · next hm =>
    -- the name was empty and is `d₁` now: a second pass changes it only if `d₁` is empty too, and then to `d₂ = d₁`
    rw [replaceEmptyName_eq, nameOf_setName d₁ m "" hm]
    rcases h with h | rfl
    · rw [if_neg (fun e => h (Option.some.inj e))]
    · split
      · exact setName_setName _ _ m
      · rfl
  · next hm => rw [replaceEmptyName_eq, if_neg hm]

end ScVerif.C12
