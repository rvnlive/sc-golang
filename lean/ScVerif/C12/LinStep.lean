import ScVerif.C12.Lin
import ScVerif.C12.RegistryLemmas
import ScVerif.C12.Sched
import ScVerif.Base.ListLemmas
/-! What every invariant of `Lin.lean` goes through: the atomic steps as a relation (`Acts`), the configuration after a
step (`LConf.after`), and induction over the configurations a schedule reaches (`lrun_induct`). -/
namespace ScVerif.C12

/-- `Acts cfg s th e`: thread `th` on shared state `s` takes the step with effect `e`.  The thirteen
constructors are the branches of `action`, in its order, each with the registry lookup or
fallback / factory outcome that selects it; their variables are implicit, the two indices fix them. -/
inductive Acts (cfg : Cfg) (s : St) : LThread → Effect → Prop
  | add :
      Acts cfg s ⟨.add n c :: rest, .idle, rs, sn⟩
      ⟨{ s with reg := s.reg.set n c },
        ⟨rest, .notify ⟨n, s.reg.get n, some c, false⟩ (.prev (s.reg.get n)), rs,
          sn ++ [(.put n c, .opt (s.reg.get n))]⟩,
        some (.put n c, .opt (s.reg.get n)), some ⟨n, s.reg.get n, some c, false⟩, none⟩
  | removeAbsent :
      s.reg.get n = none → Acts cfg s ⟨.remove n :: rest, .idle, rs, sn⟩
      ⟨s, ⟨rest, .idle, rs ++ [.prev none], sn ++ [(.del n, .opt none)]⟩, some (.del n, .opt none), none, none⟩
  | remove :
      s.reg.get n = some o → Acts cfg s ⟨.remove n :: rest, .idle, rs, sn⟩
      ⟨{ s with reg := s.reg.erase n },
        ⟨rest, .notify ⟨n, some o, none, false⟩ (.prev (some o)), rs, sn ++ [(.del n, .opt (some o))]⟩,
        some (.del n, .opt (some o)), some ⟨n, some o, none, false⟩, none⟩
  | has :
      Acts cfg s ⟨.has n :: rest, .idle, rs, sn⟩
      ⟨s, ⟨rest, .idle, rs ++ [.bool (s.reg.get n).isSome], sn ++ [(.has n, .bool (s.reg.get n).isSome)]⟩,
        some (.has n, .bool (s.reg.get n).isSome), none, none⟩
  | getHit :
      s.reg.get n = some c → Acts cfg s ⟨.get n :: rest, .idle, rs, sn⟩
      ⟨s, ⟨rest, .idle, rs ++ [.got c .registered], sn ++ [(.read n, .opt (some c))]⟩,
        some (.read n, .opt (some c)), none, none⟩
  | getMiss :
      s.reg.get n = none → Acts cfg s ⟨.get n :: rest, .idle, rs, sn⟩
      ⟨s, ⟨rest, .fallback n, rs, sn ++ [(.read n, .opt none)]⟩, some (.read n, .opt none), none, none⟩
  | fallbackSome :
      supplies cfg.fallback n s.nfb = some c →
      Acts cfg s ⟨prog, .fallback n, rs, sn⟩
        ⟨{ s with nfb := s.nfb + 1 }, ⟨prog, .idle, rs ++ [.got c .fallback], sn⟩, none, none, none⟩
  | fallbackNone :
      supplies cfg.fallback n s.nfb = none →
      Acts cfg s ⟨prog, .fallback n, rs, sn⟩
        ⟨if cfg.fallback.isSome then { s with nfb := s.nfb + 1 } else s, ⟨prog, .factory n, rs, sn⟩,
          none, none, none⟩
  | factorySome :
      supplies cfg.factory n s.nfac = some c →
      Acts cfg s ⟨prog, .factory n, rs, sn⟩
        ⟨{ s with nfac := s.nfac + 1 }, ⟨prog, .insert n c, rs, sn⟩, none, none, none⟩
  | factoryNone :
      supplies cfg.factory n s.nfac = none →
      Acts cfg s ⟨prog, .factory n, rs, sn⟩
        ⟨if cfg.factory.isSome then { s with nfac := s.nfac + 1 } else s,
          ⟨prog, .idle, rs ++ [.notFound], sn⟩, none, none, none⟩
  | insertLost :
      s.reg.get n = some w → Acts cfg s ⟨prog, .insert n c, rs, sn⟩
      ⟨s, ⟨prog, .idle, rs ++ [.got w .registered], sn ++ [(.pia n c, .pia w false)]⟩,
        some (.pia n c, .pia w false), none, none⟩
  | insertWon :
      s.reg.get n = none → Acts cfg s ⟨prog, .insert n c, rs, sn⟩
      ⟨{ s with reg := s.reg.set n c },
        ⟨prog, .notify ⟨n, none, some c, true⟩ (.got c .factory), rs, sn ++ [(.pia n c, .pia c true)]⟩,
        some (.pia n c, .pia c true), some ⟨n, none, some c, true⟩, none⟩
  | notify :
      Acts cfg s ⟨prog, .notify ch r, rs, sn⟩
      ⟨s, ⟨prog, .idle, rs ++ [r], sn⟩, none, none, some ch⟩

theorem acts_of_action {cfg : Cfg} {s : St} {th : LThread} {e : Effect} (h : action cfg s th = some e) :
    Acts cfg s th e := by
  obtain ⟨prog, pc, rs, sn⟩ := th
  cases pc with
  | idle =>
    cases prog with
    | nil => cases h
    | cons op rest =>
      cases op with
      | add n c => cases h; exact .add
      | remove n =>
        cases hn : s.reg.get n with
        | none => simp only [action, hn] at h; cases h; exact .removeAbsent hn
        | some o => simp only [action, hn] at h; cases h; exact .remove hn
      | has n => cases h; exact .has
      | get n =>
        cases hn : s.reg.get n with
        | none => simp only [action, hn] at h; cases h; exact .getMiss hn
        | some c => simp only [action, hn] at h; cases h; exact .getHit hn
  | fallback n =>
    cases hc : supplies cfg.fallback n s.nfb with
    | none => simp only [action, invoke_eq, hc] at h; cases h; exact .fallbackNone hc
    | some c =>
      simp only [action, invoke_eq, hc, supplies_isSome hc, if_true] at h
      cases h; exact .fallbackSome hc
  | factory n =>
    cases hc : supplies cfg.factory n s.nfac with
    | none => simp only [action, invoke_eq, hc] at h; cases h; exact .factoryNone hc
    | some c =>
      simp only [action, invoke_eq, hc, supplies_isSome hc, if_true] at h
      cases h; exact .factorySome hc
  | insert n c =>
    cases hn : s.reg.get n with
    | none => simp only [action, hn] at h; cases h; exact .insertWon hn
    | some w => simp only [action, hn] at h; cases h; exact .insertLost hn
  | notify ch r => cases h; exact .notify

theorem forall_set {α : Type} {l : List α} {t : Nat} {a x : α} {Q Q' : Nat → α → Prop} (ht : l[t]? = some a)
    (h : ∀ i y, l[i]? = some y → Q i y) (own : Q t a → Q' t x) (other : ∀ i y, i ≠ t → Q i y → Q' i y) :
    ∀ i y, (l.set t x)[i]? = some y → Q' i y :=
  Base.forall_getElem?_set h (fun _ hb => (Option.some.inj (ht.symm.trans hb)) ▸ own) other

/-- Replacing the element at `t`: split the list around it once; what follows is algebra of `++`. -/
theorem exists_split {α : Type} {l : List α} {t : Nat} {a : α} (h : l[t]? = some a) :
    ∃ pre post, l = pre ++ a :: post ∧ pre.length = t ∧ ∀ x, l.set t x = pre ++ x :: post :=
  ⟨l.take t, l.drop (t + 1), (Base.set_split a h).1,
    List.length_take_of_le (Nat.le_of_lt (List.getElem?_eq_some_iff.mp h).1), fun x => (Base.set_split x h).2⟩

section FilterMap
variable {α β : Type} (f : α → Option β)

theorem filterMap_cons_optList (z : α) (zs : List α) :
    (z :: zs).filterMap f = optList (f z) ++ zs.filterMap f := by
  cases hz : f z <;> simp [hz, optList]

theorem filterMap_set_perm {l : List α} {t : Nat} {a : α} (x : α) (h : l[t]? = some a) :
    List.Perm (optList (f a) ++ (l.set t x).filterMap f) (optList (f x) ++ l.filterMap f) := by
  obtain ⟨pre, post, rfl, rfl, hs⟩ := exists_split h
  simp only [hs, List.filterMap_append, filterMap_cons_optList]
  exact (List.perm_append_comm_assoc _ _ _).trans
    (((List.perm_append_comm_assoc _ _ _).append_left _).trans (List.perm_append_comm_assoc _ _ _))

theorem filterMap_only {l : List α} {t : Nat} {a : α} (h : l[t]? = some a)
    (ho : ∀ (i : Nat) (b : α), i ≠ t → l[i]? = some b → f b = none) : l.filterMap f = optList (f a) := by
  obtain ⟨pre, post, rfl, rfl, _⟩ := exists_split h
  have h1 : pre.filterMap f = [] := List.filterMap_eq_nil_iff.mpr fun b hb => by
    obtain ⟨i, hi, rfl⟩ := List.getElem_of_mem hb
    exact ho i _ (Nat.ne_of_lt hi) (by simp [List.getElem?_append_left hi])
  have h2 : post.filterMap f = [] := List.filterMap_eq_nil_iff.mpr fun b hb => by
    obtain ⟨i, hi, rfl⟩ := List.getElem_of_mem hb
    exact ho (pre.length + (i + 1)) _ (by omega) (by simp [hi])
  simp [List.filterMap_append, filterMap_cons_optList, h1, h2]

end FilterMap

/-- The configuration after thread `t` took the step with effect `e`. -/
def LConf.after (c : LConf) (t : Nat) (e : Effect) : LConf :=
  ⟨{ e.st with log := c.st.log ++ optList e.deliver }, c.ths.set t e.th,
    c.glog ++ (optList e.g).map (fun p => ⟨t, p.1, p.2⟩), c.clog ++ optList e.commit⟩

section
variable (c : LConf) (t : Nat) (e : Effect)
@[simp] theorem LConf.after_st : (c.after t e).st = { e.st with log := c.st.log ++ optList e.deliver } := rfl
@[simp] theorem LConf.after_ths : (c.after t e).ths = c.ths.set t e.th := rfl
@[simp] theorem LConf.after_glog :
    (c.after t e).glog = c.glog ++ (optList e.g).map (fun p => ⟨t, p.1, p.2⟩) := rfl
@[simp] theorem LConf.after_clog : (c.after t e).clog = c.clog ++ optList e.commit := rfl
end

theorem lstep_cases (cfg : Cfg) (c : LConf) (t : Nat) :
    (lstep cfg c t = c ∧ ∀ th, c.ths[t]? = some th → action cfg c.st th = none) ∨
    ∃ th e, c.ths[t]? = some th ∧ Acts cfg c.st th e ∧ lstep cfg c t = c.after t e := by
  cases hth : c.ths[t]? with
  | none => exact .inl ⟨by simp only [lstep, hth], fun _ e => nomatch e⟩
  | some th =>
    cases hact : action cfg c.st th with
    | none => exact .inl ⟨by simp only [lstep, hth, hact], fun _ e => by cases e; exact hact⟩
    | some e => exact .inr ⟨th, e, rfl, acts_of_action hact, by simp only [lstep, hth, hact, LConf.after]⟩

theorem lrun_induct {cfg : Cfg} {P : LConf → Prop}
    (step : ∀ c t th e, c.ths[t]? = some th → Acts cfg c.st th e → P c → P (c.after t e))
    {c : LConf} (h : P c) (sched : List Nat) : P (lrun cfg c sched) := by
  refine run_inv (fun _ => rfl) (fun _ _ _ => rfl) P (fun c t h => ?_) h sched
  rcases lstep_cases cfg c t with ⟨heq, _⟩ | ⟨th, e, hth, hact, heq⟩
  · rw [heq]; exact h
  · rw [heq]; exact step c t th e hth hact h

theorem start_forall {reg0 : Reg} {k1 k2 : Nat} {progs : List (List Op)} {Q : Nat → LThread → Prop}
    (h : ∀ t p, progs[t]? = some p → Q t ⟨p, .idle, [], []⟩) :
    ∀ t th, (LConf.start reg0 k1 k2 progs).ths[t]? = some th → Q t th := by
  intro t th hth
  simp only [LConf.start, List.getElem?_map, Option.map_eq_some_iff] at hth
  obtain ⟨p, hp, rfl⟩ := hth
  exact h t p hp

end ScVerif.C12
