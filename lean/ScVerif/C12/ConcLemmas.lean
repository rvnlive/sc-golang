import ScVerif.C12.Conc
import ScVerif.C12.RegistryLemmas
import ScVerif.C12.Sched
/-! `Conc.lean` runs the five steps of `Get` that `Lin.lean` runs too, for threads doing one `Get` each and without
ghost logs; no theorem carries one development over to the other, they share `Sched.lean` and the registry lemmas. -/
namespace ScVerif.C12

/-- What thread `t`'s program counter promises about the shared state: a thread about to announce `cl` has
installed it over nothing and nothing was announced for its name yet; a finished `Get` returned the client
registered under its name, or one the fallback supplied, or `notFound` after the factory declined. -/
def ThOk (cfg : Cfg) (reg0 : Reg) (names : Nat → Name) (st : St) (t : Nat) : PC → Prop
  | .notify cl => st.reg.get (names t) = some cl ∧ reg0.get (names t) = none ∧ ∀ e ∈ st.log, e.name ≠ names t
  | .done (.got cl .fallback) => ∃ k, supplies cfg.fallback (names t) k = some cl
  | .done (.got cl _) => st.reg.get (names t) = some cl
  | .done .notFound => ∃ k, supplies cfg.factory (names t) k = none
  | .done _ => False
  | _ => True

/-- Every announced change is an `Auto` change from "absent" (also at the start) to the client now registered. -/
def LogOk (reg0 : Reg) (st : St) : Prop :=
  ∀ e ∈ st.log, e.auto = true ∧ e.old = none ∧ reg0.get e.name = none ∧
    st.reg.get e.name = e.new ∧ e.new.isSome = true

/-- The registry only grows (`mono`).  Per name at most one thread is between its insert and its callback
(`notif_uniq`); a name that entered the registry is owed its announcement by such a thread or has been announced
(`fresh`), and never twice (`log_nodup`). -/
structure Inv (cfg : Cfg) (reg0 : Reg) (names : Nat → Name) (c : Conf) : Prop where
  name_eq : ∀ t, (c.th t).name = names t
  mono : ∀ k x, reg0.get k = some x → c.st.reg.get k = some x
  ths : ∀ t, ThOk cfg reg0 names c.st t (c.th t).pc
  notif_uniq : ∀ t t' cl cl', (c.th t).pc = .notify cl → (c.th t').pc = .notify cl' →
    names t = names t' → t = t'
  log_shape : LogOk reg0 c.st
  log_nodup : (c.st.log.map (·.name)).Nodup
  fresh : ∀ n, reg0.get n = none → c.st.reg.get n ≠ none →
    (∃ t cl, (c.th t).pc = .notify cl ∧ names t = n) ∨ (∃ e ∈ c.st.log, e.name = n)

theorem inv_start (cfg : Cfg) (reg0 : Reg) (k1 k2 : Nat) (names : Nat → Name) :
    Inv cfg reg0 names (Conf.start reg0 k1 k2 names) := by
  constructor <;> simp [Conf.start, ThOk, LogOk]

theorem setPc_self (c : Conf) (t : Nat) (pc : PC) : ((c.setPc t pc).th t) = ⟨(c.th t).name, pc⟩ := by
  simp [Conf.setPc]

theorem setPc_other (c : Conf) (t i : Nat) (pc : PC) (h : i ≠ t) : ((c.setPc t pc).th i) = c.th i := by
  simp [Conf.setPc, h]

theorem setPc_st (c : Conf) (t : Nat) (pc : PC) : (c.setPc t pc).st = c.st := rfl

section
variable {cfg : Cfg} {reg0 : Reg} {names : Nat → Name} {c : Conf}

theorem Inv.notif (h : Inv cfg reg0 names c) {t : Nat} {cl : Client} (hp : (c.th t).pc = .notify cl) :
    c.st.reg.get (names t) = some cl ∧ reg0.get (names t) = none ∧ ∀ e ∈ c.st.log, e.name ≠ names t := by
  have := h.ths t
  rw [hp] at this
  exact this

theorem ThOk.mono {st st' : St} {t : Nat} {pc : PC} (h : ThOk cfg reg0 names st t pc)
    (hsome : ∀ x, st.reg.get (names t) = some x → st'.reg.get (names t) = some x)
    (hlog : ∀ cl, pc = .notify cl → ∀ e ∈ st'.log, e.name ≠ names t) : ThOk cfg reg0 names st' t pc := by
  cases pc with
  | notify cl => exact ⟨hsome _ h.1, h.2.1, hlog cl rfl⟩
  | done r =>
    cases r with
    | got cl src =>
      cases src with
      | fallback => exact h
      | _ => exact hsome _ h
    | _ => exact h
  | _ => trivial


/-- The one place where `Inv` is re-established; the other threads' promises carry over by `ThOk.mono`. -/
theorem inv_step (h : Inv cfg reg0 names c) (t : Nat) (st' : St) (pc' : PC)
    (hsome : ∀ k x, c.st.reg.get k = some x → st'.reg.get k = some x)
    (hlog : ∀ i cl, i ≠ t → (c.th i).pc = .notify cl → ∀ e ∈ st'.log, e.name ≠ names i)
    (ht : ThOk cfg reg0 names st' t pc')
    (huniq : ∀ cl', pc' = .notify cl' → ∀ i cl, i ≠ t → (c.th i).pc = .notify cl → names i ≠ names t)
    (hshape : LogOk reg0 st')
    (hnodup : (st'.log.map (·.name)).Nodup)
    (hfresh : ∀ n, reg0.get n = none → st'.reg.get n ≠ none →
      (∃ i cl, (if i = t then pc' else (c.th i).pc) = .notify cl ∧ names i = n) ∨ ∃ e ∈ st'.log, e.name = n) :
    Inv cfg reg0 names (({ c with st := st' } : Conf).setPc t pc') := by
  have hpcs : ∀ i, ((({ c with st := st' } : Conf).setPc t pc').th i).pc =
      if i = t then pc' else (c.th i).pc := by
    intro i
    simp only [Conf.setPc]
    split <;> rfl
  refine ⟨?_, fun k x hk => hsome k x (h.mono k x hk), ?_, ?_, hshape, hnodup, ?_⟩
  · intro i
    simp only [Conf.setPc]
    split
    · next e => subst e; exact h.name_eq i
    · exact h.name_eq i
  · intro i
    rw [hpcs]
    split
    · next e => subst e; exact ht
    · next e => exact (h.ths i).mono (hsome _) (fun cl hp => hlog i cl e hp)
  · intro i j cl cl' hi hj hn
    rw [hpcs] at hi hj
    split at hi <;> split at hj
    · next ei ej => rw [ei, ej]
    · next ei ej => subst ei; exact absurd hn.symm (huniq cl hi j cl' ej hj)
    · next ei ej => subst ej; exact absurd hn (huniq cl' hj i cl ei hi)
    · exact h.notif_uniq i j cl cl' hi hj hn
  · intro n hn hr
    rcases hfresh n hn hr with ⟨i, cl, hi, hin⟩ | r
    · exact .inl ⟨i, cl, by rw [hpcs]; exact hi, hin⟩
    · exact .inr r

/-- A step that changes neither registry nor log and neither leaves nor enters `notify`. -/
theorem inv_plain (h : Inv cfg reg0 names c) (t : Nat) (st' : St) (pc' : PC)
    (hreg : st'.reg = c.st.reg) (hlog : st'.log = c.st.log)
    (hnot : ∀ cl, (c.th t).pc ≠ .notify cl) (hnot' : ∀ cl, pc' ≠ .notify cl)
    (ht : ThOk cfg reg0 names c.st t pc') :
    Inv cfg reg0 names (({ c with st := st' } : Conf).setPc t pc') := by
  refine inv_step h t st' pc' (by rw [hreg]; exact fun _ _ hk => hk) ?_ ?_
    (fun cl e => absurd e (hnot' cl)) ?_ (by rw [hlog]; exact h.log_nodup) ?_
  · intro i cl _ hp
    rw [hlog]
    exact (h.notif hp).2.2
  · exact ht.mono (by rw [hreg]; exact fun _ hx => hx) (fun cl e => absurd e (hnot' cl))
  · unfold LogOk
    rw [hlog, hreg]
    exact h.log_shape
  · intro n hn hr
    rw [hreg] at hr
    rcases h.fresh n hn hr with ⟨i, cl, hi, hin⟩ | ⟨e, he, hen⟩
    · refine .inl ⟨i, cl, ?_, hin⟩
      split
      · next e => subst e; exact absurd hi (hnot cl)
      · exact hi
    · exact .inr ⟨e, by rw [hlog]; exact he, hen⟩

/-- `inv_plain` for the steps that first bump a call counter, or not (`b`). -/
theorem inv_plain_ite (h : Inv cfg reg0 names c) (t : Nat) (b : Bool) (st' : St) (pc' : PC)
    (hreg : st'.reg = c.st.reg) (hlog : st'.log = c.st.log)
    (hnot : ∀ cl, (c.th t).pc ≠ .notify cl) (hnot' : ∀ cl, pc' ≠ .notify cl)
    (ht : ThOk cfg reg0 names c.st t pc') :
    Inv cfg reg0 names ((if b = true then ({ c with st := st' } : Conf) else c).setPc t pc') := by
  cases b
  · exact inv_plain (c := c) h t c.st pc' rfl rfl hnot hnot' ht
  · exact inv_plain h t st' pc' hreg hlog hnot hnot' ht

/-- The name was absent, so no other thread is in `notify` for it and nothing was announced for it: either would
mean it is registered. -/
theorem inv_insert (h : Inv cfg reg0 names c) (t : Nat) (cl : Client) (hpc : (c.th t).pc = .insert cl)
    (hnone : c.st.reg.get (names t) = none) :
    Inv cfg reg0 names
      (({ c with st := { c.st with reg := c.st.reg.set (names t) cl } } : Conf).setPc t (.notify cl)) := by
  have hreg : ∀ k, k ≠ names t → (c.st.reg.set (names t) cl).get k = c.st.reg.get k := by
    intro k hk; rw [Reg.get_set]; simp [hk]
  have hregt : (c.st.reg.set (names t) cl).get (names t) = some cl := by rw [Reg.get_set]; simp
  have hsome : ∀ k x, c.st.reg.get k = some x → (c.st.reg.set (names t) cl).get k = some x := by
    intro k x hk
    have : k ≠ names t := by intro e; rw [e, hnone] at hk; cases hk
    rw [hreg k this]; exact hk
  refine inv_step h t _ _ hsome (fun i cl' _ hp => (h.notif hp).2.2) ⟨hregt, ?_, ?_⟩ ?_ ?_ h.log_nodup ?_
  · cases hr : reg0.get (names t) with
    | none => rfl
    | some x => have := h.mono _ _ hr; rw [hnone] at this; cases this
  · intro e he hen
    have := (h.log_shape e he).2.2.2
    rw [hen, hnone] at this
    rw [← this.1] at this; simp at this
  · intro _ _ i cl' _ hp hn
    have := (h.notif hp).1
    rw [hn, hnone] at this; cases this
  · intro e he
    obtain ⟨a, b, c0, d, f⟩ := h.log_shape e he
    refine ⟨a, b, c0, ?_, f⟩
    cases hnew : e.new with
    | none => rw [hnew] at f; cases f
    | some x => rw [hnew] at d; exact hsome _ _ d
  · intro n hn hr
    by_cases hnt : n = names t
    · exact .inl ⟨t, cl, by simp, hnt.symm⟩
    · have hr' : c.st.reg.get n ≠ none := by rw [← hreg n hnt]; exact hr
      rcases h.fresh n hn hr' with ⟨i, c', hi, hin⟩ | r
      · refine .inl ⟨i, c', ?_, hin⟩
        split
        · next e => subst e; rw [hpc] at hi; cases hi
        · exact hi
      · exact .inr r

/-- The announcing thread was the only one in `notify` for its name (`notif_uniq`), so the others still have no entry
for theirs; the names stay distinct because nothing had been announced for this one (`Inv.notif`). -/
theorem inv_notify (h : Inv cfg reg0 names c) (t : Nat) (cl : Client) (hpc : (c.th t).pc = .notify cl) :
    Inv cfg reg0 names
      (({ c with st := { c.st with log := c.st.log ++ [⟨names t, none, some cl, true⟩] } } : Conf).setPc t
        (.done (.got cl .factory))) := by
  obtain ⟨hregt, hreg0, hnolog⟩ := h.notif hpc
  refine inv_step h t _ _ (fun _ _ hk => hk) ?_ hregt (fun _ e => nomatch e) ?_ ?_ ?_
  · intro i cl' hne hp e he
    rcases List.mem_append.mp he with he | he
    · exact (h.notif hp).2.2 e he
    · cases List.mem_singleton.mp he
      exact fun hn => hne (h.notif_uniq i t cl' cl hp hpc hn.symm)
  · intro e he
    rcases List.mem_append.mp he with he | he
    · exact h.log_shape e he
    · cases List.mem_singleton.mp he
      exact ⟨rfl, rfl, hreg0, hregt, rfl⟩
  · show ((c.st.log ++ [(⟨names t, none, some cl, true⟩ : Change)]).map (·.name)).Nodup
    simp only [List.map_append, List.map_cons, List.map_nil]
    rw [List.nodup_append]
    refine ⟨h.log_nodup, by simp, ?_⟩
    intro a ha b hb
    cases List.mem_singleton.mp hb
    obtain ⟨e, he, hea⟩ := List.mem_map.mp ha
    exact fun hab => hnolog e he (by rw [hea, hab])
  · intro n hn hr
    rcases h.fresh n hn hr with ⟨i, c', hi, hin⟩ | ⟨e, he, hen⟩
    · by_cases hit : i = t
      · subst hit
        exact .inr ⟨_, List.mem_append_right _ (List.mem_singleton_self _), hin⟩
      · exact .inl ⟨i, c', by rw [if_neg hit]; exact hi, hin⟩
    · exact .inr ⟨e, List.mem_append_left _ he, hen⟩

theorem inv_cstep (h : Inv cfg reg0 names c) (t : Nat) : Inv cfg reg0 names (cstep cfg c t) := by
  have hname := h.name_eq t
  unfold cstep
  simp only [hname]
  cases hpc : (c.th t).pc with
  | lookup =>
    simp only
    cases hg : c.st.reg.get (names t) with
    | none => exact inv_plain (c := c) h t c.st .fallback rfl rfl (by rw [hpc]; exact nofun) nofun trivial
    | some x => exact inv_plain (c := c) h t c.st _ rfl rfl (by rw [hpc]; exact nofun) nofun hg
  | fallback =>
    simp only
    cases hi : (invoke cfg.fallback (names t) c.st.nfb).1 with
    | none => exact inv_plain_ite h t _ _ .factory rfl rfl (by rw [hpc]; exact nofun) nofun trivial
    | some x =>
      exact inv_plain_ite h t _ _ _ rfl rfl (by rw [hpc]; exact nofun) nofun
        ⟨c.st.nfb, by rw [invoke_eq] at hi; exact hi⟩
  | factory =>
    simp only
    cases hi : (invoke cfg.factory (names t) c.st.nfac).1 with
    | none =>
      exact inv_plain_ite h t _ _ _ rfl rfl (by rw [hpc]; exact nofun) nofun
        ⟨c.st.nfac, by rw [invoke_eq] at hi; exact hi⟩
    | some x => exact inv_plain_ite h t _ _ (.insert x) rfl rfl (by rw [hpc]; exact nofun) nofun trivial
  | insert cl =>
    simp only
    cases hg : c.st.reg.get (names t) with
    | none => exact inv_insert h t cl hpc hg
    | some x => exact inv_plain (c := c) h t c.st _ rfl rfl (by rw [hpc]; exact nofun) nofun hg
  | notify cl => exact inv_notify h t cl hpc
  | done r => exact h

theorem inv_crun (h : Inv cfg reg0 names c) (sched : List Nat) : Inv cfg reg0 names (crun cfg c sched) :=
  run_inv (run := crun cfg) (fun _ => rfl) (fun _ _ _ => rfl) (Inv cfg reg0 names) (fun _ t h => inv_cstep h t)
    h sched

end

theorem filter_name_unique {l : List Change} {n : Name} {e : Change} (hnd : (l.map (·.name)).Nodup)
    (he : e ∈ l) (hen : e.name = n) : (l.filter (fun e => e.name = n)).length = 1 := by
  induction l with
  | nil => cases he
  | cons x xs ih =>
    simp only [List.map_cons, List.nodup_cons] at hnd
    by_cases hx : x.name = n
    · have : xs.filter (fun e => e.name = n) = [] := by
        rw [List.filter_eq_nil_iff]
        intro y hy
        simp only [decide_eq_true_eq]
        intro hyn
        exact hnd.1 (List.mem_map.mpr ⟨y, hy, by rw [hyn, hx]⟩)
      simp [List.filter, hx, this]
    · have he' : e ∈ xs := by
        rcases List.mem_cons.mp he with e1 | e1
        · subst e1; exact absurd hen hx
        · exact e1
      simp [List.filter, hx, ih hnd.2 he']

/-- Number of atomic steps a thread still has to take at most. -/
def PC.rank : PC → Nat
  | .lookup => 5
  | .fallback => 4
  | .factory => 3
  | .insert _ => 2
  | .notify _ => 1
  | .done _ => 0

theorem cstep_shape (cfg : Cfg) (c : Conf) (t : Nat) :
    cstep cfg c t = c ∧ (c.th t).pc.rank = 0 ∨
    ∃ st' pc', cstep cfg c t = ({ c with st := st' } : Conf).setPc t pc' ∧ pc'.rank + 1 ≤ (c.th t).pc.rank := by
  unfold cstep
  cases (c.th t).pc with
  | done r => exact .inl ⟨rfl, rfl⟩
  | notify cl => exact .inr ⟨_, _, rfl, Nat.le_refl _⟩
  | lookup => simp only; split <;> exact .inr ⟨c.st, _, rfl, by simp [PC.rank]⟩
  | insert cl => simp only; split <;> exact .inr ⟨_, _, rfl, by simp [PC.rank]⟩
  | fallback | factory => simp only; split <;> split <;> exact .inr ⟨_, _, rfl, by simp [PC.rank]⟩

theorem crun_rank (cfg : Cfg) (c : Conf) (sched : List Nat) (t : Nat) :
    ((crun cfg c sched).th t).pc.rank ≤ (c.th t).pc.rank - sched.count t := by
  obtain ⟨r, h, l⟩ := run_rank (run := crun cfg) (fun _ => rfl) (fun _ _ _ => rfl)
    (fun c => some (c.th t).pc.rank) t
    (fun c u r h => ⟨_, rfl, by
      cases h
      -- `u` is finished (first two goals) or moves (last two); in each case `u` is `t` or another thread
      rcases cstep_shape cfg c u with ⟨heq, hz⟩ | ⟨st', pc', heq, hr⟩ <;> rw [heq] <;> by_cases e : u = t
      · subst e; simp [hz]
      · simp [e]
      · subst e; rw [setPc_self]; simp; omega
      · rw [setPc_other _ u t pc' (fun x => e x.symm)]; simp [e]⟩)
    sched c _ rfl
  cases h; exact l

end ScVerif.C12
