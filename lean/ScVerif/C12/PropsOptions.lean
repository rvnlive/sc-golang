import ScVerif.C12.OptionsLemmas
import ScVerif.C12.RegistryLemmas
import ScVerif.C12.Forward
/-!
# C12 — property theorems: a router is configured by a LIST of options (`NewRouter(opts ...Option)`)

The property's clause "forwarded to the client currently registered under N (added, created once by the
factory, or supplied by the fallback)" and the documented precedence ("WithFallback will be called first,
only using WithFactory if WithFallback returns nil or an error") are stated in `Props.lean` for a
configuration `Cfg`; here they are carried to what a caller writes: any list of options, any number of each
kind, in ANY ORDER (the defect class guarded against: a precedence between the two sources that depends on
the order in which the options were passed).  Last, the generated `Add` override of Options.lean
(`C12_foreign_add_refused`).
-/
namespace ScVerif.C12

/-- The router built from an option list depends only on, per kind, the options of that kind in their
order: lists that agree kind by kind build the same router. -/
theorem C12_options_order_free (o1 o2 : List ROpt) (h : ∀ k, ofKind k o1 = ofKind k o2) :
    newRouter o1 = newRouter o2 :=
  Fields.ext_get fun k => by
    rw [newRouter, newRouter, foldl_get_eq k o1 _ Fields.empty rfl, foldl_get_eq k o2 _ Fields.empty rfl, h]

/-- Two neighbouring options of different kinds (`WithFactory` next to `WithOnChange`, …) may be passed in either
order, anywhere in the list. -/
theorem C12_options_swap (pre post : List ROpt) (a b : ROpt) (h : a.kind ≠ b.kind) :
    newRouter (pre ++ a :: b :: post) = newRouter (pre ++ b :: a :: post) := by
  apply C12_options_order_free
  intro k
  simp only [ofKind, List.filter_append, List.filter_cons]
  by_cases ha : a.kind = k <;> by_cases hb : b.kind = k <;> simp_all

/-- The LAST option of each kind is the one in effect, whatever stands before it and whatever options
of other kinds follow it: the field holds exactly what that option assigns (its function with its tag;
nothing for a nil function). -/
theorem C12_options_last_wins (pre post : List ROpt) (o : ROpt) (h : ∀ p ∈ post, p.kind ≠ o.kind) :
    match o with
    | .fallback t f => (newRouter (pre ++ o :: post)).fallback = f.map fun g => (t, g)
    | .factory t f => (newRouter (pre ++ o :: post)).factory = f.map fun g => (t, g)
    | .onChange t => (newRouter (pre ++ o :: post)).onChange = some t := by
  have hk := foldl_other_kinds o.kind post h (applyOpt (newRouter pre) o)
  simp only [newRouter, List.foldl_append, List.foldl_cons] at hk ⊢
  cases o <;> exact hk

/-- CLOSED FORM of `NewRouter(opts...)` for every option list: each field is what the last option of its
kind assigns (scanning the list from its end), nil when there is none. -/
theorem C12_options_closed_form (opts : List ROpt) :
    newRouter opts = ⟨(lastFallback opts).join, (lastFactory opts).join, lastOnChange opts⟩ := by
  suffices h : ∀ l : List ROpt, newRouter l.reverse =
      ⟨(lastFallback l.reverse).join, (lastFactory l.reverse).join, lastOnChange l.reverse⟩ by
    simpa using h opts.reverse
  intro l
  induction l with
  | nil => rfl
  | cons o os ih =>
    rw [List.reverse_cons, newRouter_snoc, ih]
    cases o <;> simp [applyOpt, lastFallback, lastFactory, lastOnChange, List.reverse_append]

/-- A kind of option the caller never passes leaves its field nil (`invoke` then treats the source as not
configured); one clause per field, selected by the kind. -/
theorem C12_options_unset (opts : List ROpt) (k : OKind) (h : ∀ o ∈ opts, o.kind ≠ k) :
    (k = .fallback → (newRouter opts).fallback = none) ∧
    (k = .factory → (newRouter opts).factory = none) ∧
    (k = .onChange → (newRouter opts).onChange = none) := by
  have hk := foldl_other_kinds k opts h Fields.empty
  refine ⟨fun e => ?_, fun e => ?_, fun e => ?_⟩ <;> subst e <;> exact hk

/-- THE PRECEDENCE, for every option list: let `g` be the function of the last `WithFallback` and `f` the
function of the last `WithFactory` — the two options may stand in either order, with any options before,
between and after them.  A `Get` for an unregistered name asks `g` first; if it supplies a client, that
client is returned, nothing is committed or announced, and `f` is not called; only if `g` declines is `f`
asked, and its client is committed and announced as an Auto change; if both decline: NotFound, registry
and log untouched. -/
theorem C12_options_fallback_before_factory (opts p1 q1 p2 q2 : List ROpt) (tb tf : Nat) (g f : Factory)
    (h1 : opts = p1 ++ .fallback tb (some g) :: q1) (hq1 : ∀ p ∈ q1, p.kind ≠ .fallback)
    (h2 : opts = p2 ++ .factory tf (some f) :: q2) (hq2 : ∀ p ∈ q2, p.kind ≠ .factory)
    (s : St) (n : Name) (hn : s.reg.get n = none) :
    let out := get (newRouter opts).cfg s n
    match supplies (some g) n s.nfb with
    | some c => out = ({ s with nfb := s.nfb + 1 }, .got c .fallback)
    | none =>
      match supplies (some f) n s.nfac with
      | some c => out.2 = .got c .factory ∧ out.1.reg.get = SMap.upd s.reg.get n (some c) ∧
          out.1.log = s.log ++ [⟨n, none, some c, true⟩] ∧ out.1.nfb = s.nfb + 1 ∧ out.1.nfac = s.nfac + 1
      | none => out.2 = .notFound ∧ out.1.reg = s.reg ∧ out.1.log = s.log ∧
          out.1.nfb = s.nfb + 1 ∧ out.1.nfac = s.nfac + 1 := by
  have hb : (newRouter opts).fallback = some (tb, g) := by
    have := C12_options_last_wins p1 q1 (.fallback tb (some g)) hq1
    rw [h1]; simpa using this
  have hf : (newRouter opts).factory = some (tf, f) := by
    have := C12_options_last_wins p2 q2 (.factory tf (some f)) hq2
    rw [h2]; simpa using this
  have hcfg : (newRouter opts).cfg = ⟨some g, some f⟩ := by simp [Fields.cfg, hb, hf]
  simp only [hcfg]
  cases hg : supplies (some g) n s.nfb with
  | some c => exact get_fallback hn hg
  | none =>
    cases hc : supplies (some f) n s.nfac with
    | some c => rw [get_factory hn hg hc]; exact ⟨rfl, Reg.set_abs _ _ _, rfl, rfl, rfl⟩
    | none => rw [get_notFound hn hg hc]; exact ⟨rfl, rfl, rfl, rfl, rfl⟩

/-- The property's clause for a router configured by any option list: a unary request for an unregistered
name is forwarded exactly once — to the client the last-configured FALLBACK supplies if it supplies one, else
to the client the last-configured FACTORY makes, else to nobody with NotFound — wherever the two options
stand in the list; the child's answer is returned unaltered. -/
theorem C12_options_request_forwarded (opts p1 q1 p2 q2 : List ROpt) (tb tf : Nat) (g f : Factory)
    (h1 : opts = p1 ++ .fallback tb (some g) :: q1) (hq1 : ∀ p ∈ q1, p.kind ≠ .fallback)
    (h2 : opts = p2 ++ .factory tf (some f) :: q2) (hq2 : ∀ p ∈ q2, p.kind ≠ .factory)
    (s : St) (n : Name) (hn : s.reg.get n = none) (method req : Tok) (child : Client → Tok → Tok → UOut) :
    forwardUnary (get (newRouter opts).cfg s n).2 method req child =
      match supplies (some g) n s.nfb with
      | some c => ([⟨c, method, req⟩], child c method req)
      | none =>
        match supplies (some f) n s.nfac with
        | some c => ([⟨c, method, req⟩], child c method req)
        | none => ([], .err notFoundTok) := by
  have h := C12_options_fallback_before_factory opts p1 q1 p2 q2 tb tf g f h1 hq1 h2 hq2 s n hn
  simp only at h
  cases hg : supplies (some g) n s.nfb with
  | some c => rw [hg] at h; simp only at h; rw [h]; rfl
  | none =>
    rw [hg] at h; simp only at h
    cases hf : supplies (some f) n s.nfac with
    | some c | none => rw [hf] at h; simp only at h; rw [h.1]; rfl

/-- Whole histories: option lists that agree kind by kind give the same results, the same final registry,
the same calls to every function passed and tell every listener the same changes. -/
theorem C12_options_history_order_free (o1 o2 : List ROpt) (h : ∀ k, ofKind k o1 = ofKind k o2)
    (s : St) (ops : List Op) :
    run (newRouter o1).cfg s ops = run (newRouter o2).cfg s ops ∧
    ∀ t, callsOf (newRouter o1) (run (newRouter o1).cfg s ops).1 t =
           callsOf (newRouter o2) (run (newRouter o2).cfg s ops).1 t ∧
         heardBy (newRouter o1) (run (newRouter o1).cfg s ops).1 t =
           heardBy (newRouter o2) (run (newRouter o2).cfg s ops).1 t := by
  rw [C12_options_order_free o1 o2 h]
  exact ⟨rfl, fun _ => ⟨rfl, rfl⟩⟩

/-- A function that was passed and then superseded by a later option of the same kind is never called: for an
option `o` followed somewhere by an option of its kind, whose tag no other option carries, every history
leaves its call count at 0 and tells it nothing (a second WithFactory REPLACES the first; a second
WithOnChange takes over all announcements). -/
theorem C12_options_superseded_never_called (pre post : List ROpt) (o : ROpt)
    (hsup : ∃ p ∈ post, p.kind = o.kind) (hfresh : ∀ p ∈ pre ++ post, p.tag ≠ o.tag) (s : St) :
    callsOf (newRouter (pre ++ o :: post)) s o.tag = 0 ∧
    heardBy (newRouter (pre ++ o :: post)) s o.tag = [] := by
  have h1 := superseded_tag_absent pre post o hsup hfresh .fallback
  have h2 := superseded_tag_absent pre post o hsup hfresh .factory
  have h3 := superseded_tag_absent pre post o hsup hfresh .onChange
  simp only [Fields.tagOf] at h1 h2 h3
  simp [callsOf, heardBy, h1, h2, h3]

/-- Non-vacuity: two factories, two listeners; only the later ones are used. -/
example :
    let f1 : Factory := fun _ k => ⟨some (1000 + k), false⟩
    let f2 : Factory := fun _ k => ⟨some (4000 + k), false⟩
    let r := newRouter [.factory 0 (some f1), .onChange 1, .onChange 2, .factory 3 (some f2)]
    let s := (run r.cfg St.init [.get "x", .get "y"]).1
    (callsOf r s 0, callsOf r s 1, callsOf r s 2, callsOf r s 3) = (0, 0, 2, 2) := by decide +kernel

/-- Non-vacuity: factory option first, fallback option second: the fallback is still
asked first, its client is returned and nothing is committed. -/
example :
    let g : Factory := fun _ k => ⟨some (2000 + k), false⟩
    let f : Factory := fun _ k => ⟨some (1000 + k), false⟩
    (run (newRouter [.factory 0 (some f), .onChange 1, .fallback 2 (some g)]).cfg St.init [.get "x", .has "x"]).2
      = [.got 2000 .fallback, .bool false] := by decide +kernel

/-- THE GENERATED `Add` REFUSES FOREIGN VALUES.  In every history on a generated router, an `Add` of a
value that is not a client of its service panics and is invisible: the final state (registry, change log,
source call counts) and the results of all other operations are exactly those of the history without
these Adds; each of them answers with a panic and only they do. -/
theorem C12_foreign_add_refused (cfg : Cfg) (s : St) (gops : List GOp) :
    (grun cfg s gops).1 = (run cfg s (proper gops)).1 ∧
    (grun cfg s gops).2.filterMap GRes.res? = (run cfg s (proper gops)).2 ∧
    (grun cfg s gops).2.map (fun r => r == GRes.panicked) = gops.map GOp.foreign := by
  induction gops generalizing s with
  | nil => simp [grun, run, proper]
  | cons o os ih =>
    cases o with
    | op o =>
      have := ih (step cfg s o).1
      simp only [grun, gstep, proper, run, List.filterMap_cons, GRes.res?, List.map_cons, GOp.foreign]
      refine ⟨this.1, ?_, ?_⟩
      · rw [this.2.1]
      · rw [this.2.2]; simp
    | addForeign n =>
      have := ih s
      simp only [grun, gstep, proper, List.filterMap_cons, GRes.res?, List.map_cons, GOp.foreign]
      refine ⟨this.1, this.2.1, ?_⟩
      rw [this.2.2]; simp

/-- Non-vacuity: a nil client offered between two operations. -/
example :
    (grun ⟨none, none⟩ St.init [.op (.add "x" 1), .addForeign "x", .op (.get "x")]).2
      = [.res (.prev none), .panicked, .res (.got 1 .registered)] := by decide +kernel

end ScVerif.C12
