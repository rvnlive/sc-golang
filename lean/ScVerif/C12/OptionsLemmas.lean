import ScVerif.C12.Options
/-! Lemmas about `newRouter` (fold of assignments): each field depends only on the options of its kind. -/
namespace ScVerif.C12

def OKind.Val : OKind → Type
  | .fallback | .factory => Option (Nat × Factory)
  | .onChange => Option Nat

/-- The struct as a function of the kind, so that a fact about every field is stated once. -/
def Fields.get (r : Fields) : (k : OKind) → k.Val
  | .fallback => r.fallback
  | .factory => r.factory
  | .onChange => r.onChange

theorem Fields.ext_get {a b : Fields} (h : ∀ k, a.get k = b.get k) : a = b := by
  cases a; cases b
  have h1 := h .fallback; have h2 := h .factory; have h3 := h .onChange
  simp only [Fields.get] at h1 h2 h3
  simp [h1, h2, h3]

theorem get_applyOpt (r : Fields) (o : ROpt) (k : OKind) :
    (o.kind ≠ k → (applyOpt r o).get k = r.get k) ∧
    ∀ r', r.get k = r'.get k → (applyOpt r o).get k = (applyOpt r' o).get k := by
  cases o <;> cases k <;>
    exact ⟨fun h => by first | rfl | exact absurd rfl h, fun _ h => by first | rfl | exact h⟩

theorem foldl_get_eq (k : OKind) (opts : List ROpt) (r r' : Fields) (h : r.get k = r'.get k) :
    (opts.foldl applyOpt r).get k = ((ofKind k opts).foldl applyOpt r').get k := by
  induction opts generalizing r r' with
  | nil => exact h
  | cons o l ih =>
    by_cases hk : o.kind = k
    · simp only [ofKind, List.filter_cons, hk, List.foldl_cons] at ih ⊢
      exact ih _ _ ((get_applyOpt r o k).2 r' h)
    · simp only [ofKind, List.filter_cons, List.foldl_cons] at ih ⊢
      rw [if_neg (by simpa using hk)]
      exact ih _ _ (((get_applyOpt r o k).1 hk).trans h)

/-- Options of other kinds leave a field alone: none of them survives the filter. -/
theorem foldl_other_kinds (k : OKind) (post : List ROpt) (h : ∀ p ∈ post, p.kind ≠ k) (r : Fields) :
    (post.foldl applyOpt r).get k = r.get k := by
  have hnil : ofKind k post = [] := List.filter_eq_nil_iff.mpr fun p hp => by simpa using h p hp
  rw [foldl_get_eq k post r r rfl, hnil]
  rfl

theorem last_of_kind (k : OKind) (opts : List ROpt) :
    (∀ o ∈ opts, o.kind ≠ k) ∨
    ∃ pre o post, opts = pre ++ o :: post ∧ o.kind = k ∧ ∀ p ∈ post, p.kind ≠ k := by
  induction opts with
  | nil => left; simp
  | cons o os ih =>
    rcases ih with h | ⟨pre, o', post, he, hk, hp⟩
    · by_cases hk : o.kind = k
      · right; exact ⟨[], o, os, rfl, hk, h⟩
      · left; intro q hq
        rcases List.mem_cons.mp hq with rfl | hq
        · exact hk
        · exact h q hq
    · right; exact ⟨o :: pre, o', post, by simp [he], hk, hp⟩

theorem tagOf_last (pre post : List ROpt) (o : ROpt) (h : ∀ p ∈ post, p.kind ≠ o.kind) :
    (newRouter (pre ++ o :: post)).tagOf o.kind = (applyOpt (newRouter pre) o).tagOf o.kind := by
  have hk := foldl_other_kinds o.kind post h (applyOpt (newRouter pre) o)
  simp only [newRouter, List.foldl_append, List.foldl_cons] at hk ⊢
  cases o with
  | fallback t f | factory t f => exact congrArg (Option.map (·.1)) hk
  | onChange t => exact hk

theorem tagOf_unset (opts : List ROpt) (k : OKind) (h : ∀ o ∈ opts, o.kind ≠ k) :
    (newRouter opts).tagOf k = none := by
  have hu := foldl_other_kinds k opts h Fields.empty
  cases k with
  | fallback | factory => exact congrArg (Option.map (·.1)) hu
  | onChange => exact hu

theorem tag_of_applyOpt (r : Fields) (o : ROpt) (t : Nat) (h : (applyOpt r o).tagOf o.kind = some t) :
    o.tag = t := by
  cases o with
  | fallback t' f | factory t' f => cases f <;> simp_all [applyOpt, Fields.tagOf, ROpt.kind, ROpt.tag]
  | onChange t' => simp_all [applyOpt, Fields.tagOf, ROpt.kind, ROpt.tag]

theorem tagOf_origin (opts : List ROpt) (k : OKind) (t : Nat) (h : (newRouter opts).tagOf k = some t) :
    ∃ pre o post, opts = pre ++ o :: post ∧ o.kind = k ∧ o.tag = t ∧ ∀ p ∈ post, p.kind ≠ k := by
  rcases last_of_kind k opts with hno | ⟨pre, o, post, he, hk, hp⟩
  · rw [tagOf_unset opts k hno] at h; cases h
  · subst he hk
    rw [tagOf_last pre post o hp] at h
    exact ⟨pre, o, post, rfl, rfl, tag_of_applyOpt _ o t h, hp⟩

theorem unique_position (pre post pre' post' : List ROpt) (o o' : ROpt)
    (he : pre ++ o :: post = pre' ++ o' :: post') (ht : o'.tag = o.tag)
    (hfresh : ∀ p ∈ pre ++ post, p.tag ≠ o.tag) : o = o' ∧ post = post' := by
  rcases List.append_eq_append_iff.mp he with ⟨a, h1, h2⟩ | ⟨c, h1, h2⟩
  · cases a with
    | nil => simp at h2; exact ⟨h2.1, h2.2⟩
    | cons x a' =>
      simp at h2
      exact absurd ht (hfresh o' (by rw [h2.2]; simp))
  · cases c with
    | nil => simp at h2; exact ⟨h2.1.symm, h2.2.symm⟩
    | cons x c' =>
      simp at h2
      exact absurd ht (hfresh o' (by rw [h1, h2.1]; simp))

theorem superseded_tag_absent (pre post : List ROpt) (o : ROpt)
    (hsup : ∃ p ∈ post, p.kind = o.kind) (hfresh : ∀ p ∈ pre ++ post, p.tag ≠ o.tag) (k : OKind) :
    (newRouter (pre ++ o :: post)).tagOf k ≠ some o.tag := by
  intro h
  obtain ⟨pre', o', post', he, hk, ht, hp⟩ := tagOf_origin _ k _ h
  obtain ⟨rfl, rfl⟩ := unique_position pre post pre' post' o o' he ht hfresh
  obtain ⟨p, hpm, hpk⟩ := hsup
  exact hp p hpm (hpk.trans hk)

theorem newRouter_snoc (opts : List ROpt) (o : ROpt) :
    newRouter (opts ++ [o]) = applyOpt (newRouter opts) o := by
  simp [newRouter, List.foldl_append]

end ScVerif.C12
