import ScVerif.C12.Lin
/-!
# C12 — operations with their spans: what a concurrent Get may return

Ghost bookkeeping on top of the interleaving model of `Lin.lean` (nothing here exists in the Go code):
for every thread the operation in flight with the time it started, and for every finished operation its
*span*.  Time is the number of lock sections performed so far by anyone (the length of `glog`): an
operation starts with its first lock section, at time `first`, and `last` is the time at the step with which
it returns (for Add, Remove and a Get that installed a client that step is the `onChange` call, so lock
sections other threads performed in between are counted); so `first < last`, and when one operation's
`last ≤` another's `first` the first had returned before the other began (real-time order).
-/
namespace ScVerif.C12

structure Span where
  op : Op
  res : Res
  first : Nat
  last : Nat
deriving DecidableEq, Repr

structure TConf where
  c : LConf
  cur : List (Option (Op × Nat))   -- per thread: the operation in flight and when it started
  done : List (List Span)          -- per thread: finished operations, in program order
deriving DecidableEq, Repr

def TConf.start (reg0 : Reg) (nfb nfac : Nat) (progs : List (List Op)) : TConf :=
  ⟨LConf.start reg0 nfb nfac progs, progs.map (fun _ => none), progs.map (fun _ => [])⟩

/-- An idle thread that has an operation left starts it now. -/
def startCur (th : LThread) (now : Nat) (cur : Option (Op × Nat)) : Option (Op × Nat) :=
  match th.pc, th.prog with
  | .idle, op :: _ => some (op, now)
  | _, _ => cur

/-- A thread whose step leaves it idle has finished the operation in flight, with the result the step
appended. -/
def closeOp (th' : LThread) (cur1 : Option (Op × Nat)) : Option (Op × Nat × Res) :=
  match th'.pc, cur1, th'.results.getLast? with
  | .idle, some (op, a), some r => some (op, a, r)
  | _, _, _ => none

/-- One step of thread `t`, with the bookkeeping. -/
def tstep (cfg : Cfg) (tc : TConf) (t : Nat) : TConf :=
  match tc.c.ths[t]? with
  | none => tc
  | some th =>
    match action cfg tc.c.st th with
    | none => tc
    | some e =>
      let c' := lstep cfg tc.c t
      let cur := startCur th tc.c.glog.length (tc.cur.getD t none)
      match closeOp e.th cur with
      | some (op, a, r) =>
        ⟨c', tc.cur.set t none, tc.done.set t (tc.done.getD t [] ++ [⟨op, r, a, c'.glog.length⟩])⟩
      | none => ⟨c', tc.cur.set t cur, tc.done⟩

def trun (cfg : Cfg) (tc : TConf) : List Nat → TConf
  | [] => tc
  | t :: ts => trun cfg (tstep cfg tc t) ts

/-- The registry (as the map specification sees it) after the first `i` lock sections. -/
def mapAt (reg0 : Reg) (glog : List GEntry) (i : Nat) : SMap :=
  (lspecRun reg0.get ((glog.take i).map (·.op))).1

/-- What justifies the result `r` of operation `op` of thread `t` that ran during `[a, b)`. -/
def Justified (cfg : Cfg) (reg0 : Reg) (glog : List GEntry) (t : Nat) (op : Op) (r : Res) (a b : Nat) : Prop :=
  match op, r with
  | .add n c, .prev o => mapAt reg0 glog a n = o ∧ mapAt reg0 glog (a + 1) n = some c
  | .remove n, .prev o => mapAt reg0 glog a n = o ∧ mapAt reg0 glog (a + 1) n = none
  | .has n, .bool v => v = (mapAt reg0 glog a n).isSome
  | .get n, .notFound => mapAt reg0 glog a n = none
  | .get n, .got c .fallback => mapAt reg0 glog a n = none ∧ ∃ k, supplies cfg.fallback n k = some c
  | .get n, .got c _ =>
    ∃ i, a ≤ i ∧ i < b ∧ (glog[i]?).map (·.tid) = some t ∧ mapAt reg0 glog (i + 1) n = some c
  | _, _ => False

end ScVerif.C12
