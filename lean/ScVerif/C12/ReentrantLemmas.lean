import ScVerif.C12.Reentrant
/-! A history with re-entrant callbacks is a plain sequential history of all executed operations (`Sequential`). -/
namespace ScVerif.C12

theorem run_append (cfg : Cfg) (s : St) (a b : List Op) :
    run cfg s (a ++ b) =
      ((run cfg (run cfg s a).1 b).1, (run cfg s a).2 ++ (run cfg (run cfg s a).1 b).2) := by
  induction a generalizing s with
  | nil => simp [run]
  | cons op a ih =>
    simp only [List.cons_append, run]
    rw [ih]

/-- A trace is *sequential* from `s` to `s'` when replaying its operations one after the other, with no
callback at all, from `s` gives exactly its results and ends in `s'`. -/
def Sequential (cfg : Cfg) (s : St) (x : St × Trace) : Prop :=
  run cfg s (x.2.map (·.1)) = (x.1, x.2.map (·.2))

theorem runWith_sequential (cfg : Cfg) (nest : St → Change → St × Trace)
    (hn : ∀ s ch, Sequential cfg s (nest s ch)) (s : St) (ops : List Op) :
    Sequential cfg s (runWith cfg nest s ops) := by
  induction ops generalizing s with
  | nil => simp [Sequential, runWith, run]
  | cons op ops ih =>
    unfold Sequential at *
    simp only [runWith, List.map_cons, List.map_append, List.cons_append, run]
    rw [run_append]
    cases hc : newChange s (step cfg s op).1 with
    | none =>
      simp only [List.map_nil, run, List.nil_append]
      rw [ih]
    | some ch =>
      simp only []
      rw [hn, ih]

theorem runRe_sequential (cfg : Cfg) (cb : Callback) (fuel d : Nat) (s : St) (ops : List Op) :
    Sequential cfg s (runRe cfg cb fuel d s ops) := by
  induction fuel generalizing d s ops with
  | zero =>
    simp only [runRe]
    exact runWith_sequential cfg _ (fun s _ => by simp [Sequential, run]) s ops
  | succ fuel ih =>
    simp only [runRe]
    exact runWith_sequential cfg _ (fun s ch => ih (d + 1) s (cb d ch)) s ops

end ScVerif.C12
