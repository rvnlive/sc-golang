import ScVerif.C12.PropsWrapped
/-!
# C12 — property theorems: every call option of a unary call on a wrapper is filled; after the caller's
# context has ended only metadata the server has SENT is forwarded

"… the error status and the stream header and trailer pass through unaltered", for the registered client
that is a generated wrapper (WrapMore.lean): a unary call carries ANY list of call options (the application's
and a middleware's, in any order, mixed with others); a routed server-stream's caller may go away while the
handler is still running, after EVERY sequence of handler calls.
-/
namespace ScVerif.C12

/-- **`collectMetadata` fills every option**: a variable named by a `grpc.Header` option (and by no
`grpc.Trailer` option) holds the header, one named by a `grpc.Trailer` option (and by no `grpc.Header`) the
trailer — however many options of that kind the call carries and wherever they stand — and a variable no
option names is left as it was. -/
theorem C12_every_call_option_filled (hdr tr : List Tok) (opts : List COpt) (mem : Mem) (a : Nat) :
    (COpt.header a ∈ opts → COpt.trailer a ∉ opts → collectMetadata hdr tr opts mem a = some hdr) ∧
    (COpt.trailer a ∈ opts → COpt.header a ∉ opts → collectMetadata hdr tr opts mem a = some tr) ∧
    (COpt.header a ∉ opts → COpt.trailer a ∉ opts → collectMetadata hdr tr opts mem a = mem a) :=
  ⟨fun h1 h2 => by rw [collect_at hdr tr opts mem a hdr (fun _ => rfl) (fun h => absurd h h2), if_pos (.inl h1)],
   fun h1 h2 => by rw [collect_at hdr tr opts mem a tr (fun h => absurd h h2) (fun _ => rfl), if_pos (.inr h1)],
   fun h1 h2 => by rw [collect_at hdr tr opts mem a [] (fun h => absurd h h1) (fun h => absurd h h2),
     if_neg (fun h => h.elim h1 h2)]⟩

/-- **A unary call on the wrapper with any call options**: the answer is the handler's, every `grpc.Header`
variable holds exactly the metadata the handler attached and every `grpc.Trailer` variable what it set (variables
are used for one kind). -/
theorem C12_invoke_wrapped_all_options (ops : List HOp) (out : UOut) (opts : List COpt) (mem : Mem)
    (hns : ∀ op ∈ ops, op ≠ .send) :
    (invokeWrappedOpts ops out opts mem).1 = out ∧
    (∀ a, COpt.header a ∈ opts → COpt.trailer a ∉ opts →
      (invokeWrappedOpts ops out opts mem).2 a = some (attached (unaryOps ops out))) ∧
    (∀ a, COpt.trailer a ∈ opts → COpt.header a ∉ opts →
      (invokeWrappedOpts ops out opts mem).2 a = some (trailers ops)) := by
  have h := C12_invoke_wrapped_metadata ops out hns
  simp only [invokeWrappedOpts, h]
  exact ⟨trivial, fun a => (C12_every_call_option_filled _ _ opts mem a).1,
    fun a => (C12_every_call_option_filled _ _ opts mem a).2.1⟩

/-- **What the wrapper's client half yields once the call's context has ended** while the handler (which has
made the calls `ops`) is still running: the header is the attached metadata **iff the header has gone**
(`SendHeader` / `SendMsg` happened), else nil; the messages are the ones handed over, as they were when sent;
then the context's error; the trailer what has been set so far. -/
theorem C12_cancelled_stream_view (enc : List Tok → Tok) (buf : Tok) (ops : List HOp) (ce : Tok) :
    cancelView enc buf ops ce =
      { openErr := none, headerErr := none,
        header := if headerGone ops then some (enc (attached ops)) else none,
        msgs := sentVals buf ops, final := .status ce,
        trailer := if (trailers ops).isEmpty then none else some (enc (trailers ops)) } := by
  simp only [cancelView, wrun_init]

/-- **Routed, the caller goes away**: for every handler prefix `ops` the router's caller-side stream is
offered one `SendHeader` — with the attached metadata if the server had let its header go, with nil
otherwise —, every response handed over before, the context's error as the status; one call went to the
client registered under the name. -/
theorem C12_routed_cancelled (c : Client) (src : Src) (method req : Tok) (enc : List Tok → Tok)
    (buf : Tok) (ops : List HOp) (ce : Tok) (k : CallerScript)
    (hsh : k.sendHeaderErr = none) (hok : ∀ j, k.failAt = some j → (sentVals buf ops).length ≤ j) :
    forwardStream (.got c src) method req (cancelView enc buf ops ce) k =
      ⟨[⟨c, method, req⟩], some (if headerGone ops then some (enc (attached ops)) else none),
        sentVals buf ops, (sentVals buf ops).length, (sentVals buf ops).length + 1,
        if (trailers ops).isEmpty then none else some (enc (trailers ops)), some ce, false⟩ := by
  rw [C12_cancelled_stream_view]
  exact C12_pump c src method req _ k rfl rfl hsh hok

/-- **A header that was only staged is never forwarded after a cancel**: the handler staged any number of
headers (and trailers), sent nothing, and is parked when the caller's context ends — the caller-side stream
is offered a nil header, no message, and the cancellation as status. -/
theorem C12_staged_header_not_forwarded_after_cancel (c : Client) (src : Src) (method req : Tok)
    (enc : List Tok → Tok) (buf : Tok) (hs ts : List Tok) (ce : Tok) (k : CallerScript)
    (hsh : k.sendHeaderErr = none) :
    let o := forwardStream (.got c src) method req
      (cancelView enc buf (hs.map .setHeader ++ ts.map .setTrailer) ce) k
    o.header = some none ∧ o.sent = [] ∧ o.status = some ce := by
  obtain ⟨_, hg, hv, _⟩ := staged_spec buf hs ts
  have := C12_routed_cancelled c src method req enc buf (hs.map .setHeader ++ ts.map .setTrailer) ce k hsh
    (by intro j _; simp [hv])
  simp only [this, hv, hg]
  simp

/-- **A unary call on the wrapper whose caller goes away while the handler runs**: the call fails with the
context's error; every `grpc.Header` variable holds the attached metadata if the server had let its header go
and nothing otherwise (staged metadata stays with the server), every `grpc.Trailer` variable what was set. -/
theorem C12_invoke_cancelled_metadata (ops : List HOp) (ce : Tok) (opts : List COpt) (mem : Mem) :
    (invokeCancelled ops ce opts mem).1 = .err ce ∧
    (∀ a, COpt.header a ∈ opts → COpt.trailer a ∉ opts →
      (invokeCancelled ops ce opts mem).2 a = some (if headerGone ops then attached ops else [])) ∧
    (∀ a, COpt.trailer a ∈ opts → COpt.header a ∉ opts →
      (invokeCancelled ops ce opts mem).2 a = some (trailers ops)) := by
  simp only [invokeCancelled, wrun_init]
  exact ⟨trivial, fun a => (C12_every_call_option_filled _ _ opts mem a).1,
    fun a => (C12_every_call_option_filled _ _ opts mem a).2.1⟩

/-- **Router ∘ Wrap ∘ Router ∘ device, the caller goes away while the device is parked**: parked inside its
`Header()` (nothing sent yet: `park = none`) the caller-side stream is offered a nil header whatever the
device staged; parked in the `Recv` after `n` messages the header is `staged ++ sent` and exactly the first
`n` messages arrived, as they were when sent (whether or not the device overwrites them afterwards); the
status is the context's error; of the trailer only what was staged on arrival. -/
theorem C12_router_wrap_router_device_cancelled (c : Client) (src : Src) (method req : Tok)
    (enc : List Tok → Tok) (sh st : Option Tok) (cs : ChildScript) (park : Option Nat) (reuse : Bool)
    (scr ce : Tok) (k : CallerScript) (hsh : k.sendHeaderErr = none) (hk : k.failAt = none) :
    routeCancelled enc (.got c src) method req sh st cs park reuse scr ce k =
      ⟨[⟨c, method, req⟩],
        some (match park with | none => none | some _ => some (enc (sh.toList ++ cs.header.toList))),
        (match park with | none => [] | some n => cs.msgs.take n),
        (match park with | none => 0 | some n => (cs.msgs.take n).length),
        (match park with | none => 0 | some n => (cs.msgs.take n).length) + 1,
        if st.toList.isEmpty then none else some (enc st.toList), some ce, false⟩ := by
  obtain ⟨b, hb⟩ := wrun_parkedOps sh st cs park reuse scr
  rw [wrun_init] at hb
  unfold routeCancelled
  rw [C12_routed_cancelled c src method req enc 0 _ ce k hsh (by intro j hj; rw [hk] at hj; cases hj)]
  cases park <;> (injection hb with hatt hgone _ hmsgs htr; simp [hatt, hgone, hmsgs, htr])

/-- **Going away only cuts the call short**: let a handler make the calls `ops ++ more` and end with any status.
For every caller script, what the router gave a caller whose context ended after `ops` is the beginning of what
it gives a caller that stays to the end: the same call on the same client, the responses a prefix of the full
call's responses, and header metadata — if any was offered — equal to the full call's. -/
theorem C12_cancelled_call_is_a_prefix (got : Res) (method req : Tok) (enc : List Tok → Tok) (buf : Tok)
    (ops more : List HOp) (ce : Tok) (st : Option Tok) (k : CallerScript) :
    let oc := forwardStream got method req (cancelView enc buf ops ce) k
    let ofull := forwardStream got method req (wrapView enc buf (ops ++ more) st) k
    oc.calls = ofull.calls ∧ (∃ rest, ofull.sent = oc.sent ++ rest) ∧
    (∀ h, oc.header = some (some h) → ofull.header = some (some h)) := by
  obtain ⟨hatt, _, _, hsv, _⟩ := spec_append buf ops more
  cases got with
  | got c src =>
    obtain ⟨h1, h2, h3, h4⟩ := forwardStream_longer c src method req (cancelView enc buf ops ce)
      (wrapView enc buf (ops ++ more) st) k rfl rfl rfl rfl (sentVals (bufAfter buf ops) more)
      (by simp only [cancelView, wrapView, wrun_init, wclose_eq, hsv])
    refine ⟨h1, h2, fun h hh => ?_⟩
    -- a header was offered, so it had gone: what was attached later does not count
    rw [h3] at hh
    rw [h4]
    simp only [cancelView, wrapView, wrun_init, wclose_eq, hatt] at hh ⊢
    split at hh
    · next hg => rw [if_pos hg]; exact hh
    · simp at hh
  | _ => exact ⟨rfl, ⟨[], rfl⟩, fun h hh => by simp [forwardStream] at hh⟩

/-- application + middleware: two header options and two trailer options, all four variables filled. -/
example : let m := collectMetadata [7, 9] [6] [.header 1, .trailer 2, .other, .header 3, .trailer 4] (fun _ => none)
    (m 1, m 2, m 3, m 4, m 5) = (some [7, 9], some [6], some [7, 9], some [6], none) := by decide +kernel

/-- staged header, parked, the caller cancels: nil header; after `SendHeader` the joined header. -/
example : ((cancelView (fun l => l.foldl (· * 100 + ·) 0) 0 [.setHeader 7] 1).header,
    (cancelView (fun l => l.foldl (· * 100 + ·) 0) 0 [.setHeader 7, .sendHeader (some 9), .write 3, .send] 1).header,
    (cancelView (fun l => l.foldl (· * 100 + ·) 0) 0 [.setHeader 7, .sendHeader (some 9), .write 3, .send] 1).msgs) =
    (none, some 709, [3]) := by decide +kernel

/-- the device composition, parked before its header: the staged header is not forwarded. -/
example : (routeCancelled (fun l => l.foldl (· * 100 + ·) 0) (.got 3 .registered) 1 5 (some 7) (some 6)
    ⟨none, none, some 9, [1, 2], .eof, none⟩ none true 998 1 ⟨none, none, 0⟩).header = some none := by decide +kernel

end ScVerif.C12
