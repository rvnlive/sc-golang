import ScVerif.C12.NameDefaultLemmas
import ScVerif.C12.Served
/-! A served call is the plain forwarder on the request with the default name filled in (`serveUnary_eq`,
`serveStream_eq`). -/
namespace ScVerif.C12

theorem reqName_replace (d : String) (w : Msg) (nm : String) (hn : nameOf w = some nm) :
    reqName (replaceEmptyName d w) = servedName d nm := by
  simp [reqName, servedName, nameOf_replaceEmptyName d w nm hn]

theorem serveUnary_eq (d : String) (cfg : Cfg) (s : St) (enc : Msg → Tok) (method : Tok) (wire : Msg)
    (child : Client → Tok → Tok → UOut) (nm : String) (hn : nameOf wire = some nm) :
    serveUnary d cfg s enc method wire child =
      ((get cfg s (servedName d nm)).1, replaceEmptyName d wire,
        forwardUnary (get cfg s (servedName d nm)).2 method (enc (replaceEmptyName d wire)) child) := by
  simp only [serveUnary, reqName_replace d wire nm hn]

theorem serveStream_eq (d : String) (inner : Msg → RecvOut) (cfg : Cfg) (s : St) (enc : Msg → Tok)
    (method : Tok) (m0 w : Msg) (cs : ChildScript) (k : CallerScript) (nm : String)
    (hrecv : inner m0 = ⟨w, none⟩) (hn : nameOf w = some nm) :
    serveStream d inner cfg s enc method m0 cs k =
      ((get cfg s (servedName d nm)).1, some (replaceEmptyName d w),
        forwardStream (get cfg s (servedName d nm)).2 method (enc (replaceEmptyName d w)) cs k) := by
  simp only [serveStream, wrappedRecv, hrecv, reqName_replace d w nm hn]

theorem filledFrom_replace (d : String) (w : Msg) (nm : String) (hn : nameOf w = some nm) :
    FilledFrom w (replaceEmptyName d w) (servedName d nm) :=
  ⟨(replaceEmptyName_frame d w).1, (replaceEmptyName_frame d w).2, nameOf_replaceEmptyName d w nm hn⟩

theorem mergeField_zero (f : Field) :
    mergeField { f with val := f.val.zero } f = some f := by
  obtain ⟨n, s, v⟩ := f
  cases v with
  | str b => by_cases hb : b = "" <;> simp [mergeField, FVal.zero, hb]
  | other b => simp [mergeField, FVal.zero]

theorem mergeMsg_zero (w : Msg) : mergeMsg w.zero w = some w := by
  induction w with
  | nil => rfl
  | cons f fs ih =>
    have hz : Msg.zero (f :: fs) = { f with val := f.val.zero } :: Msg.zero fs := by
      simp [Msg.zero]
    rw [hz]
    simp only [mergeMsg, mergeField_zero, ih]
    rfl

end ScVerif.C12
