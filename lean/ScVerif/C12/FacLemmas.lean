import ScVerif.C12.Fac
import ScVerif.C12.LinStep
/-! Who made a client and how often the sources are called: three invariants of `Lin.lean`, `FInv` (budgets and
provenance), `GInv` (misses belong to Gets of the programs), `OInv` (origin of what is written; its step needs `FInv`). -/
namespace ScVerif.C12

theorem FactoryMade.mono {cfg : Cfg} {lo hi hi' : Nat} {n : Name} {c : Client}
    (h : FactoryMade cfg lo hi n c) (hh : hi ≤ hi') : FactoryMade cfg lo hi' n c := by
  obtain ⟨k, h1, h2, h3⟩ := h
  exact ⟨k, h1, by omega, h3⟩

theorem FallbackMade.mono {cfg : Cfg} {lo hi hi' : Nat} {c : Client}
    (h : FallbackMade cfg lo hi c) (hh : hi ≤ hi') : FallbackMade cfg lo hi' c := by
  obtain ⟨n, k, h1, h2, h3⟩ := h
  exact ⟨n, k, h1, by omega, h3⟩

theorem PcOk.mono {cfg : Cfg} {k2 hi hi' : Nat} {cl cl' : List Change} {th : LThread}
    (h : PcOk cfg k2 hi cl th) (hh : hi ≤ hi') (hc : ∀ x, x ∈ cl → x ∈ cl') : PcOk cfg k2 hi' cl' th := by
  unfold PcOk at h ⊢
  split
  · next n c hpc => rw [hpc] at h; exact FactoryMade.mono h hh
  · next ch r hpc => rw [hpc] at h; exact ⟨hc _ h.1, h.2⟩
  · trivial

theorem AutoOk.mono {cfg : Cfg} {k2 hi hi' : Nat} {ch : Change}
    (h : AutoOk cfg k2 hi ch) (hh : hi ≤ hi') : AutoOk cfg k2 hi' ch := by
  intro ha
  obtain ⟨h1, cl, h2, h3⟩ := h ha
  exact ⟨h1, cl, h2, FactoryMade.mono h3 hh⟩

theorem ResOk.mono {cfg : Cfg} {k1 hi hi' : Nat} {cl cl' : List Change} {r : Res}
    (h : ResOk cfg k1 hi cl r) (hh : hi ≤ hi') (hc : ∀ x, x ∈ cl → x ∈ cl') : ResOk cfg k1 hi' cl' r := by
  intro c src hr
  obtain ⟨h1, h2⟩ := h c src hr
  exact ⟨fun hs => by obtain ⟨n, hn⟩ := h1 hs; exact ⟨n, hc _ hn⟩, fun hs => FallbackMade.mono (h2 hs) hh⟩

/-- Calls are only ever counted up, and a step that calls the fallback (the factory) is paid for by a
debt the thread owed; only a Get's first read that misses creates such debts. -/
theorem count_facts {cfg : Cfg} {s : St} {th : LThread} {e : Effect} (h : Acts cfg s th e) :
    (s.nfac ≤ e.st.nfac ∧ s.nfb ≤ e.st.nfb) ∧
    e.st.nfac + b2n (owesFac e.th) ≤ s.nfac + b2n (owesFac th) + missG e.g ∧
    e.st.nfb + b2n (owesFb e.th) ≤ s.nfb + b2n (owesFb th) + missG e.g := by
  cases h with
  | fallbackNone => cases cfg.fallback.isSome <;> simp [b2n, owesFac, owesFb, missG]
  | factoryNone => cases cfg.factory.isSome <;> simp [b2n, owesFac, owesFb, missG]
  | _ => simp [b2n, owesFac, owesFb, missG]

theorem forall_commit {P : Change → Prop} {ch0 : Change} (h : P ch0) : ∀ ch ∈ optList (some ch0), P ch :=
  fun _ hm => List.mem_singleton.mp hm ▸ h

theorem no_commit {P : Change → Prop} : ∀ ch ∈ optList (none : Option Change), P ch := nofun

/-- Where what a step produces comes from: the new program counter, the committed change, the result of an
operation that ends (`PcOk`, `AutoOk`, `ResOk`). -/
theorem prov_facts {cfg : Cfg} {s : St} {th : LThread} {e : Effect} (k1 k2 : Nat) (clog : List Change)
    (h : Acts cfg s th e) (hpc : PcOk cfg k2 s.nfac clog th) (hk1 : k1 ≤ s.nfb) (hk2 : k2 ≤ s.nfac) :
    PcOk cfg k2 e.st.nfac (clog ++ optList e.commit) e.th ∧
    (∀ ch ∈ optList e.commit, AutoOk cfg k2 e.st.nfac ch) ∧
    (e.th.results = th.results ∨
      ∃ r, e.th.results = th.results ++ [r] ∧ ResOk cfg k1 e.st.nfb (clog ++ optList e.commit) r) := by
  cases h <;> unfold PcOk at hpc ⊢
  case add | remove => exact ⟨⟨List.mem_append_right _ (List.mem_singleton_self _), nofun⟩, forall_commit nofun, .inl rfl⟩
  case removeAbsent | has | factoryNone => exact ⟨trivial, no_commit, .inr ⟨_, rfl, nofun⟩⟩
  case getMiss | fallbackNone => exact ⟨trivial, no_commit, .inl rfl⟩
  case getHit | insertLost =>
    exact ⟨trivial, no_commit, .inr ⟨_, rfl, fun _ _ hr => by cases hr; exact ⟨nofun, nofun⟩⟩⟩
  case fallbackSome n _ _ _ _ hc =>
    exact ⟨trivial, no_commit, .inr ⟨_, rfl, fun _ _ hr => by
      cases hr; exact ⟨nofun, fun _ => ⟨n, s.nfb, hk1, Nat.lt_succ_self _, hc⟩⟩⟩⟩
  case factorySome hc => exact ⟨⟨s.nfac, hk2, Nat.lt_succ_self _, hc⟩, no_commit, .inl rfl⟩
  case insertWon _ _ c _ _ _ =>
    exact ⟨⟨List.mem_append_right _ (List.mem_singleton_self _), fun _ _ hr => by cases hr; exact ⟨rfl, rfl⟩⟩,
      forall_commit fun _ => ⟨rfl, c, rfl, hpc⟩, .inl rfl⟩
  case notify _ ch _ _ _ =>
    refine ⟨trivial, no_commit, .inr ⟨_, rfl, fun cl src hr => ?_⟩⟩
    obtain ⟨hs, hch⟩ := hpc.2 cl src hr
    exact ⟨fun _ => ⟨ch.name, hch ▸ List.mem_append_left _ hpc.1⟩, fun hx => by cases hs; cases hx⟩

/-- A step starts at most one Get, and only a step that starts a Get can miss the registry. -/
theorem gets_facts {cfg : Cfg} {s : St} {th : LThread} {e : Effect} (h : Acts cfg s th e) :
    e.th.getsLeft + missG e.g ≤ th.getsLeft := by
  cases h <;> simp [LThread.getsLeft, Op.isGet, missG, List.countP_cons]

theorem countP_missed_optList (t : Nat) (g : Option (LOp × LRes)) :
    ((optList g).map (fun p => (⟨t, p.1, p.2⟩ : GEntry))).countP GEntry.missed = missG g := by
  cases g with
  | none => rfl
  | some p =>
    obtain ⟨op, res⟩ := p
    cases op with
    | read n =>
      cases res with
      | opt o => cases o <;> rfl
      | _ => rfl
    | _ => rfl

/-- `budFac`, `budFb`: the calls made plus the calls still owed by Gets on their way are covered by the misses so
far.  `pcs`, `autos`, `results`: what they say about who made a client holds. -/
structure FInv (cfg : Cfg) (k1 k2 : Nat) (c : LConf) : Prop where
  lo : k1 ≤ c.st.nfb ∧ k2 ≤ c.st.nfac
  budFac : c.st.nfac + c.ths.countP owesFac ≤ k2 + misses c
  budFb : c.st.nfb + c.ths.countP owesFb ≤ k1 + misses c
  pcs : ∀ (t : Nat) (th : LThread), c.ths[t]? = some th → PcOk cfg k2 c.st.nfac c.clog th
  autos : ∀ ch, ch ∈ c.clog → AutoOk cfg k2 c.st.nfac ch
  results : ∀ (t : Nat) (th : LThread), c.ths[t]? = some th → ∀ r, r ∈ th.results → ResOk cfg k1 c.st.nfb c.clog r

/-- Every miss belongs to a Get of the programs (`total` = Gets in the programs). -/
def GInv (total : Nat) (c : LConf) : Prop := misses c + getsLeft c.ths ≤ total

theorem ginv_start (reg0 : Reg) (k1 k2 : Nat) (progs : List (List Op)) :
    GInv (getsIn progs) (LConf.start reg0 k1 k2 progs) := by
  simp only [GInv, LConf.start, misses, getsLeft, getsIn, List.countP_nil, List.map_map, Nat.zero_add]
  apply Nat.le_of_eq
  congr 1

theorem misses_after (c : LConf) (t : Nat) (e : Effect) : misses (c.after t e) = misses c + missG e.g := by
  simp only [misses, LConf.after_glog, List.countP_append, countP_missed_optList]

theorem ginv_step {cfg : Cfg} {total : Nat} {c : LConf} {t : Nat} {th : LThread} {e : Effect}
    (hth : c.ths[t]? = some th) (hact : Acts cfg c.st th e) (h : GInv total c) : GInv total (c.after t e) := by
  have hg := gets_facts hact
  have hs := Base.sum_map_set LThread.getsLeft e.th hth
  simp only [GInv, misses_after, getsLeft, LConf.after_ths] at h ⊢
  omega

theorem finv_start (cfg : Cfg) (reg0 : Reg) (k1 k2 : Nat) (progs : List (List Op)) :
    FInv cfg k1 k2 (LConf.start reg0 k1 k2 progs) := by
  -- no thread of the start configuration owes a call
  have hz : ∀ (p : LThread → Bool), (∀ q, p ⟨q, .idle, [], []⟩ = false) →
      (LConf.start reg0 k1 k2 progs).ths.countP p = 0 := fun p hp =>
    List.countP_eq_zero.mpr fun th hth => by
      obtain ⟨t, ht⟩ := List.getElem?_of_mem hth
      simpa using start_forall (Q := fun _ th => p th = false) (fun _ q _ => hp q) t th ht
  refine ⟨⟨Nat.le_refl _, Nat.le_refl _⟩, ?_, ?_, start_forall fun _ _ _ => trivial, (fun _ h => nomatch h),
    start_forall fun _ _ _ _ h => nomatch h⟩
  · rw [hz owesFac fun _ => rfl]; exact Nat.le_add_right _ _
  · rw [hz owesFb fun _ => rfl]; exact Nat.le_add_right _ _

theorem budget_set {p : LThread → Bool} {ths : List LThread} {t : Nat} {th th' : LThread} {n n' k m g : Nat}
    (hth : ths[t]? = some th) (hstep : n' + b2n (p th') ≤ n + b2n (p th) + g)
    (hb : n + ths.countP p ≤ k + m) : n' + (ths.set t th').countP p ≤ k + (m + g) := by
  obtain ⟨pre, post, rfl, rfl, hs⟩ := exists_split hth
  simp only [hs, List.countP_append, List.countP_cons, b2n] at hb hstep ⊢
  omega

theorem finv_step {cfg : Cfg} {k1 k2 : Nat} {c : LConf} {t : Nat} {th : LThread} {e : Effect}
    (hth : c.ths[t]? = some th) (hact : Acts cfg c.st th e) (h : FInv cfg k1 k2 c) :
    FInv cfg k1 k2 (c.after t e) := by
  obtain ⟨f1, f2, f3⟩ := count_facts hact
  obtain ⟨f4, f5, f6⟩ := prov_facts k1 k2 c.clog hact (h.pcs t th hth) h.lo.1 h.lo.2
  have hsub : ∀ x, x ∈ c.clog → x ∈ c.clog ++ optList e.commit := fun x hx => List.mem_append_left _ hx
  refine ⟨⟨Nat.le_trans h.lo.1 f1.2, Nat.le_trans h.lo.2 f1.1⟩, ?_, ?_, ?_, ?_, ?_⟩
  · rw [misses_after]; exact budget_set hth f2 h.budFac
  · rw [misses_after]; exact budget_set hth f3 h.budFb
  · exact forall_set hth h.pcs (fun _ => f4) fun _ _ _ hp => hp.mono f1.1 hsub
  · intro ch hch
    rcases List.mem_append.mp hch with hc | hc
    · exact (h.autos ch hc).mono f1.1
    · exact f5 ch hc
  · refine forall_set hth h.results (fun ho r hr => ?_) fun _ _ _ ho r hr => (ho r hr).mono f1.2 hsub
    rcases f6 with heq | ⟨r', heq, hok⟩ <;> rw [heq] at hr
    · exact (ho r hr).mono f1.2 hsub
    · rcases List.mem_append.mp hr with hr | hr
      · exact (ho r hr).mono f1.2 hsub
      · cases List.mem_singleton.mp hr; exact hok

theorem LOpOk.mono {cfg : Cfg} {progs : List (List Op)} {k2 hi hi' : Nat} {op : LOp}
    (h : LOpOk cfg progs k2 hi op) (hh : hi ≤ hi') : LOpOk cfg progs k2 hi' op := by
  cases op with
  | pia n c => exact FactoryMade.mono h hh
  | _ => exact h

/-- A step's program only shrinks, a `put` comes from the program, a put-if-absent carries the client the thread's
factory call produced. -/
theorem origin_facts {cfg : Cfg} {s : St} {th : LThread} {e : Effect} (h : Acts cfg s th e) :
    (∀ op, op ∈ e.th.prog → op ∈ th.prog) ∧
    (∀ n c res, e.g = some (.put n c, res) → Op.add n c ∈ th.prog) ∧
    (∀ n c res, e.g = some (.pia n c, res) → th.pc = .insert n c) := by
  cases h <;> simp +contextual

/-- Programs only shrink and every lock section wrote a client of known origin.  A put-if-absent's client is known
from the stepping thread's `PcOk`, which is why `oinv_step` takes `FInv`. -/
structure OInv (cfg : Cfg) (progs : List (List Op)) (k2 : Nat) (c : LConf) : Prop where
  sub : ∀ (t : Nat) (th : LThread), c.ths[t]? = some th → ∀ op, op ∈ th.prog → ∃ p, p ∈ progs ∧ op ∈ p
  writes : ∀ g, g ∈ c.glog → LOpOk cfg progs k2 c.st.nfac g.op

theorem oinv_start (cfg : Cfg) (reg0 : Reg) (k1 k2 : Nat) (progs : List (List Op)) :
    OInv cfg progs k2 (LConf.start reg0 k1 k2 progs) :=
  ⟨start_forall fun _ p hp _ hop => ⟨p, List.mem_of_getElem? hp, hop⟩, fun _ h => nomatch h⟩

theorem oinv_step {cfg : Cfg} {progs : List (List Op)} {k1 k2 : Nat} {c : LConf} {t : Nat} {th : LThread}
    {e : Effect} (hth : c.ths[t]? = some th) (hact : Acts cfg c.st th e) (hf : FInv cfg k1 k2 c)
    (h : OInv cfg progs k2 c) : OInv cfg progs k2 (c.after t e) := by
  obtain ⟨f1, _, _⟩ := count_facts hact
  obtain ⟨o1, o2, o3⟩ := origin_facts hact
  refine ⟨forall_set hth h.sub (fun ho op hop => ho op (o1 op hop)) fun _ _ _ ho => ho, ?_⟩
  intro g hg
  rcases List.mem_append.mp hg with hg | hg
  · exact LOpOk.mono (h.writes g hg) f1.1
  · cases heg : e.g with
    | none => rw [heg] at hg; cases hg
    | some p =>
      obtain ⟨op, res⟩ := p
      rw [heg] at hg
      cases List.mem_singleton.mp hg
      cases op with
      | put n cl => exact h.sub t th hth _ (o2 n cl res heg)
      | pia n cl =>
        have hp := hf.pcs t th hth
        simp only [PcOk, o3 n cl res heg] at hp
        exact FactoryMade.mono hp f1.1
      | _ => trivial

theorem fac_reach (cfg : Cfg) (reg0 : Reg) (k1 k2 : Nat) (progs : List (List Op)) (sched : List Nat) :
    FInv cfg k1 k2 (lrun cfg (LConf.start reg0 k1 k2 progs) sched) ∧
    OInv cfg progs k2 (lrun cfg (LConf.start reg0 k1 k2 progs) sched) ∧
    GInv (getsIn progs) (lrun cfg (LConf.start reg0 k1 k2 progs) sched) :=
  lrun_induct (P := fun c => FInv cfg k1 k2 c ∧ OInv cfg progs k2 c ∧ GInv (getsIn progs) c)
    (fun _ _ _ _ hth ha h => ⟨finv_step hth ha h.1, oinv_step hth ha h.1 h.2.1, ginv_step hth ha h.2.2⟩)
    ⟨finv_start cfg reg0 k1 k2 progs, oinv_start cfg reg0 k1 k2 progs, ginv_start reg0 k1 k2 progs⟩ sched

end ScVerif.C12
