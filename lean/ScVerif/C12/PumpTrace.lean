import ScVerif.C12.Forward
/-!
# C12 — the server-stream pump as a sequence of calls (timing of header, messages, trailer)

`forwardStream` (Forward.lean) gives what the caller has observed once the handler has returned.  That
cannot distinguish a forwarder that holds the child's header back until the first message (or stages it
with `SetHeader`) from one that passes it on at once.  `pumpEvents` is the same generated code
(`/repo/cmd/protoc-gen-router/router.go.gotxt`, server-streaming branch) as the sequence of calls it
makes on the child's client stream and on the caller's server stream, in order.
-/
namespace ScVerif.C12

/-- One call made by the forwarder. -/
inductive PEv where
  | openChild                     -- `child.PullXxx(reqCtx, request)`
  | childHeader                   -- `stream.Header()`
  | sendHeader (h : Option Tok)   -- `server.SendHeader(header)`
  | recv                          -- `stream.Recv()`
  | send (m : Tok)                -- `server.Send(msg)`
  | childTrailer                  -- `stream.Trailer()`
  | setTrailer (t : Tok)          -- `server.SetTrailer(trailer)`
  | cancel                        -- `reqDone()`
deriving DecidableEq, Repr

/-- The `for` loop: `i` is the index of the next `Send`; the flag says the loop ended by a caller error. -/
def loopEvents (failAt : Option Nat) : List Tok → Nat → List PEv × Bool
  | [], _ => ([.recv], false)
  | m :: ms, i =>
    if failAt = some i then ([.recv, .send m], true)
    else
      let r := loopEvents failAt ms (i + 1)
      (.recv :: .send m :: r.1, r.2)

def trailerEvents : Option Tok → List PEv
  | some t => [.childTrailer, .setTrailer t]
  | none => [.childTrailer]

/-- The calls of the generated server-streaming forwarder, in order. -/
def pumpEvents (got : Res) (cs : ChildScript) (k : CallerScript) : List PEv :=
  match got with
  | .got _ _ =>
    match cs.openErr with
    | some _ => [.openChild]
    | none =>
      match cs.headerErr with
      | some _ => [.openChild, .childHeader]
      | none =>
        match k.sendHeaderErr with
        | some _ => [.openChild, .childHeader, .sendHeader cs.header]
        | none =>
          let r := loopEvents k.failAt cs.msgs 0
          [.openChild, .childHeader, .sendHeader cs.header] ++ r.1 ++
            (if r.2 then [.cancel] else trailerEvents cs.trailer)
  | _ => []

/-- `Recv` then `Send` for every delivered message. -/
def pairs (ms : List Tok) : List PEv := ms.flatMap fun m => [.recv, .send m]

end ScVerif.C12
