import ScVerif.C12.LinLemmas
import ScVerif.C12.WaitLemmas
/-!
# C12 — property theorems, concurrent Add / Remove / Has / Get

"The registry behaves as a map (Add returns the previous client, Remove the removed one, Has and Get
agree, change callbacks report exactly the transitions, concurrent first Gets commit a single
factory client)" — here for threads running arbitrary programs of all four operations under EVERY
schedule of their atomic steps (lock sections; fallback / factory / onChange calls outside locks).
NOT guaranteed: that the `onChange` calls are *delivered* in the order the transitions were committed —
callbacks run after the lock is released, so one can overtake another (`C12_onchange_order_fails`).
-/
namespace ScVerif.C12

/-- **The registry is a linearizable map.**  The ghost sequence of lock sections is a
sequential execution of the map specification from the initial registry — every recorded result
(previous client of Add, removed client of Remove, Has, the registry read of Get, and the winner of
Get's locked put-if-absent) is the specification's result at that point, the registry now is the
specification's final map — and what each thread observed is exactly its own projection of that
single sequence, in program order. -/
theorem C12_registry_linearizable (cfg : Cfg) (reg0 : Reg) (k1 k2 : Nat) (progs : List (List Op))
    (sched : List Nat) :
    let c := lrun cfg (LConf.start reg0 k1 k2 progs) sched
    lspecRun reg0.get (c.glog.map (·.op)) = (c.st.reg.get, c.glog.map (·.res)) ∧
    (∀ t th, c.ths[t]? = some th →
      (c.glog.filter (fun e => e.tid = t)).map (fun e => (e.op, e.res)) = th.seen) := by
  intro c
  have h : LInv reg0 c := linv_reach cfg reg0 k1 k2 progs sched
  exact ⟨h.lin, h.seen⟩

/-- **Every transition is reported exactly once, with exact Old and New.**  For every schedule: the
committed transitions `clog` chain exactly from the initial registry to the current one (each `Old`
is the value the registry held, replaying them gives the registry), and the `onChange` calls delivered
so far together with the calls still owed by threads that have left their lock section are a
permutation of `clog` — nothing is reported that did not happen, nothing is reported twice, nothing is
lost. -/
theorem C12_transitions_reported_once (cfg : Cfg) (reg0 : Reg) (k1 k2 : Nat) (progs : List (List Op))
    (sched : List Nat) :
    let c := lrun cfg (LConf.start reg0 k1 k2 progs) sched
    replay reg0.get c.clog = c.st.reg.get ∧ OldExact reg0.get c.clog ∧
    List.Perm (c.st.log ++ pending c.ths) c.clog ∧
    (pending c.ths = [] → List.Perm c.st.log c.clog) := by
  intro c
  have h : LInv reg0 c := linv_reach cfg reg0 k1 k2 progs sched
  refine ⟨h.chain.1, h.chain.2, h.perm, ?_⟩
  intro hp
  have := h.perm
  rw [hp, List.append_nil] at this
  exact this

/-- **FAILS (finding): delivery order is not commit order.**  Two threads add different clients
under one name; the first is overtaken between its lock section and its callback.  Both threads have
finished, the registry holds client 2, but the listener was told `nil→1` last: replaying the
delivered changes gives client 1. -/
theorem C12_onchange_order_fails :
    ∃ (progs : List (List Op)) (sched : List Nat),
      let c := lrun ⟨none, none⟩ (LConf.start [] 0 0 progs) sched
      pending c.ths = [] ∧ (∀ th ∈ c.ths, th.prog = [] ∧ th.pc = .idle) ∧
      c.st.reg.get "n" = some 2 ∧ replay (fun _ => none) c.st.log "n" = some 1 :=
  ⟨[[.add "n" 1], [.add "n" 2]], [0, 1, 1, 0], by decide +kernel⟩

/-- **PARTIAL: exact order when no callback is overtaken.**  Hypothesis (`promptRun`, decidable on the
schedule): no thread is run while another thread still owes its `onChange` call.  Then the delivered
calls followed by the (at most one) owed call are the committed transitions in commit order; so with
nothing owed, replaying the delivered calls over the initial registry gives the registry, and every
`Old` is exact. -/
theorem C12_onchange_order_partial (cfg : Cfg) (reg0 : Reg) (k1 k2 : Nat) (progs : List (List Op))
    (sched : List Nat) (hp : promptRun cfg (LConf.start reg0 k1 k2 progs) sched = true) :
    let c := lrun cfg (LConf.start reg0 k1 k2 progs) sched
    c.st.log ++ pending c.ths = c.clog ∧
    (pending c.ths = [] → replay reg0.get c.st.log = c.st.reg.get ∧ OldExact reg0.get c.st.log) := by
  intro c
  have h : LInv reg0 c := linv_reach cfg reg0 k1 k2 progs sched
  have hl := prompt_lrun sched (by rw [pending_start]; rfl) hp
  refine ⟨hl, fun hn => ?_⟩
  rw [hn, List.append_nil] at hl
  rw [hl]
  exact h.chain

/-- The hypothesis of `C12_onchange_order_partial` is met by genuinely concurrent schedules: two
threads whose lock sections and callbacks interleave, a Get racing with an Add and a Remove. -/
example : promptRun ⟨none, some fun _ k => ⟨some (1000 + k), false⟩⟩
    (LConf.start [] 0 0 [[.get "n", .remove "n"], [.add "n" 1, .has "n"]]) [0, 0, 0, 1, 1, 0, 1, 0, 0] = true := by
  decide +kernel

/-- A run with all four operations and a factory: results are the sequential ones for the order of the
lock sections (Get's re-check finds the client the other thread added and returns it). -/
example :
    let c := lrun ⟨none, some fun _ k => ⟨some (1000 + k), false⟩⟩
      (LConf.start [] 0 0 [[.get "n", .remove "n"], [.add "n" 1, .has "n"]]) [0, 0, 0, 1, 1, 0, 1, 0, 0]
    c.ths.map (·.results) = [[.got 1 .registered, .prev (some 1)], [.prev none, .bool true]] ∧
      c.st.log = [⟨"n", none, some 1, false⟩, ⟨"n", some 1, none, false⟩] ∧ c.st.reg.get "n" = none := by
  decide +kernel

/-- **Every operation returns, whatever the others do (wait-freedom).** A thread that has been scheduled at least
five times per operation of its program has finished the program — no operation ever waits for another thread, for
a callback of another thread to return, or for a registry state. The bound charges every operation the five own
steps a Get can need (read, fallback, factory, put-if-absent, callback); that Add and Remove need fewer is not
stated. In particular a thread parked inside its own `onChange` callback delays nobody else. -/
theorem C12_operations_wait_free (cfg : Cfg) (reg0 : Reg) (k1 k2 : Nat) (progs : List (List Op))
    (sched : List Nat) (t : Nat) (p : List Op) (hp : progs[t]? = some p)
    (hfair : 5 * p.length ≤ sched.count t) :
    ∃ th, (lrun cfg (LConf.start reg0 k1 k2 progs) sched).ths[t]? = some th ∧ th.prog = [] ∧ th.pc = .idle := by
  have h0 : (LConf.start reg0 k1 k2 progs).ths[t]? = some ⟨p, .idle, [], []⟩ := by
    simp [LConf.start, hp]
  obtain ⟨th, h1, h2⟩ := lrun_rank cfg sched _ t _ h0
  have hz : th.rank = 0 := by
    have h3 : (⟨p, .idle, [], []⟩ : LThread).rank = 5 * p.length := by simp [LThread.rank, LPC.rank]
    rw [h3] at h2
    omega
  exact ⟨th, h1, (rank_zero_iff th).mp hz⟩

/-- The bound is attained: a Get that goes all the way (miss, fallback supplies nothing, factory,
put-if-absent, callback) needs its five steps — after four it is still owed its callback. -/
example :
    let cfg : Cfg := ⟨some fun _ _ => ⟨none, false⟩, some fun _ k => ⟨some (1000 + k), false⟩⟩
    ((lrun cfg (LConf.start [] 0 0 [[.get "n"]]) [0, 0, 0, 0]).ths.map (·.pc)) =
        [.notify ⟨"n", none, some 1000, true⟩ (.got 1000 .factory)] ∧
      ((lrun cfg (LConf.start [] 0 0 [[.get "n"]]) [0, 0, 0, 0, 0]).ths.map (·.pc)) = [.idle] := by
  decide +kernel

end ScVerif.C12
