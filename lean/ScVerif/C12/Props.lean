import ScVerif.C12.ConcLemmas
import ScVerif.C12.ForwardLemmas
import ScVerif.C12.NameDefaultLemmas
/-!
# C12 — property theorems (registry, Get protocol, forwarders, default name)

Property (fixed text): "For every trait service and every one of its methods, a request naming N is
forwarded exactly once to the client currently registered under N (added, created once by the
factory, or supplied by the fallback), and the request, the response or stream of responses, the
error status and the stream header and trailer pass through unaltered; a name with no client yields
NotFound and touches no client. The registry behaves as a map (Add returns the previous client,
Remove the removed one, Has and Get agree, change callbacks report exactly the transitions,
concurrent first Gets commit a single factory client), and the default-name interceptor fills in
only empty names. The checked-in routers and wrappers are exactly what the generators produce from
the current API descriptors, so no RPC is left unrouted."

The last sentence is `C12_all_routed` in `PropsTables.lean` (over tables regenerated from the source).
-/
namespace ScVerif.C12

/-- The client a request naming `n` must reach in state `s`: the registered one, else what the
fallback supplies, else what the factory supplies (independent of the model's `get`). -/
def resolve (cfg : Cfg) (s : St) (n : Name) : Option Client :=
  match s.reg.get n with
  | some c => some c
  | none =>
    match supplies cfg.fallback n s.nfb with
    | some c => some c
    | none => supplies cfg.factory n s.nfac

/-- **Registry = map.**  For every configuration, every starting state and every history of
`Add/Remove/Has/Get`, the model (association list, Go control flow) returns exactly the results of
the map specification, leaves a registry denoting exactly the specification's map, and calls
`onChange` with exactly the same changes in the same order (and calls fallback/factory equally often). -/
theorem C12_registry_map (cfg : Cfg) (s : St) (ops : List Op) :
    srun cfg s.abs ops = ((run cfg s ops).1.abs, (run cfg s ops).2) :=
  run_refines cfg s ops

/-- **Add returns the previous client, Remove the removed one**, both are exact map updates with a
frame condition, for every state. -/
theorem C12_add_remove (s : St) (n : Name) (c : Client) :
    (add s n c).2 = .prev (s.reg.get n) ∧
    (add s n c).1.reg.get = SMap.upd s.reg.get n (some c) ∧
    (remove s n).2 = .prev (s.reg.get n) ∧
    (remove s n).1.reg.get = SMap.upd s.reg.get n none := by
  refine ⟨rfl, by simp [add, Reg.set_abs], ?_, ?_⟩
  · simp only [remove]; cases h : s.reg.get n <;> simp
  · simp only [remove]
    cases h : s.reg.get n with
    | none => exact (SMap.upd_none_of_none _ n h).symm
    | some x => exact Reg.erase_abs _ n

/-- **Has and Get agree** (no fallback, no factory): `Has n` is true exactly when `Get n` succeeds,
and then `Get` returns the registered client and changes nothing. -/
theorem C12_has_iff_get (s : St) (n : Name) :
    ((has s n).2 = .bool true ↔ ∃ c, get ⟨none, none⟩ s n = (s, .got c .registered)) ∧
    ((has s n).2 = .bool false ↔ get ⟨none, none⟩ s n = (s, .notFound)) := by
  simp only [has, get, invoke]
  cases h : s.reg.get n <;> simp

/-- **Change callbacks report exactly the transitions.**  For every history the calls of `onChange`
made during it (`d`) satisfy: replaying them over the registry before gives the registry after (no
transition is missed, none is invented), every `Old` is the value the registry really held, and at
most one change is reported per operation. -/
theorem C12_onchange_exact (cfg : Cfg) (s : St) (ops : List Op) :
    ∃ d, (run cfg s ops).1.log = s.log ++ d ∧
      replay s.reg.get d = (run cfg s ops).1.reg.get ∧
      OldExact s.reg.get d ∧ d.length ≤ ops.length := by
  have h := srun_log cfg s.abs ops
  rw [run_refines] at h
  exact h

/-- **Get resolution**: registered, else fallback (not remembered), else factory (remembered, one
`Auto` change), else NotFound (nothing changes). -/
theorem C12_get_resolution (cfg : Cfg) (s : St) (n : Name) :
    match s.reg.get n with
    | some c => get cfg s n = (s, .got c .registered)
    | none =>
      match supplies cfg.fallback n s.nfb with
      | some c => (get cfg s n).2 = .got c .fallback ∧ (get cfg s n).1.reg = s.reg ∧ (get cfg s n).1.log = s.log
      | none =>
        match supplies cfg.factory n s.nfac with
        | some c => (get cfg s n).2 = .got c .factory ∧ (get cfg s n).1.reg.get = SMap.upd s.reg.get n (some c) ∧
            (get cfg s n).1.log = s.log ++ [⟨n, none, some c, true⟩]
        | none => (get cfg s n).2 = .notFound ∧ (get cfg s n).1.reg = s.reg ∧ (get cfg s n).1.log = s.log := by
  rcases get_cases cfg s n with ⟨c, h, e⟩ | ⟨h, ⟨c, hb, e⟩ | ⟨hb, ⟨c, hf, e⟩ | ⟨hf, e⟩⟩⟩ <;>
    simp [*, Reg.set_abs]

/-- `get` returns a client exactly when `resolve` names one, and it is that client. -/
theorem C12_get_agrees_with_resolve (cfg : Cfg) (s : St) (n : Name) :
    (∀ c, resolve cfg s n = some c → ∃ src, (get cfg s n).2 = .got c src) ∧
    (resolve cfg s n = none → (get cfg s n).2 = .notFound) := by
  rcases get_cases cfg s n with ⟨c, h, e⟩ | ⟨h, ⟨c, hb, e⟩ | ⟨hb, ⟨c, hf, e⟩ | ⟨hf, e⟩⟩⟩ <;>
    simp [resolve, *]

/-- **Unary forwarding.**  In every state, a unary request naming `n` makes exactly one child call —
on the client `resolve` names, with the same method and the unaltered request — and returns that
child's response or error unaltered; when no client resolves, no client is touched and the result
is NotFound. -/
theorem C12_forward_unary (cfg : Cfg) (s : St) (n : Name) (method req : Tok)
    (child : Client → Tok → Tok → UOut) :
    (∀ c, resolve cfg s n = some c →
      forwardUnary (get cfg s n).2 method req child = ([⟨c, method, req⟩], child c method req)) ∧
    (resolve cfg s n = none →
      forwardUnary (get cfg s n).2 method req child = ([], .err notFoundTok)) := by
  obtain ⟨h1, h2⟩ := C12_get_agrees_with_resolve cfg s n
  constructor
  · intro c hc; obtain ⟨src, hs⟩ := h1 c hc; simp [hs, forwardUnary]
  · intro hn; simp [h2 hn, forwardUnary]

/-- **Stream routing**: the single child call of a server-streaming forwarder goes to the resolved
client with the unaltered request; NotFound touches no client and sends nothing. -/
theorem C12_forward_stream_call (cfg : Cfg) (s : St) (n : Name) (method req : Tok)
    (cs : ChildScript) (k : CallerScript) :
    (∀ c, resolve cfg s n = some c →
      (forwardStream (get cfg s n).2 method req cs k).calls = [⟨c, method, req⟩]) ∧
    (resolve cfg s n = none →
      forwardStream (get cfg s n).2 method req cs k = ⟨[], none, [], 0, 0, none, some notFoundTok, false⟩) := by
  obtain ⟨h1, h2⟩ := C12_get_agrees_with_resolve cfg s n
  constructor
  · intro c hc; obtain ⟨src, hs⟩ := h1 c hc
    rw [hs]; exact (forwardStream_got c src method req cs k).1
  · intro hn; rw [h2 hn]; rfl

/-- **The pump, caller healthy.**  If the child stream opens and yields its header and the caller
accepts everything, the caller observes: the child's header, then all the child's messages in
order, then the child's trailer, and the child's final status with `io.EOF ↦ OK`; the child's
context is not cancelled by the router; `Recv` is called once per message plus once. -/
theorem C12_pump (c : Client) (src : Src) (method req : Tok) (cs : ChildScript) (k : CallerScript)
    (hopen : cs.openErr = none) (hhdr : cs.headerErr = none) (hsh : k.sendHeaderErr = none)
    (hok : ∀ j, k.failAt = some j → cs.msgs.length ≤ j) :
    forwardStream (.got c src) method req cs k =
      ⟨[⟨c, method, req⟩], some cs.header, cs.msgs, cs.msgs.length, cs.msgs.length + 1, cs.trailer,
        errToStatus cs.final, false⟩ := by
  have := pumpLoop_all k.failAt cs.msgs 0 (by intro j hj; right; simpa using hok j hj)
  simp [forwardStream, hopen, hhdr, hsh, this]

/-- **The pump, caller error.**  If the caller's `Send` number `j` fails (the child still had a
message for it), the caller has received exactly the first `j` messages, the handler returns the
caller's error, no trailer is forwarded, and the child's context IS cancelled. -/
theorem C12_pump_caller_error (c : Client) (src : Src) (method req : Tok) (cs : ChildScript)
    (k : CallerScript) (j : Nat)
    (hopen : cs.openErr = none) (hhdr : cs.headerErr = none) (hsh : k.sendHeaderErr = none)
    (hf : k.failAt = some j) (hj : j < cs.msgs.length) :
    forwardStream (.got c src) method req cs k =
      ⟨[⟨c, method, req⟩], some cs.header, cs.msgs.take j, j + 1, j + 1, none, some k.sendErr, true⟩ := by
  have := pumpLoop_fail j cs.msgs 0 (Nat.zero_le _) (by simpa using hj)
  simp [forwardStream, hopen, hhdr, hsh, hf, this]

/-- **The pump, early errors**: an error opening the child stream, reading its header or sending the
header to the caller is returned unaltered, and no message is sent. -/
theorem C12_pump_early_error (c : Client) (src : Src) (method req : Tok) (cs : ChildScript)
    (k : CallerScript) :
    (∀ e, cs.openErr = some e →
      forwardStream (.got c src) method req cs k = ⟨[⟨c, method, req⟩], none, [], 0, 0, none, some e, false⟩) ∧
    (∀ e, cs.openErr = none → cs.headerErr = some e →
      forwardStream (.got c src) method req cs k = ⟨[⟨c, method, req⟩], none, [], 0, 0, none, some e, false⟩) ∧
    (∀ e, cs.openErr = none → cs.headerErr = none → k.sendHeaderErr = some e →
      forwardStream (.got c src) method req cs k =
        ⟨[⟨c, method, req⟩], some cs.header, [], 0, 0, none, some e, false⟩) := by
  refine ⟨?_, ?_, ?_⟩
  · intro e h; simp [forwardStream, h]
  · intro e h1 h2; simp [forwardStream, h1, h2]
  · intro e h1 h2 h3; simp [forwardStream, h1, h2, h3]

/-- **No reordering, duplication or invention, ever**: for every child script and every caller
script the messages delivered are a prefix of the child's messages, and the child context is
cancelled only together with returning the caller's own error. -/
theorem C12_pump_prefix (got : Res) (method req : Tok) (cs : ChildScript) (k : CallerScript) :
    (∃ rest, cs.msgs = (forwardStream got method req cs k).sent ++ rest) ∧
    ((forwardStream got method req cs k).cancelled = true →
      (forwardStream got method req cs k).status = some k.sendErr ∧
      (forwardStream got method req cs k).trailer = none) := by
  cases got with
  | got c src => exact (forwardStream_got c src method req cs k).2.2
  | _ => exact ⟨⟨cs.msgs, rfl⟩, nofun⟩

/-- **Concurrent first Gets commit a single factory client** — for every configuration, every
initial registry, any number of threads asking for any names, and EVERY schedule:
1. at most one `Auto` change per name is ever reported, each for a name that was absent initially,
   with `Old = nil` and `New` = the client now registered;
2. every finished `Get` that did not take its client from the fallback returned the client that is
   registered under its name (so all such Gets of one name return the same, committed client);
3. once no thread is between its insert and its callback, every name that entered the registry has
   exactly one `Auto` change. -/
theorem C12_single_commit (cfg : Cfg) (reg0 : Reg) (k1 k2 : Nat) (names : Nat → Name) (sched : List Nat) :
    let c := crun cfg (Conf.start reg0 k1 k2 names) sched
    (c.st.log.map (·.name)).Nodup ∧
    (∀ e ∈ c.st.log, e.auto = true ∧ e.old = none ∧ reg0.get e.name = none ∧
      c.st.reg.get e.name = e.new ∧ e.new.isSome = true) ∧
    (∀ t cl src, (c.th t).pc = .done (.got cl src) → src ≠ .fallback → c.st.reg.get (names t) = some cl) ∧
    ((∀ t cl, (c.th t).pc ≠ .notify cl) → ∀ n, reg0.get n = none → c.st.reg.get n ≠ none →
      (c.st.log.filter (fun e => e.name = n)).length = 1) := by
  intro c
  have h : Inv cfg reg0 names c := inv_crun (inv_start cfg reg0 k1 k2 names) sched
  refine ⟨h.log_nodup, h.log_shape, fun t cl src hp hs => ?_, ?_⟩
  · have := h.ths t
    rw [hp] at this
    cases src with
    | fallback => exact absurd rfl hs
    | _ => exact this
  intro hno n hn hr
  rcases h.fresh n hn hr with ⟨t, cl, ht, _⟩ | ⟨e, he, hen⟩
  · exact absurd ht (hno t cl)
  · exact filter_name_unique h.log_nodup he hen

/-- **Every Get returns the committed client**: with no fallback and a factory that always supplies
a client for `n`, in every schedule every finished `Get n` returned the one client registered under
`n`, and never NotFound. -/
theorem C12_single_commit_total (cfg : Cfg) (reg0 : Reg) (k1 k2 : Nat) (names : Nat → Name)
    (sched : List Nat) (n : Name)
    (hfb : cfg.fallback = none) (hfac : ∀ k, supplies cfg.factory n k ≠ none) :
    let c := crun cfg (Conf.start reg0 k1 k2 names) sched
    ∀ t r, names t = n → (c.th t).pc = .done r → ∃ cl src, r = .got cl src ∧ c.st.reg.get n = some cl := by
  intro c t r hn hd
  have h : Inv cfg reg0 names c := inv_crun (inv_start cfg reg0 k1 k2 names) sched
  have ht := h.ths t
  rw [hd] at ht
  cases r with
  | got cl src =>
    refine ⟨cl, src, rfl, ?_⟩
    cases src with
    | fallback =>
      obtain ⟨k, hk⟩ := ht
      simp [hfb, supplies] at hk
    | _ => rw [← hn]; exact ht
  | notFound =>
    obtain ⟨k, hk⟩ := ht
    rw [hn] at hk
    exact absurd hk (hfac k)
  | _ => exact ht.elim

/-- **Get is wait-free**: under every schedule, a thread that has been scheduled five times has
finished its `Get` (no thread can be locked out or delayed by the others; each lock-delimited section
is one step and no step waits for another thread). -/
theorem C12_get_wait_free (cfg : Cfg) (reg0 : Reg) (k1 k2 : Nat) (names : Nat → Name) (sched : List Nat)
    (t : Nat) (h : 5 ≤ sched.count t) :
    ∃ r, ((crun cfg (Conf.start reg0 k1 k2 names) sched).th t).pc = .done r := by
  have hr := crun_rank cfg (Conf.start reg0 k1 k2 names) sched t
  have h0 : ((Conf.start reg0 k1 k2 names).th t).pc.rank = 5 := rfl
  rw [h0] at hr
  have hz : ((crun cfg (Conf.start reg0 k1 k2 names) sched).th t).pc.rank = 0 := by omega
  cases hpc : ((crun cfg (Conf.start reg0 k1 k2 names) sched).th t).pc with
  | done r => exact ⟨r, rfl⟩
  | _ => rw [hpc] at hz; simp [PC.rank] at hz

/-- A single thread running alone performs exactly the sequential `get` (the interleaving model
extends the sequential one): five of its steps from `lookup` reach `done` with `get`'s result and state. -/
theorem C12_solo_get (cfg : Cfg) (s : St) (names : Nat → Name) (t : Nat) :
    let c := crun cfg ⟨s, fun i => ⟨names i, .lookup⟩⟩ [t, t, t, t, t]
    c.st = (get cfg s (names t)).1 ∧ (c.th t).pc = .done (get cfg s (names t)).2 := by
  simp only [crun, get]
  cases h1 : s.reg.get (names t) with
  | some c => simp [cstep, Conf.setPc, h1]
  | none =>
    -- whether the fallback / factory was configured only moves a counter, the same way on both sides
    rcases h2 : invoke cfg.fallback (names t) s.nfb with ⟨fb, fbc⟩
    cases fb with
    | some c => simp [cstep, Conf.setPc, h1, h2, apply_ite Conf.st, apply_ite Conf.th]
    | none =>
      rcases h3 : invoke cfg.factory (names t) s.nfac with ⟨fc, fcc⟩
      cases fc <;>
        simp [cstep, Conf.setPc, h1, h2, h3, apply_ite Conf.st, apply_ite Conf.th, apply_ite St.reg,
          apply_ite St.nfac]

/-- **Default name**: the interceptor keeps the shape of the request and every field not called
`name`; a string `name` becomes the default exactly when it was empty and is otherwise kept; a
request without a string `name` field is not changed at all. -/
theorem C12_default_name (d : String) (m : Msg) :
    (replaceEmptyName d m).length = m.length ∧
    (∀ i (hi : i < m.length) (hi' : i < (replaceEmptyName d m).length),
      (m[i]).fname ≠ "name" → (replaceEmptyName d m)[i] = m[i]) ∧
    (∀ s, nameOf m = some s → nameOf (replaceEmptyName d m) = some (if s = "" then d else s)) ∧
    (nameOf m = none → replaceEmptyName d m = m) :=
  ⟨(replaceEmptyName_frame d m).1, (replaceEmptyName_frame d m).2, nameOf_replaceEmptyName d m,
    fun h => by rw [replaceEmptyName_eq, h, if_neg nofun]⟩

/-- `C12_pump`'s hypotheses: a child that opens, has a header, 3 messages, EOF, and a caller that never fails. -/
example : forwardStream (.got 7 .registered) 2 5 ⟨none, none, some 9, [1, 2, 3], .eof, some 4⟩ ⟨none, none, 0⟩ =
    ⟨[⟨7, 2, 5⟩], some (some 9), [1, 2, 3], 3, 4, some 4, none, false⟩ := by decide +kernel

/-- `C12_pump_caller_error`'s hypotheses with `j = 1`. -/
example : forwardStream (.got 7 .registered) 2 5 ⟨none, none, some 9, [1, 2, 3], .eof, some 4⟩ ⟨none, some 1, 77⟩ =
    ⟨[⟨7, 2, 5⟩], some (some 9), [1], 2, 2, none, some 77, true⟩ := by decide +kernel

/-- `C12_single_commit_total`'s hypotheses: no fallback, a factory making a fresh client per call. -/
example : ∀ k, supplies (some fun _ k => ⟨some (1000 + k), false⟩) "n" k ≠ none := by
  intro k; simp [supplies]

/-- Two threads racing for the same absent name: both factories run, one client is committed, the
loser returns the winner's client, one Auto change. -/
example :
    let c := crun ⟨none, some fun _ k => ⟨some (1000 + k), false⟩⟩ (Conf.start [] 0 0 fun _ => "n")
      [0, 1, 0, 1, 0, 1, 1, 0, 1, 0]
    c.st.log = [⟨"n", none, some 1001, true⟩] ∧ (c.th 0).pc = .done (.got 1001 .registered) ∧
      (c.th 1).pc = .done (.got 1001 .factory) := by
  decide +kernel

end ScVerif.C12
