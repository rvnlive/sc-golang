/-! What is true of every run of a step function over a schedule (`crun`, `lrun` and `trun` are such runs). -/
namespace ScVerif.C12

section
variable {σ : Type} {run : σ → List Nat → σ} {step : σ → Nat → σ}
  (hnil : ∀ s, run s [] = s) (hcons : ∀ s t ts, run s (t :: ts) = run (step s t) ts)
include hnil hcons

theorem run_inv (P : σ → Prop) (hstep : ∀ s t, P s → P (step s t)) {s : σ} (h : P s) (sched : List Nat) :
    P (run s sched) := by
  induction sched generalizing s with
  | nil => rw [hnil]; exact h
  | cons t ts ih => rw [hcons]; exact ih (hstep s t h)

/-- A measure of thread `t` that its own steps lower and the others' steps do not raise has gone down by the
number of times `t` was scheduled (`none`: no such thread). -/
theorem run_rank (m : σ → Option Nat) (t : Nat)
    (hstep : ∀ s u r, m s = some r → ∃ r', m (step s u) = some r' ∧ r' ≤ r - (if u == t then 1 else 0))
    (sched : List Nat) (s : σ) (r : Nat) (h : m s = some r) :
    ∃ r', m (run s sched) = some r' ∧ r' ≤ r - sched.count t := by
  induction sched generalizing s r with
  | nil => exact ⟨r, by rw [hnil]; exact h, by simp⟩
  | cons u us ih =>
    obtain ⟨r1, h1, l1⟩ := hstep s u r h
    obtain ⟨r2, h2, l2⟩ := ih _ r1 h1
    refine ⟨r2, by rw [hcons]; exact h2, ?_⟩
    rw [List.count_cons]
    omega

end

end ScVerif.C12
