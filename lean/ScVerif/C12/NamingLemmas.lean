import ScVerif.C12.Naming
/-! What the string functions of the generators' naming keep: the `pb` suffix, no underscore, a prefix cut off. -/
namespace ScVerif.C12

theorem endsPb_withPb (s : Str) : endsPb (withPb s) = true := by
  unfold withPb
  split
  · assumption
  · simp [endsPb]

theorem withPb_of_endsPb (s : Str) (h : endsPb s = true) : withPb s = s := by
  simp [withPb, h]

theorem not_mem_dropUnderscores (s : Str) : '_' ∉ dropUnderscores s := by
  simp [dropUnderscores]

theorem dropUnderscores_of_not_mem (s : Str) (h : '_' ∉ s) : dropUnderscores s = s := by
  unfold dropUnderscores
  rw [List.filter_eq_self]
  intro c hc
  simp only [bne_iff_ne, ne_eq]
  intro hcu; subst hcu; exact h hc

theorem not_mem_withPb (s : Str) (h : '_' ∉ s) : '_' ∉ withPb s := by
  unfold withPb
  split
  · exact h
  · simp [h]

theorem traits_not_endsPb : endsPb "traits".toList = false := by decide

theorem trimPrefixIgnoreCase_suffix (s pre : Str) :
    ∃ cut, s = cut ++ trimPrefixIgnoreCase s pre ∧ (cut = [] ∨ lowerS cut = lowerS pre) := by
  unfold trimPrefixIgnoreCase
  split
  · next h =>
    refine ⟨s.take pre.length, (List.take_append_drop _ _).symm, Or.inr ?_⟩
    have hp : lowerS pre <+: lowerS s := List.isPrefixOf_iff_prefix.mp h
    have := List.prefix_iff_eq_take.mp hp
    simp only [lowerS, List.length_map] at this ⊢
    rw [this, List.map_take]
  · exact ⟨[], rfl, Or.inl rfl⟩

theorem capFirst_append (s t : Str) (h : s ≠ []) : capFirst (s ++ t) = capFirst s ++ t := by
  cases s with
  | nil => exact absurd rfl h
  | cons c cs => simp [capFirst]

end ScVerif.C12
