import ScVerif.C12.ReentrantLemmas
import ScVerif.C12.RegistryLemmas
/-!
# C12 — property theorems, change callbacks that re-enter the router

"The registry behaves as a map (…, change callbacks report exactly the transitions)" with the anchored
mechanism "Add/Remove/Has under mu, callbacks outside the lock": a callback may call the router again.
Model: `Reentrant.lean` (`runRe`: the callback's operations run right after the lock section of the
operation that reported the change, nested to any depth, before that operation returns).
-/
namespace ScVerif.C12

/-- **Re-entrant callbacks see a map.** For every callback (any function from nesting depth and reported change to
router operations) and every re-entrancy depth: the trace of all executed operations — those of the history and
those performed by callbacks, nested ones included, in lock-section order — is a plain sequential history: running
exactly these operations one after the other with no callback gives the same results and the same final state
(registry, `onChange` log, fallback/factory call counts); hence (by `run_refines`) it is a run of the map
specification. In particular an operation performed inside a callback observes the registry with the reported
change (and everything before it) applied, and nothing else. -/
theorem C12_reentrant_callbacks_sequential (cfg : Cfg) (cb : Callback) (fuel d : Nat) (s : St)
    (ops : List Op) :
    let x := runRe cfg cb fuel d s ops
    run cfg s (x.2.map (·.1)) = (x.1, x.2.map (·.2)) ∧
    srun cfg s.abs (x.2.map (·.1)) = (x.1.abs, x.2.map (·.2)) := by
  intro x
  have h : run cfg s (x.2.map (·.1)) = (x.1, x.2.map (·.2)) := runRe_sequential cfg cb fuel d s ops
  refine ⟨h, ?_⟩
  rw [run_refines, h]

/-- **A callback runs after the commit.**  Every operation reports at most one change; when it reports
`ch`, the state at the moment of the call (the one a re-entering callback observes) already holds
`ch.new` under `ch.name`, and `ch.old` is what the registry held before the operation. -/
theorem C12_callback_after_commit (cfg : Cfg) (s : St) (op : Op) :
    (newChange s (step cfg s op).1 = none ∧ (step cfg s op).1.log = s.log) ∨
    ∃ ch, newChange s (step cfg s op).1 = some ch ∧ (step cfg s op).1.log = s.log ++ [ch] ∧
      (step cfg s op).1.reg.get ch.name = ch.new ∧ ch.old = s.reg.get ch.name := by
  rcases step_change cfg s op with h | ⟨ch, h, h1, h2⟩
  · left; exact ⟨by simp [newChange, h], h⟩
  · right; exact ⟨ch, by simp [newChange, h], h, h1, h2⟩

/-- The history is a sub-history of the trace: with no re-entrancy left the trace is exactly the
history with its results (callbacks at the deepest level only observe). -/
theorem C12_reentrant_fuel_zero (cfg : Cfg) (cb : Callback) (d : Nat) (s : St) (ops : List Op) :
    (runRe cfg cb 0 d s ops).2.map (·.1) = ops ∧
    (runRe cfg cb 0 d s ops).1 = (run cfg s ops).1 ∧
    (runRe cfg cb 0 d s ops).2.map (·.2) = (run cfg s ops).2 := by
  have hops : (runRe cfg cb 0 d s ops).2.map (·.1) = ops := by
    simp only [runRe]
    induction ops generalizing s with
    | nil => simp [runWith]
    | cons op ops ih =>
      simp only [runWith]
      cases newChange s (step cfg s op).1 <;> simp [ih]
  have h := runRe_sequential cfg cb 0 d s ops
  unfold Sequential at h
  rw [hops] at h
  exact ⟨hops, by rw [h], by rw [h]⟩

/-- Non-vacuity: a callback that checks the name and then removes it again, two levels deep. The Add is
reported, the callback sees the client (`Has` true), removes it, which is reported in turn; the nested
callback sees the name gone and its own Remove finds nothing (no further change). -/
example :
    runRe ⟨none, none⟩ (fun _ ch => [.has ch.name, .remove ch.name]) 2 0 St.init [.add "x" 1] =
      (⟨[], [⟨"x", none, some 1, false⟩, ⟨"x", some 1, none, false⟩], 0, 0⟩,
       [(.add "x" 1, .prev none), (.has "x", .bool true), (.remove "x", .prev (some 1)),
        (.has "x", .bool false), (.remove "x", .prev none)]) := by
  decide +kernel

/-- Non-vacuity with a factory: the callback of a Remove looks the name up again, which re-creates the
client through the factory (an Auto change, reported to the nested callback). -/
example :
    (runRe ⟨none, some fun _ k => ⟨some (1000 + k), false⟩⟩ (fun _ ch => [.get ch.name]) 1 0
      ⟨[("x", 1)], [], 0, 0⟩ [.remove "x"]).2 =
      [(.remove "x", .prev (some 1)), (.get "x", .got 1000 .factory)] := by
  decide +kernel

end ScVerif.C12
