import ScVerif.C12.FacLemmas
import ScVerif.C12.PropsSpan
/-!
# C12 — property theorems, where the clients a router hands out come from

"… the client currently registered under N (added, **created once by the factory**, or supplied by the
fallback) …" — for every schedule of concurrent Add / Remove / Has / Get programs (`Lin.lean`): how often
the factory and the fallback are called, what an `Auto` transition may install, and what a Get may
return as factory-made or fallback-made.
-/
namespace ScVerif.C12

/-- **In total the factory is called at most once per Get that missed, under every schedule.**  At every
moment of every run: the calls the factory (the fallback) has received since the start, plus the Gets that are
on their way to call it, are at most the Gets whose first registry read found the name absent — and those are
at most the Gets that have been started, so never more than the Get operations in the programs.  The bound is
on the totals: the statement does not say it per Get (`count_facts` does, step by step). -/
theorem C12_factory_calls_bounded (cfg : Cfg) (reg0 : Reg) (k1 k2 : Nat) (progs : List (List Op))
    (sched : List Nat) :
    let c := lrun cfg (LConf.start reg0 k1 k2 progs) sched
    k2 ≤ c.st.nfac ∧ k1 ≤ c.st.nfb ∧
    (c.st.nfac - k2) + c.ths.countP owesFac ≤ misses c ∧
    (c.st.nfb - k1) + c.ths.countP owesFb ≤ misses c ∧
    misses c + getsLeft c.ths ≤ getsIn progs := by
  intro c
  obtain ⟨h, _, g⟩ : FInv cfg k1 k2 c ∧ _ ∧ GInv (getsIn progs) c := fac_reach cfg reg0 k1 k2 progs sched
  have h1 := h.lo
  have h2 := h.budFac
  have h3 := h.budFb
  exact ⟨h1.2, h1.1, by omega, by omega, g⟩

/-- **Only the factory's own products are installed automatically, and only over nothing.**  Under
every schedule, every committed `Auto` transition starts from "absent" and installs a client that the
factory supplied — for that very name, on one of the calls it received during the run.  A client made
for another name, a fallback client, or a client some Add supplied is never installed by a Get. -/
theorem C12_auto_commits_are_factory_products (cfg : Cfg) (reg0 : Reg) (k1 k2 : Nat)
    (progs : List (List Op)) (sched : List Nat) (ch : Change) :
    let c := lrun cfg (LConf.start reg0 k1 k2 progs) sched
    ch ∈ c.clog → ch.auto = true →
      ch.old = none ∧ ∃ cl, ch.new = some cl ∧ FactoryMade cfg k2 c.st.nfac ch.name cl := by
  intro c hch ha
  exact (fac_reach cfg reg0 k1 k2 progs sched).1.autos ch hch ha

/-- **Where a Get's client comes from.** Under every schedule, for every finished Get of every thread: a client
returned as factory-made was installed by a committed `Auto` transition from "absent" and is a product of the
factory for the name of that transition (the statement does not tie it to the Get's own name); a client returned
as the fallback's was supplied by the fallback on one of the calls it received during the run. -/
theorem C12_get_client_origin (cfg : Cfg) (reg0 : Reg) (k1 k2 : Nat) (progs : List (List Op))
    (sched : List Nat) (t : Nat) (th : LThread) (cl : Client) :
    let c := lrun cfg (LConf.start reg0 k1 k2 progs) sched
    c.ths[t]? = some th →
      (Res.got cl .factory ∈ th.results →
        ∃ n, (⟨n, none, some cl, true⟩ : Change) ∈ c.clog ∧ FactoryMade cfg k2 c.st.nfac n cl) ∧
      (Res.got cl .fallback ∈ th.results → FallbackMade cfg k1 c.st.nfb cl) := by
  intro c hth
  have h := (fac_reach cfg reg0 k1 k2 progs sched).1
  refine ⟨?_, ?_⟩
  · intro hr
    obtain ⟨n, hn⟩ := (h.results t th hth _ hr cl .factory rfl).1 rfl
    obtain ⟨_, cl', hc, hm⟩ := h.autos _ hn rfl
    simp only [Option.some.injEq] at hc
    subst hc
    exact ⟨n, hn, hm⟩
  · intro hr
    exact (h.results t th hth _ hr cl .fallback rfl).2 rfl

/-- **No client is invented.**  Under every schedule, at every moment of the run (after any number `i`
of lock sections) and now: whatever client the registry holds under a name `n` was registered under `n`
at the start, or some program Adds it under `n`, or the factory made it for `n` on one of the calls
it received during the run.  (Names are not mixed up, a client made for one name never shows up under
another, fallback clients are never remembered.) -/
theorem C12_no_client_invented (cfg : Cfg) (reg0 : Reg) (k1 k2 : Nat) (progs : List (List Op))
    (sched : List Nat) (i : Nat) (n : Name) (cl : Client) :
    let c := lrun cfg (LConf.start reg0 k1 k2 progs) sched
    (mapAt reg0 c.glog i n = some cl → Origin cfg reg0 progs k2 c.st.nfac n cl) ∧
    (c.st.reg.get n = some cl → Origin cfg reg0 progs k2 c.st.nfac n cl) := by
  intro c
  have h := (fac_reach cfg reg0 k1 k2 progs sched).2.1
  have hl : LInv reg0 c := linv_reach cfg reg0 k1 k2 progs sched
  -- at every moment `j`; "now" is the moment after the last lock section
  have key : ∀ j, mapAt reg0 c.glog j n = some cl → Origin cfg reg0 progs k2 c.st.nfac n cl := by
    intro j hm
    refine lspecRun_get (P := Origin cfg reg0 progs k2 c.st.nfac) _ reg0.get ?_ (fun n c hc => Or.inl hc) n cl hm
    -- a `put` writes what a program adds, a put-if-absent what the factory made: `LOpOk` of the entry
    have hw : ∀ op, op ∈ (c.glog.take j).map (·.op) → LOpOk cfg progs k2 c.st.nfac op := fun op hop => by
      obtain ⟨g, hg, rfl⟩ := List.mem_map.mp hop
      exact h.writes g (List.mem_of_mem_take hg)
    exact fun n' c' hop => hop.elim (fun hp => .inr (.inl (hw _ hp))) fun hp => .inr (.inr (hw _ hp))
  exact ⟨key i, fun hm => key c.glog.length (by rw [mapAt_full reg0 c hl]; exact hm)⟩

/-- **A Get hands out only known clients.**  Under every schedule, a finished `Get n` that returns a
client as registered or factory-made returns one that was registered under `n` at the start, that some
program Adds under `n`, or that the factory made for `n` during the run. -/
theorem C12_get_returns_known_client (cfg : Cfg) (reg0 : Reg) (k1 k2 : Nat) (progs : List (List Op))
    (sched : List Nat) (t : Nat) (sp : Span) (n : Name) (cl : Client) (src : Src)
    (hsp : sp ∈ (trun cfg (TConf.start reg0 k1 k2 progs) sched).done.getD t [])
    (hop : sp.op = .get n) (hr : sp.res = .got cl src) (hs : src ≠ .fallback) :
    Origin cfg reg0 progs k2 (lrun cfg (LConf.start reg0 k1 k2 progs) sched).st.nfac n cl := by
  obtain ⟨i, _, _, _, _, hm⟩ := (C12_get_live_client cfg reg0 k1 k2 progs sched t sp n hsp hop).1 cl src hr hs
  exact (C12_no_client_invented cfg reg0 k1 k2 progs sched (i + 1) n cl).1 hm

/-- Two threads race for the absent name `n`, a third Gets a registered one: two misses, the factory
is called twice (once per missing Get), one product is installed, the loser returns the winner's. -/
example :
    let c := lrun ⟨none, some fun _ k => ⟨some (1000 + k), false⟩⟩
      (LConf.start [("r", 7)] 0 0 [[.get "n"], [.get "n"], [.get "r"]]) [0, 1, 2, 0, 1, 0, 1, 1, 0, 1, 0]
    c.st.nfac = 2 ∧ misses c = 2 ∧ getsIn [[.get "n"], [.get "n"], [.get "r"]] = 3 ∧
      c.clog = [⟨"n", none, some 1001, true⟩] ∧
      c.ths.map (·.results) = [[.got 1001 .registered], [.got 1001 .factory], [.got 7 .registered]] := by
  decide +kernel

/-- All three origins occur: `r ↦ 7` was there at the start, `a ↦ 1` is Added by thread 0, `n ↦ 1000` is
made by the factory for thread 1's Get. -/
example :
    let c := lrun ⟨none, some fun _ k => ⟨some (1000 + k), false⟩⟩
      (LConf.start [("r", 7)] 0 0 [[.add "a" 1], [.get "n"]]) [1, 0, 1, 1, 0, 1, 1]
    c.st.reg.get "r" = some 7 ∧ c.st.reg.get "a" = some 1 ∧ c.st.reg.get "n" = some 1000 ∧
      c.ths.map (·.results) = [[.prev none], [.got 1000 .factory]] := by
  decide +kernel

end ScVerif.C12
