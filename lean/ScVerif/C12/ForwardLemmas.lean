import ScVerif.C12.PumpTrace
/-! The pump loop by where the caller fails, and what every pumped call looks like however it ends. -/
namespace ScVerif.C12

theorem pumpLoop_all (failAt : Option Nat) (ms : List Tok) (i : Nat)
    (h : ∀ j, failAt = some j → j < i ∨ i + ms.length ≤ j) :
    pumpLoop failAt ms i = (ms, ms.length, ms.length + 1, false) := by
  induction ms generalizing i with
  | nil => simp [pumpLoop]
  | cons m ms ih =>
    have hne : failAt ≠ some i := by
      intro e; rcases h i e with h | h
      · omega
      · simp at h; omega
    have := ih (i + 1) (by
      intro j hj; rcases h j hj with h | h
      · left; omega
      · right; simp at h; omega)
    simp [pumpLoop, hne, this]

theorem pumpLoop_fail (j : Nat) (ms : List Tok) (i : Nat) (hij : i ≤ j) (hj : j < i + ms.length) :
    pumpLoop (some j) ms i = (ms.take (j - i), j - i + 1, j - i + 1, true) := by
  induction ms generalizing i with
  | nil => simp at hj; omega
  | cons m ms ih =>
    by_cases e : j = i
    · subst e; simp [pumpLoop]
    · have hne : (some j : Option Nat) ≠ some i := by simp [e]
      have := ih (i + 1) (by omega) (by simp at hj; omega)
      have h1 : j - i = (j - (i + 1)) + 1 := by omega
      simp [pumpLoop, hne, this, h1]

theorem pumpLoop_prefix (failAt : Option Nat) (ms : List Tok) (i : Nat) :
    ∃ rest, ms = (pumpLoop failAt ms i).1 ++ rest := by
  induction ms generalizing i with
  | nil => exact ⟨[], by simp [pumpLoop]⟩
  | cons m ms ih =>
    simp only [pumpLoop]
    split
    · exact ⟨m :: ms, by simp⟩
    · obtain ⟨rest, hr⟩ := ih (i + 1)
      exact ⟨rest, by simp [← hr]⟩

/-- The loop in closed form, in terms of what `pumpLoop` says was delivered: a `Recv`/`Send` pair per
delivered message, then either the `Recv` that returned the child's final error, or the `Recv` and the
`Send` (of the next child message) that failed. -/
theorem loopEvents_eq (failAt : Option Nat) (ms : List Tok) (i : Nat) :
    loopEvents failAt ms i =
      (pairs (pumpLoop failAt ms i).1 ++
        (if (pumpLoop failAt ms i).2.2.2 then
          .recv :: (ms.drop (pumpLoop failAt ms i).1.length).head?.toList.map .send
        else [.recv]),
       (pumpLoop failAt ms i).2.2.2) := by
  induction ms generalizing i with
  | nil => simp [loopEvents, pumpLoop, pairs]
  | cons m ms ih =>
    by_cases h : failAt = some i
    · simp [loopEvents, pumpLoop, h, pairs]
    · simp only [loopEvents, pumpLoop, h, if_false]
      rw [ih (i + 1)]
      simp [pairs]

theorem forwardStream_got (c : Client) (src : Src) (method req : Tok) (cs : ChildScript) (k : CallerScript) :
    (forwardStream (.got c src) method req cs k).calls = [⟨c, method, req⟩] ∧
    (∀ h, (forwardStream (.got c src) method req cs k).header = some h → h = cs.header) ∧
    (∃ rest, cs.msgs = (forwardStream (.got c src) method req cs k).sent ++ rest) ∧
    ((forwardStream (.got c src) method req cs k).cancelled = true →
      (forwardStream (.got c src) method req cs k).status = some k.sendErr ∧
      (forwardStream (.got c src) method req cs k).trailer = none) := by
  simp only [forwardStream]
  cases cs.openErr with
  | some e => simp
  | none =>
    cases cs.headerErr with
    | some e => simp
    | none =>
      cases k.sendHeaderErr with
      | some e => simp
      | none =>
        simp only
        split <;> simpa using pumpLoop_prefix k.failAt cs.msgs 0

theorem pumpLoop_append_prefix (f : Option Nat) (a b : List Tok) (i : Nat) :
    ∃ rest, (pumpLoop f (a ++ b) i).1 = (pumpLoop f a i).1 ++ rest := by
  induction a generalizing i with
  | nil => exact ⟨(pumpLoop f b i).1, by simp [pumpLoop]⟩
  | cons m r ih =>
    by_cases h : f = some i
    · exact ⟨[], by simp [pumpLoop, h]⟩
    · obtain ⟨rest, hr⟩ := ih (i + 1)
      exact ⟨rest, by simp [pumpLoop, h, hr]⟩

theorem forwardStream_open_parts (c : Client) (src : Src) (method req : Tok) (cs : ChildScript) (k : CallerScript)
    (ho : cs.openErr = none) (hh : cs.headerErr = none) :
    (forwardStream (.got c src) method req cs k).calls = [⟨c, method, req⟩] ∧
    (forwardStream (.got c src) method req cs k).header = some cs.header ∧
    (forwardStream (.got c src) method req cs k).sent =
      (match k.sendHeaderErr with | some _ => [] | none => (pumpLoop k.failAt cs.msgs 0).1) := by
  simp only [forwardStream, ho, hh]
  cases k.sendHeaderErr with
  | some e => exact ⟨rfl, rfl, rfl⟩
  | none => simp only; split <;> exact ⟨rfl, rfl, rfl⟩

/-- `cs'` is `cs` with further messages: what its caller accepts extends what the other's accepted. -/
theorem forwardStream_longer (c : Client) (src : Src) (method req : Tok) (cs cs' : ChildScript) (k : CallerScript)
    (ho : cs.openErr = none) (hh : cs.headerErr = none) (ho' : cs'.openErr = none) (hh' : cs'.headerErr = none)
    (more : List Tok) (hm : cs'.msgs = cs.msgs ++ more) :
    (forwardStream (.got c src) method req cs k).calls = (forwardStream (.got c src) method req cs' k).calls ∧
    (∃ rest, (forwardStream (.got c src) method req cs' k).sent =
      (forwardStream (.got c src) method req cs k).sent ++ rest) ∧
    (forwardStream (.got c src) method req cs k).header = some cs.header ∧
    (forwardStream (.got c src) method req cs' k).header = some cs'.header := by
  obtain ⟨a1, a2, a3⟩ := forwardStream_open_parts c src method req cs k ho hh
  obtain ⟨b1, b2, b3⟩ := forwardStream_open_parts c src method req cs' k ho' hh'
  refine ⟨a1.trans b1.symm, ?_, a2, b2⟩
  rw [a3, b3, hm]
  cases k.sendHeaderErr with
  | some e => exact ⟨[], rfl⟩
  | none => exact pumpLoop_append_prefix _ _ _ _

end ScVerif.C12
