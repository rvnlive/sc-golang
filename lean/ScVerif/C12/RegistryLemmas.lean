import ScVerif.C12.Registry
/-! The association-list registry read as the map it denotes: `get` by the way a Get goes, one model operation =
one operation of the specification, and what one operation reports. -/
namespace ScVerif.C12

theorem Reg.get_erase (r : Reg) (n k : Name) :
    (r.erase n).get k = if k = n then none else r.get k := by
  induction r with
  | nil => simp [Reg.erase, Reg.get]
  | cons p rest ih =>
    obtain ⟨m, c⟩ := p
    simp only [Reg.erase] at ih ⊢
    by_cases hmn : m = n
    · subst hmn
      simp only [List.filter, ne_eq, not_true_eq_false, decide_false]
      rw [ih]
      by_cases hk : k = m
      · simp [hk]
      · have : ¬ m = k := fun h => hk h.symm
        simp [hk, Reg.get, this]
    · simp only [List.filter, ne_eq, hmn, not_false_eq_true, decide_true]
      simp only [Reg.get]
      rw [ih]
      by_cases hmk : m = k
      · subst hmk
        simp [hmn]
      · simp [hmk]

theorem Reg.get_set (r : Reg) (n k : Name) (c : Client) :
    (r.set n c).get k = if k = n then some c else r.get k := by
  simp only [Reg.set, Reg.get]
  by_cases h : n = k
  · subst h; simp
  · have h' : ¬ k = n := fun e => h e.symm
    simp [h, h', Reg.get_erase]

theorem Reg.set_abs (r : Reg) (n : Name) (c : Client) :
    (r.set n c).get = SMap.upd r.get n (some c) := by
  funext k; simp [Reg.get_set, SMap.upd]

theorem Reg.erase_abs (r : Reg) (n : Name) :
    (r.erase n).get = SMap.upd r.get n none := by
  funext k; simp [Reg.get_erase, SMap.upd]

theorem invoke_eq (f : Option Factory) (n : Name) (k : Nat) :
    invoke f n k = (supplies f n k, f.isSome) := by
  cases f <;> simp [invoke, supplies]

theorem supplies_isSome {f : Option Factory} {n : Name} {k : Nat} {c : Client}
    (h : supplies f n k = some c) : f.isSome = true := by
  cases f with
  | none => cases h
  | some g => rfl

section Get
variable {cfg : Cfg} {s : St} {n : Name} {c : Client}

theorem get_registered (h : s.reg.get n = some c) : get cfg s n = (s, .got c .registered) := by
  simp only [get, h]

theorem get_fallback (h : s.reg.get n = none) (hb : supplies cfg.fallback n s.nfb = some c) :
    get cfg s n = ({ s with nfb := s.nfb + 1 }, .got c .fallback) := by
  simp only [get, h, invoke_eq, hb, supplies_isSome hb, if_true]

theorem get_factory (h : s.reg.get n = none) (hb : supplies cfg.fallback n s.nfb = none)
    (hf : supplies cfg.factory n s.nfac = some c) :
    get cfg s n = (⟨s.reg.set n c, s.log ++ [⟨n, none, some c, true⟩], s.nfb + called cfg.fallback, s.nfac + 1⟩,
      .got c .factory) := by
  cases hfb : cfg.fallback.isSome <;> simp [get, h, invoke_eq, hb, hf, hfb, called, supplies_isSome hf]

theorem get_notFound (h : s.reg.get n = none) (hb : supplies cfg.fallback n s.nfb = none)
    (hf : supplies cfg.factory n s.nfac = none) :
    get cfg s n = ({ s with nfb := s.nfb + called cfg.fallback, nfac := s.nfac + called cfg.factory }, .notFound) := by
  cases hfb : cfg.fallback.isSome <;> cases hfc : cfg.factory.isSome <;>
    simp [get, h, invoke_eq, hb, hf, hfb, hfc, called]

theorem get_cases (cfg : Cfg) (s : St) (n : Name) :
    (∃ c, s.reg.get n = some c ∧ get cfg s n = (s, .got c .registered)) ∨
    (s.reg.get n = none ∧
      ((∃ c, supplies cfg.fallback n s.nfb = some c ∧ get cfg s n = ({ s with nfb := s.nfb + 1 }, .got c .fallback)) ∨
       (supplies cfg.fallback n s.nfb = none ∧
        ((∃ c, supplies cfg.factory n s.nfac = some c ∧ get cfg s n =
            (⟨s.reg.set n c, s.log ++ [⟨n, none, some c, true⟩], s.nfb + called cfg.fallback, s.nfac + 1⟩,
              .got c .factory)) ∨
         (supplies cfg.factory n s.nfac = none ∧ get cfg s n =
            ({ s with nfb := s.nfb + called cfg.fallback, nfac := s.nfac + called cfg.factory }, .notFound)))))) := by
  cases h : s.reg.get n with
  | some c => exact .inl ⟨c, rfl, get_registered h⟩
  | none =>
    refine .inr ⟨rfl, ?_⟩
    cases hb : supplies cfg.fallback n s.nfb with
    | some c => exact .inl ⟨c, rfl, get_fallback h hb⟩
    | none =>
      refine .inr ⟨rfl, ?_⟩
      cases hf : supplies cfg.factory n s.nfac with
      | some c => exact .inl ⟨c, rfl, get_factory h hb hf⟩
      | none => exact .inr ⟨rfl, get_notFound h hb hf⟩

end Get

theorem step_refines (cfg : Cfg) (s : St) (op : Op) :
    sstep cfg s.abs op = ((step cfg s op).1.abs, (step cfg s op).2) := by
  cases op with
  | add n c => simp [sstep, step, add, St.abs, Reg.set_abs]
  | remove n =>
    cases hx : s.reg.get n <;> simp [sstep, step, remove, St.abs, hx, Reg.erase_abs]
  | has n => simp [sstep, step, has, St.abs]
  | get n =>
    rcases get_cases cfg s n with ⟨c, h, e⟩ | ⟨h, ⟨c, hb, e⟩ | ⟨hb, ⟨c, hf, e⟩ | ⟨hf, e⟩⟩⟩ <;>
      simp [step, sstep, St.abs, *, Reg.set_abs]

theorem run_refines (cfg : Cfg) (s : St) (ops : List Op) :
    srun cfg s.abs ops = ((run cfg s ops).1.abs, (run cfg s ops).2) := by
  induction ops generalizing s with
  | nil => simp [srun, run]
  | cons op ops ih =>
    simp only [srun, run, step_refines, ih]

theorem replay_append (m : SMap) (xs ys : List Change) :
    replay m (xs ++ ys) = replay (replay m xs) ys := by
  induction xs generalizing m with
  | nil => rfl
  | cons c cs ih => simp [replay, ih]

theorem oldExact_append (m : SMap) (xs ys : List Change) :
    OldExact m (xs ++ ys) ↔ OldExact m xs ∧ OldExact (replay m xs) ys := by
  induction xs generalizing m with
  | nil => simp [OldExact, replay]
  | cons c cs ih => simp [OldExact, replay, ih, and_assoc]

theorem SMap.upd_same (m : SMap) (n : Name) : m.upd n (m n) = m := by
  funext k; by_cases h : k = n <;> simp [SMap.upd, h]

theorem SMap.upd_none_of_none (m : SMap) (n : Name) (h : m n = none) : m.upd n none = m := by
  rw [← h, SMap.upd_same]

theorem sstep_change (cfg : Cfg) (s : SSt) (op : Op) :
    ((sstep cfg s op).1.log = s.log ∧ (sstep cfg s op).1.m = s.m) ∨
    ∃ ch, (sstep cfg s op).1.log = s.log ++ [ch] ∧ ch.old = s.m ch.name ∧
      (sstep cfg s op).1.m = s.m.upd ch.name ch.new := by
  cases op with
  | add n c => exact .inr ⟨_, rfl, rfl, rfl⟩
  | remove n =>
    simp only [sstep]
    split
    · exact .inr ⟨_, rfl, rfl, rfl⟩
    · exact .inl ⟨rfl, rfl⟩
  | has n => exact .inl ⟨rfl, rfl⟩
  | get n =>
    simp only [sstep]
    split
    · exact .inl ⟨rfl, rfl⟩
    · rename_i hm
      split
      · exact .inl ⟨rfl, rfl⟩
      · split
        · exact .inr ⟨⟨n, none, _, true⟩, rfl, hm.symm, rfl⟩
        · exact .inl ⟨rfl, rfl⟩

theorem step_change (cfg : Cfg) (s : St) (op : Op) :
    (step cfg s op).1.log = s.log ∨ ∃ ch, (step cfg s op).1.log = s.log ++ [ch] ∧
      (step cfg s op).1.reg.get ch.name = ch.new ∧ ch.old = s.reg.get ch.name := by
  have h := sstep_change cfg s.abs op
  rw [step_refines] at h
  rcases h with ⟨h1, _⟩ | ⟨ch, h1, h2, h3⟩
  · exact .inl h1
  · exact .inr ⟨ch, h1, by simpa [SMap.upd, St.abs] using congrFun h3 ch.name, h2⟩

theorem sstep_log (cfg : Cfg) (s : SSt) (op : Op) :
    ∃ d, (sstep cfg s op).1.log = s.log ++ d ∧ replay s.m d = (sstep cfg s op).1.m ∧ OldExact s.m d ∧
      d.length ≤ 1 := by
  rcases sstep_change cfg s op with ⟨h1, h2⟩ | ⟨ch, h1, h2, h3⟩
  · exact ⟨[], by simp [h1, h2, replay, OldExact]⟩
  · exact ⟨[ch], by simp [h1, h2, h3, replay, OldExact]⟩

theorem srun_log (cfg : Cfg) (s : SSt) (ops : List Op) :
    ∃ d, (srun cfg s ops).1.log = s.log ++ d ∧ replay s.m d = (srun cfg s ops).1.m ∧ OldExact s.m d ∧
      d.length ≤ ops.length := by
  induction ops generalizing s with
  | nil => exact ⟨[], by simp [srun, replay, OldExact]⟩
  | cons op ops ih =>
    obtain ⟨d1, h1, h2, h3, h4⟩ := sstep_log cfg s op
    obtain ⟨d2, g1, g2, g3, g4⟩ := ih (sstep cfg s op).1
    refine ⟨d1 ++ d2, ?_, ?_, ?_, ?_⟩
    · simp only [srun]; rw [g1, h1, List.append_assoc]
    · simp only [srun]; rw [replay_append, h2, g2]
    · rw [oldExact_append]; exact ⟨h3, by rw [h2]; exact g3⟩
    · simp only [List.length_append, List.length_cons]; omega

end ScVerif.C12
