import ScVerif.C12.ForwardLemmas
/-!
# C12 — property theorems, timing of the stream pump

"… the response or stream of responses, the error status and the stream header and trailer pass through
unaltered" — here as statements about the ORDER of the calls the generated server-streaming forwarder
makes (`pumpEvents`), for every child script and every caller script.
-/
namespace ScVerif.C12

/-- **The whole call sequence, in terms of what the caller observed.**  When the child stream opens,
yields its header and the caller accepts the header, the calls are exactly: open, `Header()`,
`SendHeader(header)`; then `Recv`, `Send(m)` for each message the caller accepted, in order; then
* caller error: the `Recv` and the failing `Send` of the child's next message, `reqDone()`, and no
  trailer call at all;
* otherwise: the `Recv` that returned the child's final error, `stream.Trailer()`, and
  `server.SetTrailer(t)` exactly when the child has a trailer.
`sent` and `cancelled` are those of `forwardStream` (the final-observation model), so both models agree. -/
theorem C12_pump_call_sequence (c : Client) (src : Src) (method req : Tok) (cs : ChildScript)
    (k : CallerScript) (hopen : cs.openErr = none) (hhdr : cs.headerErr = none)
    (hsh : k.sendHeaderErr = none) :
    let o := forwardStream (.got c src) method req cs k
    pumpEvents (.got c src) cs k =
      [.openChild, .childHeader, .sendHeader cs.header] ++ pairs o.sent ++
        (if o.cancelled then
          .recv :: (cs.msgs.drop o.sent.length).head?.toList.map .send ++ [.cancel]
        else .recv :: trailerEvents cs.trailer) := by
  simp only [forwardStream, pumpEvents, hopen, hhdr, hsh]
  rw [loopEvents_eq]
  rcases hp : pumpLoop k.failAt cs.msgs 0 with ⟨sent, s, r, ce⟩
  cases ce <;> simp

/-- **The header goes first, at once, exactly once.** If the forwarder pulls a message from the child (`Recv`),
sends one (`Send`), sets a trailer or cancels, then its first three calls were `child.Pull…`, `stream.Header()`
and `server.SendHeader(header)` with exactly the child's header — so the caller has the header before the child's
first message is even asked for (a quiet child that has sent its header does not keep the caller waiting for it) —
and `SendHeader` is not called again. -/
theorem C12_pump_header_first (got : Res) (cs : ChildScript) (k : CallerScript) (e : PEv)
    (he : e ∈ pumpEvents got cs k)
    (hk : e = .recv ∨ (∃ m, e = .send m) ∨ e = .childTrailer ∨ (∃ t, e = .setTrailer t) ∨ e = .cancel) :
    ∃ tail, pumpEvents got cs k = [.openChild, .childHeader, .sendHeader cs.header] ++ tail ∧
      ∀ h, PEv.sendHeader h ∉ tail := by
  have hl : e ≠ .openChild ∧ e ≠ .childHeader ∧ ∀ h, e ≠ .sendHeader h := by
    rcases hk with h | ⟨m, h⟩ | h | ⟨t, h⟩ | h <;> subst h <;> simp
  cases got with
  | got c src =>
    -- the early exits make only the opening calls, which `e` is not; otherwise the whole sequence is known
    cases h1 : cs.openErr with
    | some x => simp [pumpEvents, h1, hl] at he
    | none =>
      cases h2 : cs.headerErr with
      | some x => simp [pumpEvents, h1, h2, hl] at he
      | none =>
        cases h3 : k.sendHeaderErr with
        | some x => simp [pumpEvents, h1, h2, h3, hl] at he
        | none =>
          rw [C12_pump_call_sequence c src 0 0 cs k h1 h2 h3, List.append_assoc]
          refine ⟨_, rfl, fun h hm => ?_⟩
          rcases List.mem_append.mp hm with hm | hm
          · simp [pairs] at hm
          · split at hm
            · simp at hm
            · unfold trailerEvents at hm
              split at hm <;> simp at hm
  | _ => simp [pumpEvents] at he

/-- Non-vacuity / illustration: two messages, caller healthy. -/
example : pumpEvents (.got 7 .registered) ⟨none, none, some 9, [1, 2], .eof, some 4⟩ ⟨none, none, 0⟩ =
    [.openChild, .childHeader, .sendHeader (some 9), .recv, .send 1, .recv, .send 2, .recv, .childTrailer,
      .setTrailer 4] := by decide +kernel

/-- The caller fails on the second message: it is pulled and offered, then the child is cancelled. -/
example : pumpEvents (.got 7 .registered) ⟨none, none, some 9, [1, 2, 3], .eof, some 4⟩ ⟨none, some 1, 77⟩ =
    [.openChild, .childHeader, .sendHeader (some 9), .recv, .send 1, .recv, .send 2, .cancel] := by decide +kernel

end ScVerif.C12
