import ScVerif.C12.WrappedLemmas
import ScVerif.C12.Props
/-!
# C12 — property theorems: the registered client is a wrapped server (`xxxpb.WrapApi(server)`)

"… the response or stream of responses, the error status and the stream header and trailer pass through
unaltered" when the client registered under the name is a generated wrapper around a server (the usual
case): the router's forwarder (Forward.lean) reads its child stream from pkg/wrap's in-process stream
(Wrapped.lean).  The theorems quantify over EVERY sequence of calls a handler can make (`List HOp`), every
final status, every caller script and every naming `enc` of joined metadata.
-/
namespace ScVerif.C12

/-- **What the wrapper's client half yields**, for every handler: the stream opens, its header is exactly
the metadata attached before the header went (`attached`: staged or sent, up to the first `SendHeader` /
`SendMsg`, all of it if the handler returned without either) — **the same whatever the handler then
returns** —, its messages are the handler's messages *as they were when sent* (`sentVals`: later writes of
the handler to its message are invisible), then the handler's status, and its trailer is what was set. -/
theorem C12_wrapped_stream_view (enc : List Tok → Tok) (buf : Tok) (ops : List HOp) (st : Option Tok) :
    wrapView enc buf ops st =
      { openErr := none, headerErr := none, header := some (enc (attached ops)), msgs := sentVals buf ops,
        final := (match st with | none => .eof | some e => .status e),
        trailer := if (trailers ops).isEmpty then none else some (enc (trailers ops)) } := by
  simp only [wrapView, wclose_eq]
  cases st <;> rfl

/-- **Routed to a wrapped server, caller healthy**: for every handler and status the caller of the router
receives one `SendHeader` with exactly the attached metadata, every response as it was when the handler
sent it, in order, the trailer iff one was set, and the handler's status; exactly one call went to the
client registered under the name and its context was not cancelled. -/
theorem C12_routed_wrapped_server (c : Client) (src : Src) (method req : Tok) (enc : List Tok → Tok)
    (buf : Tok) (ops : List HOp) (st : Option Tok) (k : CallerScript)
    (hsh : k.sendHeaderErr = none) (hok : ∀ j, k.failAt = some j → (sentVals buf ops).length ≤ j) :
    forwardStream (.got c src) method req (wrapView enc buf ops st) k =
      ⟨[⟨c, method, req⟩], some (some (enc (attached ops))), sentVals buf ops, (sentVals buf ops).length,
        (sentVals buf ops).length + 1,
        if (trailers ops).isEmpty then none else some (enc (trailers ops)), st, false⟩ := by
  rw [C12_wrapped_stream_view, C12_pump c src method req _ k rfl rfl hsh hok]
  cases st <;> rfl

/-- **Routed to a wrapped server, the caller fails**: if the caller's `Send` number `j` fails while the
handler still had a response for it, the caller has received exactly the first `j` responses as they were
when sent, gets its own error back, no trailer, and the wrapped server's context is cancelled. -/
theorem C12_routed_wrapped_caller_error (c : Client) (src : Src) (method req : Tok) (enc : List Tok → Tok)
    (buf : Tok) (ops : List HOp) (st : Option Tok) (k : CallerScript) (j : Nat)
    (hsh : k.sendHeaderErr = none) (hf : k.failAt = some j) (hj : j < (sentVals buf ops).length) :
    forwardStream (.got c src) method req (wrapView enc buf ops st) k =
      ⟨[⟨c, method, req⟩], some (some (enc (attached ops))), (sentVals buf ops).take j, j + 1, j + 1, none,
        some k.sendErr, true⟩ := by
  rw [C12_wrapped_stream_view]
  exact C12_pump_caller_error c src method req _ k j rfl rfl hsh hf hj

/-- **Whatever the caller does**: the responses it accepted are a prefix of the responses as sent, the
header it was offered (if any) is the attached metadata, and nothing is forwarded for a name without client. -/
theorem C12_routed_wrapped_prefix (got : Res) (method req : Tok) (enc : List Tok → Tok) (buf : Tok)
    (ops : List HOp) (st : Option Tok) (k : CallerScript) :
    let o := forwardStream got method req (wrapView enc buf ops st) k
    (∃ rest, sentVals buf ops = o.sent ++ rest) ∧
    (∀ h, o.header = some h → h = some (enc (attached ops))) ∧
    ((∀ c src, got ≠ .got c src) → o.calls = [] ∧ o.sent = [] ∧ o.header = none) := by
  cases got with
  | got c src =>
    obtain ⟨_, h2, h3, _⟩ := forwardStream_got c src method req (wrapView enc buf ops st) k
    rw [C12_wrapped_stream_view] at h2 h3 ⊢
    exact ⟨h3, h2, fun h => absurd rfl (h c src)⟩
  | _ => exact ⟨⟨_, rfl⟩, nofun, fun _ => ⟨rfl, rfl, rfl⟩⟩

/-- **A staged header survives a failing call without messages**:
the handler stages headers (`SetHeader`, any number, also trailers), sends nothing and returns ANY status —
the caller is still offered exactly the staged metadata, then gets that status. -/
theorem C12_staged_header_survives_failure (c : Client) (src : Src) (method req : Tok) (enc : List Tok → Tok)
    (buf : Tok) (hs ts : List Tok) (st : Option Tok) (k : CallerScript) (hsh : k.sendHeaderErr = none) :
    let o := forwardStream (.got c src) method req
      (wrapView enc buf (hs.map .setHeader ++ ts.map .setTrailer) st) k
    o.header = some (some (enc hs)) ∧ o.sent = [] ∧ o.status = st ∧ o.cancelled = false := by
  obtain ⟨ha, _, hv, _⟩ := staged_spec buf hs ts
  have := C12_routed_wrapped_server c src method req enc buf (hs.map .setHeader ++ ts.map .setTrailer) st k hsh
    (by intro j _; simp [hv])
  simp only [this, ha, hv]
  simp

/-- **Router ∘ Wrap ∘ Router ∘ device** (the composition the harness drives for every service): a device that
stages header `sh` / trailer `st` on arrival, opens, sends header `cs.header`, the messages `cs.msgs`, status
`cs.final` and trailer `cs.trailer`, and **overwrites every message with anything (`scr`) once it has been
passed on (`reuse`)**: the outer router's caller receives header `sh ++ cs.header`, exactly `cs.msgs`, the
status and trailer `st ++ cs.trailer` — independent of `reuse` and `scr`. -/
theorem C12_router_wrap_router_device (c : Client) (src : Src) (method req : Tok) (enc : List Tok → Tok)
    (sh st : Option Tok) (cs : ChildScript) (reuse : Bool) (scr : Tok) (k : CallerScript)
    (hopen : cs.openErr = none) (hhdr : cs.headerErr = none)
    (hsh : k.sendHeaderErr = none) (hok : ∀ j, k.failAt = some j → cs.msgs.length ≤ j) :
    routeWrapped enc (.got c src) method req sh st cs reuse scr k =
      ⟨[⟨c, method, req⟩], some (some (enc (sh.toList ++ cs.header.toList))), cs.msgs, cs.msgs.length,
        cs.msgs.length + 1,
        if (st.toList ++ cs.trailer.toList).isEmpty then none else some (enc (st.toList ++ cs.trailer.toList)),
        errToStatus cs.final, false⟩ := by
  obtain ⟨b, hb⟩ := wrun_deviceOps sh st cs reuse scr hopen hhdr
  rw [wrun_init] at hb
  injection hb with hatt _ _ hmsgs htr
  have hst : deviceStatus cs = errToStatus cs.final :=
    congrArg Obs.status (C12_pump 0 .registered 0 0 cs healthy hopen hhdr rfl nofun)
  unfold routeWrapped
  rw [C12_routed_wrapped_server c src method req enc 0 _ _ k hsh (by rw [hmsgs]; exact hok),
    hmsgs, hatt, htr, hst]

/-- … and when the device fails on arrival or before its header: the staged header still reaches the caller
(with no message and that status), the staged trailer too. -/
theorem C12_router_wrap_router_device_early (c : Client) (src : Src) (method req : Tok) (enc : List Tok → Tok)
    (sh st : Option Tok) (cs : ChildScript) (reuse : Bool) (scr : Tok) (k : CallerScript) (e : Tok)
    (hfail : cs.openErr = some e ∨ (cs.openErr = none ∧ cs.headerErr = some e))
    (hsh : k.sendHeaderErr = none) :
    routeWrapped enc (.got c src) method req sh st cs reuse scr k =
      ⟨[⟨c, method, req⟩], some (some (enc sh.toList)), [], 0, 1,
        if st.toList.isEmpty then none else some (enc st.toList), some e, false⟩ := by
  have hops : deviceOps sh st cs reuse scr = sh.toList.map .setHeader ++ st.toList.map .setTrailer := by
    rcases hfail with h | ⟨h1, h2⟩
    · simp [deviceOps, pumpEvents, h, hopsOfEvents]
    · simp [deviceOps, pumpEvents, h1, h2, hopsOfEvents]
  have hst : deviceStatus cs = some e := by
    obtain ⟨p1, p2, _⟩ := C12_pump_early_error 0 .registered 0 0 cs healthy
    rcases hfail with h | ⟨h1, h2⟩
    · exact congrArg Obs.status (p1 e h)
    · exact congrArg Obs.status (p2 e h1 h2)
  obtain ⟨ha, _, hv, ht⟩ := staged_spec 0 sh.toList st.toList
  unfold routeWrapped
  rw [hops, hst, C12_routed_wrapped_server c src method req enc 0 _ _ k hsh (by intro j _; simp [hv]),
    hv, ha, ht]
  rfl

/-- **A unary call on the wrapper with `grpc.Header` / `grpc.Trailer`**: for every handler, answering or
failing, the caller's header variable holds exactly the attached metadata and its trailer variable what was
set; a response is the handler's, an error the handler's. -/
theorem C12_invoke_wrapped_metadata (ops : List HOp) (out : UOut)
    (hns : ∀ op ∈ ops, op ≠ .send) :
    invokeWrapped ops out = (out, attached (unaryOps ops out), trailers ops) := by
  cases out with
  | err e => simp [invokeWrapped, unaryOps, wclose_eq]
  | resp m =>
    obtain ⟨_, _, _, h4, h5⟩ := spec_append 0 ops [.write m, .send]
    simp [invokeWrapped, unaryOps, wclose_eq, h4, h5, sentVals_nosend ops hns, sentVals, trailers]

/-- staged, then sent, a message, the handler overwrites its message, a second message, a late `SetHeader`
(refused: the header has gone), trailer. -/
example : wrapView (fun l => l.foldl (· * 100 + ·) 0) 0
    [.setHeader 7, .sendHeader (some 9), .write 1, .send, .write 50, .write 2, .send, .setHeader 8, .setTrailer 4] none =
    ⟨none, none, some 709, [1, 2], .eof, some 4⟩ := by decide +kernel

/-- staged header, no message, error status: the caller of the router is offered the staged header. -/
example : (forwardStream (.got 3 .registered) 1 5 (wrapView (fun l => l.foldl (· * 100 + ·) 0) 0 [.setHeader 7] (some 21))
    ⟨none, none, 0⟩).header = some (some 7) := by decide +kernel

/-- the device composition with re-use: the caller gets the device's messages, not the scribble. -/
example : (routeWrapped (fun l => l.foldl (· * 100 + ·) 0) (.got 3 .registered) 1 5 (some 7) none
    ⟨none, none, some 9, [1, 2], .eof, some 4⟩ true 998 ⟨none, none, 0⟩).sent = [1, 2] := by decide +kernel

end ScVerif.C12
