import ScVerif.C12.NamingLemmas
/-!
# C12 — property theorems, where the generators put what they emit

"The checked-in routers and wrappers are exactly what the generators produce from the current API
descriptors" — the part of the generators that decides WHERE a service's router and wrapper go and what
they are called (`generateFile` in `cmd/protoc-gen-router/main.go` and `cmd/protoc-gen-wrapper/main.go`,
modelled in `Naming.lean`), for every proto file location and every service name.
-/
namespace ScVerif.C12

/-- **The package both generators write to is a well-formed `…pb` package, whatever the input**: it
ends in `pb`, contains no underscore, and is never the catch-all directory name `traits`. -/
theorem C12_gen_package_wellformed (dir file : Str) :
    endsPb (pkgOf dir file) = true ∧ '_' ∉ pkgOf dir file ∧ pkgOf dir file ≠ "traits".toList := by
  refine ⟨endsPb_withPb _, not_mem_withPb _ (not_mem_dropUnderscores _), ?_⟩
  intro h
  have := endsPb_withPb (dropUnderscores (if dir = "traits".toList then file else dir))
  simp only [pkgOf] at h
  rw [h] at this
  exact absurd this (by decide)

/-- **A proto file that already lives in a generated package stays there.**  If the file's Go package
directory is itself a well-formed `…pb` package (as `pkg/trait/electricpb` is for
`memory_settings.proto`), the generators write into that very directory — they do not append another
`pb` — and naming is idempotent: feeding a produced package name back as the directory gives it again. -/
theorem C12_gen_package_stable (dir file file' : Str) :
    (dir ≠ "traits".toList → '_' ∉ dir → endsPb dir = true → pkgOf dir file = dir) ∧
    pkgOf (pkgOf dir file) file' = pkgOf dir file := by
  have stable : ∀ d f : Str, d ≠ "traits".toList → '_' ∉ d → endsPb d = true → pkgOf d f = d := by
    intro d f h1 h2 h3
    simp only [pkgOf, h1, if_false]
    rw [dropUnderscores_of_not_mem d h2, withPb_of_endsPb d h3]
  obtain ⟨w1, w2, w3⟩ := C12_gen_package_wellformed dir file
  exact ⟨stable dir file, stable _ file' w3 w2 w1⟩

/-- **Router and wrapper of a service are emitted side by side under the service's local name.** The router goes
to `pkg/trait/<pkg>/<lower name>_router.pb.go` and declares `<name>Router`, the wrapper goes to
`pkg/trait/<pkg>/<lower name>_wrap.pb.go` and declares `<Name>Wrapper` (first letter upper-cased: the same
`<name>` whenever it starts with a capital, as every local name of the API does), with the same `<pkg>` and the
same `<name>`; and `<name>` is the service's Go name with at most a leading copy of the package stem (any letter
case) cut off — nothing else is dropped or altered. -/
theorem C12_gen_names (dir file svc : Str) :
    ∃ name cut,
      svc = cut ++ name ∧ (cut = [] ∨ lowerS cut = lowerS (stem (pkgOf dir file))) ∧
      emitRouter dir file svc =
        ⟨"pkg/trait/".toList ++ pkgOf dir file ++ ['/'] ++ lowerS name ++ "_router.pb.go".toList,
          name ++ "Router".toList⟩ ∧
      emitWrapper dir file svc =
        ⟨"pkg/trait/".toList ++ pkgOf dir file ++ ['/'] ++ lowerS name ++ "_wrap.pb.go".toList,
          capFirst (name ++ "Wrapper".toList)⟩ ∧
      (∀ c cs, name = c :: cs → c.toUpper = c →
        (emitWrapper dir file svc).typeName = name ++ "Wrapper".toList) := by
  obtain ⟨cut, h1, h2⟩ := trimPrefixIgnoreCase_suffix svc (stem (pkgOf dir file))
  refine ⟨localName (pkgOf dir file) svc, cut, h1, h2, rfl, rfl, ?_⟩
  intro c cs hn hc
  simp only [emitWrapper, hn, List.cons_append]
  simp [capFirst, hc]

/-- `traits/on_off.proto`, service `OnOffApi`. -/
example : emitRouter "traits".toList "on_off".toList "OnOffApi".toList =
    ⟨"pkg/trait/onoffpb/api_router.pb.go".toList, "ApiRouter".toList⟩ := by decide +kernel

/-- `pkg/trait/electricpb/memory_settings.proto`, service `MemorySettingsApi`: the directory is kept. -/
example : emitWrapper "electricpb".toList "memory_settings".toList "MemorySettingsApi".toList =
    ⟨"pkg/trait/electricpb/memorysettingsapi_wrap.pb.go".toList, "MemorySettingsApiWrapper".toList⟩ := by decide +kernel

/-- `C12_gen_package_stable`'s hypotheses hold for `electricpb`. -/
example : "electricpb".toList ≠ "traits".toList ∧ '_' ∉ "electricpb".toList ∧ endsPb "electricpb".toList = true := by
  decide +kernel

end ScVerif.C12
