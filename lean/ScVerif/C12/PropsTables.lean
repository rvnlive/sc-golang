import ScVerif.Generated.C12Facts
/-!
# C12 — property theorem over the regenerated tables (K3)

"The checked-in routers and wrappers are exactly what the generators produce from the current API
descriptors, so no RPC is left unrouted."

`Generated.descriptors` (services and methods of the compiled API descriptors of every proto file a
`pkg/trait/*/gen.go` runs the generators on), `Generated.routers` and `Generated.wrappers` (the Go
AST of `pkg/trait`) are rewritten from the working tree on every run; this file is re-checked against
them.
-/
namespace ScVerif.C12

/-- **No RPC is left unrouted.**  For every service of the API descriptors there is a checked-in
router type that embeds that service's `Unimplemented…Server`, registers itself for that service,
and has, for every method of the descriptor, a forwarder of canonical shape (same name, unary /
server-streaming as in the descriptor, client chosen by `request.Name`, exactly the same-named method
called on it); no client-streaming method exists; the router has no forwarder for a method the
descriptor lacks; and there is a wrapper whose server type, `ServiceDesc` and client constructor all
belong to that service.  Conversely every router and wrapper found belongs to a described service. -/
theorem C12_all_routed :
    (∀ s ∈ Generated.descriptors,
      (∃ r ∈ Generated.routers, r.svc = s.svc ∧ r.registers = s.svc ∧
        (∀ m ∈ s.methods, m.clientStream = false ∧ ∃ f ∈ r.methods, Canonical m f) ∧
        (∀ f ∈ r.methods, ∃ m ∈ s.methods, m.name = f.name)) ∧
      (∃ w ∈ Generated.wrappers, w.serverSvc = s.svc ∧ w.descSvc = s.svc ∧ w.clientSvc = s.svc)) ∧
    (∀ r ∈ Generated.routers, ∃ s ∈ Generated.descriptors, s.svc = r.svc) ∧
    (∀ w ∈ Generated.wrappers, ∃ s ∈ Generated.descriptors, s.svc = w.serverSvc) :=
  allRouted_sound _ _ _ (by decide +kernel)

/-- The tables are not empty (the theorem above is not vacuous): the descriptors list at least 60
services with at least 150 methods. -/
theorem C12_tables_nonempty :
    60 ≤ Generated.descriptors.length ∧
    150 ≤ (Generated.descriptors.map (fun s => s.methods.length)).sum ∧
    Generated.descriptors.length = Generated.routers.length ∧
    Generated.descriptors.length = Generated.wrappers.length := by decide +kernel

end ScVerif.C12
