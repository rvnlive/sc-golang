import ScVerif.C12.LinStep
/-! `LInv`: the ghost log of lock sections is a sequential run of the map specification; and, apart from it, the
delivery-order argument for schedules in which no callback is overtaken (`prompt_*`). -/
namespace ScVerif.C12

theorem lspecRun_append (m : SMap) (xs ys : List LOp) :
    lspecRun m (xs ++ ys) =
      ((lspecRun (lspecRun m xs).1 ys).1, (lspecRun m xs).2 ++ (lspecRun (lspecRun m xs).1 ys).2) := by
  induction xs generalizing m with
  | nil => rfl
  | cons o os ih => simp [lspecRun, ih]

/-- What `LInv` needs to know about one step, one clause per field, each about the lists the step appends: its
lock section is a run of `lspec` (`lin`), its commit an exact map update (`chain`), a change is owed from its
commit to its delivery (`perm`), the thread saw its own lock section (`seen`). -/
theorem acts_facts {cfg : Cfg} {s : St} {th : LThread} {e : Effect} (h : Acts cfg s th e) :
    lspecRun s.reg.get ((optList e.g).map (·.1)) = (e.st.reg.get, (optList e.g).map (·.2)) ∧
    (replay s.reg.get (optList e.commit) = e.st.reg.get ∧ OldExact s.reg.get (optList e.commit)) ∧
    optList (pendingOf th) ++ optList e.commit = optList e.deliver ++ optList (pendingOf e.th) ∧
    e.th.seen = th.seen ++ optList e.g := by
  cases h <;>
    simp [lspecRun, lspec, replay, OldExact, *, Reg.set_abs, Reg.erase_abs, SMap.upd_none_of_none, pendingOf,
      optList, apply_ite St.reg]

theorem lspec_get {m : SMap} {op : LOp} {n : Name} {c : Client} (h : (lspec m op).1 n = some c) :
    m n = some c ∨ op = .put n c ∨ op = .pia n c := by
  cases op with
  | has k | read k => exact .inl h
  | put k cl | del k =>
    simp only [lspec, SMap.upd] at h
    split at h
    · simp_all
    · exact .inl h
  | pia k cl =>
    simp only [lspec] at h
    split at h
    · exact .inl h
    · simp only [SMap.upd] at h
      split at h
      · simp_all
      · exact .inl h

theorem lspecRun_get {P : Name → Client → Prop} (ops : List LOp) (m : SMap)
    (hops : ∀ n c, LOp.put n c ∈ ops ∨ LOp.pia n c ∈ ops → P n c) (hm : ∀ n c, m n = some c → P n c) :
    ∀ n c, (lspecRun m ops).1 n = some c → P n c := by
  induction ops generalizing m with
  | nil => exact hm
  | cons op rest ih =>
    refine ih _ (fun n c h => hops n c (h.imp (List.mem_cons_of_mem _) (List.mem_cons_of_mem _))) fun n c h => ?_
    rcases lspec_get h with h | rfl | rfl
    · exact hm n c h
    · exact hops n c (.inl List.mem_cons_self)
    · exact hops n c (.inr List.mem_cons_self)

/-- The lock sections are a sequential run of the map specification ending in the registry (`lin`); the commits
chain exactly from `reg0` to it (`chain`); delivered and owed changes are the committed ones up to order (`perm`);
each thread saw its own projection of the ghost log (`seen`). -/
structure LInv (reg0 : Reg) (c : LConf) : Prop where
  lin : lspecRun reg0.get (c.glog.map (·.op)) = (c.st.reg.get, c.glog.map (·.res))
  chain : replay reg0.get c.clog = c.st.reg.get ∧ OldExact reg0.get c.clog
  perm : List.Perm (c.st.log ++ pending c.ths) c.clog
  seen : ∀ t th, c.ths[t]? = some th →
    ((c.glog.filter (fun e => e.tid = t)).map (fun e => (e.op, e.res))) = th.seen

theorem pending_start (reg0 : Reg) (k1 k2 : Nat) (progs : List (List Op)) :
    pending (LConf.start reg0 k1 k2 progs).ths = [] :=
  List.filterMap_eq_nil_iff.mpr fun th hth => by
    obtain ⟨t, ht⟩ := List.getElem?_of_mem hth
    exact start_forall (Q := fun _ th => pendingOf th = none) (fun _ _ _ => rfl) t th ht

theorem linv_start (reg0 : Reg) (k1 k2 : Nat) (progs : List (List Op)) :
    LInv reg0 (LConf.start reg0 k1 k2 progs) :=
  ⟨by simp [LConf.start, lspecRun], by simp [LConf.start, replay, OldExact],
    by rw [pending_start]; exact .refl _, start_forall fun _ _ _ => rfl⟩

theorem linv_step {cfg : Cfg} {reg0 : Reg} {c : LConf} {t : Nat} {th : LThread} {e : Effect}
    (hth : c.ths[t]? = some th) (hact : Acts cfg c.st th e) (h : LInv reg0 c) : LInv reg0 (c.after t e) := by
  obtain ⟨f1, f2, f3, f4⟩ := acts_facts hact
  refine ⟨?_, ?_, ?_, ?_⟩ <;> simp only [LConf.after_st, LConf.after_ths, LConf.after_glog, LConf.after_clog]
  · simp only [List.map_append, List.map_map, lspecRun_append, h.lin, Function.comp_def, f1]
  · rw [replay_append, oldExact_append, h.chain.1]
    exact ⟨f2.1, h.chain.2, f2.2⟩
  · -- count every change on both sides: what `th` owed is exchanged for what `e.th` owes
    rw [List.perm_iff_count]
    intro x
    have h1 := h.perm.count_eq x
    have h2 := (filterMap_set_perm pendingOf e.th hth).count_eq x
    have h3 := congrArg (List.count x) f3
    simp only [List.count_append, pending] at h1 h2 h3 ⊢
    omega
  · simp only [List.filter_append, List.map_append]
    refine forall_set hth h.seen (fun ho => ?_) fun i _ hi ho => ?_
    · rw [ho, f4]
      cases e.g <;> simp [optList]
    · rw [ho]
      cases e.g <;> simp [optList, Ne.symm hi]

theorem linv_reach (cfg : Cfg) (reg0 : Reg) (k1 k2 : Nat) (progs : List (List Op)) (sched : List Nat) :
    LInv reg0 (lrun cfg (LConf.start reg0 k1 k2 progs) sched) :=
  lrun_induct (fun _ _ _ _ => linv_step) (linv_start reg0 k1 k2 progs) sched

/-- When no callback is ever overtaken, delivery order = commit order. -/
theorem prompt_lstep {cfg : Cfg} {c : LConf} (t : Nat)
    (hP : c.st.log ++ pending c.ths = c.clog)
    (ho : ∀ i b, i ≠ t → c.ths[i]? = some b → pendingOf b = none) :
    (lstep cfg c t).st.log ++ pending (lstep cfg c t).ths = (lstep cfg c t).clog := by
  rcases lstep_cases cfg c t with ⟨heq, _⟩ | ⟨th, e, hth, hact, heq⟩
  · rw [heq]; exact hP
  rw [heq]
  simp only [LConf.after_st, LConf.after_ths, LConf.after_clog]
  obtain ⟨_, _, f3, _⟩ := acts_facts hact
  have hlt : t < c.ths.length := (List.getElem?_eq_some_iff.mp hth).1
  have h0 : pending c.ths = optList (pendingOf th) := filterMap_only pendingOf hth ho
  have h1 : pending (c.ths.set t e.th) = optList (pendingOf e.th) :=
    filterMap_only pendingOf (List.getElem?_set_self hlt)
      (fun i b hi hb => ho i b hi (by rwa [List.getElem?_set_ne (fun e => hi e.symm)] at hb))
  rw [h1, ← hP, h0, List.append_assoc, List.append_assoc, f3]

theorem promptRun_step {cfg : Cfg} {c : LConf} {t : Nat} {ts : List Nat}
    (h : promptRun cfg c (t :: ts) = true) :
    (∀ i b, i ≠ t → c.ths[i]? = some b → pendingOf b = none) ∧ promptRun cfg (lstep cfg c t) ts = true := by
  simp only [promptRun, Bool.and_eq_true, List.all_eq_true, List.mem_range, Bool.or_eq_true, beq_iff_eq,
    Option.isNone_iff_eq_none] at h
  refine ⟨?_, h.2⟩
  intro i b hi hb
  have hlt : i < c.ths.length := (List.getElem?_eq_some_iff.mp hb).1
  rcases h.1 i hlt with e | e
  · exact absurd e hi
  · have : c.ths.getD i ⟨[], .idle, [], []⟩ = b := by
      rw [List.getD_eq_getElem?_getD, hb]; rfl
    rw [this] at e; exact e

theorem prompt_lrun {cfg : Cfg} {c : LConf} (sched : List Nat)
    (hP : c.st.log ++ pending c.ths = c.clog) (hp : promptRun cfg c sched = true) :
    (lrun cfg c sched).st.log ++ pending (lrun cfg c sched).ths = (lrun cfg c sched).clog := by
  induction sched generalizing c with
  | nil => exact hP
  | cons t ts ih =>
    obtain ⟨ho, hrest⟩ := promptRun_step hp
    exact ih (prompt_lstep t hP ho) hrest

end ScVerif.C12
