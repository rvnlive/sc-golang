/-
C11 — lock discipline (lockset + declared happens-before) over an extracted access table.

A Lean theorem cannot speak about the Go memory model of a running binary.  What *is* logic is the
lock discipline: for every pair of accesses to the same memory location, at least one of them a
write, that may be executed by two goroutines, the code must establish an ordering:

* a common mutex of the same object held by both, with at least one side holding it exclusively
  (`sync.Mutex.Lock`, `sync.RWMutex.Lock`; two `RLock` holders are NOT ordered), or
* one of the two runs in the constructor, before the object is published, or
* both belong to the same single-goroutine role of a type whose contract is "one goroutine"
  (the server half of an in-process stream), or
* a channel-close edge: the first access is followed, in program order, by the unique `close(c)` of a
  channel and the second one is preceded, in program order, by an observation that `c` is closed.

A mutex guards the object it lives in.  An object that is reachable from several owners through a
package-level variable (one `*rand.Rand` created in a `var Default… = …` initialiser and handed to
every model built from those defaults) is therefore listed by the generator as a location
`shared:<pkg.Var>-><field>` whose rows hold none of the owners' mutexes: the owners' mutexes are
different mutexes.  Such a write row conflicts with itself and is unordered.

Two more kinds of location are listed the same way.  `bus-shared:<type>.<field>`: the fields of an
event object whose pointer is sent on the bus — all listeners receive the same pointer, so a write by
the library after the send (an in-place filter) holds no lock and is unordered with every other
listener's access; accesses through a private copy or a freshly created event are constructor-phase.
`local:<func>.<var>`: a local variable that a `go func(){…}` literal shares with its spawner; accesses
before the spawn or after a join are constructor-phase, a literal started once carries a role.
Three further kinds: `published:` (the contents of stored messages, see `frozenIn`), `arg:` (caller-owned slices
appended to in place, see `Slice.lean`) and `global:<pkg>.<var>` (a package-level variable written outside `init`: its
rows hold package-level mutexes only).

The table (one row per syntactic access to a field of a concurrently usable type, with the locks
held at that point) is regenerated from /repo's sources on every run by `harness/cmd/c11 -facts`
(`ScVerif/Generated/C11Facts.lean`).  Names are numbered by the generator (`fieldNames`, …) so that the
kernel only compares natural numbers.
-/
namespace ScVerif.C11

inductive Kind where
  | R | W
  deriving DecidableEq, Repr

inductive LMode where
  | shared | excl
  deriving DecidableEq, Repr

inductive Phase where
  | init | live
  deriving DecidableEq, Repr

/-- One syntactic access to a field (or to the object a field designates). -/
structure Access where
  /-- memory location class: index into `fieldNames` (`pkg.Type.field`) -/
  field : Nat
  kind : Kind
  /-- function / closure slot containing the access (index into `fnNames`); not read by `conflict` / `ordered`, used by the
  non-vacuity check `adjacentLiveConflict` and by row equality -/
  fn : Nat
  /-- mutexes of the same object held at the access, with the mode they are held in -/
  held : List (Nat × LMode)
  /-- `init`: runs in the constructor, before the object is reachable by another goroutine -/
  phase : Phase
  /-- 0 = may run on any goroutine; equal non-zero roles = same goroutine by the type's contract -/
  role : Nat
  /-- channels whose unique `close` follows this access in program order on every path -/
  relAfter : List Nat
  /-- channels that have been observed closed before this access in program order -/
  acqBefore : List Nat
  deriving DecidableEq, Repr

/-! ### Specification (Prop level; `frozenIn` and `bareReader` with their Bool readings) -/

/-- Two accesses touch the same location and at least one writes it. -/
def conflict (a b : Access) : Prop :=
  a.field = b.field ∧ (a.kind = Kind.W ∨ b.kind = Kind.W)

/-- Both hold a common mutex and at least one side holds it exclusively. -/
def commonLock (a b : Access) : Prop :=
  ∃ l m₁ m₂, (l, m₁) ∈ a.held ∧ (l, m₂) ∈ b.held ∧ (m₁ = LMode.excl ∨ m₂ = LMode.excl)

/-- `a` is followed by the close of a channel that `b` has observed closed. -/
def closeEdge (a b : Access) : Prop :=
  ∃ c, c ∈ a.relAfter ∧ c ∈ b.acqBefore

/-- The code orders the two accesses (in one of the ways listed in the header). -/
def ordered (a b : Access) : Prop :=
  a.phase = Phase.init ∨ b.phase = Phase.init
  ∨ (a.role ≠ 0 ∧ a.role = b.role)
  ∨ commonLock a b
  ∨ closeEdge a b ∨ closeEdge b a

/-- The lock discipline: every conflicting pair of the table (a row is also paired with itself:
two goroutines may execute the same statement) is ordered. -/
def raceFree (tbl : List Access) : Prop :=
  ∀ a ∈ tbl, ∀ b ∈ tbl, conflict a b → ordered a b

/-- Location `f` is *frozen* in the table: nothing writes it once it is published (every write row is
constructor-phase).  For the `published:` locations — the contents of the messages a resource stores
and hands out by pointer to `Get`/`List`/`Pull` callers, interceptors and event consumers — this is
exactly C07's "published messages are never written", read off the table. -/
def frozenIn (t : List Access) (f : Nat) : Prop :=
  ∀ a ∈ t, a.field = f → a.kind = Kind.W → a.phase = Phase.init

def frozenInB (t : List Access) (f : Nat) : Bool :=
  t.all fun a => !(a.field == f) || !(a.kind == Kind.W) || a.phase == Phase.init

/-- A reader that relies on nothing: live, on any goroutine, no lock, no close edge — the synthetic
`caller:consumer` row the generator emits for every `published:` location (a caller that reads a
message it was given). -/
def bareReader (r : Access) : Prop :=
  r.kind = Kind.R ∧ r.phase = Phase.live ∧ r.role = 0 ∧ r.held = [] ∧ r.relAfter = [] ∧ r.acqBefore = []

def bareReaderB (r : Access) : Bool :=
  r.kind == Kind.R && r.phase == Phase.live && r.role == 0 && r.held.isEmpty && r.relAfter.isEmpty
    && r.acqBefore.isEmpty

/-! ### Executable versions (what `decide`, the driver and the harness evaluate), and the generator's order `sortedByField` -/

def conflictB (a b : Access) : Bool :=
  a.field == b.field && (a.kind == Kind.W || b.kind == Kind.W)

def commonLockB (a b : Access) : Bool :=
  a.held.any fun p => b.held.any fun q => p.1 == q.1 && (p.2 == LMode.excl || q.2 == LMode.excl)

def closeEdgeB (a b : Access) : Bool :=
  a.relAfter.any fun c => b.acqBefore.contains c

def orderedB (a b : Access) : Bool :=
  a.phase == Phase.init || b.phase == Phase.init
  || (a.role != 0 && a.role == b.role)
  || commonLockB a b
  || closeEdgeB a b || closeEdgeB b a

def pairOkB (a b : Access) : Bool := !conflictB a b || orderedB a b

def raceFreeB (tbl : List Access) : Bool :=
  tbl.all fun a => tbl.all fun b => pairOkB a b

/-- Same decision with less work for the kernel: only rows that are live writes need to be paired
with every row (a conflict needs a write, a constructor-phase row is ordered with everything, and
`ordered` is symmetric) — see `raceFreeW_iff`. -/
def raceFreeW (tbl : List Access) : Bool :=
  (tbl.filter fun a => a.kind == Kind.W && a.phase == Phase.live).all fun a => tbl.all fun b => pairOkB a b

/-- The decision the kernel actually runs on the extracted table.  The generator sorts the rows by
field, so the table is a sequence of *runs* of equal field; only rows of one run can conflict.  `goRuns`
walks the table once, collects the current run, checks each completed run with `raceFreeW` and checks
that the field numbers of consecutive runs strictly increase (so that two different runs never share a
field).  Quadratic only in the run lengths — see `raceFreeG_sound` (sound for every table; it answers
`false` on a table that is not sorted, it never accepts a table that is not race free). -/
def goRuns : List Access → List Access → Bool
  | cur, [] => raceFreeW cur
  | [], b :: rest => goRuns [b] rest
  | a :: cur, b :: rest =>
    if b.field == a.field then goRuns (b :: a :: cur) rest
    else Nat.blt a.field b.field && raceFreeW (a :: cur) && goRuns [b] rest

def raceFreeG (tbl : List Access) : Bool := goRuns [] tbl

/-- the generator's order: field numbers never decrease along the table -/
def sortedByField : List Access → Prop
  | [] => True
  | a :: rest => (∀ b ∈ rest, a.field ≤ b.field) ∧ sortedByField rest

def sortedByFieldB : List Access → Bool
  | [] => true
  | a :: rest => rest.all (fun b => Nat.ble a.field b.field) && sortedByFieldB rest

/-- The unordered conflicting pairs of a table (indices), what the static monitor reports. -/
def badPairs (tbl : List Access) : List (Nat × Nat) :=
  let idx := tbl.zipIdx
  idx.foldr (fun (a, i) acc =>
    (idx.filterMap fun (b, j) => if i ≤ j && !pairOkB a b then some (i, j) else none) ++ acc) []

end ScVerif.C11
