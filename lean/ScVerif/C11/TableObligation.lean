import Lean.Elab.Command
/-!
`table_obligation in <command>` — used only in `PropsTable.lean`, for the theorems and examples whose truth
depends on the table regenerated from the Go sources.

When the regenerated table refutes `raceFree`, the proof by `decide` fails.  A plain failure would make
the whole module fail to compile, and the run would report *every* C11 obligation as unchecked.  This
wrapper elaborates the command exactly as usual but demotes the errors it logs to warnings, so the
module still compiles.  Nothing is admitted by this: a theorem whose proof failed exists only with
`sorryAx` (Lean's error recovery), and the per-theorem axiom audit of `./check` accepts nothing but
`propext`, `Classical.choice`, `Quot.sound` — so the failure is reported as
"`C11_lock_discipline` depends on axioms [sorryAx]" (and the same for the table theorems proved from it), next
to the lockset monitor's concrete unordered pair.  (Same message handling as core's `#guard_msgs`.)
-/
open Lean Elab Command

elab "table_obligation " "in " c:command : command => do
  let saved ← modifyGet fun st => (st.messages, { st with messages := {} })
  -- as `#guard_msgs` does: no snapshot forwarding, so that the messages stay in our hands
  withReader ({ · with snap? := none }) do
    elabCommandTopLevel c
  let msgs := (← get).messages ++
    (← get).snapshotTasks.foldl
      (· ++ ·.get.getAll.foldl (· ++ ·.diagnostics.msgLog) MessageLog.empty) MessageLog.empty
  modify ({ · with snapshotTasks := #[] })
  let mut out := saved
  for m in msgs.toList do
    out := out.add
      (if m.severity == MessageSeverity.error then { m with severity := MessageSeverity.warning } else m)
  modify fun s => { s with messages := out }
