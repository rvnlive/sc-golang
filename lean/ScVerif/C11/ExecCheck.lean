import ScVerif.C11.Exec
/-!
C11 — a decision procedure for `Conforms` on a concrete execution (sound), so that the hypotheses of
`discipline_orders` can be exhibited on concrete executions by evaluation, and the driver can answer
questions about executions (`exec` op).
-/
namespace ScVerif.C11

def allIdx (es : List XEv) (f : Nat → XEv → Bool) : Bool :=
  (List.range es.length).all fun k => match es[k]? with
    | some e => f k e
    | none => true

def conformsB (cr : Nat) (ρ : Nat → Nat) (tbl : List Access) (es : List XEv) : Bool :=
  allIdx es fun k e => match e with
    | .acc t a =>
      tbl.contains a
      && (match stAt cr es k with
          | some s => a.held.all (fun p => s.held.contains (t, p.1, p.2)) && (a.phase != Phase.init || !s.pubd)
          | none => true)
      && (a.role == 0 || t == ρ a.role)
      && a.relAfter.all (fun c => allIdx es fun p e' => match e' with
            | .close t' c' => c' != c || (t' == t && decide (k < p))
            | _ => true)
      && a.acqBefore.all (fun c => (List.range k).any fun p => es[p]? == some (XEv.obs t c))
    | _ => true

/-- the conflicting pairs of access events of different goroutines, with their positions -/
def racePairs (es : List XEv) : List (Nat × Nat) :=
  (List.range es.length).flatMap fun i => (List.range es.length).filterMap fun j =>
    match es[i]?, es[j]? with
    | some (XEv.acc t₁ a), some (XEv.acc t₂ b) => if i < j && t₁ != t₂ && conflictB a b then some (i, j) else none
    | _, _ => none

/-- is there a release / close / publication / leave at a position in `[i, j)` -/
def syncBetween (es : List XEv) (i j : Nat) : Bool :=
  (List.range j).any fun p => decide (i ≤ p) && (match es[p]? with | some e => e.isRelease | none => false)

/-- run as far as the semantics allows: the number of accepted events and the state reached (what the
driver's `exec` op reports; the harness compares it with real `sync.RWMutex`es and channels) -/
def xrunCount (cr : Nat) (s : XState) : List XEv → Nat × XState
  | [] => (0, s)
  | e :: es =>
    match xstep cr s e with
    | none => (0, s)
    | some s' => ((xrunCount cr s' es).1 + 1, (xrunCount cr s' es).2)

def wfRowB (a : Access) : Bool :=
  a.relAfter.all (fun c => !a.acqBefore.contains c) && decide ((a.held.map Prod.fst).Nodup)

end ScVerif.C11
