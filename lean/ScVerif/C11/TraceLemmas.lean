import ScVerif.C11.Trace
import ScVerif.C11.Run
/-! C11 — the theorem of `Trace.lean`'s mutex semantics.  The invariant `MutexInv` (with `Compat`, its reading for two
goroutines) is also the mutex part of the invariant of `ExecLemmas.lean` (`XGood`, `XInv`). -/
namespace ScVerif.C11

/-- two different holders of one lock are both shared holders -/
def Compat (st : LState) : Prop :=
  ∀ t t' l m m', (t, l, m) ∈ st → (t', l, m') ∈ st → t ≠ t' → m = LMode.shared ∧ m' = LMode.shared

/-- the mutex invariant; `Compat` is its reading for two goroutines, `MutexInv.mode_eq` the one for a single goroutine -/
def MutexInv (st : LState) : Prop :=
  ∀ x ∈ st, ∀ y ∈ st, x.2.1 = y.2.1 → x = y ∨ (x.1 ≠ y.1 ∧ x.2.2 = LMode.shared ∧ y.2.2 = LMode.shared)

theorem MutexInv.nil : MutexInv [] := fun _ h => nomatch h

theorem canAcq_iff {st : LState} {t l : Nat} {m : LMode} : canAcq st t l m = true ↔
    ∀ e ∈ st, e.2.1 = l → e.1 ≠ t ∧ m = LMode.shared ∧ e.2.2 = LMode.shared := by
  simp only [canAcq, List.all_eq_true, Bool.or_eq_true, Bool.and_eq_true, bne_iff_ne, ne_eq, beq_iff_eq,
    and_assoc, Decidable.or_iff_not_imp_left, Decidable.not_not]

theorem MutexInv.subset {st st' : LState} (hc : MutexInv st) (h : ∀ x ∈ st', x ∈ st) : MutexInv st' :=
  fun x hx y hy => hc x (h x hx) y (h y hy)

/-- `canAcq` asks of the new holding, against every old one, what `MutexInv` asks of any two -/
theorem MutexInv.cons {st : LState} {t l : Nat} {m : LMode} (hc : MutexInv st) (h : canAcq st t l m = true) :
    MutexInv ((t, l, m) :: st) := by
  intro x hx y hy hl
  rcases List.mem_cons.mp hx with rfl | hx <;> rcases List.mem_cons.mp hy with rfl | hy
  · exact Or.inl rfl
  · obtain ⟨h₁, h₂, h₃⟩ := canAcq_iff.mp h y hy hl.symm
    exact Or.inr ⟨Ne.symm h₁, h₂, h₃⟩
  · obtain ⟨h₁, h₂, h₃⟩ := canAcq_iff.mp h x hx hl
    exact Or.inr ⟨h₁, h₃, h₂⟩
  · exact hc x hx y hy hl

theorem MutexInv.compat {st : LState} (hc : MutexInv st) : Compat st :=
  fun _ _ _ _ _ h h' hne => (hc _ h _ h' rfl).elim (fun he => absurd (congrArg (·.1) he) hne) (·.2)

theorem MutexInv.mode_eq {st : LState} (hc : MutexInv st) {t l : Nat} {m m' : LMode} (h : (t, l, m) ∈ st)
    (h' : (t, l, m') ∈ st) : m = m' :=
  (hc _ h _ h' rfl).elim (fun he => congrArg (·.2.2) he) fun hd => absurd rfl hd.1

theorem MutexInv.not_mem {st : LState} {t₁ t₂ l : Nat} {m₁ m₂ : LMode} (hc : MutexInv st)
    (h₁ : (t₁, l, m₁) ∈ st) (hne : t₁ ≠ t₂) (hx : m₁ = LMode.excl ∨ m₂ = LMode.excl) :
    (t₂, l, m₂) ∉ st := by
  intro h₂
  obtain ⟨rfl, rfl⟩ := hc.compat _ _ _ _ _ h₁ h₂ hne
  exact hx.elim nofun nofun

theorem step_mutex {st st' : LState} {e : Ev} (hc : MutexInv st) (hs : step st e = some st') :
    MutexInv st' := by
  cases e with
  | acq t l m =>
    simp only [step, Option.ite_none_right_eq_some, Option.some.injEq] at hs
    exact hs.2 ▸ hc.cons hs.1
  | rel t l =>
    cases hs
    exact hc.subset fun _ hx => (List.mem_filter.mp hx).1
  | acc t id =>
    cases hs
    exact hc

theorem isRun_run : IsRun step run := ⟨fun _ => rfl, fun _ _ _ => rfl⟩

/-- an exclusive holder excludes everybody else -/
theorem excl_blocks (m : LMode) : run [] [Ev.acq 1 0 .excl, Ev.acq 2 0 m] = none := by
  cases m <;> decide

theorem of_not_mem_release {st : LState} {x : Nat × Nat × LMode} {t l : Nat} (hp : x ∈ st)
    (hn : x ∉ st.filter fun e => !(e.1 == t && e.2.1 == l)) : x.1 = t ∧ x.2.1 = l := by
  refine Classical.byContradiction fun hx => hn (List.mem_filter.mpr ⟨hp, ?_⟩)
  simpa only [Bool.not_eq_true', Bool.and_eq_false_iff, beq_eq_false_iff_ne, ne_eq,
    ← Classical.not_and_iff_not_or_not] using hx

theorem step_held {st st' : LState} {e : Ev} {x : Nat × Nat × LMode} (hs : step st e = some st') :
    (x ∉ st → x ∈ st' → e = Ev.acq x.1 x.2.1 x.2.2) ∧ (x ∈ st → x ∉ st' → e = Ev.rel x.1 x.2.1) := by
  cases e with
  | acq t l m =>
    simp only [step, Option.ite_none_right_eq_some, Option.some.injEq] at hs
    obtain ⟨_, rfl⟩ := hs
    exact ⟨fun hn hp => by rw [(List.mem_cons.mp hp).resolve_right hn],
      fun hp hn => absurd (List.mem_cons_of_mem _ hp) hn⟩
  | rel t l =>
    cases hs
    exact ⟨fun hn hp => absurd (List.mem_filter.mp hp).1 hn,
      fun hp hn => by obtain ⟨rfl, rfl⟩ := of_not_mem_release hp hn; rfl⟩
  | acc t id => cases hs; exact ⟨fun hn hp => absurd hp hn, fun hp hn => absurd hp hn⟩

/-- The two points where the lock is held stand for the two accesses (the statement needs no access event); the
release/acquire pair found is the pair the Go memory model orders, so that access₁ →po release →sw acquire →po access₂. -/
theorem release_acquire_between {pre mid : List Ev} {st₁ st₂ : LState} {t₁ t₂ l : Nat} {m₁ m₂ : LMode}
    (hpre : run [] pre = some st₁) (hmid : run st₁ mid = some st₂)
    (h₁ : (t₁, l, m₁) ∈ st₁) (h₂ : (t₂, l, m₂) ∈ st₂) (hne : t₁ ≠ t₂)
    (hx : m₁ = LMode.excl ∨ m₂ = LMode.excl) :
    ∃ a b c, mid = a ++ Ev.rel t₁ l :: (b ++ Ev.acq t₂ l m₂ :: c) := by
  have hst₁ : MutexInv st₁ := isRun_run.inv MutexInv MutexInv.nil (fun _ _ _ => step_mutex) _ (IsRun.at_end hpre)
  obtain ⟨p, q, _, hpq, _, hep, heq⟩ := isRun_run.edge (es := mid) (I := MutexInv) (A := fun s => (t₁, l, m₁) ∈ s)
    (B := fun s => (t₂, l, m₂) ∈ s) (ea := .rel t₁ l) (eb := .acq t₂ l m₂)
    (hI := isRun_run.inv MutexInv hst₁ fun _ _ _ => step_mutex)
    (hex := fun _ hc h => hc.not_mem h hne hx)
    (hoff := fun _ _ _ _ hst hin hout => (step_held hst).2 hin hout)
    (hon := fun _ _ _ _ hst hin hout => (step_held hst).1 hin hout)
    (hne := nofun) (hij := Nat.zero_le _) (hi := rfl) (hj := IsRun.at_end hmid) (ha := h₁) (hb := h₂)
  exact split_two hpq hep heq

end ScVerif.C11
