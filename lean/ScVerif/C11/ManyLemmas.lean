import ScVerif.C11.Many
import ScVerif.C11.ExecNeedLemmas
/-! C11 — the one-object view is sound and loses nothing (see `Many.lean`). -/
namespace ScVerif.C11

section Equations
variable {o : Nat} {e : MEv} {es : List MEv}

theorem proj_cons_eq (h : e.1 = o) : proj o (e :: es) = e.2 :: proj o es := if_pos h

theorem proj_cons_ne (h : ¬ e.1 = o) : proj o (e :: es) = proj o es := if_neg h

theorem pos_cons_ne (h : ¬ e.1 = o) (i : Nat) : pos o (e :: es) i = pos o es i + 1 := if_neg h

theorem pos_cons_zero (h : e.1 = o) : pos o (e :: es) 0 = 0 := if_pos h

theorem pos_cons_succ (h : e.1 = o) (i : Nat) : pos o (e :: es) (i + 1) = pos o es i + 1 := if_pos h

theorem mstep_some {cr : Nat → Nat} {S : Nat → XState} {s' : XState} (h : xstep (cr e.1) (S e.1) e.2 = some s') :
    mstep cr S e = some fun o => if o = e.1 then s' else S o := by
  rw [mstep, h]; rfl

end Equations

/-- an execution of many objects is, object by object, an execution of each (and conversely, `mrun_of_proj`) -/
theorem proj_run {cr : Nat → Nat} (o : Nat) {es : List MEv} : ∀ {S S' : Nat → XState}, mrun cr S es = some S' →
    xrun (cr o) (S o) (proj o es) = some (S' o) := by
  induction es with
  | nil => intro S S' h; cases h; rfl
  | cons e es ih =>
    intro S S' h
    cases hx : xstep (cr e.1) (S e.1) e.2 with
    | none => rw [mrun, mstep, hx] at h; cases h
    | some s' =>
      rw [mrun, mstep_some hx, Option.bind_some] at h
      have := ih h
      by_cases ho : e.1 = o
      · rw [proj_cons_eq ho, (isRun_xrun _).cons_of (ho ▸ hx)]
        rwa [if_pos ho.symm] at this
      · rw [proj_cons_ne ho]
        rwa [if_neg (Ne.symm ho)] at this

theorem mrun_of_proj {cr : Nat → Nat} {es : List MEv} : ∀ {S : Nat → XState},
    (∀ o, ∃ s, xrun (cr o) (S o) (proj o es) = some s) → ∃ S', mrun cr S es = some S' := by
  induction es with
  | nil => intro S _; exact ⟨S, rfl⟩
  | cons e es ih =>
    intro S h
    obtain ⟨s, hs⟩ := h e.1
    rw [proj_cons_eq rfl, xrun] at hs
    cases hx : xstep (cr e.1) (S e.1) e.2 with
    | none => rw [hx] at hs; cases hs
    | some s' =>
      rw [mrun, mstep_some hx, Option.bind_some]
      refine ih fun o => ?_
      by_cases ho : e.1 = o
      · subst ho
        rw [hx, Option.bind_some] at hs
        exact ⟨s, by rwa [if_pos rfl]⟩
      · obtain ⟨s2, hs2⟩ := h o
        rw [proj_cons_ne ho] at hs2
        exact ⟨s2, by rwa [if_neg (Ne.symm ho)]⟩

/-- `pos o es` is the order isomorphism from the events of `o` onto their positions in `es`: `pos_get`, `pos_lt`,
`pos_surj` -/
theorem pos_get (o : Nat) : ∀ {es : List MEv} {i : Nat} {x : XEv}, (proj o es)[i]? = some x →
    es[pos o es i]? = some (o, x) := by
  intro es
  induction es with
  | nil => intro i x h; cases h
  | cons e es ih =>
    intro i x h
    by_cases ho : e.1 = o
    · rw [proj_cons_eq ho] at h
      cases i with
      | zero =>
        rw [pos_cons_zero ho]
        exact congrArg some (Prod.ext ho (Option.some.inj h))
      | succ i =>
        rw [pos_cons_succ ho]
        exact ih h
    · rw [proj_cons_ne ho] at h
      rw [pos_cons_ne ho]
      exact ih h

theorem pos_lt (o : Nat) : ∀ (es : List MEv) {i j : Nat}, i < j → pos o es i < pos o es j := by
  intro es
  induction es with
  | nil => intro i j h; exact h
  | cons e es ih =>
    intro i j h
    by_cases ho : e.1 = o
    · obtain ⟨j, rfl⟩ : ∃ j', j = j' + 1 := ⟨j - 1, by omega⟩
      rw [pos_cons_succ ho]
      cases i with
      | zero => rw [pos_cons_zero ho]; exact Nat.succ_pos _
      | succ i => rw [pos_cons_succ ho]; exact Nat.succ_lt_succ (ih (Nat.lt_of_succ_lt_succ h))
    · rw [pos_cons_ne ho, pos_cons_ne ho]
      exact Nat.succ_lt_succ (ih h)

theorem pos_surj (o : Nat) : ∀ {es : List MEv} {p : Nat} {x : XEv}, es[p]? = some (o, x) →
    ∃ i, pos o es i = p ∧ (proj o es)[i]? = some x := by
  intro es
  induction es with
  | nil => intro p x h; cases h
  | cons e es ih =>
    intro p x h
    cases p with
    | zero =>
      cases Option.some.inj h
      exact ⟨0, pos_cons_zero rfl, congrArg (·[0]?) (proj_cons_eq (e := (o, x)) rfl)⟩
    | succ p =>
      obtain ⟨i, hi, hx⟩ := ih h
      by_cases ho : e.1 = o
      · exact ⟨i + 1, by rw [pos_cons_succ ho, hi], by rw [proj_cons_eq ho]; exact hx⟩
      · exact ⟨i, by rw [pos_cons_ne ho, hi], by rw [proj_cons_ne ho]; exact hx⟩

theorem MHB.chain {es : List MEv} {i j : Nat} (h : MHB es i j) :
    Chain (fun e : MEv => e.2.thr) (fun e => e.2.isRelease) (fun e => e.2.isAcquire) es i j := by
  induction h with
  | po hlt h₁ h₂ ht => exact .po hlt h₁ h₂ ht
  | lock hlt h₁ h₂ _ => exact .sync hlt h₁ h₂ rfl rfl
  | chan hlt h₁ h₂ => exact .sync hlt h₁ h₂ rfl rfl
  | publ hlt h₁ h₂ => exact .sync hlt h₁ h₂ rfl rfl
  | join hlt h₁ h₂ => exact .sync hlt h₁ h₂ rfl rfl
  | trans _ _ ih₁ ih₂ => exact .trans ih₁ ih₂

theorem mhb_lt {es : List MEv} {i j : Nat} (h : MHB es i j) : i < j := h.chain.lt

theorem mhb_valid_left {es : List MEv} {i j : Nat} (h : MHB es i j) : ∃ e, es[i]? = some e := h.chain.valid.1

theorem mhb_needs_own_release {es : List MEv} {i j : Nat} (h : MHB es i j) : ∀ {e₁ e₂ : MEv}, es[i]? = some e₁ →
    es[j]? = some e₂ → e₁.2.thr ≠ e₂.2.thr →
    ∃ p e, i ≤ p ∧ p < j ∧ es[p]? = some e ∧ e.2.isRelease = true ∧ e.2.thr = e₁.2.thr :=
  fun g₁ g₂ hne => (h.chain.needs_own g₁ g₂ hne).1

theorem mhb_needs_own_acquire {es : List MEv} {i j : Nat} (h : MHB es i j) : ∀ {e₁ e₂ : MEv}, es[i]? = some e₁ →
    es[j]? = some e₂ → e₁.2.thr ≠ e₂.2.thr →
    ∃ q e, i < q ∧ q ≤ j ∧ es[q]? = some e ∧ e.2.isAcquire = true ∧ e.2.thr = e₂.2.thr :=
  fun g₁ g₂ hne => (h.chain.needs_own g₁ g₂ hne).2

theorem mhb_needs_sync {es : List MEv} {i j : Nat} (h : MHB es i j) : ∀ {e₁ e₂ : MEv}, es[i]? = some e₁ →
    es[j]? = some e₂ → e₁.2.thr ≠ e₂.2.thr → ∃ p e, i ≤ p ∧ p < j ∧ es[p]? = some e ∧ e.2.isRelease = true :=
  h.chain.needs_sync

/-- an object's happens-before is the program's, at the positions `pos` -/
theorem hb_lift (o : Nat) {es : List MEv} {i j : Nat} (h : HB (proj o es) i j) :
    MHB es (pos o es i) (pos o es j) := by
  induction h with
  | po hlt h₁ h₂ ht => exact MHB.po (pos_lt o es hlt) (pos_get o h₁) (pos_get o h₂) ht
  | lock hlt h₁ h₂ hx => exact MHB.lock (pos_lt o es hlt) (pos_get o h₁) (pos_get o h₂) hx
  | chan hlt h₁ h₂ => exact MHB.chan (pos_lt o es hlt) (pos_get o h₁) (pos_get o h₂)
  | publ hlt h₁ h₂ => exact MHB.publ (pos_lt o es hlt) (pos_get o h₁) (pos_get o h₂)
  | join hlt h₁ h₂ => exact MHB.join (pos_lt o es hlt) (pos_get o h₁) (pos_get o h₂)
  | trans _ _ ih₁ ih₂ => exact MHB.trans ih₁ ih₂

theorem not_mhb_of_no_sync {es : List MEv} {i j : Nat} {e₁ e₂ : MEv} (h₁ : es[i]? = some e₁)
    (h₂ : es[j]? = some e₂) (hne : e₁.2.thr ≠ e₂.2.thr) (hs : msyncBetween es i j = false) : ¬ MHB es i j :=
  fun hb => Chain.not_of_no_sync h₁ h₂ hne (fun p e hip hpj hep => by
    simpa [hip, hep] using List.any_eq_false.mp hs p (List.mem_range.mpr hpj)) hb.chain

theorem mhb_via {es : List MEv} {i j p q : Nat} {ei ep eq ej : MEv} (hi : es[i]? = some ei) (hp : es[p]? = some ep)
    (hq : es[q]? = some eq) (hj : es[j]? = some ej) (hip : i < p) (h : MHB es p q) (hqj : q < j)
    (ht₁ : ei.2.thr = ep.2.thr) (ht₂ : eq.2.thr = ej.2.thr) : MHB es i j :=
  MHB.trans (MHB.po hip hi hp ht₁) (MHB.trans h (MHB.po hqj hq hj ht₂))

/-- Race freedom of a table's one-object executions lifts to any number of objects: if the events of object `o`
conform to the table, two conflicting accesses to `o` are ordered in the whole execution; nothing is asked of the
other objects. -/
theorem many_of_noRace {cr : Nat → Nat} {ρ : Nat → Nat} {tbl : List Access} {es : List MEv}
    {Sf : Nat → XState} {o : Nat} (hn : NoRace tbl) (hv : mrun cr minit es = some Sf)
    (hc : Conforms (cr o) ρ tbl (proj o es)) {p q t₁ t₂ : Nat} {a b : Access}
    (hp : es[p]? = some (o, XEv.acc t₁ a)) (hq : es[q]? = some (o, XEv.acc t₂ b)) (hne : t₁ ≠ t₂)
    (hcf : conflict a b) : MHB es p q ∨ MHB es q p := by
  obtain ⟨i, rfl, hxi⟩ := pos_surj o hp
  obtain ⟨j, rfl, hxj⟩ := pos_surj o hq
  exact (hn _ _ _ _ (proj_run o hv) hc _ _ _ _ _ _ hxi hxj hne hcf).imp (hb_lift o) (hb_lift o)

theorem many_discipline_orders {cr : Nat → Nat} {ρ : Nat → Nat} {tbl : List Access} {es : List MEv}
    {Sf : Nat → XState} {o : Nat} (hrf : raceFree tbl) (hv : mrun cr minit es = some Sf)
    (hc : Conforms (cr o) ρ tbl (proj o es)) {p q t₁ t₂ : Nat} {a b : Access} (hpq : p < q)
    (hp : es[p]? = some (o, XEv.acc t₁ a)) (hq : es[q]? = some (o, XEv.acc t₂ b)) (hne : t₁ ≠ t₂)
    (hcf : conflict a b) : MHB es p q :=
  (many_of_noRace (no_data_race hrf) hv hc hp hq hne hcf).resolve_right fun h => Nat.lt_asymm hpq (mhb_lt h)

theorem many_no_data_race {cr : Nat → Nat} {ρ : Nat → Nat → Nat} {tbl : Nat → List Access}
    {es : List MEv} {Sf : Nat → XState} (hrf : ∀ o, raceFree (tbl o)) (hv : mrun cr minit es = some Sf)
    (hc : ∀ o, Conforms (cr o) (ρ o) (tbl o) (proj o es)) {o p q t₁ t₂ : Nat} {a b : Access}
    (hp : es[p]? = some (o, XEv.acc t₁ a)) (hq : es[q]? = some (o, XEv.acc t₂ b)) (hne : t₁ ≠ t₂)
    (hcf : conflict a b) : MHB es p q ∨ MHB es q p :=
  many_of_noRace (no_data_race (hrf o)) hv (hc o) hp hq hne hcf

theorem mrunCount_full {cr : Nat → Nat} {es : List MEv} : ∀ {S Sf : Nat → XState}, mrun cr S es = some Sf →
    (mrunCount cr S es).1 = es.length := by
  induction es with
  | nil => intro S Sf _; rfl
  | cons e es ih =>
    intro S Sf h
    simp only [mrun] at h
    cases hm : mstep cr S e with
    | none => rw [hm] at h; simp at h
    | some S' =>
      rw [hm] at h
      simp only [Option.bind_some] at h
      simp only [mrunCount, hm, List.length_cons]
      rw [ih h]

theorem mvalid_run {cr : Nat → Nat} {es : List MEv} (h : mvalid cr es = true) : ∃ Sf, mrun cr minit es = some Sf :=
  Option.isSome_iff_exists.mp h

theorem mnoReleaseBy_eq (es : List MEv) (t i j : Nat) :
    mnoReleaseBy es t i j = noneIn (fun e => e.2.isRelease && e.2.thr == t) es i (j - i) := by
  unfold mnoReleaseBy noneIn
  congr 1; funext d
  cases es[i + d]? <;> rfl

theorem mnoAcquireBy_eq (es : List MEv) (t i j : Nat) :
    mnoAcquireBy es t i j = noneIn (fun e => e.2.isAcquire && e.2.thr == t) es (i + 1) (j - i) := by
  unfold mnoAcquireBy noneIn
  congr 1; funext d
  cases es[i + 1 + d]? <;> rfl

theorem not_mhb_of_no_own_release {es : List MEv} {i j : Nat} {e₁ e₂ : MEv} (h₁ : es[i]? = some e₁)
    (h₂ : es[j]? = some e₂) (hne : e₁.2.thr ≠ e₂.2.thr) (hn : mnoReleaseBy es e₁.2.thr i j = true) : ¬ MHB es i j :=
  fun h => Chain.not_of_no_own h₁ h₂ hne (Or.inl (mnoReleaseBy_eq es e₁.2.thr i j ▸ hn)) h.chain

theorem not_mhb_of_no_own_acquire {es : List MEv} {i j : Nat} {e₁ e₂ : MEv} (h₁ : es[i]? = some e₁)
    (h₂ : es[j]? = some e₂) (hne : e₁.2.thr ≠ e₂.2.thr) (hn : mnoAcquireBy es e₂.2.thr i j = true) : ¬ MHB es i j :=
  fun h => Chain.not_of_no_own h₁ h₂ hne (Or.inr (mnoAcquireBy_eq es e₂.2.thr i j ▸ hn)) h.chain

def onObj (o : Nat) (es : List XEv) : List MEv := es.map fun e => (o, e)

theorem onObj_snd {o : Nat} {es : List XEv} {k : Nat} {e : MEv} (h : (onObj o es)[k]? = some e) :
    es[k]? = some e.2 := by
  rw [onObj, List.getElem?_map, Option.map_eq_some_iff] at h
  obtain ⟨x, hx, rfl⟩ := h
  exact hx

theorem onObj_get {o : Nat} {es : List XEv} {k : Nat} {x : XEv} (h : es[k]? = some x) :
    (onObj o es)[k]? = some (o, x) := by
  simp [onObj, List.getElem?_map, h]

theorem proj_onObj_self (o : Nat) : ∀ (es : List XEv), proj o (onObj o es) = es
  | [] => rfl
  | e :: es => by simp only [onObj, List.map_cons, proj, if_true]; rw [← onObj, proj_onObj_self o es]

theorem proj_onObj_other {o o' : Nat} (h : o ≠ o') : ∀ (es : List XEv), proj o' (onObj o es) = []
  | [] => rfl
  | e :: es => by simp only [onObj, List.map_cons, proj, h, if_false]; rw [← onObj, proj_onObj_other h es]

theorem hb_of_mhb_onObj {o : Nat} {es : List XEv} {i j : Nat} (h : MHB (onObj o es) i j) : HB es i j := by
  induction h with
  | po hlt h₁ h₂ ht => exact HB.po hlt (onObj_snd h₁) (onObj_snd h₂) ht
  | lock hlt h₁ h₂ hx => exact HB.lock hlt (onObj_snd h₁) (onObj_snd h₂) hx
  | chan hlt h₁ h₂ => exact HB.chan hlt (onObj_snd h₁) (onObj_snd h₂)
  | publ hlt h₁ h₂ => exact HB.publ hlt (onObj_snd h₁) (onObj_snd h₂)
  | join hlt h₁ h₂ => exact HB.join hlt (onObj_snd h₁) (onObj_snd h₂)
  | trans _ _ ih₁ ih₂ => exact HB.trans ih₁ ih₂

theorem mrun_onObj {cr : Nat → Nat} {o : Nat} {es : List XEv} {sf : XState}
    (hv : xrun (cr o) XState.init es = some sf) : ∃ S', mrun cr minit (onObj o es) = some S' := by
  apply mrun_of_proj
  intro o'
  by_cases h : o = o'
  · subst h; rw [proj_onObj_self]; exact ⟨sf, hv⟩
  · rw [proj_onObj_other h]; exact ⟨minit o', rfl⟩

theorem noRace_of_mnoRace {tbl : List Access} (h : MNoRace tbl) : NoRace tbl := by
  intro cr ρ es sf hv hc i j t₁ t₂ a b hi hj hne hcf
  obtain ⟨S', hS'⟩ := mrun_onObj (cr := fun _ => cr) (o := 0) hv
  have hcs : ∀ o, Conforms cr ρ tbl (proj o (onObj 0 es)) := by
    intro o
    by_cases ho : 0 = o
    · subst ho; rw [proj_onObj_self]; exact hc
    · rw [proj_onObj_other ho]; exact conformsB_sound rfl
  rcases h (fun _ => cr) (fun _ => ρ) (onObj 0 es) S' hS' hcs 0 i j t₁ t₂ a b (onObj_get hi) (onObj_get hj) hne hcf with h | h
  · exact Or.inl (hb_of_mhb_onObj h)
  · exact Or.inr (hb_of_mhb_onObj h)

theorem mnoRace_iff {tbl : List Access} : MNoRace tbl ↔ NoRace tbl :=
  ⟨noRace_of_mnoRace, fun h _ _ _ _ hv hc _ _ _ _ _ _ _ hp hq hne hcf => many_of_noRace h hv (hc _) hp hq hne hcf⟩

theorem many_noRace_iff {tbl : List Access} (hwf : ∀ a ∈ tbl, WfRow a) : raceFree tbl ↔ MNoRace tbl :=
  ⟨fun h => mnoRace_iff.mpr (no_data_race h), fun h => raceFree_of_noRace hwf (mnoRace_iff.mp h)⟩

end ScVerif.C11
