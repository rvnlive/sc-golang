import ScVerif.C11.Lockset
/-! Reflection lemmas: the executable checks decide exactly the Prop-level specification; general
facts about `raceFree` that hold for every table. -/
namespace ScVerif.C11

theorem conflictB_iff (a b : Access) : conflictB a b = true ↔ conflict a b := by
  simp [conflictB, conflict]

theorem commonLockB_iff (a b : Access) : commonLockB a b = true ↔ commonLock a b := by
  simp only [commonLockB, commonLock, List.any_eq_true, Bool.and_eq_true, Bool.or_eq_true, beq_iff_eq]
  constructor
  · rintro ⟨⟨l, m₁⟩, hp, ⟨l', m₂⟩, hq, hl, hm⟩
    simp only at hl hm
    subst hl
    exact ⟨l, m₁, m₂, hp, hq, hm⟩
  · rintro ⟨l, m₁, m₂, hp, hq, hm⟩
    exact ⟨(l, m₁), hp, (l, m₂), hq, rfl, hm⟩

theorem closeEdgeB_iff (a b : Access) : closeEdgeB a b = true ↔ closeEdge a b := by
  simp [closeEdgeB, closeEdge]

theorem orderedB_iff (a b : Access) : orderedB a b = true ↔ ordered a b := by
  simp only [orderedB, ordered, Bool.or_eq_true, Bool.and_eq_true, beq_iff_eq, bne_iff_ne,
    commonLockB_iff, closeEdgeB_iff, or_assoc]

theorem pairOkB_iff (a b : Access) : pairOkB a b = true ↔ (conflict a b → ordered a b) := by
  simp only [pairOkB, Bool.or_eq_true, Bool.not_eq_true', ← orderedB_iff, ← conflictB_iff]
  cases conflictB a b <;> simp

theorem raceFreeB_iff (tbl : List Access) : raceFreeB tbl = true ↔ raceFree tbl := by
  simp only [raceFreeB, raceFree, List.all_eq_true, pairOkB_iff]

instance (tbl : List Access) : Decidable (raceFree tbl) :=
  decidable_of_iff _ (raceFreeB_iff tbl)

theorem conflict_symm {a b : Access} (h : conflict a b) : conflict b a :=
  ⟨h.1.symm, h.2.symm⟩

theorem commonLock_symm {a b : Access} : commonLock a b → commonLock b a := by
  rintro ⟨l, m₁, m₂, ha, hb, hm⟩
  exact ⟨l, m₂, m₁, hb, ha, hm.symm⟩

theorem ordered_symm {a b : Access} (h : ordered a b) : ordered b a := by
  rcases h with h | h | h | h | h | h
  · exact Or.inr (Or.inl h)
  · exact Or.inl h
  · exact Or.inr (Or.inr (Or.inl ⟨h.2 ▸ h.1, h.2.symm⟩))
  · exact Or.inr (Or.inr (Or.inr (Or.inl (commonLock_symm h))))
  · exact Or.inr (Or.inr (Or.inr (Or.inr (Or.inr h))))
  · exact Or.inr (Or.inr (Or.inr (Or.inr (Or.inl h))))

theorem ordered_of_live {a b : Access} (h : a.phase = Phase.live → b.phase = Phase.live → ordered a b) :
    ordered a b := by
  cases hpa : a.phase with
  | init => exact Or.inl hpa
  | live =>
    cases hpb : b.phase with
    | init => exact Or.inr (Or.inl hpb)
    | live => exact h hpa hpb

theorem raceFreeW_iff (tbl : List Access) : raceFreeW tbl = true ↔ raceFree tbl := by
  simp only [raceFreeW, List.all_eq_true, List.mem_filter, Bool.and_eq_true, beq_iff_eq, and_imp, pairOkB_iff]
  constructor
  · intro h a ha b hb hc
    refine ordered_of_live fun hpa hpb => ?_
    rcases hc.2 with hk | hk
    · exact h a ha hk hpa b hb hc
    · exact ordered_symm (h b hb hk hpb a ha (conflict_symm hc))
  · exact fun h a ha _ _ b hb => h a ha b hb

theorem raceFree_of_subset {t₁ t₂ : List Access} (hsub : ∀ a ∈ t₁, a ∈ t₂) (h : raceFree t₂) :
    raceFree t₁ :=
  fun a ha b hb hc => h a (hsub a ha) b (hsub b hb) hc

theorem raceFree_filter (p : Access → Bool) {t : List Access} (h : raceFree t) :
    raceFree (t.filter p) :=
  raceFree_of_subset (fun _ ha => (List.mem_filter.mp ha).1) h

theorem raceFree_append {t₁ t₂ : List Access} (h₁ : raceFree t₁) (h₂ : raceFree t₂)
    (hx : ∀ a ∈ t₁, ∀ b ∈ t₂, conflict a b → ordered a b) : raceFree (t₁ ++ t₂) := by
  intro a ha b hb hc
  rcases List.mem_append.mp ha with ha | ha <;> rcases List.mem_append.mp hb with hb | hb
  · exact h₁ a ha b hb hc
  · exact hx a ha b hb hc
  · exact ordered_symm (hx b hb a ha (conflict_symm hc))
  · exact h₂ a ha b hb hc

theorem raceFree_append_disjoint {t₁ t₂ : List Access} (h₁ : raceFree t₁) (h₂ : raceFree t₂)
    (hd : ∀ a ∈ t₁, ∀ b ∈ t₂, a.field ≠ b.field) : raceFree (t₁ ++ t₂) :=
  raceFree_append h₁ h₂ (fun a ha b hb hc => absurd hc.1 (hd a ha b hb))

theorem raceFree_move {cur rest : List Access} {b : Access} :
    raceFree (b :: cur ++ rest) ↔ raceFree (cur ++ b :: rest) := by
  constructor <;> exact raceFree_of_subset fun x hx => by
    simpa only [List.cons_append, List.mem_cons, List.mem_append, or_left_comm] using hx

theorem sortedByField_cons {a : Access} {rest : List Access} :
    sortedByField (a :: rest) ↔ (∀ b ∈ rest, a.field ≤ b.field) ∧ sortedByField rest := Iff.rfl

/-- `a :: cur` is the run collected so far, all of one field -/
theorem goRuns_iff (rest : List Access) : ∀ (a : Access) (cur : List Access), (∀ x ∈ cur, x.field = a.field) →
    (goRuns (a :: cur) rest = true ↔ sortedByField (a :: rest) ∧ raceFree (a :: cur ++ rest)) := by
  induction rest with
  | nil =>
    intro a cur _
    rw [goRuns, raceFreeW_iff, List.append_nil, sortedByField_cons]
    exact ⟨fun h => ⟨⟨nofun, trivial⟩, h⟩, fun h => h.2⟩
  | cons b rest ih =>
    intro a cur hf
    have hf' : ∀ x ∈ a :: cur, x.field = a.field := List.forall_mem_cons.mpr ⟨rfl, hf⟩
    rw [goRuns]
    split
    · -- `b` continues the run
      rename_i hba
      have hba : b.field = a.field := beq_iff_eq.mp hba
      rw [ih b (a :: cur) (hba ▸ hf'), raceFree_move (cur := a :: cur), sortedByField_cons (a := a)]
      exact and_congr_left' ⟨fun h => ⟨hba ▸ List.forall_mem_cons.mpr ⟨Nat.le_refl _, h.1⟩, h⟩, fun h => h.2⟩
    · -- `b` starts a new run: the finished one is checked, fields must go up
      rename_i hba
      have hne : b.field ≠ a.field := fun h => hba (beq_iff_eq.mpr h)
      rw [Bool.and_eq_true, Bool.and_eq_true, Nat.blt_eq, raceFreeW_iff, ih b [] (fun _ h => nomatch h),
        sortedByField_cons (a := a)]
      constructor
      · rintro ⟨⟨hlt, hw⟩, hs, hr⟩
        have hge : ∀ y ∈ b :: rest, a.field < y.field := List.forall_mem_cons.mpr
          ⟨hlt, fun y hy => Nat.lt_of_lt_of_le hlt (hs.1 y hy)⟩
        exact ⟨⟨fun y hy => Nat.le_of_lt (hge y hy), hs⟩, raceFree_append_disjoint hw hr fun x hx y hy hxy =>
          Nat.lt_irrefl _ (hf' x hx ▸ hxy ▸ hge y hy)⟩
      · rintro ⟨⟨hge, hs⟩, hr⟩
        exact ⟨⟨Nat.lt_of_le_of_ne (hge b List.mem_cons_self) (Ne.symm hne),
            raceFree_of_subset (fun x hx => List.mem_append_left _ hx) hr⟩,
          hs, raceFree_of_subset (fun x hx => List.mem_append_right _ hx) hr⟩

theorem raceFreeG_iff (tbl : List Access) : raceFreeG tbl = true ↔ sortedByField tbl ∧ raceFree tbl := by
  cases tbl with
  | nil => exact ⟨fun _ => ⟨trivial, fun _ h => nomatch h⟩, fun _ => rfl⟩
  | cons b rest => exact goRuns_iff rest b [] fun _ h => nomatch h

theorem raceFreeG_sound (tbl : List Access) (h : raceFreeG tbl = true) : raceFree tbl :=
  ((raceFreeG_iff tbl).mp h).2

theorem sortedByFieldB_iff (t : List Access) : sortedByFieldB t = true ↔ sortedByField t := by
  induction t with
  | nil => simp [sortedByFieldB, sortedByField]
  | cons a rest ih =>
    simp only [sortedByFieldB, sortedByField, Bool.and_eq_true, List.all_eq_true, Nat.ble_eq, ih]

/-- Non-vacuity of a table, decided on neighbouring rows only (the generator sorts by field, then by
function, so a field accessed from two functions shows up as two adjacent rows). -/
def adjacentLiveConflict : List Access → Bool
  | a :: b :: rest =>
    (conflictB a b && a.phase == Phase.live && b.phase == Phase.live && a.fn != b.fn)
      || adjacentLiveConflict (b :: rest)
  | _ => false

theorem exists_live_conflict (tbl : List Access) (h : adjacentLiveConflict tbl = true) :
    ∃ a ∈ tbl, ∃ b ∈ tbl, conflict a b ∧ a.phase = Phase.live ∧ b.phase = Phase.live ∧ a.fn ≠ b.fn := by
  induction tbl with
  | nil => simp [adjacentLiveConflict] at h
  | cons a t ih =>
    cases t with
    | nil => simp [adjacentLiveConflict] at h
    | cons b rest =>
      simp only [adjacentLiveConflict, Bool.or_eq_true, Bool.and_eq_true, beq_iff_eq, bne_iff_ne] at h
      rcases h with ⟨⟨⟨hc, hpa⟩, hpb⟩, hfn⟩ | h
      · exact ⟨a, by simp, b, by simp, (conflictB_iff a b).mp hc, hpa, hpb, hfn⟩
      · obtain ⟨x, hx, y, hy, hh⟩ := ih h
        exact ⟨x, List.mem_cons_of_mem _ hx, y, List.mem_cons_of_mem _ hy, hh⟩

theorem frozenInB_iff (t : List Access) (f : Nat) : frozenInB t f = true ↔ frozenIn t f := by
  simp only [frozenInB, frozenIn, List.all_eq_true, Bool.or_eq_true, Bool.not_eq_true', beq_iff_eq,
    beq_eq_false_iff_ne, ne_eq, Decidable.or_iff_not_imp_left, Decidable.not_not, Classical.not_imp, and_imp]

theorem bareReaderB_iff (r : Access) : bareReaderB r = true ↔ bareReader r := by
  simp [bareReaderB, bareReader, and_assoc]

theorem init_of_ordered_bare {a b : Access} (hwp : a.phase = Phase.live) (hro : a.role = 0) (hh : a.held = [])
    (hrel : a.relAfter = []) (hacq : a.acqBefore = []) (h : ordered a b) : b.phase = Phase.init := by
  rcases h with h | h | h | ⟨l, m₁, m₂, h₁, _, _⟩ | ⟨c, h₁, _⟩ | ⟨c, _, h₂⟩
  · rw [hwp] at h; cases h
  · exact h
  · exact absurd hro h.1
  · rw [hh] at h₁; cases h₁
  · rw [hrel] at h₁; cases h₁
  · rw [hacq] at h₂; cases h₂

/-- for the `published:` locations: C07 as the extractor sees the library -/
theorem frozen_of_bareReader {t : List Access} {r : Access} (h : raceFree t) (hr : r ∈ t)
    (hb : bareReader r) : frozenIn t r.field := by
  obtain ⟨_, hp, hro, hh, hrel, hacq⟩ := hb
  exact fun a ha hf hk => init_of_ordered_bare hp hro hh hrel hacq (ordered_symm (h a ha r hr ⟨hf, Or.inl hk⟩))

end ScVerif.C11
