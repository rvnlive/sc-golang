import ScVerif.C11.LocksetLemmas
import ScVerif.C11.TraceLemmas
import ScVerif.C11.Chan
import ScVerif.C11.Slice
/-!
C11 — property theorems that hold for EVERY table (the claim of the property as a whole is partial: see `explanation`
in props/C11.json); `C11_lock_discipline` (PropsTable.lean) is re-checked on every run against the table regenerated
from /repo's sources, and these are what makes that statement more than a lookup.
-/
namespace ScVerif.C11

/-- The executable check used by the driver, the harness and `decide` is exactly the specification. -/
theorem C11_check_sound_complete (tbl : List Access) : raceFreeB tbl = true ↔ raceFree tbl :=
  raceFreeB_iff tbl

/-- Lock discipline ⇒ race freedom, for every table: a guard mutex per field held by every live
access, exclusively by every live write. -/
theorem C11_guarded_raceFree (t : List Access) (guard : Nat → Nat)
    (hr : ∀ a ∈ t, a.phase = Phase.live → ∃ m, (guard a.field, m) ∈ a.held)
    (hw : ∀ a ∈ t, a.phase = Phase.live → a.kind = Kind.W → (guard a.field, LMode.excl) ∈ a.held) :
    raceFree t := by
  intro a ha b hb ⟨hf, hk⟩
  refine ordered_of_live fun hpa hpb => Or.inr (Or.inr (Or.inr (Or.inl ?_)))
  rcases hk with hk | hk
  · obtain ⟨m, hm⟩ := hr b hb hpb
    exact ⟨guard a.field, LMode.excl, m, hw a ha hpa hk, hf ▸ hm, Or.inl rfl⟩
  · obtain ⟨m, hm⟩ := hr a ha hpa
    exact ⟨guard a.field, m, LMode.excl, hm, hf ▸ hw b hb hpb hk, Or.inr rfl⟩

/-- Monotone: dropping rows keeps the discipline (so a sub-table of a verified table is verified). -/
theorem C11_raceFree_mono {t₁ t₂ : List Access} (hsub : ∀ a ∈ t₁, a ∈ t₂) (h : raceFree t₂) : raceFree t₁ :=
  raceFree_of_subset hsub h

/-- Compositional: per-package tables over disjoint fields combine. -/
theorem C11_raceFree_compose {t₁ t₂ : List Access} (h₁ : raceFree t₁) (h₂ : raceFree t₂)
    (hd : ∀ a ∈ t₁, ∀ b ∈ t₂, a.field ≠ b.field) : raceFree (t₁ ++ t₂) :=
  raceFree_append_disjoint h₁ h₂ hd

/-- A live write on an arbitrary goroutine that holds its mutexes only in shared mode (and has no
close edge to itself) refutes the discipline of every table containing it — the shape of
`config.rng` written by `genID` under `Collection.mu.RLock`. -/
theorem C11_shared_write_refutes {t : List Access} {a : Access} (ha : a ∈ t) (hw : a.kind = Kind.W)
    (hp : a.phase = Phase.live) (hr : a.role = 0) (hh : ∀ p ∈ a.held, p.2 = LMode.shared)
    (hc : ∀ c ∈ a.relAfter, c ∉ a.acqBefore) : ¬ raceFree t := by
  intro h
  rcases h a ha a ha ⟨rfl, Or.inl hw⟩ with h | h | h | h | h | h
  · simp [hp] at h
  · simp [hp] at h
  · exact h.1 hr
  · obtain ⟨l, m₁, m₂, h₁, h₂, hm⟩ := h
    rcases hm with hm | hm
    · have := hh _ h₁; simp [hm] at this
    · have := hh _ h₂; simp [hm] at this
  · obtain ⟨c, h₁, h₂⟩ := h; exact hc c h₁ h₂
  · obtain ⟨c, h₁, h₂⟩ := h; exact hc c h₁ h₂

/-- the hypothesis of `C11_shared_write_refutes` is satisfiable: a write under `RLock` -/
example : ¬ raceFree [Access.mk 0 .W 0 [(0, .shared)] .live 0 [] []] :=
  C11_shared_write_refutes (List.mem_singleton.mpr rfl) rfl rfl rfl (by simp) (by simp)

/-- The happens-before edge of a common mutex with an exclusive side, in EVERY execution of the mutex semantics of
`Trace.lean`: access `a` →program-order release →synchronises-with acquire →program-order access `b`, the acquire in the
mode the table lists for `b`; the middle arrow is the Go memory model's guarantee for `sync.Mutex`/`RWMutex`, assumed. -/
theorem C11_exclusive_lock_happens_before {a b : Access} (hcl : commonLock a b)
    {pre mid : List Ev} {st₁ st₂ : LState} {t₁ t₂ : Nat}
    (hpre : run [] pre = some st₁) (hmid : run st₁ mid = some st₂)
    (ha : ∀ p ∈ a.held, (t₁, p.1, p.2) ∈ st₁) (hb : ∀ p ∈ b.held, (t₂, p.1, p.2) ∈ st₂)
    (hne : t₁ ≠ t₂) :
    ∃ l m₂ x y z, (l, m₂) ∈ b.held ∧ mid = x ++ Ev.rel t₁ l :: (y ++ Ev.acq t₂ l m₂ :: z) := by
  obtain ⟨l, m₁, m₂, h₁, h₂, hx⟩ := hcl
  obtain ⟨x, y, z, h⟩ := release_acquire_between hpre hmid (ha (l, m₁) h₁) (hb (l, m₂) h₂) hne hx
  exact ⟨l, m₂, x, y, z, h₂, h⟩

/-- the hypotheses are satisfiable and the conclusion is the expected pair: reader under RLock, then
writer under Lock of the same RWMutex (with an unrelated event in between) -/
example : ∃ st₁ st₂, run [] [Ev.acq 1 0 .shared] = some st₁ ∧
    run st₁ [Ev.acc 1 0, Ev.rel 1 0, Ev.acc 3 9, Ev.acq 2 0 .excl] = some st₂ ∧
    (1, 0, LMode.shared) ∈ st₁ ∧ (2, 0, LMode.excl) ∈ st₂ :=
  ⟨_, _, rfl, rfl, List.mem_cons_self, List.mem_cons_self⟩

/-- A common mutex with an exclusive side forces the first holder's `Unlock` between the two accesses (the release
alone, from `C11_exclusive_lock_happens_before`). -/
theorem C11_exclusive_lock_orders {a b : Access} (hcl : commonLock a b)
    {pre mid : List Ev} {st₁ st₂ : LState} {t₁ t₂ : Nat}
    (hpre : run [] pre = some st₁) (hmid : run st₁ mid = some st₂)
    (ha : ∀ p ∈ a.held, (t₁, p.1, p.2) ∈ st₁) (hb : ∀ p ∈ b.held, (t₂, p.1, p.2) ∈ st₂)
    (hne : t₁ ≠ t₂) : ∃ l, Ev.rel t₁ l ∈ mid := by
  obtain ⟨l, _, x, y, z, _, h⟩ := C11_exclusive_lock_happens_before hcl hpre hmid ha hb hne
  exact ⟨l, h ▸ List.mem_append_right _ List.mem_cons_self⟩

/-- the hypotheses of `C11_exclusive_lock_orders` are satisfiable: writer then reader of one RWMutex -/
example : ∃ st₁ st₂, run [] [Ev.acq 1 0 .excl] = some st₁ ∧
    run st₁ [Ev.acc 1 0, Ev.rel 1 0, Ev.acq 2 0 .shared] = some st₂ ∧
    (1, 0, LMode.excl) ∈ st₁ ∧ (2, 0, LMode.shared) ∈ st₂ :=
  ⟨_, _, rfl, rfl, List.mem_cons_self, List.mem_cons_self⟩

/-- …and two `RLock` holders are NOT ordered: the semantics has an execution in which both hold the
lock at once, which is why `commonLock` demands an exclusive side. -/
theorem C11_shared_lock_does_not_order :
    ∃ st, run [] [Ev.acq 1 0 .shared, Ev.acq 2 0 .shared, Ev.acc 1 0, Ev.acc 2 0] = some st
      ∧ (1, 0, LMode.shared) ∈ st ∧ (2, 0, LMode.shared) ∈ st :=
  ⟨_, rfl, List.mem_cons_of_mem _ List.mem_cons_self, List.mem_cons_self⟩

/-- The ways the code orders two accesses do not depend on which of the two is named first: checking each unordered
pair of rows once is enough. -/
theorem C11_ordered_symm {a b : Access} (h : ordered a b) : ordered b a := ordered_symm h

/-- Why a channel-close edge orders, in EVERY execution of the semantics of `Chan.lean`: access `a` … `close(c)` by its
goroutine … observation of `c` by the other goroutine … access `b`, for a common channel `c`; the close→observe arrow is
the Go memory model's guarantee for channels, assumed. -/
theorem C11_close_edge_orders {a b : Access} (hce : closeEdge a b)
    {es x y u w : List CEv} {st : CState} {t₁ t₂ ia ib : Nat} (hrun : crun [] es = some st)
    (hax : es = x ++ CEv.acc t₁ ia :: y)
    (hrel : ∀ c ∈ a.relAfter, ∃ y₁ y₂, y = y₁ ++ CEv.close t₁ c :: y₂)
    (hbx : es = u ++ CEv.acc t₂ ib :: w)
    (hacq : ∀ c ∈ b.acqBefore, ∃ u₁ u₂, u = u₁ ++ CEv.obs t₂ c :: u₂) :
    ∃ c m₁ m₂ m₃, es = x ++ CEv.acc t₁ ia ::
      (m₁ ++ CEv.close t₁ c :: (m₂ ++ CEv.obs t₂ c :: (m₃ ++ CEv.acc t₂ ib :: w))) := by
  obtain ⟨c, hca, hcb⟩ := hce
  obtain ⟨y₁, y₂, hy⟩ := hrel c hca
  obtain ⟨u₁, u₂, hu⟩ := hacq c hcb
  have hobs : es = u₁ ++ CEv.obs t₂ c :: (u₂ ++ CEv.acc t₂ ib :: w) := by
    rw [hbx, hu]; simp
  have hclose : es = (x ++ CEv.acc t₁ ia :: y₁) ++ CEv.close t₁ c :: y₂ := by
    rw [hax, hy]; simp
  obtain ⟨m, hm⟩ := close_before_obs hrun hobs hclose
  exact ⟨c, y₁, m, u₂, by rw [hobs, hm]; simp⟩

/-- the hypotheses are satisfiable: the shape of `ClientServerStream`: write, close(headerC) on the
server goroutine; wait for headerC, read on the client goroutine -/
example : crun [] [CEv.acc 1 0, CEv.close 1 7, CEv.obs 2 7, CEv.acc 2 1] = some [7] := by decide

/-- …and observing before the close, or closing twice, is not an execution -/
example : crun [] [CEv.obs 2 7, CEv.close 1 7] = none ∧ crun [] [CEv.close 1 7, CEv.close 2 7] = none := by
  decide

/-- **The table theorem ⇒ C07 on the table**: the reader that relies on nothing is the `caller:consumer` row of a
`published:` location.  With `C11_published_readers_free`: lock discipline of the extracted table ⇒ published messages
are never written ⇒ every lock-free reader of them is race free. -/
theorem C11_consumer_row_forces_frozen {t : List Access} {r : Access} (h : raceFree t) (hr : r ∈ t)
    (hb : bareReader r) : frozenIn t r.field :=
  frozen_of_bareReader h hr hb

/-- the hypotheses are satisfiable -/
example : frozenIn [Access.mk 0 .W 0 [] .init 0 [] [], Access.mk 0 .R 1 [] .live 0 [] []] 0 :=
  C11_consumer_row_forces_frozen (r := Access.mk 0 .R 1 [] .live 0 [] []) (by decide) (by simp)
    ((bareReaderB_iff _).mp (by decide))

/-- **C07 ⇒ lock-free readers are race free.**  To a race-free table in which a set of locations is frozen (for the
`published:` locations, the contents of the messages a resource stores and hands out by pointer: C07's "published
messages are never written" as the extractor sees the library) ANY family of reader rows of those locations can be
added — interceptors, include predicates, `Get`/`List` callers, event consumers; any function, no lock, any goroutine. -/
theorem C11_published_readers_free {t readers : List Access} (h : raceFree t)
    (hr : ∀ r ∈ readers, r.kind = Kind.R ∧ frozenIn t r.field) : raceFree (t ++ readers) := by
  have notW : ∀ r ∈ readers, ¬ r.kind = Kind.W := fun r h hk => nomatch (hr r h).1.symm.trans hk
  -- readers do not conflict with each other; against a reader only a write conflicts, and it is constructor-phase
  refine raceFree_append h (fun a ha b hb hc => ?_) fun a ha b hb hc => ?_
  · exact (hc.2.elim (notW a ha) (notW b hb)).elim
  · exact Or.inl ((hr b hb).2 a ha hc.1 (hc.2.resolve_right (notW b hb)))

/-- the hypothesis is satisfiable: a message written only while it is constructed, then read by two
unrelated lock-free consumers -/
example : raceFree ([Access.mk 0 .W 0 [] .init 0 [] []] ++
    [Access.mk 0 .R 1 [] .live 0 [] [], Access.mk 0 .R 2 [] .live 0 [] []]) :=
  C11_published_readers_free (by decide) (by
    intro r hr
    simp only [List.mem_cons, List.not_mem_nil, or_false] at hr
    rcases hr with rfl | rfl <;> exact ⟨rfl, (frozenInB_iff _ _).mp (by decide)⟩)

/-- …and the converse, the shape of a write into a live stored message (`mode.StartTime = …` on the result of an
unmasked `Get`) next to ANY live reader of the location (a consumer marshalling an event it received), whatever locks
the reader holds. -/
theorem C11_published_write_refutes {t : List Access} {w r : Access} (hw : w ∈ t) (hr : r ∈ t)
    (hf : w.field = r.field) (hk : w.kind = Kind.W) (hwp : w.phase = Phase.live)
    (hrp : r.phase = Phase.live) (hro : w.role = 0) (hh : w.held = []) (hrel : w.relAfter = [])
    (hacq : w.acqBefore = []) : ¬ raceFree t :=
  fun h => nomatch hrp.symm.trans (init_of_ordered_bare hwp hro hh hrel hacq (h w hw r hr ⟨hf, Or.inl hk⟩))

/-- the hypotheses are satisfiable (the reader even holds a lock: it does not help) -/
example : ¬ raceFree [Access.mk 0 .W 0 [] .live 0 [] [], Access.mk 0 .R 1 [(0, .excl)] .live 0 [] []] :=
  C11_published_write_refutes (w := Access.mk 0 .W 0 [] .live 0 [] [])
    (r := Access.mk 0 .R 1 [(0, .excl)] .live 0 [] []) (by simp) (by simp) rfl rfl rfl rfl rfl rfl rfl rfl

/-- The decision the kernel runs on the extracted table (`raceFreeG`: one pass over the field-sorted
table, quadratic only inside each run of equal field) never accepts a table that violates the
discipline — for every table, sorted or not. -/
theorem C11_grouped_check_sound (tbl : List Access) (h : raceFreeG tbl = true) : raceFree tbl :=
  raceFreeG_sound tbl h

/-- …and on a table in the generator's order (field numbers never decrease) it is complete: a refuted
`C11_lock_discipline` means the extracted table really violates the discipline (or is not sorted). -/
theorem C11_grouped_check_complete (tbl : List Access) (hs : sortedByField tbl) (h : raceFree tbl) :
    raceFreeG tbl = true :=
  (raceFreeG_iff tbl).mpr ⟨hs, h⟩

/-- the hypotheses are satisfiable: two runs, the first one a reader/writer pair under one RWMutex -/
example : raceFreeG [Access.mk 0 .R 0 [(0, .shared)] .live 0 [] [], Access.mk 0 .W 1 [(0, .excl)] .live 0 [] [],
    Access.mk 3 .W 2 [] .init 0 [] []] = true :=
  C11_grouped_check_complete _ ((sortedByFieldB_iff _).mp (by decide)) (by decide)

/-- Whatever `append` writes into the existing backing array lies in that array, BEHIND the part the caller
can see (`len ≤ cell`) and inside its capacity — which is why no caller-visible value changes and a test
that looks at values cannot notice the aliasing. -/
theorem C11_append_writes_behind_len (s : Slice) (n : Nat) :
    ∀ c ∈ appendWrites s n, c.1 = s.arr ∧ s.len ≤ c.2 ∧ c.2 < s.cap := by
  intro c hc
  have h := mem_appendWrites.mp hc
  exact ⟨h.2.1, h.2.2.1, Nat.lt_of_lt_of_le h.2.2.2 h.1⟩

/-- Two calls (on any two goroutines) that each append at least one element to the SAME slice header with
room for it write a common cell, `len`, of the shared backing array: a write/write conflict whatever the
numbers of elements — the shape of `opts = append(opts, o)` on a caller's option slice and of
`append(mask.GetPaths(), p...)` on a caller's mask. -/
theorem C11_append_spare_capacity_conflicts (s : Slice) (n m : Nat) (hn : 0 < n) (hm : 0 < m)
    (hsn : s.len + n ≤ s.cap) (hsm : s.len + m ≤ s.cap) :
    ∃ c, c ∈ appendWrites s n ∧ c ∈ appendWrites s m :=
  ⟨(s.arr, s.len), mem_appendWrites.mpr ⟨hsn, rfl, Nat.le_refl _, Nat.lt_add_of_pos_right hn⟩,
    mem_appendWrites.mpr ⟨hsm, rfl, Nat.le_refl _, Nat.lt_add_of_pos_right hm⟩⟩

/-- the hypotheses are satisfiable: three paths in an array of four (a mask decoded from the wire) -/
example : ∃ c, c ∈ appendWrites ⟨7, 3, 4⟩ 1 ∧ c ∈ appendWrites ⟨7, 3, 4⟩ 1 :=
  C11_append_spare_capacity_conflicts ⟨7, 3, 4⟩ 1 1 (by decide) (by decide) (by decide) (by decide)

/-- The repair the extractor accepts: appending to `s[:len(s):len(s)]` (or to any slice without room for
the new elements) never writes the existing array, for every slice and every number of elements; the
elements the result shares with `s` are only read. -/
theorem C11_append_full_slice_private (s : Slice) (n : Nat) : appendWrites s.full n = [] :=
  List.eq_nil_iff_forall_not_mem.mpr fun c hc => by
    have h := mem_appendWrites.mp hc
    exact absurd (Nat.lt_of_lt_of_le h.2.2.2 h.1) (Nat.not_lt.mpr h.2.2.1)

/-- and conversely the in-place case is exactly "there is room": the model's decision, both ways -/
theorem C11_append_in_place_iff (s : Slice) (n : Nat) (hn : 0 < n) :
    appendWrites s n ≠ [] ↔ s.len + n ≤ s.cap :=
  ⟨fun h => (mem_appendWrites.mp (List.exists_mem_of_ne_nil _ h).choose_spec).1, fun h =>
    List.ne_nil_of_mem (a := (s.arr, s.len)) (mem_appendWrites.mpr ⟨h, rfl, Nat.le_refl _, Nat.lt_add_of_pos_right hn⟩)⟩

end ScVerif.C11
