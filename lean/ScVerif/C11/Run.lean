import ScVerif.Base.ListLemmas
/-!
C11 — runs of a partial step function, for the machines of this directory at once (`run` of `Trace.lean`,
`crun` of `Chan.lean`, `xrun` of `Exec.lean`).  The state in which event number `k` of `es` is executed is
`run s₀ (es.take k)`.
-/
namespace ScVerif.C11

structure IsRun {σ ε : Type} (step : σ → ε → Option σ) (run : σ → List ε → Option σ) : Prop where
  nil : ∀ s, run s [] = some s
  cons : ∀ s e es, run s (e :: es) = (step s e).bind fun s' => run s' es

namespace IsRun
variable {σ ε : Type} {step : σ → ε → Option σ} {run : σ → List ε → Option σ} (hr : IsRun step run)
include hr

theorem cons_of {s s' : σ} {e : ε} {es : List ε} (h : step s e = some s') : run s (e :: es) = run s' es := by
  rw [hr.cons, h, Option.bind_some]

theorem cons_inv {s sf : σ} {e : ε} {es : List ε} (h : run s (e :: es) = some sf) :
    ∃ s', step s e = some s' ∧ run s' es = some sf :=
  Option.bind_eq_some_iff.mp (hr.cons s e es ▸ h)

theorem append {a b : List ε} : ∀ {s : σ}, run s (a ++ b) = (run s a).bind fun s' => run s' b := by
  induction a with
  | nil => intro s; rw [hr.nil]; rfl
  | cons e es ih =>
    intro s
    rw [List.cons_append, hr.cons, hr.cons]
    cases step s e with
    | none => rfl
    | some s' => exact ih

theorem append_of {a b : List ε} {s s' s'' : σ} (h₁ : run s a = some s') (h₂ : run s' b = some s'') :
    run s (a ++ b) = some s'' := by
  rw [hr.append, h₁]; exact h₂

theorem append_inv {a b : List ε} {s sf : σ} (h : run s (a ++ b) = some sf) :
    ∃ s', run s a = some s' ∧ run s' b = some sf :=
  Option.bind_eq_some_iff.mp (hr.append ▸ h)

section Positions
variable {s₀ : σ} {es : List ε}

omit hr in
theorem at_end {s : σ} (h : run s₀ es = some s) : run s₀ (es.take es.length) = some s := es.take_length.symm ▸ h

theorem take_some {sf : σ} (hv : run s₀ es = some sf) (k : Nat) : ∃ s, run s₀ (es.take k) = some s := by
  rw [← List.take_append_drop k es] at hv
  obtain ⟨s, h, _⟩ := hr.append_inv hv
  exact ⟨s, h⟩

theorem take_succ {k : Nat} {e : ε} {s : σ} (he : es[k]? = some e) (hs : run s₀ (es.take k) = some s) :
    run s₀ (es.take (k + 1)) = step s e := by
  rw [List.take_add_one, he, hr.append, hs, Option.bind_some, Option.toList_some, hr.cons]
  cases step s e with
  | none => rfl
  | some s' => exact hr.nil s'

theorem take_pred {k : Nat} {s₂ : σ} (h : run s₀ (es.take (k + 1)) = some s₂) :
    (∃ s e, run s₀ (es.take k) = some s ∧ es[k]? = some e ∧ step s e = some s₂) ∨ run s₀ (es.take k) = some s₂ := by
  cases he : es[k]? with
  | none => rw [List.take_add_one, he, Option.toList_none, List.append_nil] at h; exact Or.inr h
  | some e =>
    obtain ⟨s, hs⟩ := hr.take_some h k
    rw [List.take_take, Nat.min_eq_left (Nat.le_succ k)] at hs
    exact Or.inl ⟨s, e, hs, rfl, hr.take_succ he hs ▸ h⟩

theorem step_at {sf : σ} (hv : run s₀ es = some sf) {k : Nat} {e : ε} {s : σ} (he : es[k]? = some e)
    (hs : run s₀ (es.take k) = some s) : ∃ s', step s e = some s' := by
  obtain ⟨s', hs'⟩ := hr.take_some hv (k + 1)
  exact ⟨s', hr.take_succ he hs ▸ hs'⟩

/-- what holds at the start and is kept by every step holds at every position -/
theorem inv (I : σ → Prop) (h0 : I s₀) (hstep : ∀ s e s', I s → step s e = some s' → I s') :
    ∀ (k : Nat) {s : σ}, run s₀ (es.take k) = some s → I s := by
  intro k
  induction k with
  | zero => intro s h; cases (hr.nil s₀).symm.trans h; exact h0
  | succ k ih =>
    intro s h
    rcases hr.take_pred h with ⟨sm, e, hsm, _, hst⟩ | hsame
    · exact hstep sm e s (ih hsm) hst
    · exact ih hsame

/-- `P` off at position `k₁`, on at a later `k₂`: some step `p` in between turns it on -/
theorem gain (P : σ → Prop) {k₁ k₂ : Nat} {s₁ s₂ : σ} (hk : k₁ ≤ k₂) (h₁ : run s₀ (es.take k₁) = some s₁)
    (h₂ : run s₀ (es.take k₂) = some s₂) (hn : ¬ P s₁) (hp : P s₂) :
    ∃ p s e s', k₁ ≤ p ∧ p < k₂ ∧ run s₀ (es.take p) = some s ∧ es[p]? = some e ∧ step s e = some s'
      ∧ ¬ P s ∧ P s' := by
  induction k₂ generalizing s₂ with
  | zero => cases Nat.le_zero.mp hk; cases h₁.symm.trans h₂; exact absurd hp hn
  | succ k ih =>
    rcases Nat.lt_or_eq_of_le hk with hlt | rfl
    · have hle := Nat.le_of_lt_succ hlt
      rcases hr.take_pred h₂ with ⟨sm, e, hsm, he, hst⟩ | hsame
      · by_cases hpm : P sm
        · obtain ⟨p, s, e', s', h1, h2, h3⟩ := ih hle hsm hpm
          exact ⟨p, s, e', s', h1, Nat.lt_succ_of_lt h2, h3⟩
        · exact ⟨k, sm, e, s₂, hle, Nat.lt_succ_self k, hsm, he, hst, hpm, hp⟩
      · obtain ⟨p, s, e', s', h1, h2, h3⟩ := ih hle hsame hp
        exact ⟨p, s, e', s', h1, Nat.lt_succ_of_lt h2, h3⟩
    · cases h₁.symm.trans h₂; exact absurd hp hn

/-- Hand-over.  `I` holds all along; among `I`-states `A` excludes `B`, only the event `ea` turns `A` off, only `eb`
turns `B` on, and the two differ: `A` at `i` and `B` at a later `j` put `ea` at some `p` and `eb` at a later `q`,
`i ≤ p < q < j`.  (Mutex: `A`, `B` two incompatible holdings, `ea` the release, `eb` the acquire; publication: `A`
unpublished, `B` somebody has the reference; join: the other way round.) -/
theorem edge (I A B : σ → Prop) (ea eb : ε)
    (hI : ∀ (k : Nat) {s : σ}, run s₀ (es.take k) = some s → I s)
    (hex : ∀ s, I s → A s → ¬ B s)
    (hoff : ∀ s e s', I s → step s e = some s' → A s → ¬ A s' → e = ea)
    (hon : ∀ s e s', I s → step s e = some s' → ¬ B s → B s' → e = eb) (hne : ea ≠ eb)
    {i j : Nat} {si sj : σ} (hij : i ≤ j) (hi : run s₀ (es.take i) = some si) (hj : run s₀ (es.take j) = some sj)
    (ha : A si) (hb : B sj) :
    ∃ p q, i ≤ p ∧ p < q ∧ q < j ∧ es[p]? = some ea ∧ es[q]? = some eb := by
  -- the step that turns `A` off; from the state before it (where `A` still excludes `B`) the step that turns `B` on
  obtain ⟨p, sp, ep, sp', hp, hpj, hsp, hep, hst, hin, hout⟩ :=
    hr.gain (fun s => ¬ A s) hij hi hj (fun h => h ha) fun h => hex _ (hI j hj) h hb
  have hin' : A sp := Classical.not_not.mp hin
  obtain rfl := hoff _ _ _ (hI p hsp) hst hin' hout
  obtain ⟨q, sq, eq, sq', hpq, hq, hsq, heq, hst', hin₂, hout₂⟩ :=
    hr.gain B (Nat.le_of_lt hpj) hsp hj (hex _ (hI p hsp) hin') hb
  obtain rfl := hon _ _ _ (hI q hsq) hst' hin₂ hout₂
  have : p ≠ q := fun h => hne (Option.some.inj (by rw [← hep, ← heq, h]))
  exact ⟨p, q, hp, by omega, hq, hep, heq⟩

end Positions
end IsRun

/-- two positions of a list as a decomposition (`Base.set_split _ h` gives `l = l.take p ++ x :: l.drop (p + 1)`; its
first argument, the value of a `List.set`, plays no part in that half) -/
theorem split_two {α : Type} {l : List α} {p q : Nat} {x y : α} (hpq : p < q) (hp : l[p]? = some x)
    (hq : l[q]? = some y) : ∃ a b c, l = a ++ x :: (b ++ y :: c) := by
  have hq' : (l.drop (p + 1))[q - (p + 1)]? = some y := by
    rw [List.getElem?_drop, Nat.add_sub_cancel' hpq]; exact hq
  exact ⟨_, _, _, by rw [← (Base.set_split y hq').1, ← (Base.set_split x hp).1]⟩

end ScVerif.C11
