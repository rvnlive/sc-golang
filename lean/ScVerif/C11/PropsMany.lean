import ScVerif.C11.ManyLemmas
import ScVerif.C11.LocksetLemmas
import ScVerif.C11.Examples
/-!
C11 — property theorems about executions over MANY objects (`Many.lean`): checking the lock discipline per object is
enough for the whole program, and a lock of another instance is worth nothing.
-/
namespace ScVerif.C11

/-- **Per-object discipline ⇒ happens-before in the whole execution.**  Only the events of `o` have to conform; the
other objects may do anything the runtime allows. -/
theorem C11_many_objects_discipline_orders {cr : Nat → Nat} {ρ : Nat → Nat} {tbl : List Access} {es : List MEv}
    {Sf : Nat → XState} {o : Nat} (hrf : raceFree tbl) (hv : mrun cr minit es = some Sf)
    (hc : Conforms (cr o) ρ tbl (proj o es)) {p q t₁ t₂ : Nat} {a b : Access} (hpq : p < q)
    (hp : es[p]? = some (o, XEv.acc t₁ a)) (hq : es[q]? = some (o, XEv.acc t₂ b)) (hne : t₁ ≠ t₂)
    (hcf : conflict a b) : MHB es p q :=
  many_discipline_orders hrf hv hc hpq hp hq hne hcf

/-- **No data race on any object**, with one table per object (`tbl o`; instances of one type share theirs). -/
theorem C11_many_objects_no_data_race {cr : Nat → Nat} {ρ : Nat → Nat → Nat} {tbl : Nat → List Access}
    {es : List MEv} {Sf : Nat → XState} (hrf : ∀ o, raceFree (tbl o)) (hv : mrun cr minit es = some Sf)
    (hc : ∀ o, Conforms (cr o) (ρ o) (tbl o) (proj o es)) {o p q t₁ t₂ : Nat} {a b : Access}
    (hp : es[p]? = some (o, XEv.acc t₁ a)) (hq : es[q]? = some (o, XEv.acc t₂ b)) (hne : t₁ ≠ t₂)
    (hcf : conflict a b) : MHB es p q ∨ MHB es q p :=
  many_no_data_race hrf hv hc hp hq hne hcf

/-- **Objects are independent**: no lock, channel or publication of one instance ever allows or refuses a step of
another. -/
theorem C11_objects_independent {cr : Nat → Nat} {S : Nat → XState} {es : List MEv} :
    (∃ S', mrun cr S es = some S') ↔ ∀ o, ∃ s, xrun (cr o) (S o) (proj o es) = some s :=
  ⟨fun ⟨S', h⟩ o => ⟨S' o, proj_run o h⟩, mrun_of_proj⟩

/-- **An object's happens-before is the program's**, at the positions `pos` (the other objects only add order:
program order runs across objects). -/
theorem C11_projection_hb_is_global_hb (o : Nat) {es : List MEv} {i j : Nat} (h : HB (proj o es) i j) :
    MHB es (pos o es i) (pos o es j) ∧ pos o es i < pos o es j :=
  ⟨hb_lift o h, pos_lt o es (hb_lt h)⟩

/-- The positions `pos` of `C11_projection_hb_is_global_hb` are the right ones: the `i`-th event of object `o` stands
there, and every event of `o` in the whole execution is one of them. -/
theorem C11_projection_positions (o : Nat) {es : List MEv} :
    (∀ i x, (proj o es)[i]? = some x → es[pos o es i]? = some (o, x)) ∧
    (∀ p x, es[p]? = some (o, x) → ∃ i, pos o es i = p ∧ (proj o es)[i]? = some x) :=
  ⟨fun _ _ h => pos_get o h, fun _ _ h => pos_surj o h⟩

/-- Whole-program happens-before follows the order of the execution, and between two goroutines it needs a release
(unlock, close, publication, leave) on some object in between. -/
theorem C11_many_hb_needs_synchronisation {es : List MEv} {i j : Nat} {e₁ e₂ : MEv} (h : MHB es i j)
    (h₁ : es[i]? = some e₁) (h₂ : es[j]? = some e₂) (hne : e₁.2.thr ≠ e₂.2.thr) :
    i < j ∧ ∃ p e, i ≤ p ∧ p < j ∧ es[p]? = some e ∧ e.2.isRelease = true :=
  ⟨mhb_lt h, mhb_needs_sync h h₁ h₂ hne⟩

/-- **The lock of another instance orders nothing.**  `exOther` is an execution: goroutine 1 writes object 1
while it holds lock 0 of OBJECT 0 (a callee that reaches a second instance of the type while its caller
holds the first one's lock), goroutine 2 writes object 1 under object 1's own lock 0.  Both accesses are
the row `exW` ("write under lock 0, exclusive"), whose table `[exW]` satisfies the discipline — but the
events of object 1 do not conform to it (the lock is not held on the object that is accessed), and the two
writes are unordered both ways. -/
theorem C11_lock_of_another_instance_does_not_order :
    mvalid (fun _ => 0) exOther = true ∧ raceFree [exW] ∧
    exOther[6]? = some (1, XEv.acc 1 exW) ∧ exOther[8]? = some (1, XEv.acc 2 exW) ∧ conflict exW exW ∧
    ¬ Conforms 0 (fun _ => 0) [exW] (proj 1 exOther) ∧ ¬ MHB exOther 6 8 ∧ ¬ MHB exOther 8 6 := by
  refine ⟨by decide +kernel, by decide +kernel, rfl, rfl, ⟨rfl, Or.inl rfl⟩, ?_, ?_, ?_⟩
  · intro hc
    have := hc.held 3 1 exW ⟨[], [], true, [2, 1]⟩ (by decide +kernel) (by decide +kernel) (0, .excl) (by decide +kernel)
    revert this
    decide
  · exact not_mhb_of_no_sync (e₁ := (1, XEv.acc 1 exW)) (e₂ := (1, XEv.acc 2 exW)) rfl rfl (by decide +kernel) (by decide +kernel)
  · intro h; have := mhb_lt h; omega

/-- the hypotheses of `C11_many_objects_discipline_orders` are satisfiable, with two holders of "lock 0" AT THE SAME TIME on
two instances (`exTwo`: positions 5 and 6 acquire lock 0 of objects 0 and 1 exclusively, neither released
before position 9), and the conclusion is the expected chain on object 0: goroutine 1's write at 7 happens
before goroutine 2's write at 12 -/
example : MHB exTwo 7 12 :=
  have ⟨_, hv⟩ := mvalid_run (cr := fun _ => 0) (es := exTwo) (by decide +kernel)
  C11_many_objects_discipline_orders (ρ := fun _ => 0) (tbl := [exW]) (o := 0) (t₁ := 1) (t₂ := 2)
    (a := exW) (b := exW) (by decide +kernel) hv (conformsB_sound (by decide +kernel)) (by decide) rfl rfl
    (by decide) ⟨rfl, Or.inl rfl⟩

/-- `C11_objects_independent`, used: both projections of `exTwo` are executions, so the interleaving is -/
example : ∃ S', mrun (fun _ => 0) minit exTwo = some S' :=
  C11_objects_independent.mpr fun o =>
    if h0 : o = 0 then by subst h0; exact Option.isSome_iff_exists.mp (by decide +kernel)
    else if h1 : o = 1 then by subst h1; exact Option.isSome_iff_exists.mp (by decide +kernel)
    else by
      have hp : proj o exTwo = [] := by simp [exTwo, proj, Ne.symm h0, Ne.symm h1]
      exact ⟨minit o, by rw [hp]; rfl⟩

/-- **Whole-program happens-before leaves a goroutine through its own release and enters through the other's own
acquire** — on whatever objects. -/
theorem C11_many_hb_through_own_release_and_acquire {es : List MEv} {i j : Nat} {e₁ e₂ : MEv} (h : MHB es i j)
    (h₁ : es[i]? = some e₁) (h₂ : es[j]? = some e₂) (hne : e₁.2.thr ≠ e₂.2.thr) :
    (∃ p e, i ≤ p ∧ p < j ∧ es[p]? = some e ∧ e.2.isRelease = true ∧ e.2.thr = e₁.2.thr) ∧
    (∃ q e, i < q ∧ q ≤ j ∧ es[q]? = some e ∧ e.2.isAcquire = true ∧ e.2.thr = e₂.2.thr) :=
  h.chain.needs_own h₁ h₂ hne

/-- **A lent argument is its own object**: two accesses to it by different goroutines are unordered both ways if the first
goroutine executes no release of its own in `[i, j)` or the second no acquire of its own in `(i, j]`, whatever locks of
OTHER objects (the resource the argument was handed to, the logger, the allocator) anybody holds or takes in between. -/
theorem C11_many_lent_argument_unordered {es : List MEv} {o i j t₁ t₂ : Nat} {a b : Access} (hij : i < j)
    (hi : es[i]? = some (o, XEv.acc t₁ a)) (hj : es[j]? = some (o, XEv.acc t₂ b)) (hne : t₁ ≠ t₂)
    (hn : mnoReleaseBy es t₁ i j = true ∨ mnoAcquireBy es t₂ i j = true) : ¬ MHB es i j ∧ ¬ MHB es j i :=
  ⟨fun h => hn.elim
      (fun hr => not_mhb_of_no_own_release (e₁ := (o, XEv.acc t₁ a)) (e₂ := (o, XEv.acc t₂ b)) hi hj hne hr h)
      (fun ha => not_mhb_of_no_own_acquire (e₁ := (o, XEv.acc t₁ a)) (e₂ := (o, XEv.acc t₂ b)) hi hj hne ha h),
   fun h => absurd (mhb_lt h) (by omega)⟩

/-- the side condition of `C11_many_lent_argument_unordered` is not vacuous: once the reader acquires after the writer
released (the fix: the goroutine is started, i.e. receives the message, after the last write) the check fails and the
accesses are ordered -/
example : mnoAcquireBy [(1, .acc 1 lentW), (1, .pub 1), (1, .get 2), (1, .acc 2 lentR)] 2 0 3 = false ∧
    MHB [(1, .acc 1 lentW), (1, .pub 1), (1, .get 2), (1, .acc 2 lentR)] 0 3 :=
  ⟨by decide +kernel,
   mhb_via (i := 0) (p := 1) (q := 2) (j := 3) (ei := (1, XEv.acc 1 lentW)) (ep := (1, XEv.pub 1))
    (eq := (1, XEv.get 2)) (ej := (1, XEv.acc 2 lentR)) rfl rfl rfl rfl (by decide)
    (MHB.publ (o := 1) (t := 1) (t' := 2) (by decide) rfl rfl) (by decide) rfl rfl⟩

/-- **The resource's lock does not protect the argument lent to it** (`exLent`: object 0 = a `Value` with its
mutex, object 1 = the message a caller hands to its write call; goroutine 2 = a goroutine the library starts
from a timer with the message).  The execution is valid, the events of the message conform to the two
lock-free rows the extractor emits for a lent argument; the caller's write before it armed the timer happens
before the timer goroutine's read, but the write the caller's side makes UNDER THE RESOURCE'S WRITE LOCK
afterwards is unordered with that read both ways: the reader takes no lock. -/
theorem C11_resource_lock_does_not_protect_lent_argument :
    mvalid (fun o => if o = 1 then 1 else 0) exLent = true ∧
    Conforms 1 (fun _ => 0) [lentW, lentR] (proj 1 exLent) ∧
    exLent[0]? = some (1, XEv.acc 1 lentW) ∧ exLent[4]? = some (1, XEv.acc 1 lentW) ∧
    exLent[8]? = some (1, XEv.acc 2 lentR) ∧ conflict lentW lentR ∧
    MHB exLent 0 8 ∧ ¬ MHB exLent 4 8 ∧ ¬ MHB exLent 8 4 := by
  have h := C11_many_lent_argument_unordered (es := exLent) (o := 1) (i := 4) (j := 8) (t₁ := 1) (t₂ := 2)
    (a := lentW) (b := lentR) (by decide) rfl rfl (by decide) (Or.inr (by decide +kernel))
  refine ⟨by decide +kernel, conformsB_sound (by decide +kernel), rfl, rfl, rfl, ⟨rfl, Or.inl rfl⟩, ?_, h.1, h.2⟩
  exact mhb_via (i := 0) (p := 1) (q := 2) (j := 8) (ei := (1, XEv.acc 1 lentW)) (ep := (1, XEv.pub 1))
    (eq := (1, XEv.get 2)) (ej := (1, XEv.acc 2 lentR)) rfl rfl rfl rfl (by decide)
    (MHB.publ (o := 1) (t := 1) (t' := 2) (by decide) rfl rfl) (by decide) rfl rfl

/-- **Discipline ⇔ no race, with any number of instances** (⇐: a one-object execution is a many-object one, `onObj`,
with the same happens-before, so the witness of `C11_unordered_pair_has_racy_execution` carries over). -/
theorem C11_many_discipline_iff_no_race {tbl : List Access} (hwf : ∀ a ∈ tbl, WfRow a) :
    raceFree tbl ↔ MNoRace tbl :=
  many_noRace_iff hwf

end ScVerif.C11
