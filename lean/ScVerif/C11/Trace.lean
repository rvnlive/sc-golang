import ScVerif.C11.Lockset
/-!
Why a common mutex with an exclusive side *orders* two accesses: a small-step semantics of
`sync.Mutex` / `sync.RWMutex` (a lock is held by one exclusive holder or by any number of shared
holders) and the theorem (`TraceLemmas.lean`) that, in every execution the semantics allows, if goroutine `t₁` performs
an access while holding `l` and a different goroutine `t₂` later performs an access while holding
`l`, at least one of them exclusively, then `t₁` has released `l` in between.  The Go memory model
then provides the happens-before edge (the n-th `Unlock` is synchronized before the m-th `Lock`
returns, n < m; likewise `RUnlock`/`Lock` and `Unlock`/`RLock`), which is the part that is assumed,
not proved.
-/
namespace ScVerif.C11

/-- Events of an execution: goroutine `t` acquires lock `l` in mode `m`, releases it, or performs the
access with table index `id`. -/
inductive Ev where
  | acq (t l : Nat) (m : LMode)
  | rel (t l : Nat)
  | acc (t id : Nat)
  deriving DecidableEq, Repr

/-- who holds what: (goroutine, lock, mode) -/
abbrev LState := List (Nat × Nat × LMode)

/-- `t` may acquire `l` in mode `m`: every current holder of `l` is another goroutine, and both
sides are shared. -/
def canAcq (st : LState) (t l : Nat) (m : LMode) : Bool :=
  st.all fun e => e.2.1 != l || (e.1 != t && m == LMode.shared && e.2.2 == LMode.shared)

/-- A release is never refused: by a goroutine that does not hold the lock it changes nothing.  So this semantics has more
executions than `xstep` of `Exec.lean` (which refuses such a release and carries the mode in the event), and the
theorem over `run` is the stronger for it. -/
def step (st : LState) : Ev → Option LState
  | .acq t l m => if canAcq st t l m then some ((t, l, m) :: st) else none
  | .rel t l => some (st.filter fun e => !(e.1 == t && e.2.1 == l))
  | .acc _ _ => some st

/-- run a sequence of events; `none` = the sequence is not an execution of the lock semantics -/
def run (st : LState) : List Ev → Option LState
  | [] => some st
  | e :: es => (step st e).bind fun st' => run st' es

end ScVerif.C11
