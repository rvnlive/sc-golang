import ScVerif.C11.ExecLemmas
import ScVerif.C11.LocksetLemmas
import ScVerif.C11.Examples
/-!
C11 — property theorems about WHO has to synchronise, for every list of events of the semantics of `Exec.lean`.
Consequence for arguments a caller lends to the library (a goroutine started from a timer reads the message that is
being written): what the owner's side does to the object after it handed it to a goroutine is ordered with that
goroutine's accesses by nothing the rest of the program does — only by a release of the owner's own after the access
and an acquire of the reader's own before its access.
-/
namespace ScVerif.C11

/-- **Happens-before leaves a goroutine through its own release** (unlock, close, publication, leave), in every list
of events. -/
theorem C11_hb_leaves_through_own_release {es : List XEv} {i j : Nat} {e₁ e₂ : XEv} (h : HB es i j)
    (h₁ : es[i]? = some e₁) (h₂ : es[j]? = some e₂) (hne : e₁.thr ≠ e₂.thr) :
    ∃ p e, i ≤ p ∧ p < j ∧ es[p]? = some e ∧ e.isRelease = true ∧ e.thr = e₁.thr :=
  (h.chain.needs_own h₁ h₂ hne).1

/-- **…and enters the other goroutine through that goroutine's own acquire** (lock, observed close, receipt
of the reference, join) after `i` and at or before `j`. -/
theorem C11_hb_enters_through_own_acquire {es : List XEv} {i j : Nat} {e₁ e₂ : XEv} (h : HB es i j)
    (h₁ : es[i]? = some e₁) (h₂ : es[j]? = some e₂) (hne : e₁.thr ≠ e₂.thr) :
    ∃ q e, i < q ∧ q ≤ j ∧ es[q]? = some e ∧ e.isAcquire = true ∧ e.thr = e₂.thr :=
  (h.chain.needs_own h₁ h₂ hne).2

/-- **A lent argument**: two accesses by different goroutines are unordered both ways if the first goroutine executes no
release of its own in `[i, j)` or the second no acquire of its own in `(i, j]`, whatever all OTHER goroutines lock,
close, publish or join in between.  (With `conflict a b` that is a data race; the statement does not need it.) -/
theorem C11_lent_argument_unordered {es : List XEv} {i j t₁ t₂ : Nat} {a b : Access} (hij : i < j)
    (hi : es[i]? = some (XEv.acc t₁ a)) (hj : es[j]? = some (XEv.acc t₂ b)) (hne : t₁ ≠ t₂)
    (hn : noReleaseBy es t₁ i j = true ∨ noAcquireBy es t₂ i j = true) : ¬ HB es i j ∧ ¬ HB es j i :=
  ⟨fun h => Chain.not_of_no_own hi hj hne
      (hn.imp (noReleaseBy_eq es t₁ i j ▸ ·) (noAcquireBy_eq es t₂ i j ▸ ·)) h.chain,
   fun h => absurd (hb_lt h) (by omega)⟩

/-- **The start of a timer goroutine orders what came before it, and nothing after** (`exAlarm`): the owner's write
BEFORE it armed the timer happens before the alarm goroutine's read (program order, the publication→receipt edge,
program order), the owner's write AFTER it does not — although a third goroutine and the alarm goroutine lock and
unlock a common mutex in between — and the two rows conflict: a data race. -/
theorem C11_timer_goroutine_reading_lent_argument_races :
    (∃ sf, xrun 1 XState.init exAlarm = some sf) ∧ Conforms 1 (fun _ => 0) [lentW, lentR] exAlarm
    ∧ exAlarm[0]? = some (XEv.acc 1 lentW) ∧ exAlarm[3]? = some (XEv.acc 1 lentW)
    ∧ exAlarm[8]? = some (XEv.acc 2 lentR) ∧ conflict lentW lentR
    ∧ HB exAlarm 0 8 ∧ ¬ HB exAlarm 3 8 ∧ ¬ HB exAlarm 8 3 :=
  have h := C11_lent_argument_unordered (es := exAlarm) (i := 3) (j := 8) (t₁ := 1) (t₂ := 2) (a := lentW)
    (b := lentR) (by decide) rfl rfl (by decide) (Or.inl (by decide +kernel))
  ⟨⟨⟨[], [], true, [2]⟩, rfl⟩, conformsB_sound (by decide +kernel), rfl, rfl, rfl,
    ⟨rfl, Or.inl rfl⟩,
    hb_via (p := 1) (q := 2) (ei := XEv.acc 1 lentW) (ep := XEv.pub 1) (eq := XEv.get 2) (ej := XEv.acc 2 lentR)
      rfl rfl rfl rfl (by decide) nofun (HB.publ (by decide) rfl rfl) (by decide) rfl rfl,
    h.1, h.2⟩

/-- …the other order in time (the wait was in the precondition callback, the library filters the update
afterwards): the reader never releases, so the owner's later write is unordered with the read as well, even
though the owner takes a lock in between. -/
example : (∃ sf, xrun 1 XState.init exAlarmLate = some sf) ∧ Conforms 1 (fun _ => 0) [lentW, lentR] exAlarmLate
    ∧ ¬ HB exAlarmLate 3 6 ∧ ¬ HB exAlarmLate 6 3 :=
  have h := C11_lent_argument_unordered (es := exAlarmLate) (i := 3) (j := 6) (t₁ := 2) (t₂ := 1) (a := lentR)
    (b := lentW) (by decide) rfl rfl (by decide) (Or.inl (by decide +kernel))
  ⟨⟨⟨[], [], true, [2]⟩, rfl⟩, conformsB_sound (by decide +kernel), h.1, h.2⟩

/-- the side conditions are not vacuous: with a release by the first goroutine and an acquire by the second
in between (the fix: hand the goroutine a copy made before it starts, or join it) both checks fail and the
accesses ARE ordered -/
example : noReleaseBy exLocked 1 3 6 = false ∧ noAcquireBy exLocked 2 3 6 = false ∧ HB exLocked 3 6 :=
  ⟨by decide +kernel, by decide +kernel,
   hb_via (p := 4) (q := 5) (ei := XEv.acc 1 exW) (ep := XEv.rel 1 0 .excl) (eq := XEv.acq 2 0 .shared)
    (ej := XEv.acc 2 exR) rfl rfl rfl rfl (by decide) nofun (HB.lock (by decide) rfl rfl (Or.inl rfl)) (by decide)
    rfl rfl⟩

/-- the pair of rows `lent.go` emits refutes the discipline -/
example : ¬ raceFree [lentW, lentR] := by decide +kernel

end ScVerif.C11
