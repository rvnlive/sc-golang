import ScVerif.C11.Exec
/-!
C11 — who has to synchronise.

`hb_needs_sync` (ExecLemmas.lean) says that happens-before between two goroutines needs *some* release between the
two positions.  That is weaker than what the argument for a lent argument needs: a goroutine the library
starts from a timer (the "took too long" alarm of `Value.set`) and the goroutine that is still inside the
write are ordered by the start of the timer for everything the writer did BEFORE it — and by nothing for
what the writer does afterwards, however much OTHER goroutines lock, close and publish in between.

What is needed is `Chain.needs_own`: the path leaves the first goroutine through a release of ITS OWN and enters the
second through an acquire of ITS OWN, for every list of events (no validity needed).  Here: the decidable readings
of "none of its own in between"; each is `noneIn` of `Chain.lean` at a predicate (`noReleaseBy_eq`, `noAcquireBy_eq`).
-/
namespace ScVerif.C11

/-- decidable reading used by the examples: goroutine `t` executes no release at the positions `[i, j)` -/
def noReleaseBy (es : List XEv) (t i j : Nat) : Bool :=
  (List.range (j - i)).all fun d => match es[i + d]? with
    | some e => !(e.isRelease && e.thr == t)
    | none => true

/-- …and no acquire at the positions `(i, j]` -/
def noAcquireBy (es : List XEv) (t i j : Nat) : Bool :=
  (List.range (j - i)).all fun d => match es[i + 1 + d]? with
    | some e => !(e.isAcquire && e.thr == t)
    | none => true

end ScVerif.C11
