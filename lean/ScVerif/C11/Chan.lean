import ScVerif.C11.Run
/-!
Why a channel-close edge *orders* two accesses: a small-step semantics of closing a channel and of
observing it closed (a receive that returns because the channel is closed — `<-c` on a channel nobody
sends on, or the `!ok` branch of `v, ok := <-c`).  A channel is closed at most once (a second `close`
panics: not an execution), and it can be observed closed only after it has been closed.  Theorem: in
every execution, an observation of `c` is preceded by THE close of `c`; so if the first access is
followed in program order by its goroutine's `close(c)` and the second access is preceded in program
order by its goroutine's observation of `c`, the execution runs access₁ … close … observe … access₂
(the Go memory model: "the closing of a channel is synchronized before a receive that returns because
the channel is closed" — that edge is assumed, its existence in every execution is what is proved).
-/
namespace ScVerif.C11

inductive CEv where
  | close (t c : Nat)
  | obs (t c : Nat)
  | acc (t id : Nat)
  deriving DecidableEq, Repr

/-- the channels closed so far -/
abbrev CState := List Nat

def cstep (st : CState) : CEv → Option CState
  | .close _ c => if st.contains c then none else some (c :: st)
  | .obs _ c => if st.contains c then some st else none
  | .acc _ _ => some st

def crun (st : CState) : List CEv → Option CState
  | [] => some st
  | e :: es => (cstep st e).bind fun st' => crun st' es

section Step
variable {st st' : CState} {t c : Nat}

theorem cstep_close : cstep st (.close t c) = some st' ↔ c ∉ st ∧ c :: st = st' := by
  simp only [cstep, Option.ite_none_left_eq_some, Option.some.injEq, List.contains_iff_mem]

theorem cstep_obs : cstep st (.obs t c) = some st' ↔ c ∈ st ∧ st = st' := by
  simp only [cstep, Option.ite_none_right_eq_some, Option.some.injEq, List.contains_iff_mem]

end Step

theorem cstep_mono {st st' : CState} {e : CEv} (h : cstep st e = some st') {c : Nat} (hc : c ∈ st) :
    c ∈ st' := by
  cases e with
  | close t c' => exact (cstep_close.mp h).2 ▸ List.mem_cons_of_mem _ hc
  | obs t c' => exact (cstep_obs.mp h).2 ▸ hc
  | acc t id => cases h; exact hc

theorem isRun_crun : IsRun cstep crun := ⟨fun _ => rfl, fun _ _ _ => rfl⟩

theorem crun_mono {es : List CEv} : ∀ {st st' : CState}, crun st es = some st' → ∀ {c : Nat}, c ∈ st → c ∈ st' :=
  fun h c hc => isRun_crun.inv (c ∈ ·) hc (fun _ _ _ hs h => cstep_mono h hs) _ (IsRun.at_end h)

theorem cstep_closed_gain {st st' : CState} {e : CEv} {c : Nat} (h : cstep st e = some st') (hn : c ∉ st)
    (hp : c ∈ st') : ∃ t, e = CEv.close t c := by
  cases e with
  | close t c' => exact ⟨t, by rw [(List.mem_cons.mp ((cstep_close.mp h).2 ▸ hp)).resolve_right hn]⟩
  | obs t c' => exact absurd ((cstep_obs.mp h).2 ▸ hp) hn
  | acc t id => cases h; exact absurd hp hn

theorem crun_gains {es : List CEv} : ∀ {st st' : CState} {c : Nat}, c ∉ st → crun st es = some st' → c ∈ st' →
    ∃ t x y, es = x ++ CEv.close t c :: y := by
  intro st st' c hn h hin
  obtain ⟨p, s, e, s', _, _, _, he, hst, hn', hp'⟩ :=
    isRun_crun.gain (c ∈ ·) (Nat.zero_le _) rfl (IsRun.at_end h) hn hin
  obtain ⟨t, rfl⟩ := cstep_closed_gain hst hn' hp'
  exact ⟨t, _, _, (Base.set_split (CEv.close t c) he).1⟩

theorem close_before_obs {es p q p' q' : List CEv} {st : CState} {t₁ t₂ c : Nat}
    (hrun : crun [] es = some st) (hobs : es = p ++ CEv.obs t₂ c :: q)
    (hclose : es = p' ++ CEv.close t₁ c :: q') : ∃ m, p = p' ++ CEv.close t₁ c :: m := by
  subst hobs
  obtain ⟨mid, _, hq⟩ := isRun_crun.append_inv hrun
  rcases List.append_eq_append_iff.mp hclose with ⟨a', _, ha⟩ | ⟨a', hpp, ha⟩
  · -- the given close would lie after the observation, where `c` is closed already and stays so: a
    -- second close is refused
    cases a' with
    | nil => cases ha
    | cons e m =>
      obtain ⟨rfl, rfl⟩ := List.cons.inj ha
      obtain ⟨s₁, h₁, h₂⟩ := isRun_crun.append_inv (a := CEv.obs t₂ c :: m) hq
      obtain ⟨s₀, hs, h₁⟩ := isRun_crun.cons_inv h₁
      obtain ⟨_, h₃, _⟩ := isRun_crun.cons_inv h₂
      exact absurd (crun_mono h₁ ((cstep_obs.mp hs).2 ▸ (cstep_obs.mp hs).1)) (cstep_close.mp h₃).1
  · cases a' with
    | nil => cases ha
    | cons e m => exact ⟨m, by rw [hpp, (List.cons.inj ha).1]⟩

end ScVerif.C11
