import ScVerif.C11.ExecNeedLemmas
import ScVerif.C11.LocksetLemmas
import ScVerif.C11.Examples
/-!
C11 — property theorems about EXECUTIONS (`Exec.lean`).  The central statement: lock discipline ⇒ data-race freedom of
the modelled executions.  What stays assumed is only that the runtime really synchronises at the four kinds of edge (Go
memory model) and that the extraction's claims (`Conforms`) are true of the running program.
-/
namespace ScVerif.C11

/-- **Lock discipline ⇒ every conflicting pair is ordered by happens-before, in every execution**, for every creator
goroutine and every assignment of roles to goroutines — through the publication or through the other goroutine's leave
and the creator's join (the two readings of the constructor phase), a release/acquire pair of a common mutex, or a
close/observe pair of a channel; rows of one role are never on two goroutines. -/
theorem C11_discipline_orders_every_execution {cr : Nat} {ρ : Nat → Nat} {tbl : List Access} {es : List XEv}
    {sf : XState} (hrf : raceFree tbl) (hv : xrun cr XState.init es = some sf) (hc : Conforms cr ρ tbl es)
    {i j t₁ t₂ : Nat} {a b : Access} (hij : i < j) (hi : es[i]? = some (XEv.acc t₁ a))
    (hj : es[j]? = some (XEv.acc t₂ b)) (hne : t₁ ≠ t₂) (hcf : conflict a b) : HB es i j :=
  discipline_orders hrf hv hc hij hi hj hne hcf

/-- **No data race**: two conflicting accesses by different goroutines are ordered by happens-before one way or the
other, wherever they stand in the execution. -/
theorem C11_no_data_race {cr : Nat} {ρ : Nat → Nat} {tbl : List Access} {es : List XEv} {sf : XState}
    (hrf : raceFree tbl) (hv : xrun cr XState.init es = some sf) (hc : Conforms cr ρ tbl es)
    {i j t₁ t₂ : Nat} {a b : Access} (hi : es[i]? = some (XEv.acc t₁ a)) (hj : es[j]? = some (XEv.acc t₂ b))
    (hne : t₁ ≠ t₂) (hcf : conflict a b) : HB es i j ∨ HB es j i :=
  no_data_race hrf _ _ _ _ hv hc _ _ _ _ _ _ hi hj hne hcf

/-- the hypotheses are satisfiable (`exLocked`: a valid, conforming execution of a race-free table with a
conflicting pair on two goroutines — writer then reader of one RWMutex after publication), and the
conclusion is the expected chain -/
example : HB exLocked 3 6 :=
  C11_discipline_orders_every_execution (cr := 1) (ρ := fun _ => 0) (tbl := [exW, exR])
    (sf := ⟨[(2, 0, .shared)], [], true, [2]⟩) (t₁ := 1) (t₂ := 2) (a := exW) (b := exR)
    (by decide +kernel) rfl (conformsB_sound (by decide +kernel)) (by decide) rfl rfl (by decide)
    ⟨rfl, Or.inl rfl⟩

/-- (`exMixed`) constructor phase, channel-close edge and a single-goroutine role in one execution: the creator
writes before publishing, then closes channel 7 after its last write; goroutine 2 reads after observing
the close and leaves; the creator joins and writes again (constructor phase after the join); role 5 rows
all run on goroutine 1 -/
example : HB exMixed 0 7 ∧ HB exMixed 4 7 ∧ HB exMixed 7 10 :=
  have hrf : raceFree [exInit, exRel, exAcq] := by decide +kernel
  have hv : xrun 1 XState.init exMixed = some ⟨[], [7], false, []⟩ := rfl
  have hc : Conforms 1 (fun _ => 1) [exInit, exRel, exAcq] exMixed := conformsB_sound (by decide +kernel)
  ⟨C11_discipline_orders_every_execution hrf hv hc (t₁ := 1) (t₂ := 2) (a := exInit) (b := exAcq)
      (by decide) rfl rfl (by decide) ⟨rfl, Or.inl rfl⟩,
   C11_discipline_orders_every_execution hrf hv hc (t₁ := 1) (t₂ := 2) (a := exRel) (b := exAcq)
      (by decide) rfl rfl (by decide) ⟨rfl, Or.inl rfl⟩,
   C11_discipline_orders_every_execution hrf hv hc (t₁ := 2) (t₂ := 1) (a := exAcq) (b := exInit)
      (by decide) rfl rfl (by decide) ⟨rfl, Or.inr rfl⟩⟩

/-- Happens-before never contradicts the order of the execution (so it is irreflexive and acyclic: the
conclusion of `C11_discipline_orders_every_execution` is not a relation that holds of everything). -/
theorem C11_hb_follows_execution_order {es : List XEv} {i j : Nat} (h : HB es i j) : i < j := hb_lt h

/-- Two goroutines are ordered only through a synchronisation operation: happens-before between them needs a release
(unlock, close, publication, leave) at or after the first position and before the second. -/
theorem C11_hb_needs_synchronisation {es : List XEv} {i j : Nat} {e₁ e₂ : XEv} (h : HB es i j)
    (h₁ : es[i]? = some e₁) (h₂ : es[j]? = some e₂) (hne : e₁.thr ≠ e₂.thr) :
    ∃ p e, i ≤ p ∧ p < j ∧ es[p]? = some e ∧ e.isRelease = true :=
  hb_needs_sync h h₁ h₂ hne

/-- **The discipline is needed**: the row of a write under `RLock` (`exShW`) has a conforming
execution with a data race — two goroutines hold the read lock together and write; the two accesses are
not ordered by happens-before in either direction. -/
theorem C11_shared_write_execution_races :
    (∃ sf, xrun 1 XState.init exRacy = some sf) ∧ Conforms 1 (fun _ => 0) [exShW] exRacy
    ∧ exRacy[4]? = some (XEv.acc 1 exShW) ∧ exRacy[5]? = some (XEv.acc 2 exShW) ∧ conflict exShW exShW
    ∧ ¬ HB exRacy 4 5 ∧ ¬ HB exRacy 5 4 :=
  ⟨⟨⟨[(2, 0, .shared), (1, 0, .shared)], [], true, [2]⟩, rfl⟩, conformsB_sound (by decide +kernel), rfl,
    rfl, ⟨rfl, Or.inl rfl⟩,
    not_hb_of_no_sync (e₁ := XEv.acc 1 exShW) (e₂ := XEv.acc 2 exShW) rfl rfl (by decide) rfl,
    fun h => absurd (hb_lt h) (by decide)⟩

/-- **Construction before publication**: while the object is private to its creator (not yet published, or joined
again) no other goroutine can reach it — what makes the table's constructor-phase rows ordered with everything. -/
theorem C11_unpublished_access_is_creators {cr : Nat} {es : List XEv} {sf : XState}
    (hv : xrun cr XState.init es = some sf) {k t : Nat} {a : Access} {s : XState}
    (he : es[k]? = some (XEv.acc t a)) (hs : stAt cr es k = some s) (hu : s.pubd = false) : t = cr :=
  acc_unpublished_creator hv he hs hu

/-- …and it is not vacuous: another goroutine's access before the publication is not an execution -/
example : xrun 1 XState.init [.acc 2 exInit] = none ∧ xrun 1 XState.init [.get 2] = none
    ∧ xrun 1 XState.init [.pub 2] = none
    ∧ xrun 1 XState.init [.pub 1, .get 2, .join 1] = none
    ∧ xrun 1 XState.init [.pub 1, .get 2, .leave 2, .join 1, .acc 2 exAcq] = none := by decide +kernel

/-- **Mutual exclusion as an invariant of every execution.** -/
theorem C11_mutex_invariant {cr : Nat} {es : List XEv} {k : Nat} {s : XState} (hs : stAt cr es k = some s) :
    (∀ t t' l m m', (t, l, m) ∈ s.held → (t', l, m') ∈ s.held → t ≠ t' → m = LMode.shared ∧ m' = LMode.shared)
    ∧ (∀ t l m m', (t, l, m) ∈ s.held → (t, l, m') ∈ s.held → m = m') :=
  ⟨(xinv_at hs).1, (xinv_at hs).2.1⟩

/-- The release/acquire pair between two holders, by positions; the release is in the mode the lock was held. -/
theorem C11_lock_edge_between {cr : Nat} {es : List XEv} {i j t₁ t₂ l : Nat} {m₁ m₂ : LMode} {si sj : XState}
    (hij : i ≤ j) (hi : stAt cr es i = some si) (hj : stAt cr es j = some sj)
    (h₁ : (t₁, l, m₁) ∈ si.held) (h₂ : (t₂, l, m₂) ∈ sj.held) (hne : t₁ ≠ t₂)
    (hx : m₁ = LMode.excl ∨ m₂ = LMode.excl) :
    ∃ p q, i ≤ p ∧ p < q ∧ q < j ∧ es[p]? = some (XEv.rel t₁ l m₁) ∧ es[q]? = some (XEv.acq t₂ l m₂) :=
  lock_edge_between hij hi hj h₁ h₂ hne hx

/-- the decision procedure the examples (and the driver) use for `Conforms` is sound -/
theorem C11_conforms_check_sound {cr : Nat} {ρ : Nat → Nat} {tbl : List Access} {es : List XEv}
    (h : conformsB cr ρ tbl es = true) : Conforms cr ρ tbl es :=
  conformsB_sound h

/-- …and it rejects an execution that does not do what the table says (the access without its lock) -/
example : conformsB 1 (fun _ => 0) [exW] [.acc 1 exW] = false := by decide

/-- **The discipline is necessary, pair by pair.**  The side condition `WfRow` excludes only rows that have no
execution at all or name a lock twice.  The execution: a third goroutine closes the channels the rows want observed,
goroutine 1 observes its channels and performs `a` holding `a`'s locks, goroutine 2 likewise performs `b`. -/
theorem C11_unordered_pair_has_racy_execution {a b : Access} (hno : ¬ ordered a b)
    (hwa : WfRow a) (hwb : WfRow b) :
    ∃ (ρ : Nat → Nat) (es : List XEv) (sf : XState) (i j : Nat), xrun 1 XState.init es = some sf
      ∧ Conforms 1 ρ [a, b] es ∧ es[i]? = some (XEv.acc 1 a) ∧ es[j]? = some (XEv.acc 2 b)
      ∧ ¬ HB es i j ∧ ¬ HB es j i :=
  unordered_pair_races hno hwa hwb

/-- the hypotheses are satisfiable: a reader under `RLock` of one mutex and a writer under `Lock` of
ANOTHER mutex (the shape of a write guarded by the wrong lock) that has waited for channel 8 and closes
channel 9 afterwards -/
example : ¬ ordered exR ⟨0, .W, 3, [(1, .excl)], .live, 0, [9], [8]⟩ ∧ WfRow exR
    ∧ WfRow ⟨0, .W, 3, [(1, .excl)], .live, 0, [9], [8]⟩ :=
  ⟨fun h => absurd ((orderedB_iff _ _).mpr h) (by decide), (wfRowB_iff _).mp (by decide),
    (wfRowB_iff _).mp (by decide)⟩

/-- …and the side condition excludes only rows that cannot be executed (closed after, observed before) and
rows naming a lock twice -/
example : ¬ WfRow ⟨0, .W, 3, [], .live, 0, [9], [9]⟩ ∧ ¬ WfRow ⟨0, .W, 3, [(1, .excl), (1, .shared)], .live, 0, [], []⟩ :=
  ⟨fun h => absurd ((wfRowB_iff _).mpr h) (by decide), fun h => absurd ((wfRowB_iff _).mpr h) (by decide)⟩

/-- **Lock discipline ⇔ data-race freedom of the modelled executions**, for every table of well-formed rows.
(⇒ holds for every table: `C11_no_data_race`.) -/
theorem C11_discipline_iff_no_race (tbl : List Access) (hwf : ∀ a ∈ tbl, WfRow a) : raceFree tbl ↔ NoRace tbl :=
  ⟨no_data_race, raceFree_of_noRace hwf⟩

/-- the side condition is satisfiable by a table with a reader/writer pair under one RWMutex -/
example : ∀ a ∈ [exW, exR, exRel, exAcq], WfRow a := by
  intro a ha
  simp only [List.mem_cons, List.not_mem_nil, or_false] at ha
  rcases ha with rfl | rfl | rfl | rfl <;> exact (wfRowB_iff _).mp (by decide)

end ScVerif.C11
