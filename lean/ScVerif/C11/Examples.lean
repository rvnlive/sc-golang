import ScVerif.C11.Many
/-! C11 — the example rows and executions the property modules use (non-vacuity of the theorems, and the named
shapes of /repo). -/
namespace ScVerif.C11

/-- the writer/reader pair of one RWMutex on two goroutines, after publication -/
def exW : Access := ⟨0, .W, 0, [(0, .excl)], .live, 0, [], []⟩
def exR : Access := ⟨0, .R, 1, [(0, .shared)], .live, 0, [], []⟩
def exLocked : List XEv :=
  [.pub 1, .get 2, .acq 1 0 .excl, .acc 1 exW, .rel 1 0 .excl, .acq 2 0 .shared, .acc 2 exR]

/-- constructor phase (before publication and after the join), channel-close edge and a role -/
def exInit : Access := ⟨0, .W, 0, [], .init, 0, [], []⟩
def exRel : Access := ⟨0, .W, 1, [], .live, 5, [7], []⟩
def exAcq : Access := ⟨0, .R, 2, [], .live, 0, [], [7]⟩
def exMixed : List XEv :=
  [.acc 1 exInit, .pub 1, .get 2, .acc 1 exRel, .acc 1 exRel, .close 1 7, .obs 2 7, .acc 2 exAcq,
   .leave 2, .join 1, .acc 1 exInit]

/-- a write under `RLock` (`genID` on the shared `rand.Rand`), and two goroutines doing it together -/
def exShW : Access := ⟨0, .W, 0, [(0, .shared)], .live, 0, [], []⟩
def exRacy : List XEv :=
  [.pub 1, .get 2, .acq 1 0 .shared, .acq 2 0 .shared, .acc 1 exShW, .acc 2 exShW]

/-- A timer goroutine reading a lent message.  The object is the message a caller hands to `Value.Set`; its creator
(goroutine 1) is the writing goroutine.
`lentW`: the writes the owner's side makes into the message while the call is open (`FieldUpdater.Merge`
filtering the update in place, a delta `InterceptBefore`); `lentR`: a goroutine the library started reading
it (the alarm formatting `%v`).  Both rows are lock-free and live — what `lent.go` emits (it also gives the
owner's row a single-goroutine role, so that the owner's writes are ordered with each other; not needed here). -/
def lentW : Access := ⟨0, .W, 1, [], .live, 0, [], []⟩
def lentR : Access := ⟨0, .R, 2, [], .live, 0, [], []⟩

/-- 0: the owner writes the message (builds it); 1: the write call arms the timer = hands the message to the
alarm goroutine; 2: the alarm goroutine starts; 3: the owner's side writes the message again (Merge / the
interceptor); 4–7: a third goroutine and the alarm goroutine synchronise with EACH OTHER through a mutex
(the logger's, the allocator's, …); 8: the alarm goroutine reads the message. -/
def exAlarm : List XEv :=
  [.acc 1 lentW, .pub 1, .get 2, .acc 1 lentW, .acq 3 0 .excl, .rel 3 0 .excl, .acq 2 0 .excl, .rel 2 0 .excl,
   .acc 2 lentR]

/-- the slow-check variant: the alarm goroutine reads first, the owner's side writes afterwards (the wait was
in `WithExpectedCheck`, `Merge` runs after it); the owner even takes a lock in between — one nobody released
after the read -/
def exAlarmLate : List XEv :=
  [.acc 1 lentW, .pub 1, .get 2, .acc 2 lentR, .acq 1 0 .excl, .rel 1 0 .excl, .acc 1 lentW]

/-- two collections (objects 0 and 1) created by goroutine 0; goroutines 1 and 2 hold "lock 0" exclusively
AT THE SAME TIME, each on its own object, and write; later goroutine 2 writes object 0 under object 0's lock -/
def exTwo : List MEv :=
  [(0, .pub 0), (1, .pub 0), (0, .get 1), (1, .get 2), (0, .get 2),
   (0, .acq 1 0 .excl), (1, .acq 2 0 .excl), (0, .acc 1 exW), (1, .acc 2 exW), (0, .rel 1 0 .excl),
   (1, .rel 2 0 .excl), (0, .acq 2 0 .excl), (0, .acc 2 exW), (0, .rel 2 0 .excl)]

/-- goroutine 1 holds the lock of object 0 while it writes object 1 (a callee reaching a second instance of
the type while the caller holds the first one's lock); goroutine 2 writes object 1 under object 1's lock -/
def exOther : List MEv :=
  [(0, .pub 0), (1, .pub 0), (0, .get 1), (1, .get 1), (1, .get 2),
   (0, .acq 1 0 .excl), (1, .acc 1 exW), (1, .acq 2 0 .excl), (1, .acc 2 exW), (1, .rel 2 0 .excl),
   (0, .rel 1 0 .excl)]

/-- A lent argument next to the resource it is lent to.  Object 0 is the resource (a `Value` with its `mu` = lock 0),
object 1 the message a caller hands to a write
call; goroutine 1 is the caller (creator of the message), goroutine 2 a goroutine the library starts from a
timer with the message, goroutine 3 a reader of the resource.
0: the caller builds the message; 1–2: the write call arms the timer = hands the message over, the timer
goroutine starts; 3–5: under the RESOURCE's write lock the caller's side writes the message (Merge's in-place
filter); 6–7: a reader of the resource; 8: the timer goroutine reads the message. -/
def exLent : List MEv :=
  [(1, .acc 1 lentW), (1, .pub 1), (1, .get 2), (0, .acq 1 0 .excl), (1, .acc 1 lentW), (0, .rel 1 0 .excl),
   (0, .acq 3 0 .shared), (0, .rel 3 0 .shared), (1, .acc 2 lentR)]

end ScVerif.C11
