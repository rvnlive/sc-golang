import ScVerif.C11.Exec
/-!
C11 — MANY objects.  `Exec.lean` is the view of ONE object: its lock and channel numbers are the table's
per-type numbers.  A running program has many instances of a type (and objects of many types) at once; lock 0
of one `Collection` is not lock 0 of another.  This file puts any number of objects side by side:

* an event `(o, e)` is the event `e` of `Exec.lean` on object `o`; the state is one `XState` per object; a
  step changes the state of its object only (`mstep`);
* happens-before (`MHB`) has program order ACROSS objects (a goroutine's events are ordered whatever
  objects they touch) and the four synchronisation edges only WITHIN an object (an unlock of object `o`
  synchronises with a later lock of the same lock of the same object, not with the lock of the same
  number of another instance);

and `ManyLemmas.lean` proves that the one-object view is sound and loses nothing: a list of events is an execution iff every
object's projection is one (instances never block one another); an object's happens-before is the program's, at the
positions `pos`; race freedom of a table's executions is the same notion for one object and for any number, whatever
happens on objects that conform to nothing.
-/
namespace ScVerif.C11

abbrev MEv := Nat × XEv

/-- one step of the many-object semantics: the event's object steps, all others stay (`cr o` is the
creator of object `o`) -/
def mstep (cr : Nat → Nat) (S : Nat → XState) (e : MEv) : Option (Nat → XState) :=
  (xstep (cr e.1) (S e.1) e.2).map fun s' => fun o => if o = e.1 then s' else S o

def mrun (cr : Nat → Nat) (S : Nat → XState) : List MEv → Option (Nat → XState)
  | [] => some S
  | e :: es => (mstep cr S e).bind fun S' => mrun cr S' es

def minit : Nat → XState := fun _ => XState.init

def proj (o : Nat) : List MEv → List XEv
  | [] => []
  | e :: es => if e.1 = o then e.2 :: proj o es else proj o es

/-- the position in the whole execution of the `i`-th event of object `o` -/
def pos (o : Nat) : List MEv → Nat → Nat
  | [], i => i
  | e :: es, i =>
    if e.1 = o then (match i with | 0 => 0 | i + 1 => pos o es i + 1) else pos o es i + 1

/-- Happens-before on the positions of a many-object execution: program order (across objects), the four
synchronisation edges (within one object), transitivity. -/
inductive MHB (es : List MEv) : Nat → Nat → Prop
  | po {i j : Nat} {e₁ e₂ : MEv} : i < j → es[i]? = some e₁ → es[j]? = some e₂ → e₁.2.thr = e₂.2.thr → MHB es i j
  | lock {i j o t t' l : Nat} {m₁ m₂ : LMode} : i < j → es[i]? = some (o, XEv.rel t l m₁) →
      es[j]? = some (o, XEv.acq t' l m₂) → (m₁ = LMode.excl ∨ m₂ = LMode.excl) → MHB es i j
  | chan {i j o t t' c : Nat} : i < j → es[i]? = some (o, XEv.close t c) → es[j]? = some (o, XEv.obs t' c) → MHB es i j
  | publ {i j o t t' : Nat} : i < j → es[i]? = some (o, XEv.pub t) → es[j]? = some (o, XEv.get t') → MHB es i j
  | join {i j o t t' : Nat} : i < j → es[i]? = some (o, XEv.leave t) → es[j]? = some (o, XEv.join t') → MHB es i j
  | trans {i j k : Nat} : MHB es i j → MHB es j k → MHB es i k

def msyncBetween (es : List MEv) (i j : Nat) : Bool :=
  (List.range j).any fun p => decide (i ≤ p) && (match es[p]? with | some e => e.2.isRelease | none => false)

/-- run as far as the semantics allows: number of accepted events (driver op `many`) -/
def mrunCount (cr : Nat → Nat) (S : Nat → XState) : List MEv → Nat × (Nat → XState)
  | [] => (0, S)
  | e :: es =>
    match mstep cr S e with
    | some S' => let r := mrunCount cr S' es; (r.1 + 1, r.2)
    | none => (0, S)

def mvalid (cr : Nat → Nat) (es : List MEv) : Bool := (mrun cr minit es).isSome

/-- `noReleaseBy` / `noAcquireBy` with releases and acquires of any object (again `noneIn` at a predicate:
`mnoReleaseBy_eq`, `mnoAcquireBy_eq`) -/
def mnoReleaseBy (es : List MEv) (t i j : Nat) : Bool :=
  (List.range (j - i)).all fun d => match es[i + d]? with
    | some e => !(e.2.isRelease && e.2.thr == t)
    | none => true

def mnoAcquireBy (es : List MEv) (t i j : Nat) : Bool :=
  (List.range (j - i)).all fun d => match es[i + 1 + d]? with
    | some e => !(e.2.isAcquire && e.2.thr == t)
    | none => true

/-- data-race freedom of the many-object executions of a table (every object conforms to it) -/
def MNoRace (tbl : List Access) : Prop :=
  ∀ (cr : Nat → Nat) (ρ : Nat → Nat → Nat) (es : List MEv) (Sf : Nat → XState), mrun cr minit es = some Sf →
    (∀ o, Conforms (cr o) (ρ o) tbl (proj o es)) → ∀ (o p q t₁ t₂ : Nat) (a b : Access),
    es[p]? = some (o, XEv.acc t₁ a) → es[q]? = some (o, XEv.acc t₂ b) → t₁ ≠ t₂ → conflict a b →
    MHB es p q ∨ MHB es q p

end ScVerif.C11
