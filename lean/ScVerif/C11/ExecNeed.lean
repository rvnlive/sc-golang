import ScVerif.C11.Exec
/-!
C11 — the witness execution for two rows that `ordered` does not order (that it conforms and has a race:
`ExecNeedLemmas.lean`).  The creator (goroutine 1) publishes the object, goroutine 2 obtains it, a third goroutine
closes every channel one of the rows wants to have observed closed, goroutines 1 and 2 observe theirs,
goroutine 1 takes the locks of row `a`, goroutine 2 the locks of row `b` (possible: every common lock is
shared on both sides), then both access.
-/
namespace ScVerif.C11

def acqEvs (t : Nat) (hs : List (Nat × LMode)) : List XEv := hs.map fun p => XEv.acq t p.1 p.2

/-- core's `List.eraseDups` has no `Nodup` lemma -/
def dedup : List Nat → List Nat
  | [] => []
  | c :: cs => if (dedup cs).contains c then dedup cs else c :: dedup cs

def closeEvs (cs : List Nat) : List XEv := cs.map fun c => XEv.close 3 c
def obsEvs (t : Nat) (cs : List Nat) : List XEv := cs.map fun c => XEv.obs t c

def racyChans (a b : Access) : List Nat := dedup (a.acqBefore ++ b.acqBefore)

def racyPre (a b : Access) : List XEv :=
  [XEv.pub 1, XEv.get 2] ++ closeEvs (racyChans a b) ++ obsEvs 1 a.acqBefore ++ obsEvs 2 b.acqBefore
    ++ acqEvs 1 a.held ++ acqEvs 2 b.held

def racyExec (a b : Access) : List XEv := racyPre a b ++ [XEv.acc 1 a, XEv.acc 2 b]

end ScVerif.C11
