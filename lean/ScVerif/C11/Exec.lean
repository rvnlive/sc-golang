import ScVerif.C11.Trace
/-!
C11 — ONE small-step semantics for everything the table's `ordered` relies on, for one instance of the object (lock
and channel numbers are the table's per-type numbers), shared between goroutines:

* `acq t l m` / `rel t l m` — `sync.Mutex` / `sync.RWMutex`: one exclusive holder or any number of
  shared holders; a goroutine releases only what it holds, in the mode it holds it,
* `close t c` / `obs t c`  — a channel is closed at most once and observed closed only afterwards,
* `pub t` / `get t`        — the creating goroutine `cr` publishes the object (a `go` statement, a channel
  send, a store into something shared); another goroutine obtains the reference only after that,
* `leave t` / `join t`     — a goroutine is done with the object (`wg.Done()`, the close of its result
  channel, its return); the creator joins (`wg.Wait()` returns, the range over the channel ends) only when
  every goroutine that obtained the reference has left — the object is private to the creator again (the
  second reading of the table's constructor phase: a spawner's accesses after the join),
* `acc t a`                — goroutine `t` executes the table row `a`; a goroutine other than the
  creator can touch the object only after it has obtained the reference (memory safety).

Happens-before is the transitive closure of program order and the four synchronisation edges the Go memory model
documents (`Unlock`/`RUnlock` → a later `Lock`, `Unlock` → a later `RLock`; `close` → a receive that returns because
of it; the publication → its receipt; `Done` → the `Wait` that it lets return).  That the runtime really synchronises
there is the Go memory model's and assumed; `Conforms` is the extraction's claim about the running program.
The mutex part is that of `Trace.lean` (`LState`, `canAcq`), except that a release is refused unless the goroutine holds
the lock in the mode the event names.
-/
namespace ScVerif.C11

inductive XEv where
  | acq (t l : Nat) (m : LMode)
  | rel (t l : Nat) (m : LMode)
  | close (t c : Nat)
  | obs (t c : Nat)
  | pub (t : Nat)
  | get (t : Nat)
  | leave (t : Nat)
  | join (t : Nat)
  | acc (t : Nat) (a : Access)
  deriving DecidableEq, Repr

def XEv.thr : XEv → Nat
  | .acq t _ _ => t
  | .rel t _ _ => t
  | .close t _ => t
  | .obs t _ => t
  | .pub t => t
  | .get t => t
  | .leave t => t
  | .join t => t
  | .acc t _ => t

/-- the source of a synchronisation edge: a release, a close, the publication or a leave -/
def XEv.isRelease : XEv → Bool
  | .rel _ _ _ => true
  | .close _ _ => true
  | .pub _ => true
  | .leave _ => true
  | _ => false

/-- the target of a synchronisation edge: an acquire, an observed close, the receipt or a join -/
def XEv.isAcquire : XEv → Bool
  | .acq _ _ _ => true
  | .obs _ _ => true
  | .get _ => true
  | .join _ => true
  | _ => false

structure XState where
  /-- who holds which lock in which mode -/
  held : LState
  /-- channels closed so far -/
  closed : List Nat
  /-- the object is published: reachable by goroutines other than its creator (false again after a join) -/
  pubd : Bool
  /-- goroutines that have obtained a reference to the published object and not left yet -/
  got : List Nat
  deriving DecidableEq, Repr

def XState.init : XState := ⟨[], [], false, []⟩

/-- one step; `none` = not allowed by the runtime (`cr` is the goroutine that created the object) -/
def xstep (cr : Nat) (s : XState) : XEv → Option XState
  | .acq t l m => if canAcq s.held t l m then some { s with held := (t, l, m) :: s.held } else none
  | .rel t l m =>
    if s.held.contains (t, l, m) then
      some { s with held := s.held.filter fun e => !(e.1 == t && e.2.1 == l) }
    else none
  | .close _ c => if s.closed.contains c then none else some { s with closed := c :: s.closed }
  | .obs _ c => if s.closed.contains c then some s else none
  | .pub t => if t == cr && !s.pubd then some { s with pubd := true } else none
  | .get t => if s.pubd then some { s with got := t :: s.got } else none
  | .leave t => some { s with got := s.got.filter fun u => u != t }
  | .join t => if t == cr && s.pubd && s.got.isEmpty then some { s with pubd := false } else none
  | .acc t _ => if t == cr || s.got.contains t then some s else none

def xrun (cr : Nat) (s : XState) : List XEv → Option XState
  | [] => some s
  | e :: es => (xstep cr s e).bind fun s' => xrun cr s' es

/-- the state in which event number `k` is executed -/
def stAt (cr : Nat) (es : List XEv) (k : Nat) : Option XState := xrun cr XState.init (es.take k)

/-- Happens-before on the positions of an execution: program order, the four synchronisation edges,
transitivity. -/
inductive HB (es : List XEv) : Nat → Nat → Prop
  | po {i j : Nat} {e₁ e₂ : XEv} : i < j → es[i]? = some e₁ → es[j]? = some e₂ → e₁.thr = e₂.thr → HB es i j
  | lock {i j t t' l : Nat} {m₁ m₂ : LMode} : i < j → es[i]? = some (XEv.rel t l m₁) →
      es[j]? = some (XEv.acq t' l m₂) → (m₁ = LMode.excl ∨ m₂ = LMode.excl) → HB es i j
  | chan {i j t t' c : Nat} : i < j → es[i]? = some (XEv.close t c) → es[j]? = some (XEv.obs t' c) → HB es i j
  | publ {i j t t' : Nat} : i < j → es[i]? = some (XEv.pub t) → es[j]? = some (XEv.get t') → HB es i j
  | join {i j t t' : Nat} : i < j → es[i]? = some (XEv.leave t) → es[j]? = some (XEv.join t') → HB es i j
  | trans {i j k : Nat} : HB es i j → HB es j k → HB es i k

/-- What the extraction claims of an execution, access event by access event (`cr` the creator of the object, `ρ` the
goroutine that runs the rows of a non-zero role).  It is the trust boundary of the execution theorems: validated by
detector workloads, not proved. -/
structure Conforms (cr : Nat) (ρ : Nat → Nat) (tbl : List Access) (es : List XEv) : Prop where
  /-- every access event is a row of the table -/
  mem : ∀ (k t : Nat) (a : Access), es[k]? = some (XEv.acc t a) → a ∈ tbl
  /-- executed while its goroutine holds the locks the row lists -/
  held : ∀ (k t : Nat) (a : Access) (s : XState), es[k]? = some (XEv.acc t a) → stAt cr es k = some s → ∀ p ∈ a.held, (t, p.1, p.2) ∈ s.held
  /-- a constructor-phase row runs while the object is private to its creator (before the publication or after a join) -/
  init : ∀ (k t : Nat) (a : Access) (s : XState), es[k]? = some (XEv.acc t a) → stAt cr es k = some s → a.phase = Phase.init → s.pubd = false
  /-- rows of one non-zero role run on one goroutine -/
  role : ∀ (k t : Nat) (a : Access), es[k]? = some (XEv.acc t a) → a.role ≠ 0 → t = ρ a.role
  /-- the close of a channel listed in `relAfter`, if it has happened, was done by the same goroutine after the access (it
  is the unique close of that channel) -/
  rel : ∀ (k t : Nat) (a : Access), es[k]? = some (XEv.acc t a) → ∀ c ∈ a.relAfter, ∀ (p t' : Nat), es[p]? = some (XEv.close t' c) → t' = t ∧ k < p
  /-- a channel listed in `acqBefore` has been observed closed by the goroutine before -/
  acq : ∀ (k t : Nat) (a : Access), es[k]? = some (XEv.acc t a) → ∀ c ∈ a.acqBefore, ∃ p, p < k ∧ es[p]? = some (XEv.obs t c)

/-- the side condition on rows: each lock named once, no channel both closed after and observed before -/
def WfRow (a : Access) : Prop := (∀ c ∈ a.relAfter, c ∉ a.acqBefore) ∧ (a.held.map Prod.fst).Nodup

/-- Data-race freedom of the executions of a table: in every execution that conforms to it, any two
conflicting accesses by different goroutines are ordered by happens-before, one way or the other. -/
def NoRace (tbl : List Access) : Prop :=
  ∀ (cr : Nat) (ρ : Nat → Nat) (es : List XEv) (sf : XState), xrun cr XState.init es = some sf →
    Conforms cr ρ tbl es → ∀ (i j t₁ t₂ : Nat) (a b : Access), es[i]? = some (XEv.acc t₁ a) →
    es[j]? = some (XEv.acc t₂ b) → t₁ ≠ t₂ → conflict a b → HB es i j ∨ HB es j i

end ScVerif.C11
