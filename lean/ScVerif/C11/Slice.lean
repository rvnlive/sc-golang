/-!
C11 — a model of Go's `append` on a slice header, as far as aliasing is concerned.

The `arg:` rows of the table (harness/cmd/c11/args.go) say: `append(a, …)` with a caller-backed `a` is a
WRITE to memory the caller lent.  This file gives that rule its meaning.  A slice is a view
`(arr, len, cap)` of a backing array (cells are numbered from the slice's own start); `append s n`
(n new elements) works in place when `len + n ≤ cap` — it then writes the cells `len … len+n-1` of
`arr`, which lie behind the part the caller can see — and otherwise copies to a new array and leaves
`arr` alone.  (How much capacity a new array gets is the runtime's business and not modelled.)
The driver evaluates `appendWrites` / `appendInPlace`; the harness compares them with the real `append`
for every `0 ≤ len ≤ cap ≤ 7`, `0 ≤ n ≤ 4` (tie `append-aliasing`).
-/
namespace ScVerif.C11

structure Slice where
  arr : Nat
  len : Nat
  cap : Nat
  deriving DecidableEq, Repr

/-- `append` reuses the backing array -/
def appendInPlace (s : Slice) (n : Nat) : Bool := decide (s.len + n ≤ s.cap)

/-- the cells of the EXISTING backing array that `append s n` writes -/
def appendWrites (s : Slice) (n : Nat) : List (Nat × Nat) :=
  if appendInPlace s n then (List.range n).map fun i => (s.arr, s.len + i) else []

/-- the result's header when `append` works in place (otherwise it is a view of a new array) -/
def appendResult (s : Slice) (n : Nat) (fresh : Nat) : Slice :=
  if appendInPlace s n then { s with len := s.len + n } else { arr := fresh, len := s.len + n, cap := s.len + n }

/-- `s[:len(s):len(s)]`: the same elements, no room behind them -/
def Slice.full (s : Slice) : Slice := { s with cap := s.len }

theorem mem_appendWrites {s : Slice} {n : Nat} {c : Nat × Nat} :
    c ∈ appendWrites s n ↔ s.len + n ≤ s.cap ∧ c.1 = s.arr ∧ s.len ≤ c.2 ∧ c.2 < s.len + n := by
  unfold appendWrites appendInPlace
  by_cases h : s.len + n ≤ s.cap
  · rw [if_pos (decide_eq_true h), List.mem_map]
    constructor
    · rintro ⟨i, hi, rfl⟩
      exact ⟨h, rfl, Nat.le_add_right _ _, Nat.add_lt_add_left (List.mem_range.mp hi) _⟩
    · rintro ⟨_, h₁, h₂, h₃⟩
      exact ⟨c.2 - s.len, List.mem_range.mpr (Nat.sub_lt_left_of_lt_add h₂ h₃),
        Prod.ext h₁.symm (Nat.add_sub_cancel' h₂)⟩
  · rw [if_neg (by simpa using h)]
    exact Iff.intro (fun hc => nomatch hc) fun hc => absurd hc.1 h

end ScVerif.C11
