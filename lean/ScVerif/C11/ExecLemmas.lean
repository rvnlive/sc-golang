import ScVerif.C11.ExecCheck
import ScVerif.C11.ExecSync
import ScVerif.C11.TraceLemmas
import ScVerif.C11.Chain
/-! C11 — what the lock discipline means for the executions of `Exec.lean`: the edge each disjunct of `ordered` puts between
two accesses, `discipline_orders`, and what the executable readings of `ExecCheck.lean` / `ExecSync.lean` decide. -/
namespace ScVerif.C11

theorem conforms_of_each {cr : Nat} {ρ : Nat → Nat} {tbl : List Access} {es : List XEv}
    (h : ∀ (k t : Nat) (a : Access), es[k]? = some (XEv.acc t a) →
      a ∈ tbl
      ∧ (∀ s, stAt cr es k = some s → (∀ p ∈ a.held, (t, p.1, p.2) ∈ s.held) ∧ (a.phase = Phase.init → s.pubd = false))
      ∧ (a.role ≠ 0 → t = ρ a.role)
      ∧ (∀ c ∈ a.relAfter, ∀ (p t' : Nat), es[p]? = some (XEv.close t' c) → t' = t ∧ k < p)
      ∧ (∀ c ∈ a.acqBefore, ∃ p, p < k ∧ es[p]? = some (XEv.obs t c))) : Conforms cr ρ tbl es :=
  ⟨fun k t a he => (h k t a he).1, fun k t a s he hs => ((h k t a he).2.1 s hs).1,
    fun k t a s he hs => ((h k t a he).2.1 s hs).2, fun k t a he => (h k t a he).2.2.1,
    fun k t a he => (h k t a he).2.2.2.1, fun k t a he => (h k t a he).2.2.2.2⟩

theorem isRun_xrun (cr : Nat) : IsRun (xstep cr) (xrun cr) := ⟨fun _ => rfl, fun _ _ _ => rfl⟩

theorem xrun_append {cr : Nat} {a b : List XEv} : ∀ {s : XState},
    xrun cr s (a ++ b) = (xrun cr s a).bind fun s' => xrun cr s' b :=
  (isRun_xrun cr).append

theorem stAt_succ {cr : Nat} {es : List XEv} {k : Nat} {e : XEv} {s : XState} (he : es[k]? = some e)
    (hs : stAt cr es k = some s) : stAt cr es (k + 1) = xstep cr s e :=
  (isRun_xrun cr).take_succ he hs

section Step
variable {cr : Nat} {s s' : XState} {e : XEv}

theorem xstep_acq {t l : Nat} {m : LMode} : xstep cr s (.acq t l m) = some s' ↔
    canAcq s.held t l m = true ∧ { s with held := (t, l, m) :: s.held } = s' := by
  simp only [xstep, Option.ite_none_right_eq_some, Option.some.injEq]

theorem xstep_rel {t l : Nat} {m : LMode} : xstep cr s (.rel t l m) = some s' ↔
    (t, l, m) ∈ s.held ∧ { s with held := s.held.filter fun x => !(x.1 == t && x.2.1 == l) } = s' := by
  simp only [xstep, Option.ite_none_right_eq_some, Option.some.injEq, List.contains_iff_mem]

theorem xstep_close {t c : Nat} : xstep cr s (.close t c) = some s' ↔
    c ∉ s.closed ∧ { s with closed := c :: s.closed } = s' := by
  simp only [xstep, Option.ite_none_left_eq_some, Option.some.injEq, List.contains_iff_mem]

theorem xstep_obs {t c : Nat} : xstep cr s (.obs t c) = some s' ↔ c ∈ s.closed ∧ s = s' := by
  simp only [xstep, Option.ite_none_right_eq_some, Option.some.injEq, List.contains_iff_mem]

theorem xstep_pub {t : Nat} : xstep cr s (.pub t) = some s' ↔
    (t = cr ∧ s.pubd = false) ∧ { s with pubd := true } = s' := by
  simp only [xstep, Option.ite_none_right_eq_some, Option.some.injEq, Bool.and_eq_true, beq_iff_eq,
    Bool.not_eq_true']

theorem xstep_get {t : Nat} : xstep cr s (.get t) = some s' ↔
    s.pubd = true ∧ { s with got := t :: s.got } = s' := by
  simp only [xstep, Option.ite_none_right_eq_some, Option.some.injEq]

theorem xstep_leave {t : Nat} : xstep cr s (.leave t) = some s' ↔
    { s with got := s.got.filter fun u => u != t } = s' := by
  simp only [xstep, Option.some.injEq]

theorem xstep_join {t : Nat} : xstep cr s (.join t) = some s' ↔
    ((t = cr ∧ s.pubd = true) ∧ s.got = []) ∧ { s with pubd := false } = s' := by
  simp only [xstep, Option.ite_none_right_eq_some, Option.some.injEq, Bool.and_eq_true, beq_iff_eq,
    List.isEmpty_iff]

theorem xstep_acc {t : Nat} {a : Access} : xstep cr s (.acc t a) = some s' ↔
    (t = cr ∨ t ∈ s.got) ∧ s = s' := by
  simp only [xstep, Option.ite_none_right_eq_some, Option.some.injEq, Bool.or_eq_true, beq_iff_eq,
    List.contains_iff_mem]

theorem xstep_frame (h : xstep cr s e = some s') :
    (s'.held = s.held ∨ (∃ t l m, e = .acq t l m) ∨ ∃ t l m, e = .rel t l m) ∧
    (s'.closed = s.closed ∨ ∃ t c, e = .close t c) ∧
    (s'.pubd = s.pubd ∨ (∃ t, e = .pub t) ∨ ∃ t, e = .join t) ∧
    (s'.got = s.got ∨ (∃ t, e = .get t) ∨ ∃ t, e = .leave t) := by
  cases e
  case acq t l m =>
    obtain ⟨_, rfl⟩ := xstep_acq.mp h
    exact ⟨Or.inr (Or.inl ⟨t, l, m, rfl⟩), Or.inl rfl, Or.inl rfl, Or.inl rfl⟩
  case rel t l m =>
    obtain ⟨_, rfl⟩ := xstep_rel.mp h
    exact ⟨Or.inr (Or.inr ⟨t, l, m, rfl⟩), Or.inl rfl, Or.inl rfl, Or.inl rfl⟩
  case close t c =>
    obtain ⟨_, rfl⟩ := xstep_close.mp h
    exact ⟨Or.inl rfl, Or.inr ⟨t, c, rfl⟩, Or.inl rfl, Or.inl rfl⟩
  case obs t c =>
    obtain ⟨_, rfl⟩ := xstep_obs.mp h
    exact ⟨Or.inl rfl, Or.inl rfl, Or.inl rfl, Or.inl rfl⟩
  case pub t =>
    obtain ⟨_, rfl⟩ := xstep_pub.mp h
    exact ⟨Or.inl rfl, Or.inl rfl, Or.inr (Or.inl ⟨t, rfl⟩), Or.inl rfl⟩
  case get t =>
    obtain ⟨_, rfl⟩ := xstep_get.mp h
    exact ⟨Or.inl rfl, Or.inl rfl, Or.inl rfl, Or.inr (Or.inl ⟨t, rfl⟩)⟩
  case leave t =>
    obtain rfl := xstep_leave.mp h
    exact ⟨Or.inl rfl, Or.inl rfl, Or.inl rfl, Or.inr (Or.inr ⟨t, rfl⟩)⟩
  case join t =>
    obtain ⟨_, rfl⟩ := xstep_join.mp h
    exact ⟨Or.inl rfl, Or.inl rfl, Or.inr (Or.inr ⟨t, rfl⟩), Or.inl rfl⟩
  case acc t a =>
    obtain ⟨_, rfl⟩ := xstep_acc.mp h
    exact ⟨Or.inl rfl, Or.inl rfl, Or.inl rfl, Or.inl rfl⟩

theorem xstep_closed_gain {c : Nat} (h : xstep cr s e = some s') (hn : c ∉ s.closed) (hp : c ∈ s'.closed) :
    ∃ t, e = XEv.close t c := by
  rcases (xstep_frame h).2.1 with heq | ⟨t, d, rfl⟩
  · exact absurd (heq ▸ hp) hn
  · obtain ⟨_, rfl⟩ := xstep_close.mp h
    exact ⟨t, by rw [(List.mem_cons.mp hp).resolve_right hn]⟩

theorem xstep_pubd (h : xstep cr s e = some s') :
    (s.pubd = false → ¬ s'.pubd = false → e = XEv.pub cr) ∧ (¬ s.pubd = false → s'.pubd = false → e = XEv.join cr) := by
  rcases (xstep_frame h).2.2.1 with heq | ⟨t, rfl⟩ | ⟨t, rfl⟩
  · rw [heq]
    exact ⟨fun hp hn => absurd hp hn, fun hn hp => absurd hp hn⟩
  · obtain ⟨⟨rfl, _⟩, rfl⟩ := xstep_pub.mp h
    exact ⟨fun _ _ => rfl, fun _ hn => nomatch hn⟩
  · obtain ⟨⟨⟨rfl, hp⟩, _⟩, rfl⟩ := xstep_join.mp h
    exact ⟨fun hf => (nomatch hp.symm.trans hf), fun _ _ => rfl⟩

theorem xstep_got {t : Nat} (h : xstep cr s e = some s') :
    (t ∉ s.got → t ∈ s'.got → e = XEv.get t) ∧ (t ∈ s.got → t ∉ s'.got → e = XEv.leave t) := by
  rcases (xstep_frame h).2.2.2 with heq | ⟨u, rfl⟩ | ⟨u, rfl⟩
  · rw [heq]
    exact ⟨fun hn hp => absurd hp hn, fun hp hn => absurd hp hn⟩
  · obtain ⟨_, rfl⟩ := xstep_get.mp h
    exact ⟨fun hn hp => by rw [(List.mem_cons.mp hp).resolve_right hn],
      fun hp hn => absurd (List.mem_cons_of_mem _ hp) hn⟩
  · obtain rfl := xstep_leave.mp h
    refine ⟨fun hn hp => absurd (List.mem_filter.mp hp).1 hn, fun hp hn => ?_⟩
    by_cases hu : t = u
    · rw [hu]
    · exact absurd (List.mem_filter.mpr ⟨hp, by simpa using hu⟩) hn

theorem xstep_held {x : Nat × Nat × LMode} (h : xstep cr s e = some s') :
    (x ∉ s.held → x ∈ s'.held → e = XEv.acq x.1 x.2.1 x.2.2) ∧
    (x ∈ s.held → x ∉ s'.held → ∃ m, e = XEv.rel x.1 x.2.1 m ∧ (x.1, x.2.1, m) ∈ s.held) := by
  rcases (xstep_frame h).1 with heq | ⟨t, l, m, rfl⟩ | ⟨t, l, m, rfl⟩
  · rw [heq]
    exact ⟨fun hn hp => absurd hp hn, fun hp hn => absurd hp hn⟩
  · obtain ⟨_, rfl⟩ := xstep_acq.mp h
    exact ⟨fun hn hp => by rw [(List.mem_cons.mp hp).resolve_right hn],
      fun hp hn => absurd (List.mem_cons_of_mem _ hp) hn⟩
  · obtain ⟨hm, rfl⟩ := xstep_rel.mp h
    refine ⟨fun hn hp => absurd (List.mem_filter.mp hp).1 hn, fun hp hn => ?_⟩
    obtain ⟨h₁, h₂⟩ := of_not_mem_release hp hn
    exact ⟨m, by rw [h₁, h₂], by rw [h₁, h₂]; exact hm⟩

end Step

def XGood (s : XState) : Prop := MutexInv s.held ∧ (s.pubd = false → s.got = [])

theorem xgood_step {cr : Nat} (s : XState) (e : XEv) (s' : XState) (hi : XGood s) (h : xstep cr s e = some s') :
    XGood s' := by
  obtain ⟨hc, hg⟩ := hi
  cases e
  case acq t l m =>
    obtain ⟨hca, rfl⟩ := xstep_acq.mp h
    exact ⟨hc.cons hca, hg⟩
  case rel t l m =>
    obtain ⟨_, rfl⟩ := xstep_rel.mp h
    exact ⟨hc.subset fun _ hx => (List.mem_filter.mp hx).1, hg⟩
  case close t c =>
    obtain ⟨_, rfl⟩ := xstep_close.mp h
    exact ⟨hc, hg⟩
  case obs t c =>
    obtain ⟨_, rfl⟩ := xstep_obs.mp h
    exact ⟨hc, hg⟩
  case pub t =>
    obtain ⟨_, rfl⟩ := xstep_pub.mp h
    exact ⟨hc, fun hf => nomatch hf⟩
  case get t =>
    obtain ⟨hp, rfl⟩ := xstep_get.mp h
    exact ⟨hc, fun hf => absurd (hp.symm.trans hf) nofun⟩
  case leave t =>
    obtain rfl := xstep_leave.mp h
    exact ⟨hc, fun hf => by rw [hg hf]; rfl⟩
  case join t =>
    obtain ⟨hj, rfl⟩ := xstep_join.mp h
    exact ⟨hc, fun _ => hj.2⟩
  case acc t a =>
    obtain ⟨_, rfl⟩ := xstep_acc.mp h
    exact ⟨hc, hg⟩

theorem xgood_at {cr : Nat} {es : List XEv} {k : Nat} {s : XState} (h : stAt cr es k = some s) : XGood s :=
  (isRun_xrun cr).inv XGood ⟨MutexInv.nil, fun _ => rfl⟩ xgood_step k h

/-- a goroutine holds a lock in at most one mode -/
def Uniq (st : LState) : Prop := ∀ t l m m', (t, l, m) ∈ st → (t, l, m') ∈ st → m = m'

/-- the proofs use `XGood`; this is its reading with the mutex part spelt as `Compat` and `Uniq` -/
def XInv (s : XState) : Prop := Compat s.held ∧ Uniq s.held ∧ (s.pubd = false → s.got = [])

theorem xinv_at {cr : Nat} {es : List XEv} {k : Nat} {s : XState} (h : stAt cr es k = some s) : XInv s :=
  ⟨(xgood_at h).1.compat, fun _ _ _ _ h₁ h₂ => (xgood_at h).1.mode_eq h₁ h₂, (xgood_at h).2⟩

theorem acc_guard {cr : Nat} {es : List XEv} {sf : XState} (hv : xrun cr XState.init es = some sf)
    {k t : Nat} {a : Access} {s : XState} (he : es[k]? = some (XEv.acc t a)) (hs : stAt cr es k = some s) :
    t = cr ∨ t ∈ s.got := by
  obtain ⟨_, hst⟩ := (isRun_xrun cr).step_at hv he hs
  exact (xstep_acc.mp hst).1

theorem acc_unpublished_creator {cr : Nat} {es : List XEv} {sf : XState} (hv : xrun cr XState.init es = some sf)
    {k t : Nat} {a : Access} {s : XState} (he : es[k]? = some (XEv.acc t a)) (hs : stAt cr es k = some s)
    (hu : s.pubd = false) : t = cr :=
  (acc_guard hv he hs).resolve_right (by rw [(xgood_at hs).2 hu]; exact List.not_mem_nil)

theorem close_before_obs_at {cr : Nat} {es : List XEv} {sf : XState} (hv : xrun cr XState.init es = some sf)
    {q t c : Nat} (he : es[q]? = some (XEv.obs t c)) : ∃ p t', p < q ∧ es[p]? = some (XEv.close t' c) := by
  obtain ⟨sq, hsq⟩ := (isRun_xrun cr).take_some hv q
  obtain ⟨_, hst⟩ := (isRun_xrun cr).step_at hv he hsq
  obtain ⟨p, sp, e, sp', _, hp, _, hep, hstp, hin, hout⟩ :=
    (isRun_xrun cr).gain (fun s => c ∈ s.closed) (Nat.zero_le q) rfl hsq List.not_mem_nil (xstep_obs.mp hst).1
  obtain ⟨t', rfl⟩ := xstep_closed_gain hstp hin hout
  exact ⟨p, t', hp, hep⟩

theorem HB.chain {es : List XEv} {i j : Nat} (h : HB es i j) :
    Chain XEv.thr XEv.isRelease XEv.isAcquire es i j := by
  induction h with
  | po hlt h₁ h₂ ht => exact .po hlt h₁ h₂ ht
  | lock hlt h₁ h₂ _ => exact .sync hlt h₁ h₂ rfl rfl
  | chan hlt h₁ h₂ => exact .sync hlt h₁ h₂ rfl rfl
  | publ hlt h₁ h₂ => exact .sync hlt h₁ h₂ rfl rfl
  | join hlt h₁ h₂ => exact .sync hlt h₁ h₂ rfl rfl
  | trans _ _ ih₁ ih₂ => exact .trans ih₁ ih₂

theorem hb_lt {es : List XEv} {i j : Nat} (h : HB es i j) : i < j := h.chain.lt

theorem hb_valid_left {es : List XEv} {i j : Nat} (h : HB es i j) : ∃ e, es[i]? = some e := h.chain.valid.1

theorem hb_valid_right {es : List XEv} {i j : Nat} (h : HB es i j) : ∃ e, es[j]? = some e := h.chain.valid.2

theorem hb_needs_sync {es : List XEv} {i j : Nat} (h : HB es i j) : ∀ {e₁ e₂ : XEv}, es[i]? = some e₁ →
    es[j]? = some e₂ → e₁.thr ≠ e₂.thr → ∃ p e, i ≤ p ∧ p < j ∧ es[p]? = some e ∧ e.isRelease = true :=
  h.chain.needs_sync

theorem lock_edge_between {cr : Nat} {es : List XEv} {i j t₁ t₂ l : Nat} {m₁ m₂ : LMode} {si sj : XState}
    (hij : i ≤ j) (hi : stAt cr es i = some si) (hj : stAt cr es j = some sj)
    (h₁ : (t₁, l, m₁) ∈ si.held) (h₂ : (t₂, l, m₂) ∈ sj.held) (hne : t₁ ≠ t₂)
    (hx : m₁ = LMode.excl ∨ m₂ = LMode.excl) :
    ∃ p q, i ≤ p ∧ p < q ∧ q < j ∧ es[p]? = some (XEv.rel t₁ l m₁) ∧ es[q]? = some (XEv.acq t₂ l m₂) :=
  (isRun_xrun cr).edge (I := XGood) (A := fun s => (t₁, l, m₁) ∈ s.held) (B := fun s => (t₂, l, m₂) ∈ s.held)
    (ea := .rel t₁ l m₁) (eb := .acq t₂ l m₂) (hI := fun _ _ => xgood_at)
    (hex := fun _ hg h => hg.1.not_mem h hne hx)
    (hoff := fun _ _ _ hg hst hin hout => by
      obtain ⟨m, rfl, hm⟩ := (xstep_held hst).2 hin hout; rw [hg.1.mode_eq hm hin])
    (hon := fun _ _ _ _ hst hin hout => (xstep_held hst).1 hin hout) (hne := nofun) hij hi hj h₁ h₂

section Edges
variable {cr : Nat} {es : List XEv} {i j : Nat} {si sj : XState}

theorem publ_edge_between {t : Nat} (hij : i ≤ j) (hi : stAt cr es i = some si) (hj : stAt cr es j = some sj)
    (hu : si.pubd = false) (hg : t ∈ sj.got) :
    ∃ p q, i ≤ p ∧ p < q ∧ q < j ∧ es[p]? = some (XEv.pub cr) ∧ es[q]? = some (XEv.get t) :=
  (isRun_xrun cr).edge (I := XGood) (A := fun s => s.pubd = false) (B := fun s => t ∈ s.got) (ea := .pub cr)
    (eb := .get t) (hI := fun _ _ => xgood_at) (hex := fun _ hI h hg => by rw [hI.2 h] at hg; cases hg)
    (hoff := fun _ _ _ _ hst => (xstep_pubd hst).1) (hon := fun _ _ _ _ hst => (xstep_got hst).1)
    (hne := nofun) hij hi hj hu hg

theorem join_edge_between {t : Nat} (hij : i ≤ j) (hi : stAt cr es i = some si) (hj : stAt cr es j = some sj)
    (hg : t ∈ si.got) (hu : sj.pubd = false) :
    ∃ p q, i ≤ p ∧ p < q ∧ q < j ∧ es[p]? = some (XEv.leave t) ∧ es[q]? = some (XEv.join cr) :=
  (isRun_xrun cr).edge (I := XGood) (A := fun s => t ∈ s.got) (B := fun s => s.pubd = false) (ea := .leave t)
    (eb := .join cr) (hI := fun _ _ => xgood_at) (hex := fun _ hI hg h => by rw [hI.2 h] at hg; cases hg)
    (hoff := fun _ _ _ _ hst => (xstep_got hst).2) (hon := fun _ _ _ _ hst => (xstep_pubd hst).2)
    (hne := nofun) hij hi hj hg hu

/-- `i` →po `p` →`HB` `q` →po `j`; `i < p` is strict because the events at `i` and `p` differ (an access is no
publication, leave, release or close) -/
theorem hb_via {p q : Nat} {ei ep eq ej : XEv} (hi : es[i]? = some ei) (hp : es[p]? = some ep)
    (hq : es[q]? = some eq) (hj : es[j]? = some ej) (hip : i ≤ p) (hne : ei ≠ ep) (h : HB es p q) (hqj : q < j)
    (ht₁ : ei.thr = ep.thr) (ht₂ : eq.thr = ej.thr) : HB es i j := by
  have hlt : i < p := Nat.lt_of_le_of_ne hip fun h' => hne (Option.some.inj (by rw [← hi, ← hp, h']))
  exact HB.trans (HB.po hlt hi hp ht₁) (HB.trans h (HB.po hqj hq hj ht₂))

end Edges

/-- Lock discipline ⇒ happens-before: in an execution that conforms to a race-free table, a conflicting pair of
accesses by two goroutines is ordered the way it stands in the execution. -/
theorem discipline_orders {cr : Nat} {ρ : Nat → Nat} {tbl : List Access} {es : List XEv} {sf : XState}
    (hrf : raceFree tbl) (hv : xrun cr XState.init es = some sf) (hc : Conforms cr ρ tbl es)
    {i j t₁ t₂ : Nat} {a b : Access} (hij : i < j) (hi : es[i]? = some (XEv.acc t₁ a))
    (hj : es[j]? = some (XEv.acc t₂ b)) (hne : t₁ ≠ t₂) (hcf : conflict a b) : HB es i j := by
  obtain ⟨si, hsi⟩ := (isRun_xrun cr).take_some hv i
  obtain ⟨sj, hsj⟩ := (isRun_xrun cr).take_some hv j
  have hle := Nat.le_of_lt hij
  rcases hrf a (hc.mem i t₁ a hi) b (hc.mem j t₂ b hj) hcf with hinit | hinit | hrole | hlock | hce | hce
  · -- `a` runs before publication: creator's access, publication, receipt by the other goroutine
    have hu := hc.init i t₁ a si hi hsi hinit
    have ht₁ : t₁ = cr := acc_unpublished_creator hv hi hsi hu
    have hg₂ : t₂ ∈ sj.got := (acc_guard hv hj hsj).resolve_left fun h => hne (ht₁.trans h.symm)
    obtain ⟨p, q, hp, hpq, hq, hpub, hget⟩ := publ_edge_between hle hsi hsj hu hg₂
    exact hb_via hi hpub hget hj hp nofun (HB.publ hpq hpub hget) hq ht₁ rfl
  · -- `b` runs while the object is private to the creator again: `a`'s goroutine has left, the creator
    -- has joined
    have hu := hc.init j t₂ b sj hj hsj hinit
    have ht₂ : t₂ = cr := acc_unpublished_creator hv hj hsj hu
    have hg₁ : t₁ ∈ si.got := (acc_guard hv hi hsi).resolve_left fun h => hne (h.trans ht₂.symm)
    obtain ⟨p, q, hp, hpq, hq, hleave, hjoin⟩ := join_edge_between hle hsi hsj hg₁ hu
    exact hb_via hi hleave hjoin hj hp nofun (HB.join hpq hleave hjoin) hq rfl ht₂.symm
  · have h₁ := hc.role i t₁ a hi hrole.1
    have h₂ := hc.role j t₂ b hj (hrole.2 ▸ hrole.1)
    rw [hrole.2] at h₁
    exact absurd (h₁.trans h₂.symm) hne
  · obtain ⟨l, m₁, m₂, ha, hb, hx⟩ := hlock
    obtain ⟨p, q, hp, hpq, hq, hrel, hacq⟩ := lock_edge_between hle hsi hsj
      (hc.held i t₁ a si hi hsi (l, m₁) ha) (hc.held j t₂ b sj hj hsj (l, m₂) hb) hne hx
    exact hb_via hi hrel hacq hj hp nofun (HB.lock hpq hrel hacq hx) hq rfl rfl
  · -- close edge a → b: `b`'s goroutine has observed the close, which `a`'s goroutine did after `a`
    obtain ⟨c, hca, hcb⟩ := hce
    obtain ⟨q, hq, hobs⟩ := hc.acq j t₂ b hj c hcb
    obtain ⟨p, t', hpq, hclose⟩ := close_before_obs_at hv hobs
    obtain ⟨rfl, hip⟩ := hc.rel i t₁ a hi c hca p t' hclose
    exact hb_via hi hclose hobs hj (Nat.le_of_lt hip) nofun (HB.chan hpq hclose hobs) hq rfl rfl
  · -- close edge b → a is impossible when `a` comes first: the close would lie after `b`
    obtain ⟨c, hcb, hca⟩ := hce
    obtain ⟨q, hq, hobs⟩ := hc.acq i t₁ a hi c hca
    obtain ⟨p, t', hpq, hclose⟩ := close_before_obs_at hv hobs
    have := (hc.rel j t₂ b hj c hcb p t' hclose).2
    omega

theorem no_data_race {tbl : List Access} (hrf : raceFree tbl) : NoRace tbl := by
  intro cr ρ es sf hv hc i j t₁ t₂ a b hi hj hne hcf
  rcases Nat.lt_trichotomy i j with h | rfl | h
  · exact Or.inl (discipline_orders hrf hv hc h hi hj hne hcf)
  · cases hi.symm.trans hj; exact absurd rfl hne
  · exact Or.inr (discipline_orders hrf hv hc h hj hi (Ne.symm hne) ⟨hcf.1.symm, hcf.2.symm⟩)

theorem allIdx_spec {es : List XEv} {f : Nat → XEv → Bool} (h : allIdx es f = true) {k : Nat} {e : XEv}
    (he : es[k]? = some e) : f k e = true := by
  obtain ⟨hk, _⟩ := List.getElem?_eq_some_iff.mp he
  have := List.all_eq_true.mp h k (List.mem_range.mpr hk)
  simpa only [he] using this

theorem conformsB_sound {cr : Nat} {ρ : Nat → Nat} {tbl : List Access} {es : List XEv}
    (h : conformsB cr ρ tbl es = true) : Conforms cr ρ tbl es := by
  refine conforms_of_each fun k t a he => ?_
  -- the conjuncts of the check at an access event: `((((row in table ∧ state) ∧ role) ∧ closes after) ∧ observed before)`
  have key := allIdx_spec h he
  simp only [Bool.and_eq_true] at key
  obtain ⟨⟨⟨⟨hmem, hst⟩, hrole⟩, hrel⟩, hacq⟩ := key
  refine ⟨by simpa using hmem, fun s hs => ?_, fun hr => ?_, fun c hc p t' hp => ?_, fun c hc => ?_⟩
  · simp only [hs, Bool.and_eq_true, List.all_eq_true] at hst
    exact ⟨fun p hp => by simpa using hst.1 p hp, fun hph => by
      simpa only [hph, bne_self_eq_false, Bool.false_or, Bool.not_eq_true'] using hst.2⟩
  · simp only [Bool.or_eq_true, beq_iff_eq] at hrole
    exact hrole.resolve_left hr
  · have := allIdx_spec (List.all_eq_true.mp hrel c hc) hp
    simpa only [bne_self_eq_false, Bool.false_or, Bool.and_eq_true, beq_iff_eq, decide_eq_true_eq] using this
  · obtain ⟨p, hp, hpe⟩ := List.any_eq_true.mp (List.all_eq_true.mp hacq c hc)
    exact ⟨p, List.mem_range.mp hp, by simpa using hpe⟩

theorem not_hb_of_no_sync {es : List XEv} {i j : Nat} {e₁ e₂ : XEv} (h₁ : es[i]? = some e₁)
    (h₂ : es[j]? = some e₂) (hne : e₁.thr ≠ e₂.thr) (hs : syncBetween es i j = false) : ¬ HB es i j :=
  fun hb => Chain.not_of_no_sync h₁ h₂ hne (fun p e hip hpj hep => by
    simpa [hip, hep] using List.any_eq_false.mp hs p (List.mem_range.mpr hpj)) hb.chain

theorem xrunCount_full {cr : Nat} {es : List XEv} : ∀ {s sf : XState}, xrun cr s es = some sf →
    xrunCount cr s es = (es.length, sf) := by
  induction es with
  | nil => intro s sf h; simp only [xrun] at h; cases h; rfl
  | cons e es ih =>
    intro s sf h
    simp only [xrun] at h
    cases hs : xstep cr s e with
    | none => simp [hs] at h
    | some s1 =>
      simp only [hs, Option.bind_some] at h
      simp only [xrunCount, hs, ih h, List.length_cons]

theorem xrunCount_le {cr : Nat} {es : List XEv} : ∀ {s : XState}, (xrunCount cr s es).1 ≤ es.length := by
  induction es with
  | nil => intro s; simp [xrunCount]
  | cons e es ih =>
    intro s
    simp only [xrunCount]
    cases xstep cr s e with
    | none => simp
    | some s1 => simp only [List.length_cons]; exact Nat.succ_le_succ ih

theorem wfRowB_iff (a : Access) : wfRowB a = true ↔ WfRow a := by
  simp [wfRowB, WfRow]

/-- `wfRowB` with a shortcut for rows with no close after the access and at most one lock, which need no `Nodup` test:
what the kernel evaluates on every row of the extracted table (`C11_table_rows_well_formed`) -/
def wfRowFast (a : Access) : Bool :=
  match a.relAfter, a.held with
  | [], [] => true
  | [], [_] => true
  | _, _ => wfRowB a

theorem wfRowFast_eq (a : Access) : wfRowFast a = wfRowB a := by
  unfold wfRowFast
  split <;> simp [wfRowB, *]

theorem noReleaseBy_eq (es : List XEv) (t i j : Nat) :
    noReleaseBy es t i j = noneIn (fun e => e.isRelease && e.thr == t) es i (j - i) := by
  unfold noReleaseBy noneIn
  congr 1; funext d
  cases es[i + d]? <;> rfl

theorem noAcquireBy_eq (es : List XEv) (t i j : Nat) :
    noAcquireBy es t i j = noneIn (fun e => e.isAcquire && e.thr == t) es (i + 1) (j - i) := by
  unfold noAcquireBy noneIn
  congr 1; funext d
  cases es[i + 1 + d]? <;> rfl

end ScVerif.C11
