/-!
C11 — the shape that the happens-before relations of `Exec.lean` (one object) and `Many.lean` (many
objects) share: positions of a list of events, related through program order (two events of one goroutine)
and synchronisation edges (from a release to a later acquire), closed under transitivity.  What follows
from the shape alone is proved here once.
-/
namespace ScVerif.C11

inductive Chain {α : Type} (thr : α → Nat) (isRel isAcq : α → Bool) (es : List α) : Nat → Nat → Prop
  | po {i j : Nat} {e₁ e₂ : α} : i < j → es[i]? = some e₁ → es[j]? = some e₂ → thr e₁ = thr e₂ →
      Chain thr isRel isAcq es i j
  | sync {i j : Nat} {e₁ e₂ : α} : i < j → es[i]? = some e₁ → es[j]? = some e₂ → isRel e₁ = true →
      isAcq e₂ = true → Chain thr isRel isAcq es i j
  | trans {i j k : Nat} : Chain thr isRel isAcq es i j → Chain thr isRel isAcq es j k →
      Chain thr isRel isAcq es i k

/-- No event satisfying `P` at the positions `a, …, a + n - 1`: the form of the checks "goroutine `t` executes
no release in `[i, j)`" (`a = i`) and "no acquire in `(i, j]`" (`a = i + 1`), both with `n = j - i`. -/
def noneIn {α : Type} (P : α → Bool) (es : List α) (a n : Nat) : Bool :=
  (List.range n).all fun d => match es[a + d]? with
    | some e => !P e
    | none => true

theorem noneIn_spec {α : Type} {P : α → Bool} {es : List α} {a n p : Nat} {e : α} (h : noneIn P es a n = true)
    (hap : a ≤ p) (hpn : p < a + n) (he : es[p]? = some e) : P e = false := by
  have := List.all_eq_true.mp h (p - a) (List.mem_range.mpr (Nat.sub_lt_left_of_lt_add hap hpn))
  rw [Nat.add_sub_cancel' hap, he] at this
  exact (Bool.not_eq_true' _).mp this

namespace Chain
variable {α : Type} {thr : α → Nat} {isRel isAcq : α → Bool} {es : List α} {i j : Nat}

theorem lt (h : Chain thr isRel isAcq es i j) : i < j := by
  induction h with
  | po h _ _ _ => exact h
  | sync h _ _ _ _ => exact h
  | trans _ _ ih₁ ih₂ => exact Nat.lt_trans ih₁ ih₂

theorem valid (h : Chain thr isRel isAcq es i j) : (∃ e, es[i]? = some e) ∧ ∃ e, es[j]? = some e := by
  induction h with
  | po _ h₁ h₂ _ => exact ⟨⟨_, h₁⟩, ⟨_, h₂⟩⟩
  | sync _ h₁ h₂ _ _ => exact ⟨⟨_, h₁⟩, ⟨_, h₂⟩⟩
  | trans _ _ ih₁ ih₂ => exact ⟨ih₁.1, ih₂.2⟩

/-- A chain between two goroutines leaves the first through a release of its own and enters the second through an
acquire of its own.  (At the middle position `k` of a composed chain: if its goroutine is still the first one, the
release is found in the second half, otherwise in the first; likewise for the acquire.) -/
theorem needs_own (h : Chain thr isRel isAcq es i j) : ∀ {e₁ e₂ : α}, es[i]? = some e₁ →
    es[j]? = some e₂ → thr e₁ ≠ thr e₂ →
    (∃ p e, i ≤ p ∧ p < j ∧ es[p]? = some e ∧ isRel e = true ∧ thr e = thr e₁) ∧
    (∃ q e, i < q ∧ q ≤ j ∧ es[q]? = some e ∧ isAcq e = true ∧ thr e = thr e₂) := by
  induction h with
  | po _ h₁ h₂ ht =>
    intro e₁ e₂ g₁ g₂ hne
    cases h₁.symm.trans g₁; cases h₂.symm.trans g₂; exact absurd ht hne
  | sync hlt h₁ h₂ hr ha =>
    intro e₁ e₂ g₁ g₂ _
    cases h₁.symm.trans g₁; cases h₂.symm.trans g₂
    exact ⟨⟨_, _, Nat.le_refl _, hlt, h₁, hr, rfl⟩, ⟨_, _, hlt, Nat.le_refl _, h₂, ha, rfl⟩⟩
  | @trans i k j hik hkj ih₁ ih₂ =>
    intro e₁ e₂ g₁ g₂ hne
    obtain ⟨ek, hk⟩ := hik.valid.2
    constructor
    · by_cases ht : thr e₁ = thr ek
      · obtain ⟨p, e, h1, h2, h3, h4, h5⟩ := (ih₂ hk g₂ (ht ▸ hne)).1
        exact ⟨p, e, Nat.le_trans (Nat.le_of_lt hik.lt) h1, h2, h3, h4, h5.trans ht.symm⟩
      · obtain ⟨p, e, h1, h2, h3⟩ := (ih₁ g₁ hk ht).1
        exact ⟨p, e, h1, Nat.lt_trans h2 hkj.lt, h3⟩
    · by_cases ht : thr ek = thr e₂
      · obtain ⟨q, e, h1, h2, h3, h4, h5⟩ := (ih₁ g₁ hk (ht ▸ hne)).2
        exact ⟨q, e, h1, Nat.le_trans h2 (Nat.le_of_lt hkj.lt), h3, h4, h5.trans ht⟩
      · obtain ⟨q, e, h1, h2, h3⟩ := (ih₂ hk g₂ ht).2
        exact ⟨q, e, Nat.lt_trans hik.lt h1, h2, h3⟩

theorem needs_sync (h : Chain thr isRel isAcq es i j) {e₁ e₂ : α} (g₁ : es[i]? = some e₁) (g₂ : es[j]? = some e₂)
    (hne : thr e₁ ≠ thr e₂) : ∃ p e, i ≤ p ∧ p < j ∧ es[p]? = some e ∧ isRel e = true := by
  obtain ⟨p, e, h1, h2, h3, h4, _⟩ := (h.needs_own g₁ g₂ hne).1
  exact ⟨p, e, h1, h2, h3, h4⟩

theorem not_of_no_sync {e₁ e₂ : α} (g₁ : es[i]? = some e₁) (g₂ : es[j]? = some e₂) (hne : thr e₁ ≠ thr e₂)
    (hn : ∀ p e, i ≤ p → p < j → es[p]? = some e → isRel e = false) : ¬ Chain thr isRel isAcq es i j := by
  intro h
  obtain ⟨p, e, hip, hpj, hep, hrel⟩ := h.needs_sync g₁ g₂ hne
  cases (hn p e hip hpj hep).symm.trans hrel

/-- no release of its own by the first goroutine in `[i, j)`, or no acquire of its own by the second in `(i, j]` -/
theorem not_of_no_own {e₁ e₂ : α} (h₁ : es[i]? = some e₁) (h₂ : es[j]? = some e₂) (hne : thr e₁ ≠ thr e₂)
    (hn : noneIn (fun e => isRel e && thr e == thr e₁) es i (j - i) = true
      ∨ noneIn (fun e => isAcq e && thr e == thr e₂) es (i + 1) (j - i) = true) :
    ¬ Chain thr isRel isAcq es i j := by
  intro h
  obtain ⟨⟨p, e, hp1, hp2, hp3, hp4, hp5⟩, ⟨q, e', hq1, hq2, hq3, hq4, hq5⟩⟩ := h.needs_own h₁ h₂ hne
  rcases hn with hn | hn
  · have := noneIn_spec hn hp1 (by omega) hp3
    rw [hp4, hp5, beq_self_eq_true] at this
    cases this
  · have := noneIn_spec hn hq1 (by omega) hq3
    rw [hq4, hq5, beq_self_eq_true] at this
    cases this

end Chain
end ScVerif.C11
