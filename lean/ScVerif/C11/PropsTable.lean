import ScVerif.C11.TableObligation
import ScVerif.C11.LocksetLemmas
import ScVerif.C11.ManyLemmas
import ScVerif.Generated.C11Facts
/-!
C11 — the obligations that depend on the table regenerated from /repo's sources on every run
(`ScVerif/Generated/C11Facts.lean`).  What holds for every table is in `Props.lean`, `PropsExec.lean`,
`PropsSync.lean` and `PropsMany.lean`.

`table_obligation in` (see `TableObligation.lean`) keeps this module compiling when the regenerated
table refutes a statement; that theorem, and those proved from it, are then only present with `sorryAx` and
the axiom audit reports them as not discharged.
-/
namespace ScVerif.C11
open ScVerif.Generated.C11

table_obligation in
/-- Every conflicting pair of accesses in the extracted table (same field, at least one write, both
possibly live on different goroutines; a row is also paired with itself) is ordered by a common mutex
with an exclusive side, by construction-before-publication, by a single-goroutine role, or by a
channel-close edge. -/
theorem C11_lock_discipline : raceFree accesses :=
  raceFreeG_sound accesses (by decide +kernel)

table_obligation in
/-- C07 on the extracted table: every location for which the table lists a reader that relies on
nothing (the `caller:consumer` rows of the `published:` locations — the contents of the messages the
resources store and hand out by pointer) is frozen: the library has no write into such a message
outside construction. -/
theorem C11_published_frozen : ∀ r ∈ accesses, bareReader r → frozenIn accesses r.field :=
  fun _ hr hb => frozen_of_bareReader C11_lock_discipline hr hb

table_obligation in
/-- **The extracted table ⇒ no data race in the modelled executions** of `Exec.lean`, for the table extracted on this
run. -/
theorem C11_table_executions_race_free : NoRace accesses :=
  no_data_race C11_lock_discipline

table_obligation in
/-- So `C11_discipline_iff_no_race` applies to the extracted table: for it the lock discipline is also necessary
for the absence of races in the modelled executions. -/
theorem C11_table_rows_well_formed : ∀ a ∈ accesses, WfRow a :=
  fun a ha => (wfRowB_iff a).mp
    (wfRowFast_eq a ▸ List.all_eq_true.mp (show accesses.all wfRowFast = true by decide +kernel) a ha)

table_obligation in
/-- **…with any number of instances at once** (`Many.lean`), each with its own locks, channels, creator and role
assignment. -/
theorem C11_table_many_instances_race_free {cr : Nat → Nat} {ρ : Nat → Nat → Nat} {es : List MEv}
    {Sf : Nat → XState} (hv : mrun cr minit es = some Sf) (hc : ∀ o, Conforms (cr o) (ρ o) accesses (proj o es))
    {o p q t₁ t₂ : Nat} {a b : Access} (hp : es[p]? = some (o, XEv.acc t₁ a))
    (hq : es[q]? = some (o, XEv.acc t₂ b)) (hne : t₁ ≠ t₂) (hcf : conflict a b) : MHB es p q ∨ MHB es q p :=
  many_of_noRace C11_table_executions_race_free hv (hc o) hp hq hne hcf

-- there are bare readers in the table (`C11_published_frozen` is not vacuous); the table as extracted today elaborates
-- within the default recursion limit, the raised one is a margin for a regenerated table that has grown
table_obligation in
set_option maxRecDepth 100000 in
example : (accesses.any bareReaderB) = true := by decide +kernel

-- The table is not trivially race free: it contains conflicting pairs of live rows in different functions
-- (recursion limit: as above).
table_obligation in
set_option maxRecDepth 100000 in
example : ∃ a ∈ accesses, ∃ b ∈ accesses,
    conflict a b ∧ a.phase = Phase.live ∧ b.phase = Phase.live ∧ a.fn ≠ b.fn :=
  exists_live_conflict accesses (by decide +kernel)

end ScVerif.C11
