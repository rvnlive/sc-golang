import ScVerif.C03.Inv
/-!
# C03 — property theorems

Property (fixed text): "For a Pull or PullID subscription opened at any moment relative to concurrent writers, with any
updates-only, backpressure and read-mask settings and a reader that keeps receiving, applying the received events in
order to a view (seed events first) yields, once writers stop, exactly what Get or List return. No change committed
around the moment of subscribing is missed or duplicated into a wrong state, no event overtakes a later commit so that
the view ends stale, and the last event delivered for a Value is its final value."

For ALL schedules (the unconditional statement the plan calls `C03_converges`) this is FALSE for the code as it is, in
two ways, both recorded in known_findings/C03.json and replayed on the real code by the check: `C03_converges_fails`
(publications of two writers delivered in the opposite order of their commits) and `C03_lossy_seed_dup_fails` (a lossy
subscriber seeded with a change that is published only afterwards). It is proved for every schedule satisfying the
decidable hypothesis `ordered`: the publications OF ONE ID reach a subscriber in commit order, and a subscriber
registers only when the pending publications are current.
-/
namespace ScVerif.C03

variable {M : Type} [DecidableEq M]

/-- In every `ordered` run (overlapping writers, subscriber churn, any consumer pace, a lossy stage after any number of
merges and cancellations), at every moment: what a live subscriber's stage holds and what `Bus.Send` still owes it,
applied to the view it has folded, give the stored contents.  Hence once writers have stopped and it has drained its
stage, its consumer sees `Get` / `List` under its own read mask. -/
theorem C03_converges_partial (s₀ : Nat → Option M) (progs : Nat → List (WOp M)) (opts : Nat → SubOpts M)
    (sched : List Act) (hord : ordered (initCfg s₀ progs opts) sched = true) :
    let c : Cfg M := run (initCfg s₀ progs opts) sched
    (∀ s, (c.subs s).live = true →
      ((c.subs s).pending ++ inflight c s).foldl applyEv (c.subs s).rawView = c.store) ∧
    (c.quiescent = true → ∀ s, (c.subs s).live = true → (c.subs s).pending = [] →
      (c.subs s).view = fun i => (c.store i).map (c.subs s).mask) := by
  intro c
  have h := ordered_inv s₀ progs opts hord
  refine ⟨fun s hs => ((h.sub s hs).owed rfl).view, fun hq s hs hp => ?_⟩
  funext i
  show ((c.subs s).rawView i).map _ = _
  rw [h.drained hq hs hp]

/-- A `WithUpdatesOnly` subscription is sent no seed; in every `ordered` run, once writers have stopped and it has
drained, the events it received applied to the contents at its subscribe step (`base`, which it is assumed to know
already) give what `Get` / `List` return.  The proof does not use `updatesOnly = true`: the conclusion is `Inv.drained`,
which holds of every live subscriber. -/
theorem C03_updates_only (s₀ : Nat → Option M) (progs : Nat → List (WOp M)) (opts : Nat → SubOpts M)
    (sched : List Act) (hord : ordered (initCfg s₀ progs opts) sched = true) :
    let c : Cfg M := run (initCfg s₀ progs opts) sched
    c.quiescent = true → ∀ s, (c.subs s).live = true → (c.subs s).updatesOnly = true →
      (c.subs s).pending = [] → (c.subs s).evs.foldl applyEv (c.subs s).base = c.store := by
  intro c hq s hs _ hp
  exact (ordered_inv s₀ progs opts hord).drained hq hs hp

/-- ALL schedules: every write committed after a live subscriber's snapshot-and-`Listen` step has been handed by
`Bus.Send` to that subscriber's stage (`got`) or is still owed to it; once nothing is in flight it has been handed over.
(A lossy stage may then merge it with later changes of the same id: C09.) -/
theorem C03_no_miss_at_subscribe (s₀ : Nat → Option M) (progs : Nat → List (WOp M)) (opts : Nat → SubOpts M)
    (sched : List Act) :
    let c : Cfg M := run (initCfg s₀ progs opts) sched
    (∀ s, (c.subs s).live = true → ∀ k, (c.subs s).subAt ≤ k → k < c.nextSeq →
      k ∈ (c.subs s).got ∨ k ∈ (inflight c s).map (·.seq)) ∧
    (c.quiescent = true → ∀ s, (c.subs s).live = true → ∀ k, (c.subs s).subAt ≤ k → k < c.nextSeq →
      k ∈ (c.subs s).got) := by
  intro c
  have h := run_inv s₀ progs opts sched
  refine ⟨fun s hs => (h.sub s hs).nomiss, fun hq s hs k hk1 hk2 => ?_⟩
  refine ((h.sub s hs).nomiss k hk1 hk2).resolve_right fun h1 => ?_
  rw [inflight_quiescent hq] at h1
  cases h1

/-- ALL schedules (subscribe, cancel, `collect` in any order): `Bus.listeners` holds every live subscriber exactly once
and no subscriber that never registered. -/
theorem C03_listeners_exact (s₀ : Nat → Option M) (progs : Nat → List (WOp M)) (opts : Nat → SubOpts M)
    (sched : List Act) :
    let c : Cfg M := run (initCfg s₀ progs opts) sched
    (∀ s, (c.subs s).live = true → c.listeners.count s = 1) ∧
    (∀ s, (c.subs s).registered = false → c.listeners.count s = 0) := by
  intro c
  have h := run_inv s₀ progs opts sched
  exact ⟨h.lisLive, h.lisUnreg⟩

/-- A write committed BEFORE a subscriber took its snapshot (`k < subAt`) but published after it reaches it as a
duplicate of its seed; a backpressured subscriber still ends with `Get` / `List` under its mask. The conclusion is that
of `C03_converges_partial`, whose proof does not need to know that a duplicate was handed over; such runs exist and are
`ordered`: the example on `seedDupRunBP` below.  A LOSSY subscriber may not register while a committed change still
waits for its `Bus.Send` (`ordered`); `C03_lossy_seed_dup_fails` shows that this cannot be dropped. -/
theorem C03_dup_harmless (s₀ : Nat → Option M) (progs : Nat → List (WOp M)) (opts : Nat → SubOpts M)
    (sched : List Act) (hord : ordered (initCfg s₀ progs opts) sched = true) :
    let c : Cfg M := run (initCfg s₀ progs opts) sched
    c.quiescent = true → ∀ s k, (c.subs s).live = true → (c.subs s).lossy = false →
      k ∈ (c.subs s).got → k < (c.subs s).subAt → (c.subs s).pending = [] →
      (c.subs s).view = fun i => (c.store i).map (c.subs s).mask := by
  intro c hq s k hs _ _ _ hp
  exact (C03_converges_partial s₀ progs opts sched hord).2 hq s hs hp

omit [DecidableEq M] in
/-- Every linked stream.  `Collection.Pull` sends every change through `include`, which judges the STORED old / new
values, and only then through the read mask.  On a stream in which each change carries as `OldValue` the value it
replaces, the consumer's fold is `List` with the same include function and mask. -/
theorem C03_forwarder_include_mask (incl : Option (Nat → M → Bool)) (mask : M → M) (strict : Bool)
    (base : Nat → Option M) (evs : List (Event M)) (h : linkOK strict base evs) :
    (evs.filterMap (fwdEv incl mask)).foldl applyEv (seedView incl mask base)
      = fun i => (((evs.foldl applyEv base) i).filter (fun x => inclOpt incl i (some x))).map mask :=
  fwd_fold incl mask strict evs base h

/-- In every `ordered` run what a live subscriber's consumer has folded from what it RECEIVED is the included, masked
image of its raw view, and what is still owed to it is linked (so `include` will judge the right values); once writers
have stopped and it has drained, it is `List` with the same options. -/
theorem C03_converges_observed (s₀ : Nat → Option M) (progs : Nat → List (WOp M)) (opts : Nat → SubOpts M)
    (sched : List Act) (hord : ordered (initCfg s₀ progs opts) sched = true) :
    let c : Cfg M := run (initCfg s₀ progs opts) sched
    (∀ s, (c.subs s).live = true →
      (c.subs s).obsView = seedView (c.subs s).incl (c.subs s).mask (c.subs s).rawView ∧
      linkOK (c.subs s).lossy (c.subs s).rawView ((c.subs s).pending ++ inflight c s)) ∧
    (c.quiescent = true → ∀ s, (c.subs s).live = true → (c.subs s).pending = [] →
      (c.subs s).obsView = fun i =>
        ((c.store i).filter (fun x => inclOpt (c.subs s).incl i (some x))).map (c.subs s).mask) := by
  intro c
  have h := ordered_inv s₀ progs opts hord
  refine ⟨fun s hs => ⟨(h.sub s hs).obs rfl, ((h.sub s hs).owed rfl).link⟩, fun hq s hs hp => ?_⟩
  rw [(h.sub s hs).obs rfl, h.drained hq hs hp]
  rfl

/-- In every `ordered` run, while the stream of `PullID(id)` has not ended (no REMOVE of the item received: neither
deleted nor moved out of the included set), the value it delivered last is what the folded view holds for the item; once
writers have stopped and the subscriber has drained, what `Get(id)` returns. -/
theorem C03_pullid_converges (s₀ : Nat → Option M) (progs : Nat → List (WOp M)) (opts : Nat → SubOpts M)
    (sched : List Act) (hord : ordered (initCfg s₀ progs opts) sched = true) (id : Nat) :
    let c : Cfg M := run (initCfg s₀ progs opts) sched
    ∀ s, (c.subs s).live = true → (c.subs s).pullIDEnded id = false →
      ((c.subs s).pullID id).getLast? = (c.subs s).obsView id ∧
      (c.quiescent = true → (c.subs s).pending = [] →
        ((c.subs s).pullID id).getLast? =
          ((c.store id).filter (fun x => inclOpt (c.subs s).incl id (some x))).map (c.subs s).mask) := by
  intro c s hs hend
  refine ⟨pullID_last _ id hend, ?_⟩
  intro hq hp
  rw [pullID_last _ id hend, (C03_converges_observed s₀ progs opts sched hord).2 hq s hs hp]

/-- In every `ordered` run, once writers have stopped and the subscriber has drained, the last change it received for an
id carries what `Get` returns for it (`none`: the item is gone); a `Value` is the single id 0. -/
theorem C03_last_event_final (s₀ : Nat → Option M) (progs : Nat → List (WOp M)) (opts : Nat → SubOpts M)
    (sched : List Act) (hord : ordered (initCfg s₀ progs opts) sched = true) :
    let c : Cfg M := run (initCfg s₀ progs opts) sched
    c.quiescent = true → ∀ s, (c.subs s).live = true → (c.subs s).pending = [] →
      ∀ i e, ((c.subs s).evs.filter (fun x => x.id == i)).getLast? = some e → e.new = c.store i := by
  intro c hq s hs hp i e he
  have h := ordered_inv s₀ progs opts hord
  have hv := h.drained hq hs hp
  have hl := foldl_applyEv_last (c.subs s).evs i (c.subs s).base
  rw [he] at hl
  dsimp only at hl
  rw [← hl]
  exact congrFun hv i

omit [DecidableEq M] in
/-- **The lossy stage of a `Value` is `minibus.DropExcess`**: "when the consumer receives, it will always get the most
recent message".  A `Value` is one id without removals: `mergeCollectionExcess` then never holds more than one pending
change, and a change that arrives replaces it. -/
theorem C03_value_stage_is_drop_excess (P : List (Event M)) (e : Event M)
    (hid : ∀ a, a ∈ P → a.id = e.id) (hlen : P.length ≤ 1) (hnew : e.new.isSome = true) :
    ∃ e', mergeInto P e = [e'] ∧ e'.id = e.id ∧ e'.new = e.new := by
  cases P with
  | nil => exact ⟨e, rfl, rfl, rfl⟩
  | cons a P =>
    cases P with
    | nil => exact ⟨_, mergeInto_singleton (hid a List.mem_cons_self) hnew, rfl, rfl⟩
    | cons b P => exact absurd hlen (by simp)

def plain (lossy : Bool) : SubOpts Int := ⟨false, lossy, id, none⟩

def twoWriters : Nat → List (WOp Int) := fun t =>
  if t = 0 then [.upd 0 (fun _ => some 1)] else if t = 1 then [.upd 0 (fun _ => some 2)] else []

/-- W1's publication overtakes W0's; the consumer receives after each delivery -/
def staleSched : List Act :=
  [.sub 0, .commit 0, .commit 1, .snap 1, .deliver 1, .recv 0, .snap 0, .deliver 0, .recv 0]

def staleRun : Cfg Int := run (initCfg (fun _ => none) twoWriters (fun _ => plain false)) staleSched

/-- **`C03_converges` fails on the code as it is (1).**  `Value.set` / `Collection.Update` publish after releasing the
lock: the publications of two overlapping writers are delivered against the order of their commits, and the drained view
of a backpressured subscriber (and its last event) ends stale although `Get` returns the later value. -/
theorem C03_converges_fails :
    staleRun.quiescent = true ∧ (staleRun.subs 0).live = true ∧ (staleRun.subs 0).pending = [] ∧
    (staleRun.subs 0).view 0 = some 1 ∧ staleRun.store 0 = some 2 ∧
    (staleRun.subs 0).evs.map (·.new) = [some 2, some 1] ∧
    ordered (initCfg (fun _ => none) twoWriters (fun _ => plain false)) staleSched = false := by
  decide +kernel

def addThenDelete : Nat → List (WOp Int) := fun t =>
  if t = 0 then [.upd 0 (fun _ => some 10), .del 0 (fun _ => true)] else []

/-- the Add is published (a duplicate of the seed) into the paused consumer's merge stage, then the Delete -/
def seedDupSched : List Act :=
  [.commit 0, .sub 0, .snap 0, .deliver 0, .commit 0, .deliver 0, .recv 0, .recv 0]

def seedDupRun : Cfg Int := run (initCfg (fun _ => none) addThenDelete (fun _ => plain true)) seedDupSched

/-- **`C03_converges` fails on the code as it is (2): a duplicate of the seed is NOT harmless under merging.**  The
merge stage cancels the duplicate ADD against the REMOVE and nothing is left to deliver.  A backpressured subscriber
has to take the duplicate before the Delete can be delivered (`seedDupSchedBP`); that run is `ordered` and converges. -/
theorem C03_lossy_seed_dup_fails :
    seedDupRun.quiescent = true ∧ (seedDupRun.subs 0).live = true ∧ (seedDupRun.subs 0).pending = [] ∧
    (seedDupRun.subs 0).evs = [] ∧ (seedDupRun.subs 0).view 0 = some 10 ∧ seedDupRun.store 0 = none ∧
    (seedDupRun.subs 0).got = [0, 1] ∧
    ordered (initCfg (fun _ => none) addThenDelete (fun _ => plain true)) seedDupSched = false := by
  decide +kernel

def seedDupSchedBP : List Act :=
  [.commit 0, .sub 0, .snap 0, .deliver 0, .recv 0, .commit 0, .deliver 0, .recv 0]

def seedDupRunBP : Cfg Int := run (initCfg (fun _ => none) addThenDelete (fun _ => plain false)) seedDupSchedBP

/-- non-vacuity of `C03_dup_harmless`: the duplicate is handed over (`0 < subAt = 1`) and the run is ordered -/
example :
    ordered (initCfg (fun _ => none) addThenDelete (fun _ => plain false)) seedDupSchedBP = true ∧
    seedDupRunBP.quiescent = true ∧ (seedDupRunBP.subs 0).subAt = 1 ∧ (seedDupRunBP.subs 0).got = [0, 1] ∧
    (seedDupRunBP.subs 0).pending = [] ∧ (seedDupRunBP.subs 0).view 0 = none ∧ seedDupRunBP.store 0 = none := by
  decide +kernel

def orderedSched : List Act :=
  [.commit 0, .sub 0, .commit 1, .snap 0, .deliver 0, .recv 0, .snap 0, .sub 1, .deliver 0, .recv 0,
   .deliver 0, .recv 1]

def orderedOpts : Nat → SubOpts Int := fun s => if s = 1 then ⟨true, false, id, none⟩ else plain false

def orderedRun : Cfg Int := run (initCfg (fun _ => none) twoWriters orderedOpts) orderedSched

/-- non-vacuity of `ordered`: two writers overlapping, a seeded subscriber registering between a commit and its
publication, an updates-only subscriber registering mid-publication -/
example :
    ordered (initCfg (fun _ => none) twoWriters orderedOpts) orderedSched = true ∧
    orderedRun.quiescent = true ∧ orderedRun.store 0 = some 2 ∧
    (orderedRun.subs 0).evs.map (·.new) = [some 1, some 2] ∧ (orderedRun.subs 0).view 0 = some 2 ∧
    (orderedRun.subs 1).live = true ∧ (orderedRun.subs 1).view 0 = some 2 := by
  decide +kernel

def twoIds : Nat → List (WOp Int) := fun t =>
  if t = 0 then [.upd 0 (fun _ => some 1)] else if t = 1 then [.upd 1 (fun _ => some 2)] else []

/-- the schedule of `C03_converges_fails` with the writers on DIFFERENT ids is `ordered` -/
example :
    ordered (initCfg (fun _ => none) twoIds (fun s => plain (s == 1)))
      [.sub 0, .sub 1, .commit 0, .commit 1, .snap 1, .deliver 1, .recv 0, .deliver 1, .snap 0, .deliver 0, .recv 0,
       .deliver 0, .recv 1, .recv 1] = true ∧
    let c := run (initCfg (fun _ => none) twoIds (fun s => plain (s == 1)))
      [.sub 0, .sub 1, .commit 0, .commit 1, .snap 1, .deliver 1, .recv 0, .deliver 1, .snap 0, .deliver 0, .recv 0,
       .deliver 0, .recv 1, .recv 1]
    c.quiescent = true ∧ (c.subs 0).evs.map (·.id) = [1, 0] ∧ (c.subs 0).view 0 = some 1 ∧ (c.subs 0).view 1 = some 2 ∧
    (c.subs 1).pending = [] ∧ (c.subs 1).view 0 = some 1 ∧ (c.subs 1).view 1 = some 2 := by
  decide +kernel

def churnProg : Nat → List (WOp Int) := fun t =>
  if t = 0 then [.upd 0 (fun _ => some 11), .upd 0 (fun _ => some 12), .upd 1 (fun _ => some 13)] else []

/-- churn: B subscribes while a Send that holds the listener copy meets the dead listener A and collects -/
def churnSched : List Act :=
  [.sub 0, .sub 1, .commit 0, .snap 0, .deliver 0, .recv 0, .deliver 0, .recv 1, .cancel 0,
   .commit 0, .snap 0, .sub 2, .deliver 0, .deliver 0, .recv 1,
   .commit 0, .snap 0, .deliver 0, .recv 1, .deliver 0, .recv 2]

def churnRun : Cfg Int := run (initCfg (fun _ => none) churnProg (fun _ => plain false)) churnSched

/-- non-vacuity of `ordered` under churn: `collect` drops the dead listener A, B and C converge -/
example :
    ordered (initCfg (fun _ => none) churnProg (fun _ => plain false)) churnSched = true ∧
    churnRun.quiescent = true ∧ churnRun.listeners = [1, 2] ∧ (churnRun.subs 0).live = false ∧
    (churnRun.subs 2).live = true ∧ (churnRun.subs 2).view 0 = some 12 ∧ (churnRun.subs 2).view 1 = some 13 ∧
    (churnRun.subs 1).view 0 = some 12 ∧ churnRun.store 1 = some 13 := by
  decide +kernel

/-- a lossy consumer sleeps through add, update, delete, re-add of one id and drains one merged event -/
def slowProg : Nat → List (WOp Int) := fun t =>
  if t = 0 then [.upd 0 (fun _ => some 1), .upd 0 (fun _ => some 2), .del 0 (fun _ => true),
                 .upd 0 (fun _ => some 4)] else []

def slowSched : List Act :=
  [.sub 0, .sub 1, .commit 0, .snap 0, .deliver 0, .deliver 0, .recv 1,
   .commit 0, .snap 0, .deliver 0, .deliver 0, .recv 1,
   .commit 0, .deliver 0, .deliver 0, .recv 1,
   .commit 0, .snap 0, .deliver 0, .deliver 0, .recv 1, .recv 0]

def slowOpts : Nat → SubOpts Int := fun s => if s = 0 then plain true else ⟨false, false, fun _ => 0, none⟩

def slowRun : Cfg Int := run (initCfg (fun _ => none) slowProg slowOpts) slowSched

/-- non-vacuity of `ordered`: a lossy consumer that sleeps through four writes of one id, and a masked subscriber -/
example :
    ordered (initCfg (fun _ => none) slowProg slowOpts) slowSched = true ∧
    slowRun.quiescent = true ∧ (slowRun.subs 0).evs.length = 1 ∧ (slowRun.subs 0).got = [0, 1, 2, 3] ∧
    (slowRun.subs 0).view 0 = some 4 ∧ (slowRun.subs 1).evs.length = 4 ∧ (slowRun.subs 1).view 0 = some 0 ∧
    slowRun.store 0 = some 4 := by
  decide +kernel

/-- include = first field even; `onlySecond`, the read mask, hides the field it reads -/
def evenFirst : Option (Nat → Int × Int → Bool) := some (fun _ v => v.1 % 2 == 0)
def onlySecond : Int × Int → Int × Int := fun v => (0, v.2)

def inclProg : Nat → List (WOp (Int × Int)) := fun t =>
  if t = 0 then [.upd 0 (fun _ => some (2, 7)), .upd 1 (fun _ => some (3, 8)), .upd 0 (fun _ => some (5, 9)),
                 .upd 1 (fun _ => some (4, 6)), .upd 2 (fun _ => some (6, 1)), .del 2 (fun _ => true)] else []

def inclOpts : Nat → SubOpts (Int × Int) := fun s =>
  if s = 0 then ⟨false, false, onlySecond, evenFirst⟩ else ⟨false, true, onlySecond, evenFirst⟩

def inclSched : List Act :=
  [.sub 0, .sub 1,
   .commit 0, .snap 0, .deliver 0, .recv 0, .deliver 0, .commit 0, .snap 0, .deliver 0, .recv 0, .deliver 0,
   .commit 0, .snap 0, .deliver 0, .recv 0, .deliver 0, .commit 0, .snap 0, .deliver 0, .recv 0, .deliver 0,
   .commit 0, .snap 0, .deliver 0, .recv 0, .deliver 0, .commit 0, .deliver 0, .recv 0, .deliver 0,
   .recv 1, .recv 1, .recv 1]

def inclRun : Cfg (Int × Int) := run (initCfg (fun i => if i = 0 then some (1, 1) else none) inclProg inclOpts) inclSched

/-- id 0: seeded excluded, ADDed by an update, REMOVEd by the next; id 1: a dropped ADD, then ADD by update; id 2: ADD
and REMOVE (cancelled in the lossy stage) -/
example :
    ordered (initCfg (fun i => if i = 0 then some (1, 1) else none) inclProg inclOpts) inclSched = true ∧
    inclRun.quiescent = true ∧ (inclRun.subs 1).pending = [] ∧
    inclRun.store 0 = some (5, 9) ∧ inclRun.store 1 = some (4, 6) ∧ inclRun.store 2 = none ∧
    (inclRun.subs 0).obsView 0 = none ∧ (inclRun.subs 0).obsView 1 = some (0, 6) ∧ (inclRun.subs 0).obsView 2 = none ∧
    (inclRun.subs 1).obsView 0 = none ∧ (inclRun.subs 1).obsView 1 = some (0, 6) ∧
    (inclRun.subs 0).obs.map (fun e => (e.id, e.new)) =
      [(0, some (0, 7)), (0, none), (1, some (0, 6)), (2, some (0, 1)), (2, none)] ∧
    (inclRun.subs 0).pullID 1 = [(0, 6)] ∧ (inclRun.subs 0).pullIDEnded 1 = false ∧
    (inclRun.subs 0).pullID 0 = [(0, 7)] ∧ (inclRun.subs 0).pullIDEnded 0 = true := by
  decide +kernel

/-- the order of the two steps matters: mask first, then include, forwards an update of an item that stays excluded -/
example :
    let e : Event (Int × Int) := ⟨0, some (1, 1), some (3, 2), false, 0⟩
    fwdEv evenFirst onlySecond e = none ∧
    (fwdEv evenFirst id { e with old := e.old.map onlySecond, new := e.new.map onlySecond }).isSome = true := by
  decide +kernel

/-- a Delete publishes under the lock: a commit attempted meanwhile is a no-op -/
example :
    let progs : Nat → List (WOp Int) := fun t =>
      if t = 0 then [.del 0 (fun _ => true)] else if t = 1 then [.upd 0 (fun _ => some 5)] else []
    let c₀ : Cfg Int := initCfg (fun i => if i = 0 then some 3 else none) progs (fun _ => plain false)
    (run c₀ [.sub 0, .commit 0, .commit 1]).store 0 = none ∧
    (run c₀ [.sub 0, .commit 0, .commit 1]).lock = some 0 ∧
    (run c₀ [.sub 0, .commit 0, .deliver 0, .commit 1]).store 0 = some 5 := by
  decide +kernel

end ScVerif.C03
