import ScVerif.C03.Equiv
import ScVerif.C03.Props
/-!
# C03 — property theorems: resources with an equivalence (`WithEquivalence`, `WithMessageEquivalence`, `WithNoDuplicates`)

A resource created with an equivalence does not emit a change it judges equivalent (`Equiv.lean`); the property must
survive this: the view folded from the events that ARE delivered has to be (equivalent to) what Get / List return.
`cmp` is `Comparer.Compare` on possibly absent messages; it need not be symmetric.  A `cmp` that relates an absent message
only to an absent one (`cmp.Equal`, and every comparer the check drives) makes "equivalent views" imply "the same items".
-/
namespace ScVerif.C03

variable {M : Type} [DecidableEq M]

omit [DecidableEq M] in
/-- Every linked stream.  `Collection.Pull` skips a change whose own old and new value (after `include` and the mask)
the comparer relates; for a reflexive and transitive comparer the consumer's fold of what is still sent is, item by
item, equivalent to `List` with the same options. -/
theorem C03_forwarder_equivalence_collection (cmp : Option M → Option M → Bool) (hrefl : ∀ a, cmp a a = true)
    (htrans : ∀ a b c, cmp a b = true → cmp b c = true → cmp a c = true)
    (incl : Option (Nat → M → Bool)) (mask : M → M) (strict : Bool)
    (base : Nat → Option M) (evs : List (Event M)) (h : linkOK strict base evs) (i : Nat) :
    cmp ((dedupColl cmp (evs.filterMap (fwdEv incl mask))).foldl applyEv (seedView incl mask base) i)
      ((((evs.foldl applyEv base) i).filter (fun x => inclOpt incl i (some x))).map mask) = true := by
  have h1 := dedupColl_fwd_fold cmp hrefl htrans incl mask strict base evs h i
  rw [fwd_fold incl mask strict evs base h] at h1
  exact h1

omit [DecidableEq M] in
/-- EVERY stream (no linkage, no order needed).  `Value.Pull` skips a change equivalent to the value it SENT last.  For
a reflexive comparer what the receiver holds stays equivalent to the value of ALL changes folded.  `last` starts as what
the view holds for `j`, or as nil for an updates-only subscriber provided nil is never equivalent to a change's value.
-/
theorem C03_forwarder_equivalence_value (cmp : Option M → Option M → Bool) (hrefl : ∀ a, cmp a a = true)
    (j : Nat) (evs : List (Event M)) (hid : ∀ e, e ∈ evs → e.id = j) (last : Option M) (v : Nat → Option M)
    (hlast : v j = last ∨ (last = none ∧ ∀ e, e ∈ evs → cmp none e.new = false)) :
    cmp ((dedupVal cmp last evs).foldl applyEv v j) (evs.foldl applyEv v j) = true :=
  dedupVal_fold cmp hrefl j evs hid last v v hlast (hrefl _)

/-- In every `ordered` run the stream a live subscriber has received is linked to its seed; so its fold of the changes
`Collection.Pull` lets through is, item by item, equivalent to the fold of all of them, and once writers have stopped
and it has drained, to `List` with its options. -/
theorem C03_converges_equiv_collection (cmp : Option M → Option M → Bool) (hrefl : ∀ a, cmp a a = true)
    (htrans : ∀ a b c, cmp a b = true → cmp b c = true → cmp a c = true)
    (s₀ : Nat → Option M) (progs : Nat → List (WOp M)) (opts : Nat → SubOpts M)
    (sched : List Act) (hord : ordered (initCfg s₀ progs opts) sched = true) :
    let c : Cfg M := run (initCfg s₀ progs opts) sched
    (∀ s, (c.subs s).live = true →
      linkOK false (c.subs s).base (c.subs s).evs ∧
      ∀ i, cmp ((c.subs s).obsViewEqColl cmp i) ((c.subs s).obsView i) = true) ∧
    (c.quiescent = true → ∀ s, (c.subs s).live = true → (c.subs s).pending = [] →
      ∀ i, cmp ((c.subs s).obsViewEqColl cmp i)
        (((c.store i).filter (fun x => inclOpt (c.subs s).incl i (some x))).map (c.subs s).mask) = true) := by
  intro c
  have hr : ∀ s, (c.subs s).live = true → linkOK false (c.subs s).base (c.subs s).evs := fun s hs =>
    ((ordered_inv s₀ progs opts hord).sub s hs).rcvd rfl
  have hrel : ∀ s, (c.subs s).live = true →
      ∀ i, cmp ((c.subs s).obsViewEqColl cmp i) ((c.subs s).obsView i) = true := fun s hs i =>
    dedupColl_fwd_fold cmp hrefl htrans _ _ false _ _ (hr s hs) i
  refine ⟨fun s hs => ⟨hr s hs, hrel s hs⟩, ?_⟩
  intro hq s hs hp i
  have := hrel s hs i
  rw [(C03_converges_observed s₀ progs opts sched hord).2 hq s hs hp] at this
  exact this

/-- On a collection created with `WithNoDuplicates` (`cmp` = equality of bodies) skipping the changes that change
nothing loses nothing: in every `ordered` run a drained subscriber's fold IS `List` with its options. -/
theorem C03_converges_no_duplicates (s₀ : Nat → Option M) (progs : Nat → List (WOp M)) (opts : Nat → SubOpts M)
    (sched : List Act) (hord : ordered (initCfg s₀ progs opts) sched = true) :
    let c : Cfg M := run (initCfg s₀ progs opts) sched
    c.quiescent = true → ∀ s, (c.subs s).live = true → (c.subs s).pending = [] →
      (c.subs s).obsViewEqColl (fun a b => decide (a = b)) = fun i =>
        ((c.store i).filter (fun x => inclOpt (c.subs s).incl i (some x))).map (c.subs s).mask := by
  intro c hq s hs hp
  funext i
  have := (C03_converges_equiv_collection (M := M) (fun a b => decide (a = b)) (by intro a; simp)
    (by intro a b c h1 h2; simp only [decide_eq_true_eq] at h1 h2 ⊢; rw [h1, h2]) s₀ progs opts sched hord).2 hq s hs hp i
  simpa using this

/-- On ALL schedules what a subscriber of `Value.Pull` holds after the equivalence check is equivalent to what it would
hold had every received change been forwarded; in an `ordered` run, once writers have stopped and it has drained, to the
masked value `Get` returns. -/
theorem C03_converges_equiv_value (cmp : Option M → Option M → Bool) (hrefl : ∀ a, cmp a a = true)
    (s₀ : Nat → Option M) (progs : Nat → List (WOp M)) (opts : Nat → SubOpts M) (sched : List Act) :
    let c : Cfg M := run (initCfg s₀ progs opts) sched
    ∀ s, (∀ e, e ∈ (c.subs s).obs → e.id = 0) →
      ((c.subs s).updatesOnly = true → ∀ e, e ∈ (c.subs s).obs → cmp none e.new = false) →
      cmp ((c.subs s).obsViewEqVal cmp 0) ((c.subs s).obsView 0) = true ∧
      (ordered (initCfg s₀ progs opts) sched = true → c.quiescent = true → (c.subs s).live = true →
        (c.subs s).pending = [] →
        cmp ((c.subs s).obsViewEqVal cmp 0)
          (((c.store 0).filter (fun x => inclOpt (c.subs s).incl 0 (some x))).map (c.subs s).mask) = true) := by
  intro c s hid huo
  have h1 := obsViewEqVal_equiv cmp hrefl (c.subs s) hid huo
  refine ⟨h1, ?_⟩
  intro hord hq hs hp
  rw [(C03_converges_observed s₀ progs opts sched hord).2 hq s hs hp] at h1
  exact h1

/-- **An ADD is announced only for an item the subscriber does not hold** — the condition under which `mergeChanges`
may cancel a pending ADD against a following REMOVE.  (`Collection.Update` announces an UPDATE, not an ADD, when the item
it set out to create was created meanwhile.) -/
theorem C03_add_only_when_absent (s₀ : Nat → Option M) (progs : Nat → List (WOp M)) (opts : Nat → SubOpts M)
    (sched : List Act) (hord : ordered (initCfg s₀ progs opts) sched = true) :
    let c : Cfg M := run (initCfg s₀ progs opts) sched
    ∀ s, (c.subs s).live = true → (c.subs s).lossy = true →
      chainOK (c.subs s).rawView ((c.subs s).pending ++ inflight c s) := by
  intro c s hs hl
  exact (((ordered_inv s₀ progs opts hord).sub s hs).owed rfl).chain hl

/-- create 0 ↦ (2,4); write the same body; change only the second field; delete; re-create with the body the subscriber
had; an item leaves the included set and comes back with the same masked body -/
def eqProg : Nat → List (WOp (Int × Int)) := fun t =>
  if t = 0 then [.upd 0 (fun _ => some (2, 4)), .upd 0 (fun _ => some (2, 4)), .upd 0 (fun _ => some (2, 5)),
                 .del 0 (fun _ => true), .upd 0 (fun _ => some (2, 5)),
                 .upd 1 (fun _ => some (4, 1)), .upd 1 (fun _ => some (3, 1)), .upd 1 (fun _ => some (6, 1))] else []

def eqSched : List Act :=
  [.sub 0, .sub 1,
   .commit 0, .snap 0, .deliver 0, .recv 0, .deliver 0, .recv 1, .commit 0, .snap 0, .deliver 0, .recv 0, .deliver 0, .recv 1,
   .commit 0, .snap 0, .deliver 0, .recv 0, .deliver 0, .recv 1, .commit 0, .deliver 0, .recv 0, .deliver 0, .recv 1,
   .commit 0, .snap 0, .deliver 0, .recv 0, .deliver 0, .recv 1, .commit 0, .snap 0, .deliver 0, .recv 0, .deliver 0, .recv 1,
   .commit 0, .snap 0, .deliver 0, .recv 0, .deliver 0, .recv 1, .commit 0, .snap 0, .deliver 0, .recv 0, .deliver 0, .recv 1]

def eqOpts : Nat → SubOpts (Int × Int) := fun s =>
  if s = 0 then ⟨false, false, id, none⟩ else ⟨false, false, onlySecond, evenFirst⟩

def eqRun : Cfg (Int × Int) := run (initCfg (fun _ => none) eqProg eqOpts) eqSched

-- the limit was for `decide` in the elaborator on the 49-step run; the kernel evaluation below does not need it
set_option maxRecDepth 8000 in
/-- non-vacuity: the equal rewrite is skipped, the REMOVE and the re-creation with the same body are delivered; through
the mask the change of the hidden field is skipped too -/
example :
    ordered (initCfg (fun _ => none) eqProg eqOpts) eqSched = true ∧ eqRun.quiescent = true ∧
    ((eqRun.subs 0).obsEqColl (fun a b => decide (a = b))).map (fun e => (e.id, e.new)) =
      [(0, some (2, 4)), (0, some (2, 5)), (0, none), (0, some (2, 5)), (1, some (4, 1)), (1, some (3, 1)), (1, some (6, 1))] ∧
    (eqRun.subs 0).obs.length = 8 ∧
    ((eqRun.subs 1).obsEqColl (fun a b => decide (a = b))).map (fun e => (e.id, e.new)) =
      [(0, some (0, 4)), (0, some (0, 5)), (0, none), (0, some (0, 5)), (1, some (0, 1)), (1, none), (1, some (0, 1))] ∧
    (eqRun.subs 1).obsViewEqColl (fun a b => decide (a = b)) 0 = some (0, 5) ∧
    (eqRun.subs 1).obsViewEqColl (fun a b => decide (a = b)) 1 = some (0, 1) ∧
    eqRun.store 0 = some (2, 5) ∧ eqRun.store 1 = some (6, 1) := by
  decide +kernel

/-- a Value with the equivalence "same first field": the last delivered value (1,3) is not the final value (1,4) but
equivalent to it -/
example :
    let progs : Nat → List (WOp (Int × Int)) := fun t =>
      if t = 0 then [.upd 0 (fun _ => some (1, 2)), .upd 0 (fun _ => some (2, 2)), .upd 0 (fun _ => some (2, 3)),
                     .upd 0 (fun _ => some (1, 3)), .upd 0 (fun _ => some (1, 4))] else []
    let cmp : Option (Int × Int) → Option (Int × Int) → Bool := fun a b =>
      match a, b with | none, none => true | some x, some y => x.1 == y.1 | _, _ => false
    let sched : List Act :=
      [.sub 0, .commit 0, .snap 0, .deliver 0, .recv 0, .commit 0, .snap 0, .deliver 0, .recv 0,
       .commit 0, .snap 0, .deliver 0, .recv 0, .commit 0, .snap 0, .deliver 0, .recv 0, .commit 0, .snap 0, .deliver 0, .recv 0]
    let c := run (initCfg (fun i => if i = 0 then some (1, 1) else none) progs (fun _ => ⟨false, true, id, none⟩)) sched
    ((c.subs 0).obsEqVal cmp).map (·.new) = [some (2, 2), some (1, 3)] ∧ (c.subs 0).obsViewEqVal cmp 0 = some (1, 3) ∧
    c.store 0 = some (1, 4) ∧ (c.subs 0).obs.length = 5 := by
  decide +kernel

end ScVerif.C03
