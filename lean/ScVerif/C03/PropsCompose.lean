import ScVerif.C03.Compose
import ScVerif.C03.Inv
/-!
# C03 — a stream COMPOSED from a `Collection.Pull` (openclosepb `Model.PullPositions`) converges to `Get`

The caller's view is the LAST message.  For every `compose` function of the map (sort + derived preset + response
filter), every inner stream, both values of the caller's updates-only flag.
-/
namespace ScVerif.C03.Compose

variable {M P : Type}

/-- The goroutine of `PullPositions` keeps a map of every item it has been told about; once a change that must be
announced has been processed (`trigger`; or the collection was empty for a caller that wants the current value) the
message sent last is the composition of that map — after every later change too. -/
theorem C03_composed_tracks_view [DecidableEq P] (compose : (Nat → Option M) → P) (uo emp : Bool)
    (cs : List (Chg M)) :
    let st : St M P := runAd compose uo emp cs
    st.all = cs.foldl applyChg (fun _ => none) ∧
    (((emp && !uo) || cs.any (trigger uo)) = true →
      st.last = some (compose (cs.foldl applyChg (fun _ => none)))) :=
  ⟨runAd_all compose uo emp cs,
    fun h => runAd_all (P := P) compose uo emp cs ▸ (runAd_tracks compose uo emp cs h).2⟩

/-- While only seed values arrive nothing is sent; the last seed value produces exactly one message, the whole seed, for
a caller that wants the current value, and nothing for an updates-only caller. -/
theorem C03_composed_seed_phase [DecidableEq P] (compose : (Nat → Option M) → P) (uo : Bool)
    (pre : List (Chg M)) (c : Chg M)
    (hpre : ∀ x ∈ pre, x.seed = true ∧ x.lastSeed = false) (hc : c.seed = true) :
    (runAd compose uo false pre : St M P).out = [] ∧
    (runAd compose uo false (pre ++ [c]) : St M P).out =
      (if c.lastSeed && !uo then [compose ((pre ++ [c]).foldl applyChg (fun _ => none))] else []) := by
  have hp := runAd_seeds (P := P) compose uo pre hpre
  refine ⟨congrArg St.out hp, ?_⟩
  show ((pre ++ [c]).foldl (stepAd compose uo) (init compose uo false)).out = _
  rw [List.foldl_append, show pre.foldl (stepAd compose uo) (init compose uo false) = _ from hp]
  -- the last change is a seed value met with `seenAll = false`: it is announced iff `c.lastSeed && !uo`, and since
  -- nothing has been sent so far (`last = none`) `emit` cannot suppress the message
  simp only [List.foldl_cons, List.foldl_nil, stepAd, hc, Bool.not_true, Bool.or_self, Bool.false_or, List.foldl_append]
  cases c.lastSeed && !uo
  · rfl
  · simp [emit]

/-- `PullPositions` never sends a message equal to the one it sent before, and `last` is the message sent last. -/
theorem C03_composed_no_stutter [DecidableEq P] (compose : (Nat → Option M) → P) (uo emp : Bool)
    (cs : List (Chg M)) :
    let st : St M P := runAd compose uo emp cs
    st.out.getLast? = st.last ∧ stutterFree st.out = true :=
  runFrom_outInv compose uo cs _ (init_outInv compose uo emp)

/-- composed with `C03_converges_partial`: in every `ordered` run, for a live SEEDED inner subscriber that has drained its
stage, once at least one update has been received the message sent last is what `GetPositions` composes — whatever the
caller's own updates-only flag.  (The adapter is fed the events as received, before any mask; the proof does not use that there
is none.) -/
theorem C03_composed_converges [DecidableEq M] [DecidableEq P] (compose : (Nat → Option M) → P)
    (s₀ : Nat → Option M) (progs : Nat → List (WOp M)) (opts : Nat → SubOpts M)
    (sched : List Act) (hord : ordered (initCfg s₀ progs opts) sched = true)
    (s : Nat) (uo emp : Bool) (seeds : List (Chg M)) :
    let c : Cfg M := run (initCfg s₀ progs opts) sched
    c.quiescent = true → (c.subs s).live = true → (c.subs s).pending = [] →
    (∀ x, (c.subs s).mask x = x) →
    seeds.foldl applyChg (fun _ => none) = (c.subs s).base →
    (c.subs s).evs ≠ [] →
    (runAd compose uo emp (seeds ++ (c.subs s).evs.map ofEvent) : St M P).last = some (compose c.store) := by
  intro c hq hlive hpend _ hseeds hevs
  rw [runAd_events compose uo emp seeds _ hevs, hseeds]
  exact congrArg (fun v => some (compose v)) ((ordered_inv s₀ progs opts hord).drained hq hlive hpend)

def twoSeedsOneUpdate : List (Chg Int) := [⟨0, some 1, true, false⟩, ⟨1, some 2, true, true⟩, ⟨0, some 5, false, false⟩]

def pairOf (v : Nat → Option Int) : Option Int × Option Int := (v 0, v 1)

/-- the variant that forwards the caller's updates-only flag to the inner `Pull` (no seed events) ends with a message
that is NOT the composition of the store -/
theorem C03_composed_inner_seed_needed :
    (runAd pairOf true false twoSeedsOneUpdate).last = some (some 5, some 2) ∧
    (runAdNoSeeds pairOf true false twoSeedsOneUpdate).last = some (some 5, none) ∧
    pairOf (twoSeedsOneUpdate.foldl applyChg (fun _ => none)) = (some 5, some 2) := by
  decide +kernel

/-- non-vacuity: an updates-only caller is sent nothing for the seed and one message, the whole map, for the update; a
caller that wants the current value gets the seed as ONE message first -/
example : (runAd pairOf true false twoSeedsOneUpdate).out = [(some 5, some 2)] ∧
    (runAd pairOf false false twoSeedsOneUpdate).out = [(some 1, some 2), (some 5, some 2)] ∧
    (runAd pairOf false true ([] : List (Chg Int))).out = [(none, none)] := by decide +kernel

end ScVerif.C03.Compose
