import ScVerif.C03.Step
/-!
# C03 — what holds of every change between a commit and a consumer, on every schedule

A `Q` that holds of the change a commit announces and that survives `mergeChanges` (the merged change is the later one
with type and old value of the earlier) holds of every publication in flight, every staged and every received change:
nothing else ever makes or alters a change.

Instance here: `tagOK`.  `Collection.Update` announces an ADD only when nothing was stored — also when the item it set
out to create was created meanwhile — and `Delete` a REMOVE carrying the removed body; the forwarder keeps it too
(`fwdEv_some` in `Forwarder.lean`: `include` turns a change into an ADD without old value or a REMOVE with one).  The
other instance is `Ids` in `Icpt.lean`.
-/
namespace ScVerif.C03
open ScVerif.C02 (setAt)

variable {M : Type}

structure Evs (Q : Event M → Prop) (c : Cfg M) : Prop where
  pubs : ∀ p, p ∈ c.pubs → Q p.ev
  pending : ∀ s e, e ∈ (c.subs s).pending → Q e
  evs : ∀ s e, e ∈ (c.subs s).evs → Q e

variable {Q : Event M → Prop} {c : Cfg M}

theorem Evs.setSub (h : Evs Q c) (s : Nat) (sb' : Sub M) (lis : List Nat) (pubs' : List (Pub M))
    (hpubs : ∀ q, q ∈ pubs' → Q q.ev) (hp : ∀ x, x ∈ sb'.pending → Q x) (he : ∀ x, x ∈ sb'.evs → Q x) :
    Evs Q { c with subs := setAt c.subs s sb', listeners := lis, pubs := pubs' } :=
  ⟨hpubs, forall_setAt (P := fun _ (sb : Sub M) => ∀ x, x ∈ sb.pending → Q x) hp (fun s' _ => h.pending s'),
    forall_setAt (P := fun _ (sb : Sub M) => ∀ x, x ∈ sb.evs → Q x) he (fun s' _ => h.evs s')⟩

theorem Evs.move {c' : Cfg M} {a : Act}
    (hmerge : ∀ a e : Event M, Q a → Q e → a.id = e.id → Q { e with isAdd := a.isAdd, old := a.old })
    (h : Evs Q c) (m : Move c a c') (hnew : ∀ t o e, o ∈ (c.writers t).prog → Announces c o e → Q e) : Evs Q c' := by
  -- the publications after a step of the `k`-th one: the others, and perhaps itself with less of its copy left
  have dropped : ∀ {k p post}, c.pubs.drop k = p :: post → ∀ q, q ∈ c.pubs.take k ++ post → Q q.ev :=
    fun hd q hq => h.pubs q (mem_take_append_post hd hq)
  have replaced : ∀ {k p post} (p' : Pub M), c.pubs.drop k = p :: post → p'.ev = p.ev →
      ∀ q, q ∈ c.pubs.take k ++ p' :: post → Q q.ev := by
    intro k p post p' hd hev q hq
    rcases mem_replace hd hq with hq | hq
    · rw [hq, hev]; exact h.pubs p (mem_of_drop hd)
    · exact h.pubs q hq
  have offered : ∀ {k p post} s, c.pubs.drop k = p :: post → ∀ pubs' : List (Pub M), (∀ q, q ∈ pubs' → Q q.ev) →
      Evs Q { c with subs := setAt c.subs s ((c.subs s).offered p.ev), pubs := pubs' } := by
    intro k p post s hd pubs' hpubs
    have hp := h.pubs p (mem_of_drop hd)
    refine h.setSub s _ c.listeners pubs' hpubs (fun x hx => ?_)
      (fun x hx => h.evs s x (((c.subs s).offered_frame p.ev).1 ▸ hx))
    rcases Sub.mem_offered hx with hx | hx | ⟨a, ha, hae, hx⟩
    · exact h.pending s x hx
    · rw [hx]; exact hp
    · rw [hx]; exact hmerge a p.ev (h.pending s a ha) hp hae
  cases m with
  | refuse | quiet => exact ⟨h.pubs, h.pending, h.evs⟩
  | @commit t o rest e p _ ho he hev =>
    refine ⟨fun q hq => ?_, h.pending, h.evs⟩
    rcases List.mem_append.mp hq with hq | hq
    · exact h.pubs q hq
    · rw [List.mem_singleton.mp hq, hev]; exact hnew t o e (ho ▸ List.mem_cons_self) he
  | snapEnd hd => exact ⟨dropped hd, h.pending, h.evs⟩
  | snap hd => exact ⟨replaced _ hd rfl, h.pending, h.evs⟩
  | deliverEnd hd => exact ⟨dropped hd, (offered _ hd _ (dropped hd)).pending, (offered _ hd _ (dropped hd)).evs⟩
  | deliver hd => exact offered _ hd _ (replaced _ hd rfl)
  | sub => exact h.setSub _ _ _ c.pubs h.pubs (fun x hx => absurd hx List.not_mem_nil) (fun x hx => absurd hx List.not_mem_nil)
  | @cancel s => exact h.setSub s _ c.listeners c.pubs h.pubs (h.pending s) (h.evs s)
  | @recv s x rest hp =>
    have hx : ∀ y, y ∈ x :: rest → Q y := fun y hy => h.pending s y (hp ▸ hy)
    refine h.setSub s _ c.listeners c.pubs h.pubs (fun y hy => hx y (List.mem_cons_of_mem _ hy)) (fun y hy => ?_)
    rcases List.mem_append.mp hy with hy | hy
    · exact h.evs s y hy
    · rw [List.mem_singleton.mp hy]; exact hx x List.mem_cons_self

theorem Evs.step (hmerge : ∀ a e : Event M, Q a → Q e → a.id = e.id → Q { e with isAdd := a.isAdd, old := a.old })
    (h : Evs Q c) (a : Act) (hnew : ∀ t o e, o ∈ (c.writers t).prog → Announces c o e → Q e) : Evs Q (step c a) :=
  step_keeps h (fun m => h.move hmerge m hnew)

structure Tag (c : Cfg M) : Prop where
  pubs : ∀ p, p ∈ c.pubs → tagOK p.ev
  pending : ∀ s e, e ∈ (c.subs s).pending → tagOK e
  evs : ∀ s e, e ∈ (c.subs s).evs → tagOK e

theorem Tag.init (s₀ : Nat → Option M) (progs : Nat → List (WOp M)) (opts : Nat → SubOpts M) :
    Tag (initCfg s₀ progs opts) :=
  ⟨fun _ hp => absurd hp List.not_mem_nil, fun _ _ he => absurd he List.not_mem_nil,
    fun _ _ he => absurd he List.not_mem_nil⟩

theorem Tag.next (h : Tag c) (a : Act) : Tag (step c a) :=
  have h' := Evs.step (Q := tagOK) (fun _ _ ha _ _ => ha) ⟨h.pubs, h.pending, h.evs⟩ a (fun _ _ _ _ he => he.tag)
  ⟨h'.pubs, h'.pending, h'.evs⟩

end ScVerif.C03
