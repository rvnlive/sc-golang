import ScVerif.C03.Tag
import ScVerif.C03.IcptDef
/-!
# C03 — id interceptors: a change only ever names an id some call stored under

`Ids P c`: every id named by a call still to be made or by a change anywhere satisfies `P` — on EVERY schedule.  With
`P := named icpt progs`: no subscriber is ever told about an id that is not the interceptor's image of some caller's
spelling, so a view folded by `Id` has no entry under a caller's own spelling.
-/
namespace ScVerif.C03

variable {M : Type}

structure Ids (P : Nat → Prop) (c : Cfg M) : Prop where
  progs : ∀ t o, o ∈ (c.writers t).prog → P o.id
  pubs : ∀ p, p ∈ c.pubs → P p.ev.id
  pending : ∀ s e, e ∈ (c.subs s).pending → P e.id
  evs : ∀ s e, e ∈ (c.subs s).evs → P e.id

theorem Ids.init {P : Nat → Prop} (s₀ : Nat → Option M) (progs : Nat → List (WOp M)) (opts : Nat → SubOpts M)
    (h : ∀ t o, o ∈ progs t → P o.id) : Ids P (initCfg s₀ progs opts) :=
  ⟨h, fun _ hp => absurd hp List.not_mem_nil, fun _ _ he => absurd he List.not_mem_nil,
    fun _ _ he => absurd he List.not_mem_nil⟩

theorem Ids.next {P : Nat → Prop} {c : Cfg M} (h : Ids P c) (a : Act) : Ids P (step c a) :=
  have h' := Evs.step (Q := fun e => P e.id) (fun _ _ _ he _ => he) ⟨h.pubs, h.pending, h.evs⟩ a
    (fun t o _ ho he => he.id ▸ h.progs t o ho)
  ⟨fun t o ho => h.progs t o ((step_frame c a).progs t o ho), h'.pubs, h'.pending, h'.evs⟩

-- `Ids.runAll`, `run_store_frame`, `foldl_applyEv_other` and `named_init` take `[DecidableEq M]` as the property theorems
-- of `PropsIcpt.lean`, whose schedules are judged by `ordered`, do; nothing in them decides an equality
theorem Ids.runAll [DecidableEq M] {P : Nat → Prop} {c : Cfg M} (h : Ids P c) (sched : List Act) : Ids P (run c sched) :=
  run_induct (fun _ a h => h.next a) h sched

theorem run_store_frame [DecidableEq M] {P : Nat → Prop} (sched : List Act) : ∀ {c : Cfg M}, Ids P c → ∀ i, ¬ P i →
    (run c sched).store i = c.store i := by
  intro c h i hi
  refine (run_induct (I := fun c' => Ids P c' ∧ c'.store i = c.store i) (fun c' a h' => ⟨h'.1.next a, ?_⟩)
    ⟨h, rfl⟩ sched).2
  rw [← h'.2]
  exact ((step_frame c' a).store i).resolve_right fun ⟨t, o, ho, h1⟩ => hi (h1 ▸ h'.1.progs t o ho)

theorem foldl_applyEv_other [DecidableEq M] (L : List (Event M)) (v : Nat → Option M) (i : Nat)
    (h : ∀ e, e ∈ L → e.id ≠ i) : (L.foldl applyEv v) i = v i := by
  induction L generalizing v with
  | nil => rfl
  | cons a P ih =>
    rw [List.foldl_cons, ih _ (fun e he => h e (List.mem_cons_of_mem _ he))]
    exact applyEv_other (Ne.symm (h a List.mem_cons_self))

theorem WOp.canon_id (icpt : Nat → Nat) (o : WOp M) : (o.canon icpt).id = icpt o.id := by
  cases o <;> rfl

theorem named_init [DecidableEq M] (icpt : Nat → Nat) (s₀ : Nat → Option M) (progs : Nat → List (WOp M)) (opts : Nat → SubOpts M) :
    Ids (named icpt progs) (initI icpt s₀ progs opts) := by
  apply Ids.init
  intro t o ho
  obtain ⟨o', ho', rfl⟩ := List.mem_map.mp ho
  exact ⟨t, o', ho', WOp.canon_id icpt o'⟩

end ScVerif.C03
