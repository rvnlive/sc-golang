import ScVerif.Base.Line
import ScVerif.C03.Model
import ScVerif.C03.Defs
import ScVerif.C03.Compose
import ScVerif.C03.IcptDef
/-!
Driver handler for C03.  Messages are pairs of integers `(l, t)` (two independent fields); a plain integer `k`
stands for `(k, 0)`.

Request: `run <init> <progs> <subs> <sched>` | `runi <m> <init> <progs> <subs> <sched>` (the collection has the id
interceptor `· % m`: the programs name ids in the callers' spellings, `initI`; init ids are stored ids)
* init   `-` or `id:val,...`  (val = `l` or `l.t`)
* progs  writers separated by `|`, operations by `;` (empty writer `-`): `u/<id>/s<k>` set to (k,0), `u/<id>/a<k>` add k
         to the first field (absent = 0), `u/<id>/c<e>.<v>` set to (v,0) if the current value is (e,0) (else no commit),
         `u/<id>/w<l>.<t>` write the pair, `u/<id>/z<e>.<v>` set to (v,0) if the current value, an absent item read as
         the empty message (0,0), is (e,0) (a create-or-update overtaken by rivals: its re-validation), `d/<id>`
* subs   `-` or comma separated `<updatesOnly 0|1><lossy 0|1><mask n|l|t|b>` per subscriber
* sched  `-` or comma separated steps: `c<t>` commit of writer t, `n<k>` snapshot / `d<k>` next delivery of the
         k-th publication in flight (commit order), `s<i>` subscribe, `x<i>` cancel, `r<i>` consumer i takes one
         event, `R` every consumer drains its stage

         a subscriber may carry a 4th letter: its include function `n|a|b|c|d` (see `parseIncl?`), and a 5th: the
         resource's equivalence `n` none, `e` equal bodies, `l` / `t` equal first / second field, as `Collection.Pull`
         applies it (the change's own old value against its new value); `E|L|T`: the same as `Value.Pull` applies it
         (the value sent last against the new value); `a` / `A`: a TOLERANCE (both fields within 2 of each other, a
         zero field - unpopulated in proto3 - equivalent to a zero field only: reflexive and symmetric, NOT transitive -
         `cmp.Equal(cmp.FloatValueApprox(0, 2))`, see `tolField`)
Answer: `store=…|S0=<live|gone|unreg>:<view>:<events>|…|pubs=<in flight>|lock=<0|1>|ord=<0|1>`
(view and events are what the consumer RECEIVES: after include and read mask)

Decision tables (K2): `fwd <incl> <mask> <id> <old|-> <new|->` — one change through the forwarder: `drop` or
`<A|U|R>:<old>:<new>`; `merge <A|U|P|R>/<old|->/<new|-> <A|U|P|R>/<old|->/<new|->` — the merge stage holding the first
change receives the second (same id): `cancel` or `<A|U|R>:<old>:<new>`; `approx <num> <den> <margin> <x> <y>` — `cmp.FloatValueApprox(num/den, margin)` on the
integers x, y: `<0|1>/<0|1>` = the comparer itself (`approxInt`) / as `cmp.Equal` applies it to a scalar field
(`approxField`: a zero field is unpopulated and equivalent to a zero field only).

`pullid <id> <init> <progs> <subs> <sched>` | `pullidi <m> <id> <init> <progs> <subs> <sched>` — the same run, read as `Collection.PullID id` by subscriber 0:
`store=…|vals=<values delivered, `;` separated>|ended=<0|1>` (`Sub.pullID`, `Sub.pullIDEnded`).

Composing adapter (openclosepb `Model.PullPositions`): `compose <updatesOnly 0|1> <emptyAtSubscribe 0|1> <mask n|s|p>
<changes>` with changes `-` or comma separated `<id>=<val|nil>/<s|S|u>` (seed value, LAST seed value, update): the
messages sent, `;` separated, each `<states>#<preset>` (mask `s`: states only, `p`: preset only; the preset `P` stands
for exactly the states `1=41,2=42`), then `|last=<message|none>`.
-/
namespace ScVerif.C03
open ScVerif.Line

abbrev V := Int × Int

def parseVal? (s : String) : Option V :=
  match s.splitOn "." with
  | [l] => (parseInt? l).map (fun l => (l, 0))
  | [l, t] => do
    let l ← parseInt? l
    let t ← parseInt? t
    pure (l, t)
  | _ => none

def showVal (v : V) : String := if v.2 = 0 then toString v.1 else s!"{v.1}.{v.2}"

def parseF? (s : String) : Option (Option V → Option V) :=
  if s.startsWith "s" then (parseInt? (s.drop 1).toString).map (fun k => fun _ => some (k, 0))
  else if s.startsWith "a" then
    (parseInt? (s.drop 1).toString).map (fun k => fun old => some ((old.getD (0, 0)).1 + k, (old.getD (0, 0)).2))
  else if s.startsWith "w" then (parseVal? (s.drop 1).toString).map (fun v => fun _ => some v)
  else if s.startsWith "c" then
    match ((s.drop 1).toString).splitOn "." with
    | [e, v] => do
      let e ← parseInt? e
      let v ← parseInt? v
      pure (fun old => if old = some (e, 0) then some (v, 0) else none)
    | _ => none
  else if s.startsWith "z" then
    match ((s.drop 1).toString).splitOn "." with
    | [e, v] => do
      let e ← parseInt? e
      let v ← parseInt? v
      pure (fun old => if old.getD (0, 0) = (e, 0) then some (v, 0) else none)
    | _ => none
  else none

def parseOp? (s : String) : Option (WOp V) :=
  match s.splitOn "/" with
  | ["u", id, f] => do
    let id ← parseNat? id
    let f ← parseF? f
    pure (.upd id f)
  | ["d", id] => do
    let id ← parseNat? id
    pure (.del id (fun _ => true))
  | _ => none

def parseProg? (s : String) : Option (List (WOp V)) :=
  if s = "-" || s = "" then some [] else (s.splitOn ";").mapM parseOp?

def parseInit? (s : String) : Option (List (Nat × V)) :=
  if s = "-" || s = "" then some []
  else (s.splitOn ",").mapM (fun kv =>
    match kv.splitOn ":" with
    | [k, v] => do
      let k ← parseNat? k
      let v ← parseVal? v
      pure (k, v)
    | _ => none)

def parseMask? (c : Char) : Option (V → V) :=
  if c = 'n' then some id
  else if c = 'l' then some (fun v => (v.1, 0))
  else if c = 't' then some (fun v => (0, v.2))
  else if c = 'b' then some id
  else none

/-- the closed family of include functions shared with the harness: `n` none, `a` first field even, `b` second
field even, `c` first field ≥ 5, `d` the id is even and the second field is < 5 -/
def parseIncl? (c : Char) : Option (Option (Nat → V → Bool)) :=
  if c = 'n' then some none
  else if c = 'a' then some (some (fun _ v => v.1 % 2 == 0))
  else if c = 'b' then some (some (fun _ v => v.2 % 2 == 0))
  else if c = 'c' then some (some (fun _ v => decide (v.1 ≥ 5)))
  else if c = 'd' then some (some (fun i v => i % 2 == 0 && decide (v.2 < 5)))
  else none

/-- `Comparer.Compare` on possibly absent messages: an absent message is equivalent to an absent one only -/
def cmpOf (eq : V → V → Bool) : Option V → Option V → Bool
  | none, none => true
  | some a, some b => eq a b
  | _, _ => false

/-- one float field under `cmp.Equal(cmp.FloatValueApprox(0, 2))`: `equalMessage` first compares which fields are
POPULATED (a proto3 scalar at its zero value is not), so zero is equivalent to zero only; two populated fields are
equivalent when within 2 of each other -/
def tolField (x y : Int) : Bool := approxField 0 1 2 x y

/-- the resource's equivalence: (applied as `Value.Pull` does?, the comparer) -/
def parseEq? (c : Char) : Option (Option (Bool × (Option V → Option V → Bool))) :=
  let isVal := c.isUpper
  let c := c.toLower
  if c = 'n' then some none
  else if c = 'e' then some (some (isVal, cmpOf (fun a b => a == b)))
  else if c = 'l' then some (some (isVal, cmpOf (fun a b => a.1 == b.1)))
  else if c = 't' then some (some (isVal, cmpOf (fun a b => a.2 == b.2)))
  else if c = 'a' then some (some (isVal, cmpOf (fun a b => tolField a.1 b.1 && tolField a.2 b.2)))
  else none

def parseSubEq? (s : String) : Option (Option (Bool × (Option V → Option V → Bool))) :=
  match s.toList with
  | [_, _, _, _, q] => parseEq? q
  | [_, _, _, _] => some none
  | [_, _, _] => some none
  | _ => none

def parseSub? (s : String) : Option (SubOpts V) :=
  match s.toList.take 4 with
  | [u, l, m] => do
    let u ← (if u = '1' then some true else if u = '0' then some false else none)
    let l ← (if l = '1' then some true else if l = '0' then some false else none)
    let m ← parseMask? m
    pure ⟨u, l, m, none⟩
  | [u, l, m, f] => do
    let u ← (if u = '1' then some true else if u = '0' then some false else none)
    let l ← (if l = '1' then some true else if l = '0' then some false else none)
    let m ← parseMask? m
    let f ← parseIncl? f
    pure ⟨u, l, m, f⟩
  | _ => none

def parseSubs? (s : String) : Option (List (SubOpts V)) :=
  if s = "-" || s = "" then some [] else (s.splitOn ",").mapM parseSub?

def parseSubEqs? (s : String) : Option (List (Option (Bool × (Option V → Option V → Bool)))) :=
  if s = "-" || s = "" then some [] else (s.splitOn ",").mapM parseSubEq?

inductive Tok
  | act (a : Act)
  | drainAll

def parseTok? (s : String) : Option Tok :=
  if s = "R" then some .drainAll else
  let n := parseNat? (s.drop 1).toString
  if s.startsWith "c" then n.map (fun n => .act (.commit n))
  else if s.startsWith "n" then n.map (fun n => .act (.snap n))
  else if s.startsWith "d" then n.map (fun n => .act (.deliver n))
  else if s.startsWith "s" then n.map (fun n => .act (.sub n))
  else if s.startsWith "x" then n.map (fun n => .act (.cancel n))
  else if s.startsWith "r" then n.map (fun n => .act (.recv n))
  else none

def parseSched? (s : String) : Option (List Tok) :=
  if s = "-" || s = "" then some [] else (s.splitOn ",").mapM parseTok?

/-- `R`: every consumer drains its stage (one `recv` per pending event) -/
def expand (nsubs : Nat) (c : Cfg V) : List Tok → List Act → Cfg V × List Act
  | [], acc => (c, acc.reverse)
  | .act a :: rest, acc => expand nsubs (step c a) rest (a :: acc)
  | .drainAll :: rest, acc =>
    let acts := (List.range nsubs).flatMap (fun s => List.replicate (c.subs s).pending.length (Act.recv s))
    expand nsubs (run c acts) rest (acts.reverse ++ acc)

def showView (v : Nat → Option V) : String :=
  ",".intercalate ((List.range 10).filterMap (fun i => (v i).map (fun x => s!"{i}={showVal x}")))

def showEv (m : V → V) (e : Event V) : String :=
  match e.new with
  | some v => s!"{e.id}={showVal (m v)}"
  | none => s!"{e.id}=nil"

def parseOptVal? (s : String) : Option (Option V) :=
  if s = "-" then some none else (parseVal? s).map some

def showOptVal : Option V → String
  | none => "-"
  | some v => showVal v

def showChange (e : Event V) : String :=
  let ty := if e.isAdd then "A" else if e.new.isNone then "R" else "U"
  s!"{ty}:{showOptVal e.old}:{showOptVal e.new}"

def parseChange? (s : String) : Option (Event V) :=
  match s.splitOn "/" with
  | [ty, o, n] => do
    let o ← parseOptVal? o
    let n ← parseOptVal? n
    if ty = "A" || ty = "U" || ty = "P" || ty = "R" then pure ⟨0, o, n, ty = "A", 0⟩ else none
  | _ => none

def handleTable (toks : List String) : Option String :=
  match toks with
  | ["fwd", incl, mask, id, o, n] => do
    let incl ← (match incl.toList with | [c] => parseIncl? c | _ => none)
    let mask ← (match mask.toList with | [c] => parseMask? c | _ => none)
    let id ← parseNat? id
    let o ← parseOptVal? o
    let n ← parseOptVal? n
    if o.isNone && n.isNone then none else
    match fwdEv incl mask ⟨id, o, n, o.isNone, 0⟩ with
    | none => pure "drop"
    | some e => pure (showChange e)
  | ["approx", num, den, margin, x, y] => do
    let num ← parseNat? num
    let den ← parseNat? den
    let margin ← parseNat? margin
    let x ← parseInt? x
    let y ← parseInt? y
    if den = 0 then none else
    let b := fun (v : Bool) => if v then "1" else "0"
    pure (b (approxInt num den margin x y) ++ "/" ++ b (approxField num den margin x y))
  | ["merge", a, b] => do
    let a ← parseChange? a
    let b ← parseChange? b
    match mergeInto [a] b with
    | [] => pure "cancel"
    | [e] => pure (showChange e)
    | _ => none
  | _ => none

/-- the composed message of the driver: states listed by id, the preset derived from ALL states, then the caller's
response filter (`n` none, `s` the states only, `p` the preset only) -/
def composeMsg (mask : Char) (all : Nat → Option V) : String :=
  let states := showView all
  let preset := if states = "1=41,2=42" then "P" else ""
  if mask = 's' then s!"{states}#" else if mask = 'p' then s!"#{preset}" else s!"{states}#{preset}"

def parseChg? (s : String) : Option (Compose.Chg V) :=
  match s.splitOn "/" with
  | [kv, fl] =>
    match kv.splitOn "=" with
    | [k, v] => do
      let k ← parseNat? k
      let v ← (if v = "nil" then some none else (parseVal? v).map some)
      if fl = "s" then pure ⟨k, v, true, false⟩
      else if fl = "S" then pure ⟨k, v, true, true⟩
      else if fl = "u" then pure ⟨k, v, false, false⟩
      else none
    | _ => none
  | _ => none

def handleCompose (toks : List String) : Option String :=
  match toks with
  | ["compose", uo, emp, mask, chgs] => do
    let uo ← (if uo = "1" then some true else if uo = "0" then some false else none)
    let emp ← (if emp = "1" then some true else if emp = "0" then some false else none)
    let mask ← (match mask.toList with | [c] => (if c = 'n' || c = 's' || c = 'p' then some c else none) | _ => none)
    let cs ← (if chgs = "-" then some [] else (chgs.splitOn ",").mapM parseChg?)
    let st : Compose.St V String := Compose.runAd (composeMsg mask) uo emp cs
    pure (";".intercalate st.out ++ "|last=" ++ st.last.getD "none")
  | _ => none

def handle (toks : List String) : String :=
  match (handleTable toks).orElse (fun _ => handleCompose toks) with
  | some r => r
  | none =>
  match toks with
  | "run" :: args | "runi" :: args =>
    -- `runi <m> …`: the collection has the id interceptor `· % m`; the programs name ids in the callers' spellings
    let parsed : Option (Option Nat × String × String × String × String) := match toks.head?, args with
      | some "run", [init, progs, subs, sched] => some (none, init, progs, subs, sched)
      | some "runi", [m, init, progs, subs, sched] => (parseNat? m).bind (fun m => if m = 0 then none else some (some m, init, progs, subs, sched))
      | _, _ => none
    match parsed with
    | none => "!bad-op"
    | some (im, init, progs, subs, sched) =>
    match parseInit? init, (progs.splitOn "|").mapM parseProg?, parseSubs? subs, parseSched? sched, parseSubEqs? subs with
    | some init, some progs, some subs, some sched, some eqs =>
      let s₀ : Nat → Option V := fun i => (init.find? (fun kv => kv.1 == i)).map (·.2)
      let sopts : Nat → SubOpts V := fun s => subs.getD s ⟨false, false, id, none⟩
      let c₀ : Cfg V := match im with
        | none => initCfg s₀ (fun t => progs.getD t []) sopts
        | some m => initI (· % m) s₀ (fun t => progs.getD t []) sopts
      let (c, acts) := expand subs.length c₀ sched []
      let ss := (List.range subs.length).map (fun s =>
        let sb := c.subs s
        let st := if sb.cancelled then "gone" else if sb.registered then "live" else "unreg"
        let (view, evs) := match eqs.getD s none with
          | none => (sb.obsView, sb.obs)
          | some (false, cmp) => (sb.obsViewEqColl cmp, sb.obsEqColl cmp)
          | some (true, cmp) => (sb.obsViewEqVal cmp, sb.obsEqVal cmp)
        s!"S{s}={st}:{showView view}:" ++ ";".intercalate (evs.map (showEv id)))
      s!"store={showView c.store}|" ++ "|".intercalate ss ++
        s!"|pubs={c.pubs.length}|lock={if c.lock.isSome then 1 else 0}|ord={if ordered c₀ acts then 1 else 0}"
    | _, _, _, _, _ => "!bad-op"
  | "pullid" :: args | "pullidi" :: args =>
    -- `Collection.PullID pid` by subscriber 0: the values its stream delivers and whether a REMOVE has ended it;
    -- `pullidi <m> <pid> …`: id interceptor `· % m`, `pid` and the programs' ids in the callers' spellings
    let parsed : Option (Option Nat × String × String × String × String × String) := match toks.head?, args with
      | some "pullid", [pid, init, progs, subs, sched] => some (none, pid, init, progs, subs, sched)
      | some "pullidi", [m, pid, init, progs, subs, sched] =>
        (parseNat? m).bind (fun m => if m = 0 then none else some (some m, pid, init, progs, subs, sched))
      | _, _ => none
    match parsed with
    | none => "!bad-op"
    | some (im, pid, init, progs, subs, sched) =>
    match parseNat? pid, parseInit? init, (progs.splitOn "|").mapM parseProg?, parseSubs? subs, parseSched? sched with
    | some pid, some init, some progs, some subs, some sched =>
      let s₀ : Nat → Option V := fun i => (init.find? (fun kv => kv.1 == i)).map (·.2)
      let sopts : Nat → SubOpts V := fun s => subs.getD s ⟨false, false, id, none⟩
      let c₀ : Cfg V := match im with
        | none => initCfg s₀ (fun t => progs.getD t []) sopts
        | some m => initI (· % m) s₀ (fun t => progs.getD t []) sopts
      let pid := match im with
        | none => pid
        | some m => pid % m   -- `PullID` begins with `id = c.idInterceptor(id)` too
      let (c, _) := expand subs.length c₀ sched []
      let sb := c.subs 0
      -- an updates-only subscriber is sent no seed (`base` is then a ghost: what it must already know)
      let nseed := if sb.updatesOnly then (seedView sb.incl sb.mask sb.base pid).toList.length else 0
      let vals := if sb.registered then ";".intercalate (((sb.pullID pid).drop nseed).map showVal) else ""
      s!"store={showView c.store}|vals={vals}|ended={if sb.pullIDEnded pid then 1 else 0}"
    | _, _, _, _, _ => "!bad-op"
  | _ => "!bad-op"

end ScVerif.C03
