import ScVerif.C03.Icpt
import ScVerif.C03.Props
/-!
# C03 — id interceptors (`resource.WithIDInterceptor`): property theorems

`icpt` is ANY function on ids — not assumed idempotent or injective; callers name items in their own spellings.
-/
namespace ScVerif.C03

variable {M : Type} [DecidableEq M]

/-- EVERY schedule: no change ever names a caller's own spelling that is not the interceptor's image of an id some call
named.  (`Delete` announcing the REMOVE under the id it was CALLED with breaks exactly this.) -/
theorem C03_interceptor_event_ids_stored (icpt : Nat → Nat) (s₀ : Nat → Option M) (progs : Nat → List (WOp M))
    (opts : Nat → SubOpts M) (sched : List Act) :
    let c : Cfg M := run (initI icpt s₀ progs opts) sched
    (∀ p, p ∈ c.pubs → named icpt progs p.ev.id) ∧
    ∀ s, (∀ e, e ∈ (c.subs s).pending → named icpt progs e.id) ∧
         (∀ e, e ∈ (c.subs s).evs → named icpt progs e.id) ∧
         (∀ e, e ∈ (c.subs s).obs → named icpt progs e.id) := by
  intro c
  have h : Ids (named icpt progs) c := (named_init icpt s₀ progs opts).runAll sched
  exact ⟨h.pubs, fun s => ⟨h.pending s, h.evs s, obs_ids (h.evs s)⟩⟩

/-- EVERY schedule: an id that is not the interceptor's image of an id some call names keeps the value the collection was
created with, and every subscriber's folded views hold there what its seed held: no entry ever appears or disappears
under an id the collection stores nothing new under. -/
theorem C03_interceptor_store_frame (icpt : Nat → Nat) (s₀ : Nat → Option M) (progs : Nat → List (WOp M))
    (opts : Nat → SubOpts M) (sched : List Act) (i : Nat) (hi : ¬ named icpt progs i) :
    let c : Cfg M := run (initI icpt s₀ progs opts) sched
    c.store i = s₀ i ∧
    ∀ s, (c.subs s).rawView i = (c.subs s).base i ∧
         (c.subs s).obsView i = seedView (c.subs s).incl (c.subs s).mask (c.subs s).base i := by
  intro c
  have h0 := named_init icpt s₀ progs opts
  have h : Ids (named icpt progs) c := h0.runAll sched
  refine ⟨run_store_frame sched h0 i hi, fun s => ⟨?_, ?_⟩⟩
  · unfold Sub.rawView
    exact foldl_applyEv_other _ _ i (fun e he heq => hi (heq ▸ h.evs s e he))
  · unfold Sub.obsView
    exact foldl_applyEv_other _ _ i (fun e he heq => hi (heq ▸ obs_ids (h.evs s) e he))

/-- In every `ordered` run on a collection with `WithIDInterceptor`, once writers have stopped and a live subscriber has
drained: its view is `List` under its mask, and `PullID(r)` — for ANY spelling `r` — that has not ended has delivered last
what `Get(r)` returns; two spellings with one image are one stream. -/
theorem C03_interceptor_converges (icpt : Nat → Nat) (s₀ : Nat → Option M) (progs : Nat → List (WOp M))
    (opts : Nat → SubOpts M) (sched : List Act) (hord : ordered (initI icpt s₀ progs opts) sched = true) :
    let c : Cfg M := run (initI icpt s₀ progs opts) sched
    c.quiescent = true → ∀ s, (c.subs s).live = true → (c.subs s).pending = [] →
      ((c.subs s).view = fun i => (c.store i).map (c.subs s).mask) ∧
      ∀ r, (c.subs s).pullIDEnded (icpt r) = false →
        ((c.subs s).pullID (icpt r)).getLast? =
          ((c.store (icpt r)).filter (fun x => inclOpt (c.subs s).incl (icpt r) (some x))).map (c.subs s).mask := by
  intro c hq s hl hp
  refine ⟨(C03_converges_partial s₀ _ opts sched hord).2 hq s hl hp, fun r hr => ?_⟩
  exact ((C03_pullid_converges s₀ _ opts sched hord (icpt r)) s hl hr).2 hq hp

/-- a `PullID` stream that has delivered anything HAS ENDED once its item is gone (deleted, or no longer accepted by the
include function).  (A REMOVE announced under an id the stream does not recognise leaves it open for ever.) -/
theorem C03_pullid_ends_when_item_gone (icpt : Nat → Nat) (s₀ : Nat → Option M) (progs : Nat → List (WOp M))
    (opts : Nat → SubOpts M) (sched : List Act) (hord : ordered (initI icpt s₀ progs opts) sched = true) (r : Nat) :
    let c : Cfg M := run (initI icpt s₀ progs opts) sched
    c.quiescent = true → ∀ s, (c.subs s).live = true → (c.subs s).pending = [] →
      (c.store (icpt r)).filter (fun x => inclOpt (c.subs s).incl (icpt r) (some x)) = none →
      (c.subs s).pullID (icpt r) ≠ [] → (c.subs s).pullIDEnded (icpt r) = true := by
  intro c hq s hl hp hgone hne
  refine pullIDEnded_of_gone _ _ ?_ hne
  exact (congrFun ((C03_converges_observed s₀ _ opts sched hord).2 hq s hl hp) (icpt r)).trans (congrArg _ hgone)

def icptProg : Nat → List (WOp Int) := fun t =>
  if t = 0 then [.upd 105 (fun _ => some 1), .upd 5 (fun _ => some 2), .del 205 (fun _ => true), .upd 7 (fun _ => some 3)]
  else []

def icptSched : List Act :=
  [.sub 0, .commit 0, .snap 0, .deliver 0, .recv 0, .commit 0, .snap 0, .deliver 0, .recv 0,
   .commit 0, .deliver 0, .recv 0, .commit 0, .snap 0, .deliver 0, .recv 0]

def icptRun : Cfg Int := run (initI (· % 100) (fun _ => none) icptProg (fun _ => ⟨false, false, id, none⟩)) icptSched

/-- non-vacuity: a lower-casing style interceptor (`· % 100`), the item created as 105, changed as 5, deleted as 205 -/
example :
    ordered (initI (· % 100) (fun _ => none) icptProg (fun _ => ⟨false, false, id, none⟩)) icptSched = true ∧
    icptRun.quiescent = true ∧ (icptRun.subs 0).live = true ∧ (icptRun.subs 0).pending = [] ∧
    (icptRun.subs 0).evs.map (fun e => (e.id, e.new)) = [(5, some 1), (5, some 2), (5, none), (7, some 3)] ∧
    icptRun.store 5 = none ∧ icptRun.store 7 = some 3 ∧ icptRun.store 105 = none ∧
    (icptRun.subs 0).view 5 = none ∧ (icptRun.subs 0).view 7 = some 3 ∧
    (icptRun.subs 0).pullID 5 = [1, 2] ∧ (icptRun.subs 0).pullIDEnded ((· % 100) 205) = true ∧
    (icptRun.subs 0).pullIDEnded 7 = false := by
  decide +kernel

/-- necessity of "the announced id is the stored one": the same run with the REMOVE announced under the spelling
`Delete` was CALLED with (205) instead of its image (5) -/
example :
    let evs' : List (Event Int) := (icptRun.subs 0).evs.map (fun e => if e.new.isNone then { e with id := 205 } else e)
    let sub' : Sub Int := { icptRun.subs 0 with evs := evs' }
    icptRun.store 5 = none ∧ sub'.view 5 = some 2 ∧ sub'.pullIDEnded 5 = false ∧ sub'.pullID 5 = [1, 2] := by
  decide +kernel

end ScVerif.C03
