import ScVerif.C03.PropsEquiv
import ScVerif.C03.Tol
/-!
# C03 — property theorems: a Value with a TOLERANCE equivalence (`cmp.FloatValueApprox`, `TimeValueWithin`, …)

`resource.WithMessageEquivalence(cmp.Equal(cmp.FloatValueApprox(0, k)))` — the default of the electric, fan speed and
energy storage models — is reflexive and symmetric but NOT transitive.  `Value.Pull` compares each change with the value
it SENT last (`dedupVal`), so the reflexive-only theorems of `PropsEquiv.lean` apply.  The other design — comparing each
change with the value it REPLACED, as `Collection.Pull` does with `OldValue` (`dedupPrev`) — is indistinguishable up to
equivalence for every transitive comparer and drifts without bound for every non-transitive one.
-/
namespace ScVerif.C03

/-- Every stream (removals included).  A `Value` of integers whose equivalence is the tolerance `k`: after
`Value.Pull`'s compare-with-last-sent the receiver's value and the value of ALL changes folded are both absent, or both
present and at most `k` apart. -/
theorem C03_value_tolerance_bound (k : Nat) (j : Nat) (evs : List (Event Int)) (hid : ∀ e, e ∈ evs → e.id = j)
    (v : Nat → Option Int) :
    match (dedupVal (tolCmp k) (v j) evs).foldl applyEv v j, evs.foldl applyEv v j with
    | none, none => True
    | some x, some y => (x - y).natAbs ≤ k
    | _, _ => False :=
  tolCmp_spec (C03_forwarder_equivalence_value (tolCmp k) (tolCmp_refl k) j evs hid (v j) v (Or.inl rfl))

/-- In every `ordered` run, once writers have stopped and a seeded subscriber has drained, the value its consumer holds
and the masked value `Get` returns are both absent or at most `k` apart — however the writes crept (ramps of
sub-tolerance steps, sign changes). -/
theorem C03_converges_tolerance_value (k : Nat)
    (s₀ : Nat → Option Int) (progs : Nat → List (WOp Int)) (opts : Nat → SubOpts Int) (sched : List Act) :
    let c : Cfg Int := run (initCfg s₀ progs opts) sched
    ∀ s, (∀ e, e ∈ (c.subs s).obs → e.id = 0) → (c.subs s).updatesOnly = false →
      ordered (initCfg s₀ progs opts) sched = true → c.quiescent = true → (c.subs s).live = true →
      (c.subs s).pending = [] →
      match (c.subs s).obsViewEqVal (tolCmp k) 0,
        ((c.store 0).filter (fun x => inclOpt (c.subs s).incl 0 (some x))).map (c.subs s).mask with
      | none, none => True
      | some x, some y => (x - y).natAbs ≤ k
      | _, _ => False := by
  intro c s hid huo hord hq hs hp
  exact tolCmp_spec ((C03_converges_equiv_value (tolCmp k) (tolCmp_refl k) s₀ progs opts sched s hid
    (fun h => absurd (huo ▸ h) Bool.false_ne_true)).2 hord hq hs hp)

/-- **The tolerance costs at most `k`, on EVERY schedule** (no `ordered`): the equivalence layer never adds more than
the tolerance to whatever the delivery layer below it does. -/
theorem C03_value_tolerance_all_schedules (k : Nat)
    (s₀ : Nat → Option Int) (progs : Nat → List (WOp Int)) (opts : Nat → SubOpts Int) (sched : List Act) :
    let c : Cfg Int := run (initCfg s₀ progs opts) sched
    ∀ s, (∀ e, e ∈ (c.subs s).obs → e.id = 0) → (c.subs s).updatesOnly = false →
      match (c.subs s).obsViewEqVal (tolCmp k) 0, (c.subs s).obsView 0 with
      | none, none => True
      | some x, some y => (x - y).natAbs ≤ k
      | _, _ => False := by
  intro c s hid huo
  exact tolCmp_spec (C03_converges_equiv_value (tolCmp k) (tolCmp_refl k) s₀ progs opts sched s hid
    (fun h => absurd (huo ▸ h) Bool.false_ne_true)).1

variable {M : Type}

/-- **No two consecutive deliveries of a Value are equivalent** (what the equivalence is for) — nothing assumed of the
comparer. -/
theorem C03_value_no_equivalent_neighbours (cmp : Option M → Option M → Bool) (evs : List (Event M)) (last : Option M) :
    noAdjEquiv cmp last ((dedupVal cmp last evs).map (·.new)) := by
  fun_induction dedupVal cmp last evs with
  | case1 last => trivial
  | case2 last e L hc ih => exact ih
  | case3 last e L hc ih => exact ⟨Bool.eq_false_iff.mpr hc, ih⟩

/-- **Compare-with-the-replaced-value is sound for transitive comparers …**  With a reflexive AND transitive comparer
that loop leaves the receiver equivalent to the fold of all changes: the two designs cannot be told apart. -/
theorem C03_value_compare_with_previous_transitive (cmp : Option M → Option M → Bool) (hrefl : ∀ a, cmp a a = true)
    (htrans : ∀ a b c, cmp a b = true → cmp b c = true → cmp a c = true)
    (j : Nat) (evs : List (Event M)) (hid : ∀ e, e ∈ evs → e.id = j) (v : Nat → Option M) :
    cmp ((dedupPrev cmp (v j) evs).foldl applyEv v j) (evs.foldl applyEv v j) = true :=
  dedupPrev_fold cmp hrefl htrans j evs hid (v j) v v rfl (hrefl _)

/-- **… and unsound for every other one**: a seed and two changes of one id after which that loop has sent nothing and
the receiver is NOT equivalent to the final value, while `Value.Pull`'s compare-with-last-sent loop, on the same stream,
is (`C03_forwarder_equivalence_value`). -/
theorem C03_value_compare_with_previous_drifts (cmp : Option M → Option M → Bool) (hrefl : ∀ a, cmp a a = true)
    (a b c : Option M) (hab : cmp a b = true) (hbc : cmp b c = true) (hac : cmp a c = false) :
    ∃ (evs : List (Event M)) (v : Nat → Option M), (∀ e, e ∈ evs → e.id = 0) ∧ linkOK true v evs ∧
      dedupPrev cmp (v 0) evs = [] ∧
      cmp ((dedupPrev cmp (v 0) evs).foldl applyEv v 0) (evs.foldl applyEv v 0) = false ∧
      cmp ((dedupVal cmp (v 0) evs).foldl applyEv v 0) (evs.foldl applyEv v 0) = true := by
  have hid : ∀ e : Event M, e ∈ [⟨0, a, b, false, 0⟩, ⟨0, b, c, false, 1⟩] → e.id = 0 := by
    intro e he
    simp only [List.mem_cons, List.not_mem_nil, or_false] at he
    rcases he with h | h <;> rw [h]
  refine ⟨_, fun _ => a, hid, ?_, ?_, ?_, C03_forwarder_equivalence_value cmp hrefl 0 _ hid a (fun _ => a) (Or.inl rfl)⟩
  · simp [linkOK, applyEv_apply]
  · simp [dedupPrev, hab, hbc]
  · simp [dedupPrev, hab, hbc, applyEv_apply, hac]

/-- **Transitivity is NECESSARY in `C03_forwarder_equivalence_collection`**: for EVERY comparer that is not transitive, a
LINKED stream of two updates of one item, both skipped, after which the subscriber's item is not equivalent to the stored
one.  (On the code: the drift of a Collection with a tolerance equivalence, recorded by C16; a Value does not have it.) -/
theorem C03_collection_equivalence_needs_transitivity (cmp : Option M → Option M → Bool)
    (a b c : Option M) (hab : cmp a b = true) (hbc : cmp b c = true) (hac : cmp a c = false) :
    ∃ (evs : List (Event M)) (v : Nat → Option M), linkOK true v evs ∧ dedupColl cmp evs = [] ∧
      cmp ((dedupColl cmp evs).foldl applyEv v 0) (evs.foldl applyEv v 0) = false := by
  refine ⟨[⟨0, a, b, false, 0⟩, ⟨0, b, c, false, 1⟩], fun _ => a, ?_, ?_, ?_⟩
  · simp [linkOK, applyEv_apply]
  · simp [dedupColl, hab, hbc]
  · simp [dedupColl, hab, hbc, applyEv_apply, hac]

/-- **The drift is unbounded.**  On the ramp `x+1, …, x+n` (every step within the tolerance `k ≥ 1` of its
predecessor) the compare-with-previous loop sends nothing: the receiver still holds `x` while the resource holds `x+n`. -/
theorem C03_value_compare_with_previous_unbounded (k : Nat) (hk : 1 ≤ k) (x : Int) (n : Nat) :
    (∀ e, e ∈ rampEvs x n → e.id = 0) ∧ linkOK true (fun _ => some x) (rampEvs x n) ∧
    dedupPrev (tolCmp k) (some x) (rampEvs x n) = [] ∧
    (rampEvs x n).foldl applyEv (fun _ => some x) 0 = some (x + n) :=
  rampEvs_spec k hk n x _ rfl

/-- **The tolerance comparer itself** (`cmp.FloatValueApprox(fraction, margin)` read on integers, `fraction = num/den`;
tied to the code by the exhaustive K2 table `approx`): reflexive and symmetric; with fraction 0 it is `tolCmp`, and then
a value and its NEGATION are within tolerance exactly when twice the magnitude is within the margin — the distance is
taken between the values, not between their magnitudes. -/
theorem C03_tolerance_comparer (num den margin : Nat) (x y : Int) :
    approxInt num den margin x x = true ∧
    approxInt num den margin x y = approxInt num den margin y x ∧
    tolCmp margin (some x) (some y) = approxInt 0 1 margin x y ∧
    (approxInt 0 1 margin x (-x) = true ↔ 2 * x.natAbs ≤ margin) :=
  ⟨approxInt_refl num den margin x, approxInt_symm num den margin x y, tolCmp_eq_approxInt margin x y,
    approxInt_neg margin x⟩

/-- non-vacuity: tolerance 2, seed 3, writes 5 7 9 11 13 (each exactly the tolerance away from its predecessor) -/
example :
    let evs : List (Event Int) := [⟨0, some 3, some 5, false, 0⟩, ⟨0, some 5, some 7, false, 1⟩,
      ⟨0, some 7, some 9, false, 2⟩, ⟨0, some 9, some 11, false, 3⟩, ⟨0, some 11, some 13, false, 4⟩]
    (dedupVal (tolCmp 2) (some 3) evs).map (·.new) = [some 7, some 11] ∧
    (dedupPrev (tolCmp 2) (some 3) evs).map (·.new) = [] ∧
    tolCmp 2 (some 3) (some 5) = true ∧ tolCmp 2 (some 5) (some 7) = true ∧ tolCmp 2 (some 3) (some 7) = false ∧
    -- a sign change of equal magnitude is far beyond the tolerance; a relative margin of one half scales with the
    -- smaller magnitude
    tolCmp 2 (some 5) (some (-5)) = false ∧ approxInt 1 2 0 8 12 = true ∧ approxInt 1 2 0 8 13 = false ∧
    approxInt 1 2 0 (-8) 8 = false := by
  decide +kernel

end ScVerif.C03
