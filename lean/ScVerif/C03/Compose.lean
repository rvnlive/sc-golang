import ScVerif.C03.Model
/-!
# C03 — an adapter that COMPOSES one message from the stream of a `Collection.Pull` (the driver links this file)

Follows `/repo/pkg/trait/openclosepb/model.go`, `(*Model).PullPositions`: the goroutine subscribes to the items
(`m.positions.Pull(ctx)` — with its seed events, whatever the caller's own updates-only flag), keeps `all`, the map of
every item it has been told about, and after each change composes ONE message from the whole map (`compose`: ids sorted,
preset derived from the states, the caller's response filter — any function of the map) which it sends unless it equals
the message sent last.

* `emp`: `len(m.positions.List()) == 0` right after subscribing: seeding is over already; a caller that is not
  updates-only is sent the (empty) composed message at once.
* per change: `all[id] = NewValue` (`delete` for a REMOVE); `seenAll` becomes true with the first change that is not a
  seed value; `shouldSend := seenAll || (LastSeedValue && !UpdatesOnly)`; `seenAll` also becomes true with the last
  seed value; then compose, compare with `last`, send.
-/
namespace ScVerif.C03.Compose
open ScVerif.C02 (setAt)

/-- a `*resource.CollectionChange` as the adapter reads it -/
structure Chg (M : Type) where
  id : Nat
  /-- `NewValue` (`none`: a REMOVE) -/
  new : Option M
  seed : Bool
  lastSeed : Bool

variable {M P : Type}

def applyChg (v : Nat → Option M) (c : Chg M) : Nat → Option M := setAt v c.id c.new

/-- a change published by a write, as it arrives on the inner stream -/
def ofEvent (e : Event M) : Chg M := ⟨e.id, e.new, false, false⟩

structure St (M P : Type) where
  all : Nat → Option M
  seenAll : Bool
  last : Option P
  /-- the messages sent to the caller, in order -/
  out : List P

theorem foldl_ofEvent (evs : List (Event M)) :
    ∀ b : Nat → Option M, (evs.map ofEvent).foldl applyChg b = evs.foldl applyEv b := by
  induction evs with
  | nil => intro b; rfl
  | cons e es ih => intro b; exact ih _

/-- `if eq(last, positions) { continue }; last = positions; send <- positions` -/
def emit [DecidableEq P] (st : St M P) (p : P) : St M P :=
  if st.last = some p then st else { st with last := some p, out := st.out ++ [p] }

def init [DecidableEq P] (compose : (Nat → Option M) → P) (uo emp : Bool) : St M P :=
  if emp && !uo then ⟨fun _ => none, true, some (compose (fun _ => none)), [compose (fun _ => none)]⟩
  else ⟨fun _ => none, emp, none, []⟩

def stepAd [DecidableEq P] (compose : (Nat → Option M) → P) (uo : Bool) (st : St M P) (c : Chg M) : St M P :=
  let all' := applyChg st.all c
  let seen1 := st.seenAll || !c.seed
  let should := seen1 || (c.lastSeed && !uo)
  let st' : St M P := { st with all := all', seenAll := seen1 || c.lastSeed }
  if should then emit st' (compose all') else st'

def runFrom [DecidableEq P] (compose : (Nat → Option M) → P) (uo : Bool) (st : St M P) (cs : List (Chg M)) : St M P :=
  cs.foldl (stepAd compose uo) st

/-- the adapter's goroutine over the whole inner stream -/
def runAd [DecidableEq P] (compose : (Nat → Option M) → P) (uo emp : Bool) (cs : List (Chg M)) : St M P :=
  runFrom compose uo (init compose uo emp) cs

/-- the variant that forwards the caller's updates-only flag to the inner `Pull`: the seed events never arrive -/
def runAdNoSeeds [DecidableEq P] (compose : (Nat → Option M) → P) (uo emp : Bool) (cs : List (Chg M)) : St M P :=
  runAd compose uo emp (if uo then cs.filter (fun c => !c.seed) else cs)

theorem emit_all [DecidableEq P] (st : St M P) (p : P) : (emit st p).all = st.all := by
  unfold emit; split <;> rfl

theorem emit_seenAll [DecidableEq P] (st : St M P) (p : P) : (emit st p).seenAll = st.seenAll := by
  unfold emit; split <;> rfl

theorem emit_last [DecidableEq P] (st : St M P) (p : P) : (emit st p).last = some p := by
  unfold emit; split
  · assumption
  · rfl

theorem stepAd_all [DecidableEq P] (compose : (Nat → Option M) → P) (uo : Bool) (st : St M P) (c : Chg M) :
    (stepAd compose uo st c).all = applyChg st.all c := by
  unfold stepAd; simp only; split
  · rw [emit_all]
  · rfl

theorem runFrom_all [DecidableEq P] (compose : (Nat → Option M) → P) (uo : Bool) (cs : List (Chg M)) :
    ∀ st : St M P, (runFrom compose uo st cs).all = cs.foldl applyChg st.all := by
  induction cs with
  | nil => intro st; rfl
  | cons c cs ih => intro st; simp only [runFrom, List.foldl_cons] at ih ⊢; rw [ih, stepAd_all]

theorem init_all [DecidableEq P] (compose : (Nat → Option M) → P) (uo emp : Bool) :
    (init compose uo emp : St M P).all = fun _ => none := by
  unfold init; split <;> rfl

/-- the message sent last is the composition of everything the adapter has been told -/
def Tracks (compose : (Nat → Option M) → P) (st : St M P) : Prop :=
  st.seenAll = true ∧ st.last = some (compose st.all)

/-- a change that must be announced: an update, or the last seed value for a caller that wants the current value -/
def trigger (uo : Bool) (c : Chg M) : Bool := !c.seed || (c.lastSeed && !uo)

theorem stepAd_tracks [DecidableEq P] (compose : (Nat → Option M) → P) (uo : Bool) (st : St M P) (c : Chg M)
    (h : Tracks compose st ∨ trigger uo c = true) : Tracks compose (stepAd compose uo st c) := by
  -- `seenAll` after the step, and `shouldSend`
  have hb : ((st.seenAll || !c.seed) || c.lastSeed) = true ∧
      ((st.seenAll || !c.seed) || (c.lastSeed && !uo)) = true := by
    rcases h with h | h
    · rw [h.1]; exact ⟨rfl, rfl⟩
    · rcases (Bool.or_eq_true _ _).mp h with h1 | h1
      · rw [h1, Bool.or_true]; exact ⟨rfl, rfl⟩
      · rw [h1, ((Bool.and_eq_true _ _).mp h1).1, Bool.or_true]; exact ⟨rfl, rfl⟩
  unfold stepAd
  simp only [hb.2, if_true]
  exact ⟨by rw [emit_seenAll]; exact hb.1, by rw [emit_last, emit_all]⟩

theorem runFrom_tracks [DecidableEq P] (compose : (Nat → Option M) → P) (uo : Bool) (cs : List (Chg M)) :
    ∀ st : St M P, (Tracks compose st ∨ cs.any (trigger uo) = true) → Tracks compose (runFrom compose uo st cs) := by
  induction cs with
  | nil => intro st h; rcases h with h | h
           · exact h
           · simp at h
  | cons c cs ih =>
    intro st h
    simp only [runFrom, List.foldl_cons]
    apply ih
    rcases h with h | h
    · exact Or.inl (stepAd_tracks compose uo st c (Or.inl h))
    · simp only [List.any_cons, Bool.or_eq_true] at h
      rcases h with h | h
      · exact Or.inl (stepAd_tracks compose uo st c (Or.inr h))
      · exact Or.inr h

theorem runAd_all [DecidableEq P] (compose : (Nat → Option M) → P) (uo emp : Bool) (cs : List (Chg M)) :
    (runAd compose uo emp cs : St M P).all = cs.foldl applyChg (fun _ => none) := by
  rw [runAd, runFrom_all, init_all]

theorem runAd_tracks [DecidableEq P] (compose : (Nat → Option M) → P) (uo emp : Bool) (cs : List (Chg M))
    (h : ((emp && !uo) || cs.any (trigger uo)) = true) : Tracks compose (runAd compose uo emp cs : St M P) := by
  refine runFrom_tracks compose uo cs _ (((Bool.or_eq_true _ _).mp h).imp (fun h => ?_) id)
  unfold init
  rw [if_pos h]
  exact ⟨rfl, rfl⟩

/-- fed any seed values and then at least one update, the adapter has sent last the composition of all it was told -/
theorem runAd_events [DecidableEq P] (compose : (Nat → Option M) → P) (uo emp : Bool) (seeds : List (Chg M))
    (evs : List (Event M)) (hevs : evs ≠ []) :
    (runAd compose uo emp (seeds ++ evs.map ofEvent) : St M P).last =
      some (compose (evs.foldl applyEv (seeds.foldl applyChg (fun _ => none)))) := by
  have h := runAd_tracks (P := P) compose uo emp (seeds ++ evs.map ofEvent) (by
    cases evs with
    | nil => exact absurd rfl hevs
    | cons e es => simp [trigger, ofEvent])
  rw [h.2, runAd_all, List.foldl_append, foldl_ofEvent]

theorem runFrom_seeds [DecidableEq P] (compose : (Nat → Option M) → P) (uo : Bool) (l : List (Chg M))
    (hl : ∀ x ∈ l, x.seed = true ∧ x.lastSeed = false) :
    ∀ st : St M P, st.seenAll = false → runFrom compose uo st l = { st with all := l.foldl applyChg st.all } := by
  induction l with
  | nil => intro st _; rfl
  | cons a l ih =>
    intro st hs
    have ha := hl a List.mem_cons_self
    have hstep : stepAd compose uo st a = { st with all := applyChg st.all a } := by
      unfold stepAd; simp [hs, ha.1, ha.2]
    rw [show runFrom compose uo st (a :: l) = runFrom compose uo (stepAd compose uo st a) l from rfl, hstep]
    exact ih (fun x hx => hl x (List.mem_cons_of_mem _ hx)) _ hs

theorem runAd_seeds [DecidableEq P] (compose : (Nat → Option M) → P) (uo : Bool) (l : List (Chg M))
    (hl : ∀ x ∈ l, x.seed = true ∧ x.lastSeed = false) :
    (runAd compose uo false l : St M P) = ⟨l.foldl applyChg (fun _ => none), false, none, []⟩ := by
  have h0 : (init compose uo false : St M P) = ⟨fun _ => none, false, none, []⟩ := by simp [init]
  rw [runAd, runFrom_seeds compose uo l hl _ (by rw [h0]), h0]

/-- nothing has been sent and nothing is remembered as sent -/
def Silent (st : St M P) : Prop := st.last = none ∧ st.out = []

theorem stepAd_silent [DecidableEq P] (compose : (Nat → Option M) → P) (st : St M P) (c : Chg M)
    (hs : st.seenAll = false) (hq : Silent st) (hc : c.seed = true) :
    Silent (stepAd compose true st c) ∧ ((stepAd compose true st c).seenAll = true → c.lastSeed = true) := by
  unfold stepAd; simp only [hs, hc]
  simp only [Bool.not_true, Bool.or_self, Bool.and_false, Bool.false_or, Bool.false_eq_true, if_false]
  exact ⟨hq, fun h => h⟩

/-- no message repeats the one before it -/
def stutterFree [DecidableEq P] : List P → Bool
  | a :: b :: r => a != b && stutterFree (b :: r)
  | _ => true

theorem stutterFree_append [DecidableEq P] (p : P) :
    ∀ l : List P, stutterFree l = true → l.getLast? ≠ some p → stutterFree (l ++ [p]) = true := by
  intro l
  induction l with
  | nil => intro _ _; rfl
  | cons a l ih =>
    intro h hl
    cases l with
    | nil =>
      simp only [List.getLast?_singleton, ne_eq, Option.some.injEq] at hl
      simp [stutterFree, hl]
    | cons b r =>
      simp only [stutterFree, Bool.and_eq_true] at h
      have hl' : (b :: r).getLast? ≠ some p := by
        simpa [List.getLast?_cons_cons] using hl
      have := ih h.2 hl'
      simp only [List.cons_append, stutterFree, Bool.and_eq_true]
      exact ⟨h.1, by simpa using this⟩

/-- `last` is the message sent last, and no message repeats its predecessor -/
def OutInv [DecidableEq P] (st : St M P) : Prop :=
  st.out.getLast? = st.last ∧ stutterFree st.out = true

theorem emit_outInv [DecidableEq P] (st : St M P) (p : P) (h : OutInv st) : OutInv (emit st p) := by
  unfold emit; split
  · exact h
  · rename_i hne
    refine ⟨by simp, ?_⟩
    exact stutterFree_append p st.out h.2 (by rw [h.1]; exact hne)

theorem stepAd_outInv [DecidableEq P] (compose : (Nat → Option M) → P) (uo : Bool) (st : St M P) (c : Chg M)
    (h : OutInv st) : OutInv (stepAd compose uo st c) := by
  unfold stepAd; simp only; split
  · exact emit_outInv _ _ h
  · exact h

theorem runFrom_outInv [DecidableEq P] (compose : (Nat → Option M) → P) (uo : Bool) (cs : List (Chg M)) :
    ∀ st : St M P, OutInv st → OutInv (runFrom compose uo st cs) := by
  induction cs with
  | nil => intro st h; exact h
  | cons c cs ih => intro st h; simp only [runFrom, List.foldl_cons]; exact ih _ (stepAd_outInv compose uo st c h)

theorem init_outInv [DecidableEq P] (compose : (Nat → Option M) → P) (uo emp : Bool) :
    OutInv (init compose uo emp : St M P) := by
  unfold init; split
  · exact ⟨by simp, rfl⟩
  · exact ⟨by simp, rfl⟩

end ScVerif.C03.Compose
