import ScVerif.C03.Forwarder
/-!
# C03 — the resource's equivalence (`WithEquivalence` / `WithMessageEquivalence` / `WithNoDuplicates`) in the forwarders

`Collection.Pull` takes the change's OWN old value as the reference, so skipping is sound only on a linked stream, and
for a `cmp` that is reflexive and transitive; `Value.Pull` takes the value it SENT last, and reflexivity is enough.
-/
namespace ScVerif.C03

variable {M : Type}

theorem dedupColl_fold (cmp : Option M → Option M → Bool) (hrefl : ∀ a, cmp a a = true)
    (htrans : ∀ a b c, cmp a b = true → cmp b c = true → cmp a c = true) (strict : Bool) (L : List (Event M)) :
    ∀ u v : Nat → Option M, (∀ i, cmp (u i) (v i) = true) → linkOK strict v L →
      ∀ i, cmp ((dedupColl cmp L).foldl applyEv u i) (L.foldl applyEv v i) = true := by
  induction L with
  | nil => intro u v h _ i; exact h i
  | cons e L ih =>
    intro u v hrel hl
    rw [linkOK_cons] at hl
    simp only [dedupColl, List.filter_cons, List.foldl_cons]
    cases hc : cmp e.old e.new with
    | true =>
      -- skipped: `u` stays as it is, and `u e.id ~ old ~ new` by linkage and transitivity (a duplicate of the seed:
      -- `v e.id` is `new` already)
      simp only [Bool.not_true, Bool.false_eq_true, if_false]
      apply ih u (applyEv v e) ?_ hl.2
      intro i
      simp only [applyEv_apply]
      split
      · next hi =>
        subst hi
        rcases hl.1 with h1 | h1
        · exact htrans _ _ _ (hrel e.id) (by rw [h1]; exact hc)
        · have := hrel e.id
          rw [h1.2] at this
          exact this
      · exact hrel i
    | false =>
      simp only [Bool.not_false, if_true, List.foldl_cons]
      apply ih (applyEv u e) (applyEv v e) ?_ hl.2
      intro i
      simp only [applyEv_apply]
      split
      · exact hrefl _
      · exact hrel i

theorem dedupColl_fwd_fold (cmp : Option M → Option M → Bool) (hrefl : ∀ a, cmp a a = true)
    (htrans : ∀ a b c, cmp a b = true → cmp b c = true → cmp a c = true)
    (incl : Option (Nat → M → Bool)) (mask : M → M) (strict : Bool) (base : Nat → Option M) (evs : List (Event M))
    (h : linkOK strict base evs) (i : Nat) :
    cmp ((dedupColl cmp (evs.filterMap (fwdEv incl mask))).foldl applyEv (seedView incl mask base) i)
      ((evs.filterMap (fwdEv incl mask)).foldl applyEv (seedView incl mask base) i) = true :=
  dedupColl_fold cmp hrefl htrans strict _ _ _ (fun _ => hrefl _) (fwd_sim incl mask strict evs base h).1 i

theorem dedupVal_fold (cmp : Option M → Option M → Bool) (hrefl : ∀ a, cmp a a = true) (j : Nat) (L : List (Event M)) :
    (∀ e, e ∈ L → e.id = j) →
    ∀ (last : Option M) (u v : Nat → Option M),
      (u j = last ∨ (last = none ∧ ∀ e, e ∈ L → cmp none e.new = false)) → cmp (u j) (v j) = true →
      cmp ((dedupVal cmp last L).foldl applyEv u j) (L.foldl applyEv v j) = true := by
  intro hid last
  fun_induction dedupVal cmp last L with
  | case1 last => intro u v _ h; exact h
  | case2 last e L hc ih =>
    -- skipped: the receiver holds `last`, which is equivalent to the new value
    intro u v hlast hrel
    have hej : e.id = j := hid e List.mem_cons_self
    have hu : u j = last := hlast.elim id fun h1 => by
      have := h1.2 e List.mem_cons_self
      rw [← h1.1, hc] at this
      cases this
    refine ih (fun e' he' => hid e' (List.mem_cons_of_mem _ he')) u (applyEv v e) (Or.inl hu) ?_
    rw [hu, ← hej, applyEv_self]
    exact hc
  | case3 last e L hc ih =>
    intro u v _ _
    have hej : e.id = j := hid e List.mem_cons_self
    refine ih (fun e' he' => hid e' (List.mem_cons_of_mem _ he')) (applyEv u e) (applyEv v e) (Or.inl ?_) ?_
    · rw [← hej, applyEv_self]
    · rw [← hej, applyEv_self, applyEv_self]; exact hrefl _

/-- a subscriber of a `Value` (the single id 0); an updates-only one starts with nil, which the comparer must not relate
to a value -/
theorem obsViewEqVal_equiv (cmp : Option M → Option M → Bool) (hrefl : ∀ a, cmp a a = true) (sb : Sub M)
    (hid : ∀ e, e ∈ sb.obs → e.id = 0) (huo : sb.updatesOnly = true → ∀ e, e ∈ sb.obs → cmp none e.new = false) :
    cmp (sb.obsViewEqVal cmp 0) (sb.obsView 0) = true := by
  refine dedupVal_fold cmp hrefl 0 sb.obs hid sb.valSeed _ _ ?_ (hrefl _)
  unfold Sub.valSeed
  cases hu : sb.updatesOnly with
  | false => exact Or.inl rfl
  | true => exact Or.inr ⟨rfl, huo hu⟩

theorem dedupVal_ids (cmp : Option M → Option M → Bool) (j : Nat) (L : List (Event M)) :
    (∀ e, e ∈ L → e.id = j) → ∀ last e, e ∈ dedupVal cmp last L → e.id = j := by
  intro hid last
  fun_induction dedupVal cmp last L with
  | case1 last => intro e he; cases he
  | case2 last a L hc ih => exact ih (fun e' he' => hid e' (List.mem_cons_of_mem _ he'))
  | case3 last a L hc ih =>
    intro e he
    rcases List.mem_cons.mp he with h1 | h1
    · rw [h1]; exact hid a List.mem_cons_self
    · exact ih (fun e' he' => hid e' (List.mem_cons_of_mem _ he')) e h1

end ScVerif.C03
