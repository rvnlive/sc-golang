import ScVerif.C03.Defs
/-!
# C03 — change streams: folds, the merge stage, conditions met change by change (`Along`), streams as good as one
another (`Same`)
-/
namespace ScVerif.C03
open ScVerif.C02 (setAt setAt_same setAt_other)

variable {M : Type}

theorem forall_setAt {α : Type} {f : Nat → α} {s : Nat} {x : α} {P : Nat → α → Prop} (hs : P s x)
    (ho : ∀ s', s' ≠ s → P s' (f s')) (s' : Nat) : P s' (setAt f s x s') := by
  by_cases h : s' = s
  · subst h; rw [setAt_same]; exact hs
  · rw [setAt_other _ _ h]; exact ho s' h

theorem applyEv_apply (v : Nat → Option M) (e : Event M) (i : Nat) :
    applyEv v e i = if i = e.id then e.new else v i := rfl

theorem applyEv_self (v : Nat → Option M) (e : Event M) : applyEv v e e.id = e.new := setAt_same _ _ _

theorem applyEv_other {v : Nat → Option M} {e : Event M} {i : Nat} (h : i ≠ e.id) : applyEv v e i = v i :=
  setAt_other _ _ h

theorem applyEv_same {v : Nat → Option M} {e : Event M} (h : v e.id = e.new) : applyEv v e = v :=
  funext (forall_setAt (P := fun j (x : Option M) => x = v j) h.symm (fun _ _ => rfl))

theorem foldl_applyEv_last (L : List (Event M)) (j : Nat) :
    ∀ v : Nat → Option M, (L.foldl applyEv v) j =
      match (L.filter (fun e => e.id == j)).getLast? with
      | none => v j
      | some e => e.new := by
  induction L with
  | nil => intro v; rfl
  | cons e L ih =>
    intro v
    rw [List.foldl_cons, ih]
    by_cases hj : e.id = j
    · have hf : (e :: L).filter (fun e => e.id == j) = e :: L.filter (fun e => e.id == j) := by
        simp [hj]
      rw [hf, List.getLast?_cons]
      cases hl : (L.filter (fun e => e.id == j)).getLast? with
      | none => rw [← hj, applyEv_self]; rfl
      | some x => simp
    · have hf : (e :: L).filter (fun e => e.id == j) = L.filter (fun e => e.id == j) := by
        simp [hj]
      rw [hf]
      cases hl : (L.filter (fun e => e.id == j)).getLast? with
      | none => exact applyEv_other (fun h => hj h.symm)
      | some x => rfl

/-- the ids of the changes of a stage, in order -/
def ids (P : List (Event M)) : List Nat := P.map (·.id)

theorem mem_mergeInto {P : List (Event M)} {e x : Event M} (hx : x ∈ mergeInto P e) :
    x ∈ P ∨ x = e ∨ ∃ a, a ∈ P ∧ a.id = e.id ∧ x = { e with isAdd := a.isAdd, old := a.old } := by
  fun_induction mergeInto P e with
  | case1 e => exact Or.inr (Or.inl (List.mem_singleton.mp hx))
  | case2 a P e heq hcan => exact Or.inl (List.mem_cons_of_mem _ hx)
  | case3 a P e heq hcan =>
    rcases List.mem_append.mp hx with h | h
    · exact Or.inl (List.mem_cons_of_mem _ h)
    · exact Or.inr (Or.inr ⟨a, List.mem_cons_self, heq, List.mem_singleton.mp h⟩)
  | case4 a P e hne ih =>
    rcases List.mem_cons.mp hx with h | h
    · exact Or.inl (h ▸ List.mem_cons_self)
    · rcases ih h with h | h | ⟨b, hb, hbe, h⟩
      · exact Or.inl (List.mem_cons_of_mem _ h)
      · exact Or.inr (Or.inl h)
      · exact Or.inr (Or.inr ⟨b, List.mem_cons_of_mem _ hb, hbe, h⟩)

theorem mergeInto_singleton {a e : Event M} (hid : a.id = e.id) (hnew : e.new.isSome = true) :
    mergeInto [a] e = [{ e with isAdd := a.isAdd, old := a.old }] := by
  have hnone : e.new.isNone = false := by
    cases hn : e.new with
    | none => rw [hn] at hnew; cases hnew
    | some x => rfl
  simp only [mergeInto]
  rw [if_pos hid, hnone, Bool.and_false, if_neg Bool.false_ne_true]
  rfl

/-- the lossy stage of a `Value` (one id, no REMOVE) fed `L` while the consumer is away -/
theorem foldl_mergeInto_value (a : Event M) (L : List (Event M)) (hid : ∀ e, e ∈ L → e.id = a.id)
    (hnew : ∀ e, e ∈ L → e.new.isSome = true) :
    L.foldl mergeInto [a] = [{ (a :: L).getLast (by simp) with isAdd := a.isAdd, old := a.old }] := by
  induction L generalizing a with
  | nil => rfl
  | cons b L ih =>
    rw [List.foldl_cons, mergeInto_singleton (hid b List.mem_cons_self).symm (hnew b List.mem_cons_self),
      ih { b with isAdd := a.isAdd, old := a.old }
        (fun e he => (hid e (List.mem_cons_of_mem _ he)).trans (hid b List.mem_cons_self).symm)
        (fun e he => hnew e (List.mem_cons_of_mem _ he))]
    cases L <;> rfl

theorem ids_mergeInto (P : List (Event M)) (e : Event M) (x : Nat) :
    x ∈ ids (mergeInto P e) → x ∈ ids P ∨ x = e.id := by
  intro h
  obtain ⟨y, hy, rfl⟩ := List.mem_map.mp h
  rcases mem_mergeInto hy with h | h | ⟨a, _, _, h⟩
  · exact Or.inl (List.mem_map_of_mem h)
  · exact Or.inr (by rw [h])
  · exact Or.inr (by rw [h])

theorem nodup_mergeInto (P : List (Event M)) (e : Event M) (h : (ids P).Nodup) :
    (ids (mergeInto P e)).Nodup := by
  fun_induction mergeInto P e with
  | case1 e => exact List.nodup_cons.mpr ⟨List.not_mem_nil, List.nodup_nil⟩
  | case2 a P e heq hcan => exact (List.nodup_cons.mp h).2
  | case3 a P e heq hcan =>
    -- the merged change goes to the back of the queue: `a` was the only pending change of its id
    have h' : a.id ∉ ids P ∧ (ids P).Nodup := List.nodup_cons.mp h
    rw [show ids (P ++ [{ e with isAdd := a.isAdd, old := a.old }]) = ids P ++ [e.id] from List.map_append,
      List.nodup_append]
    refine ⟨h'.2, List.nodup_cons.mpr ⟨List.not_mem_nil, List.nodup_nil⟩, fun x hx y hy hxy => ?_⟩
    rw [hxy, List.mem_singleton.mp hy, ← heq] at hx
    exact h'.1 hx
  | case4 a P e hne ih =>
    have h' : a.id ∉ ids P ∧ (ids P).Nodup := List.nodup_cons.mp h
    refine List.nodup_cons.mpr ⟨fun hmem => ?_, ih h'.2⟩
    exact (ids_mergeInto P e a.id hmem).elim h'.1 hne

theorem applyEv_overwrite {a e : Event M} (h : a.id = e.id) (X : Nat → Option M) :
    applyEv (applyEv X a) e = applyEv X e := by
  funext j
  simp only [applyEv_apply, h]
  split <;> rfl

/-- each change of `L` is `ok` for the value the view holds at its id when it is applied, starting from `v`; `chainOK`
and `linkOK` are instances -/
def Along (ok : Option M → Event M → Prop) : (Nat → Option M) → List (Event M) → Prop
  | _, [] => True
  | v, e :: L => ok (v e.id) e ∧ Along ok (applyEv v e) L

theorem chainOK_eq_along : @chainOK M = Along (fun x e => e.isAdd = true → x = none) := by
  funext v L
  induction L generalizing v with
  | nil => rfl
  | cons e L ih => simp only [chainOK, Along, ih]

theorem linkOK_cons (strict : Bool) (v : Nat → Option M) (e : Event M) (L : List (Event M)) :
    linkOK strict v (e :: L) ↔
      (v e.id = e.old ∨ (strict = false ∧ v e.id = e.new)) ∧ linkOK strict (applyEv v e) L := Iff.rfl

theorem linkOK_eq_along (strict : Bool) :
    @linkOK M strict = Along (fun x e => x = e.old ∨ (strict = false ∧ x = e.new)) := by
  funext v L
  induction L generalizing v with
  | nil => rfl
  | cons e L ih => simp only [linkOK, Along, ih]

variable {ok : Option M → Event M → Prop}

theorem Along.imp {ok' : Option M → Event M → Prop} (h : ∀ x e, ok x e → ok' x e) (L : List (Event M)) :
    ∀ v : Nat → Option M, Along ok v L → Along ok' v L := by
  induction L with
  | nil => intro _ _; trivial
  | cons e L ih => intro v hL; exact ⟨h _ _ hL.1, ih _ hL.2⟩

theorem linkOK_weaken (L : List (Event M)) :
    ∀ v : Nat → Option M, linkOK true v L → linkOK false v L := by
  rw [linkOK_eq_along, linkOK_eq_along]
  exact Along.imp (fun _ _ h => h.imp id (fun h1 => nomatch h1.1)) L

theorem Along.append (A B : List (Event M)) :
    ∀ v : Nat → Option M, Along ok v (A ++ B) ↔ Along ok v A ∧ Along ok (A.foldl applyEv v) B := by
  induction A with
  | nil => intro v; simp [Along]
  | cons a A ih => intro v; simp only [List.cons_append, Along, List.foldl_cons, ih, and_assoc]

/-! What a subscriber is owed is a stream of changes; the bus and the merge stage reorder and merge it.  `Same ok L L'`:
nothing is lost by that — wherever `L` is acceptable, `L'` is, and it leaves the same view.  Two facts about two changes
in a row — of different ids: they may change places (`Same.swap2`); of one id: they are one, or none (`Same.merge2`) —
hold anywhere in a longer stream (`Same.ctx`), and that is all the bus (`Same.swap`) and the merge stage (`Same.merge`)
do. -/

def Same (ok : Option M → Event M → Prop) (L L' : List (Event M)) : Prop :=
  ∀ v : Nat → Option M, Along ok v L → Along ok v L' ∧ L'.foldl applyEv v = L.foldl applyEv v

theorem Same.refl (L : List (Event M)) : Same ok L L := fun _ h => ⟨h, rfl⟩

theorem Same.trans {L₁ L₂ L₃ : List (Event M)} (h₁ : Same ok L₁ L₂) (h₂ : Same ok L₂ L₃) : Same ok L₁ L₃ := fun v h =>
  ⟨(h₂ v (h₁ v h).1).1, (h₂ v (h₁ v h).1).2.trans (h₁ v h).2⟩

theorem Same.ctx {L L' : List (Event M)} (h : Same ok L L') (A B : List (Event M)) :
    Same ok (A ++ (L ++ B)) (A ++ (L' ++ B)) := by
  intro v hv
  rw [Along.append, Along.append] at hv
  obtain ⟨h1, h2⟩ := h _ hv.2.1
  simp only [Along.append, List.foldl_append, h2]
  exact ⟨⟨hv.1, h1, hv.2.2⟩, trivial⟩

theorem Same.swap2 {a e : Event M} (h : a.id ≠ e.id) : Same ok [a, e] [e, a] := by
  intro v hv
  obtain ⟨h1, h2, _⟩ := hv
  rw [applyEv_other h.symm] at h2
  refine ⟨⟨h2, ?_, trivial⟩, ?_⟩
  · rw [applyEv_other h]; exact h1
  · funext j
    simp only [List.foldl_cons, List.foldl_nil, applyEv_apply]
    by_cases h1 : j = a.id
    · simp [h1, h]
    · simp [h1]

theorem Same.swap (A : List (Event M)) (e : Event M) (h : ∀ a, a ∈ A → a.id ≠ e.id) :
    Same ok (A ++ [e]) (e :: A) ∧ Same ok (e :: A) (A ++ [e]) := by
  induction A with
  | nil => exact ⟨Same.refl _, Same.refl _⟩
  | cons a A ih =>
    have hne := h a List.mem_cons_self
    obtain ⟨ih1, ih2⟩ := ih (fun x hx => h x (List.mem_cons_of_mem _ hx))
    have s1 : Same ok (a :: e :: A) (e :: a :: A) := (Same.swap2 hne).ctx [] A
    have s2 : Same ok (e :: a :: A) (a :: e :: A) := (Same.swap2 (Ne.symm hne)).ctx [] A
    exact ⟨(by simpa using ih1.ctx [a] [] : Same ok (a :: A ++ [e]) (a :: e :: A)).trans s1,
      s2.trans (by simpa using ih2.ctx [a] [])⟩

/-- what a subscriber's stage asks of a change, given the value `x` its view holds for the id: the change replaces that
value (a backpressured subscriber may instead hold the new value already: a duplicate of its seed), and a lossy
subscriber, whose merge stage cancels ADD against REMOVE, is told of an ADD only where it holds nothing.  `linkOK` and
`chainOK` are its two halves. -/
def dueOK (lossy : Bool) (x : Option M) (e : Event M) : Prop :=
  (x = e.old ∨ (lossy = false ∧ x = e.new)) ∧ (lossy = true → e.isAdd = true → x = none)

/-- `mergeChanges`: the later change with type and old value of the earlier — or none (ADD then REMOVE: the view did
not hold the id and still does not) -/
theorem Same.merge2 {a e : Event M} (h : a.id = e.id) :
    Same (dueOK true) [a, e] (if a.isAdd && e.new.isNone then [] else [{ e with isAdd := a.isAdd, old := a.old }]) := by
  intro v hv
  obtain ⟨⟨hl, hc⟩, _⟩ := hv
  rw [h] at hl hc
  rw [show [a, e].foldl applyEv v = applyEv v e from applyEv_overwrite h v]
  split
  · next hcan =>
    rw [Bool.and_eq_true] at hcan
    refine ⟨trivial, (applyEv_same ?_).symm⟩
    show v e.id = e.new
    rw [hc rfl hcan.1]
    exact (Option.isNone_iff_eq_none.mp hcan.2).symm
  · exact ⟨⟨⟨hl.imp id (fun h1 => nomatch h1.1), hc⟩, trivial⟩, rfl⟩

/-- the pending change `a` of the id of `e` falls behind the rest of the queue, where no change has its id, and is
merged with `e` there -/
theorem Same.mergeBack {a e : Event M} {P : List (Event M)} (hU : (ids (a :: P)).Nodup) (heq : a.id = e.id) :
    Same (dueOK true) (a :: P ++ [e])
      (P ++ if a.isAdd && e.new.isNone then [] else [{ e with isAdd := a.isAdd, old := a.old }]) := by
  have hU' : a.id ∉ ids P ∧ (ids P).Nodup := List.nodup_cons.mp hU
  have h1 := (Same.swap (ok := dueOK true) P a fun x hx hxa => hU'.1 (hxa ▸ List.mem_map_of_mem hx)).2.ctx [] [e]
  have h2 := (Same.merge2 heq).ctx P []
  simp only [List.nil_append, List.append_nil, List.append_assoc, List.cons_append] at h1 h2
  exact h1.trans h2

theorem Same.merge (P : List (Event M)) (e : Event M) (hU : (ids P).Nodup) :
    Same (dueOK true) (P ++ [e]) (mergeInto P e) := by
  fun_induction mergeInto P e with
  | case1 e => exact Same.refl _
  | case2 a P e heq hcan => simpa [hcan] using Same.mergeBack hU heq
  | case3 a P e heq hcan => simpa [hcan] using Same.mergeBack hU heq
  | case4 a P e hne ih => simpa using (ih (List.nodup_cons.mp hU).2).ctx [a] []

theorem view_snoc (sb : Sub M) (e : Event M) :
    ({ sb with evs := sb.evs ++ [e] } : Sub M).rawView = applyEv sb.rawView e := by
  simp [Sub.rawView, List.foldl_append]

end ScVerif.C03
