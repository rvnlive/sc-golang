import ScVerif.C03.Tag
import ScVerif.C03.Forwarder
/-!
# C03 — property theorems about change types, the lossy stage and the listener copy of a Send, for ALL schedules
-/
namespace ScVerif.C03

variable {M : Type} [DecidableEq M]

-- the statement carries `[DecidableEq M]`, which it does not need
set_option linter.unusedSectionVars false in
/-- ALL schedules: every `CollectionChange` anywhere between a commit and a consumer — in flight, staged (after any
number of merges), received, or forwarded through `include` and the mask — is an ADD exactly when it carries no
`OldValue`.  Together with `C03_add_only_when_absent` (the old value is the value the subscriber holds) this is what
makes cancelling ADD+REMOVE in the merge stage sound. -/
theorem C03_change_type_matches_old_value (s₀ : Nat → Option M) (progs : Nat → List (WOp M)) (opts : Nat → SubOpts M)
    (sched : List Act) :
    let c : Cfg M := run (initCfg s₀ progs opts) sched
    (∀ p, p ∈ c.pubs → p.ev.isAdd = p.ev.old.isNone) ∧
    (∀ s e, e ∈ (c.subs s).pending ++ (c.subs s).evs ++ (c.subs s).obs → e.isAdd = e.old.isNone) := by
  intro c
  have h : Tag c := run_induct (fun _ a h => h.next a) (Tag.init s₀ progs opts) sched
  refine ⟨h.pubs, ?_⟩
  intro s e he
  rcases List.mem_append.mp he with h1 | h1
  · rcases List.mem_append.mp h1 with h2 | h2
    · exact h.pending s e h2
    · exact h.evs s e h2
  · simp only [Sub.obs, List.mem_filterMap] at h1
    obtain ⟨a, ha, hf⟩ := h1
    exact (fwdEv_some hf).2.2.2 (h.evs s a ha)

omit [DecidableEq M] in
/-- The lossy stage of a Value keeps the change that ARRIVED last: fed any non-empty sequence of changes while the
consumer is away, `DropExcess` holds exactly one change, carrying the value of the last arrival — whatever any change
time says (an `Event` has no time to look at; write times that run backwards, stand still or are zero are exercised by
the ties). -/
theorem C03_value_stage_last_arrival_wins (a : Event M) (L : List (Event M))
    (hid : ∀ e, e ∈ L → e.id = a.id) (hnew : ∀ e, e ∈ a :: L → e.new.isSome = true) :
    ∃ e', L.foldl mergeInto [a] = [e'] ∧ e'.id = a.id ∧ e'.new = ((a :: L).getLast (by simp)).new :=
  ⟨_, foldl_mergeInto_value a L hid (fun e he => hnew e (List.mem_cons_of_mem _ he)),
    (List.mem_cons.mp (List.getLast_mem _)).elim (fun h => by rw [h]) (hid _), rfl⟩

/-- a create-or-update that finds the item created meanwhile is an UPDATE carrying the stored value; merged with a
following REMOVE it stays a REMOVE (carrying the first old value), it is not cancelled -/
example :
    let progs : Nat → List (WOp Int) := fun t =>
      if t = 0 then [.upd 0 (fun _ => some 0), .upd 1 (fun _ => some 4),
                     .upd 0 (fun cur => if cur.getD 0 = 0 then some 7 else none), .del 0 (fun _ => true)] else []
    let sched : List Act :=
      [.sub 0, .commit 0, .snap 0, .deliver 0, .recv 0, .commit 0, .snap 0, .deliver 0,
       .commit 0, .snap 0, .deliver 0, .commit 0, .deliver 0]
    let c := run (initCfg (fun _ => none) progs (fun _ => ⟨false, true, id, none⟩)) sched
    ordered (initCfg (fun _ => none) progs (fun _ => ⟨false, true, id, none⟩)) sched = true ∧
    (c.subs 0).evs.map (fun e => (e.id, e.isAdd, e.new)) = [(0, true, some 0)] ∧
    (c.subs 0).pending.map (fun e => (e.id, e.isAdd, e.old, e.new)) = [(1, true, none, some 4), (0, false, some 0, none)] ∧
    c.store 0 = none := by
  decide +kernel

/-- non-vacuity: three changes of a Value arrive while the consumer is away -/
example :
    ([(⟨0, some 2, some 3, false, 1⟩ : Event Int), ⟨0, some 3, some 1, false, 2⟩].foldl mergeInto
      [⟨0, some 1, some 2, false, 0⟩]).map (fun e => (e.id, e.old, e.new)) = [(0, some 1, some 1)] := by
  decide +kernel

omit [DecidableEq M] in
/-- Any configuration, any other publication: a delivery of one `Bus.Send`, the `Bus.collect` it runs at its end
included, leaves every other Send in progress with its event and its listener copy, and only ever removes listeners from
`Bus.listeners`.  (`Bus.Send` walking `b.listeners` in place instead of its copy breaks exactly this: a parked Send
skips a live listener when a concurrent Send compacts the list.) -/
theorem C03_send_copy_survives_collect (c : Cfg M) (k : Nat) (q : Pub M) (hq : q ∈ others c k) :
    q ∈ (stepDeliver c k).pubs ∧
    (∀ s, s ∈ (stepDeliver c k).listeners → s ∈ c.listeners) := by
  unfold others at hq
  have hmem : q ∈ c.pubs := (List.mem_append.mp hq).elim List.mem_of_mem_take List.mem_of_mem_drop
  rcases stepDeliver_move c k with e | m
  · rw [e]; exact ⟨hmem, fun s h => h⟩
  · generalize stepDeliver c k = c' at m ⊢
    cases m with
    | @deliverEnd _ p post s hd =>
      -- the publication ends: the others are all that is left; `collect`, if it runs, filters the listener list
      rw [← List.tail_drop, hd] at hq
      refine ⟨hq, fun s' h => ?_⟩
      replace h : s' ∈ (if (p.gc || (c.subs s).cancelled) = true then c.listeners.filter _ else c.listeners) := h
      split at h
      · exact (List.mem_filter.mp h).1
      · exact h
    | deliver hd =>
      rw [← List.tail_drop, hd] at hq
      refine ⟨?_, fun s' h => h⟩
      rcases List.mem_append.mp hq with h | h
      · exact List.mem_append_left _ h
      · exact List.mem_append_right _ (List.mem_cons_of_mem _ h)

/-- non-vacuity: publication 1 is parked at subscriber 1; publication 0 walks its whole copy and collects; publication 1
still owes its event to subscribers 1 and 2 and delivers it -/
example :
    let progs : Nat → List (WOp Int) := fun t => if t = 0 then [.upd 0 (fun _ => some 1)] else if t = 1 then [.upd 1 (fun _ => some 2)] else []
    let pre : List Act := [.sub 0, .sub 1, .sub 2, .cancel 0, .commit 0, .commit 1, .snap 0, .snap 1, .deliver 1,
      .deliver 0, .deliver 0, .recv 1, .recv 2]
    let c := run (initCfg (fun _ => none) progs (fun _ => ⟨false, false, id, none⟩)) pre
    let c' := step c (.deliver 0)
    c.listeners = [0, 1, 2] ∧ c'.listeners = [1, 2] ∧
    c'.pubs.map (fun p => (p.owner, p.stage)) = [(1, some [1, 2])] ∧
    ((run c' [.deliver 0, .recv 1, .recv 2, .deliver 0, .recv 2]).subs 2).evs.map (·.seq) = [0, 1] := by
  decide +kernel

end ScVerif.C03
