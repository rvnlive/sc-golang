import ScVerif.C03.Lemmas
/-!
# C03 — tolerance comparers and the compare-with-previous variant of `Value.Pull`'s loop (definitions: `Defs.lean`)
-/
namespace ScVerif.C03

theorem tolCmp_refl (k : Nat) : ∀ a, tolCmp k a a = true := by
  intro a; cases a <;> simp [tolCmp]

theorem tolCmp_spec {k : Nat} {a b : Option Int} : tolCmp k a b = true →
    match a, b with
    | none, none => True
    | some x, some y => (x - y).natAbs ≤ k
    | _, _ => False := by
  intro h
  cases a <;> cases b
  · trivial
  · cases h
  · cases h
  · exact of_decide_eq_true h

theorem approxInt_refl (num den margin : Nat) (x : Int) : approxInt num den margin x x = true := by
  simp [approxInt]

theorem approxInt_symm (num den margin : Nat) (x y : Int) : approxInt num den margin x y = approxInt num den margin y x := by
  have h1 : (x - y).natAbs = (y - x).natAbs := by omega
  simp only [approxInt, h1, Nat.min_comm]

theorem tolCmp_eq_approxInt (k : Nat) (x y : Int) : tolCmp k (some x) (some y) = approxInt 0 1 k x y := by
  simp [tolCmp, approxInt]

theorem approxInt_neg (margin : Nat) (x : Int) : approxInt 0 1 margin x (-x) = true ↔ 2 * x.natAbs ≤ margin := by
  have h : (x - -x).natAbs = 2 * x.natAbs := by omega
  simp only [approxInt, decide_eq_true_eq, Nat.one_mul, Nat.zero_mul, Nat.max_zero, h]

variable {M : Type}

theorem dedupPrev_fold (cmp : Option M → Option M → Bool) (hrefl : ∀ a, cmp a a = true)
    (htrans : ∀ a b c, cmp a b = true → cmp b c = true → cmp a c = true) (j : Nat) (L : List (Event M)) :
    (∀ e, e ∈ L → e.id = j) →
    ∀ (prev : Option M) (u v : Nat → Option M), v j = prev → cmp (u j) (v j) = true →
      cmp ((dedupPrev cmp prev L).foldl applyEv u j) (L.foldl applyEv v j) = true := by
  -- the induction of `dedupVal_fold` (`Equiv.lean`); only the skipped case differs: transitivity through `prev`, which the fed view holds
  intro hid prev
  fun_induction dedupPrev cmp prev L with
  | case1 prev => intro u v _ h; exact h
  | case2 prev e L hc ih =>
    intro u v hprev hrel
    have hej : e.id = j := hid e List.mem_cons_self
    refine ih (fun e' he' => hid e' (List.mem_cons_of_mem _ he')) u (applyEv v e) ?_ ?_
    · rw [← hej, applyEv_self]
    · rw [hprev] at hrel
      rw [← hej, applyEv_self, hej]
      exact htrans _ _ _ hrel hc
  | case3 prev e L hc ih =>
    intro u v _ _
    have hej : e.id = j := hid e List.mem_cons_self
    refine ih (fun e' he' => hid e' (List.mem_cons_of_mem _ he')) (applyEv u e) (applyEv v e) ?_ ?_
    · rw [← hej, applyEv_self]
    · rw [← hej, applyEv_self, applyEv_self]; exact hrefl _

theorem rampEvs_spec (k : Nat) (hk : 1 ≤ k) (n : Nat) : ∀ (x : Int) (v : Nat → Option Int), v 0 = some x →
    (∀ e, e ∈ rampEvs x n → e.id = 0) ∧ linkOK true v (rampEvs x n) ∧
    dedupPrev (tolCmp k) (some x) (rampEvs x n) = [] ∧ (rampEvs x n).foldl applyEv v 0 = some (x + n) := by
  induction n with
  | zero => intro x v hv; exact ⟨fun e he => absurd he List.not_mem_nil, trivial, rfl, hv.trans (congrArg some (by omega))⟩
  | succ n ih =>
    intro x v hv
    obtain ⟨h1, h2, h3, h4⟩ := ih (x + 1) (applyEv v ⟨0, some x, some (x + 1), false, 0⟩) rfl
    have hc : tolCmp k (some x) (some (x + 1)) = true := by
      simp only [tolCmp, decide_eq_true_eq]
      omega
    refine ⟨fun e he => ?_, ⟨Or.inl hv, h2⟩, ?_, ?_⟩
    · rcases List.mem_cons.mp he with h | h
      · rw [h]
      · exact h1 e h
    · simp only [rampEvs, dedupPrev, hc, if_true]
      exact h3
    · rw [show rampEvs x (n + 1) = _ :: rampEvs (x + 1) n from rfl, List.foldl_cons, h4]
      congr 1
      omega

end ScVerif.C03
