import ScVerif.C03.Lemmas
/-!
# C03 — the forwarder of `Collection.Pull` (include, then read mask) on linked change streams

On a stream linked to the view it is applied to (`linkOK`) `(*CollectionChange).include` judges the right values: the
forwarded changes, folded over the forwarded seed, give the included masked image of the raw view (`fwd_fold`); and the
stream of one item (`PullID`) delivers last what that view holds for it (`pullID_last`).
-/
namespace ScVerif.C03

variable {M : Type}

/-- `seedView` at one id: a (possibly absent) stored value as the consumer is to see it — included values only, through
the mask -/
def asSeen (incl : Option (Nat → M → Bool)) (mask : M → M) (i : Nat) (o : Option M) : Option M :=
  (o.filter (fun x => inclOpt incl i (some x))).map mask

theorem seedView_apply (incl : Option (Nat → M → Bool)) (mask : M → M) (v : Nat → Option M) (i : Nat) :
    seedView incl mask v i = asSeen incl mask i (v i) := rfl

/-- without an include function the image is the mask alone: `Sub.view` is `seedView none mask` of the raw view -/
theorem asSeen_none (mask : M → M) (i : Nat) (o : Option M) : asSeen none mask i o = o.map mask := by
  cases o <;> rfl

theorem asSeen_incl {incl : Option (Nat → M → Bool)} {mask : M → M} {i : Nat} {o : Option M}
    (h : inclOpt incl i o = true) : asSeen incl mask i o = o.map mask := by
  cases o with
  | none => rfl
  | some x => simp [asSeen, Option.filter, h]

theorem asSeen_excl {incl : Option (Nat → M → Bool)} {mask : M → M} {i : Nat} {o : Option M}
    (h : inclOpt incl i o = false) : asSeen incl mask i o = none := by
  cases o with
  | none => rfl
  | some x => simp [asSeen, Option.filter, h]

theorem tagOK_map_old {e : Event M} (mask : M → M) (h : tagOK e) : e.isAdd = (e.old.map mask).isNone := by
  rw [h]; cases e.old <;> rfl

theorem fwdEv_some {incl : Option (Nat → M → Bool)} {mask : M → M} {e e' : Event M}
    (h : fwdEv incl mask e = some e') :
    e'.id = e.id ∧ e'.old = asSeen incl mask e.id e.old ∧ e'.new = asSeen incl mask e.id e.new ∧
      (tagOK e → tagOK e') := by
  unfold fwdEv at h
  cases incl with
  | none =>
    simp only [Option.some.injEq] at h
    subst h
    exact ⟨rfl, (asSeen_none mask _ _).symm, (asSeen_none mask _ _).symm, tagOK_map_old mask⟩
  | some f =>
    dsimp only at h
    -- is the new value included, is the old one?  With both excluded `fwdEv` drops the change, against `h`; in the
    -- other three cases `h` says which change it makes
    cases hni : inclOpt (some f) e.id e.new <;> cases hoi : inclOpt (some f) e.id e.old <;>
      simp only [hni, hoi, if_true, if_false, Bool.false_eq_true, Bool.true_eq_false, reduceCtorEq,
        Option.some.injEq] at h <;> subst h
    · -- old included, new excluded: a REMOVE carrying the masked old value
      refine ⟨rfl, (asSeen_incl hoi).symm, (asSeen_excl hni).symm, fun _ => ?_⟩
      cases ho : e.old with
      | none => rw [ho] at hoi; cases hoi
      | some x => rfl
    · -- old excluded, new included: an ADD without old value
      exact ⟨rfl, (asSeen_excl hoi).symm, (asSeen_incl hni).symm, fun _ => rfl⟩
    · -- both included: the change with both values masked
      exact ⟨rfl, (asSeen_incl hoi).symm, (asSeen_incl hni).symm, tagOK_map_old mask⟩

theorem fwdEv_none {incl : Option (Nat → M → Bool)} {mask : M → M} {e : Event M}
    (h : fwdEv incl mask e = none) : inclOpt incl e.id e.old = false ∧ inclOpt incl e.id e.new = false := by
  unfold fwdEv at h
  cases incl with
  | none => simp at h
  | some f =>
    dsimp only at h
    -- as soon as the old or the new value is included `fwdEv` makes a change, against `h`: both are excluded
    cases hni : inclOpt (some f) e.id e.new <;> cases hoi : inclOpt (some f) e.id e.old <;>
      simp only [hni, hoi, if_true, if_false, Bool.false_eq_true, Bool.true_eq_false, reduceCtorEq] at h
    exact ⟨rfl, rfl⟩

theorem obs_ids {P : Nat → Prop} {sb : Sub M} (h : ∀ e, e ∈ sb.evs → P e.id) : ∀ e, e ∈ sb.obs → P e.id := by
  intro e he
  obtain ⟨a, ha, hf⟩ := List.mem_filterMap.mp he
  rw [(fwdEv_some hf).1]
  exact h a ha

theorem fwd_step (incl : Option (Nat → M → Bool)) (mask : M → M) (v : Nat → Option M) (e : Event M)
    (h : v e.id = e.old ∨ v e.id = e.new) :
    ((fwdEv incl mask e).toList).foldl applyEv (seedView incl mask v) = seedView incl mask (applyEv v e) := by
  funext j
  cases hf : fwdEv incl mask e with
  | none =>
    obtain ⟨ho, hn⟩ := fwdEv_none hf
    simp only [Option.toList, List.foldl_nil, seedView_apply, applyEv_apply]
    split
    · next hj =>
      subst hj
      rw [asSeen_excl hn]
      rcases h with h | h
      · rw [h, asSeen_excl ho]
      · rw [h, asSeen_excl hn]
    · rfl
  | some e' =>
    obtain ⟨hid, _, hnew, _⟩ := fwdEv_some hf
    simp only [Option.toList, List.foldl_cons, List.foldl_nil, seedView_apply, applyEv_apply, hid]
    split
    · next hj => subst hj; exact hnew
    · rfl

theorem fwd_sim (incl : Option (Nat → M → Bool)) (mask : M → M) (strict : Bool) (evs : List (Event M)) :
    ∀ v : Nat → Option M, linkOK strict v evs →
      linkOK strict (seedView incl mask v) (evs.filterMap (fwdEv incl mask)) ∧
      (evs.filterMap (fwdEv incl mask)).foldl applyEv (seedView incl mask v)
        = seedView incl mask (evs.foldl applyEv v) := by
  induction evs with
  | nil => intro v _; exact ⟨trivial, rfl⟩
  | cons e L ih =>
    intro v h
    obtain ⟨ih1, ih2⟩ := ih _ h.2
    rw [← fwd_step incl mask v e (h.1.imp id (·.2))] at ih1 ih2
    rw [List.foldl_cons, ← ih2]
    cases hf : fwdEv incl mask e with
    | none => simpa [hf] using ih1
    | some e' =>
      obtain ⟨hid, hold, hnew, _⟩ := fwdEv_some hf
      simp only [List.filterMap_cons, hf, linkOK_cons, List.foldl_cons]
      refine ⟨⟨?_, by simpa [hf] using ih1⟩, rfl⟩
      rw [seedView_apply, hid, hold, hnew]
      exact h.1.imp (congrArg _) (And.imp_right (congrArg _))

theorem fwd_fold (incl : Option (Nat → M → Bool)) (mask : M → M) (strict : Bool) (evs : List (Event M))
    (v : Nat → Option M) (h : linkOK strict v evs) :
    (evs.filterMap (fwdEv incl mask)).foldl applyEv (seedView incl mask v)
      = seedView incl mask (evs.foldl applyEv v) :=
  (fwd_sim incl mask strict evs v h).2

theorem takeWhile_all {α : Type} (p : α → Bool) (L : List α) (h : L.any (fun x => !p x) = false) :
    L.takeWhile p = L := by
  induction L with
  | nil => rfl
  | cons a L ih =>
    simp only [List.any_cons, Bool.or_eq_false_iff, Bool.not_eq_false'] at h
    rw [List.takeWhile_cons, if_pos h.1, ih h.2]

/-- of changes none of which is a REMOVE, the value delivered last is the new value of the last change (`o` if there is
no change) -/
theorem getLast?_news_or (L : List (Event M)) (h : L.any (fun e => e.new.isNone) = false) :
    ∀ o : Option M, ((L.filterMap (·.new)).getLast?).or o =
      match L.getLast? with
      | none => o
      | some e => e.new := by
  induction L with
  | nil => intro o; rfl
  | cons a L ih =>
    intro o
    simp only [List.any_cons, Bool.or_eq_false_iff] at h
    cases hn : a.new with
    | none => rw [hn] at h; cases h.1
    | some x =>
      have hx := ih h.2 (some x)
      rw [List.filterMap_cons, hn, List.getLast?_cons, List.getLast?_cons]
      show some (((L.filterMap (·.new)).getLast?).getD x) = (L.getLast?.getD a).new
      have hor : ∀ X : Option M, some (X.getD x) = X.or (some x) := fun X => by cases X <;> rfl
      rw [hor, hx]
      cases L.getLast? with
      | none => exact hn.symm
      | some y => rfl

theorem pullID_last (sb : Sub M) (id : Nat) (h : sb.pullIDEnded id = false) :
    (sb.pullID id).getLast? = sb.obsView id := by
  unfold Sub.pullIDEnded at h
  have htw : (sb.obs.filter (fun e => e.id == id)).takeWhile (fun e => e.new.isSome)
      = sb.obs.filter (fun e => e.id == id) := by
    apply takeWhile_all
    rw [← h]
    congr 1
    funext e
    cases e.new <;> rfl
  unfold Sub.pullID Sub.obsView
  rw [htw, foldl_applyEv_last, List.getLast?_append, getLast?_news_or _ h]
  cases seedView sb.incl sb.mask sb.base id <;> rfl

theorem pullIDEnded_of_gone (sb : Sub M) (id : Nat) (hgone : sb.obsView id = none) (hne : sb.pullID id ≠ []) :
    sb.pullIDEnded id = true := by
  cases hend : sb.pullIDEnded id with
  | true => rfl
  | false =>
    have h := pullID_last sb id hend
    rw [hgone] at h
    exact absurd (List.getLast?_eq_none_iff.mp h) hne

end ScVerif.C03
