import ScVerif.C03.Model
/-!
# C03 — id interceptors: definitions (core only; the driver links this file)

`resource.WithIDInterceptor(f)`: `Update`, `Delete`, `Get`, `PullID` (and `NewCollection` for its initial records) all
begin with `id = c.idInterceptor(id)` and use the image for everything after: the look-up, the map write AND the
`CollectionChange.Id` of the publication.
-/
namespace ScVerif.C03

variable {M : Type}

/-- the first statement of `Update` / `Delete`: `id = c.idInterceptor(id)`; everything after it uses the image -/
def WOp.canon (icpt : Nat → Nat) : WOp M → WOp M
  | .upd r f => .upd (icpt r) f
  | .del r p => .del (icpt r) p

/-- callers' programs (ids in the callers' spellings) on a collection with the id interceptor `icpt`;
`NewCollection` stores an initial record under the image of its id: `s₀` is given by stored id -/
def initI (icpt : Nat → Nat) (s₀ : Nat → Option M) (progs : Nat → List (WOp M)) (opts : Nat → SubOpts M) : Cfg M :=
  initCfg s₀ (fun t => (progs t).map (WOp.canon icpt)) opts

end ScVerif.C03
