import ScVerif.C03.Model
/-!
# C03 — what the property statements and the driver speak of beside the machine of `Model.lean`

Definitions only: the driver links this file.
-/
namespace ScVerif.C03

variable {M : Type}

/-- the id a call names -/
def WOp.id : WOp M → Nat
  | .upd i _ => i
  | .del i _ => i

/-- `i` is what the interceptor makes of the id named by some call of the programs -/
def named (icpt : Nat → Nat) (progs : Nat → List (WOp M)) (i : Nat) : Prop :=
  ∃ t o, o ∈ progs t ∧ i = icpt o.id

/-- the publications in flight other than the `k`-th one -/
def others (c : Cfg M) (k : Nat) : List (Pub M) := c.pubs.take k ++ c.pubs.drop (k + 1)

/-- `CollectionChange.ChangeType` agrees with `OldValue`: an ADD exactly when there is no old value -/
def tagOK (e : Event M) : Prop := e.isAdd = e.old.isNone

/-- the changes of `L`, applied in order to the view `v`: an ADD only ever arrives for an id the view lacks at that
point — the condition under which `mergeChanges` may cancel a pending ADD against a following REMOVE -/
def chainOK : (Nat → Option M) → List (Event M) → Prop
  | _, [] => True
  | v, e :: L => (e.isAdd = true → v e.id = none) ∧ chainOK (applyEv v e) L

/-- `linkOK strict v L`: the changes of `L`, applied in order to the view `v`, each carry as `old` the value the view
holds for their id (`strict`), or — for a backpressured subscriber, which may be handed a duplicate of its seed — at
least already hold their `new` value.  This is what makes `(*CollectionChange).include` judge the right values. -/
def linkOK (strict : Bool) : (Nat → Option M) → List (Event M) → Prop
  | _, [] => True
  | v, e :: L => (v e.id = e.old ∨ (strict = false ∧ v e.id = e.new)) ∧ linkOK strict (applyEv v e) L

/-! `cmp` is `Comparer.Compare` on possibly absent (nil) messages. -/

/-- the event loop of `Collection.Pull` with an equivalence: `if c.equivalence.Compare(change.OldValue,
change.NewValue) { continue }` on the change as it leaves `include` and `filter` -/
def dedupColl (cmp : Option M → Option M → Bool) (L : List (Event M)) : List (Event M) :=
  L.filter (fun e => !cmp e.old e.new)

/-- the event loop of `Value.Pull` with an equivalence: `if r.equivalence.Compare(last, change.Value) { continue };
last = change.Value` -/
def dedupVal (cmp : Option M → Option M → Bool) : Option M → List (Event M) → List (Event M)
  | _, [] => []
  | last, e :: L => if cmp last e.new then dedupVal cmp last L else e :: dedupVal cmp e.new L

/-- what the consumer of a `Collection.Pull` on a collection with equivalence `cmp` receives after the seed -/
def Sub.obsEqColl (cmp : Option M → Option M → Bool) (s : Sub M) : List (Event M) := dedupColl cmp s.obs

def Sub.obsViewEqColl (cmp : Option M → Option M → Bool) (s : Sub M) : Nat → Option M :=
  (s.obsEqColl cmp).foldl applyEv (seedView s.incl s.mask s.base)

/-- `last` when the event loop of `Value.Pull` starts: the seed as sent (nil for an updates-only subscriber).  A `Value`
is the collection of the single id 0. -/
def Sub.valSeed (s : Sub M) : Option M := if s.updatesOnly then none else seedView s.incl s.mask s.base 0

/-- what the consumer of a `Value.Pull` on a value with equivalence `cmp` receives after the seed -/
def Sub.obsEqVal (cmp : Option M → Option M → Bool) (s : Sub M) : List (Event M) := dedupVal cmp s.valSeed s.obs

def Sub.obsViewEqVal (cmp : Option M → Option M → Bool) (s : Sub M) : Nat → Option M :=
  (s.obsEqVal cmp).foldl applyEv (seedView s.incl s.mask s.base)

/-- the values sent: none is equivalent to the one sent before it (`p` before the first) -/
def noAdjEquiv (cmp : Option M → Option M → Bool) : Option M → List (Option M) → Prop
  | _, [] => True
  | p, x :: xs => cmp p x = false ∧ noAdjEquiv cmp x xs

/-- `cmp.Equal(cmp.FloatValueApprox(0, k))` read on integer messages: absent is equivalent to absent only -/
def tolCmp (k : Nat) : Option Int → Option Int → Bool
  | none, none => true
  | some x, some y => decide ((x - y).natAbs ≤ k)
  | _, _ => false

/-- `cmp.FloatValueApprox(fraction, margin)` on integers, `fraction = num / den` (`den > 0`): `|x - y| ≤ max(margin,
fraction * min(|x|, |y|))`, both sides multiplied by `den`.  (The distance is between the VALUES, the relative margin
scales with the smaller MAGNITUDE.) -/
def approxInt (num den margin : Nat) (x y : Int) : Bool :=
  decide (den * (x - y).natAbs ≤ max (den * margin) (num * min x.natAbs y.natAbs))

/-- the same comparer as `cmp.Equal` applies it to a proto3 scalar field: `equalMessage` first compares which fields
are populated, and a field at zero is not -/
def approxField (num den margin : Nat) (x y : Int) : Bool :=
  if x = 0 ∨ y = 0 then x == y else approxInt num den margin x y

/-- NOT the code's loop: `prev := last; last = change.Value; if equivalent(prev, change.Value) { continue }` — each
change is compared with the value it REPLACED (what `Collection.Pull` does with `OldValue`), not with the value sent last -/
def dedupPrev (cmp : Option M → Option M → Bool) : Option M → List (Event M) → List (Event M)
  | _, [] => []
  | prev, e :: L => if cmp prev e.new then dedupPrev cmp e.new L else e :: dedupPrev cmp e.new L

/-- the ramp `x+1, …, x+n` as a linked stream of updates of id 0 -/
def rampEvs (x : Int) : Nat → List (Event Int)
  | 0 => []
  | n + 1 => ⟨0, some x, some (x + 1), false, 0⟩ :: rampEvs (x + 1) n

end ScVerif.C03
