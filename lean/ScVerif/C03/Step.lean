import ScVerif.C03.Lemmas
/-!
# C03 — the step relation of the machine

`Move c a c'` lists the ten ways a step takes effect and `step_move` says that this is all a step can do; what follows a
run step by step argues by cases on a `Move`, not from the definitions of the step functions.  `Move` keeps of each
guard only what the invariants need (a commit's `busy` / lock test, the lock test of a subscribe step are dropped): an
over-approximation, no converse is meant.  Every move that touches a subscriber rewrites ONE record
(`setAt c.subs s _`); for a delivery that record is `Sub.offered`.
-/
namespace ScVerif.C03
open ScVerif.C02 (setAt)

variable {M : Type}

theorem copies_none {s : Nat} {p : Pub M} (h : p.stage = none) : copies s p = [p.ev] := by
  simp [copies, h]

theorem copies_staged {s : Nat} {p : Pub M} {rem : List Nat} (h : p.stage = some rem) :
    copies s p = List.replicate (rem.count s) p.ev := by
  simp [copies, h, List.filter_beq]

theorem pubs_split {l : List (Pub M)} {k : Nat} {p : Pub M} {post : List (Pub M)} (h : l.drop k = p :: post) :
    l = l.take k ++ p :: post := by
  rw [← h, List.take_append_drop]

theorem mem_take_append_post {α : Type} {l : List α} {k : Nat} {p : α} {post : List α} (hd : l.drop k = p :: post)
    {q : α} (h : q ∈ l.take k ++ post) : q ∈ l := by
  rw [← List.take_append_drop k l, hd]
  rcases List.mem_append.mp h with h | h
  · exact List.mem_append_left _ h
  · exact List.mem_append_right _ (List.mem_cons_of_mem _ h)

theorem mem_of_drop {α : Type} {l : List α} {k : Nat} {p : α} {post : List α} (hd : l.drop k = p :: post) : p ∈ l := by
  rw [← List.take_append_drop k l, hd]
  exact List.mem_append_right _ List.mem_cons_self

theorem mem_replace {α : Type} {l : List α} {k : Nat} {p p' : α} {post : List α} (hd : l.drop k = p :: post)
    {q : α} (h : q ∈ l.take k ++ p' :: post) : q = p' ∨ q ∈ l := by
  rcases List.mem_append.mp h with h | h
  · exact Or.inr (mem_take_append_post hd (List.mem_append_left _ h))
  · rcases List.mem_cons.mp h with h | h
    · exact Or.inl h
    · exact Or.inr (mem_take_append_post hd (List.mem_append_right _ h))

theorem flatMap_copies_replace {l : List (Pub M)} {k : Nat} {p p' : Pub M} {post : List (Pub M)}
    (hd : l.drop k = p :: post) {s : Nat} (hc : copies s p' = copies s p) :
    (l.take k ++ p' :: post).flatMap (copies s) = l.flatMap (copies s) := by
  conv => rhs; rw [pubs_split hd]
  simp only [List.flatMap_append, List.flatMap_cons, hc]

theorem flatMap_copies_nil {s : Nat} {l : List (Pub M)}
    (h : l.all (fun q => (copies s q).isEmpty) = true) : l.flatMap (copies s) = [] :=
  List.flatMap_eq_nil_iff.mpr fun q hq => List.isEmpty_iff.mp (List.all_eq_true.mp h q hq)

theorem inflight_quiescent {c : Cfg M} (hq : c.quiescent = true) (s : Nat) : inflight c s = [] := by
  rw [inflight, List.isEmpty_iff.mp hq]; rfl

theorem mem_inflight {c : Cfg M} {s : Nat} {e : Event M} :
    e ∈ inflight c s ↔ ∃ p, p ∈ c.pubs ∧ e ∈ copies s p := by
  simp [inflight, List.mem_flatMap]

/-- a dead listener is passed over -/
def Sub.offered (sb : Sub M) (e : Event M) : Sub M := if sb.cancelled then sb else sb.accept e

theorem Sub.offered_live {sb : Sub M} (e : Event M) (h : sb.cancelled = false) : sb.offered e = sb.accept e := by
  simp [Sub.offered, h]

theorem Sub.offered_frame (sb : Sub M) (e : Event M) :
    (sb.offered e).evs = sb.evs ∧ (sb.offered e).registered = sb.registered ∧
    (sb.offered e).cancelled = sb.cancelled := by
  unfold Sub.offered
  split <;> exact ⟨rfl, rfl, rfl⟩

theorem Sub.mem_offered {sb : Sub M} {e x : Event M} (hx : x ∈ (sb.offered e).pending) : x ∈ sb.pending ∨ x = e ∨
    ∃ a, a ∈ sb.pending ∧ a.id = e.id ∧ x = { e with isAdd := a.isAdd, old := a.old } := by
  unfold Sub.offered at hx
  split at hx
  · exact Or.inl hx
  · replace hx : x ∈ (if sb.lossy then mergeInto sb.pending e else [e]) := hx
    split at hx
    · exact mem_mergeInto hx
    · exact Or.inr (Or.inl (List.mem_singleton.mp hx))

/-- `listener.send` as the model writes it — the subscribers unchanged if the listener is dead — rewrites one record -/
theorem setAt_offered (c : Cfg M) (s : Nat) (e : Event M) :
    (if (c.subs s).cancelled then c.subs else setAt c.subs s ((c.subs s).accept e))
      = setAt c.subs s ((c.subs s).offered e) := by
  unfold Sub.offered
  split
  · funext s'
    simp only [setAt]
    split
    · next h => rw [h]
    · rfl
  · rfl

/-- `e` is the change the call `o` announces when it commits on `c` -/
structure Announces (c : Cfg M) (o : WOp M) (e : Event M) : Prop where
  id : e.id = o.id
  old : c.store e.id = e.old
  tag : tagOK e
  seq : e.seq = c.nextSeq

inductive Move (c : Cfg M) : Act → Cfg M → Prop
  /-- the call is refused (precondition failed, item absent) -/
  | refuse {t : Nat} {o : WOp M} {rest : List (WOp M)} (ho : (c.writers t).prog = o :: rest) :
      Move c (.commit t) (c.popOp t rest false)
  /-- a `Delete` with no listener at all publishes nothing -/
  | quiet {t : Nat} {o : WOp M} {rest : List (WOp M)} {e : Event M} (ho : (c.writers t).prog = o :: rest)
      (he : Announces c o e) (hemp : c.listeners.isEmpty = true) :
      Move c (.commit t) { c.popOp t rest false with store := applyEv c.store e, nextSeq := c.nextSeq + 1 }
  /-- the publication waits for its listener copy (`Update`), or holds the copy and the lock already (`Delete`) -/
  | commit {t : Nat} {o : WOp M} {rest : List (WOp M)} {e : Event M} {p : Pub M} {lock' : Option Nat}
      (ho : (c.writers t).prog = o :: rest) (he : Announces c o e) (hev : p.ev = e)
      (hst : p.stage = none ∨ p.stage = some c.listeners) :
      Move c (.commit t) { c.popOp t rest true with
        store := applyEv c.store e, nextSeq := c.nextSeq + 1, lock := lock', pubs := c.pubs ++ [p] }
  /-- `Bus.Send` finds no listener at all -/
  | snapEnd {k : Nat} {p : Pub M} {post : List (Pub M)} (hd : c.pubs.drop k = p :: post)
      (hemp : c.listeners.isEmpty = true) : Move c (.snap k) (c.finishPub p (c.pubs.take k ++ post))
  | snap {k : Nat} {p : Pub M} {post : List (Pub M)} (hd : c.pubs.drop k = p :: post) (hst : p.stage = none) :
      Move c (.snap k) { c with pubs := c.pubs.take k ++ { p with stage := some c.listeners } :: post }
  /-- the last listener of the copy: the publication ends, `collect` included -/
  | deliverEnd {k : Nat} {p : Pub M} {post : List (Pub M)} {s : Nat} (hd : c.pubs.drop k = p :: post)
      (hst : p.stage = some [s])
      (hfree : (c.subs s).cancelled = false → (c.subs s).lossy = false → (c.subs s).pending = []) :
      Move c (.deliver k) (({ c with subs := setAt c.subs s ((c.subs s).offered p.ev) } : Cfg M).finishPub
        { p with gc := p.gc || (c.subs s).cancelled } (c.pubs.take k ++ post))
  | deliver {k : Nat} {p : Pub M} {post : List (Pub M)} {s : Nat} {rem : List Nat} (hd : c.pubs.drop k = p :: post)
      (hst : p.stage = some (s :: rem))
      (hfree : (c.subs s).cancelled = false → (c.subs s).lossy = false → (c.subs s).pending = []) :
      Move c (.deliver k) { c with
        subs := setAt c.subs s ((c.subs s).offered p.ev)
        pubs := c.pubs.take k ++ { p with gc := p.gc || (c.subs s).cancelled, stage := some rem } :: post }
  | sub {s : Nat} (hunreg : (c.subs s).registered = false) :
      Move c (.sub s) { c with
        subs := setAt c.subs s { c.subs s with
          registered := true, base := c.store, evs := [], pending := [], got := [], subAt := c.nextSeq }
        listeners := c.listeners ++ [s] }
  | cancel {s : Nat} : Move c (.cancel s) { c with subs := setAt c.subs s { c.subs s with cancelled := true } }
  | recv {s : Nat} {e : Event M} {rest : List (Event M)} (hp : (c.subs s).pending = e :: rest) :
      Move c (.recv s) { c with subs := setAt c.subs s { c.subs s with evs := (c.subs s).evs ++ [e], pending := rest } }

theorem stepCommit_move (c : Cfg M) (t : Nat) : stepCommit c t = c ∨ Move c (.commit t) (stepCommit c t) := by
  cases hb : ((c.writers t).busy || c.lock.isSome) with
  | true => exact Or.inl (by simp only [stepCommit, hb, if_true])
  | false =>
    cases hprog : (c.writers t).prog with
    | nil => exact Or.inl (by simp only [stepCommit, hb, hprog, Bool.false_eq_true, if_false])
    | cons o rest =>
      right
      cases o with
      | upd i f =>
        cases hf : f (c.store i) with
        | none => simp only [stepCommit, hb, hprog, hf, Bool.false_eq_true, if_false]; exact .refuse hprog
        | some v =>
          simp only [stepCommit, hb, hprog, hf, Bool.false_eq_true, if_false]
          exact .commit hprog ⟨rfl, rfl, rfl, rfl⟩ rfl (Or.inl rfl)
      | del i pr =>
        cases hs : c.store i with
        | none => simp only [stepCommit, hb, hprog, hs, Bool.false_eq_true, if_false]; exact .refuse hprog
        | some b =>
          cases hp : pr b with
          | false => simp only [stepCommit, hb, hprog, hs, hp, Bool.false_eq_true, if_false]; exact .refuse hprog
          | true =>
            have he : Announces c (.del i pr) ⟨i, some b, none, false, c.nextSeq⟩ := ⟨rfl, hs, rfl, rfl⟩
            cases hemp : c.listeners.isEmpty with
            | true =>
              simp only [stepCommit, hb, hprog, hs, hp, hemp, Bool.false_eq_true, if_false, if_true]
              exact .quiet hprog he hemp
            | false =>
              simp only [stepCommit, hb, hprog, hs, hp, hemp, Bool.false_eq_true, if_false, if_true]
              exact .commit hprog he rfl (Or.inr rfl)

theorem stepSnap_move (c : Cfg M) (k : Nat) : stepSnap c k = c ∨ Move c (.snap k) (stepSnap c k) := by
  unfold stepSnap
  split
  · exact Or.inl rfl
  · next p post hd =>
    split
    · exact Or.inl rfl
    · next hst =>
      split
      · next hemp => exact Or.inr (.snapEnd hd hemp)
      · exact Or.inr (.snap hd hst)

theorem stepDeliver_move (c : Cfg M) (k : Nat) : stepDeliver c k = c ∨ Move c (.deliver k) (stepDeliver c k) := by
  cases hd : c.pubs.drop k with
  | nil => exact Or.inl (by simp only [stepDeliver, hd])
  | cons p post =>
    cases hst : p.stage with
    | none => exact Or.inl (by simp only [stepDeliver, hd, hst])
    | some l =>
      cases l with
      | nil => exact Or.inl (by simp only [stepDeliver, hd, hst])
      | cons s rem =>
        cases hbusy : (!(c.subs s).cancelled && !(c.subs s).lossy && !(c.subs s).pending.isEmpty) with
        | true => exact Or.inl (by simp only [stepDeliver, hd, hst, hbusy, if_true])
        | false =>
          have hfree : (c.subs s).cancelled = false → (c.subs s).lossy = false → (c.subs s).pending = [] := by
            intro h1 h2
            cases hp : (c.subs s).pending with
            | nil => rfl
            | cons a l => simp [h1, h2, hp] at hbusy
          right
          cases rem with
          | nil => simp only [stepDeliver, hd, hst, hbusy, setAt_offered]; exact .deliverEnd hd hst hfree
          | cons s2 r2 => simp only [stepDeliver, hd, hst, hbusy, setAt_offered]; exact .deliver hd hst hfree

theorem stepSub_move (c : Cfg M) (s : Nat) : stepSub c s = c ∨ Move c (.sub s) (stepSub c s) := by
  unfold stepSub
  dsimp only
  split
  · exact Or.inl rfl
  · next h =>
    refine Or.inr (.sub ?_)
    cases hr : (c.subs s).registered
    · rfl
    · simp [hr] at h

theorem stepCancel_move (c : Cfg M) (s : Nat) : stepCancel c s = c ∨ Move c (.cancel s) (stepCancel c s) := by
  unfold stepCancel
  dsimp only
  split
  · exact Or.inr .cancel
  · exact Or.inl rfl

theorem stepRecv_move (c : Cfg M) (s : Nat) : stepRecv c s = c ∨ Move c (.recv s) (stepRecv c s) := by
  unfold stepRecv
  dsimp only
  split
  · exact Or.inl rfl
  · next e rest hp => exact Or.inr (.recv hp)

theorem step_move (c : Cfg M) (a : Act) : step c a = c ∨ Move c a (step c a) := by
  cases a with
  | commit t => exact stepCommit_move c t
  | snap k => exact stepSnap_move c k
  | deliver k => exact stepDeliver_move c k
  | sub s => exact stepSub_move c s
  | cancel s => exact stepCancel_move c s
  | recv s => exact stepRecv_move c s

theorem step_keeps {I : Cfg M → Prop} {c : Cfg M} {a : Act} (h : I c) (hm : Move c a (step c a) → I (step c a)) :
    I (step c a) :=
  (step_move c a).elim (fun e => by rw [e]; exact h) hm

theorem popOp_progs (c : Cfg M) (t : Nat) {o : WOp M} {rest : List (WOp M)} (b : Bool)
    (ho : (c.writers t).prog = o :: rest) (t' : Nat) (x : WOp M) (hx : x ∈ ((c.popOp t rest b).writers t').prog) :
    x ∈ (c.writers t').prog :=
  forall_setAt (P := fun t' (w : Writer M) => ∀ x, x ∈ w.prog → x ∈ (c.writers t').prog)
    (fun _ hx => ho ▸ List.mem_cons_of_mem _ hx) (fun _ _ _ hx => hx) t' x hx

theorem finishPub_progs (c : Cfg M) (p : Pub M) (pubs' : List (Pub M)) (t' : Nat) :
    ((c.finishPub p pubs').writers t').prog = (c.writers t').prog :=
  forall_setAt (f := c.writers) (s := p.owner) (x := { c.writers p.owner with busy := false })
    (P := fun t' (w : Writer M) => w.prog = (c.writers t').prog) rfl (fun _ _ => rfl) t'

/-- from `c` to `c'` no call was added, and the store changed only at ids that calls of `c` name -/
structure Frame (c c' : Cfg M) : Prop where
  progs : ∀ t o, o ∈ (c'.writers t).prog → o ∈ (c.writers t).prog
  store : ∀ i, c'.store i = c.store i ∨ ∃ t o, o ∈ (c.writers t).prog ∧ o.id = i

theorem Move.frame {c c' : Cfg M} {a : Act} (m : Move c a c') : Frame c c' := by
  have same : ∀ c' : Cfg M, c'.writers = c.writers → c'.store = c.store → Frame c c' :=
    fun c' hw hs => ⟨fun t' o h => hw ▸ h, fun i => Or.inl (by rw [hs])⟩
  have finish : ∀ (c' : Cfg M) (p : Pub M) (l : List (Pub M)), c'.writers = c.writers → c'.store = c.store →
      Frame c (c'.finishPub p l) :=
    fun c' p l hw hs => ⟨fun t' o h => hw ▸ finishPub_progs c' p l t' ▸ h, fun i => Or.inl (by rw [← hs]; rfl)⟩
  have stored : ∀ {t o rest e}, (c.writers t).prog = o :: rest → Announces c o e →
      ∀ i, applyEv c.store e i = c.store i ∨ ∃ t o, o ∈ (c.writers t).prog ∧ o.id = i := by
    intro t o rest e ho he i
    by_cases hi : i = e.id
    · exact Or.inr ⟨t, o, ho ▸ List.mem_cons_self, by rw [← he.id, hi]⟩
    · exact Or.inl (applyEv_other hi)
  cases m with
  | refuse ho => exact ⟨popOp_progs c _ _ ho, fun i => Or.inl rfl⟩
  | quiet ho he => exact ⟨popOp_progs c _ _ ho, stored ho he⟩
  | commit ho he => exact ⟨popOp_progs c _ _ ho, stored ho he⟩
  | snapEnd => exact finish c _ _ rfl rfl
  | deliverEnd => exact finish _ _ _ rfl rfl
  | _ => exact same _ rfl rfl

theorem step_frame (c : Cfg M) (a : Act) : Frame c (step c a) :=
  step_keeps (I := Frame c) ⟨fun _ _ h => h, fun _ => Or.inl rfl⟩ Move.frame

theorem run_induct {I : Cfg M → Prop} (hstep : ∀ c a, I c → I (step c a)) {c : Cfg M} (h : I c)
    (sched : List Act) : I (run c sched) := by
  induction sched generalizing c with
  | nil => exact h
  | cons a rest ih => exact ih (hstep c a h)

end ScVerif.C03
