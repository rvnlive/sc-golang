import ScVerif.C03.Forwarder
import ScVerif.C03.Step
/-!
# C03 — the invariant of a run and its preservation by every step

The idea: what a live subscriber has received, then what its stage holds, then what the bus still owes it, read as ONE
stream from its SEED, takes the seed to the store, every change as its stage asks (`dueOK`).  A receive step leaves that
stream as it is; commits append to it; deliveries and the merge stage replace it by one as good (`Same`).  `ord = true`:
schedules whose steps satisfy `okStep`; what holds on all schedules (no miss, the listener list) is the rest.
-/
namespace ScVerif.C03
open ScVerif.C02 (setAt)

variable {M : Type}

/-- the stream `L` takes the view `v` to `store`, every change as the subscriber's stage asks (`dueOK`) -/
structure Owed (lossy : Bool) (v store : Nat → Option M) (L : List (Event M)) : Prop where
  view : L.foldl applyEv v = store
  ok : Along (dueOK lossy) v L

variable {lossy : Bool} {v store : Nat → Option M} {L : List (Event M)}

theorem Owed.link (h : Owed lossy v store L) : linkOK lossy v L := by
  rw [linkOK_eq_along]; exact h.ok.imp (fun _ _ h => h.1)

theorem Owed.chain (h : Owed lossy v store L) (hl : lossy = true) : chainOK v L := by
  rw [chainOK_eq_along]; exact h.ok.imp (fun _ _ h => h.2 hl)

theorem Owed.same {L' : List (Event M)} (h : Owed lossy v store L) (hs : Same (dueOK lossy) L L') :
    Owed lossy v store L' :=
  ⟨(hs v h.ok).2.trans h.view, (hs v h.ok).1⟩

theorem Owed.drop {A : List (Event M)} (h : Owed lossy v store (A ++ L)) : Owed lossy (A.foldl applyEv v) store L :=
  ⟨by rw [← h.view, List.foldl_append], ((Along.append A L v).mp h.ok).2⟩

theorem Owed.snoc (h : Owed lossy v store L) {e : Event M} (hold : store e.id = e.old) (htag : tagOK e) :
    Owed lossy v (applyEv store e) (L ++ [e]) := by
  refine ⟨by rw [List.foldl_append, h.view]; rfl, (Along.append L [e] v).mpr ⟨h.ok, ⟨?_, fun _ hadd => ?_⟩, trivial⟩⟩
  · rw [h.view]; exact Or.inl hold
  · rw [h.view, hold]; exact Option.isNone_iff_eq_none.mp (htag ▸ hadd)

/-- at its subscribe step a view that IS the store is owed any stream of changes it already holds — none at all if the
subscriber is lossy -/
theorem Owed.fresh (lossy : Bool) (store : Nat → Option M) (L : List (Event M))
    (hcur : ∀ e, e ∈ L → store e.id = e.new) (hl : lossy = true → L = []) : Owed lossy store store L := by
  cases lossy
  · induction L with
    | nil => exact ⟨rfl, trivial⟩
    | cons e L ih =>
      -- `e` brings what the view holds already: the rest is judged against the same view
      have ih' := ih (fun a ha => hcur a (List.mem_cons_of_mem _ ha)) (fun h => nomatch h)
      have he := hcur e List.mem_cons_self
      refine ⟨?_, ⟨Or.inr ⟨rfl, he⟩, fun h => nomatch h⟩, ?_⟩
      · rw [List.foldl_cons, applyEv_same he]; exact ih'.view
      · rw [applyEv_same he]; exact ih'.ok
  · rw [hl rfl]; exact ⟨rfl, trivial⟩

/-- one live subscriber `sb` against the contents `store`, the number `n` of commits so far and the changes `due` to it
from the bus -/
structure SubInv (ord : Bool) (store : Nat → Option M) (n : Nat) (sb : Sub M) (due : List (Event M)) : Prop where
  hist : ord = true → Owed sb.lossy sb.base store (sb.evs ++ (sb.pending ++ due))
  /-- no commit since the subscribe step is missing: it was handed to the stage (ghost `got`) or is still due -/
  nomiss : ∀ k, sb.subAt ≤ k → k < n → k ∈ sb.got ∨ k ∈ due.map (·.seq)

variable {ord : Bool} {n : Nat} {sb : Sub M} {due : List (Event M)}

theorem SubInv.owed (h : SubInv ord store n sb due) (ho : ord = true) :
    Owed sb.lossy sb.rawView store (sb.pending ++ due) := (h.hist ho).drop

theorem SubInv.rcvd (h : SubInv ord store n sb due) (ho : ord = true) : linkOK false sb.base sb.evs := by
  rw [linkOK_eq_along]
  exact ((Along.append _ _ _).mp (h.hist ho).ok).1.imp (fun _ _ h => h.1.imp id (fun h => ⟨rfl, h.2⟩))

/-- the received stream is linked to the seed, so the forwarder has judged the right values -/
theorem SubInv.obs (h : SubInv ord store n sb due) (ho : ord = true) :
    sb.obsView = seedView sb.incl sb.mask sb.rawView :=
  fwd_fold sb.incl sb.mask false sb.evs sb.base (h.rcvd ho)

theorem SubInv.commit (h : SubInv ord store n sb due) {e : Event M} (hseq : e.seq = n)
    (hold : store e.id = e.old) (htag : tagOK e) : SubInv ord (applyEv store e) (n + 1) sb (due ++ [e]) := by
  refine ⟨fun ho => ?_, fun k hk1 hk2 => ?_⟩
  · rw [← List.append_assoc, ← List.append_assoc, List.append_assoc sb.evs]
    exact (h.hist ho).snoc hold htag
  · rw [List.map_append, List.mem_append]
    by_cases hk : k < n
    · exact (h.nomiss k hk1 hk).imp id Or.inl
    · exact Or.inr (Or.inr (by simp only [List.map_cons, List.map_nil, List.mem_singleton]; omega))

/-- `e` may overtake due changes `A` of other ids; a backpressured stage must be free -/
theorem SubInv.accept {A R : List (Event M)} {e : Event M} (h : SubInv ord store n sb (A ++ e :: R))
    (hU : (ids sb.pending).Nodup) (hA : ord = true → ∀ a, a ∈ A → a.id ≠ e.id)
    (hfree : sb.lossy = false → sb.pending = []) : SubInv ord store n (sb.accept e) (A ++ R) := by
  refine ⟨fun ho => ?_, fun k hk1 hk2 => ?_⟩
  · have hm : Owed sb.lossy sb.base store (sb.evs ++ ((sb.pending ++ [e]) ++ (A ++ R))) := by
      refine (h.hist ho).same ?_
      simpa using (Same.swap A e (hA ho)).1.ctx (sb.evs ++ sb.pending) R
    show Owed sb.lossy sb.base store (sb.evs ++ ((if sb.lossy then mergeInto sb.pending e else [e]) ++ (A ++ R)))
    rcases Bool.eq_false_or_eq_true sb.lossy with hl | hl
    · rw [hl] at hm ⊢
      exact hm.same ((Same.merge _ e hU).ctx _ _)
    · rw [hfree hl] at hm
      rw [hl] at hm ⊢
      exact hm
  · rw [List.map_append, List.mem_append]
    rcases h.nomiss k hk1 hk2 with h1 | h1
    · exact Or.inl (List.mem_append_left _ h1)
    · rw [List.map_append, List.mem_append, List.map_cons, List.mem_cons] at h1
      rcases h1 with h1 | h1 | h1
      · exact Or.inr (Or.inl h1)
      · exact Or.inl (List.mem_append_right _ (List.mem_singleton.mpr h1))
      · exact Or.inr (Or.inr h1)

theorem SubInv.recv (h : SubInv ord store n sb due) {e : Event M} {rest : List (Event M)}
    (hp : sb.pending = e :: rest) :
    SubInv ord store n { sb with evs := sb.evs ++ [e], pending := rest } due := by
  refine ⟨fun ho => ?_, h.nomiss⟩
  have := h.hist ho
  rw [hp] at this
  simpa using this

theorem SubInv.fresh (ord : Bool) (store : Nat → Option M) (n : Nat) (sb : Sub M) (due : List (Event M))
    (hcur : ord = true → ∀ e, e ∈ due → store e.id = e.new) (hl : ord = true → sb.lossy = true → due = []) :
    SubInv ord store n
      { sb with registered := true, base := store, evs := [], pending := [], got := [], subAt := n } due :=
  ⟨fun ho => Owed.fresh sb.lossy store due (hcur ho) (hl ho), fun _ hk1 hk2 => absurd hk2 (Nat.not_lt.mpr hk1)⟩

structure Inv (ord : Bool) (c : Cfg M) : Prop where
  sub : ∀ s, (c.subs s).live = true → SubInv ord c.store c.nextSeq (c.subs s) (inflight c s)
  lisLive : ∀ s, (c.subs s).live = true → c.listeners.count s = 1
  lisUnreg : ∀ s, (c.subs s).registered = false → c.listeners.count s = 0
  /-- a listener copy never names a subscriber that has not registered: nothing is due to a newcomer from a Send that
  took its copy before -/
  rem : ∀ p, p ∈ c.pubs → ∀ rem, p.stage = some rem → ∀ s, (c.subs s).registered = false → rem.count s = 0
  /-- the merge stage holds one pending change per id -/
  uniq : ∀ s, (ids (c.subs s).pending).Nodup

variable {c : Cfg M}

theorem live_registered {sb : Sub M} (h : sb.live = true) : sb.registered = true ∧ sb.cancelled = false := by
  simpa only [Sub.live, Bool.and_eq_true, Bool.not_eq_true'] using h

theorem Inv.no_listeners (h : Inv ord c) (he : c.listeners.isEmpty = true) (s : Nat) : ¬ (c.subs s).live = true := by
  intro hl
  have := h.lisLive s hl
  rw [List.isEmpty_iff.mp he] at this
  cases this

theorem Inv.init (ord : Bool) (s₀ : Nat → Option M) (progs : Nat → List (WOp M)) (opts : Nat → SubOpts M) :
    Inv ord (initCfg s₀ progs opts) :=
  ⟨fun _ hs => absurd hs Bool.false_ne_true, fun _ hs => absurd hs Bool.false_ne_true, fun _ _ => rfl,
    fun _ hp => absurd hp List.not_mem_nil, fun _ => List.nodup_nil⟩

/-- a publication that has just taken the listener copy (or will take it before any listener changes) -/
theorem Inv.copies_fresh (h : Inv ord c) {p : Pub M} (hst : p.stage = none ∨ p.stage = some c.listeners) :
    (∀ s, (c.subs s).live = true → copies s p = [p.ev]) ∧
    (∀ rem, p.stage = some rem → ∀ s, (c.subs s).registered = false → rem.count s = 0) := by
  rcases hst with hst | hst
  · exact ⟨fun s _ => copies_none hst, fun rem hr => by rw [hst] at hr; cases hr⟩
  · refine ⟨fun s hs => by rw [copies_staged hst, h.lisLive s hs]; rfl, fun rem hr s hs => ?_⟩
    rw [hst] at hr
    cases hr
    exact h.lisUnreg s hs

theorem Inv.finish (h : Inv ord c) (p : Pub M) : Inv ord (c.finishPub p c.pubs) := by
  refine ⟨h.sub, fun s hs => ?_, fun s hs => ?_, h.rem, h.uniq⟩
  · show (if p.gc then c.listeners.filter (fun s => !(c.subs s).cancelled) else c.listeners).count s = 1
    have hs' : (c.subs s).live = true := hs
    split
    · rw [List.count_filter (by simp [(live_registered hs').2])]; exact h.lisLive s hs'
    · exact h.lisLive s hs'
  · show (if p.gc then c.listeners.filter (fun s => !(c.subs s).cancelled) else c.listeners).count s = 0
    split
    · exact List.count_eq_zero.mpr fun hm => List.count_eq_zero.mp (h.lisUnreg s hs) (List.mem_filter.mp hm).1
    · exact h.lisUnreg s hs

theorem okStep_deliver [DecidableEq M] {k : Nat} {p : Pub M} {post : List (Pub M)} {s : Nat} {rem : List Nat}
    (hd : c.pubs.drop k = p :: post) (hst : p.stage = some (s :: rem)) (hok : okStep c (.deliver k) = true)
    (hl : (c.subs s).live = true) : ∀ a, a ∈ (c.pubs.take k).flatMap (copies s) → a.id ≠ p.ev.id := by
  intro a ha
  simp only [okStep, hd, hst, hl, Bool.not_true, Bool.false_or] at hok
  obtain ⟨q, hq, haq⟩ := List.mem_flatMap.mp ha
  simpa using List.all_eq_true.mp (List.all_eq_true.mp hok q hq) a haq

/-- a move rewrites the record of subscriber `s` to `sb'`, and with it at most its own entries in the listener list
(`lis'`) and what the publications owe it (`pubs'`) -/
theorem Inv.setSub (h : Inv ord c) (s : Nat) (sb' : Sub M) (lis' : List Nat) (pubs' : List (Pub M))
    (hsub : sb'.live = true → SubInv ord c.store c.nextSeq sb' (pubs'.flatMap (copies s)))
    (hdue : ∀ s', s' ≠ s → pubs'.flatMap (copies s') = inflight c s')
    (hrem : ∀ p, p ∈ pubs' → ∀ rem, p.stage = some rem → ∀ s', (c.subs s').registered = false → rem.count s' = 0)
    (huniq : (ids sb'.pending).Nodup) (hreg : sb'.registered = false → (c.subs s).registered = false)
    (hother : ∀ s', s' ≠ s → lis'.count s' = c.listeners.count s')
    (hlive : sb'.live = true → lis'.count s = 1) (hunreg : sb'.registered = false → lis'.count s = 0) :
    Inv ord { c with subs := setAt c.subs s sb', listeners := lis', pubs := pubs' } := by
  have hreg' : ∀ s', (setAt c.subs s sb' s').registered = false → (c.subs s').registered = false :=
    forall_setAt (P := fun s' (sb : Sub M) => sb.registered = false → (c.subs s').registered = false) hreg
      (fun _ _ h => h)
  exact ⟨forall_setAt
      (P := fun s' (sb : Sub M) => sb.live = true → SubInv ord c.store c.nextSeq sb (pubs'.flatMap (copies s')))
      hsub (fun s' hss hl => hdue s' hss ▸ h.sub s' hl),
    forall_setAt (P := fun s' (sb : Sub M) => sb.live = true → lis'.count s' = 1) hlive
      (fun s' hss hl => hother s' hss ▸ h.lisLive s' hl),
    forall_setAt (P := fun s' (sb : Sub M) => sb.registered = false → lis'.count s' = 0) hunreg
      (fun s' hss hr => hother s' hss ▸ h.lisUnreg s' hr),
    fun p hp r hr s' hs' => hrem p hp r hr s' (hreg' s' hs'),
    forall_setAt (P := fun _ (sb : Sub M) => (ids sb.pending).Nodup) huniq (fun s' _ => h.uniq s')⟩

/-- the publication goes on as `tl`: nothing if the copy is exhausted, else itself with the rest `rem` of the copy -/
theorem Inv.offered [DecidableEq M] (h : Inv ord c) {k : Nat} {p : Pub M} {post : List (Pub M)} {s : Nat}
    {rem : List Nat} (hd : c.pubs.drop k = p :: post) (hst : p.stage = some (s :: rem))
    (hfree : (c.subs s).cancelled = false → (c.subs s).lossy = false → (c.subs s).pending = [])
    (hok : ord = true → okStep c (.deliver k) = true) (tl : List (Pub M))
    (htl : ∀ s', tl.flatMap (copies s') = List.replicate (rem.count s') p.ev) (htlrem : ∀ q, q ∈ tl → q.stage = some rem) :
    Inv ord { c with subs := setAt c.subs s ((c.subs s).offered p.ev), pubs := c.pubs.take k ++ (tl ++ post) } := by
  obtain ⟨_, hreg, hcan⟩ := (c.subs s).offered_frame p.ev
  have hlive : ((c.subs s).offered p.ev).live = (c.subs s).live := by simp only [Sub.live, hreg, hcan]
  -- what is in flight for `s'`, before and after: the `k`-th publication owes it one copy per entry of the listener copy
  have hbefore : ∀ s', inflight c s' = (c.pubs.take k).flatMap (copies s') ++
      (List.replicate ((s :: rem).count s') p.ev ++ post.flatMap (copies s')) := fun s' => by
    conv => lhs; rw [inflight, pubs_split hd]
    simp only [List.flatMap_append, List.flatMap_cons, copies_staged hst]
  have hafter : ∀ s', (c.pubs.take k ++ (tl ++ post)).flatMap (copies s') = (c.pubs.take k).flatMap (copies s') ++
      (List.replicate (rem.count s') p.ev ++ post.flatMap (copies s')) := fun s' => by
    simp only [List.flatMap_append, htl]
  refine h.setSub s _ c.listeners _ (hsub := fun hl => ?_) (hdue := fun s' hss => ?_)
    (hrem := fun q hq r hr s' hs' => ?_) (huniq := ?_) (hreg := fun hr => hreg ▸ hr) (hother := fun _ _ => rfl)
    (hlive := fun hl => h.lisLive s (hlive ▸ hl)) (hunreg := fun hr => h.lisUnreg s (hreg ▸ hr))
  · rw [hlive] at hl
    have hI := h.sub s hl
    rw [hbefore, List.count_cons_self, List.replicate_succ, List.cons_append] at hI
    rw [hafter, Sub.offered_live _ (live_registered hl).2]
    exact hI.accept (h.uniq s) (fun ho => okStep_deliver hd hst (hok ho) hl) (hfree (live_registered hl).2)
  · rw [hafter, hbefore, List.count_cons, if_neg (by simpa using Ne.symm hss), Nat.add_zero]
  · rcases List.mem_append.mp hq with hq | hq
    · exact h.rem q (mem_take_append_post hd (List.mem_append_left _ hq)) r hr s' hs'
    · rcases List.mem_append.mp hq with hq | hq
      · have h0 := h.rem p (mem_of_drop hd) (s :: rem) hst s' hs'
        rw [htlrem q hq] at hr
        cases hr
        rw [List.count_cons] at h0
        omega
      · exact h.rem q (mem_take_append_post hd (List.mem_append_right _ hq)) r hr s' hs'
  · unfold Sub.offered
    split
    · exact h.uniq s
    · show (ids (if (c.subs s).lossy then mergeInto (c.subs s).pending p.ev else [p.ev])).Nodup
      split
      · exact nodup_mergeInto _ _ (h.uniq s)
      · exact List.nodup_cons.mpr ⟨List.not_mem_nil, List.nodup_nil⟩

theorem okStep_sub [DecidableEq M] (h : Inv ord c) {s : Nat} (hunreg : (c.subs s).registered = false)
    (hok : okStep c (.sub s) = true) :
    (∀ e, e ∈ inflight c s → c.store e.id = e.new) ∧ ((c.subs s).lossy = true → inflight c s = []) := by
  simp only [okStep, List.all_eq_true] at hok
  have hstaged : ∀ p, p ∈ c.pubs → ∀ rem, p.stage = some rem → copies s p = [] := fun p hp rem hst => by
    rw [copies_staged hst, h.rem p hp rem hst s hunreg]; rfl
  refine ⟨fun e he => ?_, fun hl => List.flatMap_eq_nil_iff.mpr fun p hp => ?_⟩
  · obtain ⟨p, hp, hep⟩ := mem_inflight.mp he
    cases hst : p.stage with
    | none =>
      rw [copies_none hst, List.mem_singleton] at hep
      have := hok p hp
      simp only [hst, Option.isSome_none, Bool.false_or, Bool.and_eq_true, decide_eq_true_eq] at this
      rw [hep]; exact this.2
    | some rem => rw [hstaged p hp rem hst] at hep; cases hep
  · cases hst : p.stage with
    | none => have := hok p hp; simp [hst, hl] at this
    | some rem => exact hstaged p hp rem hst

theorem Inv.move [DecidableEq M] {c' : Cfg M} {a : Act} (h : Inv ord c) (m : Move c a c')
    (hok : ord = true → okStep c a = true) : Inv ord c' := by
  cases m with
  | refuse => exact ⟨h.sub, h.lisLive, h.lisUnreg, h.rem, h.uniq⟩
  | quiet _ _ hemp => exact ⟨fun s hs => absurd hs (h.no_listeners hemp s), h.lisLive, h.lisUnreg, h.rem, h.uniq⟩
  | @commit _ _ _ e p _ _ he hev hst =>
    obtain ⟨hcop, hrem⟩ := h.copies_fresh hst
    refine ⟨fun s hs => ?_, h.lisLive, h.lisUnreg, fun q hq => ?_, h.uniq⟩
    · show SubInv ord (applyEv c.store e) (c.nextSeq + 1) (c.subs s) ((c.pubs ++ [p]).flatMap (copies s))
      rw [List.flatMap_append, List.flatMap_cons, List.flatMap_nil, List.append_nil, hcop s hs, hev]
      exact (h.sub s hs).commit he.seq he.old he.tag
    · rcases List.mem_append.mp hq with hq | hq
      · exact h.rem q hq
      · rw [List.mem_singleton.mp hq]; exact hrem
  | @snapEnd k p post hd hemp =>
    have h' : Inv ord { c with pubs := c.pubs.take k ++ post } :=
      ⟨fun s hs => absurd hs (h.no_listeners hemp s), h.lisLive, h.lisUnreg,
        fun q hq => h.rem q (mem_take_append_post hd hq), h.uniq⟩
    exact h'.finish p
  | @snap k p post hd hst =>
    obtain ⟨hcop, hrem⟩ := h.copies_fresh (p := { p with stage := some c.listeners }) (Or.inr rfl)
    refine ⟨fun s hs => ?_, h.lisLive, h.lisUnreg, fun q hq => ?_, h.uniq⟩
    · show SubInv ord c.store c.nextSeq (c.subs s) ((c.pubs.take k ++ _ :: post).flatMap (copies s))
      rw [flatMap_copies_replace hd ((hcop s hs).trans (copies_none hst).symm)]
      exact h.sub s hs
    · rcases mem_replace hd hq with hq | hq
      · rw [hq]; exact hrem
      · exact h.rem q hq
  | deliverEnd hd hst hfree =>
    exact (h.offered hd hst hfree hok [] (fun s' => rfl) (fun q hq => nomatch hq)).finish _
  | @deliver k p post s rem hd hst hfree =>
    refine h.offered hd hst hfree hok [{ p with gc := p.gc || (c.subs s).cancelled, stage := some rem }]
      (fun s' => ?_) (fun q hq => ?_)
    · rw [List.flatMap_cons, List.flatMap_nil, List.append_nil, copies_staged (rem := rem) rfl]
    · rw [List.mem_singleton.mp hq]
  | @sub s hunreg =>
    refine h.setSub s _ _ c.pubs
      (hsub := fun _ => SubInv.fresh ord c.store c.nextSeq (c.subs s) _ (fun ho => (okStep_sub h hunreg (hok ho)).1)
        (fun ho => (okStep_sub h hunreg (hok ho)).2))
      (hdue := fun _ _ => rfl) (hrem := h.rem) (huniq := List.nodup_nil) (hreg := fun hr => nomatch hr)
      (hother := fun s' hss => ?_) (hlive := fun _ => ?_) (hunreg := fun hr => nomatch hr)
    · have h0 : ([s] : List Nat).count s' = 0 := List.count_eq_zero.mpr (by simpa using hss)
      rw [List.count_append, h0]; rfl
    · rw [List.count_append, h.lisUnreg s hunreg, List.count_cons_self]; rfl
  | @cancel s =>
    have hdead : ¬ ({ c.subs s with cancelled := true } : Sub M).live = true := by simp [Sub.live]
    exact h.setSub s _ c.listeners c.pubs (hsub := fun hl => absurd hl hdead) (hdue := fun _ _ => rfl) (hrem := h.rem)
      (huniq := h.uniq s) (hreg := id) (hother := fun _ _ => rfl) (hlive := fun hl => absurd hl hdead)
      (hunreg := h.lisUnreg s)
  | @recv s ev rest hp =>
    refine h.setSub s _ c.listeners c.pubs (hsub := fun hl => (h.sub s hl).recv hp) (hdue := fun _ _ => rfl)
      (hrem := h.rem) (huniq := ?_) (hreg := id) (hother := fun _ _ => rfl) (hlive := h.lisLive s) (hunreg := h.lisUnreg s)
    have := h.uniq s
    rw [hp] at this
    exact (List.nodup_cons.mp this).2

theorem Inv.step [DecidableEq M] (h : Inv ord c) (a : Act) (hok : ord = true → okStep c a = true) :
    Inv ord (step c a) :=
  step_keeps h (fun m => h.move m hok)

/-- every run keeps the invariant: all of it if its steps satisfy `okStep`, its unconditional part in any case -/
theorem Inv.run [DecidableEq M] {ord : Bool} {c : Cfg M} (h : Inv ord c) (sched : List Act)
    (hord : ord = true → ordered c sched = true) : Inv ord (run c sched) := by
  induction sched generalizing c with
  | nil => exact h
  | cons a rest ih =>
    simp only [ordered, Bool.and_eq_true] at hord
    exact ih (h.step a (fun ho => (hord ho).1)) (fun ho => (hord ho).2)

theorem ordered_inv [DecidableEq M] (s₀ : Nat → Option M) (progs : Nat → List (WOp M)) (opts : Nat → SubOpts M)
    {sched : List Act} (hord : ordered (initCfg s₀ progs opts) sched = true) :
    Inv true (run (initCfg s₀ progs opts) sched) :=
  (Inv.init true s₀ progs opts).run sched (fun _ => hord)

theorem run_inv [DecidableEq M] (s₀ : Nat → Option M) (progs : Nat → List (WOp M)) (opts : Nat → SubOpts M)
    (sched : List Act) : Inv false (run (initCfg s₀ progs opts) sched) :=
  (Inv.init false s₀ progs opts).run sched (fun h => nomatch h)

theorem Inv.drained (h : Inv true c) (hq : c.quiescent = true) {s : Nat} (hs : (c.subs s).live = true)
    (hp : (c.subs s).pending = []) : (c.subs s).rawView = c.store := by
  have := ((h.sub s hs).owed rfl).view
  rw [inflight_quiescent hq, hp] at this
  exact this

end ScVerif.C03
