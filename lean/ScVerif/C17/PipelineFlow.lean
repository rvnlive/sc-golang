import ScVerif.C17.PipelineLemmas
/-!
# C17 — the Pull pipeline delivers each device's reports to the loop in order, once each
-/
namespace ScVerif.C17.Pipe

variable {V : Type}

/-- Lane `l` against the values `d` the loop has taken from it and the instructions `pk` its device has been given:
`d`, then what the member holds, are the first of `pk`; the rest is exactly what the handler side still has for as
long as both threads live (a thread that ends takes what it holds with it). -/
def LaneFlow (l : Lane V) (d : List V) (pk : List (Option V)) : Prop :=
  ∃ rest, (d ++ l.m.held).map some ++ rest = pk ∧ (l.alive = true → rest = l.h.inSendMsg.map some ++ l.pend)

theorem laneFlow_iff (l : Lane V) (d : List V) (pk : List (Option V)) :
    LaneFlow l d pk ↔ (l.alive = true → d.map some ++ l.inflight = pk) ∧ (d ++ l.m.held).map some <+: pk := by
  constructor
  · rintro ⟨rest, h1, h2⟩
    exact ⟨fun ha => by rw [← h1, h2 ha]; simp [Lane.inflight], ⟨rest, h1⟩⟩
  · rintro ⟨h1, rest, h2⟩
    by_cases ha : l.alive = true
    · refine ⟨_, ?_, fun _ => rfl⟩
      rw [← h1 ha]; simp [Lane.inflight]
    · exact ⟨rest, h2, fun h => absurd h ha⟩

/-- `LaneFlow` of lane `i` against what the loop has taken from it -/
def FlowInv (c : Cfg V) (i : Nat) (pk : List (Option V)) : Prop :=
  ∀ l, c.lanes[i]? = some l → LaneFlow l (c.delivered i) pk

theorem deliveredOf_append_ne (i j : Nat) (v : V) (log : List (Nat × V)) (h : j ≠ i) :
    deliveredOf i (log ++ [(j, v)]) = deliveredOf i log := by
  simp [deliveredOf, List.filter_append, h]

theorem deliveredOf_append_eq (i : Nat) (v : V) (log : List (Nat × V)) :
    deliveredOf i (log ++ [(i, v)]) = deliveredOf i log ++ [v] := by
  simp [deliveredOf, List.filter_append]

theorem laneMove_wf {w k : Bool} {lbl : Lbl V} {i : Nat} {l l' : Lane V} (m : LaneMove w k lbl i l l')
    (hw : l.wf) : l'.wf := by
  cases m with
  | poke => exact hw
  | hSend hh _ _ => exact fun hm => by rw [hw hm] at hh; cases hh
  | mRefused _ _ | hRefused _ _ _ _ | hFail _ _ | hCtxIdle _ _ | hCtxSending _ _ _ => exact fun _ => rfl
  | mStart _ _ | hand _ _ | mCtx _ _ _ | mEof _ _ => exact fun hm => nomatch hm

theorem step_wf [DecidableEq V] {P : Params V} {c c' : Cfg V} {lbl : Lbl V} (hwf : c.WF) (m : Moves P c lbl c') :
    c'.WF := by
  cases m with
  | lane hl hm _ => exact forall_mem_set hwf (laneMove_wf hm (hwf _ (List.mem_of_getElem? hl))) _
  | give => exact forall_mem_set (Q := Lane.wf) hwf (by intro hm; cases hm) _
  | _ => exact hwf

/-- a lane lives as long as its member has not ended and its handler has not either - or has not been started -/
theorem Lane.alive_iff (l : Lane V) : l.alive = true ↔ l.m ≠ .ended ∧ (l.h ≠ .ended ∨ l.m = .notStarted) := by
  cases hh : l.h <;> cases hm : l.m <;> simp [Lane.alive, hh, hm, HSt.isEnded, MSt.isEnded, MSt.isNotStarted]

theorem laneMove_flow {w k : Bool} {lbl : Lbl V} {j : Nat} {l l' : Lane V} (m : LaneMove w k lbl j l l')
    (hwf : l.wf) {d : List V} {pk : List (Option V)} (h : LaneFlow l d pk) : LaneFlow l' d (pk ++ pokeOf j lbl) := by
  obtain ⟨rest, h1, h2⟩ := h
  -- a thread of a started lane ends: the lane is dead from now on; a member that ends drops what it held
  have hEnded (hd : l'.h = .ended) (hs : l.h ≠ .ended) (hm : l'.m = l.m) (hp : pokeOf j lbl = []) :
      LaneFlow l' d (pk ++ pokeOf j lbl) := by
    refine ⟨rest, by rw [hm, hp, List.append_nil]; exact h1, fun ha => ?_⟩
    obtain ⟨_, hh | hn⟩ := (Lane.alive_iff l').mp ha
    · exact absurd hd hh
    · exact absurd (hwf (hm ▸ hn)) hs
  have mEnded (hd : l'.m = .ended) (hp : pokeOf j lbl = []) : LaneFlow l' d (pk ++ pokeOf j lbl) := by
    exact ⟨l.m.held.map some ++ rest, by rw [hd, hp, ← h1]; simp [MSt.held],
      fun ha => absurd hd ((Lane.alive_iff l').mp ha).1⟩
  cases m with
  | mRefused _ _ | mCtx _ _ _ | mEof _ _ => exact mEnded rfl rfl
  | hRefused hh _ _ _ | hFail hh _ | hCtxIdle _ hh | hCtxSending _ _ hh => exact hEnded rfl (by simp [hh]) rfl rfl
  | mStart hm _ =>
    have hal : l.alive = true := (Lane.alive_iff l).mpr ⟨by rw [hm]; nofun, Or.inr hm⟩
    exact ⟨rest, by simpa [MSt.held, hm, pokeOf] using h1, fun _ => by simp [h2 hal, hwf hm, HSt.inSendMsg]⟩
  | hSend hh hp _ =>
    refine ⟨rest, by simpa [pokeOf] using h1, fun ha => ?_⟩
    rw [h2 ((Lane.alive_iff l).mpr ⟨((Lane.alive_iff _).mp ha).1, Or.inl (by rw [hh]; nofun)⟩)]
    simp [hh, hp, HSt.inSendMsg]
  | hand hh hm =>
    -- the value handed over was next in line
    have hal : l.alive = true := (Lane.alive_iff l).mpr ⟨by rw [hm]; nofun, Or.inl (by rw [hh]; nofun)⟩
    refine ⟨l.pend, ?_, fun _ => by simp [HSt.inSendMsg]⟩
    rw [← h1, h2 hal]; simp [hh, hm, HSt.inSendMsg, MSt.held, pokeOf]
  | @poke _ _ x =>
    refine ⟨rest ++ [x], by simp [pokeOf, ← h1], fun ha => ?_⟩
    rw [h2 ha]; simp

theorem laneFlow_give {l : Lane V} {d : List V} {pk : List (Option V)} {v : V} (hm : l.m = .holding v)
    (h : LaneFlow l d pk) : LaneFlow { l with m := .recv } (d ++ [v]) pk := by
  obtain ⟨rest, h1, h2⟩ := h
  refine ⟨rest, by simpa [hm, MSt.held] using h1, fun ha => h2 ?_⟩
  exact (Lane.alive_iff l).mpr ⟨by rw [hm]; nofun, Or.inl (((Lane.alive_iff _).mp ha).2.resolve_right nofun)⟩

theorem step_flow [DecidableEq V] {P : Params V} {c c' : Cfg V} {lbl : Lbl V} {i : Nat} {pk : List (Option V)}
    (hwf : c.WF) (hi : FlowInv c i pk) (m : Moves P c lbl c') : FlowInv c' i (pk ++ pokeOf i lbl) := by
  cases m with
  | @lane lbl j l l' hl hm _ =>
    intro li hli
    by_cases hji : j = i
    · subst hji
      simp [lt_of_getElem? hl] at hli; subst hli
      exact laneMove_flow hm (hwf l (List.mem_of_getElem? hl)) (hi l hl)
    · -- a step on another lane gives device `i` nothing
      have : pokeOf i lbl = [] := by
        cases hm with
        | poke => simp [pokeOf, hji]
        | _ => rfl
      rw [this, List.append_nil]
      rw [List.getElem?_set_ne hji] at hli
      exact hi li hli
  | @give j l v hl hm hloop =>
    rw [show pokeOf i (.give j : Lbl V) = [] from rfl, List.append_nil]
    intro li hli
    by_cases hji : j = i
    · subst hji
      simp [lt_of_getElem? hl] at hli; subst hli
      simp only [Cfg.delivered, deliveredOf_append_eq]
      exact laneFlow_give hm (hi l hl)
    · rw [List.getElem?_set_ne hji] at hli
      simp only [Cfg.delivered, deliveredOf_append_ne i j v c.log hji]
      exact hi li hli
  | _ => rw [show pokeOf i _ = [] from rfl, List.append_nil]; exact hi

theorem pokes_cons (i : Nat) (l : Lbl V) (ls : List (Lbl V)) : pokes i (l :: ls) = pokeOf i l ++ pokes i ls := by
  simp [pokes]

theorem run_flow [DecidableEq V] (P : Params V) (ls : List (Lbl V)) (c c' : Cfg V) (i : Nat) (pk : List (Option V))
    (h : run P c ls = some c') (hwf : c.WF) (hi : FlowInv c i pk) : FlowInv c' i (pk ++ pokes i ls) := by
  induction ls generalizing c pk with
  | nil => simp [run] at h; subst h; simpa [pokes] using hi
  | cons l ls ih =>
    obtain ⟨c1, h1, h⟩ := run_cons.mp h
    have m := moves_of_step h1
    have := ih c1 (pk ++ pokeOf i l) h (step_wf hwf m) (step_flow hwf hi m)
    rw [pokes_cons, ← List.append_assoc]; exact this

theorem wf_init (n : Nat) {c₀ : Cfg V} (h₀ : c₀ = Cfg.init n ∨ c₀ = Cfg.initSeq n) : c₀.WF := by
  rcases h₀ with rfl | rfl <;>
  · intro l hl
    simp only [Cfg.init, Cfg.initSeq, List.mem_replicate] at hl
    obtain ⟨_, rfl⟩ := hl
    first | exact fun _ => rfl | exact fun h => nomatch h

theorem flow_init (n i : Nat) {c₀ : Cfg V} (h₀ : c₀ = Cfg.init n ∨ c₀ = Cfg.initSeq n) : FlowInv c₀ i [] := by
  rcases h₀ with rfl | rfl <;>
  · intro l hl
    simp [Cfg.init, Cfg.initSeq, List.getElem?_replicate] at hl
    obtain ⟨_, rfl⟩ := hl
    exact ⟨[], by simp [Cfg.delivered, deliveredOf, Cfg.init, Cfg.initSeq, MSt.held], fun _ => by simp [HSt.inSendMsg]⟩

end ScVerif.C17.Pipe
