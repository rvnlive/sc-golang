import ScVerif.C17.PipelineLemmas
/-!
# C17 — the driver's exploration of the Pull pipeline (`Pipe.settle`): what the search computes

The search is specified against the successor function it uses (`mem_settle`); the model enters through that function
alone: its paths are runs of the pipeline's own steps (the ghost `log` dropped, no step reads it) and its dead ends are
the points of quiescence.
-/
namespace ScVerif.C17.Pipe

variable {V : Type}

theorem eraseLog_idem (c : Cfg V) : eraseLog (eraseLog c) = eraseLog c := rfl

/-- no step reads the ghost log -/
theorem moves_with_log [DecidableEq V] {P : Params V} {c c' : Cfg V} {lbl : Lbl V} (lg : List (Nat × V))
    (m : Moves P c lbl c') : ∃ d, Moves P { c with log := lg } lbl d ∧ eraseLog d = eraseLog c' := by
  cases m with
  | lane hl hm ht => exact ⟨_, .lane (c := { c with log := lg }) hl hm ht, rfl⟩
  | give hl hm hloop => exact ⟨_, .give (c := { c with log := lg }) hl hm hloop, rfl⟩
  | execCancel hk hd ha => exact ⟨_, .execCancel (c := { c with log := lg }) hk hd ha, rfl⟩
  | execRet hd hr => exact ⟨_, .execRet (c := { c with log := lg }) hd hr, rfl⟩
  | loopErr hd hloop => exact ⟨_, .loopErr (c := { c with log := lg }) hd hloop, rfl⟩
  | sendOk hloop => exact ⟨_, .sendOk (c := { c with log := lg }) hloop, rfl⟩
  | sendFail hloop => exact ⟨_, .sendFail (c := { c with log := lg }) hloop, rfl⟩
  | cancel => exact ⟨_, .cancel, rfl⟩

theorem step_of_eraseLog [DecidableEq V] (P : Params V) (c d : Cfg V) (l : Lbl V) (hs : step P c l = some d) :
    ∃ d', step P (eraseLog c) l = some d' ∧ eraseLog d' = eraseLog d := by
  obtain ⟨d', m, he⟩ := moves_with_log [] (moves_of_step hs)
  exact ⟨d', step_of_moves m, he⟩

theorem step_to_eraseLog [DecidableEq V] (P : Params V) (c x : Cfg V) (l : Lbl V) (hs : step P (eraseLog c) l = some x) :
    ∃ d, step P c l = some d ∧ eraseLog d = eraseLog x := by
  obtain ⟨d, m, he⟩ := moves_with_log c.log (moves_of_step hs)
  exact ⟨d, step_of_moves m, he⟩

theorem succsD_cases [DecidableEq V] (P : Params V) (c : Cfg V) :
    (c.calm = true ∧ ∃ (i : Nat) (e : Lbl V) (c1 : Cfg V), (e = .hStart i ∨ e = .hand i) ∧ i < c.lanes.length
        ∧ step P c e = some c1 ∧ succsD P c = [eraseLog c1])
    ∨ succsD P c = (succs P c).map eraseLog := by
  unfold succsD succs
  cases hcalm : c.calm with
  | false => exact Or.inr rfl
  | true =>
    cases hfind : (eagerLabels c.lanes.length).findSome? (step P c) with
    | none => exact Or.inr rfl
    | some c1 =>
      obtain ⟨l₁, e, l₂, hl, hs, _⟩ := List.findSome?_eq_some_iff.mp hfind
      have he : e ∈ (eagerLabels c.lanes.length : List (Lbl V)) := by rw [hl]; simp
      simp only [eagerLabels, List.mem_flatMap, List.mem_range, List.mem_cons, List.not_mem_nil, or_false] at he
      obtain ⟨i, hi, he⟩ := he
      exact Or.inl ⟨rfl, i, e, c1, he, hi, hs, rfl⟩

theorem succsD_sound [DecidableEq V] (P : Params V) (c c1 : Cfg V) (h : c1 ∈ succsD P c) :
    ∃ (l : Lbl V) (c1' : Cfg V), l.internal = true ∧ step P c l = some c1' ∧ eraseLog c1' = c1 := by
  rcases succsD_cases P c with ⟨_, i, e, c', he, _, hs, heq⟩ | heq
  · rw [heq, List.mem_singleton] at h
    exact ⟨e, c', by rcases he with rfl | rfl <;> rfl, hs, h.symm⟩
  · rw [heq] at h
    obtain ⟨c1', hmem, rfl⟩ := List.mem_map.mp h
    obtain ⟨l, hi, hs⟩ := (mem_succs P c c1').mp hmem
    exact ⟨l, c1', hi, hs, rfl⟩

theorem succsD_isEmpty_iff [DecidableEq V] (P : Params V) (c : Cfg V) : (succsD P c).isEmpty = true ↔ Quiet P c := by
  rcases succsD_cases P c with ⟨_, i, e, c', he, _, hs, heq⟩ | heq
  · rw [heq]
    refine ⟨fun h => by simp at h, fun hq => ?_⟩
    rw [hq e (by rcases he with rfl | rfl <;> rfl)] at hs; cases hs
  · rw [heq, ← succs_isEmpty_iff]; simp

theorem succsD_work [DecidableEq V] (P : Params V) (c c1 : Cfg V) (h : c1 ∈ succsD P c) : c1.work < c.work := by
  obtain ⟨l, c1', hi, hs, rfl⟩ := succsD_sound P c c1 h
  exact step_work P c c1' l hi hs

/-- reachability along `succsD`, the successor function the search uses -/
inductive PathD [DecidableEq V] (P : Params V) : Cfg V → Cfg V → Prop where
  | refl (c : Cfg V) : PathD P c c
  | step (c c1 q : Cfg V) : c1 ∈ succsD P c → PathD P c1 q → PathD P c q

theorem run_of_pathD [DecidableEq V] {P : Params V} {x q : Cfg V} (hp : PathD P x q) :
    ∀ c, eraseLog c = x → ∃ (ls : List (Lbl V)) (q' : Cfg V),
      (∀ l ∈ ls, l.internal = true) ∧ run P c ls = some q' ∧ eraseLog q' = q := by
  induction hp with
  | refl => exact fun c hc => ⟨[], c, nofun, rfl, hc⟩
  | step x c1 q h1 _ ih =>
    rintro c rfl
    obtain ⟨l, c1', hi, hs, rfl⟩ := succsD_sound P _ c1 h1
    obtain ⟨d, hd, he⟩ := step_to_eraseLog P c c1' l hs
    obtain ⟨ls, q', hall, hrun, hq⟩ := ih d he
    refine ⟨l :: ls, q', fun a ha => ?_, run_cons.mpr ⟨d, hd, hrun⟩, hq⟩
    rcases List.mem_cons.mp ha with rfl | ha
    · exact hi
    · exact hall a ha

theorem mem_layer_dead {f : α → List β} {front : List α} {q : α} :
    q ∈ ((front.map fun c => (c, f c)).filter fun x => x.2.isEmpty).map (·.1) ↔ q ∈ front ∧ (f q).isEmpty = true := by
  simp only [List.mem_map, List.mem_filter]
  constructor
  · rintro ⟨x, ⟨⟨c, hc, rfl⟩, hx⟩, rfl⟩; exact ⟨hc, hx⟩
  · rintro ⟨hq, hx⟩; exact ⟨(q, f q), ⟨⟨q, hq, rfl⟩, hx⟩, rfl⟩

theorem mem_layer_next {f : α → List β} {front : List α} {b : β} :
    b ∈ (front.map fun c => (c, f c)).flatMap (·.2) ↔ ∃ c ∈ front, b ∈ f c := by
  simp only [List.mem_flatMap, List.mem_map]
  constructor
  · rintro ⟨x, ⟨c, hc, rfl⟩, hx⟩; exact ⟨c, hc, hx⟩
  · rintro ⟨c, hc, hx⟩; exact ⟨(c, f c), ⟨c, hc, rfl⟩, hx⟩

/-- the fuel `k` is needed for the second half only -/
theorem mem_settleLayers [DecidableEq V] (P : Params V) (k : Nat) (front acc : List (Cfg V)) (q : Cfg V) :
    (q ∈ settleLayers P k front acc → q ∈ acc ∨ ∃ c ∈ front, PathD P c q ∧ (succsD P q).isEmpty = true)
    ∧ ((∀ c ∈ front, c.work < k) → (q ∈ acc ∨ ∃ c ∈ front, PathD P c q ∧ (succsD P q).isEmpty = true) →
        q ∈ settleLayers P k front acc) := by
  induction k generalizing front acc with
  | zero =>
    refine ⟨fun h => Or.inl h, fun hw hq => ?_⟩
    rcases hq with hq | ⟨c, hc, _⟩
    · exact hq
    · exact absurd (hw c hc) (Nat.not_lt_zero _)
  | succ k ih =>
    -- one layer: `q` is a state of the front without successors (or was there before), or is reached from the next front
    have hlayer : (q ∈ acc ∨ ∃ c ∈ front, PathD P c q ∧ (succsD P q).isEmpty = true) ↔
        (q ∈ ((front.map fun c => (c, succsD P c)).filter fun x => x.2.isEmpty).map (·.1) ++ acc
          ∨ ∃ c1 ∈ (front.map fun c => (c, succsD P c)).flatMap (·.2), PathD P c1 q ∧ (succsD P q).isEmpty = true) := by
      rw [List.mem_append, mem_layer_dead]
      constructor
      · rintro (hq | ⟨c, hc, hp, hqq⟩)
        · exact Or.inl (Or.inr hq)
        · cases hp with
          | refl => exact Or.inl (Or.inl ⟨hc, hqq⟩)
          | step _ c1 _ h1 hrest => exact Or.inr ⟨c1, mem_layer_next.mpr ⟨c, hc, h1⟩, hrest, hqq⟩
      · rintro ((⟨hc, hx⟩ | hq) | ⟨c1, hc1, hp, hqq⟩)
        · exact Or.inr ⟨q, hc, .refl _, hx⟩
        · exact Or.inl hq
        · obtain ⟨c0, hc0, hx⟩ := mem_layer_next.mp hc1
          exact Or.inr ⟨c0, hc0, .step _ c1 _ hx hp, hqq⟩
    rw [hlayer]
    simp only [settleLayers]
    split
    · next hemp =>
      rw [List.isEmpty_iff.mp hemp, List.mem_eraseDups]
      exact ⟨Or.inl, fun _ h => h.resolve_right fun ⟨_, h, _⟩ => nomatch h⟩
    · refine ⟨fun h => ?_, fun hw h => ?_⟩
      · rcases (ih _ _).1 h with h | ⟨c1, hc1, h⟩
        · exact Or.inl (List.mem_eraseDups.mp h)
        · exact Or.inr ⟨c1, List.mem_eraseDups.mp hc1, h⟩
      · refine (ih _ _).2 (fun c1 hc1 => ?_) ?_
        · -- each layer uses up a unit of work
          obtain ⟨c0, hc0, hx⟩ := mem_layer_next.mp (List.mem_eraseDups.mp hc1)
          have := succsD_work P c0 c1 hx
          have := hw c0 hc0
          omega
        · rcases h with h | ⟨c1, hc1, h⟩
          · exact Or.inl (List.mem_eraseDups.mpr h)
          · exact Or.inr ⟨c1, List.mem_eraseDups.mpr hc1, h⟩

theorem foldl_max_le (cs : List (Cfg V)) (m : Nat) :
    m ≤ cs.foldl (fun m c => max m c.work) m ∧ ∀ c ∈ cs, c.work ≤ cs.foldl (fun m c => max m c.work) m := by
  induction cs generalizing m with
  | nil => simp
  | cons a as ih =>
    simp only [List.foldl_cons]
    obtain ⟨h1, h2⟩ := ih (max m a.work)
    refine ⟨by omega, ?_⟩
    intro c hc
    simp only [List.mem_cons] at hc
    rcases hc with rfl | hc
    · omega
    · exact h2 c hc

theorem mem_settle [DecidableEq V] (P : Params V) (cs : List (Cfg V)) (q : Cfg V) :
    q ∈ settle P cs ↔ ∃ c ∈ cs, PathD P (eraseLog c) q ∧ (succsD P q).isEmpty = true := by
  have h := mem_settleLayers P (maxWork cs + 1) (cs.map eraseLog) [] q
  constructor
  · intro hq
    rcases h.1 hq with h0 | ⟨c, hc, hp⟩
    · cases h0
    · obtain ⟨c0, hc0, rfl⟩ := List.mem_map.mp hc
      exact ⟨c0, hc0, hp⟩
  · rintro ⟨c0, hc0, hp⟩
    refine h.2 (fun c hc => ?_) (Or.inr ⟨_, List.mem_map.mpr ⟨c0, hc0, rfl⟩, hp⟩)
    obtain ⟨c1, hc1, rfl⟩ := List.mem_map.mp hc
    have : c1.work ≤ maxWork cs := (foldl_max_le cs 0).2 c1 hc1
    show c1.work < _
    omega

theorem settle_sound [DecidableEq V] (P : Params V) (cs : List (Cfg V)) (c : Cfg V) (h : c ∈ settle P cs) :
    (∃ c₀ ∈ cs, ∃ (ls : List (Lbl V)) (c' : Cfg V), (∀ l ∈ ls, l.internal = true) ∧ run P c₀ ls = some c' ∧ eraseLog c' = c)
    ∧ Quiet P c := by
  obtain ⟨c₀, hc₀, hp, hq⟩ := (mem_settle P cs c).mp h
  exact ⟨⟨c₀, hc₀, run_of_pathD hp c₀ rfl⟩, (succsD_isEmpty_iff P c).mp hq⟩

end ScVerif.C17.Pipe
