import ScVerif.C17.SerialLemmas
/-!
# C17 — the driver's serial schedule observes the model at its points of quiescence

The tie compares what the harness sees of the code at points of quiescence with what the driver reports of the
thread-level model at the end of `settle` and of each `block i`.  For the comparison to mean "same schedule", those
ends must be points of quiescence of the model too, for every case and not only for those a run happens to execute.
-/
namespace ScVerif.C17

/-- Every observation point of `runSerial`, for every release order (repeated or
out-of-range indices release nobody) and cancellation point: `settle` / `block` are long enough for every case (a
schedule that stopped short would leave a step enabled). -/
theorem C17_serial_points_quiescent (C : Consumer σ ρ) (behs : List Beh) (order : List Nat) (pc : Option Nat) :
    (runSerial C behs order pc).quiet = true := by
  unfold runSerial
  have hq0 : Quiet C (exec C (Config.spawn C behs) settle) := init_settle_quiet C behs behs.length
  have hinv0 := inv_exec C behs behs.length settle
  have h := serialGo_quiet C behs pc order 0 _
    (observe C (exec C (Config.spawn C behs) settle) 0 ⟨none, none, [], List.replicate behs.length none, 0, true⟩)
    hq0 hinv0 (by simp [observe, quiet_quiescent C _ hq0])
  simp only
  exact h.1

/-- a quiescent point really is one: no step but member 0's is enabled -/
example :
    let c := exec fast (exec fast (Config.spawn fast [⟨⟨none, some 1⟩, none⟩, ⟨⟨some 2, none⟩, none⟩]) settle) (block 1)
    c.quiescent fast = true ∧ c.alive = 2 ∧ (step fast c (.member 0)).isSome = true := by decide +kernel

/-- ... and a configuration in the middle of a block is not -/
example :
    let c := exec fast (Config.spawn fast [⟨⟨none, some 1⟩, none⟩, ⟨⟨some 2, none⟩, none⟩]) [.member 1, .member 1]
    c.quiescent fast = false := by decide +kernel

end ScVerif.C17
