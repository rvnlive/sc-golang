import ScVerif.C17.Spec
import ScVerif.C17.ListLemmas
/-! Lemmas about the consumer loops (no threads). -/
namespace ScVerif.C17

theorem after_nil (C : Consumer σ ρ) : C.after [] = C.start := rfl

theorem after_append (C : Consumer σ ρ) (rs ss : List Tagged) :
    C.after (rs ++ ss) = ss.foldl (feedRun C) (C.after rs) := by
  simp [Consumer.after, List.foldl_append]

theorem after_snoc (C : Consumer σ ρ) (rs : List Tagged) (r : Tagged) :
    C.after (rs ++ [r]) = feedRun C (C.after rs) r := by
  simp [after_append]

theorem foldl_returned (C : Consumer σ ρ) (x : ρ) (ss : List Tagged) :
    ss.foldl (feedRun C) (.returned x) = .returned x := by
  induction ss with
  | nil => rfl
  | cons a t ih => simpa [List.foldl, feedRun] using ih

theorem after_stable (C : Consumer σ ρ) (rs ss : List Tagged) (x : ρ) (h : C.after rs = .returned x) :
    C.after (rs ++ ss) = .returned x := by
  rw [after_append, h, foldl_returned]

theorem after_prefix_running (C : Consumer σ ρ) (rs ss : List Tagged) (h : (C.after (rs ++ ss)).isReturned = false) :
    (C.after rs).isReturned = false := by
  cases hr : C.after rs with
  | running => rfl
  | returned x => rw [after_stable C rs ss x hr] at h; exact h

theorem feedRun_next {C : Consumer σ ρ} {s s' : σ} {r : Tagged} {c cn : Bool} (h : C.onRecv s r = .next s' cn) :
    feedRun C (.running s c) r = .running s' (c || cn) := by
  simp only [feedRun, h]

theorem feedRun_ret {C : Consumer σ ρ} {s : σ} {r : Tagged} {c : Bool} {x : ρ} (h : C.onRecv s r = .ret x) :
    feedRun C (.running s c) r = .returned x := by
  simp only [feedRun, h]

theorem result_of_returned {C : Consumer σ ρ} {rs : List Tagged} {x : ρ} (h : C.after rs = .returned x) :
    C.result rs = x := by
  rw [Consumer.result, h]; rfl

theorem result_of_running {C : Consumer σ ρ} {rs : List Tagged} {s : σ} {c : Bool} (h : C.after rs = .running s c) :
    C.result rs = C.onClose s := by
  rw [Consumer.result, h]; rfl

theorem result_stable (C : Consumer σ ρ) (rs ss : List Tagged) (x : ρ)
    (h : C.after rs = .returned x) : C.result (rs ++ ss) = x := by
  exact result_of_returned (after_stable C rs ss x h)

theorem upTo_feed_none (n : Nat) (allowed : Int) (s : UpToSt) (c : Bool) (i : Nat) (m : Option Nat) :
    feedRun (upTo n allowed) (.running s c) (i, ⟨m, none⟩) =
      .running { s with results := s.results.set i m } (c || false) := rfl

theorem upTo_feed_some (n : Nat) (allowed : Int) (s : UpToSt) (c : Bool) (i : Nat) (m : Option Nat) (e : Nat) :
    feedRun (upTo n allowed) (.running s c) (i, ⟨m, some e⟩) =
      .running ⟨s.errCount + 1, (match s.firstErr with | none => some e | some x => some x), s.results.set i m⟩
        (c || decide (((s.errCount + 1 : Nat) : Int) > allowed)) := rfl

theorem failuresT_snoc (rs : List Tagged) (r : Tagged) :
    failuresT (rs ++ [r]) = failuresT rs + (if r.2.err.isSome then 1 else 0) := by
  simp [failuresT, List.countP_append, List.countP_cons]

theorem firstFailure_snoc (rs : List Tagged) (r : Tagged) :
    firstFailure (rs ++ [r]) = (match firstFailure rs with | none => r.2.err | some x => some x) := by
  simp only [firstFailure, errorsOf, List.filterMap_append, List.head?_append]
  cases (List.filterMap (fun x => x.2.err) rs).head? <;> cases h : r.2.err <;> simp [h]

theorem placeAll_snoc (init : List (Option Nat)) (rs : List Tagged) (r : Tagged) :
    placeAll init (rs ++ [r]) = (placeAll init rs).set r.1 r.2.msg := by
  simp [placeAll, List.foldl_append]

theorem upTo_after (n : Nat) (allowed : Int) (rs : List Tagged) :
    (upTo n allowed).after rs =
      .running ⟨failuresT rs, firstFailure rs, placeAll (List.replicate n none) rs⟩
        (decide (0 < failuresT rs ∧ (failuresT rs : Int) > allowed)) := by
  induction rs using snoc_induction with
  | nil => simp [after_nil, Consumer.start, upTo, failuresT, firstFailure, errorsOf, placeAll]
  | snoc rs r ih =>
    obtain ⟨i, m, e⟩ := r
    rw [after_snoc, ih, failuresT_snoc, firstFailure_snoc, placeAll_snoc]
    cases e with
    | none => rw [upTo_feed_none]; cases firstFailure rs <;> simp
    | some e =>
      rw [upTo_feed_some]
      -- once the count is above the budget it stays there
      have hflag : (decide (0 < failuresT rs ∧ (failuresT rs : Int) > allowed) || decide (((failuresT rs + 1 : Nat) : Int) > allowed))
          = decide (0 < failuresT rs + 1 ∧ ((failuresT rs + 1 : Nat) : Int) > allowed) := by
        rw [← Bool.decide_or]; apply decide_eq_decide.mpr; omega
      simp only [Option.isSome_some, if_true]
      rw [hflag]

theorem upTo_after_cancelled (allowed : Int) (n : Nat) (rs : List Tagged) :
    ((upTo n allowed).after rs).cancelled = decide (0 < failuresT rs ∧ (failuresT rs : Int) > allowed) := by
  rw [upTo_after]; rfl

theorem upTo_after_cancelled_nonneg (allowed : Int) (h : 0 ≤ allowed) (n : Nat) (rs : List Tagged) :
    ((upTo n allowed).after rs).cancelled = decide ((failuresT rs : Int) > allowed) := by
  rw [upTo_after_cancelled]
  apply decide_eq_decide.mpr
  constructor
  · exact fun h => h.2
  · exact fun h2 => ⟨by omega, h2⟩

theorem firstFailure_isSome (rs : List Tagged) : (firstFailure rs).isSome ↔ 0 < failuresT rs := by
  induction rs using snoc_induction with
  | nil => exact ⟨nofun, nofun⟩
  | snoc rs r ih =>
    rw [firstFailure_snoc, failuresT_snoc]
    cases hf : firstFailure rs with
    | some x =>
      rw [hf] at ih
      have := ih.mp rfl
      exact ⟨fun _ => by omega, fun _ => rfl⟩
    | none =>
      rw [hf] at ih
      have : ¬ 0 < failuresT rs := fun h => nomatch ih.mpr h
      cases r.2.err <;> simp <;> omega

theorem upTo_result (n : Nat) (allowed : Int) (rs : List Tagged) :
    ((upTo n allowed).result rs).err
        = (if (failuresT rs : Int) > allowed then (firstFailure rs).map Err.member else none)
    ∧ ((upTo n allowed).result rs).results = placeAll (List.replicate n none) rs := by
  rw [result_of_running (upTo_after n allowed rs)]
  simp only [upTo]
  split <;> exact ⟨rfl, rfl⟩

theorem upTo_err_isSome (n : Nat) (allowed : Int) (rs : List Tagged) :
    ((upTo n allowed).result rs).err.isSome ↔ 0 < failuresT rs ∧ (failuresT rs : Int) > allowed := by
  rw [(upTo_result n allowed rs).1]
  split
  · next hgt => simp [Option.isSome_map, firstFailure_isSome, hgt]
  · next hle => simp [hle]

theorem placeAll_getElem? (f : Nat → Option Nat) (rs : List Tagged) (init : List (Option Nat))
    (h : ∀ r ∈ rs, r.2.msg = f r.1) (j : Nat) :
    (placeAll init rs)[j]? =
      if j ∈ rs.map (·.1) then (if j < init.length then some (f j) else none) else init[j]? := by
  induction rs generalizing init with
  | nil => simp [placeAll]
  | cons r rs ih =>
    have hr := h r (by simp)
    have ih' := ih (init.set r.1 r.2.msg) (fun x hx => h x (by simp [hx]))
    simp only [placeAll, List.foldl_cons] at ih' ⊢
    rw [ih']
    simp only [List.map_cons, List.mem_cons, List.length_set]
    by_cases hj : j ∈ rs.map (·.1)
    · simp [hj]
    · simp only [hj, if_false, or_false]
      by_cases hjr : j = r.1
      · subst hjr
        simp [List.getElem?_set, hr]
      · have : ¬ r.1 = j := fun h => hjr h.symm
        simp [hjr, List.getElem?_set, this]

theorem placeAll_length (rs : List Tagged) (init : List (Option Nat)) :
    (placeAll init rs).length = init.length := by
  induction rs generalizing init with
  | nil => rfl
  | cons r rs ih => simp [placeAll] at ih ⊢; rw [ih]; simp

theorem arrivals_map_fst (outs : List Resp) (order : List Nat) :
    (arrivals outs order).map (·.1) = order := by
  simp [arrivals, Function.comp_def]

theorem mem_arrivals {outs : List Resp} {order : List Nat} {x : Tagged} (hx : x ∈ arrivals outs order) :
    x.1 ∈ order ∧ x.2 = outs.getD x.1 default := by
  simp only [arrivals, List.mem_map] at hx
  obtain ⟨i, hi, rfl⟩ := hx
  exact ⟨hi, rfl⟩

theorem outs_eq_map_range (outs : List Resp) :
    outs = (List.range outs.length).map (fun i => outs.getD i default) := by
  apply List.ext_getElem
  · simp
  · intro i h1 h2
    simp [List.getD_eq_getElem?_getD, List.getElem?_eq_getElem h1]

/-- the members' responses in index order are the outcome vector -/
theorem arrivals_range_snd (outs : List Resp) : (arrivals outs (List.range outs.length)).map (·.2) = outs := by
  conv => rhs; rw [outs_eq_map_range outs]
  simp [arrivals]

theorem failuresT_arrivals (outs : List Resp) (order : List Nat)
    (hp : order.Perm (List.range outs.length)) :
    failuresT (arrivals outs order) = failures outs := by
  have h1 : (arrivals outs order).Perm (arrivals outs (List.range outs.length)) := hp.map _
  unfold failuresT failures
  rw [h1.countP_eq]
  conv => rhs; rw [outs_eq_map_range outs]
  simp [arrivals, List.countP_map, Function.comp_def]

theorem placeAll_arrivals (outs : List Resp) (order : List Nat)
    (hp : order.Perm (List.range outs.length)) :
    placeAll (List.replicate outs.length none) (arrivals outs order) = outs.map (·.msg) := by
  apply List.ext_getElem?
  intro j
  rw [placeAll_getElem? (fun i => (outs.getD i default).msg)]
  · rw [arrivals_map_fst]
    have hm : j ∈ order ↔ j < outs.length := by rw [hp.mem_iff]; exact List.mem_range
    by_cases hj : j < outs.length
    · simp [hm.mpr hj, hj, List.getD_eq_getElem?_getD, List.getElem?_eq_getElem hj]
    · have : ¬ j ∈ order := fun h => hj (hm.mp h)
      simp [this]
      have h1 : outs.length ≤ j := by omega
      simp [List.getElem?_eq_none h1]
      omega
  · intro r hr
    exact congrArg Resp.msg (mem_arrivals hr).2

theorem upTo_err_isSome_arrivals (allowed : Int) (outs : List Resp) (order : List Nat)
    (hp : order.Perm (List.range outs.length)) :
    ((upTo outs.length allowed).result (arrivals outs order)).err.isSome
      ↔ 0 < failures outs ∧ (failures outs : Int) > allowed := by
  rw [upTo_err_isSome, failuresT_arrivals outs order hp]

theorem fast_feed_none (s : Option Tagged) (c : Bool) (i : Nat) (m : Option Nat) :
    feedRun fast (.running s c) (i, ⟨m, none⟩) = .returned ⟨m, i, none⟩ := rfl

theorem fast_feed_some (s : Option Tagged) (c : Bool) (i : Nat) (m : Option Nat) (e : Nat) :
    feedRun fast (.running s c) (i, ⟨m, some e⟩) =
      .running (match s with | none => some (i, ⟨m, some e⟩) | some x => some x) (c || false) := rfl

theorem fast_after_fail (rs : List Tagged) (h : ∀ r ∈ rs, r.2.err.isSome) :
    fast.after rs = .running rs.head? false := by
  induction rs using snoc_induction with
  | nil => rfl
  | snoc rs r ih =>
    have hr := h r (by simp)
    obtain ⟨i, m, e⟩ := r
    cases e with
    | none => simp at hr
    | some e =>
      rw [after_snoc, ih fun x hx => h x (by simp [hx]), fast_feed_some]
      cases rs <;> simp

theorem fast_after_success (pre post : List Tagged) (r : Tagged)
    (hpre : ∀ x ∈ pre, x.2.err.isSome) (hr : r.2.err = none) :
    fast.after (pre ++ r :: post) = .returned ⟨r.2.msg, r.1, none⟩ := by
  obtain ⟨i, m, e⟩ := r
  simp only at hr
  subst hr
  rw [after_append, fast_after_fail pre hpre, List.foldl_cons, fast_feed_none]
  exact foldl_returned _ _ _

theorem fast_result_fail (rs : List Tagged) (h : ∀ r ∈ rs, r.2.err.isSome) : fast.result rs = fast.onClose rs.head? :=
  result_of_running (fast_after_fail rs h)

theorem fast_result_success (pre post : List Tagged) (r : Tagged) (hpre : ∀ x ∈ pre, x.2.err.isSome)
    (hr : r.2.err = none) : fast.result (pre ++ r :: post) = ⟨r.2.msg, r.1, none⟩ :=
  result_of_returned (fast_after_success pre post r hpre hr)

theorem race_after_one (r : Tagged) : race.after [r] = .returned ⟨r.2.msg, r.1, r.2.err.map .member⟩ := rfl

theorem race_after (rs : List Tagged) : (race.after rs).isReturned = !rs.isEmpty := by
  cases rs with
  | nil => rfl
  | cons r rs =>
    have h := race_after_one r
    have := after_append race [r] rs
    simp only [List.singleton_append] at this
    rw [this, h, foldl_returned]
    rfl

theorem oneLoop_fail (outs : List Resp) (h : ∀ r ∈ outs, r.err.isSome) (i : Nat) (fe : Option Nat) :
    oneLoop i fe outs =
      (⟨none, 0, (if i = 0 then (outs.head?.bind (·.err)) <|> fe else fe).map .member⟩, i + outs.length) := by
  induction outs generalizing i fe with
  | nil => cases i <;> simp [oneLoop]
  | cons r rs ih =>
    have hr := h r (by simp)
    cases he : r.err with
    | none => simp [he] at hr
    | some e =>
      simp only [oneLoop, he]
      rw [ih (fun x hx => h x (by simp [hx]))]
      cases i with
      | zero => simp [he]; omega
      | succ k => simp; omega

theorem oneLoop_success (pre post : List Resp) (r : Resp) (hpre : ∀ x ∈ pre, x.err.isSome)
    (hr : r.err = none) (i : Nat) (fe : Option Nat) :
    oneLoop i fe (pre ++ r :: post) = (⟨r.msg, i + pre.length, none⟩, i + pre.length + 1) := by
  induction pre generalizing i fe with
  | nil => simp [oneLoop, hr]
  | cons a pre ih =>
    have ha := hpre a (by simp)
    cases he : a.err with
    | none => simp [he] at ha
    | some e =>
      simp only [List.cons_append, oneLoop, he]
      rw [ih (fun x hx => hpre x (by simp [hx]))]
      simp; omega

/-- One over members that all fail: every one is tried, the first member's error is reported -/
theorem one_fail (outs : List Resp) (h : ∀ r ∈ outs, r.err.isSome) :
    one outs = ⟨none, 0, (outs.head?.bind (·.err)).map Err.member⟩ ∧ oneTried outs = outs.length := by
  simp [one, oneTried, oneLoop_fail outs h]

/-- One whose first success is `r`: `r` is returned with its index, the members after it are not tried -/
theorem one_success (pre post : List Resp) (r : Resp) (hpre : ∀ x ∈ pre, x.err.isSome) (hr : r.err = none) :
    one (pre ++ r :: post) = ⟨r.msg, pre.length, none⟩ ∧ oneTried (pre ++ r :: post) = pre.length + 1 := by
  simp [one, oneTried, oneLoop_success pre post r hpre hr]

theorem one_err_isSome (outs : List Resp) :
    ((one outs).err.isSome ↔ outs ≠ [] ∧ ∀ r ∈ outs, r.err.isSome)
    ∧ (oneTried outs = outs.length ∨ ∃ r ∈ outs, r.err = none) := by
  rcases split_first_none (·.err) outs with h | ⟨pre, r, post, heq, hpre, hr⟩
  · refine ⟨?_, Or.inl (one_fail outs h).2⟩
    rw [(one_fail outs h).1]
    cases outs with
    | nil => simp
    | cons a t => simpa [h a (by simp)] using h
  · refine ⟨?_, Or.inr ⟨r, by rw [heq]; simp, hr⟩⟩
    rw [heq, (one_success pre post r hpre hr).1]
    simp only [Option.isSome_none, Bool.false_eq_true, false_iff, not_and]
    intro _ hall
    have := hall r (by simp)
    simp [hr] at this

/-- Whose response the single result `s` of One / Fast / Race is, over the responses `rs` in play: with none, index 0
and no message; otherwise the index of one of them, with that response's message (or none, when all failed). -/
def OwnSingle (s : Single) (rs : List Tagged) : Prop :=
  (rs = [] ∧ s.idx = 0 ∧ s.msg = none) ∨ ∃ r ∈ rs, s.idx = r.1 ∧ (s.msg = none ∨ s.msg = r.2.msg)

theorem fast_own (rs : List Tagged) : OwnSingle (fast.result rs) rs := by
  rcases split_first_none (·.2.err) rs with h | ⟨pre, r, post, rfl, hpre, hr⟩
  · rw [fast_result_fail rs h]
    cases rs with
    | nil => exact Or.inl ⟨rfl, rfl, rfl⟩
    | cons a t => exact Or.inr ⟨a, by simp, rfl, Or.inl rfl⟩
  · rw [fast_result_success pre post r hpre hr]
    exact Or.inr ⟨r, by simp, rfl, Or.inr rfl⟩

theorem race_own (rs : List Tagged) : OwnSingle (race.result rs) rs := by
  cases rs with
  | nil => exact Or.inl ⟨rfl, rfl, rfl⟩
  | cons r rs =>
    rw [show r :: rs = [r] ++ rs from rfl,
      result_stable race [r] rs _ (race_after_one r)]
    exact Or.inr ⟨r, by simp, rfl, Or.inr rfl⟩

theorem one_own (outs : List Resp) : OwnSingle (one outs) (arrivals outs (List.range outs.length)) := by
  have hmem : ∀ i < outs.length, ((i, outs.getD i default) : Tagged) ∈ arrivals outs (List.range outs.length) :=
    fun i hi => List.mem_map.mpr ⟨i, List.mem_range.mpr hi, rfl⟩
  rcases split_first_none (·.err) outs with h | ⟨pre, r, post, heq, hpre, hr⟩
  · rw [(one_fail outs h).1]
    cases outs with
    | nil => exact Or.inl ⟨rfl, rfl, rfl⟩
    | cons a t => exact Or.inr ⟨_, hmem 0 (by simp), rfl, Or.inl rfl⟩
  · refine Or.inr ⟨_, hmem pre.length (by rw [heq]; simp), ?_⟩
    rw [heq, (one_success pre post r hpre hr).1]
    simp [List.getD_eq_getElem?_getD]

/-- `List.set` out of range changes nothing: the guard of `singleResult` is invisible in its result -/
theorem singleResult_results (n : Nat) (s : Single) :
    (singleResult n s).results = (List.replicate n none).set s.idx s.msg := by
  unfold singleResult
  split
  · rfl
  · next h => exact (List.set_eq_of_length_le (by simpa using h)).symm

theorem singleResult_slot (n : Nat) (s : Single) (j m : Nat)
    (h : (singleResult n s).results[j]? = some (some m)) : j = s.idx ∧ s.msg = some m ∧ j < n := by
  rw [singleResult_results, List.getElem?_set] at h
  split at h
  · next heq =>
    split at h
    · next hlt => simp at h; exact ⟨heq.symm, h, heq ▸ (by simpa using hlt)⟩
    · simp at h
  · rw [List.getElem?_replicate] at h
    split at h <;> simp at h

theorem singleResult_length (n : Nat) (s : Single) : (singleResult n s).results.length = n := by
  simp [singleResult_results]

end ScVerif.C17
