import ScVerif.C17.Threads
/-!
# C17 — relabelling of member error values: the vocabulary of `C17_errors_opaque` and `C17_errors_opaque_threads`

`mapT f` relabels the error of a response; `Single.mapErr` / `Many.mapErr` relabel the error of a result
(`noResponse`, the package's own error, is left alone); `Config.mapErr` relabels a whole configuration of the thread
model.  Definitions only.
-/
namespace ScVerif.C17

def Resp.mapErr (f : Nat → Nat) (r : Resp) : Resp := { r with err := r.err.map f }

def mapT (f : Nat → Nat) (r : Tagged) : Tagged := (r.1, r.2.mapErr f)

def Err.mapE (f : Nat → Nat) : Err → Err
  | .member k => .member (f k)
  | .noResponse => .noResponse

def Single.mapErr (f : Nat → Nat) (s : Single) : Single := { s with err := s.err.map (Err.mapE f) }

def Many.mapErr (f : Nat → Nat) (m : Many) : Many := { m with err := m.err.map (Err.mapE f) }

def Step.map (gσ : σ → σ) (gρ : ρ → ρ) : Step σ ρ → Step σ ρ
  | .next s c => .next (gσ s) c
  | .ret x => .ret (gρ x)

def Run.map (gσ : σ → σ) (gρ : ρ → ρ) : Run σ ρ → Run σ ρ
  | .running s c => .running (gσ s) c
  | .returned x => .returned (gρ x)

/-- A consumer loop is equivariant under the relabelling `f` (with `gσ`, `gρ` the induced relabelling
of its locals and of its result). -/
structure Equivariant (C : Consumer σ ρ) (f : Nat → Nat) (gσ : σ → σ) (gρ : ρ → ρ) : Prop where
  init : gσ C.init = C.init
  recv : ∀ s r, C.onRecv (gσ s) (mapT f r) = (C.onRecv s r).map gσ gρ
  close : ∀ s, C.onClose (gσ s) = gρ (C.onClose s)

def UpToSt.mapErr (f : Nat → Nat) (s : UpToSt) : UpToSt := { s with firstErr := s.firstErr.map f }

def Beh.mapErr (f : Nat → Nat) (b : Beh) : Beh := ⟨b.normal.mapErr f, b.onCancel.map (Resp.mapErr f)⟩

def MPc.mapErr (f : Nat → Nat) : MPc → MPc
  | .start => .start
  | .ran r => .ran (r.mapErr f)
  | .sent r => .sent (r.mapErr f)
  | .done r => .done (r.mapErr f)

def ConsPc.mapErr (f : Nat → Nat) (gσ : σ → σ) (gρ : ρ → ρ) : ConsPc σ ρ → ConsPc σ ρ
  | .idle s => .idle (gσ s)
  | .got s r => .got (gσ s) (mapT f r)
  | .returned x b => .returned (gρ x) b

def Config.mapErr (f : Nat → Nat) (gσ : σ → σ) (gρ : ρ → ρ) (c : Config σ ρ) : Config σ ρ :=
  { behs := c.behs.map (Beh.mapErr f), cap := c.cap, envCancelled := c.envCancelled, cancelled := c.cancelled,
    members := c.members.map (MPc.mapErr f), hist := c.hist.map (mapT f), taken := c.taken,
    closed := c.closed, closer := c.closer, cons := c.cons.mapErr f gσ gρ }

end ScVerif.C17
