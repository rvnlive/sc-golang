import ScVerif.C17.ContractLemmas
/-!
# C17 — the two numbers the Pull-pipeline model keeps of `group.Execute` are what `exec.go` does

`Pipeline.lean` abstracts `Execute` to `(allowed, retAfter)`: `execCancel` is enabled when more than `allowed` member
closures have ended, `execRet` when `retAfter` have.  That reading of exec.go is a theorem about the thread-level model
(`Threads.lean`, the one the pkg/group ties execute), `MeetsContract`: members none of which succeeds (a Pull member's
stream only ever ends with an error), EVERY schedule, at every point at which nothing can move - where the pipeline
model's `execCancel` / `execRet` have fired if enabled.  `execParams` is the function the driver computes the pipeline
model's parameters with (`pipe <trait> <n> <strategy> …`).
-/
namespace ScVerif.C17

/-- All / Most / Any / Fast / Race, every `n` (0 included). -/
theorem C17_pipeline_contract_is_execute (n : Nat) :
    MeetsContract (upTo n (allowedAll n)) n (execParams .all n)
    ∧ MeetsContract (upTo n (allowedMost n)) n (execParams .most n)
    ∧ MeetsContract (upTo n (allowedAny n)) n (execParams .any n)
    ∧ MeetsContract fast n (execParams .fast n)
    ∧ MeetsContract race n (execParams .race n) := by
  refine ⟨?_, ?_, ?_, meets_fast n, meets_race n⟩
  · apply meets_upTo
    intro k h0 hk; simp only [allowedAll]; omega
  · apply meets_upTo
    intro k h0 hk; simp only [allowedMost]; omega
  · apply meets_upTo
    intro k h0 hk; simp only [allowedAny]; omega

/-- `ExecuteOne` is sequential and has no context of its own, so nothing is cancelled
before it returns: `allowed = retAfter = n`. -/
theorem C17_pipeline_contract_one (outs : List Resp) (h : ∀ r ∈ outs, r.err.isSome = true) :
    oneTried outs = (execParams .one outs.length).2
    ∧ (execParams .one outs.length).1 = outs.length
    ∧ (one outs).msg = none
    ∧ (one outs).err = (outs.head?.bind (·.err)).map Err.member := by
  obtain ⟨h1, h2⟩ := one_fail outs h
  exact ⟨by rw [h2]; rfl, rfl, by rw [h1], by rw [h1]⟩

/-- not vacuous, not trivial: Most over three failing members; after two the budget 1 is exceeded (cancelled, not
returned), after three the call has returned -/
example :
    let behs : List Beh := [⟨⟨none, some 1⟩, none⟩, ⟨⟨none, some 2⟩, none⟩, ⟨⟨none, some 3⟩, none⟩]
    let C := upTo 3 (allowedMost 3)
    let c1 := exec C (Config.spawn C behs) (settle ++ block 0)
    let c2 := exec C c1 (block 1)
    let c3 := exec C c2 (block 2)
    (∀ b ∈ behs, b.neverSucceeds) ∧ execParams .most 3 = (1, 3)
    ∧ c1.quiescent C = true ∧ c1.cancelled = false ∧ c1.consReturned = false
    ∧ c2.quiescent C = true ∧ c2.cancelled = true ∧ c2.consReturned = false
    ∧ c3.quiescent C = true ∧ c3.cancelled = true ∧ c3.consReturned = true := by
  refine ⟨?_, by decide +kernel⟩
  intro b hb
  simp at hb
  rcases hb with rfl | rfl | rfl <;> exact ⟨rfl, by intro r h; cases h⟩

/-- Race over two failing members returns, and cancels, at the first response: `(allowed, retAfter) = (2, 1)` -/
example :
    let behs : List Beh := [⟨⟨none, some 1⟩, none⟩, ⟨⟨none, some 2⟩, none⟩]
    let c1 := exec race (Config.spawn race behs) (settle ++ block 1)
    execParams .race 2 = (2, 1) ∧ c1.quiescent race = true ∧ c1.cancelled = true ∧ c1.consReturned = true
    ∧ c1.members.countP MPc.isDone = 1 := by
  decide +kernel

end ScVerif.C17
