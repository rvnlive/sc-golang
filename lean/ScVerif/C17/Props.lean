import ScVerif.C17.Lemmas
/-!
# C17 — group execution honours each strategy's contract: property theorems (consumer loops)

`outs[i]` = what member `i` returns (any combination of nil/non-nil message and error), `order` = the completion order.
`C17_threads_refine` (`PropsThreads.lean`) connects these theorems with the goroutines: under every schedule the call
returns `C.result` of the responses in the order they were sent.
-/
namespace ScVerif.C17

/-- ExecuteUpTo with budget `allowed`: the first failure in completion order if more than `allowed`
members failed; every member's message in its own slot (failed members too); it waits for all members; (budget ≥ 0)
the members' context is cancelled when the budget is first exceeded, not earlier, not later. -/
theorem C17_upTo (allowed : Int) (outs : List Resp) (order : List Nat)
    (hp : order.Perm (List.range outs.length)) :
    let rs := arrivals outs order
    let C := upTo outs.length allowed
    (C.result rs).err = (if (failures outs : Int) > allowed then (firstFailure rs).map Err.member else none)
    ∧ (C.result rs).results = outs.map (·.msg)
    ∧ (∀ k, (C.after (rs.take k)).isReturned = false)
    ∧ (0 ≤ allowed → ∀ k, (C.after (rs.take k)).cancelled = decide ((failuresT (rs.take k) : Int) > allowed)) := by
  intro rs C
  obtain ⟨herr, hres⟩ := upTo_result outs.length allowed rs
  refine ⟨?_, ?_, ?_, ?_⟩
  · rw [herr, failuresT_arrivals outs order hp]
  · rw [hres, placeAll_arrivals outs order hp]
  · intro k; simp [C, upTo_after, Run.isReturned]
  · intro h k
    exact upTo_after_cancelled_nonneg allowed h _ _

/-- With a non-negative budget ExecuteUpTo errs exactly if more than `allowed` members fail. -/
theorem C17_upTo_err_iff (allowed : Int) (h : 0 ≤ allowed) (outs : List Resp) (order : List Nat)
    (hp : order.Perm (List.range outs.length)) :
    ((upTo outs.length allowed).result (arrivals outs order)).err.isSome ↔ (failures outs : Int) > allowed := by
  rw [upTo_err_isSome_arrivals allowed outs order hp]
  exact ⟨fun h => h.2, fun h2 => ⟨by omega, h2⟩⟩

/-- the hypothesis of `C17_upTo_err_iff` holds for the budgets of All and Most -/
example (n : Nat) : 0 ≤ allowedAll n ∧ 0 ≤ allowedMost n := by
  constructor <;> simp [allowedAll, allowedMost] <;> omega

/-- The cancellation clause for EVERY budget (ExecuteAny over no members has budget −1;
ExecuteUpTo accepts any int): the remaining members are cancelled when the outcome "error" is decided, never before a
failure, never on a success. -/
theorem C17_upTo_cancel (allowed : Int) (n : Nat) (rs : List Tagged) :
    ((upTo n allowed).after rs).cancelled = decide (0 < failuresT rs ∧ (failuresT rs : Int) > allowed) := by
  exact upTo_after_cancelled allowed n rs

/-- `Execute(All)` (also `Unspecified` and out-of-range strategies). -/
theorem C17_all (outs : List Resp) (order : List Nat) (hp : order.Perm (List.range outs.length)) :
    let out := execute .all outs.length (arrivals outs order)
    (out.err.isSome ↔ ∃ r ∈ outs, r.err.isSome)
    ∧ out.err = (firstFailure (arrivals outs order)).map Err.member
    ∧ out.results = outs.map (·.msg) := by
  intro out
  obtain ⟨herr, hres⟩ := upTo_result outs.length (allowedAll outs.length) (arrivals outs order)
  refine ⟨?_, ?_, by rw [← placeAll_arrivals outs order hp]; exact hres⟩
  · show ((upTo outs.length (allowedAll outs.length)).result (arrivals outs order)).err.isSome ↔ _
    rw [upTo_err_isSome_arrivals _ outs order hp, ← List.countP_pos_iff (p := fun r : Resp => r.err.isSome)]
    simp only [allowedAll, failures]
    omega
  · show ((upTo outs.length (allowedAll outs.length)).result (arrivals outs order)).err = _
    rw [herr]
    split
    · rfl
    · -- no failure: there is no first failure either
      next hle =>
      have : ¬ (firstFailure (arrivals outs order)).isSome := by
        rw [firstFailure_isSome]; simp only [allowedAll] at hle; omega
      cases hf : firstFailure (arrivals outs order) with
      | none => rfl
      | some x => simp [hf] at this

/-- `Execute(Most)` fails exactly when more than half of the members fail (exactly half: no error). -/
theorem C17_most (outs : List Resp) (order : List Nat) (hp : order.Perm (List.range outs.length)) :
    let out := execute .most outs.length (arrivals outs order)
    (out.err.isSome ↔ 2 * failures outs > outs.length)
    ∧ out.results = outs.map (·.msg) := by
  intro out
  refine ⟨?_, (C17_upTo (allowedMost outs.length) outs order hp).2.1⟩
  show ((upTo outs.length (allowedMost outs.length)).result (arrivals outs order)).err.isSome ↔ _
  rw [upTo_err_isSome_arrivals _ outs order hp]
  simp only [allowedMost]
  omega

/-- `Execute(Any)`: with no members nothing failed and no error is reported. -/
theorem C17_any (outs : List Resp) (order : List Nat) (hp : order.Perm (List.range outs.length)) :
    let out := execute .any outs.length (arrivals outs order)
    (out.err.isSome ↔ outs ≠ [] ∧ ∀ r ∈ outs, r.err.isSome)
    ∧ out.results = outs.map (·.msg) := by
  intro out
  refine ⟨?_, (C17_upTo (allowedAny outs.length) outs order hp).2.1⟩
  show ((upTo outs.length (allowedAny outs.length)).result (arrivals outs order)).err.isSome ↔ _
  have hle : failures outs ≤ outs.length := List.countP_le_length
  have hall : failures outs = outs.length ↔ ∀ r ∈ outs, r.err.isSome := List.countP_eq_length
  have hne : outs ≠ [] ↔ 0 < outs.length := by cases outs <;> simp
  rw [upTo_err_isSome_arrivals _ outs order hp, hne, ← hall]
  simp only [allowedAny]
  omega

/-- ExecuteOne tries the members in index order; those after the first success never run. -/
theorem C17_one :
    (∀ (pre post : List Resp) (r : Resp), (∀ x ∈ pre, x.err.isSome) → r.err = none →
        one (pre ++ r :: post) = ⟨r.msg, pre.length, none⟩ ∧ oneTried (pre ++ r :: post) = pre.length + 1)
    ∧ (∀ outs : List Resp, (∀ x ∈ outs, x.err.isSome) →
        one outs = ⟨none, 0, (outs.head?.bind (·.err)).map Err.member⟩ ∧ oneTried outs = outs.length) := by
  constructor
  · exact one_success
  · exact one_fail

/-- ExecuteFast returns the first success exactly when it arrives; if every member fails, the first
error in completion order; with no members "no members returned a response". -/
theorem C17_fast :
    (∀ (pre post : List Tagged) (r : Tagged), (∀ x ∈ pre, x.2.err.isSome) → r.2.err = none →
        fast.result (pre ++ r :: post) = ⟨r.2.msg, r.1, none⟩
        ∧ (fast.after pre).isReturned = false ∧ (fast.after (pre ++ [r])).isReturned = true)
    ∧ (∀ rs : List Tagged, (∀ x ∈ rs, x.2.err.isSome) →
        fast.result rs = (match rs.head? with
          | none => ⟨none, 0, some .noResponse⟩
          | some r => ⟨none, r.1, r.2.err.map Err.member⟩)
        ∧ (fast.after rs).isReturned = false)
    ∧ (∀ rs : List Tagged, (fast.result rs).err.isSome ↔ ∀ x ∈ rs, x.2.err.isSome) := by
  refine ⟨?_, ?_, ?_⟩
  · intro pre post r hpre hr
    refine ⟨?_, ?_, ?_⟩
    · exact fast_result_success pre post r hpre hr
    · simp [fast_after_fail pre hpre, Run.isReturned]
    · have := fast_after_success pre [] r hpre hr
      simp [this, Run.isReturned]
  · intro rs h
    refine ⟨?_, by rw [fast_after_fail rs h]; rfl⟩
    rw [fast_result_fail rs h]
    cases rs <;> rfl
  · intro rs
    rcases split_first_none (·.2.err) rs with h | ⟨pre, r, post, rfl, hpre, hr⟩
    · rw [fast_result_fail rs h]
      cases rs with
      | nil => simp [fast]
      | cons a t =>
        have ha := h a (by simp)
        simp only [fast, List.head?_cons, Option.isSome_map, ha, true_iff]
        exact h
    · rw [fast_result_success pre post r hpre hr]
      simp only [Option.isSome_none, Bool.false_eq_true, false_iff]
      intro hall
      have := hall r (by simp)
      simp [hr] at this

/-- ExecuteRace returns the first response as soon as it arrives. -/
theorem C17_race :
    (∀ (r : Tagged) (rs : List Tagged),
        race.result (r :: rs) = ⟨r.2.msg, r.1, r.2.err.map Err.member⟩
        ∧ (race.after [r]).isReturned = true)
    ∧ race.result [] = ⟨none, 0, some .noResponse⟩ := by
  refine ⟨?_, rfl⟩
  intro r rs
  have h1 := race_after_one r
  refine ⟨?_, by simp [h1, Run.isReturned]⟩
  exact result_stable race [r] rs _ h1

/-- `Execute` with One / Fast / Race, every `n` *including 0* (fix fce86fc: `allRes[i]` was evaluated unguarded; the
model has no panic outcome), any list of member indices as order: the single
result sits at the member's own index, all other slots are nil. -/
theorem C17_indexing (outs : List Resp) (order : List Nat)
    (st : Strategy) (hst : st = .one ∨ st = .fast ∨ st = .race) :
    let out := execute st outs.length (arrivals outs (if st = .one then List.range outs.length else order))
    out.results.length = outs.length
    ∧ (∀ (j m : Nat), out.results[j]? = some (some m) → j < outs.length ∧ (outs.getD j default).msg = some m)
    ∧ (∀ (j j' m m' : Nat), out.results[j]? = some (some m) → out.results[j']? = some (some m') → j = j') := by
  intro out
  -- the single result is a member's own response, whichever strategy produced it
  have key : ∃ (s : Single) (rs : List Tagged), out = singleResult outs.length s ∧ OwnSingle s rs
      ∧ ∀ r ∈ rs, r.2 = outs.getD r.1 default := by
    rcases hst with rfl | rfl | rfl
    · exact ⟨one outs, _, by simp [out, execute, arrivals_range_snd], one_own outs, fun r hr => (mem_arrivals hr).2⟩
    · exact ⟨_, arrivals outs order, rfl, fast_own _, fun r hr => (mem_arrivals hr).2⟩
    · exact ⟨_, arrivals outs order, rfl, race_own _, fun r hr => (mem_arrivals hr).2⟩
  obtain ⟨s, rs, hs, hown, hrs⟩ := key
  rw [hs]
  refine ⟨singleResult_length _ _, ?_, ?_⟩
  · intro j m h
    obtain ⟨rfl, h2, h3⟩ := singleResult_slot _ _ _ _ h
    refine ⟨h3, ?_⟩
    rcases hown with ⟨_, _, hn⟩ | ⟨r, hr, hi, hn | hm⟩
    · rw [hn] at h2; cases h2
    · rw [hn] at h2; cases h2
    · rw [hi, ← hrs r hr, ← hm, h2]
  · intro j j' m m' h h'
    have := (singleResult_slot _ _ _ _ h).1
    have := (singleResult_slot _ _ _ _ h').1
    omega

/-- The index reported by One / Fast / Race is a member's index whenever there are members, so the
guard in `singleResult` only matters for the empty group. -/
theorem C17_index_in_range (outs : List Resp) (order : List Nat) (hp : order.Perm (List.range outs.length))
    (hn : 0 < outs.length) :
    (one outs).idx < outs.length
    ∧ (fast.result (arrivals outs order)).idx < outs.length
    ∧ (race.result (arrivals outs order)).idx < outs.length := by
  -- an own response carries a member's index
  have own {s : Single} {ord : List Nat} (hp : ord.Perm (List.range outs.length)) (h : OwnSingle s (arrivals outs ord)) :
      s.idx < outs.length := by
    rcases h with ⟨_, h0, _⟩ | ⟨r, hr, hi, _⟩
    · rw [h0]; exact hn
    · rw [hi]; exact List.mem_range.mp (hp.mem_iff.mp (mem_arrivals hr).1)
  exact ⟨own (.refl _) (one_own outs), own hp (fast_own _), own hp (race_own _)⟩

/-- Most over 4 members, 2 failures (exactly half): no error. -/
example : (execute .most 4 (arrivals [⟨some 1, none⟩, ⟨none, some 2⟩, ⟨none, some 3⟩, ⟨some 4, none⟩] [2, 0, 3, 1])).err = none := by decide +kernel
/-- Most over 3 members, 2 failures: the first failure in completion order. -/
example : (execute .most 3 (arrivals [⟨none, some 1⟩, ⟨none, some 2⟩, ⟨some 3, none⟩] [1, 2, 0])).err = some (.member 2) := by decide +kernel
/-- Any with no members: no error; Fast and Race with no members: the package's error, empty slice. -/
example : execute .any 0 [] = ⟨[], none⟩ ∧ execute .fast 0 [] = ⟨[], some .noResponse⟩
    ∧ execute .race 0 [] = ⟨[], some .noResponse⟩ ∧ execute .one 0 [] = ⟨[], none⟩ := by decide +kernel
/-- Fast: the single result at the member's own index. -/
example : execute .fast 3 (arrivals [⟨none, some 1⟩, ⟨some 2, none⟩, ⟨some 3, none⟩] [0, 2, 1]) = ⟨[none, none, some 3], none⟩ := by decide +kernel

end ScVerif.C17
