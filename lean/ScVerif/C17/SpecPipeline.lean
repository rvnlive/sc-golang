import ScVerif.C17.Pipeline
/-!
# C17 — the vocabulary the Pull-pipeline theorems are stated in

Ghost bookkeeping over `Pipeline.lean`: `pokes i sched` = what the environment made device `i` do, in order;
`delivered i c` = the values the loop has taken from member `i` (from the ghost `log`).  Definitions only.
-/
namespace ScVerif.C17.Pipe

variable {V : Type}

def deliveredOf (i : Nat) (log : List (Nat × V)) : List V := (log.filter fun e => e.1 == i).map (·.2)

def Cfg.delivered (c : Cfg V) (i : Nat) : List V := deliveredOf i c.log

def MSt.held : MSt V → List V
  | .holding v => [v] | _ => []
def HSt.inSendMsg : HSt V → List V
  | .sending v => [v] | _ => []

/-- both threads of the lane are running - or the lane's turn has not come yet (strategy One) -/
def Lane.alive (l : Lane V) : Bool := (!l.h.isEnded || l.m.isNotStarted) && !l.m.isEnded

/-- everything of the lane on its way to the loop, oldest first -/
def Lane.inflight (l : Lane V) : List (Option V) := (l.m.held ++ l.h.inSendMsg).map some ++ l.pend

/-- a member closure that has not been called has no handler -/
def Lane.wf (l : Lane V) : Prop := l.m = .notStarted → l.h = .ended

def Cfg.WF (c : Cfg V) : Prop := ∀ l ∈ c.lanes, l.wf

def pokeOf (i : Nat) : Lbl V → List (Option V)
  | .poke j x => if j = i then [x] else []
  | _ => []

def pokes (i : Nat) (sched : List (Lbl V)) : List (Option V) := sched.flatMap (pokeOf i)

/-- a point of quiescence: no thread of the pipeline can take a step -/
def Quiet [DecidableEq V] (P : Params V) (c : Cfg V) : Prop := ∀ lbl : Lbl V, lbl.internal = true → step P c lbl = none

/-- lane `l`: the handler is inside `SendMsg` and the member closure it sends to has returned -/
def Lane.parked (l : Lane V) : Prop := (∃ v, l.h = .sending v) ∧ l.m = .ended

def Cfg.parked (c : Cfg V) (i : Nat) : Prop := ∃ l, c.lanes[i]? = some l ∧ l.parked

/-- the exploration drops the ghost log -/
def eraseLog (c : Cfg V) : Cfg V := { c with log := [] }

end ScVerif.C17.Pipe
