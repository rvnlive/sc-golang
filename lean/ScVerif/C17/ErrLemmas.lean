import ScVerif.C17.Lemmas
import ScVerif.C17.SpecErr
/-!
# C17 — relabelling of error values

The strategies only ever test `err == nil`: they are equivariant under ANY map `f` of member error
values (injective or not); the relabellings themselves are defined in `SpecErr.lean`.
-/
namespace ScVerif.C17

theorem feedRun_map (C : Consumer σ ρ) (f : Nat → Nat) (gσ : σ → σ) (gρ : ρ → ρ)
    (h : Equivariant C f gσ gρ) (run : Run σ ρ) (r : Tagged) :
    feedRun C (run.map gσ gρ) (mapT f r) = (feedRun C run r).map gσ gρ := by
  cases run with
  | returned x => rfl
  | running s c =>
    simp only [Run.map, feedRun]
    rw [h.recv]
    cases C.onRecv s r <;> rfl

theorem after_map (C : Consumer σ ρ) (f : Nat → Nat) (gσ : σ → σ) (gρ : ρ → ρ)
    (h : Equivariant C f gσ gρ) (rs : List Tagged) :
    C.after (rs.map (mapT f)) = (C.after rs).map gσ gρ := by
  induction rs using snoc_induction with
  | nil => simp [after_nil, Consumer.start, Run.map, h.init]
  | snoc rs r ih => rw [List.map_append, List.map_singleton, after_snoc, after_snoc, ih, feedRun_map C f gσ gρ h]

theorem result_map (C : Consumer σ ρ) (f : Nat → Nat) (gσ : σ → σ) (gρ : ρ → ρ)
    (h : Equivariant C f gσ gρ) (rs : List Tagged) :
    C.result (rs.map (mapT f)) = gρ (C.result rs) := by
  unfold Consumer.result
  rw [after_map C f gσ gρ h]
  cases C.after rs with
  | running s c => exact h.close s
  | returned x => rfl

theorem run_map_flags (gσ : σ → σ) (gρ : ρ → ρ) (run : Run σ ρ) :
    (run.map gσ gρ).isReturned = run.isReturned ∧ (run.map gσ gρ).cancelled = run.cancelled := by
  cases run <;> exact ⟨rfl, rfl⟩

theorem upTo_equivariant (n : Nat) (allowed : Int) (f : Nat → Nat) :
    Equivariant (upTo n allowed) f (UpToSt.mapErr f) (Many.mapErr f) where
  init := rfl
  recv := by
    intro s r
    obtain ⟨i, m, e⟩ := r
    cases e with
    | none => rfl
    | some e =>
      simp only [upTo, mapT, Resp.mapErr, Option.map_some, UpToSt.mapErr, Step.map]
      cases s.firstErr <;> rfl
  close := by
    intro s
    simp only [upTo, UpToSt.mapErr, Many.mapErr]
    split
    · cases s.firstErr <;> rfl
    · rfl

theorem fast_equivariant (f : Nat → Nat) :
    Equivariant fast f (Option.map (mapT f)) (Single.mapErr f) where
  init := rfl
  recv := by
    intro s r
    obtain ⟨i, m, e⟩ := r
    cases e with
    | none => rfl
    | some e => cases s <;> rfl
  close := by
    intro s
    cases s with
    | none => rfl
    | some r =>
      obtain ⟨i, m, e⟩ := r
      cases e <;> rfl

theorem race_equivariant (f : Nat → Nat) :
    Equivariant race f id (Single.mapErr f) where
  init := rfl
  recv := by
    intro s r
    obtain ⟨i, m, e⟩ := r
    cases e <;> rfl
  close := by intro s; rfl

theorem oneLoop_map (f : Nat → Nat) (outs : List Resp) (i : Nat) (fe : Option Nat) :
    oneLoop i (fe.map f) (outs.map (Resp.mapErr f)) = ((oneLoop i fe outs).1.mapErr f, (oneLoop i fe outs).2) := by
  induction outs generalizing i fe with
  | nil =>
    simp only [List.map_nil, oneLoop, Single.mapErr]
    cases fe <;> rfl
  | cons r rs ih =>
    obtain ⟨m, e⟩ := r
    cases e with
    | none => rfl
    | some e =>
      simp only [List.map_cons, Resp.mapErr, Option.map_some, oneLoop]
      have : (if i = 0 then some (f e) else fe.map f) = (if i = 0 then some e else fe).map f := by
        split <;> rfl
      rw [this]
      exact ih (i + 1) _

theorem singleResult_mapErr (f : Nat → Nat) (n : Nat) (s : Single) :
    singleResult n (s.mapErr f) = (singleResult n s).mapErr f := rfl

end ScVerif.C17
