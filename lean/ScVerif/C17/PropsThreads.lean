import ScVerif.C17.LogLemmas
import ScVerif.C17.QuiescenceLemmas
import ScVerif.C17.Props
/-!
# C17 — property theorems about `executeEach`'s goroutines, for EVERY schedule

`exec C (Config.spawn C behs) sched`: the threads of one call (members with arbitrary, possibly cancellation-aware
behaviours `behs`, the closer, the consumer loop `C`, the caller cancelling its context) under the interleaving `sched`.
-/
namespace ScVerif.C17

/-- Under every schedule the call returns what the consumer loop computes from the responses
it took, in the order they were sent (`C.result`; `Props.lean` says what that is per strategy); returned from inside
the loop, nothing sent later can change it; returned at the close, it waited for all members.  The members' context is
cancelled exactly if the caller cancelled, the call has returned (deferred `cancelFunc()`), or the loop called
`cancelFunc()` on a response handled so far. -/
theorem C17_threads_refine (C : Consumer σ ρ) (behs : List Beh) (sched : List Tid) :
    let c := exec C (Config.spawn C behs) sched
    (∀ x b, c.cons = .returned x b →
        x = C.result (c.hist.take c.taken)
        ∧ (b = false → ∀ later, C.result (c.hist.take c.taken ++ later) = x)
        ∧ (b = true → c.taken = c.hist.length ∧ c.members.all MPc.isDone = true ∧ c.hist.length = behs.length))
    ∧ c.cancelled = (c.envCancelled || c.consReturned || (C.after (c.hist.take c.handled)).cancelled) := by
  intro c
  have hinv : Inv C behs behs.length c := inv_exec C behs behs.length sched
  refine ⟨fun x b hx => ?_, inv_cancelled hinv⟩
  obtain ⟨hres, hin, _⟩ := inv_returned hinv hx
  exact ⟨hres.symm, fun hb later => result_stable C _ later x (hin hb), fun hb => inv_byClose hinv (hb ▸ hx)⟩

/-- ExecuteUpTo (All / Most / Any) only ever returns at the close, i.e. after every member
goroutine has ended, and (budget ≥ 0) cancels when the budget is first exceeded. -/
theorem C17_upTo_threads (allowed : Int) (behs : List Beh) (sched : List Tid) :
    let C := upTo behs.length allowed
    let c := exec C (Config.spawn C behs) sched
    (∀ x b, c.cons = .returned x b → b = true ∧ c.members.all MPc.isDone = true)
    ∧ (0 ≤ allowed → c.cancelled =
        (c.envCancelled || c.consReturned || decide ((failuresT (c.hist.take c.handled) : Int) > allowed))) := by
  intro C c
  have hinv : Inv C behs behs.length c := inv_exec C behs behs.length sched
  refine ⟨fun x b hx => ?_, fun h => by rw [(C17_threads_refine C behs sched).2, upTo_after_cancelled_nonneg allowed h]⟩
  obtain ⟨hb, _, _, hd⟩ := (returned_spec hinv (histInv_exec C behs behs.length sched) hx).2.2 (by rw [upTo_after]; rfl)
  exact ⟨hb, hd⟩

/-- The same for every budget, negative ones included. -/
theorem C17_upTo_threads_cancel (allowed : Int) (behs : List Beh) (sched : List Tid) :
    let C := upTo behs.length allowed
    let c := exec C (Config.spawn C behs) sched
    c.cancelled = (c.envCancelled || c.consReturned
      || decide (0 < failuresT (c.hist.take c.handled) ∧ (failuresT (c.hist.take c.handled) : Int) > allowed)) := by
  intro C c
  rw [(C17_threads_refine C behs sched).2, C17_upTo_cancel]

/-- Whatever the consumer did (returning after the first response and never receiving again
included): no goroutine of `executeEach` is ever parked for ever, and at most `3n+2` steps of these goroutines, under any
scheduling of them, end them all. -/
theorem C17_goroutines_end (C : Consumer σ ρ) (behs : List Beh) (sched : List Tid) :
    let c := exec C (Config.spawn C behs) sched
    ((∀ t : Tid, t.spawned = true → step C c t = none) → c.spawnedDone = true)
    ∧ (∀ t c', t.spawned = true → step C c t = some c' → c'.pending + 1 = c.pending)
    ∧ (∀ t c', t.spawned = false → step C c t = some c' → c'.pending = c.pending)
    ∧ c.pending ≤ 3 * behs.length + 2
    ∧ (c.pending = 0 ↔ c.spawnedDone = true) := by
  intro c
  have hinv : Inv C behs behs.length c := inv_exec C behs behs.length sched
  refine ⟨spawned_stuck_done hinv (Nat.le_refl _), ?_, ?_, ?_, ?_⟩
  · intro t c' ht hs
    simpa [ht] using pending_step (moves_of_step hs)
  · intro t c' ht hs
    simpa [ht] using pending_step (moves_of_step hs)
  · have := pending_le c
    have := hinv.len
    omega
  · exact pending_zero_iff c

/-- What the consumer can ever receive: at most one response per member, each the tagged member's
own; once every member goroutine has ended, the members' responses in some completion order - the shape
(`arrivals outs order`) over which the theorems of `Props.lean` are stated. -/
theorem C17_channel_log (C : Consumer σ ρ) (behs : List Beh) (sched : List Tid) :
    let c := exec C (Config.spawn C behs) sched
    let outs := c.members.map fun m => m.resp.getD default
    let order := c.hist.map (·.1)
    order.Nodup
    ∧ (∀ i r, (i, r) ∈ c.hist → ∃ b, behs[i]? = some b ∧ (r = b.normal ∨ b.onCancel = some r))
    ∧ (c.members.all MPc.isDone = true →
        outs.length = behs.length ∧ order.Perm (List.range outs.length) ∧ c.hist = arrivals outs order) := by
  intro c outs order
  have hh : HistInv c := histInv_exec C behs behs.length sched
  have hinv : Inv C behs behs.length c := inv_exec C behs behs.length sched
  exact ⟨hh.nodup, fun i r hin => hinv.hbehs ▸ hist_own hh hin,
    fun hdone => ⟨by simp [outs, hinv.len], hist_arrivals hh hdone⟩⟩

/-- Under every schedule the value ExecuteUpTo returns is the one `C17_upTo` describes for
what the members actually returned and the order in which their responses were sent. -/
theorem C17_upTo_end_to_end (allowed : Int) (behs : List Beh) (sched : List Tid) :
    let C := upTo behs.length allowed
    let c := exec C (Config.spawn C behs) sched
    let outs := c.members.map fun m => m.resp.getD default
    let order := c.hist.map (·.1)
    ∀ x b, c.cons = .returned x b →
      order.Perm (List.range outs.length)
      ∧ x.err = (if (failures outs : Int) > allowed then (firstFailure (arrivals outs order)).map Err.member else none)
      ∧ x.results = outs.map (·.msg) := by
  intro C c outs order x b hx
  have hinv : Inv C behs behs.length c := inv_exec C behs behs.length sched
  have hh : HistInv c := histInv_exec C behs behs.length sched
  obtain ⟨hres, _, hclose⟩ := returned_spec hinv hh hx
  -- UpTo never returns from inside its loop
  obtain ⟨_, htake, _, hdone⟩ := hclose (by rw [upTo_after]; rfl)
  obtain ⟨hperm, hhist⟩ := hist_arrivals hh hdone
  have holen : outs.length = behs.length := by simp [outs, hinv.len]
  have hspec := C17_upTo allowed outs order hperm
  have e2 : upTo outs.length allowed = C := congrArg (fun n => upTo n allowed) holen
  rw [htake, hhist, ← e2] at hres
  exact ⟨hperm, hres ▸ hspec.1, hres ▸ hspec.2.1⟩

/-- Why the buffer matters (`cap = 0`: the code before 649a682): Race over two succeeding members
returns, and member 1's goroutine can never send.  `C17_goroutines_end` excludes this for `Config.spawn`. -/
theorem C17_unbuffered_would_leak :
    ∃ sched : List Tid,
      let c := exec race (Config.init race [⟨⟨some 1, none⟩, none⟩, ⟨⟨some 2, none⟩, none⟩] 0) sched
      c.allReturned = true ∧ c.consReturned = true ∧ c.spawnedDone = false
      ∧ (∀ t : Tid, t.spawned = true → (step race c t).isNone = true) :=
  ⟨[.member 0, .member 1, .member 0, .consumer, .consumer, .member 0], rfl, rfl, rfl,
    spawned_stuck_of_quiescent (by decide +kernel) rfl⟩

/-- ... and the same members, the same schedule, on the channel the code makes: member 1 can send. -/
example :
    let c := exec race (Config.spawn race [⟨⟨some 1, none⟩, none⟩, ⟨⟨some 2, none⟩, none⟩])
      [.member 0, .member 1, .member 0, .consumer, .consumer, .member 0]
    c.consReturned = true ∧ (step race c (.member 1)).isSome = true := by decide +kernel

end ScVerif.C17
