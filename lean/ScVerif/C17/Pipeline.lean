import ScVerif.C17.Adapters
/-!
# C17 — what runs on behalf of the members of a Group subscription (`PullX` over the in-process client)

`(*Group).PullX` (pkg/trait/onoffpb/group.go, pkg/trait/lightpb/group.go) hands `group.Execute` one
member closure per named device.  With the client the library provides for `impl` (`WrapApi`, i.e.
`wrap.ServerToClient`) every member closure opens a stream whose other end is a *handler goroutine*
running the device's `PullX`; the two meet on the unbuffered channel `serverSend` of pkg/wrap/stream.go:

```
device handler i        wrap stream i                    member closure i                  group loop
server.Send(v)  ─────►  SendMsg: select {                stream.Recv(): select {           select {
                          <-ctx.Done(): ctx error          <-ctx.Done(): ctx error           err := <-returnErr: return err
                          serverSend <- v: nil }           v := <-serverSend }               msg := <-memberValues: reduce, dedup,
                                                         select {                                  server.Send(...)  (may park)
                                                           memberValues <- {i, v}                  on error: cancelFunc(); <-returnErr
                                                           <-ctx.Done(): return ctx.Err() }   }
```

The property's last clause - *every goroutine it starts ends once its members return* - read for a Group
whose members are devices behind `WrapApi` includes the handler goroutines: they are started for the
members and only the cancellation of the member's context can end them.  This file models the four
kinds of thread and the three rendezvous between them as a small-step system; `Execute` itself is
abstracted to what `Threads.lean` proves about it (it returns once `retAfter` members have returned -
all of them for All/Most/Any/Fast, one for Race - cancels its context when more than `allowed` members
have failed, and cancels it when it returns).  A Pull member never succeeds (its stream only ever ends
with an error), so Fast waits for all.  Strategy One calls its members one after the other: `Cfg.initSeq` and
the step `mStart i` (the member's turn comes when the one before it has failed; `ExecuteOne` never cancels:
`allowed = retAfter = n`; a member whose turn comes after the cancellation is refused by the in-process client).

`watch = true` is the code: `SendMsg` selects on `ctx.Done()` and the hand-over.  `watch = false` is the
variant with an up-front `ctx.Err()` check and a bare send (seeded change 15), kept for the witness
theorems.
-/
namespace ScVerif.C17.Pipe
open ScVerif.C17

/-- the device handler behind `WrapApi`: waiting for its next report (or its context), inside
`server.Send(v)` = `(*serverStream).SendMsg`, returned -/
inductive HSt (V : Type) where
  | idle | sending (v : V) | ended
deriving DecidableEq, Repr

/-- the member closure of `pullXActions`: not called yet (strategy One runs its members one after the other;
the handler of such a lane does not exist: `HSt.ended`), in `stream.Recv()`, in the select that hands `v` to
the loop, returned -/
inductive MSt (V : Type) where
  | notStarted | recv | holding (v : V) | ended
deriving DecidableEq, Repr

/-- the loop of `PullX`: in its select, inside `server.Send`, in `<-returnErr` after a failed Send,
returned -/
inductive LSt where
  | selecting | inSend | draining | returned
deriving DecidableEq, Repr

def HSt.isEnded : HSt V → Bool
  | .ended => true | _ => false
def MSt.isEnded : MSt V → Bool
  | .ended => true | _ => false
def MSt.isNotStarted : MSt V → Bool
  | .notStarted => true | _ => false

structure Lane (V : Type) where
  pend : List (Option V)   -- what the device will do next: report `some v`, or fail (`none`: its handler returns an error)
  h : HSt V
  m : MSt V
  acc : Nat                -- how many `server.Send`s of the device have returned nil
deriving DecidableEq

structure Cfg (V : Type) where
  cancelled : Bool          -- the context of the subscription (parent of every member's context)
  lanes : List (Lane V)
  execDone : Bool           -- `Execute` has returned; `returnErr` holds its error
  loop : LSt
  st : PullSt V             -- `lastChange`, `memberChanges`, what has been forwarded
  log : List (Nat × V)      -- ghost: the messages the loop has taken from `memberValues`, oldest first
deriving DecidableEq

structure Params (V : Type) where
  watch : Bool
  allowed : Nat
  retAfter : Nat
  red : List (Option V) → Option V

inductive Lbl (V : Type) where
  | mStart (i : Nat)    -- strategy One: member i's turn has come (the one before it has failed): it opens its stream
  | hStart (i : Nat)    -- handler i takes its next instruction: enters SendMsg / returns an error
  | hCtx (i : Nat)      -- handler i finds its context done
  | hand (i : Nat)      -- rendezvous on serverSend: SendMsg of handler i returns nil, Recv of member i returns v
  | mCtx (i : Nat)      -- member i finds its context done (in Recv or in the hand-over select)
  | mEof (i : Nat)      -- Recv of member i returns the error its handler ended with
  | give (i : Nat)      -- rendezvous on memberValues: the loop takes member i's message
  | execCancel          -- Execute: more than `allowed` members have failed: cancelFunc()
  | execRet             -- Execute returns (deferred cancelFunc), its error goes to returnErr
  | loopErr             -- the loop takes returnErr and returns
  -- the environment: the devices and the subscriber
  | poke (i : Nat) (x : Option V)
  | sendOk | sendFail | cancel
deriving DecidableEq

def Lbl.internal : Lbl V → Bool
  | .poke .. | .sendOk | .sendFail | .cancel => false
  | _ => true

/-- the strategies that run their members side by side: at the first point of quiescence every member closure
is in `Recv` and every handler waits -/
def Cfg.init (n : Nat) : Cfg V :=
  ⟨false, List.replicate n ⟨[], .idle, .recv, 0⟩, false, .selecting, pullInit n, []⟩

/-- strategy One: no member has been called yet -/
def Cfg.initSeq (n : Nat) : Cfg V :=
  ⟨false, List.replicate n ⟨[], .ended, .notStarted, 0⟩, false, .selecting, pullInit n, []⟩

/-- one step on lane `i` -/
def Cfg.onLane (c : Cfg V) (i : Nat) (f : Lane V → Option (Lane V)) : Option (Cfg V) :=
  match c.lanes[i]? with
  | some l => (f l).map fun l' => { c with lanes := c.lanes.set i l' }
  | none => none

def Cfg.endedCount (c : Cfg V) : Nat := c.lanes.countP fun l => l.m.isEnded

def hStartLane (watch cancelled : Bool) (l : Lane V) : Option (Lane V) :=
  match l.h, l.pend with
  | .idle, some v :: rest =>
    -- the variant's up-front check: `if s.ctx.Err() != nil { return s.ctxErr() }`; the device returns the error
    if !watch && cancelled then some { l with h := .ended, pend := rest }
    else some { l with h := .sending v, pend := rest }
  | .idle, none :: rest => some { l with h := .ended, pend := rest }
  | _, _ => none

def hCtxLane (watch : Bool) (l : Lane V) : Option (Lane V) :=
  match l.h with
  | .idle => some { l with h := .ended }
  | .sending _ => if watch then some { l with h := .ended } else none
  | .ended => none

def handLane (l : Lane V) : Option (Lane V) :=
  match l.h, l.m with
  | .sending v, .recv => some { l with h := .idle, m := .holding v, acc := l.acc + 1 }
  | _, _ => none

def mCtxLane (l : Lane V) : Option (Lane V) :=
  match l.m with
  | .ended => none
  | .notStarted => none
  | _ => some { l with m := .ended }

/-- `ExecuteOne` calls member `i`: `s.impl.PullX(ctx, …)` - the in-process client refuses a context that has
ended (`NewStream`: `if err := ctx.Err(); err != nil { return nil, … }`, no handler is started), otherwise it
starts the handler goroutine and the member closure goes into `Recv` -/
def mStartLane (cancelled : Bool) (l : Lane V) : Option (Lane V) :=
  match l.m with
  | .notStarted => some (if cancelled then { l with h := .ended, m := .ended } else { l with h := .idle, m := .recv })
  | _ => none

/-- `ExecuteOne`'s loop has reached member `i`: the members before it have returned (all with an error: a Pull
member never succeeds) -/
def Cfg.prevEnded (c : Cfg V) : Nat → Bool
  | 0 => true
  | j + 1 => match c.lanes[j]? with
    | some p => p.m.isEnded
    | none => false

def mEofLane (l : Lane V) : Option (Lane V) :=
  match l.h, l.m with
  | .ended, .recv => some { l with m := .ended }
  | _, _ => none

def step [DecidableEq V] (P : Params V) (c : Cfg V) : Lbl V → Option (Cfg V)
  | .mStart i => if c.prevEnded i then c.onLane i (mStartLane c.cancelled) else none
  | .hStart i => c.onLane i (hStartLane P.watch c.cancelled)
  | .hCtx i => if c.cancelled then c.onLane i (hCtxLane P.watch) else none
  | .hand i => c.onLane i handLane
  | .mCtx i => if c.cancelled then c.onLane i mCtxLane else none
  | .mEof i => c.onLane i mEofLane
  | .give i =>
    match c.lanes[i]? with
    | some l =>
      match l.m, c.loop with
      | .holding v, .selecting =>
        let st' := pullFeed P.red c.st (i, [v])
        some { c with lanes := c.lanes.set i { l with m := .recv }, st := st', log := c.log ++ [(i, v)],
                      loop := if st'.sent.length = c.st.sent.length then .selecting else .inSend }
      | _, _ => none
    | none => none
  | .execCancel =>
    if !c.cancelled && !c.execDone && decide (P.allowed < c.endedCount) then some { c with cancelled := true } else none
  | .execRet =>
    if !c.execDone && decide (P.retAfter ≤ c.endedCount) then some { c with execDone := true, cancelled := true } else none
  | .loopErr =>
    if c.execDone && (c.loop == .selecting || c.loop == .draining) then some { c with loop := .returned, cancelled := true }
    else none
  | .poke i x => c.onLane i fun l => some { l with pend := l.pend ++ [x] }
  | .sendOk => if c.loop == .inSend then some { c with loop := .selecting } else none
  | .sendFail => if c.loop == .inSend then some { c with loop := .draining, cancelled := true } else none
  | .cancel => some { c with cancelled := true }

/-- a schedule: every label must be enabled when its turn comes -/
def run [DecidableEq V] (P : Params V) : Cfg V → List (Lbl V) → Option (Cfg V)
  | c, [] => some c
  | c, l :: ls => match step P c l with
    | some c' => run P c' ls
    | none => none

/-! ## the measure: units of work the pipeline can still do without its environment -/

def hW : HSt V → Nat
  | .idle => 1 | .sending _ => 4 | .ended => 0
def mW : MSt V → Nat
  | .notStarted => 3 | .recv => 1 | .holding _ => 3 | .ended => 0
def lW : LSt → Nat
  | .selecting => 2 | .inSend => 3 | .draining => 1 | .returned => 0
def laneW (l : Lane V) : Nat := 4 * l.pend.length + hW l.h + mW l.m
def lanesW (ls : List (Lane V)) : Nat := (ls.map laneW).sum
def Cfg.work (c : Cfg V) : Nat :=
  lanesW c.lanes + (if c.cancelled then 0 else 1) + (if c.execDone then 0 else 1) + lW c.loop

/-- everything started for the members has ended -/
def Cfg.allEnded (c : Cfg V) : Prop := ∀ l ∈ c.lanes, l.h = .ended ∧ l.m = .ended

/-- the number of threads started for the members that have not ended -/
def Cfg.left (c : Cfg V) : Nat :=
  (c.lanes.countP fun l => !l.h.isEnded) + (c.lanes.countP fun l => !l.m.isEnded)

/-! ## for the driver: every point of quiescence the internal steps can reach -/

def internalLabels (n : Nat) : List (Lbl V) :=
  (List.range n).flatMap (fun i => [.mStart i, .hStart i, .hCtx i, .hand i, .mCtx i, .mEof i, .give i])
    ++ [.execCancel, .execRet, .loopErr]

def succs [DecidableEq V] (P : Params V) (c : Cfg V) : List (Cfg V) :=
  (internalLabels c.lanes.length).filterMap (step P c)

/-! The driver's exploration.  It is proved sound (`settle_sound` in `PipelineSettle.lean`, = `C17_pipe_settle_sound`) and complete
(`mem_settle` in `PipelineSettle.lean`, `reduced_reaches` in `PipelineReduce.lean`, `C17_pipe_settle_complete`): the argument below is the theorem
`Pipe.diamond`.  Two economies, both invisible in what is observed:
the ghost `log` is dropped, and in a *calm* state - not cancelled, `Execute` running, no handler and no member
ended, no failure instruction waiting anywhere - the steps `hStart i` / `hand i` are taken at once when enabled:
in a calm state no thread of the pipeline can cancel the context or end (that needs a cancelled context, an
ended handler of a started lane or a failure instruction), so nothing can disable them or change what they do, and they commute
with every other enabled step (they touch lane `i`'s handler and its member in `Recv` only). -/

def Cfg.calm (c : Cfg V) : Bool :=
  !c.cancelled && !c.execDone
    && c.lanes.all fun l => (!l.h.isEnded || l.m.isNotStarted) && !l.m.isEnded && l.pend.all Option.isSome

def eagerLabels (n : Nat) : List (Lbl V) :=
  (List.range n).flatMap fun i => [.hStart i, .hand i]

def succsD [DecidableEq V] (P : Params V) (c : Cfg V) : List (Cfg V) :=
  let drop := fun (c : Cfg V) => { c with log := [] }
  let eager := if c.calm then (eagerLabels c.lanes.length).findSome? (step P c) else none
  match eager with
  | some c' => [drop c']
  | none => ((internalLabels c.lanes.length).filterMap (step P c)).map drop

/-- breadth first, one layer per unit of work: `front` = the states still moving, `acc` = the quiescent ones -/
def settleLayers [DecidableEq V] (P : Params V) : Nat → List (Cfg V) → List (Cfg V) → List (Cfg V)
  | 0, _, acc => acc
  | k + 1, front, acc =>
    let next := front.map fun c => (c, succsD P c)
    let q := (next.filter fun x => x.2.isEmpty).map (·.1)
    let nq := next.flatMap (·.2)
    if nq.isEmpty then (q ++ acc).eraseDups
    else settleLayers P k nq.eraseDups ((q ++ acc).eraseDups)

def maxWork (cs : List (Cfg V)) : Nat := cs.foldl (fun m c => max m c.work) 0

/-- all quiescent states reachable from the states `cs` by internal steps -/
def settle [DecidableEq V] (P : Params V) (cs : List (Cfg V)) : List (Cfg V) :=
  settleLayers P (maxWork cs + 1) (cs.map fun c => { c with log := [] }) []

end ScVerif.C17.Pipe
