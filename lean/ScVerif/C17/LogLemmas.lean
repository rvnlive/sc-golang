import ScVerif.C17.ThreadLemmas
/-!
# C17 — what is on the channel, and whose it is

`HistInv`: which responses are in the log; `Late`: what members answer once the context is cancelled.
-/
namespace ScVerif.C17

/-- The channel log holds exactly the responses of the members past their send, each member once, and every
response a member holds is one of its own two (`C17_channel_log` is this for the states of a call). -/
structure HistInv (c : Config σ ρ) : Prop where
  inLog : ∀ x ∈ c.hist, ∃ m, c.members[x.1]? = some m ∧ m.hasSent = true ∧ m.resp = some x.2
  sentIn : ∀ (i : Nat) (m : MPc), c.members[i]? = some m → m.hasSent = true → ∀ r, m.resp = some r → (i, r) ∈ c.hist
  nodup : (c.hist.map (·.1)).Nodup
  own : ∀ (i : Nat) (m : MPc), c.members[i]? = some m → ∀ r, m.resp = some r →
    ∃ b : Beh, c.behs[i]? = some b ∧ (r = b.normal ∨ b.onCancel = some r)

theorem histInv_resp {c : Config σ ρ} (h : HistInv c) {i : Nat} {r : Resp} (hin : (i, r) ∈ c.hist) :
    ∃ m, c.members[i]? = some m ∧ m.resp = some r := by
  obtain ⟨m, hm, _, hr⟩ := h.inLog _ hin
  exact ⟨m, hm, hr⟩

theorem histInv_init (C : Consumer σ ρ) (behs : List Beh) (cap : Nat) : HistInv (Config.init C behs cap) := by
  exact ⟨nofun, fun i m hm hs => (by rw [init_members_start hm] at hs; cases hs), by simp [Config.init],
    fun i m hm r hr => (by rw [init_members_start hm] at hr; cases hr)⟩

theorem respond_own (b : Beh) (k : Bool) : b.respond k = b.normal ∨ b.onCancel = some (b.respond k) := by
  unfold Beh.respond
  cases k
  · exact Or.inl rfl
  · cases hoc : b.onCancel <;> simp

theorem histInv_step {C : Consumer σ ρ} {c c' : Config σ ρ} {t : Tid} (h : HistInv c) (m : Moves C c t c') :
    HistInv c' := by
  cases m with
  | @run i b hm hb =>
    exact {
      inLog := fun x hx => exists_getElem?_set (h.inLog x hx) fun a ha hp => by rw [hm] at ha; cases ha; cases hp.1
      sentIn := forall_getElem?_set h.sentIn nofun
      nodup := h.nodup
      own := forall_getElem?_set h.own fun r hr => ⟨b, hb, by cases hr; exact respond_own b c.cancelled⟩ }
  | @send i r hm hroom =>
    -- member `i` is not in the log yet
    have hnot : ∀ x ∈ c.hist, x.1 ≠ i := fun x hx e => by
      obtain ⟨m, hxm, hs, _⟩ := h.inLog x hx
      rw [e, hm] at hxm; cases hxm; cases hs
    refine {
      inLog := fun x hx => ?_
      sentIn := forall_getElem?_set (fun j m hj hs r' hr => List.mem_append_left _ (h.sentIn j m hj hs r' hr))
        fun _ r' hr => by cases hr; simp
      nodup := ?_
      own := forall_getElem?_set h.own (h.own i (.ran r) hm) }
    · rcases List.mem_append.mp hx with hx | hx
      · exact exists_getElem?_set (h.inLog x hx) fun a ha hp => by rw [hm] at ha; cases ha; cases hp.1
      · rw [List.mem_singleton.mp hx]
        exact ⟨.sent r, List.getElem?_set_self (lt_of_getElem? hm), rfl, rfl⟩
    · simp only [List.map_append, List.map_cons, List.map_nil]
      rw [List.nodup_append]
      refine ⟨h.nodup, by simp, fun a ha b hb hab => ?_⟩
      obtain ⟨x, hx, rfl⟩ := List.mem_map.mp ha
      rw [List.mem_singleton.mp hb] at hab
      exact hnot x hx hab
  | @done i r hm =>
    exact {
      inLog := fun x hx => exists_getElem?_set (h.inLog x hx) fun a ha hp => by rw [hm] at ha; cases ha; exact hp
      sentIn := forall_getElem?_set h.sentIn (h.sentIn i (.sent r) hm)
      nodup := h.nodup
      own := forall_getElem?_set h.own (h.own i (.sent r) hm) }
  | _ => exact ⟨h.inLog, h.sentIn, h.nodup, h.own⟩

theorem hist_arrivals {c : Config σ ρ} (hh : HistInv c) (hdone : c.members.all MPc.isDone = true) :
    (c.hist.map (·.1)).Perm (List.range (c.members.map fun m => m.resp.getD default).length)
    ∧ c.hist = arrivals (c.members.map fun m => m.resp.getD default) (c.hist.map (·.1)) := by
  constructor
  · -- both lists are duplicate-free: the members past their send are all of them
    refine (List.perm_ext_iff_of_nodup hh.nodup List.nodup_range).mpr fun a => ?_
    rw [List.mem_range, List.length_map]
    constructor
    · intro ha
      obtain ⟨x, hx, rfl⟩ := List.mem_map.mp ha
      obtain ⟨m, hm, _⟩ := hh.inLog x hx
      exact lt_of_getElem? hm
    · intro ha
      have hm : c.members[a]? = some c.members[a] := List.getElem?_eq_getElem ha
      have hd := isDone_of_all_done _ _ _ hm hdone
      cases hpc : c.members[a] with
      | done r =>
        rw [hpc] at hm
        exact List.mem_map.mpr ⟨(a, r), hh.sentIn a _ hm rfl r rfl, rfl⟩
      | _ => rw [hpc] at hd; cases hd
  · simp only [arrivals, List.map_map]
    conv => lhs; rw [← List.map_id c.hist]
    refine List.map_congr_left fun x hx => ?_
    obtain ⟨m, hm, _, hmr⟩ := hh.inLog x hx
    simp [List.getD_eq_getElem?_getD, List.getElem?_map, hm, hmr]

theorem hist_own {c : Config σ ρ} (hh : HistInv c) {i : Nat} {r : Resp} (hin : (i, r) ∈ c.hist) :
    ∃ b : Beh, c.behs[i]? = some b ∧ (r = b.normal ∨ b.onCancel = some r) := by
  obtain ⟨m, hm, hmr⟩ := histInv_resp hh hin
  exact hh.own i m hm r hmr

/-- What a returned call returned, for any consumer, capacity and state with the two invariants: the loop's verdict on the
responses taken, each of them the tagged member's own; and a call whose loop is still running on what it took returned
at the close, having taken one response per member. -/
theorem returned_spec {C : Consumer σ ρ} {behs : List Beh} {cap : Nat} {c : Config σ ρ} {x : ρ} {b : Bool}
    (hinv : Inv C behs cap c) (hh : HistInv c) (hx : c.cons = .returned x b) :
    x = C.result (c.hist.take c.taken)
    ∧ (∀ r ∈ c.hist.take c.taken, ∃ bh, behs[r.1]? = some bh ∧ (r.2 = bh.normal ∨ bh.onCancel = some r.2))
    ∧ ((C.after (c.hist.take c.taken)).isReturned = false →
        b = true ∧ c.hist.take c.taken = c.hist ∧ c.hist.length = behs.length ∧ c.members.all MPc.isDone = true) := by
  obtain ⟨hres, hin, _⟩ := inv_returned hinv hx
  refine ⟨hres.symm, fun r hr => hinv.hbehs ▸ hist_own hh (List.mem_of_mem_take hr), fun hrun => ?_⟩
  cases b with
  | false => rw [hin rfl] at hrun; cases hrun
  | true =>
    obtain ⟨h1, h2, h3⟩ := inv_byClose hinv hx
    exact ⟨rfl, by rw [h1, List.take_length], h3, h2⟩

theorem histInv_exec (C : Consumer σ ρ) (behs : List Beh) (cap : Nat) (sched : List Tid) :
    HistInv (exec C (Config.init C behs cap) sched) :=
  exec_induction histInv_step sched (histInv_init C behs cap)

theorem hist_append_only (C : Consumer σ ρ) (more : List Tid) (c : Config σ ρ) :
    ∃ ext, (exec C c more).hist = c.hist ++ ext := by
  refine exec_induction (P := fun d => ∃ ext, d.hist = c.hist ++ ext) ?_ more ⟨[], by simp⟩
  rintro d t d' ⟨ext, hd⟩ m
  cases m with
  | @send i r _ _ => exact ⟨ext ++ [(i, r)], by simp [hd]⟩
  | _ => exact ⟨ext, hd⟩

/-- The members' context was already cancelled in `c0` and `c` is a later state: every member that had not run in `c0`
has either still not run, or responded as it does to a cancelled context (`b.respond true`). -/
structure Late (c0 c : Config σ ρ) : Prop where
  canc : c.cancelled = true
  behs : c.behs = c0.behs
  late : ∀ (i : Nat) (m : MPc), c.members[i]? = some m → c0.members[i]? = some .start →
    m = .start ∨ ∃ b : Beh, c0.behs[i]? = some b ∧ m.resp = some (b.respond true)

theorem late_refl (c0 : Config σ ρ) (h : c0.cancelled = true) : Late c0 c0 :=
  ⟨h, rfl, fun i m hm h0 => Or.inl (by rw [hm] at h0; injection h0)⟩

theorem late_step {C : Consumer σ ρ} {c0 c c' : Config σ ρ} {t : Tid} (h : Late c0 c) (m : Moves C c t c') :
    Late c0 c' := by
  cases m with
  | @run i b hm hb =>
    exact ⟨h.canc, h.behs,
      forall_getElem?_set h.late fun _ => Or.inr ⟨b, by rw [← h.behs]; exact hb, by simp [MPc.resp, h.canc]⟩⟩
  -- the member keeps the response it has
  | @send i _ hm _ | @done i _ hm =>
    exact ⟨h.canc, h.behs, forall_getElem?_set h.late fun h0 => (h.late i _ hm h0).imp nofun id⟩
  | handle _ _ => exact ⟨by simp [h.canc], h.behs, h.late⟩
  | seeClose _ _ _ | ret _ _ | env => exact ⟨rfl, h.behs, h.late⟩
  | _ => exact ⟨h.canc, h.behs, h.late⟩

theorem late_hist {c0 c : Config σ ρ} (hl : Late c0 c) (hh : HistInv c) {i : Nat} {r : Resp}
    (h0 : c0.members[i]? = some .start) (hin : (i, r) ∈ c.hist) : ∃ b : Beh, c0.behs[i]? = some b ∧ r = b.respond true := by
  obtain ⟨m, hm, hmr⟩ := histInv_resp hh hin
  rcases hl.late i m hm h0 with h | ⟨b, hb, hr⟩
  · rw [h] at hmr; cases hmr
  · exact ⟨b, hb, Option.some.inj (hmr.symm.trans hr)⟩

end ScVerif.C17
