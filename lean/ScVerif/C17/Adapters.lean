import ScVerif.C17.Model
/-!
# C17 — the Group adapters `pkg/trait/onoffpb/group.go` and `pkg/trait/lightpb/group.go`

What each RPC of a trait Group does with `group.Execute`'s results (the code as it is after the
`fix:` commit on the light reducer):

* `GetX` / `UpdateX`: `results, err := group.Execute(ctx, strategy, actions)`; an error is returned as
  it is, with no value; otherwise the value is `reduce(results)` - the non-nil results folded into a
  fresh message;
* `PullX`: every message of a member replaces that member's slot of `memberChanges`, and
  `reduceXChanges(memberChanges)` is forwarded (if it differs from the last one sent); the call returns
  `Execute`'s error.

The reducers:

* onoff (`reduceOnOff`, "max strategy"): an UNSPECIFIED accumulator takes the value, otherwise ON wins;
* light (`reduceBrightness(acc, v, n)`, "average strategy"): `acc` holds the average of `n` members,
  the new one is `(acc*n + v)/(n+1)`; `n` counts the members folded in so far.  (Before the fix the
  member's slot index was used for `n`: `lightReduceSlot`, kept for the witness theorem.)

States: 0 = UNSPECIFIED, 1 = ON, 2 = OFF.  Levels are rationals (the code computes in float32; the tie
uses levels for which every intermediate value is an integer, so float32 is exact there).
-/
namespace ScVerif.C17

/-! ## onoff -/

/-- `reduceOnOff(acc, v)` with both non-nil. -/
def onoffStep (acc v : Nat) : Nat := if acc = 0 then v else if v = 1 then 1 else acc

/-- one iteration of the loop in `(*onoffpb.Group).reduce`: nil results are skipped. -/
def onoffFeed (acc : Nat) (r : Option Nat) : Nat :=
  match r with
  | none => acc
  | some v => onoffStep acc v

/-- `(*onoffpb.Group).reduce(results)`: `val := new(traits.OnOff)`, nil results skipped. -/
def onoffReduce (rs : List (Option Nat)) : Nat := rs.foldl onoffFeed 0

/-- one iteration of the loop in `reduceOnOffChanges`: `val.OnOff` starts nil; the first value is copied. -/
def onoffFeedChanges (acc : Option Nat) (r : Option Nat) : Option Nat :=
  match r, acc with
  | none, a => a
  | some v, none => some v
  | some v, some a => some (onoffStep a v)

/-- `reduceOnOffChanges(arr)`. -/
def onoffReduceChanges (rs : List (Option Nat)) : Option Nat := rs.foldl onoffFeedChanges none

/-! ## light -/

/-- `reduceBrightness(acc, v, n)` with both non-nil: `(acc*n + v) / (n+1)`. -/
def lightStep (acc v : Rat) (n : Nat) : Rat := (acc * (n : Rat) + v) / ((n : Rat) + 1)

/-- one iteration of the loop in `(*lightpb.Group).reduce`: state = (`val.LevelPercent`, `n`). -/
def lightFeed (st : Rat × Nat) (r : Option Rat) : Rat × Nat :=
  match r with
  | none => st
  | some v => (lightStep st.1 v st.2, st.2 + 1)

/-- `(*lightpb.Group).reduce(results)`: `val := new(traits.Brightness)`, `n := 0`. -/
def lightReduce (rs : List (Option Rat)) : Rat := (rs.foldl lightFeed (0, 0)).1

/-- one iteration of the loop in `reduceBrightnessChanges`: state = (`val.Brightness`, `n`). -/
def lightFeedChanges (st : Option Rat × Nat) (r : Option Rat) : Option Rat × Nat :=
  match r, st.1 with
  | none, _ => st
  | some v, none => (some v, st.2 + 1)
  | some v, some a => (some (lightStep a v st.2), st.2 + 1)

/-- `reduceBrightnessChanges(arr)`. -/
def lightReduceChanges (rs : List (Option Rat)) : Option Rat := (rs.foldl lightFeedChanges (none, 0)).1

/-- The loop body before the fix: the slot index of the result was used as the number of members
averaged so far (state = (`val.LevelPercent`, slot index)). -/
def lightFeedSlot (st : Rat × Nat) (r : Option Rat) : Rat × Nat :=
  match r with
  | none => (st.1, st.2 + 1)
  | some v => (lightStep st.1 v st.2, st.2 + 1)

def lightReduceSlot (rs : List (Option Rat)) : Rat := (rs.foldl lightFeedSlot (0, 0)).1

/-! ## the RPCs -/

/-- `GetX` / `UpdateX`: `if err != nil { return nil, err }; return s.reduce(results), nil`. -/
def groupUnary (reduce : List (Option Nat) → α) (m : Many) : Option α × Option Err :=
  match m.err with
  | some e => (none, some e)
  | none => (some (reduce m.results), none)

/-- The value a message number stands for in the tie: onoff state `k-1`, light level `24*(k-1)`. -/
def onoffOf (k : Nat) : Nat := k - 1
def levelOf (k : Nat) : Rat := ((24 * (k - 1) : Nat) : Rat)

def onoffGet (m : Many) : Option Nat × Option Err :=
  groupUnary (fun rs => onoffReduce (rs.map (·.map onoffOf))) m

def lightGet (m : Many) : Option Rat × Option Err :=
  groupUnary (fun rs => lightReduce (rs.map (·.map levelOf))) m

/-- `memberChanges` of a Pull once the members in `started` have delivered their value `vals[i]`. -/
def memberChanges (n : Nat) (vals : List Nat) (started : List Nat) : List (Option Nat) :=
  (List.range n).map fun i => if started.contains i then some (vals.getD i 0) else none

def onoffPull (n : Nat) (vals started : List Nat) : Option Nat :=
  onoffReduceChanges ((memberChanges n vals started).map (·.map onoffOf))

def lightPull (n : Nat) (vals started : List Nat) : Option Rat :=
  lightReduceChanges ((memberChanges n vals started).map (·.map levelOf))

/-! ## the subscription loop of `PullX`

`for { select { case msg := <-memberValues: … } }`: a message of member `i` with no changes is
skipped; otherwise its last change replaces slot `i` of `memberChanges`, the slots are reduced, and
the result is forwarded unless it equals the last one (`proto.Equal(lastChange, newChange)`;
`lastChange` starts as the empty change, whose value is `none`). -/

structure PullSt (V : Type) where
  last : Option V                -- the value of `lastChange` (`none`: the empty change)
  slots : List (Option V)        -- `memberChanges`
  sent : List (Option V)         -- the values forwarded by `server.Send`, oldest first
deriving DecidableEq

def pullInit (n : Nat) : PullSt V := ⟨none, List.replicate n none, []⟩

/-- `memberChanges[msg.i] = endChange` for a message with changes `vs` (none: `continue`) -/
def slotStep (slots : List (Option V)) (ev : Nat × List V) : List (Option V) :=
  match ev.2.getLast? with
  | none => slots
  | some v => slots.set ev.1 (some v)

/-- one message of member `ev.1` carrying the changes `ev.2` -/
def pullFeed [DecidableEq V] (reduce : List (Option V) → Option V) (st : PullSt V) (ev : Nat × List V) : PullSt V :=
  match ev.2.getLast? with
  | none => st
  | some v =>
    let slots := st.slots.set ev.1 (some v)
    let new := reduce slots
    if st.last = new then { st with slots := slots }
    else { last := new, slots := slots, sent := st.sent ++ [new] }

def pullRun [DecidableEq V] (reduce : List (Option V) → Option V) (n : Nat) (evs : List (Nat × List V)) : PullSt V :=
  evs.foldl (pullFeed reduce) (pullInit n)

/-- the members' latest values: slot `i` = the last change of the last non-empty message of member `i` -/
def latest (n : Nat) (evs : List (Nat × List V)) : List (Option V) :=
  evs.foldl slotStep (List.replicate n none)

/-! ## the loop when a `server.Send` fails

`err := server.Send(…); if err != nil { cancelFunc(); <-returnErr; return err }`: the loop ends with
the `failAt`-th Send (0: no Send fails).  State: the loop's state, after how many member messages the
subscription ended (if it has), the number of messages handled. -/

def pullFeedFail [DecidableEq V] (reduce : List (Option V) → Option V) (failAt : Nat)
    (acc : PullSt V × Option Nat × Nat) (ev : Nat × List V) : PullSt V × Option Nat × Nat :=
  match acc with
  | (st, some k, i) => (st, some k, i)
  | (st, none, i) =>
    let st' := pullFeed reduce st ev
    if failAt ≠ 0 ∧ st.sent.length < failAt ∧ st'.sent.length = failAt then (st', some (i + 1), i + 1)
    else (st', none, i + 1)

def pullRunFail [DecidableEq V] (reduce : List (Option V) → Option V) (n failAt : Nat)
    (evs : List (Nat × List V)) : PullSt V × Option Nat × Nat :=
  evs.foldl (pullFeedFail reduce failAt) (pullInit n, none, 0)

end ScVerif.C17
