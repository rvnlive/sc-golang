import ScVerif.C17.AdapterLemmas
import ScVerif.C17.Props
/-!
# C17 — the Group adapters (`pkg/trait/onoffpb/group.go`, `pkg/trait/lightpb/group.go`): property theorems

What each RPC of a trait Group does with `group.Execute`'s results (model: `Adapters.lean`).  States: 0 = UNSPECIFIED,
1 = ON, 2 = OFF.
-/
namespace ScVerif.C17

/-- ON if any answering member is ON, else OFF if any is OFF, else UNSPECIFIED, whatever the order
and the slots of the answers (states within the enum); `reduceOnOffChanges` yields nothing until some member has been
heard from. -/
theorem C17_onoff_reduce (rs : List (Option Nat)) (h : ∀ v, v ∈ present rs → v ≤ 2) :
    onoffReduce rs = onoffSpec (present rs)
    ∧ onoffReduceChanges rs = (if present rs = [] then none else some (onoffSpec (present rs))) := by
  have h1 : onoffReduce rs = onoffSpec (present rs) := by rw [onoffReduce_present, onoffFold_spec _ h]
  exact ⟨h1, by rw [onoffReduceChanges_eq, h1]⟩

/-- The code as of 5b3e27a: the arithmetic mean of the answering members' levels (0 when
none answered); nil results neither count nor shift the weights. -/
theorem C17_light_reduce (rs : List (Option Rat)) :
    lightReduce rs = mean (present rs)
    ∧ lightReduceChanges rs = (if present rs = [] then none else some (mean (present rs))) :=
  ⟨lightReduce_eq_mean rs, by rw [lightReduceChanges_eq, lightReduce_eq_mean]⟩

/-- The reducer before 5b3e27a used the member's slot index as the number of members averaged so far: the single answer
48 in slot 1 was reported as 24. -/
theorem C17_light_slot_reducer_was_wrong :
    lightReduceSlot [none, some 48] = 24 ∧ lightReduce [none, some 48] = 48 := by
  constructor
  · show lightStep 0 48 1 = 24
    unfold lightStep; grind  -- (0 * 1 + 48) / (1 + 1) = 24
  · show lightStep 0 48 0 = 48
    exact lightStep_zero 48

/-- `GetX` / `UpdateX` under All / Most / Any fail exactly by the strategy's contract, with
`Execute`'s error and no value; otherwise they answer with the reduction of the members' messages. -/
theorem C17_group_unary (reduce : List (Option Nat) → α) (outs : List Resp) (order : List Nat)
    (hp : order.Perm (List.range outs.length)) :
    let get := fun st => groupUnary reduce (execute st outs.length (arrivals outs order))
    ((get .all).2.isSome ↔ ∃ r ∈ outs, r.err.isSome)
    ∧ ((get .most).2.isSome ↔ 2 * failures outs > outs.length)
    ∧ ((get .any).2.isSome ↔ outs ≠ [] ∧ ∀ r ∈ outs, r.err.isSome)
    ∧ (get .all).2 = (firstFailure (arrivals outs order)).map Err.member
    ∧ ∀ st, st = .all ∨ st = .most ∨ st = .any →
        ((get st).2 = none → (get st).1 = some (reduce (outs.map (·.msg))))
        ∧ ((get st).2.isSome → (get st).1 = none) := by
  intro get
  have hall := C17_all outs order hp
  have hmost := C17_most outs order hp
  have hany := C17_any outs order hp
  -- the RPC's error is `Execute`'s
  have herr : ∀ st, (get st).2 = (execute st outs.length (arrivals outs order)).err :=
    fun st => (groupUnary_eq reduce _).1
  refine ⟨?_, ?_, ?_, ?_, ?_⟩
  · rw [herr]; exact hall.1
  · rw [herr]; exact hmost.1
  · rw [herr]; exact hany.1
  · rw [herr]; exact hall.2.1
  · intro st hst
    have hres : (execute st outs.length (arrivals outs order)).results = outs.map (·.msg) := by
      rcases hst with rfl | rfl | rfl
      · exact hall.2.2
      · exact hmost.2
      · exact hany.2
    show ((groupUnary reduce _).2 = none → (groupUnary reduce _).1 = _)
      ∧ ((groupUnary reduce _).2.isSome → (groupUnary reduce _).1 = none)
    rw [(groupUnary_eq reduce _).1, (groupUnary_eq reduce _).2, hres]
    constructor
    · intro h; simp [h]
    · intro h; simp [h]

/-- the level / state a message number stands for; a nil message reduces like no message -/
def levelOfMsg : Option Nat → Rat
  | some k => levelOf k
  | none => 0

def onoffOfMsg : Option Nat → Nat
  | some k => onoffOf k
  | none => 0

/-- `GetX` / `UpdateX` under One / Fast / Race answer with exactly the winner's value,
whatever its index (for the light group the slot index does not weigh in: 5b3e27a). -/
theorem C17_group_single_value :
    (∀ (n : Nat) (s : Single), s.idx < n → s.err = none →
        lightGet (singleResult n s) = (some (levelOfMsg s.msg), none)
        ∧ onoffGet (singleResult n s) = (some (onoffOfMsg s.msg), none))
    ∧ (∀ (n : Nat) (pre post : List Tagged) (r : Tagged), (∀ x ∈ pre, x.2.err.isSome) → r.2.err = none → r.1 < n →
        lightGet (execute .fast n (pre ++ r :: post)) = (some (levelOfMsg r.2.msg), none)
        ∧ onoffGet (execute .fast n (pre ++ r :: post)) = (some (onoffOfMsg r.2.msg), none)) := by
  have key : ∀ (n : Nat) (s : Single), s.idx < n → s.err = none →
      lightGet (singleResult n s) = (some (levelOfMsg s.msg), none)
      ∧ onoffGet (singleResult n s) = (some (onoffOfMsg s.msg), none) := by
    intro n s hi he
    have herr : (singleResult n s).err = none := he
    have hpres := present_singleResult n s
    rw [if_pos hi] at hpres
    constructor
    · unfold lightGet groupUnary
      rw [herr]
      simp only
      rw [lightReduce_eq_mean, present_map, hpres]
      cases hm : s.msg with
      | none => rfl
      | some k => simp only [Option.toList, List.map_cons, List.map_nil, mean_singleton]; rfl
    · unfold onoffGet groupUnary
      rw [herr]
      simp only
      rw [onoffReduce_present, present_map, hpres]
      cases hm : s.msg with
      | none => rfl
      | some k => simp [Option.toList, onoffStep, onoffOfMsg]
  refine ⟨key, ?_⟩
  intro n pre post r hpre hr hi
  have hf := (C17_fast.1 pre post r hpre hr).1
  have := key n ⟨r.2.msg, r.1, none⟩ hi rfl
  simp only [execute, hf]
  exact this

/-- `PullX`: once the members in `started` have delivered their first values, the Group
forwards the reduction over exactly those members; nothing before any member has been heard from. -/
theorem C17_group_pull_merge (n : Nat) (vals started : List Nat) :
    let S := (List.range n).filter (fun i => started.contains i)
    lightPull n vals started = (if S = [] then none else some (mean (S.map fun i => levelOf (vals.getD i 0))))
    ∧ ((∀ i ∈ S, onoffOf (vals.getD i 0) ≤ 2) →
        onoffPull n vals started = (if S = [] then none else some (onoffSpec (S.map fun i => onoffOf (vals.getD i 0))))) := by
  intro S
  have hpres : ∀ {β : Type} (g : Nat → β), present ((memberChanges n vals started).map (·.map g))
      = S.map (fun i => g (vals.getD i 0)) := by
    intro β g
    rw [present_map]
    unfold memberChanges
    rw [present_map_ite (fun i => started.contains i) (fun i => vals.getD i 0)]
    simp [S, List.map_map, Function.comp_def]
  -- the values heard from are none exactly if nobody has been heard from
  have hite : ∀ {β γ : Type} (g : Nat → β) (x : γ), (if S.map (fun i => g (vals.getD i 0)) = [] then none else some x)
      = if S = [] then none else some x := by
    intro β γ g x; simp
  constructor
  · unfold lightPull
    rw [(C17_light_reduce _).2, hpres, hite]
  · intro hle
    unfold onoffPull
    have hb : ∀ v, v ∈ present ((memberChanges n vals started).map (·.map onoffOf)) → v ≤ 2 := by
      intro v hv
      rw [hpres] at hv
      obtain ⟨i, hi, rfl⟩ := List.mem_map.mp hv
      exact hle i hi
    rw [(C17_onoff_reduce _ hb).2, hpres, hite]

/-- The subscription loop of `PullX`, for every sequence of member messages: no value is
forwarded twice in a row, the first one is not the empty change, and the subscriber's view converges to the reduction
of the members' latest changes. -/
theorem C17_group_pull_loop [DecidableEq V] (reduce : List (Option V) → Option V) (n : Nat)
    (evs : List (Nat × List V)) :
    let st := pullRun reduce n evs
    NoStutter st.sent
    ∧ (∀ x, st.sent.head? = some x → x ≠ none)
    ∧ st.slots = latest n evs
    ∧ ((∃ ev ∈ evs, ev.2 ≠ []) → st.sent.getLast?.getD none = reduce (latest n evs)) := by
  intro st
  obtain ⟨hinv, hslots, hcur⟩ := pullRun_spec reduce n evs
  exact ⟨hinv.noStutter, hinv.headSome, hslots, fun h => by rw [hinv.lastSent, hcur h, hslots]⟩

/-- The `k`-th `server.Send` fails: exactly the first `k` values of the undisturbed
subscription were forwarded, and the subscription ends by itself (cancel the members, wait for `Execute`, return Send's
error) neither earlier nor later. -/
theorem C17_group_pull_send_error [DecidableEq V] (reduce : List (Option V) → Option V) (n k : Nat)
    (hk : k ≠ 0) (evs : List (Nat × List V)) :
    (pullRunFail reduce n k evs).1.sent = (pullRun reduce n evs).sent.take k
    ∧ ((pullRunFail reduce n k evs).2.1.isSome ↔ k ≤ (pullRun reduce n evs).sent.length) := by
  obtain ⟨h1, h2⟩ := pullRunFail_spec reduce n k hk evs
  cases he : (pullRunFail reduce n k evs).2.1 with
  | none =>
    obtain ⟨h3, h4⟩ := h1 he
    exact ⟨by rw [h3, List.take_of_length_le (by omega)], by simp; omega⟩
  | some j =>
    obtain ⟨h3, h4⟩ := h2 (by rw [he]; rfl)
    exact ⟨h3, by simp [h4]⟩

/-- What a subscriber of a light / onoff Group holds after any sequence of member
messages: the mean of the latest levels / ON-wins of the latest states of the members heard from. -/
theorem C17_group_pull_converges (n : Nat) :
    (∀ evs : List (Nat × List Rat), (∃ ev ∈ evs, ev.2 ≠ []) →
      (pullRun lightReduceChanges n evs).sent.getLast?.getD none
        = (if present (latest n evs) = [] then none else some (mean (present (latest n evs)))))
    ∧ (∀ evs : List (Nat × List Nat), (∃ ev ∈ evs, ev.2 ≠ []) → (∀ v, v ∈ present (latest n evs) → v ≤ 2) →
      (pullRun onoffReduceChanges n evs).sent.getLast?.getD none
        = (if present (latest n evs) = [] then none else some (onoffSpec (present (latest n evs))))) := by
  constructor
  · intro evs h
    rw [(C17_group_pull_loop lightReduceChanges n evs).2.2.2 h, (C17_light_reduce _).2]
  · intro evs h hb
    rw [(C17_group_pull_loop onoffReduceChanges n evs).2.2.2 h, (C17_onoff_reduce _ hb).2]

/-- Any over three lights, member 0 fails: the mean of the two that answered (not weighted by slot). -/
example : lightGet (execute .any 3 (arrivals [⟨none, some 7⟩, ⟨some 2, none⟩, ⟨some 4, none⟩] [2, 0, 1]))
    = (some 48, none) := by
  have : execute .any 3 (arrivals [⟨none, some 7⟩, ⟨some 2, none⟩, ⟨some 4, none⟩] [2, 0, 1])
      = ⟨[none, some 2, some 4], none⟩ := by decide +kernel
  rw [this]
  show (some (lightReduce [none, some (levelOf 2), some (levelOf 4)]), none) = _
  rw [lightReduce_eq_mean]
  simp [mean, levelOf]
  grind  -- (24 + 72) / 2 = 48

/-- All over two onoff members, one fails: the call fails with that member's error and has no value. -/
example : onoffGet (execute .all 2 (arrivals [⟨some 2, none⟩, ⟨none, some 9⟩] [1, 0])) = (none, some (.member 9)) := by decide +kernel

/-- member 1 OFF, member 0 ON (group ON), member 1 repeats OFF (nothing forwarded), an empty message, member 0 goes OFF
via ON (only the last change counts) -/
example : (pullRun onoffReduceChanges 2 [(1, [2]), (0, [1]), (1, [2]), (0, []), (0, [1, 2])]).sent
    = [some 2, some 1, some 2] := by decide +kernel

/-- the same run with the 2nd Send failing: two values forwarded, ended after the 2nd message -/
example : (pullRunFail onoffReduceChanges 2 2 [(1, [2]), (0, [1]), (1, [2]), (0, []), (0, [1, 2])]).1.sent = [some 2, some 1]
    ∧ (pullRunFail onoffReduceChanges 2 2 [(1, [2]), (0, [1]), (1, [2]), (0, []), (0, [1, 2])]).2.1 = some 2 := by decide +kernel

/-- the hypothesis of `C17_onoff_reduce` holds for the states of the enum -/
example : ∀ v, v ∈ present [some 1, none, some 2, some 0] → v ≤ 2 := by decide +kernel

end ScVerif.C17
