import ScVerif.Base.Line
import ScVerif.C17.Threads
import ScVerif.C17.Spec
import ScVerif.C17.Adapters
import ScVerif.C17.Pipeline
import ScVerif.C17.ExecParams
/-!
Driver handler for C17.

Request: `exec <api> <strategy> <allowed> <n> <members> <order> <parentCancel>`
* api `x` = `group.Execute(strategy)`, `d` = the strategy's own function;
* members: `,`-separated `msg.err` or `msg.err/msg.err` (cancellation-aware: second response when the
  context is found cancelled), `mK`/`eK`/`-` for message K / error K / nil; `-` for no members;
* order: `,`-separated permutation of member indices (`-` if empty); parentCancel: `-` or `k` = the
  caller's context is cancelled after `k` completions.

Answer (same format as the Go harness prints for the real code):
`res=[..] err=E ret=K cancel=BITS seen=S inv=I left=L` or `msg=M idx=I err=E ret=…`.
The parallel strategies are run through the thread-level model under the serial schedule the harness
realises (`block`), `one` through `oneLoop`.
-/
namespace ScVerif.C17
open ScVerif.Line

def parseLab? (p : Char) (s : String) : Option (Option Nat) :=
  if s = "-" then some none
  else match s.toList with
    | c :: rest => if c = p then (String.ofList rest).toNat?.map some else none
    | [] => none

def parseResp? (s : String) : Option Resp :=
  match s.splitOn "." with
  | [m, e] => do
    let m ← parseLab? 'm' m
    let e ← parseLab? 'e' e
    pure ⟨m, e⟩
  | _ => none

def parseBeh? (s : String) : Option Beh :=
  match s.splitOn "/" with
  | [a] => do pure ⟨← parseResp? a, none⟩
  | [a, b] => do pure ⟨← parseResp? a, some (← parseResp? b)⟩
  | _ => none

def parseList? (f : String → Option α) (s : String) : Option (List α) :=
  if s = "-" then some [] else (s.splitOn ",").mapM f

def showLab (p : String) : Option Nat → String
  | none => "-"
  | some k => p ++ toString k

def showErr : Option Err → String
  | none => "-"
  | some (.member k) => "e" ++ toString k
  | some .noResponse => "noresp"

def showMany (m : Many) : String :=
  "res=[" ++ ",".intercalate (m.results.map (showLab "m")) ++ "] err=" ++ showErr m.err

def showSingle (s : Single) : String :=
  "msg=" ++ showLab "m" s.msg ++ " idx=" ++ toString s.idx ++ " err=" ++ showErr s.err

def dash (s : String) : String := if s = "" then "-" else s

def showBit (b : Bool) : String := if b then "1" else "0"

structure Trace (ρ : Type) where
  result : Option ρ
  ret : Option Nat
  cancel : List Bool
  seen : List (Option Bool)
  left : Nat
  /-- every observation point so far was a point of quiescence of the model (`Config.quiescent`, `Spec.lean`:
  nothing can move except members still waiting at their gate and the caller cancelling).  The harness observes
  the code only at such points; `C17_serial_points_quiescent` proves that the schedule run here (`settle`, `block`)
  reaches one at every observation point, so the flag is always true and `!model-not-quiescent` is never answered. -/
  quiet : Bool := true

def observe (C : Consumer σ ρ) (c : Config σ ρ) (k : Nat) (tr : Trace ρ) : Trace ρ :=
  { tr with
    quiet := tr.quiet && c.quiescent C
    cancel := tr.cancel ++ [c.cancelled]
    ret := match tr.ret, c.cons with
      | none, .returned _ _ => some k
      | r, _ => r }

def serialGo (C : Consumer σ ρ) (pc : Option Nat) : Nat → List Nat → Config σ ρ → Trace ρ → Config σ ρ × Trace ρ
  | _, [], c, tr => (c, tr)
  | k, i :: rest, c, tr =>
    let c := if pc = some k then stepD C c .env else c
    let tr := { tr with seen := tr.seen.set i (some c.cancelled) }
    let c := exec C c (block i)
    serialGo C pc (k + 1) rest c (observe C c (k + 1) tr)

/-- The thread-level model under the harness' schedule, with what the harness observes. -/
def runSerial (C : Consumer σ ρ) (behs : List Beh) (order : List Nat) (pc : Option Nat) : Trace ρ :=
  let c0 := exec C (Config.spawn C behs) settle
  let tr0 := observe C c0 0 ⟨none, none, [], List.replicate behs.length none, 0, true⟩
  let (c, tr) := serialGo C pc 0 order c0 tr0
  { tr with
    result := match c.cons with
      | .returned x _ => some x
      | _ => none
    left := c.alive }

def showSeen (xs : List (Option Bool)) : String :=
  dash (String.join (xs.map fun | none => "-" | some b => showBit b))

def showNats (xs : List Nat) : String := dash (",".intercalate (xs.map toString))

def showTrace (n : Nat) (out : Option String) (tr : Trace ρ) (inv : List Nat) : String :=
  if !tr.quiet then "!model-not-quiescent" else
  (out.getD "noreturn") ++ " ret=" ++ (match tr.ret with | none => "-" | some k => toString k)
    ++ " cancel=" ++ (if n = 0 then "-" else String.join (tr.cancel.map showBit))
    ++ " seen=" ++ showSeen tr.seen ++ " inv=" ++ showNats inv ++ " left=" ++ toString tr.left

/-- position of `i` in `order` -/
def posOf (order : List Nat) (i : Nat) : Nat := order.idxOf i

/-- `ExecuteOne` under gated members: member `i` is called once members `0..i-1` have failed and it
returns once its own gate is open, i.e. after release number `max_{j ≤ i} pos j`. -/
def runOne (behs : List Beh) (order : List Nat) (pc : Option Nat) : Single × Trace Single × List Nat :=
  let n := behs.length
  let runAt : List Nat := (List.range n).map fun i => ((List.range (i + 1)).map (posOf order)).foldl max 0
  let saw : List Bool := runAt.map fun p => match pc with | some k => decide (k ≤ p) | none => false
  let outs : List Resp := (List.range n).map fun i => (behs.getD i ⟨default, none⟩).respond (saw.getD i false)
  let (res, tried) := oneLoop 0 none outs
  let ret := if n = 0 then 0 else runAt.getD (tried - 1) 0 + 1
  let cancel := (List.range (n + 1)).map fun k => match pc with | some p => decide (p < k) | none => false
  let seen := (List.range n).map fun i => if i < tried then some (saw.getD i false) else none
  (res, ⟨some res, some ret, cancel, seen, 0, true⟩, List.range tried)

def runMany (n : Nat) (a : Int) (behs : List Beh) (order : List Nat) (pc : Option Nat) : String :=
  let tr := runSerial (upTo n a) behs order pc
  showTrace n (tr.result.map showMany) tr (List.range n)

def runSingle (C : Consumer σ Single) (api : String) (n : Nat) (behs : List Beh) (order : List Nat) (pc : Option Nat) : String :=
  let tr := runSerial C behs order pc
  let out := tr.result.map fun s => if api = "x" then showMany (singleResult n s) else showSingle s
  showTrace n out tr (List.range n)

def handleExec (api strat : String) (allowed : Int) (behs : List Beh) (order : List Nat) (pc : Option Nat) : Option String :=
  let n := behs.length
  match api, strat with
  | "x", "unspec" | "x", "other" | _, "all" => some (runMany n (allowedAll n) behs order pc)
  | _, "most" => some (runMany n (allowedMost n) behs order pc)
  | _, "any" => some (runMany n (allowedAny n) behs order pc)
  | "d", "upto" => some (runMany n allowed behs order pc)
  | _, "fast" => some (runSingle fast api n behs order pc)
  | _, "race" => some (runSingle race api n behs order pc)
  | _, "one" =>
    let (res, tr, inv) := runOne behs order pc
    let out := if api = "x" then showMany (singleResult n res) else showSingle res
    some (showTrace n (some out) tr inv)
  | _, _ => none

/-! ## Group adapters: `group <trait> <rpc> <strategy> <allowed> <n> <members> <order> <parentCancel> <vals>`

The members' functions are run by `Execute(strategy)` exactly as for `exec x`; the answer has the
adapter's value in place of the result slice: `val=V err=E ret=… cancel=… seen=… inv=… left=…`.
Get/Update: `V` = the reduced results (`-` when the call fails).  Pull: `vals[i]` is the value code
member `i`'s stream delivers first; `V` = the merge of the values of the members started (`-` if
none). -/

def showRat (q : Rat) : String :=
  if q.den = 1 then toString q.num else toString q.num ++ "/" ++ toString q.den

def showOnOff : Nat → String
  | 0 => "UNSPECIFIED"
  | 1 => "ON"
  | 2 => "OFF"
  | k => "?" ++ toString k

def runExecMany (a : Int) (behs : List Beh) (order : List Nat) (pc : Option Nat) : Option Many × Trace Unit × List Nat :=
  let n := behs.length
  let tr := runSerial (upTo n a) behs order pc
  (tr.result, ⟨none, tr.ret, tr.cancel, tr.seen, tr.left, tr.quiet⟩, List.range n)

def runExecSingle (C : Consumer σ Single) (behs : List Beh) (order : List Nat) (pc : Option Nat) : Option Many × Trace Unit × List Nat :=
  let n := behs.length
  let tr := runSerial C behs order pc
  (tr.result.map (singleResult n), ⟨none, tr.ret, tr.cancel, tr.seen, tr.left, tr.quiet⟩, List.range n)

/-- `Execute(strategy)` over gated members: the result, the trace and the members invoked. -/
def runExecute (strat : String) (behs : List Beh) (order : List Nat) (pc : Option Nat) :
    Option (Option Many × Trace Unit × List Nat) :=
  let n := behs.length
  match strat with
  | "all" => some (runExecMany (allowedAll n) behs order pc)
  | "most" => some (runExecMany (allowedMost n) behs order pc)
  | "any" => some (runExecMany (allowedAny n) behs order pc)
  | "fast" => some (runExecSingle fast behs order pc)
  | "race" => some (runExecSingle race behs order pc)
  | "one" =>
    let (res, tr, inv) := runOne behs order pc
    some (some (singleResult n res), ⟨none, tr.ret, tr.cancel, tr.seen, tr.left, tr.quiet⟩, inv)
  | _ => none

def handleGroup (trait rpc strat : String) (behs : List Beh) (order : List Nat) (pc : Option Nat)
    (vals : List Nat) : Option String := do
  let n := behs.length
  let (res, tr, inv) ← runExecute strat behs order pc
  let out : Option String ← match trait, rpc with
    | "onoff", "Pull" =>
      some (res.map fun m => "val=" ++ ((onoffPull n vals inv).map showOnOff).getD "-" ++ " err=" ++ showErr m.err)
    | "light", "Pull" =>
      some (res.map fun m => "val=" ++ ((lightPull n vals inv).map showRat).getD "-" ++ " err=" ++ showErr m.err)
    | "onoff", _ =>
      some (res.map fun m => let (v, e) := onoffGet m; "val=" ++ (v.map showOnOff).getD "-" ++ " err=" ++ showErr e)
    | "light", _ =>
      some (res.map fun m => let (v, e) := lightGet m; "val=" ++ (v.map showRat).getD "-" ++ " err=" ++ showErr e)
    | _, _ => none
  -- PullX runs Execute under `context.WithCancel(server.Context())` with a deferred `cancelFunc()`:
  -- whatever the strategy, the members' context is cancelled once the subscription has returned
  let tr := if rpc = "Pull" then
      { tr with cancel := tr.cancel.zipIdx.map fun (b, k) =>
          b || (match tr.ret with | some r => decide (r ≤ k) | none => false) }
    else tr
  pure (showTrace n out tr inv)

/-! ## the subscription loop: `pull <trait> <n> <events> <failAt>`

events: `,`-separated `i:v1.v2…` (member `i` delivers a message with the value codes `v1 v2 …`; `i:` = a
message without changes; `-` = no events).  `failAt` = `k`: the `k`-th Send fails (0: none).  Answer: `fwd=` the values forwarded, in order, then
`end=harness` (the subscription ran until the harness cancelled it) or `end=senderr after=<messages> ctx=1`. -/

def parseEvent? (s : String) : Option (Nat × List Nat) :=
  match s.splitOn ":" with
  | [i, vs] => do
    let i ← parseNat? i
    let vs ← if vs = "" then some [] else (vs.splitOn ".").mapM parseNat?
    pure (i, vs)
  | _ => none

def showPull (n : Nat) (show1 : Option V → String) (r : PullSt V × Option Nat × Nat) : String :=
  let fwd := "fwd=" ++ dash (",".intercalate (r.1.sent.map show1))
  match r.2.1 with
  | some k => fwd ++ " end=senderr after=" ++ toString k ++ " ctx=" ++ (if n = 0 then "-" else "1")
  | none => fwd ++ " end=harness"

def handlePull (trait : String) (n : Nat) (evs : List (Nat × List Nat)) (failAt : Nat) : Option String :=
  match trait with
  | "light" =>
    some (showPull n (fun v => (v.map showRat).getD "nil")
      (pullRunFail lightReduceChanges n failAt (evs.map fun ev => (ev.1, ev.2.map levelOf))))
  | "onoff" =>
    some (showPull n (fun v => (v.map showOnOff).getD "nil")
      (pullRunFail onoffReduceChanges n failAt (evs.map fun ev => (ev.1, ev.2.map onoffOf))))
  | _ => none

/-! ## the Pull pipeline: `pipe <trait> <n> <strategy> <steps>`

The strategy (`all|most|any|one|fast|race`) gives the model's parameters `(allowed, retAfter) = execParams strategy n`
(proved against the thread-level model of exec.go: `C17_pipeline_contract_is_execute`, `C17_pipeline_contract_one`)
and its initial state: the members run side by side (All, Most, Any, Fast, Race) or one after the other (One).

`steps`: `,`-separated `<op>=<observation>`; ops: `start` (nothing), `p<i>:<k>` (device `i` reports the value
message number `k` stands for; `p<i>:x`: it fails), `ok` / `sf` (the subscriber's parked Send returns nil /
an error), `cc` (the subscriber cancels).  After each op the model's internal steps are run to EVERY point
of quiescence they can reach (`Pipe.settle`), and the set of states is cut down to those that look like
the observation the harness made on the real goroutines at its point of quiescence:
`<lanes>;<loop>;<forwarded>` - per device `i|s|e` (waiting / inside `server.Send` / returned or not started) and the number
of its Sends that returned nil; `run|send|ret` for `PullX`; the values the subscriber was sent.
Answer: `ok left=<threads of the members not ended in the final state(s)>`, or
`!unreachable step=<k> …` when no point of quiescence of the model looks like the observation. -/

def showLaneObs (l : Pipe.Lane V) : String :=
  (match l.h with | .idle => "i" | .sending _ => "s" | .ended => "e") ++ toString l.acc

def pipeObs (show1 : Option V → String) (c : Pipe.Cfg V) : String :=
  dash (".".intercalate (c.lanes.map showLaneObs)) ++ ";"
    ++ (match c.loop with | .inSend => "send" | .returned => "ret" | _ => "run") ++ ";"
    ++ dash (".".intercalate (c.st.sent.map show1))

def pipeSteps [DecidableEq V] (P : Pipe.Params V) (show1 : Option V → String) :
    List (Pipe.Cfg V) → Nat → List (Option (Pipe.Lbl V) × String × String) → String
  | cs, _, [] => "ok left=" ++ "|".intercalate ((cs.map (·.left)).eraseDups.map toString)
  | cs, k, (lbl, name, obs) :: rest =>
    let cs1 := match lbl with
      | none => cs
      | some l => cs.filterMap fun c => Pipe.step P c l
    let qs := Pipe.settle P cs1
    let ms := qs.filter fun c => pipeObs show1 c == obs
    if ms.isEmpty then
      "!unreachable step=" ++ toString k ++ " op=" ++ name ++ " observed=" ++ obs ++ " possible="
        ++ dash ("|".intercalate ((qs.map (pipeObs show1)).eraseDups))
    else pipeSteps P show1 ms (k + 1) rest

def parsePipeOp? (val : Nat → V) (n : Nat) (s : String) : Option (Option (Pipe.Lbl V)) :=
  match s with
  | "start" => some none
  | "ok" => some (some .sendOk)
  | "sf" => some (some .sendFail)
  | "cc" => some (some .cancel)
  | _ =>
    match s.toList with
    | 'p' :: rest =>
      match (String.ofList rest).splitOn ":" with
      | [i, v] => do
        let i ← parseNat? i
        if i ≥ n then none
        if v = "x" then pure (some (.poke i none))
        else do
          let k ← parseNat? v
          pure (some (.poke i (some (val k))))
      | _ => none
    | _ => none

def parsePipeStep? (val : Nat → V) (n : Nat) (s : String) : Option (Option (Pipe.Lbl V) × String × String) :=
  match s.splitOn "=" with
  | [op, obs] => do
    let l ← parsePipeOp? val n op
    pure (l, op, obs)
  | _ => none

def handlePipe (trait : String) (n : Nat) (strat : Strategy) (steps : List String) : Option String :=
  let allowed := (execParams strat n).1
  let retAfter := (execParams strat n).2
  let seq := strat == .one
  match trait with
  | "onoff" => do
    let st ← steps.mapM (parsePipeStep? onoffOf n)
    pure (pipeSteps ⟨true, allowed, retAfter, onoffReduceChanges⟩ (fun v => (v.map showOnOff).getD "nil")
      [if seq then Pipe.Cfg.initSeq n else Pipe.Cfg.init n] 0 st)
  | "light" => do
    let st ← steps.mapM (parsePipeStep? levelOf n)
    pure (pipeSteps ⟨true, allowed, retAfter, lightReduceChanges⟩ (fun v => (v.map showRat).getD "nil")
      [if seq then Pipe.Cfg.initSeq n else Pipe.Cfg.init n] 0 st)
  | _ => none

def isPerm (order : List Nat) (n : Nat) : Bool :=
  order.length == n && (List.range n).all fun i => order.contains i

def handle (toks : List String) : String :=
  match toks with
  | ["exec", api, strat, allowed, n, behs, order, pc] =>
    let r : Option String := do
      let allowed ← parseInt? allowed
      let n ← parseNat? n
      let behs ← parseList? parseBeh? behs
      let order ← parseList? parseNat? order
      let pc ← if pc = "-" then some none else (parseNat? pc).map some
      if api ≠ "x" && api ≠ "d" then none
      if behs.length ≠ n || !isPerm order n then none
      handleExec api strat allowed behs order pc
    r.getD "!bad-op"
  | ["group", trait, rpc, strat, _allowed, n, behs, order, pc, vals] =>
    let r : Option String := do
      let n ← parseNat? n
      let behs ← parseList? parseBeh? behs
      let order ← parseList? parseNat? order
      let pc ← if pc = "-" then some none else (parseNat? pc).map some
      let vals ← parseList? parseNat? vals
      if rpc ≠ "Get" && rpc ≠ "Update" && rpc ≠ "Pull" then none
      if behs.length ≠ n || !isPerm order n then none
      if rpc = "Pull" && vals.length ≠ n then none
      handleGroup trait rpc strat behs order pc vals
    r.getD "!bad-op"
  | ["pull", trait, n, evs, failAt] =>
    let r : Option String := do
      let n ← parseNat? n
      let evs ← parseList? parseEvent? evs
      let failAt ← parseNat? failAt
      if evs.any (fun ev => ev.1 ≥ n) then none
      handlePull trait n evs failAt
    r.getD "!bad-op"
  | ["pipe", trait, n, strat, steps] =>
    let r : Option String := do
      let n ← parseNat? n
      let strat ← parseStrategy? strat
      handlePipe trait n strat (steps.splitOn ",")
    r.getD "!bad-op"
  | _ => "!bad-op"

end ScVerif.C17
