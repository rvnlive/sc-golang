import ScVerif.C17.PipelineReduce
import ScVerif.C17.ExecParams
/-!
# C17 — the set the tie `group-pull-pipeline` looks an observation up in is EXACTLY the model's points of quiescence

The tie is set-valued: after every action of the environment the driver explores the model's own steps to every point
of quiescence (`Pipe.settle`) and asks whether the observation made on the real goroutines is one of them.
`C17_pipe_settle_sound` (PropsPipeline.lean): nothing is in the set that the model cannot do.  Here: nothing is missing.
The calm-state economy loses nothing because an eager step commutes with every other step enabled in a calm state
(`Pipe.diamond`) and stays enabled until taken (`Pipe.eager_first`).

Hypotheses: well-formed lanes and `0 < retAfter` unless the group is empty; both hold of every state the driver
explores from (`C17_pipe_states_wellformed`).  The theorems of this file are in the namespace `ScVerif.C17.Pipe`.
-/
namespace ScVerif.C17.Pipe

variable {V : Type}

/-- The fuel always suffices; layering, removal of duplicates, erasure of the ghost log
and the calm-state economy drop nothing. -/
theorem C17_pipe_settle_complete [DecidableEq V] (P : Params V) (cs : List (Cfg V)) (c q : Cfg V) (hc : c ∈ cs)
    (hwf : c.WF) (hret : c.lanes.length ≠ 0 → 0 < P.retAfter)
    (ls : List (Lbl V)) (hall : ∀ l ∈ ls, l.internal = true) (hrun : run P c ls = some q)
    (hq : ∀ lbl : Lbl V, lbl.internal = true → step P q lbl = none) :
    eraseLog q ∈ settle P cs :=
  (mem_settle P cs _).mpr ⟨c, hc, reduced_reaches P ls.length ls c q rfl hwf hret hall hrun hq,
    (succsD_isEmpty_iff P _).mpr ((quiet_eraseLog_iff P q).mpr hq)⟩

/-- Soundness and completeness together. -/
theorem C17_pipe_settle_exact [DecidableEq V] (P : Params V) (cs : List (Cfg V))
    (hwf : ∀ c ∈ cs, c.WF) (hret : ∀ c ∈ cs, c.lanes.length ≠ 0 → 0 < P.retAfter) (x : Cfg V) :
    x ∈ settle P cs ↔
      ∃ c ∈ cs, ∃ (ls : List (Lbl V)) (q : Cfg V), (∀ l ∈ ls, l.internal = true) ∧ run P c ls = some q
        ∧ (∀ lbl : Lbl V, lbl.internal = true → step P q lbl = none) ∧ eraseLog q = x := by
  constructor
  · intro hx
    obtain ⟨⟨c, hc, ls, q, hall, hrun, he⟩, hquiet⟩ := settle_sound P cs x hx
    refine ⟨c, hc, ls, q, hall, hrun, ?_, he⟩
    exact (quiet_eraseLog_iff P q).mp (he ▸ hquiet)
  · rintro ⟨c, hc, ls, q, hall, hrun, hq, rfl⟩
    exact C17_pipe_settle_complete P cs c q hc (hwf c hc) (hret c hc) ls hall hrun hq

/-- The hypotheses of the two theorems above hold of every state the driver ever
explores from, for the parameters of every strategy. -/
theorem C17_pipe_states_wellformed [DecidableEq V] (P : Params V) (n : Nat) :
    (Cfg.init n : Cfg V).WF ∧ (Cfg.initSeq n : Cfg V).WF
    ∧ (∀ (c c' : Cfg V) (ls : List (Lbl V)), c.WF → run P c ls = some c' → c'.WF ∧ (eraseLog c').WF
          ∧ c'.lanes.length = c.lanes.length)
    ∧ (∀ st : Strategy, n ≠ 0 → 0 < (execParams st n).2) := by
  refine ⟨wf_init n (.inl rfl), wf_init n (.inr rfl), ?_, ?_⟩
  · intro c c' ls hwf hrun
    have := run_induction step_wf hrun hwf
    exact ⟨this, this, run_lanes_length P ls c c' hrun⟩
  · intro st hn
    cases st <;> simp [execParams] <;> omega

/-- the diamond at work: the state is calm, the exploration follows `hStart 0` alone and still finds both points of
quiescence -/
example :
    (match run (⟨true, 0, 2, onoffReduceChanges⟩ : Params Nat) (Cfg.init 2) [.poke 0 (some 1), .poke 1 (some 2)] with
      | some c => c.calm && (succsD (⟨true, 0, 2, onoffReduceChanges⟩ : Params Nat) c).length == 1
          && ((settle (⟨true, 0, 2, onoffReduceChanges⟩ : Params Nat) [c]).map fun q => q.st.sent).length == 2
      | none => false) = true := by decide +kernel

end ScVerif.C17.Pipe
