import ScVerif.C17.Adapters
/-!
# C17 — the member list of a trait Group: names, indices, and the bounds of `memberChanges`

`lightpb.NewGroup(impl, members...)` / `onoffpb.NewGroup` take ANY list of strings.  Every RPC builds
`actions := make([]group.Member, len(s.members))` and, `for i, member := range s.members`, the closure
`actions[i]` that calls the device `member` and (Pull) reports each of its messages tagged with `i`.
`PullX` keeps `memberChanges := make([]*Change, len(s.members))` and executes
`memberChanges[msg.i] = endChange` - an indexed write, which in Go PANICS when `msg.i` is out of range.

The loop model of `Adapters.lean` writes with `List.set`, which ignores an index out of range; this file
models the write as Go does it (`none` = the panic) and the actions as built from the list of NAMES, so
that "the call never panics" and "results are reported at the member's own index" are statements about
what the code does with any member list - blank, repeated and odd names included.

The model's definitions come first; its eight lemmas (what `actionsFrom` builds, when the checked loop is the unchecked
one) follow them in this file.
-/
namespace ScVerif.C17

/-- the loop `for i, member := range s.members { actions[i] = closure(i, member) }` from index `i` on:
each closure is represented by what it closes over - its index and the name it calls -/
def actionsFrom (i : Nat) : List String → List (Nat × String)
  | [] => []
  | nm :: rest => (i, nm) :: actionsFrom (i + 1) rest

/-- `pullXActions` / the `actions` of `GetX`, `UpdateX`: one closure per ENTRY of the member list -/
def groupActions (members : List String) : List (Nat × String) := actionsFrom 0 members

/-- a variant that leaves out the entries with a blank name (`if member == "" { continue }` and
`append`), each remaining closure still carrying its index into the member list -/
def groupActionsSkipBlank (members : List String) : List (Nat × String) :=
  (groupActions members).filter (fun a => a.2 ≠ "")

/-- one message of member `ev.1` carrying the changes `ev.2`, with Go's bounds check on
`memberChanges[msg.i] = endChange`: `none` is the panic -/
def pullFeedChecked [DecidableEq V] (reduce : List (Option V) → Option V) (st : PullSt V) (ev : Nat × List V) :
    Option (PullSt V) :=
  match ev.2.getLast? with
  | none => some st
  | some _ => if ev.1 < st.slots.length then some (pullFeed reduce st ev) else none

/-- the loop over the messages `evs` from the state `st`: `none` as soon as a write is out of range -/
def pullRunCheckedFrom [DecidableEq V] (reduce : List (Option V) → Option V) (st : PullSt V) :
    List (Nat × List V) → Option (PullSt V)
  | [] => some st
  | ev :: rest =>
    match pullFeedChecked reduce st ev with
    | none => none
    | some st' => pullRunCheckedFrom reduce st' rest

def pullRunChecked [DecidableEq V] (reduce : List (Option V) → Option V) (slots : Nat) (evs : List (Nat × List V)) :
    Option (PullSt V) :=
  pullRunCheckedFrom reduce (pullInit slots) evs

/-- the loop is core's `zipIdx`, index first -/
theorem actionsFrom_eq (i : Nat) (ms : List String) :
    actionsFrom i ms = (ms.zipIdx i).map fun p => (p.2, p.1) := by
  induction ms generalizing i with
  | nil => rfl
  | cons nm rest ih => simp [actionsFrom, ih]

theorem actionsFrom_length (i : Nat) (ms : List String) : (actionsFrom i ms).length = ms.length := by
  simp [actionsFrom_eq]

theorem actionsFrom_getElem? (i k : Nat) (ms : List String) :
    (actionsFrom i ms)[k]? = ms[k]?.map (fun nm => (i + k, nm)) := by
  simp [actionsFrom_eq, List.getElem?_zipIdx]
  cases ms[k]? <;> rfl

theorem mem_actionsFrom (i : Nat) (ms : List String) (a : Nat × String) :
    a ∈ actionsFrom i ms ↔ i ≤ a.1 ∧ ms[a.1 - i]? = some a.2 := by
  rw [actionsFrom_eq, List.mem_map]
  constructor
  · rintro ⟨⟨nm, j⟩, h, rfl⟩
    exact List.mem_zipIdx_iff_le_and_getElem?_sub.mp h
  · intro h
    exact ⟨(a.2, a.1), List.mem_zipIdx_iff_le_and_getElem?_sub.mpr h, rfl⟩

theorem actionsFrom_mem (i : Nat) (ms : List String) (a : Nat × String) (h : a ∈ actionsFrom i ms) :
    i ≤ a.1 ∧ a.1 < i + ms.length ∧ ms[a.1 - i]? = some a.2 := by
  obtain ⟨h1, h2⟩ := (mem_actionsFrom i ms a).mp h
  have := (List.getElem?_eq_some_iff.mp h2).1
  exact ⟨h1, by omega, h2⟩

theorem mem_groupActions (members : List String) (a : Nat × String) :
    a ∈ groupActions members ↔ members[a.1]? = some a.2 := by
  simp [groupActions, mem_actionsFrom]

theorem pullFeed_slots_length [DecidableEq V] (reduce : List (Option V) → Option V) (st : PullSt V) (ev : Nat × List V) :
    (pullFeed reduce st ev).slots.length = st.slots.length := by
  unfold pullFeed
  cases ev.2.getLast? with
  | none => rfl
  | some v =>
    dsimp only
    split <;> simp

theorem pullRunCheckedFrom_eq [DecidableEq V] (reduce : List (Option V) → Option V) (n : Nat) (evs : List (Nat × List V))
    (st : PullSt V) (hst : st.slots.length = n) (h : ∀ ev ∈ evs, ev.1 < n) :
    pullRunCheckedFrom reduce st evs = some (evs.foldl (pullFeed reduce) st) := by
  induction evs generalizing st with
  | nil => rfl
  | cons ev rest ih =>
    have hev : ev.1 < n := h ev (by simp)
    have hfeed : pullFeedChecked reduce st ev = some (pullFeed reduce st ev) := by
      unfold pullFeedChecked
      cases hl : ev.2.getLast? with
      | none => simp [pullFeed, hl]
      | some v => simp [hst, hev]
    simp only [pullRunCheckedFrom, hfeed, List.foldl_cons]
    exact ih _ (by rw [pullFeed_slots_length, hst]) (fun e he => h e (by simp [he]))

end ScVerif.C17
