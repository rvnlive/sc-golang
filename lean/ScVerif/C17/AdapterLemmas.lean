import ScVerif.C17.SpecAdapters
import ScVerif.C17.ListLemmas
/-!
# C17 — lemmas about the Group adapters: the reducers as folds over the values present, the Pull loops from the right
-/
namespace ScVerif.C17

@[simp] theorem present_nil : present ([] : List (Option α)) = [] := rfl
@[simp] theorem present_none (rs : List (Option α)) : present (none :: rs) = present rs := rfl
@[simp] theorem present_some (v : α) (rs : List (Option α)) : present (some v :: rs) = v :: present rs := rfl

theorem foldl_present {f : β → Option α → β} (hf : ∀ b, f b none = b) (rs : List (Option α)) (b : β) :
    rs.foldl f b = (present rs).foldl (fun b v => f b (some v)) b := by
  induction rs generalizing b with
  | nil => rfl
  | cons r rs ih =>
    cases r with
    | none => rw [List.foldl_cons, hf, present_none, ih]
    | some v => rw [List.foldl_cons, present_some, List.foldl_cons, ih]

theorem onoffReduce_present (rs : List (Option Nat)) : onoffReduce rs = (present rs).foldl onoffStep 0 :=
  foldl_present (fun _ => rfl) rs 0

theorem onoffFold_spec (vs : List Nat) (h : ∀ v ∈ vs, v ≤ 2) : vs.foldl onoffStep 0 = onoffSpec vs := by
  induction vs using snoc_induction with
  | nil => rfl
  | snoc vs v ih =>
    have hv : v = 0 ∨ v = 1 ∨ v = 2 := by have := h v (by simp); omega
    rw [List.foldl_append, ih fun w hw => h w (by simp [hw])]
    -- ON wins, then OFF: one more value against the verdict so far
    unfold onoffSpec
    by_cases h1 : 1 ∈ vs <;> by_cases h2 : 2 ∈ vs <;> rcases hv with rfl | rfl | rfl <;> simp [onoffStep, h1, h2]

theorem onoffFoldChanges_some (vs : List Nat) (a : Nat) :
    vs.foldl (fun b v => onoffFeedChanges b (some v)) (some a) = some (vs.foldl onoffStep a) := by
  induction vs generalizing a with
  | nil => rfl
  | cons v vs ih => exact ih (onoffStep a v)

theorem onoffReduceChanges_eq (rs : List (Option Nat)) :
    onoffReduceChanges rs = if present rs = [] then none else some (onoffReduce rs) := by
  rw [onoffReduce_present, onoffReduceChanges, foldl_present (f := onoffFeedChanges) (fun b => by cases b <;> rfl)]
  cases present rs with
  | nil => rfl
  | cons v vs => exact onoffFoldChanges_some vs v

theorem natCast_succ_rat (k : Nat) : ((k + 1 : Nat) : Rat) = (k : Rat) + 1 := by
  simp [Rat.natCast_add]

theorem natCast_succ_ne_zero (k : Nat) : ((k : Rat) + 1) ≠ 0 := by
  have h : (0 : Rat) ≤ (k : Rat) := by exact_mod_cast Nat.zero_le k
  intro h'
  -- 0 ≤ k and k + 1 = 0 contradict each other
  grind

theorem lightStep_mul (acc v : Rat) (k : Nat) : lightStep acc v k * ((k : Rat) + 1) = acc * (k : Rat) + v := by
  unfold lightStep
  exact Rat.div_mul_cancel (natCast_succ_ne_zero k)

/-- the loop of `reduce` over the values present: state = (average so far, how many) -/
def lightFold (vs : List Rat) (st : Rat × Nat) : Rat × Nat := vs.foldl (fun st v => (lightStep st.1 v st.2, st.2 + 1)) st

theorem lightReduce_present (rs : List (Option Rat)) : lightReduce rs = (lightFold (present rs) (0, 0)).1 :=
  congrArg Prod.fst (foldl_present (f := lightFeed) (fun _ => rfl) rs (0, 0))

theorem lightFold_spec (vs : List Rat) :
    (lightFold vs (0, 0)).2 = vs.length ∧ (lightFold vs (0, 0)).1 * ((vs.length : Nat) : Rat) = vs.sum := by
  induction vs using snoc_induction with
  | nil => exact ⟨rfl, by simp [lightFold]⟩
  | snoc vs v ih =>
    simp only [lightFold, List.foldl_append, List.foldl_cons, List.foldl_nil, List.length_append, List.length_singleton,
      List.sum_append, List.sum_cons, List.sum_nil] at ih ⊢
    refine ⟨by rw [ih.1], ?_⟩
    rw [ih.1, natCast_succ_rat, lightStep_mul, ih.2]
    grind  -- sum + (v + 0) = sum + v

theorem lightReduce_eq_mean (rs : List (Option Rat)) : lightReduce rs = mean (present rs) := by
  rw [lightReduce_present]
  unfold mean
  split
  · next hp => rw [hp]; rfl
  · next hp =>
    obtain ⟨_, h2⟩ := lightFold_spec (present rs)
    have hne : (((present rs).length : Nat) : Rat) ≠ 0 := by
      have : (0 : Rat) < (((present rs).length : Nat) : Rat) := by exact_mod_cast List.length_pos_iff.mpr hp
      intro h0; rw [h0] at this; exact absurd this (by decide)
    rw [← h2, Rat.mul_div_cancel hne]

theorem lightFoldChanges_some (vs : List Rat) (a : Rat) (k : Nat) :
    vs.foldl (fun st v => lightFeedChanges st (some v)) (some a, k) = (some (lightFold vs (a, k)).1, (lightFold vs (a, k)).2) := by
  induction vs generalizing a k with
  | nil => rfl
  | cons v vs ih => exact ih (lightStep a v k) (k + 1)

theorem lightStep_zero (v : Rat) : lightStep 0 v 0 = v := by
  unfold lightStep
  grind  -- (0 * 0 + v) / (0 + 1) = v

theorem lightReduceChanges_eq (rs : List (Option Rat)) :
    lightReduceChanges rs = if present rs = [] then none else some (lightReduce rs) := by
  rw [lightReduce_present, lightReduceChanges, foldl_present (f := lightFeedChanges) (fun _ => rfl)]
  cases present rs with
  | nil => rfl
  | cons v vs =>
    show (vs.foldl _ (some v, 0 + 1)).1 = some (lightFold vs (lightStep 0 v 0, 0 + 1)).1
    rw [lightFoldChanges_some, lightStep_zero]

theorem present_replicate_none (n : Nat) : present (List.replicate n (none : Option α)) = [] := by
  simp [present]

theorem present_set_replicate (n i : Nat) (m : Option α) (h : i < n) :
    present ((List.replicate n (none : Option α)).set i m) = m.toList := by
  induction n generalizing i with
  | zero => omega
  | succ n ih =>
    rw [List.replicate_succ]
    cases i with
    | zero =>
      rw [List.set_cons_zero]
      cases m with
      | none => rw [present_none, present_replicate_none]; rfl
      | some v => rw [present_some, present_replicate_none]; rfl
    | succ i =>
      rw [List.set_cons_succ, present_none]
      exact ih i (by omega)

theorem present_singleResult (n : Nat) (s : Single) :
    present (singleResult n s).results = if s.idx < n then s.msg.toList else [] := by
  unfold singleResult
  simp only
  split
  · rename_i h; exact present_set_replicate n s.idx s.msg h
  · exact present_replicate_none n

theorem present_map (g : α → β) (rs : List (Option α)) :
    present (rs.map (·.map g)) = (present rs).map g := by
  simp [present, List.filterMap_map, List.map_filterMap, Function.comp_def]

theorem present_map_ite (p : Nat → Bool) (v : Nat → α) (l : List Nat) :
    present (l.map fun i => if p i then some (v i) else none) = (l.filter p).map v := by
  induction l with
  | nil => rfl
  | cons a l ih =>
    simp only [List.map_cons, List.filter_cons]
    cases hp : p a
    · simp only [Bool.false_eq_true, if_false, present_none]; exact ih
    · simp only [if_true, present_some, List.map_cons, ih]

theorem mean_singleton (x : Rat) : mean [x] = x := by
  unfold mean
  simp only [List.cons_ne_nil, if_false, List.sum_cons, List.sum_nil, List.length_cons, List.length_nil]
  show (x + 0) / (((0 + 1 : Nat)) : Rat) = x
  rw [natCast_succ_rat]
  have h : ((0 : Nat) : Rat) + 1 ≠ 0 := natCast_succ_ne_zero 0
  grind  -- (x + 0) / (0 + 1) = x

theorem groupUnary_eq (reduce : List (Option Nat) → α) (m : Many) :
    (groupUnary reduce m).2 = m.err
    ∧ (groupUnary reduce m).1 = if m.err.isSome then none else some (reduce m.results) := by
  unfold groupUnary
  cases m.err <;> simp

theorem noStutter_snoc (l : List V) (x : V) (h : NoStutter l) (hx : ∀ y, l.getLast? = some y → y ≠ x) :
    NoStutter (l ++ [x]) := by
  induction l with
  | nil => trivial
  | cons a t ih =>
    cases t with
    | nil => exact ⟨hx a rfl, trivial⟩
    | cons b rest =>
      obtain ⟨hab, hrest⟩ := h
      refine ⟨hab, ?_⟩
      apply ih hrest
      intro y hy
      apply hx y
      simpa [List.getLast?_cons_cons] using hy

theorem latest_snoc (n : Nat) (evs : List (Nat × List V)) (ev : Nat × List V) :
    latest n (evs ++ [ev]) = slotStep (latest n evs) ev := by
  simp [latest, List.foldl_append]

variable [DecidableEq V]

theorem pullFeed_slots (reduce : List (Option V) → Option V) (st : PullSt V) (ev : Nat × List V) :
    (pullFeed reduce st ev).slots = slotStep st.slots ev := by
  unfold pullFeed slotStep
  cases ev.2.getLast? with
  | none => rfl
  | some v =>
    simp only
    split <;> rfl

/-- What every iteration of the subscription loop keeps.  `headSome`: `lastChange` starts as the empty change, so the
first value forwarded differs from it. -/
structure PullInv (st : PullSt V) : Prop where
  lastSent : st.sent.getLast?.getD none = st.last
  noStutter : NoStutter st.sent
  headSome : ∀ x, st.sent.head? = some x → x ≠ none

theorem pullInv_feed (reduce : List (Option V) → Option V) (st : PullSt V) (ev : Nat × List V)
    (h : PullInv st) : PullInv (pullFeed reduce st ev) := by
  unfold pullFeed
  cases ev.2.getLast? with
  | none => exact h
  | some v =>
    simp only
    split
    · exact ⟨h.lastSent, h.noStutter, h.headSome⟩
    · rename_i hne
      refine ⟨by simp, ?_, ?_⟩
      · apply noStutter_snoc _ _ h.noStutter
        intro y hy
        have : y = st.last := by have := h.lastSent; rw [hy] at this; exact this
        rw [this]; exact hne
      · intro x hx
        cases hs : st.sent with
        | nil =>
          rw [hs] at hx
          simp only [List.nil_append, List.head?_cons, Option.some.injEq] at hx
          have hl : st.last = none := by have := h.lastSent; rw [hs] at this; exact this.symm
          rw [← hx]; intro h0; exact hne (by rw [hl, h0])
        | cons a t =>
          rw [hs] at hx
          simp only [List.cons_append, List.head?_cons, Option.some.injEq] at hx
          exact h.headSome x (by rw [hs, ← hx]; rfl)

theorem pullFeed_current (reduce : List (Option V) → Option V) (st : PullSt V) (ev : Nat × List V)
    (h : st.last = reduce st.slots ∨ ev.2 ≠ []) :
    (pullFeed reduce st ev).last = reduce (pullFeed reduce st ev).slots := by
  unfold pullFeed
  cases hg : ev.2.getLast? with
  | none =>
    rcases h with h | h
    · exact h
    · exact absurd (List.getLast?_eq_none_iff.mp hg) h
  | some v =>
    simp only
    split
    · rename_i heq; exact heq
    · rfl

theorem pullFeed_empty (reduce : List (Option V) → Option V) (st : PullSt V) (ev : Nat × List V)
    (h : ev.2 = []) : pullFeed reduce st ev = st := by
  unfold pullFeed
  rw [h]; rfl

theorem pullRun_snoc (reduce : List (Option V) → Option V) (n : Nat) (evs : List (Nat × List V)) (ev : Nat × List V) :
    pullRun reduce n (evs ++ [ev]) = pullFeed reduce (pullRun reduce n evs) ev := by
  simp [pullRun, List.foldl_append]

theorem pullRun_spec (reduce : List (Option V) → Option V) (n : Nat) (evs : List (Nat × List V)) :
    PullInv (pullRun reduce n evs) ∧ (pullRun reduce n evs).slots = latest n evs
    ∧ ((∃ ev ∈ evs, ev.2 ≠ []) → (pullRun reduce n evs).last = reduce (pullRun reduce n evs).slots) := by
  induction evs using snoc_induction with
  | nil => exact ⟨⟨rfl, trivial, nofun⟩, rfl, fun ⟨_, h, _⟩ => nomatch h⟩
  | snoc evs ev ih =>
    rw [pullRun_snoc, latest_snoc]
    refine ⟨pullInv_feed reduce _ ev ih.1, by rw [pullFeed_slots, ih.2.1], fun ⟨e, he, hne⟩ => ?_⟩
    by_cases hev : ev.2 = []
    · -- an empty message changes nothing: the non-empty one came earlier
      rw [pullFeed_empty reduce _ ev hev]
      refine ih.2.2 ⟨e, ?_, hne⟩
      rcases List.mem_append.mp he with h | h
      · exact h
      · rw [List.mem_singleton.mp h] at hne; exact absurd hev hne
    · exact pullFeed_current reduce _ ev (Or.inr hev)

theorem pullFeed_sent (reduce : List (Option V) → Option V) (st : PullSt V) (ev : Nat × List V) :
    (pullFeed reduce st ev).sent = st.sent ∨ ∃ x, (pullFeed reduce st ev).sent = st.sent ++ [x] := by
  unfold pullFeed
  cases ev.2.getLast? with
  | none => exact Or.inl rfl
  | some v =>
    simp only
    split
    · exact Or.inl rfl
    · exact Or.inr ⟨_, rfl⟩

theorem pullRunFail_snoc (reduce : List (Option V) → Option V) (n k : Nat) (evs : List (Nat × List V)) (ev : Nat × List V) :
    pullRunFail reduce n k (evs ++ [ev]) = pullFeedFail reduce k (pullRunFail reduce n k evs) ev := by
  simp [pullRunFail, List.foldl_append]

/-- the loop with a failing `k`-th Send against the undisturbed one: the same state until the `k`-th value has been
forwarded, frozen from then on -/
theorem pullRunFail_spec (reduce : List (Option V) → Option V) (n k : Nat) (hk : k ≠ 0) (evs : List (Nat × List V)) :
    ((pullRunFail reduce n k evs).2.1 = none →
        (pullRunFail reduce n k evs).1 = pullRun reduce n evs ∧ (pullRun reduce n evs).sent.length < k)
    ∧ ((pullRunFail reduce n k evs).2.1.isSome = true →
        (pullRunFail reduce n k evs).1.sent = (pullRun reduce n evs).sent.take k ∧ k ≤ (pullRun reduce n evs).sent.length) := by
  induction evs using snoc_induction with
  | nil => exact ⟨fun _ => ⟨rfl, Nat.pos_of_ne_zero hk⟩, nofun⟩
  | snoc evs ev ih =>
    rw [pullRunFail_snoc, pullRun_snoc]
    have hsent := pullFeed_sent reduce (pullRun reduce n evs) ev
    rcases hf : pullRunFail reduce n k evs with ⟨st, e, i⟩
    rw [hf] at ih
    cases e with
    | some j =>
      -- ended: nothing more is forwarded, and the undisturbed loop only appends beyond the first `k`
      obtain ⟨h1, h2⟩ := ih.2 rfl
      refine ⟨nofun, fun _ => ?_⟩
      rcases hsent with h | ⟨x, h⟩ <;> rw [h]
      · exact ⟨h1, h2⟩
      · exact ⟨by rw [List.take_append_of_le_length h2]; exact h1, by simp; omega⟩
    | none =>
      obtain ⟨h1, h2⟩ := ih.1 rfl
      simp only at h1
      subst h1
      simp only [pullFeedFail]
      split
      · next hc =>
        refine ⟨nofun, fun _ => ⟨?_, by omega⟩⟩
        rw [← hc.2.2, List.take_length]
      · next hc =>
        refine ⟨fun _ => ⟨rfl, ?_⟩, nofun⟩
        rcases hsent with h | ⟨x, h⟩ <;> rw [h] at hc ⊢
        · exact h2
        · simp only [List.length_append, List.length_singleton] at hc ⊢; omega

end ScVerif.C17
