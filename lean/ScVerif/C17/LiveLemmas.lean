import ScVerif.C17.ThreadLemmas
/-!
# C17 — the call itself terminates: lemmas

Room suffices: the work left to the caller's goroutine (the consumer loop); with `pending` (the goroutines `executeEach`
starts) and `Inv.closedOK` it gives deadlock freedom of the whole call.  Room is needed: a consumer that returns within
`k` responses takes no more, so on a channel too small member goroutines stay behind.
-/
namespace ScVerif.C17

theorem consTodo_step {C : Consumer σ ρ} {behs : List Beh} {cap : Nat} {c c' : Config σ ρ}
    (hinv : Inv C behs cap c) (m : Moves C c .consumer c') : c'.consTodo < c.consTodo := by
  have hle : c.hist.length ≤ c.behs.length := by
    rw [hinv.histLen, hinv.hbehs, ← hinv.len]; exact List.countP_le_length
  cases m with
  | recv hc hr => have := lt_of_getElem? hr; simp only [Config.consTodo, hc]; omega
  | seeClose hc _ _ | handle hc _ | ret hc _ => simp only [Config.consTodo, hc]; omega

theorem work_step {C : Consumer σ ρ} {behs : List Beh} {cap : Nat} {c c' : Config σ ρ} {t : Tid}
    (hinv : Inv C behs cap c) (m : Moves C c t c') (ht : t ≠ .env) : c'.work < c.work := by
  have hp := pending_step m
  unfold Config.work
  by_cases hc : t = .consumer
  · subst hc
    have := consTodo_step hinv m
    simp only [Tid.spawned] at hp
    omega
  · -- the goroutines of `executeEach` leave the consumer's state, `taken` and `behs` alone
    obtain ⟨h1, h2⟩ := (moves_frame m).cons hc
    have hb : c'.behs = c.behs := (inv_step hinv m).hbehs.trans hinv.hbehs.symm
    have : c'.consTodo = c.consTodo := by simp only [Config.consTodo, h1, h2, hb]
    have hs : t.spawned = true := by
      cases t with
      | consumer => exact absurd rfl hc
      | env => exact absurd rfl ht
      | _ => rfl
    simp only [hs, if_true] at hp
    omega

theorem consTodo_le (c : Config σ ρ) : c.consTodo ≤ 2 * c.behs.length + 2 := by
  unfold Config.consTodo
  split <;> omega

theorem taken_le_of_returns {C : Consumer σ ρ} {behs : List Beh} {cap : Nat} {c : Config σ ρ} (h : Inv C behs cap c)
    {k : Nat} (hk : ∀ rs : List Tagged, k ≤ rs.length → (C.after rs).isReturned = true) : c.taken ≤ k := by
  obtain ⟨cf, hl, _⟩ := h.cons
  have hmin := consLog_minimal hl
  have hle := h.takenLe
  rcases Nat.lt_or_ge k c.taken with hlt | hge
  · rw [hk _ (by simp only [List.length_dropLast, List.length_take]; omega)] at hmin
    cases hmin
  · exact hge

theorem returned_frozen (C : Consumer σ ρ) (more : List Tid) (c : Config σ ρ) (h : c.cons.isReturned = true) :
    (exec C c more).taken = c.taken ∧ (exec C c more).cons = c.cons := by
  refine exec_induction (P := fun d => d.taken = c.taken ∧ d.cons = c.cons) ?_ more ⟨rfl, rfl⟩
  intro d t d' hd m
  obtain ⟨x, b, hr⟩ := ConsPc.isReturned_iff.mp (hd.2 ▸ h)
  cases m with
  | recv hc _ | seeClose hc _ _ | handle hc _ | ret hc _ => rw [hr] at hc; cases hc
  | _ => exact hd

theorem countP_isDone_le {C : Consumer σ ρ} {behs : List Beh} {cap : Nat} {c : Config σ ρ} (h : Inv C behs cap c) :
    c.members.countP MPc.isDone ≤ c.taken + max cap 1 := by
  have h1 : c.members.countP MPc.isDone ≤ c.members.countP MPc.hasSent :=
    List.countP_mono_left fun _ _ => hasSent_of_isDone
  have h2 := h.histLen
  have h3 := h.room
  omega

/-- room is needed: all goroutines of `executeEach` can only have ended if the consumer took all but `cap` responses -/
theorem spawnedDone_room {C : Consumer σ ρ} {behs : List Beh} {cap : Nat} {c : Config σ ρ} (h : Inv C behs cap c)
    (hsd : c.spawnedDone = true) : behs.length ≤ c.taken + max cap 1 := by
  have := countP_isDone_le h
  have := countP_isDone_of_spawnedDone hsd
  have := h.len
  omega

/-- `C17_small_buffer_race_always_leaks` is this for Race, `k = 1`. -/
theorem early_return_leaks {C : Consumer σ ρ} {behs : List Beh} {cap k : Nat} {c : Config σ ρ} (h : Inv C behs cap c)
    (hk : ∀ rs : List Tagged, k ≤ rs.length → (C.after rs).isReturned = true) :
    c.members.countP MPc.isDone ≤ max cap 1 + k ∧ (max cap 1 + k + 1 ≤ behs.length → c.spawnedDone = false) := by
  have htk := taken_le_of_returns h hk
  refine ⟨by have := countP_isDone_le h; omega, fun hn => ?_⟩
  cases hsd : c.spawnedDone with
  | false => rfl
  | true => have := spawnedDone_room h hsd; omega

end ScVerif.C17
