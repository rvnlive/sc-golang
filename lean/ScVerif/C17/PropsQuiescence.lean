import ScVerif.C17.PropsThreads
/-!
# C17 — what is observed at a point of quiescence does not depend on the interleaving that led to it

The harness releases one member, waits until nothing can move, observes, releases the next; in between the real
scheduler interleaves as it likes, the driver runs one particular order (`block`).  With one member released at a time
the order of the log is the release order, so the serial schedules the tie executes are representative of every
interleaving between two observation points.
-/
namespace ScVerif.C17

/-- At ANY point of quiescence reached by ANY schedule everything the harness observes
(returned or not, the value, members' context cancelled, channel closed, goroutines left) is a function of the channel
log, of which member goroutines have ended and of the caller's cancellation. -/
theorem C17_quiescence_determined (C : Consumer σ ρ) (behs : List Beh) (sched : List Tid) :
    let c := exec C (Config.spawn C behs) sched
    c.quiescent C = true →
      (∀ (i : Nat) (m : MPc), c.members[i]? = some m → m = .start ∨ m.isDone = true)
      ∧ c.closed = c.members.all MPc.isDone
      ∧ c.closer = (if c.members.all MPc.isDone then .done else .waiting)
      ∧ c.consReturned = ((C.after c.hist).isReturned || c.members.all MPc.isDone)
      ∧ (∀ x b, c.cons = .returned x b → x = C.result c.hist)
      ∧ (c.consReturned = false →
          c.taken = c.hist.length ∧ ∃ s cf, c.cons = .idle s ∧ C.after c.hist = .running s cf)
      ∧ c.cancelled = (c.envCancelled || c.consReturned || (C.after c.hist).cancelled) := by
  intro c hq
  have hinv := inv_exec C behs behs.length sched
  have h := quiescent_determined hinv (quiet_of_quiescent hinv (Nat.le_refl _) hq)
  exact ⟨h.mem, h.closed, h.closer, h.returned, h.value, h.waiting, h.cancelled⟩

/-- The log only grows at its end, each member appearing once: when one member is released
between two observation points, the log at the second is the log at the first followed by that member's response. -/
theorem C17_log_append_only (C : Consumer σ ρ) (behs : List Beh) (sched more : List Tid) :
    let c := exec C (Config.spawn C behs) sched
    let c' := exec C c more
    ∃ ext, c'.hist = c.hist ++ ext ∧ ∀ i r, (i, r) ∈ ext → ∀ r0, (i, r0) ∉ c.hist := by
  intro c c'
  obtain ⟨ext, hext⟩ := hist_append_only C more c
  refine ⟨ext, hext, ?_⟩
  intro i r hin r0 hin0
  have hc' : c' = exec C (Config.spawn C behs) (sched ++ more) := (exec_append C _ sched more).symm
  have hnd : (c'.hist.map (·.1)).Nodup := by
    rw [hc']; exact (C17_channel_log C behs (sched ++ more)).1
  rw [hext, List.map_append, List.nodup_append] at hnd
  exact hnd.2.2 i (List.mem_map.mpr ⟨(i, r0), hin0, rfl⟩) i (List.mem_map.mpr ⟨(i, r), hin, rfl⟩) rfl

/-- the driver's `block 1` and another interleaving of releasing member 1 of two under Fast end in points of quiescence
with the same log and the same observations -/
example :
    let c0 := exec fast (Config.spawn fast [⟨⟨none, some 1⟩, none⟩, ⟨⟨some 2, none⟩, none⟩]) settle
    let a := exec fast c0 (block 1)
    let b := exec fast c0 [.member 1, .closer, .member 1, .consumer, .closer, .consumer, .member 1, .consumer, .closer]
    a.quiescent fast = true ∧ b.quiescent fast = true ∧ a.hist = b.hist
    ∧ a.consReturned = b.consReturned ∧ a.cancelled = b.cancelled ∧ a.closed = b.closed ∧ a.alive = b.alive := by
  decide +kernel

end ScVerif.C17
