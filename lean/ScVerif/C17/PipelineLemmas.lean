import ScVerif.C17.SpecPipeline
import ScVerif.C17.ListLemmas
/-!
# C17 — the steps of the Pull pipeline (`Pipeline.lean`) as a relation, and what every step keeps
-/
namespace ScVerif.C17.Pipe

variable {V : Type}

/-- what a step of label `lbl` does to the lane it acts on (`watch`, `cancelled`: what it reads of the rest) -/
inductive LaneMove (watch cancelled : Bool) : Lbl V → Nat → Lane V → Lane V → Prop where
  | mStart {i l} (hm : l.m = .notStarted) (hk : cancelled = false) :
      LaneMove watch cancelled (.mStart i) i l { l with h := .idle, m := .recv }
  | mRefused {i l} (hm : l.m = .notStarted) (hk : cancelled = true) :
      LaneMove watch cancelled (.mStart i) i l { l with h := .ended, m := .ended }
  | hSend {i l v rest} (hh : l.h = .idle) (hp : l.pend = some v :: rest) (hk : watch = true ∨ cancelled = false) :
      LaneMove watch cancelled (.hStart i) i l { l with h := .sending v, pend := rest }
  | hRefused {i l v rest} (hh : l.h = .idle) (hp : l.pend = some v :: rest) (hw : watch = false) (hk : cancelled = true) :
      LaneMove watch cancelled (.hStart i) i l { l with h := .ended, pend := rest }
  | hFail {i l rest} (hh : l.h = .idle) (hp : l.pend = none :: rest) :
      LaneMove watch cancelled (.hStart i) i l { l with h := .ended, pend := rest }
  | hCtxIdle {i l} (hk : cancelled = true) (hh : l.h = .idle) :
      LaneMove watch cancelled (.hCtx i) i l { l with h := .ended }
  | hCtxSending {i l v} (hk : cancelled = true) (hw : watch = true) (hh : l.h = .sending v) :
      LaneMove watch cancelled (.hCtx i) i l { l with h := .ended }
  | hand {i l v} (hh : l.h = .sending v) (hm : l.m = .recv) :
      LaneMove watch cancelled (.hand i) i l { l with h := .idle, m := .holding v, acc := l.acc + 1 }
  | mCtx {i l} (hk : cancelled = true) (he : l.m ≠ .ended) (hn : l.m ≠ .notStarted) :
      LaneMove watch cancelled (.mCtx i) i l { l with m := .ended }
  | mEof {i l} (hh : l.h = .ended) (hm : l.m = .recv) :
      LaneMove watch cancelled (.mEof i) i l { l with m := .ended }
  | poke {i l x} : LaneMove watch cancelled (.poke i x) i l { l with pend := l.pend ++ [x] }

/-- `Pipe.step` as a relation: a move of one lane, the hand-over to the loop, or a step of `Execute` / loop / environment -/
inductive Moves [DecidableEq V] (P : Params V) (c : Cfg V) : Lbl V → Cfg V → Prop where
  | lane {lbl i l l'} (hl : c.lanes[i]? = some l) (hm : LaneMove P.watch c.cancelled lbl i l l')
      (hturn : ∀ j, lbl = .mStart j → c.prevEnded i = true) :
      Moves P c lbl { c with lanes := c.lanes.set i l' }
  | give {i l v} (hl : c.lanes[i]? = some l) (hm : l.m = .holding v) (hloop : c.loop = .selecting) :
      Moves P c (.give i)
        { c with lanes := c.lanes.set i { l with m := .recv }, st := pullFeed P.red c.st (i, [v]),
                 log := c.log ++ [(i, v)],
                 loop := if (pullFeed P.red c.st (i, [v])).sent.length = c.st.sent.length then .selecting else .inSend }
  | execCancel (hk : c.cancelled = false) (hd : c.execDone = false) (ha : P.allowed < c.endedCount) :
      Moves P c .execCancel { c with cancelled := true }
  | execRet (hd : c.execDone = false) (hr : P.retAfter ≤ c.endedCount) :
      Moves P c .execRet { c with execDone := true, cancelled := true }
  | loopErr (hd : c.execDone = true) (hloop : c.loop = .selecting ∨ c.loop = .draining) :
      Moves P c .loopErr { c with loop := .returned, cancelled := true }
  | sendOk (hloop : c.loop = .inSend) : Moves P c .sendOk { c with loop := .selecting }
  | sendFail (hloop : c.loop = .inSend) : Moves P c .sendFail { c with loop := .draining, cancelled := true }
  | cancel : Moves P c .cancel { c with cancelled := true }

theorem onLane_some (c c' : Cfg V) (i : Nat) (f : Lane V → Option (Lane V)) (h : c.onLane i f = some c') :
    ∃ l l', c.lanes[i]? = some l ∧ f l = some l' ∧ c' = { c with lanes := c.lanes.set i l' } := by
  unfold Cfg.onLane at h
  split at h
  · next l hl =>
    cases hf : f l with
    | none => simp [hf] at h
    | some l' =>
      simp [hf] at h
      exact ⟨l, l', hl, hf, h.symm⟩
  · simp at h

theorem mStartLane_move {w k : Bool} {l l' : Lane V} (i : Nat) (h : mStartLane k l = some l') :
    LaneMove w k (.mStart i) i l l' := by
  unfold mStartLane at h
  split at h
  · next hm =>
    cases h
    cases k
    · exact .mStart hm rfl
    · exact .mRefused hm rfl
  · cases h

theorem hStartLane_move {w k : Bool} {l l' : Lane V} (i : Nat) (h : hStartLane w k l = some l') :
    LaneMove w k (.hStart i) i l l' := by
  unfold hStartLane at h
  split at h
  · next v rest hh hp =>
    split at h
    · next hk =>
      cases h
      simp only [Bool.and_eq_true, Bool.not_eq_true'] at hk
      exact .hRefused hh hp hk.1 hk.2
    · next hk =>
      cases h
      refine .hSend hh hp ?_
      cases w <;> cases k <;> simp at hk ⊢
  · next rest hh hp => cases h; exact .hFail hh hp
  · cases h

theorem hCtxLane_move {w k : Bool} {l l' : Lane V} (i : Nat) (hk : k = true) (h : hCtxLane w l = some l') :
    LaneMove w k (.hCtx i) i l l' := by
  unfold hCtxLane at h
  split at h
  · next hh => cases h; exact .hCtxIdle hk hh
  · next v hh =>
    split at h
    · next hw => cases h; exact .hCtxSending hk hw hh
    · cases h
  · cases h

theorem handLane_move {w k : Bool} {l l' : Lane V} (i : Nat) (h : handLane l = some l') :
    LaneMove w k (.hand i) i l l' := by
  unfold handLane at h
  split at h
  · next v hh hm => cases h; exact .hand hh hm
  · cases h

theorem mCtxLane_move {w k : Bool} {l l' : Lane V} (i : Nat) (hk : k = true) (h : mCtxLane l = some l') :
    LaneMove w k (.mCtx i) i l l' := by
  unfold mCtxLane at h
  split at h
  · cases h
  · cases h
  · next he hn => cases h; exact .mCtx hk he hn

theorem mEofLane_move {w k : Bool} {l l' : Lane V} (i : Nat) (h : mEofLane l = some l') :
    LaneMove w k (.mEof i) i l l' := by
  unfold mEofLane at h
  split at h
  · next hh hm => cases h; exact .mEof hh hm
  · cases h

theorem moves_of_step [DecidableEq V] {P : Params V} {c c' : Cfg V} {lbl : Lbl V} (h : step P c lbl = some c') :
    Moves P c lbl c' := by
  have lane {i : Nat} {f : Lane V → Option (Lane V)} {lbl : Lbl V} (h : c.onLane i f = some c')
      (hf : ∀ l l', f l = some l' → LaneMove P.watch c.cancelled lbl i l l')
      (hturn : ∀ j, lbl = .mStart j → c.prevEnded i = true) : Moves P c lbl c' := by
    obtain ⟨l, l', hl, hfl, rfl⟩ := onLane_some _ _ _ _ h
    exact .lane hl (hf l l' hfl) hturn
  cases lbl <;> simp only [step] at h
  case mStart i =>
    split at h
    · next hp => exact lane h (fun _ _ => mStartLane_move i) (fun _ _ => hp)
    · cases h
  case hStart i => exact lane h (fun _ _ => hStartLane_move i) nofun
  case hCtx i =>
    split at h
    · next hk => exact lane h (fun _ _ => hCtxLane_move i hk) nofun
    · cases h
  case hand i => exact lane h (fun _ _ => handLane_move i) nofun
  case mCtx i =>
    split at h
    · next hk => exact lane h (fun _ _ => mCtxLane_move i hk) nofun
    · cases h
  case mEof i => exact lane h (fun _ _ => mEofLane_move i) nofun
  case poke i x => exact lane h (fun _ _ hl => by cases hl; exact .poke) nofun
  case give i =>
    split at h
    · next l hl =>
      split at h
      · next v hm hloop => cases h; exact .give hl hm hloop
      · cases h
    · cases h
  case execCancel =>
    split at h
    · next hc =>
      cases h
      simp only [Bool.and_eq_true, Bool.not_eq_true', decide_eq_true_eq] at hc
      exact .execCancel hc.1.1 hc.1.2 hc.2
    · cases h
  case execRet =>
    split at h
    · next hc =>
      cases h
      simp only [Bool.and_eq_true, Bool.not_eq_true', decide_eq_true_eq] at hc
      exact .execRet hc.1 hc.2
    · cases h
  case loopErr =>
    split at h
    · next hc =>
      cases h
      simp only [Bool.and_eq_true, Bool.or_eq_true, beq_iff_eq] at hc
      exact .loopErr hc.1 hc.2
    · cases h
  case sendOk =>
    split at h
    · next hc => cases h; exact .sendOk (by simpa using hc)
    · cases h
  case sendFail =>
    split at h
    · next hc => cases h; exact .sendFail (by simpa using hc)
    · cases h
  case cancel => cases h; exact .cancel

theorem mCtxLane_of {l : Lane V} (he : l.m ≠ .ended) (hn : l.m ≠ .notStarted) :
    mCtxLane l = some { l with m := .ended } := by
  unfold mCtxLane
  split
  · next h => exact absurd h he
  · next h => exact absurd h hn
  · rfl

theorem step_of_moves [DecidableEq V] {P : Params V} {c c' : Cfg V} {lbl : Lbl V} (m : Moves P c lbl c') :
    step P c lbl = some c' := by
  cases m with
  | lane hl hm hturn =>
    cases hm with
    | mStart hm hk => simp [step, hturn _ rfl, Cfg.onLane, hl, mStartLane, hm, hk]
    | mRefused hm hk => simp [step, hturn _ rfl, Cfg.onLane, hl, mStartLane, hm, hk]
    | hSend hh hp hk => rcases hk with hk | hk <;> simp [step, Cfg.onLane, hl, hStartLane, hh, hp, hk]
    | hRefused hh hp hw hk => simp [step, Cfg.onLane, hl, hStartLane, hh, hp, hw, hk]
    | hFail hh hp => simp [step, Cfg.onLane, hl, hStartLane, hh, hp]
    | hCtxIdle hk hh => simp [step, hk, Cfg.onLane, hl, hCtxLane, hh]
    | hCtxSending hk hw hh => simp [step, hk, Cfg.onLane, hl, hCtxLane, hh, hw]
    | hand hh hm => simp [step, Cfg.onLane, hl, handLane, hh, hm]
    | mCtx hk he hn => simp [step, hk, Cfg.onLane, hl, mCtxLane_of he hn]
    | mEof hh hm => simp [step, Cfg.onLane, hl, mEofLane, hh, hm]
    | poke => simp [step, Cfg.onLane, hl]
  | give hl hm hloop => simp [step, hl, hm, hloop]
  | execCancel hk hd ha => simp [step, hk, hd, ha]
  | execRet hd hr => simp [step, hd, hr]
  | loopErr hd hloop => rcases hloop with h | h <;> simp [step, hd, h]
  | sendOk hloop => simp [step, hloop]
  | sendFail hloop => simp [step, hloop]
  | cancel => rfl

theorem moves_stuck [DecidableEq V] {P : Params V} {c c' : Cfg V} {lbl : Lbl V} (h : step P c lbl = none)
    (m : Moves P c lbl c') : False := by
  rw [step_of_moves m] at h; cases h

theorem run_cons [DecidableEq V] {P : Params V} {c c' : Cfg V} {l : Lbl V} {ls : List (Lbl V)} :
    run P c (l :: ls) = some c' ↔ ∃ c1, step P c l = some c1 ∧ run P c1 ls = some c' := by
  simp only [run]
  cases step P c l <;> simp

theorem run_induction [DecidableEq V] {P : Params V} {Q : Cfg V → Prop}
    (hstep : ∀ {c lbl c'}, Q c → Moves P c lbl c' → Q c') {ls : List (Lbl V)} {c c' : Cfg V}
    (h : run P c ls = some c') (hq : Q c) : Q c' := by
  induction ls generalizing c with
  | nil => cases h; exact hq
  | cons l ls ih =>
    obtain ⟨c1, h1, h⟩ := run_cons.mp h
    exact ih h (hstep hq (moves_of_step h1))

theorem lanesW_set (ls : List (Lane V)) (i : Nat) (l l' : Lane V) (h : ls[i]? = some l) :
    lanesW (ls.set i l') + laneW l = lanesW ls + laneW l' :=
  ScVerif.Base.sum_map_set laneW l' h

theorem laneMove_work {w k : Bool} {lbl : Lbl V} {i : Nat} {l l' : Lane V} (m : LaneMove w k lbl i l l')
    (hi : lbl.internal = true) : laneW l' < laneW l := by
  cases m with
  | poke => cases hi
  | mCtx _ he hn => cases hm : l.m <;> simp_all [laneW, mW]
  | mStart hm _ => simp only [laneW, mW, hm, hW]; omega
  | mRefused hm _ => simp [laneW, hW, mW, hm]; omega
  | hSend hh hp _ => simp [laneW, hW, hh, hp]; omega
  | hRefused hh hp _ _ => simp [laneW, hW, hh, hp]; omega
  | hFail hh hp => simp [laneW, hW, hh, hp]; omega
  | hCtxIdle _ hh => simp [laneW, hW, hh]
  | hCtxSending _ _ hh => simp [laneW, hW, hh]
  | hand hh hm => simp [laneW, hW, mW, hh, hm]
  | mEof _ hm => simp [laneW, mW, hm]

theorem step_work [DecidableEq V] (P : Params V) (c c' : Cfg V) (lbl : Lbl V) (hi : lbl.internal = true)
    (h : step P c lbl = some c') : c'.work < c.work := by
  cases moves_of_step h with
  | @lane _ i l l' hl hm _ =>
    have := lanesW_set c.lanes i l l' hl
    have := laneMove_work hm hi
    simp only [Cfg.work]
    omega
  | @give i l v hl hm hloop =>
    -- the member goes back into `Recv` (2 units less); the loop stays in its select or enters `Send` (1 more)
    have := lanesW_set c.lanes i l { l with m := .recv } hl
    have h1 : laneW ({ l with m := .recv } : Lane V) + 2 = laneW l := by simp [laneW, hm, mW]
    have hx : lW (if (pullFeed P.red c.st (i, [v])).sent.length = c.st.sent.length then LSt.selecting else .inSend) ≤ 3 := by
      split <;> simp [lW]
    have h2 : lW LSt.selecting = 2 := rfl
    simp only [Cfg.work, hloop]
    omega
  | execCancel hk _ _ => simp [Cfg.work, hk]
  | execRet hd _ =>
    -- the unit kept for `execDone` is used up; the one for `cancelled` too if it was still there
    simp [Cfg.work, hd]
    split <;> omega
  | loopErr _ hloop =>
    -- the loop's own units (2 in its select, 1 while draining) are used up, whether or not `cancelled` had one left
    simp only [Cfg.work]
    rcases hloop with h2 | h2 <;> simp [h2, lW] <;> split <;> omega
  | sendOk | sendFail | cancel => cases hi

theorem run_internal_bound [DecidableEq V] (P : Params V) (ls : List (Lbl V)) (c c' : Cfg V)
    (hall : ∀ l ∈ ls, l.internal = true) (h : run P c ls = some c') : ls.length + c'.work ≤ c.work := by
  induction ls generalizing c with
  | nil => simp [run] at h; subst h; simp
  | cons l ls ih =>
    obtain ⟨c1, h1, h⟩ := run_cons.mp h
    have := step_work P c c1 l (hall l (by simp)) h1
    have := ih c1 (fun x hx => hall x (by simp [hx])) h
    simp; omega

theorem lane_stuck_ended [DecidableEq V] (P : Params V) (c : Cfg V) (hw : P.watch = true) (hc : c.cancelled = true)
    (hst : Quiet P c) (i : Nat) (l : Lane V)
    (hli : c.lanes[i]? = some l) (hprev : c.prevEnded i = true) : l.h = .ended ∧ l.m = .ended := by
  constructor
  · cases hh : l.h with
    | idle => exact (moves_stuck (hst (.hCtx i) rfl) (.lane hli (.hCtxIdle hc hh) nofun)).elim
    | sending v => exact (moves_stuck (hst (.hCtx i) rfl) (.lane hli (.hCtxSending hc hw hh) nofun)).elim
    | ended => rfl
  · cases hm : l.m with
    | notStarted => exact (moves_stuck (hst (.mStart i) rfl) (.lane hli (.mRefused hm hc) fun _ _ => hprev)).elim
    | recv => exact (moves_stuck (hst (.mCtx i) rfl) (.lane hli (.mCtx hc (by simp [hm]) (by simp [hm])) nofun)).elim
    | holding v => exact (moves_stuck (hst (.mCtx i) rfl) (.lane hli (.mCtx hc (by simp [hm]) (by simp [hm])) nofun)).elim
    | ended => rfl

theorem stuck_cancelled_ended [DecidableEq V] (P : Params V) (c : Cfg V) (hw : P.watch = true) (hc : c.cancelled = true)
    (hret : P.retAfter ≤ c.lanes.length)
    (hst : Quiet P c) :
    c.allEnded ∧ c.execDone = true ∧ (c.loop = .returned ∨ c.loop = .inSend) := by
  -- lane by lane: the turn of lane `j + 1` has come once the member of lane `j` has ended
  have hidx : ∀ (i : Nat) (l : Lane V), c.lanes[i]? = some l → l.h = .ended ∧ l.m = .ended := by
    intro i
    induction i with
    | zero => exact fun l hl => lane_stuck_ended P c hw hc hst 0 l hl rfl
    | succ j ih =>
      intro l hl
      refine lane_stuck_ended P c hw hc hst (j + 1) l hl ?_
      have hj : j < c.lanes.length := by have := lt_of_getElem? hl; omega
      have hp : c.lanes[j]? = some c.lanes[j] := List.getElem?_eq_getElem hj
      simp [Cfg.prevEnded, hp, (ih _ hp).2, MSt.isEnded]
  have hall : c.allEnded := by
    intro l hl
    obtain ⟨i, hi⟩ := List.mem_iff_getElem?.mp hl
    exact hidx i l hi
  have hcount : c.endedCount = c.lanes.length :=
    List.countP_eq_length.mpr fun l hl => by simp [(hall l hl).2, MSt.isEnded]
  have hdone : c.execDone = true := by
    cases hd : c.execDone with
    | true => rfl
    | false => exact (moves_stuck (hst .execRet rfl) (.execRet hd (by omega))).elim
  refine ⟨hall, hdone, ?_⟩
  cases hl : c.loop with
  | selecting => exact (moves_stuck (hst .loopErr rfl) (.loopErr hdone (Or.inl hl))).elim
  | draining => exact (moves_stuck (hst .loopErr rfl) (.loopErr hdone (Or.inr hl))).elim
  | inSend => exact Or.inr rfl
  | returned => exact Or.inl rfl

theorem lane_at_rest [DecidableEq V] {P : Params V} {c : Cfg V} {i : Nat} {l : Lane V} (hl : c.lanes[i]? = some l)
    (hm : l.m ≠ .notStarted) (hme : l.m ≠ .ended) (hhe : l.h ≠ .ended) (hloop : c.loop = .selecting)
    (h1 : step P c (.hStart i) = none) (h2 : step P c (.hand i) = none) (h3 : step P c (.give i) = none) :
    l.h = .idle ∧ l.m = .recv ∧ l.pend = [] := by
  have hm : l.m = .recv := by
    cases hm' : l.m with
    | notStarted => exact absurd hm' hm
    | recv => rfl
    | holding v => exact (moves_stuck h3 (.give hl hm' hloop)).elim
    | ended => exact absurd hm' hme
  have hh : l.h = .idle := by
    cases hh' : l.h with
    | idle => rfl
    | sending v => exact (moves_stuck h2 (.lane hl (.hand hh' hm) nofun)).elim
    | ended => exact absurd hh' hhe
  refine ⟨hh, hm, ?_⟩
  cases hp : l.pend with
  | nil => rfl
  | cons x xs =>
    -- with an idle handler and an instruction waiting, `hStart` is enabled (report, refusal or failure)
    cases x with
    | none => exact (moves_stuck h1 (.lane hl (.hFail hh hp) nofun)).elim
    | some v =>
      by_cases hk : P.watch = true ∨ c.cancelled = false
      · exact (moves_stuck h1 (.lane hl (.hSend hh hp hk) nofun)).elim
      · exact (moves_stuck h1 (.lane hl (.hRefused hh hp (by simpa using fun h => hk (Or.inl h))
          (by simpa using fun h => hk (Or.inr h))) nofun)).elim

theorem step_cancelled [DecidableEq V] {P : Params V} {c c' : Cfg V} {lbl : Lbl V} (hc : c.cancelled = true)
    (m : Moves P c lbl c') : c'.cancelled = true := by
  cases m with
  | lane | give | sendOk => exact hc
  | _ => rfl

theorem step_lanes_length [DecidableEq V] (P : Params V) (c d : Cfg V) (l : Lbl V) (hs : step P c l = some d) :
    d.lanes.length = c.lanes.length := by
  cases moves_of_step hs with
  | lane | give => exact List.length_set
  | _ => rfl

theorem run_lanes_length [DecidableEq V] (P : Params V) (ls : List (Lbl V)) (c c' : Cfg V)
    (h : run P c ls = some c') : c'.lanes.length = c.lanes.length :=
  run_induction (Q := fun d => d.lanes.length = c.lanes.length)
    (fun hq m => (step_lanes_length P _ _ _ (step_of_moves m)).trans hq) h rfl

theorem laneMove_parked {k : Bool} {lbl : Lbl V} {i : Nat} {l l' : Lane V} (m : LaneMove false k lbl i l l')
    (hp : l.parked) : l'.parked := by
  obtain ⟨⟨v, hv⟩, hm⟩ := hp
  cases m with
  | poke => exact ⟨⟨v, hv⟩, hm⟩
  | mStart h _ | mRefused h _ | hand _ h | mEof _ h => rw [hm] at h; cases h
  | hSend h _ _ | hRefused h _ _ _ | hFail h _ | hCtxIdle _ h => rw [hv] at h; cases h
  | hCtxSending _ hw _ => cases hw
  | mCtx _ he _ => exact absurd hm he

theorem step_parked [DecidableEq V] {P : Params V} (hw : P.watch = false) {i : Nat} {c c' : Cfg V} {lbl : Lbl V}
    (hp : c.parked i) (m : Moves P c lbl c') : c'.parked i := by
  cases m with
  | lane hl hm _ =>
    exact exists_getElem?_set hp fun a ha hq => by rw [hl] at ha; cases ha; exact laneMove_parked (hw ▸ hm) hq
  | give hl hm _ =>
    -- the member of a parked lane holds nothing
    exact exists_getElem?_set hp fun a ha hq => by rw [hl] at ha; cases ha; rw [hq.2] at hm; cases hm
  | _ => exact hp

/-- the loop's state is the sequential Pull loop of `Adapters.lean` run on the messages taken (ghost `log`) -/
def Cfg.logInv [DecidableEq V] (red : List (Option V) → Option V) (n : Nat) (c : Cfg V) : Prop :=
  c.st = pullRun red n (c.log.map fun e => (e.1, [e.2]))

theorem step_logInv [DecidableEq V] {P : Params V} {n : Nat} {c c' : Cfg V} {lbl : Lbl V}
    (hi : c.logInv P.red n) (m : Moves P c lbl c') : c'.logInv P.red n := by
  cases m with
  | give =>
    unfold Cfg.logInv at *
    simp only [pullRun, List.map_append, List.foldl_append, List.map_cons, List.map_nil, List.foldl_cons,
      List.foldl_nil] at hi ⊢
    rw [← hi]
  | _ => exact hi

theorem left_zero_of_allEnded (c : Cfg V) (h : c.allEnded) : c.left = 0 := by
  unfold Cfg.left
  have h1 : (c.lanes.countP fun l => !l.h.isEnded) = 0 := by
    rw [List.countP_eq_zero]; intro l hl; simp [(h l hl).1, HSt.isEnded]
  have h2 : (c.lanes.countP fun l => !l.m.isEnded) = 0 := by
    rw [List.countP_eq_zero]; intro l hl; simp [(h l hl).2, MSt.isEnded]
  omega

theorem left_pos_of_parked (c : Cfg V) (i : Nat) (h : c.parked i) : 0 < c.left := by
  obtain ⟨l, hl, ⟨v, hv⟩, _⟩ := h
  unfold Cfg.left
  have : 0 < c.lanes.countP fun l => !l.h.isEnded := by
    rw [List.countP_pos_iff]
    exact ⟨l, List.mem_of_getElem? hl, by simp [hv, HSt.isEnded]⟩
  omega

theorem internalLabels_internal (n : Nat) : ∀ l ∈ (internalLabels n : List (Lbl V)), l.internal = true := by
  intro l hl
  simp only [internalLabels, List.mem_append, List.mem_flatMap, List.mem_range] at hl
  rcases hl with ⟨i, _, hm⟩ | hm
  · simp at hm; rcases hm with rfl | rfl | rfl | rfl | rfl | rfl | rfl <;> rfl
  · simp at hm; rcases hm with rfl | rfl | rfl <;> rfl

theorem internal_mem [DecidableEq V] (P : Params V) (c d : Cfg V) (l : Lbl V) (hi : l.internal = true)
    (hs : step P c l = some d) : l ∈ internalLabels c.lanes.length := by
  have lane {i : Nat} {x : Lane V} (hl : c.lanes[i]? = some x) {l : Lbl V}
      (h : l ∈ [.mStart i, .hStart i, .hCtx i, .hand i, .mCtx i, .mEof i, .give i]) :
      l ∈ internalLabels c.lanes.length :=
    List.mem_append_left _ (List.mem_flatMap.mpr ⟨i, List.mem_range.mpr (lt_of_getElem? hl), h⟩)
  cases moves_of_step hs with
  | lane hl hm _ => exact lane hl (by cases hm with | poke => cases hi | _ => simp)
  | give hl _ _ => exact lane hl (by simp)
  | execCancel | execRet | loopErr => simp [internalLabels]
  | sendOk | sendFail | cancel => cases hi

/-- `succs` lists exactly the enabled steps of the pipeline's own threads -/
theorem mem_succs [DecidableEq V] (P : Params V) (c d : Cfg V) :
    d ∈ succs P c ↔ ∃ l : Lbl V, l.internal = true ∧ step P c l = some d := by
  simp only [succs, List.mem_filterMap]
  exact ⟨fun ⟨l, hl, hs⟩ => ⟨l, internalLabels_internal _ l hl, hs⟩, fun ⟨l, hi, hs⟩ => ⟨l, internal_mem P c d l hi hs, hs⟩⟩

theorem succs_isEmpty_iff [DecidableEq V] (P : Params V) (c : Cfg V) :
    (succs P c).isEmpty = true ↔ Quiet P c := by
  rw [List.isEmpty_iff, List.eq_nil_iff_forall_not_mem]
  constructor
  · intro h lbl hi
    cases hs : step P c lbl with
    | none => rfl
    | some d => exact absurd ((mem_succs P c d).mpr ⟨lbl, hi, hs⟩) (h d)
  · intro h d hd
    obtain ⟨l, hi, hs⟩ := (mem_succs P c d).mp hd
    rw [h l hi] at hs; cases hs

end ScVerif.C17.Pipe
