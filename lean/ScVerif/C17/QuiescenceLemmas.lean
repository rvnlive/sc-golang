import ScVerif.C17.ThreadLemmas
/-!
# C17 — what a point of quiescence looks like, whatever schedule led to it

`Quiet`: the shape of a configuration in which no step of the closer, the consumer or a released member goroutine is
enabled.  With the invariant, what is observed at such a point is a function of the channel log and of which member
goroutines have ended.
-/
namespace ScVerif.C17

/-- No field reads `C`: it is there so that `Quiet C c` stands beside `c.quiescent C`, the test it characterises. -/
structure Quiet (C : Consumer σ ρ) (c : Config σ ρ) : Prop where
  mem : ∀ (j : Nat) (m : MPc), c.members[j]? = some m → m = .start ∨ m.isDone = true
  closer : (c.closer = .waiting ∧ c.members.all MPc.isDone = false ∧ c.closed = false)
    ∨ (c.closer = .done ∧ c.closed = true)
  cons : c.cons.isReturned = true ∨ ∃ s, c.cons = .idle s ∧ c.taken = c.hist.length ∧ c.closed = false

theorem quiescent_iff (C : Consumer σ ρ) (c : Config σ ρ) :
    c.quiescent C = true ↔ step C c .closer = none ∧ step C c .consumer = none
      ∧ ∀ (i : Nat) (m : MPc), c.members[i]? = some m → m ≠ .start → step C c (.member i) = none := by
  simp only [Config.quiescent, Bool.and_eq_true, Option.isNone_iff_eq_none, List.all_eq_true, List.mem_range, and_assoc]
  refine and_congr_right fun _ => and_congr_right fun _ => ⟨fun h i m hm hne => ?_, fun h i hi => ?_⟩
  · have := h i (lt_of_getElem? hm)
    rw [hm] at this
    cases m with
    | start => exact absurd rfl hne
    | _ => simpa using this
  · rw [List.getElem?_eq_getElem hi]
    cases hm : c.members[i] with
    | start => rfl
    | _ => simpa using h i _ (List.getElem?_eq_getElem hi) (by rw [hm]; nofun)

theorem quiet_of_quiescent {C : Consumer σ ρ} {behs : List Beh} {cap : Nat} {c : Config σ ρ} (hinv : Inv C behs cap c)
    (hcap : behs.length ≤ cap) (hq : c.quiescent C = true) : Quiet C c := by
  obtain ⟨hcl, hco, hm⟩ := (quiescent_iff C c).mp hq
  refine ⟨fun i m hi => ?_, closer_stuck hinv hcl, consumer_stuck hinv hco⟩
  by_cases hs : m = .start
  · exact Or.inl hs
  · exact Or.inr (member_stuck hinv hcap hi (hm i m hi hs))

theorem quiet_quiescent (C : Consumer σ ρ) (c : Config σ ρ) (h : Quiet C c) : c.quiescent C = true := by
  refine (quiescent_iff C c).mpr ⟨?_, ?_, fun i m hm hne => ?_⟩
  · rcases h.closer with ⟨h1, h2, _⟩ | ⟨h1, _⟩
    · simp [step, stepCloser, h1, h2]
    · simp [step, stepCloser, h1]
  · rcases h.cons with h1 | ⟨s, h1, h2, h3⟩
    · obtain ⟨x, b, hc⟩ := ConsPc.isReturned_iff.mp h1
      simp [step, stepConsumer, hc]
    · simp [step, stepConsumer, h1, h2, h3]
  · rcases h.mem i m hm with h1 | h1
    · exact absurd h1 hne
    · cases m <;> simp [MPc.isDone, step, stepMember, hm] at h1 ⊢

/-- `Config.quiescent` is the checker the witnesses evaluate; with every member past its gate it speaks of all
goroutines of `executeEach` -/
theorem spawned_stuck_of_quiescent {C : Consumer σ ρ} {c : Config σ ρ} (hq : c.quiescent C = true)
    (hr : c.allReturned = true) (t : Tid) (ht : t.spawned = true) : (step C c t).isNone = true := by
  obtain ⟨hcl, _, hm⟩ := (quiescent_iff C c).mp hq
  rw [Option.isNone_iff_eq_none]
  cases t with
  | member i =>
    cases hi : c.members[i]? with
    | none => simp [step, stepMember, hi]
    | some m =>
      refine hm i m hi fun hs => ?_
      have := List.all_eq_true.mp hr m (List.mem_of_getElem? hi)
      rw [hs] at this; cases this
  | closer => exact hcl
  | consumer | env => cases ht

/-- What the harness observes of `c` at a point of quiescence, as a function of the channel log, of which member
goroutines have ended and of the caller's cancellation. -/
structure Observed (C : Consumer σ ρ) (c : Config σ ρ) : Prop where
  mem : ∀ (i : Nat) (m : MPc), c.members[i]? = some m → m = .start ∨ m.isDone = true
  closed : c.closed = c.members.all MPc.isDone
  closer : c.closer = (if c.members.all MPc.isDone then .done else .waiting)
  returned : c.consReturned = ((C.after c.hist).isReturned || c.members.all MPc.isDone)
  value : ∀ x b, c.cons = .returned x b → x = C.result c.hist
  waiting : c.consReturned = false →
    c.taken = c.hist.length ∧ ∃ s cf, c.cons = .idle s ∧ C.after c.hist = .running s cf
  cancelled : c.cancelled = (c.envCancelled || c.consReturned || (C.after c.hist).cancelled)

theorem quiescent_determined {C : Consumer σ ρ} {behs : List Beh} {cap : Nat} {c : Config σ ρ}
    (hinv : Inv C behs cap c) (hq : Quiet C c) : Observed C c := by
  have hclosed : c.closed = c.members.all MPc.isDone ∧ c.closer = (if c.members.all MPc.isDone then .done else .waiting) := by
    rcases hq.closer with ⟨h1, h2, h3⟩ | ⟨h1, h3⟩
    · simp [h1, h2, h3]
    · simp [h1, h3, hinv.closerOK (by rw [h1]; nofun)]
  suffices h : c.consReturned = ((C.after c.hist).isReturned || c.members.all MPc.isDone)
      ∧ (∀ x b, c.cons = .returned x b → x = C.result c.hist)
      ∧ (c.consReturned = false →
          c.taken = c.hist.length ∧ ∃ s cf, c.cons = .idle s ∧ C.after c.hist = .running s cf)
      ∧ c.cancelled = (c.envCancelled || c.consReturned || (C.after c.hist).cancelled) from
    ⟨hq.mem, hclosed.1, hclosed.2, h.1, h.2.1, h.2.2.1, h.2.2.2⟩
  rw [consReturned_eq, ← hclosed.1]
  rcases hq.cons with hr | ⟨s, hs, ht, hcl⟩
  · obtain ⟨x, b, hcs⟩ := ConsPc.isReturned_iff.mp hr
    obtain ⟨hres, hin, hcanc⟩ := inv_returned hinv hcs
    -- the loop's verdict on the responses taken is its verdict on the whole log
    have hlog : x = C.result c.hist ∧ ((C.after c.hist).isReturned || c.closed) = true := by
      cases b with
      | false =>
        have hst := after_stable C (c.hist.take c.taken) (c.hist.drop c.taken) x (hin rfl)
        rw [List.take_append_drop] at hst
        exact ⟨(result_of_returned hst).symm, by simp [hst, Run.isReturned]⟩
      | true =>
        obtain ⟨h1, h2⟩ := hinv.byClose x hcs
        rw [h1, List.take_length] at hres
        exact ⟨hres.symm, by simp [h2]⟩
    rw [hcs]
    refine ⟨by simp [ConsPc.isReturned, hlog.2], fun x' b' hx => by cases hx; exact hlog.1, by simp [ConsPc.isReturned], ?_⟩
    simp [hcanc, ConsPc.isReturned]
  · obtain ⟨cf, hk, hcanc⟩ := hinv.cons
    rw [hs, ht, List.take_length] at hk
    refine ⟨by simp [hs, ConsPc.isReturned, show C.after _ = _ from hk, Run.isReturned, hcl],
      fun x b hx => (by rw [hs] at hx; cases hx), fun _ => ⟨ht, s, cf, hs, hk⟩, ?_⟩
    simp [hcanc, hs, ConsPc.isReturned, show C.after _ = _ from hk, Run.cancelled]

end ScVerif.C17
