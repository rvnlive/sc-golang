import ScVerif.C17.ExecParams
import ScVerif.C17.QuiescenceLemmas
import ScVerif.C17.LogLemmas
/-!
# C17 — lemmas for `PropsContract.lean`: what a consumer has done after `k` failures, and what a point of
quiescence of the thread model looks like when no member ever succeeds
-/
namespace ScVerif.C17

theorem quiescent_view {C : Consumer σ ρ} {behs : List Beh} {c : Config σ ρ} (hinv : Inv C behs behs.length c)
    (hh : HistInv c) (hb : ∀ b ∈ behs, b.neverSucceeds) (hq : c.quiescent C = true) :
      ∃ rs : List Tagged, rs.length = c.members.countP MPc.isDone ∧ (∀ r ∈ rs, r.2.err.isSome = true)
        ∧ c.members.countP MPc.isDone ≤ behs.length
        ∧ c.consReturned = ((C.after rs).isReturned || decide (c.members.countP MPc.isDone = behs.length))
        ∧ c.cancelled = (c.envCancelled || c.consReturned || (C.after rs).cancelled) := by
  have hlen := hinv.len
  have hobs := quiescent_determined hinv (quiet_of_quiescent hinv (Nat.le_refl _) hq)
  have hmem := hobs.mem
  refine ⟨c.hist, ?_, ?_, ?_, ?_, hobs.cancelled⟩
  · rw [hinv.histLen]
    -- a member at its gate has not sent; one that has ended has
    apply List.countP_congr
    intro m hm
    obtain ⟨i, hi⟩ := List.mem_iff_getElem?.mp hm
    rcases hmem i m hi with rfl | hd
    · rfl
    · cases m with
      | done r => rfl
      | _ => cases hd
  · intro r hr
    obtain ⟨b, hbi, hrb⟩ := hist_own hh hr
    have hbm : b ∈ behs := hinv.hbehs ▸ List.mem_of_getElem? hbi
    rcases hrb with h | h
    · rw [h]; exact (hb b hbm).1
    · exact (hb b hbm).2 _ h
  · rw [← hlen]; exact List.countP_le_length
  · rw [hobs.returned, all_eq_decide_countP, hlen]

/-- The contract follows from what the consumer has done after `k` failures: it has returned (from inside its
loop, or because all `n` have arrived) exactly if `p.2 ≤ k`, and unless it has returned it has cancelled exactly
if `p.1 < k`. -/
theorem meets_of_after (C : Consumer σ ρ) (n : Nat) (p : Nat × Nat)
    (h : ∀ rs : List Tagged, (∀ r ∈ rs, r.2.err.isSome = true) → rs.length ≤ n →
      ((C.after rs).isReturned || decide (rs.length = n)) = decide (p.2 ≤ rs.length)
      ∧ (decide (p.2 ≤ rs.length) || (C.after rs).cancelled) = (decide (p.1 < rs.length) || decide (p.2 ≤ rs.length))) :
    MeetsContract C n p := by
  intro behs hn hb sched
  dsimp only
  have hinv : Inv C behs behs.length (exec C (Config.spawn C behs) sched) := inv_exec C behs behs.length sched
  have hh : HistInv (exec C (Config.spawn C behs) sched) := histInv_exec C behs behs.length sched
  generalize exec C (Config.spawn C behs) sched = c at hinv hh
  intro hq
  obtain ⟨rs, hlen, hfail, hle, hret, hcan⟩ := quiescent_view hinv hh hb hq
  rw [hn] at hle hret
  rw [← hlen] at hle hret ⊢
  obtain ⟨h1, h2⟩ := h rs hfail hle
  rw [h1] at hret
  exact ⟨hret, by rw [hcan, hret, Bool.or_assoc, h2, Bool.or_assoc]⟩

/-- UpTo, whose budget `allowed` is the natural number `a` on `1..n`: it waits for all `n` -/
theorem meets_upTo (n : Nat) (allowed : Int) (a : Nat)
    (ha : ∀ k, 0 < k → k ≤ n → (((k : Nat) : Int) > allowed ↔ a < k)) :
    MeetsContract (upTo n allowed) n (a, n) := by
  apply meets_of_after
  intro rs hfail hle
  rw [upTo_after_cancelled, show failuresT rs = rs.length from List.countP_eq_length.mpr hfail, upTo_after]
  show (false || _) = _ ∧ _
  refine ⟨by simp; omega, ?_⟩
  by_cases h0 : 0 < rs.length
  · simp [h0, ha rs.length h0 hle, Bool.or_comm]
  · have h00 : rs.length = 0 := by omega
    simp [h00]

theorem meets_fast (n : Nat) : MeetsContract fast n (n, n) := by
  apply meets_of_after
  intro rs hfail hle
  rw [fast_after_fail rs hfail]
  have : ¬ n < rs.length := by omega
  exact ⟨by simp [Run.isReturned]; omega, by simp [Run.cancelled, this]⟩

theorem meets_race (n : Nat) : MeetsContract race n (n, min 1 n) := by
  apply meets_of_after
  intro rs hfail hle
  cases rs with
  | nil => exact ⟨by simp [race_after]; omega, by simp [Consumer.after, Consumer.start, Run.cancelled]⟩
  | cons r rs =>
    have hr : (race.after (r :: rs)).isReturned = true := by simp [race_after]
    have hc : (race.after (r :: rs)).cancelled = true := by
      cases h : race.after (r :: rs) with
      | running s cf => simp [h, Run.isReturned] at hr
      | returned x => rfl
    exact ⟨by rw [hr]; simp; omega, by rw [hc]; simp; omega⟩

/-- `Execute` never waits for more members than there are: the hypothesis `retAfter ≤ n` of `C17_pull_members_released` -/
theorem execParams_retAfter_le (st : Strategy) (n : Nat) : (execParams st n).2 ≤ n := by
  cases st <;> simp only [execParams, Nat.le_refl, Nat.min_le_right]

end ScVerif.C17
