import ScVerif.C17.ErrLemmas
/-!
# C17 — relabelling of error values, thread level

The whole interleaved execution (`exec`) commutes with relabelling the members' error values: the
relabelled members under the same schedule go through exactly the relabelled configurations.
-/
namespace ScVerif.C17

theorem respond_mapErr (f : Nat → Nat) (b : Beh) (canc : Bool) :
    (b.mapErr f).respond canc = (b.respond canc).mapErr f := by
  unfold Beh.respond Beh.mapErr
  cases canc
  · rfl
  · cases b.onCancel <;> rfl

theorem isDone_mapErr (f : Nat → Nat) (m : MPc) : (m.mapErr f).isDone = m.isDone := by
  cases m <;> rfl

theorem all_isDone_map (f : Nat → Nat) (l : List MPc) :
    (l.map (MPc.mapErr f)).all MPc.isDone = l.all MPc.isDone := by
  induction l with
  | nil => rfl
  | cons m l ih => simp only [List.map_cons, List.all_cons, isDone_mapErr, ih]

theorem isIdle_mapErr (f : Nat → Nat) (gσ : σ → σ) (gρ : ρ → ρ) (p : ConsPc σ ρ) :
    (p.mapErr f gσ gρ).isIdle = p.isIdle := by
  cases p <;> rfl

theorem stepMember_map (f : Nat → Nat) (gσ : σ → σ) (gρ : ρ → ρ) (c : Config σ ρ) (i : Nat) :
    stepMember (c.mapErr f gσ gρ) i = (stepMember c i).map (Config.mapErr f gσ gρ) := by
  unfold stepMember
  simp only [Config.mapErr, List.getElem?_map, List.length_map, isIdle_mapErr]
  cases hm : c.members[i]? with
  | none => rfl
  | some m =>
    cases m with
    | start =>
      cases hb : c.behs[i]? with
      | none => rfl
      | some b =>
        simp only [Option.map_some, MPc.mapErr, respond_mapErr]
        simp only [Config.mapErr, List.map_set, MPc.mapErr]
    | ran r =>
      simp only [Option.map_some, MPc.mapErr]
      split
      · simp only [Option.map_some, MPc.mapErr, mapT]
        simp only [Config.mapErr, List.map_set, List.map_append, List.map_cons, List.map_nil, MPc.mapErr, mapT]
      · rfl
    | sent r =>
      simp only [Option.map_some, MPc.mapErr]
      simp only [Config.mapErr, List.map_set, MPc.mapErr]
    | done r =>
      simp only [Option.map_some, MPc.mapErr]
      cases c.behs[i]? <;> rfl

theorem stepCloser_map (f : Nat → Nat) (gσ : σ → σ) (gρ : ρ → ρ) (c : Config σ ρ) :
    stepCloser (c.mapErr f gσ gρ) = (stepCloser c).map (Config.mapErr f gσ gρ) := by
  unfold stepCloser
  simp only [Config.mapErr, all_isDone_map]
  cases c.closer with
  | waiting =>
    simp only
    cases c.members.all MPc.isDone <;> rfl
  | woke => rfl
  | done => rfl

theorem stepConsumer_map (C : Consumer σ ρ) (f : Nat → Nat) (gσ : σ → σ) (gρ : ρ → ρ)
    (h : Equivariant C f gσ gρ) (c : Config σ ρ) :
    stepConsumer C (c.mapErr f gσ gρ) = (stepConsumer C c).map (Config.mapErr f gσ gρ) := by
  unfold stepConsumer
  simp only [Config.mapErr]
  cases hc : c.cons with
  | idle s =>
    simp only [ConsPc.mapErr, List.getElem?_map]
    cases c.hist[c.taken]? with
    | none =>
      simp only [Option.map_none]
      by_cases hcl : c.closed = true
      · simp [hcl, h.close, Config.mapErr, ConsPc.mapErr]
      · simp [hcl]
    | some r => rfl
  | got s r =>
    simp only [ConsPc.mapErr]
    rw [h.recv]
    cases C.onRecv s r with
    | next s' cn => rfl
    | ret x => rfl
  | returned x b => rfl

theorem step_map (C : Consumer σ ρ) (f : Nat → Nat) (gσ : σ → σ) (gρ : ρ → ρ)
    (h : Equivariant C f gσ gρ) (c : Config σ ρ) (t : Tid) :
    step C (c.mapErr f gσ gρ) t = (step C c t).map (Config.mapErr f gσ gρ) := by
  cases t with
  | member i => exact stepMember_map f gσ gρ c i
  | closer => exact stepCloser_map f gσ gρ c
  | consumer => exact stepConsumer_map C f gσ gρ h c
  | env => rfl

theorem stepD_map (C : Consumer σ ρ) (f : Nat → Nat) (gσ : σ → σ) (gρ : ρ → ρ)
    (h : Equivariant C f gσ gρ) (c : Config σ ρ) (t : Tid) :
    stepD C (c.mapErr f gσ gρ) t = (stepD C c t).mapErr f gσ gρ := by
  unfold stepD
  rw [step_map C f gσ gρ h]
  cases step C c t <;> rfl

theorem exec_map (C : Consumer σ ρ) (f : Nat → Nat) (gσ : σ → σ) (gρ : ρ → ρ)
    (h : Equivariant C f gσ gρ) (sched : List Tid) (c : Config σ ρ) :
    exec C (c.mapErr f gσ gρ) sched = (exec C c sched).mapErr f gσ gρ := by
  induction sched generalizing c with
  | nil => rfl
  | cons t ts ih =>
    show exec C (stepD C (c.mapErr f gσ gρ) t) ts = (exec C (stepD C c t) ts).mapErr f gσ gρ
    rw [stepD_map C f gσ gρ h, ih]

theorem spawn_map (C : Consumer σ ρ) (f : Nat → Nat) (gσ : σ → σ) (gρ : ρ → ρ)
    (h : Equivariant C f gσ gρ) (behs : List Beh) :
    Config.spawn C (behs.map (Beh.mapErr f)) = (Config.spawn C behs).mapErr f gσ gρ := by
  simp [Config.spawn, Config.init, Config.mapErr, ConsPc.mapErr, h.init, MPc.mapErr]

theorem alive_mapErr (f : Nat → Nat) (gσ : σ → σ) (gρ : ρ → ρ) (c : Config σ ρ) :
    (c.mapErr f gσ gρ).alive = c.alive := by
  unfold Config.alive Config.mapErr
  simp only [List.countP_map]
  congr 1
  apply List.countP_congr
  intro m _
  simp [Function.comp, isDone_mapErr]

end ScVerif.C17
