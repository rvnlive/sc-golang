import ScVerif.C17.Lemmas
/-! The steps of the thread-level model as a relation, and the invariants every step of every thread keeps. -/
namespace ScVerif.C17

theorem consReturned_eq (c : Config σ ρ) : c.consReturned = c.cons.isReturned := rfl

theorem ConsPc.isReturned_iff {p : ConsPc σ ρ} : p.isReturned = true ↔ ∃ x b, p = .returned x b := by
  cases p <;> simp [ConsPc.isReturned]

theorem spawnedDone_iff (c : Config σ ρ) :
    c.spawnedDone = true ↔ c.members.all MPc.isDone = true ∧ c.closer = .done := by
  simp only [Config.spawnedDone, Bool.and_eq_true, beq_iff_eq]

theorem CloserPc.todo_le (p : CloserPc) : p.todo ≤ 2 := by cases p <;> simp [CloserPc.todo]

theorem MPc.todo_le (m : MPc) : m.todo ≤ 3 := by cases m <;> simp [MPc.todo]

/-- `step` as a relation: one constructor per atomic step of a goroutine, with its guard -/
inductive Moves (C : Consumer σ ρ) (c : Config σ ρ) : Tid → Config σ ρ → Prop where
  | run {i b} (hm : c.members[i]? = some .start) (hb : c.behs[i]? = some b) :
      Moves C c (.member i) { c with members := c.members.set i (.ran (b.respond c.cancelled)) }
  | send {i r} (hm : c.members[i]? = some (.ran r))
      (hroom : c.hist.length < c.taken + c.cap ∨ (c.cap = 0 ∧ c.hist.length = c.taken) ∧ c.cons.isIdle = true) :
      Moves C c (.member i) { c with hist := c.hist ++ [(i, r)], members := c.members.set i (.sent r) }
  | done {i r} (hm : c.members[i]? = some (.sent r)) :
      Moves C c (.member i) { c with members := c.members.set i (.done r) }
  | wake (hc : c.closer = .waiting) (hall : c.members.all MPc.isDone = true) :
      Moves C c .closer { c with closer := .woke }
  | close (hc : c.closer = .woke) : Moves C c .closer { c with closed := true, closer := .done }
  | recv {s r} (hc : c.cons = .idle s) (hr : c.hist[c.taken]? = some r) :
      Moves C c .consumer { c with cons := .got s r, taken := c.taken + 1 }
  | seeClose {s} (hc : c.cons = .idle s) (hr : c.hist[c.taken]? = none) (hcl : c.closed = true) :
      Moves C c .consumer { c with cons := .returned (C.onClose s) true, cancelled := true }
  | handle {s r s' cn} (hc : c.cons = .got s r) (hr : C.onRecv s r = .next s' cn) :
      Moves C c .consumer { c with cons := .idle s', cancelled := c.cancelled || cn }
  | ret {s r x} (hc : c.cons = .got s r) (hr : C.onRecv s r = .ret x) :
      Moves C c .consumer { c with cons := .returned x false, cancelled := true }
  | env : Moves C c .env { c with envCancelled := true, cancelled := true }

theorem moves_of_step {C : Consumer σ ρ} {c c' : Config σ ρ} {t : Tid} (h : step C c t = some c') :
    Moves C c t c' := by
  cases t with
  | member i =>
    simp only [step, stepMember] at h
    split at h
    · next b hm hb => cases h; exact .run hm hb
    · next r hm =>
      split at h
      · next hroom => cases h; exact .send hm (by simpa using hroom)
      · cases h
    · next r hm => cases h; exact .done hm
    · cases h
  | closer =>
    simp only [step, stepCloser] at h
    split at h
    · next hc =>
      split at h
      · next hall => cases h; exact .wake hc hall
      · cases h
    · next hc => cases h; exact .close hc
    · cases h
  | consumer =>
    simp only [step, stepConsumer] at h
    split at h
    · next s hc =>
      split at h
      · next r hr => cases h; exact .recv hc hr
      · next hr =>
        split at h
        · next hcl => cases h; exact .seeClose hc hr hcl
        · cases h
    · next s r hc =>
      split at h
      · next s' cn hr => cases h; exact .handle hc hr
      · next x hr => cases h; exact .ret hc hr
    · cases h
  | env => cases h; exact .env

theorem step_of_moves {C : Consumer σ ρ} {c c' : Config σ ρ} {t : Tid} (m : Moves C c t c') :
    step C c t = some c' := by
  cases m with
  | run hm hb => simp [step, stepMember, hm, hb]
  | send hm hroom => simp [step, stepMember, hm, hroom]
  | done hm => simp [step, stepMember, hm]
  | wake hc hall => simp [step, stepCloser, hc, hall]
  | close hc => simp [step, stepCloser, hc]
  | recv hc hr => simp [step, stepConsumer, hc, hr]
  | seeClose hc hr hcl => simp [step, stepConsumer, hc, hr, hcl]
  | handle hc hr => simp [step, stepConsumer, hc, hr]
  | ret hc hr => simp [step, stepConsumer, hc, hr]
  | env => rfl

theorem moves_stuck {C : Consumer σ ρ} {c c' : Config σ ρ} {t : Tid} (h : step C c t = none) (m : Moves C c t c') :
    False := by
  rw [step_of_moves m] at h; cases h

theorem exec_induction {C : Consumer σ ρ} {P : Config σ ρ → Prop}
    (hstep : ∀ {c t c'}, P c → Moves C c t c' → P c') (sched : List Tid) {c : Config σ ρ} (h : P c) :
    P (exec C c sched) := by
  induction sched generalizing c with
  | nil => exact h
  | cons t ts ih =>
    apply ih (c := stepD C c t)
    unfold stepD
    cases hs : step C c t with
    | none => exact h
    | some c' => exact hstep h (moves_of_step hs)

theorem exec_step {C : Consumer σ ρ} {c c' : Config σ ρ} {t : Tid} (m : Moves C c t c') (ts : List Tid) :
    exec C c (t :: ts) = exec C c' ts := by
  show exec C (stepD C c t) ts = _
  rw [stepD, step_of_moves m]; rfl

theorem exec_append (C : Consumer σ ρ) (c : Config σ ρ) (a b : List Tid) :
    exec C c (a ++ b) = exec C (exec C c a) b := by
  simp [exec, List.foldl_append]

theorem hasSent_of_isDone {m : MPc} (h : m.isDone = true) : m.hasSent = true := by cases m <;> first | rfl | cases h

theorem isDone_of_all_done (l : List MPc) (i : Nat) (a : MPc) (h : l[i]? = some a) (hall : l.all MPc.isDone = true) :
    a.isDone = true :=
  (List.all_eq_true.mp hall) a (List.mem_of_getElem? h)

/-- The consumer's control state as a function of the responses `got` it has taken from the channel, in the order
they were sent; `cf`: the loop has called `cancelFunc()` (returning calls it too).  It returns from inside the loop
AT the last response taken.  Nothing but `got` enters: what is sent later, the close and the cancellations of the
caller cannot disturb it. -/
def ConsLog (C : Consumer σ ρ) (got : List Tagged) (cf : Bool) : ConsPc σ ρ → Prop
  | .idle s => C.after got = .running s cf
  | .got s r => ∃ pre, got = pre ++ [r] ∧ C.after pre = .running s cf
  | .returned x false => cf = true ∧ ∃ pre r s cf', got = pre ++ [r] ∧ C.after pre = .running s cf' ∧ C.onRecv s r = .ret x
  | .returned x true => cf = true ∧ ∃ s cf', C.after got = .running s cf' ∧ x = C.onClose s

theorem consLog_returned {C : Consumer σ ρ} {got : List Tagged} {cf : Bool} {x : ρ} {b : Bool}
    (h : ConsLog C got cf (.returned x b)) :
    cf = true ∧ C.result got = x ∧ (b = false → C.after got = .returned x) := by
  cases b with
  | false =>
    obtain ⟨hcf, pre, r, s, cf', rfl, h1, hr⟩ := h
    have : C.after (pre ++ [r]) = .returned x := by rw [after_snoc, h1, feedRun_ret hr]
    exact ⟨hcf, result_of_returned this, fun _ => this⟩
  | true =>
    obtain ⟨hcf, s, cf', h1, rfl⟩ := h
    exact ⟨hcf, result_of_running h1, nofun⟩

/-- the consumer takes no response after the one its loop returns at -/
theorem consLog_minimal {C : Consumer σ ρ} {got : List Tagged} {cf : Bool} {pc : ConsPc σ ρ} (h : ConsLog C got cf pc) :
    (C.after got.dropLast).isReturned = false := by
  -- the loop is still running on all of `got`, hence on its prefix
  have whole {s cf'} (h1 : C.after got = .running s cf') : (C.after got.dropLast).isReturned = false := by
    obtain ⟨t, ht⟩ := List.dropLast_prefix got
    exact after_prefix_running C _ t (by rw [ht, h1]; rfl)
  match pc, h with
  | .idle _, h => exact whole h
  | .got _ _, ⟨pre, hg, h1⟩ => rw [hg, List.dropLast_concat, h1]; rfl
  | .returned _ false, ⟨_, pre, r, s, cf', hg, h1, _⟩ => rw [hg, List.dropLast_concat, h1]; rfl
  | .returned _ true, ⟨_, s, cf', h1, _⟩ => exact whole h1

/-- Holds of every state of a call over the members `behs` on a channel of capacity `cap` (any capacity:
`room` is what the channel itself guarantees; `send_room` adds what a capacity of at least one slot per member gives). -/
structure Inv (C : Consumer σ ρ) (behs : List Beh) (cap : Nat) (c : Config σ ρ) : Prop where
  hbehs : c.behs = behs
  hcap : c.cap = cap
  len : c.members.length = behs.length
  histLen : c.hist.length = c.members.countP MPc.hasSent
  takenLe : c.taken ≤ c.hist.length
  /-- the log never runs ahead of the consumer by more than the capacity (one, for an unbuffered
  channel: the rendezvous in flight) -/
  room : c.hist.length ≤ c.taken + max cap 1
  closerOK : c.closer ≠ .waiting → c.members.all MPc.isDone = true
  closedOK : c.closed = true ↔ c.closer = .done
  cons : ∃ cf, ConsLog C (c.hist.take c.taken) cf c.cons ∧ c.cancelled = (c.envCancelled || cf)
  byClose : ∀ x, c.cons = .returned x true → c.taken = c.hist.length ∧ c.closed = true

/-- `executeEach` has just started its goroutines: every member is at its gate -/
theorem init_members_start {C : Consumer σ ρ} {behs : List Beh} {cap i : Nat} {m : MPc}
    (h : (Config.init C behs cap).members[i]? = some m) : m = .start := by
  simp only [Config.init, List.getElem?_replicate] at h
  split at h <;> cases h
  rfl

theorem inv_init (C : Consumer σ ρ) (behs : List Beh) (cap : Nat) : Inv C behs cap (Config.init C behs cap) where
  hbehs := rfl
  hcap := rfl
  len := by simp [Config.init]
  histLen := by simp [Config.init, List.countP_replicate, MPc.hasSent]
  takenLe := Nat.le_refl _
  room := by simp [Config.init]
  closerOK := by simp [Config.init]
  closedOK := by simp [Config.init]
  cons := ⟨false, rfl, rfl⟩
  byClose := nofun

theorem inv_step {C : Consumer σ ρ} {behs : List Beh} {cap : Nat} {c c' : Config σ ρ} {t : Tid}
    (h : Inv C behs cap c) (m : Moves C c t c') : Inv C behs cap c' := by
  have hsent (i : Nat) (a b : MPc) (hm : c.members[i]? = some a) :=
    countP_set_eq MPc.hasSent c.members i a b hm
  have hnotdone (i : Nat) (a : MPc) (hm : c.members[i]? = some a) (ha : a.isDone = false) :
      c.closer = .waiting := by
    cases hc : c.closer with
    | waiting => rfl
    | _ => have := isDone_of_all_done _ _ _ hm (h.closerOK (by simp [hc])); simp [ha] at this
  -- a member goroutine that has not ended moves on without touching the channel
  have member {i : Nat} {a b : MPc} (hm : c.members[i]? = some a) (ha : a.isDone = false) (hab : b.hasSent = a.hasSent) :
      Inv C behs cap { c with members := c.members.set i b } := by
    have := hsent i a b hm
    have hw := hnotdone i a hm ha
    exact { h with len := by simpa using h.len, histLen := by rw [hab] at this; simpa [h.histLen] using this.symm,
                   closerOK := fun hc => absurd hw hc }
  obtain ⟨cf, hk, hcanc⟩ := h.cons
  cases m with
  | run hm _ => exact member hm rfl rfl
  | @send i r hm hroom =>
    have := hsent i _ (.sent r) hm
    have hw := hnotdone i _ hm rfl
    have hl := h.histLen
    have ht := h.takenLe
    have hr := h.room
    have hcap := h.hcap
    refine { h with len := by simpa using h.len, histLen := ?_, takenLe := ?_, room := ?_,
                    closerOK := fun hc => absurd hw hc,
                    cons := ⟨cf, by rw [List.take_append_of_le_length ht]; exact hk, hcanc⟩,
                    byClose := fun x hx => ?_ }
    · simp [MPc.hasSent] at this; simp only [List.length_append, List.length_singleton]; omega
    · simp only [List.length_append, List.length_singleton]; omega
    · simp only [List.length_append, List.length_singleton]; omega
    · -- the channel is still open: the closer waits for member `i`
      have := h.closedOK.mp (h.byClose x hx).2
      rw [hw] at this; cases this
  | done hm => exact member hm rfl rfl
  | wake hc hall =>
    exact { h with closerOK := fun _ => hall, closedOK := by simpa [hc] using h.closedOK }
  | close hc =>
    exact { h with closerOK := fun _ => h.closerOK (by simp [hc]), closedOK := by simp,
                   byClose := fun x hx => ⟨(h.byClose x hx).1, rfl⟩ }
  | @recv s r hc hr =>
    have hlt := lt_of_getElem? hr
    have hroom := h.room
    rw [hc] at hk
    refine { h with takenLe := hlt, room := by simp only; omega, cons := ⟨cf, ⟨_, ?_, hk⟩, hcanc⟩, byClose := nofun }
    rw [List.take_add_one, hr]; rfl
  | @seeClose s hc hr hcl =>
    have heq : c.taken = c.hist.length := by
      have := h.takenLe
      have := List.getElem?_eq_none_iff.mp hr
      omega
    rw [hc] at hk
    exact { h with cons := ⟨true, ⟨rfl, s, cf, hk, rfl⟩, by simp⟩, byClose := fun _ _ => ⟨heq, hcl⟩ }
  | @handle s r s' cn hc hr =>
    rw [hc] at hk
    obtain ⟨pre, hg, h1⟩ := hk
    refine { h with cons := ⟨cf || cn, ?_, ?_⟩, byClose := nofun }
    · show C.after _ = _
      rw [hg, after_snoc, h1, feedRun_next hr]
    · show (c.cancelled || cn) = _
      rw [hcanc, Bool.or_assoc]
  | @ret s r x hc hr =>
    rw [hc] at hk
    obtain ⟨pre, hg, h1⟩ := hk
    exact { h with cons := ⟨true, ⟨rfl, pre, r, s, cf, hg, h1, hr⟩, by simp⟩, byClose := nofun }
  | env => exact { h with cons := ⟨cf, hk, by simp⟩ }

/-- A call that has returned `x`: `x` is the loop's result on the responses taken (from inside the loop only if the
loop returns on them), and the members' context is cancelled. -/
theorem inv_returned {C : Consumer σ ρ} {behs : List Beh} {cap : Nat} {c : Config σ ρ} {x : ρ} {b : Bool}
    (h : Inv C behs cap c) (hx : c.cons = .returned x b) :
    C.result (c.hist.take c.taken) = x ∧ (b = false → C.after (c.hist.take c.taken) = .returned x)
      ∧ c.cancelled = true := by
  obtain ⟨cf, hk, hcanc⟩ := h.cons
  rw [hx] at hk
  obtain ⟨rfl, hres, hin⟩ := consLog_returned hk
  exact ⟨hres, hin, by rw [hcanc, Bool.or_true]⟩

theorem inv_byClose {C : Consumer σ ρ} {behs : List Beh} {cap : Nat} {c : Config σ ρ} {x : ρ} (h : Inv C behs cap c)
    (hx : c.cons = .returned x true) :
    c.taken = c.hist.length ∧ c.members.all MPc.isDone = true ∧ c.hist.length = behs.length := by
  obtain ⟨h1, h2⟩ := h.byClose x hx
  have hdone : c.members.all MPc.isDone = true := h.closerOK (by rw [h.closedOK.mp h2]; nofun)
  refine ⟨h1, hdone, ?_⟩
  rw [h.histLen, ← h.len]
  exact List.countP_eq_length.mpr fun m hm => hasSent_of_isDone ((List.all_eq_true.mp hdone) m hm)

theorem inv_cancelled {C : Consumer σ ρ} {behs : List Beh} {cap : Nat} {c : Config σ ρ} (h : Inv C behs cap c) :
    c.cancelled = (c.envCancelled || c.cons.isReturned || (C.after (c.hist.take c.handled)).cancelled) := by
  obtain ⟨cf, hk, hcanc⟩ := h.cons
  rw [hcanc]
  unfold Config.handled
  cases hcs : c.cons with
  | idle s => rw [hcs] at hk; simp [show C.after _ = _ from hk, Run.cancelled, ConsPc.isReturned]
  | got s r =>
    rw [hcs] at hk
    obtain ⟨pre, hg, h1⟩ := hk
    simp [take_pred_of_snoc h.takenLe hg, h1, Run.cancelled, ConsPc.isReturned]
  | returned x b => simp [← hcanc, (inv_returned h hcs).2.2, ConsPc.isReturned]

theorem inv_exec (C : Consumer σ ρ) (behs : List Beh) (cap : Nat) (sched : List Tid) :
    Inv C behs cap (exec C (Config.init C behs cap) sched) :=
  exec_induction inv_step sched (inv_init C behs cap)

theorem send_room {C : Consumer σ ρ} {behs : List Beh} {cap : Nat} {c : Config σ ρ} (h : Inv C behs cap c)
    (hcap : behs.length ≤ cap) {i : Nat} {r : Resp} (hi : c.members[i]? = some (.ran r)) :
    c.hist.length < c.taken + c.cap := by
  have := countP_lt_of_not MPc.hasSent c.members i (.ran r) hi rfl
  have := h.histLen
  have := h.len
  have := h.hcap
  omega

theorem member_stuck {C : Consumer σ ρ} {behs : List Beh} {cap : Nat} {c : Config σ ρ} (hinv : Inv C behs cap c)
    (hcap : behs.length ≤ cap) {i : Nat} {m : MPc} (hi : c.members[i]? = some m) (hst : step C c (.member i) = none) :
    m.isDone = true := by
  cases m with
  | start =>
    have hlt : i < c.behs.length := by rw [hinv.hbehs, ← hinv.len]; exact lt_of_getElem? hi
    exact (moves_stuck hst (.run hi (List.getElem?_eq_getElem hlt))).elim
  | ran r => exact (moves_stuck hst (.send hi (Or.inl (send_room hinv hcap hi)))).elim
  | sent r => exact (moves_stuck hst (.done hi)).elim
  | done r => rfl

theorem closer_stuck {C : Consumer σ ρ} {behs : List Beh} {cap : Nat} {c : Config σ ρ} (hinv : Inv C behs cap c)
    (hst : step C c .closer = none) :
    (c.closer = .waiting ∧ c.members.all MPc.isDone = false ∧ c.closed = false) ∨ (c.closer = .done ∧ c.closed = true) := by
  cases hc : c.closer with
  | waiting =>
    refine Or.inl ⟨rfl, ?_, ?_⟩
    · cases h : c.members.all MPc.isDone with
      | false => rfl
      | true => exact (moves_stuck hst (.wake hc h)).elim
    · cases h : c.closed with
      | false => rfl
      | true => have := hinv.closedOK.mp h; rw [hc] at this; cases this
  | woke => exact (moves_stuck hst (.close hc)).elim
  | done => exact Or.inr ⟨rfl, hinv.closedOK.mpr hc⟩

theorem consumer_stuck {C : Consumer σ ρ} {behs : List Beh} {cap : Nat} {c : Config σ ρ} (hinv : Inv C behs cap c)
    (hst : step C c .consumer = none) :
    c.cons.isReturned = true ∨ ∃ s, c.cons = .idle s ∧ c.taken = c.hist.length ∧ c.closed = false := by
  cases hcs : c.cons with
  | idle s =>
    have hnone : c.hist[c.taken]? = none := by
      cases h : c.hist[c.taken]? with
      | none => rfl
      | some r => exact (moves_stuck hst (.recv hcs h)).elim
    refine Or.inr ⟨s, rfl, ?_, ?_⟩
    · have := hinv.takenLe
      have := List.getElem?_eq_none_iff.mp hnone
      omega
    · cases h : c.closed with
      | false => rfl
      | true => exact (moves_stuck hst (.seeClose hcs hnone h)).elim
  | got s r =>
    cases hr : C.onRecv s r with
    | next s' cn => exact (moves_stuck hst (.handle hcs hr)).elim
    | ret x => exact (moves_stuck hst (.ret hcs hr)).elim
  | returned x b => exact Or.inl rfl

theorem spawned_stuck_done {C : Consumer σ ρ} {behs : List Beh} {cap : Nat} {c : Config σ ρ} (hinv : Inv C behs cap c)
    (hcap : behs.length ≤ cap) (hst : ∀ t : Tid, t.spawned = true → step C c t = none) : c.spawnedDone = true := by
  have hall : c.members.all MPc.isDone = true :=
    List.all_eq_true.mpr fun m hm => by
      obtain ⟨i, hi⟩ := List.mem_iff_getElem?.mp hm
      exact member_stuck hinv hcap hi (hst (.member i) rfl)
  rcases closer_stuck hinv (hst .closer rfl) with ⟨_, h, _⟩ | ⟨h, _⟩
  · rw [hall] at h; cases h
  · exact (spawnedDone_iff c).mpr ⟨hall, h⟩

/-- `c'` differs from `c` at most in what the steps of thread `t` write -/
structure Frame (t : Tid) (c c' : Config σ ρ) : Prop where
  cons : t ≠ .consumer → c'.cons = c.cons ∧ c'.taken = c.taken
  closer : t ≠ .closer → c'.closer = c.closer ∧ c'.closed = c.closed
  members : (∀ i, t ≠ .member i) → c'.members = c.members ∧ c'.hist = c.hist

theorem Frame.trans {t : Tid} {c c' c'' : Config σ ρ} (h : Frame t c c') (h' : Frame t c' c'') : Frame t c c'' :=
  ⟨fun ht => ⟨(h'.cons ht).1.trans (h.cons ht).1, (h'.cons ht).2.trans (h.cons ht).2⟩,
   fun ht => ⟨(h'.closer ht).1.trans (h.closer ht).1, (h'.closer ht).2.trans (h.closer ht).2⟩,
   fun ht => ⟨(h'.members ht).1.trans (h.members ht).1, (h'.members ht).2.trans (h.members ht).2⟩⟩

theorem moves_frame {C : Consumer σ ρ} {c c' : Config σ ρ} {t : Tid} (m : Moves C c t c') : Frame t c c' := by
  cases m with
  | @run i | @send i | @done i => exact ⟨fun _ => ⟨rfl, rfl⟩, fun _ => ⟨rfl, rfl⟩, fun h => absurd rfl (h i)⟩
  | wake | close => exact ⟨fun _ => ⟨rfl, rfl⟩, fun h => absurd rfl h, fun _ => ⟨rfl, rfl⟩⟩
  | recv | seeClose | handle | ret => exact ⟨fun h => absurd rfl h, fun _ => ⟨rfl, rfl⟩, fun _ => ⟨rfl, rfl⟩⟩
  | env => exact ⟨fun _ => ⟨rfl, rfl⟩, fun _ => ⟨rfl, rfl⟩, fun _ => ⟨rfl, rfl⟩⟩

theorem countP_isDone_of_spawnedDone {c : Config σ ρ} (h : c.spawnedDone = true) :
    c.members.countP MPc.isDone = c.members.length := by
  exact List.countP_eq_length.mpr fun m hm => List.all_eq_true.mp ((spawnedDone_iff c).mp h).1 m hm

theorem todo_sum_zero (l : List MPc) : (l.map MPc.todo).sum = 0 ↔ l.all MPc.isDone = true := by
  induction l with
  | nil => simp
  | cons m l ih =>
    simp only [List.map_cons, List.sum_cons, List.all_cons, Bool.and_eq_true]
    rw [← ih]
    cases m <;> simp [MPc.todo, MPc.isDone] <;> omega

theorem pending_zero_iff (c : Config σ ρ) : c.pending = 0 ↔ c.spawnedDone = true := by
  unfold Config.pending
  rw [spawnedDone_iff, ← todo_sum_zero]
  cases c.closer <;> simp [CloserPc.todo]

theorem pending_step {C : Consumer σ ρ} {c c' : Config σ ρ} {t : Tid} (m : Moves C c t c') :
    c'.pending + (if t.spawned then 1 else 0) = c.pending := by
  -- a member goroutine moves on by one of its three steps
  have member {i : Nat} {a b : MPc} (hm : c.members[i]? = some a) (hab : b.todo + 1 = a.todo) :
      ({ c with members := c.members.set i b } : Config σ ρ).pending + 1 = c.pending := by
    have := Base.sum_map_set MPc.todo b hm
    simp only [Config.pending]
    omega
  cases m with
  | run hm _ => exact member hm rfl
  | send hm _ => exact member hm rfl
  | done hm => exact member hm rfl
  | wake hc _ => simp [Config.pending, hc, CloserPc.todo, Tid.spawned]
  | close hc => simp [Config.pending, hc, CloserPc.todo, Tid.spawned]
  | _ => rfl

theorem pending_le (c : Config σ ρ) : c.pending ≤ 3 * c.members.length + 2 := by
  have hb : ∀ l : List MPc, (l.map MPc.todo).sum ≤ 3 * l.length := by
    intro l
    induction l with
    | nil => simp
    | cons m l ih =>
      simp only [List.map_cons, List.sum_cons, List.length_cons]
      have := m.todo_le
      omega
  have h1 := hb c.members
  have h2 := c.closer.todo_le
  unfold Config.pending
  omega

end ScVerif.C17
