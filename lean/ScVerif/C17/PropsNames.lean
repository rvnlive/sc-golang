import ScVerif.C17.Names
/-!
# C17 — any member list: one member per entry, its own index, no slot out of range

The member list of a trait Group is any list of strings (blank, repeated, odd names included).  The harness feeds the
same lists to the real Groups (`naming.go`); the driver's loop model has no names: by
`C17_group_actions_one_per_entry` the list enters only through its length.
-/
namespace ScVerif.C17

/-- group.Execute's "member k" is entry `k` of the list, whatever its name and
whether or not another entry has the same one. -/
theorem C17_group_actions_one_per_entry (members : List String) :
    (groupActions members).length = members.length
    ∧ ∀ k : Nat, (groupActions members)[k]? = members[k]?.map (fun nm => (k, nm)) := by
  refine ⟨actionsFrom_length 0 members, fun k => ?_⟩
  simpa [groupActions] using actionsFrom_getElem? 0 k members

/-- "The call never panics", for the indexed write `memberChanges[msg.i]` of the
subscription loop: never out of range, and the loop does what the unchecked model `pullRun` (the one the tie executes)
does. -/
theorem C17_group_pull_slots_in_range [DecidableEq V] (reduce : List (Option V) → Option V)
    (members : List String) (evs : List (Nat × List V))
    (h : ∀ ev ∈ evs, ∃ a ∈ groupActions members, a.1 = ev.1) :
    pullRunChecked reduce members.length evs = some (pullRun reduce members.length evs) := by
  unfold pullRunChecked pullRun
  apply pullRunCheckedFrom_eq reduce members.length evs _ (by simp [pullInit])
  intro ev hev
  obtain ⟨a, ha, hae⟩ := h ev hev
  exact hae ▸ (List.getElem?_eq_some_iff.mp ((mem_groupActions members a).mp ha)).1

/-- One slot per entry is also needed: sizing `memberChanges` by anything that can be
smaller than `len(s.members)` (subscriptions started, named members) panics at the last member's first message. -/
theorem C17_group_pull_slots_needed [DecidableEq V] (reduce : List (Option V) → Option V)
    (members : List String) (slots : Nat) (hs : slots < members.length) (v : V) :
    (∃ a ∈ groupActions members, a.1 = members.length - 1)
    ∧ pullRunChecked reduce slots [(members.length - 1, [v])] = none := by
  constructor
  · have hlt : members.length - 1 < members.length := by omega
    exact ⟨(_, members[members.length - 1]), (mem_groupActions members _).mpr (List.getElem?_eq_getElem hlt), rfl⟩
  · have hn : ¬ (members.length - 1 < slots) := by omega
    simp [pullRunChecked, pullRunCheckedFrom, pullFeedChecked, pullInit, hn]

/-- Seeded change 20, both sites: leaving the blank names out of the actions
while the closures keep their index, with one slot per action, panics for EVERY list with a blank name that ends in a
named member. -/
theorem C17_blank_skip_slot_out_of_range [DecidableEq V] (reduce : List (Option V) → Option V)
    (pre : List String) (last : String) (hblank : "" ∈ pre) (hlast : last ≠ "") (v : V) :
    let members := pre ++ [last]
    (members.length - 1, last) ∈ groupActionsSkipBlank members
    ∧ pullRunChecked reduce (groupActionsSkipBlank members).length [(members.length - 1, [v])] = none := by
  intro members
  have hlen : members.length = pre.length + 1 := by simp [members]
  have hmem : (members.length - 1, last) ∈ groupActions members :=
    (mem_groupActions members _).mpr (by simp [members])
  have hshort : (groupActionsSkipBlank members).length < members.length := by
    unfold groupActionsSkipBlank
    rw [← (C17_group_actions_one_per_entry members).1]
    -- the blank entry is an action that the filter drops
    obtain ⟨k, hk, hkk⟩ := List.getElem_of_mem hblank
    refine List.length_filter_lt_length_iff_exists.mpr ⟨(k, ""), (mem_groupActions members _).mpr ?_, by simp⟩
    simp [members, List.getElem?_append_left hk, List.getElem?_eq_getElem hk, hkk]
  refine ⟨?_, ?_⟩
  · unfold groupActionsSkipBlank
    exact List.mem_filter.mpr ⟨hmem, by simpa using hlast⟩
  · exact (C17_group_pull_slots_needed reduce members _ hshort v).2

/-- non-vacuity: the member list of the seeded demo - a blank name ahead of a named member -/
example : groupActions ["", "x"] = [(0, ""), (1, "x")]
    ∧ groupActionsSkipBlank ["", "x"] = [(1, "x")]
    ∧ (pullRunChecked lightReduceChanges 2 [(1, [(40 : Rat)])]).isSome = true
    ∧ pullRunChecked lightReduceChanges 1 [(1, [(40 : Rat)])] = none := by decide +kernel

/-- ... and with the blank name last nothing goes wrong, which is what hid it -/
example : groupActionsSkipBlank ["x", ""] = [(0, "x")]
    ∧ (pullRunChecked lightReduceChanges 1 [(0, [(40 : Rat)])]).isSome = true := by decide +kernel

/-- repeated names are distinct members: two entries, two actions, two slots -/
example : groupActions ["d", "d"] = [(0, "d"), (1, "d")]
    ∧ (pullRunChecked onoffReduceChanges 2 [(0, [1]), (1, [2])]).map (·.sent) = some [some 1] := by decide +kernel

end ScVerif.C17
