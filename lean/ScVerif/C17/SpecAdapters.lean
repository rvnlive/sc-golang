import ScVerif.C17.Adapters
/-!
# C17 — the vocabulary the Group-adapter theorems are stated in.  Definitions only.
-/
namespace ScVerif.C17

/-- the non-nil results: what a reducer gets to see -/
def present (rs : List (Option α)) : List α := rs.filterMap id

/-- arithmetic mean; 0 for no values (the level of a fresh `traits.Brightness`) -/
def mean (vs : List Rat) : Rat := if vs = [] then 0 else vs.sum / (vs.length : Rat)

/-- "ON if any is ON, else OFF if any is OFF, else UNSPECIFIED" -/
def onoffSpec (vs : List Nat) : Nat := if 1 ∈ vs then 1 else if 2 ∈ vs then 2 else 0

/-- no value twice in a row: what a subscriber must never be sent -/
def NoStutter : List V → Prop
  | [] => True
  | [_] => True
  | a :: b :: rest => a ≠ b ∧ NoStutter (b :: rest)

end ScVerif.C17
