import ScVerif.C17.Threads
/-!
# C17 — the vocabulary the property theorems about `exec.go` are stated in

Counts and projections of outcome vectors and arrival sequences, what is observed of a configuration of the thread
model (has the call returned, is it at a point of quiescence, how much work is left), and the contract the
Pull-pipeline model assumes of `Execute`.  Definitions only.
-/
namespace ScVerif.C17

/-- number of failing members in an outcome vector -/
def failures (outs : List Resp) : Nat := outs.countP (·.err.isSome)

/-- number of failures among received responses -/
def failuresT (rs : List Tagged) : Nat := rs.countP (·.2.err.isSome)

/-- the errors in the order they were received -/
def errorsOf (rs : List Tagged) : List Nat := rs.filterMap (·.2.err)

/-- the first error received -/
def firstFailure (rs : List Tagged) : Option Nat := (errorsOf rs).head?

/-- `results[r.1] = r.2.msg` for every response received, in order -/
def placeAll (init : List (Option Nat)) (rs : List Tagged) : List (Option Nat) :=
  rs.foldl (fun res r => res.set r.1 r.2.msg) init

/-- the call has returned -/
def Config.consReturned (c : Config σ ρ) : Bool := c.cons.isReturned

/-- the response a member goroutine holds / has sent -/
def MPc.resp : MPc → Option Resp
  | .start => none
  | .ran r | .sent r | .done r => some r

/-- Nothing can move except members still at their gate (`.start`) and the caller cancelling. -/
def Config.quiescent (C : Consumer σ ρ) (c : Config σ ρ) : Bool :=
  (step C c .closer).isNone && (step C c .consumer).isNone
    && (List.range c.members.length).all fun i =>
      match c.members[i]? with
      | some .start => true
      | _ => (step C c (.member i)).isNone

/-- Steps the consumer still has to take at most: two per response not yet taken (receive, loop body),
one for the close. -/
def Config.consTodo (c : Config σ ρ) : Nat :=
  match c.cons with
  | .idle _ => 2 * (c.behs.length - c.taken) + 1
  | .got _ _ => 2 * (c.behs.length - c.taken) + 2
  | .returned _ _ => 0

/-- All the work left in one call: the goroutines of `executeEach` and the consumer. -/
def Config.work (c : Config σ ρ) : Nat := c.pending + c.consTodo

/-- a member that never succeeds (a Pull member: its stream only ever ends with an error) -/
def Beh.neverSucceeds (b : Beh) : Prop :=
  b.normal.err.isSome = true ∧ ∀ r, b.onCancel = some r → r.err.isSome = true

/-- The contract the Pull-pipeline model assumes of `Execute`, stated on the thread-level model of
`executeEach` + the consumer `C`: for every group of `n` members none of which succeeds and EVERY schedule, at
every point of quiescence, with `k` member goroutines ended: the call has returned exactly if `p.2 ≤ k`, and the
members' context is cancelled exactly if the caller cancelled, or `p.1 < k`, or the call has returned. -/
def MeetsContract (C : Consumer σ ρ) (n : Nat) (p : Nat × Nat) : Prop :=
  ∀ (behs : List Beh), behs.length = n → (∀ b ∈ behs, b.neverSucceeds) → ∀ (sched : List Tid),
    let c := exec C (Config.spawn C behs) sched
    c.quiescent C = true →
      c.consReturned = decide (p.2 ≤ c.members.countP MPc.isDone)
      ∧ c.cancelled = (c.envCancelled || decide (p.1 < c.members.countP MPc.isDone)
                        || decide (p.2 ≤ c.members.countP MPc.isDone))

end ScVerif.C17
