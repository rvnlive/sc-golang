import ScVerif.C17.Drv
import ScVerif.C17.QuiescenceLemmas
/-!
# C17 — the serial schedule the driver runs (`settle`, `block`) ends in points of quiescence

The schedule gives the released member, then the closer, then the consumer at least as many turns as each has steps
left, and in that order no thread's steps give an earlier one anything to do.
-/
namespace ScVerif.C17

theorem stepD_none (C : Consumer σ ρ) (c : Config σ ρ) (t : Tid) (h : step C c t = none) : stepD C c t = c := by
  simp [stepD, h]

theorem exec_none (C : Consumer σ ρ) (c : Config σ ρ) (sched : List Tid)
    (h : ∀ t ∈ sched, step C c t = none) : exec C c sched = c := by
  induction sched with
  | nil => rfl
  | cons t ts ih =>
    show exec C (stepD C c t) ts = c
    rw [stepD_none C c t (h t (by simp))]
    exact ih (fun t' ht' => h t' (by simp [ht']))

/-- A thread that is given at least as many turns as it has steps left (`μ`: any bound each of its steps lowers)
cannot move afterwards, and has changed only what is its own. -/
theorem turns_stuck {C : Consumer σ ρ} {t : Tid} {μ : Config σ ρ → Nat}
    (hstep : ∀ {c c'}, Moves C c t c' → μ c' < μ c) (k : Nat) {c : Config σ ρ} (hk : μ c ≤ k) :
    Frame t c (exec C c (List.replicate k t)) ∧ step C (exec C c (List.replicate k t)) t = none := by
  induction k generalizing c with
  | zero =>
    refine ⟨⟨fun _ => ⟨rfl, rfl⟩, fun _ => ⟨rfl, rfl⟩, fun _ => ⟨rfl, rfl⟩⟩, ?_⟩
    cases hs : step C c t with
    | none => exact hs
    | some c' => have := hstep (moves_of_step hs); omega
  | succ k ih =>
    cases hs : step C c t with
    | none =>
      -- stuck already: the remaining turns change nothing
      rw [exec_none C c _ fun t' ht' => by rw [List.eq_of_mem_replicate ht']; exact hs]
      exact ⟨⟨fun _ => ⟨rfl, rfl⟩, fun _ => ⟨rfl, rfl⟩, fun _ => ⟨rfl, rfl⟩⟩, hs⟩
    | some c' =>
      have m := moves_of_step hs
      rw [List.replicate_succ, exec_step m]
      obtain ⟨hf, hst⟩ := ih (c := c') (by have := hstep m; omega)
      exact ⟨(moves_frame m).trans hf, hst⟩

theorem closerTodo_step {C : Consumer σ ρ} {c c' : Config σ ρ} (m : Moves C c .closer c') :
    c'.closer.todo < c.closer.todo := by
  cases m with
  | wake hc _ => simp [hc, CloserPc.todo]
  | close hc => simp [hc, CloserPc.todo]

/-- steps the consumer can take before it needs another response or the close -/
def consTurns (c : Config σ ρ) : Nat :=
  match c.cons with
  | .idle _ => 2 * (c.hist.length - c.taken) + (if c.closed then 1 else 0)
  | .got _ _ => 2 * (c.hist.length - c.taken) + 1 + (if c.closed then 1 else 0)
  | .returned _ _ => 0

theorem consTurns_step {C : Consumer σ ρ} {c c' : Config σ ρ} (m : Moves C c .consumer c') :
    consTurns c' < consTurns c := by
  cases m with
  | recv hc hr => have := lt_of_getElem? hr; simp only [consTurns, hc]; omega
  | seeClose hc _ hcl => simp [consTurns, hc, hcl]
  | handle hc _ => simp only [consTurns, hc]; omega
  | ret hc _ => simp only [consTurns, hc]; omega

theorem settle_quiet {C : Consumer σ ρ} {behs : List Beh} {cap : Nat} {d : Config σ ρ} (hinv : Inv C behs cap d)
    (hmem : ∀ (j : Nat) (m : MPc), d.members[j]? = some m → m = .start ∨ m.isDone = true)
    (hcons : d.cons.isReturned = true ∨ ∃ s, d.cons = .idle s ∧ d.hist.length ≤ d.taken + 1) :
    Quiet C (exec C d settle) := by
  rw [show settle = List.replicate 2 .closer ++ List.replicate 4 .consumer from rfl, exec_append]
  -- two turns for the closer: it has at most two steps
  have hinv1 := exec_induction inv_step (List.replicate 2 .closer) hinv
  obtain ⟨f1, hst1⟩ := turns_stuck (C := C) (μ := fun e => e.closer.todo) closerTodo_step 2 (c := d)
    d.closer.todo_le
  generalize exec C d (List.replicate 2 .closer) = e1 at hinv1 f1 hst1 ⊢
  obtain ⟨hc1, ht1⟩ := f1.cons nofun
  obtain ⟨hm1, hh1⟩ := f1.members nofun
  -- four turns for the consumer: receive, loop body, the close
  have hturns : consTurns e1 ≤ 4 := by
    unfold consTurns
    rw [hc1, hh1, ht1]
    rcases hcons with hr | ⟨s, hs, hle⟩
    · obtain ⟨x, b, hd⟩ := ConsPc.isReturned_iff.mp hr
      simp [hd]
    · rw [hs]; simp only; split <;> omega
  have hinv2 := exec_induction inv_step (List.replicate 4 .consumer) hinv1
  obtain ⟨f2, hst2⟩ := turns_stuck (C := C) (μ := consTurns) consTurns_step 4 hturns
  refine ⟨by rw [(f2.members nofun).1, hm1]; exact hmem, ?_, consumer_stuck hinv2 hst2⟩
  rw [(f2.members nofun).1, (f2.closer nofun).1, (f2.closer nofun).2]
  exact closer_stuck hinv1 hst1

theorem init_settle_quiet (C : Consumer σ ρ) (behs : List Beh) (cap : Nat) :
    Quiet C (exec C (Config.init C behs cap) settle) := by
  exact settle_quiet (inv_init C behs cap) (fun j m hj => Or.inl (init_members_start hj))
    (Or.inr ⟨C.init, rfl, Nat.zero_le _⟩)

theorem member_runs {C : Consumer σ ρ} {behs : List Beh} {cap : Nat} {c : Config σ ρ} (hinv : Inv C behs cap c)
    (hcap : behs.length ≤ cap) {i : Nat} (hst : c.members[i]? = some .start) :
    ∃ r, exec C c [.member i, .member i, .member i]
      = { c with hist := c.hist ++ [(i, r)], members := c.members.set i (.done r) } := by
  have hi : i < c.members.length := lt_of_getElem? hst
  have hib : i < c.behs.length := by rw [hinv.hbehs, ← hinv.len]; exact hi
  have m1 : Moves C c (.member i) _ := .run hst (List.getElem?_eq_getElem hib)
  generalize (c.behs[i]).respond c.cancelled = r at m1
  have hm1 : (c.members.set i (.ran r))[i]? = some (.ran r) := by simp [hi]
  refine ⟨r, ?_⟩
  rw [exec_step m1,
    exec_step (.send (c := { c with members := c.members.set i (.ran r) }) hm1
      (Or.inl (send_room (inv_step hinv m1) hcap hm1))),
    exec_step (.done (i := i) (r := r) (by simp [hi])
      (c := { c with hist := c.hist ++ [(i, r)], members := (c.members.set i (.ran r)).set i (.sent r) }))]
  simp only [exec, List.foldl_nil, List.set_set]

theorem block_quiet {C : Consumer σ ρ} {behs : List Beh} {cap : Nat} {c : Config σ ρ} (hq : Quiet C c)
    (hinv : Inv C behs cap c) (hcap : behs.length ≤ cap) (i : Nat) : Quiet C (exec C c (block i)) := by
  rw [show block i = [.member i, .member i, .member i] ++ settle from rfl, exec_append]
  have hinv1 := exec_induction inv_step [.member i, .member i, .member i] hinv
  by_cases hst : c.members[i]? = some .start
  · obtain ⟨r, hrun⟩ := member_runs hinv hcap hst
    rw [hrun] at hinv1 ⊢
    refine settle_quiet hinv1 (forall_getElem?_set hq.mem (Or.inr rfl)) ?_
    rcases hq.cons with h | ⟨s, h1, h2, _⟩
    · exact Or.inl h
    · exact Or.inr ⟨s, h1, by simp only [List.length_append, List.length_singleton]; omega⟩
  · -- nobody to release: member `i` has ended, or there is no such member
    have hn : step C c (.member i) = none := by
      cases hm : c.members[i]? with
      | none => simp [step, stepMember, hm]
      | some m => exact ((quiescent_iff C c).mp (quiet_quiescent C c hq)).2.2 i m hm fun h => hst (h ▸ hm)
    rw [exec_none C c _ fun t ht => by
      simp only [List.mem_cons, List.not_mem_nil, or_false, or_self] at ht; rw [ht]; exact hn] at hinv1 ⊢
    refine settle_quiet hinv1 hq.mem ?_
    rcases hq.cons with h | ⟨s, h1, h2, _⟩
    · exact Or.inl h
    · exact Or.inr ⟨s, h1, by omega⟩

/-- the driver's `serialGo` keeps the shape from observation point to observation point -/
theorem serialGo_quiet (C : Consumer σ ρ) (behs : List Beh) (pc : Option Nat) :
    ∀ (order : List Nat) (k : Nat) (c : Config σ ρ) (tr : Trace ρ), Quiet C c → Inv C behs behs.length c →
      tr.quiet = true →
      (serialGo C pc k order c tr).2.quiet = true
        ∧ Quiet C (serialGo C pc k order c tr).1 ∧ Inv C behs behs.length (serialGo C pc k order c tr).1 := by
  intro order
  induction order with
  | nil => intro k c tr hq hinv ht; exact ⟨ht, hq, hinv⟩
  | cons i rest ih =>
    intro k c tr hq hinv ht
    simp only [serialGo]
    have hq1 : Quiet C (if pc = some k then stepD C c .env else c) := by
      split
      · exact ⟨hq.mem, hq.closer, hq.cons⟩
      · exact hq
    have hinv1 : Inv C behs behs.length (if pc = some k then stepD C c .env else c) := by
      split
      · exact inv_step hinv .env
      · exact hinv
    have hq2 := block_quiet hq1 hinv1 (Nat.le_refl _) i
    have hinv2 := exec_induction inv_step (block i) hinv1
    apply ih (k + 1) _ _ hq2 hinv2
    simp [observe, ht, quiet_quiescent C _ hq2]

end ScVerif.C17
