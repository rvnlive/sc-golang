import ScVerif.C17.LiveLemmas
import ScVerif.C17.PropsThreads
/-!
# C17 — the call returns, for every schedule, every group size (none included) and every channel with room for one
response per member

The other half of "the call never blocks" (`PropsThreads.lean`: the goroutines of `executeEach` end): the caller's own
goroutine.  `Config.init C behs cap` is a call whose response channel has capacity `cap`; the code makes
`cap = len(members)` (`Config.spawn`).  "Seeded change N", here and in the other property files, is the trial change to
/repo kept as `/verif/seeded/C17-N`.
-/
namespace ScVerif.C17

/-- No deadlock for any consumer loop, group (the empty one included: the closer still closes the
channel, which is what seeded change 11 breaks), capacity `≥ len(members)` and schedule; and after at most `5n+4` steps
of the call's own threads, under any scheduling of them, the call has returned and all its goroutines have ended. -/
theorem C17_call_returns (C : Consumer σ ρ) (behs : List Beh) (cap : Nat) (hcap : behs.length ≤ cap)
    (sched : List Tid) :
    let c := exec C (Config.init C behs cap) sched
    ((∀ t : Tid, t ≠ .env → step C c t = none) → c.consReturned = true ∧ c.spawnedDone = true)
    ∧ (∀ t c', t ≠ .env → step C c t = some c' → c'.work < c.work)
    ∧ c.work ≤ 5 * behs.length + 4 := by
  intro c
  have hinv : Inv C behs cap c := inv_exec C behs cap sched
  refine ⟨?_, ?_, ?_⟩
  · intro hst
    have hsp : c.spawnedDone = true :=
      spawned_stuck_done hinv hcap fun t ht => hst t (by intro he; subst he; simp [Tid.spawned] at ht)
    have hd : c.closer = .done := ((spawnedDone_iff c).mp hsp).2
    -- the closer has closed the channel: a consumer that cannot move has seen that
    rcases consumer_stuck hinv (hst .consumer nofun) with hr | ⟨_, _, _, hopen⟩
    · exact ⟨hr, hsp⟩
    · rw [hinv.closedOK.mpr hd] at hopen
      cases hopen
  · intro t c' hne hs
    exact work_step hinv (moves_of_step hs) hne
  · have h1 := pending_le c
    have h2 := consTodo_le c
    have h3 := hinv.len
    have h4 := hinv.hbehs
    unfold Config.work
    rw [h4] at h2
    omega

/-- The empty group: after closer, closer, consumer every strategy's loop has returned (Fast and Race with "no members
returned a response") and nothing is left. -/
example :
    (exec (upTo 0 (allowedAny 0)) (Config.spawn (upTo 0 (allowedAny 0)) []) [.closer, .closer, .consumer]).cons
        = .returned ⟨[], none⟩ true
    ∧ (exec fast (Config.spawn fast []) [.closer, .closer, .consumer]).cons = .returned ⟨none, 0, some .noResponse⟩ true
    ∧ (exec race (Config.spawn race []) [.closer, .closer, .consumer]).cons = .returned ⟨none, 0, some .noResponse⟩ true
    ∧ (exec race (Config.spawn race []) [.closer, .closer, .consumer]).work = 0 := by
  refine ⟨rfl, rfl, rfl, rfl⟩

/-- `C17_goroutines_end` for every channel capacity `≥ len(members)`, not only the one the code
makes, whatever the consumer does. -/
theorem C17_room_suffices (C : Consumer σ ρ) (behs : List Beh) (cap : Nat) (hcap : behs.length ≤ cap)
    (sched : List Tid) :
    let c := exec C (Config.init C behs cap) sched
    ((∀ t : Tid, t.spawned = true → step C c t = none) → c.spawnedDone = true)
    ∧ c.pending ≤ 3 * behs.length + 2 := by
  intro c
  have hinv : Inv C behs cap c := inv_exec C behs cap sched
  refine ⟨spawned_stuck_done hinv hcap, ?_⟩
  have h1 := pending_le c
  have h3 := hinv.len
  omega

/-- ExecuteFast and ExecuteRace under every schedule, with cancellation-aware members
and the caller cancelling at any time: the value returned is the one `C17_fast` / `C17_race` specify for the responses
taken, each of which is the tagged member's own (its normal one, or the one it gives under a cancelled context); Fast
without a success returns only at the close, with one response per member. -/
theorem C17_fast_race_end_to_end (behs : List Beh) (sched : List Tid) :
    (let c := exec race (Config.spawn race behs) sched
     let got := c.hist.take c.taken
     ∀ x b, c.cons = .returned x b →
      (∀ r ∈ got, ∃ bh, behs[r.1]? = some bh ∧ (r.2 = bh.normal ∨ bh.onCancel = some r.2))
      ∧ (∀ r rest, got = r :: rest → x = ⟨r.2.msg, r.1, r.2.err.map Err.member⟩)
      ∧ (got = [] → behs = [] ∧ x = ⟨none, 0, some .noResponse⟩))
    ∧ (let c := exec fast (Config.spawn fast behs) sched
       let got := c.hist.take c.taken
       ∀ x b, c.cons = .returned x b →
        (∀ r ∈ got, ∃ bh, behs[r.1]? = some bh ∧ (r.2 = bh.normal ∨ bh.onCancel = some r.2))
        ∧ (∀ pre r post, got = pre ++ r :: post → (∀ y ∈ pre, y.2.err.isSome) → r.2.err = none →
            x = ⟨r.2.msg, r.1, none⟩)
        ∧ ((∀ y ∈ got, y.2.err.isSome) →
            b = true ∧ got.length = behs.length ∧ c.members.all MPc.isDone = true
            ∧ x = (match got.head? with
              | none => ⟨none, 0, some .noResponse⟩
              | some r => ⟨none, r.1, r.2.err.map Err.member⟩))) := by
  constructor
  · intro c got x b hx
    have hinv : Inv race behs behs.length c := inv_exec race behs behs.length sched
    have hh : HistInv c := histInv_exec race behs behs.length sched
    obtain ⟨hres, hown, hclose⟩ := returned_spec hinv hh hx
    refine ⟨hown, fun r rest hgot => ?_, fun hgot => ?_⟩
    · rw [show c.hist.take c.taken = r :: rest from hgot, (C17_race.1 r rest).1] at hres
      exact hres
    · rw [show c.hist.take c.taken = [] from hgot] at hres hclose
      obtain ⟨_, h1, h2, _⟩ := hclose rfl
      exact ⟨List.eq_nil_of_length_eq_zero (by rw [← h2, ← h1]; rfl), hres.trans C17_race.2⟩
  · intro c got x b hx
    have hinv : Inv fast behs behs.length c := inv_exec fast behs behs.length sched
    have hh : HistInv c := histInv_exec fast behs behs.length sched
    obtain ⟨hres, hown, hclose⟩ := returned_spec hinv hh hx
    refine ⟨hown, fun pre r post hgot hpre hr => ?_, fun hall => ?_⟩
    · rw [show c.hist.take c.taken = pre ++ r :: post from hgot, (C17_fast.1 pre post r hpre hr).1] at hres
      exact hres
    · obtain ⟨hb, h1, h2, hdone⟩ := hclose (by rw [fast_after_fail _ hall]; rfl)
      rw [(C17_fast.2.1 (c.hist.take c.taken) hall).1] at hres
      exact ⟨hb, (congrArg List.length h1).trans h2, hdone, hres⟩

/-- The converse of `C17_room_suffices`, for every consumer, capacity and schedule: a consumer
that returns after `k` responses on a channel with less room than `n - k` leaves member goroutines behind in EVERY
execution, not only under unlucky timing (one more for an unbuffered channel: the rendezvous in flight). -/
theorem C17_room_needed (C : Consumer σ ρ) (behs : List Beh) (cap : Nat) (sched : List Tid) :
    let c := exec C (Config.init C behs cap) sched
    c.members.countP MPc.isDone ≤ c.taken + max cap 1
    ∧ (c.spawnedDone = true → behs.length ≤ c.taken + max cap 1)
    ∧ (c.consReturned = true → ∀ more : List Tid,
        (exec C c more).taken = c.taken ∧ (exec C c more).cons = c.cons) := by
  intro c
  have hinv : Inv C behs cap c := inv_exec C behs cap sched
  exact ⟨countP_isDone_le hinv, spawnedDone_room hinv, fun hret more => returned_frozen C more c hret⟩

/-- `C17_room_needed` for ExecuteRace, which takes one response: a bounded
buffer (seeded change 12: `min(len(members), 8)`, leaking from 10 members on) leaks in every call; only a capacity that
grows with the group (`C17_room_suffices`) is safe for all consumers. -/
theorem C17_small_buffer_race_always_leaks (behs : List Beh) (cap : Nat)
    (h : max cap 1 + 2 ≤ behs.length) (sched : List Tid) :
    let c := exec race (Config.init race behs cap) sched
    c.members.length = behs.length
    ∧ c.members.countP MPc.isDone ≤ max cap 1 + 1
    ∧ c.spawnedDone = false := by
  intro c
  have hinv := inv_exec race behs cap sched
  have hl := early_return_leaks hinv (k := 1) (fun rs h1 => by rw [race_after]; cases rs <;> simp at h1 ⊢)
  exact ⟨hinv.len, hl.1, hl.2 h⟩

/-- the hypothesis is satisfiable by what seeded change 12 makes: capacity 8, ten members -/
example : max 8 1 + 2 ≤ (List.replicate 10 (⟨⟨some 1, none⟩, none⟩ : Beh)).length := by decide

def tenOK : List Beh := (List.range 10).map fun i => ⟨⟨some (i + 1), none⟩, none⟩

/-- every member's function returns; members 0..7 send (the buffer is full); the consumer takes one
response and returns (Race); member 8 sends into the slot that became free; the members that have sent end -/
def leakSched8 : List Tid :=
  (List.range 10).map Tid.member ++ (List.range 8).map Tid.member ++ [.consumer, .consumer, .member 8]
    ++ (List.range 9).map Tid.member

/-- Seeded change 12 on ten members: the call has returned member 0's response,
every member function has returned, no goroutine of `executeEach` can move and two of them have not ended.  Groups of
up to 9 members never show it with capacity 8. -/
theorem C17_bounded_buffer_would_leak :
    let c := exec race (Config.init race tenOK 8) leakSched8
    c.allReturned = true
    ∧ (match c.cons with | .returned x byClose => some (x, byClose) | _ => none) = some (⟨some 1, 0, none⟩, false)
    ∧ c.spawnedDone = false
    ∧ c.alive = 2
    ∧ (∀ t : Tid, t.spawned = true → (step race c t).isNone = true) := by
  intro c
  have key : c.allReturned = true
      ∧ (match c.cons with | .returned x byClose => some (x, byClose) | _ => none) = some (⟨some 1, 0, none⟩, false)
      ∧ c.spawnedDone = false ∧ c.alive = 2 ∧ c.quiescent race = true := by
    decide +kernel +revert
  obtain ⟨h1, h2, h3, h4, hq⟩ := key
  exact ⟨h1, h2, h3, h4, spawned_stuck_of_quiescent hq h1⟩

-- the depth is what `decide` without `+kernel` would need for this run; the kernel evaluation does not use it
set_option maxRecDepth 20000 in
/-- ... and the same members and schedule on the channel the code makes (capacity 10): member 9 can send. -/
example :
    (step race (exec race (Config.spawn race tenOK) leakSched8) (.member 9)).isSome = true := by decide +kernel

end ScVerif.C17
