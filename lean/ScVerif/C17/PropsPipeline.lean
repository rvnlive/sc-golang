import ScVerif.C17.PipelineFlow
import ScVerif.C17.PipelineSettle
/-!
# C17 — everything started for the members of a Group subscription ends once the subscription is cancelled

The property's last clause, *every goroutine it starts ends once its members return*, for `PullX` of a trait Group
whose members are devices behind the in-process client (`WrapApi`): the member closures handed to `group.Execute`
and, behind each, the device's handler goroutine, which meets the member on the unbuffered channel of
pkg/wrap/stream.go.  Model: `Pipeline.lean` (`Execute` abstracted to its proved contract).
-/
namespace ScVerif.C17
open ScVerif.C17.Pipe

/-- From ANY state in which the subscription's context is cancelled (the subscriber
went away, a `server.Send` failed, `Execute` cancelled or returned) of a subscription whose `Execute` does not wait for
more members than there are (`retAfter ≤ n`: `execParams_retAfter_le`), under every continuation by devices, subscriber
and scheduler: nobody is parked for ever - when no thread of the pipeline can move, every handler and member closure has
ended, `Execute` has returned and the loop has returned or sits in the subscriber's `Send` - and that point comes after
at most `work` steps, no fairness assumed. -/
theorem C17_pull_members_released [DecidableEq V] (P : Params V) (hw : P.watch = true) (c₀ : Cfg V)
    (hret : P.retAfter ≤ c₀.lanes.length) (hc : c₀.cancelled = true) (sched : List (Lbl V)) (c : Cfg V)
    (hrun : run P c₀ sched = some c) :
    c.cancelled = true
    ∧ ((∀ lbl : Lbl V, lbl.internal = true → step P c lbl = none) →
        c.allEnded ∧ c.left = 0 ∧ c.execDone = true ∧ (c.loop = .returned ∨ c.loop = .inSend))
    ∧ (∀ (ls : List (Lbl V)) (c' : Cfg V), (∀ l ∈ ls, l.internal = true) → run P c ls = some c' →
        ls.length + c'.work ≤ c.work) := by
  have hc' := run_induction step_cancelled hrun hc
  have hlen := run_lanes_length P sched c₀ c hrun
  refine ⟨hc', ?_, ?_⟩
  · intro hst
    obtain ⟨h1, h2, h3⟩ := stuck_cancelled_ended P c hw hc' (by omega) hst
    exact ⟨h1, left_zero_of_allEnded c h1, h2, h3⟩
  · intro ls c' hall h
    exact run_internal_bound P ls c c' hall h

/-- Only the environment (a device reporting, the subscriber answering a Send) adds
work: between two of its actions a point of quiescence is reached under any scheduling, so the points at which the
harness observes the real goroutines exist in every execution. -/
theorem C17_pull_pipeline_progress [DecidableEq V] (P : Params V) (c c' : Cfg V) (lbl : Lbl V)
    (hi : lbl.internal = true) (h : step P c lbl = some c') : c'.work < c.work :=
  step_work P c c' lbl hi h

/-- Under every interleaving (`Cfg.initSeq`: strategy One) what the subscriber is
sent is the sequential Pull loop of `Adapters.lean` run on the messages taken, in the order taken: the theorems of
`PropsAdapters.lean` speak about the pipeline's output. -/
theorem C17_pull_pipeline_forwards_loop [DecidableEq V] (P : Params V) (n : Nat) (c₀ : Cfg V)
    (h₀ : c₀ = Cfg.init n ∨ c₀ = Cfg.initSeq n) (sched : List (Lbl V))
    (c : Cfg V) (hrun : run P c₀ sched = some c) :
    c.st = pullRun P.red n (c.log.map fun e => (e.1, [e.2])) :=
  run_induction step_logInv hrun (by rcases h₀ with rfl | rfl <;> simp [Cfg.logInv, Cfg.init, Cfg.initSeq, pullRun])

/-- `SendMsg` with an up-front `ctx.Err()` check and a bare `serverSend <- m`
(seeded change 15): a handler inside `SendMsg` when its member closure returns is never released, whatever happens
afterwards. -/
theorem C17_bare_send_leak_is_permanent [DecidableEq V] (P : Params V) (hw : P.watch = false) (c : Cfg V)
    (i : Nat) (hp : c.parked i) (sched : List (Lbl V)) (c' : Cfg V) (hrun : run P c sched = some c') :
    c'.parked i ∧ 0 < c'.left := by
  have := run_induction (step_parked hw) hrun hp
  exact ⟨this, left_pos_of_parked c' i this⟩

/-- The schedule of seeded change 15 for one device: its first report reaches the subscriber, whose `Send`
parks; the second is held by the member closure (the loop is busy); the third is inside `SendMsg`; then
the subscriber's `Send` fails; the member sees its context and returns, `Execute` returns, `PullX` returns. -/
def stallSchedule : List (Lbl Nat) :=
  [.poke 0 (some 1), .hStart 0, .hand 0, .give 0,
   .poke 0 (some 2), .hStart 0, .hand 0,
   .poke 0 (some 1), .hStart 0,
   .sendFail, .mCtx 0, .execRet, .loopErr]

def onoffParams (watch : Bool) (n : Nat) : Params Nat := ⟨watch, 0, n, onoffReduceChanges⟩

def holdsAfter (P : Params Nat) (n : Nat) (sched : List (Lbl Nat)) (p : Cfg Nat → Bool) : Bool :=
  match run P (Cfg.init n) sched with
  | some c => p c
  | none => false

def laneIs (c : Cfg Nat) (i : Nat) (h : HSt Nat) (m : MSt Nat) : Bool :=
  match c.lanes[i]? with
  | some l => l.h == h && l.m == m
  | none => false

/-- Witness: `PullX`, `Execute` and the member closure have returned, nothing can move,
and the device handler is still inside `SendMsg` with its third report. -/
theorem C17_bare_send_would_leak :
    ∃ c : Cfg Nat, run (onoffParams false 1) (Cfg.init 1) stallSchedule = some c
      ∧ c.loop = .returned ∧ c.execDone = true ∧ c.parked 0 ∧ c.left = 1
      ∧ (∀ lbl : Lbl Nat, lbl.internal = true → step (onoffParams false 1) c lbl = none) := by
  have h : holdsAfter (onoffParams false 1) 1 stallSchedule (fun c =>
      c.loop == .returned && c.execDone && laneIs c 0 (.sending 1) .ended && c.left == 1
        && (succs (onoffParams false 1) c).isEmpty) = true := by decide +kernel
  unfold holdsAfter at h
  split at h
  · next c hc =>
    simp only [Bool.and_eq_true, beq_iff_eq] at h
    obtain ⟨⟨⟨⟨h1, h2⟩, h3⟩, h4⟩, h5⟩ := h
    refine ⟨c, hc, h1, h2, ?_, h4, (succs_isEmpty_iff _ c).mp h5⟩
    unfold laneIs at h3
    split at h3
    · next l hl =>
      simp only [Bool.and_eq_true, beq_iff_eq] at h3
      exact ⟨l, hl, ⟨1, h3.1⟩, h3.2⟩
    · simp at h3
  · simp at h

/-- Non-vacuity of `C17_pull_members_released`: the same schedule on the code (`watch = true`); the cancellation
releases the handler (`hCtx 0`). -/
example : holdsAfter (onoffParams true 1) 1 (stallSchedule ++ [.hCtx 0]) (fun c =>
    c.cancelled && c.loop == .returned && c.left == 0 && (succs (onoffParams true 1) c).isEmpty) = true := by
  decide +kernel

/-- the hypothesis `c₀.cancelled` of `C17_pull_members_released` is reached in the middle of the stall -/
example : holdsAfter (onoffParams true 1) 1 (stallSchedule.take 10) (fun c =>
    c.cancelled && c.left == 2 && c.loop == .draining && c.work == 9
      && laneIs c 0 (.sending 1) (.holding 2)) = true := by
  decide +kernel

/-- Through handler, wrap stream and member closure nothing is duplicated, overtakes or is
invented, under every schedule and for every device (a lane of strategy One whose turn has not come counts as alive);
while both threads of the lane live nothing is lost either. -/
theorem C17_pull_lane_fifo [DecidableEq V] (P : Params V) (n : Nat) (c₀ : Cfg V)
    (h₀ : c₀ = Cfg.init n ∨ c₀ = Cfg.initSeq n) (sched : List (Lbl V)) (c : Cfg V)
    (hrun : run P c₀ sched = some c) (i : Nat) (l : Lane V) (hl : c.lanes[i]? = some l) :
    (l.alive = true → (c.delivered i).map some ++ l.inflight = pokes i sched)
    ∧ (c.delivered i ++ l.m.held).map some <+: pokes i sched := by
  simpa using (laneFlow_iff _ _ _).mp (run_flow P sched c₀ c i [] hrun (wf_init n h₀) (flow_init n i h₀) l hl)

/-- ... and when the subscriber keeps up, a lane at rest has delivered every
report its device was told to make. -/
theorem C17_pull_quiescent_all_delivered [DecidableEq V] (P : Params V) (n : Nat) (sched : List (Lbl V)) (c : Cfg V)
    (hrun : run P (Cfg.init n) sched = some c) (i : Nat) (l : Lane V) (hl : c.lanes[i]? = some l)
    (halive : l.alive = true) (hstarted : l.m.isNotStarted = false) (hloop : c.loop = .selecting)
    (h1 : step P c (.hStart i) = none) (h2 : step P c (.hand i) = none) (h3 : step P c (.give i) = none) :
    (c.delivered i).map some = pokes i sched := by
  have hf := (C17_pull_lane_fifo P n _ (Or.inl rfl) sched c hrun i l hl).1 halive
  have hns : l.m ≠ .notStarted := fun h => by simp [h, MSt.isNotStarted] at hstarted
  obtain ⟨hme, hhe⟩ := (Lane.alive_iff l).mp halive
  obtain ⟨hh, hm, hp⟩ := lane_at_rest hl hns hme (hhe.resolve_right hns) hloop h1 h2 h3
  rw [← hf]
  simp [Lane.inflight, hm, hh, hp, MSt.held, HSt.inSendMsg]

/-- non-vacuity of `C17_pull_quiescent_all_delivered` -/
example : holdsAfter (onoffParams true 1) 1
    [.poke 0 (some 1), .hStart 0, .hand 0, .give 0, .sendOk, .poke 0 (some 2), .hStart 0, .hand 0, .give 0, .sendOk]
    (fun c => c.delivered 0 == [1, 2] && c.loop == .selecting && laneIs c 0 .idle .recv
      && (succs (onoffParams true 1) c).isEmpty) = true := by decide +kernel

/-- Strategy One, non-vacuity: the second device gets its turn when the first has failed; a member whose turn comes
after the cancellation is refused by the in-process client (no handler is started). -/
example :
    (match run (⟨true, 2, 2, onoffReduceChanges⟩ : Params Nat) (Cfg.initSeq 2)
        [.mStart 0, .poke 0 none, .hStart 0, .mEof 0, .mStart 1, .poke 1 (some 1), .hStart 1, .hand 1, .give 1,
         .cancel, .hCtx 1, .mCtx 1, .execRet, .sendFail, .loopErr] with
      | some c => c.delivered 1 == [1] && c.left == 0 && c.loop == .returned && laneIs c 1 .ended .ended
      | none => false) = true
    ∧ (match run (⟨true, 2, 2, onoffReduceChanges⟩ : Params Nat) (Cfg.initSeq 2)
        [.mStart 0, .cancel, .mCtx 0, .hCtx 0, .mStart 1, .execRet, .loopErr] with
      | some c => c.left == 0 && c.loop == .returned && laneIs c 1 .ended .ended && c.work == 0
      | none => false) = true := by decide +kernel

/-- The set an observation made on the real goroutines is looked up in (`Pipe.settle`)
holds only points of quiescence the model has, the two economies of the exploration included: the tie
`group-pull-pipeline` never accepts an observation the model does not allow. -/
theorem C17_pipe_settle_sound [DecidableEq V] (P : Params V) (cs : List (Cfg V)) (c : Cfg V) (h : c ∈ settle P cs) :
    (∃ c₀ ∈ cs, ∃ (ls : List (Lbl V)) (c' : Cfg V),
        (∀ l ∈ ls, l.internal = true) ∧ run P c₀ ls = some c' ∧ eraseLog c' = c)
    ∧ (∀ lbl : Lbl V, lbl.internal = true → step P c lbl = none) :=
  settle_sound P cs c h

/-- non-vacuity: two points of quiescence (the loop took device 0's first report, or device 1's) -/
example :
    (match run (onoffParams true 2) (Cfg.init 2) [.poke 0 (some 1), .poke 1 (some 2), .poke 0 (some 2), .poke 1 (some 1)] with
      | some c => ((settle (onoffParams true 2) [c]).map fun c => (c.st.sent, c.lanes.map (·.acc))).length
      | none => 0) = 2 := by decide +kernel

end ScVerif.C17
