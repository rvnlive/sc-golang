import ScVerif.C17.ErrThreadLemmas
import ScVerif.C17.PropsThreads
/-!
# C17 — member errors are opaque; the caller's context is cancelled before / during the call

"A member fails" means its error is non-nil: the strategies never look at WHAT the error is.  Stated as equivariance
under an arbitrary relabelling `f` of member error values (not necessarily injective: a member's own
`context.Canceled` / `DeadlineExceeded` is an error like any other).  The caller's cancellation is only ever passed on
to the members; the call itself goes on by its strategy's rule.
-/
namespace ScVerif.C17

/-- Each strategy's result on relabelled arrivals is the relabelled result; the loop returns
after the same number of responses and calls `cancelFunc()` at the same moments.  Also for `Execute`'s dispatch and
for the sequential One. -/
theorem C17_errors_opaque (f : Nat → Nat) :
    (∀ (st : Strategy) (n : Nat) (rs : List Tagged),
        execute st n (rs.map (mapT f)) = (execute st n rs).mapErr f)
    ∧ (∀ (n : Nat) (allowed : Int) (rs : List Tagged) (k : Nat),
        (upTo n allowed).result (rs.map (mapT f)) = ((upTo n allowed).result rs).mapErr f
        ∧ ((upTo n allowed).after ((rs.map (mapT f)).take k)).cancelled = ((upTo n allowed).after (rs.take k)).cancelled)
    ∧ (∀ (rs : List Tagged) (k : Nat),
        fast.result (rs.map (mapT f)) = (fast.result rs).mapErr f
        ∧ (fast.after ((rs.map (mapT f)).take k)).isReturned = (fast.after (rs.take k)).isReturned
        ∧ race.result (rs.map (mapT f)) = (race.result rs).mapErr f
        ∧ (race.after ((rs.map (mapT f)).take k)).isReturned = (race.after (rs.take k)).isReturned)
    ∧ (∀ outs : List Resp,
        one (outs.map (Resp.mapErr f)) = (one outs).mapErr f
        ∧ oneTried (outs.map (Resp.mapErr f)) = oneTried outs) := by
  have hone : ∀ outs : List Resp,
      one (outs.map (Resp.mapErr f)) = (one outs).mapErr f
      ∧ oneTried (outs.map (Resp.mapErr f)) = oneTried outs := by
    intro outs
    have := oneLoop_map f outs 0 none
    simp only [Option.map_none] at this
    simp [one, oneTried, this]
  refine ⟨?_, ?_, ?_, hone⟩
  · intro st n rs
    cases st with
    | all => exact result_map _ f _ _ (upTo_equivariant n _ f) rs
    | most => exact result_map _ f _ _ (upTo_equivariant n _ f) rs
    | any => exact result_map _ f _ _ (upTo_equivariant n _ f) rs
    | one =>
      simp only [execute]
      rw [show (rs.map (mapT f)).map (·.2) = (rs.map (·.2)).map (Resp.mapErr f) by
        simp [List.map_map, mapT, Function.comp_def], (hone _).1, singleResult_mapErr]
    | fast =>
      simp only [execute]
      rw [result_map _ f _ _ (fast_equivariant f) rs, singleResult_mapErr]
    | race =>
      simp only [execute]
      rw [result_map _ f _ _ (race_equivariant f) rs, singleResult_mapErr]
  · intro n allowed rs k
    refine ⟨result_map _ f _ _ (upTo_equivariant n allowed f) rs, ?_⟩
    rw [← List.map_take, after_map _ f _ _ (upTo_equivariant n allowed f)]
    exact (run_map_flags _ _ _).2
  · intro rs k
    refine ⟨result_map _ f _ _ (fast_equivariant f) rs, ?_, result_map _ f _ _ (race_equivariant f) rs, ?_⟩
    · rw [← List.map_take, after_map _ f _ _ (fast_equivariant f)]
      exact (run_map_flags _ _ _).1
    · rw [← List.map_take, after_map _ f _ _ (race_equivariant f)]
      exact (run_map_flags _ _ _).1

/-- A loop that DOES look at the error value (gives up on error number 100) is not equivariant: `C17_errors_opaque` is
a real constraint, and the tie's error-class generator is what checks it on the code. -/
def fastPeeking : Consumer (Option Tagged) Single where
  init := none
  onRecv s r :=
    match r.2.err with
    | none => .ret ⟨r.2.msg, r.1, none⟩
    | some e => if e = 100 then .ret ⟨none, r.1, some (.member e)⟩
      else .next (match s with | none => some r | some x => some x) false
  onClose s := fast.onClose s

example : ∃ (f : Nat → Nat) (rs : List Tagged),
    fastPeeking.result (rs.map (mapT f)) ≠ (fastPeeking.result rs).mapErr f :=
  ⟨fun _ => 100, [(0, ⟨none, some 1⟩), (1, ⟨some 5, none⟩)], by decide +kernel⟩

/-- The same at the level of goroutines, for EVERY schedule: running the relabelled
members goes through exactly the relabelled configurations. -/
theorem C17_errors_opaque_threads (f : Nat → Nat) (behs : List Beh) (sched : List Tid) :
    (∀ (n : Nat) (allowed : Int),
        let C := upTo n allowed
        exec C (Config.spawn C (behs.map (Beh.mapErr f))) sched
          = (exec C (Config.spawn C behs) sched).mapErr f (UpToSt.mapErr f) (Many.mapErr f))
    ∧ exec fast (Config.spawn fast (behs.map (Beh.mapErr f))) sched
        = (exec fast (Config.spawn fast behs) sched).mapErr f (Option.map (mapT f)) (Single.mapErr f)
    ∧ exec race (Config.spawn race (behs.map (Beh.mapErr f))) sched
        = (exec race (Config.spawn race behs) sched).mapErr f id (Single.mapErr f)
    ∧ (∀ (C : Consumer σ ρ) (gσ : σ → σ) (gρ : ρ → ρ), Equivariant C f gσ gρ →
        let c := exec C (Config.spawn C behs) sched
        let c' := exec C (Config.spawn C (behs.map (Beh.mapErr f))) sched
        c'.cancelled = c.cancelled ∧ c'.alive = c.alive ∧ c'.hist = c.hist.map (mapT f)
        ∧ (∀ x b, c.cons = .returned x b → c'.cons = .returned (gρ x) b)) := by
  have key : ∀ {σ ρ : Type} (C : Consumer σ ρ) (gσ : σ → σ) (gρ : ρ → ρ), Equivariant C f gσ gρ →
      exec C (Config.spawn C (behs.map (Beh.mapErr f))) sched
        = (exec C (Config.spawn C behs) sched).mapErr f gσ gρ := by
    intro σ ρ C gσ gρ h
    rw [spawn_map C f gσ gρ h, exec_map C f gσ gρ h]
  refine ⟨fun n allowed => key _ _ _ (upTo_equivariant n allowed f), key _ _ _ (fast_equivariant f),
    key _ _ _ (race_equivariant f), ?_⟩
  intro C gσ gρ h c c'
  have hc : c' = c.mapErr f gσ gρ := key C gσ gρ h
  refine ⟨by rw [hc]; rfl, by rw [hc]; exact alive_mapErr f gσ gρ c, by rw [hc]; rfl, ?_⟩
  intro x b hx
  rw [hc]
  show (c.cons).mapErr f gσ gρ = _
  rw [hx]; rfl

/-- The caller's context is cancelled after an arbitrary prefix `sched1` (empty: before the call
has started anything): every member that had not run by then answers as to a cancelled context, and only such answers
of these members reach the channel; nothing else changes (`C17_threads_refine` and `C17_goroutines_end` hold for this
schedule as for every other). -/
theorem C17_caller_cancel (C : Consumer σ ρ) (behs : List Beh) (sched1 sched2 : List Tid) :
    let c1 := exec C (Config.spawn C behs) (sched1 ++ [.env])
    let c2 := exec C c1 sched2
    c2.cancelled = true
    ∧ (∀ (i : Nat) (m : MPc), c1.members[i]? = some .start → c2.members[i]? = some m →
        m = .start ∨ ∃ b : Beh, behs[i]? = some b ∧ m.resp = some (b.respond true))
    ∧ (∀ (i : Nat) (r : Resp), c1.members[i]? = some .start → (i, r) ∈ c2.hist →
        ∃ b : Beh, behs[i]? = some b ∧ r = b.respond true)
    ∧ (sched1 = [] → ∀ (i : Nat) (r : Resp), (i, r) ∈ c2.hist → ∃ b : Beh, behs[i]? = some b ∧ r = b.respond true)
    ∧ (∀ x b, c2.cons = .returned x b → x = C.result (c2.hist.take c2.taken)) := by
  intro c1 c2
  -- `Late c1 ·` is carried from the state right after the caller's `.env` step, the two invariants from the start
  have hinv1 : Inv C behs behs.length c1 := inv_exec C behs behs.length (sched1 ++ [Tid.env])
  have hc1 : c1.cancelled = true := by
    show (exec C (Config.spawn C behs) (sched1 ++ [.env])).cancelled = true
    rw [exec_append]
    rfl
  have hlate : Late c1 c2 := exec_induction late_step sched2 (late_refl c1 hc1)
  have hinv2 : Inv C behs behs.length c2 := exec_induction inv_step sched2 hinv1
  have hh : HistInv c2 := exec_induction histInv_step sched2 (histInv_exec C behs behs.length (sched1 ++ [Tid.env]))
  have hhist : ∀ (i : Nat) (r : Resp), c1.members[i]? = some .start → (i, r) ∈ c2.hist →
      ∃ b : Beh, behs[i]? = some b ∧ r = b.respond true :=
    fun i r h1 hin => hinv1.hbehs ▸ late_hist hlate hh h1 hin
  refine ⟨hlate.canc, fun i m h1 h2 => hinv1.hbehs ▸ hlate.late i m h2 h1, hhist, ?_,
    fun x b hx => (inv_returned hinv2 hx).1.symm⟩
  intro hs i r hin
  subst hs
  -- cancelled before anything was started: every member is still at its gate
  obtain ⟨m, hm, _⟩ := histInv_resp hh hin
  have hlt : i < c1.members.length := by rw [hinv1.len, ← hinv2.len]; exact lt_of_getElem? hm
  have hstart := List.getElem?_eq_getElem hlt
  rw [init_members_start (C := C) (behs := behs) (cap := behs.length) hstart] at hstart
  exact hhist i r hstart hin

/-- ExecuteOne under a caller context cancelled at any moment (`canc i`: member `i` finds
it cancelled when called): One still tries the members in index order until one succeeds; if no member looks at its
context, the cancellation changes nothing. -/
theorem C17_one_caller_context (behs : List Beh) (canc : Nat → Bool) :
    let outs := behs.mapIdx fun i b => b.respond (canc i)
    ((one outs).err.isSome ↔ outs ≠ [] ∧ ∀ r ∈ outs, r.err.isSome)
    ∧ (oneTried outs = outs.length ∨ ∃ r ∈ outs, r.err = none)
    ∧ ((∀ b ∈ behs, b.onCancel = none) →
        one outs = one (behs.map (·.normal)) ∧ oneTried outs = oneTried (behs.map (·.normal))) := by
  intro outs
  refine ⟨(one_err_isSome outs).1, (one_err_isSome outs).2, ?_⟩
  · intro hob
    have : outs = behs.map (·.normal) := by
      show (behs.mapIdx fun i b => b.respond (canc i)) = _
      apply List.ext_getElem?
      intro i
      rw [List.getElem?_mapIdx, List.getElem?_map]
      cases hb : behs[i]? with
      | none => rfl
      | some b =>
        have hmem : b ∈ behs := List.mem_of_getElem? hb
        simp [Beh.respond, hob b hmem]
    rw [this]
    exact ⟨rfl, rfl⟩

end ScVerif.C17
