import ScVerif.Base.ListLemmas
/-! List facts the thread, adapter and pipeline lemmas share: induction from the right, and a list with one entry
replaced. -/
namespace ScVerif.C17
open ScVerif.Base

variable {α β : Type}

theorem snoc_induction {P : List α → Prop} (nil : P []) (snoc : ∀ l a, P l → P (l ++ [a])) (l : List α) : P l := by
  rw [← List.reverse_reverse l]
  induction l.reverse with
  | nil => exact nil
  | cons a t ih => rw [List.reverse_cons]; exact snoc _ _ ih

theorem lt_of_getElem? {l : List α} {i : Nat} {a : α} (h : l[i]? = some a) : i < l.length :=
  (List.getElem?_eq_some_iff.mp h).1

theorem take_pred_of_snoc {l pre : List α} {k : Nat} {a : α} (hk : k ≤ l.length) (h : l.take k = pre ++ [a]) :
    l.take (k - 1) = pre := by
  have hlen : pre.length + 1 = k := by
    have := congrArg List.length h
    simp only [List.length_take, List.length_append, List.length_singleton] at this
    omega
  subst hlen
  have := congrArg (List.take pre.length) h
  rwa [List.take_take, Nat.min_eq_left (Nat.le_succ _), List.take_left'] at this
  rfl

theorem forall_getElem?_set {Q : Nat → α → Prop} {l : List α} {i : Nat} {a' : α}
    (h : ∀ j m, l[j]? = some m → Q j m) (hi : Q i a') : ∀ j m, (l.set i a')[j]? = some m → Q j m :=
  Base.forall_getElem?_set h (fun _ _ _ => hi) fun _ _ _ hq => hq

theorem forall_mem_set {Q : α → Prop} {l : List α} {a' : α} (h : ∀ a ∈ l, Q a) (ha : Q a') (i : Nat) :
    ∀ a ∈ l.set i a', Q a := fun a hm =>
  (List.mem_or_eq_of_mem_set hm).elim (h a) fun e => e ▸ ha

theorem exists_getElem?_set {P : α → Prop} {l : List α} {i j : Nat} {a' : α} (h : ∃ m, l[j]? = some m ∧ P m)
    (hi : ∀ a, l[i]? = some a → P a → P a') : ∃ m, (l.set i a')[j]? = some m ∧ P m := by
  obtain ⟨m, hm, hp⟩ := h
  by_cases hji : j = i
  · subst hji
    exact ⟨a', List.getElem?_set_self (lt_of_getElem? hm), hi m hm hp⟩
  · exact ⟨m, by rw [List.getElem?_set_ne (Ne.symm hji)]; exact hm, hp⟩

theorem all_eq_decide_countP (p : α → Bool) (l : List α) : l.all p = decide (l.countP p = l.length) := by
  rw [Bool.eq_iff_iff, List.all_eq_true, decide_eq_true_iff, List.countP_eq_length]

theorem countP_set_eq (p : α → Bool) (l : List α) (i : Nat) (a b : α) (h : l[i]? = some a) :
    (l.set i b).countP p + (if p a then 1 else 0) = l.countP p + (if p b then 1 else 0) := by
  obtain ⟨h1, h2⟩ := set_split b h
  rw [h2]; conv => rhs; rw [h1]
  simp only [List.countP_append, List.countP_cons]
  omega

theorem split_first_none (f : α → Option β) (l : List α) :
    (∀ x ∈ l, (f x).isSome) ∨ ∃ pre r post, l = pre ++ r :: post ∧ (∀ x ∈ pre, (f x).isSome) ∧ f r = none := by
  induction l with
  | nil => exact Or.inl nofun
  | cons a l ih =>
    cases ha : f a with
    | none => exact Or.inr ⟨[], a, l, rfl, nofun, ha⟩
    | some b =>
      rcases ih with h | ⟨pre, r, post, h1, h2, h3⟩
      · exact Or.inl (List.forall_mem_cons.mpr ⟨by rw [ha]; rfl, h⟩)
      · exact Or.inr ⟨a :: pre, r, post, by rw [h1]; rfl, List.forall_mem_cons.mpr ⟨by rw [ha]; rfl, h2⟩, h3⟩

theorem countP_lt_of_not (p : α → Bool) (l : List α) (i : Nat) (a : α) (h : l[i]? = some a) (hp : p a = false) :
    l.countP p < l.length :=
  Nat.lt_of_le_of_ne List.countP_le_length fun e => by
    simpa [hp] using List.countP_eq_length.mp e a (List.mem_of_getElem? h)

end ScVerif.C17
