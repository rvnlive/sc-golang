import ScVerif.C01.Lemmas
import ScVerif.Base.InsertSort
/-! `Collection.List`: the sort, the distinct-keys invariant of `byId`, and what `List` returns under it. -/
namespace ScVerif.C01
variable {M K R : Type}

/-- keys of `byId` are distinct (it is a Go map) -/
def NodupKeys (items : List (String × Item M)) : Prop := (items.map (·.1)).Pairwise (· ≠ ·)

theorem sortById_isSort : IsInsertSort (·.1) (insertById (M := M)) sortById :=
  ⟨fun _ => rfl, fun _ _ _ => rfl, rfl, fun _ _ => rfl⟩

theorem mem_sortById (y : String × Item M) (l : List (String × Item M)) : y ∈ sortById l ↔ y ∈ l :=
  (sortById_isSort.perm l).mem_iff

theorem sorted_sortById (l : List (String × Item M)) (hn : NodupKeys l) :
    ((sortById l).map (·.1)).Pairwise (· < ·) :=
  sortById_isSort.sorted hn

theorem nodupKeys_filter (l : List (String × Item M)) (p : String × Item M → Bool) (hn : NodupKeys l) :
    NodupKeys (l.filter p) := by
  unfold NodupKeys at *
  exact (List.Pairwise.sublist (List.Sublist.map _ List.filter_sublist) hn)

theorem mem_iff_lookup (l : List (String × Item M)) (hn : NodupKeys l) (k : String) (v : Item M) :
    (k, v) ∈ l ↔ lookup l k = some v := by
  induction l with
  | nil => simp [lookup]
  | cons z zs ih =>
    obtain ⟨k', v'⟩ := z
    simp only [NodupKeys, List.map_cons, List.pairwise_cons, List.mem_map, forall_exists_index, and_imp,
      forall_apply_eq_imp_iff₂] at hn
    simp only [List.mem_cons, Prod.mk.injEq, lookup]
    by_cases hk : k' = k
    · subst hk
      simp only [true_and, ↓reduceIte, Option.some.injEq]
      constructor
      · rintro (h | h)
        · exact h.symm
        · exact absurd rfl (hn.1 (k', v) h)
      · intro h; exact Or.inl h.symm
    · simp only [hk, ↓reduceIte]
      rw [← ih hn.2]
      constructor
      · rintro (h | h)
        · exact absurd h.1.symm hk
        · exact h
      · intro h; exact Or.inr h

theorem keys_setItem (items : List (String × Item M)) (id : String) (it : Item M) (k : String) :
    k ∈ (setItem items id it).map (·.1) ↔ k = id ∨ k ∈ items.map (·.1) := by
  induction items with
  | nil => simp [setItem]
  | cons z zs ih =>
    obtain ⟨k', v'⟩ := z
    simp only [setItem]
    split
    · rename_i h; subst h; simp
    · simp only [List.map_cons, List.mem_cons, ih]
      constructor
      · rintro (h | h | h) <;> simp [h]
      · rintro (h | h | h) <;> simp [h]

theorem nodupKeys_setItem (items : List (String × Item M)) (id : String) (it : Item M) (hn : NodupKeys items) :
    NodupKeys (setItem items id it) := by
  induction items with
  | nil => simp [setItem, NodupKeys]
  | cons z zs ih =>
    obtain ⟨k', v'⟩ := z
    simp only [NodupKeys, List.map_cons, List.pairwise_cons] at hn
    simp only [setItem]
    split
    · simpa [NodupKeys] using hn
    · rename_i hne
      simp only [NodupKeys, List.map_cons, List.pairwise_cons]
      refine ⟨?_, ih hn.2⟩
      intro a ha
      rcases (keys_setItem zs id it a).mp ha with h | h
      · subst h; exact hne
      · exact hn.1 a h

theorem nodupKeys_init (cfg : Cfg M K R) (records : List (String × M)) (rng : R) :
    NodupKeys (Coll.init cfg records rng).items := by
  unfold Coll.init
  simp only []
  suffices ∀ acc : List (String × Item M), NodupKeys acc →
      NodupKeys (records.foldl (fun acc kv => setItem acc kv.1 { body := kv.2, time := 0 }) acc) from
    this [] (by simp [NodupKeys])
  induction records with
  | nil => intro acc h; exact h
  | cons r rs ih => intro acc h; exact ih _ (nodupKeys_setItem _ _ _ h)

theorem coll_list_spec (cfg : Cfg M K R) (s : CState M R) (ro : ReadReq M K) (hn : NodupKeys s.items) :
    ListSpec cfg (abs s).m ro (Coll.listIds cfg s ro) := by
  have hn' : NodupKeys (itemSlice s ro) := nodupKeys_filter _ _ hn
  constructor
  · have := sorted_sortById _ hn'
    simpa [Coll.listIds, List.map_map, Function.comp_def] using this
  · intro id v
    simp only [Coll.listIds, List.mem_map, Prod.mk.injEq, abs]
    constructor
    · rintro ⟨⟨k, it⟩, hmem, hk, hv⟩
      simp only at hk hv
      subst hk
      have h1 := (mem_sortById _ _).mp hmem
      simp only [itemSlice, List.mem_filter, Bool.not_eq_eq_eq_not, Bool.not_true] at h1
      exact ⟨it, (mem_iff_lookup _ hn _ _).mp h1.1, h1.2, hv.symm⟩
    · rintro ⟨it, hl, hex, hv⟩
      refine ⟨(id, it), (mem_sortById _ _).mpr ?_, rfl, hv.symm⟩
      simp only [itemSlice, List.mem_filter, Bool.not_eq_eq_eq_not, Bool.not_true]
      exact ⟨(mem_iff_lookup _ hn _ _).mpr hl, hex⟩

end ScVerif.C01
