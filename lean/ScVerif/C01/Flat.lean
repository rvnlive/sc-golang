import ScVerif.C01.Model
/-!
# C01 — the concrete message used by the driver

`Msg` is the disjoint union of the modelled fields of two real message types (a script of the harness
uses the fields of ONE of them; an all-default message stands for the zero message of either).
`internal/testproto.TestAllTypes` restricted to five top-level fields of all the shapes
`proto.Merge` treats differently:

* `a` = `default_int32`  (scalar, implicit presence: populated iff ≠ 0)
* `s` = `default_string` (scalar, implicit presence: populated iff ≠ "")
* `c` = `optional_int32` (scalar, explicit presence)
* `f` = `default_foreign_message` (a nested message `ForeignMessage{c, d int32}`; present or absent)
* `r` = `repeated_int32` (a repeated field; populated iff non-empty)

and `traits.OpenClosePosition` (sc-api) restricted to two fields whose NAMES are related: one is a textual
prefix of the other, at the same level (every place where `pkg/masks` decides "this path lies inside that
one" from the path strings has to tell them apart):

* `p` = `open_percent` (scalar, implicit presence; the harness keeps the float32 integral and small)
* `t` = `open_percent_tween` (a nested message `types.Tween`, of which `progress` is modelled)

Under an update mask that names them, `proto.Merge` REPLACES a scalar, MERGES a nested message
field by field (sub-fields populated in the source overwrite, the others are kept) and APPENDS to a
repeated field; with no update mask the destination (or its writable fields) is cleared first, so
everything is replaced; a field named by the mask and not populated in the source is cleared.

Masks are lists of paths: the five top-level paths, `x` (a path that is not a field of the message)
and the NESTED paths `fc` = `default_foreign_message.c`, `fd` = `default_foreign_message.d`, `fx` =
`default_foreign_message.no_such_field` (so masks can name a parent, its children, both, or an unknown
child), and for the second type `p`, `t`, `tp` = `open_percent_tween.progress`, with duplicates and order kept as given.  `flatOps` follows
`pkg/masks` (`FieldUpdater.Validate/Merge`, `pruneEmpty`, `isWritablePath`, `nestedMask`,
`ResponseFilter.FilterClone`), `fieldmaskpb.{IsValid,Union}` and `fmutils` phase by phase, specialised to
such masks.  (Masks in general depth are C05's subject.)

Integers are unbounded here; the harness keeps |values| far below 2^31 so `int32` never wraps.
-/
namespace ScVerif.C01

inductive Field | a | s | c | f | r | x | fc | fd | fx | p | t | tp
  deriving DecidableEq, Repr

abbrev Mask := List Field

structure Msg where
  a : Int
  s : String
  c : Option Int
  f : Option (Int × Int) := none
  r : List Int := []
  p : Int := 0
  t : Option Int := none
  deriving DecidableEq, Repr

namespace Flat

def zero : Msg := { a := 0, s := "", c := none }

/-- `protoreflect.Message.Has` (`fc`/`fd`: of the nested message, false when it is absent) -/
def has (m : Msg) : Field → Bool
  | .a => m.a ≠ 0
  | .s => m.s ≠ ""
  | .c => m.c.isSome
  | .f => m.f.isSome
  | .r => !m.r.isEmpty
  | .x => false
  | .fc => match m.f with | some (c, _) => c ≠ 0 | none => false
  | .fd => match m.f with | some (_, d) => d ≠ 0 | none => false
  | .fx => false
  | .p => m.p ≠ 0
  | .t => m.t.isSome
  | .tp => match m.t with | some g => g ≠ 0 | none => false

/-- `protoreflect.Message.Clear` (`fc`/`fd`: on the nested message when it is present) -/
def clear (m : Msg) : Field → Msg
  | .a => { m with a := 0 }
  | .s => { m with s := "" }
  | .c => { m with c := none }
  | .f => { m with f := none }
  | .r => { m with r := [] }
  | .x => m
  | .fc => { m with f := m.f.map (fun p => (0, p.2)) }
  | .fd => { m with f := m.f.map (fun p => (p.1, 0)) }
  | .fx => m
  | .p => { m with p := 0 }
  | .t => { m with t := none }
  | .tp => { m with t := m.t.map (fun _ => 0) }

/-- `proto.Merge` of a `ForeignMessage`: populated (non-zero) sub-fields of the source overwrite -/
def mergeForeign (d s : Int × Int) : Int × Int :=
  (if s.1 ≠ 0 then s.1 else d.1, if s.2 ≠ 0 then s.2 else d.2)

/-- `proto.Merge` for one populated top-level field `f` of `src`: a scalar is overwritten, a nested
message is merged into (created if absent), a repeated field is appended to -/
def copy (dst src : Msg) : Field → Msg
  | .a => { dst with a := src.a }
  | .s => { dst with s := src.s }
  | .c => { dst with c := src.c }
  | .f => { dst with f := src.f.map (mergeForeign (dst.f.getD (0, 0))) }
  | .r => { dst with r := dst.r ++ src.r }
  | .p => { dst with p := src.p }
  | .t => { dst with t := src.t.map (fun g => if g ≠ 0 then g else dst.t.getD 0) }
  | _ => dst

/-- the top-level fields -/
def fields : List Field := [.a, .s, .c, .f, .r, .p, .t]

/-- the top-level fields other than the nested messages -/
def plainFields : List Field := [.a, .s, .c, .r, .p]

/-- `FieldMask.IsValid(msg)` -/
def isValid (m : Mask) : Bool := m.all (fun q => q ≠ .x && q ≠ .fx)

/-- `normalizePaths`: sorted, duplicate free, and a path that lies inside another path of the list is
dropped (`f.c` next to `f`, `t.progress` next to `t` — but not `t` next to `p`, whose name merely starts
with `p`'s). -/
def normalize (m : Mask) : Mask :=
  [Field.f, .fc, .fd, .fx, .a, .s, .x, .p, .t, .tp, .c, .r].filter
    (fun q => m.contains q && !((q = .fc || q = .fd || q = .fx) && m.contains .f) && !(q = .tp && m.contains .t))

/-- `fieldmaskpb.Union` -/
def union (w : Mask) (more : Option Mask) : Mask := normalize (w ++ more.getD [])

/-- How a mask selects the nested message field, as `masks.nestedMask` builds it (a path inside
another path of the list adds nothing: `f` next to `f.c` selects the whole of `f`): not at all, as a
whole, or some of its sub-fields. -/
inductive FSel | no | whole | part (c d : Bool)
  deriving DecidableEq, Repr

def fsel (mask : Mask) : FSel :=
  if mask.contains .f then .whole
  else if mask.contains .fc || mask.contains .fd || mask.contains .fx then
    .part (mask.contains .fc) (mask.contains .fd)
  else .no

/-- the same for the second nested message (`open_percent_tween`; one modelled sub-field) -/
inductive TSel | no | whole | part
  deriving DecidableEq, Repr

def tsel (mask : Mask) : TSel :=
  if mask.contains .t then .whole else if mask.contains .tp then .part else .no

/-- `fmutils.NestedMask.Filter` / `masks.filterMessage`: an empty mask keeps everything; a partly
selected nested message keeps the selected sub-fields (and stays present). -/
def nmFilter (mask : Mask) (m : Msg) : Msg :=
  if mask.isEmpty then m
  else
    let m := plainFields.foldl (fun acc fld => if mask.contains fld then acc else clear acc fld) m
    let m := match fsel mask with
      | .no => clear m .f
      | .whole => m
      | .part c d => (if d then id else (clear · .fd)) ((if c then id else (clear · .fc)) m)
    match tsel mask with
    | .no => clear m .t
    | _ => m

/-- `fmutils.NestedMask.Prune` -/
def nmPrune (mask : Mask) (m : Msg) : Msg :=
  let m := plainFields.foldl (fun acc fld => if mask.contains fld then clear acc fld else acc) m
  let m := match fsel mask with
    | .no => m
    | .whole => clear m .f
    | .part c d => (if d then (clear · .fd) else id) ((if c then (clear · .fc) else id) m)
  match tsel mask with
  | .no => m
  | .whole => clear m .t
  | .part => clear m .tp

/-- `proto.Merge(dst, src)`: populated fields of `src` overwrite / merge / append. -/
def protoMerge (dst src : Msg) : Msg :=
  fields.foldl (fun acc fld => if has src fld then copy acc src fld else acc) dst

/-- `masks.pruneEmpty(dst, src, mask)`: a populated field of `dst` the mask mentions and `src` does not
populate is cleared; for a partly mentioned nested message only the mentioned sub-fields are (those
`src` does not populate, all of them when `src` lacks the message). -/
def pruneEmpty (dst src : Msg) (mask : Mask) : Msg :=
  let dst := plainFields.foldl
    (fun acc fld => if has acc fld && mask.contains fld && !(has src fld) then clear acc fld else acc) dst
  let sub (sel : Bool) (fld : Field) (acc : Msg) : Msg :=
    if sel && has acc fld && !(has src fld) then clear acc fld else acc
  let dst := match fsel mask with
    | .no => dst
    | .whole => if has dst .f && !(has src .f) then clear dst .f else dst
    | .part c d => sub d .fd (sub c .fc dst)
  match tsel mask with
  | .no => dst
  | .whole => if has dst .t && !(has src .t) then clear dst .t else dst
  | .part => sub true .tp dst

/-- `masks.isWritablePath`: the path is one of the writable paths or lies inside one of them -/
def isWritablePath (w : Mask) (q : Field) : Bool :=
  w.contains q || ((q = .fc || q = .fd || q = .fx) && w.contains .f) || (q = .tp && w.contains .t)

/-- `FieldUpdater.Validate` -/
def validate (u : Upd Mask) (_msg : Msg) : Option Code :=
  let updErr : Option Code :=
    match u.update with
    | none => none
    | some m =>
      if !(isValid m) then some .invalidArgument
      else match u.writable with
        | none => none
        | some w =>
          -- `isWritablePath` for every update path (repo 4d3ae38; duplicates of a writable path pass)
          if !(m.all (isWritablePath w)) then some .invalidArgument else none
  match updErr with
  | some e => some e
  | none =>
    match u.reset with
    | none => none
    | some r => if !(isValid r) then some .internal else none

/-- `FieldUpdater.Merge(dst, src)` -/
def merge (u : Upd Mask) (dst src : Msg) : Msg :=
  if (match u.writable with | some w => w.isEmpty | none => false) then
    -- nothing is writable: only the reset mask applies, unless the update mask is empty (repo 70b9b73)
    if (match u.update with | some m => m.isEmpty | none => false) then dst
    else match u.reset with
      | some r => nmPrune r dst
      | none => dst
  else
    -- only allow writing writable fields by resetting non-writable fields in src
    let src := match u.writable with | some w => nmFilter w src | none => src
    let go (dst : Msg) (nested : Mask) : Msg :=
      let src := nmFilter nested src
      let dst := protoMerge dst src
      let dst := pruneEmpty dst src nested
      match u.reset with
      | some r => nmPrune r dst
      | none => dst
    match u.update with
    | none =>
      match u.writable with
      | none => go zero []          -- proto.Reset(dst)
      | some w => go (nmPrune w dst) []
    | some m => if m.isEmpty then dst else go dst m

/-- `ResponseFilter.FilterClone` -/
def filter (mask : Option Mask) (m : Msg) : Msg :=
  match mask with
  | none => m
  | some k => if k.isEmpty then zero else nmFilter k m

end Flat

def flatOps : MsgOps Msg Mask where
  zero := Flat.zero
  eq := fun a b => decide (a = b)
  union := Flat.union
  validate := Flat.validate
  merge := Flat.merge
  filter := Flat.filter

/-! ## The scripted rng: a finite list of bytes; reads past the end leave zero bytes. -/

def b64alphabet : List Char :=
  "ABCDEFGHIJKLMNOPQRSTUVWXYZabcdefghijklmnopqrstuvwxyz0123456789-_".toList

def b64char (n : Nat) : Char := b64alphabet.getD (n % 64) 'A'

/-- `base64.RawURLEncoding.EncodeToString` -/
def b64url : List Nat → List Char
  | b0 :: b1 :: b2 :: rest =>
    b64char (b0 / 4) :: b64char ((b0 % 4) * 16 + b1 / 16) :: b64char ((b1 % 16) * 4 + b2 / 64) ::
      b64char (b2 % 64) :: b64url rest
  | [b0, b1] => [b64char (b0 / 4), b64char ((b0 % 4) * 16 + b1 / 16), b64char ((b1 % 16) * 4)]
  | [b0] => [b64char (b0 / 4), b64char ((b0 % 4) * 16)]
  | [] => []

/-- candidate `i`: `r := make([]byte, 6+i); rng.Read(r); base64url(r)` -/
def flatGen (rng : List Nat) (i : Nat) : String × List Nat :=
  let n := 6 + i
  let got := rng.take n
  let bytes := got ++ List.replicate (n - got.length) 0
  (String.ofList (b64url bytes), rng.drop n)

/-! ## The closed family of named callbacks shared with the harness -/

def optA (o : Option Msg) : Int := match o with | some m => m.a | none => 0

def namedBefore : String → Option (Option Msg → Msg → Msg)
  | "addA" => some (fun old v => { v with a := v.a + optA old })
  | "bumpA" => some (fun _ v => { v with a := v.a + 1 })
  | "copyC" => some (fun old v => match old with | some o => { v with c := o.c } | none => v)
  | _ => none

def namedAfter : String → Option (Option Msg → Msg → Msg)
  | "stampC" => some (fun old d => { d with c := some (optA old + d.a) })
  | "markS" => some (fun old d => if optA old ≠ d.a then { d with s := "chg" } else d)
  | "clearC" => some (fun _ d => { d with c := none })
  | _ => none

def codeOfName : String → Option Code
  | "Canceled" => some .canceled | "Unknown" => some .unknown
  | "InvalidArgument" => some .invalidArgument | "DeadlineExceeded" => some .deadlineExceeded
  | "NotFound" => some .notFound | "AlreadyExists" => some .alreadyExists
  | "PermissionDenied" => some .permissionDenied | "ResourceExhausted" => some .resourceExhausted
  | "FailedPrecondition" => some .failedPrecondition | "Aborted" => some .aborted
  | "OutOfRange" => some .outOfRange | "Unimplemented" => some .unimplemented
  | "Internal" => some .internal | "Unavailable" => some .unavailable
  | "DataLoss" => some .dataLoss | "Unauthenticated" => some .unauthenticated
  | _ => none

def Code.name : Code → String
  | .canceled => "Canceled" | .unknown => "Unknown" | .invalidArgument => "InvalidArgument"
  | .deadlineExceeded => "DeadlineExceeded" | .notFound => "NotFound" | .alreadyExists => "AlreadyExists"
  | .permissionDenied => "PermissionDenied" | .resourceExhausted => "ResourceExhausted"
  | .failedPrecondition => "FailedPrecondition" | .aborted => "Aborted" | .outOfRange => "OutOfRange"
  | .unimplemented => "Unimplemented" | .internal => "Internal" | .unavailable => "Unavailable"
  | .dataLoss => "DataLoss" | .unauthenticated => "Unauthenticated"

/-- `aEq:<n>` (FailedPrecondition unless old.a = n), `fail:<Code>` (always that code; a plain Go
error is `Unknown`), `nonNil` (NotFound when there is no old message), `sEmpty`
(FailedPrecondition unless old.s = ""). -/
def namedCheck (name : String) : Option (Option Msg → Option Code) :=
  match name.splitOn ":" with
  | ["aEq", n] => n.toInt?.map (fun k old => if optA old = k then none else some .failedPrecondition)
  | ["fail", c] => (codeOfName c).map (fun code _ => some code)
  | ["nonNil"] => some (fun old => if old.isSome then none else some .notFound)
  | ["sEmpty"] => some (fun old => if (match old with | some m => m.s | none => "") = "" then none
                                   else some .failedPrecondition)
  | _ => none

/-- ASCII upper-case letters and their lower-case forms -/
def lowerTable : List (Char × Char) :=
  "ABCDEFGHIJKLMNOPQRSTUVWXYZ".toList.zip "abcdefghijklmnopqrstuvwxyz".toList

/-- lower-case an ASCII letter, leave everything else alone -/
def lowerChar (ch : Char) : Char := (lowerTable.lookup ch).getD ch

def lowerStr (s : String) : String := String.ofList (s.toList.map lowerChar)

/-- `dash`: prepend "-" (not idempotent; never yields the empty id, so only the caller's own empty id triggers id generation) -/
def dashStr (s : String) : String := "-" ++ s
/-- `first`: keep the first character (idempotent, many ids collide) -/
def firstStr (s : String) : String := String.ofList (s.toList.take 1)
/-- `dup`: double the id (maps "" to "", NOT idempotent) -/
def dupStr (s : String) : String := s ++ s

def namedIcpt : String → Option (String → String)
  | "lower" => some lowerStr
  | "dash" => some dashStr
  | "first" => some firstStr
  | "dup" => some dupStr
  | _ => none

def namedInclude : String → Option (String → Msg → Bool)
  | "aPos" => some (fun _ m => decide (m.a > 0))
  | "idLtB" => some (fun id _ => decide (id < "b"))
  | "sEmpty" => some (fun _ m => m.s == "")
  | _ => none

end ScVerif.C01
