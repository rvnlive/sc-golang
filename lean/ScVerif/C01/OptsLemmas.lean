import ScVerif.C01.OptsSpec
import ScVerif.C01.ModelLemmas
/-! Lemmas about option lists (`Opts.lean`, vocabulary in `OptsSpec.lean`).  Every option but `WithMoreUpdateMask` is a
record update, so a fact about one option is `rfl` per constructor (`applyW_moreUpdateMask` puts the exception in the same
form); a fact about a list is a relation each option keeps (core's `List.foldl_rel`, `List.foldlRecOn`), or,
for the writable fields, a direct induction.  Runs on option lists are runs on the computed records. -/
namespace ScVerif.C01
variable {M K R : Type}

/-- the two flags `Collection.Add` forces -/
def withAddFlags (wr : WriteReq M K) : WriteReq M K := { wr with expectAbsent := true, createIfAbsent := true }

/-- `WithMoreUpdateMask` touches the update mask only (the one option not written as a single record update) -/
theorem applyW_moreUpdateMask (ops : MsgOps M K) (cat : K → K → K) (wr : WriteReq M K) (m : K) :
    applyW ops cat wr (.moreUpdateMask m) = { wr with updateMask := wr.updateMask.map (cat · m) } :=
  match wr with
  | { updateMask := none, .. } => rfl
  | { updateMask := some _, .. } => rfl

theorem applyW_addFlags (ops : MsgOps M K) (cat : K → K → K) (wr : WriteReq M K) (o : WOpt M K) :
    applyW ops cat (withAddFlags wr) o = withAddFlags (applyW ops cat wr o) := by
  cases o <;> first | rfl | (simp only [applyW_moreUpdateMask]; rfl)

theorem computeWriteConfig_append (ops : MsgOps M K) (cat : K → K → K) (pre post : List (WOpt M K)) :
    computeWriteConfig ops cat (pre ++ post) = post.foldl (applyW ops cat) (computeWriteConfig ops cat pre) :=
  List.foldl_append

theorem computeWriteConfig_add_front (ops : MsgOps M K) (cat : K → K → K) (opts : List (WOpt M K)) :
    computeWriteConfig ops cat (.expectAbsent :: .createIfAbsent :: opts) = withAddFlags (computeWriteConfig ops cat opts) := by
  unfold computeWriteConfig
  simp only [List.foldl_cons]
  exact List.foldl_rel (r := fun a b => a = withAddFlags b) rfl fun o _ a b h => by rw [h, applyW_addFlags]

theorem computeWriteConfig_add_back (ops : MsgOps M K) (cat : K → K → K) (opts : List (WOpt M K)) :
    computeWriteConfig ops cat (opts ++ [.expectAbsent, .createIfAbsent]) = withAddFlags (computeWriteConfig ops cat opts) := by
  rw [computeWriteConfig_append]
  rfl

theorem applyW_flags_mono (ops : MsgOps M K) (cat : K → K → K) (wr : WriteReq M K) (o : WOpt M K) :
    (wr.expectAbsent = true → (applyW ops cat wr o).expectAbsent = true) ∧
    (wr.createIfAbsent = true → (applyW ops cat wr o).createIfAbsent = true) ∧
    (wr.genEmptyID = true → (applyW ops cat wr o).genEmptyID = true) ∧
    (wr.nilWritable = true → (applyW ops cat wr o).nilWritable = true) := by
  cases o with
  | expectAbsent => exact ⟨fun _ => rfl, id, id, id⟩
  | createIfAbsent => exact ⟨id, fun _ => rfl, id, id⟩
  | genIDIfAbsent => exact ⟨id, id, fun _ => rfl, id⟩
  | allFieldsWritable => exact ⟨id, id, id, fun _ => rfl⟩
  | moreUpdateMask m => rw [applyW_moreUpdateMask]; exact ⟨id, id, id, id⟩
  | _ => exact ⟨id, id, id, id⟩

theorem foldl_flags_mono (ops : MsgOps M K) (cat : K → K → K) (opts : List (WOpt M K)) (wr : WriteReq M K) :
    (wr.expectAbsent = true → (opts.foldl (applyW ops cat) wr).expectAbsent = true) ∧
    (wr.createIfAbsent = true → (opts.foldl (applyW ops cat) wr).createIfAbsent = true) ∧
    (wr.genEmptyID = true → (opts.foldl (applyW ops cat) wr).genEmptyID = true) ∧
    (wr.nilWritable = true → (opts.foldl (applyW ops cat) wr).nilWritable = true) :=
  List.foldlRecOn opts (applyW ops cat)
    (motive := fun b => (wr.expectAbsent = true → b.expectAbsent = true) ∧ (wr.createIfAbsent = true → b.createIfAbsent = true) ∧
      (wr.genEmptyID = true → b.genEmptyID = true) ∧ (wr.nilWritable = true → b.nilWritable = true))
    ⟨id, id, id, id⟩ fun b hb o _ =>
      have h1 := applyW_flags_mono ops cat b o
      ⟨fun h => h1.1 (hb.1 h), fun h => h1.2.1 (hb.2.1 h), fun h => h1.2.2.1 (hb.2.2.1 h), fun h => h1.2.2.2 (hb.2.2.2 h)⟩

theorem foldl_updateMask (ops : MsgOps M K) (cat : K → K → K) (post : List (WOpt M K))
    (hpost : ∀ o ∈ post, o.setsUpdateMask = false) (wr : WriteReq M K) :
    (post.foldl (applyW ops cat) wr).updateMask = moreMasks cat post wr.updateMask :=
  List.foldl_rel (f := applyW ops cat) (r := fun (wr : WriteReq M K) u => wr.updateMask = u) rfl fun o ho wr u h => by
    subst h
    cases o with
    | updateMask m => cases hpost _ ho
    | moreUpdateMask k => rw [applyW_moreUpdateMask]
    | _ => rfl

theorem moreMasks_none (cat : K → K → K) (post : List (WOpt M K)) : moreMasks cat post none = none :=
  List.foldlRecOn post _ (motive := (· = none)) rfl fun u h o _ => by subst h; cases o <;> rfl

theorem stepO_eq (cat : K → K → K) (cfg : Cfg M K R) (s : CState M R) (op : COpO M K) :
    Coll.stepO cat cfg s op = Coll.step cfg s (compileOp cfg.ops cat op) := by
  cases op with
  | get id opts => rfl
  | list opts => rfl
  | update id msg opts => rfl
  | add id msg opts =>
    simp only [Coll.stepO, Coll.step, compileOp, Coll.addO, Coll.updateO, Coll.add, computeWriteConfig_add_front]
    rfl
  | delete id opts => rfl

theorem runO_eq (cat : K → K → K) (cfg : Cfg M K R) (ops : List (COpO M K)) :
    ∀ s : CState M R, Coll.runO cat cfg s ops = Coll.run cfg s (ops.map (compileOp cfg.ops cat)) := by
  induction ops with
  | nil => intro s; rfl
  | cons op ops ih => intro s; simp only [Coll.runO, List.map_cons, Coll.run_cons, stepO_eq, ih]

theorem vrunO_eq (cat : K → K → K) (cfg : Cfg M K R) (ops : List (VOpO M K)) :
    ∀ s : VState M, Value.runO cat cfg s ops = Value.run cfg s (ops.map (compileVOp cfg.ops cat)) := by
  induction ops with
  | nil => intro s; rfl
  | cons op ops ih =>
    intro s
    cases op <;> simp only [Value.runO, List.map_cons, Value.run_cons, ih] <;> rfl

theorem foldl_writable (ops : MsgOps M K) (cat : K → K → K) (opts : List (WOpt M K)) :
    ∀ wr : WriteReq M K,
      (opts.foldl (applyW ops cat) wr).moreWritable = moreWritableOf ops opts wr.moreWritable ∧
      (opts.foldl (applyW ops cat) wr).nilWritable = (wr.nilWritable || opts.any WOpt.isAllWritable) := by
  induction opts with
  | nil => intro wr; simp [moreWritableOf]
  | cons o opts ih =>
    intro wr
    have := ih (applyW ops cat wr o)
    simp only [List.foldl_cons, moreWritableOf, List.any_cons] at this ⊢
    rw [this.1, this.2]
    cases o with
    | allFieldsWritable => exact ⟨rfl, by simp [applyW, WOpt.isAllWritable]⟩
    | moreUpdateMask m => rw [applyW_moreUpdateMask]; exact ⟨rfl, rfl⟩
    | _ => exact ⟨rfl, rfl⟩

theorem sameFn_refl (k : FnSetting) (a : WriteReq M K) : sameFn k a a := by cases k <;> rfl

theorem sameFn_trans (k : FnSetting) {a b c : WriteReq M K} (h1 : sameFn k a b) (h2 : sameFn k b c) : sameFn k a c := by
  cases k <;> exact Eq.trans h1 h2

theorem applyW_keeps_fn (ops : MsgOps M K) (cat : K → K → K) (k : FnSetting) (wr : WriteReq M K) (o : WOpt M K)
    (h : o.setsFn ≠ some k) : sameFn k (applyW ops cat wr o) wr := by
  cases k <;> cases o <;> first
    | exact rfl
    | exact absurd rfl h
    | (rw [applyW_moreUpdateMask]; exact rfl)

theorem applyW_sets_fn (ops : MsgOps M K) (cat : K → K → K) (k : FnSetting) (wr wr' : WriteReq M K) (o : WOpt M K)
    (h : o.setsFn = some k) : sameFn k (applyW ops cat wr o) (applyW ops cat wr' o) := by
  cases o <;> cases h <;> exact rfl

theorem foldl_keeps_fn (ops : MsgOps M K) (cat : K → K → K) (k : FnSetting) (post : List (WOpt M K))
    (hpost : ∀ o ∈ post, o.setsFn ≠ some k) (wr : WriteReq M K) : sameFn k (post.foldl (applyW ops cat) wr) wr :=
  List.foldlRecOn post _ (motive := (sameFn k · wr)) (sameFn_refl k wr) fun b h o ho =>
    sameFn_trans k (applyW_keeps_fn ops cat k b o (hpost o ho)) h

end ScVerif.C01
