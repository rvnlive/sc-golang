/-! An option list is applied by a fold (`ComputeWriteConfig`, `ComputeReadConfig`, `computeConfig`): a setting survives the
options that do not set it, and a fold skips the options that change nothing. -/
namespace ScVerif.C01

theorem foldl_keeps {α β γ : Type} (f : β → α → β) (proj : β → γ) (sets : α → Bool)
    (hstep : ∀ b a, sets a = false → proj (f b a) = proj b) (post : List α) (hpost : ∀ a ∈ post, sets a = false)
    (b : β) : proj (post.foldl f b) = proj b :=
  List.foldlRecOn post f (motive := fun b' => proj b' = proj b) rfl fun b' h a ha => by rw [hstep b' a (hpost a ha), h]

theorem foldl_filter_neutral {α β : Type} (f : β → α → β) (p : α → Bool)
    (hp : ∀ b a, (!p a) = false → f b a = b) (l : List α) (b : β) :
    (l.filter (fun a => !p a)).foldl f b = l.foldl f b := by
  induction l generalizing b with
  | nil => rfl
  | cons a l ih =>
    cases ha : !p a with
    | true => simp only [List.filter_cons, ha, ↓reduceIte, List.foldl_cons]; exact ih _
    | false => simp only [List.filter_cons, ha, Bool.false_eq_true, ↓reduceIte, List.foldl_cons, hp b a ha]; exact ih b

end ScVerif.C01
