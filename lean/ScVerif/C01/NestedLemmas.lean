import ScVerif.C01.NestedColl
import ScVerif.C01.Lemmas
/-! How a write whose own callback calls the resource again ends (`Nested.lean`, `NestedColl.lean`): the change phase is the
plain one plus the calls, `GetAndUpdate` ends in one of four ways, and Delete is its loop with a stale read.  A state that
carries more than the closures touch, with a change phase that leaves it alone, is the plain `GetAndUpdate`. -/
namespace ScVerif.C01
variable {M K R : Type}

theorem changeFnN_rest_eq {σ : Type} (ops : MsgOps M K) (wr : WriteReq M K) (u : Upd K) (value : M)
    (site : Site) (rival : σ → σ) (old dst : Option M) (s : σ) :
    changeFnN.rest ops wr u value site rival old dst s
      = (changeFn.changeRest ops wr u value old dst,
         if (match site with
             | .chk => wr.expectedCheck.isSome
             | .bf => (match wr.expectedCheck with | some chk => (chk old).isNone | none => true) && wr.before.isSome
             | .af => (match wr.expectedCheck with | some chk => (chk old).isNone | none => true) && wr.after.isSome)
         then rival s else s) := by
  unfold changeFnN.rest changeFn.changeRest
  cases wr.expectedCheck with
  | none => cases wr.before <;> cases wr.after <;> cases site <;> rfl
  | some chk =>
    dsimp only
    rcases Option.eq_none_or_eq_some (chk old) with hc | ⟨c, hc⟩
    · simp only [hc]
      cases wr.before <;> cases wr.after <;> cases site <;> rfl
    · simp only [hc]
      cases site <;> rfl

theorem changeFnN_eq {σ : Type} (ops : MsgOps M K) (wr : WriteReq M K) (u : Upd K) (value : M)
    (site : Site) (rival : σ → σ) (old dst : Option M) (s : σ) :
    changeFnN ops wr u value site rival old dst s
      = (changeFn ops wr u value old dst, if siteReached ops wr site old then rival s else s) := by
  unfold changeFnN changeFn siteReached
  cases wr.expectedValue with
  | none => exact changeFnN_rest_eq ops wr u value site rival old dst s
  | some ev =>
    dsimp only
    rcases Bool.eq_false_or_eq_true (eqOpt ops old (some ev)) with he | he
    · simp only [he, Bool.not_true, Bool.false_eq_true, ↓reduceIte, Bool.true_and]
      exact changeFnN_rest_eq ops wr u value site rival old dst s
    · simp only [he, Bool.not_false, ↓reduceIte, Bool.false_and, Bool.false_eq_true]

/-- what the re-validation read counts as the value: a failed read counts as "no value" -/
def readAgain : Except Code (Option M) → Option M
  | .ok v => v
  | .error _ => none

/-- How `GetAndUpdate` with nested calls ends, `(r1, s1)` being its first read; `mid` is everything the callbacks can touch
when the write comes to its re-validation read `get mid = (r2, s2)`.  (`mid` comes with its defining equation, so that a
user who knows whether the callback ran can put the value in.) -/
inductive GauNOutcome {σ : Type} (ops : MsgOps M K) (get : σ → Except Code (Option M) × σ) (wr : WriteReq M K) (u : Upd K)
    (value : M) (site : Site) (rival : σ → σ) (save : σ → M → σ) (s1 : σ) (r1 : Except Code (Option M)) :
    GauRes M × σ → Prop
  | readFails (e : Code) : r1 = .error e →
      GauNOutcome ops get wr u value site rival save s1 r1 ({ old := none, new := none, err := some e }, s1)
  | refused (old : Option M) (mid : σ) (e : Code) : r1 = .ok old →
      mid = (if siteReached ops wr site old then rival s1 else s1) → changeFn ops wr u value old old = .error e →
      GauNOutcome ops get wr u value site rival save s1 r1 ({ old := old, new := none, err := some e }, mid)
  | aborted (old : Option M) (mid : σ) (new : M) (r2 : Except Code (Option M)) (s2 : σ) : r1 = .ok old →
      mid = (if siteReached ops wr site old then rival s1 else s1) → changeFn ops wr u value old old = .ok new →
      get mid = (r2, s2) → eqOpt ops old (readAgain r2) = false →
      GauNOutcome ops get wr u value site rival save s1 r1 ({ old := old, new := some new, err := some .aborted }, s2)
  | saved (old : Option M) (mid : σ) (new : M) (r2 : Except Code (Option M)) (s2 : σ) : r1 = .ok old →
      mid = (if siteReached ops wr site old then rival s1 else s1) → changeFn ops wr u value old old = .ok new →
      get mid = (r2, s2) → eqOpt ops old (readAgain r2) = true →
      GauNOutcome ops get wr u value site rival save s1 r1 ({ old := old, new := some new, err := none }, save s2 new)

theorem getAndUpdateN_cases {σ : Type} (ops : MsgOps M K) (get : σ → Except Code (Option M) × σ)
    (wr : WriteReq M K) (u : Upd K) (value : M) (site : Site) (rival : σ → σ) (save : σ → M → σ) (s s1 : σ)
    (r1 : Except Code (Option M)) (h1 : get s = (r1, s1)) :
    GauNOutcome ops get wr u value site rival save s1 r1
      (getAndUpdateN ops get (changeFnN ops wr u value site rival) save s) := by
  unfold getAndUpdateN
  rw [h1]
  cases r1 with
  | error e => exact .readFails e rfl
  | ok old =>
    dsimp only
    rw [changeFnN_eq]
    cases hc : changeFn ops wr u value old old with
    | error e => exact .refused old _ e rfl rfl hc
    | ok new =>
      dsimp only
      rcases h2 : get (if siteReached ops wr site old then rival s1 else s1) with ⟨r2, s2⟩
      dsimp only
      cases r2 with
      | error e2 =>
        cases hb : eqOpt ops old none with
        | false => simp only [Bool.not_false, ↓reduceIte]; exact .aborted old _ new _ s2 rfl rfl hc h2 hb
        | true => simp only [Bool.not_true, Bool.false_eq_true, ↓reduceIte]; exact .saved old _ new _ s2 rfl rfl hc h2 hb
      | ok again =>
        cases hb : eqOpt ops old again with
        | false => simp only [Bool.not_false, ↓reduceIte]; exact .aborted old _ new _ s2 rfl rfl hc h2 hb
        | true => simp only [Bool.not_true, Bool.false_eq_true, ↓reduceIte]; exact .saved old _ new _ s2 rfl rfl hc h2 hb

/-- `view` / `put`: the part of `τ` the closures touch -/
theorem getAndUpdateN_view {σ τ : Type} (ops : MsgOps M K) (view : τ → σ) (put : τ → σ → τ)
    (hvp : ∀ x a, view (put x a) = a) (hpp : ∀ x a b, put (put x a) b = put x b)
    (get : σ → Except Code (Option M) × σ) (change : Option M → Option M → Except Code M) (save : σ → M → σ) (x : τ) :
    getAndUpdateN ops (fun x => ((get (view x)).1, put x (get (view x)).2)) (fun o d x => (change o d, x))
        (fun x m => put x (save (view x) m)) x =
      ((getAndUpdate ops get change save (view x)).1, put x (getAndUpdate ops get change save (view x)).2) := by
  unfold getAndUpdateN getAndUpdate
  dsimp only
  rcases get (view x) with ⟨r, s1⟩
  cases r with
  | error c => rfl
  | ok old =>
    dsimp only
    cases change old old with
    | error c => rfl
    | ok new =>
      dsimp only
      rw [hvp]
      rcases get s1 with ⟨r2, s2⟩
      simp only [hvp, hpp]
      split <;> split <;> rfl

theorem getAndUpdateN_pure {σ : Type} (ops : MsgOps M K) (get : σ → Except Code (Option M) × σ)
    (change : Option M → Option M → Except Code M) (save : σ → M → σ) (s : σ) :
    getAndUpdateN ops get (fun o d x => (change o d, x)) save s = getAndUpdate ops get change save s :=
  getAndUpdateN_view ops id (fun _ a => a) (fun _ _ => rfl) (fun _ _ _ => rfl) get change save s

theorem changeFnN_id {σ : Type} (ops : MsgOps M K) (wr : WriteReq M K) (u : Upd K) (value : M) (site : Site)
    (rival : σ → σ) (hr : ∀ s, rival s = s) :
    changeFnN ops wr u value site rival = fun o d s => (changeFn ops wr u value o d, s) := by
  funext o d s
  rw [changeFnN_eq, hr, ite_self]

theorem nestedRunV_nil (cfg : Cfg M K R) (x : VNest M) : nestedRunV cfg [] x = x := by
  simp [nestedRunV, Value.run_nil]

/-- the Value and the results of the nested calls when the write comes to its re-validation read -/
def midV (cfg : Cfg M K R) (s : VState M) (msg : M) (wr : WriteReq M K) (site : Site) (calls : List (VOp M K)) :
    VState M × List (VRes M) :=
  if callbackRuns cfg s msg wr site then ((Value.run cfg s calls).2, (Value.run cfg s calls).1) else (s, [])

theorem midV_value (cfg : Cfg M K R) (s : VState M) (msg : M) (wr : WriteReq M K) (site : Site) (calls : List (VOp M K)) :
    (midV cfg s msg wr site calls).1.value =
      if callbackRuns cfg s msg wr site then (Value.run cfg s calls).2.value else s.value := by
  unfold midV; split <;> rfl

/-- How `Value.Set` with nested calls ends; `mid` is the Value and the results its calls left (the Value it found, if it
did not get as far as the callback): a failing write leaves `mid`, a succeeding one saves on top of it. -/
inductive SetNOutcome (cfg : Cfg M K R) (s : VState M) (msg : M) (wr : WriteReq M K) (mid : VState M × List (VRes M)) :
    VOut M × VState M × List (VRes M) → Prop
  | invalid (c : Code) : cfg.ops.validate (fieldUpdater cfg wr) msg = some c →
      SetNOutcome cfg s msg wr mid ({ val := none, err := some c, events := eventsOf mid.2 }, mid)
  | refused (c : Code) : cfg.ops.validate (fieldUpdater cfg wr) msg = none →
      changeFn cfg.ops wr (fieldUpdater cfg wr) msg s.value s.value = .error c →
      SetNOutcome cfg s msg wr mid ({ val := none, err := some c, events := eventsOf mid.2 }, mid)
  | aborted (new : M) : cfg.ops.validate (fieldUpdater cfg wr) msg = none →
      changeFn cfg.ops wr (fieldUpdater cfg wr) msg s.value s.value = .ok new →
      eqOpt cfg.ops s.value mid.1.value = false →
      SetNOutcome cfg s msg wr mid ({ val := none, err := some .aborted, events := eventsOf mid.2 }, mid)
  | saved (new : M) : cfg.ops.validate (fieldUpdater cfg wr) msg = none →
      changeFn cfg.ops wr (fieldUpdater cfg wr) msg s.value s.value = .ok new →
      eqOpt cfg.ops s.value mid.1.value = true →
      SetNOutcome cfg s msg wr mid
        ({ (savedV cfg wr mid.1 new).1 with events := eventsOf mid.2 ++ (savedV cfg wr mid.1 new).1.events },
         (savedV cfg wr mid.1 new).2, mid.2)

theorem Value.setN_cases (cfg : Cfg M K R) (s : VState M) (msg : M) (wr : WriteReq M K) (site : Site)
    (calls : List (VOp M K)) (mid : VState M × List (VRes M)) (hmid : mid = midV cfg s msg wr site calls) :
    SetNOutcome cfg s msg wr mid (Value.setN cfg s msg wr site calls) := by
  subst hmid
  cases hv : cfg.ops.validate (fieldUpdater cfg wr) msg with
  | some c =>
    have hm : midV cfg s msg wr site calls = (s, []) := by unfold midV callbackRuns; rw [hv]; rfl
    rw [hm]
    unfold Value.setN
    simp only [hv]
    exact .invalid c hv
  | none =>
    have hm : ∀ mid : VNest M, mid = (if siteReached cfg.ops wr site s.value then nestedRunV cfg calls { st := s, results := [] }
        else { st := s, results := [] }) → midV cfg s msg wr site calls = (mid.st, mid.results) := by
      intro mid hmid
      rw [hmid]; unfold midV callbackRuns nestedRunV; rw [hv]
      simp only [Option.isNone_none, Bool.true_and, List.nil_append]
      split <;> rfl
    have ho := getAndUpdateN_cases cfg.ops (fun (x : VNest M) => (Except.ok x.st.value, x)) wr (fieldUpdater cfg wr) msg site
        (nestedRunV cfg calls)
        (fun x m => { x with st := { (updateTimeV cfg wr x.st).2 with value := some m, changeTime := (updateTimeV cfg wr x.st).1 } })
        { st := s, results := [] } _ _ rfl
    generalize hr : getAndUpdateN _ _ _ _ _ = rx at ho
    -- with the outcome of `GetAndUpdate` known, unfolding the call computes what it returns
    cases ho with
    | readFails e h => cases h
    | refused old mid e hg hmid hc =>
      cases hg; rw [hm mid hmid]; simp only [Value.setN, hv, hr]
      exact .refused e hv hc
    | aborted old mid new r2 s2 hg hmid hc h2 hb =>
      cases hg; cases h2; rw [hm mid hmid]; simp only [Value.setN, hv, hr]
      exact .aborted new hv hc hb
    | saved old mid new r2 s2 hg hmid hc h2 hb =>
      cases hg; cases h2; rw [hm mid hmid]; simp only [Value.setN, hv, hr]
      exact .saved new hv hc hb

theorem Value.run_append (cfg : Cfg M K R) (s : VState M) (a b : List (VOp M K)) :
    Value.run cfg s (a ++ b) =
      ((Value.run cfg s a).1 ++ (Value.run cfg (Value.run cfg s a).2 b).1, (Value.run cfg (Value.run cfg s a).2 b).2) := by
  induction a generalizing s with
  | nil => simp [Value.run_nil]
  | cons op ops ih => simp [Value.run_cons, ih]

theorem eventsOf_append (a b : List (VRes M)) : eventsOf (a ++ b) = eventsOf a ++ eventsOf b := by
  induction a with
  | nil => simp [eventsOf]
  | cons r rs ih => cases r <;> simp [eventsOf, ih]

theorem nestedRunC_nil (cfg : Cfg M K R) (x : UNest M R) : nestedRunC cfg [] x = x := by
  simp [nestedRunC, Coll.run_nil]

theorem mid_nestedRunC (cfg : Cfg M K R) (wr : WriteReq M K) (site : Site) (calls : List (COp M K))
    (old : Option M) (c1 : UpdCtx M R) (mid : UNest M R)
    (hmid : mid = if siteReached cfg.ops wr site old then nestedRunC cfg calls { c := c1, results := [] }
      else { c := c1, results := [] }) :
    ((mid.results = [] ∧ mid.c.st = c1.st) ∨
      (mid.results = (Coll.run cfg c1.st calls).1 ∧ mid.c.st = (Coll.run cfg c1.st calls).2)) ∧
    mid.c = if siteReached cfg.ops wr site old then { c1 with st := (Coll.run cfg c1.st calls).2 } else c1 := by
  subst hmid
  split
  · exact ⟨Or.inr ⟨rfl, rfl⟩, rfl⟩
  · exact ⟨Or.inl ⟨rfl, rfl⟩, rfl⟩

/-- How `Collection.Update` with nested calls ends, `(r1, c1)` being its first read; `mid` is the context and the results of
the nested calls when it comes to its re-validation read `updGet cfg wr mid.c = (r2, c2)`. -/
inductive UpdNOutcome (cfg : Cfg M K R) (s : CState M R) (msg : M) (wr : WriteReq M K) (site : Site)
    (calls : List (COp M K)) (c1 : UpdCtx M R) (r1 : Except Code (Option M)) : COut M × CState M R × List (CRes M) → Prop
  | invalid (c : Code) : cfg.ops.validate (fieldUpdater cfg wr) msg = some c →
      UpdNOutcome cfg s msg wr site calls c1 r1 (failOut c [] 0, s, [])
  | readFails (e : Code) : r1 = .error e →
      UpdNOutcome cfg s msg wr site calls c1 r1 (failOut e c1.idCalls c1.createdCalls, c1.st, [])
  | refused (old : Option M) (mid : UNest M R) (e : Code) : r1 = .ok old →
      mid = (if siteReached cfg.ops wr site old then nestedRunC cfg calls { c := c1, results := [] }
        else { c := c1, results := [] }) →
      changeFn cfg.ops wr (fieldUpdater cfg wr) msg old old = .error e →
      UpdNOutcome cfg s msg wr site calls c1 r1
        ({ (failOut e mid.c.idCalls mid.c.createdCalls : COut M) with events := eventsOfC mid.results },
         mid.c.st, mid.results)
  | aborted (old : Option M) (mid : UNest M R) (new : M) (r2 : Except Code (Option M)) (c2 : UpdCtx M R) : r1 = .ok old →
      mid = (if siteReached cfg.ops wr site old then nestedRunC cfg calls { c := c1, results := [] }
        else { c := c1, results := [] }) →
      changeFn cfg.ops wr (fieldUpdater cfg wr) msg old old = .ok new → updGet cfg wr mid.c = (r2, c2) →
      eqOpt cfg.ops old (readAgain r2) = false →
      UpdNOutcome cfg s msg wr site calls c1 r1
        ({ (failOut .aborted c2.idCalls c2.createdCalls : COut M) with events := eventsOfC mid.results },
         c2.st, mid.results)
  | saved (old : Option M) (mid : UNest M R) (new : M) (r2 : Except Code (Option M)) (c2 : UpdCtx M R) : r1 = .ok old →
      mid = (if siteReached cfg.ops wr site old then nestedRunC cfg calls { c := c1, results := [] }
        else { c := c1, results := [] }) →
      changeFn cfg.ops wr (fieldUpdater cfg wr) msg old old = .ok new → updGet cfg wr mid.c = (r2, c2) →
      eqOpt cfg.ops old (readAgain r2) = true →
      UpdNOutcome cfg s msg wr site calls c1 r1
        ({ (savedC cfg wr c2 old new).1 with events := eventsOfC mid.results ++ (savedC cfg wr c2 old new).1.events },
         (savedC cfg wr c2 old new).2, mid.results)

theorem Coll.updateN_cases (cfg : Cfg M K R) (s : CState M R) (id : String) (msg : M) (wr : WriteReq M K) (site : Site)
    (calls : List (COp M K)) (c0 c1 : UpdCtx M R) (r1 : Except Code (Option M))
    (hc0 : c0 = { st := s, id := updKey cfg wr id, created := none, idCalls := [], createdCalls := 0 })
    (h1 : updGet cfg wr c0 = (r1, c1)) :
    UpdNOutcome cfg s msg wr site calls c1 r1 (Coll.updateN cfg s id msg wr site calls) := by
  subst hc0
  cases hv : cfg.ops.validate (fieldUpdater cfg wr) msg with
  | some c => simp only [Coll.updateN, hv]; exact .invalid c hv
  | none =>
    have ho := getAndUpdateN_cases cfg.ops
        (fun (x : UNest M R) => ((updGet cfg wr x.c).1, { x with c := (updGet cfg wr x.c).2 }))
        wr (fieldUpdater cfg wr) msg site (nestedRunC cfg calls) (fun x m => { x with c := updSave cfg wr x.c m })
        { c := { st := s, id := updKey cfg wr id, created := none, idCalls := [], createdCalls := 0 }, results := [] }
        { c := c1, results := [] } r1 (by simp only [h1])
    generalize hr : getAndUpdateN _ _ _ _ _ = rx at ho
    -- with the outcome of `GetAndUpdate` known, unfolding the call computes what it returns
    cases ho with
    | readFails e hg => simp only [Coll.updateN, hv, hr]; exact .readFails e hg
    | refused old mid e hg hmid hc => simp only [Coll.updateN, hv, hr]; exact .refused old mid e hg hmid hc
    | aborted old mid new r2 x2 hg hmid hc h2 hb =>
      cases h2; simp only [Coll.updateN, hv, hr]; exact .aborted old mid new _ _ hg hmid hc rfl hb
    | saved old mid new r2 x2 hg hmid hc h2 hb =>
      cases h2; simp only [Coll.updateN, hv, hr]; exact .saved old mid new _ _ hg hmid hc rfl hb

/-- does the Delete get as far as invoking its check (the only callback it has), which makes the nested calls -/
def checkRuns (cfg : Cfg M K R) (s : CState M R) (id : String) (wr : WriteReq M K) (site : Site) : Bool :=
  decide (site = .chk) && wr.expectedCheck.isSome && (lookup s.items (icptId cfg id)).isSome

/-- the item was read before the calls its check makes, and the loop's first attempt judges it on the Collection those
calls left -/
theorem Coll.deleteN_eq (cfg : Cfg M K R) (s : CState M R) (id : String) (wr : WriteReq M K) (site : Site)
    (calls : List (COp M K)) (mid : List (CRes M) × CState M R)
    (hmid : mid = if checkRuns cfg s id wr site then Coll.run cfg s calls else ([], s)) :
    Coll.deleteN cfg s id wr site calls =
      ({ (deleteLoop cfg wr (icptId cfg id) 5 (lookup s.items (icptId cfg id)) mid.2).1 with
          events := eventsOfC mid.1 ++ (deleteLoop cfg wr (icptId cfg id) 5 (lookup s.items (icptId cfg id)) mid.2).1.events },
       (deleteLoop cfg wr (icptId cfg id) 5 (lookup s.items (icptId cfg id)) mid.2).2, mid.1) := by
  subst hmid
  unfold Coll.deleteN checkRuns
  dsimp only
  cases site with
  | bf => rfl
  | af => rfl
  | chk =>
    cases hchk : wr.expectedCheck with
    | none => rfl
    | some chk =>
      cases hl : lookup s.items (icptId cfg id) with
      | none => simp only [Coll.delete, hl]; rfl
      | some it =>
        rw [deleteLoop]
        simp only [hchk, deleteSecond, nowC, decide_true, Option.isSome_some, Bool.and_self, ↓reduceIte]
        cases chk (some it.body) with
        | some e => simp
        | none =>
          dsimp only
          cases hev : wr.expectedValue with
          | none => cases hs : sameItem cfg.ops (lookup (Coll.run cfg s calls).2.items (icptId cfg id)) (some it) <;> simp
          | some ev =>
            cases hq : cfg.ops.eq it.body ev
            · simp [hq]
            · cases hs : sameItem cfg.ops (lookup (Coll.run cfg s calls).2.items (icptId cfg id)) (some it) <;> simp [hq]

theorem sameItem_some {ops : MsgOps M K} {o : Option (Item M)} {it : Item M} (hs : sameItem ops o (some it) = true) :
    ∃ cur, o = some cur ∧ ops.eq cur.body it.body = true := by
  cases o with
  | none => cases hs
  | some cur => exact ⟨cur, rfl, (Bool.and_eq_true_iff.mp hs).2⟩

end ScVerif.C01
