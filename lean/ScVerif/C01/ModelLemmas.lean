import ScVerif.C01.Model
/-! What `run` and `Collection.Get` of `Model.lean` do on the forms of input the proofs meet. -/
namespace ScVerif.C01
variable {M K R : Type}

theorem Coll.run_nil (cfg : Cfg M K R) (s : CState M R) : Coll.run cfg s [] = ([], s) := rfl
theorem Coll.run_cons (cfg : Cfg M K R) (s : CState M R) (op : COp M K) (ops : List (COp M K)) :
    Coll.run cfg s (op :: ops) =
      ((Coll.step cfg s op).1 :: (Coll.run cfg (Coll.step cfg s op).2 ops).1, (Coll.run cfg (Coll.step cfg s op).2 ops).2) := rfl
theorem Value.run_nil (cfg : Cfg M K R) (s : VState M) : Value.run cfg s [] = ([], s) := rfl
theorem Value.run_cons (cfg : Cfg M K R) (s : VState M) (op : VOp M K) (ops : List (VOp M K)) :
    Value.run cfg s (op :: ops) =
      ((Value.step cfg s op).1 :: (Value.run cfg (Value.step cfg s op).2 ops).1, (Value.run cfg (Value.step cfg s op).2 ops).2) := rfl
theorem Coll.get_some (cfg : Cfg M K R) (s : CState M R) (id : String) (ro : ReadReq M K) (it : Item M)
    (h : lookup s.items (icptId cfg id) = some it) : Coll.get cfg s id ro = some (cfg.ops.filter ro.readMask it.body) := by
  unfold Coll.get; rw [h]; rfl
theorem Coll.get_none (cfg : Cfg M K R) (s : CState M R) (id : String) (ro : ReadReq M K)
    (h : lookup s.items (icptId cfg id) = none) : Coll.get cfg s id ro = none := by
  unfold Coll.get; rw [h]; rfl

end ScVerif.C01
