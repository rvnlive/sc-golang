import ScVerif.C01.Outcome
import ScVerif.C01.Refines
import ScVerif.C01.IcptLemmas
/-!
# C01 — property theorems

Property (fixed text): "Used by one caller at a time, a Value behaves as a single message register and
a Collection as an id-to-message map: for every sequence of Get, List, Set, Add, Update and Delete
calls with any combination of write options (update and reset masks, expected value or check,
expect-absent, create-if-absent, allow-missing, generated ids, id interceptor, before/after
interceptors, write time) each call returns what a plain reference model returns and leaves the same
contents. A call that fails (precondition, not found, already exists, invalid mask) changes nothing
and emits nothing. List is sorted by id, and a generated id is non-empty, unused, reported once
through the id callback and usable for later Get/Update/Delete."

Model: `Model.lean` (follows `pkg/resource`); reference: `Spec.lean` (register / function map, one step per call).  The
one hypothesis on the message operations, `EqRefl` (`proto.Equal m m`), is what the code's re-validation needs.
-/
namespace ScVerif.C01
variable {M K R : Type}

/-- Value ⊑ register: the same results (values, codes, events) and the same final state. -/
theorem C01_value_refines (cfg : Cfg M K R) (h : EqRefl cfg.ops) (ops : List (VOp M K)) :
    ∀ s : VState M, Value.run cfg s ops = Spec.vrun cfg s ops := by
  induction ops with
  | nil => intro s; rfl
  | cons op ops ih =>
    intro s
    cases op with
    | get ro => simp only [Value.run_cons, Spec.vrun, Value.step, Spec.vstep, Value.get, ih]
    | set msg wr => simp only [Value.run_cons, Spec.vrun, Value.step, Spec.vstep, value_set_eq cfg h, ih]

/-- Collection ⊑ map, from ANY initial records: each call returns the reference's result (value, code, events, callback
invocations; List relationally) and leaves the reference's contents. -/
theorem C01_collection_refines (cfg : Cfg M K R) (h : EqRefl cfg.ops) (records : List (String × M)) (rng : R)
    (ops : List (COp M K)) :
    Spec.Run cfg (abs (Coll.init cfg records rng)) ops
      (Coll.run cfg (Coll.init cfg records rng) ops).1
      (abs (Coll.run cfg (Coll.init cfg records rng) ops).2) :=
  run_refines cfg h ops _ (nodupKeys_init cfg records rng)

/-- A failing Update/Add changes nothing (the contents as a map are the same) and emits nothing. -/
theorem C01_failed_update_frame (cfg : Cfg M K R) (h : EqRefl cfg.ops) (s : CState M R) (id : String) (msg : M)
    (wr : WriteReq M K) (hf : (Coll.update cfg s id msg wr).1.err ≠ none) :
    lookup (Coll.update cfg s id msg wr).2.items = lookup s.items ∧
    (Coll.update cfg s id msg wr).2.clock = s.clock ∧
    (Coll.update cfg s id msg wr).1.events = [] ∧ (Coll.update cfg s id msg wr).1.val = none := by
  rcases coll_update_shape cfg h s id msg wr with
    ⟨c, calls, n, t1, ho, hm, hc, _⟩ | ⟨id1, calls, t1, old, new, n, _, _, ho, _⟩
  · rw [ho]; exact ⟨hm, hc, rfl, rfl⟩
  · rw [ho, commit_out] at hf; exact absurd rfl hf

/-- A failing Delete changes nothing and emits nothing (holds without `h`). -/
theorem C01_failed_delete_frame (cfg : Cfg M K R) (h : EqRefl cfg.ops) (s : CState M R) (id : String)
    (wr : WriteReq M K) (hf : (Coll.delete cfg s id wr).1.err ≠ none) :
    (Coll.delete cfg s id wr).2 = s ∧ (Coll.delete cfg s id wr).1.events = [] :=
  deleteLoop_fail_frame cfg wr _ s _ _ hf

/-- A failing Set leaves the Value exactly as it was (value, change time, clock) and emits nothing. -/
theorem C01_failed_set_frame (cfg : Cfg M K R) (h : EqRefl cfg.ops) (s : VState M) (msg : M)
    (wr : WriteReq M K) (hf : (Value.set cfg s msg wr).1.err ≠ none) :
    (Value.set cfg s msg wr).2 = s ∧ (Value.set cfg s msg wr).1.events = [] := by
  rcases Value.set_cases cfg h s msg wr with ⟨c, e, _⟩ | ⟨new, _, _, e⟩
  · rw [e]; exact ⟨rfl, rfl⟩
  · rw [e] at hf; exact absurd rfl hf

/-- `List` on every reachable state is sorted by id (strictly: no id twice) and holds exactly the stored items the include
predicate accepts, each projected by the read mask. -/
theorem C01_list_sorted (cfg : Cfg M K R) (h : EqRefl cfg.ops) (records : List (String × M)) (rng : R)
    (ops : List (COp M K)) (ro : ReadReq M K) :
    let s := (Coll.run cfg (Coll.init cfg records rng) ops).2
    ((Coll.listIds cfg s ro).map (·.1)).Pairwise (· < ·) ∧
    ∀ id v, (id, v) ∈ Coll.listIds cfg s ro ↔
      ∃ it, lookup s.items id = some it ∧ excluded ro id it.body = false ∧
        v = cfg.ops.filter ro.readMask it.body := by
  intro s
  exact coll_list_spec cfg s ro (run_nodup cfg h ops _ (nodupKeys_init cfg records rng))

/-- Generated ids: not a key before, reported once through the id callback, the new item stored under it; `Get` finds it
when the interceptor leaves the id alone (`C01_genid_interceptor` turns that into a condition on the interceptor). -/
theorem C01_genid (cfg : Cfg M K R) (h : EqRefl cfg.ops) (s : CState M R) (id : String) (msg : M)
    (wr : WriteReq M K)
    (hgen : idAbsent cfg id = true ∧ wr.genEmptyID = true)
    (hok : (Coll.update cfg s id msg wr).1.err = none) :
    ∃ id' new,
      (Coll.update cfg s id msg wr).1.val = some new ∧
      (∃ t, (Coll.update cfg s id msg wr).1.events = [{ id := id', time := t, kind := .add, old := none, new := some new }]) ∧
      lookup s.items id' = none ∧
      (Coll.update cfg s id msg wr).1.idCalls = (if wr.idCb then [id'] else []) ∧
      (lookup (Coll.update cfg s id msg wr).2.items id').map (·.body) = some new ∧
      (icptId cfg id' = id' →
        Coll.get cfg (Coll.update cfg s id msg wr).2 id' {} = some (cfg.ops.filter none new)) ∧
      (∃ cand, cand ≠ "" ∧ id' = icptId cfg cand) := by
  have hg : (idAbsent cfg id && wr.genEmptyID) = true := by rw [hgen.1, hgen.2]; rfl
  rcases coll_update_shape cfg h s id msg wr with
    ⟨c, calls, n, t1, ho, _⟩ | ⟨id1, calls, t1, old, new, n, hr, hold, ho, hm⟩
  · rw [ho] at hok; cases hok
  · -- the id was generated: it was not a key, so the write creates
    obtain ⟨rng', hgn, hcalls, _⟩ := hr.generated hg
    have hl : lookup s.items id1 = none := hr.fresh hg
    rw [hl] at hold
    have hstored : lookup (Coll.update cfg s id msg wr).2.items id1 =
        some { body := new, time := wr.writeTime.getD t1.clock } := by
      rw [hm, commit_m, if_pos rfl]
    subst hold hcalls
    rw [ho, commit_out]
    refine ⟨id1, new, rfl, ⟨_, rfl⟩, hl, rfl, ?_, fun hid => ?_, (genID_some cfg _ _ _ _ hgn).2⟩
    · rw [hstored]; rfl
    · exact Coll.get_some cfg _ id1 {} _ (by rw [hid, hstored])

/-- The caller's EMPTY id gets a generated id WHATEVER the id interceptor is (a prefixing interceptor turns "" into a key
of its own, which is not an id anybody provided). -/
theorem C01_genid_caller_gave_no_id (cfg : Cfg M K R) (h : EqRefl cfg.ops) (s : CState M R) (msg : M)
    (wr : WriteReq M K) (hgen : wr.genEmptyID = true)
    (hok : (Coll.update cfg s "" msg wr).1.err = none) :
    ∃ id' new,
      (Coll.update cfg s "" msg wr).1.val = some new ∧
      (∃ t, (Coll.update cfg s "" msg wr).1.events = [{ id := id', time := t, kind := .add, old := none, new := some new }]) ∧
      lookup s.items id' = none ∧
      (Coll.update cfg s "" msg wr).1.idCalls = (if wr.idCb then [id'] else []) ∧
      (lookup (Coll.update cfg s "" msg wr).2.items id').map (·.body) = some new ∧
      (∃ cand, cand ≠ "" ∧ id' = icptId cfg cand) := by
  obtain ⟨id', new, h1, h2, h3, h4, h5, _, h7⟩ :=
    C01_genid cfg h s "" msg wr ⟨by simp [idAbsent], hgen⟩ hok
  exact ⟨id', new, h1, h2, h3, h4, h5, h7⟩

/-- "A generated id is unused", as the caller sees it: a write that generates its id never answers `AlreadyExists`,
unless that is the very code the caller's own expected check or mask validation returned. -/
theorem C01_generated_id_never_exists (cfg : Cfg M K R) (h : EqRefl cfg.ops) (s : CState M R) (id : String)
    (msg : M) (wr : WriteReq M K) (hgen : idAbsent cfg id = true ∧ wr.genEmptyID = true)
    (ha : (Coll.update cfg s id msg wr).1.err = some .alreadyExists) :
    (∃ chk, wr.expectedCheck = some chk ∧ chk (some cfg.ops.zero) = some .alreadyExists) ∨
    cfg.ops.validate (fieldUpdater cfg wr) msg = some .alreadyExists := by
  rw [(coll_update_eq cfg h s id msg wr).1] at ha
  have hg : (idAbsent cfg id && wr.genEmptyID) = true := by rw [hgen.1, hgen.2]; rfl
  have ho := spec_update_outcome cfg (abs s) id msg wr
  generalize Spec.update cfg (abs s) id msg wr = r at ha ho
  cases ho with
  | invalid c hv => right; rw [hv]; exact ha
  | exhausted rng' _ _ _ => cases ha
  | notFound id1 calls t1 _ hr _ _ => cases ha
  -- the generated id is not a key: no item is found
  | alreadyExists id1 calls t1 it _ hr hl _ => rw [hr.fresh hg] at hl; cases hl
  | precondition id1 calls t1 it c _ hr hl _ _ => rw [hr.fresh hg] at hl; cases hl
  | updated id1 calls t1 it new _ hr hl _ _ => rw [hr.fresh hg] at hl; cases hl
  | createFailed id1 calls t1 c _ hr _ _ hn =>
    cases ha
    rcases newValue_error _ _ _ _ _ _ _ hn with hc | hchk
    · cases hc
    · exact Or.inl hchk
  | created id1 calls t1 new _ _ _ _ _ => rw [commit_out] at ha; cases ha

/-- Testing the id's emptiness before the id interceptor runs (repo 929e9c0) changes `("", WithGenIDIfAbsent)` behind an
interceptor that gives the empty id a key of its own, and nothing else: on every other call `Update` is
`Coll.updateLegacy` (emptiness tested after interception). -/
theorem C01_genid_fix_conservative (cfg : Cfg M K R) (s : CState M R) (id : String) (msg : M) (wr : WriteReq M K)
    (hsame : icptId cfg "" = "" ∨ id ≠ "" ∨ wr.genEmptyID = false) :
    Coll.update cfg s id msg wr = Coll.updateLegacy cfg s id msg wr := by
  have hk : updKey cfg wr id = icptId cfg id := by
    unfold updKey
    by_cases hid : id = ""
    · rcases hsame with h0 | hne | hg
      · simp [hid, h0]
      · exact absurd hid hne
      · simp [hg]
    · simp [hid]
  unfold Coll.update Coll.updateLegacy
  rw [hk]

/-- The code as it was (`Coll.updateLegacy`) behind the prefixing interceptor `dash` ("" -> "-"): the first
`Add("", WithGenIDIfAbsent(), WithIDCallback)` is stored under "-" and no id is generated, the second answers
AlreadyExists; `Coll.add` gives both a fresh generated id, each reported once. -/
theorem C01_genid_legacy_prefix_never_generates :
    let cfg : Cfg Msg Mask (List Nat) := { ops := flatOps, gen := flatGen, icpt := some dashStr }
    let wr : WriteReq Msg Mask := { genEmptyID := true, idCb := true, expectAbsent := true, createIfAbsent := true }
    let m : Msg := { a := 1, s := "", c := none }
    let l1 := Coll.updateLegacy cfg (Coll.init cfg [] []) "" m wr
    let l2 := Coll.updateLegacy cfg l1.2 "" m wr
    let f1 := Coll.add cfg (Coll.init cfg [] []) "" m { genEmptyID := true, idCb := true }
    let f2 := Coll.add cfg f1.2 "" m { genEmptyID := true, idCb := true }
    (l1.1.err = none ∧ l1.1.idCalls = [] ∧ l1.2.items.map (·.1) = ["-"] ∧
      l2.1.err = some .alreadyExists ∧ l2.1.idCalls = []) ∧
    (f1.1.err = none ∧ f1.1.idCalls = ["-AAAAAAAA"] ∧ f2.1.err = none ∧ f2.1.idCalls = ["-AAAAAAAAAA"] ∧
      f2.2.items.map (·.1) = ["-AAAAAAAA", "-AAAAAAAAAA"]) := by
  decide +kernel

/-- A sufficient condition on the id interceptor: IDEMPOTENT and NON-EMPTINESS PRESERVING.  Then a generated id is
non-empty and USABLE (`Get` returns the item, `Delete` removes exactly it): every entry point applies the interceptor to
the id it is given, and the stored key is the interceptor's image of the candidate (repo e0639b6). -/
theorem C01_genid_interceptor (cfg : Cfg M K R) (h : EqRefl cfg.ops) (s : CState M R) (id : String) (msg : M)
    (wr : WriteReq M K)
    (hidem : ∀ x, icptId cfg (icptId cfg x) = icptId cfg x)
    (hne : ∀ x, x ≠ "" → icptId cfg x ≠ "")
    (hgen : idAbsent cfg id = true ∧ wr.genEmptyID = true)
    (hok : (Coll.update cfg s id msg wr).1.err = none) :
    ∃ id' new,
      id' ≠ "" ∧ lookup s.items id' = none ∧
      (Coll.update cfg s id msg wr).1.val = some new ∧
      (Coll.update cfg s id msg wr).1.idCalls = (if wr.idCb then [id'] else []) ∧
      Coll.get cfg (Coll.update cfg s id msg wr).2 id' {} = some (cfg.ops.filter none new) ∧
      (Coll.delete cfg (Coll.update cfg s id msg wr).2 id' {}).1.val = some new ∧
      (Coll.delete cfg (Coll.update cfg s id msg wr).2 id' {}).1.err = none ∧
      lookup (Coll.delete cfg (Coll.update cfg s id msg wr).2 id' {}).2.items id' = none := by
  obtain ⟨id', new, h1, _, h3, h4, h5, h6, cand, hc1, hc2⟩ := C01_genid cfg h s id msg wr hgen hok
  have hfix : icptId cfg id' = id' := by rw [hc2]; exact hidem cand
  refine ⟨id', new, by rw [hc2]; exact hne cand hc1, h3, h1, h4, h6 hfix, ?_⟩
  -- Delete resolves the id the same way and finds the item just written
  have ho := Coll.delete_attempt cfg (Coll.update cfg s id msg wr).2 id' {}
  rw [hfix] at ho
  generalize Coll.delete cfg (Coll.update cfg s id msg wr).2 id' {} = r at ho ⊢
  cases ho with
  | missing hl => rw [hl] at h5; cases h5
  | refused it c _ hwhy => rcases hwhy with ⟨chk, h1, _⟩ | ⟨_, _, ev, h1, _⟩ <;> cases h1
  | retry it _ _ hne => exact (sameItem_self_ne_false h hne).elim
  | removed it hl _ _ =>
    rw [hl] at h5
    cases h5
    exact ⟨rfl, rfl, by rw [lookup_eraseItem, if_pos rfl]⟩

/-- One caller at a time never sees the re-validation fail: `Aborted` from Update/Add comes only from
id-generation exhaustion (ten candidates all empty or in use), or is the very code returned by the
caller's own expected-check, or by mask validation. -/
theorem C01_seq_never_aborts (cfg : Cfg M K R) (h : EqRefl cfg.ops) (s : CState M R) (id : String) (msg : M)
    (wr : WriteReq M K) (ha : (Coll.update cfg s id msg wr).1.err = some .aborted) :
    ((idAbsent cfg id = true ∧ wr.genEmptyID = true) ∧ (genID cfg (usedIn s.items) s.rng).1 = none) ∨
    (∃ chk old, wr.expectedCheck = some chk ∧ chk old = some .aborted) ∨
    cfg.ops.validate (fieldUpdater cfg wr) msg = some .aborted := by
  rw [(coll_update_eq cfg h s id msg wr).1] at ha
  have ho := spec_update_outcome cfg (abs s) id msg wr
  generalize Spec.update cfg (abs s) id msg wr = r at ha ho
  -- a change phase that fails with Aborted: the caller's check said so
  have hnv : ∀ old base, Spec.newValue cfg.ops wr (fieldUpdater cfg wr) msg old base = .error .aborted →
      ∃ chk old, wr.expectedCheck = some chk ∧ chk old = some .aborted := by
    intro old base hn
    rcases newValue_error _ _ _ _ _ _ _ hn with hc | ⟨chk, h1, h2⟩
    · cases hc
    · exact ⟨chk, old, h1, h2⟩
  cases ho with
  | invalid c hv => right; right; rw [hv]; exact ha
  | exhausted rng' _ hg hgen =>
    rw [Bool.and_eq_true] at hg
    exact Or.inl ⟨hg, congrArg Prod.fst hgen⟩
  | alreadyExists id1 calls t1 it _ hr _ _ => cases ha
  | notFound id1 calls t1 _ hr _ _ => cases ha
  | precondition id1 calls t1 it c _ hr _ _ hn => cases ha; exact Or.inr (Or.inl (hnv _ _ hn))
  | createFailed id1 calls t1 c _ hr _ _ hn => cases ha; exact Or.inr (Or.inl (hnv _ _ hn))
  | updated id1 calls t1 it new _ _ _ _ _ => rw [commit_out] at ha; cases ha
  | created id1 calls t1 new _ _ _ _ _ => rw [commit_out] at ha; cases ha

/-- One caller at a time: a Collection.Delete never exhausts its retries (`Unavailable`), unless that is the
code the caller's own check returned. -/
theorem C01_seq_delete_no_retry (cfg : Cfg M K R) (h : EqRefl cfg.ops) (s : CState M R) (id : String)
    (wr : WriteReq M K) (ha : (Coll.delete cfg s id wr).1.err = some .unavailable) :
    ∃ chk old, wr.expectedCheck = some chk ∧ chk old = some .unavailable := by
  have ho := Coll.delete_attempt cfg s id wr
  generalize Coll.delete cfg s id wr = r at ho ha
  cases ho with
  | missing _ => dsimp only at ha; split at ha <;> cases ha
  | refused it c _ hwhy =>
    cases ha
    rcases hwhy with ⟨chk, h1, h2⟩ | ⟨hc, _⟩
    · exact ⟨chk, _, h1, h2⟩
    · cases hc
  | retry it _ _ hne => exact (sameItem_self_ne_false h hne).elim
  | removed it _ _ _ => cases ha

/-- `EqRefl` holds for the message operations the driver runs -/
example : EqRefl flatOps := fun m => by simp [flatOps]

/-- the interceptor hypotheses of `C01_genid_interceptor` hold without an interceptor -/
example (cfg : Cfg M K R) (hc : cfg.icpt = none) :
    (∀ x, icptId cfg (icptId cfg x) = icptId cfg x) ∧ (∀ x, x ≠ "" → icptId cfg x ≠ "") := by
  simp [icptId, hc]

/-- the interceptor hypotheses of `C01_genid_interceptor` hold for lower-casing (the documented use of `WithIDInterceptor`) -/
example (cfg : Cfg M K R) (hc : cfg.icpt = some lowerStr) :
    (∀ x, icptId cfg (icptId cfg x) = icptId cfg x) ∧ (∀ x, x ≠ "" → icptId cfg x ≠ "") := by
  simp only [icptId, hc]
  exact ⟨lowerStr_idem, lowerStr_ne⟩

/-- the interceptor hypotheses of `C01_genid_interceptor` hold for `first` (many ids collide; generation still yields usable
ids) -/
example (cfg : Cfg M K R) (hc : cfg.icpt = some firstStr) :
    (∀ x, icptId cfg (icptId cfg x) = icptId cfg x) ∧ (∀ x, x ≠ "" → icptId cfg x ≠ "") := by
  simp only [icptId, hc]
  exact ⟨firstStr_idem, firstStr_ne⟩

/-- `dash` is not idempotent and never yields the empty id: only the caller's own empty id triggers generation under it -/
example : dashStr (dashStr "a") ≠ dashStr "a" ∧ ∀ x, dashStr x ≠ "" := by
  refine ⟨by decide, fun x hx => ?_⟩
  have := congrArg String.toList hx
  simp [dashStr] at this

def dashCfg : Cfg Msg Mask (List Nat) := { ops := flatOps, gen := flatGen, icpt := some dashStr }

/-- behind `dash` two `Add("", WithGenIDIfAbsent(), WithIDCallback)` in a row both succeed, each under a fresh generated
id that the callback hears once -/
example :
    (Coll.run dashCfg (Coll.init dashCfg [] [1, 2, 3])
      [ .add "" { a := 1, s := "", c := none } { genEmptyID := true, idCb := true },
        .add "" { a := 2, s := "", c := none } { genEmptyID := true, idCb := true } ]).1.map
      (fun r => match r with | .wrote o => (o.err, o.idCalls) | _ => (none, []))
      = [(none, ["-AQIDAAAA"]), (none, ["-AAAAAAAA"])] := by decide +kernel

def dupCfg : Cfg Msg Mask (List Nat) := { ops := flatOps, gen := flatGen, icpt := some dupStr }

/-- Idempotence is NEEDED: `dup` doubles an id ("" stays "", non-emptiness is kept); the generated id is stored and
reported as `dup candidate`, and `Get` of the reported id looks up `dup (dup candidate)` and misses.  The code does the
same (the `dup` interceptor is in the tie's closed family). -/
theorem C01_genid_needs_idempotence :
    ∃ id', (Coll.add dupCfg (Coll.init dupCfg [] []) "" { a := 1, s := "", c := none } { genEmptyID := true, idCb := true }).1.idCalls = [id'] ∧
      (Coll.add dupCfg (Coll.init dupCfg [] []) "" { a := 1, s := "", c := none } { genEmptyID := true, idCb := true }).1.err = none ∧
      Coll.get dupCfg (Coll.add dupCfg (Coll.init dupCfg [] []) "" { a := 1, s := "", c := none } { genEmptyID := true, idCb := true }).2 id' {} = none :=
  ⟨"AAAAAAAAAAAAAAAA", by decide +kernel⟩

/-- top-level masks on the three shapes of field (what the code does, tied): under an update mask
naming them a scalar is REPLACED, a nested message is MERGED sub-field-wise, a repeated field is
APPENDED to, and a named field the written message does not populate is CLEARED; with no update mask
everything is replaced -/
example :
    Flat.merge { writable := none, update := some [.a, .f, .r], reset := none }
      { a := 1, s := "x", c := none, f := some (2, 3), r := [5, 6] }
      { a := 9, s := "y", c := some 4, f := some (0, 8), r := [7] } =
      { a := 9, s := "x", c := none, f := some (2, 8), r := [5, 6, 7] } ∧
    Flat.merge { writable := none, update := some [.f, .r], reset := none }
      { a := 1, s := "x", c := none, f := some (2, 3), r := [5, 6] }
      { a := 9, s := "y", c := none } =
      { a := 1, s := "x", c := none } ∧
    Flat.merge { writable := none, update := none, reset := none }
      { a := 1, s := "x", c := none, f := some (2, 3), r := [5, 6] }
      { a := 0, s := "", c := none, f := some (0, 8), r := [7] } =
      { a := 0, s := "", c := none, f := some (0, 8), r := [7] } := by decide

def exCfg : Cfg Msg Mask (List Nat) := { ops := flatOps, gen := flatGen }

/-- a 7-call script: generated-id create, create, masked update, failed precondition, delete, failing
delete, list — the codes the model answers with -/
def exScript : List (COp Msg Mask) :=
  [ .add "" { a := 1, s := "", c := none } { genEmptyID := true, idCb := true },
    .add "b" { a := 2, s := "x", c := none } {},
    .update "b" { a := 7, s := "y", c := none } { updateMask := some [.a] },
    .update "b" { a := 9, s := "", c := none } { expectedValue := some { a := 2, s := "x", c := none } },
    .delete "b" {},
    .delete "b" {},
    .list {} ]

def errOf : CRes Msg → Option Code
  | .wrote o => o.err
  | _ => none

example : ((Coll.run exCfg (Coll.init exCfg [] []) exScript).1.map errOf) =
    [none, none, none, some .failedPrecondition, none, some .notFound, none] := by decide +kernel

example : (Coll.list exCfg (Coll.run exCfg (Coll.init exCfg [] []) (exScript.take 3)).2 {}) =
    [{ a := 1, s := "", c := none }, { a := 7, s := "x", c := none }] := by decide +kernel

end ScVerif.C01
