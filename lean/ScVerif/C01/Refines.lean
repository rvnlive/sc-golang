import ScVerif.C01.ListLemmas
/-! Every call keeps the keys of `byId` distinct, and with that every step and every run of the model is a step / run of the
reference map. -/
namespace ScVerif.C01
variable {M K R : Type}

theorem gau_inv {σ : Type} (P : σ → Prop) (ops : MsgOps M K)
    (get : σ → Except Code (Option M) × σ) (change : Option M → Option M → Except Code M)
    (save : σ → M → σ) (s : σ) (hget : ∀ s, P s → P (get s).2) (hsave : ∀ s m, P s → P (save s m)) (hs : P s) :
    P (getAndUpdate ops get change save s).2 := by
  unfold getAndUpdate
  have h1 := hget s hs
  generalize get s = g at h1 ⊢
  rcases g with ⟨r1, s1⟩
  cases r1 with
  | error e => exact h1
  | ok old =>
    dsimp only
    cases change old old with
    | error e => exact h1
    | ok new =>
      dsimp only
      have h2 := hget s1 h1
      generalize get s1 = g at h2 ⊢
      rcases g with ⟨r2, s2⟩
      -- whatever the second read answered: Aborted leaves what it left, success saves on top of it
      cases r2 with
      | error e2 =>
        dsimp only
        split
        · exact h2
        · exact hsave s2 new h2
      | ok again =>
        dsimp only
        split
        · exact h2
        · exact hsave s2 new h2

theorem coll_update_nodup (cfg : Cfg M K R) (s : CState M R) (id : String) (msg : M) (wr : WriteReq M K)
    (hn : NodupKeys s.items) : NodupKeys (Coll.update cfg s id msg wr).2.items := by
  have hg := gau_inv (fun c : UpdCtx M R => NodupKeys c.st.items) cfg.ops (updGet cfg wr)
    (changeFn cfg.ops wr (fieldUpdater cfg wr) msg) (updSave cfg wr)
    { st := s, id := updKey cfg wr id, created := none, idCalls := [], createdCalls := 0 }
    (fun c h => by rw [(updGet_frame cfg wr c).1]; exact h)
    (fun c m h => by simp only [updSave, updateTimeC_items]; exact nodupKeys_setItem _ _ _ h) hn
  unfold Coll.update Coll.updateAt
  dsimp only
  split
  · exact hn
  · split <;> simp only [updateTimeC_items] <;> exact hg

theorem step_nodup (cfg : Cfg M K R) (h : EqRefl cfg.ops) (s : CState M R) (op : COp M K)
    (hn : NodupKeys s.items) : NodupKeys (Coll.step cfg s op).2.items := by
  cases op with
  | get id ro => exact hn
  | list ro => exact hn
  | update id msg wr =>
    exact coll_update_nodup cfg s id msg wr hn
  | add id msg wr =>
    exact coll_update_nodup cfg s id msg _ hn
  | delete id wr =>
    have ho := Coll.delete_attempt cfg s id wr
    simp only [Coll.step]
    generalize Coll.delete cfg s id wr = r at ho ⊢
    cases ho with
    | missing _ => exact hn
    | refused it c _ _ => exact hn
    | retry it _ _ hne => exact (sameItem_self_ne_false h hne).elim
    | removed it _ _ _ => exact nodupKeys_filter _ _ hn

theorem run_nodup (cfg : Cfg M K R) (h : EqRefl cfg.ops) (ops : List (COp M K)) :
    ∀ s : CState M R, NodupKeys s.items → NodupKeys (Coll.run cfg s ops).2.items := by
  induction ops with
  | nil => intro s hn; exact hn
  | cons op ops ih => intro s hn; exact ih _ (step_nodup cfg h s op hn)

theorem step_refines (cfg : Cfg M K R) (h : EqRefl cfg.ops) (s : CState M R) (op : COp M K)
    (hn : NodupKeys s.items) :
    Spec.Step cfg (abs s) op (Coll.step cfg s op).1 (abs (Coll.step cfg s op).2) := by
  cases op with
  | get id ro => exact Spec.Step.get (abs s) id ro
  | list ro => exact Spec.Step.list (abs s) ro _ (coll_list_spec cfg s ro hn)
  | update id msg wr =>
    have := coll_update_eq cfg h s id msg wr
    simp only [Coll.step]
    rw [this.1, this.2]
    exact Spec.Step.update (abs s) id msg wr
  | add id msg wr =>
    have := coll_update_eq cfg h s id msg { wr with expectAbsent := true, createIfAbsent := true }
    simp only [Coll.step, Coll.add]
    rw [this.1, this.2]
    exact Spec.Step.add (abs s) id msg wr
  | delete id wr =>
    have := coll_delete_eq cfg h s id wr
    simp only [Coll.step]
    rw [this.1, this.2]
    exact Spec.Step.delete (abs s) id wr

theorem run_refines (cfg : Cfg M K R) (h : EqRefl cfg.ops) (ops : List (COp M K)) :
    ∀ s : CState M R, NodupKeys s.items →
      Spec.Run cfg (abs s) ops (Coll.run cfg s ops).1 (abs (Coll.run cfg s ops).2) := by
  induction ops with
  | nil => intro s _; exact Spec.Run.nil _
  | cons op ops ih =>
    intro s hn
    rw [Coll.run_cons]
    exact Spec.Run.cons (step_refines cfg h s op hn) (ih _ (step_nodup cfg h s op hn))

end ScVerif.C01
