import ScVerif.C01.Res
import ScVerif.C01.Lemmas
/-! Lemmas about resource option lists (`Res.lean`): a construction that does not panic is the plain fold of its options
(`applyAllRes_some`), it panics exactly on a repeated record id, and what a fresh Collection holds. -/
namespace ScVerif.C01
variable {M K R : Type}

/-- what an option does to the configuration when it does not panic -/
def setRes (c : ResCfg M K) : ResOpt M K → ResCfg M K
  | .writable m => { c with writable := m }
  | .icpt f => { c with icpt := f }
  | .initialValue v => { c with initialValue := v }
  | .initialRecord id v => { c with initialRecords := c.initialRecords ++ [(id, v)] }
  | .other => c

theorem applyRes_some (c c' : ResCfg M K) (o : ResOpt M K) (h : applyRes c o = some c') : c' = setRes c o := by
  cases o with
  | initialRecord id v => simp only [applyRes] at h; split at h <;> cases h; rfl
  | _ => cases h; rfl

theorem applyAllRes_some (opts : List (ResOpt M K)) : ∀ c rc : ResCfg M K,
    applyAllRes c opts = some rc → rc = opts.foldl setRes c := by
  induction opts with
  | nil => intro c rc h; cases h; rfl
  | cons o os ih =>
    intro c rc h
    simp only [applyAllRes] at h
    cases ho : applyRes c o with
    | none => rw [ho] at h; cases h
    | some c' => rw [ho] at h; rw [ih c' rc h, applyRes_some c c' o ho]; rfl

theorem foldl_setRes_records (opts : List (ResOpt M K)) (c : ResCfg M K) :
    (opts.foldl setRes c).initialRecords = c.initialRecords ++ recordsOf opts := by
  induction opts generalizing c with
  | nil => simp [recordsOf]
  | cons o os ih => rw [List.foldl_cons, ih]; cases o <;> simp [setRes, recordsOf]

theorem applyAllRes_records (opts : List (ResOpt M K)) (c rc : ResCfg M K) (h : applyAllRes c opts = some rc) :
    rc.initialRecords = c.initialRecords ++ recordsOf opts := by
  rw [applyAllRes_some opts c rc h, foldl_setRes_records]

def idsOf (l : List (String × M)) : List String := l.map (·.1)

theorem any_key_iff (l : List (String × M)) (id : String) :
    (l.any fun kv => kv.1 == id) = true ↔ id ∈ idsOf l := by
  simp [idsOf]

theorem applyAllRes_isSome (opts : List (ResOpt M K)) : ∀ c : ResCfg M K,
    (applyAllRes c opts).isSome = true ↔
      (∀ id ∈ idsOf (recordsOf opts), id ∉ idsOf c.initialRecords) ∧
      (idsOf (recordsOf opts)).Pairwise (· ≠ ·) := by
  induction opts with
  | nil => intro c; simp [applyAllRes, recordsOf, idsOf]
  | cons o os ih =>
    intro c
    cases o with
    | initialRecord id v =>
      simp only [applyAllRes, applyRes]
      by_cases hin : id ∈ idsOf c.initialRecords
      · have hany := (any_key_iff c.initialRecords id).mpr hin
        simp only [hany, ↓reduceIte, Option.isSome_none, Bool.false_eq_true, false_iff, recordsOf, idsOf,
          List.map_cons, List.mem_cons, forall_eq_or_imp, not_and]
        intro h; exact absurd hin h.1
      · have hany : (c.initialRecords.any fun kv => kv.1 == id) = false :=
          Bool.eq_false_iff.mpr (fun hq => hin ((any_key_iff _ _).mp hq))
        simp only [hany, Bool.false_eq_true, ↓reduceIte]
        rw [ih]
        simp only [recordsOf, idsOf, List.map_cons, List.map_append, List.map_nil, List.mem_append, List.mem_cons,
          List.not_mem_nil, or_false, not_or, forall_eq_or_imp, List.pairwise_cons]
        simp only [idsOf] at hin
        constructor
        · rintro ⟨h1, h2⟩
          exact ⟨⟨hin, fun a ha => (h1 a ha).1⟩, fun a ha he => (h1 a ha).2 he.symm, h2⟩
        · rintro ⟨⟨_, h1⟩, h2, h3⟩
          exact ⟨fun a ha => ⟨h1 a ha, fun he => h2 a ha he.symm⟩, h3⟩
    | writable m => simp only [applyAllRes, applyRes, recordsOf]; exact ih _
    | icpt f => simp only [applyAllRes, applyRes, recordsOf]; exact ih _
    | initialValue v => simp only [applyAllRes, applyRes, recordsOf]; exact ih _
    | other => simp only [applyAllRes, applyRes, recordsOf]; exact ih _

/-- the contents of a fresh collection: under every id the LAST record given for it, stamped 0 -/
theorem lookup_init (cfg : Cfg M K R) (records : List (String × M)) (rng : R) (k : String) :
    lookup (Coll.init cfg records rng).items k =
      (records.reverse.find? (fun kv => kv.1 == k)).map (fun kv => { body := kv.2, time := 0 }) := by
  unfold Coll.init
  simp only []
  suffices ∀ acc : List (String × Item M),
      lookup (records.foldl (fun acc kv => setItem acc kv.1 { body := kv.2, time := 0 }) acc) k =
        match records.reverse.find? (fun kv => kv.1 == k) with
        | some kv => some { body := kv.2, time := 0 }
        | none => lookup acc k by
    rw [this []]
    cases records.reverse.find? (fun kv => kv.1 == k) <;> simp [lookup]
  induction records with
  | nil => intro acc; simp
  | cons r rs ih =>
    intro acc
    simp only [List.foldl_cons, ih, List.reverse_cons, List.find?_append]
    cases hf : rs.reverse.find? (fun kv => kv.1 == k) with
    | some kv => simp
    | none =>
      simp only [Option.none_or, List.find?_cons, List.find?_nil, lookup_setItem]
      by_cases hk : k = r.1
      · subst hk; simp
      · have : (r.1 == k) = false := by simp [beq_eq_false_iff_ne]; exact fun h => hk h.symm
        simp [this, hk]

theorem unique_of_pairwise (l : List (String × M)) (hn : (idsOf l).Pairwise (· ≠ ·)) (id : String) (v v' : M)
    (h1 : (id, v) ∈ l) (h2 : (id, v') ∈ l) : v = v' := by
  induction l with
  | nil => cases h1
  | cons x xs ih =>
    simp only [idsOf, List.map_cons, List.pairwise_cons] at hn
    have hmem : ∀ w, (id, w) ∈ xs → id ∈ xs.map (·.1) := fun w hw => List.mem_map.mpr ⟨(id, w), hw, rfl⟩
    rcases List.mem_cons.mp h1 with e1 | m1 <;> rcases List.mem_cons.mp h2 with e2 | m2
    · rw [← e1] at e2; exact (Prod.mk.inj e2).2.symm
    · subst e1; exact absurd rfl (hn.1 id (hmem _ m2))
    · subst e2; exact absurd rfl (hn.1 id (hmem _ m1))
    · exact ih hn.2 m1 m2

theorem hasDupKey_false (l : List (String × M)) : hasDupKey l = false ↔ (idsOf l).Pairwise (· ≠ ·) := by
  induction l with
  | nil => simp [hasDupKey, idsOf]
  | cons kv rest ih =>
    rw [hasDupKey, Bool.or_eq_false_iff, ih, Bool.eq_false_iff, Ne, any_key_iff]
    simp only [idsOf, List.map_cons, List.pairwise_cons]
    constructor
    · rintro ⟨h1, h2⟩; exact ⟨fun a ha he => h1 (he ▸ ha), h2⟩
    · rintro ⟨h1, h2⟩; exact ⟨fun ha => h1 _ ha rfl, h2⟩

theorem lookup_init_distinct (cfg : Cfg M K R) (recs : List (String × M)) (rng : R)
    (hnd : (idsOf recs).Pairwise (· ≠ ·)) :
    (∀ k v, (k, v) ∈ recs → lookup (Coll.init cfg recs rng).items k = some { body := v, time := 0 }) ∧
    (∀ k, k ∉ idsOf recs → lookup (Coll.init cfg recs rng).items k = none) := by
  constructor
  · intro id v hm
    rw [lookup_init]
    cases hf : recs.reverse.find? (fun kv => kv.1 == id) with
    | none =>
      have := List.find?_eq_none.mp hf (id, v) (List.mem_reverse.mpr hm)
      simp at this
    | some kv =>
      have hk : kv.1 = id := by have := List.find?_some hf; simpa using this
      have hm' : kv ∈ recs := List.mem_reverse.mp (List.mem_of_find?_eq_some hf)
      obtain ⟨k, w⟩ := kv
      simp only at hk; subst hk
      have := unique_of_pairwise _ hnd k w v hm' hm
      subst this; rfl
  · intro id hn
    rw [lookup_init]
    cases hf : recs.reverse.find? (fun kv => kv.1 == id) with
    | none => rfl
    | some kv =>
      exfalso; apply hn
      have hk : kv.1 = id := by have := List.find?_some hf; simpa using this
      exact List.mem_map.mpr ⟨kv, List.mem_reverse.mp (List.mem_of_find?_eq_some hf), hk⟩

/-- `NewCollection` once the option list has resolved to `rc`: the one test left is on the intercepted record ids -/
theorem Coll.newO_eq (base : Cfg M K R) (opts : List (ResOpt M K)) (rng : R) (rc : ResCfg M K)
    (hc : computeConfig opts = some rc) :
    Coll.newO base opts rng =
      if hasDupKey (keyedRecords (toCfg base rc) (recordsOf opts)) then none
      else some (toCfg base rc, Coll.init (toCfg base rc) (keyedRecords (toCfg base rc) (recordsOf opts)) rng) := by
  have hrec : rc.initialRecords = recordsOf opts := by simpa using applyAllRes_records opts {} rc hc
  simp only [Coll.newO, hc, Option.bind_some, hrec]

theorem newO_cases (base : Cfg M K R) (opts : List (ResOpt M K)) (rng : R)
    (cfg : Cfg M K R) (s : CState M R) (h : Coll.newO base opts rng = some (cfg, s)) :
    ∃ rc, cfg = toCfg base rc ∧
      hasDupKey (keyedRecords cfg (recordsOf opts)) = false ∧
      s = Coll.init cfg (keyedRecords cfg (recordsOf opts)) rng := by
  cases hc : computeConfig opts with
  | none => simp [Coll.newO, hc] at h
  | some rc =>
    rw [Coll.newO_eq base opts rng rc hc] at h
    split at h
    · cases h
    · rename_i hd
      cases h
      exact ⟨rc, rfl, by simpa using hd, rfl⟩

theorem Value.newO_cases (base : Cfg M K R) (opts : List (ResOpt M K)) (cfg : Cfg M K R) (s : VState M)
    (h : Value.newO base opts = some (cfg, s)) :
    ∃ rc, computeConfig opts = some rc ∧ cfg = toCfg base rc ∧ s = Value.init cfg rc.initialValue := by
  unfold Value.newO at h
  obtain ⟨rc, hc, e⟩ := Option.map_eq_some_iff.mp h
  cases e
  exact ⟨rc, hc, rfl, rfl⟩

end ScVerif.C01
