import ScVerif.C01.PathsLemmas
import ScVerif.C01.Flat
/-!
The real path strings of the path letters of `Flat.lean`, and the finite table of which of them lies
inside which.
-/
namespace ScVerif.C01
open Paths

/-- the real path of each path letter of `Flat.lean`, as segments -/
def pathOf : Field → List Seg
  | .a => ["default_int32".toList]
  | .s => ["default_string".toList]
  | .c => ["optional_int32".toList]
  | .f => ["default_foreign_message".toList]
  | .r => ["repeated_int32".toList]
  | .x => ["no_such_field".toList]
  | .fc => ["default_foreign_message".toList, "c".toList]
  | .fd => ["default_foreign_message".toList, "d".toList]
  | .fx => ["default_foreign_message".toList, "no_such_field".toList]
  | .p => ["open_percent".toList]
  | .t => ["open_percent_tween".toList]
  | .tp => ["open_percent_tween".toList, "progress".toList]

/-- the field a nested path lies in -/
def parentOf : Field → Option Field
  | .fc => some .f | .fd => some .f | .fx => some .f | .tp => some .t | _ => none

def allFields : List Field := [.a, .s, .c, .f, .r, .x, .fc, .fd, .fx, .p, .t, .tp]

theorem mem_allFields (q : Field) : q ∈ allFields := by cases q <;> decide

theorem pathOf_wf (q : Field) : WF (pathOf q) := by
  have table : ∀ q ∈ allFields, pathOf q ≠ [] ∧ ∀ s ∈ pathOf q, '.' ∉ s := by decide +kernel
  exact table q (mem_allFields q)

theorem pathOf_map_wf (m : Mask) : ∀ ps ∈ m.map pathOf, WF ps := by
  intro ps hps
  obtain ⟨q, _, rfl⟩ := List.mem_map.mp hps
  exact pathOf_wf q

/-- the finite table behind the concrete model: among the modelled paths, one is a segment-prefix of
another exactly for a field and the nested paths inside it -/
theorem pathOf_prefix (q l : Field) : pathOf q <+: pathOf l ↔ (q = l ∨ parentOf l = some q) := by
  have table : ∀ q ∈ allFields, ∀ l ∈ allFields,
      ((pathOf q).isPrefixOf (pathOf l) = true ↔ (q = l ∨ parentOf l = some q)) := by decide +kernel
  rw [← List.isPrefixOf_iff_prefix]
  exact table q (mem_allFields q) l (mem_allFields l)

theorem exists_prefix_pathOf (m : Mask) (l : Field) :
    (∃ ps ∈ m.map pathOf, ps <+: pathOf l) ↔ ∃ q ∈ m, q = l ∨ parentOf l = some q := by
  constructor
  · rintro ⟨ps, hps, hpl⟩
    obtain ⟨q, hq, rfl⟩ := List.mem_map.mp hps
    exact ⟨q, hq, (pathOf_prefix q l).mp hpl⟩
  · rintro ⟨q, hq, h⟩
    exact ⟨pathOf q, List.mem_map.mpr ⟨q, hq, rfl⟩, (pathOf_prefix q l).mpr h⟩

theorem Flat.isWritablePath_iff (w : Mask) (q : Field) :
    Flat.isWritablePath w q = true ↔ ∃ y ∈ w, y = q ∨ parentOf q = some y := by
  unfold Flat.isWritablePath
  -- letter by letter: the two disjuncts of `Flat.isWritablePath` that mention a parent apply to its children only
  cases q <;> simp [parentOf] <;> grind

end ScVerif.C01
