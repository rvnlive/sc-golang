import ScVerif.C01.Opts
/-!
# C01 — option SLICES: Go's `append` and what `Collection.Add` does to its caller's options

A variadic call `c.Add(id, m, s...)` passes the slice `s` itself: a view (length, capacity) of a backing
array the caller may share between several calls.  `append(s, xs...)` writes `xs` INTO that array when
`len(s)+len(xs) ≤ cap(s)` and only otherwise allocates.  This file models exactly that (a heap of arrays,
views `opts[j:k]` of one option slice: offset, length, capacity counted from the offset), and
`Collection.Add` on it, as the code is written:

```go
opts = append([]WriteOption{WithExpectAbsent(), WithCreateIfAbsent()}, opts...)   // destination: a fresh literal
return c.Update(id, body, opts...)
```
-/
namespace ScVerif.C01
variable {α : Type}

/-- a view `arr[off : off+len]` with capacity `cap` (counted from `off`) of array number `arr` of the heap -/
structure Slice where
  arr : Nat
  len : Nat
  cap : Nat
  off : Nat := 0
  deriving DecidableEq, Repr

/-- the heap: array `i` is the list of its cells (its length is its capacity) -/
abbrev Heap (α : Type) := List (List α)

def Heap.cells (h : Heap α) (i : Nat) : List α := h.getD i []

/-- the elements a view denotes -/
def Heap.read (h : Heap α) (s : Slice) : List α := ((h.cells s.arr).drop s.off).take s.len

/-- overwrite `cells[i : i+len xs]` -/
def writeAt (cells : List α) (i : Nat) (xs : List α) : List α :=
  cells.take i ++ xs ++ cells.drop (i + xs.length)

/-- a slice literal `[]T{xs...}`: a fresh array, len = cap -/
def literal (h : Heap α) (xs : List α) : Heap α × Slice :=
  (h ++ [xs], { arr := h.length, len := xs.length, cap := xs.length })

/-- Go's `append(s, xs...)` -/
def goAppend (h : Heap α) (s : Slice) (xs : List α) : Heap α × Slice :=
  if s.len + xs.length ≤ s.cap then
    (h.set s.arr (writeAt (h.cells s.arr) (s.off + s.len) xs), { s with len := s.len + xs.length })
  else
    (h ++ [h.read s ++ xs], { arr := h.length, len := s.len + xs.length, cap := s.len + xs.length })

variable {M K R : Type}

/-- `Collection.Add(id, body, opts...)` with `opts` a view into the caller's heap: returns the call's
result and the heap afterwards. -/
def Coll.addS (cat : K → K → K) (cfg : Cfg M K R) (st : CState M R) (h : Heap (WOpt M K)) (id : String) (msg : M) (opts : Slice) :
    (COut M × CState M R) × Heap (WOpt M K) :=
  let (h1, lit) := literal h [WOpt.expectAbsent, WOpt.createIfAbsent]
  let (h2, all) := goAppend h1 lit (h1.read opts)
  (Coll.updateO cat cfg st id msg (h2.read all), h2)

end ScVerif.C01
