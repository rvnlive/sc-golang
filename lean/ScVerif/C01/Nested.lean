import ScVerif.C01.Model
/-!
# C01 — a write whose own callback calls the resource again (`pkg/resource/atomic.go`, `value.go`)

`GetAndUpdate` runs the change phase (expected value, expected check, before / after interceptor) with NO
lock held, so the caller's callbacks may call the same resource again on the calling goroutine: complete
calls, in a definite order, between the write's read and its save — still one caller at a time.  The
re-validation read under the write lock (`proto.Equal(oldValue, oldValueAgain)`, where a nil first read
is a value like any other: nil equals only nil) is what keeps such a write from overwriting what it has
not seen.

`Model.lean`'s `getAndUpdate` takes a pure `change`; here the change phase threads `σ` (everything the
callbacks can touch): `changeFnN` is `changeFn` with the callback at `site` running `rival` when — and
only when — the write invokes it; `getAndUpdateN` is `GetAndUpdate` with such a change phase;
`Value.setN` is `Value.Set` whose callback at `site` makes the calls `calls` on the same Value.
-/
namespace ScVerif.C01
variable {M K R : Type}

/-- the callbacks of the change phase -/
inductive Site
  | chk | bf | af
  deriving DecidableEq, Repr

/-- `WriteRequest.changeFn(writer, value)` with the callback at `site` doing `rival` (to everything the
callbacks can touch) before its own work, when the write invokes it. -/
def changeFnN {σ : Type} (ops : MsgOps M K) (wr : WriteReq M K) (u : Upd K) (value : M)
    (site : Site) (rival : σ → σ) (old dst : Option M) (s : σ) : Except Code M × σ :=
  match wr.expectedValue with
  | some ev =>
    if !(eqOpt ops old (some ev)) then (.error .failedPrecondition, s)
    else rest
  | none => rest
where
  rest : Except Code M × σ :=
    let cs : Option Code × σ := match wr.expectedCheck with
      | some chk => (chk old, if site = .chk then rival s else s)
      | none => (none, s)
    match cs.1 with
    | some c => (.error c, cs.2)
    | none =>
      let vs : M × σ := match wr.before with
        | some f => (f old value, if site = .bf then rival cs.2 else cs.2)
        | none => (value, cs.2)
      let dst := match dst with | some d => d | none => ops.zero
      let dst := ops.merge u dst vs.1
      let ds : M × σ := match wr.after with
        | some f => (f old dst, if site = .af then rival vs.2 else vs.2)
        | none => (dst, vs.2)
      (.ok ds.1, ds.2)

/-- does the write get as far as invoking the callback at `site`: the expected value is tested first, then
the check, then the interceptors (a callback that is not set is not invoked) -/
def siteReached (ops : MsgOps M K) (wr : WriteReq M K) (site : Site) (old : Option M) : Bool :=
  (match wr.expectedValue with | some ev => eqOpt ops old (some ev) | none => true) &&
  (match site with
   | .chk => wr.expectedCheck.isSome
   | .bf => (match wr.expectedCheck with | some chk => (chk old).isNone | none => true) && wr.before.isSome
   | .af => (match wr.expectedCheck with | some chk => (chk old).isNone | none => true) && wr.after.isSome)

/-- `resource.GetAndUpdate` whose change phase runs caller code on `σ`. -/
def getAndUpdateN {σ : Type} (ops : MsgOps M K)
    (get : σ → Except Code (Option M) × σ)
    (change : Option M → Option M → σ → Except Code M × σ)
    (save : σ → M → σ) (s : σ) : GauRes M × σ :=
  match get s with
  | (.error c, s1) => ({ old := none, new := none, err := some c }, s1)
  | (.ok old, s1) =>
    match change old old s1 with
    | (.error c, s1') => ({ old := old, new := none, err := some c }, s1')
    | (.ok new, s1') =>
      match get s1' with
      | (r2, s2) =>
        let again : Option M := match r2 with | .ok v => v | .error _ => none
        if !(eqOpt ops old again) then
          ({ old := old, new := some new, err := some .aborted }, s2)
        else
          ({ old := old, new := some new, err := none }, save s2 new)

/-- the Value together with (ghost) what the calls made from the callback returned -/
structure VNest (M : Type) where
  st : VState M
  results : List (VRes M)

/-- the callback makes the calls, in order -/
def nestedRunV (cfg : Cfg M K R) (calls : List (VOp M K)) (x : VNest M) : VNest M :=
  { st := (Value.run cfg x.st calls).2, results := x.results ++ (Value.run cfg x.st calls).1 }

/-- the bus events of a list of calls -/
def eventsOf : List (VRes M) → List (VEvent M)
  | [] => []
  | .got _ :: rs => eventsOf rs
  | .wrote o :: rs => o.events ++ eventsOf rs

/-- `Value.Set(value, opts...)` whose callback at `site` makes the calls `calls` on the same Value.
Returns the write's outcome (its `events`: every bus event during the call, the nested calls' first), the
Value afterwards and what the nested calls returned. -/
def Value.setN (cfg : Cfg M K R) (s : VState M) (msg : M) (wr : WriteReq M K) (site : Site)
    (calls : List (VOp M K)) : VOut M × VState M × List (VRes M) :=
  let u := fieldUpdater cfg wr
  match cfg.ops.validate u msg with
  | some c => ({ val := none, err := some c, events := [] }, s, [])
  | none =>
    let rx := getAndUpdateN cfg.ops
      (fun (x : VNest M) => (.ok x.st.value, x))
      (changeFnN cfg.ops wr u msg site (nestedRunV cfg calls))
      (fun x m =>
        { x with st := { (updateTimeV cfg wr x.st).2 with value := some m, changeTime := (updateTimeV cfg wr x.st).1 } })
      { st := s, results := [] }
    match rx.1.err, rx.1.new with
    | none, some new =>
      ({ val := some new, err := none,
         events := eventsOf rx.2.results ++ [{ value := new, time := (updateTimeV cfg wr rx.2.st).1 }] },
       (updateTimeV cfg wr rx.2.st).2, rx.2.results)
    | some c, _ => ({ val := none, err := some c, events := eventsOf rx.2.results }, rx.2.st, rx.2.results)
    | none, none => ({ val := none, err := some .internal, events := eventsOf rx.2.results }, rx.2.st, rx.2.results)

/-- does the write invoke the callback at `site` at all: its message passes validation (which comes before
the read) and the change phase gets as far as that callback -/
def callbackRuns (cfg : Cfg M K R) (s : VState M) (msg : M) (wr : WriteReq M K) (site : Site) : Bool :=
  (cfg.ops.validate (fieldUpdater cfg wr) msg).isNone && siteReached cfg.ops wr site s.value

end ScVerif.C01
