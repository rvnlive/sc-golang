import ScVerif.C01.Nested
/-!
# C01 — `Collection.Update` / `Add` / `Delete` whose own callback calls the Collection again

As `Value.setN` (`Nested.lean`), for `Collection.Update`: the get / save closures of `Update` work on
`UpdCtx` (`Model.lean`); the callback at `site` makes the complete calls `calls` on the same Collection
between the first read and the re-validation read.  The re-validation read of the create path
(`created != nil`) re-checks existence, so an item created by a nested call is found (`createdMeanwhile`),
and one deleted by a nested call is created again when the write may create.  `Delete` has its own loop: its expected
check makes the calls after the first read (`Coll.deleteN`, `deleteSecond`).
-/
namespace ScVerif.C01
variable {M K R : Type}

/-- what the closures of `Update` capture, plus (ghost) what the nested calls returned -/
structure UNest (M R : Type) where
  c : UpdCtx M R
  results : List (CRes M)

/-- the callback makes the calls, in order, on the Collection -/
def nestedRunC (cfg : Cfg M K R) (calls : List (COp M K)) (x : UNest M R) : UNest M R :=
  { c := { x.c with st := (Coll.run cfg x.c.st calls).2 }, results := x.results ++ (Coll.run cfg x.c.st calls).1 }

/-- the bus events of a list of calls -/
def eventsOfC : List (CRes M) → List (CEvent M)
  | [] => []
  | .wrote o :: rs => o.events ++ eventsOfC rs
  | _ :: rs => eventsOfC rs

/-- `Collection.Update(id, msg, opts...)` whose callback at `site` makes the calls `calls`. -/
def Coll.updateN (cfg : Cfg M K R) (s : CState M R) (id : String) (msg : M) (wr : WriteReq M K)
    (site : Site) (calls : List (COp M K)) : COut M × CState M R × List (CRes M) :=
  let id := updKey cfg wr id
  let u := fieldUpdater cfg wr
  match cfg.ops.validate u msg with
  | some c => ({ val := none, err := some c, events := [], idCalls := [], createdCalls := 0 }, s, [])
  | none =>
    let c0 : UpdCtx M R := { st := s, id := id, created := none, idCalls := [], createdCalls := 0 }
    let rx := getAndUpdateN cfg.ops
      (fun (x : UNest M R) => ((updGet cfg wr x.c).1, { x with c := (updGet cfg wr x.c).2 }))
      (changeFnN cfg.ops wr u msg site (nestedRunC cfg calls))
      (fun x m => { x with c := updSave cfg wr x.c m })
      { c := c0, results := [] }
    let c := rx.2.c
    match rx.1.err, rx.1.new with
    | none, some new =>
      let add := rx.1.old.isNone || (c.created.isSome && !c.createdMeanwhile)
      ({ val := some new, err := none,
         events := eventsOfC rx.2.results ++
           [{ id := c.id, time := (updateTimeC cfg wr c.st).1, kind := if add then .add else .update,
              old := if add then none else rx.1.old, new := some new }],
         idCalls := c.idCalls, createdCalls := c.createdCalls }, (updateTimeC cfg wr c.st).2, rx.2.results)
    | some e, _ =>
      ({ val := none, err := some e, events := eventsOfC rx.2.results, idCalls := c.idCalls,
         createdCalls := c.createdCalls }, c.st, rx.2.results)
    | none, none =>
      ({ val := none, err := some .internal, events := eventsOfC rx.2.results, idCalls := c.idCalls,
         createdCalls := c.createdCalls }, c.st, rx.2.results)

/-- `Collection.Add` with nested calls -/
def Coll.addN (cfg : Cfg M K R) (s : CState M R) (id : String) (msg : M) (wr : WriteReq M K)
    (site : Site) (calls : List (COp M K)) : COut M × CState M R × List (CRes M) :=
  Coll.updateN cfg s id msg { wr with expectAbsent := true, createIfAbsent := true } site calls

/-- the second half of `Delete`'s first attempt, under the write lock, on the Collection `s1` the check left:
the very item that was read (`oldVal2 == oldVal`: here same stored time and `proto.Equal` body) is deleted;
anything else (gone, replaced, written) sends Delete round its loop with what is stored now (four attempts
left) -/
def deleteSecond (cfg : Cfg M K R) (wr : WriteReq M K) (k : String) (it : Item M) (s1 : CState M R) :
    COut M × CState M R :=
  if sameItem cfg.ops (lookup s1.items k) (some it) then
    ({ val := some it.body, err := none,
       events := [{ id := k, time := s1.clock, kind := .remove, old := some it.body, new := none }],
       idCalls := [], createdCalls := 0 },
     { s1 with clock := s1.clock + cfg.tick, items := eraseItem s1.items k })
  else deleteLoop cfg wr k 4 (lookup s1.items k) s1

/-- `Collection.Delete(id, opts...)` whose expected check makes, on its first invocation, the calls `calls` on
the same Collection (Delete has no before / after interceptor: at another site, without a check, or when the
first read finds no item, nothing is called and this is `Coll.delete`).  The first attempt of the loop reads
the item under the read lock, runs the check with no lock held - here the nested calls happen - and the
expected-value test on the item it READ, then takes the write lock and looks the id up again (`deleteSecond`);
the checks of the later attempts make no calls: the wrapped check nests on its first invocation only. -/
def Coll.deleteN (cfg : Cfg M K R) (s : CState M R) (id : String) (wr : WriteReq M K)
    (site : Site) (calls : List (COp M K)) : COut M × CState M R × List (CRes M) :=
  let k := icptId cfg id
  match site, wr.expectedCheck, lookup s.items k with
  | .chk, some chk, some it =>
    let s1 := (Coll.run cfg s calls).2
    let rs := (Coll.run cfg s calls).1
    match chk (some it.body) with
    | some e =>
      ({ val := some it.body, err := some e, events := eventsOfC rs, idCalls := [], createdCalls := 0 }, s1, rs)
    | none =>
      if (match wr.expectedValue with | some ev => !(cfg.ops.eq it.body ev) | none => false) then
        ({ val := some it.body, err := some .failedPrecondition, events := eventsOfC rs, idCalls := [],
           createdCalls := 0 }, s1, rs)
      else
        let o := deleteSecond cfg wr k it s1
        ({ o.1 with events := eventsOfC rs ++ o.1.events }, o.2, rs)
  | _, _, _ => ((Coll.delete cfg s id wr).1, (Coll.delete cfg s id wr).2, [])

end ScVerif.C01
