import ScVerif.C01.NestedLemmas
import ScVerif.C01.Flat
/-!
# C01 — property theorems: a write whose own callback calls the same resource again

`Value.setN cfg s msg wr site calls` (`Nested.lean`) is `Value.Set(msg, opts...)` whose expected check / before / after
interceptor (`site`) makes the complete calls `calls` on the same Value, on the calling goroutine, while the write is
between its read and its save (one caller at a time, in a definite order); `Coll.updateN`, `Coll.deleteN`
(`NestedColl.lean`) the same for a Collection.  A Value that was never written is included (`s.value = none`).
-/
namespace ScVerif.C01
variable {M K R : Type}

/-- A callback that makes no call is an ordinary callback. -/
theorem C01_nested_none_is_plain (cfg : Cfg M K R) (s : VState M) (msg : M) (wr : WriteReq M K) (site : Site) :
    Value.setN cfg s msg wr site [] = ((Value.set cfg s msg wr).1, (Value.set cfg s msg wr).2, []) := by
  unfold Value.setN Value.set
  dsimp only
  cases cfg.ops.validate (fieldUpdater cfg wr) msg with
  | some c => rfl
  | none =>
    dsimp only
    rw [changeFnN_id _ _ _ _ _ _ (nestedRunV_nil cfg)]
    -- the closures touch the Value only, not the recorded results of the nested calls
    have := getAndUpdateN_view cfg.ops VNest.st (fun x st => { x with st := st }) (fun _ _ => rfl) (fun _ _ _ => rfl)
      (fun (s : VState M) => (Except.ok s.value, s)) (changeFn cfg.ops wr (fieldUpdater cfg wr) msg)
      (fun s m => { (updateTimeV cfg wr s).2 with value := some m, changeTime := (updateTimeV cfg wr s).1 })
      { st := s, results := [] }
    dsimp only at this
    rw [this]
    generalize getAndUpdate _ _ _ _ _ = r
    cases r.1.err <;> cases r.1.new <;> rfl

/-- "A call that fails changes nothing and emits nothing", with nested calls: a failing write leaves EXACTLY what the
calls made from its callback left, and nothing at all if it did not get as far as the callback. -/
theorem C01_nested_failed_call_frame (cfg : Cfg M K R) (s : VState M) (msg : M) (wr : WriteReq M K)
    (site : Site) (calls : List (VOp M K)) :
    (Value.setN cfg s msg wr site calls).1.err ≠ none →
      (Value.setN cfg s msg wr site calls).1.val = none ∧
      (Value.setN cfg s msg wr site calls).2 =
        (if callbackRuns cfg s msg wr site then ((Value.run cfg s calls).2, (Value.run cfg s calls).1) else (s, [])) ∧
      (Value.setN cfg s msg wr site calls).1.events = eventsOf (Value.setN cfg s msg wr site calls).2.2 := by
  have ho := Value.setN_cases cfg s msg wr site calls _ rfl
  generalize Value.setN cfg s msg wr site calls = r at ho ⊢
  cases ho with
  | invalid c _ => exact fun _ => ⟨rfl, rfl, rfl⟩
  | refused c _ _ => exact fun _ => ⟨rfl, rfl, rfl⟩
  | aborted new _ _ _ => exact fun _ => ⟨rfl, rfl, rfl⟩
  | saved new _ _ _ => exact fun hf => absurd rfl hf

/-- No lost update: a write that SUCCEEDS stores the message it computed from the value it read, and that value is (by
`proto.Equal`, absent = absent only) what was stored when it saved, after whatever its callback's calls did. -/
theorem C01_nested_no_lost_update (cfg : Cfg M K R) (s : VState M) (msg : M) (wr : WriteReq M K)
    (site : Site) (calls : List (VOp M K)) :
    (Value.setN cfg s msg wr site calls).1.err = none →
      ∃ new, changeFn cfg.ops wr (fieldUpdater cfg wr) msg s.value s.value = .ok new ∧
        (Value.setN cfg s msg wr site calls).1.val = some new ∧
        (Value.setN cfg s msg wr site calls).2.1.value = some new ∧
        eqOpt cfg.ops s.value
          (if callbackRuns cfg s msg wr site then (Value.run cfg s calls).2.value else s.value) = true ∧
        ∃ t, (Value.setN cfg s msg wr site calls).1.events =
          eventsOf (Value.setN cfg s msg wr site calls).2.2 ++ [{ value := new, time := t }] := by
  have ho := Value.setN_cases cfg s msg wr site calls _ rfl
  generalize Value.setN cfg s msg wr site calls = r at ho ⊢
  cases ho with
  | invalid c _ => exact fun h => nomatch h
  | refused c _ _ => exact fun h => nomatch h
  | aborted new _ _ _ => exact fun h => nomatch h
  | saved new _ hc hb =>
    rw [midV_value] at hb
    exact fun _ => ⟨new, hc, rfl, by rw [savedV_eq], hb, _, rfl⟩

/-- The re-validation: the callback runs, the write would otherwise go through, and the Value its calls leave is not (by
`proto.Equal`) the value the write read: Aborted, and nothing but the nested calls' effects. -/
theorem C01_nested_changed_value_aborts (cfg : Cfg M K R) (s : VState M) (msg : M) (wr : WriteReq M K)
    (site : Site) (calls : List (VOp M K)) (new : M)
    (hrun : callbackRuns cfg s msg wr site = true)
    (hok : changeFn cfg.ops wr (fieldUpdater cfg wr) msg s.value s.value = .ok new)
    (hchg : eqOpt cfg.ops s.value (Value.run cfg s calls).2.value = false) :
    Value.setN cfg s msg wr site calls =
      ({ val := none, err := some .aborted, events := eventsOf (Value.run cfg s calls).1 },
       (Value.run cfg s calls).2, (Value.run cfg s calls).1) := by
  have hv : cfg.ops.validate (fieldUpdater cfg wr) msg = none :=
    Option.isNone_iff_eq_none.mp (Bool.and_eq_true_iff.mp hrun).1
  have ho := Value.setN_cases cfg s msg wr site calls (_, _) (if_pos hrun).symm
  generalize Value.setN cfg s msg wr site calls = r at ho ⊢
  cases ho with
  | invalid c h => rw [hv] at h; cases h
  | refused c _ h => rw [hok] at h; cases h
  | aborted new' _ _ _ => rfl
  | saved new' _ _ hb => rw [hchg] at hb; cases hb

/-- "No value" is a value like any other for the re-validation: if a call made from the callback of the first write of a
never-written Value stores something, the write is Aborted and that something stays. -/
theorem C01_nested_first_write_aborts (cfg : Cfg M K R) (s : VState M) (msg : M) (wr : WriteReq M K)
    (site : Site) (calls : List (VOp M K)) (new : M)
    (hnil : s.value = none)
    (hrun : callbackRuns cfg s msg wr site = true)
    (hok : changeFn cfg.ops wr (fieldUpdater cfg wr) msg s.value s.value = .ok new)
    (hset : (Value.run cfg s calls).2.value ≠ none) :
    (Value.setN cfg s msg wr site calls).1.err = some .aborted ∧
    (Value.setN cfg s msg wr site calls).2.1 = (Value.run cfg s calls).2 := by
  have hchg : eqOpt cfg.ops s.value (Value.run cfg s calls).2.value = false := by
    rw [hnil]
    cases h : (Value.run cfg s calls).2.value with
    | none => exact absurd h hset
    | some v => rfl
  rw [C01_nested_changed_value_aborts cfg s msg wr site calls new hrun hok hchg]
  exact ⟨rfl, rfl⟩

/-- Nested calls are ordinary calls in a definite order: when `proto.Equal` decides equality of messages (it does for the
data modelled), a successful write with nested calls is the plain sequence `calls ++ [Set msg]` on the register. -/
theorem C01_nested_success_is_sequential (cfg : Cfg M K R) (hrefl : EqRefl cfg.ops)
    (hx : ∀ a b, cfg.ops.eq a b = true → a = b)
    (s : VState M) (msg : M) (wr : WriteReq M K) (site : Site) (calls : List (VOp M K))
    (hrun : callbackRuns cfg s msg wr site = true)
    (hsucc : (Value.setN cfg s msg wr site calls).1.err = none) :
    (Value.run cfg s (calls ++ [.set msg wr])).2 = (Value.setN cfg s msg wr site calls).2.1 ∧
    eventsOf (Value.run cfg s (calls ++ [.set msg wr])).1 = (Value.setN cfg s msg wr site calls).1.events ∧
    ∃ o, (Value.run cfg s (calls ++ [.set msg wr])).1 = (Value.setN cfg s msg wr site calls).2.2 ++ [.wrote o] ∧
      o.val = (Value.setN cfg s msg wr site calls).1.val ∧ o.err = none := by
  have ho := Value.setN_cases cfg s msg wr site calls (_, _) (if_pos hrun).symm
  generalize Value.setN cfg s msg wr site calls = r at ho hsucc ⊢
  cases ho with
  | invalid c _ => cases hsucc
  | refused c _ _ => cases hsucc
  | aborted new _ _ _ => cases hsucc
  | saved new hv hc hb =>
    -- the calls left the value the write read, so the plain Set after them computes and saves the same message
    have hval : s.value = (Value.run cfg s calls).2.value := by
      revert hb
      cases s.value <;> cases (Value.run cfg s calls).2.value <;> simp [eqOpt]
      exact hx _ _
    rcases Value.set_cases cfg hrefl (Value.run cfg s calls).2 msg wr with ⟨c, _, why⟩ | ⟨new', _, hc', hset⟩
    · rw [← hval, hv, hc] at why
      rcases why with h | ⟨_, h⟩ <;> cases h
    · rw [← hval, hc] at hc'
      cases hc'
      rw [Value.run_append]
      simp only [Value.run_cons, Value.run_nil, Value.step, hset, eventsOf_append, eventsOf, List.append_nil]
      exact ⟨trivial, trivial, _, rfl, rfl, rfl⟩

/-- a never-written Value; the write's before interceptor stores `a = 5` through a nested Set: the write is
Aborted, the nested write's value stays, one event (the nested one) -/
example :
    let cfg : Cfg Msg Mask (List Nat) := { ops := flatOps, gen := flatGen }
    let wr : WriteReq Msg Mask := { before := some (fun _ m => { m with a := m.a + 1 }) }
    let r := Value.setN cfg (Value.init cfg none) { a := 2, s := "", c := none } wr .bf
      [.set { a := 5, s := "", c := none } {}]
    (callbackRuns cfg (Value.init cfg none) { a := 2, s := "", c := none } wr .bf, r.1.err, r.1.val,
      r.2.1.value.map (·.a), r.1.events.map (·.value.a)) = (true, some .aborted, none, some 5, [5]) := by
  decide +kernel

/-- the same write when the nested call is a read, or stores what is stored already: it goes through -/
example :
    let cfg : Cfg Msg Mask (List Nat) := { ops := flatOps, gen := flatGen }
    let wr : WriteReq Msg Mask := { before := some (fun _ m => { m with a := m.a + 1 }) }
    let s0 := Value.init cfg (some { a := 5, s := "", c := none })
    ((Value.setN cfg s0 { a := 2, s := "", c := none } wr .bf [.get {}]).1.err,
     (Value.setN cfg s0 { a := 2, s := "", c := none } wr .bf [.set { a := 5, s := "", c := none } {}]).1.err,
     (Value.setN cfg s0 { a := 2, s := "", c := none } wr .bf [.set { a := 5, s := "", c := none } {}]).2.1.value.map (·.a))
      = (none, none, some 3) := by
  decide +kernel

/-- the hypotheses of `C01_nested_success_is_sequential` hold for the modelled messages -/
example : EqRefl flatOps ∧ ∀ a b : Msg, flatOps.eq a b = true → a = b := by
  refine ⟨fun m => by simp [flatOps], fun a b h => by simpa [flatOps] using h⟩

/-- A callback that makes no call is an ordinary callback, for `Collection.Update`. -/
theorem C01_nested_update_none_is_plain (cfg : Cfg M K R) (s : CState M R) (id : String) (msg : M)
    (wr : WriteReq M K) (site : Site) :
    Coll.updateN cfg s id msg wr site [] = ((Coll.update cfg s id msg wr).1, (Coll.update cfg s id msg wr).2, []) := by
  unfold Coll.updateN Coll.update Coll.updateAt
  dsimp only
  cases cfg.ops.validate (fieldUpdater cfg wr) msg with
  | some c => rfl
  | none =>
    dsimp only
    rw [changeFnN_id _ _ _ _ _ _ (nestedRunC_nil cfg)]
    have := getAndUpdateN_view cfg.ops UNest.c (fun x c => { x with c := c }) (fun _ _ => rfl) (fun _ _ _ => rfl)
      (updGet cfg wr) (changeFn cfg.ops wr (fieldUpdater cfg wr) msg) (updSave cfg wr)
      { c := { st := s, id := updKey cfg wr id, created := none, idCalls := [], createdCalls := 0 }, results := [] }
    dsimp only at this
    rw [this]
    generalize getAndUpdate _ _ _ _ _ = r
    cases r.1.err <;> cases r.1.new <;> rfl

/-- "A call that fails changes nothing and emits nothing", for `Collection.Update` with nested calls: contents and clock
are EXACTLY what the calls made from its callback left, started from what the write found (`s1` differs from `s` at most
in the rng, which the write's own id generation may have advanced). -/
theorem C01_nested_update_failed_call_frame (cfg : Cfg M K R) (s : CState M R) (id : String) (msg : M)
    (wr : WriteReq M K) (site : Site) (calls : List (COp M K)) :
    (Coll.updateN cfg s id msg wr site calls).1.err ≠ none →
      (Coll.updateN cfg s id msg wr site calls).1.val = none ∧
      (Coll.updateN cfg s id msg wr site calls).1.events = eventsOfC (Coll.updateN cfg s id msg wr site calls).2.2 ∧
      ∃ s1 s2 : CState M R, s1.items = s.items ∧ s1.clock = s.clock ∧
        (((Coll.updateN cfg s id msg wr site calls).2.2 = [] ∧ s2 = s1) ∨
         ((Coll.updateN cfg s id msg wr site calls).2.2 = (Coll.run cfg s1 calls).1 ∧ s2 = (Coll.run cfg s1 calls).2)) ∧
        (Coll.updateN cfg s id msg wr site calls).2.1.items = s2.items ∧
        (Coll.updateN cfg s id msg wr site calls).2.1.clock = s2.clock := by
  -- `s1`: what the first read left (only the rng may have moved); `s2`: what the nested calls left
  rcases h1 : updGet cfg wr { st := s, id := updKey cfg wr id, created := none, idCalls := [], createdCalls := 0 }
    with ⟨r1, c1⟩
  have hf0 := updGet_frame cfg wr { st := s, id := updKey cfg wr id, created := none, idCalls := [], createdCalls := 0 }
  rw [h1] at hf0
  have ho := Coll.updateN_cases cfg s id msg wr site calls _ c1 r1 rfl h1
  generalize Coll.updateN cfg s id msg wr site calls = r at ho ⊢
  cases ho with
  | invalid c _ => exact fun _ => ⟨rfl, rfl, s, s, rfl, rfl, Or.inl ⟨rfl, rfl⟩, rfl, rfl⟩
  | readFails e _ => exact fun _ => ⟨rfl, rfl, _, _, hf0.1, hf0.2, Or.inl ⟨rfl, rfl⟩, rfl, rfl⟩
  | refused old mid e _ hmid _ =>
    exact fun _ => ⟨rfl, rfl, _, _, hf0.1, hf0.2, (mid_nestedRunC cfg wr site calls old c1 mid hmid).1, rfl, rfl⟩
  | aborted old mid new r2 c2 _ hmid _ h2 _ =>
    have hf2 := updGet_frame cfg wr mid.c
    rw [h2] at hf2
    exact fun _ => ⟨rfl, rfl, _, _, hf0.1, hf0.2, (mid_nestedRunC cfg wr site calls old c1 mid hmid).1, hf2.1, hf2.2⟩
  | saved old mid new r2 c2 _ _ _ _ _ => exact fun hne => absurd rfl hne

/-- No lost update, for `Collection.Update`: the re-validation read of the contents the callback's calls left gave (by
`proto.Equal`) the message the write worked from (`old`: the stored one, or the provisional empty message of an item
being created), and the returned message is stored under the write's id. -/
theorem C01_nested_update_no_lost_update (cfg : Cfg M K R) (s : CState M R) (id : String) (msg : M)
    (wr : WriteReq M K) (site : Site) (calls : List (COp M K)) :
    (Coll.updateN cfg s id msg wr site calls).1.err = none →
      ∃ old new c1 r2 c2,
        updGet cfg wr { st := s, id := updKey cfg wr id, created := none, idCalls := [], createdCalls := 0 } = (.ok old, c1) ∧
        changeFn cfg.ops wr (fieldUpdater cfg wr) msg old old = .ok new ∧
        (Coll.updateN cfg s id msg wr site calls).1.val = some new ∧
        updGet cfg wr (if siteReached cfg.ops wr site old then { c1 with st := (Coll.run cfg c1.st calls).2 } else c1) = (r2, c2) ∧
        eqOpt cfg.ops old (match r2 with | .ok v => v | .error _ => none) = true ∧
        ∃ t, lookup (Coll.updateN cfg s id msg wr site calls).2.1.items c2.id = some { body := new, time := t } := by
  rcases h1 : updGet cfg wr { st := s, id := updKey cfg wr id, created := none, idCalls := [], createdCalls := 0 }
    with ⟨r1, c1⟩
  have ho := Coll.updateN_cases cfg s id msg wr site calls _ c1 r1 rfl h1
  generalize Coll.updateN cfg s id msg wr site calls = r at ho ⊢
  cases ho with
  | invalid c _ => exact fun h => nomatch h
  | readFails e _ => exact fun h => nomatch h
  | refused old mid e _ _ _ => exact fun h => nomatch h
  | aborted old mid new r2 c2 _ _ _ _ _ => exact fun h => nomatch h
  | saved old mid new r2 c2 hg hmid hc h2 hb =>
    cases hg
    rw [(mid_nestedRunC cfg wr site calls old c1 mid hmid).2] at h2
    exact fun _ => ⟨old, new, c1, r2, c2, rfl, hc, rfl, h2, hb, lookup_savedC cfg wr c2 old new⟩

/-- an item that does not exist; the write (create-if-absent) has a before interceptor that adds the item
through a nested call: the write is Aborted, the nested item stays, the only event is the nested ADD -/
example :
    let cfg : Cfg Msg Mask (List Nat) := { ops := flatOps, gen := flatGen }
    let wr : WriteReq Msg Mask := { createIfAbsent := true, before := some (fun _ m => { m with a := m.a + 1 }) }
    let r := Coll.updateN cfg (Coll.init cfg [] []) "a" { a := 2, s := "", c := none } wr .bf
      [.add "a" { a := 5, s := "", c := none } {}]
    (r.1.err, r.1.val, r.2.1.items.map (fun kv => (kv.1, kv.2.body.a)), r.1.events.map (fun e => (e.id, e.kind))) =
    (some .aborted, none, [("a", 5)], [("a", .add)]) := by
  decide +kernel

/-- had the callback added ANOTHER item and read this one, the write goes through (as the last call of the
sequence) -/
example :
    let cfg : Cfg Msg Mask (List Nat) := { ops := flatOps, gen := flatGen }
    let wr : WriteReq Msg Mask := { createIfAbsent := true, before := some (fun _ m => { m with a := m.a + 1 }) }
    let r := Coll.updateN cfg (Coll.init cfg [] []) "a" { a := 2, s := "", c := none } wr .bf
      [.add "b" { a := 5, s := "", c := none } {}, .get "a" {}]
    (r.1.err, r.2.1.items.map (fun kv => (kv.1, kv.2.body.a)), r.1.events.map (fun e => (e.id, e.kind))) =
    (none, [("b", 5), ("a", 3)], [("b", .add), ("a", .add)]) := by
  decide +kernel

/-- A check that makes no call is an ordinary check (holds without `h`). -/
theorem C01_nested_delete_none_is_plain (cfg : Cfg M K R) (h : EqRefl cfg.ops) (s : CState M R) (id : String)
    (wr : WriteReq M K) (site : Site) :
    Coll.deleteN cfg s id wr site [] = ((Coll.delete cfg s id wr).1, (Coll.delete cfg s id wr).2, []) := by
  rw [Coll.deleteN_eq cfg s id wr site [] ([], s) (by simp [Coll.run_nil])]
  rfl

/-- "A call that fails changes nothing and emits nothing", for a Delete whose check makes calls: the Collection is EXACTLY
what those calls left, also when they changed the item and Delete went round its loop and judged the new item.
(Holds without `h`.) -/
theorem C01_nested_delete_failed_call_frame (cfg : Cfg M K R) (h : EqRefl cfg.ops) (s : CState M R) (id : String)
    (wr : WriteReq M K) (site : Site) (calls : List (COp M K)) :
    (Coll.deleteN cfg s id wr site calls).1.err ≠ none →
      (Coll.deleteN cfg s id wr site calls).1.events = eventsOfC (Coll.deleteN cfg s id wr site calls).2.2 ∧
      (((Coll.deleteN cfg s id wr site calls).2.2 = [] ∧ (Coll.deleteN cfg s id wr site calls).2.1 = s) ∨
       ((Coll.deleteN cfg s id wr site calls).2.2 = (Coll.run cfg s calls).1 ∧
        (Coll.deleteN cfg s id wr site calls).2.1 = (Coll.run cfg s calls).2)) := by
  rw [Coll.deleteN_eq cfg s id wr site calls _ rfl]
  intro hf
  have hfr := deleteLoop_fail_frame cfg wr _ _ _ _ hf
  refine ⟨by dsimp only; rw [hfr.2, List.append_nil], ?_⟩
  dsimp only
  rw [hfr.1]
  split
  · exact Or.inr ⟨rfl, rfl⟩
  · exact Or.inl ⟨rfl, rfl⟩

/-- A succeeding Delete removes and returns what is stored under the id WHEN IT DELETES, after the calls its check made,
never the stale item it showed to the check: either those calls removed the item and the Delete tolerates that, or the
returned message is `proto.Equal` to the stored one and its REMOVE event follows theirs. -/
theorem C01_nested_delete_removes_current (cfg : Cfg M K R) (h : EqRefl cfg.ops) (s : CState M R) (id : String)
    (wr : WriteReq M K) (calls : List (COp M K)) (chk : Option M → Option Code) (it : Item M)
    (hc : wr.expectedCheck = some chk) (hl : lookup s.items (icptId cfg id) = some it)
    (hok : (Coll.deleteN cfg s id wr .chk calls).1.err = none) :
    (Coll.deleteN cfg s id wr .chk calls).2.2 = (Coll.run cfg s calls).1 ∧
    ((lookup (Coll.run cfg s calls).2.items (icptId cfg id) = none ∧
        (Coll.deleteN cfg s id wr .chk calls).1.val = none ∧
        (Coll.deleteN cfg s id wr .chk calls).2.1 = (Coll.run cfg s calls).2 ∧
        (Coll.deleteN cfg s id wr .chk calls).1.events = eventsOfC (Coll.run cfg s calls).1) ∨
     (∃ cur b, lookup (Coll.run cfg s calls).2.items (icptId cfg id) = some cur ∧
        cfg.ops.eq cur.body b = true ∧
        (Coll.deleteN cfg s id wr .chk calls).1.val = some b ∧
        (Coll.deleteN cfg s id wr .chk calls).2.1 =
          { (Coll.run cfg s calls).2 with clock := (Coll.run cfg s calls).2.clock + cfg.tick,
                                          items := eraseItem (Coll.run cfg s calls).2.items (icptId cfg id) } ∧
        (Coll.deleteN cfg s id wr .chk calls).1.events = eventsOfC (Coll.run cfg s calls).1 ++
          [{ id := icptId cfg id, time := (Coll.run cfg s calls).2.clock, kind := .remove, old := some b,
             new := none }])) := by
  rw [Coll.deleteN_eq cfg s id wr .chk calls (Coll.run cfg s calls) (by simp [checkRuns, hc, hl]), hl] at hok ⊢
  -- the first attempt judges the stale item on the Collection the calls left; a second one reads afresh
  have ha := deleteLoop_attempt cfg wr (icptId cfg id) 4 (some it) (Coll.run cfg s calls).2
  generalize deleteLoop cfg wr (icptId cfg id) 5 (some it) (Coll.run cfg s calls).2 = r at ha hok ⊢
  refine ⟨rfl, ?_⟩
  cases ha with
  | missing hn => cases hn
  | refused it c _ _ => cases hok
  | removed it' hit _ hs =>
    cases hit
    obtain ⟨cur, hcur, he⟩ := sameItem_some hs
    exact Or.inr ⟨cur, it.body, hcur, he, rfl, rfl, rfl⟩
  | retry it' _ _ _ =>
    have ho := deleteLoop_attempt cfg wr (icptId cfg id) 3 (lookup (Coll.run cfg s calls).2.items (icptId cfg id))
      (Coll.run cfg s calls).2
    generalize deleteLoop cfg wr (icptId cfg id) 4 _ (Coll.run cfg s calls).2 = r at ho hok ⊢
    cases ho with
    | missing hl' => exact Or.inl ⟨hl', rfl, rfl, List.append_nil _⟩
    | refused cur c _ _ => cases hok
    | retry cur _ _ hne => exact (sameItem_self_ne_false h hne).elim
    | removed cur hl' _ _ => exact Or.inr ⟨cur, cur.body, hl', h _, rfl, rfl, rfl⟩

/-- item a = 1 is stored; the Delete's check (passes on a = 1 only) first updates the item to a = 5: the item
read is no longer the item stored, Delete goes round its loop, its check judges the NEW item and refuses:
the item written by the nested call stays, the only event is the nested UPDATE -/
example :
    let cfg : Cfg Msg Mask (List Nat) := { ops := flatOps, gen := flatGen }
    let chk : Option Msg → Option Code := fun o => if (o.map (·.a)) = some 1 then none else some .failedPrecondition
    let r := Coll.deleteN cfg (Coll.init cfg [("a", { a := 1, s := "", c := none })] []) "a"
      { expectedCheck := some chk } .chk [.update "a" { a := 5, s := "", c := none } {}]
    (r.1.err, r.1.val.map (·.a), r.2.1.items.map (fun kv => (kv.1, kv.2.body.a)), r.1.events.map (fun e => (e.id, e.kind))) =
    (some .failedPrecondition, some 5, [("a", 5)], [("a", .update)]) := by
  decide +kernel

/-- with a check that passes on anything the same Delete removes and returns the item the nested call wrote
(a = 5), not the item it showed to the check (a = 1); and when the nested call deletes the item, the Delete
answers NotFound and the only event is the nested REMOVE -/
example :
    let cfg : Cfg Msg Mask (List Nat) := { ops := flatOps, gen := flatGen }
    let s0 := Coll.init cfg [("a", { a := 1, s := "", c := none })] []
    let r := Coll.deleteN cfg s0 "a" { expectedCheck := some (fun _ => none) } .chk
      [.update "a" { a := 5, s := "", c := none } {}]
    let q := Coll.deleteN cfg s0 "a" { expectedCheck := some (fun _ => none) } .chk [.delete "a" {}]
    (r.1.err, r.1.val.map (·.a), r.2.1.items.length, r.1.events.map (fun e => (e.kind, e.old.map (·.a)))) =
      (none, some 5, 0, [(.update, some 1), (.remove, some 5)]) ∧
    (q.1.err, q.1.val, q.1.events.map (fun e => e.kind)) = (some .notFound, none, [.remove]) := by
  decide +kernel

end ScVerif.C01
