import ScVerif.C01.ResLemmas
import ScVerif.C01.FoldLemmas
import ScVerif.C01.Flat
import ScVerif.C01.Props
/-!
# C01 — property theorems about how a resource comes about

Whatever list of `resource.Option` a Value / Collection was constructed from (`Res.lean` follows `computeConfig` /
`NewValue` / `NewCollection`), it is the register / map of `Props.lean` for the configuration the list resolves to.
-/
namespace ScVerif.C01
variable {M K R : Type}

/-- Resource options are LAST-WINS, each setting on its own (nil included: it switches the setting off again), unless
construction panics; a setting no option mentions is off. -/
theorem C01_resource_options_last_wins (pre post : List (ResOpt M K)) (rc : ResCfg M K) :
    (∀ m, (∀ o ∈ post, o.setsWritable = false) →
      computeConfig (pre ++ .writable m :: post) = some rc → rc.writable = m) ∧
    (∀ f, (∀ o ∈ post, o.setsIcpt = false) →
      computeConfig (pre ++ .icpt f :: post) = some rc → rc.icpt = f) ∧
    (∀ v, (∀ o ∈ post, o.setsInitialValue = false) →
      computeConfig (pre ++ .initialValue v :: post) = some rc → rc.initialValue = v) ∧
    ((∀ o ∈ post, o.setsWritable = false) → computeConfig post = some rc → rc.writable = none) ∧
    ((∀ o ∈ post, o.setsIcpt = false) → computeConfig post = some rc → rc.icpt = none) ∧
    ((∀ o ∈ post, o.setsInitialValue = false) → computeConfig post = some rc → rc.initialValue = none) := by
  have kw : ∀ (c : ResCfg M K) o, ResOpt.setsWritable o = false → (setRes c o).writable = c.writable :=
    fun c o ho => by cases o <;> first | rfl | cases ho
  have ki : ∀ (c : ResCfg M K) o, ResOpt.setsIcpt o = false → (setRes c o).icpt = c.icpt :=
    fun c o ho => by cases o <;> first | rfl | cases ho
  have kv : ∀ (c : ResCfg M K) o, ResOpt.setsInitialValue o = false → (setRes c o).initialValue = c.initialValue :=
    fun c o ho => by cases o <;> first | rfl | cases ho
  -- a construction that does not panic is a plain fold: the setting is the one the last option of its kind gave
  refine ⟨fun m hp h => ?_, fun f hp h => ?_, fun v hp h => ?_, fun hp h => ?_, fun hp h => ?_, fun hp h => ?_⟩ <;>
    rw [applyAllRes_some _ _ _ h]
  · rw [List.foldl_append, List.foldl_cons, foldl_keeps setRes ResCfg.writable ResOpt.setsWritable kw post hp]; rfl
  · rw [List.foldl_append, List.foldl_cons, foldl_keeps setRes ResCfg.icpt ResOpt.setsIcpt ki post hp]; rfl
  · rw [List.foldl_append, List.foldl_cons, foldl_keeps setRes ResCfg.initialValue ResOpt.setsInitialValue kv post hp]; rfl
  · exact foldl_keeps setRes ResCfg.writable ResOpt.setsWritable kw post hp _
  · exact foldl_keeps setRes ResCfg.icpt ResOpt.setsIcpt ki post hp _
  · exact foldl_keeps setRes ResCfg.initialValue ResOpt.setsInitialValue kv post hp _

/-- Construction panics EXACTLY when two `WithInitialRecord` options carry the same id, whatever stands between them;
otherwise the records are the ones given, each once, in the order given. -/
theorem C01_initial_records (opts : List (ResOpt M K)) :
    ((computeConfig opts).isSome = true ↔ (idsOf (recordsOf opts)).Pairwise (· ≠ ·)) ∧
    ∀ rc, computeConfig opts = some rc → rc.initialRecords = recordsOf opts := by
  refine ⟨?_, fun rc h => ?_⟩
  · unfold computeConfig
    rw [applyAllRes_isSome]
    simp [idsOf]
  · have := applyAllRes_records opts {} rc h
    simpa using this

/-- A fresh Collection keeps each initial record under the id interceptor's image of the id it was given with (repo
215ba16), as every later call keys it, and nothing else: `Get id` returns the record given as `id` whatever the
interceptor; construction panics exactly when the option list does or two records get the same key. -/
theorem C01_new_collection_contents (base : Cfg M K R) (opts : List (ResOpt M K)) (rng : R) :
    (∀ rc, computeConfig opts = some rc →
      ((Coll.newO base opts rng).isSome = true ↔
        ((idsOf (recordsOf opts)).map (icptId (toCfg base rc))).Pairwise (· ≠ ·))) ∧
    ∀ cfg s, Coll.newO base opts rng = some (cfg, s) →
      (∀ id v, (id, v) ∈ recordsOf opts → lookup s.items (icptId cfg id) = some { body := v, time := 0 }) ∧
      (∀ k, (∀ id ∈ idsOf (recordsOf opts), icptId cfg id ≠ k) → lookup s.items k = none) ∧
      (∀ id v ro, (id, v) ∈ recordsOf opts → Coll.get cfg s id ro = some (cfg.ops.filter ro.readMask v)) := by
  have hids : ∀ (cfg : Cfg M K R) (l : List (String × M)),
      idsOf (keyedRecords cfg l) = (idsOf l).map (icptId cfg) := by
    intro cfg l; simp [idsOf, keyedRecords, List.map_map, Function.comp_def]
  constructor
  · intro rc hc
    rw [Coll.newO_eq base opts rng rc hc, ← hids, ← hasDupKey_false]
    cases hasDupKey (keyedRecords (toCfg base rc) (recordsOf opts)) <;> simp
  · intro cfg s h
    obtain ⟨rc, _, hd, hs⟩ := newO_cases base opts rng cfg s h
    have hnd := (hasDupKey_false _).mp hd
    have hl := lookup_init_distinct cfg (keyedRecords cfg (recordsOf opts)) rng hnd
    rw [← hs] at hl
    have h1 : ∀ id v, (id, v) ∈ recordsOf opts → lookup s.items (icptId cfg id) = some { body := v, time := 0 } := by
      intro id v hm
      apply hl.1
      exact List.mem_map.mpr ⟨(id, v), hm, rfl⟩
    refine ⟨h1, fun k hk => ?_, fun id v ro hm => ?_⟩
    · apply hl.2
      rw [hids]
      intro hmem
      obtain ⟨id, hid, he⟩ := List.mem_map.mp hmem
      exact hk id hid he
    · exact Coll.get_some cfg s id ro _ (h1 _ _ hm)

/-- A Collection constructed from ANY option list (that does not panic) is the reference map started from the records given. -/
theorem C01_collection_refines_res (base : Cfg M K R) (hb : EqRefl base.ops) (opts : List (ResOpt M K)) (rng : R)
    (cfg : Cfg M K R) (s : CState M R) (h : Coll.newO base opts rng = some (cfg, s)) (ops : List (COp M K)) :
    Spec.Run cfg (abs s) ops (Coll.run cfg s ops).1 (abs (Coll.run cfg s ops).2) := by
  obtain ⟨rc, hcfg, _, hs⟩ := newO_cases base opts rng cfg s h
  subst hs
  have hb' : EqRefl cfg.ops := by rw [hcfg]; exact hb
  exact run_refines cfg hb' ops _ (nodupKeys_init _ _ rng)

/-- The constructor as it was before 215ba16 (`Coll.newOLegacy`): an initial record "A" behind the lower-casing
interceptor was kept under "A": List showed it, Get of either spelling missed it, and Add "A" created a second item. -/
theorem C01_initial_records_legacy_unreachable :
    ((Coll.newOLegacy (R := List Nat) { ops := flatOps, gen := flatGen }
        [.icpt (some lowerStr), .initialRecord "A" Flat.zero] []).map
      (fun p => (Coll.list p.1 p.2 {}, Coll.get p.1 p.2 "A" {}, Coll.get p.1 p.2 "a" {},
        (Coll.add p.1 p.2 "A" { a := 1, s := "", c := none } {}).1.err,
        Coll.list p.1 (Coll.add p.1 p.2 "A" { a := 1, s := "", c := none } {}).2 {}))) =
    some ([Flat.zero], none, none, none, [Flat.zero, { a := 1, s := "", c := none }]) := by decide +kernel

/-- A fresh Value holds the LAST initial value given (none: nothing). -/
theorem C01_new_value_contents (base : Cfg M K R) (pre post : List (ResOpt M K)) (v : Option M)
    (hpost : ∀ o ∈ post, o.setsInitialValue = false) (cfg : Cfg M K R) (s : VState M)
    (h : Value.newO base (pre ++ .initialValue v :: post) = some (cfg, s)) (ro : ReadReq M K) :
    s.value = v ∧ Value.get cfg s ro = v.map (cfg.ops.filter ro.readMask) := by
  obtain ⟨rc, hc, _, rfl⟩ := Value.newO_cases base _ cfg s h
  have hv := (C01_resource_options_last_wins pre post rc).2.2.1 v hpost hc
  simp only [Value.init, Value.get, hv, true_and]

/-- A Value constructed from ANY option list is the register started from the last initial value given. -/
theorem C01_value_refines_res (base : Cfg M K R) (hb : EqRefl base.ops) (opts : List (ResOpt M K))
    (cfg : Cfg M K R) (s : VState M) (h : Value.newO base opts = some (cfg, s)) (ops : List (VOp M K)) :
    Value.run cfg s ops = Spec.vrun cfg s ops := by
  obtain ⟨rc, _, rfl, _⟩ := Value.newO_cases base opts cfg s h
  exact C01_value_refines (toCfg base rc) hb ops s

/-- Read your writes on a Value, whatever the resource was constructed with (writable fields, and, because no call of the
model consults it, any equivalence); a failing Set leaves what Get returns unchanged. -/
theorem C01_value_read_your_writes (cfg : Cfg M K R) (h : EqRefl cfg.ops) (s : VState M) (msg : M)
    (wr : WriteReq M K) (ro : ReadReq M K) :
    (∀ new, (Value.set cfg s msg wr).1.val = some new →
      (Value.set cfg s msg wr).1.err = none ∧
      Value.get cfg (Value.set cfg s msg wr).2 ro = some (cfg.ops.filter ro.readMask new) ∧
      (Value.set cfg s msg wr).2.changeTime = (wr.writeTime.getD s.clock)) ∧
    ((Value.set cfg s msg wr).1.err ≠ none →
      Value.get cfg (Value.set cfg s msg wr).2 ro = Value.get cfg s ro) := by
  rcases Value.set_cases cfg h s msg wr with ⟨c, e, _⟩ | ⟨new, _, _, e⟩ <;> rw [e]
  · exact ⟨fun new hn => (nomatch hn), fun _ => rfl⟩
  · rw [savedV_eq]
    exact ⟨fun new' hn => by cases hn; exact ⟨rfl, rfl, rfl⟩, fun hf => absurd rfl hf⟩

/-- a list with every kind of option, repeated and switched off again: the last of each kind decides,
the two records are kept in order -/
example :
    (computeConfig (M := Msg) (K := Mask)
      [.writable (some [.a]), .initialRecord "b" Flat.zero, .other, .writable none, .icpt (some lowerStr),
       .initialValue (some Flat.zero), .writable (some [.s]), .initialRecord "a" { a := 1, s := "", c := none },
       .initialValue none]).map (fun rc => (rc.writable, rc.icpt.isSome, rc.initialValue, rc.initialRecords.map (·.1))) =
    some (some [.s], true, none, ["b", "a"]) := by decide

/-- the same id twice panics, whatever stands between -/
example :
    (computeConfig (M := Msg) (K := Mask)
      [.initialRecord "a" Flat.zero, .writable none, .initialRecord "b" Flat.zero, .initialRecord "a" Flat.zero]).isSome
      = false := by decide

/-- with `Coll.newO` the record is reachable under either spelling and Add "A" is rejected; two records whose ids the
interceptor maps to one key panic -/
example :
    ((Coll.newO (R := List Nat) { ops := flatOps, gen := flatGen }
        [.icpt (some lowerStr), .initialRecord "A" Flat.zero] []).map
      (fun p => (Coll.get p.1 p.2 "A" {}, Coll.get p.1 p.2 "a" {}, Coll.list p.1 p.2 {},
        (Coll.add p.1 p.2 "A" { a := 1, s := "", c := none } {}).1.err))) =
    some (some Flat.zero, some Flat.zero, [Flat.zero], some .alreadyExists) ∧
    (Coll.newO (R := List Nat) { ops := flatOps, gen := flatGen }
        [.initialRecord "a" Flat.zero, .icpt (some lowerStr), .initialRecord "A" Flat.zero] []).isSome = false := by
  decide +kernel

end ScVerif.C01
