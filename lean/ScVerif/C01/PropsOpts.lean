import ScVerif.C01.OptsLemmas
import ScVerif.C01.FoldLemmas
import ScVerif.C01.IdLemmas
import ScVerif.C01.Props
/-!
# C01 — property theorems: option LISTS and intercepted ids

"… for every sequence of Get, List, Set, Add, Update and Delete calls with ANY COMBINATION of write
options … each call returns what a plain reference model returns and leaves the same contents."

`Props.lean` proves this for request records.  The calls take option LISTS (`opt.go`: options are applied in order;
`Opts.lean`): what a call does is a function of the list it is given (lists are values — that a call cannot alter the
list its caller will pass to a later call is what the tie's shared-slice runs check of the code).  Second group: every id a
call stores under, announces or reports is the id interceptor's image of the id it was given or of a generated candidate.
-/
namespace ScVerif.C01
variable {M K R : Type}

/-- `Collection.Add` is `Update` with its two flags set, wherever the two options sit: prepended (what the code does) or
appended. -/
theorem C01_add_options (cat : K → K → K) (cfg : Cfg M K R) (s : CState M R) (id : String) (msg : M) (opts : List (WOpt M K)) :
    Coll.addO cat cfg s id msg opts = Coll.add cfg s id msg (computeWriteConfig cfg.ops cat opts) ∧
    Coll.addO cat cfg s id msg opts = Coll.updateO cat cfg s id msg (opts ++ [.expectAbsent, .createIfAbsent]) := by
  unfold Coll.addO Coll.updateO Coll.add
  rw [computeWriteConfig_add_front, computeWriteConfig_add_back]
  exact ⟨rfl, rfl⟩

/-- Flags are only ever set. -/
theorem C01_option_flags_sticky (ops : MsgOps M K) (cat : K → K → K) (pre post : List (WOpt M K)) :
    ((computeWriteConfig ops cat pre).expectAbsent = true → (computeWriteConfig ops cat (pre ++ post)).expectAbsent = true) ∧
    ((computeWriteConfig ops cat pre).createIfAbsent = true → (computeWriteConfig ops cat (pre ++ post)).createIfAbsent = true) ∧
    ((computeWriteConfig ops cat pre).genEmptyID = true → (computeWriteConfig ops cat (pre ++ post)).genEmptyID = true) ∧
    ((computeWriteConfig ops cat pre).nilWritable = true → (computeWriteConfig ops cat (pre ++ post)).nilWritable = true) := by
  rw [computeWriteConfig_append]
  exact foldl_flags_mono ops cat post _

/-- The update mask of a list: the LAST `WithUpdateMask(m)` decides, and every `WithMoreUpdateMask(k)` after it adds the
paths of `k` as given (`cat`), unless `m` is nil, which stays nil ("everything"); with no `WithUpdateMask` the mask is nil. -/
theorem C01_update_mask_options (ops : MsgOps M K) (cat : K → K → K) (pre post : List (WOpt M K)) (m : Option K)
    (hpost : ∀ o ∈ post, o.setsUpdateMask = false) :
    (computeWriteConfig ops cat (pre ++ .updateMask m :: post)).updateMask = moreMasks cat post m ∧
    (computeWriteConfig ops cat post).updateMask = none ∧
    moreMasks cat post none = none := by
  refine ⟨?_, ?_, moreMasks_none cat post⟩
  · rw [computeWriteConfig_append, List.foldl_cons, foldl_updateMask ops cat post hpost]
    rfl
  · exact (foldl_updateMask ops cat post hpost {}).trans (moreMasks_none cat post)

/-- The function-valued settings (expected check, before / after interceptor, created callback, id callback): the LAST
option of the kind decides, a nil function included (`WithCreatedCallback(nil)` after a callback switches it off again);
with no option of the kind the setting is off. -/
theorem C01_function_options_last_wins (ops : MsgOps M K) (cat : K → K → K) (k : FnSetting)
    (pre post : List (WOpt M K)) (hpost : ∀ o ∈ post, o.setsFn ≠ some k) :
    (∀ o, o.setsFn = some k →
      sameFn k (computeWriteConfig ops cat (pre ++ o :: post)) (applyW ops cat {} o)) ∧
    sameFn k (computeWriteConfig ops cat post) {} := by
  constructor
  · intro o ho
    rw [computeWriteConfig_append, List.foldl_cons]
    exact sameFn_trans k (foldl_keeps_fn ops cat k post hpost _) (applyW_sets_fn ops cat k _ _ o ho)
  · exact foldl_keeps_fn ops cat k post hpost _

/-- Read options are last-wins, independently for the mask and the include predicate. -/
theorem C01_read_options_last_wins (pre post : List (ROpt M K)) :
    (∀ m, (∀ o ∈ post, o.setsReadMask = false) →
      (computeReadConfig (pre ++ .readMask m :: post)).readMask = m) ∧
    (∀ f, (∀ o ∈ post, o.setsInclude = false) →
      (computeReadConfig (pre ++ .incl f :: post)).incl = f) := by
  constructor
  · intro m hp
    unfold computeReadConfig
    rw [List.foldl_append, List.foldl_cons,
      foldl_keeps applyR (·.readMask) _ (fun rr o ho => by cases o <;> first | rfl | cases ho) post hp]
    rfl
  · intro f hp
    unfold computeReadConfig
    rw [List.foldl_append, List.foldl_cons,
      foldl_keeps applyR (·.incl) _ (fun rr o ho => by cases o <;> first | rfl | cases ho) post hp]
    rfl

/-- `WithReadMask(nil)` after any options switches masking off. -/
theorem C01_nil_read_mask_reads_all (cfg : Cfg M K R) (s : CState M R) (v : VState M) (id : String)
    (pre : List (ROpt M K)) :
    Coll.getO cfg s id (pre ++ [.readMask none]) = (lookup s.items (icptId cfg id)).map (fun it => cfg.ops.filter none it.body) ∧
    Value.getO cfg v (pre ++ [.readMask none]) = v.value.map (cfg.ops.filter none) := by
  have h := (C01_read_options_last_wins (M := M) (K := K) pre []).1 none (by simp)
  unfold Coll.getO Value.getO Coll.get Value.get
  rw [h]
  exact ⟨rfl, rfl⟩

/-- List with any option list, on every reachable state: an entry is listed iff the LAST include predicate accepts the id
and the STORED message (not its masked projection), and what is listed is its projection by the LAST read mask. -/
theorem C01_list_options (cat : K → K → K) (cfg : Cfg M K R) (h : EqRefl cfg.ops) (records : List (String × M)) (rng : R)
    (ops : List (COpO M K))
    (pre post : List (ROpt M K)) (m : Option K) (f : Option (String → M → Bool))
    (hm : ∀ o ∈ post, o.setsReadMask = false) (hf : ∀ o ∈ post, o.setsInclude = false) :
    let s := (Coll.runO cat cfg (Coll.init cfg records rng) ops).2
    ((Coll.listIdsO cfg s (pre ++ .readMask m :: .incl f :: post)).map (·.1)).Pairwise (· < ·) ∧
    ∀ id v, (id, v) ∈ Coll.listIdsO cfg s (pre ++ .readMask m :: .incl f :: post) ↔
      ∃ it, lookup s.items id = some it ∧ (∀ p, f = some p → p id it.body = true) ∧ v = cfg.ops.filter m it.body := by
  intro s
  have h1 : (computeReadConfig (pre ++ .readMask m :: .incl f :: post)).readMask = m :=
    (C01_read_options_last_wins pre (.incl f :: post)).1 m (by
      intro o ho
      rcases List.mem_cons.mp ho with rfl | ho
      · rfl
      · exact hm o ho)
  have h2 : (computeReadConfig (pre ++ .readMask m :: .incl f :: post)).incl = f := by
    have := (C01_read_options_last_wins (pre ++ [.readMask m]) post).2 f hf
    simpa using this
  have hs := C01_list_sorted cfg h records rng (ops.map (compileOp cfg.ops cat))
    (computeReadConfig (pre ++ .readMask m :: .incl f :: post))
  rw [← runO_eq] at hs
  unfold Coll.listIdsO
  refine ⟨hs.1, ?_⟩
  intro id v
  rw [hs.2 id v]
  unfold excluded
  rw [h1, h2]
  constructor
  · rintro ⟨it, hl, hx, hv⟩
    refine ⟨it, hl, ?_, hv⟩
    intro p hp
    subst hp
    simpa using hx
  · rintro ⟨it, hl, hx, hv⟩
    refine ⟨it, hl, ?_, hv⟩
    cases f with
    | none => rfl
    | some p => simp [hx p rfl]

/-- Collection ⊑ map, on option lists. -/
theorem C01_collection_refines_opts (cat : K → K → K) (cfg : Cfg M K R) (h : EqRefl cfg.ops) (records : List (String × M)) (rng : R)
    (ops : List (COpO M K)) :
    Spec.Run cfg (abs (Coll.init cfg records rng)) (ops.map (compileOp cfg.ops cat))
      (Coll.runO cat cfg (Coll.init cfg records rng) ops).1
      (abs (Coll.runO cat cfg (Coll.init cfg records rng) ops).2) := by
  rw [runO_eq]
  exact run_refines cfg h _ _ (nodupKeys_init cfg records rng)

/-- Value ⊑ register, on option lists. -/
theorem C01_value_refines_opts (cat : K → K → K) (cfg : Cfg M K R) (h : EqRefl cfg.ops) (ops : List (VOpO M K)) (s : VState M) :
    Value.runO cat cfg s ops = Spec.vrun cfg s (ops.map (compileVOp cfg.ops cat)) := by
  rw [vrunO_eq, C01_value_refines cfg h]

/-- Which fields a write may touch: `WithAllFieldsWritable` anywhere in the list lifts the resource's restriction;
otherwise the writable fields are the resource's united with the masks of ALL `WithMoreWritableFields` options, wherever
they stand.  No other option has a say. -/
theorem C01_writable_options (cat : K → K → K) (cfg : Cfg M K R) (opts : List (WOpt M K)) :
    (fieldUpdater cfg (computeWriteConfig cfg.ops cat opts)).writable =
      if opts.any WOpt.isAllWritable then none
      else cfg.writable.map (fun w => cfg.ops.union w (moreWritableOf cfg.ops opts none)) := by
  have hf := foldl_writable cfg.ops cat opts ({} : WriteReq M K)
  unfold fieldUpdater computeWriteConfig
  simp only [hf.1, hf.2, Bool.false_or]
  cases opts.any WOpt.isAllWritable with
  | true => rfl
  | false => cases cfg.writable <;> rfl

/-- Delete acts on `icpt id`: it returns the message stored there, a successful delete of a present item emits exactly
one REMOVE of `icpt id`, and afterwards exactly that key is gone. -/
theorem C01_delete_intercepted (cfg : Cfg M K R) (h : EqRefl cfg.ops) (s : CState M R) (id : String)
    (wr : WriteReq M K) (hok : (Coll.delete cfg s id wr).1.err = none) :
    (Coll.delete cfg s id wr).1.val = (lookup s.items (icptId cfg id)).map (·.body) ∧
    (Coll.delete cfg s id wr).1.idCalls = [] ∧
    (∀ it, lookup s.items (icptId cfg id) = some it →
      ∃ t, (Coll.delete cfg s id wr).1.events =
        [{ id := icptId cfg id, time := t, kind := .remove, old := some it.body, new := none }]) ∧
    (lookup s.items (icptId cfg id) = none → (Coll.delete cfg s id wr).1.events = []) ∧
    ∀ k, lookup (Coll.delete cfg s id wr).2.items k = if k = icptId cfg id then none else lookup s.items k := by
  have ho := Coll.delete_attempt cfg s id wr
  generalize Coll.delete cfg s id wr = r at ho hok ⊢
  cases ho with
  | missing hl =>
    rw [hl]
    refine ⟨rfl, rfl, fun it hit => (nomatch hit), fun _ => rfl, fun k => ?_⟩
    show lookup s.items k = _
    by_cases hk : k = icptId cfg id
    · rw [if_pos hk, hk, hl]
    · rw [if_neg hk]
  | refused it c _ _ => cases hok
  | retry it _ _ hne => exact (sameItem_self_ne_false h hne).elim
  | removed it hl _ _ =>
    rw [hl]
    exact ⟨rfl, rfl, fun it' hit => by cases hit; exact ⟨_, rfl⟩, fun hn => (nomatch hn), fun k => lookup_eraseItem _ _ _⟩

/-- Every id in an output is an intercepted id, over any call sequence from any state; so is every new key. -/
theorem C01_ids_intercepted (cfg : Cfg M K R) (h : EqRefl cfg.ops) (ops : List (COp M K)) :
    ∀ s : CState M R,
      (∀ r ∈ (Coll.run cfg s ops).1, ∀ k ∈ resIds r, ∃ x, k = icptId cfg x) ∧
      (∀ k, lookup (Coll.run cfg s ops).2.items k ≠ none → lookup s.items k ≠ none ∨ ∃ x, k = icptId cfg x) := by
  induction ops with
  | nil => intro s; exact ⟨by simp [Coll.run_nil], fun k hk => Or.inl hk⟩
  | cons op ops ih =>
    intro s
    have hs := step_ids cfg h s op
    have hr := ih (Coll.step cfg s op).2
    rw [Coll.run_cons]
    refine ⟨?_, ?_⟩
    · intro r hmem
      rcases List.mem_cons.mp hmem with rfl | hmem
      · exact hs.1
      · exact hr.1 r hmem
    · intro k hk
      rcases hr.2 k hk with h1 | h1
      · exact hs.2 k h1
      · exact Or.inr h1

/-- Update/Add: the id of the one event of a successful call, the id reported through the id callback and the key the new
message is stored under are ONE id: the interceptor's image of the id given or of a non-empty generated candidate. -/
theorem C01_update_intercepted (cfg : Cfg M K R) (h : EqRefl cfg.ops) (s : CState M R) (id : String) (msg : M)
    (wr : WriteReq M K) (hok : (Coll.update cfg s id msg wr).1.err = none) :
    ∃ id' new t kind old,
      (id' = icptId cfg id ∨ ∃ cand, cand ≠ "" ∧ id' = icptId cfg cand) ∧
      (Coll.update cfg s id msg wr).1.val = some new ∧
      (Coll.update cfg s id msg wr).1.events = [{ id := id', time := t, kind := kind, old := old, new := some new }] ∧
      (∀ k ∈ (Coll.update cfg s id msg wr).1.idCalls, k = id') ∧
      (lookup (Coll.update cfg s id msg wr).2.items id').map (·.body) = some new ∧
      ∀ k, k ≠ id' → lookup (Coll.update cfg s id msg wr).2.items k = lookup s.items k := by
  rcases coll_update_shape cfg h s id msg wr with
    ⟨c, calls, n, t1, ho, _⟩ | ⟨id1, calls, t1, old, new, n, hr, _, ho, hm⟩
  · rw [ho] at hok; cases hok
  · rw [ho, commit_out]
    refine ⟨id1, new, _, _, old, hr.idOf.1, rfl, rfl, hr.idOf.2, ?_, fun k hk => ?_⟩
    · rw [hm, commit_m, if_pos rfl]; rfl
    · rw [hm, commit_m, if_neg hk, hr.m_eq.1]; rfl

/-- Read your writes, for ANY interceptor (no idempotence needed when the id is given, not generated). -/
theorem C01_read_your_writes (cfg : Cfg M K R) (h : EqRefl cfg.ops) (s : CState M R) (id : String) (msg : M)
    (wr : WriteReq M K) (ro : ReadReq M K) :
    ((Coll.update cfg s id msg wr).1.err = none → (idAbsent cfg id && wr.genEmptyID) = false →
      ∃ new, (Coll.update cfg s id msg wr).1.val = some new ∧
        Coll.get cfg (Coll.update cfg s id msg wr).2 id ro = some (cfg.ops.filter ro.readMask new)) ∧
    ((Coll.delete cfg s id wr).1.err = none → Coll.get cfg (Coll.delete cfg s id wr).2 id ro = none) := by
  constructor
  · intro hok hgen
    rcases coll_update_shape cfg h s id msg wr with
      ⟨c, calls, n, t1, ho, _⟩ | ⟨id1, calls, t1, old, new, n, hr, _, ho, hm⟩
    · rw [ho] at hok; cases hok
    · refine ⟨new, by rw [ho, commit_out], ?_⟩
      -- the id was not generated: the item is stored under the interceptor's image of the given id
      exact Coll.get_some cfg _ id ro _ (by rw [← (hr.given hgen).1, hm, commit_m, if_pos rfl])
  · intro hok
    have hk := (C01_delete_intercepted cfg h s id wr hok).2.2.2.2 (icptId cfg id)
    exact Coll.get_none cfg _ id ro (by rw [hk, if_pos rfl])

/-- A generated id is usable for a later UPDATE (`C01_genid_interceptor`: Get and Delete): under an idempotent,
non-emptiness-preserving id interceptor a later `Update id'` is an update OF THE ITEM JUST CREATED: it sees the created
message, never answers NotFound, never generates another id. -/
theorem C01_genid_usable_update (cfg : Cfg M K R) (h : EqRefl cfg.ops) (s : CState M R) (id : String) (msg : M)
    (wr : WriteReq M K)
    (hidem : ∀ x, icptId cfg (icptId cfg x) = icptId cfg x)
    (hne : ∀ x, x ≠ "" → icptId cfg x ≠ "")
    (hgen : idAbsent cfg id = true ∧ wr.genEmptyID = true)
    (hok : (Coll.update cfg s id msg wr).1.err = none)
    (msg2 : M) (wr2 : WriteReq M K) (hxa : wr2.expectAbsent = false)
    (hv : cfg.ops.validate (fieldUpdater cfg wr2) msg2 = none) :
    ∃ id' new,
      (Coll.update cfg s id msg wr).1.val = some new ∧
      (Coll.update cfg s id msg wr).1.idCalls = (if wr.idCb then [id'] else []) ∧
      (Coll.update cfg (Coll.update cfg s id msg wr).2 id' msg2 wr2).1.idCalls = [] ∧
      match Spec.newValue cfg.ops wr2 (fieldUpdater cfg wr2) msg2 (some new) new with
      | .error c => (Coll.update cfg (Coll.update cfg s id msg wr).2 id' msg2 wr2).1.err = some c
      | .ok new2 =>
        (Coll.update cfg (Coll.update cfg s id msg wr).2 id' msg2 wr2).1.val = some new2 ∧
        ∃ t, (Coll.update cfg (Coll.update cfg s id msg wr).2 id' msg2 wr2).1.events =
          [{ id := id', time := t, kind := .update, old := some new, new := some new2 }] := by
  obtain ⟨id', new, h1, _, _, h4, h5, _, cand, hc1, hc2⟩ := C01_genid cfg h s id msg wr hgen hok
  have hfix : icptId cfg id' = id' := by rw [hc2]; exact hidem cand
  have hne' : id' ≠ "" := by rw [hc2]; exact hne cand hc1
  refine ⟨id', new, h1, h4, ?_⟩
  generalize (Coll.update cfg s id msg wr).2 = s1 at h5 ⊢
  rw [(coll_update_eq cfg h s1 id' msg2 wr2).1]
  have hg : (idAbsent cfg id' && wr2.genEmptyID) = false := by simp [idAbsent, hfix, hne']
  cases hl : lookup s1.items id' with
  | none => rw [hl] at h5; cases h5
  | some it =>
    rw [hl] at h5
    cases h5
    -- the second call names an id, finds the item and may update it: the reference goes straight to the change
    have habs : (abs s1).m id' = some it := hl
    simp only [Spec.update, hv, hg, hfix, habs, hxa, Bool.false_eq_true, ↓reduceIte]
    cases Spec.newValue cfg.ops wr2 (fieldUpdater cfg wr2) msg2 (some it.body) it.body with
    | error c => exact ⟨rfl, rfl⟩
    | ok new2 => rw [commit_out]; exact ⟨rfl, rfl, _, rfl⟩

/-- `EmptyWriteOption` / `EmptyReadOption` (and, for Get/List, the Pull-only read options) mean nothing, wherever they
stand. -/
theorem C01_empty_options (ops : MsgOps M K) (cat : K → K → K) (wopts : List (WOpt M K)) (ropts : List (ROpt M K)) :
    computeWriteConfig ops cat (wopts.filter (fun o => !o.isEmpty)) = computeWriteConfig ops cat wopts ∧
    computeReadConfig (ropts.filter (fun o => !o.isOther)) = computeReadConfig ropts := by
  constructor
  · exact foldl_filter_neutral _ _ (fun wr o ho => by cases o <;> first | rfl | cases ho) _ _
  · exact foldl_filter_neutral _ _ (fun rr o ho => by cases o <;> first | rfl | cases ho) _ _

/-- order matters, as in the code: a nil mask after a mask reads everything, a mask after a nil mask
masks; `WithMoreUpdateMask` before the mask it would extend is lost, after it it extends -/
example :
    (computeReadConfig ([.readMask (some [Field.a]), .readMask none] : List (ROpt Msg Mask))).readMask = none ∧
    (computeReadConfig ([.readMask none, .readMask (some [Field.a])] : List (ROpt Msg Mask))).readMask = some [Field.a] ∧
    (computeWriteConfig flatOps (· ++ ·) ([.moreUpdateMask [.s], .updateMask (some [.a])] : List (WOpt Msg Mask))).updateMask = some [.a] ∧
    (computeWriteConfig flatOps (· ++ ·) ([.updateMask (some [.a]), .moreUpdateMask [.s]] : List (WOpt Msg Mask))).updateMask = some [.a, .s] ∧
    (computeWriteConfig flatOps (· ++ ·) ([.moreUpdateMask [.s]] : List (WOpt Msg Mask))).updateMask = none ∧
    (computeWriteConfig flatOps (· ++ ·) ([.allowMissing true, .allowMissing false] : List (WOpt Msg Mask))).allowMissing = false := by
  decide

def oCfg0 : Cfg Msg Mask (List Nat) := { ops := flatOps, gen := flatGen }

/-- callbacks can be switched off again and on again; a check replaced by nil no longer fails the call -/
example :
    (computeWriteConfig flatOps (· ++ ·) ([.createdCallback, .noCreatedCallback] : List (WOpt Msg Mask))).createdCb = false ∧
    (computeWriteConfig flatOps (· ++ ·) ([.noIDCallback, .idCallback, .writeTime 3] : List (WOpt Msg Mask))).idCb = true ∧
    (computeWriteConfig flatOps (· ++ ·) ([.expectedCheck (fun _ => some .aborted), .noExpectedCheck] : List (WOpt Msg Mask))).expectedCheck.isNone = true ∧
    (Coll.addO (· ++ ·) oCfg0 (Coll.init oCfg0 [] []) "a" { a := 1, s := "", c := none }
      [.expectedCheck (fun _ => some .aborted), .createdCallback, .noExpectedCheck]).1.err = none ∧
    (Coll.addO (· ++ ·) oCfg0 (Coll.init oCfg0 [] []) "a" { a := 1, s := "", c := none }
      [.expectedCheck (fun _ => some .aborted), .createdCallback, .noExpectedCheck]).1.createdCalls = 1 := by
  decide

def oCfg : Cfg Msg Mask (List Nat) := { ops := flatOps, gen := flatGen, icpt := some lowerStr }

/-- a run on option lists under the lower-casing interceptor: create with a prefix of an option list,
update with the whole list, masked get then unmasked get, delete through another spelling of the id -/
def oScript : List (COpO Msg Mask) :=
  [ .add "A" { a := 1, s := "x", c := none } [.updateMask (some [.a])],
    .update "a" { a := 2, s := "y", c := none } [.updateMask (some [.a]), .moreUpdateMask [.s]],
    .get "A" [.readMask (some [.a]), .readMask none],
    .delete "A" [.allowMissing true, .allowMissing false],
    .delete "a" [.allowMissing true, .allowMissing false] ]

def oShow : CRes Msg → Option (Option Msg) × Option Code × List String
  | .got v => (some v, none, [])
  | .wrote o => (some o.val, o.err, o.events.map (·.id))
  | .listed _ => (none, none, [])

example : (Coll.runO (· ++ ·) oCfg (Coll.init oCfg [] []) oScript).1.map oShow =
    [ (some (some { a := 1, s := "", c := none }), none, ["a"]),
      (some (some { a := 2, s := "y", c := none }), none, ["a"]),
      (some (some { a := 2, s := "y", c := none }), none, []),
      (some (some { a := 2, s := "y", c := none }), none, ["a"]),
      (some none, some .notFound, []) ] := by decide +kernel

end ScVerif.C01
