/-!
# C01 — the path strings of a field mask (`pkg/masks/paths.go`, `isWritablePath` of `update.go`)

Every update mask, reset mask, writable-fields mask and read mask of `Value`/`Collection` goes through
`masks.nestedMask`, whose pre-pass `withoutNestedPaths` decides FROM THE PATH STRINGS which paths lie
inside another path of the list; `FieldUpdater.Validate` decides the same way (`isWritablePath`) whether
an update path lies inside a writable path.  Both tests are `strings.HasPrefix(p, q+".")`.

A path string is a `List Char` here (the driver converts); `join` builds the string of a list of segments (field
names).
-/
namespace ScVerif.C01.Paths

abbrev Path := List Char
abbrev Seg := List Char

/-- `strings.HasPrefix(p, q+".")`: the test of `withoutNestedPaths` and `isWritablePath` -/
def inside (p q : Path) : Bool := (q ++ ['.']).isPrefixOf p

/-- `withoutNestedPaths(paths)`: for each `p` in order, `nested := ∃ q ∈ paths, HasPrefix(p, q+".")`;
`p` is appended to the result unless nested. -/
def withoutNestedPaths (paths : List Path) : List Path :=
  paths.filter (fun p => !paths.any (fun q => inside p q))

/-- `isWritablePath(path, writable)` -/
def isWritablePath (path : Path) (writable : List Path) : Bool :=
  writable.any (fun w => path == w || inside path w)

/-- what `fmutils.NestedMaskFromPaths(withoutNestedPaths(paths))` selects, leaf by leaf: a leaf field is
selected (kept by `Filter`, cleared by `Prune`) iff one of the remaining paths is the leaf's own path or a
path the leaf lies inside.  (fmutils builds a tree of the paths; with no path inside another one left, the
leaves of that tree are the paths.) -/
def selects (paths : List Path) (leaf : Path) : Bool :=
  (withoutNestedPaths paths).any (fun p => leaf == p || inside leaf p)

/-- the variant that compares lengths and tests a bare prefix (no `.`): what the test must NOT be -/
def insideBare (p q : Path) : Bool := decide (q.length < p.length) && q.isPrefixOf p

def withoutNestedPathsBare (paths : List Path) : List Path :=
  paths.filter (fun p => !paths.any (fun q => insideBare p q))

/-- `.s1.s2…` -/
def tailJoin (segs : List Seg) : Path := segs.flatMap (fun s => '.' :: s)

/-- the path string of a list of segments: `s0.s1.s2…` (the empty list gives the empty string) -/
def join : List Seg → Path
  | [] => []
  | s :: rest => s ++ tailJoin rest

def DotFree (segs : List Seg) : Prop := ∀ s ∈ segs, '.' ∉ s

/-- `qs` is a proper prefix of `ps`, as lists of segments -/
def ProperPrefix (qs ps : List Seg) : Prop := ∃ r, r ≠ [] ∧ ps = qs ++ r

instance (qs ps : List Seg) : Decidable (ProperPrefix qs ps) :=
  decidable_of_iff (qs.isPrefixOf ps = true ∧ qs.length < ps.length) (by
    rw [List.isPrefixOf_iff_prefix]
    constructor
    · rintro ⟨⟨r, rfl⟩, hl⟩
      refine ⟨r, ?_, rfl⟩
      rintro rfl
      simp at hl
    · rintro ⟨r, hr, rfl⟩
      refine ⟨⟨r, rfl⟩, ?_⟩
      cases r with
      | nil => exact absurd rfl hr
      | cons a l => simp)

end ScVerif.C01.Paths
