import ScVerif.C01.Outcome
/-! Which ids a call can store under, announce and report: the id interceptor's image of the id it was
given, or of a non-empty generated candidate. -/
namespace ScVerif.C01
variable {M K R : Type}

/-- `k` is the interceptor's image of the given id, or of a non-empty generated candidate -/
def IdOf (cfg : Cfg M K R) (id k : String) : Prop :=
  k = icptId cfg id ∨ ∃ cand, cand ≠ "" ∧ k = icptId cfg cand

theorem IdOf.image {cfg : Cfg M K R} {id k : String} (h : IdOf cfg id k) : ∃ x, k = icptId cfg x := by
  rcases h with h | ⟨c, _, h⟩
  · exact ⟨id, h⟩
  · exact ⟨c, h⟩

theorem Resolved.idOf {cfg : Cfg M K R} {t : SState M R} {id : String} {wr : WriteReq M K} {id1 calls t1}
    (h : Resolved cfg t id wr id1 calls t1) : IdOf cfg id id1 ∧ ∀ k ∈ calls, k = id1 := by
  rcases h with ⟨_, e, ec, _⟩ | ⟨_, rng', hg, ec, _⟩
  · subst ec; exact ⟨Or.inl e, by simp⟩
  · refine ⟨Or.inr (genID_some cfg _ _ _ _ hg).2, ?_⟩
    subst ec
    cases wr.idCb <;> simp

theorem update_ids (cfg : Cfg M K R) (h : EqRefl cfg.ops) (s : CState M R) (id : String) (msg : M)
    (wr : WriteReq M K) :
    (∀ e ∈ (Coll.update cfg s id msg wr).1.events, IdOf cfg id e.id) ∧
    (∀ k ∈ (Coll.update cfg s id msg wr).1.idCalls, IdOf cfg id k) ∧
    (∀ k, lookup (Coll.update cfg s id msg wr).2.items k ≠ none → lookup s.items k ≠ none ∨ IdOf cfg id k) := by
  rcases coll_update_shape cfg h s id msg wr with
    ⟨c, calls, n, t1, ho, hm, _, hcalls⟩ | ⟨id1, calls, t1, old, new, n, hr, _, ho, hm⟩
  · rw [ho, hm]
    refine ⟨fun e he => (nomatch he), ?_, fun k hk => Or.inl hk⟩
    rcases hcalls with rfl | ⟨id1, hr⟩
    · exact fun k hk => nomatch hk
    · exact fun k hk => by rw [hr.idOf.2 k hk]; exact hr.idOf.1
  · rw [ho, commit_out]
    refine ⟨?_, fun k hk => by rw [hr.idOf.2 k hk]; exact hr.idOf.1, ?_⟩
    · intro e he
      rw [List.mem_singleton.mp he]
      exact hr.idOf.1
    · intro k hk
      rw [hm, commit_m] at hk
      by_cases hkid : k = id1
      · rw [hkid]; exact Or.inr hr.idOf.1
      · rw [if_neg hkid, hr.m_eq.1] at hk
        exact Or.inl hk

/-- the ids a result carries: event ids and id-callback invocations -/
def resIds : CRes M → List String
  | .wrote o => o.events.map (·.id) ++ o.idCalls
  | _ => []

theorem step_ids (cfg : Cfg M K R) (h : EqRefl cfg.ops) (s : CState M R) (op : COp M K) :
    (∀ k ∈ resIds (Coll.step cfg s op).1, ∃ x, k = icptId cfg x) ∧
    (∀ k, lookup (Coll.step cfg s op).2.items k ≠ none → lookup s.items k ≠ none ∨ ∃ x, k = icptId cfg x) := by
  have upd : ∀ id msg wr,
      (∀ k ∈ resIds (CRes.wrote (Coll.update cfg s id msg wr).1), ∃ x, k = icptId cfg x) ∧
      (∀ k, lookup (Coll.update cfg s id msg wr).2.items k ≠ none →
        lookup s.items k ≠ none ∨ ∃ x, k = icptId cfg x) := by
    intro id msg wr
    have hu := update_ids cfg h s id msg wr
    refine ⟨?_, fun k hk => (hu.2.2 k hk).imp (fun x => x) IdOf.image⟩
    intro k hk
    simp only [resIds, List.mem_append, List.mem_map] at hk
    rcases hk with ⟨e, he, rfl⟩ | hk
    · exact (hu.1 e he).image
    · exact (hu.2.1 k hk).image
  cases op with
  | get id ro => exact ⟨by simp [Coll.step, resIds], fun k hk => Or.inl hk⟩
  | list ro => exact ⟨by simp [Coll.step, resIds], fun k hk => Or.inl hk⟩
  | update id msg wr => exact upd id msg wr
  | add id msg wr => exact upd id msg _
  | delete id wr =>
    have ho := Coll.delete_attempt cfg s id wr
    simp only [Coll.step]
    generalize Coll.delete cfg s id wr = r at ho ⊢
    cases ho with
    | missing _ => exact ⟨fun k hk => (nomatch hk), fun k hk => Or.inl hk⟩
    | refused it c _ _ => exact ⟨fun k hk => (nomatch hk), fun k hk => Or.inl hk⟩
    | retry it _ _ hne => exact (sameItem_self_ne_false h hne).elim
    | removed it _ _ _ =>
      refine ⟨fun k hk => ⟨id, by simpa [resIds] using hk⟩, fun k hk => Or.inl ?_⟩
      rw [lookup_eraseItem] at hk
      split at hk
      · exact absurd rfl hk
      · exact hk

end ScVerif.C01
