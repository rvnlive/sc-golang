import ScVerif.C01.ListLemmas
/-! Inversion of the reference `Spec.update`: the eight ways a call can end, and the two shapes (failure / commit under the
resolved id) in which most theorems use it. -/
namespace ScVerif.C01
variable {M K R : Type}

/-- How the id of an `Update` is resolved: as given (after the id interceptor), or generated. -/
def Resolved (cfg : Cfg M K R) (t : SState M R) (id : String) (wr : WriteReq M K)
    (id1 : String) (calls : List String) (t1 : SState M R) : Prop :=
  ((idAbsent cfg id && wr.genEmptyID) = false ∧ id1 = icptId cfg id ∧ calls = [] ∧ t1 = t) ∨
  ((idAbsent cfg id && wr.genEmptyID) = true ∧
    ∃ rng', genID cfg (fun k => (t.m k).isSome) t.rng = (some id1, rng') ∧
      calls = (if wr.idCb then [id1] else []) ∧ t1 = { t with rng := rng' })

theorem Resolved.m_eq {cfg : Cfg M K R} {t : SState M R} {id : String} {wr : WriteReq M K} {id1 calls t1}
    (h : Resolved cfg t id wr id1 calls t1) : t1.m = t.m ∧ t1.clock = t.clock := by
  rcases h with ⟨_, _, _, e⟩ | ⟨_, rng', _, _, e⟩ <;> subst e <;> exact ⟨rfl, rfl⟩

theorem Resolved.given {cfg : Cfg M K R} {t : SState M R} {id : String} {wr : WriteReq M K} {id1 calls t1}
    (h : Resolved cfg t id wr id1 calls t1) (hg : (idAbsent cfg id && wr.genEmptyID) = false) :
    id1 = icptId cfg id ∧ calls = [] ∧ t1 = t := by
  rcases h with ⟨_, h⟩ | ⟨hg', _⟩
  · exact h
  · rw [hg] at hg'; cases hg'

theorem Resolved.generated {cfg : Cfg M K R} {t : SState M R} {id : String} {wr : WriteReq M K} {id1 calls t1}
    (h : Resolved cfg t id wr id1 calls t1) (hg : (idAbsent cfg id && wr.genEmptyID) = true) :
    ∃ rng', genID cfg (fun k => (t.m k).isSome) t.rng = (some id1, rng') ∧
      calls = (if wr.idCb then [id1] else []) ∧ t1 = { t with rng := rng' } := by
  rcases h with ⟨hg', _⟩ | ⟨_, h⟩
  · rw [hg] at hg'; cases hg'
  · exact h

theorem Resolved.fresh {cfg : Cfg M K R} {t : SState M R} {id : String} {wr : WriteReq M K} {id1 calls t1}
    (h : Resolved cfg t id wr id1 calls t1) (hg : (idAbsent cfg id && wr.genEmptyID) = true) : t.m id1 = none := by
  obtain ⟨rng', hgn, _⟩ := h.generated hg
  exact Option.not_isSome_iff_eq_none.mp (by rw [(genID_some cfg _ _ _ _ hgn).1]; exact Bool.false_ne_true)

/-- The eight ways an `Update` of the reference ends, each with what decided it: six fail (`failOut`); `updated` and
`created` are `commit` on an item found resp. created. -/
inductive UpdOutcome (cfg : Cfg M K R) (t : SState M R) (id : String) (msg : M) (wr : WriteReq M K) :
    COut M × SState M R → Prop
  | invalid (c : Code) : cfg.ops.validate (fieldUpdater cfg wr) msg = some c →
      UpdOutcome cfg t id msg wr (failOut c [] 0, t)
  | exhausted (rng' : R) : cfg.ops.validate (fieldUpdater cfg wr) msg = none →
      (idAbsent cfg id && wr.genEmptyID) = true →
      genID cfg (fun k => (t.m k).isSome) t.rng = (none, rng') →
      UpdOutcome cfg t id msg wr (failOut .aborted [] 0, { t with rng := rng' })
  | alreadyExists (id1 calls t1) (it : Item M) : cfg.ops.validate (fieldUpdater cfg wr) msg = none →
      Resolved cfg t id wr id1 calls t1 → t.m id1 = some it → wr.expectAbsent = true →
      UpdOutcome cfg t id msg wr (failOut .alreadyExists calls 0, t1)
  | precondition (id1 calls t1) (it : Item M) (c : Code) : cfg.ops.validate (fieldUpdater cfg wr) msg = none →
      Resolved cfg t id wr id1 calls t1 → t.m id1 = some it → wr.expectAbsent = false →
      Spec.newValue cfg.ops wr (fieldUpdater cfg wr) msg (some it.body) it.body = .error c →
      UpdOutcome cfg t id msg wr (failOut c calls 0, t1)
  | updated (id1 calls t1) (it : Item M) (new : M) : cfg.ops.validate (fieldUpdater cfg wr) msg = none →
      Resolved cfg t id wr id1 calls t1 → t.m id1 = some it → wr.expectAbsent = false →
      Spec.newValue cfg.ops wr (fieldUpdater cfg wr) msg (some it.body) it.body = .ok new →
      UpdOutcome cfg t id msg wr (Spec.commit cfg wr t1 id1 (some it.body) new calls 0)
  | notFound (id1 calls t1) : cfg.ops.validate (fieldUpdater cfg wr) msg = none →
      Resolved cfg t id wr id1 calls t1 → t.m id1 = none → wr.createIfAbsent = false →
      UpdOutcome cfg t id msg wr (failOut .notFound calls 0, t1)
  | createFailed (id1 calls t1) (c : Code) : cfg.ops.validate (fieldUpdater cfg wr) msg = none →
      Resolved cfg t id wr id1 calls t1 → t.m id1 = none → wr.createIfAbsent = true →
      Spec.newValue cfg.ops wr (fieldUpdater cfg wr) msg (some cfg.ops.zero) cfg.ops.zero = .error c →
      UpdOutcome cfg t id msg wr (failOut c calls (if wr.createdCb then 1 else 0), t1)
  | created (id1 calls t1) (new : M) : cfg.ops.validate (fieldUpdater cfg wr) msg = none →
      Resolved cfg t id wr id1 calls t1 → t.m id1 = none → wr.createIfAbsent = true →
      Spec.newValue cfg.ops wr (fieldUpdater cfg wr) msg (some cfg.ops.zero) cfg.ops.zero = .ok new →
      UpdOutcome cfg t id msg wr (Spec.commit cfg wr t1 id1 none new calls (if wr.createdCb then 1 else 0))

theorem ite_eq_cases {α : Type} {c : Prop} [Decidable c] {a b x : α} (h : (if c then a else b) = x) :
    a = x ∨ b = x := by
  split at h
  · exact Or.inl h
  · exact Or.inr h

theorem newValue_error (ops : MsgOps M K) (wr : WriteReq M K) (u : Upd K) (msg : M) (old : Option M) (base : M)
    (c : Code) (hn : Spec.newValue ops wr u msg old base = .error c) :
    c = .failedPrecondition ∨ ∃ chk, wr.expectedCheck = some chk ∧ chk old = some c := by
  unfold Spec.newValue at hn
  rcases ite_eq_cases hn with h | h
  · cases h; exact Or.inl rfl
  · right
    cases hchk : wr.expectedCheck with
    | none => rw [hchk] at h; cases h
    | some chk =>
      rw [hchk] at h
      dsimp only at h
      cases hco : chk old with
      | none => rw [hco] at h; cases h
      | some c' => rw [hco] at h; cases h; exact ⟨chk, rfl, hco⟩

theorem spec_update_outcome (cfg : Cfg M K R) (t : SState M R) (id : String) (msg : M) (wr : WriteReq M K) :
    UpdOutcome cfg t id msg wr (Spec.update cfg t id msg wr) := by
  unfold Spec.update
  simp only []
  cases hv : cfg.ops.validate (fieldUpdater cfg wr) msg with
  | some c => exact UpdOutcome.invalid c hv
  | none =>
    simp only []
    -- after resolution the rest is the same for both ways of resolving
    have rest : ∀ id1 calls t1, Resolved cfg t id wr id1 calls t1 →
        UpdOutcome cfg t id msg wr
          (match t1.m id1 with
           | some it =>
             if wr.expectAbsent then (failOut .alreadyExists calls 0, t1)
             else
               match Spec.newValue cfg.ops wr (fieldUpdater cfg wr) msg (some it.body) it.body with
               | .error c => (failOut c calls 0, t1)
               | .ok new => Spec.commit cfg wr t1 id1 (some it.body) new calls 0
           | none =>
             if !wr.createIfAbsent then (failOut .notFound calls 0, t1)
             else
               match Spec.newValue cfg.ops wr (fieldUpdater cfg wr) msg (some cfg.ops.zero) cfg.ops.zero with
               | .error c => (failOut c calls (if wr.createdCb then 1 else 0), t1)
               | .ok new => Spec.commit cfg wr t1 id1 none new calls (if wr.createdCb then 1 else 0)) := by
      intro id1 calls t1 hr
      have hm : t1.m id1 = t.m id1 := by rw [hr.m_eq.1]
      rw [hm]
      cases hl : t.m id1 with
      | some it =>
        simp only []
        cases hxa : wr.expectAbsent with
        | true => simpa using UpdOutcome.alreadyExists id1 calls t1 it hv hr hl hxa
        | false =>
          simp only [Bool.false_eq_true, ↓reduceIte]
          cases hn : Spec.newValue cfg.ops wr (fieldUpdater cfg wr) msg (some it.body) it.body with
          | error c => exact UpdOutcome.precondition id1 calls t1 it c hv hr hl hxa hn
          | ok new => exact UpdOutcome.updated id1 calls t1 it new hv hr hl hxa hn
      | none =>
        simp only []
        cases hcia : wr.createIfAbsent with
        | false => simpa using UpdOutcome.notFound id1 calls t1 hv hr hl hcia
        | true =>
          simp only [Bool.not_true, Bool.false_eq_true, ↓reduceIte]
          cases hn : Spec.newValue cfg.ops wr (fieldUpdater cfg wr) msg (some cfg.ops.zero) cfg.ops.zero with
          | error c => exact UpdOutcome.createFailed id1 calls t1 c hv hr hl hcia hn
          | ok new => exact UpdOutcome.created id1 calls t1 new hv hr hl hcia hn
    cases hg : (idAbsent cfg id && wr.genEmptyID) with
    | false =>
      simp only [Bool.false_eq_true, ↓reduceIte]
      exact rest _ _ _ (Or.inl ⟨hg, rfl, rfl, rfl⟩)
    | true =>
      simp only [↓reduceIte]
      rcases hgen : genID cfg (fun k => (t.m k).isSome) t.rng with ⟨r, rng'⟩
      cases r with
      | none => exact UpdOutcome.exhausted rng' hv hg hgen
      | some id1 => exact rest _ _ _ (Or.inr ⟨hg, rng', hgen, rfl, rfl⟩)

theorem spec_commit_eq (cfg : Cfg M K R) (wr : WriteReq M K) (t : SState M R) (id : String) (old : Option M)
    (new : M) (calls : List String) (cc : Nat) :
    Spec.commit cfg wr t id old new calls cc =
      ({ val := some new, err := none,
         events := [{ id := id, time := wr.writeTime.getD (t.clock + cfg.tick),
                      kind := if old.isNone then .add else .update, old := old, new := some new }],
         idCalls := calls, createdCalls := cc },
       { m := fun k => if k = id then some { body := new, time := wr.writeTime.getD t.clock } else t.m k,
         clock := (match wr.writeTime with | some _ => t.clock | none => t.clock + cfg.tick + cfg.tick),
         rng := t.rng }) := by
  unfold Spec.commit
  cases wr.writeTime <;> rfl

theorem commit_out (cfg : Cfg M K R) (wr : WriteReq M K) (t : SState M R) (id : String) (old : Option M) (new : M)
    (idCalls : List String) (created : Nat) :
    (Spec.commit cfg wr t id old new idCalls created).1 =
      { val := some new, err := none,
        events := [{ id := id, time := wr.writeTime.getD (t.clock + cfg.tick),
                     kind := if old.isNone then .add else .update, old := old, new := some new }],
        idCalls := idCalls, createdCalls := created } := by
  rw [spec_commit_eq]

theorem commit_m (cfg : Cfg M K R) (wr : WriteReq M K) (t : SState M R) (id : String) (old : Option M) (new : M)
    (idCalls : List String) (created : Nat) (k : String) :
    (Spec.commit cfg wr t id old new idCalls created).2.m k =
      if k = id then some { body := new, time := wr.writeTime.getD t.clock } else t.m k := by
  rw [spec_commit_eq]

/-- failure: contents and clock alone, at most the resolved id reported | `commit` under the resolved id on the message
stored there (none whenever absence was expected) -/
theorem UpdOutcome.shape {cfg : Cfg M K R} {t : SState M R} {id : String} {msg : M} {wr : WriteReq M K}
    {r : COut M × SState M R} (h : UpdOutcome cfg t id msg wr r) :
    (∃ c calls n t1, r = (failOut c calls n, t1) ∧ t1.m = t.m ∧ t1.clock = t.clock ∧
      (calls = [] ∨ ∃ id1, Resolved cfg t id wr id1 calls t1)) ∨
    (∃ id1 calls t1 new n, Resolved cfg t id wr id1 calls t1 ∧ (wr.expectAbsent = true → t.m id1 = none) ∧
      r = Spec.commit cfg wr t1 id1 ((t.m id1).map (·.body)) new calls n) := by
  cases h with
  | invalid c _ => exact Or.inl ⟨c, [], 0, t, rfl, rfl, rfl, Or.inl rfl⟩
  | exhausted rng' _ _ _ => exact Or.inl ⟨.aborted, [], 0, _, rfl, rfl, rfl, Or.inl rfl⟩
  | alreadyExists id1 calls t1 it _ hr _ _ => exact Or.inl ⟨_, calls, _, t1, rfl, hr.m_eq.1, hr.m_eq.2, Or.inr ⟨id1, hr⟩⟩
  | precondition id1 calls t1 it c _ hr _ _ _ => exact Or.inl ⟨_, calls, _, t1, rfl, hr.m_eq.1, hr.m_eq.2, Or.inr ⟨id1, hr⟩⟩
  | notFound id1 calls t1 _ hr _ _ => exact Or.inl ⟨_, calls, _, t1, rfl, hr.m_eq.1, hr.m_eq.2, Or.inr ⟨id1, hr⟩⟩
  | createFailed id1 calls t1 c _ hr _ _ _ => exact Or.inl ⟨_, calls, _, t1, rfl, hr.m_eq.1, hr.m_eq.2, Or.inr ⟨id1, hr⟩⟩
  | updated id1 calls t1 it new _ hr hl hx _ =>
    exact Or.inr ⟨id1, calls, t1, new, 0, hr, fun h => (by rw [hx] at h; cases h), by rw [hl]; rfl⟩
  | created id1 calls t1 new _ hr hl _ _ => exact Or.inr ⟨id1, calls, t1, new, _, hr, fun _ => hl, by rw [hl]; rfl⟩

theorem coll_update_shape (cfg : Cfg M K R) (h : EqRefl cfg.ops) (s : CState M R) (id : String) (msg : M)
    (wr : WriteReq M K) :
    (∃ c calls n t1, (Coll.update cfg s id msg wr).1 = failOut c calls n ∧
      lookup (Coll.update cfg s id msg wr).2.items = lookup s.items ∧
      (Coll.update cfg s id msg wr).2.clock = s.clock ∧
      (calls = [] ∨ ∃ id1, Resolved cfg (abs s) id wr id1 calls t1)) ∨
    (∃ id1 calls t1 old new n, Resolved cfg (abs s) id wr id1 calls t1 ∧
      old = (lookup s.items id1).map (·.body) ∧
      (Coll.update cfg s id msg wr).1 = (Spec.commit cfg wr t1 id1 old new calls n).1 ∧
      ∀ k, lookup (Coll.update cfg s id msg wr).2.items k = (Spec.commit cfg wr t1 id1 old new calls n).2.m k) := by
  have he := coll_update_eq cfg h s id msg wr
  have hm : lookup (Coll.update cfg s id msg wr).2.items = (abs (Coll.update cfg s id msg wr).2).m := rfl
  have hc : (Coll.update cfg s id msg wr).2.clock = (abs (Coll.update cfg s id msg wr).2).clock := rfl
  rw [hm, hc, he.1, he.2]
  rcases (spec_update_outcome cfg (abs s) id msg wr).shape with
    ⟨c, calls, n, t1, e, h1, h2, h3⟩ | ⟨id1, calls, t1, new, n, hr, _, e⟩ <;> rw [e]
  · exact Or.inl ⟨c, calls, n, t1, rfl, h1, h2, h3⟩
  · exact Or.inr ⟨id1, calls, t1, _, new, n, hr, rfl, rfl, fun _ => rfl⟩

end ScVerif.C01
