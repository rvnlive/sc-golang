import ScVerif.C01.Slices
/-! What Go's `append` (`Slices.lean`) touches, and what the slice it returns denotes. -/
namespace ScVerif.C01
variable {α : Type}

theorem cells_append_left (h : Heap α) (x : List α) (i : Nat) (hi : i < h.length) :
    Heap.cells (h ++ [x]) i = Heap.cells h i := by
  simp [Heap.cells, List.getD, List.getElem?_append_left hi]

theorem cells_append_self (h : Heap α) (x : List α) : Heap.cells (h ++ [x]) h.length = x := by
  simp [Heap.cells, List.getD]

theorem cells_set_ne (h : Heap α) (x : List α) (i j : Nat) (hij : i ≠ j) :
    Heap.cells (h.set j x) i = Heap.cells h i := by
  simp [Heap.cells, List.getD, Ne.symm hij]

theorem cells_set_self (h : Heap α) (x : List α) (j : Nat) (hj : j < h.length) :
    Heap.cells (h.set j x) j = x := by
  simp [Heap.cells, List.getD, hj]

theorem goAppend_cells (h : Heap α) (s : Slice) (xs : List α) (i : Nat) (hi : i < h.length) (hne : i ≠ s.arr) :
    Heap.cells (goAppend h s xs).1 i = Heap.cells h i := by
  unfold goAppend
  split
  · exact cells_set_ne _ _ _ _ hne
  · exact cells_append_left _ _ _ hi

theorem goAppend_read (h : Heap α) (s : Slice) (xs : List α) (ha : s.arr < h.length)
    (hl : s.off + s.len ≤ (h.cells s.arr).length) :
    (goAppend h s xs).1.read (goAppend h s xs).2 = h.read s ++ xs := by
  unfold goAppend
  split
  · -- in place: the cells up to the end of the view stay, `xs` follows them
    unfold Heap.read
    simp only [cells_set_self _ _ _ ha, writeAt, List.append_assoc]
    rw [List.drop_append_of_le_length (by rw [List.length_take]; omega), ← List.append_assoc,
      List.take_left' (by rw [List.length_append, List.length_drop, List.length_take]; omega),
      List.drop_take, Nat.add_sub_cancel_left]
  · unfold Heap.read
    simp only [cells_append_self, List.drop_zero]
    exact List.take_of_length_le (by rw [List.length_append, List.length_take]; omega)

end ScVerif.C01
