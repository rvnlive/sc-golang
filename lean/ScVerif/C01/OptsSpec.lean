import ScVerif.C01.Opts
/-! What the statements about option lists speak of: which option sets which setting, and what a list of options makes of
the update mask and of the writable fields. -/
namespace ScVerif.C01
variable {M K R : Type}

/-- is the option one of the two that write the update mask -/
def WOpt.touchesUpdateMask : WOpt M K → Bool
  | .updateMask _ => true
  | .moreUpdateMask _ => true
  | _ => false

def WOpt.setsUpdateMask : WOpt M K → Bool
  | .updateMask _ => true
  | _ => false

/-- what the options after the last `WithUpdateMask` do to the mask it set: each `WithMoreUpdateMask`
unites its paths in, unless the mask is nil -/
def moreMasks (cat : K → K → K) (post : List (WOpt M K)) (m : Option K) : Option K :=
  post.foldl (fun u o => match o with
    | .moreUpdateMask k => u.map (fun x => cat x k)
    | _ => u) m

def ROpt.setsReadMask : ROpt M K → Bool
  | .readMask _ => true
  | _ => false

def ROpt.setsInclude : ROpt M K → Bool
  | .incl _ => true
  | _ => false

def WOpt.isAllWritable : WOpt M K → Bool
  | .allFieldsWritable => true
  | _ => false

/-- the additional writable fields of a list: the masks of its `WithMoreWritableFields` options,
united left to right (the first through `fieldmaskpb.Union(nil, m)`) -/
def moreWritableOf (ops : MsgOps M K) (opts : List (WOpt M K)) (acc : Option K) : Option K :=
  opts.foldl (fun a o => match o with
    | .moreWritable m => some (match a with | none => ops.union m none | some w => ops.union w (some m))
    | _ => a) acc

/-- the five settings a write option can hold a function (or nil) for -/
inductive FnSetting | check | before | after | created | idcb
  deriving DecidableEq

/-- which setting an option sets, if any (`WithExpectedCheck(f)` and `WithExpectedCheck(nil)` both set
the check, …) -/
def WOpt.setsFn : WOpt M K → Option FnSetting
  | .expectedCheck _ => some .check | .noExpectedCheck => some .check
  | .before _ => some .before | .noBefore => some .before
  | .after _ => some .after | .noAfter => some .after
  | .createdCallback => some .created | .noCreatedCallback => some .created
  | .idCallback => some .idcb | .noIDCallback => some .idcb
  | _ => none

/-- two request records agree on a setting -/
def sameFn (k : FnSetting) (a b : WriteReq M K) : Prop :=
  match k with
  | .check => a.expectedCheck = b.expectedCheck
  | .before => a.before = b.before
  | .after => a.after = b.after
  | .created => a.createdCb = b.createdCb
  | .idcb => a.idCb = b.idCb

/-- `EmptyWriteOption{}` -/
def WOpt.isEmpty : WOpt M K → Bool
  | .empty => true
  | _ => false

/-- the read options that do not concern Get/List: `EmptyReadOption{}`, `WithUpdatesOnly`, `WithBackpressure` -/
def ROpt.isOther : ROpt M K → Bool
  | .other => true
  | _ => false

end ScVerif.C01
