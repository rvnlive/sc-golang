/-!
# C01 — executable sequential model of `pkg/resource` Value / Collection

The definitions FOLLOW THE GO CODE (`/repo/pkg/resource/{atomic,opt,value,collection,id}.go`): same
phases, same order of checks, same data carried between phases.

* The model is parametric in the message type `M` and the field-mask type `K`: everything the code
  asks of protobuf / `pkg/masks` goes through `MsgOps` (proto.Equal, New, FieldUpdater.Validate /
  Merge, ResponseFilter.FilterClone, fieldmaskpb.Union).  Mask semantics in depth belong to C05; C01 is
  about sequencing, options, ids, errors and events.  `Flat.lean` instantiates `MsgOps` for a small
  concrete message (five fields of `internal/testproto.TestAllTypes`, two of `traits.OpenClosePosition`).
* Errors are gRPC codes only.
* Time: instants are integers (the harness uses nanoseconds relative to its clock's origin, so any
  `time.Time` - zero value, before the epoch, far future, sub-second - is an `Int`); a write time is
  present-with-value whatever the value. The resource clock is a counter; every `Now()` returns the counter and advances it by
  `cfg.tick` (0 = a fixed clock), so that two reads in one operation are two readings as in the code.
* Randomness: `cfg.gen r i` is "read `6+i` bytes from the rng and base64url-encode them".
* Callbacks (id callback, created callback) are recorded in the output.
-/
namespace ScVerif.C01

/-- gRPC status codes (only the code of an error is modelled). -/
inductive Code
  | canceled | unknown | invalidArgument | deadlineExceeded | notFound | alreadyExists
  | permissionDenied | resourceExhausted | failedPrecondition | aborted | outOfRange
  | unimplemented | internal | unavailable | dataLoss | unauthenticated
  deriving DecidableEq, Repr, Inhabited

/-- The three masks a `masks.FieldUpdater` is configured with (`nil` = `none`). -/
structure Upd (K : Type) where
  writable : Option K
  update : Option K
  reset : Option K

/-- What the resource code asks of protobuf and `pkg/masks`. -/
structure MsgOps (M K : Type) where
  /-- `msg.ProtoReflect().New().Interface()` -/
  zero : M
  /-- `proto.Equal` on two non-nil messages -/
  eq : M → M → Bool
  /-- `fieldmaskpb.Union(writableFields, moreWritableFields)` -/
  union : K → Option K → K
  /-- `FieldUpdater.Validate` -/
  validate : Upd K → M → Option Code
  /-- `FieldUpdater.Merge(dst, src)`; returns the new `dst` -/
  merge : Upd K → M → M → M
  /-- `ResponseFilter.FilterClone` on a non-nil message (`none` = nil read mask) -/
  filter : Option K → M → M

/-- `proto.Equal` on possibly-nil messages: nil equals only nil. -/
def eqOpt {M K : Type} (ops : MsgOps M K) : Option M → Option M → Bool
  | none, none => true
  | some a, some b => ops.eq a b
  | _, _ => false

/-- `resource.WriteRequest` (`ComputeWriteConfig(opts...)`).  Callbacks are functions; for the id and
created callbacks only their presence matters (their invocations are recorded in `COut`). -/
structure WriteReq (M K : Type) where
  writeTime : Option Int := none
  updateMask : Option K := none
  resetMask : Option K := none
  expectedValue : Option M := none
  expectAbsent : Bool := false
  expectedCheck : Option (Option M → Option Code) := none
  allowMissing : Bool := false
  before : Option (Option M → M → M) := none
  after : Option (Option M → M → M) := none
  nilWritable : Bool := false
  moreWritable : Option K := none
  createIfAbsent : Bool := false
  createdCb : Bool := false
  genEmptyID : Bool := false
  idCb : Bool := false

/-- `resource.ReadRequest` (the part that matters for Get/List; Pull options are in C04). -/
structure ReadReq (M K : Type) where
  readMask : Option K := none
  incl : Option (String → M → Bool) := none

/-- Resource construction options (`resource.config`). `R` is the state of the rng. -/
structure Cfg (M K R : Type) where
  ops : MsgOps M K
  writable : Option K := none
  icpt : Option (String → String) := none
  /-- clock step per `Now()` call; 0 = fixed clock -/
  tick : Int := 1
  /-- candidate `i` of `GenerateUniqueId`: read `6+i` bytes, base64url-encode -/
  gen : R → Nat → String × R

variable {M K R : Type}

/-- `WriteRequest.fieldUpdater(writableFields)` -/
def fieldUpdater (cfg : Cfg M K R) (wr : WriteReq M K) : Upd K :=
  let w : Option K :=
    if wr.nilWritable then none
    else match cfg.writable with
      | none => none
      | some w => some (cfg.ops.union w wr.moreWritable)
  { writable := w, update := wr.updateMask, reset := wr.resetMask }

/-- `if c.idInterceptor != nil { id = c.idInterceptor(id) }` -/
def icptId (cfg : Cfg M K R) (id : String) : String :=
  match cfg.icpt with
  | none => id
  | some f => f id

/-- `idAbsent` of `Collection.Update` (fix 929e9c0): whether the caller provided an id is decided on the id
AS GIVEN, before the id interceptor runs (an interceptor may turn the empty id into a key of its own: a
prefix, a suffix); an id the interceptor maps to the empty key counts as absent too (`id == ""` after
interception, as before the fix). -/
def idAbsent (cfg : Cfg M K R) (id : String) : Bool :=
  id = "" || icptId cfg id = ""

/-- The id the `get` callback of `Collection.Update` starts from.  The code keeps the intercepted id next
to the flag `idAbsent` and tests `(idAbsent || id == "") && genEmptyID`; when the caller's id is empty and
ids are generated, the intercepted id is dead (it is overwritten by the generated id before any lookup),
so the flag is folded into the starting id: the context then starts from the empty id, and `updGet`'s test
`c.id = "" && wr.genEmptyID` is the code's test (`updKey_gen` / `updKey_nogen` in `Lemmas.lean`). -/
def updKey (cfg : Cfg M K R) (wr : WriteReq M K) (id : String) : String :=
  if id = "" && wr.genEmptyID then "" else icptId cfg id

/-- `WriteRequest.changeFn(writer, value)` applied to `(old, dst)`. -/
def changeFn (ops : MsgOps M K) (wr : WriteReq M K) (u : Upd K) (value : M)
    (old dst : Option M) : Except Code M :=
  match wr.expectedValue with
  | some ev =>
    if !(eqOpt ops old (some ev)) then .error .failedPrecondition
    else changeRest
  | none => changeRest
where
  changeRest : Except Code M :=
    match (match wr.expectedCheck with | some chk => chk old | none => none) with
    | some c => .error c
    | none =>
      let value := match wr.before with | some f => f old value | none => value
      let dst := match dst with | some d => d | none => ops.zero
      let dst := ops.merge u dst value
      let dst := match wr.after with | some f => f old dst | none => dst
      .ok dst

/-- Result of `GetAndUpdate`: `(oldValue, newValue, err)`. -/
structure GauRes (M : Type) where
  old : Option M
  new : Option M
  err : Option Code

/-- `resource.GetAndUpdate` run by one caller: `get` (under RLock), `change` on a clone with no lock
held, then under Lock the second `get`, the `proto.Equal` re-validation, and `save`.
`σ` is everything the callbacks can touch. -/
def getAndUpdate {σ : Type} (ops : MsgOps M K)
    (get : σ → Except Code (Option M) × σ)
    (change : Option M → Option M → Except Code M)
    (save : σ → M → σ) (s : σ) : GauRes M × σ :=
  match get s with
  | (.error c, s1) => ({ old := none, new := none, err := some c }, s1)
  | (.ok old, s1) =>
    -- newValue = proto.Clone(oldValue); a clone of an immutable value is the value
    match change old old with
    | .error c => ({ old := old, new := none, err := some c }, s1)
    | .ok new =>
      match get s1 with
      | (r2, s2) =>
        let again : Option M := match r2 with | .ok v => v | .error _ => none
        if !(eqOpt ops old again) then
          ({ old := old, new := some new, err := some .aborted }, s2)
        else
          ({ old := old, new := some new, err := none }, save s2 new)

/-! ## Value -/

/-- `resource.Value`: stored message (possibly nil), its change time, the clock counter. -/
structure VState (M : Type) where
  value : Option M
  changeTime : Int
  clock : Int

/-- `ValueChange` as sent on the bus by `Value.set`. -/
structure VEvent (M : Type) where
  value : M
  time : Int

structure VOut (M : Type) where
  val : Option M
  err : Option Code
  events : List (VEvent M)

/-- `NewValue(WithInitialValue(v)?)`: one clock read for `changeTime`. -/
def Value.init (cfg : Cfg M K R) (v : Option M) : VState M :=
  { value := v, changeTime := 0, clock := cfg.tick }

/-- `WriteRequest.updateTime(clock)`: explicit write time, else one clock read. -/
def updateTimeV (cfg : Cfg M K R) (wr : WriteReq M K) (s : VState M) : Int × VState M :=
  match wr.writeTime with
  | some t => (t, s)
  | none => (s.clock, { s with clock := s.clock + cfg.tick })

/-- `Value.Get(opts...)` -/
def Value.get (cfg : Cfg M K R) (s : VState M) (ro : ReadReq M K) : Option M :=
  s.value.map (cfg.ops.filter ro.readMask)

/-- `Value.Set(value, opts...)` -/
def Value.set (cfg : Cfg M K R) (s : VState M) (msg : M) (wr : WriteReq M K) : VOut M × VState M :=
  let u := fieldUpdater cfg wr
  match cfg.ops.validate u msg with
  | some c => ({ val := none, err := some c, events := [] }, s)
  | none =>
    let (r, s1) := getAndUpdate cfg.ops
      (fun (s : VState M) => (.ok s.value, s))
      (changeFn cfg.ops wr u msg)
      (fun s m =>
        let (t, s') := updateTimeV cfg wr s
        { s' with value := some m, changeTime := t })
      s
    match r.err, r.new with
    | none, some new =>
      let (t, s2) := updateTimeV cfg wr s1
      ({ val := some new, err := none, events := [{ value := new, time := t }] }, s2)
    | some c, _ => ({ val := none, err := some c, events := [] }, s1)
    | none, none => ({ val := none, err := some .internal, events := [] }, s1)  -- unreachable

/-! ## Collection -/

/-- `item{body, changeTime}` -/
structure Item (M : Type) where
  body : M
  time : Int

/-- `resource.Collection`: `byId` as an association list with distinct keys, the clock counter and
the rng state. -/
structure CState (M R : Type) where
  items : List (String × Item M)
  clock : Int
  rng : R

inductive Kind | add | update | remove
  deriving DecidableEq, Repr

/-- `CollectionChange` -/
structure CEvent (M : Type) where
  id : String
  time : Int
  kind : Kind
  old : Option M
  new : Option M
  seed : Bool := false
  lastSeed : Bool := false

structure COut (M : Type) where
  val : Option M
  err : Option Code
  events : List (CEvent M)
  idCalls : List String
  createdCalls : Nat

def lookup (items : List (String × Item M)) (id : String) : Option (Item M) :=
  match items with
  | [] => none
  | (k, v) :: rest => if k = id then some v else lookup rest id

/-- `byId[id] = it` -/
def setItem (items : List (String × Item M)) (id : String) (it : Item M) : List (String × Item M) :=
  match items with
  | [] => [(id, it)]
  | (k, v) :: rest => if k = id then (k, it) :: rest else (k, v) :: setItem rest id it

/-- `delete(byId, id)` -/
def eraseItem (items : List (String × Item M)) (id : String) : List (String × Item M) :=
  items.filter (fun kv => kv.1 ≠ id)

/-- `clock.Now()` -/
def nowC (cfg : Cfg M K R) (s : CState M R) : Int × CState M R :=
  (s.clock, { s with clock := s.clock + cfg.tick })

def updateTimeC (cfg : Cfg M K R) (wr : WriteReq M K) (s : CState M R) : Int × CState M R :=
  match wr.writeTime with
  | some t => (t, s)
  | none => nowC cfg s

/-- The loop of `GenerateUniqueId`: tries `i, i+1, …` while `fuel` lasts. -/
def genLoop (gen : R → Nat → String × R) (exists_ : String → Bool) : Nat → Nat → R → Option String × R
  | 0, _, r => (none, r)
  | fuel + 1, i, r =>
    let (cand, r') := gen r i
    if cand ≠ "" && !(exists_ cand) then (some cand, r')
    else genLoop gen exists_ fuel (i + 1) r'

/-- `Collection.genID()`: 10 tries; the existence probe goes through the id interceptor, and the
id that is returned is the intercepted candidate (the key every other entry point will use).
`used` is "is a key of `byId`". -/
def genID (cfg : Cfg M K R) (used : String → Bool) (rng : R) : Option String × R :=
  let (r, rng') := genLoop cfg.gen (fun cand => used (icptId cfg cand)) 10 0 rng
  (r.map (icptId cfg), rng')

def usedIn (items : List (String × Item M)) (id : String) : Bool := (lookup items id).isSome

/-- What the closures of `Collection.Update` capture and mutate. -/
structure UpdCtx (M R : Type) where
  st : CState M R
  id : String
  created : Option M
  idCalls : List String
  createdCalls : Nat
  /-- `createdMeanwhile`: the re-validation read found the item although the first read did not -/
  createdMeanwhile : Bool := false

/-- The `get` callback of `Collection.Update`. -/
def updGet (cfg : Cfg M K R) (wr : WriteReq M K) (c : UpdCtx M R) : Except Code (Option M) × UpdCtx M R :=
  match c.created with
  | some cr =>
    -- the re-validation read of the create path: re-check existence
    match lookup c.st.items c.id with
    | some it =>
      if wr.expectAbsent then (.error .alreadyExists, c)
      else (.ok (some it.body), { c with createdMeanwhile := true })
    | none => (.ok (some cr), c)
  | none =>
    -- handle empty ids, generating them, and invoking callbacks
    let r : Option Code × UpdCtx M R :=
      if c.id = "" && wr.genEmptyID then
        match genID cfg (usedIn c.st.items) c.st.rng with
        | (none, rng') => (some .aborted, { c with st := { c.st with rng := rng' } })
        | (some id', rng') =>
          (none, { c with st := { c.st with rng := rng' }, id := id',
                          idCalls := if wr.idCb then c.idCalls ++ [id'] else c.idCalls })
      else (none, c)
    match r with
    | (some e, c) => (.error e, c)
    | (none, c) =>
      match lookup c.st.items c.id with
      | some it =>
        if wr.expectAbsent then (.error .alreadyExists, c)
        else (.ok (some it.body), c)
      | none =>
        if !wr.createIfAbsent then (.error .notFound, c)
        else
          (.ok (some cfg.ops.zero),
            { c with created := some cfg.ops.zero,
                     createdCalls := if wr.createdCb then c.createdCalls + 1 else c.createdCalls })

/-- The `save` callback of `Collection.Update`. -/
def updSave (cfg : Cfg M K R) (wr : WriteReq M K) (c : UpdCtx M R) (m : M) : UpdCtx M R :=
  let (t, st') := updateTimeC cfg wr c.st
  { c with st := { st' with items := setItem st'.items c.id { body := m, time := t } } }

/-- `Collection.Update(id, msg, opts...)` from the id its `get` callback starts from -/
def Coll.updateAt (cfg : Cfg M K R) (s : CState M R) (id : String) (msg : M) (wr : WriteReq M K) :
    COut M × CState M R :=
  let u := fieldUpdater cfg wr
  match cfg.ops.validate u msg with
  | some c => ({ val := none, err := some c, events := [], idCalls := [], createdCalls := 0 }, s)
  | none =>
    let c0 : UpdCtx M R := { st := s, id := id, created := none, idCalls := [], createdCalls := 0 }
    let (r, c) := getAndUpdate cfg.ops (updGet cfg wr) (changeFn cfg.ops wr u msg) (updSave cfg wr) c0
    match r.err, r.new with
    | none, some new =>
      -- an item created meanwhile (equal to the provisional message, or the write is aborted) is UPDATED
      let add := r.old.isNone || (c.created.isSome && !c.createdMeanwhile)
      let (t, st') := updateTimeC cfg wr c.st
      ({ val := some new, err := none,
         events := [{ id := c.id, time := t, kind := if add then .add else .update,
                      old := if add then none else r.old, new := some new }],
         idCalls := c.idCalls, createdCalls := c.createdCalls }, st')
    | some e, _ =>
      ({ val := none, err := some e, events := [], idCalls := c.idCalls, createdCalls := c.createdCalls }, c.st)
    | none, none =>
      ({ val := none, err := some .internal, events := [], idCalls := c.idCalls,
         createdCalls := c.createdCalls }, c.st)  -- unreachable

/-- `Collection.Update(id, msg, opts...)` -/
def Coll.update (cfg : Cfg M K R) (s : CState M R) (id : String) (msg : M) (wr : WriteReq M K) :
    COut M × CState M R :=
  Coll.updateAt cfg s (updKey cfg wr id) msg wr

/-- `Collection.Update` as it was before fix 929e9c0: the emptiness of the id was tested after the id
interceptor had run, i.e. the `get` callback started from the intercepted id whatever the caller gave
(kept for the witness `C01_genid_legacy_prefix_never_generates` and for `C01_genid_fix_conservative`) -/
def Coll.updateLegacy (cfg : Cfg M K R) (s : CState M R) (id : String) (msg : M) (wr : WriteReq M K) :
    COut M × CState M R :=
  Coll.updateAt cfg s (icptId cfg id) msg wr

/-- `Collection.Add` = `Update` with `WithExpectAbsent(), WithCreateIfAbsent()` prepended. -/
def Coll.add (cfg : Cfg M K R) (s : CState M R) (id : String) (msg : M) (wr : WriteReq M K) :
    COut M × CState M R :=
  Coll.update cfg s id msg { wr with expectAbsent := true, createIfAbsent := true }

/-- Are two `byId` lookups the same `*item`?  One caller at a time: the same entry. Compared here
by existence, change time and `proto.Equal` of the bodies. -/
def sameItem (ops : MsgOps M K) : Option (Item M) → Option (Item M) → Bool
  | none, none => true
  | some a, some b => a.time == b.time && ops.eq a.body b.body
  | _, _ => false

/-- The attempt loop of `Collection.Delete`. -/
def deleteLoop (cfg : Cfg M K R) (wr : WriteReq M K) (id : String) :
    Nat → Option (Item M) → CState M R → COut M × CState M R
  | 0, _, s => ({ val := none, err := some .unavailable, events := [], idCalls := [], createdCalls := 0 }, s)
  | fuel + 1, oldVal, s =>
    match oldVal with
    | none =>
      if !wr.allowMissing then
        ({ val := none, err := some .notFound, events := [], idCalls := [], createdCalls := 0 }, s)
      else ({ val := none, err := none, events := [], idCalls := [], createdCalls := 0 }, s)
    | some it =>
      match (match wr.expectedCheck with | some chk => chk (some it.body) | none => none) with
      | some e => ({ val := some it.body, err := some e, events := [], idCalls := [], createdCalls := 0 }, s)
      | none =>
        if (match wr.expectedValue with | some ev => !(cfg.ops.eq it.body ev) | none => false) then
          ({ val := some it.body, err := some .failedPrecondition, events := [], idCalls := [],
             createdCalls := 0 }, s)
        else
          let oldVal2 := lookup s.items id
          if !(sameItem cfg.ops oldVal2 oldVal) then deleteLoop cfg wr id fuel oldVal2 s
          else
            let (t, s') := nowC cfg s
            ({ val := some it.body, err := none,
               events := [{ id := id, time := t, kind := .remove, old := some it.body, new := none }],
               idCalls := [], createdCalls := 0 },
             { s' with items := eraseItem s'.items id })

/-- `Collection.Delete(id, opts...)` -/
def Coll.delete (cfg : Cfg M K R) (s : CState M R) (id : String) (wr : WriteReq M K) :
    COut M × CState M R :=
  let id := icptId cfg id
  deleteLoop cfg wr id 5 (lookup s.items id) s

/-- `Collection.Get(id, opts...)` -/
def Coll.get (cfg : Cfg M K R) (s : CState M R) (id : String) (ro : ReadReq M K) : Option M :=
  (lookup s.items (icptId cfg id)).map (fun it => cfg.ops.filter ro.readMask it.body)

/-- `ReadRequest.Exclude` -/
def excluded (ro : ReadReq M K) (id : String) (m : M) : Bool :=
  match ro.incl with
  | none => false
  | some f => !(f id m)

/-- `Collection.itemSlice` -/
def itemSlice (s : CState M R) (ro : ReadReq M K) : List (String × Item M) :=
  s.items.filter (fun kv => !(excluded ro kv.1 kv.2.body))

/-- insertion into a list sorted by id -/
def insertById (x : String × Item M) : List (String × Item M) → List (String × Item M)
  | [] => [x]
  | y :: ys => if x.1 < y.1 then x :: y :: ys else y :: insertById x ys

/-- `sort.Slice(tmp, func(i, j) bool { return tmp[i].id < tmp[j].id })` -/
def sortById : List (String × Item M) → List (String × Item M)
  | [] => []
  | x :: xs => insertById x (sortById xs)

/-- `Collection.List(opts...)`, with the ids kept next to the messages. -/
def Coll.listIds (cfg : Cfg M K R) (s : CState M R) (ro : ReadReq M K) : List (String × M) :=
  (sortById (itemSlice s ro)).map (fun kv => (kv.1, cfg.ops.filter ro.readMask kv.2.body))

def Coll.list (cfg : Cfg M K R) (s : CState M R) (ro : ReadReq M K) : List M :=
  (Coll.listIds cfg s ro).map (·.2)

/-- `NewCollection(WithInitialRecord(id, v)...)`: every initial record is stamped by the clock
(the harness holds the clock still during construction, so all get tick 0). -/
def Coll.init (cfg : Cfg M K R) (records : List (String × M)) (rng : R) : CState M R :=
  { items := records.foldl (fun acc kv => setItem acc kv.1 { body := kv.2, time := 0 }) [],
    clock := cfg.tick, rng := rng }

/-! ## Operation sequences -/

inductive COp (M K : Type)
  | get (id : String) (ro : ReadReq M K)
  | list (ro : ReadReq M K)
  | update (id : String) (msg : M) (wr : WriteReq M K)
  | add (id : String) (msg : M) (wr : WriteReq M K)
  | delete (id : String) (wr : WriteReq M K)

/-- What one call returns to its caller (+ bus events and callback invocations). -/
inductive CRes (M : Type)
  | got (v : Option M)
  | listed (vs : List (String × M))
  | wrote (o : COut M)

def Coll.step (cfg : Cfg M K R) (s : CState M R) : COp M K → CRes M × CState M R
  | .get id ro => (.got (Coll.get cfg s id ro), s)
  | .list ro => (.listed (Coll.listIds cfg s ro), s)
  | .update id msg wr => let (o, s') := Coll.update cfg s id msg wr; (.wrote o, s')
  | .add id msg wr => let (o, s') := Coll.add cfg s id msg wr; (.wrote o, s')
  | .delete id wr => let (o, s') := Coll.delete cfg s id wr; (.wrote o, s')

def Coll.run (cfg : Cfg M K R) : CState M R → List (COp M K) → List (CRes M) × CState M R
  | s, [] => ([], s)
  | s, op :: ops =>
    let (r, s1) := Coll.step cfg s op
    let (rs, s2) := Coll.run cfg s1 ops
    (r :: rs, s2)

inductive VOp (M K : Type)
  | get (ro : ReadReq M K)
  | set (msg : M) (wr : WriteReq M K)

inductive VRes (M : Type)
  | got (v : Option M)
  | wrote (o : VOut M)

def Value.step (cfg : Cfg M K R) (s : VState M) : VOp M K → VRes M × VState M
  | .get ro => (.got (Value.get cfg s ro), s)
  | .set msg wr => let (o, s') := Value.set cfg s msg wr; (.wrote o, s')

def Value.run (cfg : Cfg M K R) : VState M → List (VOp M K) → List (VRes M) × VState M
  | s, [] => ([], s)
  | s, op :: ops =>
    let (r, s1) := Value.step cfg s op
    let (rs, s2) := Value.run cfg s1 ops
    (r :: rs, s2)

end ScVerif.C01
