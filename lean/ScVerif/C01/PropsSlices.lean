import ScVerif.C01.SlicesLemmas
/-!
# C01 — property theorems: a call leaves its caller's options alone

A caller may keep its options in ONE slice and pass views of it to several calls; the sequence only means what the
caller wrote if no call writes into that slice.  `Slices.lean` models Go's `append` on a heap of arrays and
`Collection.Add` as coded (it appends its caller's options TO A FRESH LITERAL).  The code is checked for the same
statement on every call of every shared-slice run of the tie (monitor clause `caller-options-overwritten`).
-/
namespace ScVerif.C01
variable {M K R : Type}

/-- `Collection.Add` never writes to its caller's heap: every array that existed before the call has exactly the cells it
had (the caller's option array before, within AND beyond the view passed), whatever the view's offset, length and spare
capacity; and the call does what `Add` does on the view's contents. -/
theorem C01_add_leaves_caller_options (cat : K → K → K) (cfg : Cfg M K R) (st : CState M R) (h : Heap (WOpt M K)) (id : String)
    (msg : M) (opts : Slice) (hv : opts.arr < h.length) :
    (∀ i, i < h.length → Heap.cells (Coll.addS cat cfg st h id msg opts).2 i = Heap.cells h i) ∧
    (Coll.addS cat cfg st h id msg opts).1 = Coll.addO cat cfg st id msg (h.read opts) := by
  -- the literal is a new array: `append` to it leaves the old ones alone, and yields the two flags then the caller's options
  have hread : Heap.read (h ++ [[WOpt.expectAbsent, WOpt.createIfAbsent]]) opts = h.read opts := by
    unfold Heap.read
    rw [cells_append_left h _ _ hv]
  unfold Coll.addS literal
  dsimp only
  rw [hread]
  refine ⟨fun i hi => ?_, ?_⟩
  · rw [goAppend_cells _ _ _ i (by simp; omega) (Nat.ne_of_lt hi), cells_append_left _ _ _ hi]
  · rw [goAppend_read _ _ _ (by simp) (by simp [cells_append_self])]
    unfold Coll.addO Heap.read
    rw [cells_append_self]
    rfl

/-- The hazard is real in this model of `append`: appending to a view that has spare capacity overwrites the cells behind
it (what `append(opts, WithExpectAbsent(), WithCreateIfAbsent())` would do to the caller's slice). -/
theorem C01_append_to_callers_view_overwrites :
    ∃ (h : Heap Nat) (s : Slice) (xs : List Nat), s.arr < h.length ∧ s.len ≤ s.cap ∧
      Heap.cells (goAppend h s xs).1 s.arr ≠ Heap.cells h s.arr :=
  ⟨[[1, 2, 3, 4]], { arr := 0, off := 1, len := 1, cap := 3 }, [7, 8], by decide⟩

/-- non-vacuity: a caller's array of three options, `Add` given the view `[:1]` (capacity 3), and the view
`[1:2]` (capacity 2): the array is unchanged and the call ran with expect-absent, create-if-absent and the
one option of the view -/
example :
    let h : Heap (WOpt Nat Nat) := [[.writeTime 5, .allowMissing true, .genIDIfAbsent]]
    let (h1, lit) := literal h [WOpt.expectAbsent, WOpt.createIfAbsent]
    let (h2, all) := goAppend h1 lit (h1.read { arr := 0, len := 1, cap := 3 })
    let (h3, all') := goAppend h1 lit (h1.read { arr := 0, off := 1, len := 1, cap := 2 })
    (h2.read all).length = 3 ∧ (Heap.cells h2 0).length = 3 ∧ h2.length = 3 ∧
    (match h3.read all' with | [_, _, .allowMissing true] => True | _ => False) ∧ Heap.cells h3 0 = Heap.cells h 0 := by
  refine ⟨by decide, by decide, by decide, ?_, ?_⟩
  · simp [Heap.read, Heap.cells]
  · simp [Heap.read, Heap.cells]

end ScVerif.C01
