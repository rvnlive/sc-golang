import ScVerif.C01.Flat
/-! Facts about the named id interceptors: idempotence and preservation of non-emptiness. -/
namespace ScVerif.C01

theorem lookup_mem {α β : Type} [BEq α] [LawfulBEq α] (l : List (α × β)) (a : α) (b : β)
    (h : l.lookup a = some b) : (a, b) ∈ l := by
  obtain ⟨l₁, l₂, rfl, -⟩ := List.lookup_eq_some_iff.mp h
  exact List.mem_append_right _ List.mem_cons_self

theorem lowerTable_images : ∀ p ∈ lowerTable, lowerTable.lookup p.2 = none := by decide +kernel

theorem lowerChar_idem (c : Char) : lowerChar (lowerChar c) = lowerChar c := by
  unfold lowerChar
  cases h : lowerTable.lookup c with
  | none => simp [h]
  | some d =>
    have := lowerTable_images (c, d) (lookup_mem _ _ _ h)
    simp [this]

theorem lowerStr_idem (s : String) : lowerStr (lowerStr s) = lowerStr s := by
  unfold lowerStr
  simp [String.toList_ofList, List.map_map, Function.comp_def, lowerChar_idem]

theorem lowerStr_ne (s : String) (h : s ≠ "") : lowerStr s ≠ "" := by
  unfold lowerStr
  intro h0
  rw [String.ofList_eq_empty_iff, List.map_eq_nil_iff, String.toList_eq_nil_iff] at h0
  exact h h0

theorem firstStr_idem (s : String) : firstStr (firstStr s) = firstStr s := by
  unfold firstStr
  simp [String.toList_ofList, List.take_take]

theorem firstStr_ne (s : String) (h : s ≠ "") : firstStr s ≠ "" := by
  unfold firstStr
  intro h0
  rw [String.ofList_eq_empty_iff] at h0
  have : s.toList ≠ [] := fun e => h (String.toList_eq_nil_iff.mp e)
  cases hl : s.toList with
  | nil => exact this hl
  | cons a as => rw [hl] at h0; simp at h0

end ScVerif.C01
