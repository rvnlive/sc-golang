import ScVerif.C01.Paths
/-! With every segment closed by a `.` (`dotted`) the string prefix test of `paths.go` is the prefix test on segments; from
it what `withoutNestedPaths` / `isWritablePath` / `selects` do on lists of segment lists. -/
namespace ScVerif.C01.Paths

theorem tailJoin_nil : tailJoin [] = [] := rfl

/-- every segment followed by a `.`: `s0.s1.….` -/
def dotted (segs : List Seg) : Path := segs.flatMap (· ++ ['.'])

theorem dotted_nil : dotted [] = [] := rfl

theorem dotted_cons (s : Seg) (r : List Seg) : dotted (s :: r) = s ++ '.' :: dotted r := by
  simp [dotted]

theorem tailJoin_dot (r : List Seg) : tailJoin r ++ ['.'] = '.' :: dotted r := by
  induction r with
  | nil => rfl
  | cons t r ih => rw [dotted_cons, ← ih]; simp [tailJoin]

theorem join_dot (ps : List Seg) (h : ps ≠ []) : join ps ++ ['.'] = dotted ps := by
  cases ps with
  | nil => exact absurd rfl h
  | cons s rest => rw [join, List.append_assoc, tailJoin_dot, dotted_cons]

theorem seg_cancel (u t : Seg) (x y : Path) (hu : '.' ∉ u) (ht : '.' ∉ t) :
    (u ++ '.' :: x) <+: (t ++ '.' :: y) ↔ u = t ∧ x <+: y := by
  induction u generalizing t with
  | nil =>
    cases t with
    | nil => simp
    | cons c t' =>
      have hc : c ≠ '.' := fun h => ht (by simp [h])
      simp [List.cons_prefix_cons, Ne.symm hc]
  | cons a u' ih =>
    have ha : a ≠ '.' := fun h => hu (by simp [h])
    cases t with
    | nil => simp [List.cons_prefix_cons, ha]
    | cons c t' =>
      simp only [List.cons_append, List.cons_prefix_cons, List.cons.injEq,
        ih t' (fun h => hu (by simp [h])) (fun h => ht (by simp [h])), and_assoc]

theorem dotted_prefix (qs ps : List Seg) (hq : DotFree qs) (hp : DotFree ps) :
    dotted qs <+: dotted ps ↔ qs <+: ps := by
  induction qs generalizing ps with
  | nil => simp [dotted_nil]
  | cons u qs' ih =>
    cases ps with
    | nil => simp [dotted_nil, dotted_cons]
    | cons t ps' =>
      have := seg_cancel u t (dotted qs') (dotted ps') (hq u (by simp)) (hp t (by simp))
      rw [dotted_cons, dotted_cons, this, List.cons_prefix_cons]
      exact and_congr_right fun _ => ih ps' (fun s hs => hq s (by simp [hs])) (fun s hs => hp s (by simp [hs]))

theorem dotted_append (a b : List Seg) : dotted (a ++ b) = dotted a ++ dotted b := by simp [dotted]

theorem inside_iff (qs ps : List Seg) (hq : DotFree qs) (hp : DotFree ps) (hne : qs ≠ []) :
    inside (join ps) (join qs) = true ↔ ProperPrefix qs ps := by
  unfold inside
  rw [List.isPrefixOf_iff_prefix, join_dot qs hne]
  by_cases hps : ps = []
  · subst hps
    cases qs with
    | nil => exact absurd rfl hne
    | cons u qs' => simp [join, dotted_cons, ProperPrefix]
  · -- a prefix of `join ps` is a prefix of `join ps ++ "."` other than the whole
    have hcut : dotted qs <+: join ps ↔ dotted qs <+: dotted ps ∧ dotted qs ≠ dotted ps := by
      rw [← join_dot ps hps, List.prefix_concat_iff]
      constructor
      · intro h
        exact ⟨Or.inr h, fun e => by have := h.length_le; rw [e] at this; simp at this; omega⟩
      · rintro ⟨h | h, hn⟩
        · exact absurd h hn
        · exact h
    rw [hcut, dotted_prefix qs ps hq hp]
    constructor
    · rintro ⟨⟨r, rfl⟩, hn⟩
      exact ⟨r, fun e => hn (by rw [e, List.append_nil]), rfl⟩
    · rintro ⟨r, hr, rfl⟩
      refine ⟨⟨r, rfl⟩, fun e => ?_⟩
      rw [dotted_append] at e
      cases r with
      | nil => exact hr rfl
      | cons x r' => have := congrArg List.length e; simp [dotted_cons] at this

theorem inside_has_dot (p q : Path) (h : inside p q = true) : '.' ∈ p := by
  unfold inside at h
  rw [List.isPrefixOf_iff_prefix] at h
  obtain ⟨r, rfl⟩ := h
  simp

/-- well-formed path: at least one segment, no `.` inside a segment -/
def WF (ps : List Seg) : Prop := ps ≠ [] ∧ DotFree ps

/-- the decidable form of "some path of the list is a proper segment-prefix of `ps`" -/
def nestedIn (pss : List (List Seg)) (ps : List Seg) : Bool := pss.any (fun qs => decide (ProperPrefix qs ps))

theorem any_inside_eq (pss : List (List Seg)) (hwf : ∀ ps ∈ pss, WF ps) (ps : List Seg) (hp : WF ps) :
    (pss.map join).any (fun q => inside (join ps) q) = nestedIn pss ps := by
  unfold nestedIn
  rw [List.any_map, Bool.eq_iff_iff, List.any_eq_true, List.any_eq_true]
  constructor
  · rintro ⟨qs, hqs, h⟩
    exact ⟨qs, hqs, decide_eq_true ((inside_iff qs ps (hwf qs hqs).2 hp.2 (hwf qs hqs).1).mp h)⟩
  · rintro ⟨qs, hqs, h⟩
    exact ⟨qs, hqs, (inside_iff qs ps (hwf qs hqs).2 hp.2 (hwf qs hqs).1).mpr (of_decide_eq_true h)⟩

/-- `leaf == p || HasPrefix(leaf, p+".")` is `HasPrefix(leaf+".", p+".")` -/
theorem eq_or_inside_iff (leaf p : Path) :
    (leaf == p || inside leaf p) = true ↔ (p ++ ['.']) <+: (leaf ++ ['.']) := by
  unfold inside
  rw [Bool.or_eq_true, List.isPrefixOf_iff_prefix, beq_iff_eq]
  constructor
  · rintro (rfl | h)
    · exact List.prefix_refl _
    · exact List.IsPrefix.trans h (List.prefix_append _ _)
  · intro h
    rw [List.prefix_concat_iff] at h
    rcases h with h | h
    · left
      exact (List.append_cancel_right h).symm
    · right; exact h

theorem eq_or_inside_join (ps l : List Seg) (hp : WF ps) (hl : WF l) :
    (join l == join ps || inside (join l) (join ps)) = true ↔ ps <+: l := by
  rw [eq_or_inside_iff, join_dot ps hp.1, join_dot l hl.1, dotted_prefix ps l hp.2 hl.2]

/-- among the paths covering a leaf there is one that no other path of the list properly contains (`n` bounds the length
of the covering path at hand: a path properly containing it is shorter) -/
theorem exists_minimal_cover (pss : List (List Seg)) (l : List Seg) (n : Nat) :
    ∀ ps, ps ∈ pss → ps <+: l → ps.length ≤ n →
      ∃ qs, qs ∈ pss ∧ qs <+: l ∧ nestedIn pss qs = false := by
  induction n with
  | zero =>
    intro ps hps hpl hlen
    refine ⟨ps, hps, hpl, ?_⟩
    have : ps = [] := List.eq_nil_of_length_eq_zero (Nat.le_zero.mp hlen)
    subst this
    unfold nestedIn
    rw [List.any_eq_false]
    intro qs _
    simp only [decide_eq_true_eq]
    rintro ⟨r, hr, h⟩
    have : r = [] := by
      have := congrArg List.length h
      simp at this
      exact List.eq_nil_of_length_eq_zero (by omega)
    exact hr this
  | succ n ih =>
    intro ps hps hpl hlen
    cases hn : nestedIn pss ps with
    | false => exact ⟨ps, hps, hpl, hn⟩
    | true =>
      unfold nestedIn at hn
      rw [List.any_eq_true] at hn
      obtain ⟨qs, hqs, hq⟩ := hn
      simp only [decide_eq_true_eq] at hq
      obtain ⟨r, hr, rfl⟩ := hq
      apply ih qs hqs (List.IsPrefix.trans (List.prefix_append qs r) hpl)
      have : r.length ≠ 0 := fun h => hr (List.eq_nil_of_length_eq_zero h)
      simp only [List.length_append] at hlen
      omega

end ScVerif.C01.Paths
