import ScVerif.C01.PathsFlat
/-!
# C01 — property theorems: which fields a mask names is decided by its SEGMENTS

The reference reads a mask as a set of field paths.  The code hands every update / reset / writable / read mask to
`masks.nestedMask`, which first drops the paths that lie inside another path of the mask (`withoutNestedPaths`), and
`Validate` tests an update path against the writable paths (`isWritablePath`); both decide "inside" on the path STRINGS,
by `strings.HasPrefix(p, q+".")` (`Paths.lean`).  The string test is exactly the test on segments (field names), for ALL
lists of paths: never because of a sibling whose NAME merely starts with the same characters (`open_percent` /
`open_percent_tween`, `temperature_set_point` / `temperature_set_point_delta`).  The last theorems instantiate this for the
real path strings of the modelled fields (`Flat.lean`), which is what the concrete model of the tie assumes field by field.
-/
namespace ScVerif.C01
open Paths

/-- The string test of `withoutNestedPaths` / `isWritablePath` is the segment test. -/
theorem C01_nested_path_test_is_segment_test (qs ps : List Seg) (hq : WF qs) (hp : WF ps) :
    inside (join ps) (join qs) = true ↔ ∃ r, r ≠ [] ∧ ps = qs ++ r :=
  inside_iff qs ps hq.2 hp.2 hq.1

/-- `withoutNestedPaths` keeps the given list, in the given order (duplicates kept), without exactly the paths of which
some path of the list is a proper segment-prefix. -/
theorem C01_without_nested_paths_spec (pss : List (List Seg)) (hwf : ∀ ps ∈ pss, WF ps) :
    withoutNestedPaths (pss.map join) =
      (pss.filter (fun ps => !pss.any (fun qs => decide (ProperPrefix qs ps)))).map join := by
  unfold withoutNestedPaths
  rw [List.filter_map]
  congr 1
  apply List.filter_congr
  intro ps hps
  simp only [Function.comp]
  rw [any_inside_eq pss hwf ps (hwf ps hps)]
  rfl

/-- A top-level path is never dropped, in particular not because of a sibling whose name is a textual prefix of its own.
(No well-formedness needed.) -/
theorem C01_top_level_paths_kept (paths : List Path) (p : Path) (hp : p ∈ paths) (hdot : '.' ∉ p) :
    p ∈ withoutNestedPaths paths := by
  unfold withoutNestedPaths
  rw [List.mem_filter]
  refine ⟨hp, ?_⟩
  rw [Bool.not_eq_true', List.any_eq_false]
  intro q _ h
  exact hdot (inside_has_dot p q h)

/-- `{f, f.c}` names the same fields as `{f}`: a leaf is selected by `fmutils.NestedMaskFromPaths(withoutNestedPaths(paths))`
iff SOME path of the ORIGINAL list is a segment-prefix of (or equal to) the leaf's path. -/
theorem C01_nested_mask_names_same_fields (pss : List (List Seg)) (hwf : ∀ ps ∈ pss, WF ps)
    (l : List Seg) (hl : WF l) :
    selects (pss.map join) (join l) = true ↔ ∃ ps ∈ pss, ps <+: l := by
  unfold selects
  rw [C01_without_nested_paths_spec pss hwf, List.any_map, List.any_eq_true]
  constructor
  · rintro ⟨ps, hps, h⟩
    rw [List.mem_filter] at hps
    exact ⟨ps, hps.1, (eq_or_inside_join ps l (hwf ps hps.1) hl).mp h⟩
  · rintro ⟨ps, hps, hpl⟩
    obtain ⟨qs, hqs, hql, hmin⟩ := exists_minimal_cover pss l ps.length ps hps hpl (Nat.le_refl _)
    refine ⟨qs, ?_, (eq_or_inside_join qs l (hwf qs hqs) hl).mpr hql⟩
    rw [List.mem_filter]
    exact ⟨hqs, by rw [← nestedIn, hmin]; rfl⟩

/-- `isWritablePath` accepts an update path iff a writable path is a segment-prefix of (or equal to) it; a writable
sibling with a shorter name of the same beginning does not make it writable. -/
theorem C01_writable_path_is_segment_test (ws : List (List Seg)) (hwf : ∀ w ∈ ws, WF w)
    (ps : List Seg) (hp : WF ps) :
    isWritablePath (join ps) (ws.map join) = true ↔ ∃ w ∈ ws, w <+: ps := by
  unfold isWritablePath
  rw [List.any_map, List.any_eq_true]
  constructor
  · rintro ⟨w, hw, h⟩
    exact ⟨w, hw, (eq_or_inside_join w ps (hwf w hw) hp).mp h⟩
  · rintro ⟨w, hw, h⟩
    exact ⟨w, hw, (eq_or_inside_join w ps (hwf w hw) hp).mpr h⟩

/-- The concrete model (`Flat.lean`) reads a mask letter by letter: a field is selected iff the mask holds its letter or
its parent's.  That is what the code computes from the REAL path strings: `open_percent_tween` is selected iff it is
named itself; naming `open_percent` neither selects nor hides it. -/
theorem C01_flat_masks_select_by_letter (m : Mask) (l : Field) :
    selects (m.map (fun q => join (pathOf q))) (join (pathOf l)) =
      m.any (fun q => decide (q = l) || decide (parentOf l = some q)) := by
  have h := C01_nested_mask_names_same_fields (m.map pathOf) (pathOf_map_wf m) (pathOf l) (pathOf_wf l)
  rw [List.map_map] at h
  rw [Bool.eq_iff_iff, List.any_eq_true]
  exact h.trans ((exists_prefix_pathOf m l).trans (by simp))

/-- `Validate`'s writable test in the concrete model (`Flat.isWritablePath`) is what the code computes from the real path
strings: with only `open_percent` writable, `open_percent_tween` is not. -/
theorem C01_flat_writable_by_letter (w : Mask) (q : Field) :
    isWritablePath (join (pathOf q)) (w.map (fun y => join (pathOf y))) = Flat.isWritablePath w q := by
  have h := C01_writable_path_is_segment_test (w.map pathOf) (pathOf_map_wf w) (pathOf q) (pathOf_wf q)
  rw [List.map_map] at h
  rw [Bool.eq_iff_iff, Flat.isWritablePath_iff]
  exact h.trans (exists_prefix_pathOf w q)

/-- Witness: deciding "inside" by a bare string prefix (the `.` left out) drops a top-level sibling —
`open_percent_tween` next to `open_percent` — which `C01_top_level_paths_kept` excludes for the code's test. -/
theorem C01_bare_prefix_test_fails :
    ∃ paths p, p ∈ paths ∧ '.' ∉ p ∧ p ∉ withoutNestedPathsBare paths ∧ p ∈ withoutNestedPaths paths :=
  ⟨["open_percent".toList, "open_percent_tween".toList], "open_percent_tween".toList, by decide +kernel⟩

example : withoutNestedPaths (["open_percent_tween", "open_percent", "open_percent_tween.progress",
      "open_percent_tween"].map String.toList) =
    ["open_percent_tween", "open_percent", "open_percent_tween"].map String.toList := by decide +kernel

example : WF (pathOf .tp) ∧ WF (pathOf .p) := ⟨pathOf_wf _, pathOf_wf _⟩

example : isWritablePath (join (pathOf .t)) [join (pathOf .p)] = false ∧
    isWritablePath (join (pathOf .tp)) [join (pathOf .p), join (pathOf .t)] = true := by decide +kernel

example : selects ([Field.p, .tp].map (fun q => join (pathOf q))) (join (pathOf .tp)) = true ∧
    selects ([Field.p].map (fun q => join (pathOf q))) (join (pathOf .tp)) = false := by decide +kernel

end ScVerif.C01
