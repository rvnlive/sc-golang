import ScVerif.C01.Spec
import ScVerif.C01.ModelLemmas
/-! The model's three-phase `GetAndUpdate` collapses, for one caller, to the one-step reference; `Delete`'s loop is taken
apart one attempt at a time.  `EqRefl`, the one hypothesis on `proto.Equal`, is defined here. -/
namespace ScVerif.C01
variable {M K R : Type}

/-- `proto.Equal` is reflexive (it is: NaN equals NaN, +0 equals -0 in `proto.Equal`). -/
def EqRefl (ops : MsgOps M K) : Prop := ∀ m, ops.eq m m = true

theorem eqOpt_refl {ops : MsgOps M K} (h : EqRefl ops) (o : Option M) : eqOpt ops o o = true := by
  cases o <;> simp [eqOpt, h _]

/-- the clone `dst` of the old message is the merge base -/
theorem changeFn_eq (ops : MsgOps M K) (wr : WriteReq M K) (u : Upd K) (msg : M) (old : Option M) :
    changeFn ops wr u msg old old = Spec.newValue ops wr u msg old (old.getD ops.zero) := by
  have hrest : changeFn.changeRest ops wr u msg old old =
      (match (match wr.expectedCheck with | some chk => chk old | none => none) with
       | some c => Except.error c
       | none => Except.ok (match wr.after with
           | some f => f old (ops.merge u (old.getD ops.zero) (match wr.before with | some f => f old msg | none => msg))
           | none => ops.merge u (old.getD ops.zero) (match wr.before with | some f => f old msg | none => msg))) := by
    unfold changeFn.changeRest
    cases old <;> rfl
  unfold changeFn Spec.newValue
  rw [hrest]
  cases wr.expectedValue with
  | none => rfl
  | some ev => cases eqOpt ops old (some ev) <;> rfl

/-- both reads answer `old` and the second leaves the state alone: the change phase decides -/
theorem gau_same_reads {σ : Type} (ops : MsgOps M K) (h : EqRefl ops)
    (get : σ → Except Code (Option M) × σ) (change : Option M → Option M → Except Code M)
    (save : σ → M → σ) (s s1 : σ) (old : Option M)
    (h1 : get s = (.ok old, s1)) (h2 : get s1 = (.ok old, s1)) :
    getAndUpdate ops get change save s =
      match change old old with
      | .error c => ({ old := old, new := none, err := some c }, s1)
      | .ok new => ({ old := old, new := some new, err := none }, save s1 new) := by
  unfold getAndUpdate
  rw [h1]
  simp only []
  cases change old old with
  | error c => rfl
  | ok new => simp [h2, eqOpt_refl h]

theorem gau_read_fails {σ : Type} (ops : MsgOps M K) (get : σ → Except Code (Option M) × σ)
    (change : Option M → Option M → Except Code M) (save : σ → M → σ) (s s1 : σ) (c : Code)
    (h1 : get s = (.error c, s1)) :
    getAndUpdate ops get change save s = ({ old := none, new := none, err := some c }, s1) := by
  unfold getAndUpdate
  rw [h1]

/-- what `Value.Set` returns and leaves when it saves `new` on the Value `st`: the message is stored at one reading
of the write time and announced at a second one -/
def savedV (cfg : Cfg M K R) (wr : WriteReq M K) (st : VState M) (new : M) : VOut M × VState M :=
  let st' : VState M := { (updateTimeV cfg wr st).2 with value := some new, changeTime := (updateTimeV cfg wr st).1 }
  ({ val := some new, err := none, events := [{ value := new, time := (updateTimeV cfg wr st').1 }] }, (updateTimeV cfg wr st').2)

theorem savedV_eq (cfg : Cfg M K R) (wr : WriteReq M K) (st : VState M) (new : M) :
    savedV cfg wr st new =
      ({ val := some new, err := none, events := [{ value := new, time := wr.writeTime.getD (st.clock + cfg.tick) }] },
       { value := some new, changeTime := wr.writeTime.getD st.clock,
         clock := match wr.writeTime with | some _ => st.clock | none => st.clock + cfg.tick + cfg.tick }) := by
  unfold savedV updateTimeV
  cases wr.writeTime <;> rfl

theorem Value.set_cases (cfg : Cfg M K R) (h : EqRefl cfg.ops) (s : VState M) (msg : M) (wr : WriteReq M K) :
    (∃ c, Value.set cfg s msg wr = ({ val := none, err := some c, events := [] }, s) ∧
      (cfg.ops.validate (fieldUpdater cfg wr) msg = some c ∨
       cfg.ops.validate (fieldUpdater cfg wr) msg = none ∧
        changeFn cfg.ops wr (fieldUpdater cfg wr) msg s.value s.value = .error c)) ∨
    (∃ new, cfg.ops.validate (fieldUpdater cfg wr) msg = none ∧
      changeFn cfg.ops wr (fieldUpdater cfg wr) msg s.value s.value = .ok new ∧
      Value.set cfg s msg wr = savedV cfg wr s new) := by
  cases hv : cfg.ops.validate (fieldUpdater cfg wr) msg with
  | some c => exact Or.inl ⟨c, by simp only [Value.set, hv], Or.inl rfl⟩
  | none =>
    cases hc : changeFn cfg.ops wr (fieldUpdater cfg wr) msg s.value s.value with
    | error c => exact Or.inl ⟨c, by simp only [Value.set, hv, getAndUpdate, hc], Or.inr ⟨rfl, rfl⟩⟩
    | ok new =>
      refine Or.inr ⟨new, rfl, rfl, ?_⟩
      simp only [Value.set, hv, getAndUpdate, hc, eqOpt_refl h, Bool.not_true, Bool.false_eq_true, ↓reduceIte]
      rfl

theorem value_set_eq (cfg : Cfg M K R) (h : EqRefl cfg.ops) (s : VState M) (msg : M) (wr : WriteReq M K) :
    Value.set cfg s msg wr = Spec.set cfg s msg wr := by
  unfold Spec.set
  rcases Value.set_cases cfg h s msg wr with ⟨c, e, hv | ⟨hv, hc⟩⟩ | ⟨new, hv, hc, e⟩ <;> rw [e]
  · simp only [hv]
  · rw [changeFn_eq] at hc; simp only [hv, hc]
  · rw [changeFn_eq] at hc; simp only [hv, hc, savedV_eq]; cases wr.writeTime <;> rfl

theorem lookup_setItem (items : List (String × Item M)) (id : String) (it : Item M) (k : String) :
    lookup (setItem items id it) k = if k = id then some it else lookup items k := by
  induction items with
  | nil => simp only [setItem, lookup]; split <;> simp_all [eq_comm]
  | cons x xs ih =>
    obtain ⟨k', v⟩ := x
    simp only [setItem]
    by_cases h : k' = id
    · subst h
      simp only [↓reduceIte, lookup]
      by_cases h2 : k' = k <;> simp [h2, eq_comm]
      intro h3; exact absurd h3.symm h2
    · simp only [h, ↓reduceIte, lookup, ih]
      by_cases h2 : k' = k
      · subst h2; simp [h]
      · simp [h2]

theorem lookup_eraseItem (items : List (String × Item M)) (id : String) (k : String) :
    lookup (eraseItem items id) k = if k = id then none else lookup items k := by
  induction items with
  | nil => simp [eraseItem, lookup]
  | cons x xs ih =>
    obtain ⟨k', v⟩ := x
    unfold eraseItem at ih ⊢
    by_cases h : k' = id
    · subst h
      simp only [List.filter, ne_eq, not_true_eq_false, decide_false, ih, lookup]
      by_cases h2 : k' = k
      · subst h2; simp
      · simp [h2]
    · simp only [List.filter, ne_eq, h, not_false_eq_true, decide_true, lookup, ih]
      by_cases h2 : k' = k
      · subst h2; simp [h]
      · simp [h2]

theorem abs_setItem (s : CState M R) (id : String) (it : Item M) :
    abs { s with items := setItem s.items id it } = (abs s).put id it := by
  simp only [abs, SState.put, funext (lookup_setItem _ _ _)]

theorem abs_eraseItem (s : CState M R) (id : String) :
    abs { s with items := eraseItem s.items id } = (abs s).del id := by
  simp only [abs, SState.del, funext (lookup_eraseItem _ _)]

theorem genLoop_some (gen : R → Nat → String × R) (ex : String → Bool) :
    ∀ fuel i r c r', genLoop gen ex fuel i r = (some c, r') → c ≠ "" ∧ ex c = false := by
  intro fuel
  induction fuel with
  | zero => intro i r c r' h; simp [genLoop] at h
  | succ n ih =>
    intro i r c r' h
    simp only [genLoop] at h
    split at h
    · rename_i hc
      simp only [Prod.mk.injEq, Option.some.injEq] at h
      obtain ⟨h1, _⟩ := h
      subst h1
      simpa using hc
    · exact ih _ _ _ _ h

theorem genID_some (cfg : Cfg M K R) (used : String → Bool) (rng : R) (id' : String) (rng' : R)
    (h : genID cfg used rng = (some id', rng')) :
    used id' = false ∧ ∃ cand, cand ≠ "" ∧ id' = icptId cfg cand := by
  unfold genID at h
  rcases hl : genLoop cfg.gen (fun cand => used (icptId cfg cand)) 10 0 rng with ⟨r, rg⟩
  rw [hl] at h
  cases r with
  | none => simp at h
  | some c =>
    simp only [Option.map_some, Prod.mk.injEq, Option.some.injEq] at h
    have hc := genLoop_some _ _ _ _ _ _ _ hl
    rw [← h.1]
    exact ⟨hc.2, c, hc.1, rfl⟩

/-- the model's test on the starting id is the code's `(idAbsent || id == "") && genEmptyID` -/
theorem updKey_gen (cfg : Cfg M K R) (wr : WriteReq M K) (id : String) :
    (updKey cfg wr id = "" && wr.genEmptyID) = (idAbsent cfg id && wr.genEmptyID) := by
  unfold updKey idAbsent
  by_cases hid : id = "" <;> cases wr.genEmptyID <;> simp [hid]

theorem updKey_nogen (cfg : Cfg M K R) (wr : WriteReq M K) (id : String)
    (hg : (idAbsent cfg id && wr.genEmptyID) = false) :
    updKey cfg wr id = icptId cfg id ∧ (icptId cfg id = "" && wr.genEmptyID) = false := by
  unfold updKey
  unfold idAbsent at hg
  by_cases hid : id = "" <;> cases hgen : wr.genEmptyID <;> simp_all

theorem updGet_frame (cfg : Cfg M K R) (wr : WriteReq M K) (c : UpdCtx M R) :
    (updGet cfg wr c).2.st.items = c.st.items ∧ (updGet cfg wr c).2.st.clock = c.st.clock := by
  unfold updGet
  cases hcr : c.created with
  | some cr =>
    simp only
    cases lookup c.st.items c.id with
    | none => simp
    | some it => by_cases hx : wr.expectAbsent = true <;> simp [hx]
  | none =>
    simp only
    by_cases hg : (c.id = "" && wr.genEmptyID) = true
    · simp only [hg, ↓reduceIte]
      rcases hgen : genID cfg (usedIn c.st.items) c.st.rng with ⟨r, rng'⟩
      cases r with
      | none => simp
      | some id' =>
        simp only
        cases lookup c.st.items id' with
        | none => by_cases hc : wr.createIfAbsent = true <;> simp [hc]
        | some it => by_cases hx : wr.expectAbsent = true <;> simp [hx]
    · simp only [hg, Bool.false_eq_true, ↓reduceIte]
      cases lookup c.st.items c.id with
      | none => by_cases hc : wr.createIfAbsent = true <;> simp [hc]
      | some it => by_cases hx : wr.expectAbsent = true <;> simp [hx]

theorem updateTimeC_items (cfg : Cfg M K R) (wr : WriteReq M K) (st : CState M R) :
    (updateTimeC cfg wr st).2.items = st.items := by
  unfold updateTimeC nowC; cases wr.writeTime <;> rfl

/-- what `Update` returns and leaves when it saves `new` from the context `c` of its re-validation read, having read `old` -/
def savedC (cfg : Cfg M K R) (wr : WriteReq M K) (c : UpdCtx M R) (old : Option M) (new : M) : COut M × CState M R :=
  let st := (updSave cfg wr c new).st
  let add := old.isNone || (c.created.isSome && !c.createdMeanwhile)
  ({ val := some new, err := none,
     events := [{ id := c.id, time := (updateTimeC cfg wr st).1, kind := if add then .add else .update,
                  old := if add then none else old, new := some new }],
     idCalls := c.idCalls, createdCalls := c.createdCalls }, (updateTimeC cfg wr st).2)

theorem lookup_savedC (cfg : Cfg M K R) (wr : WriteReq M K) (c : UpdCtx M R) (old : Option M) (m : M) :
    ∃ t, lookup (savedC cfg wr c old m).2.items c.id = some { body := m, time := t } :=
  ⟨(updateTimeC cfg wr c.st).1, by simp [savedC, updSave, updateTimeC_items, lookup_setItem]⟩

/-- saving and announcing, seen through `abs`, is the reference's `commit` (an item being created is announced without an
old value) -/
theorem savedC_abs (cfg : Cfg M K R) (wr : WriteReq M K) (st : CState M R) (id : String) (old : Option M)
    (created : Option M) (new : M) (idCalls : List String) (cc : Nat) :
    let c1 : UpdCtx M R := { st := st, id := id, created := created, idCalls := idCalls, createdCalls := cc }
    let old' : Option M := if (old.isNone || created.isSome) then none else old
    ((savedC cfg wr c1 old new).1, abs (savedC cfg wr c1 old new).2) = Spec.commit cfg wr (abs st) id old' new idCalls cc := by
  intro c1 old'
  have hk : (if (old.isNone || created.isSome) then Kind.add else Kind.update) =
      (if old'.isNone then Kind.add else Kind.update) := by
    simp only [old']
    cases old <;> cases created <;> simp
  have ho : (if (old.isNone || created.isSome) then none else old) = old' := rfl
  simp only [savedC, c1, updSave, updateTimeC, nowC, Spec.commit, Bool.not_false, Bool.and_true, hk, ho]
  cases wr.writeTime <;> simp [abs, SState.put, funext (lookup_setItem _ _ _)]

/-- `Update` when both reads of `updGet` answer `old` and the second leaves the context as the first left it: the
three phases collapse to the reference's change and commit on what the first read resolved and found. -/
theorem coll_update_same_reads (cfg : Cfg M K R) (h : EqRefl cfg.ops) (s : CState M R) (id : String) (msg : M)
    (wr : WriteReq M K) (old : Option M) (st : CState M R) (id1 : String) (created : Option M) (calls : List String)
    (cc : Nat) (hv : cfg.ops.validate (fieldUpdater cfg wr) msg = none)
    (h1 : updGet cfg wr { st := s, id := updKey cfg wr id, created := none, idCalls := [], createdCalls := 0 }
            = (.ok old, { st := st, id := id1, created := created, idCalls := calls, createdCalls := cc }))
    (h2 : updGet cfg wr { st := st, id := id1, created := created, idCalls := calls, createdCalls := cc }
            = (.ok old, { st := st, id := id1, created := created, idCalls := calls, createdCalls := cc })) :
    ((Coll.update cfg s id msg wr).1, abs (Coll.update cfg s id msg wr).2) =
      match Spec.newValue cfg.ops wr (fieldUpdater cfg wr) msg old (old.getD cfg.ops.zero) with
      | .error e => (failOut e calls cc, abs st)
      | .ok new =>
        Spec.commit cfg wr (abs st) id1 (if (old.isNone || created.isSome) then none else old) new calls cc := by
  unfold Coll.update Coll.updateAt
  simp only [hv, gau_same_reads cfg.ops h _ _ _ _ _ _ h1 h2, changeFn_eq]
  cases Spec.newValue cfg.ops wr (fieldUpdater cfg wr) msg old (old.getD cfg.ops.zero) with
  | error e => rfl
  | ok new => exact savedC_abs cfg wr st id1 old created new calls cc

/-- `Update` when the first read of `updGet` fails -/
theorem coll_update_read_fails (cfg : Cfg M K R) (s : CState M R) (id : String) (msg : M) (wr : WriteReq M K) (e : Code)
    (c1 : UpdCtx M R) (hv : cfg.ops.validate (fieldUpdater cfg wr) msg = none)
    (h1 : updGet cfg wr { st := s, id := updKey cfg wr id, created := none, idCalls := [], createdCalls := 0 }
            = (.error e, c1)) :
    Coll.update cfg s id msg wr = (failOut e c1.idCalls c1.createdCalls, c1.st) := by
  unfold Coll.update Coll.updateAt
  simp only [hv, gau_read_fails cfg.ops _ _ _ _ _ _ h1]
  rfl

/-- The model's `Update` is the reference's.  By cases on how the first read of `updGet` ends (id generation, lookup,
the two flags): when it fails `coll_update_read_fails` applies; in the three cases that go on to the change phase both
reads answer the same, and `coll_update_same_reads` applies; the reference side is computed. -/
theorem coll_update_eq (cfg : Cfg M K R) (h : EqRefl cfg.ops) (s : CState M R) (id : String) (msg : M)
    (wr : WriteReq M K) :
    (Coll.update cfg s id msg wr).1 = (Spec.update cfg (abs s) id msg wr).1 ∧
    abs (Coll.update cfg s id msg wr).2 = (Spec.update cfg (abs s) id msg wr).2 := by
  suffices e : ((Coll.update cfg s id msg wr).1, abs (Coll.update cfg s id msg wr).2) = Spec.update cfg (abs s) id msg wr from
    ⟨congrArg Prod.fst e, congrArg Prod.snd e⟩
  cases hv : cfg.ops.validate (fieldUpdater cfg wr) msg with
  | some c => simp [Coll.update, Coll.updateAt, Spec.update, hv, failOut]
  | none =>
    by_cases hg : (idAbsent cfg id && wr.genEmptyID) = true
    · have hk : (updKey cfg wr id = "" && wr.genEmptyID) = true := by rw [updKey_gen]; exact hg
      rcases hgen : genID cfg (usedIn s.items) s.rng with ⟨r, rng'⟩
      have hgen' : genID cfg (fun k => (lookup s.items k).isSome) s.rng = (r, rng') := hgen
      cases r with
      | none =>
        rw [coll_update_read_fails cfg s id msg wr .aborted _ hv (by simp [updGet, hk, hgen]; rfl)]
        simp [Spec.update, hv, hg, hgen', abs]
      | some id' =>
        have hl : lookup s.items id' = none := by
          have := (genID_some cfg _ _ _ _ hgen).1
          simpa [usedIn] using this
        cases hcia : wr.createIfAbsent with
        | false =>
          rw [coll_update_read_fails cfg s id msg wr .notFound _ hv (by simp [updGet, hk, hgen, hl, hcia]; rfl)]
          simp [Spec.update, hv, hg, hgen', abs, hl, hcia]
        | true =>
          rw [coll_update_same_reads cfg h s id msg wr (some cfg.ops.zero) { s with rng := rng' } id' (some cfg.ops.zero)
            (if wr.idCb then [id'] else []) (if wr.createdCb then 1 else 0) hv
            (by simp [updGet, hk, hgen, hl, hcia]) (by simp [updGet, hl])]
          simp [Spec.update, hv, hg, abs, hgen', hl, hcia]
          generalize Spec.newValue _ _ _ _ _ _ = r
          cases r <;> rfl
    · have hg' : (idAbsent cfg id && wr.genEmptyID) = false := by simpa using hg
      obtain ⟨hkey, hk'⟩ := updKey_nogen cfg wr id hg'
      cases hl : lookup s.items (icptId cfg id) with
      | some it =>
        cases hxa : wr.expectAbsent with
        | true =>
          rw [coll_update_read_fails cfg s id msg wr .alreadyExists _ hv (by simp [updGet, hkey, hk', hl, hxa]; rfl)]
          simp [Spec.update, hv, hg', abs, hl, hxa]
        | false =>
          rw [coll_update_same_reads cfg h s id msg wr (some it.body) s (icptId cfg id) none [] 0 hv
            (by simp [updGet, hkey, hk', hl, hxa]) (by simp [updGet, hk', hl, hxa])]
          simp [Spec.update, hv, hg', abs, hl, hxa]
          generalize Spec.newValue _ _ _ _ _ _ = r
          cases r <;> rfl
      | none =>
        cases hcia : wr.createIfAbsent with
        | false =>
          rw [coll_update_read_fails cfg s id msg wr .notFound _ hv (by simp [updGet, hkey, hk', hl, hcia]; rfl)]
          simp [Spec.update, hv, hg', abs, hl, hcia]
        | true =>
          rw [coll_update_same_reads cfg h s id msg wr (some cfg.ops.zero) s (icptId cfg id) (some cfg.ops.zero) []
            (if wr.createdCb then 1 else 0) hv (by simp [updGet, hkey, hk', hl, hcia]) (by simp [updGet, hl])]
          simp [Spec.update, hv, hg', abs, hl, hcia]
          generalize Spec.newValue _ _ _ _ _ _ = r
          cases r <;> rfl

/-- the two tests of `Delete` on the item it read, in the order of the code: the caller's check, then the expected value -/
def DelPasses (cfg : Cfg M K R) (wr : WriteReq M K) (it : Item M) : Prop :=
  (∀ chk, wr.expectedCheck = some chk → chk (some it.body) = none) ∧
  (∀ ev, wr.expectedValue = some ev → cfg.ops.eq it.body ev = true)

/-- One attempt of `Delete`'s loop whose read was `read` (current or stale) on the Collection `s`: nothing was read; the
item read is refused (check first, then expected value); what is stored now is not the item read, and the loop goes round
with a fresh read; or the item read is still the one stored and is removed. -/
inductive DelAttempt (cfg : Cfg M K R) (wr : WriteReq M K) (k : String) (fuel : Nat) (read : Option (Item M))
    (s : CState M R) : COut M × CState M R → Prop
  | missing : read = none →
      DelAttempt cfg wr k fuel read s
        ({ val := none, err := if wr.allowMissing then none else some .notFound, events := [], idCalls := [],
           createdCalls := 0 }, s)
  | refused (it : Item M) (c : Code) : read = some it →
      ((∃ chk, wr.expectedCheck = some chk ∧ chk (some it.body) = some c) ∨
       (c = .failedPrecondition ∧ (∀ chk, wr.expectedCheck = some chk → chk (some it.body) = none) ∧
         ∃ ev, wr.expectedValue = some ev ∧ cfg.ops.eq it.body ev = false)) →
      DelAttempt cfg wr k fuel read s
        ({ val := some it.body, err := some c, events := [], idCalls := [], createdCalls := 0 }, s)
  | retry (it : Item M) : read = some it → DelPasses cfg wr it → sameItem cfg.ops (lookup s.items k) read = false →
      DelAttempt cfg wr k fuel read s (deleteLoop cfg wr k fuel (lookup s.items k) s)
  | removed (it : Item M) : read = some it → DelPasses cfg wr it → sameItem cfg.ops (lookup s.items k) read = true →
      DelAttempt cfg wr k fuel read s
        ({ val := some it.body, err := none,
           events := [{ id := k, time := s.clock, kind := .remove, old := some it.body, new := none }],
           idCalls := [], createdCalls := 0 },
         { s with clock := s.clock + cfg.tick, items := eraseItem s.items k })

theorem deleteLoop_attempt (cfg : Cfg M K R) (wr : WriteReq M K) (k : String) (fuel : Nat) (read : Option (Item M))
    (s : CState M R) : DelAttempt cfg wr k fuel read s (deleteLoop cfg wr k (fuel + 1) read s) := by
  cases read with
  | none =>
    rw [deleteLoop]
    have := DelAttempt.missing (cfg := cfg) (wr := wr) (k := k) (fuel := fuel) (s := s) rfl
    revert this
    cases wr.allowMissing <;> exact id
  | some it =>
    rw [deleteLoop]
    dsimp only [nowC]
    split
    · rename_i e hcr
      refine .refused it e rfl (Or.inl ?_)
      cases hchk : wr.expectedCheck with
      | none => rw [hchk] at hcr; cases hcr
      | some chk => rw [hchk] at hcr; exact ⟨chk, rfl, hcr⟩
    · rename_i hcr
      replace hcr : ∀ chk, wr.expectedCheck = some chk → chk (some it.body) = none := fun chk hchk => by
        rw [hchk] at hcr; exact hcr
      -- past the two tests: the re-read under the write lock decides between going round and removing
      have fin : DelPasses cfg wr it → DelAttempt cfg wr k fuel (some it) s
          (if (!sameItem cfg.ops (lookup s.items k) (some it)) = true then deleteLoop cfg wr k fuel (lookup s.items k) s
           else ({ val := some it.body, err := none,
                   events := [{ id := k, time := s.clock, kind := .remove, old := some it.body, new := none }],
                   idCalls := [], createdCalls := 0 },
                 { s with clock := s.clock + cfg.tick, items := eraseItem s.items k })) := by
        intro hp
        cases hsame : sameItem cfg.ops (lookup s.items k) (some it) with
        | false => exact .retry it rfl hp hsame
        | true => exact .removed it rfl hp hsame
      cases hev : wr.expectedValue with
      | none => exact fin ⟨hcr, fun ev he => by rw [hev] at he; cases he⟩
      | some ev =>
        cases hq : cfg.ops.eq it.body ev with
        | false => simp only [hq, Bool.not_false, ↓reduceIte]; exact .refused it _ rfl (Or.inr ⟨rfl, hcr, ev, hev, hq⟩)
        | true =>
          simp only [hq, Bool.not_true, Bool.false_eq_true, ↓reduceIte]
          exact fin ⟨hcr, fun ev' he => by rw [hev] at he; cases he; exact hq⟩

theorem sameItem_refl {ops : MsgOps M K} (h : EqRefl ops) (o : Option (Item M)) : sameItem ops o o = true := by
  cases o <;> simp [sameItem, h _]

/-- a current read is still the item stored: one caller's `Delete` does not go round -/
theorem sameItem_self_ne_false {ops : MsgOps M K} (h : EqRefl ops) {o : Option (Item M)} (hne : sameItem ops o o = false) :
    False := by
  rw [sameItem_refl h] at hne; cases hne

/-- `Delete` is one attempt of its loop on a current read (four attempts left) -/
theorem Coll.delete_attempt (cfg : Cfg M K R) (s : CState M R) (id : String) (wr : WriteReq M K) :
    DelAttempt cfg wr (icptId cfg id) 4 (lookup s.items (icptId cfg id)) s (Coll.delete cfg s id wr) :=
  deleteLoop_attempt cfg wr (icptId cfg id) 4 _ s

/-- however the loop is entered and whatever `Equal` does, it removes or leaves everything alone -/
theorem deleteLoop_fail_frame (cfg : Cfg M K R) (wr : WriteReq M K) (k : String) (s : CState M R) :
    ∀ (fuel : Nat) (read : Option (Item M)), (deleteLoop cfg wr k fuel read s).1.err ≠ none →
      (deleteLoop cfg wr k fuel read s).2 = s ∧ (deleteLoop cfg wr k fuel read s).1.events = [] := by
  intro fuel
  induction fuel with
  | zero => intro read _; exact ⟨rfl, rfl⟩
  | succ fuel ih =>
    intro read hf
    have ha := deleteLoop_attempt cfg wr k fuel read s
    generalize deleteLoop cfg wr k (fuel + 1) read s = r at ha hf ⊢
    cases ha with
    | missing _ => exact ⟨rfl, rfl⟩
    | refused it c _ _ => exact ⟨rfl, rfl⟩
    | retry it _ _ _ => exact ih _ hf
    | removed it _ _ _ => exact absurd rfl hf

theorem coll_delete_eq (cfg : Cfg M K R) (h : EqRefl cfg.ops) (s : CState M R) (id : String)
    (wr : WriteReq M K) :
    (Coll.delete cfg s id wr).1 = (Spec.delete cfg (abs s) id wr).1 ∧
    abs (Coll.delete cfg s id wr).2 = (Spec.delete cfg (abs s) id wr).2 := by
  unfold Coll.delete Spec.delete
  have ha := deleteLoop_attempt cfg wr (icptId cfg id) 4 (lookup s.items (icptId cfg id)) s
  simp only [abs]
  generalize hread : lookup s.items (icptId cfg id) = read at ha ⊢
  generalize deleteLoop cfg wr (icptId cfg id) 5 read s = r at ha ⊢
  cases ha with
  | missing hl => subst hl; cases wr.allowMissing <;> simp [failOut]
  | refused it c hl why =>
    subst hl
    rcases why with ⟨chk, hchk, hc⟩ | ⟨rfl, hc, ev, hev, hq⟩
    · simp [hchk, hc, failOut]
    · cases hchk : wr.expectedCheck with
      | none => simp [hev, hq, failOut]
      | some chk => simp [hc chk hchk, hev, hq, failOut]
  | retry it _ _ hne => rw [← hread] at hne; exact (sameItem_self_ne_false h hne).elim
  | removed it hl hp _ =>
    subst hl
    have hdel : abs { s with clock := s.clock + cfg.tick, items := eraseItem s.items (icptId cfg id) } =
        { ((abs s).del (icptId cfg id)) with clock := s.clock + cfg.tick } :=
      congrArg (fun t : SState M R => { t with clock := s.clock + cfg.tick }) (abs_eraseItem s (icptId cfg id))
    simp only [abs] at hdel
    -- both tests passed: the reference runs them again on the same item
    cases hchk : wr.expectedCheck with
    | none =>
      cases hev : wr.expectedValue with
      | none => exact ⟨rfl, hdel⟩
      | some ev => simp only [hp.2 ev hev, Bool.not_true, Bool.false_eq_true, ↓reduceIte]; exact ⟨trivial, hdel⟩
    | some chk =>
      cases hev : wr.expectedValue with
      | none => simp only [hp.1 chk hchk]; exact ⟨rfl, hdel⟩
      | some ev =>
        simp only [hp.1 chk hchk, hp.2 ev hev, Bool.not_true, Bool.false_eq_true, ↓reduceIte]
        exact ⟨trivial, hdel⟩

end ScVerif.C01
