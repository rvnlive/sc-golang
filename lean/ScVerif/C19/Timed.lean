import ScVerif.C19.Conc
/-!
The model clock under concurrency.

`Conc.lean` treats the clock reading of an operation as a parameter of the operation.  Here the clock is
part of the configuration: it advances by scheduler events (`Ev.tick`), and an operation that stamps a start
time (`ChangeActiveMode`, `UpdateActiveMode`, `ChangeToNormalMode`, `ClearActiveMode`) uses whatever the
clock shows when the thread reads it.  In `electricpb.Model` that reading (`m.clock.Now()` in the
`InterceptAfter` callback of `changeActiveMode`) happens after `m.mu.Lock()` and before the write of the
active mode; the model lets the thread read the clock when it reads the state and re-read it any number of
times before its write (`Ev.clk`), with ticks and steps of other threads anywhere in between.

Every performed operation is logged with the clock's value when its thread took the lock and when it wrote.
The invariant says: the shared state is the sequential run of the log; every stamped instant lies between
the lock and the write of its operation; and operations do not overlap in time (each one's lock comes after
the previous one's write) — so stamps never run backwards against the order in which modes became active.

`estep` is the variant in which the clock may also be read before the lock is taken (and is not refreshed
inside): the stamping clause fails for it (`C19_stamp_early_read_fails`), which is what the lock placement is for.
-/
namespace ScVerif.C19

/-- the instant an operation stamps with, if it reads the clock for a start time -/
def Op.now? : Op → Option Nat
  | .changeActive _ n => some n
  | .clear n => some n
  | .sChangeActive _ n => some n
  | .sClear n => some n
  | _ => none

/-- the operation with its clock reading replaced: a program has no time in it, the time is whatever the
model clock shows when the operation reads it -/
def Op.withNow (n : Nat) : Op → Op
  | .changeActive id _ => .changeActive id n
  | .clear _ => .clear n
  | .sChangeActive id _ => .sChangeActive id n
  | .sClear _ => .sClear n
  | .create m c => .create m c
  | .add m => .add m
  | .update m k w => .update m k w
  | .delete i a e => .delete i a e
  | .setActive m => .setActive m
  | .findMode i => .findMode i
  | .sCreate m c => .sCreate m c
  | .sUpdate m k => .sUpdate m k
  | .sDelete i a => .sDelete i a
  | .sCreateNil => .sCreateNil

inductive Ev where
  /-- the model clock advances by `d` -/
  | tick (d : Nat)
  /-- thread `t` takes its next step: lock / read the state and the clock / write / unlock -/
  | thr (t : Nat)
  /-- thread `t` reads the clock (again) -/
  | clk (t : Nat)
  deriving DecidableEq, Repr

/-- a performed operation, with the clock's value when its thread took the lock and when it wrote -/
structure Entry where
  op : Op
  lockAt : Nat
  writeAt : Nat

structure TThr where
  todo : List Op
  phase : Phase
  seen : St
  seenNow : Nat
  lockAt : Nat

structure TConf where
  st : St
  holder : Option Nat
  clock : Nat
  thr : Nat → TThr
  log : List Entry

def setT (c : TConf) (t : Nat) (x : TThr) : Nat → TThr := fun i => if i = t then x else c.thr i

/-- a scheduled step of thread `t`; `inside` says whether the thread refreshes its clock reading when it
reads the state inside the lock (the code does; `estep` does not) -/
def thrStep (inside : Bool) (c : TConf) (t : Nat) : TConf :=
  match (c.thr t).todo with
  | [] => c
  | op :: rest =>
    match (c.thr t).phase with
    | .idle =>
      if c.holder = none then
        { c with holder := some t, thr := setT c t { c.thr t with phase := .locked, lockAt := c.clock } }
      else c
    | .locked =>
      { c with thr := setT c t { c.thr t with phase := .read, seen := c.st,
                                              seenNow := if inside then c.clock else (c.thr t).seenNow } }
    | .read =>
      { c with st := (step (c.thr t).seen (op.withNow (c.thr t).seenNow)).1,
               log := c.log ++ [⟨op.withNow (c.thr t).seenNow, (c.thr t).lockAt, c.clock⟩],
               thr := setT c t { c.thr t with phase := .written } }
    | .written =>
      { c with holder := none, thr := setT c t { c.thr t with todo := rest, phase := .idle } }

/-- One event of the code: the clock is read inside the lock only. -/
def tstep (c : TConf) : Ev → TConf
  | .tick d => { c with clock := c.clock + d }
  | .clk t => if (c.thr t).phase = .read then { c with thr := setT c t { c.thr t with seenNow := c.clock } } else c
  | .thr t => thrStep true c t

def trun (c : TConf) : List Ev → TConf
  | [] => c
  | e :: es => trun (tstep c e) es

/-- The variant that reads the clock BEFORE queuing for the lock (`now := m.clock.Now(); m.mu.Lock()`): `clk`
is enabled while the thread is idle, and the reading is not refreshed inside. -/
def estep (c : TConf) : Ev → TConf
  | .tick d => { c with clock := c.clock + d }
  | .clk t => if (c.thr t).phase = .idle then { c with thr := setT c t { c.thr t with seenNow := c.clock } } else c
  | .thr t => thrStep false c t

def erun (c : TConf) : List Ev → TConf
  | [] => c
  | e :: es => erun (estep c e) es

def tinit (s0 : St) (progs : Nat → List Op) : TConf :=
  ⟨s0, none, 0, fun i => ⟨progs i, .idle, s0, 0, 0⟩, []⟩

end ScVerif.C19
