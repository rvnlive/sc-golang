import ScVerif.C19.ActiveW
import ScVerif.C19.IcptInv
/-!
With `id` writable the calls of `wstep aw` have the effects of the keyed calls (`wCall_effect`), so the invariants of
`IcptInv.lean` hold of the writable-fields layer.
-/
namespace ScVerif.C19

theorem writeActive_id {aw : Option (List Field)} (h : IdWritable aw) (dst src : Mode) :
    (writeActive aw dst src).id = src.id := by
  cases aw with
  | none => rfl
  | some w =>
    have h' : Field.id ∈ w := h
    simp [writeActive, selectW, h']

theorem wstep_none (k : KSt) (op : Op) : wstep none k op = kstep k op := by
  cases op <;> rfl

def wCall (aw : Option (List Field)) (k : KSt) : Call → KSt × Res
  | .setActive m => wsetActive aw k m
  | .changeActive id now => wchangeActive aw k id now
  | .changeToNormal now => wchangeToNormal aw k now
  | cl => kCall k cl

theorem wstep_serve (aw : Option (List Field)) (k : KSt) (op : Op) :
    wstep aw k op = op.serve (fun r => (k, r)) (wCall aw k) dropVal := by
  cases op with
  | add m => exact kstep_serve k (.add m)
  | sDelete id am => exact kstep_serve k (.sDelete id am)
  | _ => rfl

/-- with `id` writable the calls have the effects of the calls without the option: what is made active still goes with
the stored record found -/
theorem wCall_effect {aw : Option (List Field)} (hw : IdWritable aw) (k : KSt) (cl : Call) :
    Effect (fun x => x) k cl (wCall aw k cl) := by
  have hca : ∀ id now, Effect (fun x => x) k cl (wchangeActive aw k id now) := by
    intro id now
    unfold wchangeActive
    cases hf : kfind k id with
    | none => exact .same _
    | some m => exact .activate _ hf (Or.inl (by split <;> exact writeActive_id hw _ _))
  have hk : ∀ cl', wCall aw k cl' = kCall k cl' → Effect (fun x => x) k cl' (wCall aw k cl') := fun cl' h => by
    rw [h, kCall_ik]
    exact ikCall_effect _ k cl'
  cases cl with
  | setActive m =>
    dsimp only [wCall, wsetActive]
    cases hf : kfind k m.id with
    | none => exact .same _
    | some st => exact .activate _ hf (Or.inr ⟨(writeActive_id hw _ _).symm, fun _ ho => by rw [writeActive_id hw]; exact ho⟩)
  | changeActive id now => exact hca id now
  | changeToNormal now =>
    dsimp only [wCall, wchangeToNormal]
    split
    · exact .same _
    · exact hca _ now
  | _ => exact hk _ rfl

/-- without interceptor every id is guarded, so the invariants hold for any set `G` of active ids -/
theorem wstep_JG {aw : Option (List Field)} (hw : IdWritable aw) {G : String → Prop} {k : KSt}
    (h : J (fun x => x) k.recs ∧ ActKey (fun x => x) G k) (op : Op) (ht : op.Tame) :
    J (fun x => x) (wstep aw k op).1.recs ∧ ActKey (fun x => x) G (wstep aw k op).1 := by
  rw [wstep_serve]
  exact serve_JG idem_id guarded_id (wCall_effect hw k) h op ht

theorem wrun_JA {aw : Option (List Field)} (hw : IdWritable aw) : ∀ (ops : List Op) (k : KSt), J (fun x => x) k.recs →
    A (fun x => x) k → (∀ op ∈ ops, op.Tame) → J (fun x => x) (wrun aw k ops).recs ∧ A (fun x => x) (wrun aw k ops) :=
  fun ops k hj ha ht =>
    run_keeps (P := fun k : KSt => J (fun x => x) k.recs ∧ A (fun x => x) k) (fun _ => rfl) (fun _ _ _ => rfl)
      (fun _ op h ht => wstep_JG hw (G := (· ≠ "")) h op ht) ops k ⟨hj, ha⟩ ht

end ScVerif.C19
