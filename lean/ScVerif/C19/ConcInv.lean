import ScVerif.C19.Conc
import ScVerif.C19.Lemmas
/-!
The invariant `CInv` of the interleaving model of `Conc.lean`, proved thread by thread (`COk`).
-/
namespace ScVerif.C19

/-- `P` is any property of operations that holds of every operation of every program (e.g. "comes from
`progs`", or "its caller-supplied options are tame"): the serial order consists of such operations only. -/
structure CInv (P : Op → Prop) (s0 : St) (c : Conf) : Prop where
  excl : ∀ t, (c.thr t).phase ≠ .idle → c.holder = some t
  fresh : ∀ t, (c.thr t).phase = .read → (c.thr t).seen = c.st
  todoP : ∀ t, ∀ op ∈ (c.thr t).todo, P op
  serial : ∃ ops, c.st = run s0 ops ∧ ∀ op ∈ ops, P op

theorem cinv_init (P : Op → Prop) (s0 : St) (progs : Nat → List Op) (hP : ∀ t, ∀ op ∈ progs t, P op) :
    CInv P s0 (cinit s0 progs) :=
  ⟨fun t h => absurd rfl h, fun t h => by simp [cinit] at h, hP, ⟨[], rfl, fun _ h => by cases h⟩⟩

theorem forall_update {α : Type} {Ok : Nat → α → Prop} {f : Nat → α} {t : Nat} {x : α} (ht : Ok t x)
    (ho : ∀ u, u ≠ t → Ok u (f u)) (u : Nat) : Ok u (if u = t then x else f u) := by
  by_cases hut : u = t
  · rw [if_pos hut]; exact hut ▸ ht
  · rw [if_neg hut]; exact ho u hut

theorem others_idle {holder : Option Nat} {phase : Nat → Phase} (h : ∀ u, phase u ≠ .idle → holder = some u) {t : Nat}
    (hh : holder = none ∨ holder = some t) (u : Nat) (hut : u ≠ t) : phase u = .idle :=
  Decidable.byContradiction fun hu => by
    have := h u hu
    rcases hh with hh | hh <;> rw [hh] at this
    · cases this
    · exact hut (Option.some.inj this).symm

/-- what `CInv` says of the one thread `u` with record `x`, given the lock holder and the shared state -/
structure COk (P : Op → Prop) (holder : Option Nat) (st : St) (u : Nat) (x : Thr) : Prop where
  excl : x.phase ≠ .idle → holder = some u
  fresh : x.phase = .read → x.seen = st
  todoP : ∀ op ∈ x.todo, P op

section

variable {P : Op → Prop} {s0 : St} {c : Conf} {holder : Option Nat} {st : St} {u : Nat} {x : Thr}

theorem cinv_of (h : ∀ u, COk P c.holder c.st u (c.thr u)) (serial : ∃ ops, c.st = run s0 ops ∧ ∀ op ∈ ops, P op) :
    CInv P s0 c :=
  ⟨fun u => (h u).excl, fun u => (h u).fresh, fun u => (h u).todoP, serial⟩

theorem cOk_idle (hph : x.phase = .idle) (ht : ∀ op ∈ x.todo, P op) : COk P holder st u x :=
  ⟨fun h => absurd hph h, fun h => (by rw [hph] at h; cases h), ht⟩

end

theorem cstep_inv {P : Op → Prop} {s0 : St} {c : Conf} (hi : CInv P s0 c) (t : Nat) : CInv P s0 (cstep c t) := by
  unfold cstep
  cases htodo : (c.thr t).todo with
  | nil => exact hi
  | cons op rest =>
    have htd := hi.todoP t
    dsimp only
    cases hph : (c.thr t).phase with
    | idle =>
      dsimp only
      by_cases hh : c.holder = none
      · rw [if_pos hh]
        refine cinv_of (forall_update (Ok := COk _ _ _) ⟨fun _ => rfl, nofun, htd⟩ fun u hut => ?_) hi.serial
        exact cOk_idle (others_idle hi.excl (Or.inl hh) u hut) (hi.todoP u)
      · rw [if_neg hh]; exact hi
    | locked =>
      -- holder and shared state stay: the other threads' clauses are the old ones
      have hhold := hi.excl t (by rw [hph]; exact Phase.noConfusion)
      exact cinv_of (forall_update (Ok := COk _ _ _) ⟨fun _ => hhold, fun _ => rfl, htd⟩ fun u _ => ⟨hi.excl u, hi.fresh u, hi.todoP u⟩) hi.serial
    | read =>
      have hseen := hi.fresh t hph
      have hhold := hi.excl t (by rw [hph]; exact Phase.noConfusion)
      refine cinv_of (forall_update (Ok := COk _ _ _) ⟨fun _ => hhold, nofun, htd⟩ fun u hut => ?_) ?_
      · exact cOk_idle (others_idle hi.excl (Or.inr hhold) u hut) (hi.todoP u)
      · obtain ⟨ops, hops, hPs⟩ := hi.serial
        refine ⟨ops ++ [op], ?_, ?_⟩
        · show (step (c.thr t).seen op).1 = run s0 (ops ++ [op])
          rw [run_append, ← hops, hseen]; rfl
        · intro o ho
          rcases List.mem_append.mp ho with ho | ho
          · exact hPs o ho
          · rw [List.mem_singleton.mp ho]
            exact htd op (by rw [htodo]; exact List.mem_cons_self)
    | written =>
      have hhold := hi.excl t (by rw [hph]; exact Phase.noConfusion)
      refine cinv_of (forall_update (Ok := COk _ _ _) (cOk_idle rfl fun o ho => htd o (by rw [htodo]; exact List.mem_cons_of_mem _ ho)) fun u hut => ?_) hi.serial
      exact cOk_idle (others_idle hi.excl (Or.inr hhold) u hut) (hi.todoP u)

theorem crun_inv {P : Op → Prop} {s0 : St} {c : Conf} (hi : CInv P s0 c) (sched : List Nat) : CInv P s0 (crun c sched) := by
  induction sched generalizing c with
  | nil => exact hi
  | cons t ts ih => exact ih (cstep_inv hi t)

end ScVerif.C19
