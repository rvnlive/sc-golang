import ScVerif.C19.PropsIcpt
import ScVerif.C19.ActiveWLemmas
/-!
# C19 — writable fields on the active mode resource

`NewModel(WithActiveModeOption(resource.WithWritablePaths(&traits.ElectricMode{}, paths…)))`: writes to the active mode
touch the writable fields only (`ActiveW.lean`, `wstep aw`).
-/
namespace ScVerif.C19

/-- Without the option `wstep` is the keyed model: state, result, PullActiveMode events. -/
theorem C19_activew_none (k : KSt) (op : Op) :
    wstep none k op = kstep k op ∧ wactiveEvents none k op = kactiveEvents k op := by
  refine ⟨wstep_none k op, ?_⟩
  unfold wactiveEvents kactiveEvents
  rw [wstep_none]

/-- "Switching to a different mode stamps its start time with the clock's current time", for ANY
writable fields (`start_time` among them or not, `id` among them or not): the stamp is applied to the RESULT of the write,
after the writable-field filter.  The UpdateActiveMode RPC, `ChangeToNormalMode` and the ClearActiveMode RPC are the
same step. -/
theorem C19_activew_stamp (aw : Option (List Field)) (k : KSt) (id : String) (now : Nat) :
    (let r := wstep aw k (.changeActive id now)
     r.2.isOk = true → r.2 = .ok (some r.1.active) ∧ r.1.changed = true ∧ r.1.recs = k.recs ∧
       (r.1.active.id ≠ k.active.id → r.1.active.start = some now) ∧
       (IdWritable aw → (kfind k id).map (·.id) = some r.1.active.id)) ∧
    (id ≠ "" → wstep aw k (.sChangeActive id now) = wstep aw k (.changeActive id now)) ∧
    (∀ n, normalMode k.abs = some n →
      wstep aw k (.clear now) = wstep aw k (.changeActive n.id now) ∧
      wstep aw k (.sClear now) = wstep aw k (.changeActive n.id now)) := by
  refine ⟨?_, fun hne => by simp only [wstep, hne, if_false], fun n hn => ?_⟩
  · simp only [wstep]
    unfold wchangeActive
    cases hf : kfind k id with
    | none => intro h; simp [Res.isOk] at h
    | some m =>
      intro _
      dsimp only
      by_cases hc : k.active.id ≠ (writeActive aw k.active m).id
      · rw [if_pos hc]
        refine ⟨rfl, rfl, rfl, fun _ => rfl, fun hw => ?_⟩
        show some m.id = some (writeActive aw k.active m).id
        rw [writeActive_id hw]
      · rw [if_neg hc]
        refine ⟨rfl, rfl, rfl, fun hne => absurd (Decidable.not_not.mp hc).symm hne, fun hw => ?_⟩
        show some m.id = some (writeActive aw k.active m).id
        rw [writeActive_id hw]
  · simp only [wstep, wchangeToNormal, hn, and_self]

/-- With `id` writable (or no such option): the invariants after any tame run from any state that
satisfies them (a new model, any configuration of `C19_keyed_inv`), I3 by key, and a delete of the active mode's id is
refused at both API levels (I2). -/
theorem C19_activew_inv (aw : Option (List Field)) (hw : IdWritable aw) (k0 : KSt)
    (hkc : ∀ e ∈ k0.recs, e.1 = e.2.id) (hnd : (k0.recs.map (·.1)).Nodup)
    (h1 : ∀ e1 ∈ k0.recs, ∀ e2 ∈ k0.recs, e1.2.normal = true → e2.2.normal = true → e1 = e2)
    (ha0 : k0.changed = true → k0.active.id ≠ "" → k0.active.id ∈ k0.recs.map (·.1))
    (ops : List Op) (ht : ∀ op ∈ ops, op.Tame) :
    let k := wrun aw k0 ops
    ((k.recs.map (·.2)).filter (·.normal)).length ≤ 1 ∧
    (∀ e ∈ k.recs, e.1 = e.2.id) ∧ (k.recs.map (·.1)).Nodup ∧
    (k.changed = true → k.active.id ≠ "" →
      (∃ st, kfind k k.active.id = some st ∧ st.id = k.active.id) ∧
      ∀ am d, wstep aw k (.delete k.active.id am d) = (k, .err .failedPrecondition) ∧
        (k.active.id ≠ "" → wstep aw k (.sDelete k.active.id am) = (k, .err .failedPrecondition))) := by
  obtain ⟨hj, ha⟩ := wrun_JA hw ops k0 ⟨hkc, hnd, h1⟩ ha0 ht
  intro k
  refine ⟨J_count hj, hj.kc, hj.nd, fun hch hne0 => ?_⟩
  have hin := ha hch hne0
  refine ⟨?_, fun am d => ?_⟩
  · exact find_key (c := fun x => x) hj.kc hin
  · constructor
    · simp only [wstep, kstep, kdeleteMode, if_true]
    · intro hne
      simp only [wstep, kstep, hne, if_false, kdeleteMode, if_true]

/-- `IdWritable` matters, and the stamp clause is conditional for a reason: with only `title`
writable `ChangeActiveMode("b")` succeeds, the active mode takes `b`'s title but keeps the id `a` — no switch of id, no
stamp.  (The caller configured the resource so; the model follows the code.) -/
theorem C19_activew_id_needed :
    let r := wstep (some [.title]) ksAB (.changeActive "b" 5)
    r.2.isOk = true ∧ r.1.active.id = "a" ∧ r.1.active.title = mB.title ∧ r.1.active.start = ksAB.active.start := by
  decide +kernel

/-- `C19_activew_stamp` is not vacuous: with everything but `start_time` writable (the configuration of 5105353) the
switch from `a` to `b` succeeds, changes the id and stamps 5 -/
example : let r := wstep (some [.id, .title, .description, .voltage, .segments, .normal]) ksAB (.changeActive "b" 5)
    r.2.isOk = true ∧ r.1.active.id = "b" ∧ r.1.active.start = some 5 ∧
    Field.id ∈ [Field.id, .title, .description, .voltage, .segments, .normal] := by decide +kernel
/-- `C19_activew_inv` applies to `ksAB` (records under their ids, distinct keys, the active id a key) -/
example : (∀ e ∈ ksAB.recs, e.1 = e.2.id) ∧ (ksAB.recs.map (·.1)).Nodup ∧
    (ksAB.changed = true → ksAB.active.id ≠ "" → ksAB.active.id ∈ ksAB.recs.map (·.1)) ∧
    ksAB.active.id ≠ "" := by decide +kernel

end ScVerif.C19
