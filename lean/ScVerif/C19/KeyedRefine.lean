import ScVerif.C19.Effect
/-!
The keyed model against `Electric.lean`: where every record carries its key, every operation of `kstep` is the operation of
`step` on the listing, for any options, and publishes the same events; tame operations stay there.  The keyed model is the
interceptor model of `Icpt.lean` with the identity: what a call does is its `Effect` there.
-/
namespace ScVerif.C19

/-- what the model shows of a keyed result -/
def lift (r : KSt × Res) : St × Res := (r.1.abs, r.2)

theorem kgenId_abs {k : KSt} (h : KeyOk k) (cands : List String) : kgenId k cands = genId k.abs cands := by
  unfold kgenId genId
  congr 1
  funext c
  rw [kfind_abs h]

theorem kchooseId_abs {k : KSt} (h : KeyOk k) (m : Mode) (cands : List String) :
    kchooseId k m cands = chooseId k.abs m cands := by
  unfold kchooseId chooseId
  rw [kgenId_abs h]

theorem kcreateOrAdd_abs {k : KSt} (h : KeyOk k) (m : Mode) (cands : List String) :
    lift (kcreateOrAdd k m cands) = createOrAdd k.abs m cands := by
  unfold kcreateOrAdd createOrAdd
  rw [kchooseId_abs h]
  by_cases hg : m.normal = true ∧ (normalMode k.abs).isSome = true
  · simp only [hg, and_self, if_true, lift]
  · simp only [hg, if_false]
    cases hc : chooseId k.abs m cands with
    | none => rfl
    | some id =>
      simp only [kfind_abs h]
      have hr : RecsOk k.recs := h
      by_cases hf : (find k.abs id).isSome = true
      · rw [if_pos hf, if_pos hf]; rfl
      · rw [if_neg hf, if_neg hf]
        simp only [lift, KSt.abs, kinsert_abs hr]
        rw [insertAt_of_id (m := { m with id := id }) rfl]

theorem knamesActive_keyOk {k : KSt} (h : KeyOk k) {id : String} (hn : knamesActive k id = true) :
    id = k.active.id := by
  obtain ⟨st, hf, hn⟩ := (iknamesActive_iff (fun x => x) k id).mp (knamesActive_ik k id ▸ hn)
  have hst : id = st.id := h (id, st) (kfindL_some hf)
  rcases hn with hn | ⟨_, cur, hc, hn⟩
  · rw [hst, hn]
  · have hcur : k.active.id = cur.id := h (k.active.id, cur) (kfindL_some hc)
    rw [hst, hcur, hn]

/-- where every record carries its key `deleteMode` decides as it did before 00bc77e / c078347 -/
theorem kdeleteMode_eq_unfixed {k : KSt} (h : KeyOk k) (id : String) (am : Bool) (d : DOpts) :
    kdeleteMode k id am d = kdeleteModeUnfixed k id am d := by
  unfold kdeleteMode kdeleteModeUnfixed
  by_cases ha : id = k.active.id
  · rw [if_pos ha, if_pos ha]
  · rw [if_neg ha, if_neg ha]
    cases hn : knamesActive k id with
    | false => simp
    | true => exact absurd (knamesActive_keyOk h hn) ha

theorem kdeleteMode_abs {k : KSt} (h : KeyOk k) (id : String) (am : Bool) (d : DOpts) :
    lift (kdeleteMode k id am d) = deleteMode k.abs id am d := by
  rw [kdeleteMode_eq_unfixed h]
  unfold kdeleteModeUnfixed kdeleteBody deleteMode
  rw [kfind_abs h]
  by_cases ha : id = k.active.id
  · have : id = k.abs.active.id := ha
    rw [if_pos ha, if_pos this]; rfl
  · have : ¬ id = k.abs.active.id := ha
    rw [if_neg ha, if_neg this]
    cases find k.abs id with
    | none => cases am <;> rfl
    | some old =>
      simp only
      cases dcheckFails d old with
      | some c => rfl
      | none =>
        simp only
        have hr : RecsOk k.recs := h
        by_cases he : expectedFails d.expected old = true
        · rw [if_pos he, if_pos he]; rfl
        · rw [if_neg he, if_neg he]
          simp only [lift, KSt.abs, kerase_abs hr]

theorem kupdateMode_abs {k : KSt} (h : KeyOk k) (m : Mode) (mask : Option Mask) (w : WOpts) :
    lift (kupdateMode k m mask w) = updateMode k.abs m mask w := by
  rw [kupdateMode_ik, ikupdateMode_eq, updateMode_eq, kfind_abs h]
  have hr : RecsOk k.recs := h
  cases updateRefusal k.abs m mask w (find k.abs m.id) with
  | some e => rfl
  | none =>
    cases find k.abs m.id with
    | some old => simp only [lift, KSt.abs, kstore_abs hr]
    | none => simp only [lift, KSt.abs, kinsert_abs hr]

theorem lift_dropVal (r : KSt × Res) : lift (dropVal r) = dropVal (lift r) := by
  obtain ⟨k, r⟩ := r
  cases r <;> rfl

theorem kCall_abs {k : KSt} (h : KeyOk k) (cl : Call) : lift (kCall k cl) = k.abs.call cl := by
  have hca : ∀ id now, lift (kchangeActive k id now) = changeActive k.abs id now := by
    intro id now
    unfold kchangeActive changeActive
    rw [kfind_abs h]
    cases find k.abs id <;> rfl
  cases cl with
  | createOrAdd m cands => exact kcreateOrAdd_abs h m cands
  | updateMode m mask w => exact kupdateMode_abs h m mask w
  | deleteMode id am d => exact kdeleteMode_abs h id am d
  | setActive m =>
    dsimp only [kCall, St.call, ksetActive, setActive]
    rw [kfind_abs h]
    cases find k.abs m.id <;> rfl
  | changeActive id now => exact hca id now
  | changeToNormal now =>
    dsimp only [kCall, St.call, kchangeToNormal, changeToNormal]
    cases normalMode k.abs with
    | none => rfl
    | some n => exact hca n.id now
  | findMode id =>
    dsimp only [kCall, St.call, lift]
    rw [kfind_abs h]
    cases find k.abs id <;> rfl

theorem kstep_abs {k : KSt} (h : KeyOk k) (op : Op) : lift (kstep k op) = step k.abs op := by
  rw [kstep_serve, step_serve]
  rcases op.serve_cases with ⟨r, _, hs⟩ | ⟨cl, _, _, hs | hs⟩ <;> rw [hs, hs]
  · rfl
  · exact kCall_abs h cl
  · rw [lift_dropVal, kCall_abs h cl]

theorem kstep_abs_fst {k : KSt} (h : KeyOk k) (op : Op) : (kstep k op).1.abs = (step k.abs op).1 :=
  congrArg Prod.fst (kstep_abs h op)

theorem kactiveEvents_abs {k : KSt} (h : KeyOk k) (op : Op) : kactiveEvents k op = activeEvents k.abs op := by
  have := kstep_abs h op
  unfold kactiveEvents activeEvents
  rw [← this]
  rfl

theorem kdiff_createOrAdd {k : KSt} (hk : KeyOk k) (m : Mode) (cands : List String) :
    evCall (fun x => x) k (.createOrAdd m cands) (ikcreateOrAdd (fun x => x) k m cands).1 =
      emitCreateOrAdd k.abs m cands := by
  have hres : (createOrAdd k.abs m cands).2 = (ikcreateOrAdd (fun x => x) k m cands).2 := by
    rw [← kcreateOrAdd_abs hk, ikcreateOrAdd_id]; rfl
  unfold emitCreateOrAdd evCall
  dsimp only [ikCallKey]
  rw [hres]
  rcases ikcreateOrAdd_cases (fun x => x) k m cands with ⟨e, h⟩ | ⟨key, _, hkey, hnone, h⟩ <;> rw [h]
  · cases ikchooseId (fun x => x) k m cands <;> simp only [diff1_self]
  · rw [hkey]
    show diff1 (kfind k key) (kfindL (kinsert key _ k.recs) key) = _
    rw [hnone, kfindL_kinsert key _ k.recs (kfindL_none hnone)]
    rfl

theorem kdiff_update {k : KSt} (hk : KeyOk k) (m : Mode) (mask : Option Mask) (w : WOpts) :
    diff1 (kfind k m.id) (kfind (kupdateMode k m mask w).1 m.id) = emitUpdate k.abs m mask w := by
  unfold emitUpdate
  rw [kupdateMode_ik, ikupdateMode_eq, updateMode_eq, ← kfind_abs hk]
  cases updateRefusal k.abs m mask w (kfind k m.id) with
  | some e => cases kfind k m.id <;> exact diff1_self _
  | none =>
    cases hold : kfind k m.id with
    | some old =>
      show diff1 (some old) (kfindL (kstore m.id _ k.recs) m.id) = _
      rw [kfindL_kstore m.id _ k.recs old hold]
      rfl
    | none =>
      show diff1 none (kfindL (kinsert m.id _ k.recs) m.id) = _
      rw [kfindL_kinsert m.id _ k.recs (kfindL_none hold)]
      rfl

theorem kdiff_delete {k : KSt} (hk : KeyOk k) (id : String) (am : Bool) (d : DOpts) :
    diff1 (kfind k id) (kfind (kdeleteMode k id am d).1 id) = emitDelete k.abs id am d := by
  have hres : (deleteMode k.abs id am d).2 = (kdeleteMode k id am d).2 := by rw [← kdeleteMode_abs hk]; rfl
  unfold emitDelete
  rw [hres, ← kfind_abs hk]
  rcases ikdeleteMode_cases (fun x => x) k id am d with ⟨r, h, hr⟩ | ⟨_, _, old, hold, h⟩
  all_goals rw [kdeleteMode_ik, h]
  · rw [diff1_self]
    cases r with
    | ok _ => rw [hr rfl]
    | err _ => cases kfind k id <;> rfl
    | panic => cases kfind k id <;> rfl
  · show diff1 (kfind k id) (kfindL (kerase id k.recs) id) = _
    rw [kfindL_kerase, hold]
    rfl

theorem kCall_diff {k : KSt} (hk : KeyOk k) (cl : Call) :
    evCall (fun x => x) k cl (ikCall (fun x => x) k cl).1 = emitCall k.abs cl := by
  cases cl with
  | createOrAdd m cands => exact kdiff_createOrAdd hk m cands
  | updateMode m mask w => exact kdiff_update hk m mask w
  | deleteMode id am d => exact kdiff_delete hk id am d
  | _ => rfl

theorem kmodeEvents_abs {k : KSt} (hk : KeyOk k) (op : Op) : kmodeEvents k op = modeEvents k.abs op := by
  unfold kmodeEvents
  rw [kwrittenKey_serve, kstep_serve, modeEvents_serve]
  rcases op.serve_cases with ⟨r, _, hs⟩ | ⟨cl, _, _, hs | hs⟩ <;> rw [hs, hs, hs]
  · rw [kCallKey_ik, kCall_ik]; exact kCall_diff hk cl
  · rw [dropVal_fst, kCallKey_ik, kCall_ik]; exact kCall_diff hk cl

/-- folding what the collection publishes into the listing gives the listing after the call -/
theorem Effect.view {k : KSt} {cl : Call} {a : KSt × Res} (he : Effect (fun x => x) k cl a) (hk : KeyOk k)
    (hnd : (k.recs.map (·.1)).Nodup) (ht : cl.Tame) :
    (evCall (fun x => x) k cl a.1).foldl applyEvent k.abs.modes = a.1.abs.modes := by
  have hr : RecsOk k.recs := hk
  rcases he.events with ⟨h, he⟩ | ⟨key, m', h, hw, he⟩ | ⟨key, old, h, hold, he⟩ <;> rw [he]
  · exact show k.recs.map (·.2) = a.1.recs.map (·.2) from congrArg (List.map (·.2)) h.symm
  · have hid : m'.id = key := (hw.key_eq idem_id ht).symm
    show _ = a.1.recs.map (·.2)
    rw [h]
    cases hf : kfind k key with
    | none =>
      rw [kput_of_none hf, kinsert_abs hr, insertAt_of_id hid]
      rfl
    | some old =>
      rw [kput_of_some hf, kstore_abs hr, storeAt_of_id hid]
      show (if old = m' then [] else [ModeEvent.update old m']).foldl applyEvent _ = _
      by_cases heq : old = m'
      · -- the stored record is written back unchanged: no event (`WithNoDuplicates`), and the listing is the same
        rw [if_pos heq, ← heq]
        have hmem : old ∈ k.recs.map (·.2) := List.mem_map.mpr ⟨_, kfindL_some hf, rfl⟩
        exact (replaceMode_self (keys_eq_ids hr ▸ hnd) hmem).symm
      · rw [if_neg heq]; rfl
  · show eraseMode old.id k.abs.modes = a.1.recs.map (·.2)
    rw [h, kerase_abs hr, ← hk _ (kfindL_some hold)]
    rfl

theorem kstep_keyOk {k : KSt} (h : KeyOk k) (op : Op) (ht : op.Tame) : KeyOk (kstep k op).1 := by
  rw [kstep_serve]
  exact op.serve_fst h fun cl hcl _ =>
    (kCall_ik k cl ▸ ikCall_effect _ k cl).keepsAll h fun _ _ hw => hw.key_eq idem_id (hcl ht)

theorem kstep_keys {k : KSt} (h : (k.recs.map (·.1)).Nodup) (op : Op) : ((kstep k op).1.recs.map (·.1)).Nodup := by
  rw [kstep_serve]
  exact op.serve_fst (P := fun k' : KSt => (k'.recs.map (·.1)).Nodup) h fun cl _ _ =>
    (kCall_ik k cl ▸ ikCall_effect _ k cl).keepsKeys h

theorem krun_abs {k : KSt} (h : KeyOk k) (ops : List Op) (ht : ∀ op ∈ ops, op.Tame) :
    (krun k ops).abs = run k.abs ops := by
  induction ops generalizing k with
  | nil => rfl
  | cons op ops ih =>
    have := ih (kstep_keyOk h op (ht op (by simp))) (fun o ho => ht o (by simp [ho]))
    simp only [krun, run]
    rw [← kstep_abs_fst h op]
    exact this

theorem krunEvents_abs {k : KSt} (h : KeyOk k) (ops : List Op) (ht : ∀ op ∈ ops, op.Tame) :
    krunEvents k ops = runEvents k.abs ops := by
  induction ops generalizing k with
  | nil => rfl
  | cons op ops ih =>
    have h2 := kstep_keyOk h op (ht op (by simp))
    simp only [krunEvents, runEvents, kmodeEvents_abs h op, ih h2 (fun o ho => ht o (by simp [ho])), kstep_abs_fst h op]

theorem kconfig_abs (recs : List Rec) (active : Mode) (h : RecsOk recs) :
    (KSt.config recs active).abs = St.config (recs.map (·.2)) active ∧ KeyOk (KSt.config recs active) := by
  have hk : KeyOk (KSt.config recs active) := fun e he => h e ((mem_kconfig recs e).mp he)
  refine ⟨?_, hk⟩
  unfold KSt.config KSt.abs St.config
  simp only [St.mk.injEq, and_true]
  induction recs with
  | nil => rfl
  | cons a as ih =>
    have has : RecsOk as := fun x hx => h x (by simp [hx])
    have hok : RecsOk (as.foldr (fun e acc => kinsert e.1 e.2 acc) []) := fun e he => has e ((mem_kconfig as e).mp he)
    simp only [List.foldr_cons, List.map_cons]
    rw [kinsert_abs hok, ih has (fun e he => has e ((mem_kconfig as e).mp he)), h a (by simp)]
    exact insertAt_of_id rfl _

end ScVerif.C19
