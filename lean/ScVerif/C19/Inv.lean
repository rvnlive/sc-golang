import ScVerif.C19.KeyedRefine
import ScVerif.C19.IcptInv
/-!
What `Electric.lean` inherits from the keyed layers: a state of `Electric.lean` is a keyed state whose records carry their
keys (`KSt.ofSt`), there the keyed calls show what its calls do (`St.call_lift`), and `Inv` says of the listing what `J` and
`ActKey` say of the collection with the identity as interceptor — every active id is guarded then, the empty one
included.  So invariant, frame and views are those of the `Effect`s transported; nothing is proved call by call.
-/
namespace ScVerif.C19

variable {p : Mode}

theorem inv_abs {k : KSt} (hj : J (fun x => x) k.recs) (ha : ActKey (fun x => x) (fun _ => True) k)
    (hb : k.changed = false → k.active = p) : Inv p k.abs := by
  refine ⟨keys_eq_ids (l := k.recs) hj.kc ▸ hj.nd, ?_, ?_, hb⟩
  · intro x hx y hy hxn hyn
    obtain ⟨ex, hex, rfl⟩ := List.mem_map.mp hx
    obtain ⟨ey, hey, rfl⟩ := List.mem_map.mp hy
    rw [hj.n1 ex hex ey hey hxn hyn]
  · intro hc
    obtain ⟨e, he, hk⟩ := List.mem_map.mp (ha hc trivial)
    exact ⟨e.2, List.mem_map.mpr ⟨e, he, rfl⟩, (hj.kc e he).symm.trans hk⟩

theorem inv_ofSt {s : St} (hi : Inv p s) :
    J (fun x => x) (KSt.ofSt s).recs ∧ ActKey (fun x => x) (fun _ => True) (KSt.ofSt s) := by
  have hkc := keyOk_ofSt s
  have hmem : ∀ e ∈ (KSt.ofSt s).recs, e.2 ∈ s.modes := by
    intro e he
    obtain ⟨m, hm, rfl⟩ := List.mem_map.mp he
    exact hm
  refine ⟨⟨hkc, ?_, ?_⟩, ?_⟩
  · rw [keys_eq_ids hkc]
    show ((KSt.ofSt s).abs.modes.map (·.id)).Nodup
    rw [ofSt_abs]
    exact hi.nodup
  · intro e1 h1 e2 h2 hn1 hn2
    have := hi.i1 _ (hmem e1 h1) _ (hmem e2 h2) hn1 hn2
    exact Prod.ext ((hkc e1 h1).trans (this ▸ (hkc e2 h2).symm)) this
  · intro hc _
    obtain ⟨x, hx, hxa⟩ := hi.i3 hc
    exact List.mem_map.mpr ⟨(x.id, x), List.mem_map.mpr ⟨x, hx, rfl⟩, hxa⟩

theorem Effect.keepsBlank {c : String → String} {k : KSt} {cl : Call} {a : KSt × Res} (he : Effect c k cl a)
    (h : k.changed = false → k.active = p) : a.1.changed = false → a.1.active = p := by
  cases he with
  | activate => exact nofun
  | _ => exact h

theorem step_inv {s : St} (hi : Inv p s) (op : Op) (ht : op.Tame) : Inv p (step s op).1 := by
  have h := kstep_abs_fst (keyOk_ofSt s) op
  rw [ofSt_abs] at h
  rw [← h, ← ikstep_id]
  obtain ⟨hj, ha⟩ := ikstep_JG idem_id guarded_id (inv_ofSt hi) op ht
  refine inv_abs hj ha ?_
  rw [ikstep_serve]
  exact op.serve_fst (P := fun k' : KSt => k'.changed = false → k'.active = p) hi.blank fun cl _ _ =>
    (ikCall_effect _ _ cl).keepsBlank hi.blank

theorem run_inv {s : St} (hi : Inv p s) (ops : List Op) (ht : ∀ op ∈ ops, op.Tame) : Inv p (run s ops) :=
  run_keeps (f := step) (run := run) (P := Inv p) (fun _ => rfl) (fun _ _ _ => rfl) (fun _ op h => step_inv h op) ops s hi ht

/-- count form of I1 -/
theorem normal_count_le_one {s : St} (hi : Inv p s) : (s.modes.filter (·.normal)).length ≤ 1 := by
  have := J_count (inv_ofSt hi).1
  rwa [show (KSt.ofSt s).recs.map (·.2) = s.modes from congrArg St.modes (ofSt_abs s)] at this

theorem St.call_lift (s : St) (cl : Call) : s.call cl = lift (ikCall (fun x => x) (KSt.ofSt s) cl) := by
  rw [← kCall_ik, kCall_abs (keyOk_ofSt s), ofSt_abs]

theorem St.call_frame (s : St) (cl : Call) : (s.call cl).1 = s ∨ (s.call cl).2.isOk = true := by
  rw [St.call_lift]
  rcases (ikCall_effect _ (KSt.ofSt s) cl).frame with h | h
  · exact Or.inl ((congrArg KSt.abs h).trans (ofSt_abs s))
  · exact Or.inr h

theorem step_frame (s : St) (op : Op) : (step s op).1 = s ∨ (step s op).2.isOk = true := by
  rw [step_serve]
  rcases op.serve_cases with ⟨r, _, h⟩ | ⟨cl, _, _, h | h⟩ <;> rw [h]
  · exact Or.inl rfl
  · exact s.call_frame cl
  · rw [dropVal_fst, dropVal_isOk]; exact s.call_frame cl

theorem emitCall_ev (s : St) (cl : Call) :
    emitCall s cl = evCall (fun x => x) (KSt.ofSt s) cl (ikCall (fun x => x) (KSt.ofSt s) cl).1 := by
  rw [kCall_diff (keyOk_ofSt s) cl, ofSt_abs]

theorem emitCall_frame (s : St) (cl : Call) (h : (s.call cl).2.isOk = false) : emitCall s cl = [] := by
  rw [emitCall_ev]
  rw [St.call_lift] at h
  rcases (ikCall_effect _ (KSt.ofSt s) cl).frame with h' | h'
  · exact evCall_same _ _ cl (congrArg KSt.recs h')
  · exact absurd (h'.symm.trans h) nofun

theorem modeEvents_frame (s : St) (op : Op) (h : (step s op).2.isOk = false) : modeEvents s op = [] := by
  rw [step_serve] at h
  rw [modeEvents_serve]
  rcases op.serve_cases with ⟨r, _, hs⟩ | ⟨cl, _, _, hs | hs⟩ <;> rw [hs] at h ⊢
  · exact emitCall_frame s cl h
  · rw [dropVal_isOk] at h; exact emitCall_frame s cl h

theorem emitCall_view (s : St) (hi : Inv p s) (cl : Call) (ht : cl.Tame) :
    (emitCall s cl).foldl applyEvent s.modes = (s.call cl).1.modes := by
  have := (ikCall_effect _ (KSt.ofSt s) cl).view (keyOk_ofSt s) (inv_ofSt hi).1.nd ht
  rw [ofSt_abs] at this
  rw [emitCall_ev, St.call_lift]
  exact this

/-- at most one event per operation, in every state and whatever the options: an event is the `diff1` of one key -/
theorem modeEvents_length (s : St) (op : Op) : (modeEvents s op).length ≤ 1 := by
  rw [modeEvents_serve]
  rcases op.serve_cases with ⟨r, _, h⟩ | ⟨cl, _, _, h | h⟩ <;> rw [h]
  · exact Nat.zero_le _
  all_goals rw [emitCall_ev]; exact evCall_length _ _ _ _

theorem modeEvents_view (s : St) (hi : Inv p s) (op : Op) (ht : op.Tame) :
    (modeEvents s op).foldl applyEvent s.modes = (step s op).1.modes := by
  rw [modeEvents_serve, step_serve]
  rcases op.serve_cases with ⟨r, _, h⟩ | ⟨cl, hcl, _, h | h⟩ <;> rw [h, h]
  · rfl
  · exact emitCall_view s hi cl (hcl ht)
  · rw [dropVal_fst]; exact emitCall_view s hi cl (hcl ht)

theorem view_prefix (s : St) (hi : Inv p s) (ops : List Op) (ht : ∀ op ∈ ops, op.Tame) (k : Nat) :
    ∃ s', Inv p s' ∧ ((runEvents s ops).take k).foldl applyEvent s.modes = s'.modes := by
  induction ops generalizing s k with
  | nil => exact ⟨s, hi, by simp [runEvents]⟩
  | cons op ops ih =>
    have ht1 := ht op (by simp)
    have ht2 : ∀ o ∈ ops, o.Tame := fun o ho => ht o (by simp [ho])
    have hv := modeEvents_view s hi op ht1
    have hl := modeEvents_length s op
    have hi' := step_inv hi op ht1
    simp only [runEvents]
    match hme : modeEvents s op, hl, hv with
    | [], _, hv =>
      simp only [List.nil_append, List.foldl_nil] at hv ⊢
      obtain ⟨s', h1, h2⟩ := ih (step s op).1 hi' ht2 k
      exact ⟨s', h1, by rw [hv, h2]⟩
    | [e], _, hv =>
      cases k with
      | zero => exact ⟨s, hi, by simp⟩
      | succ k =>
        simp only [List.cons_append, List.nil_append, List.take_succ_cons, List.foldl_cons, List.foldl_nil] at hv ⊢
        obtain ⟨s', h1, h2⟩ := ih (step s op).1 hi' ht2 k
        exact ⟨s', h1, by rw [hv, h2]⟩
    | _ :: _ :: _, hl, _ => simp at hl

theorem view_prefix_inv (s : St) (hi : Inv p s) (ops : List Op) (ht : ∀ op ∈ ops, op.Tame) (k : Nat) :
    let view := ((runEvents s ops).take k).foldl applyEvent s.modes
    (view.filter (·.normal)).length ≤ 1 ∧ (view.map (·.id)).Nodup := by
  obtain ⟨s', hi', hv⟩ := view_prefix s hi ops ht k
  simp only [hv]
  exact ⟨normal_count_le_one hi', hi'.nodup⟩

theorem view_full (s : St) (hi : Inv p s) (ops : List Op) (ht : ∀ op ∈ ops, op.Tame) :
    (runEvents s ops).foldl applyEvent s.modes = (run s ops).modes := by
  induction ops generalizing s with
  | nil => rfl
  | cons op ops ih =>
    simp only [runEvents, List.foldl_append, run]
    rw [modeEvents_view s hi op (ht op (by simp))]
    exact ih _ (step_inv hi op (ht op (by simp))) (fun o ho => ht o (by simp [ho]))

end ScVerif.C19
