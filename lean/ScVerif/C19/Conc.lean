import ScVerif.C19.Electric
/-!
Concurrent use of the electric model.

Every mutator of `electricpb.Model` (`SetActiveMode, ChangeActiveMode, ChangeToNormalMode, CreateMode,
AddMode, DeleteMode, UpdateMode`) starts with `m.mu.Lock(); defer m.mu.Unlock()` and does all its reads
(`findMode`, `normalMode`, `activeMode.Get`) and writes (`modes.Add/Update/Delete`, `activeMode.Set`)
inside.  The interleaving model below makes the body non-atomic on purpose: a thread first reads the
shared state (a snapshot), later writes the result computed from that snapshot; other threads may be
scheduled in between.  The lock is what makes this equal to an atomic `step`.
-/
namespace ScVerif.C19

inductive Phase where
  | idle      -- before mu.Lock()
  | locked    -- holds mu, has not read yet
  | read      -- has read the shared state into `seen`
  | written   -- has written, before the deferred mu.Unlock()
  deriving DecidableEq, Repr

structure Thr where
  todo : List Op
  phase : Phase
  seen : St

structure Conf where
  st : St
  holder : Option Nat
  thr : Nat → Thr

def setThr (c : Conf) (t : Nat) (x : Thr) : Nat → Thr := fun i => if i = t then x else c.thr i

/-- One scheduling step of thread `t` (a step that is not enabled leaves the configuration unchanged:
`Lock` blocks while another thread holds `mu`). -/
def cstep (c : Conf) (t : Nat) : Conf :=
  match (c.thr t).todo with
  | [] => c
  | op :: rest =>
    match (c.thr t).phase with
    | .idle =>
      if c.holder = none then { c with holder := some t, thr := setThr c t { c.thr t with phase := .locked } }
      else c
    | .locked => { c with thr := setThr c t { c.thr t with phase := .read, seen := c.st } }
    | .read => { c with st := (step (c.thr t).seen op).1, thr := setThr c t { c.thr t with phase := .written } }
    | .written => { c with holder := none, thr := setThr c t { todo := rest, phase := .idle, seen := (c.thr t).seen } }

def crun (c : Conf) : List Nat → Conf
  | [] => c
  | t :: ts => crun (cstep c t) ts

/-- Any number of threads, thread `i` runs the operations `progs i` (possibly none), on a model whose
(configured) initial state is `s0`. -/
def cinit (s0 : St) (progs : Nat → List Op) : Conf := ⟨s0, none, fun i => ⟨progs i, .idle, s0⟩⟩

end ScVerif.C19
