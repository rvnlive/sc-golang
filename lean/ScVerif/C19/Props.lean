import ScVerif.C19.ConcInv
import ScVerif.C19.Inv
/-!
# C19 — The electric model keeps its documented mode invariants

Property (fixed text): after any sequence or concurrent mix of create, add, update, delete, set-active,
change-active and clear-active operations, at most one mode is marked normal, the active mode is never
deleted, and once changed the active mode always refers to a mode that exists; clearing the active mode
selects the normal mode, and switching to a different mode stamps its start time with the model clock's
current time.  Deleting an absent mode reports NotFound unless allow-missing is set, in which case it
succeeds.

The theorems are about `step` / `run` of `Electric.lean` (the model of `electricpb.Model` and of the
ElectricApi / MemorySettingsApi servers after the fixes 6953a94, 7f1dc6a, 2b5cf2c, eb62186 and ca6ca35, tied to /repo by the
harness on every run) and about the interleaving semantics of `Conc.lean`.  `Op` contains the Model API
operations (with their write options, the caller's own check / before / after callbacks as ARBITRARY functions) and
the server RPCs, so "ALL op sequences" mixes both levels freely.  The hypothesis `op.Tame` is about the caller-supplied
code and reset mask of a `Model.UpdateMode`: `True` for everything else (`C19_options_plain`), needed
(`C19_options_fails`).
-/
namespace ScVerif.C19

/-- After ANY operation sequence from a model configured with ANY initial modes (`WithInitialMode`) and ANY
placeholder active mode (`WithInitialActiveMode`; `NewModel()` is `[]`, `Mode.blank`), provided the configuration is
`InitOk` (the code does not check its options): I1 in count and pairwise form, I3, unique ids.  I2 is `C19_I2_*`: a
delete of the active id is refused, so with I3 the active mode is never deleted. -/
theorem C19_inv (modes : List Mode) (active : Mode) (hcfg : InitOk modes) (ops : List Op)
    (ht : ∀ op ∈ ops, op.Tame) :
    let s := run (St.config modes active) ops
    (s.modes.filter (·.normal)).length ≤ 1 ∧
    (∀ x ∈ s.modes, ∀ y ∈ s.modes, x.normal = true → y.normal = true → x = y) ∧
    (s.changed = true → ∃ x ∈ s.modes, x.id = s.active.id) ∧
    (s.changed = false → s.active = active) ∧
    (s.modes.map (·.id)).Nodup := by
  have hi := run_inv (inv_config modes active hcfg) ops ht
  exact ⟨normal_count_le_one hi, hi.i1, hi.i3, hi.blank, hi.nodup⟩

/-- `NewModel()` without options: the configuration `[]`, `Mode.blank`. -/
theorem C19_inv_default (ops : List Op) (ht : ∀ op ∈ ops, op.Tame) : Inv Mode.blank (run St.init ops) :=
  run_inv inv_init ops ht

/-- The invariant is inductive, from ANY state that satisfies it. -/
theorem C19_inv_step (p : Mode) (s : St) (hi : Inv p s) (op : Op) (ht : op.Tame) : Inv p (step s op).1 :=
  step_inv hi op ht

/-- I2, Model API: `DeleteMode` of the active mode's id is refused with FailedPrecondition in every state, whatever its
options, and changes nothing. -/
theorem C19_I2_delete_active_refused (s : St) (am : Bool) (ex : DOpts) :
    step s (.delete s.active.id am ex) = (s, .err .failedPrecondition) :=
  deleteMode_active s am ex

/-- I2, server: the DeleteMode RPC answers InvalidArgument for the empty id first. -/
theorem C19_I2_server_delete_active_refused (s : St) (am : Bool) :
    step s (.sDelete s.active.id am) =
      (s, .err (if s.active.id = "" then .invalidArgument else .failedPrecondition)) := by
  by_cases h : s.active.id = "" <;> simp [step, deleteMode_active, h]

/-- I2, trace form: a delete step that succeeds did not name the active mode, and after it the active mode (once
changed) is still stored; for the other operations: `C19_inv_step`. -/
theorem C19_I2_never_deleted (p : Mode) (s : St) (hi : Inv p s) (id : String) (am : Bool) (ex : DOpts) :
    (∀ r, (step s (.delete id am ex)).2 = .ok r → id ≠ s.active.id) ∧
    (∀ r, (step s (.sDelete id am)).2 = .ok r → id ≠ s.active.id) ∧
    ((step s (.delete id am ex)).1.changed = true →
      ∃ x ∈ (step s (.delete id am ex)).1.modes, x.id = (step s (.delete id am ex)).1.active.id) := by
  refine ⟨?_, ?_, ?_⟩
  · intro r h e
    subst e
    rw [C19_I2_delete_active_refused] at h
    cases h
  · intro r h e
    subst e
    rw [C19_I2_server_delete_active_refused] at h
    cases h
  · exact (step_inv hi (.delete id am ex) True.intro).i3

/-- what `changeActiveMode` stores: the mode found, stamped when its id differs from the active id -/
def stamped (s : St) (m : Mode) (now : Nat) : Mode :=
  if s.active.id ≠ m.id then { m with start := some now } else m

/-- ClearActiveMode (= ChangeToNormalMode) selects the normal mode, unique by I1, or answers NotFound; in every
state satisfying the invariant. -/
theorem C19_clear (p : Mode) (s : St) (hi : Inv p s) (now : Nat) :
    (step s (.sClear now) = step s (.clear now)) ∧
    ((∀ x ∈ s.modes, x.normal = false) → step s (.clear now) = (s, .err .notFound)) ∧
    (∀ n ∈ s.modes, n.normal = true →
      step s (.clear now) =
        ({ s with active := stamped s n now, changed := true }, .ok (some (stamped s n now)))) := by
  refine ⟨rfl, ?_, ?_⟩
  · intro h
    simp [step, changeToNormal, normalMode_eq_none h]
  · intro n hn hnn
    simp only [step, changeToNormal, normalMode_of_mem hi hn hnn, changeActive_some (find_of_mem hi hn), stamped]

/-- ChangeActiveMode / UpdateActiveMode to a stored mode stamps `start_time := now` when the id differs from
the active id; with the same id the stored mode is taken as it is.  In every state. -/
theorem C19_stamp (s : St) (id : String) (now : Nat) :
    (∀ m, find s id = some m →
      step s (.changeActive id now) =
        ({ s with active := stamped s m now, changed := true }, .ok (some (stamped s m now))) ∧
      (s.active.id ≠ id → (step s (.changeActive id now)).1.active.start = some now ∧
        (step s (.changeActive id now)).1.active.id = id)) ∧
    (find s id = none → step s (.changeActive id now) = (s, .err .notFound)) ∧
    (id ≠ "" → step s (.sChangeActive id now) = step s (.changeActive id now)) ∧
    (step s (.sChangeActive "" now) = (s, .err .invalidArgument)) := by
  refine ⟨?_, ?_, ?_, ?_⟩
  · intro m hm
    obtain ⟨_, hid⟩ := find_some hm
    refine ⟨by simp only [step, changeActive_some hm, stamped], ?_⟩
    intro hne
    simp [step, changeActive_some hm, hid, hne]
  · intro h; exact changeActive_none h now
  · intro h; simp [step, h]
  · simp [step]

/-- Deleting an absent mode reports NotFound, unless allow-missing is set; both API levels.  The id must not
be the id of the configured placeholder `p` (for `NewModel()`: "", which the RPC rejects anyway): while the placeholder
is active the code answers FailedPrecondition for it although no such mode is stored. -/
theorem C19_delete (p : Mode) (s : St) (hi : Inv p s) (id : String) (hp : id ≠ p.id) (hid : id ≠ "")
    (habs : find s id = none) (am : Bool) (ex : DOpts) :
    step s (.delete id am ex) = (s, if am then .ok none else .err .notFound) ∧
    step s (.sDelete id am) = (s, if am then .ok none else .err .notFound) := by
  have hact : id ≠ s.active.id := by
    intro e
    cases hc : s.changed with
    | true =>
      obtain ⟨x, hx, hxa⟩ := hi.i3 hc
      exact find_none habs x hx (by rw [hxa, e])
    | false =>
      have := hi.blank hc
      rw [this] at e
      exact hp e
  cases am <;> simp [step, deleteMode_absent hact habs, hid]

/-- The placeholder never counts as a mode: its own id, like any id that is not stored, is NotFound
for SetActiveMode and ChangeActiveMode; a successful one makes a STORED mode active. -/
theorem C19_placeholder (s : St) (m : Mode) (now : Nat) :
    (find s m.id = none → step s (.setActive m) = (s, .err .notFound) ∧
      step s (.changeActive m.id now) = (s, .err .notFound)) ∧
    (∀ r, (step s (.setActive m)).2 = .ok r → ∃ x ∈ s.modes, x.id = (step s (.setActive m)).1.active.id) := by
  refine ⟨?_, ?_⟩
  · intro h; exact ⟨setActive_none h, changeActive_none h now⟩
  · intro r hr
    cases hf : find s m.id with
    | none => simp [step, setActive_none hf] at hr
    | some x =>
      obtain ⟨hx, hid⟩ := find_some hf
      exact ⟨x, hx, by simp [step, setActive_some hf, hid]⟩

/-- Any number of threads, any programs, ANY schedule of their lock / read / write / unlock steps:
at most one thread is inside a mutator and the shared state is a sequential run of operations taken from the programs,
so the invariants hold at every point of the execution, not only at quiescence. -/
theorem C19_mutex_serialises (p : Mode) (s0 : St) (h0 : Inv p s0) (progs : Nat → List Op) (sched : List Nat) :
    let c := crun (cinit s0 progs) sched
    (∀ t u, (c.thr t).phase ≠ .idle → (c.thr u).phase ≠ .idle → t = u) ∧
    (∃ ops, c.st = run s0 ops ∧ ∀ op ∈ ops, ∃ t, op ∈ progs t) ∧
    ((∀ t, ∀ op ∈ progs t, op.Tame) →
      Inv p c.st ∧ (c.st.modes.filter (·.normal)).length ≤ 1) := by
  have hc := crun_inv (cinv_init (fun op => ∃ t, op ∈ progs t) s0 progs (fun t op h => ⟨t, h⟩)) sched
  obtain ⟨ops, hops, hfrom⟩ := hc.serial
  refine ⟨?_, ⟨ops, hops, hfrom⟩, ?_⟩
  · intro t u ht hu
    have h1 := hc.excl t ht
    have h2 := hc.excl u hu
    rw [h1] at h2
    exact Option.some.inj h2
  · intro htame
    have hinv : Inv p (crun (cinit s0 progs) sched).st := by
      rw [hops]
      exact run_inv h0 ops (fun op ho => by obtain ⟨t, ht⟩ := hfrom op ho; exact htame t op ht)
    exact ⟨hinv, normal_count_le_one hinv⟩

/-- The invariants as a PullModes subscriber sees them: the view folded from the events of ANY run,
seeded with the initial modes, satisfies them after EVERY event and ends as the model's mode list. -/
theorem C19_pull_modes (modes : List Mode) (active : Mode) (hcfg : InitOk modes) (ops : List Op)
    (ht : ∀ op ∈ ops, op.Tame) :
    let s0 := St.config modes active
    (∀ k, let view := ((runEvents s0 ops).take k).foldl applyEvent s0.modes
      (view.filter (·.normal)).length ≤ 1 ∧ (view.map (·.id)).Nodup) ∧
    (runEvents s0 ops).foldl applyEvent s0.modes = (run s0 ops).modes ∧
    (∀ s, Inv active s → ∀ op, op.Tame → (modeEvents s op).length ≤ 1) := by
  have h0 := inv_config modes active hcfg
  exact ⟨view_prefix_inv _ h0 ops ht, view_full _ h0 ops ht, fun s _ op _ => modeEvents_length s op⟩

/-- A subscriber that joins PullModes / PullActiveMode LATER (after any tame prefix `pre`, not
updates-only) is first sent the stored modes in listing order and the current active mode, then the events of the rest of
the run: every prefix of the seed and the view after EVERY event satisfy the invariants. -/
theorem C19_pull_late (modes : List Mode) (active : Mode) (hcfg : InitOk modes) (pre post : List Op)
    (ht : ∀ op ∈ pre ++ post, op.Tame) :
    let s := run (St.config modes active) pre
    (∀ k, ((s.modes.take k).filter (·.normal)).length ≤ 1 ∧ ((s.modes.take k).map (·.id)).Nodup) ∧
    (∀ k, let view := ((runEvents s post).take k).foldl applyEvent s.modes
      (view.filter (·.normal)).length ≤ 1 ∧ (view.map (·.id)).Nodup) ∧
    (runEvents s post).foldl applyEvent s.modes = (run (St.config modes active) (pre ++ post)).modes ∧
    (s.changed = true → ∃ x ∈ s.modes, x.id = s.active.id) := by
  have htpre : ∀ op ∈ pre, op.Tame := fun op h => ht op (by simp [h])
  have htpost : ∀ op ∈ post, op.Tame := fun op h => ht op (by simp [h])
  have hi : Inv active (run (St.config modes active) pre) := run_inv (inv_config modes active hcfg) pre htpre
  refine ⟨?_, ?_, ?_, hi.i3⟩
  · intro k
    have hsub : ((run (St.config modes active) pre).modes.take k).Sublist (run (St.config modes active) pre).modes :=
      List.take_sublist _ _
    refine ⟨?_, List.Nodup.sublist (List.Sublist.map _ hsub) hi.nodup⟩
    exact Nat.le_trans (List.Sublist.length_le (List.Sublist.filter _ hsub)) (normal_count_le_one hi)
  · exact view_prefix_inv _ hi post htpost
  · rw [run_append]
    exact view_full _ hi post htpost

/-- A PullActiveMode subscriber is sent at most one value per operation, the model's active mode
afterwards, which names a stored mode (I3). -/
theorem C19_pull_active (p : Mode) (s : St) (hi : Inv p s) (op : Op) (ht : op.Tame) :
    (activeEvents s op).length ≤ 1 ∧
    (∀ m ∈ activeEvents s op, m = (step s op).1.active ∧ (step s op).1.changed = true ∧
      ∃ x ∈ (step s op).1.modes, x.id = m.id) := by
  have hi' := step_inv hi op ht
  unfold activeEvents
  by_cases h : setsActive op = true ∧ (step s op).2.isOk = true ∧
      (s.changed = false ∨ (step s op).1.active ≠ s.active)
  · simp only [h, if_true, List.length_singleton, Nat.le_refl, List.mem_singleton, true_and]
    intro m hm
    have hc := setsActive_changed s op h.1 h.2.1
    exact ⟨hm, hc, by rw [hm]; exact hi'.i3 hc⟩
  · simp [h]

def mA : Mode := (Mode.mk4 "a" "ta" true (none))
def mB : Mode := (Mode.mk4 "b" "tb" false (none))

/-- A reachable state with a normal mode, a second mode and a changed active mode satisfies `Inv`
(hypothesis of C19_clear / C19_delete), and the theorems' premises are inhabited there. -/
example : Inv Mode.blank (run St.init [.add mA, .add mB, .changeActive "b" 7]) :=
  run_inv inv_init _ (by
    intro op h
    simp only [List.mem_cons, List.mem_nil_iff, or_false] at h
    rcases h with rfl | rfl | rfl <;> exact True.intro)
/-- a configured model: two initial modes (one normal) and a placeholder whose id is not a mode -/
example : InitOk [mB, mA] ∧ (St.config [mB, mA] (Mode.mk4 "boot" "" false (none))).modes = [mA, mB] := by
  exact ⟨⟨by decide +kernel, by decide +kernel⟩, by decide +kernel⟩
/-- … on which setting the placeholder's own id active is refused, and deleting it is FailedPrecondition -/
example : (step (St.config [mB, mA] (Mode.mk4 "boot" "" false (none))) (.setActive (Mode.mk4 "boot" "x" false (none)))).2 = .err .notFound ∧
    (step (St.config [mB, mA] (Mode.mk4 "boot" "" false (none))) (.delete "boot" true {})).2 = .err .failedPrecondition ∧
    (step St.init (.setActive (Mode.mk4 "" "x" false (none)))).2 = .err .notFound := by decide +kernel
/-- `InitOk` is needed: the code accepts a configuration with two normal modes -/
example : ((St.config [mA, { mB with normal := true }] Mode.blank).modes.filter (·.normal)).length = 2 := by decide +kernel
example : (run St.init [.add mA, .add mB, .changeActive "b" 7]).active = (Mode.mk4 "b" "tb" false (some 7)) := by decide +kernel
example : find (run St.init [.add mA, .add mB]) "c" = none ∧ mA ∈ (run St.init [.add mA, .add mB]).modes := by decide +kernel
/-- the fixed code refuses the second normal mode … -/
example : (step (run St.init [.add mA, .add mB]) (.update { mB with normal := true } none {})).2 = .err .alreadyExists := by
  decide +kernel
/-- … which the code before 7f1dc6a accepted (two normal modes: I1 broken) … -/
example : ((updateModeUnfixed (run St.init [.add mA, .add mB]) { mB with normal := true } none).1.modes.filter (·.normal)).length = 2 := by
  decide +kernel
/-- … and before 6953a94 allow-missing did not help. -/
example : (deleteModeUnfixed St.init "c" true).2 = .err .notFound := by decide +kernel
example : (step St.init (.delete "c" true {})).2 = .ok none := by decide +kernel
/-- A schedule in which thread 1 tries to enter while thread 0 is between its read and its write. -/
example : (crun (cinit St.init fun i => if i = 0 then [.add mA] else if i = 1 then [.add { mB with normal := true }] else [])
    [0, 0, 1, 1, 0, 1, 0, 1, 1, 1, 1]).st.modes.map (·.id) = ["a"] := by decide +kernel

end ScVerif.C19
