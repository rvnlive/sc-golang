import ScVerif.C19.Keyed
import ScVerif.C19.Serve
/-!
Lemmas about the listing operations of the keyed collection (`kfindL` / `kinsert` / `kstore` / `kerase` / `KSt.config`, and `kput`:
store where the key is, else insert); `kstep` as an instance of `Op.serve`.
-/
namespace ScVerif.C19

/-- `KeyOk k` is `RecsOk k.recs`, by definition -/
def RecsOk (l : List Rec) : Prop := ∀ e ∈ l, e.1 = e.2.id

def kCall (k : KSt) : Call → KSt × Res
  | .createOrAdd m cands => kcreateOrAdd k m cands
  | .updateMode m mask w => kupdateMode k m mask w
  | .deleteMode id am d => kdeleteMode k id am d
  | .setActive m => ksetActive k m
  | .changeActive id now => kchangeActive k id now
  | .changeToNormal now => kchangeToNormal k now
  | .findMode id => (k, match kfind k id with | some m => .ok (some m) | none => .err .notFound)

theorem kstep_serve (k : KSt) (op : Op) : kstep k op = op.serve (fun r => (k, r)) (kCall k) dropVal := by
  cases op with
  | add m =>
    refine congrArg (ite _ _) ?_
    show _ = dropVal (kcreateOrAdd k m [])
    cases kcreateOrAdd k m [] with | mk k' r => cases r <;> rfl
  | sDelete id am =>
    refine congrArg (ite _ _) ?_
    show _ = dropVal (kdeleteMode k id am {})
    cases kdeleteMode k id am {} with | mk k' r => cases r <;> rfl
  | _ => rfl

def kCallKey (k : KSt) : Call → Option String
  | .createOrAdd m cands => kchooseId k m cands
  | .updateMode m _ _ => some m.id
  | .deleteMode id _ _ => some id
  | _ => none

theorem kwrittenKey_serve (k : KSt) (op : Op) : kwrittenKey k op = op.serve (fun _ => none) (kCallKey k) id := by
  cases op with
  | add m =>
    -- a given id is its own key: nothing is generated
    dsimp only [kwrittenKey, Op.serve, kCallKey, id]
    split
    · rfl
    · rename_i h; rw [kchooseId, if_neg h]
  | sChangeActive id now => exact (ite_self _).symm
  | _ => rfl

theorem ofSt_abs (s : St) : (KSt.ofSt s).abs = s := by
  simp [KSt.ofSt, KSt.abs, List.map_map, Function.comp_def]

theorem keyOk_ofSt (s : St) : KeyOk (KSt.ofSt s) := by
  intro e he
  obtain ⟨m, _, rfl⟩ := List.mem_map.mp he
  rfl

theorem keys_eq_ids {l : List Rec} (h : RecsOk l) : l.map (·.1) = (l.map (·.2)).map (·.id) := by
  rw [List.map_map]
  exact List.map_congr_left h

theorem kfindL_abs {l : List Rec} (h : RecsOk l) (key : String) :
    kfindL l key = (l.map (·.2)).find? (fun x => x.id = key) := by
  induction l with
  | nil => rfl
  | cons e es ih =>
    have he : e.1 = e.2.id := h e (by simp)
    have hes : RecsOk es := fun x hx => h x (by simp [hx])
    have ih' := ih hes
    unfold kfindL at ih' ⊢
    simp only [List.find?_cons, List.map_cons]
    by_cases hk : e.1 = key
    · have : e.2.id = key := by rw [← he]; exact hk
      simp [hk, this]
    · have : ¬ e.2.id = key := by rw [← he]; exact hk
      simp only [hk, this, decide_false]
      exact ih'

theorem kfind_abs {k : KSt} (h : KeyOk k) (key : String) : kfind k key = find k.abs key :=
  kfindL_abs h key

theorem kinsert_abs {l : List Rec} (h : RecsOk l) (key : String) (m : Mode) :
    (kinsert key m l).map (·.2) = insertAt key m (l.map (·.2)) := by
  induction l with
  | nil => rfl
  | cons e es ih =>
    have he : e.1 = e.2.id := h e (by simp)
    have hes : RecsOk es := fun x hx => h x (by simp [hx])
    simp only [kinsert, List.map_cons, insertAt, ← he]
    split
    · rfl
    · simp only [List.map_cons, ih hes]

theorem kstore_abs {l : List Rec} (h : RecsOk l) (key : String) (m : Mode) :
    (kstore key m l).map (·.2) = storeAt key m (l.map (·.2)) := by
  unfold kstore storeAt
  rw [List.map_map, List.map_map]
  apply List.map_congr_left
  intro e he
  have := h e he
  simp only [Function.comp, ← this]
  split <;> rfl

theorem kerase_abs {l : List Rec} (h : RecsOk l) (key : String) :
    (kerase key l).map (·.2) = eraseMode key (l.map (·.2)) := by
  induction l with
  | nil => rfl
  | cons e es ih =>
    have he : e.1 = e.2.id := h e (by simp)
    have hes : RecsOk es := fun x hx => h x (by simp [hx])
    have ih' := ih hes
    unfold kerase eraseMode at ih' ⊢
    simp only [List.filter_cons, List.map_cons, ← he]
    split
    · simp only [List.map_cons, ih']
    · exact ih'

theorem diff1_self (x : Option Mode) : diff1 x x = [] := by
  cases x <;> simp [diff1]

theorem diff1_length (a b : Option Mode) : (diff1 a b).length ≤ 1 := by
  cases a with
  | none => cases b <;> simp [diff1]
  | some o =>
    cases b with
    | none => simp [diff1]
    | some n =>
      show (if o = n then [] else [ModeEvent.update o n]).length ≤ 1
      split
      · exact Nat.zero_le _
      · exact Nat.le_refl _

theorem kfindL_kinsert (key : String) (m : Mode) : ∀ (l : List Rec), (∀ e ∈ l, e.1 ≠ key) →
    kfindL (kinsert key m l) key = some m := by
  intro l
  induction l with
  | nil => intro _; simp [kinsert, kfindL]
  | cons a as ih =>
    intro h
    unfold kinsert
    split
    · simp [kfindL]
    · have ha : ¬ a.1 = key := h a (by simp)
      have := ih (fun e he => h e (by simp [he]))
      unfold kfindL at this ⊢
      simp only [List.find?_cons, ha, decide_false]
      exact this

theorem kfindL_kstore (key : String) (m : Mode) : ∀ (l : List Rec) (old : Mode), kfindL l key = some old →
    kfindL (kstore key m l) key = some m := by
  intro l
  induction l with
  | nil => intro old h; simp [kfindL] at h
  | cons a as ih =>
    intro old h
    unfold kstore kfindL at *
    simp only [List.map_cons, List.find?_cons] at h ⊢
    by_cases ha : a.1 = key
    · simp [ha]
    · simp only [ha, if_false, decide_false] at h ⊢
      exact ih old h

theorem kfindL_kerase (key : String) (l : List Rec) : kfindL (kerase key l) key = none := by
  unfold kfindL kerase
  have : (l.filter (fun e => decide (e.1 ≠ key))).find? (fun e => decide (e.1 = key)) = none := by
    apply List.find?_eq_none.mpr
    intro e he
    have := (List.mem_filter.mp he).2
    simpa using this
  rw [this]; rfl

theorem kinsert_perm (key : String) (m : Mode) (l : List Rec) : (kinsert key m l).Perm ((key, m) :: l) := by
  induction l with
  | nil => exact .refl _
  | cons a as ih =>
    unfold kinsert
    split
    · exact .refl _
    · exact (ih.cons a).trans (.swap (key, m) a as)

theorem mem_kinsert (key : String) (m : Mode) : ∀ (l : List Rec) (x : Rec), x ∈ kinsert key m l ↔ x = (key, m) ∨ x ∈ l :=
  fun l _ => (kinsert_perm key m l).mem_iff.trans List.mem_cons

theorem mem_kstore {key : String} {m : Mode} {l : List Rec} {e : Rec} (h : e ∈ kstore key m l) :
    e = (key, m) ∨ (e ∈ l ∧ e.1 ≠ key) := by
  unfold kstore at h
  obtain ⟨e0, he0, rfl⟩ := List.mem_map.mp h
  by_cases hk : e0.1 = key
  · rw [if_pos hk]; exact Or.inl rfl
  · rw [if_neg hk]; exact Or.inr ⟨he0, hk⟩

theorem mem_kerase {key : String} {l : List Rec} {e : Rec} (h : e ∈ kerase key l) : e ∈ l :=
  (List.mem_filter.mp h).1

theorem kfindL_isSome_iff (l : List Rec) (key : String) : (kfindL l key).isSome = true ↔ key ∈ l.map (·.1) := by
  unfold kfindL
  rw [Option.isSome_map, List.find?_isSome]
  constructor
  · rintro ⟨e, he, hk⟩
    exact List.mem_map.mpr ⟨e, he, by simpa using hk⟩
  · intro h
    obtain ⟨e, he, hk⟩ := List.mem_map.mp h
    exact ⟨e, he, by simpa using hk⟩

theorem recsOk_kinsert {l : List Rec} (h : RecsOk l) {key : String} {m : Mode} (hm : key = m.id) :
    RecsOk (kinsert key m l) := by
  intro e he
  rcases (mem_kinsert key m l e).mp he with rfl | he
  · exact hm
  · exact h e he

theorem recsOk_kstore {l : List Rec} (h : RecsOk l) {key : String} {m : Mode} (hm : key = m.id) :
    RecsOk (kstore key m l) := by
  intro e he
  obtain ⟨e0, he0, rfl⟩ := List.mem_map.mp he
  split
  · exact hm
  · exact h e0 he0

theorem recsOk_kerase {l : List Rec} (h : RecsOk l) (key : String) : RecsOk (kerase key l) := by
  intro e he
  exact h e (List.mem_filter.mp he).1

theorem kfindL_none {l : List Rec} {key : String} (h : kfindL l key = none) : ∀ e ∈ l, e.1 ≠ key := by
  unfold kfindL at h
  intro e he
  have : l.find? (fun e => e.1 = key) = none := by
    cases hf : l.find? (fun e => decide (e.1 = key)) with
    | none => rfl
    | some x => simp [hf] at h
  simpa using List.find?_eq_none.mp this e he

theorem keys_kinsert (key : String) (m : Mode) : ∀ (l : List Rec), (∀ e ∈ l, e.1 ≠ key) → (l.map (·.1)).Nodup →
    ((kinsert key m l).map (·.1)).Nodup := by
  intro l hne hnd
  refine ((kinsert_perm key m l).map _).nodup_iff.mpr (List.nodup_cons.mpr ⟨fun h => ?_, hnd⟩)
  obtain ⟨x, hx, e⟩ := List.mem_map.mp h
  exact hne x hx e

theorem keys_kstore (key : String) (m : Mode) (l : List Rec) : (kstore key m l).map (·.1) = l.map (·.1) := by
  unfold kstore
  rw [List.map_map]
  apply List.map_congr_left
  intro e _
  simp only [Function.comp]
  split
  · rename_i h; exact h.symm
  · rfl

theorem keys_kerase (key : String) (l : List Rec) (h : (l.map (·.1)).Nodup) : ((kerase key l).map (·.1)).Nodup :=
  List.Nodup.sublist (List.Sublist.map _ List.filter_sublist) h

theorem kfindL_some {l : List Rec} {key : String} {m : Mode} (h : kfindL l key = some m) : (key, m) ∈ l := by
  unfold kfindL at h
  cases hf : l.find? (fun e => decide (e.1 = key)) with
  | none => simp [hf] at h
  | some e =>
    simp only [hf, Option.map_some, Option.some.injEq] at h
    have hk : e.1 = key := by simpa using List.find?_some hf
    have hm := List.mem_of_find?_eq_some hf
    rw [← hk, ← h]
    exact hm

/-- what `Add` and `Update` (with or without upsert) do to the listing once they write: the record goes where the key
is, or in as a new key -/
def kput (key : String) (m : Mode) (l : List Rec) : List Rec :=
  if (kfindL l key).isSome then kstore key m l else kinsert key m l

theorem kput_of_none {key : String} {l : List Rec} (h : kfindL l key = none) (m : Mode) :
    kput key m l = kinsert key m l := by
  unfold kput
  rw [h]
  rfl

theorem kput_of_some {key : String} {l : List Rec} {old : Mode} (h : kfindL l key = some old) (m : Mode) :
    kput key m l = kstore key m l := by
  unfold kput
  rw [h]
  rfl

theorem mem_kput {key : String} {m : Mode} {l : List Rec} {e : Rec} (h : e ∈ kput key m l) :
    e = (key, m) ∨ (e ∈ l ∧ e.1 ≠ key) := by
  cases hf : kfindL l key with
  | some old => rw [kput_of_some hf] at h; exact mem_kstore h
  | none =>
    rw [kput_of_none hf] at h
    rcases (mem_kinsert key m l e).mp h with rfl | he
    · exact Or.inl rfl
    · exact Or.inr ⟨he, kfindL_none hf e he⟩

theorem kfindL_kput (key : String) (m : Mode) (l : List Rec) : kfindL (kput key m l) key = some m := by
  cases hf : kfindL l key with
  | some old => rw [kput_of_some hf]; exact kfindL_kstore key m l old hf
  | none => rw [kput_of_none hf]; exact kfindL_kinsert key m l (kfindL_none hf)

theorem keys_kput (key : String) (m : Mode) {l : List Rec} (h : (l.map (·.1)).Nodup) :
    ((kput key m l).map (·.1)).Nodup := by
  cases hf : kfindL l key with
  | some old => rw [kput_of_some hf, keys_kstore]; exact h
  | none => rw [kput_of_none hf]; exact keys_kinsert key m l (kfindL_none hf) h

theorem keys_sub_kput (key : String) (m : Mode) (l : List Rec) {x : String} (h : x ∈ l.map (·.1)) :
    x ∈ (kput key m l).map (·.1) := by
  cases hf : kfindL l key with
  | some old => rw [kput_of_some hf, keys_kstore]; exact h
  | none =>
    rw [kput_of_none hf]
    obtain ⟨e, he, hk⟩ := List.mem_map.mp h
    exact List.mem_map.mpr ⟨e, (mem_kinsert _ _ _ e).mpr (Or.inr he), hk⟩

theorem kfindL_of_mem {l : List Rec} (hnd : (l.map (·.1)).Nodup) {e : Rec} (h : e ∈ l) : kfindL l e.1 = some e.2 := by
  cases hf : kfindL l e.1 with
  | none => exact absurd rfl (kfindL_none hf e h)
  | some m => rw [← inj_of_nodup_map _ hnd _ (kfindL_some hf) e h rfl]

theorem kconfig_perm (l : List Rec) : (l.foldr (fun e acc => kinsert e.1 e.2 acc) []).Perm l := by
  induction l with
  | nil => exact .refl _
  | cons a as ih => exact (kinsert_perm a.1 a.2 _).trans (ih.cons a)

theorem mem_kconfig (l : List Rec) (x : Rec) : x ∈ l.foldr (fun e acc => kinsert e.1 e.2 acc) [] ↔ x ∈ l :=
  (kconfig_perm l).mem_iff

theorem keys_kconfig (l : List Rec) (h : (l.map (·.1)).Nodup) :
    ((l.foldr (fun e acc => kinsert e.1 e.2 acc) []).map (·.1)).Nodup :=
  ((kconfig_perm l).map _).nodup_iff.mpr h

theorem kconfig?_some {recs : List Rec} {active : Mode} {k0 : KSt} (h : KSt.config? recs active = some k0) :
    (recs.map (·.1)).Nodup ∧ k0 = KSt.config recs active := by
  unfold KSt.config? at h
  split at h
  · rename_i hnd
    exact ⟨of_decide_eq_true hnd, (Option.some.inj h).symm⟩
  · cases h

theorem normalMode_mem (k : KSt) (n : Mode) (h : normalMode k.abs = some n) : ∃ e ∈ k.recs, e.2 = n := by
  unfold normalMode KSt.abs at h
  have := List.mem_of_find?_eq_some h
  obtain ⟨e, he, rfl⟩ := List.mem_map.mp this
  exact ⟨e, he, rfl⟩

end ScVerif.C19
