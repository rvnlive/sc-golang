import ScVerif.Base.Line
import ScVerif.C19.Electric
import ScVerif.C19.Events
import ScVerif.C19.Named
import ScVerif.C19.Keyed
import ScVerif.C19.Icpt
import ScVerif.C19.ActiveW
/-! Driver handler for C19 (stateful: one electric model per driver process, `reset` starts afresh).  The state is
the KEYED model (`Keyed.lean`: records stored under keys); on states where every record carries its key it is the
model of `Electric.lean` (`C19_keyed_refines`), and its events are those of `Events.lean` (`C19_keyed_events`).

```
reset | config <active mode> <mode;mode;…|->      (initial state: NewModel with WithInitialMode / WithInitialActiveMode)
kconfig <active mode> <k<keyhex>=mode;…|->        (WithModeOption(resource.WithInitialRecord(key, mode))…)
iconfig lower|ns <active mode> <k<keyhex>=mode;…|->  (the same plus WithModeOption(resource.WithIDInterceptor(c)), c =
                                                   strings.ToLower or the idempotent prefix `ns/`: the following operations
                                                   run `ikstep c` of Icpt.lean)
awconfig <mask> <active mode> <mode;mode;…|->      (NewModel with WithActiveModeOption(resource.WithWritablePaths(paths…)),
                                                   WithInitialMode, WithInitialActiveMode: the following operations run
                                                   `wstep` of ActiveW.lean)
find <id>
create <mode> <cands>      add <mode>        update <mode> <mask> [w<createIfAbsent 0|1><expectAbsent 0|1> <expected mode|->
                                                                     [<reset mask> <check name|-> <before name|-> <after name|->]]
delete <id> <0|1> [<expected mode|-> [<check name|->]]
setactive <mode>           change <id> <now> clear <now>
s.create <mode> <cands>    s.update <mode> <mask>   s.delete <id> <0|1>   s.change <id> <now>   s.clear <now>
s.create nil <cands>       (the CreateMode RPC with a request that carries no mode)
  mode  = m:<idhex>:<titlehex>:<0|1>:<start|->[:<deschex>:<volts>:<seg,seg|->]        id = i<hex>
  cands = c<hex>,<hex>,…                               mask = nil | p:<id|title|normal|start_time|description|voltage|segments|bogus>,…
answer: <OK[=mode]|err:<Code>|panic> modes=[mode;…] active=<mode> normal=<mode|-> changed=<0|1> events=[A<mode>|U<old>><new>|R<old>;…] active-events=[mode;…]
```
-/
namespace ScVerif.C19
open ScVerif.Line

def hexVal? (c : Char) : Option Nat :=
  if '0' ≤ c ∧ c ≤ '9' then some (c.toNat - '0'.toNat)
  else if 'a' ≤ c ∧ c ≤ 'f' then some (c.toNat - 'a'.toNat + 10)
  else none

def hexBytes? : List Char → Option (List UInt8)
  | [] => some []
  | [_] => none
  | a :: b :: rest => do
    let x ← hexVal? a
    let y ← hexVal? b
    let r ← hexBytes? rest
    pure (UInt8.ofNat (x * 16 + y) :: r)

def unhex? (s : String) : Option String := do
  let bs ← hexBytes? s.toList
  String.fromUTF8? (ByteArray.mk bs.toArray)

def hexDigit (n : Nat) : Char := if n < 10 then Char.ofNat (n + 48) else Char.ofNat (n + 87)

def hex (s : String) : String :=
  String.ofList (s.toUTF8.toList.flatMap fun b => [hexDigit (b.toNat / 16), hexDigit (b.toNat % 16)])

def parseMode? (s : String) : Option Mode :=
  match s.splitOn ":" with
  | ["m", i, t, n, st] => do
    let id ← unhex? i
    let title ← unhex? t
    let normal ← parseBool? n
    let start ← if st = "-" then some none else (parseNat? st).map some
    pure (Mode.mk4 id title normal start)
  | ["m", i, t, n, st, d, v, sg] => do
    let id ← unhex? i
    let title ← unhex? t
    let normal ← parseBool? n
    let start ← if st = "-" then some none else (parseNat? st).map some
    let desc ← unhex? d
    let volt ← parseNat? v
    let segs ← if sg = "-" then some [] else (sg.splitOn ",").mapM parseNat?
    pure { id := id, title := title, normal := normal, start := start, description := desc, voltage := volt, segments := segs }
  | _ => none

def showMode (m : Mode) : String :=
  let segs := if m.segments.isEmpty then "-" else ",".intercalate (m.segments.map toString)
  s!"m:{hex m.id}:{hex m.title}:{if m.normal then "1" else "0"}:{match m.start with | none => "-" | some t => toString t}:{hex m.description}:{m.voltage}:{segs}"

def showEvent : ModeEvent → String
  | .add n => "A" ++ showMode n
  | .update o n => "U" ++ showMode o ++ ">" ++ showMode n
  | .remove o => "R" ++ showMode o

def parseId? (s : String) : Option String :=
  if s.startsWith "i" then unhex? (s.drop 1).toString else none

def parseCands? (s : String) : Option (List String) :=
  if s = "c" then some []
  else if s.startsWith "c" then ((s.drop 1).toString.splitOn ",").mapM unhex? else none

def parseField? (s : String) : Option (Option Field) :=
  if s = "id" then some (some .id)
  else if s = "title" then some (some .title)
  else if s = "normal" then some (some .normal)
  else if s = "start_time" then some (some .start)
  else if s = "description" then some (some .description)
  else if s = "voltage" then some (some .voltage)
  else if s = "segments" then some (some .segments)
  else if s = "bogus" then some none
  else none

def parseMask? (s : String) : Option (Option Mask) :=
  if s = "nil" then some none
  else if s = "p:" then some (some ⟨[], false⟩)
  else if s.startsWith "p:" then do
    let fs ← ((s.drop 2).toString.splitOn ",").mapM parseField?
    pure (some ⟨fs.filterMap id, fs.any Option.isNone⟩)
  else none

/-- `WithExpectedValue`: `-` (not given) or a mode -/
def parseExpected? (s : String) : Option (Option Mode) :=
  if s = "-" then some none else (parseMode? s).map some

/-- Model-level write options: `w<createIfAbsent><expectAbsent>` and the expected value -/
def parseWOpts? (w e : String) : Option WOpts :=
  match w.toList with
  | ['w', c, a] => do
    let c ← parseBool? (String.singleton c)
    let a ← parseBool? (String.singleton a)
    let e ← parseExpected? e
    pure { createIfAbsent := c, expectAbsent := a, expected := e }
  | _ => none

/-- an optional named callback: `-` = not given -/
def parseNamed? {α : Type} (table : String → Option α) (s : String) : Option (Option α) :=
  if s = "-" then some none else (table s).map some

def parseOp? : List String → Option Op
  | ["create", m, c] => do pure (.create (← parseMode? m) (← parseCands? c))
  | ["add", m] => do pure (.add (← parseMode? m))
  | ["update", m, k] => do pure (.update (← parseMode? m) (← parseMask? k) {})
  | ["update", m, k, w, e] => do pure (.update (← parseMode? m) (← parseMask? k) (← parseWOpts? w e))
  | ["update", m, k, w, e, r, c, b, a] => do
    let w ← parseWOpts? w e
    pure (.update (← parseMode? m) (← parseMask? k)
      { w with reset := (← parseMask? r), check := (← parseNamed? namedCheck? c),
               before := (← parseNamed? namedIcpt? b), after := (← parseNamed? namedIcpt? a) })
  | ["delete", i, a] => do pure (.delete (← parseId? i) (← parseBool? a) {})
  | ["delete", i, a, e] => do pure (.delete (← parseId? i) (← parseBool? a) { expected := (← parseExpected? e) })
  | ["delete", i, a, e, c] => do
    pure (.delete (← parseId? i) (← parseBool? a) { expected := (← parseExpected? e), check := (← parseNamed? namedCheck? c) })
  | ["setactive", m] => do pure (.setActive (← parseMode? m))
  | ["change", i, t] => do pure (.changeActive (← parseId? i) (← parseNat? t))
  | ["clear", t] => do pure (.clear (← parseNat? t))
  | ["find", i] => do pure (.findMode (← parseId? i))
  | ["s.create", "nil", c] => do let _ ← parseCands? c; pure .sCreateNil
  | ["s.create", m, c] => do pure (.sCreate (← parseMode? m) (← parseCands? c))
  | ["s.update", m, k] => do pure (.sUpdate (← parseMode? m) (← parseMask? k))
  | ["s.delete", i, a] => do pure (.sDelete (← parseId? i) (← parseBool? a))
  | ["s.change", i, t] => do pure (.sChangeActive (← parseId? i) (← parseNat? t))
  | ["s.clear", t] => do pure (.sClear (← parseNat? t))
  | _ => none

def showRes : Res → String
  | .ok none => "OK"
  | .ok (some m) => "OK=" ++ showMode m
  | .err c => "err:" ++ c.name
  | .panic => "panic"

def showSt (s : St) : String :=
  s!"modes=[{";".intercalate (s.modes.map showMode)}] active={showMode s.active} normal={match normalMode s with | none => "-" | some m => showMode m} changed={if s.changed then "1" else "0"}"

/-- `k<keyhex>=<mode>` -/
def parseRec? (s : String) : Option Rec :=
  match s.splitOn "=" with
  | [k, m] => do
    if !k.startsWith "k" then none
    let key ← unhex? (k.drop 1).toString
    let m ← parseMode? m
    pure (key, m)
  | _ => none

def KSt.init : KSt := KSt.ofSt St.init

def handleS (k : KSt) (toks : List String) : KSt × String :=
  match toks with
  | ["reset"] => (KSt.init, "ok")
  | ["config", a, ms] =>
    -- NewModel(WithInitialMode(ms…), WithInitialActiveMode(a))
    match parseMode? a, (if ms = "-" then some [] else (ms.splitOn ";").mapM parseMode?) with
    | some a, some ms =>
      match St.config? ms a with
      | some s0 => (KSt.ofSt s0, "ok " ++ showSt s0)
      | none => (KSt.init, "panic")
    | _, _ => (k, "!bad-op")
  | ["kconfig", a, rs] =>
    -- NewModel(WithModeOption(resource.WithInitialRecord(key, mode))…, WithInitialActiveMode(a))
    match parseMode? a, (if rs = "-" then some [] else (rs.splitOn ";").mapM parseRec?) with
    | some a, some rs =>
      match KSt.config? rs a with
      | some k0 => (k0, "ok " ++ showSt k0.abs)
      | none => (KSt.init, "panic")
    | _, _ => (k, "!bad-op")
  | _ =>
    match parseOp? toks with
    | some op =>
      let (k', r) := kstep k op
      -- the events of the keyed model; on states where every record carries its key they are `modeEvents` /
      -- `activeEvents` of Events.lean (`C19_keyed_events`)
      let evs := s!" events=[{";".intercalate ((kmodeEvents k op).map showEvent)}] active-events=[{";".intercalate ((kactiveEvents k op).map showMode)}]"
      (k', showRes r ++ " " ++ showSt k'.abs ++ evs)
    | none => (k, "!bad-op")

/-- the driver's state: the keyed model, whether the mode collection was configured with an id interceptor (`lower`:
set by `iconfig lower` and by `iconfig ns`; `ns` says which), and the writable fields of the active mode resource (`awconfig`); without either the
operations run `kstep` (= `ikstep` with the identity, `C19_icpt_identity`; = `wstep none`, `C19_activew_none`) -/
structure DSt where
  lower : Bool
  k : KSt
  aw : Option (List Field) := none
  /-- `iconfig ns`: the interceptor is the idempotent prefix `ns/` instead of lower-casing -/
  ns : Bool := false

def DSt.init : DSt := ⟨false, KSt.init, none, false⟩

/-- `strings.ToLower` on the ids the harness uses (ASCII) -/
def lowerId (s : String) : String := s.toLower

/-- an idempotent namespace prefix: it maps the empty id to the key `ns/` -/
def nsId (s : String) : String := if s.startsWith "ns/" then s else "ns/" ++ s

def handleD (d : DSt) (toks : List String) : DSt × String :=
  match toks with
  | ["iconfig", name, a, rs] =>
    match parseMode? a, (if rs = "-" then some [] else (rs.splitOn ";").mapM parseRec?) with
    | some a, some rs =>
      if name != "lower" && name != "ns" then (d, "!bad-op") else
      match KSt.iconfig? (if name = "ns" then nsId else lowerId) rs a with
      | some k0 => (⟨true, k0, none, name = "ns"⟩, "ok " ++ showSt k0.abs)
      | none => (DSt.init, "panic")
    | _, _ => (d, "!bad-op")
  | ["awconfig", w, a, ms] =>
    -- NewModel(WithActiveModeOption(resource.WithWritablePaths(&ElectricMode{}, w…)), WithInitialMode(ms…),
    --          WithInitialActiveMode(a))
    match parseMask? w, parseMode? a, (if ms = "-" then some [] else (ms.splitOn ";").mapM parseMode?) with
    | some (some mask), some a, some ms =>
      match St.config? ms a with
      | some s0 => (⟨false, KSt.ofSt s0, some mask.paths, false⟩, "ok " ++ showSt s0)
      | none => (DSt.init, "panic")
    | _, _, _ => (d, "!bad-op")
  | _ =>
    let fresh := match toks with
      | ["reset"] => true
      | "config" :: _ => true
      | "kconfig" :: _ => true
      | _ => false
    if fresh || (!d.lower && d.aw.isNone) then
      let (k', s) := handleS d.k toks
      if s = "!bad-op" then (d, s) else (⟨d.lower && !fresh, k', if fresh then none else d.aw, d.ns && !fresh⟩, s)
    else if d.lower then
      match parseOp? toks with
      | some op =>
        let c := if d.ns then nsId else lowerId
        let (k', r) := ikstep c d.k op
        let evs := s!" events=[{";".intercalate ((ikmodeEvents c d.k op).map showEvent)}] active-events=[{";".intercalate ((ikactiveEvents c d.k op).map showMode)}]"
        (⟨true, k', none, d.ns⟩, showRes r ++ " " ++ showSt k'.abs ++ evs)
      | none => (d, "!bad-op")
    else
      match parseOp? toks with
      | some op =>
        let (k', r) := wstep d.aw d.k op
        let evs := s!" events=[{";".intercalate ((kmodeEvents d.k op).map showEvent)}] active-events=[{";".intercalate ((wactiveEvents d.aw d.k op).map showMode)}]"
        (⟨false, k', d.aw, false⟩, showRes r ++ " " ++ showSt k'.abs ++ evs)
      | none => (d, "!bad-op")

end ScVerif.C19
