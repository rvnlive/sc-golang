import ScVerif.C19.Keyed
/-!
C19 — WRITABLE FIELDS on the active mode resource.

`electricpb.WithActiveModeOption(resource.WithWritablePaths(&traits.ElectricMode{}, paths…))` makes every write to
the active mode (`SetActiveMode`, `changeActiveMode`) touch the writable fields only: `FieldUpdater.Merge` filters the
source down to them, prunes them in the destination and merges; the other fields of the destination STAY.  The
start-time stamp of `changeActiveMode` is not a caller's write: it runs in `InterceptAfter`, after the filter, on the
result.  `wstep aw` is `kstep` with the five operations that write the active mode going through `writeActive aw`
(`aw = none`: no such option, every field writable).
-/
namespace ScVerif.C19

/-- `Merge(dst, src)` without update mask when the writable fields are `w` -/
def selectW (w : List Field) (dst src : Mode) : Mode :=
  { id := if Field.id ∈ w then src.id else dst.id
    title := if Field.title ∈ w then src.title else dst.title
    normal := if Field.normal ∈ w then src.normal else dst.normal
    start := if Field.start ∈ w then src.start else dst.start
    description := if Field.description ∈ w then src.description else dst.description
    voltage := if Field.voltage ∈ w then src.voltage else dst.voltage
    segments := if Field.segments ∈ w then src.segments else dst.segments }

def writeActive (aw : Option (List Field)) (dst src : Mode) : Mode :=
  match aw with
  | none => src
  | some w => selectW w dst src

/-- the `id` field can be written (no writable-field option, or one that lists `id`) -/
def IdWritable : Option (List Field) → Prop
  | none => True
  | some w => Field.id ∈ w

def wchangeActive (aw : Option (List Field)) (k : KSt) (id : String) (now : Nat) : KSt × Res :=
  match kfind k id with
  | none => (k, .err .notFound)
  | some m =>
    let merged := writeActive aw k.active m
    -- InterceptAfter(old, new): old is the active mode before the write, new the merged result
    let m' := if k.active.id ≠ merged.id then { merged with start := some now } else merged
    ({ k with active := m', changed := true }, .ok (some m'))

def wsetActive (aw : Option (List Field)) (k : KSt) (m : Mode) : KSt × Res :=
  match kfind k m.id with
  | none => (k, .err .notFound)
  | some _ => ({ k with active := writeActive aw k.active m, changed := true }, .ok none)

def wchangeToNormal (aw : Option (List Field)) (k : KSt) (now : Nat) : KSt × Res :=
  match normalMode k.abs with
  | none => (k, .err .notFound)
  | some n => wchangeActive aw k n.id now

def wstep (aw : Option (List Field)) (k : KSt) : Op → KSt × Res
  | .setActive m => wsetActive aw k m
  | .changeActive id now => wchangeActive aw k id now
  | .clear now => wchangeToNormal aw k now
  | .sChangeActive id now => if id = "" then (k, .err .invalidArgument) else wchangeActive aw k id now
  | .sClear now => wchangeToNormal aw k now
  | op => kstep k op

def wrun (aw : Option (List Field)) (k : KSt) : List Op → KSt
  | [] => k
  | op :: ops => wrun aw (wstep aw k op).1 ops

def wactiveEvents (aw : Option (List Field)) (k : KSt) (op : Op) : List Mode :=
  if setsActive op ∧ (wstep aw k op).2.isOk ∧ (k.changed = false ∨ (wstep aw k op).1.active ≠ k.active)
  then [(wstep aw k op).1.active] else []

end ScVerif.C19
