import ScVerif.C19.PropsOpts
import ScVerif.C19.KeyedRefine
/-!
# C19 — keys and records apart

`Keyed.lean` models the mode collection as the code has it — a map from KEY to record — and follows for every
operation of `model.go` which of the two notions it uses (lookups, updates and deletes go by key; the
delete-the-active-mode guard, the stamp condition, the second-normal-mode guard and `ChangeToNormalMode` go by
the `id` field the RECORD carries).  Where every record carries its key the keyed model is the model of `Electric.lean`;
what follows once a record does not is derived in the model, not only observed on the code.
-/
namespace ScVerif.C19

/-- Where every record is stored under the id it carries the keyed model does what `step` does on
the listing, for ANY options, tame or not; a tame operation stays there.  States of `Electric.lean` are such states. -/
theorem C19_keyed_refines (k : KSt) (hk : KeyOk k) (op : Op) :
    (kstep k op).1.abs = (step k.abs op).1 ∧ (kstep k op).2 = (step k.abs op).2 ∧
    (op.Tame → KeyOk (kstep k op).1) ∧
    kactiveEvents k op = activeEvents k.abs op ∧
    (∀ s : St, KeyOk (KSt.ofSt s) ∧ (KSt.ofSt s).abs = s) := by
  exact ⟨kstep_abs_fst hk op, congrArg Prod.snd (kstep_abs hk op), kstep_keyOk hk op, kactiveEvents_abs hk op,
    fun s => ⟨keyOk_ofSt s, ofSt_abs s⟩⟩

/-- The invariants of the keyed model, from ANY configuration of initial records
`resource.WithInitialRecord(key, mode)` (what `WithInitialMode` produces, or given directly through `WithModeOption`) that
the constructor accepts, whose records carry their keys, at most one normal.  The active mode's id is a key of the
collection: the guard of `deleteMode`, which compares ids, protects the record the active mode was copied from. -/
theorem C19_keyed_inv (recs : List Rec) (active : Mode) (k0 : KSt) (hc : KSt.config? recs active = some k0)
    (hrec : ∀ e ∈ recs, e.1 = e.2.id)
    (h1 : ∀ x ∈ recs, ∀ y ∈ recs, x.2.normal = true → y.2.normal = true → x = y)
    (ops : List Op) (ht : ∀ op ∈ ops, op.Tame) :
    let k := krun k0 ops
    k.abs = run (St.config (recs.map (·.2)) active) ops ∧
    ((k.recs.map (·.2)).filter (·.normal)).length ≤ 1 ∧
    (k.changed = true → (kfind k k.active.id).isSome = true) ∧
    (∀ e ∈ k.recs, e.1 = e.2.id ∧ kfind k e.2.id = some e.2) ∧
    (k.recs.map (·.1)).Nodup := by
  obtain ⟨hnd, rfl⟩ := kconfig?_some hc
  obtain ⟨habs0, hk0⟩ := kconfig_abs recs active hrec
  obtain ⟨hj, ha⟩ := ikrun_JG idem_id (G := fun _ => True) guarded_id ops _
    ⟨J_config active hrec hnd h1, fun h => Bool.noConfusion h⟩ ht
  rw [ikrun_id] at hj ha
  refine ⟨?_, J_count hj, fun hch => (kfindL_isSome_iff _ _).mpr (ha hch trivial), fun e he => ⟨hj.kc e he, ?_⟩, hj.nd⟩
  · rw [← habs0]
    exact krun_abs hk0 ops ht
  · rw [← hj.kc e he]
    exact kfindL_of_mem hj.nd he

/-- The collection publishes the change of the ONE key an operation wrote (ADD for a new key, UPDATE
unless the record is unchanged, REMOVE).  Where records carry their keys that is `modeEvents` of `Events.lean`, so
`C19_pull_modes` holds of the keyed model from any configuration of `C19_keyed_inv`. -/
theorem C19_keyed_events (k : KSt) (hk : KeyOk k) :
    (∀ op, kmodeEvents k op = modeEvents k.abs op ∧ (kmodeEvents k op).length ≤ 1) ∧
    (∀ ops, (∀ op ∈ ops, op.Tame) → krunEvents k ops = runEvents k.abs ops) := by
  refine ⟨fun op => ⟨kmodeEvents_abs hk op, ?_⟩, fun ops ht => krunEvents_abs hk ops ht⟩
  unfold kmodeEvents
  split
  · exact Nat.zero_le _
  · exact diff1_length _ _

/-- "The active mode is never deleted", keys and records apart: the lookup of `ChangeActiveMode(id)` goes
by KEY, the guard of `DeleteMode(id)` compares IDS; where records carry their keys the two agree.  (Where they do not,
`C19_keyed_untame_fails`, the delete is refused by the guard of 00bc77e, not by this one.) -/
theorem C19_keyed_I2 (k : KSt) (hk : KeyOk k) (id : String) (now : Nat) (am : Bool) (d : DOpts)
    (hok : (kstep k (.changeActive id now)).2.isOk = true) :
    let k' := (kstep k (.changeActive id now)).1
    k'.active.id = id ∧ (kfind k' id).isSome = true ∧
    kstep k' (.delete id am d) = (k', .err .failedPrecondition) ∧
    (id ≠ "" → kstep k' (.sDelete id am) = (k', .err .failedPrecondition) ∧
      kstep k (.sChangeActive id now) = kstep k (.changeActive id now)) := by
  have hdel := ikstep_switch_protected (c := fun x => x) (k := k) (id := id) (id' := id) (now := now)
  simp only [ikstep_id] at hdel
  obtain ⟨hd, hsd⟩ := hdel hok trivial am d
  obtain ⟨m, hf, hrecs, hid⟩ := ikchangeActive_ok (c := fun x => x) (k := k) (id := id) (now := now) hok
  -- the record found under the key `id` carries `id`
  have hmid : id = m.id := hk (id, m) (kfindL_some hf)
  refine ⟨hid.symm.trans hmid.symm, ?_, hd, fun hne => ⟨hsd hne, by simp only [kstep, hne, if_false]⟩⟩
  exact (congrArg (fun l => (kfindL l id).isSome) hrecs).trans (by rw [show kfindL k.recs id = some m from hf]; rfl)

/-- The collection is a map: keys stay distinct under ANY options, no hypothesis on the records. -/
theorem C19_keyed_keys (k : KSt) (h : (k.recs.map (·.1)).Nodup) (ops : List Op) :
    ((krun k ops).recs.map (·.1)).Nodup := by
  induction ops generalizing k with
  | nil => exact h
  | cons op ops ih => exact ih _ (kstep_keys h op)

/-- `sAB` (modes `a` (normal, active) and `b`) as a keyed state -/
def ksAB : KSt := KSt.ofSt sAB

/-- What the untame writes of `C19_options_fails` lead to: after an `UpdateMode` of `b` with a
reset mask naming `id` (the record under `b` then has the id ""), or with an `InterceptAfter` that renames the record,
`ChangeActiveMode("b")` — by key — makes a mode active whose id names no key (`GetMode(active.id)` is NotFound; I3 by
key).  `DeleteMode("b")` is refused since 00bc77e (the guard also looks at the record stored under the key); before
(`kdeleteModeUnfixed`) it deleted the record the active mode was copied from. -/
theorem C19_keyed_untame_fails :
    (let k1 := (kstep ksAB (.update mB none { reset := some ⟨[.id], false⟩ })).1
     let r2 := kstep k1 (.changeActive "b" 5)
     let r3 := kstep r2.1 (.delete "b" false {})
     let r3u := kdeleteModeUnfixed r2.1 "b" false {}
     r2.2.isOk = true ∧ r2.1.active.id = "" ∧ kfind r2.1 r2.1.active.id = none ∧
     r3 = (r2.1, .err .failedPrecondition) ∧
     r3u.2 = .ok none ∧ kfind r3u.1 "b" = none ∧ r3u.1.recs.map (·.2.id) = ["a"]) ∧
    (let k1 := (kstep ksAB (.update mB (some ⟨[.title], false⟩) { after := some fun _ n => { n with id := "zz" } })).1
     let r2 := kstep k1 (.changeActive "b" 5)
     let r3 := kstep r2.1 (.delete "b" false {})
     let r3u := kdeleteModeUnfixed r2.1 "b" false {}
     r2.2.isOk = true ∧ r2.1.active.id = "zz" ∧ kfind r2.1 r2.1.active.id = none ∧
     r3 = (r2.1, .err .failedPrecondition) ∧
     r3u.2 = .ok none ∧ kfind r3u.1 "b" = none ∧ r3u.1.recs.map (·.2.id) = ["a"]) := by decide +kernel

/-- `C19_keyed_inv`'s hypothesis on the configuration is needed: the constructor accepts
`WithModeOption(resource.WithInitialRecord("k", mode a))`; `ChangeActiveMode("k")` then makes a mode active whose id `a`
names no key.  `DeleteMode("k")` is refused since 00bc77e; before, it deleted the active mode. -/
theorem C19_keyed_config_fails :
    (KSt.config? [("k", mA), ("b", mB)] Mode.blank).isSome = true ∧
    (let r2 := kstep (KSt.config [("k", mA), ("b", mB)] Mode.blank) (.changeActive "k" 5)
     let r3 := kstep r2.1 (.delete "k" false {})
     let r3u := kdeleteModeUnfixed r2.1 "k" false {}
     r2.2.isOk = true ∧ r2.1.active.id = "a" ∧ kfind r2.1 r2.1.active.id = none ∧
     r3 = (r2.1, .err .failedPrecondition) ∧
     r3u.2 = .ok none ∧ r3u.1.recs.map (·.2.id) = ["b"]) := by decide +kernel

/-- a configuration through `WithInitialRecord` with every record under its id is accepted, listed in key order … -/
example : (KSt.config? [("b", mB), ("a", mA)] Mode.blank).isSome = true ∧
    (KSt.config [("b", mB), ("a", mA)] Mode.blank).recs = [("a", mA), ("b", mB)] := by decide +kernel
/-- … and satisfies the hypotheses of `C19_keyed_inv` (records under their ids, at most one normal) -/
example : (∀ e ∈ [("b", mB), ("a", mA)], e.1 = e.2.id) ∧
    (∀ x ∈ [("b", mB), ("a", mA)], ∀ y ∈ [("b", mB), ("a", mA)], x.2.normal = true → y.2.normal = true → x = y) := by
  decide +kernel
/-- … a key configured twice is not -/
example : KSt.config? [("a", mA), ("a", mB)] Mode.blank = none := by decide +kernel
/-- the keyed model and `step` on a tame run: same listing, active mode and results -/
example : (krun (KSt.config [("b", mB), ("a", mA)] Mode.blank) [.changeActive "b" 7, .delete "a" false {}]).abs
    = run (St.config [mB, mA] Mode.blank) [.changeActive "b" 7, .delete "a" false {}] := by decide +kernel
/-- `C19_keyed_I2` is not vacuous: on `ksAB` the switch to `b` succeeds, after which `b` cannot be deleted -/
example : (kstep ksAB (.changeActive "b" 5)).2.isOk = true ∧
    (kstep (kstep ksAB (.changeActive "b" 5)).1 (.delete "b" true {})).2 = .err .failedPrecondition := by decide +kernel
/-- after the untame write the keyed model still answers by key: the record without id is found under `b`, and the
guard of `deleteMode` still refuses the id the active mode carries -/
example : kfind (kstep ksAB (.update mB none { reset := some ⟨[.id], false⟩ })).1 "b" = some { mB with id := "" } ∧
    (kstep (kstep (kstep ksAB (.update mB none { reset := some ⟨[.id], false⟩ })).1 (.changeActive "b" 5)).1
      (.delete "" true {})).2 = .err .failedPrecondition := by decide +kernel

end ScVerif.C19
