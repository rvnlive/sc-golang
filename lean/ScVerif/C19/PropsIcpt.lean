import ScVerif.C19.PropsKeyed
import ScVerif.C19.IcptInv
/-!
# C19 — the mode collection behind an id interceptor

`electricpb.WithModeOption(resource.WithIDInterceptor(c))` (e.g. a lower-casing `c`) makes the collection look every
id it is given up under `c(id)`; `model.go` compares ids as spelled.  `Icpt.lean` follows the code with `c` applied
where `collection.go` applies it (`ikstep c`).  Callers that spell ids canonically do not see the interceptor; with two
spellings of one id in play I1–I3 hold since 00bc77e + c078347 + 6e97ca4, and the witnesses about the earlier guards
(`ikdeleteModeUnfixed`, `ikdeleteModeHalf`) show what each added guard is for.
-/
namespace ScVerif.C19

/-- Without `WithIDInterceptor` the interceptor model is the keyed model: state, result and both streams. -/
theorem C19_icpt_identity (k : KSt) (op : Op) :
    ikstep (fun x => x) k op = kstep k op ∧
    ikmodeEvents (fun x => x) k op = kmodeEvents k op ∧
    ikactiveEvents (fun x => x) k op = kactiveEvents k op := by
  have h := ikevents_canon _ k op (opCanon_id op) (fun _ _ => rfl) (Or.inr rfl)
  exact ⟨ikstep_id k op, h.1, h.2⟩

/-- One operation, ANY function `c`: a caller that spells every id canonically (for CreateMode also
the ids the RNG proposes), in a state whose records and active mode carry canonical ids, gets the answer, the state and
the stream events it gets without `WithIDInterceptor` — any options, tame or not — and stays in such states. -/
theorem C19_icpt_invisible (c : String → String) (k : KSt) (op : Op) (ho : OpCanon c op) (hk : RecsCanon c k)
    (ha : ActCanon c k) :
    ikstep c k op = kstep k op ∧
    ikmodeEvents c k op = kmodeEvents k op ∧ ikactiveEvents c k op = kactiveEvents k op ∧
    ActCanon c (ikstep c k op).1 ∧
    (op.Tame → RecsCanon c (ikstep c k op).1) := by
  refine ⟨ikstep_canon c k op ho hk ha, (ikevents_canon c k op ho hk ha).1, (ikevents_canon c k op ho hk ha).2, ?_,
    fun ht => ?_⟩
  · rw [ikstep_canon c k op ho hk ha]
    exact kstep_actCanon hk ha op ho
  · rw [ikstep_canon c k op ho hk ha]
    exact kstep_canon hk op ho ht

/-- Hence all invariants of `C19_keyed_inv` after any canonical tame run from any configuration the
constructor accepts (keys distinct after `c`) whose records carry canonical keys; an empty initial active id is the
placeholder's and exempt. -/
theorem C19_icpt_inv (c : String → String) (recs : List Rec) (active : Mode) (k0 : KSt)
    (hc : KSt.iconfig? c recs active = some k0)
    (hrec : ∀ e ∈ recs, e.1 = e.2.id) (hcan : ∀ e ∈ recs, c e.1 = e.1) (hact : active.id = "" ∨ c active.id = active.id)
    (h1 : ∀ x ∈ recs, ∀ y ∈ recs, x.2.normal = true → y.2.normal = true → x = y)
    (ops : List Op) (ht : ∀ op ∈ ops, OpCanon c op ∧ op.Tame) :
    let k := ikrun c k0 ops
    k = krun k0 ops ∧
    k.abs = run (St.config (recs.map (·.2)) active) ops ∧
    ((k.recs.map (·.2)).filter (·.normal)).length ≤ 1 ∧
    (k.changed = true → (kfind k k.active.id).isSome = true) ∧
    (∀ e ∈ k.recs, e.1 = e.2.id ∧ kfind k e.2.id = some e.2) ∧
    (k.recs.map (·.1)).Nodup := by
  have hmap : recs.map (fun e => (c e.1, e.2)) = recs := by
    have : recs.map (fun e => (c e.1, e.2)) = recs.map (fun e => e) :=
      List.map_congr_left (fun e he => by rw [hcan e he])
    rw [this, List.map_id']
  unfold KSt.iconfig? at hc
  rw [hmap] at hc
  obtain ⟨_, rfl⟩ := kconfig?_some hc
  have hk0 : RecsCanon c (KSt.config recs active) := fun e he => by
    have he' : e ∈ recs := (mem_kconfig recs e).mp he
    rw [← hrec e he']
    exact hcan e he'
  have ha0 : ActCanon c (KSt.config recs active) := hact
  obtain ⟨hrun, _⟩ := ikrun_canon c ops _ hk0 ha0 ht
  have := C19_keyed_inv recs active _ hc hrec h1 ops (fun op hop => (ht op hop).2)
  simp only [hrun]
  exact ⟨trivial, this⟩

/-- What survives ANY spelling behind an idempotent interceptor (e.g. lower-casing): I1, records under the
canonical form of their ids, distinct keys.  A new model satisfies the hypotheses.  I1 never depended on the guards of
`deleteMode`; I2 / I3 did (`C19_icpt_fails`). -/
theorem C19_icpt_I1 (c : String → String) (hc : ∀ x, c (c x) = c x) (k0 : KSt)
    (hkc : ∀ e ∈ k0.recs, e.1 = c e.2.id) (hnd : (k0.recs.map (·.1)).Nodup)
    (h1 : ∀ e1 ∈ k0.recs, ∀ e2 ∈ k0.recs, e1.2.normal = true → e2.2.normal = true → e1 = e2)
    (ops : List Op) (ht : ∀ op ∈ ops, op.Tame) :
    let k := ikrun c k0 ops
    ((k.recs.map (·.2)).filter (·.normal)).length ≤ 1 ∧
    (∀ e1 ∈ k.recs, ∀ e2 ∈ k.recs, e1.2.normal = true → e2.2.normal = true → e1 = e2) ∧
    (∀ e ∈ k.recs, e.1 = c e.2.id) ∧ (k.recs.map (·.1)).Nodup := by
  -- `J` alone: no active id is claimed
  have hj := (ikrun_JG hc (G := fun _ => False) nofun ops k0 ⟨⟨hkc, hnd, h1⟩, nofun⟩ ht).1
  exact ⟨J_count hj, hj.n1, hj.kc, hj.nd⟩

/-- two spellings of one id: `B` is kept under `b` -/
def foldB : String → String := fun s => if s = "B" then "b" else s

/-- The defect as it was before 00bc77e (`ikdeleteModeUnfixed`: the only guard compared spellings):
`AddMode{Id:"B"}` is stored under `b` and says `B`, `ChangeActiveMode("B")` makes it active, `DeleteMode("b")` passed the
guard and deleted it (I2, I3 lost); `ikstep` refuses.  Second run: a client of the servers that says `b` throughout lost
the active mode all the same, because the record was added as `B`. -/
theorem C19_icpt_fails :
    (let mB' : Mode := Mode.mk4 "B" "tb" false none
     let r1 := ikstep foldB (KSt.ofSt St.init) (.add mB')
     let r2 := ikstep foldB r1.1 (.changeActive "B" 5)
     let r3 := ikdeleteModeUnfixed foldB r2.1 "b" false {}
     r1.2 = .ok none ∧ r1.1.recs = [("b", mB')] ∧ r2.2.isOk = true ∧ r2.1.active.id = "B" ∧
     r3.2 = .ok none ∧ r3.1.recs = [] ∧ r3.1.changed = true ∧ kfind r3.1 (foldB r3.1.active.id) = none ∧
     ikstep foldB r2.1 (.delete "b" false {}) = (r2.1, .err .failedPrecondition) ∧
     ikstep foldB r2.1 (.delete "B" false {}) = (r2.1, .err .failedPrecondition)) ∧
    (let mB' : Mode := Mode.mk4 "B" "tb" false none
     let r1 := ikstep foldB (KSt.ofSt St.init) (.add mB')
     let r2 := ikstep foldB r1.1 (.sChangeActive "b" 5)
     let r3 := ikdeleteModeUnfixed foldB r2.1 "b" false {}
     r2.2.isOk = true ∧ r2.1.active.id = "B" ∧ r3.2 = .ok none ∧ r3.1.recs = [] ∧
     kfind r3.1 (foldB r3.1.active.id) = none ∧
     ikstep foldB r2.1 (.sDelete "b" false) = (r2.1, .err .failedPrecondition)) := by decide +kernel

/-- The second guard alone (00bc77e, `ikdeleteModeHalf`) does not give I2: an
`UpdateMode{Id:"b"}` in between writes the id it is given (2b5cf2c), the stored record then says `b`, the active mode still
`B`, and `DeleteMode("b")` passes both comparisons.  The third guard (c078347) refuses it. -/
theorem C19_icpt_respell_fails :
    let mB' : Mode := Mode.mk4 "B" "tb" false none
    let k2 := ikrun foldB (KSt.ofSt St.init) [.add mB', .changeActive "B" 5]
    let r3 := ikstep foldB k2 (.update (Mode.mk4 "b" "x" false none) (some ⟨[.title], false⟩) {})
    let r4 := ikdeleteModeHalf foldB r3.1 "b" false {}
    r3.2.isOk = true ∧ r3.1.recs.map (fun e => (e.1, e.2.id)) = [("b", "b")] ∧ r3.1.active.id = "B" ∧
    r4.2 = .ok none ∧ r4.1.recs = [] ∧ kfind r4.1 (foldB r4.1.active.id) = none ∧
    ikstep foldB r3.1 (.delete "b" false {}) = (r3.1, .err .failedPrecondition) := by decide +kernel

/-- One step, ANY function `c`, ANY state: the mode a successful `ChangeActiveMode(id)` made active
cannot be deleted under any spelling of its key, at both API levels; and where records carry their keys and ids are
canonical the added guards decide as the one guard did before. -/
theorem C19_icpt_I2_step (c : String → String) (k : KSt) (id id' : String) (now : Nat) (am : Bool) (d : DOpts) :
    ((ikstep c k (.changeActive id now)).2.isOk = true → c id' = c id →
      let k' := (ikstep c k (.changeActive id now)).1
      ikstep c k' (.delete id' am d) = (k', .err .failedPrecondition) ∧
      (id' ≠ "" → ikstep c k' (.sDelete id' am) = (k', .err .failedPrecondition))) ∧
    (KeyOk k → c id = id → ActCanon c k → ikdeleteMode c k id am d = ikdeleteModeUnfixed c k id am d) := by
  refine ⟨fun hok hc => ikstep_switch_protected hok hc am d, fun hk hc ha => ?_⟩
  rw [ikdeleteMode_canon c k id am d hc ha, kdeleteMode_eq_unfixed hk, ikdeleteModeUnfixed_canon c k id am d hc]

/-- I2 and I3 behind an idempotent interceptor, ANY spelling: once changed, a non-empty active id finds a
stored mode whose id is a spelling of it, and a delete under any spelling of that key is refused, nothing changed.  The
empty id is the placeholder's (6e97ca4); only `SetActiveMode` of a message without id makes it active after a change. -/
theorem C19_icpt_I2 (c : String → String) (hc : ∀ x, c (c x) = c x) (k0 : KSt)
    (hkc : ∀ e ∈ k0.recs, e.1 = c e.2.id) (hnd : (k0.recs.map (·.1)).Nodup)
    (h1 : ∀ e1 ∈ k0.recs, ∀ e2 ∈ k0.recs, e1.2.normal = true → e2.2.normal = true → e1 = e2)
    (ha0 : k0.changed = true → k0.active.id ≠ "" → c k0.active.id ∈ k0.recs.map (·.1))
    (ops : List Op) (ht : ∀ op ∈ ops, op.Tame) :
    let k := ikrun c k0 ops
    k.changed = true → k.active.id ≠ "" →
      (∃ st, kfind k (c k.active.id) = some st ∧ c st.id = c k.active.id) ∧
      ∀ id' am d, c id' = c k.active.id →
        ikstep c k (.delete id' am d) = (k, .err .failedPrecondition) ∧
        (id' ≠ "" → ikstep c k (.sDelete id' am) = (k, .err .failedPrecondition)) := by
  obtain ⟨hj, ha⟩ := ikrun_JG hc (G := (· ≠ "")) (guarded_of_ne c) ops k0 ⟨⟨hkc, hnd, h1⟩, ha0⟩ ht
  intro k hch hne0
  have hin := ha hch hne0
  refine ⟨?_, fun id' am d heq => ?_⟩
  · exact find_key hj.kc hin
  · exact ikstep_delete_refused (fun dd => ikdeleteMode_refuses hin (guarded_of_ne c _ hne0) heq am dd) d

/-- No over-refusal while the placeholder is active (6e97ca4 completes c078347): for ANY `c`,
also one that maps the empty id to a key of its own (a prefix, a default id), a delete of a mode with a non-empty id is
what `modes.Delete` makes of it, never ErrDeleteActiveMode. -/
theorem C19_icpt_placeholder (c : String → String) (k : KSt) (id : String) (am : Bool) (d : DOpts)
    (ha : k.active.id = "") (hid : id ≠ "") (hst : ∀ st, kfind k (c id) = some st → st.id ≠ "") :
    ikdeleteMode c k id am d = ikdeleteBody c k id am d := by
  rw [ikdeleteMode_guards, if_neg]
  rintro (h | h)
  · exact hid (h.trans ha)
  · obtain ⟨st, hf, h | ⟨hne, _⟩⟩ := (iknamesActive_iff c k id).mp h
    · exact hst st hf (h.trans ha)
    · exact hne ha

/-- maps the empty id to a key of its own -/
def dfltId : String → String := fun s => if s = "" then "dflt" else s

/-- canonical spellings exist for `foldB` and `C19_icpt_invisible` applies to them: behind the same interceptor the
run `AddMode b`, `ChangeActiveMode b`, `DeleteMode b` is refused at the delete -/
example : OpCanon foldB (.add (Mode.mk4 "b" "tb" false none)) ∧ OpCanon foldB (.delete "b" false {}) ∧
    RecsCanon foldB (KSt.ofSt St.init) ∧
    (ikstep foldB (ikrun foldB (KSt.ofSt St.init) [.add (Mode.mk4 "b" "tb" false none), .changeActive "b" 5])
      (.delete "b" false {})).2 = .err .failedPrecondition := by
  refine ⟨by show foldB "b" = "b"; decide, by show foldB "b" = "b"; decide, ?_, by decide +kernel⟩
  intro e he
  cases he
/-- `C19_icpt_inv` applies to an accepted configuration: keys `a`, `b` are canonical for `foldB` -/
example : (KSt.iconfig? foldB [("b", mB), ("a", mA)] Mode.blank).isSome = true ∧
    (∀ e ∈ [("b", mB), ("a", mA)], foldB e.1 = e.1) := by decide +kernel
/-- two initial records whose keys the interceptor maps to one key are refused by the constructor (215ba16) -/
example : KSt.iconfig? foldB [("b", mB), ("B", mA)] Mode.blank = none := by decide +kernel

/-- `C19_icpt_I1` applies to `foldB` on a new model, with both spellings in one run: two adds of "the same" mode, the
second refused, one record, under `b` -/
example : (∀ x, foldB (foldB x) = foldB x) ∧
    (ikrun foldB (KSt.ofSt St.init) [.add (Mode.mk4 "B" "tb" true none), .add (Mode.mk4 "b" "tb" true none)]).recs
      = [("b", Mode.mk4 "B" "tb" true none)] := by
  refine ⟨?_, by decide +kernel⟩
  intro x
  unfold foldB
  by_cases h : x = "B"
  · simp [h]
  · simp [h]

/-- `C19_icpt_placeholder` is not vacuous: behind `dfltId` on a new model, `AddMode dflt` then `DeleteMode dflt`
succeeds (the third guard as of c078347 looked `findMode("")` up, found this mode and refused) -/
example : (ikstep dfltId (ikstep dfltId (KSt.ofSt St.init) (.add (Mode.mk4 "dflt" "t" false none))).1
    (.delete "dflt" false {})).2 = .ok none := by decide +kernel

end ScVerif.C19
