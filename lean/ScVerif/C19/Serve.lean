import ScVerif.C19.Lemmas
import ScVerif.C19.Events
/-!
How an operation is served.  Every layer of the model (`step`, `kstep`, `ikstep c`, `wstep aw`) has the same outer shape:
an operation is refused outright for the shape of its argument, or handed to ONE call into `model.go`, and two
operations drop the call's success value.  `Op.serve` is that shape with the layer's parts as parameters; after
`Op.serve_cases`, the one analysis of the fourteen operations that later proofs would otherwise repeat, a fact about an
operation is a fact about one `Call`.
-/
namespace ScVerif.C19

/-- the calls into `model.go` (and the collection's `Get`) that serve the operations -/
inductive Call where
  | createOrAdd (m : Mode) (cands : List String)
  | updateMode (m : Mode) (mask : Option Mask) (w : WOpts)
  | deleteMode (id : String) (allowMissing : Bool) (d : DOpts)
  | setActive (m : Mode)
  | changeActive (id : String) (now : Nat)
  | changeToNormal (now : Nat)
  | findMode (id : String)

def Call.Tame : Call → Prop
  | .updateMode _ _ w => w.Tame
  | _ => True

def Call.Canon (c : String → String) : Call → Prop
  | .createOrAdd m cands => c m.id = m.id ∧ ∀ x ∈ cands, c x = x
  | .updateMode m _ _ => c m.id = m.id
  | .deleteMode id _ _ => c id = id
  | .setActive m => c m.id = m.id
  | .changeActive id _ => c id = id
  | .findMode id => c id = id
  | .changeToNormal _ => True

/-- `AddMode` and the DeleteMode RPC answer a success without the value -/
def dropVal {σ : Type} : σ × Res → σ × Res
  | (s, .ok _) => (s, .ok none)
  | r => r

theorem dropVal_fst {σ : Type} (r : σ × Res) : (dropVal r).1 = r.1 := by
  obtain ⟨s, r⟩ := r
  cases r <;> rfl

theorem dropVal_isOk {σ : Type} (r : σ × Res) : (dropVal r).2.isOk = r.2.isOk := by
  obtain ⟨s, r⟩ := r
  cases r <;> rfl

/-- `refuse` answers without looking at the state, `call` is the layer's table of calls, `drop` what `AddMode` / the DeleteMode
RPC make of the call's answer.  Continuation style, so that the step functions are instances case by case by `rfl` (the
two dropping operations apart: their inline remap is `dropVal` only after a case split on the answer). -/
def Op.serve {α : Type} (refuse : Res → α) (call : Call → α) (drop : α → α) : Op → α
  | .create m cands => if m.id ≠ "" then refuse .panic else call (.createOrAdd m cands)
  | .add m => if m.id = "" then refuse .panic else drop (call (.createOrAdd m []))
  | .update m mask w => if m.id = "" then refuse (.err .notFound) else call (.updateMode m mask w)
  | .delete id am d => call (.deleteMode id am d)
  | .setActive m => call (.setActive m)
  | .changeActive id now => call (.changeActive id now)
  | .clear now => call (.changeToNormal now)
  | .findMode id => call (.findMode id)
  | .sCreate m cands => if m.id ≠ "" then refuse (.err .invalidArgument) else call (.createOrAdd m cands)
  | .sUpdate m mask => if m.id = "" then refuse (.err .invalidArgument) else call (.updateMode m mask {})
  | .sDelete id am => if id = "" then refuse (.err .invalidArgument) else drop (call (.deleteMode id am {}))
  | .sChangeActive id now => if id = "" then refuse (.err .invalidArgument) else call (.changeActive id now)
  | .sClear now => call (.changeToNormal now)
  | .sCreateNil => refuse (.err .invalidArgument)

/-- The equations hold for every instance of `serve` at once, so one `rcases` rewrites the state, the result and the events
of all layers in a goal; the call inherits the operation's tameness and the canonical spelling of its ids. -/
theorem Op.serve_cases (op : Op) :
    (∃ r, r.isOk = false ∧ ∀ {α : Type} (refuse : Res → α) (call : Call → α) (drop : α → α),
      op.serve refuse call drop = refuse r) ∨
    ∃ cl, (op.Tame → cl.Tame) ∧ (∀ c, OpCanon c op → cl.Canon c) ∧
      ((∀ {α : Type} (refuse : Res → α) (call : Call → α) (drop : α → α), op.serve refuse call drop = call cl) ∨
       (∀ {α : Type} (refuse : Res → α) (call : Call → α) (drop : α → α),
         op.serve refuse call drop = drop (call cl))) := by
  cases op with
  | create m cands | sCreate m cands =>
    by_cases h : m.id ≠ ""
    · exact Or.inl ⟨_, rfl, fun _ _ _ => if_pos h⟩
    · exact Or.inr ⟨.createOrAdd m cands, fun _ => trivial, fun _ ho => ho, Or.inl fun _ _ _ => if_neg h⟩
  | add m =>
    by_cases h : m.id = ""
    · exact Or.inl ⟨_, rfl, fun _ _ _ => if_pos h⟩
    · exact Or.inr ⟨.createOrAdd m [], fun _ => trivial, fun _ ho => ⟨ho, nofun⟩, Or.inr fun _ _ _ => if_neg h⟩
  | update m mask w =>
    by_cases h : m.id = ""
    · exact Or.inl ⟨_, rfl, fun _ _ _ => if_pos h⟩
    · exact Or.inr ⟨.updateMode m mask w, fun ht => ht, fun _ ho => ho, Or.inl fun _ _ _ => if_neg h⟩
  | sUpdate m mask =>
    by_cases h : m.id = ""
    · exact Or.inl ⟨_, rfl, fun _ _ _ => if_pos h⟩
    · exact Or.inr ⟨.updateMode m mask {}, fun _ => tame_default, fun _ ho => ho, Or.inl fun _ _ _ => if_neg h⟩
  | sDelete id am =>
    by_cases h : id = ""
    · exact Or.inl ⟨_, rfl, fun _ _ _ => if_pos h⟩
    · exact Or.inr ⟨.deleteMode id am {}, fun _ => trivial, fun _ ho => ho, Or.inr fun _ _ _ => if_neg h⟩
  | sChangeActive id now =>
    by_cases h : id = ""
    · exact Or.inl ⟨_, rfl, fun _ _ _ => if_pos h⟩
    · exact Or.inr ⟨.changeActive id now, fun _ => trivial, fun _ ho => ho, Or.inl fun _ _ _ => if_neg h⟩
  | sCreateNil => exact Or.inl ⟨_, rfl, fun _ _ _ => rfl⟩
  | delete id am d => exact Or.inr ⟨.deleteMode id am d, fun _ => trivial, fun _ ho => ho, Or.inl fun _ _ _ => rfl⟩
  | setActive m => exact Or.inr ⟨.setActive m, fun _ => trivial, fun _ ho => ho, Or.inl fun _ _ _ => rfl⟩
  | changeActive id now =>
    exact Or.inr ⟨.changeActive id now, fun _ => trivial, fun _ ho => ho, Or.inl fun _ _ _ => rfl⟩
  | findMode id => exact Or.inr ⟨.findMode id, fun _ => trivial, fun _ ho => ho, Or.inl fun _ _ _ => rfl⟩
  | clear now | sClear now =>
    exact Or.inr ⟨.changeToNormal now, fun _ => trivial, fun _ _ => trivial, Or.inl fun _ _ _ => rfl⟩

theorem Op.serve_fst {σ : Type} {P : σ → Prop} {s : σ} {call : Call → σ × Res} (op : Op) (h : P s)
    (hcl : ∀ cl, (op.Tame → cl.Tame) → (∀ c, OpCanon c op → cl.Canon c) → P (call cl).1) :
    P (op.serve (fun r => (s, r)) call dropVal).1 := by
  rcases op.serve_cases with ⟨r, _, hs⟩ | ⟨cl, ht, hc, hs | hs⟩ <;> rw [hs]
  · exact h
  · exact hcl cl ht hc
  · rw [dropVal_fst]; exact hcl cl ht hc

def St.call (s : St) : Call → St × Res
  | .createOrAdd m cands => createOrAdd s m cands
  | .updateMode m mask w => updateMode s m mask w
  | .deleteMode id am d => deleteMode s id am d
  | .setActive m => setActive s m
  | .changeActive id now => changeActive s id now
  | .changeToNormal now => changeToNormal s now
  | .findMode id => (s, match find s id with | some m => .ok (some m) | none => .err .notFound)

theorem step_serve (s : St) (op : Op) : step s op = op.serve (fun r => (s, r)) s.call dropVal := by
  cases op with
  | add m =>
    refine congrArg (ite _ _) ?_
    show _ = dropVal (createOrAdd s m [])
    cases createOrAdd s m [] with | mk s' r => cases r <;> rfl
  | sDelete id am =>
    refine congrArg (ite _ _) ?_
    show _ = dropVal (deleteMode s id am {})
    cases deleteMode s id am {} with | mk s' r => cases r <;> rfl
  | _ => rfl

def emitCall (s : St) : Call → List ModeEvent
  | .createOrAdd m cands => emitCreateOrAdd s m cands
  | .updateMode m mask w => emitUpdate s m mask w
  | .deleteMode id am d => emitDelete s id am d
  | _ => []

theorem modeEvents_serve (s : St) (op : Op) : modeEvents s op = op.serve (fun _ => []) (emitCall s) id := by
  cases op with
  | sChangeActive id now => exact (ite_self _).symm
  | _ => rfl

theorem changeActive_changed {s : St} {id : String} {now : Nat} (h : (changeActive s id now).2.isOk = true) :
    (changeActive s id now).1.changed = true := by
  cases hf : find s id with
  | none => rw [changeActive_none hf] at h; cases h
  | some m => rw [changeActive_some hf]

/-- the calls that end in `activeMode.Set` -/
def Call.activates : Call → Bool
  | .setActive _ | .changeActive _ _ | .changeToNormal _ => true
  | _ => false

/-- an operation that calls `activeMode.Set` is refused or served by an activating call -/
theorem setsActive_serve {op : Op} (h : setsActive op = true) : op.serve (fun _ => true) Call.activates id = true := by
  cases op with
  | sChangeActive id now => exact ite_self _
  | setActive _ | changeActive _ _ | clear _ | sClear _ => rfl
  | _ => cases h

theorem St.call_changed (s : St) (cl : Call) (ha : cl.activates = true) (hok : (s.call cl).2.isOk = true) :
    (s.call cl).1.changed = true := by
  cases cl with
  | setActive m =>
    dsimp only [St.call] at hok ⊢
    cases hf : find s m.id with
    | none => rw [setActive_none hf] at hok; cases hok
    | some _ => rw [setActive_some hf]
  | changeActive id now => exact changeActive_changed hok
  | changeToNormal now =>
    dsimp only [St.call, changeToNormal] at hok ⊢
    revert hok
    cases normalMode s with
    | none => exact nofun
    | some n => exact changeActive_changed
  | _ => cases ha

theorem setsActive_changed (s : St) (op : Op) (h1 : setsActive op = true) (h2 : (step s op).2.isOk = true) :
    (step s op).1.changed = true := by
  have ha := setsActive_serve h1
  rw [step_serve] at h2 ⊢
  rcases op.serve_cases with ⟨r, hr, hs⟩ | ⟨cl, _, _, hs | hs⟩ <;> rw [hs] at h2 ha ⊢
  · rw [hr] at h2; cases h2
  · exact s.call_changed cl ha h2
  · rw [dropVal_isOk] at h2
    rw [dropVal_fst]
    exact s.call_changed cl ha h2

end ScVerif.C19
