import ScVerif.C19.IcptLemmas
/-!
`Effect c k cl a`: what a call can answer and do, as a relation.  Invariants, frame and published events are consequences
of an effect, whichever layer produced it (`ikCall_effect`, `wCall_effect`); the refinement to `Electric.lean` (`KeyedRefine.lean`)
and the equalities for canonical callers (`IcptLemmas.lean`) are proved on the calls themselves.
-/
namespace ScVerif.C19

/-- The record a call writes and the key it writes it under, with where they come from: `createOrAddMode` past its guard
writes the message (a generated id put in), `updateMode` past its guard the merge into the stored record, or into a blank
one for an upsert. -/
inductive Wrote (c : String → String) (k : KSt) : Call → String → Mode → Prop
  | created {m : Mode} {cands : List String} {key : String} :
      ¬(m.normal = true ∧ (normalMode k.abs).isSome = true) → ikchooseId c k m cands = some key →
      Wrote c k (.createOrAdd m cands) key (if m.id = "" ∨ c m.id = "" then { m with id := key } else m)
  | updated {m : Mode} {mask : Option Mask} {w : WOpts} :
      ¬(m.normal = true ∧ writesNormal mask = true ∧ otherNormal k.abs m.id = true) →
      Wrote c k (.updateMode m mask w) (c m.id) (written ((kfind k (c m.id)).getD Mode.blank) m mask w)

/-- What a call can answer and do: leave the state alone (with any answer); put ONE record and return it; erase the key
of the record a `deleteMode` found; or make active a mode `m'` that goes with a stored record `st` — a copy of it (stamped or
not), or a message whose id finds it.  Side conditions, each for one consumer: `erase` keeps the fact that the delete was
NOT refused, which `keepsActKey` plays against the guards (`ikdeleteMode_refuses`); `activate`'s second disjunct says that
`m'` is found under its own id (for `keepsActKey`) and that its id is one the call names, i.e. canonical for whatever
interceptor finds the call's ids canonical (for `keepsActCanon`). -/
inductive Effect (c : String → String) (k : KSt) : Call → KSt × Res → Prop
  | same {cl : Call} (r : Res) : Effect c k cl (k, r)
  | put {cl : Call} {key : String} {m' : Mode} : Wrote c k cl key m' →
      Effect c k cl ({ k with recs := kput key m' k.recs }, .ok (some m'))
  | erase {id : String} {am : Bool} {d : DOpts} {old : Mode} : kfind k (c id) = some old →
      (ikdeleteMode c k id am d).2 = .ok none →
      Effect c k (.deleteMode id am d) ({ k with recs := kerase (c id) k.recs }, .ok none)
  | activate {cl : Call} {key : String} {st m' : Mode} (ret : Option Mode) : kfind k key = some st →
      (m'.id = st.id ∨ (key = c m'.id ∧ ∀ c', cl.Canon c' → c' m'.id = m'.id)) →
      Effect c k cl ({ k with active := m', changed := true }, .ok ret)

theorem ikCall_effect (c : String → String) (k : KSt) (cl : Call) : Effect c k cl (ikCall c k cl) := by
  have hca : ∀ id now, Effect c k cl (ikchangeActive c k id now) := by
    intro id now
    unfold ikchangeActive
    cases hf : kfind k (c id) with
    | none => exact .same _
    | some st => exact .activate _ hf (Or.inl (by split <;> rfl))
  cases cl with
  | createOrAdd m cands =>
    dsimp only [ikCall]
    rcases ikcreateOrAdd_cases c k m cands with ⟨e, h⟩ | ⟨key, hg, hkey, hfree, h⟩ <;> rw [h]
    · exact .same _
    · rw [← kput_of_none hfree]
      exact .put (.created hg hkey)
  | updateMode m mask w =>
    dsimp only [ikCall]
    rw [ikupdateMode_eq]
    cases hr : updateRefusal k.abs m mask w (kfind k (c m.id)) with
    | some e => exact .same _
    | none =>
      have hw : Wrote c k (.updateMode m mask w) _ _ := .updated fun hg => nomatch (updateRefusal_guard w _ hg).symm.trans hr
      cases hf : kfind k (c m.id) with
      | some old =>
        show Effect c k _ ({ k with recs := kstore (c m.id) (written old m mask w) k.recs }, _)
        rw [hf] at hw
        rw [← kput_of_some hf]
        exact .put hw
      | none =>
        show Effect c k _ ({ k with recs := kinsert (c m.id) (written Mode.blank m mask w) k.recs }, _)
        rw [hf] at hw
        rw [← kput_of_none hf]
        exact .put hw
  | deleteMode id am d =>
    dsimp only [ikCall]
    rcases ikdeleteMode_cases c k id am d with ⟨r, h, _⟩ | ⟨_, _, old, hold, h⟩
    · rw [h]; exact .same _
    · have hok : (ikdeleteMode c k id am d).2 = .ok none := by rw [h]
      rw [h]
      exact .erase hold hok
  | setActive m =>
    dsimp only [ikCall, iksetActive]
    cases hf : kfind k (c m.id) with
    | none => exact .same _
    | some st => exact .activate _ hf (Or.inr ⟨rfl, fun _ ho => ho⟩)
  | changeActive id now => exact hca id now
  | changeToNormal now =>
    dsimp only [ikCall, ikchangeToNormal]
    split
    · exact .same _
    · exact hca _ now
  | findMode id => exact .same _

section

variable {c : String → String} {k : KSt} {cl : Call} {a : KSt × Res}

theorem Effect.frame (he : Effect c k cl a) : a.1 = k ∨ a.2.isOk = true := by
  cases he with
  | same => exact Or.inl rfl
  | _ => exact Or.inr rfl

theorem Effect.keepsAll {R : Rec → Prop} (he : Effect c k cl a) (h : ∀ e ∈ k.recs, R e)
    (hw : ∀ key m', Wrote c k cl key m' → R (key, m')) : ∀ e ∈ a.1.recs, R e := by
  cases he with
  | same => exact h
  | @put _ key m' hw' =>
    intro e he
    rcases mem_kput he with rfl | ⟨he, _⟩
    · exact hw key m' hw'
    · exact h e he
  | erase => exact fun e he => h e (mem_kerase he)
  | activate => exact h

theorem Effect.keepsKeys (he : Effect c k cl a) (h : (k.recs.map (·.1)).Nodup) : (a.1.recs.map (·.1)).Nodup := by
  cases he with
  | same => exact h
  | put => exact keys_kput _ _ h
  | erase => exact keys_kerase _ _ h
  | activate => exact h

end

theorem Wrote.callKey {c : String → String} {k : KSt} {cl : Call} {key : String} {m' : Mode}
    (h : Wrote c k cl key m') : ikCallKey c k cl = some key := by
  cases h with
  | created _ hkey => exact hkey
  | updated _ => rfl

/-- what the collection publishes when a call takes the state to `k'`: the change of the key the call writes to -/
def evCall (c : String → String) (k : KSt) (cl : Call) (k' : KSt) : List ModeEvent :=
  match ikCallKey c k cl with
  | none => []
  | some key => diff1 (kfind k key) (kfind k' key)

theorem evCall_length (c : String → String) (k : KSt) (cl : Call) (k' : KSt) : (evCall c k cl k').length ≤ 1 := by
  unfold evCall
  split
  · exact Nat.zero_le _
  · exact diff1_length _ _

theorem evCall_same (c : String → String) (k : KSt) (cl : Call) {k' : KSt} (h : k'.recs = k.recs) :
    evCall c k cl k' = [] := by
  unfold evCall kfind
  rw [h]
  cases ikCallKey c k cl with
  | none => rfl
  | some key => exact diff1_self _

theorem Effect.events {c : String → String} {k : KSt} {cl : Call} {a : KSt × Res} (he : Effect c k cl a) :
    (a.1.recs = k.recs ∧ evCall c k cl a.1 = []) ∨
    (∃ key m', a.1.recs = kput key m' k.recs ∧ Wrote c k cl key m' ∧
      evCall c k cl a.1 = diff1 (kfind k key) (some m')) ∨
    ∃ key old, a.1.recs = kerase key k.recs ∧ kfind k key = some old ∧ evCall c k cl a.1 = [.remove old] := by
  cases he with
  | same => exact Or.inl ⟨rfl, evCall_same c k cl rfl⟩
  | @put _ key m' hw =>
    refine Or.inr (Or.inl ⟨key, m', rfl, hw, ?_⟩)
    unfold evCall
    rw [hw.callKey]
    show diff1 _ (kfindL (kput key m' k.recs) key) = _
    rw [kfindL_kput]
  | @erase id am d old hold _ =>
    refine Or.inr (Or.inr ⟨c id, old, rfl, hold, ?_⟩)
    show diff1 (kfind k (c id)) (kfindL (kerase (c id) k.recs) (c id)) = _
    rw [kfindL_kerase, hold]
    rfl
  | activate => exact Or.inl ⟨rfl, evCall_same c k cl rfl⟩

/-- the identity is idempotent: the `hc` of `Wrote.key_eq`, `serve_JG`, `ikrun_JG` where no interceptor is applied -/
theorem idem_id (x : String) : (fun x : String => x) ((fun x : String => x) x) = (fun x : String => x) x := rfl

theorem Wrote.key_eq {c : String → String} (hc : ∀ x, c (c x) = c x) {k : KSt} {cl : Call} {key : String} {m' : Mode}
    (h : Wrote c k cl key m') (ht : cl.Tame) : key = c m'.id := by
  cases h with
  | @created m cands key _ hkey =>
    unfold ikchooseId at hkey
    by_cases h0 : m.id = "" ∨ c m.id = ""
    · rw [if_pos h0] at hkey ⊢
      obtain ⟨x, _, rfl⟩ := ikgenId_mem hkey
      exact (hc x).symm
    · rw [if_neg h0] at hkey ⊢
      exact (Option.some.inj hkey).symm
  | @updated m mask w _ => rw [(written_tame _ m mask w ht).1]

/-! From here to `kstep_actCanon`: facts about the KEYED model (the identity is the interceptor applied) relative to a `c`
that is NOT applied — what `C19_icpt_invisible` needs to stay among canonical states. -/

/-- the id written is the given one, or a candidate -/
theorem Wrote.canon_id {c : String → String} {k : KSt} {cl : Call} {key : String} {m' : Mode}
    (h : Wrote (fun x => x) k cl key m') (ho : cl.Canon c) (ht : cl.Tame) : c m'.id = m'.id := by
  cases h with
  | @created m cands key _ hkey =>
    unfold ikchooseId at hkey
    by_cases h0 : m.id = "" ∨ (fun x : String => x) m.id = ""
    · rw [if_pos h0] at hkey ⊢
      obtain ⟨x, hx, rfl⟩ := ikgenId_mem hkey
      exact ho.2 x hx
    · rw [if_neg h0]
      exact ho.1
  | @updated m mask w _ => rw [(written_tame _ m mask w ht).1]; exact ho

theorem kstep_canon {c : String → String} {k : KSt} (hk : RecsCanon c k) (op : Op) (ho : OpCanon c op) (ht : op.Tame) :
    RecsCanon c (kstep k op).1 := by
  rw [kstep_serve]
  exact op.serve_fst hk fun cl hcl hc =>
    (kCall_ik k cl ▸ ikCall_effect _ k cl).keepsAll hk fun _ _ hw => hw.canon_id (hc c ho) (hcl ht)

/-- no tameness needed: the active mode is a copy of a stored record, or the message of a canonical `SetActiveMode` -/
theorem Effect.keepsActCanon {c : String → String} {k : KSt} {cl : Call} {a : KSt × Res}
    (he : Effect (fun x => x) k cl a) (hk : RecsCanon c k) (ha : ActCanon c k) (ho : cl.Canon c) : ActCanon c a.1 := by
  cases he with
  | @activate _ key st m' _ hf hm =>
    refine Or.inr ?_
    rcases hm with hid | ⟨_, hm⟩
    · rw [show m'.id = st.id from hid]
      exact hk (key, st) (kfindL_some hf)
    · exact hm c ho
  | _ => exact ha

theorem kstep_actCanon {c : String → String} {k : KSt} (hk : RecsCanon c k) (ha : ActCanon c k) (op : Op)
    (ho : OpCanon c op) : ActCanon c (kstep k op).1 := by
  rw [kstep_serve]
  exact op.serve_fst ha fun cl _ hc => (kCall_ik k cl ▸ ikCall_effect _ k cl).keepsActCanon hk ha (hc c ho)

theorem ikrun_canon (c : String → String) : ∀ (ops : List Op) (k : KSt), RecsCanon c k → ActCanon c k →
    (∀ op ∈ ops, OpCanon c op ∧ op.Tame) →
    ikrun c k ops = krun k ops ∧ RecsCanon c (krun k ops) ∧ ActCanon c (krun k ops) := by
  intro ops
  induction ops with
  | nil => intro k hk ha _; exact ⟨rfl, hk, ha⟩
  | cons op ops ih =>
    intro k hk ha h
    have ho := h op (by simp)
    have hstep := ikstep_canon c k op ho.1 hk ha
    simp only [ikrun, krun, hstep]
    exact ih _ (kstep_canon hk op ho.1 ho.2) (kstep_actCanon hk ha op ho.1) (fun o hm => h o (by simp [hm]))

end ScVerif.C19
