import ScVerif.C19.Events
/-!
C19 — the mode collection as the code has it: records stored under KEYS.

`resource.Collection` is a map from a key to a record, listed in key order; `Electric.lean` identifies a record's
key with the `id` field the record carries.  That is what the code intends (`WithInitialMode` stores a mode under
`m.Id`, `createOrAddMode` writes the generated id into the record, `updateMode` appends
`WithMoreUpdatePaths("id")`), but it is not enforced by `pkg/resource`: a caller's reset mask or interceptor on
`Model.UpdateMode`, or an initial record configured with `WithModeOption(resource.WithInitialRecord(key, mode))`,
can leave a record under a key it does not carry.  The operations of `model.go` then mix the two notions:

* `findMode(id)`, `modes.Update(mode.Id, …)`, `modes.Delete(id, …)` go by KEY;
* `deleteMode`'s guard `id == active.Id`, the stamp condition `oldMode.Id != newMode.Id`, the second-normal-mode
  guard `normal.Id != mode.Id` and `ChangeToNormalMode`'s `changeActiveMode(normal.Id)` go by the RECORD's id.

`kstep` follows the code with keys and records apart; where every record carries its key (`KeyOk`) it is exactly `step`
(`KeyedRefine.lean`).
-/
namespace ScVerif.C19

abbrev Rec := String × Mode

structure KSt where
  /-- the `modes` collection: (key, record), listed sorted by key -/
  recs : List Rec
  active : Mode
  changed : Bool
  deriving DecidableEq, Repr

/-- what `Modes()`, `ActiveMode()` show: the records in key order -/
def KSt.abs (k : KSt) : St := ⟨k.recs.map (·.2), k.active, k.changed⟩

/-- a state of `Electric.lean` read as a keyed state: every record under the id it carries -/
def KSt.ofSt (s : St) : KSt := ⟨s.modes.map (fun m => (m.id, m)), s.active, s.changed⟩

/-- `modes.Get(key)` -/
def kfindL (l : List Rec) (key : String) : Option Mode := (l.find? (fun e => e.1 = key)).map (·.2)

def kfind (k : KSt) (key : String) : Option Mode := kfindL k.recs key

def kinsert (key : String) (m : Mode) : List Rec → List Rec
  | [] => [(key, m)]
  | e :: es => if key < e.1 then (key, m) :: e :: es else e :: kinsert key m es

def kstore (key : String) (m : Mode) (l : List Rec) : List Rec := l.map (fun e => if e.1 = key then (key, m) else e)

def kerase (key : String) (l : List Rec) : List Rec := l.filter (fun e => e.1 ≠ key)

/-- `GenerateUniqueId`: a candidate is taken when a record is stored under it as KEY -/
def kgenId (k : KSt) (cands : List String) : Option String :=
  (cands.take 10).find? (fun c => c ≠ "" ∧ (kfind k c).isNone)

def kchooseId (k : KSt) (m : Mode) (cands : List String) : Option String :=
  if m.id = "" then kgenId k cands else some m.id

/-- `createOrAddMode`; `normalMode()` reads the listing (records only) -/
def kcreateOrAdd (k : KSt) (m : Mode) (cands : List String) : KSt × Res :=
  if m.normal ∧ (normalMode k.abs).isSome then (k, .err .alreadyExists)
  else
    match kchooseId k m cands with
    | none => (k, .err .aborted)
    | some id =>
      if (kfind k id).isSome then (k, .err .alreadyExists)
      else
        let m' := { m with id := id }
        ({ k with recs := kinsert id m' k.recs }, .ok (some m'))

/-- `changeActiveMode(id)`: lookup by key; the stamp condition compares the RECORDS' ids -/
def kchangeActive (k : KSt) (id : String) (now : Nat) : KSt × Res :=
  match kfind k id with
  | none => (k, .err .notFound)
  | some m =>
    let m' := if k.active.id ≠ m.id then { m with start := some now } else m
    ({ k with active := m', changed := true }, .ok (some m'))

/-- `updateMode`: the guard compares the normal RECORD's id with `mode.Id`; the write goes to the KEY `mode.Id` -/
def kupdateMode (k : KSt) (m : Mode) (mask : Option Mask) (w : WOpts) : KSt × Res :=
  if m.normal ∧ writesNormal mask ∧ otherNormal k.abs m.id then (k, .err .alreadyExists)
  else if maskInvalid mask then (k, .err .invalidArgument)
  else if maskInvalid w.reset then (k, .err .internal)
  else
    match kfind k m.id with
    | some old =>
      if w.expectAbsent then (k, .err .alreadyExists)
      else if expectedFails w.expected old then (k, .err .failedPrecondition)
      else match checkFails w old with
        | some c => (k, .err c)
        | none =>
          let new := written old m mask w
          ({ k with recs := kstore m.id new k.recs }, .ok (some new))
    | none =>
      if !w.createIfAbsent then (k, .err .notFound)
      else if expectedFails w.expected Mode.blank then (k, .err .failedPrecondition)
      else match checkFails w Mode.blank with
        | some c => (k, .err c)
        | none =>
          let new := written Mode.blank m mask w
          ({ k with recs := kinsert m.id new k.recs }, .ok (some new))

/-- `modes.Delete(id, opts...)` as `deleteMode` reaches it once its guards have passed -/
def kdeleteBody (k : KSt) (id : String) (allowMissing : Bool) (d : DOpts) : KSt × Res :=
  match kfind k id with
  | none => if allowMissing then (k, .ok none) else (k, .err .notFound)
  | some old =>
    match dcheckFails d old with
    | some c => (k, .err c)
    | none =>
      if expectedFails d.expected old then (k, .err .failedPrecondition)
      else ({ k with recs := kerase id k.recs }, .ok none)

/-- the second and third guard of `deleteMode` (00bc77e, c078347): the mode stored under the id carries the active
mode's id, or the active mode's id - if not empty (6e97ca4: the placeholder of a new model names no mode) - finds a
stored mode that carries the same id as the one the id finds -/
def knamesActive (k : KSt) (id : String) : Bool :=
  match kfind k id with
  | none => false
  | some st =>
    decide (st.id = k.active.id) ||
      (decide (k.active.id ≠ "") &&
        match kfind k k.active.id with
        | none => false
        | some cur => decide (cur.id = st.id))

/-- `deleteMode`: the guards compare the argument, then the record stored under it, with the ACTIVE RECORD's id;
`modes.Delete` goes by key.  (`deleteMode` of `Electric.lean` has the first guard only: where every record carries its
key the other two refuse nothing more, `kdeleteMode_eq_unfixed`.) -/
def kdeleteMode (k : KSt) (id : String) (allowMissing : Bool) (d : DOpts) : KSt × Res :=
  if id = k.active.id then (k, .err .failedPrecondition)
  else if knamesActive k id then (k, .err .failedPrecondition)
  else kdeleteBody k id allowMissing d

/-- `deleteMode` before 00bc77e: only the spelled id was compared with the active mode's id -/
def kdeleteModeUnfixed (k : KSt) (id : String) (allowMissing : Bool) (d : DOpts) : KSt × Res :=
  if id = k.active.id then (k, .err .failedPrecondition)
  else kdeleteBody k id allowMissing d

def ksetActive (k : KSt) (m : Mode) : KSt × Res :=
  match kfind k m.id with
  | none => (k, .err .notFound)
  | some _ => ({ k with active := m, changed := true }, .ok none)

/-- `ChangeToNormalMode`: `changeActiveMode(normal.Id)` — the normal RECORD's id is used as a key -/
def kchangeToNormal (k : KSt) (now : Nat) : KSt × Res :=
  match normalMode k.abs with
  | none => (k, .err .notFound)
  | some n => kchangeActive k n.id now

def kstep (k : KSt) : Op → KSt × Res
  | .create m cands => if m.id ≠ "" then (k, .panic) else kcreateOrAdd k m cands
  | .add m =>
    if m.id = "" then (k, .panic)
    else match kcreateOrAdd k m [] with
      | (k', .ok _) => (k', .ok none)
      | r => r
  | .update m mask w => if m.id = "" then (k, .err .notFound) else kupdateMode k m mask w
  | .delete id am d => kdeleteMode k id am d
  | .setActive m => ksetActive k m
  | .changeActive id now => kchangeActive k id now
  | .clear now => kchangeToNormal k now
  | .findMode id => (k, match kfind k id with | some m => .ok (some m) | none => .err .notFound)
  | .sCreate m cands => if m.id ≠ "" then (k, .err .invalidArgument) else kcreateOrAdd k m cands
  | .sUpdate m mask => if m.id = "" then (k, .err .invalidArgument) else kupdateMode k m mask {}
  | .sDelete id am =>
    if id = "" then (k, .err .invalidArgument)
    else match kdeleteMode k id am {} with
      | (k', .ok _) => (k', .ok none)
      | r => r
  | .sChangeActive id now => if id = "" then (k, .err .invalidArgument) else kchangeActive k id now
  | .sClear now => kchangeToNormal k now
  | .sCreateNil => (k, .err .invalidArgument)

def krun (k : KSt) : List Op → KSt
  | [] => k
  | op :: ops => krun (kstep k op).1 ops

/-- `NewModel(WithModeOption(resource.WithInitialRecord(key, mode))…, WithInitialActiveMode(active))` -/
def KSt.config (recs : List Rec) (active : Mode) : KSt :=
  ⟨recs.foldr (fun e acc => kinsert e.1 e.2 acc) [], active, false⟩

/-- `resource.WithInitialRecord` panics when a key is configured twice; nothing else is checked (the check of
`WithInitialMode` for an empty id is not made for records configured this way) -/
def KSt.config? (recs : List Rec) (active : Mode) : Option KSt :=
  if decide ((recs.map (·.1)).Nodup) then some (KSt.config recs active) else none

/-- what a PullModes subscriber is told about one key, from what was stored under it before and after: a new key is
an ADD, a changed record an UPDATE (an equal one is dropped: `WithNoDuplicates`), a key that is gone a REMOVE -/
def diff1 : Option Mode → Option Mode → List ModeEvent
  | none, some n => [.add n]
  | some o, some n => if o = n then [] else [.update o n]
  | some o, none => [.remove o]
  | none, none => []

/-- the key an operation's write to the collection goes to (`modes.Add / Update / Delete` are called with it) -/
def kwrittenKey (k : KSt) : Op → Option String
  | .create m cands => if m.id ≠ "" then none else kchooseId k m cands
  | .sCreate m cands => if m.id ≠ "" then none else kchooseId k m cands
  | .add m => if m.id = "" then none else some m.id
  | .update m _ _ => if m.id = "" then none else some m.id
  | .sUpdate m _ => if m.id = "" then none else some m.id
  | .delete id _ _ => some id
  | .sDelete id _ => if id = "" then none else some id
  | _ => none

/-- The PullModes events of one operation of the keyed model: the collection publishes the change of the one key it
wrote.  On states where every record carries its key these are the events of `Events.lean` (`kmodeEvents_abs`). -/
def kmodeEvents (k : KSt) (op : Op) : List ModeEvent :=
  match kwrittenKey k op with
  | none => []
  | some key => diff1 (kfind k key) (kfind (kstep k op).1 key)

def krunEvents (k : KSt) : List Op → List ModeEvent
  | [] => []
  | op :: ops => kmodeEvents k op ++ krunEvents (kstep k op).1 ops

def kactiveEvents (k : KSt) (op : Op) : List Mode :=
  if setsActive op ∧ (kstep k op).2.isOk ∧ (k.changed = false ∨ (kstep k op).1.active ≠ k.active)
  then [(kstep k op).1.active] else []

/-- every record carries the key it is stored under -/
def KeyOk (k : KSt) : Prop := ∀ e ∈ k.recs, e.1 = e.2.id

instance (k : KSt) : Decidable (KeyOk k) := by unfold KeyOk; exact inferInstance

end ScVerif.C19
