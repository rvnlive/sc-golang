import ScVerif.C19.PropsMore
/-!
# C19 — caller-supplied code and reset masks in the write options of `Model.UpdateMode`

`Model.UpdateMode(mode, opts...)` hands its options through to `resource.Collection.Update`: besides the data options,
the caller's own code (`InterceptBefore`, `InterceptAfter`, `WithExpectedCheck`) and a reset mask (`WithResetMask`).
`Electric.lean` models the order in which `WriteRequest.changeFn` uses them (expected value, check, InterceptBefore on
the caller's message, merge under the mask extended by `id`, reset mask, InterceptAfter; the second-normal-mode guard of
`updateMode` is evaluated on the message BEFORE any callback runs, and the record is stored under the key read before
any callback runs).

With arbitrary callbacks the invariants do not hold (`C19_options_fails` — the defect class of 2b5cf2c, which
`updateMode` cannot close from outside `resource`: it cannot read or wrap the caller's interceptors and reset mask).
They hold when the `UpdateMode` options are `Tame`, a condition quantified over ALL functions.
-/
namespace ScVerif.C19

/-- Only a `Model.UpdateMode` with a reset mask or an interceptor can fail to be tame; in particular
everything the ElectricApi / MemorySettingsApi servers do is tame, and so is ANY check function. -/
theorem C19_options_plain (op : Op)
    (h : ∀ m mask w, op = .update m mask w → w.reset = none ∧ w.before = none ∧ w.after = none) : op.Tame := by
  cases op with
  | update m mask w => obtain ⟨h1, h2, h3⟩ := h m mask w rfl; exact tame_plain w h1 h2 h3
  | _ => exact True.intro

/-- Under tame options a `Model.UpdateMode` preserves the invariant, a record it writes carries the
id of the request and is what a lookup of that id finds afterwards, and a check that reports an error changes nothing. -/
theorem C19_options_partial (p : Mode) (s : St) (hi : Inv p s) (m : Mode) (mask : Option Mask) (w : WOpts)
    (ht : w.Tame) (hne : m.id ≠ "") :
    Inv p (step s (.update m mask w)).1 ∧
    (∀ new, (step s (.update m mask w)).2 = .ok (some new) →
      new.id = m.id ∧ find (step s (.update m mask w)).1 m.id = some new) ∧
    ((step s (.update m mask w)).2.isOk = false → (step s (.update m mask w)).1 = s) := by
  have hinv := step_inv hi (.update m mask w) ht
  refine ⟨hinv, fun new hnew => ?_, fun h => (C19_rejected_unchanged s _ h).1⟩
  have hstep : step s (.update m mask w) = updateMode s m mask w := if_neg hne
  rw [hstep] at hnew hinv ⊢
  obtain ⟨hid, hmodes⟩ := updateMode_ok ht hnew
  refine ⟨hid, hid ▸ find_of_mem hinv ?_⟩
  rw [hmodes]
  cases hf : find s m.id with
  | some old =>
    obtain ⟨hom, hoid⟩ := find_some hf
    exact List.mem_map.mpr ⟨old, hom, if_pos (hoid.trans hid.symm)⟩
  | none => exact (mem_insertMode _ _ _).mpr (Or.inl rfl)

/-- Tameness is needed, on the reachable state `sAB` (modes `a` (normal, active) and `b`): an
`InterceptAfter` that sets `normal`, and an `InterceptBefore` that does (the guard looked at the message before the
callback ran), each leave TWO normal modes although the update reports success; a reset mask naming `id`, and a callback
renaming the record, leave a record at `b`'s place that no longer carries the id `b` (what that leads to on the
collection, keyed apart from the record: `C19_keyed_untame_fails`). -/
theorem C19_options_fails :
    ((step sAB (.update mB none { after := some fun _ n => { n with normal := true } })).1.modes.filter (·.normal)).length = 2 ∧
    ((step sAB (.update mB none { before := some fun _ n => { n with normal := true } })).1.modes.filter (·.normal)).length = 2 ∧
    (let r := step sAB (.update mB none { reset := some ⟨[.id], false⟩ })
     r.2.isOk = true ∧ find r.1 "b" = none ∧ r.1.modes.map (·.id) = ["a", ""]) ∧
    (let r := step sAB (.update mB (some ⟨[.title], false⟩) { after := some fun _ n => { n with id := "zz" } })
     r.2.isOk = true ∧ find r.1 "b" = none ∧ r.1.modes.map (·.id) = ["a", "zz"]) := by decide +kernel

/-- tame options exist beyond the plain ones: a reset mask over other fields with a delta-style callback … -/
example : WOpts.Tame { reset := some ⟨[.title, .normal], false⟩, before := namedIcpt? "tp", after := namedIcpt? "nk" } := by
  refine ⟨?_, ?_, ?_⟩
  · intro k hk; cases hk; decide
  · intro f hf old n
    simp only [namedIcpt?, Option.some.injEq] at hf
    subst hf
    exact ⟨rfl, fun h => Or.inl h⟩
  · intro g hg old n
    simp only [namedIcpt?, Option.some.injEq] at hg
    subst hg
    exact ⟨rfl, fun h => Or.inr h⟩
/-- … under which an update of the normal mode keeps it the one normal mode (the callback restores the flag the
reset mask cleared) and appends to the title it had -/
example : (step sAB (.update { mA with title := "x" } none
      { reset := some ⟨[.normal], false⟩, before := namedIcpt? "tp", after := namedIcpt? "nk" })).1.modes
    = [{ mA with title := "ta+" }, mB] := by decide +kernel
/-- a check that refuses: nothing changes -/
example : step sAB (.update mB none { check := namedCheck? "cn" }) = (sAB, .err .failedPrecondition) := by decide +kernel
/-- an unknown path in the reset mask is Internal, after the update mask's InvalidArgument and the guard -/
example : (step sAB (.update mB none { reset := some ⟨[], true⟩ })).2 = .err .internal ∧
    (step sAB (.update mB (some ⟨[], true⟩) { reset := some ⟨[], true⟩ })).2 = .err .invalidArgument := by decide +kernel

end ScVerif.C19
