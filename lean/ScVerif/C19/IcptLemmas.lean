import ScVerif.C19.Icpt
import ScVerif.C19.KeyedLemmas
/-!
What one call behind the interceptor answers, and the equalities with the keyed model: for canonical callers and, as their
instance, for the identity.
-/
namespace ScVerif.C19

def ikCall (c : String → String) (k : KSt) : Call → KSt × Res
  | .createOrAdd m cands => ikcreateOrAdd c k m cands
  | .updateMode m mask w => ikupdateMode c k m mask w
  | .deleteMode id am d => ikdeleteMode c k id am d
  | .setActive m => iksetActive c k m
  | .changeActive id now => ikchangeActive c k id now
  | .changeToNormal now => ikchangeToNormal c k now
  | .findMode id => (k, match kfind k (c id) with | some m => .ok (some m) | none => .err .notFound)

theorem ikstep_serve (c : String → String) (k : KSt) (op : Op) :
    ikstep c k op = op.serve (fun r => (k, r)) (ikCall c k) dropVal := by
  cases op with
  | add m =>
    refine congrArg (ite _ _) ?_
    show _ = dropVal (ikcreateOrAdd c k m [])
    cases ikcreateOrAdd c k m [] with | mk k' r => cases r <;> rfl
  | sDelete id am =>
    refine congrArg (ite _ _) ?_
    show _ = dropVal (ikdeleteMode c k id am {})
    cases ikdeleteMode c k id am {} with | mk k' r => cases r <;> rfl
  | _ => rfl

def ikCallKey (c : String → String) (k : KSt) : Call → Option String
  | .createOrAdd m cands => ikchooseId c k m cands
  | .updateMode m _ _ => some (c m.id)
  | .deleteMode id _ _ => some (c id)
  | _ => none

theorem ikwrittenKey_serve (c : String → String) (k : KSt) (op : Op) :
    ikwrittenKey c k op = op.serve (fun _ => none) (ikCallKey c k) id := by
  cases op with
  | sChangeActive id now => exact (ite_self _).symm
  | _ => rfl

theorem iknamesActive_iff (c : String → String) (k : KSt) (id : String) :
    iknamesActive c k id = true ↔ ∃ st, kfind k (c id) = some st ∧
      (st.id = k.active.id ∨ (k.active.id ≠ "" ∧ ∃ cur, kfind k (c k.active.id) = some cur ∧ cur.id = st.id)) := by
  unfold iknamesActive
  cases kfind k (c id) with
  | none => simp
  | some st => cases kfind k (c k.active.id) <;> simp

theorem ikcreateOrAdd_cases (c : String → String) (k : KSt) (m : Mode) (cands : List String) :
    (∃ e, ikcreateOrAdd c k m cands = (k, .err e)) ∨
    ∃ key, ¬(m.normal = true ∧ (normalMode k.abs).isSome = true) ∧ ikchooseId c k m cands = some key ∧
      kfind k key = none ∧
      ikcreateOrAdd c k m cands =
        ({ k with recs := kinsert key (if m.id = "" ∨ c m.id = "" then { m with id := key } else m) k.recs },
          .ok (some (if m.id = "" ∨ c m.id = "" then { m with id := key } else m))) := by
  unfold ikcreateOrAdd
  by_cases hg : m.normal = true ∧ (normalMode k.abs).isSome = true
  · rw [if_pos hg]; exact Or.inl ⟨_, rfl⟩
  rw [if_neg hg]
  cases ikchooseId c k m cands with
  | none => exact Or.inl ⟨_, rfl⟩
  | some key =>
    dsimp only
    cases hf : kfind k key with
    | some _ => exact Or.inl ⟨_, rfl⟩
    | none => exact Or.inr ⟨key, hg, rfl, hf, rfl⟩

theorem ikupdateMode_eq (c : String → String) (k : KSt) (m : Mode) (mask : Option Mask) (w : WOpts) :
    ikupdateMode c k m mask w =
      match updateRefusal k.abs m mask w (kfind k (c m.id)), kfind k (c m.id) with
      | some e, _ => (k, .err e)
      | none, some old =>
        ({ k with recs := kstore (c m.id) (written old m mask w) k.recs }, .ok (some (written old m mask w)))
      | none, none =>
        ({ k with recs := kinsert (c m.id) (written Mode.blank m mask w) k.recs },
          .ok (some (written Mode.blank m mask w))) :=
  updateLadder_eq k.abs m mask w (kfind k (c m.id)) (fun e => (k, Res.err e))
    (fun old => ({ k with recs := kstore (c m.id) (written old m mask w) k.recs }, Res.ok (some (written old m mask w))))
    ({ k with recs := kinsert (c m.id) (written Mode.blank m mask w) k.recs }, Res.ok (some (written Mode.blank m mask w)))

/-- `deleteMode` refuses exactly when one of its guards fires -/
theorem ikdeleteMode_guards (c : String → String) (k : KSt) (id : String) (am : Bool) (d : DOpts) :
    ikdeleteMode c k id am d =
      if id = k.active.id ∨ iknamesActive c k id = true then (k, .err .failedPrecondition)
      else ikdeleteBody c k id am d := by
  unfold ikdeleteMode
  by_cases h1 : id = k.active.id
  · rw [if_pos h1, if_pos (Or.inl h1)]
  · rw [if_neg h1]
    cases h2 : iknamesActive c k id with
    | true => rw [if_pos (Or.inr rfl)]; rfl
    | false =>
      rw [if_neg (show ¬(id = k.active.id ∨ false = true) from fun h => h.elim h1 Bool.noConfusion)]
      rfl

theorem ikdeleteMode_cases (c : String → String) (k : KSt) (id : String) (am : Bool) (d : DOpts) :
    (∃ r, ikdeleteMode c k id am d = (k, r) ∧ (r.isOk = true → kfind k (c id) = none)) ∨
    (¬ id = k.active.id ∧ iknamesActive c k id = false ∧ ∃ old, kfind k (c id) = some old ∧
      ikdeleteMode c k id am d = ({ k with recs := kerase (c id) k.recs }, .ok none)) := by
  unfold ikdeleteMode ikdeleteBody
  by_cases ha : id = k.active.id
  · rw [if_pos ha]; exact Or.inl ⟨_, rfl, fun h => Bool.noConfusion h⟩
  rw [if_neg ha]
  cases iknamesActive c k id with
  | true => exact Or.inl ⟨_, rfl, fun h => Bool.noConfusion h⟩
  | false =>
    cases kfind k (c id) with
    | none => cases am <;> exact Or.inl ⟨_, rfl, fun _ => rfl⟩
    | some old =>
      dsimp only
      cases dcheckFails d old with
      | some e => exact Or.inl ⟨_, rfl, fun h => Bool.noConfusion h⟩
      | none =>
        dsimp only
        by_cases he : expectedFails d.expected old = true
        · rw [if_pos he]; exact Or.inl ⟨_, rfl, fun h => Bool.noConfusion h⟩
        · rw [if_neg he]; exact Or.inr ⟨ha, rfl, old, rfl, rfl⟩

theorem kupdateMode_ik (k : KSt) (m : Mode) (mask : Option Mask) (w : WOpts) :
    kupdateMode k m mask w = ikupdateMode (fun x => x) k m mask w := rfl

theorem kdeleteMode_ik (k : KSt) (id : String) (am : Bool) (d : DOpts) :
    kdeleteMode k id am d = ikdeleteMode (fun x => x) k id am d := rfl

theorem knamesActive_ik (k : KSt) (id : String) : knamesActive k id = iknamesActive (fun x => x) k id := rfl

theorem ikgenId_mem {c : String → String} {k : KSt} {cands : List String} {key : String}
    (h : ikgenId c k cands = some key) : ∃ x ∈ cands, c x = key := by
  unfold ikgenId at h
  obtain ⟨x, hx, rfl⟩ := Option.map_eq_some_iff.mp h
  exact ⟨x, List.mem_of_mem_take (List.mem_of_find?_eq_some hx), rfl⟩

theorem ikgenId_canon (c : String → String) (k : KSt) (cands : List String) (h : ∀ x ∈ cands, c x = x) :
    ikgenId c k cands = kgenId k cands := by
  unfold ikgenId kgenId
  have h' : ∀ x ∈ cands.take 10, c x = x := fun x hx => h x (List.mem_of_mem_take hx)
  generalize cands.take 10 = l at h'
  induction l with
  | nil => rfl
  | cons a as ih =>
    have ha : c a = a := h' a (by simp)
    simp only [List.find?_cons, ha]
    split
    · simp [ha]
    · exact ih (fun x hx => h' x (by simp [hx]))

theorem ikcreateOrAdd_canon (c : String → String) (k : KSt) (m : Mode) (cands : List String)
    (hm : c m.id = m.id) (h : ∀ x ∈ cands, c x = x) : ikcreateOrAdd c k m cands = kcreateOrAdd k m cands := by
  unfold ikcreateOrAdd kcreateOrAdd ikchooseId kchooseId
  simp only [ikgenId_canon c k cands h, hm]
  by_cases hm0 : m.id = ""
  · simp only [hm0, or_self, if_true]
    rfl
  · simp only [hm0, or_self, if_false]

theorem iknamesActive_canon (c : String → String) (k : KSt) (id : String) (ho : c id = id) (ha : ActCanon c k) :
    iknamesActive c k id = knamesActive k id := by
  unfold iknamesActive knamesActive
  rw [ho]
  rcases ha with ha | ha
  · simp [ha]
    rfl
  · rw [ha]
    rfl

theorem ikdeleteMode_canon (c : String → String) (k : KSt) (id : String) (am : Bool) (d : DOpts) (ho : c id = id)
    (ha : ActCanon c k) : ikdeleteMode c k id am d = kdeleteMode k id am d := by
  unfold ikdeleteMode kdeleteMode ikdeleteBody kdeleteBody
  rw [iknamesActive_canon c k id ho ha, ho]
  rfl

theorem ikdeleteModeUnfixed_canon (c : String → String) (k : KSt) (id : String) (am : Bool) (d : DOpts) (ho : c id = id) :
    ikdeleteModeUnfixed c k id am d = kdeleteModeUnfixed k id am d := by
  unfold ikdeleteModeUnfixed kdeleteModeUnfixed ikdeleteBody kdeleteBody
  rw [ho]
  rfl

theorem ikupdateMode_canon (c : String → String) (k : KSt) (m : Mode) (mask : Option Mask) (w : WOpts)
    (ho : c m.id = m.id) : ikupdateMode c k m mask w = kupdateMode k m mask w := by
  unfold ikupdateMode kupdateMode
  rw [ho]
  rfl

theorem ikchangeActive_canon (c : String → String) (k : KSt) (id : String) (now : Nat) (ho : c id = id) :
    ikchangeActive c k id now = kchangeActive k id now := by
  unfold ikchangeActive kchangeActive
  rw [ho]
  rfl

theorem ikCall_canon (c : String → String) (k : KSt) (cl : Call) (ho : cl.Canon c) (hk : RecsCanon c k)
    (ha : ActCanon c k) : ikCall c k cl = kCall k cl := by
  cases cl with
  | createOrAdd m cands => exact ikcreateOrAdd_canon c k m cands ho.1 ho.2
  | updateMode m mask w => exact ikupdateMode_canon c k m mask w ho
  | deleteMode id am d => exact ikdeleteMode_canon c k id am d ho ha
  | setActive m =>
    dsimp only [ikCall, kCall, iksetActive, ksetActive]
    rw [show c m.id = m.id from ho]
    rfl
  | changeActive id now => exact ikchangeActive_canon c k id now ho
  | changeToNormal now =>
    -- `ChangeToNormalMode` looks the normal RECORD's id up: canonical because stored records are
    dsimp only [ikCall, kCall, ikchangeToNormal, kchangeToNormal]
    cases hnm : normalMode k.abs with
    | none => rfl
    | some n =>
      obtain ⟨e, he, rfl⟩ := normalMode_mem k n hnm
      exact ikchangeActive_canon c k _ now (hk e he)
  | findMode id =>
    dsimp only [ikCall, kCall]
    rw [show c id = id from ho]
    rfl

/-- the interceptor is invisible to canonical callers -/
theorem ikstep_canon (c : String → String) (k : KSt) (op : Op) (ho : OpCanon c op) (hk : RecsCanon c k)
    (ha : ActCanon c k) : ikstep c k op = kstep k op := by
  rw [ikstep_serve, kstep_serve]
  rcases op.serve_cases with ⟨r, _, hs⟩ | ⟨cl, _, hc, hs | hs⟩
  · rw [hs, hs]
  all_goals rw [hs, hs, ikCall_canon c k cl (hc c ho) hk ha]

theorem ikchooseId_canon (c : String → String) (k : KSt) (m : Mode) (cands : List String)
    (hm : c m.id = m.id) (h : ∀ x ∈ cands, c x = x) : ikchooseId c k m cands = kchooseId k m cands := by
  unfold ikchooseId kchooseId
  rw [ikgenId_canon c k cands h, hm]
  simp only [or_self]

theorem ikwrittenKey_canon (c : String → String) (k : KSt) (op : Op) (ho : OpCanon c op) :
    ikwrittenKey c k op = kwrittenKey k op := by
  rw [ikwrittenKey_serve, kwrittenKey_serve]
  have hkey : ∀ cl : Call, cl.Canon c → ikCallKey c k cl = kCallKey k cl := by
    intro cl ho
    cases cl with
    | createOrAdd m cands => exact ikchooseId_canon c k m cands ho.1 ho.2
    | updateMode m mask w => exact congrArg some ho
    | deleteMode id am d => exact congrArg some ho
    | _ => rfl
  rcases op.serve_cases with ⟨r, _, hs⟩ | ⟨cl, _, hc, hs | hs⟩
  · rw [hs, hs]
  all_goals rw [hs, hs]; exact hkey cl (hc c ho)

theorem ikevents_canon (c : String → String) (k : KSt) (op : Op) (ho : OpCanon c op) (hk : RecsCanon c k)
    (ha : ActCanon c k) :
    ikmodeEvents c k op = kmodeEvents k op ∧ ikactiveEvents c k op = kactiveEvents k op := by
  unfold ikmodeEvents kmodeEvents ikactiveEvents kactiveEvents
  rw [ikwrittenKey_canon c k op ho, ikstep_canon c k op ho hk ha]
  exact ⟨rfl, rfl⟩

theorem opCanon_id (op : Op) : OpCanon (fun x => x) op := by
  cases op with
  | create _ _ | sCreate _ _ => exact ⟨rfl, fun _ _ => rfl⟩
  | clear _ | sClear _ | sCreateNil => trivial
  | _ => rfl

theorem ikgenId_id (k : KSt) (cands : List String) : ikgenId (fun x => x) k cands = kgenId k cands :=
  ikgenId_canon _ k cands fun _ _ => rfl

theorem ikcreateOrAdd_id (k : KSt) (m : Mode) (cands : List String) :
    ikcreateOrAdd (fun x => x) k m cands = kcreateOrAdd k m cands :=
  ikcreateOrAdd_canon _ k m cands rfl fun _ _ => rfl

theorem ikstep_id (k : KSt) (op : Op) : ikstep (fun x => x) k op = kstep k op :=
  ikstep_canon _ k op (opCanon_id op) (fun _ _ => rfl) (Or.inr rfl)

theorem ikrun_id (k : KSt) (ops : List Op) : ikrun (fun x => x) k ops = krun k ops := by
  induction ops generalizing k with
  | nil => rfl
  | cons op ops ih => simp only [ikrun, krun, ikstep_id, ih]

theorem kCall_ik (k : KSt) (cl : Call) : kCall k cl = ikCall (fun x => x) k cl := by
  cases cl with
  | createOrAdd m cands => exact (ikcreateOrAdd_id k m cands).symm
  | _ => rfl

theorem kCallKey_ik (k : KSt) (cl : Call) : kCallKey k cl = ikCallKey (fun x => x) k cl := by
  cases cl with
  | createOrAdd m cands => exact (ikchooseId_canon _ k m cands rfl fun _ _ => rfl).symm
  | _ => rfl

end ScVerif.C19
