import ScVerif.C19.Props
import ScVerif.C19.TimedInv
/-!
# C19 — the start-time clause under a moving clock, rejected operations, upserts, delete options, checked configurations

`Timed.lean` makes the model clock part of the concurrent configuration: it advances by scheduler events, and an operation
stamps with what the clock shows when its thread reads it inside the model lock.  The stamp theorems are about ALL
programs and ALL schedules of lock / read / clock-read / write / unlock steps and clock ticks.
-/
namespace ScVerif.C19

/-- Under ANY schedule the shared state is the sequential run of the logged operations, in the
order of their writes; each was performed within the clock interval `[lockAt, writeAt]` during which its thread held the
model lock, stamps with an instant read in that interval, and the intervals do not overlap. -/
theorem C19_stamp_schedules (p : Mode) (s0 : St) (h0 : Inv p s0) (progs : Nat → List Op) (evs : List Ev)
    (ht : ∀ t, ∀ op ∈ progs t, op.Tame) :
    let c := trun (tinit s0 progs) evs
    c.st = run s0 (c.log.map Entry.op) ∧ Inv p c.st ∧
    (∀ e ∈ c.log, e.lockAt ≤ e.writeAt ∧ e.writeAt ≤ c.clock ∧
      ∀ n, e.op.now? = some n → e.lockAt ≤ n ∧ n ≤ e.writeAt) ∧
    c.log.Pairwise (fun a b => a.writeAt ≤ b.lockAt) := by
  have hi := trun_inv Op.tame_withNow (tinv_init Op.Tame s0 progs ht) evs
  refine ⟨hi.serial, ?_, ?_, hi.ord⟩
  · rw [hi.serial]
    exact run_inv h0 _ (fun op ho => by
      obtain ⟨e, he, rfl⟩ := List.mem_map.mp ho
      exact hi.logP e he)
  · intro e he
    exact ⟨(hi.past e he).1, (hi.past e he).2, hi.stamps e he⟩

/-- Start times never run backwards against the order in which the switches were performed. -/
theorem C19_stamp_monotone (s0 : St) (progs : Nat → List Op) (evs : List Ev) :
    (trun (tinit s0 progs) evs).log.Pairwise
      (fun a b => ∀ na nb, a.op.now? = some na → b.op.now? = some nb → na ≤ nb) := by
  have hi := trun_inv (P := fun _ => True) (fun _ _ h => h) (tinv_init _ s0 progs (fun _ _ _ => True.intro)) evs
  refine List.Pairwise.imp_of_mem ?_ hi.ord
  intro a b ha hb hab na nb hna hnb
  exact Nat.le_trans (hi.stamps a ha na hna).2 (Nat.le_trans hab (hi.stamps b hb nb hnb).1)

/-- The clause itself, under concurrency: the start time of a switch performed last is a reading of
the model clock taken while the switching thread held the model lock — after every earlier operation had completed
(`a.writeAt ≤ n`: no instant at which an earlier state was current lies after `n`) and not after the switch. -/
theorem C19_stamp_switch (s0 : St) (progs : Nat → List Op) (evs : List Ev)
    (l : List Entry) (e : Entry) (id : String) (n : Nat) (m : Mode)
    (hlog : (trun (tinit s0 progs) evs).log = l ++ [e])
    (hop : e.op = .changeActive id n ∨ (e.op = .sChangeActive id n ∧ id ≠ ""))
    (hm : find (run s0 (l.map Entry.op)) id = some m)
    (hne : (run s0 (l.map Entry.op)).active.id ≠ id) :
    let c := trun (tinit s0 progs) evs
    c.st.active.id = id ∧ c.st.active.start = some n ∧
    e.lockAt ≤ n ∧ n ≤ e.writeAt ∧ e.writeAt ≤ c.clock ∧ ∀ a ∈ l, a.writeAt ≤ n := by
  have hi := trun_inv (P := fun _ => True) (fun _ _ h => h) (tinv_init _ s0 progs (fun _ _ _ => True.intro)) evs
  have hnow : e.op.now? = some n := by
    rcases hop with h | ⟨h, _⟩ <;> rw [h] <;> rfl
  obtain ⟨hserial, h1, h2, h3, h4⟩ := tinv_last hi hlog hnow
  have hstep : (trun (tinit s0 progs) evs).st = (step (run s0 (l.map Entry.op)) (.changeActive id n)).1 := by
    rw [hserial]
    rcases hop with h | ⟨h, hid⟩ <;> rw [h]
    rw [(C19_stamp _ id n).2.2.1 hid]
  have hs := ((C19_stamp (run s0 (l.map Entry.op)) id n).1 m hm).2 hne
  exact ⟨by rw [hstep]; exact hs.2, by rw [hstep]; exact hs.1, h1, h2, h3, h4⟩

/-- The same for ClearActiveMode / ChangeToNormalMode and the (unique) normal mode. -/
theorem C19_stamp_clear (p : Mode) (s0 : St) (h0 : Inv p s0) (progs : Nat → List Op) (evs : List Ev)
    (ht : ∀ t, ∀ op ∈ progs t, op.Tame)
    (l : List Entry) (e : Entry) (n : Nat) (nm : Mode)
    (hlog : (trun (tinit s0 progs) evs).log = l ++ [e])
    (hop : e.op = .clear n ∨ e.op = .sClear n)
    (hm : nm ∈ (run s0 (l.map Entry.op)).modes) (hnn : nm.normal = true)
    (hne : (run s0 (l.map Entry.op)).active.id ≠ nm.id) :
    let c := trun (tinit s0 progs) evs
    c.st.active.id = nm.id ∧ c.st.active.start = some n ∧
    e.lockAt ≤ n ∧ n ≤ e.writeAt ∧ e.writeAt ≤ c.clock ∧ ∀ a ∈ l, a.writeAt ≤ n := by
  have hi := trun_inv Op.tame_withNow (tinv_init Op.Tame s0 progs ht) evs
  have hnow : e.op.now? = some n := by
    rcases hop with h | h <;> rw [h] <;> rfl
  obtain ⟨hserial, h1, h2, h3, h4⟩ := tinv_last hi hlog hnow
  have hinv : Inv p (run s0 (l.map Entry.op)) := run_inv h0 _ (fun op ho => by
    obtain ⟨a, ha, rfl⟩ := List.mem_map.mp ho
    exact hi.logP a (by rw [hlog]; simp [ha]))
  have hcl := C19_clear p _ hinv n
  have hstep : (trun (tinit s0 progs) evs).st = (step (run s0 (l.map Entry.op)) (.clear n)).1 := by
    rw [hserial]
    rcases hop with h | h <;> rw [h]
    rw [hcl.1]
  show (trun (tinit s0 progs) evs).st.active.id = nm.id ∧ (trun (tinit s0 progs) evs).st.active.start = some n ∧ _
  rw [hstep, hcl.2.2 nm hm hnn]
  exact ⟨by simp [stamped, hne], by simp [stamped, hne], h1, h2, h3, h4⟩

/-- An error status or a contract panic leaves ALL of the model's state as it was — the normal
mode is recomputed from the mode list, nothing is remembered on the side — and publishes nothing.  Every operation,
every write option. -/
theorem C19_rejected_unchanged (s : St) (op : Op) (h : (step s op).2.isOk = false) :
    (step s op).1 = s ∧ normalMode (step s op).1 = normalMode s ∧
    modeEvents s op = [] ∧ activeEvents s op = [] := by
  have h1 : (step s op).1 = s := by
    rcases step_frame s op with h' | h'
    · exact h'
    · rw [h] at h'; cases h'
  refine ⟨h1, by rw [h1], modeEvents_frame s op h, ?_⟩
  simp [activeEvents, h]

/-- `UpdateMode` with `resource.WithCreateIfAbsent()` on an id that is not stored: refused when it would make
a second normal mode; otherwise one new record, under the id of the request whatever the update mask says (fix
2b5cf2c), published as ADD. -/
theorem C19_upsert (p : Mode) (s : St) (hi : Inv p s) (m : Mode) (mask : Option Mask) (w : WOpts) (ht : w.Tame)
    (hne : m.id ≠ "") (habs : find s m.id = none) :
    ((m.normal = true ∧ writesNormal mask = true ∧ ∃ x ∈ s.modes, x.normal = true) →
      step s (.update m mask w) = (s, .err .alreadyExists)) ∧
    (w.createIfAbsent = false → (step s (.update m mask w)).2.isOk = false) ∧
    (∀ new, (step s (.update m mask w)).2 = .ok (some new) →
      new.id = m.id ∧ (step s (.update m mask w)).1.modes = insertMode new s.modes ∧
      modeEvents s (.update m mask w) = [.add new] ∧
      (new.normal = true → ∀ x ∈ s.modes, x.normal = false)) := by
  have hstep : step s (.update m mask w) = updateMode s m mask w := if_neg hne
  have hinv := step_inv hi (.update m mask w) ht
  refine ⟨?_, ?_, ?_⟩
  · rintro ⟨hn, hw, x, hx, hxn⟩
    have hother : otherNormal s m.id = true := by
      unfold otherNormal
      rw [normalMode_of_mem hi hx hxn]
      exact bne_iff_ne.mpr (find_none habs x hx)
    rw [hstep, updateMode_eq, updateRefusal_guard w _ ⟨hn, hw, hother⟩]
  · intro hc
    rw [hstep, updateMode_eq, habs]
    cases hr : updateRefusal s m mask w none with
    | some e => rfl
    | none => exact absurd hr (updateRefusal_absent s m mask hc)
  · intro new hnew
    have hev : modeEvents s (.update m mask w) = emitUpdate s m mask w := if_neg hne
    rw [hstep] at hnew hinv ⊢
    obtain ⟨hid, hmodes⟩ := updateMode_ok ht hnew
    rw [habs] at hmodes
    refine ⟨hid, hmodes, by rw [hev]; unfold emitUpdate; rw [hnew, habs], fun hnn x hx => ?_⟩
    -- the state after satisfies I1: a stored normal mode would be the new record, whose id was not stored
    cases hxn : x.normal with
    | false => rfl
    | true =>
      have hmem : ∀ y, y = new ∨ y ∈ s.modes → y ∈ (updateMode s m mask w).1.modes :=
        fun y => hmodes ▸ (mem_insertMode _ _ y).mpr
      have := hinv.i1 x (hmem x (Or.inr hx)) _ (hmem _ (Or.inl rfl)) hxn hnn
      exact absurd (this ▸ hid) (find_none habs x hx)

/-- `WithExpectedValue` / `WithExpectedCheck` (ANY check function) on `Model.DeleteMode`: not consulted
for an id that is not stored, so the delete clause of the property holds whatever else the caller passes; for a stored
mode the caller's check is asked first, then the expected value; a refused delete changes and publishes nothing. -/
theorem C19_delete_options (s : St) (id : String) (am : Bool) (d : DOpts) (hact : id ≠ s.active.id) :
    (find s id = none → step s (.delete id am d) = step s (.delete id am {}) ∧
      step s (.delete id am d) = (s, if am then .ok none else .err .notFound)) ∧
    (∀ old, find s id = some old →
      (∀ c, dcheckFails d old = some c →
        step s (.delete id am d) = (s, .err c) ∧ modeEvents s (.delete id am d) = []) ∧
      (dcheckFails d old = none → expectedFails d.expected old = true →
        step s (.delete id am d) = (s, .err .failedPrecondition) ∧ modeEvents s (.delete id am d) = []) ∧
      (dcheckFails d old = none → expectedFails d.expected old = false →
        step s (.delete id am d) = ({ s with modes := eraseMode id s.modes }, .ok none) ∧
        modeEvents s (.delete id am d) = [.remove old])) := by
  refine ⟨?_, ?_⟩
  · intro h
    cases am <;> simp [step, deleteMode_absent hact h]
  · intro old h
    refine ⟨?_, ?_, ?_⟩
    · intro c hc
      simp [step, modeEvents, emitDelete, deleteMode_found hact h, h, hc]
    · intro hc he
      simp [step, modeEvents, emitDelete, deleteMode_found hact h, h, hc, he]
    · intro hc he
      simp [step, modeEvents, emitDelete, deleteMode_found hact h, h, hc, he]

/-- `UpdateMode` of the empty id names no mode, whatever the options (fix eb62186: with
`WithCreateIfAbsent` it used to create a mode under the id ""); the UpdateMode RPC answers InvalidArgument. -/
theorem C19_update_empty_id (s : St) (m : Mode) (mask : Option Mask) (w : WOpts) (h : m.id = "") :
    step s (.update m mask w) = (s, .err .notFound) ∧ step s (.sUpdate m mask) = (s, .err .invalidArgument) ∧
    modeEvents s (.update m mask w) = [] := by
  simp [step, modeEvents, h]

/-- `NewModel(WithInitialMode(modes…), WithInitialActiveMode(active))` panics unless every initial mode
has an id and the ids are distinct (`St.config?`); when it returns a model, "at most one initial mode is normal" is all
that is left to ask of the configuration. -/
theorem C19_inv_checked (modes : List Mode) (active : Mode) (s0 : St) (h : St.config? modes active = some s0)
    (h1 : ∀ x ∈ modes, ∀ y ∈ modes, x.normal = true → y.normal = true → x = y) (ops : List Op)
    (ht : ∀ op ∈ ops, op.Tame) :
    s0 = St.config modes active ∧ (∀ x ∈ modes, x.id ≠ "") ∧ (modes.map (·.id)).Nodup ∧
    Inv active (run s0 ops) ∧ ((run s0 ops).modes.filter (·.normal)).length ≤ 1 := by
  obtain ⟨rfl, hid, hnd⟩ := config?_some h
  have hinv := run_inv (inv_config modes active ⟨hnd, h1⟩) ops ht
  exact ⟨rfl, hid, hnd, hinv, normal_count_le_one hinv⟩

/-- duplicate ids and a mode without id make the construction panic; a checked configuration does not -/
example : St.config? [mA, mB, mA] Mode.blank = none ∧ St.config? [mA, { mB with id := "" }] Mode.blank = none ∧
    (St.config? [mB, mA] Mode.blank).isSome = true := by decide +kernel

def mC : Mode := Mode.mk4 "c" "tc" false none

/-- refuses everything with NotFound -/
def namedCheckD : String → Option (Mode → Option Code)
  | "ct0" => some fun _ => some .notFound
  | _ => none

/-- two stored modes, `a` active -/
def sAB : St := run St.init [.add mA, .add mB, .changeActive "a" 1]

/-- thread 0 adds a mode, thread 1 switches to `b`; the clock ticks while thread 1 waits for the lock -/
def progsAB : Nat → List Op := fun i => if i = 0 then [.add mC] else if i = 1 then [.changeActive "b" 0] else []

/-- a schedule of the code: thread 0 takes the lock, the clock moves from 0 to 10 while thread 1 is refused
the lock, thread 0 finishes, thread 1 switches: the start time is 10 (`C19_stamp_switch` applies: the log ends
with the switch, `b` is stored and `a` was active). -/
example : (trun (tinit sAB progsAB) [.thr 0, .thr 1, .tick 10, .thr 0, .thr 0, .thr 0, .thr 1, .thr 1, .thr 1]).st.active
    = Mode.mk4 "b" "tb" false (some 10) := by decide +kernel
example : ((trun (tinit sAB progsAB) [.thr 0, .thr 1, .tick 10, .thr 0, .thr 0, .thr 0, .thr 1, .thr 1, .thr 1]).log.map
    (fun e => (e.lockAt, e.writeAt))) = [(0, 10), (10, 10)] := by decide +kernel

/-- Why the clock must be read inside the lock: if it is read BEFORE queuing for the lock
(`estep`), the same programs perform the switch when the clock shows 10 but stamp 0, an instant before the switching
thread held the lock and before the earlier operation had completed. -/
theorem C19_stamp_early_read_fails :
    let c := erun (tinit sAB progsAB) [.thr 0, .clk 1, .thr 1, .tick 10, .thr 0, .thr 0, .thr 0, .thr 1, .thr 1, .thr 1]
    c.st.active = Mode.mk4 "b" "tb" false (some 0) ∧ c.clock = 10 ∧
    c.log.map (fun e => (e.op.now?, e.lockAt, e.writeAt)) = [(none, 0, 10), (some 0, 10, 10)] := by decide +kernel

/-- an upsert through UpdateMode: accepted when no mode is normal, refused next to a normal mode -/
example : (step St.init (.update { mC with normal := true } (some ⟨[.title, .normal], false⟩) { createIfAbsent := true })).1.modes
    = [{ mC with normal := true }] := by decide +kernel
example : (step sAB (.update { mC with normal := true } none { createIfAbsent := true })).2 = .err .alreadyExists := by decide +kernel
/-- the record an upsert under a mask without `id` used to store had no id (before 2b5cf2c) -/
example : (upsertRecordUnfixed mC (some ⟨[.title], false⟩)).id = "" := by decide +kernel
example : (step St.init (.update mC (some ⟨[.title], false⟩) { createIfAbsent := true })).1.modes.map (·.id) = ["c"] := by decide +kernel
/-- the CreateMode RPC with a request that carries no mode: InvalidArgument, nothing changes (`C19_rejected_unchanged`
covers it like every other operation); before ca6ca35 the handler dereferenced the nil mode -/
example : step sAB .sCreateNil = (sAB, .err .invalidArgument) ∧ modeEvents sAB .sCreateNil = [] ∧
    (sCreateNilUnfixed sAB).2 = .panic := by decide +kernel
/-- value preconditions: a mismatch is FailedPrecondition and changes nothing -/
example : step sAB (.update { mB with title := "x" } none { expected := some mA }) = (sAB, .err .failedPrecondition) := by decide +kernel
example : step sAB (.delete "b" false { expected := some mA }) = (sAB, .err .failedPrecondition) := by decide +kernel
example : (step sAB (.delete "b" false { expected := some mB })).1.modes = [mA] := by decide +kernel
/-- a check that refuses comes before the expected value; on an absent id neither is consulted -/
example : step sAB (.delete "b" false { expected := some mA, check := namedCheckD "ct0" }) = (sAB, .err .notFound) ∧
    step sAB (.delete "c" true { expected := some mA, check := namedCheckD "ct0" }) = (sAB, .ok none) ∧
    step sAB (.delete "c" false { expected := some mA, check := namedCheckD "ct0" }) = (sAB, .err .notFound) := by decide +kernel

end ScVerif.C19
