import ScVerif.C19.Electric
/-!
What a `PullModes` / `PullActiveMode` subscriber sees.

`modes` is a `resource.Collection` with `WithNoDuplicates`: every successful `Add` publishes an ADD event,
every successful `Delete` of a stored mode a REMOVE event, every successful `Update` an UPDATE event
unless old and new value are equal (the subscription drops it).  `activeMode` is a `resource.Value`: every
successful `Set` publishes the new value.
-/
namespace ScVerif.C19

inductive ModeEvent where
  | add (new : Mode)
  | update (old new : Mode)
  | remove (old : Mode)
  deriving DecidableEq, Repr

def emitCreateOrAdd (s : St) (m : Mode) (cands : List String) : List ModeEvent :=
  match (createOrAdd s m cands).2 with
  | .ok (some m') => [.add m']
  | _ => []

def emitUpdate (s : St) (m : Mode) (mask : Option Mask) (w : WOpts) : List ModeEvent :=
  match (updateMode s m mask w).2, find s m.id with
  | .ok (some new), some old => if old = new then [] else [.update old new]
  | .ok (some new), none => [.add new]                       -- an upsert that created the record
  | _, _ => []

def emitDelete (s : St) (id : String) (am : Bool) (ex : DOpts) : List ModeEvent :=
  match (deleteMode s id am ex).2, find s id with
  | .ok _, some old => [.remove old]
  | _, _ => []

def modeEvents (s : St) : Op → List ModeEvent
  | .create m cands => if m.id ≠ "" then [] else emitCreateOrAdd s m cands
  | .add m => if m.id = "" then [] else emitCreateOrAdd s m []
  | .update m mask w => if m.id = "" then [] else emitUpdate s m mask w
  | .delete id am ex => emitDelete s id am ex
  | .sCreate m cands => if m.id ≠ "" then [] else emitCreateOrAdd s m cands
  | .sUpdate m mask => if m.id = "" then [] else emitUpdate s m mask {}
  | .sDelete id am => if id = "" then [] else emitDelete s id am {}
  | _ => []

/-- the operations that call `activeMode.Set` -/
def setsActive : Op → Bool
  | .setActive _ | .changeActive _ _ | .clear _ | .sChangeActive _ _ | .sClear _ => true
  | _ => false

def Res.isOk : Res → Bool
  | .ok _ => true
  | _ => false

/-- The PullActiveMode events of one operation, for a subscriber that joined (updates only) when the model
was created: the new active mode when a Set succeeded, unless it equals the value published before
(`WithNoDuplicates`). -/
def activeEvents (s : St) (op : Op) : List Mode :=
  if setsActive op ∧ (step s op).2.isOk ∧ (s.changed = false ∨ (step s op).1.active ≠ s.active)
  then [(step s op).1.active] else []

/-- a subscriber folds the events into its own view of the modes -/
def applyEvent (view : List Mode) : ModeEvent → List Mode
  | .add m => insertMode m view
  | .update _ new => replaceMode new view
  | .remove old => eraseMode old.id view

def runEvents (s : St) : List Op → List ModeEvent
  | [] => []
  | op :: ops => modeEvents s op ++ runEvents (step s op).1 ops

end ScVerif.C19
