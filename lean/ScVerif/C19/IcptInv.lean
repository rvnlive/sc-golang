import ScVerif.C19.Effect
/-!
C19 — what survives ANY spelling behind an id interceptor.

With two spellings of one id in play the interceptor model is no longer the keyed model, but for an idempotent
interceptor `c` the invariants hold all the same: `J` is I1 and the collection's shape, `ActKey` is I3 up to spelling and,
with the guards of 00bc77e / c078347, gives I2.  Both are proved of the `Effect` of a call, whichever layer the call is
of; with the identity they are the invariant of `Electric.lean` (`Inv.lean`).
-/
namespace ScVerif.C19

/-- records under the canonical form of their ids (`kc`), distinct keys (`nd`), at most one normal record (`n1`) -/
structure J (c : String → String) (l : List Rec) : Prop where
  kc : ∀ e ∈ l, e.1 = c e.2.id
  nd : (l.map (·.1)).Nodup
  n1 : ∀ e1 ∈ l, ∀ e2 ∈ l, e1.2.normal = true → e2.2.normal = true → e1 = e2

theorem key_inj : ∀ {l : List Rec}, (l.map (·.1)).Nodup → ∀ x ∈ l, ∀ y ∈ l, x.1 = y.1 → x = y := by
  intro l
  exact inj_of_nodup_map _

section
variable {c : String → String} {k : KSt} {l : List Rec} {key : String} {m : Mode}

/-- a normal newcomer must find every normal record under its own key -/
theorem n1_kput (h : ∀ e1 ∈ l, ∀ e2 ∈ l, e1.2.normal = true → e2.2.normal = true → e1 = e2)
    (hn : m.normal = true → ∀ e ∈ l, e.2.normal = true → e.1 = key) :
    ∀ e1 ∈ kput key m l, ∀ e2 ∈ kput key m l, e1.2.normal = true → e2.2.normal = true → e1 = e2 := by
  intro e1 h1 e2 h2 hn1 hn2
  rcases mem_kput h1 with rfl | ⟨h1, hk1⟩ <;> rcases mem_kput h2 with rfl | ⟨h2, hk2⟩
  · rfl
  · exact absurd (hn hn1 e2 h2 hn2) hk2
  · exact absurd (hn hn2 e1 h1 hn1) hk1
  · exact h e1 h1 e2 h2 hn1 hn2

theorem find_key (h : ∀ e ∈ l, e.1 = c e.2.id) (hin : key ∈ l.map (·.1)) :
    ∃ st, kfindL l key = some st ∧ c st.id = key := by
  obtain ⟨st, hf⟩ := Option.isSome_iff_exists.mp ((kfindL_isSome_iff l key).mpr hin)
  exact ⟨st, hf, (h _ (kfindL_some hf)).symm⟩

theorem J_config {recs : List Rec} (active : Mode) (hkc : ∀ e ∈ recs, e.1 = c e.2.id) (hnd : (recs.map (·.1)).Nodup)
    (h1 : ∀ x ∈ recs, ∀ y ∈ recs, x.2.normal = true → y.2.normal = true → x = y) :
    J c (KSt.config recs active).recs :=
  ⟨fun e he => hkc e ((mem_kconfig recs e).mp he), keys_kconfig recs hnd,
   fun x hx y hy => h1 x ((mem_kconfig recs x).mp hx) y ((mem_kconfig recs y).mp hy)⟩

theorem knormal_none (h : normalMode k.abs = none) : ∀ e ∈ k.recs, e.2.normal = false :=
  fun e he => normalMode_none h e.2 (List.mem_map.mpr ⟨e, he, rfl⟩)

theorem guard_normals (hj : J c k.recs) {id : String}
    (hg : otherNormal k.abs id = false) : ∀ e ∈ k.recs, e.2.normal = true → e.2.id = id := by
  intro e he hn
  unfold otherNormal at hg
  cases hnm : normalMode k.abs with
  | none => have := knormal_none hnm e he; rw [this] at hn; cases hn
  | some n =>
    rw [hnm] at hg
    obtain ⟨e', he', rfl⟩ := normalMode_mem k n hnm
    have : e = e' := hj.n1 e he e' he' hn (normalMode_some hnm).2
    subst this
    simpa using hg

/-- past the guard of `createOrAddMode` no record is normal, past that of `updateMode` the normal record is the one replaced -/
theorem Wrote.normal {cl : Call} {m' : Mode} (hj : J c k.recs) (h : Wrote c k cl key m') (ht : cl.Tame)
    (hn : m'.normal = true) : ∀ e ∈ k.recs, e.2.normal = true → e.1 = key := by
  intro e he hen
  cases h with
  | @created m cands key hg _ =>
    have hm : m.normal = true := by
      rw [← hn]
      split <;> rfl
    have hnone : normalMode k.abs = none := by
      cases hnm : normalMode k.abs with
      | none => rfl
      | some n => exact absurd ⟨hm, by rw [hnm]; rfl⟩ hg
    rw [knormal_none hnone e he] at hen
    cases hen
  | @updated m mask w hg =>
    rcases (written_tame _ m mask w ht).2 hn with hold | ⟨h1, h2⟩
    · -- the stored record was normal: it is the one normal record
      cases hf : kfind k (c m.id) with
      | none => rw [hf] at hold; cases hold
      | some old => rw [hf] at hold; rw [hj.n1 e he (c m.id, old) (kfindL_some hf) hen hold]
    · -- a write of `normal = true` got past the guard: every normal record carries the id of the request
      have hg' : otherNormal k.abs m.id = false := by
        cases ho : otherNormal k.abs m.id with
        | false => rfl
        | true => exact absurd ⟨h1, h2, ho⟩ hg
      rw [hj.kc e he, guard_normals hj hg' e he hen]

end

theorem Effect.keepsJ {c : String → String} (hc : ∀ x, c (c x) = c x) {k : KSt} {cl : Call} {a : KSt × Res}
    (he : Effect c k cl a) (hj : J c k.recs) (ht : cl.Tame) : J c a.1.recs := by
  refine ⟨he.keepsAll hj.kc fun _ _ hw => hw.key_eq hc ht, he.keepsKeys hj.nd, ?_⟩
  cases he with
  | put hw => exact n1_kput hj.n1 (hw.normal hj ht)
  | erase => exact fun e1 h1 e2 h2 => hj.n1 e1 (mem_kerase h1) e2 (mem_kerase h2)
  | _ => exact hj.n1

theorem J_count {c : String → String} : ∀ {l : List Rec}, J c l → ((l.map (·.2)).filter (·.normal)).length ≤ 1 := by
  intro l
  induction l with
  | nil => intro _; simp
  | cons a as ih =>
    intro h
    have hnd := h.nd
    simp only [List.map_cons, List.nodup_cons] at hnd
    have has : J c as := ⟨fun e he => h.kc e (by simp [he]), hnd.2,
      fun e1 h1 e2 h2 => h.n1 e1 (by simp [h1]) e2 (by simp [h2])⟩
    cases ha : a.2.normal with
    | false => simp only [List.map_cons, List.filter_cons, ha]; exact ih has
    | true =>
      have hnone : (as.map (·.2)).filter (·.normal) = [] := by
        apply List.filter_eq_nil_iff.mpr
        intro x hx
        obtain ⟨e, he, rfl⟩ := List.mem_map.mp hx
        intro hen
        have : e = a := h.n1 e (by simp [he]) a (by simp) hen ha
        subst this
        exact hnd.1 (List.mem_map.mpr ⟨e, he, rfl⟩)
      simp [ha, hnone]

/-- the guards of `deleteMode` protect the active id `a` under every spelling of its key: always when `a` is not empty; the
third guard skips the empty id (6e97ca4), which only the first guard (same spelling) protects, so `""` is guarded when no
other id is kept under its key -/
def Guarded (c : String → String) (a : String) : Prop := a = "" → ∀ x, c x = c a → x = a

/-- once changed, an active id of `G` leads — through `c` — to a key of the collection (I3 up to spelling).  `G` is the set of
active ids the claim is made for: the non-empty ones behind any interceptor (`A`), all of them with the identity -/
def ActKey (c : String → String) (G : String → Prop) (k : KSt) : Prop :=
  k.changed = true → G k.active.id → c k.active.id ∈ k.recs.map (·.1)

/-- `ActKey c (· ≠ "")` written out (the two unfold to the same term): the non-empty ids are guarded behind every interceptor -/
def A (c : String → String) (k : KSt) : Prop :=
  k.changed = true → k.active.id ≠ "" → c k.active.id ∈ k.recs.map (·.1)

theorem guarded_of_ne (c : String → String) (a : String) (h : a ≠ "") : Guarded c a := fun h0 => absurd h0 h

/-- the third guard, and the first for the empty id -/
theorem ikdeleteMode_refuses {c : String → String} {k : KSt} (hin : c k.active.id ∈ k.recs.map (·.1))
    (hg : Guarded c k.active.id) {id : String} (heq : c id = c k.active.id) (am : Bool) (d : DOpts) :
    ikdeleteMode c k id am d = (k, .err .failedPrecondition) := by
  rw [ikdeleteMode_guards, if_pos]
  by_cases ha : id = k.active.id
  · exact Or.inl ha
  · have hne : k.active.id ≠ "" := fun h0 => ha (hg h0 id heq)
    obtain ⟨cur, hc⟩ := Option.isSome_iff_exists.mp ((kfindL_isSome_iff _ _).mpr hin)
    exact Or.inr ((iknamesActive_iff c k id).mpr ⟨cur, heq ▸ hc, Or.inr ⟨hne, cur, hc, rfl⟩⟩)

/-- the second guard -/
theorem ikdeleteMode_refuses_stored {c : String → String} {k : KSt} {id : String} {m : Mode}
    (hf : kfind k (c id) = some m) (hid : m.id = k.active.id) (am : Bool) (d : DOpts) :
    ikdeleteMode c k id am d = (k, .err .failedPrecondition) := by
  rw [ikdeleteMode_guards, if_pos (Or.inr ((iknamesActive_iff c k id).mpr ⟨m, hf, Or.inl hid⟩))]

theorem ikstep_delete_refused {c : String → String} {k : KSt} {id : String} {am : Bool}
    (h : ∀ d, ikdeleteMode c k id am d = (k, .err .failedPrecondition)) (d : DOpts) :
    ikstep c k (.delete id am d) = (k, .err .failedPrecondition) ∧
    (id ≠ "" → ikstep c k (.sDelete id am) = (k, .err .failedPrecondition)) :=
  ⟨h d, fun hne => by simp only [ikstep, hne, if_false, h {}]⟩

theorem ikchangeActive_ok {c : String → String} {k : KSt} {id : String} {now : Nat}
    (h : (ikchangeActive c k id now).2.isOk = true) :
    ∃ m, kfind k (c id) = some m ∧ (ikchangeActive c k id now).1.recs = k.recs ∧
      m.id = (ikchangeActive c k id now).1.active.id := by
  unfold ikchangeActive at h ⊢
  cases hf : kfind k (c id) with
  | none => rw [hf] at h; cases h
  | some m => exact ⟨m, rfl, rfl, by dsimp only; split <;> rfl⟩

/-- the mode a successful `ChangeActiveMode(id)` made active cannot be deleted under any spelling of its key (second guard):
any function `c`, any state -/
theorem ikstep_switch_protected {c : String → String} {k : KSt} {id id' : String} {now : Nat}
    (hok : (ikstep c k (.changeActive id now)).2.isOk = true) (hc : c id' = c id) (am : Bool) (d : DOpts) :
    ikstep c (ikstep c k (.changeActive id now)).1 (.delete id' am d) =
      ((ikstep c k (.changeActive id now)).1, .err .failedPrecondition) ∧
    (id' ≠ "" → ikstep c (ikstep c k (.changeActive id now)).1 (.sDelete id' am) =
      ((ikstep c k (.changeActive id now)).1, .err .failedPrecondition)) := by
  obtain ⟨m, hf, hrecs, hid⟩ := ikchangeActive_ok hok
  have hf' : kfind (ikstep c k (.changeActive id now)).1 (c id') = some m := by
    rw [hc]
    exact (congrArg (kfindL · (c id)) hrecs).trans hf
  exact ikstep_delete_refused (fun dd => ikdeleteMode_refuses_stored hf' hid am dd) d

theorem Effect.keepsActKey {c : String → String} {G : String → Prop} {k : KSt} {cl : Call} {a : KSt × Res}
    (he : Effect c k cl a) (hG : ∀ x, G x → Guarded c x) (hkc : ∀ e ∈ k.recs, e.1 = c e.2.id) (h : ActKey c G k) : ActKey c G a.1 := by
  cases he with
  | same => exact h
  | put => exact fun hch hg => keys_sub_kput _ _ _ (h hch hg)
  | @erase id am d old _ hok =>
    -- a delete under the key `c active.id` would have been refused
    intro hch hg
    have hin := h hch hg
    have hne : c k.active.id ≠ c id := fun e => by
      rw [ikdeleteMode_refuses hin (hG _ hg) e.symm] at hok
      cases hok
    obtain ⟨e, he', hk⟩ := List.mem_map.mp hin
    exact List.mem_map.mpr ⟨e, List.mem_filter.mpr ⟨he', by simp [hk, hne]⟩, hk⟩
  | @activate _ key st m' _ hf hm =>
    -- the record found under `key` is kept under the canonical form of its own id
    have hmem : (key, st) ∈ k.recs := kfindL_some hf
    have hkey : key = c m'.id := by
      rcases hm with hid | ⟨hkey, _⟩
      · rw [hid]; exact hkc _ hmem
      · exact hkey
    exact fun _ _ => hkey ▸ List.mem_map.mpr ⟨_, hmem, rfl⟩

/-- without interceptor every id is guarded: it is the only spelling of its key.  The unused `G a` makes the term fit the
`hG : ∀ a, G a → Guarded c a` of `serve_JG` / `ikrun_JG` for any `G` -/
theorem guarded_id {G : String → Prop} (a : String) (_ : G a) : Guarded (fun x => x) a := fun _ _ e => e

/-- a layer whose calls have effects keeps `J ∧ ActKey` through `Op.serve` -/
theorem serve_JG {c : String → String} (hc : ∀ x, c (c x) = c x) {G : String → Prop} (hG : ∀ a, G a → Guarded c a)
    {k : KSt} {call : Call → KSt × Res} (heff : ∀ cl, Effect c k cl (call cl)) (h : J c k.recs ∧ ActKey c G k) (op : Op)
    (ht : op.Tame) :
    J c (op.serve (fun r => (k, r)) call dropVal).1.recs ∧ ActKey c G (op.serve (fun r => (k, r)) call dropVal).1 :=
  op.serve_fst (P := fun k' : KSt => J c k'.recs ∧ ActKey c G k') h fun cl hcl _ =>
    ⟨(heff cl).keepsJ hc h.1 (hcl ht), (heff cl).keepsActKey hG h.1.kc h.2⟩

theorem ikstep_JG {c : String → String} (hc : ∀ x, c (c x) = c x) {G : String → Prop} (hG : ∀ a, G a → Guarded c a)
    {k : KSt} (h : J c k.recs ∧ ActKey c G k) (op : Op) (ht : op.Tame) :
    J c (ikstep c k op).1.recs ∧ ActKey c G (ikstep c k op).1 := by
  rw [ikstep_serve]
  exact serve_JG hc hG (ikCall_effect c k) h op ht

theorem ikrun_JG {c : String → String} (hc : ∀ x, c (c x) = c x) {G : String → Prop} (hG : ∀ a, G a → Guarded c a) :
    ∀ (ops : List Op) (k : KSt), J c k.recs ∧ ActKey c G k → (∀ op ∈ ops, op.Tame) →
    J c (ikrun c k ops).recs ∧ ActKey c G (ikrun c k ops) :=
  run_keeps (fun _ => rfl) (fun _ _ _ => rfl) fun _ op h ht => ikstep_JG hc hG h op ht

end ScVerif.C19
