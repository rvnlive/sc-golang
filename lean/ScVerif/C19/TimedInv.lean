import ScVerif.C19.Timed
import ScVerif.C19.ConcInv
/-!
The invariant `TInv` of the interleaving model with the clock (`Timed.lean`), proved thread by thread (`TOk`), and what it says of
the operation performed last (`tinv_last`).
-/
namespace ScVerif.C19

theorem Op.now?_withNow {op : Op} {n k : Nat} (h : (op.withNow n).now? = some k) : k = n := by
  cases op <;> simp [Op.withNow, Op.now?] at h <;> exact h.symm

/-- `P`: any property of operations that holds of every operation of every program and does not depend on the
clock reading (`P op → P (op.withNow n)`), e.g. "comes from `progs`" or "its caller-supplied options are tame". -/
structure TInv (P : Op → Prop) (s0 : St) (c : TConf) : Prop where
  excl : ∀ t, (c.thr t).phase ≠ .idle → c.holder = some t
  fresh : ∀ t, (c.thr t).phase = .read → (c.thr t).seen = c.st
  win : ∀ t, (c.thr t).phase = .read → (c.thr t).lockAt ≤ (c.thr t).seenNow ∧ (c.thr t).seenNow ≤ c.clock
  lk : ∀ t, (c.thr t).phase = .locked ∨ (c.thr t).phase = .read →
    (c.thr t).lockAt ≤ c.clock ∧ ∀ e ∈ c.log, e.writeAt ≤ (c.thr t).lockAt
  past : ∀ e ∈ c.log, e.lockAt ≤ e.writeAt ∧ e.writeAt ≤ c.clock
  stamps : ∀ e ∈ c.log, ∀ n, e.op.now? = some n → e.lockAt ≤ n ∧ n ≤ e.writeAt
  ord : c.log.Pairwise (fun a b => a.writeAt ≤ b.lockAt)
  serial : c.st = run s0 (c.log.map (·.op))
  todoP : ∀ t, ∀ op ∈ (c.thr t).todo, P op
  logP : ∀ e ∈ c.log, P e.op

theorem tinv_init (P : Op → Prop) (s0 : St) (progs : Nat → List Op) (hP : ∀ t, ∀ op ∈ progs t, P op) :
    TInv P s0 (tinit s0 progs) :=
  ⟨fun t h => absurd rfl h, fun t h => by simp [tinit] at h, fun t h => by simp [tinit] at h,
   fun t h => by simp [tinit] at h, fun e he => by simp [tinit] at he, fun e he => by simp [tinit] at he,
   by simp [tinit], rfl, hP, fun e he => by simp [tinit] at he⟩

/-- what `TInv` says of the one thread `u` with record `x`, given the shared parts of the configuration -/
structure TOk (P : Op → Prop) (holder : Option Nat) (st : St) (clock : Nat) (log : List Entry) (u : Nat) (x : TThr) :
    Prop where
  excl : x.phase ≠ .idle → holder = some u
  fresh : x.phase = .read → x.seen = st
  win : x.phase = .read → x.lockAt ≤ x.seenNow ∧ x.seenNow ≤ clock
  lk : x.phase = .locked ∨ x.phase = .read → x.lockAt ≤ clock ∧ ∀ e ∈ log, e.writeAt ≤ x.lockAt
  todoP : ∀ op ∈ x.todo, P op

section

variable {P : Op → Prop} {s0 : St} {c : TConf} {holder : Option Nat} {st : St} {clock : Nat} {log : List Entry}
  {u : Nat} {x : TThr}

theorem tinv_ok (hi : TInv P s0 c) (u : Nat) : TOk P c.holder c.st c.clock c.log u (c.thr u) :=
  ⟨hi.excl u, hi.fresh u, hi.win u, hi.lk u, hi.todoP u⟩

theorem tinv_of (h : ∀ u, TOk P c.holder c.st c.clock c.log u (c.thr u))
    (past : ∀ e ∈ c.log, e.lockAt ≤ e.writeAt ∧ e.writeAt ≤ c.clock)
    (stamps : ∀ e ∈ c.log, ∀ n, e.op.now? = some n → e.lockAt ≤ n ∧ n ≤ e.writeAt)
    (ord : c.log.Pairwise (fun a b => a.writeAt ≤ b.lockAt)) (serial : c.st = run s0 (c.log.map (·.op)))
    (logP : ∀ e ∈ c.log, P e.op) : TInv P s0 c :=
  ⟨fun u => (h u).excl, fun u => (h u).fresh, fun u => (h u).win, fun u => (h u).lk, past, stamps, ord, serial,
    fun u => (h u).todoP, logP⟩

theorem tOk_idle (hph : x.phase = .idle) (ht : ∀ op ∈ x.todo, P op) : TOk P holder st clock log u x :=
  ⟨fun h => absurd hph h, fun h => (by rw [hph] at h; cases h), fun h => (by rw [hph] at h; cases h),
    fun h => (by rw [hph] at h; rcases h with h | h <;> cases h), ht⟩

end

theorem thrStep_inv {P : Op → Prop} (hW : ∀ op n, P op → P (op.withNow n)) {s0 : St} {c : TConf}
    (hi : TInv P s0 c) (t : Nat) : TInv P s0 (thrStep true c t) := by
  unfold thrStep
  cases htodo : (c.thr t).todo with
  | nil => exact hi
  | cons op rest =>
    have htd := hi.todoP t
    dsimp only
    cases hph : (c.thr t).phase with
    | idle =>
      dsimp only
      by_cases hh : c.holder = none
      · rw [if_pos hh]
        refine tinv_of (forall_update (Ok := TOk _ _ _ _ _) ?_ fun u hut => ?_) hi.past hi.stamps hi.ord hi.serial hi.logP
        · exact ⟨fun _ => rfl, nofun, nofun, fun _ => ⟨Nat.le_refl _, fun e he => (hi.past e he).2⟩, htd⟩
        · exact tOk_idle (others_idle hi.excl (Or.inl hh) u hut) (hi.todoP u)
      · rw [if_neg hh]; exact hi
    | locked =>
      -- the shared parts stay: the other threads' clauses are the old ones
      have hlk := hi.lk t (Or.inl hph)
      have hhold := hi.excl t (by rw [hph]; exact Phase.noConfusion)
      refine tinv_of (forall_update (Ok := TOk _ _ _ _ _) ?_ fun u _ => tinv_ok hi u) hi.past hi.stamps hi.ord hi.serial hi.logP
      exact ⟨fun _ => hhold, fun _ => rfl, fun _ => ⟨hlk.1, Nat.le_refl _⟩, fun _ => hlk, htd⟩
    | read =>
      have hhold := hi.excl t (by rw [hph]; exact Phase.noConfusion)
      have hwin := hi.win t hph
      have hlk := hi.lk t (Or.inr hph)
      refine tinv_of (forall_update (Ok := TOk _ _ _ _ _) ?_ fun u hut => ?_) ?_ ?_ ?_ ?_ ?_
      · exact ⟨fun _ => hhold, nofun, nofun, fun h => (by rcases h with h | h <;> cases h), htd⟩
      · exact tOk_idle (others_idle hi.excl (Or.inr hhold) u hut) (hi.todoP u)
      · intro e he
        rcases List.mem_append.mp he with he | he
        · exact hi.past e he
        · rw [List.mem_singleton.mp he]
          exact ⟨hlk.1, Nat.le_refl _⟩
      · intro e he n hn
        rcases List.mem_append.mp he with he | he
        · exact hi.stamps e he n hn
        · rw [List.mem_singleton.mp he] at hn ⊢
          rw [Op.now?_withNow hn]
          exact hwin
      · rw [List.pairwise_append]
        refine ⟨hi.ord, List.pairwise_singleton _ _, fun a ha b hb => ?_⟩
        rw [List.mem_singleton.mp hb]
        exact hlk.2 a ha
      · show (step (c.thr t).seen (op.withNow (c.thr t).seenNow)).1 =
          run s0 ((c.log ++ [(⟨op.withNow (c.thr t).seenNow, (c.thr t).lockAt, c.clock⟩ : Entry)]).map Entry.op)
        rw [List.map_append, run_append, ← hi.serial, hi.fresh t hph]; rfl
      · intro e he
        rcases List.mem_append.mp he with he | he
        · exact hi.logP e he
        · rw [List.mem_singleton.mp he]
          exact hW op _ (htd op (by rw [htodo]; exact List.mem_cons_self))
    | written =>
      have hhold := hi.excl t (by rw [hph]; exact Phase.noConfusion)
      refine tinv_of (forall_update (Ok := TOk _ _ _ _ _) ?_ fun u hut => ?_) hi.past hi.stamps hi.ord hi.serial hi.logP
      · exact tOk_idle rfl fun o ho => htd o (by rw [htodo]; exact List.mem_cons_of_mem _ ho)
      · exact tOk_idle (others_idle hi.excl (Or.inr hhold) u hut) (hi.todoP u)

theorem tstep_inv {P : Op → Prop} (hW : ∀ op n, P op → P (op.withNow n)) {s0 : St} {c : TConf}
    (hi : TInv P s0 c) (e : Ev) : TInv P s0 (tstep c e) := by
  cases e with
  | tick d =>
    -- the clock only occurs as an upper bound
    dsimp only [tstep]
    refine ⟨hi.excl, hi.fresh, ?_, ?_, ?_, hi.stamps, hi.ord, hi.serial, hi.todoP, hi.logP⟩
    · intro t ht; have := hi.win t ht; exact ⟨this.1, Nat.le_trans this.2 (Nat.le_add_right _ _)⟩
    · intro t ht; have := hi.lk t ht; exact ⟨Nat.le_trans this.1 (Nat.le_add_right _ _), this.2⟩
    · intro e he; have := hi.past e he; exact ⟨this.1, Nat.le_trans this.2 (Nat.le_add_right _ _)⟩
  | thr t => exact thrStep_inv hW hi t
  | clk t =>
    dsimp only [tstep]
    by_cases hph : (c.thr t).phase = .read
    · rw [if_pos hph]
      have hlk := hi.lk t (Or.inr hph)
      refine tinv_of (forall_update (Ok := TOk _ _ _ _ _) ?_ fun u _ => tinv_ok hi u) hi.past hi.stamps hi.ord hi.serial hi.logP
      exact ⟨hi.excl t, hi.fresh t, fun _ => ⟨hlk.1, Nat.le_refl _⟩, hi.lk t, hi.todoP t⟩
    · rw [if_neg hph]; exact hi

theorem trun_inv {P : Op → Prop} (hW : ∀ op n, P op → P (op.withNow n)) {s0 : St} {c : TConf}
    (hi : TInv P s0 c) (evs : List Ev) : TInv P s0 (trun c evs) := by
  induction evs generalizing c with
  | nil => exact hi
  | cons e es ih => exact ih (tstep_inv hW hi e)

/-- the shared tail of `C19_stamp_switch` / `C19_stamp_clear`: the operation performed last -/
theorem tinv_last {P : Op → Prop} {s0 : St} {c : TConf} (hi : TInv P s0 c) {l : List Entry} {e : Entry} {n : Nat}
    (hlog : c.log = l ++ [e]) (hnow : e.op.now? = some n) :
    c.st = (step (run s0 (l.map Entry.op)) e.op).1 ∧
    e.lockAt ≤ n ∧ n ≤ e.writeAt ∧ e.writeAt ≤ c.clock ∧ ∀ a ∈ l, a.writeAt ≤ n := by
  have he : e ∈ c.log := by rw [hlog]; simp
  have hst := hi.stamps e he n hnow
  have hord := hi.ord
  rw [hlog, List.pairwise_append] at hord
  refine ⟨?_, hst.1, hst.2, (hi.past e he).2, fun a ha => Nat.le_trans (hord.2.2 a ha e (by simp)) hst.1⟩
  rw [hi.serial, hlog, List.map_append, run_append]
  rfl

theorem Op.tame_withNow (op : Op) (n : Nat) (h : op.Tame) : (op.withNow n).Tame := by
  cases op with
  | update _ _ _ => exact h
  | _ => trivial

end ScVerif.C19
