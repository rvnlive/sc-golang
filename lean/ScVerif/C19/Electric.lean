/-
C19 — executable model of `pkg/trait/electricpb` `Model` (model.go) and of the mode-related RPCs of
`ModelServer` (model_server.go: UpdateActiveMode, ClearActiveMode; memory_settings.go: CreateMode,
UpdateMode, DeleteMode), after the `fix:` commits 6953a94, 7f1dc6a, 2b5cf2c, eb62186 (UpdateMode refuses the
empty id) and ca6ca35 (the CreateMode RPC without a mode), including the Model-level write options of `UpdateMode` / `DeleteMode` (`WOpts`: `WithCreateIfAbsent`,
`WithExpectAbsent`, `WithExpectedValue`, and the caller's own code `InterceptBefore` /
`InterceptAfter` / `WithExpectedCheck` as arbitrary functions plus `WithResetMask`, in the order
`WriteRequest.changeFn` uses them, the record being stored under the KEY the call read before any callback ran)
and the checks the construction makes on `WithInitialMode` (`St.config?`).

The model is sequential: every mutator of `Model` holds `Model.mu` for its whole body, so a concurrent
mix is an interleaving of whole operations (`Conc.lean`).  `resource.Collection` / `resource.Value` are
modelled by the behaviour their calls have sequentially: `Collection.Add` (id generation from the
candidate ids the RNG yields, AlreadyExists), `Collection.Update` (mask validation, NotFound, field-wise
merge under the update mask), `Collection.Delete` (NotFound / allow-missing), `Value.Set` (replace, with
the InterceptAfter hook of changeActiveMode).

Abstractions (see props/C19.json): an `ElectricMode` has the fields `id, title, description, voltage (whole
volts), start_time (whole seconds), segments (each reduced to a whole-number magnitude), normal`; update
masks range over those seven paths plus an unknown path; the clock value read by an operation is a parameter of the
operation; id generation consumes the list of
candidate ids the injected RNG would produce.
-/
namespace ScVerif.C19

inductive Code where
  | invalidArgument
  | notFound
  | alreadyExists
  | failedPrecondition
  | aborted
  | internal
  deriving DecidableEq, Repr

def Code.name : Code → String
  | .invalidArgument => "InvalidArgument"
  | .notFound => "NotFound"
  | .alreadyExists => "AlreadyExists"
  | .failedPrecondition => "FailedPrecondition"
  | .aborted => "Aborted"
  | .internal => "Internal"

structure Mode where
  id : String
  title : String
  normal : Bool
  start : Option Nat
  description : String := ""
  /-- volts, whole numbers (0 = absent) -/
  voltage : Nat := 0
  /-- the repeated `segments` field, each segment reduced to its magnitude (whole numbers) -/
  segments : List Nat := []
  deriving DecidableEq, Repr

/-- a mode with only the four core fields set -/
def Mode.mk4 (id title : String) (normal : Bool) (start : Option Nat) : Mode :=
  { id := id, title := title, normal := normal, start := start }

/-- `&traits.ElectricMode{}` -/
def Mode.blank : Mode := Mode.mk4 "" "" false none

inductive Field where
  | id | title | normal | start | description | voltage | segments
  deriving DecidableEq, Repr

/-- An update mask: the known paths it lists, and whether it also mentions an unknown path. -/
structure Mask where
  paths : List Field
  invalid : Bool
  deriving DecidableEq, Repr

/-- Result of an operation. -/
inductive Res where
  | ok (m : Option Mode)
  | err (c : Code)
  | panic
  deriving DecidableEq, Repr

structure St where
  /-- `modes` collection as its sorted listing -/
  modes : List Mode
  /-- `activeMode` value -/
  active : Mode
  /-- ghost: an operation that sets the active mode has succeeded -/
  changed : Bool
  deriving DecidableEq, Repr

/-- `NewModel()`: no modes, the active mode is a blank dummy. -/
def St.init : St := ⟨[], Mode.blank, false⟩

/-! ### resource.Collection behaviour -/

/-- `modes.Get(id)` -/
def find (s : St) (id : String) : Option Mode := s.modes.find? (fun x => x.id = id)

/-- insertion keeping the listing sorted by id -/
def insertMode (m : Mode) : List Mode → List Mode
  | [] => [m]
  | x :: xs => if m.id < x.id then m :: x :: xs else x :: insertMode m xs

/-- `NewModel(WithInitialMode(modes…), WithInitialActiveMode(active))`: the given modes as initial records
(listed sorted by id), the given placeholder as active mode, nothing changed yet.  `St.init = St.config [] Mode.blank`. -/
def St.config (modes : List Mode) (active : Mode) : St := ⟨modes.foldr insertMode [], active, false⟩

/-- what the options check: `WithInitialMode` panics on a mode without id, `resource.WithInitialRecord` (applied
by `NewModel`) panics when an id is configured twice.  Nothing else is checked. -/
def configOk (modes : List Mode) : Bool :=
  modes.all (fun m => m.id != "") && decide ((modes.map (·.id)).Nodup)

/-- `NewModel(WithInitialMode(modes…), WithInitialActiveMode(active))`, `none` = the construction panics -/
def St.config? (modes : List Mode) (active : Mode) : Option St :=
  if configOk modes then some (St.config modes active) else none

def replaceMode (m : Mode) (l : List Mode) : List Mode := l.map (fun x => if x.id = m.id then m else x)

def eraseMode (id : String) (l : List Mode) : List Mode := l.filter (fun x => x.id ≠ id)

/-- `normalMode()`: the first mode of the listing with `Normal` set. -/
def normalMode (s : St) : Option Mode := s.modes.find? (fun x => x.normal)

/-- `GenerateUniqueId`: the first non-empty candidate that is not taken (10 candidates are tried). -/
def genId (s : St) (cands : List String) : Option String :=
  (cands.take 10).find? (fun c => c ≠ "" ∧ (find s c).isNone)

/-- `FieldUpdater.Merge(dst, src)` on the modelled fields. -/
def mergeMode (dst src : Mode) : Option Mask → Mode
  | none => src
  | some mask =>
    { id := if Field.id ∈ mask.paths then src.id else dst.id
      title := if Field.title ∈ mask.paths then src.title else dst.title
      normal := if Field.normal ∈ mask.paths then src.normal else dst.normal
      start := if Field.start ∈ mask.paths then src.start else dst.start
      description := if Field.description ∈ mask.paths then src.description else dst.description
      voltage := if Field.voltage ∈ mask.paths then src.voltage else dst.voltage
      -- proto.Merge APPENDS a repeated field; pruneEmpty clears it when the source has none
      segments := if Field.segments ∈ mask.paths then
          (if src.segments = [] then [] else dst.segments ++ src.segments)
        else dst.segments }

/-- does an update under this mask write the `normal` field? (`writesField`) -/
def writesNormal : Option Mask → Bool
  | none => true
  | some mask => Field.normal ∈ mask.paths

/-- The Model-level write options `UpdateMode` / `DeleteMode` hand through to the collection, beyond the
update mask and allow-missing (the servers never pass them).  The interceptors and the check are the caller's
own code: arbitrary functions (the theorems quantify over them; the driver and the harness share a small
named family, `Named.lean`). -/
structure WOpts where
  /-- `resource.WithCreateIfAbsent()`: the update is an upsert -/
  createIfAbsent : Bool := false
  /-- `resource.WithExpectAbsent()` -/
  expectAbsent : Bool := false
  /-- `resource.WithExpectedValue(m)` -/
  expected : Option Mode := none
  /-- `resource.WithResetMask(mask)`: fields cleared from the merged value (after InterceptBefore and the merge,
  before InterceptAfter) -/
  reset : Option Mask := none
  /-- `resource.WithExpectedCheck(fn)`: `fn current` = the error it returns, if any -/
  check : Option (Mode → Option Code) := none
  /-- `resource.InterceptBefore(f)`: `f old msg` is what the callback leaves in the caller's message -/
  before : Option (Mode → Mode → Mode) := none
  /-- `resource.InterceptAfter(g)`: `g old merged` is what the callback leaves in the value about to be saved -/
  after : Option (Mode → Mode → Mode) := none

/-- The write options `DeleteMode` hands through to `Collection.Delete` besides allow-missing (the servers never
pass them): `Collection.Delete` looks at them only for an item that exists, the caller's check first, then the
expected value. -/
structure DOpts where
  /-- `resource.WithExpectedValue(m)` -/
  expected : Option Mode := none
  /-- `resource.WithExpectedCheck(fn)`: `fn current` = the error it returns, if any -/
  check : Option (Mode → Option Code) := none

/-- `resource.WithMoreUpdatePaths("id")` (added by `updateMode` after the caller's options): a nil mask
stays nil (it writes every field anyway), any other mask also names `id`. -/
def maskWithId : Option Mask → Option Mask
  | none => none
  | some k => some { k with paths := Field.id :: k.paths }

/-- the `WithExpectedValue` precondition of a write: fails when a value is expected and the current one
(for an upsert of an absent id: the blank message) differs -/
def expectedFails (expected : Option Mode) (current : Mode) : Bool :=
  match expected with
  | none => false
  | some e => e != current

/-- `FieldUpdater.reset`: the fields the reset mask names are cleared from the merged value -/
def resetMode (m : Mode) : Option Mask → Mode
  | none => m
  | some k =>
    { id := if Field.id ∈ k.paths then "" else m.id
      title := if Field.title ∈ k.paths then "" else m.title
      normal := if Field.normal ∈ k.paths then false else m.normal
      start := if Field.start ∈ k.paths then none else m.start
      description := if Field.description ∈ k.paths then "" else m.description
      voltage := if Field.voltage ∈ k.paths then 0 else m.voltage
      segments := if Field.segments ∈ k.paths then [] else m.segments }

/-- an optional interceptor applied to (old, new) -/
def applyIcpt (f : Option (Mode → Mode → Mode)) (old new : Mode) : Mode :=
  match f with
  | none => new
  | some g => g old new

/-- `WriteRequest.changeFn` after its preconditions: InterceptBefore on the caller's message, `FieldUpdater.Merge`
under the update mask (which `updateMode` has extended by `id`), the reset mask, InterceptAfter. -/
def written (old m : Mode) (mask : Option Mask) (w : WOpts) : Mode :=
  applyIcpt w.after old (resetMode (mergeMode old (applyIcpt w.before old m) (maskWithId mask)) w.reset)

/-- `WithExpectedCheck`: the error the caller's check returns for the current value -/
def checkFails (w : WOpts) (current : Mode) : Option Code :=
  match w.check with
  | none => none
  | some f => f current

/-- the collection stores a record under the KEY of the call (`mode.Id` as `updateMode` read it before any
interceptor ran), whatever id the record carries: replace the record stored under `key` -/
def storeAt (key : String) (m : Mode) (l : List Mode) : List Mode := l.map (fun x => if x.id = key then m else x)

/-- … and insert a new record at the position of `key` in the listing -/
def insertAt (key : String) (m : Mode) : List Mode → List Mode
  | [] => [m]
  | x :: xs => if key < x.id then m :: x :: xs else x :: insertAt key m xs

/-! ### Model operations (model.go) -/

/-- the id `Collection.Add` stores the mode under: the given one, or a generated one when it is empty -/
def chooseId (s : St) (m : Mode) (cands : List String) : Option String :=
  if m.id = "" then genId s cands else some m.id

/-- `createOrAddMode` -/
def createOrAdd (s : St) (m : Mode) (cands : List String) : St × Res :=
  if m.normal ∧ (normalMode s).isSome then (s, .err .alreadyExists)        -- ErrNormalModeExists
  else
    -- modes.Add(mode.Id, mode, WithGenIDIfAbsent, WithIDCallback)
    match chooseId s m cands with
    | none => (s, .err .aborted)                                             -- id generation exhausted
    | some id =>
      if (find s id).isSome then (s, .err .alreadyExists)                    -- ExpectAbsentPreconditionFailed
      else
        let m' := { m with id := id }
        ({ s with modes := insertMode m' s.modes }, .ok (some m'))

/-- `changeActiveMode`: look the mode up, `activeMode.Set(mode, InterceptAfter(stamp when the id differs))`. -/
def changeActive (s : St) (id : String) (now : Nat) : St × Res :=
  match find s id with
  | none => (s, .err .notFound)
  | some m =>
    let m' := if s.active.id ≠ m.id then { m with start := some now } else m
    ({ s with active := m', changed := true }, .ok (some m'))

inductive Op where
  -- Model API
  | create (m : Mode) (cands : List String)
  | add (m : Mode)
  | update (m : Mode) (mask : Option Mask) (w : WOpts)
  | delete (id : String) (allowMissing : Bool) (d : DOpts)
  | setActive (m : Mode)
  | changeActive (id : String) (now : Nat)
  | clear (now : Nat)                                  -- ChangeToNormalMode
  | findMode (id : String)                             -- FindMode (read only)
  -- ElectricApi / MemorySettingsApi servers
  | sCreate (m : Mode) (cands : List String)
  | sUpdate (m : Mode) (mask : Option Mask)
  | sDelete (id : String) (allowMissing : Bool)
  | sChangeActive (id : String) (now : Nat)            -- UpdateActiveMode
  | sClear (now : Nat)                                 -- ClearActiveMode
  | sCreateNil                                         -- the CreateMode RPC with a request that carries no mode

/-- does the update mask mention an unknown field? -/
def maskInvalid : Option Mask → Bool
  | some k => k.invalid
  | none => false

/-- is a mode other than `id` the normal mode? -/
def otherNormal (s : St) (id : String) : Bool :=
  match normalMode s with
  | some n => n.id != id
  | none => false

def updateMode (s : St) (m : Mode) (mask : Option Mask) (w : WOpts) : St × Res :=
  -- the guard added by the fix 7f1dc6a: becoming normal requires that no other mode is normal
  -- (evaluated on the caller's message as it is BEFORE any interceptor runs)
  if m.normal ∧ writesNormal mask ∧ otherNormal s m.id then
    (s, .err .alreadyExists)
  else if maskInvalid mask then (s, .err .invalidArgument)                  -- FieldUpdater.Validate
  else if maskInvalid w.reset then (s, .err .internal)                      -- … "resetMask mentions unknown fields"
  else
    -- modes.Update(mode.Id, mode, opts..., WithMoreUpdatePaths("id"))
    match find s m.id with
    | some old =>
      if w.expectAbsent then (s, .err .alreadyExists)                       -- ExpectAbsentPreconditionFailed
      else if expectedFails w.expected old then (s, .err .failedPrecondition) -- ExpectedValuePreconditionFailed
      else match checkFails w old with
        | some c => (s, .err c)                                             -- WithExpectedCheck
        | none =>
          let new := written old m mask w
          ({ s with modes := storeAt m.id new s.modes }, .ok (some new))
    | none =>
      if !w.createIfAbsent then (s, .err .notFound)
      else if expectedFails w.expected Mode.blank then (s, .err .failedPrecondition)
      else match checkFails w Mode.blank with
        | some c => (s, .err c)
        | none =>
          -- upsert: the record is created from the blank message
          let new := written Mode.blank m mask w
          ({ s with modes := insertAt m.id new s.modes }, .ok (some new))

/-- `WithExpectedCheck` on a delete: the error the caller's check returns for the stored value -/
def dcheckFails (d : DOpts) (current : Mode) : Option Code :=
  match d.check with
  | none => none
  | some f => f current

def deleteMode (s : St) (id : String) (allowMissing : Bool) (d : DOpts) : St × Res :=
  if id = s.active.id then (s, .err .failedPrecondition)                     -- ErrDeleteActiveMode
  else match find s id with
    -- modes.Delete(id, opts...): a missing item is settled before any precondition is looked at
    | none => if allowMissing then (s, .ok none) else (s, .err .notFound)
    | some old =>
      match dcheckFails d old with
      | some c => (s, .err c)                                                -- WithExpectedCheck (first)
      | none =>
        if expectedFails d.expected old then (s, .err .failedPrecondition)   -- ExpectedValuePreconditionFailed
        else ({ s with modes := eraseMode id s.modes }, .ok none)

def setActive (s : St) (m : Mode) : St × Res :=
  match find s m.id with
  | none => (s, .err .notFound)
  | some _ => ({ s with active := m, changed := true }, .ok none)

def changeToNormal (s : St) (now : Nat) : St × Res :=
  match normalMode s with
  | none => (s, .err .notFound)
  | some n => changeActive s n.id now

/-- One operation. -/
def step (s : St) : Op → St × Res
  | .create m cands => if m.id ≠ "" then (s, .panic) else createOrAdd s m cands      -- panic("ID field is set")
  | .add m =>
    if m.id = "" then (s, .panic)                                                     -- panic("ID field is not set")
    else match createOrAdd s m [] with
      | (s', .ok _) => (s', .ok none)
      | r => r
  | .update m mask w => if m.id = "" then (s, .err .notFound) else updateMode s m mask w     -- eb62186: "" names no mode
  | .delete id am ex => deleteMode s id am ex
  | .setActive m => setActive s m
  | .changeActive id now => changeActive s id now
  | .clear now => changeToNormal s now
  | .findMode id => (s, match find s id with | some m => .ok (some m) | none => .err .notFound)
  | .sCreate m cands => if m.id ≠ "" then (s, .err .invalidArgument) else createOrAdd s m cands
  | .sUpdate m mask => if m.id = "" then (s, .err .invalidArgument) else updateMode s m mask {}
  | .sDelete id am =>
    if id = "" then (s, .err .invalidArgument)
    else match deleteMode s id am {} with
      | (s', .ok _) => (s', .ok none)
      | r => r
  | .sChangeActive id now => if id = "" then (s, .err .invalidArgument) else changeActive s id now
  | .sClear now => changeToNormal s now
  | .sCreateNil => (s, .err .invalidArgument)                                         -- ca6ca35: "mode is required"

def run (s : St) : List Op → St
  | [] => s
  | op :: ops => run (step s op).1 ops

/-! ### The code before the fixes (kept to state what the repaired defects were) -/

/-- the CreateMode RPC without a mode before ca6ca35: `request.GetMode().GetId()` is nil safe, the id check passed,
and `Model.CreateMode(nil)` dereferenced nil -/
def sCreateNilUnfixed (s : St) : St × Res := (s, .panic)

def updateModeUnfixed (s : St) (m : Mode) (mask : Option Mask) : St × Res :=
  if maskInvalid mask then (s, .err .invalidArgument)
  else match find s m.id with
    | none => (s, .err .notFound)
    | some old =>
      let new := mergeMode old m mask                  -- (a non-nil mask with no paths changes nothing)
      ({ s with modes := replaceMode new s.modes }, .ok (some new))

/-- `Collection.Update` as `updateMode` called it before the upsert fix: the caller's mask as it is. An
upsert (`WithCreateIfAbsent`) under a mask without `id` stored a record whose `Id` field was empty,
i.e. not the key it was stored under. -/
def upsertRecordUnfixed (m : Mode) (mask : Option Mask) : Mode := mergeMode Mode.blank m mask

def deleteModeUnfixed (s : St) (id : String) (_allowMissing : Bool) : St × Res :=
  if id = s.active.id then (s, .err .failedPrecondition)
  else match find s id with
    | none => (s, .err .notFound)                      -- a nil delete result was mapped to ErrModeNotFound
    | some _ => ({ s with modes := eraseMode id s.modes }, .ok none)

end ScVerif.C19
