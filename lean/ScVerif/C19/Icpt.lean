import ScVerif.C19.Keyed
/-!
C19 — the mode collection behind an ID INTERCEPTOR.

`electricpb.WithModeOption(resource.WithIDInterceptor(c))` (e.g. `strings.ToLower`) makes `resource.Collection` send
every id it is GIVEN through `c` before it reads or writes its map: `Get`, `Update` (hence `Add`), `Delete` look up
`c(id)`, a generated candidate is probed and stored under `c(candidate)`, an initial record is kept under `c(key)`
(215ba16).  The RECORD is stored as the caller wrote it: `AddMode{Id:"B"}` keeps a record with id `B` under the key
`b`.  `model.go` knows nothing of `c`: its guards compare the ids as SPELLED (`id == active.Id`,
`oldMode.Id != newMode.Id`, `normal.Id != mode.Id`).

`ikstep c` follows the code with the interceptor applied exactly where `collection.go` applies it.  With the identity
it is `kstep`; for any `c` it is `kstep` on operations whose ids are spelled canonically (`c id = id`) from states whose
records and active mode carry canonical ids, and there every theorem about `kstep` / `step` holds.  With two spellings of
one id in play equality with `kstep` is lost, the invariants are not (`IcptInv.lean`).
-/
namespace ScVerif.C19

/-- `GenerateUniqueId` with the probe `exists(c(candidate))`, then `genID` returns `c(candidate)` -/
def ikgenId (c : String → String) (k : KSt) (cands : List String) : Option String :=
  ((cands.take 10).find? (fun x => x ≠ "" ∧ (kfind k (c x)).isNone)).map c

/-- `Collection.Update`: `id = c(id)`, then an id is generated when none was GIVEN (929e9c0: decided on the id as
given, before `c`) or when `c` maps the given id to the empty key -/
def ikchooseId (c : String → String) (k : KSt) (m : Mode) (cands : List String) : Option String :=
  if m.id = "" ∨ c m.id = "" then ikgenId c k cands else some (c m.id)

/-- `createOrAddMode`: the id callback writes a GENERATED id into the record; a given id stays as spelled -/
def ikcreateOrAdd (c : String → String) (k : KSt) (m : Mode) (cands : List String) : KSt × Res :=
  if m.normal ∧ (normalMode k.abs).isSome then (k, .err .alreadyExists)
  else
    match ikchooseId c k m cands with
    | none => (k, .err .aborted)
    | some key =>
      if (kfind k key).isSome then (k, .err .alreadyExists)
      else
        let m' := if m.id = "" ∨ c m.id = "" then { m with id := key } else m
        ({ k with recs := kinsert key m' k.recs }, .ok (some m'))

def ikchangeActive (c : String → String) (k : KSt) (id : String) (now : Nat) : KSt × Res :=
  match kfind k (c id) with
  | none => (k, .err .notFound)
  | some m =>
    let m' := if k.active.id ≠ m.id then { m with start := some now } else m
    ({ k with active := m', changed := true }, .ok (some m'))

def ikupdateMode (c : String → String) (k : KSt) (m : Mode) (mask : Option Mask) (w : WOpts) : KSt × Res :=
  if m.normal ∧ writesNormal mask ∧ otherNormal k.abs m.id then (k, .err .alreadyExists)
  else if maskInvalid mask then (k, .err .invalidArgument)
  else if maskInvalid w.reset then (k, .err .internal)
  else
    match kfind k (c m.id) with
    | some old =>
      if w.expectAbsent then (k, .err .alreadyExists)
      else if expectedFails w.expected old then (k, .err .failedPrecondition)
      else match checkFails w old with
        | some e => (k, .err e)
        | none =>
          let new := written old m mask w
          ({ k with recs := kstore (c m.id) new k.recs }, .ok (some new))
    | none =>
      if !w.createIfAbsent then (k, .err .notFound)
      else if expectedFails w.expected Mode.blank then (k, .err .failedPrecondition)
      else match checkFails w Mode.blank with
        | some e => (k, .err e)
        | none =>
          let new := written Mode.blank m mask w
          ({ k with recs := kinsert (c m.id) new k.recs }, .ok (some new))

/-- `modes.Delete(id, opts...)`: the collection goes to the canonical key -/
def ikdeleteBody (c : String → String) (k : KSt) (id : String) (allowMissing : Bool) (d : DOpts) : KSt × Res :=
  match kfind k (c id) with
  | none => if allowMissing then (k, .ok none) else (k, .err .notFound)
  | some old =>
    match dcheckFails d old with
    | some e => (k, .err e)
    | none =>
      if expectedFails d.expected old then (k, .err .failedPrecondition)
      else ({ k with recs := kerase (c id) k.recs }, .ok none)

/-- the second and third guard of `deleteMode` (00bc77e, c078347); `findMode` goes through the interceptor: the mode
stored under `c id` carries the active mode's id, or the active mode's id, unless empty (6e97ca4), finds (under
`c active.id`) a stored mode carrying the same id as the one `id` finds -/
def iknamesActive (c : String → String) (k : KSt) (id : String) : Bool :=
  match kfind k (c id) with
  | none => false
  | some st =>
    decide (st.id = k.active.id) ||
      (decide (k.active.id ≠ "") &&
        match kfind k (c k.active.id) with
        | none => false
        | some cur => decide (cur.id = st.id))

/-- `deleteMode`: the first guard compares SPELLINGS, the others look at what the collection finds -/
def ikdeleteMode (c : String → String) (k : KSt) (id : String) (allowMissing : Bool) (d : DOpts) : KSt × Res :=
  if id = k.active.id then (k, .err .failedPrecondition)
  else if iknamesActive c k id then (k, .err .failedPrecondition)
  else ikdeleteBody c k id allowMissing d

/-- `deleteMode` before 00bc77e: the only guard compared spellings (the shape `C19_icpt_fails` is about) -/
def ikdeleteModeUnfixed (c : String → String) (k : KSt) (id : String) (allowMissing : Bool) (d : DOpts) : KSt × Res :=
  if id = k.active.id then (k, .err .failedPrecondition)
  else ikdeleteBody c k id allowMissing d

/-- `deleteMode` as of 00bc77e alone (second guard, not the third): what `C19_icpt_respell_fails` is about -/
def ikdeleteModeHalf (c : String → String) (k : KSt) (id : String) (allowMissing : Bool) (d : DOpts) : KSt × Res :=
  if id = k.active.id then (k, .err .failedPrecondition)
  else if (kfind k (c id)).map (·.id) = some k.active.id then (k, .err .failedPrecondition)
  else ikdeleteBody c k id allowMissing d

def iksetActive (c : String → String) (k : KSt) (m : Mode) : KSt × Res :=
  match kfind k (c m.id) with
  | none => (k, .err .notFound)
  | some _ => ({ k with active := m, changed := true }, .ok none)

def ikchangeToNormal (c : String → String) (k : KSt) (now : Nat) : KSt × Res :=
  match normalMode k.abs with
  | none => (k, .err .notFound)
  | some n => ikchangeActive c k n.id now

def ikstep (c : String → String) (k : KSt) : Op → KSt × Res
  | .create m cands => if m.id ≠ "" then (k, .panic) else ikcreateOrAdd c k m cands
  | .add m =>
    if m.id = "" then (k, .panic)
    else match ikcreateOrAdd c k m [] with
      | (k', .ok _) => (k', .ok none)
      | r => r
  | .update m mask w => if m.id = "" then (k, .err .notFound) else ikupdateMode c k m mask w
  | .delete id am d => ikdeleteMode c k id am d
  | .setActive m => iksetActive c k m
  | .changeActive id now => ikchangeActive c k id now
  | .clear now => ikchangeToNormal c k now
  | .findMode id => (k, match kfind k (c id) with | some m => .ok (some m) | none => .err .notFound)
  | .sCreate m cands => if m.id ≠ "" then (k, .err .invalidArgument) else ikcreateOrAdd c k m cands
  | .sUpdate m mask => if m.id = "" then (k, .err .invalidArgument) else ikupdateMode c k m mask {}
  | .sDelete id am =>
    if id = "" then (k, .err .invalidArgument)
    else match ikdeleteMode c k id am {} with
      | (k', .ok _) => (k', .ok none)
      | r => r
  | .sChangeActive id now => if id = "" then (k, .err .invalidArgument) else ikchangeActive c k id now
  | .sClear now => ikchangeToNormal c k now
  | .sCreateNil => (k, .err .invalidArgument)

def ikrun (c : String → String) (k : KSt) : List Op → KSt
  | [] => k
  | op :: ops => ikrun c (ikstep c k op).1 ops

/-- `NewCollection`: an initial record is kept under `c(key)`; two keys with one image panic (215ba16) -/
def KSt.iconfig? (c : String → String) (recs : List Rec) (active : Mode) : Option KSt :=
  KSt.config? (recs.map (fun e => (c e.1, e.2))) active

/-- the key the collection writes (and names in the event it publishes) -/
def ikwrittenKey (c : String → String) (k : KSt) : Op → Option String
  | .create m cands => if m.id ≠ "" then none else ikchooseId c k m cands
  | .sCreate m cands => if m.id ≠ "" then none else ikchooseId c k m cands
  | .add m => if m.id = "" then none else ikchooseId c k m []
  | .update m _ _ => if m.id = "" then none else some (c m.id)
  | .sUpdate m _ => if m.id = "" then none else some (c m.id)
  | .delete id _ _ => some (c id)
  | .sDelete id _ => if id = "" then none else some (c id)
  | _ => none

def ikmodeEvents (c : String → String) (k : KSt) (op : Op) : List ModeEvent :=
  match ikwrittenKey c k op with
  | none => []
  | some key => diff1 (kfind k key) (kfind (ikstep c k op).1 key)

def ikactiveEvents (c : String → String) (k : KSt) (op : Op) : List Mode :=
  if setsActive op ∧ (ikstep c k op).2.isOk ∧ (k.changed = false ∨ (ikstep c k op).1.active ≠ k.active)
  then [(ikstep c k op).1.active] else []

/-- every stored record carries a canonical id -/
def RecsCanon (c : String → String) (k : KSt) : Prop := ∀ e ∈ k.recs, c e.2.id = e.2.id

/-- the active mode carries a canonical id (it is a copy of a stored record, or was set by a canonical caller) -/
def ActCanon (c : String → String) (k : KSt) : Prop := k.active.id = "" ∨ c k.active.id = k.active.id

end ScVerif.C19
