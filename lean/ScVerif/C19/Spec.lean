import ScVerif.C19.Electric
/-!
What the theorems about `Electric.lean` assume and claim, as definitions: the invariant `Inv`, tameness of the caller-supplied
code in the options of an `UpdateMode`, what the configuration must satisfy, canonical spelling of an operation's ids.
-/
namespace ScVerif.C19

/-- The inductive invariant; `p` is the placeholder active mode the model was configured with
(`Mode.blank` by default, or the argument of `WithInitialActiveMode`). -/
structure Inv (p : Mode) (s : St) : Prop where
  /-- mode ids are unique (the collection is a map) -/
  nodup : (s.modes.map (·.id)).Nodup
  /-- I1 (pairwise form): any two normal modes are the same mode -/
  i1 : ∀ x ∈ s.modes, ∀ y ∈ s.modes, x.normal = true → y.normal = true → x = y
  /-- I2/I3: once changed, the active id refers to a stored mode -/
  i3 : s.changed = true → ∃ x ∈ s.modes, x.id = s.active.id
  /-- before the first change the active mode is the configured placeholder -/
  blank : s.changed = false → s.active = p

/-- What the invariants need from the caller's own code and reset mask in the options of an `UpdateMode`: the
record that is written keeps the id of the request and is not turned normal behind the guard's back.  For an
interceptor `f old new`: it leaves the id alone, and the result is normal only if `new` was or the stored
record was.  The reset mask does not name `id`.  Options without interceptors and reset mask are tame
(`tame_plain`); so is everything the servers do. -/
def WOpts.Tame (w : WOpts) : Prop :=
  (∀ k, w.reset = some k → Field.id ∉ k.paths) ∧
  (∀ f, w.before = some f → ∀ old m : Mode,
    (f old m).id = m.id ∧ ((f old m).normal = true → m.normal = true ∨ old.normal = true)) ∧
  (∀ g, w.after = some g → ∀ old n : Mode,
    (g old n).id = n.id ∧ ((g old n).normal = true → n.normal = true ∨ old.normal = true))

def Op.Tame : Op → Prop
  | .update _ _ w => w.Tame
  | _ => True

/-- What the configuration must satisfy (the code does not check it): the initial modes have distinct
ids and at most one of them is normal. -/
def InitOk (modes : List Mode) : Prop :=
  (modes.map (·.id)).Nodup ∧ ∀ x ∈ modes, ∀ y ∈ modes, x.normal = true → y.normal = true → x = y

/-- behind an id interceptor `c` of the mode collection (`Icpt.lean`): every id the operation names is spelled canonically
(`c id = id`); ids the RNG proposes too -/
def OpCanon (c : String → String) : Op → Prop
  | .create m cands => c m.id = m.id ∧ ∀ x ∈ cands, c x = x
  | .sCreate m cands => c m.id = m.id ∧ ∀ x ∈ cands, c x = x
  | .add m => c m.id = m.id
  | .update m _ _ => c m.id = m.id
  | .sUpdate m _ => c m.id = m.id
  | .delete id _ _ => c id = id
  | .sDelete id _ => c id = id
  | .setActive m => c m.id = m.id
  | .changeActive id _ => c id = id
  | .sChangeActive id _ => c id = id
  | .findMode id => c id = id
  | .clear _ => True
  | .sClear _ => True
  | .sCreateNil => True

end ScVerif.C19
