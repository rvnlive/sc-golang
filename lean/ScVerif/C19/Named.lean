import ScVerif.C19.Electric
/-!
The small closed family of named caller-supplied callbacks the driver and the Go harness share
(`harness/cmd/c19/options.go` has the same functions on `*traits.ElectricMode`).  The theorems quantify over
ARBITRARY functions (`WOpts.Tame` is the hypothesis); this family only feeds the differential tie.
-/
namespace ScVerif.C19

/-- `resource.InterceptBefore` / `resource.InterceptAfter` callbacks by name: `f old new` is what the callback
leaves in `new`. -/
def namedIcpt? : String → Option (Mode → Mode → Mode)
  | "tp" => some fun old n => { n with title := old.title ++ "+" }      -- delta-style: depends on the old value
  | "ds" => some fun old n => { n with description := old.title }
  | "n0" => some fun _ n => { n with normal := false }
  | "nk" => some fun old n => { n with normal := old.normal }            -- keep the stored flag
  | "n1" => some fun _ n => { n with normal := true }                    -- NOT tame
  | "i0" => some fun _ n => { n with id := "" }                          -- NOT tame
  | "iz" => some fun _ n => { n with id := "zz" }                        -- NOT tame
  | _ => none

/-- `resource.WithExpectedCheck` callbacks by name: the error for the current value, if any. -/
def namedCheck? : String → Option (Mode → Option Code)
  | "cn" => some fun cur => if cur.normal then none else some .failedPrecondition
  | "ct" => some fun cur => if cur.title = "" then some .notFound else none
  | "ca" => some fun cur => if cur.normal then none else some .aborted
  | "ok" => some fun _ => none
  | "pk" => some fun _ => none                 -- the parking check of the forced-overlap rounds: never refuses
  | _ => none

end ScVerif.C19
