import ScVerif.C09.Codec
import ScVerif.C09.SendTimeout
import ScVerif.C09.MapQueue
import ScVerif.C09.Subs
import ScVerif.C09.Include
import ScVerif.C09.Seed
import ScVerif.C09.Mixed
import ScVerif.C09.Bus
import ScVerif.C09.Writers
import ScVerif.C09.ReadOpts
import ScVerif.C09.UpdateKind
import ScVerif.C09.DeleteRetry
import ScVerif.C09.TraitAdapter
/-! Driver handler for C09.

* `merge <a> <b>`                 → `mergeChanges a b` (`drop` when `send == false`)
* `mrun <move>*`                  moves `r:<change>` (offer one input) / `e` (take one output) on the
                                  `mergeCollectionExcess` machine AS CODED (messages map + queue of ids, `MapQueue.lean`) from its initial state →
                                  `<out>;…|<pending>` with one `<out>` per `e` move (`none` = not enabled)
* `tstream <move>*`               `mrun`, and what the machine emits piped through a trait package's conversion stage
                                  (`arun (castChange f)`, TraitAdapter.lean; `f` prefixes the message with `t`; take / deliver
                                  alternating) → the changes the trait's subscriber receives, `;`-separated
* `drun <move>*`                  the same for `DropExcess` over opaque tokens: `r:<tok>` / `e`
* `send <deadline> <listener>*`   `Bus.Send` with a deadline over listeners `<readyAt>/<cancelledAt>` (`-` = never)
                                  → `ok@<t>` or `deadline@<t>`
* `vrun <equiv> <mask> <seed> <move>*`  the lossy `Value.Pull` pipeline (`vstepF`, Subs.lean) from the state right after
                                  subscribing (seed in hand; `-` = no seed), forwarder scheduled greedily (one `take`
                                  attempt after every move): moves `w:<tok>` (a write reaches the DropExcess slot) /
                                  `d` (the consumer receives); equivalences `never|eq|class|near`, mask `0|1`
                                  (`1`: tokens `sn[@t]` are filtered to `s0[@t]`) → per move `<takes>` / `<value|none>,<takes>`
                                  (cumulative number of takes = calls of the equivalence), then `|` and the values
                                  a consumer draining to quiescence receives
* `crun <kind,…> <seeds> <move>*` several subscribers on one bus (`sysStep`), each subscribed with the seed changes
                                  `<seeds>` (`;`-separated, `-` = none: one ADD per stored item; each subscriber keeps the ones its
                                  filter admits) and scheduled greedily: kinds `pull` / `pull!` (updates only: no seeds) /
                                  `id:<i>` (PullID), each optionally `~<include>` (`WithInclude`: `all|odd|even|ida`; the forwarder
                                  transform is `includeChange f`, Include.lean); moves `s:<change>` (Bus.Send) / `d<k>` (consumer k receives)
                                  → per move `[<out>@]<seen0>/<seen1>/…`, then per subscriber `|` and its drain
* `brun <seed> <move>*`           one backpressured subscriber (`bstep`) and ONE writer: moves `w` (the writer starts its
                                  next write `t<n>` unless one is still waiting) / `d` (the consumer receives; a waiting
                                  write then goes through) → per move `ok:t` | `wait:t` | `still:t` / `<value|none>[+t]`,
                                  then `|` and what a consumer draining to quiescence receives
* `xrun <L|B,…> <seed> <move>*`   lossy (`L`) and backpressured (`B`) subscribers MIXED on one bus in registration order
                                  (`xstep`, Mixed.lean) and ONE writer; `Bus.Send` advances greedily listener by listener, lossy
                                  forwarders take greedily: moves `w` (the writer starts its next write `t<n>` unless one is still
                                  waiting) / `d<k>` (consumer k receives once) → per move `ok:t` | `wait:t` | `still:t` /
                                  `<value|none>[+t]` (`+t`: the waiting write completed as a result), each followed by
                                  `@<looks0>/<looks1>/…#<p>` (how many events each forwarder has taken so far, and the listener the
                                  waiting send is at, `-` = none: used for waiting only)
* `busrun <move>*`                `minibus.Bus` with several `Send`s in progress (`busStep`, Bus.lean), senders scheduled greedily
                                  (a sender skips cancelled listeners at once, parks at the first live one behind the senders
                                  already parked there, returns past its last listener): moves `l` (Listen) / `c<k>` (cancel
                                  listener k; `!race` if a sender is parked at it) / `s` (a new sender starts) / `r<k>` (listener
                                  k's channel is received from once) → per move `ok` / `e<n>:<pos>` / `<n>:<pos>` | `none` with
                                  `<pos>` = `ret` | `p<k>#<visited+1>`, then `|` and per listener the events it was handed
* `wrun <id=val,…|-> <move>*`     several writers on one collection (`wstep`, Writers.lean): moves `u:<id>:<val>` (an Update / Add
                                  commits; its event is pending) / `p<n>` (the n-th pending event is published) / `x:<id>` (Delete:
                                  commit and publication together) → the events in the order the bus gets them
* `ropts <opt>*`                  `ComputeReadConfig` over the read options in the order given (`bp1|bp0` = WithBackpressure,
                                  `uo1|uo0` = WithUpdatesOnly, `e` = an option that touches neither) and the branch in `onUpdate`
                                  (ReadOpts.lean) → `bp=<0|1> uo=<0|1> path=<lossy|blocking>`
* `ucommit <cia> <atRead> <atCommit> <msg>`  `Collection.Update` of one item (UpdateKind.lean): `firstRead` at a store holding
                                  `<atRead>` for it, `commit` at a store holding `<atCommit>` (`-` = absent, `_` = the empty message, which
                                  is also the provisional message; `<cia>` = `1|0`: WithCreateIfAbsent) → `NotFound` | `Aborted` |
                                  `<KIND>,<old>,<new>`
* `dcommit <am> <expect> <atRead> <w>*`  `Collection.Delete` of one item (DeleteRetry.lean): the optimistic read finds `<atRead>`,
                                  attempt k finds `<w_k>` stored under the write lock (after the last one given the store stays as
                                  it is); an item is `<body>#<ptr>` (`_` = the empty message) or `-`; `<am>` = WithAllowMissing,
                                  `<expect>` = `n` | the WithExpectedValue body → `NotFound` | `nil` | `FailedPrecondition,<body>` |
                                  `Unavailable` | `REMOVE,<old>,ret=<body>,attempt=<k>`
* `set <deadline> <listener>*`    `Value.set` after its commit: `Bus.Send` as above, then the error mapping
                                  (`setReturnsError`) → `error@<t>` or `ok@<t>`
-/
namespace ScVerif.C09
open ScVerif.Line

def parseMove? (s : String) : Option (Move SChange) :=
  if s = "e" then some .emit
  else match s.splitOn ":" with
    | ["r", c] => (parseChange? c).map .recv
    | _ => none

def parseDMove? (s : String) : Option (Move String) :=
  if s = "e" then some .emit
  else match s.splitOn ":" with
    | ["r", c] => if c = "" then none else some (.recv c)
    | _ => none

def showOut (f : α → String) : Option α → String
  | none => "none" | some o => f o

def showOuts (xs : List String) : String := if xs.isEmpty then "-" else ";".intercalate xs

def parseOptNat? (s : String) : Option (Option Nat) :=
  if s = "-" then some none else (parseNat? s).map some

def parseListener? (s : String) : Option Listener :=
  match s.splitOn "/" with
  | [r, c] => do
    let r ← parseOptNat? r
    let c ← parseOptNat? c
    pure ⟨r, c⟩
  | _ => none

def showSendResult : SendResult → String
  | .ok t => "ok@" ++ toString t
  | .deadlineExceeded t => "deadline@" ++ toString t

/-! #### Value pipeline (tokens are two-character values `sn`, optionally followed by `@<t>`: the change
time the write was stamped with — not monotonic in write order: `WithWriteTime`, a clock stepped back; nothing in
the modelled code looks at it, it travels with the value) -/

def tokHead (s : String) : Nat := (s.toList.headD '0').toNat

/-- the value part of a token -/
def tokVal (s : String) : List Char := s.toList.take 2

def validTok (t : String) : Bool :=
  t.length == 2 || (t.length > 3 && (t.toList.drop 2).head? == some '@')

def namedEquiv? : String → Option (Option String → String → Bool)
  | "never" => some (fun _ _ => false)
  | "eq" => some (fun l v => match l with | some a => tokVal a == tokVal v | none => false)
  | "class" => some (fun l v => match l with | some a => tokHead a == tokHead v | none => false)
  | "near" => some (fun l v => match l with
      | some a => (tokHead a ≤ tokHead v + 1) && (tokHead v ≤ tokHead a + 1) | none => false)
  | _ => none

def namedFilter? : String → Option (String → String)
  | "0" => some id
  | "1" => some (fun s => match s.toList with | a :: _ :: rest => String.ofList (a :: '0' :: rest) | _ => s)
  | _ => none

inductive VM where | w (t : String) | d

def parseVM? (s : String) : Option VM :=
  if s = "d" then some .d
  else match s.splitOn ":" with
    | ["w", t] => if validTok t then some (.w t) else none
    | _ => none

/-- one `take` attempt; the counter counts the takes that happened -/
def vtake (E : Option String → String → Bool) (F : String → String) (c : VCfg String × Nat) : VCfg String × Nat :=
  let took := c.1.inHand.isNone && c.1.slot.isSome
  (vstepF E F c.1 .take, if took then c.2 + 1 else c.2)

def vrunDrv (E : Option String → String → Bool) (F : String → String) :
    VCfg String × Nat → List VM → List String → List String × (VCfg String × Nat)
  | c, [], acc => (acc.reverse, c)
  | c, .w t :: ms, acc =>
    let c' := vtake E F (vstepF E F c.1 (.recv t), c.2)
    vrunDrv E F c' ms (toString c'.2 :: acc)
  | c, .d :: ms, acc =>
    let o := match c.1.inHand with | some v => v | none => "none"
    let c' := vtake E F (vstepF E F c.1 .deliver, c.2)
    vrunDrv E F c' ms ((o ++ "," ++ toString c'.2) :: acc)

def vdrain (E : Option String → String → Bool) (F : String → String) : Nat → VCfg String → List String
  | 0, _ => []
  | n + 1, c =>
    match c.inHand with
    | some v => v :: vdrain E F n (vstepF E F (vstepF E F c .deliver) .take)
    | none => if c.slot.isSome then vdrain E F n (vstepF E F c .take) else []

/-! #### several subscribers on one bus -/

abbrev SSub := Sub String String

def tokLastDigit (s : String) : Nat := (s.toList.getLast?.getD '0').toNat - '0'.toNat

/-- the closed family of `WithInclude` functions shared with the harness (values are tokens ending in a digit) -/
def namedInclude? : String → Option (String → String → Bool)
  | "all" => some (fun _ _ => true)
  | "odd" => some (fun _ v => tokLastDigit v % 2 == 1)
  | "even" => some (fun _ v => tokLastDigit v % 2 == 0)
  | "ida" => some (fun i _ => i == "a")
  | _ => none

/-- the seed changes of a subscription: `sd` lists one ADD per stored item, sorted by id; the model's
`seedChanges` (Seed.lean; `C09_seed_list`) keeps the admitted ones and flags the last of THOSE -/
def seedsFor (f : String → String → Bool) (sd : List SChange) : List SChange :=
  seedChanges f (sd.filterMap (fun c => c.new.map (fun v => (c.id, v, c.time))))

def parseKindSub? (sd : List SChange) (s : String) : Option SSub := do
  let (k, f) ← ((match s.splitOn "~" with
    | [k] => some (k, fun _ _ => true)
    | [k, n] => (namedInclude? n).map (fun f => (k, f))
    | _ => none) : Option (String × (String → String → Bool)))
  let T := includeChange f
  if k = "pull" then some (Sub.init none T (seedsFor f sd))
  else if k = "pull!" then some (Sub.init none T [])          -- WithUpdatesOnly: no seeds
  else match k.splitOn ":" with
    | ["id", i] => if i = "" then none else some (Sub.init (some i) T (seedsFor f sd))
    | ["id!", i] => if i = "" then none else some (Sub.init (some i) T [])
    | _ => none

inductive CM where | s (e : SChange) | d (k : Nat)

def parseCM? (s : String) : Option CM :=
  match s.splitOn ":" with
  | ["s", c] => (parseChange? c).map .s
  | [t] => match t.toList with
    | 'd' :: ds => (parseNat? (String.ofList ds)).map .d
    | _ => none
  | _ => none

/-- greedy local schedule of one subscriber: take / hand until nothing moves (enough fuel for every
pending change to be skipped) -/
def greedy (s : SSub) : SSub :=
  let n := s.q.s.seeds.length + s.q.s.p.st.pending.length + 2
  (List.range n).foldl (fun s _ => subStep (subStep (subStep s .take) .hand) .take) s

/-- per subscriber: how many values its forwarder has looked at so far (one per present old/new value of
every change it took) — the number of calls an accept-all `WithInclude` function has seen; used by the
harness only to wait until the real forwarder has caught up with the greedy schedule -/
def takesOf (subs : List SSub) : String :=
  "/".intercalate (subs.map (fun s => toString
    (s.q.s.p.taken.foldl (fun n e => n + (if e.old.isSome then 1 else 0) + (if e.new.isSome then 1 else 0)) 0)))

/-- what consumer `k` receives now (`none`: nothing offered; `closed`: PullID ended) -/
def offerOf (s : SSub) : String :=
  match s.watch with
  | none => match s.q.s.offer with | some d => showChange d | none => "none"
  | some _ => match s.q.hand2 with
    | some v => v
    | none => if s.q.ended then "closed" else "none"

def crunDrv : List SSub → List CM → List String → List String × List SSub
  | subs, [], acc => (acc.reverse, subs)
  | subs, .s e :: ms, acc =>
    let subs' := (sysStep subs (.send e)).map greedy
    crunDrv subs' ms (takesOf subs' :: acc)
  | subs, .d k :: ms, acc =>
    let o := match subs[k]? with | some s => offerOf s | none => "none"
    let subs' := (sysStep subs (.loc k .deliver)).map greedy
    crunDrv subs' ms ((o ++ "@" ++ takesOf subs') :: acc)

def cdrain : Nat → SSub → List String
  | 0, _ => []
  | n + 1, s =>
    match offerOf s with
    | "none" => []
    | "closed" => ["closed"]
    | o => o :: cdrain n (greedy (subStep s .deliver))

/-! #### one backpressured subscriber, one writer -/

structure BDrv where
  c : BCfg String
  pending : Option String
  next : Nat

def boffer (c : BCfg String) (t : String) : BCfg String × Bool :=
  let c' := bstep c (.offer t)
  (c', c.inHand.isNone)

def brunDrv : BDrv → List String → List String → Option (List String × BDrv)
  | st, [], acc => some (acc.reverse, st)
  | st, "w" :: ms, acc =>
    match st.pending with
    | some t => brunDrv st ms (("still:" ++ t) :: acc)
    | none =>
      let t := "t" ++ toString st.next
      let r := boffer st.c t
      if r.2 then brunDrv { st with c := r.1, next := st.next + 1 } ms (("ok:" ++ t) :: acc)
      else brunDrv { st with pending := some t, next := st.next + 1 } ms (("wait:" ++ t) :: acc)
  | st, "d" :: ms, acc =>
    let o := match st.c.inHand with | some v => v | none => "none"
    let c' := bstep st.c .deliver
    match st.pending with
    | some t => brunDrv { st with c := (boffer c' t).1, pending := none } ms ((o ++ "+" ++ t) :: acc)
    | none => brunDrv { st with c := c' } ms (o :: acc)
  | _, _ :: _, _ => none

def bdrain : Nat → BDrv → List String
  | 0, _ => []
  | n + 1, st =>
    match st.c.inHand with
    | some v =>
      let c' := bstep st.c .deliver
      match st.pending with
      | some t => v :: bdrain n { st with c := (boffer c' t).1, pending := none }
      | none => v :: bdrain n { st with c := c' }
    | none => []

/-! #### lossy and backpressured subscribers mixed on one bus, one writer -/

def xNever : Option String → String → Bool := fun _ _ => false

structure XDrv where
  c : MixCfg String
  next : Nat

/-- `Bus.Send` goes on as far as it can, then every lossy forwarder takes what it can -/
def xsettle (c : MixCfg String) : MixCfg String :=
  let c := (List.range (c.subs.length + 1)).foldl (fun c _ => xstep xNever id c .advance) c
  (List.range c.subs.length).foldl (fun c k => xstep xNever id c (.loc k .take)) c

def xlooks (seedN : Nat) (c : MixCfg String) : String :=
  "/".intercalate (c.subs.map (fun s => toString (match s with
    | .lossy v => v.delivered.length + v.inHand.toList.length - seedN
    | .bp b => b.accepted.length - seedN)))
  ++ "#" ++ (match c.sending with | some (_, p) => toString p | none => "-")

def xoffer (c : MixCfg String) (k : Nat) : String :=
  match c.subs[k]? with
  | some (.lossy v) => v.inHand.getD "none"
  | some (.bp b) => b.inHand.getD "none"
  | none => "none"

def xpending (c : MixCfg String) : Option String := c.sending.map (·.1)

def xrunDrv (seedN : Nat) : XDrv → List String → List String → Option (List String)
  | _, [], acc => some acc.reverse
  | st, "w" :: ms, acc =>
    match xpending st.c with
    | some t => xrunDrv seedN st ms (("still:" ++ t ++ "@" ++ xlooks seedN st.c) :: acc)
    | none =>
      let t := "t" ++ toString st.next
      let c' := xsettle (xstep xNever id st.c (.write t))
      let o := (if (xpending c').isNone then "ok:" else "wait:") ++ t
      xrunDrv seedN ⟨c', st.next + 1⟩ ms ((o ++ "@" ++ xlooks seedN c') :: acc)
  | st, m :: ms, acc =>
    match m.toList with
    | 'd' :: ds => do
      let k ← parseNat? (String.ofList ds)
      let o := xoffer st.c k
      let c' := xsettle (xstep xNever id st.c (.loc k .deliver))
      let o := match xpending st.c, xpending c' with
        | some t, none => o ++ "+" ++ t
        | _, _ => o
      xrunDrv seedN ⟨c', st.next⟩ ms ((o ++ "@" ++ xlooks seedN c') :: acc)
    | _ => none


/-! #### the bus with several senders (Bus.lean), senders scheduled greedily -/

structure BusDrv where
  c : BusCfg
  stamps : List (Nat × Nat)   -- event ↦ when its sender parked where it stands (FIFO of a channel's senders)
  vis : List (Nat × Nat)      -- event ↦ listeners its sender has dealt with
  clock : Nat

def lookupD (l : List (Nat × Nat)) (e : Nat) : Nat := ((l.find? (fun p => p.1 == e)).map (·.2)).getD 0

def setKV (l : List (Nat × Nat)) (e v : Nat) : List (Nat × Nat) := (e, v) :: l.filter (fun p => !(p.1 == e))

def busSendOf (c : BusCfg) (e : Nat) : Option BSend := c.sends.find? (fun s => s.ev == e)

/-- the sender of `e` goes on while nothing holds it: skips cancelled listeners, returns past the last one -/
def busGreedy : Nat → BusDrv → Nat → BusDrv
  | 0, st, _ => st
  | fuel + 1, st, e =>
    match busSendOf st.c e with
    | none => st
    | some s =>
      match s.rest with
      | [] => { st with c := busStep st.c (.finish e) }
      | k :: _ =>
        if st.c.cancelled.contains k then
          busGreedy fuel { st with c := busStep st.c (.visit e), vis := setKV st.vis e (lookupD st.vis e + 1) } e
        else st

def busPos (st : BusDrv) (e : Nat) : String :=
  match busSendOf st.c e with
  | none => "ret"
  | some s =>
    match s.rest with
    | [] => "ret"
    | k :: _ => "p" ++ toString k ++ "#" ++ toString (lookupD st.vis e + 1)

def busPark (st : BusDrv) (e : Nat) : BusDrv :=
  { st with stamps := setKV st.stamps e st.clock, clock := st.clock + 1 }

/-- the senders parked at listener `k`, the one that arrived first in front -/
def busParkedAt (st : BusDrv) (k : Nat) : Option Nat :=
  let ps := st.c.sends.filter (fun s => s.rest.head? == some k)
  ps.foldl (fun best s =>
    match best with
    | none => some s.ev
    | some b => if lookupD st.stamps s.ev < lookupD st.stamps b then some s.ev else some b) none

def busrunDrv : BusDrv → List String → List String → Option (List String × BusDrv)
  | st, [], acc => some (acc.reverse, st)
  | st, m :: ms, acc =>
    match m.toList with
    | ['l'] => busrunDrv { st with c := busStep st.c .listen } ms ("ok" :: acc)
    | ['s'] =>
      let e := st.c.nextE
      let st := busGreedy (st.c.reg.length + 2) { st with c := busStep st.c .send } e
      let st := busPark st e
      busrunDrv st ms (("e" ++ toString e ++ ":" ++ busPos st e) :: acc)
    | 'c' :: ds => do
      let k ← parseNat? (String.ofList ds)
      if (busParkedAt st k).isSome then none
      else busrunDrv { st with c := busStep st.c (.cancel k) } ms ("ok" :: acc)
    | 'r' :: ds => do
      let k ← parseNat? (String.ofList ds)
      match busParkedAt st k with
      | none => busrunDrv st ms ("none" :: acc)
      | some e =>
        let st := { st with c := busStep st.c (.visit e), vis := setKV st.vis e (lookupD st.vis e + 1) }
        let st := busGreedy (st.c.nextL + 2) st e
        let st := busPark st e
        busrunDrv st ms ((toString e ++ ":" ++ busPos st e) :: acc)
    | _ => none

def showHanded (c : BusCfg) : String :=
  ";".intercalate ((List.range c.nextL).map (fun k =>
    let h := c.handedTo k
    if h.isEmpty then "-" else ",".intercalate (h.map toString)))


/-! #### several writers on one collection (Writers.lean) -/

def parseWStart? (s : String) : Option (View String String) :=
  if s = "-" then some View.empty
  else (s.splitOn ",").foldlM (fun (v : View String String) kv =>
    match kv.splitOn "=" with
    | [k, x] => if k = "" || x = "" then none else some (v.set k (some x))
    | _ => none) View.empty

def parseWMove? (s : String) : Option (WMove String String) :=
  match s.splitOn ":" with
  | ["u", i, v] => if i = "" || v = "" then none else some (.update i v)
  | ["x", i] => if i = "" then none else some (.delete i)
  | [p] => match p.toList with
    | 'p' :: ds => (parseNat? (String.ofList ds)).map .publish
    | _ => none
  | _ => none

def parseXSub? (seed : Option String) : String → Option (MSub String)
  | "L" => some (.lossy (VCfg.subscribed id seed))
  | "B" => some (.bp (match seed with | some s => ⟨some s, [], [s]⟩ | none => BCfg.init))
  | _ => none

def parseStored? (s : String) : Option (Option String) :=
  if s = "" then none else if s = "-" then some none else if s = "_" then some (some "") else some (some s)

def showStored : Option String → String
  | none => "-"
  | some v => if v = "" then "_" else v

def parseSlot? (s : String) : Option (Option (Slot String)) :=
  if s = "-" then some none
  else match s.splitOn "#" with
    | [b, p] => do
      let b ← parseStored? b
      let b ← b
      let p ← parseNat? p
      pure (some ⟨p, b⟩)
    | _ => none

def handle? (toks : List String) : Option String :=
  match toks with
  | "dcommit" :: am :: expect :: atRead :: ws => do
    let am ← parseFlag? am
    let first ← parseSlot? atRead
    let ws ← ws.mapM parseSlot?
    let chk : String → Bool ← (if expect = "n" then some (fun _ => true) else do
      let e ← parseStored? expect
      let e ← e
      pure (fun b => b == e))
    let world : Nat → Option (Slot String) := fun a =>
      match ws[a]? with
      | some w => w
      | none => match ws.getLast? with
        | some w => w
        | none => first
    match deleteCall (ι := String) ⟨"a", am, chk⟩ first world with
    | .notFound => pure "NotFound"
    | .missingOk => pure "nil"
    | .failed b => pure ("FailedPrecondition," ++ showStored (some b))
    | .unavailable => pure "Unavailable"
    | .removed k ret ev =>
      pure (showKind ev.kind ++ "," ++ showStored ev.old ++ ",ret=" ++ showStored (some ret) ++ ",attempt=" ++ toString k)
  | ["ucommit", cia, atRead, atCommit, msg] => do
    let cia ← parseFlag? cia
    let r0 ← parseStored? atRead
    let r1 ← parseStored? atCommit
    if msg = "" || msg = "-" || msg = "_" then none
    let s0 : View String String := View.empty.set "a" r0
    let s1 : View String String := View.empty.set "a" r1
    match firstRead "" s0 ⟨"a", msg, cia⟩ with
    | none => pure "NotFound"
    | some u =>
      match commit "" s1 u with
      | .aborted => pure "Aborted"
      | .ok _ ev => pure (showKind ev.kind ++ "," ++ showStored ev.old ++ "," ++ showStored ev.new)
  | "xrun" :: kinds :: seed :: ms => do
    let sd : Option String := if seed = "-" then none else some seed
    let subs ← (kinds.splitOn ",").mapM (parseXSub? sd)
    let r ← xrunDrv (if sd.isSome then 1 else 0) ⟨⟨subs, none, []⟩, 1⟩ ms []
    pure (" ".intercalate r)
  | "wrun" :: start :: ms => do
    let v ← parseWStart? start
    let ms ← ms.mapM parseWMove?
    pure (showChanges ((wrun (WCfg.init v) ms).published.map (·.2)))
  | "busrun" :: ms =>
    match busrunDrv ⟨BusCfg.init, [], [], 0⟩ ms [] with
    | some r => some (" ".intercalate r.1 ++ "|" ++ showHanded r.2.c)
    | none => some "!race"
  | "brun" :: seed :: ms => do
    let c0 : BCfg String := if seed = "-" then BCfg.init else ⟨some seed, [], [seed]⟩
    let r ← brunDrv ⟨c0, none, 1⟩ ms []
    pure (showOuts r.1 ++ "|" ++ showOuts (bdrain 4 r.2))
  | "vrun" :: eq :: mask :: seed :: ms => do
    let E ← namedEquiv? eq
    let F ← namedFilter? mask
    let cur ← (if seed = "-" then some none else if validTok seed then some (some seed) else none)
    let ms ← ms.mapM parseVM?
    let r := vrunDrv E F (VCfg.subscribed F cur, 0) ms []
    pure (showOuts r.1 ++ "|" ++ showOuts (vdrain E F 8 r.2.1))
  | "crun" :: kinds :: seeds :: ms => do
    let sd ← (if seeds = "-" then some [] else (seeds.splitOn ";").mapM parseChange?)
    let subs ← (kinds.splitOn ",").mapM (parseKindSub? sd)
    let ms ← ms.mapM parseCM?
    let r := crunDrv subs ms []
    pure (" ".intercalate r.1 ++ "|" ++
      "|".intercalate (r.2.map (fun s => showOuts (cdrain (s.q.s.seeds.length + s.q.s.p.st.pending.length + 4) s))))
  | "send" :: dl :: ls => do
    let dl ← parseNat? dl
    let ls ← ls.mapM parseListener?
    pure (showSendResult (busSend dl 0 ls))
  | "set" :: dl :: ls => do
    let dl ← parseNat? dl
    let ls ← ls.mapM parseListener?
    pure ((if setReturnsError dl ls then "error@" else "ok@") ++ toString (busSend dl 0 ls).time)
  | "ropts" :: os => do
    let os ← os.mapM parseROpt?
    let rr := computeReadConfig os
    pure ("bp=" ++ showBool rr.backpressure ++ " uo=" ++ showBool rr.updatesOnly ++ " path=" ++ showPath (pathOf rr))
  | ["merge", a, b] => do
    let a ← parseChange? a
    let b ← parseChange? b
    pure (showOptChange (mergeChanges a b))
  | "mrun" :: ms => do
    let ms ← ms.mapM parseMove?
    -- the machine exactly as coded (map + queue); `C09_map_queue_refines` relates it to `run`
    let zero : SChange := ⟨"", .unspecified, 0, none, none, false, false⟩
    let r := crunOut zero CState.init ms
    pure (showOuts (r.1.map (showOut showChange)) ++ "|" ++ showChanges r.2.abs)
  | "tstream" :: ms => do
    let ms ← ms.mapM parseMove?
    let zero : SChange := ⟨"", .unspecified, 0, none, none, false, false⟩
    let r := crunOut zero CState.init ms
    let up : List SChange := r.1.filterMap id
    let a := arun (castChange (fun v => "t" ++ v)) up (ACfg.init : ACfg String String)
      ((List.range up.length).flatMap (fun _ => [AMove.take, AMove.deliver]))
    pure (showOuts (a.out.map showChange))
  | "drun" :: ms => do
    let ms ← ms.mapM parseDMove?
    let r := drunOut (none : DState String) ms
    pure (showOuts (r.1.map (showOut id)) ++ "|" ++ (match r.2 with | none => "-" | some m => m))
  | _ => none

def handle (toks : List String) : String :=
  match handle? toks with
  | some r => r
  | none => "!bad-op"

end ScVerif.C09
