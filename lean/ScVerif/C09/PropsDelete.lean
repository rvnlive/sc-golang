import ScVerif.C09.DeleteRetry
import ScVerif.C09.Include
/-!
# C09 — property theorems: the REMOVE an overtaken `Collection.Delete` announces

Model: `ScVerif/C09/DeleteRetry.lean`.  The driver executes its definitions (op `dcommit`); the harness ties them to
the real `resource.Collection` with the rival writers placed in the call's own `WithExpectedCheck` callback (the
code runs it in exactly that window, once per attempt).  `world` — what is stored when attempt 0, 1, 2, … takes
the write lock — is ANY function.
-/
namespace ScVerif.C09

variable {ι μ : Type} [DecidableEq ι] [DecidableEq μ]

/-- However often the call was overtaken: a `Delete` that goes through (at attempt `k`) removes, announces and returns
the body that is STORED WHEN IT COMMITS (`world k`) — not the one its optimistic read, or an earlier attempt, saw —
after evaluating the preconditions on that very body.  The REMOVE is the event the writers' model (`wstep … (.delete
i)`, C09_delete_published_in_commit_order) publishes, so old values chain per id for every subscriber and
`CollectionChange.include` (C09_include_sim) decides "did the subscriber have the item" from the value the
subscriber was last told about. -/
theorem C09_delete_event_matches_commit_state (r : DReq ι μ) (first : Option (Slot μ))
    (world : Nat → Option (Slot μ)) (k : Nat) (ret : μ) (ev : Change ι μ)
    (h : deleteCall r first world = .removed k ret ev) :
    ∃ o, world k = some o ∧ heldAt first world k = some o ∧ k < 5 ∧
      ret = o.body ∧ ev.kind = .remove ∧ ev.old = some o.body ∧ ev.new = none ∧ ev.id = r.id ∧
      r.check o.body = true ∧
      ∀ (s : View ι μ), s r.id = some o.body →
        WFChange s ev ∧ apply ev s = s.set r.id none ∧
        ∀ (pend pub : List (Nat × Change ι μ)) (n : Nat),
          wstep ⟨s, pend, pub, n⟩ (.delete r.id) = ⟨s.set r.id none, pend, pub ++ [(n, ev)], n + 1⟩ := by
  obtain ⟨o, h1, h2, _, hk, rfl, rfl, h5⟩ :=
    (deleteLoop_spec r world (heldAt first world) 5 0 fun _ _ => rfl).1 k ret ev h
  exact ⟨o, h1, h2, by omega, rfl, rfl, rfl, rfl, rfl, h5, fun s hs =>
    ⟨delEvent_wf hs, delEvent_apply s r.id o, fun pend pub n => wstep_delete_event ⟨s, pend, pub, n⟩ hs⟩⟩

omit [DecidableEq ι] in
/-- No spurious failure: Unavailable means the call was overtaken at EVERY one of the five attempts; when nobody
interferes with the first attempt the call is decided by its optimistic read alone. -/
theorem C09_delete_fails_only_when_overtaken (r : DReq ι μ) (first : Option (Slot μ))
    (world : Nat → Option (Slot μ)) :
    (deleteCall r first world = .unavailable → ∀ k, k < 5 → world k ≠ heldAt first world k) ∧
    (world 0 = first → deleteCall r first world = undisturbed r first) ∧
    (undisturbed r none = if r.allowMissing then .missingOk else .notFound) ∧
    (∀ o, undisturbed r (some o) =
      if r.check o.body then .removed 0 o.body (delEvent r.id o) else .failed o.body) := by
  refine ⟨fun h k hk => ?_, deleteCall_undisturbed r first world, rfl, fun _ => rfl⟩
  exact deleteLoop_unavailable r first world 5 0 (by simpa [heldAt, deleteCall] using h) k (Nat.zero_le _) (by omega)

/-- The same REMOVE as a subscriber with `WithInclude f` gets it: `include` as coded either forwards a change that is
well formed at the subscriber's FILTERED view and takes the item out of it, or drops the event — and then the item
was not in the filtered view.  (With a stale old value this fails: the filter would be asked about a body the
subscriber was never shown.) -/
theorem C09_delete_event_through_include (f : ι → μ → Bool) (r : DReq ι μ) (first : Option (Slot μ))
    (world : Nat → Option (Slot μ)) (k : Nat) (ret : μ) (ev : Change ι μ)
    (h : deleteCall r first world = .removed k ret ev)
    (s : View ι μ) (hs : ∀ o, world k = some o → s r.id = some o.body) :
    match includeChange f ev with
    | some c' => WFChange (restrict f s) c' ∧ apply c' (restrict f s) = restrict f (s.set r.id none) ∧
        restrict f s r.id = some ret
    | none => restrict f (s.set r.id none) = restrict f s ∧ restrict f s r.id = none := by
  obtain ⟨o, h1, _, _, _, rfl, rfl, _⟩ :=
    (deleteLoop_spec r world (heldAt first world) 5 0 fun _ _ => rfl).1 k ret ev h
  have hso := hs o h1
  have hsim := Sim_include f s (delEvent r.id o) (delEvent_wf hso)
  rw [delEvent_apply, includeChange_delEvent] at hsim
  rw [includeChange_delEvent]
  by_cases hf : f r.id o.body
  · rw [if_pos hf] at hsim ⊢
    exact ⟨hsim.1, hsim.2, by simp [restrict, hso, hf]⟩
  · rw [if_neg hf] at hsim ⊢
    exact ⟨hsim, by simp [restrict, hso, hf]⟩

/-- non-vacuity for the filtered subscriber: the item moved INTO the filter while the Delete was overtaken (first
read "2", stored at commit "1", filter = odd): the REMOVE carries "1", is forwarded, and the subscriber's view
loses the item -/
example :
    (match deleteCall (ι := String) ⟨"a", false, fun _ => true⟩ (some ⟨0, "2"⟩) (fun _ => some ⟨1, "1"⟩) with
      | .removed _ _ ev => (includeChange (fun _ v => v = "1") ev).map (fun c => (c.kind, c.old))
      | _ => none) = some (.remove, some "1") := rfl

/-- non-vacuity: a Delete whose item is rewritten once between its read and its lock removes and announces the
NEW body at its second attempt; with an expected value equal to the OLD body the second attempt's check fails on
the new body; five rewrites in a row exhaust it -/
example :
    deleteCall (ι := String) ⟨"a", false, fun _ => true⟩ (some ⟨0, "x"⟩)
      (fun a => if a = 0 then some ⟨1, "y"⟩ else some ⟨1, "y"⟩) =
      .removed 1 "y" ⟨"a", .remove, 0, some "y", none, false, false⟩ := rfl
example :
    deleteCall (ι := String) ⟨"a", false, fun b => b = "x"⟩ (some ⟨0, "x"⟩)
      (fun _ => some ⟨1, "y"⟩) = .failed "y" := rfl
example :
    deleteCall (ι := String) ⟨"a", false, fun _ => true⟩ (some ⟨0, "x"⟩)
      (fun a => some ⟨a + 1, "x"⟩) = .unavailable := rfl

end ScVerif.C09
