import ScVerif.C09.Bus
/-! `BusInv`, the invariant of the bus as coded: every move keeps it, by `SendOk_mono` for the sends the move does
not concern. -/
namespace ScVerif.C09

/-- One `Send` in progress; `rest` is what is left of its private snapshot.  `fresh`: listeners still ahead have not
been handed the event; `cover`: every listener registered when the send started (`k < startL`) and not cancelled is
still ahead or has been handed it. -/
structure SendOk (c : BusCfg) (s : BSend) : Prop where
  ev_lt : s.ev < c.nextE
  nodup : s.rest.Nodup
  fresh : ∀ k ∈ s.rest, (k, s.ev) ∉ c.handed
  cover : ∀ k, k < s.startL → k ∉ c.cancelled → k ∈ s.rest ∨ (k, s.ev) ∈ c.handed

/-- `reg` is `b.listeners`: duplicate-free, only registered numbers, and `collect` never drops a live one (`reg_live`);
the log `handed` has no hand-over twice and only of started sends; every send in progress is `SendOk`; `done`: a send
that returned has handed its event to every listener registered at its start and not cancelled. -/
structure BusInv (c : BusCfg) : Prop where
  reg_nodup : c.reg.Nodup
  reg_lt : ∀ k ∈ c.reg, k < c.nextL
  reg_live : ∀ k, k < c.nextL → k ∉ c.cancelled → k ∈ c.reg
  handed_nodup : c.handed.Nodup
  handed_lt : ∀ p ∈ c.handed, p.2 < c.nextE
  sends : ∀ s ∈ c.sends, SendOk c s
  done : ∀ p ∈ c.done, ∀ k, k < p.2 → k ∉ c.cancelled → (k, p.1) ∈ c.handed

theorem SendOk_mono {c c' : BusCfg} {s : BSend} (hE : c.nextE ≤ c'.nextE)
    (hH : ∀ k, (k, s.ev) ∈ c'.handed ↔ (k, s.ev) ∈ c.handed)
    (hC : ∀ k, k ∈ c.cancelled → k ∈ c'.cancelled) (h : SendOk c s) : SendOk c' s where
  ev_lt := Nat.lt_of_lt_of_le h.ev_lt hE
  nodup := h.nodup
  fresh := fun k hk hin => h.fresh k hk ((hH k).mp hin)
  cover := fun k hk hc => by
    rcases h.cover k hk (fun hx => hc (hC k hx)) with h1 | h1
    · exact Or.inl h1
    · exact Or.inr ((hH k).mpr h1)

theorem BusInv_init : BusInv BusCfg.init where
  reg_nodup := List.nodup_nil
  reg_lt := by intro k hk; cases hk
  reg_live := by intro k hk; cases hk
  handed_nodup := List.nodup_nil
  handed_lt := by intro p hp; cases hp
  sends := by intro s hs; cases hs
  done := by intro p hp; cases hp

theorem find_ev {l : List BSend} {e : Nat} {s : BSend}
    (h : l.find? (fun s => s.ev == e) = some s) : s ∈ l ∧ s.ev = e := by
  refine ⟨List.mem_of_find?_eq_some h, ?_⟩
  have := List.find?_some h
  simpa using this

theorem find_map_ev {l : List BSend} {e : Nat} {s s' : BSend}
    (hs : l.find? (fun t => t.ev == e) = some s) (hs' : s'.ev = e) :
    (l.map (fun t => if t.ev == e then s' else t)).find? (fun t => t.ev == e) = some s' := by
  induction l with
  | nil => simp at hs
  | cons a l ih =>
    by_cases ha : (a.ev == e) = true
    · have hs2 : (s'.ev == e) = true := by simp [hs']
      simp only [List.map_cons, ha, if_true, List.find?_cons, hs2]
    · have ha' : (a.ev == e) = false := by simpa using ha
      rw [List.find?_cons, ha'] at hs
      simp only [List.map_cons, ha', Bool.false_eq_true, if_false, List.find?_cons]
      exact ih hs

theorem busStep_visit {c : BusCfg} {e : Nat} {s : BSend} {k : Nat} {r : List Nat}
    (hf : c.sends.find? (fun s => s.ev == e) = some s) (hr : s.rest = k :: r) :
    busStep c (.visit e) = { c with
      sends := c.sends.map (fun t => if t.ev == e then s.visit c.cancelled else t)
      handed := if c.cancelled.contains k then c.handed else c.handed ++ [(k, e)] } := by
  simp only [busStep, hf, hr]

theorem BSend.visit_cons {s : BSend} {k : Nat} {r : List Nat} (hr : s.rest = k :: r) (cancelled : List Nat) :
    s.visit cancelled = { s with rest := r, gc := s.gc || cancelled.contains k } := by
  simp only [BSend.visit, hr]

theorem busStep_finish {c : BusCfg} {e : Nat} {s : BSend}
    (hf : c.sends.find? (fun s => s.ev == e) = some s) (hr : s.rest = []) :
    busStep c (.finish e) = { c with
      sends := c.sends.filter (fun t => !(t.ev == e))
      done := c.done ++ [(e, s.startL)]
      reg := if s.gc then c.reg.filter (fun k => !c.cancelled.contains k) else c.reg } := by
  simp only [busStep, hf, hr]

theorem BusInv_listen {c : BusCfg} (h : BusInv c) : BusInv (busStep c .listen) where
  reg_nodup := by
    show (c.reg ++ [c.nextL]).Nodup
    rw [List.nodup_append]
    refine ⟨h.reg_nodup, (by simp), ?_⟩
    intro a ha b hb hab
    rw [List.mem_singleton.mp hb] at hab
    exact Nat.lt_irrefl _ (hab ▸ h.reg_lt a ha)
  reg_lt := by
    intro k hk
    rcases List.mem_append.mp hk with h1 | h1
    · exact Nat.lt_succ_of_lt (h.reg_lt k h1)
    · rw [List.mem_singleton.mp h1]; exact Nat.lt_succ_self _
  reg_live := by
    intro k hk hc
    rcases Nat.lt_succ_iff_lt_or_eq.mp hk with h1 | h1
    · exact List.mem_append_left _ (h.reg_live k h1 hc)
    · exact List.mem_append_right _ (List.mem_singleton.mpr h1)
  handed_nodup := h.handed_nodup
  handed_lt := h.handed_lt
  sends := fun s hs => SendOk_mono (c := c) (Nat.le_refl _) (fun _ => Iff.rfl) (fun _ hx => hx) (h.sends s hs)
  done := h.done

theorem BusInv_cancel {c : BusCfg} (h : BusInv c) (k0 : Nat) : BusInv (busStep c (.cancel k0)) where
  reg_nodup := h.reg_nodup
  reg_lt := h.reg_lt
  reg_live := by
    intro k hk hc
    exact h.reg_live k hk (fun hx => hc (List.mem_cons_of_mem _ hx))
  handed_nodup := h.handed_nodup
  handed_lt := h.handed_lt
  sends := fun s hs =>
    SendOk_mono (c := c) (Nat.le_refl _) (fun _ => Iff.rfl) (fun _ hx => List.mem_cons_of_mem _ hx) (h.sends s hs)
  done := by
    intro p hp k hk hc
    exact h.done p hp k hk (fun hx => hc (List.mem_cons_of_mem _ hx))

theorem BusInv_send {c : BusCfg} (h : BusInv c) : BusInv (busStep c .send) where
  reg_nodup := h.reg_nodup
  reg_lt := h.reg_lt
  reg_live := h.reg_live
  handed_nodup := h.handed_nodup
  handed_lt := by
    intro p hp
    show p.2 < c.nextE + 1
    have := h.handed_lt p hp
    omega
  sends := by
    intro s hs
    have hs' : s ∈ c.sends ++ [⟨c.nextE, c.reg, false, c.nextL⟩] := hs
    simp only [List.mem_append, List.mem_singleton] at hs'
    rcases hs' with h1 | h1
    · exact SendOk_mono (c := c) (c' := busStep c .send) (Nat.le_succ _) (fun _ => Iff.rfl) (fun _ hx => hx)
        (h.sends s h1)
    · subst h1
      refine ⟨Nat.lt_succ_self _, h.reg_nodup, ?_, ?_⟩
      · intro k _ hin
        have := h.handed_lt _ hin
        simp at this
      · intro k hk hc
        exact Or.inl (h.reg_live k hk hc)
  done := h.done

theorem BusInv_visit {c : BusCfg} (h : BusInv c) (e : Nat) : BusInv (busStep c (.visit e)) := by
  cases hf : c.sends.find? (fun s => s.ev == e) with
  | none =>
    simp only [busStep, hf]
    exact h
  | some s =>
    obtain ⟨hs, hev⟩ := find_ev hf
    have hok := h.sends s hs
    cases hr : s.rest with
    | nil =>
      simp only [busStep, hf, hr]
      exact h
    | cons k r =>
      rw [busStep_visit hf hr]
      have hnd := hr ▸ hok.nodup
      have hkr := (List.nodup_cons.mp hnd).1
      have hrn := (List.nodup_cons.mp hnd).2
      have hfresh := hev ▸ hok.fresh k (hr ▸ List.mem_cons_self)
      -- the new hand-over list: the old one, plus (k, e) exactly when k's context is not cancelled
      generalize hH : (if c.cancelled.contains k then c.handed else c.handed ++ [(k, e)]) = H'
      have hH' : H'.Nodup ∧ (∀ p ∈ c.handed, p ∈ H') ∧ (∀ p ∈ H', p ∈ c.handed ∨ p = (k, e)) ∧
          (k ∉ c.cancelled → (k, e) ∈ H') := by
        subst hH
        by_cases hc : c.cancelled.contains k = true
        · rw [if_pos hc]
          exact ⟨h.handed_nodup, fun _ hp => hp, fun _ hp => Or.inl hp,
            fun hn => absurd (List.contains_iff_mem.mp hc) hn⟩
        · rw [if_neg hc]
          refine ⟨?_, fun _ hp => List.mem_append_left _ hp, ?_, fun _ => by simp⟩
          · rw [List.nodup_append]
            refine ⟨h.handed_nodup, by simp, ?_⟩
            intro a ha b hb hab
            rw [List.mem_singleton.mp hb] at hab
            exact hfresh (hab ▸ ha)
          · intro p hp
            rcases List.mem_append.mp hp with h1 | h1
            · exact Or.inl h1
            · exact Or.inr (List.mem_singleton.mp h1)
      obtain ⟨hHnd, hsub, hnew, hkin⟩ := hH'
      refine ⟨h.reg_nodup, h.reg_lt, h.reg_live, hHnd, ?_, ?_, ?_⟩
      · intro p hp
        rcases hnew p hp with h1 | h1
        · exact h.handed_lt p h1
        · rw [h1]; exact hev ▸ hok.ev_lt
      · intro t ht
        obtain ⟨t0, ht0, rfl⟩ := List.mem_map.mp ht
        by_cases hte : (t0.ev == e) = true
        · -- the send that made the visit: one listener fewer to go
          simp only [hte, if_true]
          rw [BSend.visit_cons hr]
          refine ⟨hok.ev_lt, hrn, ?_, ?_⟩
          · intro k' hk' hin
            rcases hnew _ hin with h1 | h1
            · exact hok.fresh k' (hr ▸ List.mem_cons_of_mem _ hk') h1
            · exact hkr ((Prod.mk.inj h1).1 ▸ hk')
          · intro k' hk' hcc
            rcases hok.cover k' hk' hcc with h1 | h1
            · rw [hr] at h1
              rcases List.mem_cons.mp h1 with h2 | h2
              · exact Or.inr (by rw [h2, hev]; exact hkin (h2 ▸ hcc))
              · exact Or.inl h2
            · exact Or.inr (hsub _ h1)
        · -- the other sends are not concerned: nothing was handed for their events
          simp only [hte]
          have hne : t0.ev ≠ e := by simpa using hte
          refine SendOk_mono (c := c) (Nat.le_refl _) ?_ (fun _ hx => hx) (h.sends t0 ht0)
          intro k'
          constructor
          · intro hin
            rcases hnew _ hin with h1 | h1
            · exact h1
            · exact absurd (Prod.mk.inj h1).2 hne
          · exact hsub _
      · intro p hp k' hk' hcc
        exact hsub _ (h.done p hp k' hk' hcc)

theorem BusInv_finish {c : BusCfg} (h : BusInv c) (e : Nat) : BusInv (busStep c (.finish e)) := by
  -- the send leaves `sends` and enters `done`: its `cover` with an empty `rest` is the `done` clause; `collect`
  -- filters `reg`, which stays duplicate-free and keeps every live listener
  cases hf : c.sends.find? (fun s => s.ev == e) with
  | none =>
    simp only [busStep, hf]
    exact h
  | some s =>
    obtain ⟨hs, hev⟩ := find_ev hf
    have hok := h.sends s hs
    cases hr : s.rest with
    | cons k r =>
      simp only [busStep, hf, hr]
      exact h
    | nil =>
      rw [busStep_finish hf hr]
      refine ⟨?_, ?_, ?_, h.handed_nodup, h.handed_lt, ?_, ?_⟩
      · by_cases hg : s.gc = true
        · simp only [hg, if_true]
          exact h.reg_nodup.sublist List.filter_sublist
        · simp only [hg]
          exact h.reg_nodup
      · intro k hk
        by_cases hg : s.gc = true
        · simp only [hg, if_true] at hk
          exact h.reg_lt k (List.mem_filter.mp hk).1
        · simp only [hg] at hk
          exact h.reg_lt k hk
      · intro k hk hc
        have hin := h.reg_live k hk hc
        by_cases hg : s.gc = true
        · simp only [hg, if_true]
          refine List.mem_filter.mpr ⟨hin, ?_⟩
          simpa using hc
        · simp only [hg]
          exact hin
      · intro t ht
        have ht0 := (List.mem_filter.mp ht).1
        exact SendOk_mono (c := c) (Nat.le_refl _) (fun _ => Iff.rfl) (fun _ hx => hx) (h.sends t ht0)
      · intro p hp k hk hc
        simp only [List.mem_append, List.mem_singleton] at hp
        rcases hp with h1 | h1
        · exact h.done p h1 k hk hc
        · subst h1
          rcases hok.cover k hk hc with h2 | h2
          · rw [hr] at h2; cases h2
          · exact hev ▸ h2

theorem BusInv_step {c : BusCfg} (h : BusInv c) (m : BusMove) : BusInv (busStep c m) := by
  cases m with
  | listen => exact BusInv_listen h
  | cancel k => exact BusInv_cancel h k
  | send => exact BusInv_send h
  | visit e => exact BusInv_visit h e
  | finish e => exact BusInv_finish h e

theorem BusInv_run {c : BusCfg} (h : BusInv c) (ms : List BusMove) : BusInv (busRun c ms) :=
  List.foldlRecOn (motive := BusInv) ms _ h fun _ hc m _ => BusInv_step hc m

theorem busRun_snoc (c : BusCfg) (ms : List BusMove) (m : BusMove) :
    busRun c (ms ++ [m]) = busStep (busRun c ms) m := by
  simp [busRun, List.foldl_append]

theorem handedTo_snoc {c c' : BusCfg} {k e : Nat} (h : c'.handed = c.handed ++ [(k, e)]) (j : Nat) :
    c'.handedTo j = if j = k then c.handedTo j ++ [e] else c.handedTo j := by
  simp only [BusCfg.handedTo, h, List.filter_append, List.map_append]
  by_cases hj : j = k
  · simp [hj]
  · have : (k == j) = false := by simpa using fun hx => hj hx.symm
    simp [hj, this]

theorem busStep_finish_frame (c : BusCfg) (e : Nat) :
    (busStep c (.finish e)).handed = c.handed ∧ (busStep c (.finish e)).nextL = c.nextL := by
  simp only [busStep]
  split
  · exact ⟨rfl, rfl⟩
  · split <;> exact ⟨rfl, rfl⟩

theorem busStep_visit_nextL (c : BusCfg) (e : Nat) : (busStep c (.visit e)).nextL = c.nextL := by
  simp only [busStep]
  split
  · rfl
  · split <;> rfl

theorem handedTo_eq_nil_of_lt (c : BusCfg) (n : Nat) (h : ∀ p ∈ c.handed, p.1 < n) : c.handedTo n = [] := by
  simp only [BusCfg.handedTo, List.map_eq_nil_iff, List.filter_eq_nil_iff]
  intro p hp
  have := h p hp
  simp only [beq_iff_eq]
  omega

theorem mem_handedTo (c : BusCfg) (k e : Nat) : e ∈ c.handedTo k ↔ (k, e) ∈ c.handed := by
  simp only [BusCfg.handedTo, List.mem_map, List.mem_filter, beq_iff_eq]
  constructor
  · rintro ⟨p, ⟨hp, hk⟩, he⟩
    cases p with
    | mk a b =>
      subst hk; subst he
      exact hp
  · intro h
    exact ⟨(k, e), ⟨h, rfl⟩, rfl⟩

theorem nodup_handedTo (c : BusCfg) (k : Nat) (h : c.handed.Nodup) : (c.handedTo k).Nodup := by
  rw [BusCfg.handedTo, List.Nodup, List.pairwise_map]
  refine List.Pairwise.imp_of_mem (fun {p q} hp hq hne he => hne (Prod.ext ?_ he)) (List.Pairwise.filter _ h)
  simp only [List.mem_filter, beq_iff_eq] at hp hq
  omega

end ScVerif.C09
