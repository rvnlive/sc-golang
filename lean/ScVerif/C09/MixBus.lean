import ScVerif.C09.MixedLemmas
import ScVerif.C09.BusLemmas
import ScVerif.Base.ListLemmas
/-
C09 — lossy and backpressured subscribers on the bus WITH SEVERAL WRITERS: the bus of `Bus.lean` (any number
of `Send`s in progress, private snapshots, cancelled listeners skipped and collected) composed with the
subscriber pipelines of `Mixed.lean` (`MSub`: a lossy one — DropExcess slot ▸ forwarder ▸ consumer — takes an
event at once; a backpressured one only while its forwarder holds nothing: `handTo`).

Subscriber `k` is listener `k` of the bus (both are numbered in registration order).  Events are the numbers
of the `Send`s (what a write publishes stands for its value).

Moves: `listenL` / `listenB` (Pull without / with backpressure, updates only), `cancel k`, `send` (a writer has
committed and enters `Bus.Send`), `visit e` (`listener.send` of the next listener in the snapshot of send
`e`: a cancelled listener is skipped; a live one takes the event iff `handTo` says so — otherwise the move
changes nothing: the writer stays blocked in the select), `finish e`, `loc k m` (a local move of subscriber
`k`: its forwarder takes from the slot / its consumer receives).
-/
namespace ScVerif.C09

structure MBCfg where
  bus : BusCfg
  subs : List (MSub Nat)

def MBCfg.init : MBCfg := ⟨BusCfg.init, []⟩

inductive MBMove where
  | listenL
  | listenB
  | cancel (k : Nat)
  | send
  | visit (e : Nat)
  | finish (e : Nat)
  | loc (k : Nat) (m : LMove)

section
variable (E : Option Nat → Nat → Bool) (F : Nat → Nat)

def mbStep (c : MBCfg) : MBMove → MBCfg
  | .listenL => ⟨busStep c.bus .listen, c.subs ++ [.lossy (VCfg.subscribed F none)]⟩
  | .listenB => ⟨busStep c.bus .listen, c.subs ++ [.bp BCfg.init]⟩
  | .cancel k => ⟨busStep c.bus (.cancel k), c.subs⟩
  | .send => ⟨busStep c.bus .send, c.subs⟩
  | .finish e => ⟨busStep c.bus (.finish e), c.subs⟩
  | .loc k m => ⟨c.bus, modAt (fun s => locStep E F s m) k c.subs⟩
  | .visit e =>
    match c.bus.sends.find? (fun s => s.ev == e) with
    | none => c
    | some s =>
      match s.rest with
      | [] => c
      | k :: _ =>
        if c.bus.cancelled.contains k then ⟨busStep c.bus (.visit e), c.subs⟩
        else
          match c.subs[k]? with
          | none => c
          | some sub =>
            match handTo E F sub e with
            | none => c                                   -- the listener's receiver is not ready
            | some sub' => ⟨busStep c.bus (.visit e), modAt (fun _ => sub') k c.subs⟩

def mbRun (c : MBCfg) (ms : List MBMove) : MBCfg := ms.foldl (mbStep E F) c

end

/-- `sim`: the bus part is a state of the bus model, so `BusInv` holds of it; `len`, `hlt`: subscriber `k` is listener
`k`; `handed` is `Agree c.subs c.bus.handedTo` written out: every subscriber has been handed what the bus's log says;
`ok`: each keeps its own guarantee. -/
structure MBInv (E : Option Nat → Nat → Bool) (F : Nat → Nat) (c : MBCfg) : Prop where
  sim : ∃ bms, c.bus = busRun BusCfg.init bms
  len : c.subs.length = c.bus.nextL
  hlt : ∀ p ∈ c.bus.handed, p.1 < c.subs.length
  handed : ∀ k s, c.subs[k]? = some s → s.handed = c.bus.handedTo k
  ok : ∀ s ∈ c.subs, s.Ok E F

theorem sim_snoc {b : BusCfg} (h : ∃ bms, b = busRun BusCfg.init bms) (m : BusMove) :
    ∃ bms, busStep b m = busRun BusCfg.init bms := by
  obtain ⟨bms, rfl⟩ := h
  exact ⟨bms ++ [m], (busRun_snoc _ _ _).symm⟩

theorem MBInv_init (E : Option Nat → Nat → Bool) (F : Nat → Nat) : MBInv E F MBCfg.init where
  sim := ⟨[], rfl⟩
  len := rfl
  hlt := by intro p hp; cases hp
  handed := by intro k s hk; simp [MBCfg.init] at hk
  ok := by intro s hs; cases hs

theorem MBInv_listen {E : Option Nat → Nat → Bool} {F : Nat → Nat} {c : MBCfg} (h : MBInv E F c)
    (s0 : MSub Nat) (h0 : s0.handed = []) (hok : s0.Ok E F) :
    MBInv E F ⟨busStep c.bus .listen, c.subs ++ [s0]⟩ where
  sim := sim_snoc h.sim .listen
  len := by
    show (c.subs ++ [s0]).length = c.bus.nextL + 1
    simp [h.len]
  hlt := by
    intro p hp
    have := h.hlt p hp
    simp only [List.length_append, List.length_singleton]
    omega
  handed := by
    intro k s hk
    show s.handed = c.bus.handedTo k
    rcases Base.getElem?_concat_cases _ _ _ _ hk with ⟨_, hk'⟩ | ⟨hkeq, hs⟩
    · exact h.handed k s hk'
    · rw [hs, h0, hkeq, handedTo_eq_nil_of_lt c.bus c.subs.length h.hlt]
  ok := by
    intro s hs
    simp only [List.mem_append, List.mem_singleton] at hs
    rcases hs with h1 | h1
    · exact h.ok s h1
    · exact h1 ▸ hok

theorem MBInv_sameHanded {E : Option Nat → Nat → Bool} {F : Nat → Nat} {c : MBCfg} (h : MBInv E F c)
    (m : BusMove) (hh : (busStep c.bus m).handed = c.bus.handed) (hn : (busStep c.bus m).nextL = c.bus.nextL) :
    MBInv E F ⟨busStep c.bus m, c.subs⟩ where
  sim := sim_snoc h.sim m
  len := by show c.subs.length = (busStep c.bus m).nextL; rw [hn]; exact h.len
  hlt := by intro p hp; exact h.hlt p (hh ▸ hp)
  handed := Agree.congr h.handed fun k _ => by simp only [BusCfg.handedTo, hh]
  ok := h.ok

theorem MBInv_step {E : Option Nat → Nat → Bool} {F : Nat → Nat} {c : MBCfg} (h : MBInv E F c) (m : MBMove) :
    MBInv E F (mbStep E F c m) := by
  cases m with
  | listenL => exact MBInv_listen h _ rfl (VInv_subscribed E F none)
  | listenB => exact MBInv_listen h _ rfl rfl
  | cancel k => exact MBInv_sameHanded h _ rfl rfl
  | send => exact MBInv_sameHanded h _ rfl rfl
  | finish e => exact MBInv_sameHanded h _ (busStep_finish_frame _ _).1 (busStep_finish_frame _ _).2
  | loc k m =>
    exact ⟨h.sim, (modAt_length ..).trans h.len, fun p hp => (modAt_length ..).symm ▸ h.hlt p hp,
      Agree.loc E F h.handed k m, modAt_all _ k c.subs h.ok (fun x hx => locStep_Ok E F (h.ok x hx) m)⟩
  | visit e =>
    simp only [mbStep]
    cases hf : c.bus.sends.find? (fun s => s.ev == e) with
    | none => exact h
    | some s =>
      simp only
      cases hr : s.rest with
      | nil => exact h
      | cons k r =>
        simp only
        have hstep := busStep_visit hf hr
        by_cases hc : c.bus.cancelled.contains k = true
        · rw [if_pos hc]
          refine MBInv_sameHanded h _ ?_ (busStep_visit_nextL _ _)
          rw [hstep]; simp only [hc, if_true]
        · rw [if_neg hc]
          cases hk : c.subs[k]? with
          | none => exact h
          | some sub =>
            simp only
            cases hto : handTo E F sub e with
            | none => exact h
            | some sub' =>
              -- the listener takes the event: one more entry in the bus's log, for `k`
              have hhand : (busStep c.bus (.visit e)).handed = c.bus.handed ++ [(k, e)] := by
                rw [hstep]; simp only [hc, Bool.false_eq_true, if_false]
              refine ⟨sim_snoc h.sim (.visit e), ?_, fun p hp => ?_,
                Agree.hand E F h.handed hk hto (handedTo_snoc hhand),
                modAt_all _ k c.subs h.ok (fun x _ => handTo_Ok E F (h.ok sub (List.mem_of_getElem? hk)) hto)⟩
              · exact (modAt_length ..).trans ((busStep_visit_nextL ..).symm ▸ h.len)
              · rw [modAt_length]
                rcases List.mem_append.mp (hhand ▸ hp) with h1 | h1
                · exact h.hlt p h1
                · rw [List.mem_singleton.mp h1]; exact (List.getElem?_eq_some_iff.mp hk).1

theorem MBInv_run {E : Option Nat → Nat → Bool} {F : Nat → Nat} {c : MBCfg} (h : MBInv E F c)
    (ms : List MBMove) : MBInv E F (mbRun E F c ms) :=
  List.foldlRecOn (motive := MBInv E F) ms _ h fun _ hc m _ => MBInv_step hc m

end ScVerif.C09
