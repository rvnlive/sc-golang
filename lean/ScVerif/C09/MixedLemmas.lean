import ScVerif.C09.ValueLemmas
import ScVerif.C09.Mixed
/-! The mixed bus: every listener has been handed what the bus's account says (`Agree`) and keeps its own guarantee
(`MSub.Ok`). -/
namespace ScVerif.C09

variable {α : Type} (E : Option α → α → Bool) (F : α → α)

theorem xrun_nil (c : MixCfg α) : xrun E F c [] = c := rfl
theorem xrun_cons (c : MixCfg α) (m : XMove α) (ms : List (XMove α)) :
    xrun E F c (m :: ms) = xrun E F (xstep E F c m) ms := rfl

theorem xstep_write_idle {c : MixCfg α} (hs : c.sending = none) (e : α) :
    xstep E F c (.write e) = { c with sending := some (e, 0) } := by
  simp only [xstep, hs]

/-- one writer at a time: a second `write` while a send is in progress is not enabled -/
theorem xstep_write_busy {c : MixCfg α} {x : α × Nat} (hs : c.sending = some x) (e : α) :
    xstep E F c (.write e) = c := by
  simp only [xstep, hs]

theorem xstep_loc (c : MixCfg α) (k : Nat) (m : LMove) :
    xstep E F c (.loc k m) = { c with subs := modAt (fun s => locStep E F s m) k c.subs } := rfl

theorem xstep_advance_idle {c : MixCfg α} (hs : c.sending = none) : xstep E F c .advance = c := by
  simp only [xstep, hs]

theorem xstep_advance_past {c : MixCfg α} {e : α} {p : Nat} (hs : c.sending = some (e, p))
    (hsub : c.subs[p]? = none) :
    xstep E F c .advance = { c with sending := none, done := c.done ++ [e] } := by
  simp only [xstep, hs, hsub]

theorem xstep_advance_at {c : MixCfg α} {e : α} {p : Nat} {s : MSub α} (hs : c.sending = some (e, p))
    (hsub : c.subs[p]? = some s) :
    xstep E F c .advance =
      match handTo E F s e with
      | some s' => { c with subs := modAt (fun _ => s') p c.subs, sending := some (e, p + 1) }
      | none => c := by
  simp only [xstep, hs, hsub]
  cases handTo E F s e <;> rfl

theorem locStep_handed (s : MSub α) (m : LMove) : (locStep E F s m).handed = s.handed := by
  cases s with
  | lossy c =>
    cases m with
    | take => exact (vstepF_received E F c .take).trans (List.append_nil _)
    | hand => rfl
    | deliver => exact (vstepF_received E F c .deliver).trans (List.append_nil _)
  | bp c =>
    cases m with
    | take => rfl
    | hand => rfl
    | deliver =>
      show (bstep c .deliver).accepted = c.accepted
      cases h : c.inHand with
      | none => rw [bstep_deliver_none h]
      | some d => rw [bstep_deliver h]

/-- a listener that takes the event: a lossy one (always), or a backpressured one whose forwarder holds nothing -/
theorem handTo_eq_some {s s' : MSub α} {e : α} (h : handTo E F s e = some s') :
    (∃ c, s = .lossy c ∧ s' = .lossy (vstepF E F c (.recv e))) ∨
    (∃ b, s = .bp b ∧ b.inHand = none ∧ s' = .bp (bstep b (.offer e))) := by
  cases s with
  | lossy c => exact Or.inl ⟨c, rfl, (Option.some.inj h).symm⟩
  | bp b =>
    simp only [handTo] at h
    cases hh : b.inHand with
    | some d => simp [hh] at h
    | none => rw [hh] at h; exact Or.inr ⟨b, rfl, hh, (Option.some.inj h).symm⟩

theorem handTo_handed {s s' : MSub α} {e : α} (h : handTo E F s e = some s') : s'.handed = s.handed ++ [e] := by
  rcases handTo_eq_some E F h with ⟨c, rfl, rfl⟩ | ⟨b, rfl, hb, rfl⟩
  · simp [MSub.handed, vstepF]
  · rw [bstep_offer hb]; rfl

/-- Every listener has been handed what the account `g` says (`g k` for listener `k`). -/
def Agree (subs : List (MSub α)) (g : Nat → List α) : Prop := ∀ k s, subs[k]? = some s → s.handed = g k

theorem Agree.loc {subs : List (MSub α)} {g : Nat → List α} (h : Agree subs g) (k : Nat) (m : LMove) :
    Agree (modAt (fun s => locStep E F s m) k subs) g :=
  modAt_forall (fun x hx => (locStep_handed E F x m).trans (h k x hx)) fun j x _ => h j x

theorem Agree.hand {subs : List (MSub α)} {g g' : Nat → List α} (h : Agree subs g) {k : Nat} {s s' : MSub α} {e : α}
    (hs : subs[k]? = some s) (hto : handTo E F s e = some s')
    (hg : ∀ j, g' j = if j = k then g j ++ [e] else g j) : Agree (modAt (fun _ => s') k subs) g' :=
  modAt_forall (fun _ _ => by rw [handTo_handed E F hto, h k s hs, hg, if_pos rfl])
    fun j x hj hx => by rw [hg, if_neg hj]; exact h j x hx

theorem Agree.congr {subs : List (MSub α)} {g g' : Nat → List α} (h : Agree subs g)
    (hg : ∀ k, k < subs.length → g' k = g k) : Agree subs g' :=
  fun k s hk => (h k s hk).trans (hg k (List.getElem?_eq_some_iff.mp hk).1).symm

/-- Listener-by-listener progress relative to the handed lists `H` at the start.  `handed` is stated entry by entry
under `Option.map`, which also says that no listener is lost or added; the proofs use it as `XInv_iff`: same length,
and `Agree` with the account "handed at the start, then the completed sends, then the part of the send in progress".
`pos`: the send position never runs past the listeners. -/
structure XInv (H : List (List α)) (c : MixCfg α) : Prop where
  handed : ∀ k, (c.subs[k]?).map MSub.handed = (H[k]?).map (fun h => h ++ c.done ++ c.partSent k)
  pos : ∀ e p, c.sending = some (e, p) → p ≤ c.subs.length

theorem XInv_init (subs0 : List (MSub α)) : XInv (subs0.map MSub.handed) ⟨subs0, none, []⟩ := by
  refine ⟨?_, by intro e p h; cases h⟩
  intro k
  simp only [MixCfg.partSent, List.getElem?_map, List.append_nil, Option.map_map]
  cases subs0[k]? <;> rfl

theorem XInv_iff {H : List (List α)} {c : MixCfg α} :
    XInv H c ↔ c.subs.length = H.length ∧
      Agree c.subs (fun k => H[k]?.getD [] ++ c.done ++ c.partSent k) ∧
      ∀ e p, c.sending = some (e, p) → p ≤ c.subs.length := by
  constructor
  · intro ⟨hh, hp⟩
    have hlen : c.subs.length = H.length := by
      apply Nat.le_antisymm
      · have := hh H.length
        rw [List.getElem?_eq_none_iff.mpr (Nat.le_refl _), Option.map_none, Option.map_eq_none_iff] at this
        exact List.getElem?_eq_none_iff.mp this
      · have := hh c.subs.length
        rw [List.getElem?_eq_none_iff.mpr (Nat.le_refl _), Option.map_none, eq_comm, Option.map_eq_none_iff] at this
        exact List.getElem?_eq_none_iff.mp this
    refine ⟨hlen, fun k s hk => ?_, hp⟩
    have hH := List.getElem?_eq_getElem (hlen ▸ (List.getElem?_eq_some_iff.mp hk).1 : k < H.length)
    have := hh k
    rw [hk, hH] at this
    show s.handed = H[k]?.getD [] ++ c.done ++ c.partSent k
    rw [hH]
    exact Option.some.inj this
  · intro ⟨hlen, hag, hp⟩
    refine ⟨fun k => ?_, hp⟩
    cases hk : c.subs[k]? with
    | none => rw [List.getElem?_eq_none_iff.mpr (hlen ▸ List.getElem?_eq_none_iff.mp hk)]; rfl
    | some s =>
      have hH := List.getElem?_eq_getElem (hlen ▸ (List.getElem?_eq_some_iff.mp hk).1 : k < H.length)
      rw [Option.map_some, hag k s hk]
      show some (H[k]?.getD [] ++ c.done ++ c.partSent k) = _
      rw [hH]
      rfl

theorem XInv_step {H : List (List α)} {c : MixCfg α} (h : XInv H c) (m : XMove α) : XInv H (xstep E F c m) := by
  -- in the `Agree` form a move changes the account for no listener (`write`, `loc`), for all alike (past the last
  -- listener the part sent becomes a completed send), or for listener `p` alone (the hand-over)
  obtain ⟨hlen, hag, hp⟩ := XInv_iff.mp h
  cases m with
  | write e =>
    cases hs : c.sending with
    | some x => rw [xstep_write_busy E F hs]; exact h
    | none =>
      rw [xstep_write_idle E F hs]
      refine XInv_iff.mpr ⟨hlen, hag.congr fun k _ => ?_, fun _ _ h' => by cases h'; exact Nat.zero_le _⟩
      simp [MixCfg.partSent, hs]
  | advance =>
    cases hs : c.sending with
    | none => rw [xstep_advance_idle E F hs]; exact h
    | some x =>
      obtain ⟨e, p⟩ := x
      cases hsub : c.subs[p]? with
      | none =>
        rw [xstep_advance_past E F hs hsub]
        refine XInv_iff.mpr ⟨hlen, hag.congr fun k hk => ?_, nofun⟩
        -- every listener is before `p`, so had the event as the part sent
        have hkp : k < p := Nat.lt_of_lt_of_le hk (List.getElem?_eq_none_iff.mp hsub)
        simp [MixCfg.partSent, hs, hkp]
      | some s =>
        rw [xstep_advance_at E F hs hsub]
        cases hto : handTo E F s e with
        | none => exact h
        | some s' =>
          refine XInv_iff.mpr ⟨(modAt_length ..).trans hlen, hag.hand E F hsub hto fun j => ?_, fun _ _ h' => ?_⟩
          · simp only [MixCfg.partSent, hs]
            by_cases hj : j = p
            · simp [hj]
            · have : j < p + 1 ↔ j < p := by omega
              simp only [if_neg hj, this]
          · cases h'
            rw [modAt_length]
            exact (List.getElem?_eq_some_iff.mp hsub).1
  | loc k m =>
    exact XInv_iff.mpr ⟨(modAt_length ..).trans hlen, hag.loc E F k m, fun e p h' => (modAt_length ..).symm ▸ hp e p h'⟩

theorem XInv_run {H : List (List α)} {c : MixCfg α} (h : XInv H c) (ms : List (XMove α)) :
    XInv H (xrun E F c ms) :=
  List.foldlRecOn (motive := XInv H) ms _ h fun _ hc m _ => XInv_step E F hc m

/-- The guarantee a listener keeps whatever the others do: a lossy one the Value-pipeline invariant on what it was
handed (as the filter shows it), a backpressured one has lost and reordered nothing. -/
def MSub.Ok : MSub α → Prop
  | .lossy c => VInv E none (c.mapF F)
  | .bp c => c.delivered ++ c.inHand.toList = c.accepted

theorem locStep_Ok {s : MSub α} (h : s.Ok E F) (m : LMove) : (locStep E F s m).Ok E F := by
  cases s with
  | lossy c =>
    cases m with
    | take =>
      show VInv E none ((vstepF E F c .take).mapF F)
      rw [vstepF_mapF]; exact VInv_step h _
    | hand => exact h
    | deliver =>
      show VInv E none ((vstepF E F c .deliver).mapF F)
      rw [vstepF_mapF]; exact VInv_step h _
  | bp c =>
    cases m with
    | take => exact h
    | hand => exact h
    | deliver => exact bstep_lossless h .deliver

theorem handTo_Ok {s s' : MSub α} {e : α} (h : s.Ok E F) (hto : handTo E F s e = some s') : s'.Ok E F := by
  rcases handTo_eq_some E F hto with ⟨c, rfl, rfl⟩ | ⟨b, rfl, _, rfl⟩
  · show VInv E none ((vstepF E F c (.recv e)).mapF F)
    rw [vstepF_mapF]; exact VInv_step h _
  · exact bstep_lossless h (.offer e)

theorem xstep_Ok {c : MixCfg α} (h : ∀ s ∈ c.subs, s.Ok E F) (m : XMove α) :
    ∀ s ∈ (xstep E F c m).subs, s.Ok E F := by
  cases m with
  | write e =>
    cases hs : c.sending with
    | none => rw [xstep_write_idle E F hs]; exact h
    | some x => rw [xstep_write_busy E F hs]; exact h
  | advance =>
    cases hs : c.sending with
    | none => rw [xstep_advance_idle E F hs]; exact h
    | some x =>
      obtain ⟨e, p⟩ := x
      cases hsub : c.subs[p]? with
      | none => rw [xstep_advance_past E F hs hsub]; exact h
      | some s =>
        rw [xstep_advance_at E F hs hsub]
        cases hto : handTo E F s e with
        | none => exact h
        | some s' =>
          have hs' := handTo_Ok E F (h s (List.mem_of_getElem? hsub)) hto
          exact modAt_all _ p c.subs h (fun _ _ => hs')
  | loc k m =>
    exact modAt_all _ k c.subs h (fun x hx => locStep_Ok E F (h x hx) m)

theorem xrun_Ok {c : MixCfg α} (h : ∀ s ∈ c.subs, s.Ok E F) (ms : List (XMove α)) :
    ∀ s ∈ (xrun E F c ms).subs, s.Ok E F :=
  List.foldlRecOn (motive := fun c : MixCfg α => ∀ s ∈ c.subs, s.Ok E F) ms _ h fun _ hc m _ => xstep_Ok E F hc m

theorem xrun_advances_done (c : MixCfg α) (e : α) (n p : Nat) (hs : c.sending = some (e, p))
    (hn : p + n = c.subs.length)
    (hfree : ∀ k b, p ≤ k → c.subs[k]? = some (.bp b) → b.inHand = none) :
    (xrun E F c (advances (n + 1))).sending = none ∧
    (xrun E F c (advances (n + 1))).done = c.done ++ [e] := by
  -- by induction on the number of listeners still ahead
  induction n generalizing c p with
  | zero =>
    have hnone : c.subs[p]? = none := List.getElem?_eq_none_iff.mpr (by omega)
    rw [show advances (α := α) (0 + 1) = [.advance] from rfl, xrun_cons, xrun_nil,
      xstep_advance_past E F hs hnone]
    exact ⟨rfl, rfl⟩
  | succ n ih =>
    have hlt : p < c.subs.length := by omega
    obtain ⟨s, hsub⟩ : ∃ s, c.subs[p]? = some s := ⟨c.subs[p], List.getElem?_eq_getElem hlt⟩
    have hto : ∃ s', handTo E F s e = some s' := by
      cases s with
      | lossy v => exact ⟨_, rfl⟩
      | bp b =>
        have := hfree p b (Nat.le_refl _) hsub
        exact ⟨.bp (bstep b (.offer e)), by simp [handTo, this]⟩
    obtain ⟨s', hs'⟩ := hto
    rw [show advances (α := α) (n + 1 + 1) = .advance :: advances (n + 1) from rfl, xrun_cons,
      xstep_advance_at E F hs hsub, hs']
    refine ih _ (p + 1) ?_ ?_ ?_
    · rfl
    · simp only [modAt_length]
      omega
    · intro k b hk hkb
      simp only [modAt_getElem?] at hkb
      have : p ≠ k := by omega
      simp only [this, if_false] at hkb
      exact hfree k b (by omega) hkb

end ScVerif.C09
