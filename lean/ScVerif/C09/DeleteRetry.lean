import ScVerif.C09.Writers
import ScVerif.C09.Include
/-
C09 — `Collection.Delete`'s optimistic read, its precondition checks and its retry loop
(pkg/resource/collection.go, `(*Collection).Delete`).

`Delete(id, opts…)` reads the item under the READ lock, releases it and then, at most five times: answers
NotFound (or nil with `WithAllowMissing`) when the item it holds is absent; runs the caller's
`WithExpectedCheck` callback and the `WithExpectedValue` comparison on the body it HOLDS (no lock held: arbitrary
code runs here, in particular other writers); takes the WRITE lock and reads again; when what is stored is no
longer the very item it holds (pointer comparison of `*item`: every Update stores a fresh item, also one that
writes an equal body) it unlocks and goes round again holding what it has just read; otherwise it removes the
item, sends the REMOVE (old value = the body it holds) while still holding the lock, unlocks and returns that
body.  After five overtaken attempts: Unavailable.

* `Slot`        a stored item: its identity (`ptr`, the `*item`) and its body
* `world a`     what is stored for the id when attempt `a` takes the write lock — ANY function: whatever the
                callbacks and other writers did up to then
* `check`       both preconditions as one arbitrary predicate on the body held (`true` = they pass)
* `deleteLoop`  the loop as coded, `fuel` attempts left
-/
namespace ScVerif.C09

structure Slot (μ : Type) where
  ptr : Nat
  body : μ
deriving DecidableEq, Repr

structure DReq (ι μ : Type) where
  id : ι
  allowMissing : Bool
  check : μ → Bool

inductive DResult (ι μ : Type) where
  | notFound
  | missingOk                                  -- (nil, nil)
  | failed (body : μ)                          -- a precondition failed: the body held is returned with the error
  | removed (attempt : Nat) (ret : μ) (ev : Change ι μ)
  | unavailable
deriving DecidableEq, Repr

variable {ι μ : Type}

/-- the REMOVE built under the write lock from the item the call holds -/
def delEvent (i : ι) (o : Slot μ) : Change ι μ := ⟨i, .remove, 0, some o.body, none, false, false⟩

def deleteLoop [DecidableEq μ] (r : DReq ι μ) (world : Nat → Option (Slot μ)) :
    Nat → Nat → Option (Slot μ) → DResult ι μ
  | 0, _, _ => .unavailable
  | _ + 1, _, none => if r.allowMissing then .missingOk else .notFound
  | fuel + 1, a, some o =>
    if r.check o.body then
      if world a = some o then .removed a o.body (delEvent r.id o)
      else deleteLoop r world fuel (a + 1) (world a)
    else .failed o.body

/-- `Delete`: the optimistic read found `first` -/
def deleteCall [DecidableEq μ] (r : DReq ι μ) (first : Option (Slot μ)) (world : Nat → Option (Slot μ)) :
    DResult ι μ :=
  deleteLoop r world 5 0 first

/-- what the call holds when attempt `a` starts (ghost: the loop variable `oldVal, exists`) -/
def heldAt (first : Option (Slot μ)) (world : Nat → Option (Slot μ)) : Nat → Option (Slot μ)
  | 0 => first
  | a + 1 => world a

theorem deleteLoop_none [DecidableEq μ] (r : DReq ι μ) (world : Nat → Option (Slot μ)) (fuel a : Nat) :
    deleteLoop r world (fuel + 1) a none = if r.allowMissing then .missingOk else .notFound := rfl

theorem deleteLoop_some [DecidableEq μ] (r : DReq ι μ) (world : Nat → Option (Slot μ)) (fuel a : Nat) (o : Slot μ) :
    deleteLoop r world (fuel + 1) a (some o) =
      if r.check o.body then
        if world a = some o then .removed a o.body (delEvent r.id o) else deleteLoop r world fuel (a + 1) (world a)
      else .failed o.body := rfl

/-- The retry loop from attempt `a`, for ANY account `H` of what the call holds (`H a` at attempt `a`, and from
then on what the attempt before found under the lock): a removal at attempt `k` removes the item stored then,
which is the one held, after checking it; Unavailable means every attempt was overtaken. -/
theorem deleteLoop_spec [DecidableEq μ] (r : DReq ι μ) (world H : Nat → Option (Slot μ)) :
    ∀ (fuel a : Nat), (∀ k, a ≤ k → H (k + 1) = world k) →
      (∀ k ret ev, deleteLoop r world fuel a (H a) = .removed k ret ev →
        ∃ o, world k = some o ∧ H k = some o ∧ a ≤ k ∧ k < a + fuel ∧ ret = o.body ∧
          ev = delEvent r.id o ∧ r.check o.body = true) ∧
      (deleteLoop r world fuel a (H a) = .unavailable → ∀ k, a ≤ k → k < a + fuel → world k ≠ H k) := by
  intro fuel
  induction fuel with
  | zero => intro a _; exact ⟨fun _ _ _ h => (by cases h), fun _ k h1 h2 => by omega⟩
  | succ fuel ih =>
    intro a hH
    cases hc : H a with
    | none => rw [deleteLoop_none]; split <;> exact ⟨fun _ _ _ h => (by cases h), fun h => (by cases h)⟩
    | some o =>
      rw [deleteLoop_some]
      cases hck : r.check o.body with
      | false => exact ⟨fun _ _ _ h => (by cases h), fun h => (by cases h)⟩
      | true =>
        rw [if_pos rfl]
        by_cases hw : world a = some o
        · rw [if_pos hw]
          refine ⟨fun k ret ev h => ?_, fun h => (by cases h)⟩
          cases h
          exact ⟨o, hw, hc, Nat.le_refl _, by omega, rfl, rfl, hck⟩
        · -- overtaken: the next attempt holds what this one found
          rw [if_neg hw, ← hH a (Nat.le_refl _)]
          obtain ⟨ih1, ih2⟩ := ih (a + 1) (fun k hk => hH k (by omega))
          refine ⟨fun k ret ev h => ?_, fun h k h1 h2 => ?_⟩
          · obtain ⟨o', h1, h2, h3, h4, h5⟩ := ih1 k ret ev h
            exact ⟨o', h1, h2, by omega, by omega, h5⟩
          · by_cases hk : k = a
            · subst hk; rw [hc]; exact hw
            · exact ih2 h k (by omega) (by omega)

theorem deleteLoop_removed [DecidableEq μ] (r : DReq ι μ) (world : Nat → Option (Slot μ)) :
    ∀ (fuel a : Nat) (cur : Option (Slot μ)) (k : Nat) (ret : μ) (ev : Change ι μ),
      deleteLoop r world fuel a cur = .removed k ret ev →
      ∃ o, world k = some o ∧ a ≤ k ∧ k < a + fuel ∧ ret = o.body ∧ ev = delEvent r.id o ∧ r.check o.body = true ∧
        (k = a → cur = some o) ∧ (a < k → world (k - 1) = some o) := by
  intro fuel a cur k ret ev h
  obtain ⟨o, h1, h2, h3, h4, h5, h6, h7⟩ :=
    (deleteLoop_spec r world (fun j => if j = a then cur else world (j - 1)) fuel a
      (fun j hj => by rw [if_neg (by omega)]; rfl)).1 k ret ev (by rw [if_pos rfl]; exact h)
  exact ⟨o, h1, h3, h4, h5, h6, h7, fun hk => by rw [if_pos hk] at h2; exact h2,
    fun hk => by rw [if_neg (by omega)] at h2; exact h2⟩

theorem deleteLoop_unavailable [DecidableEq μ] (r : DReq ι μ) (first : Option (Slot μ))
    (world : Nat → Option (Slot μ)) :
    ∀ (fuel a : Nat), deleteLoop r world fuel a (heldAt first world a) = .unavailable →
      ∀ k, a ≤ k → k < a + fuel → world k ≠ heldAt first world k :=
  fun fuel a => (deleteLoop_spec r world (heldAt first world) fuel a fun _ _ => rfl).2

/-- SPEC: what a Delete nobody interferes with answers, from its optimistic read alone -/
def undisturbed (r : DReq ι μ) : Option (Slot μ) → DResult ι μ
  | none => if r.allowMissing then .missingOk else .notFound
  | some o => if r.check o.body then .removed 0 o.body (delEvent r.id o) else .failed o.body

theorem deleteCall_undisturbed [DecidableEq μ] (r : DReq ι μ) (first : Option (Slot μ))
    (world : Nat → Option (Slot μ)) (h : world 0 = first) :
    deleteCall r first world = undisturbed r first := by
  cases first with
  | none => simp [deleteCall, deleteLoop, undisturbed]
  | some o => simp [deleteCall, deleteLoop, undisturbed, h]

theorem delEvent_wf {s : View ι μ} {i : ι} {o : Slot μ} (hs : s i = some o.body) : WFChange s (delEvent i o) := by
  simp [WFChange, delEvent, hs]

/-- `include` asks the filter about the removed body alone -/
theorem includeChange_delEvent (f : ι → μ → Bool) (i : ι) (o : Slot μ) :
    includeChange f (delEvent i o) = if f i o.body then some (delEvent i o) else none := by
  by_cases hf : f i o.body <;> simp [includeChange, delEvent, incl, hf]

variable [DecidableEq ι]

theorem delEvent_apply (s : View ι μ) (i : ι) (o : Slot μ) : apply (delEvent i o) s = s.set i none := by
  simp [apply, delEvent]

theorem wstep_delete_event (c : WCfg ι μ) {i : ι} {o : Slot μ} (hs : c.store i = some o.body) :
    wstep c (.delete i) =
      { store := c.store.set i none, pending := c.pending,
        published := c.published ++ [(c.next, delEvent i o)], next := c.next + 1 } := by
  simp [wstep, hs, delEvent]

end ScVerif.C09
