import ScVerif.C09.Mixed
/-
C09 — which path a subscription takes: the read options as a LIST (pkg/resource/opt.go) and the choice of the
lossy or the blocking path by `ReadRequest.Backpressure` (pkg/resource/value.go `onUpdate`,
pkg/resource/collection.go `onUpdate`: `if !readConfig.Backpressure { ch = DropExcess(ch) /
mergeCollectionExcess(ch) }`).

`ComputeReadConfig(opts...)` starts from a zero `ReadRequest` and applies the options in the order given; every
option is a function on the request.  An adapter that passes its own default first and the caller's options
after it relies on "the last one decides".

* `ReadReq`            the two boolean fields of `ReadRequest` (the read mask and the include function are
                       modelled where they act: `Subs.lean`, `Include.lean`)
* `ROpt`               `WithBackpressure(b)`, `WithUpdatesOnly(b)`, and `other` — any option that touches neither
                       (`EmptyReadOption`, `WithReadMask`, `WithInclude`, …)
-/
namespace ScVerif.C09

structure ReadReq where
  updatesOnly : Bool
  backpressure : Bool
deriving DecidableEq, Repr

/-- `&ReadRequest{}` -/
def ReadReq.zero : ReadReq := ⟨false, false⟩

inductive ROpt where
  | backpressure (b : Bool)
  | updatesOnly (b : Bool)
  | other
deriving DecidableEq, Repr

/-- `opt.apply(rr)` -/
def ROpt.apply : ROpt → ReadReq → ReadReq
  | .backpressure b, rr => { rr with backpressure := b }
  | .updatesOnly b, rr => { rr with updatesOnly := b }
  | .other, rr => rr

/-- `for _, opt := range opts { opt.apply(rr) }` from a given request -/
def applyOpts (opts : List ROpt) (rr : ReadReq) : ReadReq := opts.foldl (fun r o => o.apply r) rr

/-- `ComputeReadConfig(opts...)` -/
def computeReadConfig (opts : List ROpt) : ReadReq := applyOpts opts ReadReq.zero

inductive Path where
  | lossy      -- DropExcess / mergeCollectionExcess is put between the listener and the forwarder
  | blocking   -- the forwarder ranges over the listener's own unbuffered channel
deriving DecidableEq, Repr

/-- `if !readConfig.Backpressure { … }` in `onUpdate` -/
def pathOf (rr : ReadReq) : Path := if rr.backpressure then .blocking else .lossy

/-- SPEC: the last backpressure option, if any -/
def lastBP : List ROpt → Option Bool
  | [] => none
  | o :: os =>
    match lastBP os with
    | some b => some b
    | none => match o with
      | .backpressure b => some b
      | _ => none

/-- SPEC: the last updates-only option, if any -/
def lastUO : List ROpt → Option Bool
  | [] => none
  | o :: os =>
    match lastUO os with
    | some b => some b
    | none => match o with
      | .updatesOnly b => some b
      | _ => none

theorem applyOpts_backpressure (opts : List ROpt) (rr : ReadReq) :
    (applyOpts opts rr).backpressure = (lastBP opts).getD rr.backpressure := by
  induction opts generalizing rr with
  | nil => rfl
  | cons o os ih =>
    show (applyOpts os (o.apply rr)).backpressure = _
    rw [ih]
    simp only [lastBP]
    cases h : lastBP os with
    | some b => rfl
    | none => cases o <;> rfl

theorem applyOpts_updatesOnly (opts : List ROpt) (rr : ReadReq) :
    (applyOpts opts rr).updatesOnly = (lastUO opts).getD rr.updatesOnly := by
  induction opts generalizing rr with
  | nil => rfl
  | cons o os ih =>
    show (applyOpts os (o.apply rr)).updatesOnly = _
    rw [ih]
    simp only [lastUO]
    cases h : lastUO os with
    | some b => rfl
    | none => cases o <;> rfl

theorem lastBP_none_of_no_bp (opts : List ROpt) (h : ∀ o ∈ opts, ∀ b', o ≠ .backpressure b') :
    lastBP opts = none := by
  induction opts with
  | nil => rfl
  | cons o os ih =>
    have h1 := ih (fun o' ho' => h o' (List.mem_cons_of_mem _ ho'))
    simp only [lastBP, h1]
    cases o with
    | backpressure b' => exact absurd rfl (h _ List.mem_cons_self b')
    | updatesOnly _ => rfl
    | other => rfl

theorem lastBP_append_cons (pre post : List ROpt) (b : Bool)
    (hpost : ∀ o ∈ post, ∀ b', o ≠ .backpressure b') :
    lastBP (pre ++ .backpressure b :: post) = some b := by
  have hp := lastBP_none_of_no_bp post hpost
  induction pre with
  | nil => simp only [List.nil_append, lastBP, hp]
  | cons o os ih => simp only [List.cons_append, lastBP, ih]

theorem pathOf_computeReadConfig (opts : List ROpt) :
    pathOf (computeReadConfig opts) = if (lastBP opts).getD false then .blocking else .lossy := by
  rw [pathOf, computeReadConfig, applyOpts_backpressure]
  rfl

/-- the listener a subscription with these options becomes: the lossy pipeline `l` or the backpressured `b` -/
def installed {α : Type} (rr : ReadReq) (l : VCfg α) (b : BCfg α) : MSub α :=
  match pathOf rr with
  | .lossy => .lossy l
  | .blocking => .bp b

/-- Inside Drv.lean, which opens `ScVerif.Line`, this name wins over `Line.showBool` ("true"/"false"): `ropts` prints 1/0. -/
def showBool (b : Bool) : String := if b then "1" else "0"

def showPath : Path → String
  | .lossy => "lossy"
  | .blocking => "blocking"

def parseROpt? : String → Option ROpt
  | "bp1" => some (.backpressure true)
  | "bp0" => some (.backpressure false)
  | "uo1" => some (.updatesOnly true)
  | "uo0" => some (.updatesOnly false)
  | "e" => some .other
  | _ => none

end ScVerif.C09
