import ScVerif.C09.MachineLemmas
import ScVerif.Base.ListLemmas
/-
C09 — the `mergeCollectionExcess` goroutine exactly as coded: `messages` is a Go map id ↦ change
(here a function `ι → Option (Change ι μ)` with get / set / delete) and `queue` a `container/list` of
ids (here a `List ι`: `PushBack`, `Front`, `Remove(front)`, and the loop that removes the first node
holding an id).  `crecv`/`cemit` follow the two `select` cases and the empty-queue branch statement by
statement, including `event()` reading `messages[id]` with Go's zero value for a missing key
(`zero`, never used in reachable states).

`C09_map_queue_refines` (Props) proves that this machine emits, for every recv/emit pattern, exactly
what the single-list machine of `Merge.lean` emits — so every theorem about `run` holds for the
machine as coded, and the driver executes THIS machine.
-/
namespace ScVerif.C09

variable {ι μ : Type} [DecidableEq ι]

structure CState (ι μ : Type) where
  messages : ι → Option (Change ι μ)
  queue : List ι

def CState.init : CState ι μ := ⟨fun _ => none, []⟩

def mapSet (m : ι → Option (Change ι μ)) (i : ι) (c : Change ι μ) : ι → Option (Change ι μ) :=
  fun j => if j = i then some c else m j

def mapDel (m : ι → Option (Change ι μ)) (i : ι) : ι → Option (Change ι μ) :=
  fun j => if j = i then none else m j

/-- `for n := queue.Front(); n != nil; n = n.Next() { if n.Value == id { queue.Remove(n); break } }` -/
def removeFirst (i : ι) : List ι → List ι
  | [] => []
  | j :: q => if j = i then q else j :: removeFirst i q

/-- The `<-in` case. -/
def crecv (st : CState ι μ) (e : Change ι μ) : CState ι μ :=
  match st.queue with
  | [] =>
    -- else branch: messages[newMessage.Id] = newMessage; queue.PushBack(newMessage.Id)
    ⟨mapSet st.messages e.id e, st.queue ++ [e.id]⟩
  | _ =>
    match st.messages e.id with
    | some oldMessage =>
      -- hasOld: merge, unlink the id from the queue
      let queue' := removeFirst e.id st.queue
      match mergeChanges oldMessage e with
      | none => ⟨mapDel st.messages e.id, queue'⟩                      -- !send: delete(messages, id); continue
      | some m => ⟨mapSet st.messages e.id m, queue' ++ [e.id]⟩       -- messages[id] = newMessage; queue.PushBack(id)
    | none => ⟨mapSet st.messages e.id e, st.queue ++ [e.id]⟩

/-- The `out <- event()` case: `event()` is `messages[queue.Front()]` (zero value if missing); after
the send the front is removed from the queue and from the map. -/
def cemit (zero : Change ι μ) (st : CState ι μ) : Option (Change ι μ × CState ι μ) :=
  match st.queue with
  | [] => none
  | i :: q => some ((st.messages i).getD zero, ⟨mapDel st.messages i, q⟩)

def crunOut (zero : Change ι μ) (st : CState ι μ) :
    List (Move (Change ι μ)) → List (Option (Change ι μ)) × CState ι μ
  | [] => ([], st)
  | .recv e :: ms => crunOut zero (crecv st e) ms
  | .emit :: ms =>
    match cemit zero st with
    | some (o, st') => let r := crunOut zero st' ms; (some o :: r.1, r.2)
    | none => let r := crunOut zero st ms; (none :: r.1, r.2)

/-- Abstraction: the pending changes in queue order. -/
def CState.abs (st : CState ι μ) : List (Change ι μ) := st.queue.filterMap st.messages

/-- Representation invariant: the queue holds each id once, exactly the keys of the map, and the change
stored under a key is a change of that id. -/
structure CInv (st : CState ι μ) : Prop where
  nodup : st.queue.Nodup
  keyed : ∀ i ∈ st.queue, ∃ c, st.messages i = some c ∧ c.id = i
  only : ∀ i, i ∉ st.queue → st.messages i = none

omit [DecidableEq ι] in
theorem CInv_init : CInv (CState.init : CState ι μ) :=
  ⟨by simp [CState.init], by simp [CState.init], by simp [CState.init]⟩

theorem removeFirst_eq_erase (i : ι) (q : List ι) : removeFirst i q = q.erase i := by
  induction q with
  | nil => rfl
  | cons j q ih => simp only [removeFirst, List.erase_cons, beq_iff_eq, ih]

theorem removeFirst_of_not_mem (i : ι) (q : List ι) (h : i ∉ q) : removeFirst i q = q := by
  rw [removeFirst_eq_erase, List.erase_of_not_mem h]

theorem extract_abs (m : ι → Option (Change ι μ)) (q : List ι) (i : ι)
    (hkey : ∀ j ∈ q, ∃ c, m j = some c ∧ c.id = j) :
    extract i (q.filterMap m) =
      if i ∈ q then (m i).map (fun a => (a, (removeFirst i q).filterMap m)) else none := by
  -- along the queue: the change stored under the head is for the head's id (`hkey`), so `extract` stops there iff
  -- the head is `i`, where `removeFirst` unlinks
  induction q with
  | nil => simp [extract]
  | cons j q ih =>
    obtain ⟨c, hc, hcid⟩ := hkey j (by simp)
    have ih' := ih (fun k hk => hkey k (by simp [hk]))
    simp only [List.filterMap_cons, hc]
    unfold extract
    by_cases hji : j = i
    · subst hji
      simp [hcid, hc, removeFirst]
    · have hci : c.id ≠ i := by rw [hcid]; exact hji
      simp only [hci, if_false, ih']
      by_cases hiq : i ∈ q
      · have : i ∈ j :: q := List.mem_cons_of_mem _ hiq
        simp only [hiq, this, if_true, removeFirst, hji, if_false, List.filterMap_cons, hc]
        cases m i <;> simp
      · have : i ∉ j :: q := by simp [hiq, Ne.symm hji]
        simp [hiq, this]

omit [DecidableEq ι] in
theorem CInv_abs_ids {st : CState ι μ} (h : CInv st) : ids st.abs = st.queue := by
  rcases st with ⟨m, q⟩
  simp only [CState.abs, ids]
  have hk := h.keyed
  simp only at hk
  clear h
  induction q with
  | nil => rfl
  | cons j q ih =>
    obtain ⟨c, hc, hcid⟩ := hk j (by simp)
    simp [hc, hcid, ih (fun k hkq => hk k (by simp [hkq]))]

/-- Deleting a key and unlinking it from the queue (the `!send` branch, and what `emit` does to the
front) keeps the invariant; the other pending changes stay as they were. -/
theorem CInv_drop {m : ι → Option (Change ι μ)} {q : List ι} (h : CInv ⟨m, q⟩) (i : ι) :
    CInv ⟨mapDel m i, removeFirst i q⟩ ∧
    (removeFirst i q).filterMap (mapDel m i) = (removeFirst i q).filterMap m := by
  obtain ⟨hnd, hkey, honly⟩ := h
  simp only at hnd hkey honly
  rw [removeFirst_eq_erase]
  have h2 : i ∉ q.erase i := hnd.not_mem_erase
  have h3 : ∀ j, j ∈ q.erase i ↔ j ≠ i ∧ j ∈ q := fun j => hnd.mem_erase_iff
  refine ⟨⟨hnd.erase i, ?_, ?_⟩, Base.filterMap_congr fun j hj => if_neg fun (e : j = i) => h2 (e ▸ hj)⟩
  · intro j hj
    obtain ⟨hji, hjq⟩ := (h3 j).mp hj
    obtain ⟨c, hc, hcid⟩ := hkey j hjq
    exact ⟨c, by simp only [mapDel, hji, if_false, hc], hcid⟩
  · intro j hj
    by_cases hji : j = i
    · simp only [mapDel, hji, if_true]
    · simp only [mapDel, hji, if_false]
      exact honly j (fun hq => hj ((h3 j).mpr ⟨hji, hq⟩))

theorem CInv_push {m : ι → Option (Change ι μ)} {q : List ι} (h : CInv ⟨m, q⟩) {i : ι} (hi : i ∉ q)
    {c : Change ι μ} (hc : c.id = i) :
    CInv ⟨mapSet m i c, q ++ [i]⟩ ∧ (q ++ [i]).filterMap (mapSet m i c) = q.filterMap m ++ [c] := by
  obtain ⟨hnd, hkey, honly⟩ := h
  simp only at hnd hkey honly
  refine ⟨⟨?_, ?_, ?_⟩, ?_⟩
  · rw [List.nodup_append]
    exact ⟨hnd, by simp, fun x hx y hy => by rw [List.mem_singleton.mp hy]; exact fun e => hi (e ▸ hx)⟩
  · intro j hj
    rcases List.mem_append.mp hj with hj | hj
    · have hji : j ≠ i := fun e => hi (e ▸ hj)
      obtain ⟨d, hd, hdid⟩ := hkey j hj
      exact ⟨d, by simp only [mapSet, hji, if_false, hd], hdid⟩
    · rw [List.mem_singleton.mp hj]
      exact ⟨c, by simp only [mapSet, if_true], hc⟩
  · intro j hj
    have hji : j ≠ i := fun e => hj (by simp [e])
    simp only [mapSet, hji, if_false]
    exact honly j (fun hq => hj (List.mem_append_left _ hq))
  · rw [List.filterMap_append,
      Base.filterMap_congr (f := mapSet m i c) (g := m) fun j hj => if_neg fun (e : j = i) => hi (e ▸ hj)]
    simp [mapSet]

theorem mapSet_mapDel (m : ι → Option (Change ι μ)) (i : ι) (c : Change ι μ) :
    mapSet (mapDel m i) i c = mapSet m i c := by
  funext j
  by_cases h : j = i <;> simp [mapSet, mapDel, h]

/-- `crecv` without the empty-queue special case (the counterpart of `recv_pending`): when the queue is empty
the map is, so the general rule stores and enqueues as the `else` branch does. -/
theorem crecv_eq {m : ι → Option (Change ι μ)} {q : List ι} (honly : ∀ i, i ∉ q → m i = none)
    (e : Change ι μ) :
    crecv ⟨m, q⟩ e =
      (match m e.id with
       | some oldMessage =>
         (match mergeChanges oldMessage e with
          | none => ⟨mapDel m e.id, removeFirst e.id q⟩
          | some mm => ⟨mapSet m e.id mm, removeFirst e.id q ++ [e.id]⟩)
       | none => ⟨mapSet m e.id e, q ++ [e.id]⟩ : CState ι μ) := by
  cases q with
  | nil =>
    have : m e.id = none := honly e.id (by simp)
    simp [crecv, this]
  | cons j q' => simp only [crecv]

theorem crecv_refines {st : CState ι μ} (h : CInv st) (e : Change ι μ) :
    CInv (crecv st e) ∧ (crecv st e).abs = (recv ⟨st.abs⟩ e).pending := by
  rcases st with ⟨m, q⟩
  have hnd := h.nodup
  have hkey : ∀ i ∈ q, ∃ c, m i = some c ∧ c.id = i := h.keyed
  have honly := h.only
  rw [recv_pending]
  simp only [CState.abs]
  rw [extract_abs m q e.id hkey]
  rw [crecv_eq honly]
  by_cases hiq : e.id ∈ q
  · obtain ⟨a, ha, haid⟩ := hkey e.id hiq
    obtain ⟨hdrop, habs⟩ := CInv_drop h e.id
    simp only [ha, hiq, if_true, Option.map_some]
    cases hm : mergeChanges a e with
    | none => exact ⟨hdrop, by simpa using habs⟩
    | some mm =>
      -- the merged change goes back under its key: a delete followed by a push
      have hmid : mm.id = e.id := by
        rcases merge_cases a e with ⟨m', hm', hid', _⟩ | ⟨hn, _⟩
        · rw [hm] at hm'; cases hm'; exact hid'
        · rw [hm] at hn; cases hn
      have hpush := CInv_push hdrop (removeFirst_eq_erase e.id q ▸ hnd.not_mem_erase) hmid
      rw [mapSet_mapDel, habs] at hpush
      exact hpush
  · have hnone : m e.id = none := honly e.id hiq
    simp only [hnone, hiq, if_false]
    exact CInv_push h hiq rfl

theorem cemit_refines (zero : Change ι μ) {st : CState ι μ} (h : CInv st) :
    match cemit zero st with
    | none => emit ⟨st.abs⟩ = none
    | some (o, st') => emit ⟨st.abs⟩ = some (o, ⟨st'.abs⟩) ∧ CInv st' := by
  rcases st with ⟨m, q⟩
  cases q with
  | nil => simp [cemit, CState.abs]
  | cons i q =>
    obtain ⟨c, hc, hcid⟩ : ∃ c, m i = some c ∧ c.id = i := h.keyed i (by simp)
    obtain ⟨hdrop, habs⟩ := CInv_drop h i
    have hq : removeFirst i (i :: q) = q := by simp [removeFirst]
    rw [hq] at hdrop habs
    simp only [cemit, CState.abs, List.filterMap_cons, hc, emit_cons, Option.getD_some]
    exact ⟨by rw [habs], hdrop⟩

theorem crunOut_refines (zero : Change ι μ) (st : CState ι μ) (h : CInv st)
    (ms : List (Move (Change ι μ))) :
    (crunOut zero st ms).1 = (runOut ⟨st.abs⟩ ms).1 ∧
    (crunOut zero st ms).2.abs = (runOut ⟨st.abs⟩ ms).2.pending ∧ CInv (crunOut zero st ms).2 := by
  induction ms generalizing st with
  | nil => exact ⟨rfl, rfl, h⟩
  | cons mv ms ih =>
    cases mv with
    | recv e =>
      obtain ⟨hinv, habs⟩ := crecv_refines h e
      have := ih (crecv st e) hinv
      simp only [crunOut, runOut]
      have hst : recv ⟨st.abs⟩ e = ⟨(crecv st e).abs⟩ := by
        rw [habs]
      rw [hst]
      exact this
    | emit =>
      have he := cemit_refines zero h
      simp only [crunOut, runOut]
      cases hc : cemit zero st with
      | none =>
        rw [hc] at he
        simp only [he]
        exact ⟨by rw [(ih st h).1], (ih st h).2⟩
      | some p =>
        obtain ⟨o, st'⟩ := p
        rw [hc] at he
        simp only [he.1]
        have := ih st' he.2
        exact ⟨by rw [this.1], this.2⟩

end ScVerif.C09
