import ScVerif.C09.Subs
/-! One listener's pipeline: `Value.Pull`'s forwarder with a response filter is the plain forwarder on the filtered
values (`vstepF_mapF`), so `VInv` is proved once; the backpressured subscriber; `modAt` is `List.modify`. -/
namespace ScVerif.C09

theorem modAt_eq_modify {α : Type} (f : α → α) (k : Nat) (l : List α) : modAt f k l = l.modify k f := by
  induction l generalizing k with
  | nil => cases k <;> rfl
  | cons x xs ih =>
    cases k with
    | zero => rfl
    | succ k => rw [modAt, ih, List.modify_succ_cons]

theorem modAt_getElem? {α : Type} (f : α → α) (j k : Nat) (xs : List α) :
    (modAt f j xs)[k]? = if j = k then xs[k]?.map f else xs[k]? := by
  rw [modAt_eq_modify, List.getElem?_modify]
  split <;> simp_all

theorem modAt_length {β : Type} (f : β → β) (k : Nat) (xs : List β) : (modAt f k xs).length = xs.length := by
  rw [modAt_eq_modify, List.length_modify]

theorem modAt_forall {α : Type} {P : Nat → α → Prop} {f : α → α} {k : Nat} {xs : List α}
    (hk : ∀ x, xs[k]? = some x → P k (f x)) (h : ∀ j x, j ≠ k → xs[j]? = some x → P j x) :
    ∀ j y, (modAt f k xs)[j]? = some y → P j y := by
  intro j y hy
  rw [modAt_getElem?] at hy
  by_cases hkj : k = j
  · subst hkj
    rw [if_pos rfl] at hy
    obtain ⟨x, hx, rfl⟩ := Option.map_eq_some_iff.mp hy
    exact hk x hx
  · rw [if_neg hkj] at hy
    exact h j y (Ne.symm hkj) hy

theorem modAt_all {β : Type} {P : β → Prop} (f : β → β) (k : Nat) (xs : List β)
    (h : ∀ x ∈ xs, P x) (hf : ∀ x ∈ xs, P (f x)) : ∀ x ∈ modAt f k xs, P x := by
  intro x hx
  obtain ⟨j, hj⟩ := List.mem_iff_getElem?.mp hx
  exact modAt_forall (P := fun _ x => P x) (fun y hy => hf y (List.mem_of_getElem? hy))
    (fun _ y _ hy => h y (List.mem_of_getElem? hy)) j x hj

theorem vstepF_mapF {α : Type} (E : Option α → α → Bool) (F : α → α) (c : VCfg α) (m : PMove α) :
    (vstepF E F c m).mapF F = vstep E (c.mapF F) (m.mapF F) := by
  rcases c with ⟨slot, last, inHand, delivered, received⟩
  cases m with
  | recv e => simp [vstepF, vstep, VCfg.mapF, PMove.mapF]
  | take =>
    simp only [vstepF, vstep, VCfg.mapF, PMove.mapF]
    cases inHand with
    | some d => rfl
    | none =>
      cases slot with
      | none => rfl
      | some v =>
        by_cases hE : E last (F v) <;> simp [hE]
  | deliver =>
    cases inHand <;> rfl

theorem vrunF_mapF {α : Type} (E : Option α → α → Bool) (F : α → α) (c : VCfg α) (ms : List (PMove α)) :
    (vrunF E F c ms).mapF F = vrun E (c.mapF F) (ms.map (PMove.mapF F)) := by
  induction ms generalizing c with
  | nil => rfl
  | cons m ms ih =>
    show (vrunF E F (vstepF E F c m) ms).mapF F = _
    rw [ih, vstepF_mapF]
    rfl

theorem VInv.quiet_latest {α : Type} {E : Option α → α → Bool} {F : α → α} {c : VCfg α}
    (h : VInv E none (c.mapF F)) (hs : c.slot = none) {r : α} (hr : c.received.getLast? = some r) :
    c.last = some (F r) ∨ E c.last (F r) = true := by
  have hr' : (c.mapF F).received.getLast? = some (F r) := by
    simp only [VCfg.mapF, List.getLast?_map, hr]; rfl
  rcases h.fresh (F r) hr' with h1 | ⟨_, h1⟩
  · simp [VCfg.mapF, hs] at h1
  · exact h1

theorem vstepF_received {α : Type} (E : Option α → α → Bool) (F : α → α) (c : VCfg α) (m : PMove α) :
    (vstepF E F c m).received = c.received ++ pinputs [m] := by
  rcases c with ⟨slot, last, inHand, delivered, received⟩
  cases m with
  | recv e => rfl
  | take =>
    simp only [vstepF, pinputs, List.append_nil]
    -- the forwarder takes the slot's value only when it holds nothing; either way (sent or suppressed)
    -- `received` is not touched
    cases inHand with
    | some d => rfl
    | none =>
      cases slot with
      | none => rfl
      | some v =>
        show (ite (E last (F v) = true) _ _ : VCfg α).received = received
        split <;> rfl
  | deliver =>
    simp only [vstepF, pinputs, List.append_nil]
    cases inHand <;> rfl

theorem vrunF_received {α : Type} (E : Option α → α → Bool) (F : α → α) (c : VCfg α) (ms : List (PMove α)) :
    (vrunF E F c ms).received = c.received ++ pinputs ms := by
  induction ms generalizing c with
  | nil => simp [vrunF, pinputs]
  | cons m ms ih =>
    show (vrunF E F (vstepF E F c m) ms).received = _
    rw [ih, vstepF_received]
    cases m <;> simp [pinputs]

theorem VInv_subscribed {α : Type} (E : Option α → α → Bool) (F : α → α) (cur : Option α) :
    VInv E none ((VCfg.subscribed F cur).mapF F) := by
  refine ⟨?_, ?_, ?_, fun pre a b post heq => absurd heq (no_adjacent ?_)⟩
  all_goals cases cur <;> simp [VCfg.subscribed, VCfg.mapF]

section
variable {α : Type} {c : BCfg α} {d : α}

theorem bstep_offer (h : c.inHand = none) (e : α) :
    bstep c (.offer e) = { c with inHand := some e, accepted := c.accepted ++ [e] } := by
  simp only [bstep, h]

theorem bstep_offer_busy (h : c.inHand = some d) (e : α) : bstep c (.offer e) = c := by
  simp only [bstep, h]

theorem bstep_deliver (h : c.inHand = some d) :
    bstep c .deliver = { c with inHand := none, delivered := c.delivered ++ [d] } := by
  simp only [bstep, h]

theorem bstep_deliver_none (h : c.inHand = none) : bstep c .deliver = c := by
  simp only [bstep, h]
end

theorem bstep_lossless {α : Type} {c : BCfg α} (h : c.delivered ++ c.inHand.toList = c.accepted)
    (m : BMove α) : (bstep c m).delivered ++ (bstep c m).inHand.toList = (bstep c m).accepted := by
  rcases c with ⟨hand, del, acc⟩
  cases m <;> cases hand <;> simp_all [bstep]

theorem brun_lossless {α : Type} {c : BCfg α} (h : c.delivered ++ c.inHand.toList = c.accepted)
    (ms : List (BMove α)) : (brun c ms).delivered ++ (brun c ms).inHand.toList = (brun c ms).accepted :=
  List.foldlRecOn (motive := fun c : BCfg α => c.delivered ++ c.inHand.toList = c.accepted) ms _ h
    fun _ hc m _ => bstep_lossless hc m

theorem brun_offer_deliver {α : Type} (es : List α) (c : BCfg α) (hc : c.inHand = none) :
    (brun c (es.flatMap (fun e => [BMove.offer e, BMove.deliver]))).delivered = c.delivered ++ es := by
  induction es generalizing c with
  | nil => simp [brun]
  | cons e es ih =>
    simp only [List.flatMap_cons, List.cons_append, List.nil_append]
    show (brun (bstep (bstep c (.offer e)) .deliver) _).delivered = _
    rw [bstep_offer hc, bstep_deliver rfl, ih _ rfl, List.append_assoc]
    rfl

theorem vdrain_quiet {α : Type} (E : Option α → α → Bool) (F : α → α) (c : VCfg α) :
    let c' := vrunF E F c [.take, .deliver, .take, .deliver]
    c'.slot = none ∧ c'.inHand = none := by
  rcases c with ⟨slot, last, inHand, delivered, received⟩
  cases inHand <;> cases slot with
  | none => simp [vrunF, vstepF]
  | some v => by_cases hE : E last (F v) <;> simp [vrunF, vstepF, hE]

theorem vrunF_append {α : Type} (E : Option α → α → Bool) (F : α → α) (c : VCfg α) (xs ys : List (PMove α)) :
    vrunF E F c (xs ++ ys) = vrunF E F (vrunF E F c xs) ys := by
  simp [vrunF, List.foldl_append]

theorem pinputs_append {α : Type} (xs ys : List (PMove α)) : pinputs (xs ++ ys) = pinputs xs ++ pinputs ys := by
  induction xs with
  | nil => rfl
  | cons m xs ih => cases m <;> simp [pinputs, ih]

end ScVerif.C09
