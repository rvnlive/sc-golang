import ScVerif.C09.Change
/-
C09 — model of the lossy-delivery code:

* `mergeChanges`            pkg/resource/backpressure.go (the 5×5 kind table, as coded, including the
                            cells commented "not sure how this happens")
* `MState/recv/emit`        the goroutine of `mergeCollectionExcess`: `messages` (map id → change) and
                            `queue` (list of ids) are kept as ONE list of pending changes in queue order;
                            the map holds exactly the queued ids, one change each
* `DState/drecv/demit`      the goroutine of `minibus.DropExcess` (single slot)

Each goroutine is a state machine with two moves mirroring its `select`: `recv e` (the `<-in` case,
offered in every state) and `emit` (the `out <- …` case, offered iff something is pending).
-/
namespace ScVerif.C09

variable {ι μ : Type}

/-- `mergeChanges(a, b)`; `none` stands for `send == false` (the Go code then returns the zero change,
which the caller ignores). -/
def mergeChanges (a b : Change ι μ) : Option (Change ι μ) :=
  let b := { b with lastSeed := a.lastSeed || b.lastSeed }
  match a.kind with
  | .add =>
    match b.kind with
    | .add => some b                                   -- "not sure how this happens, but sure"
    | .update => some { b with kind := .add, old := none }
    | .replace => some { b with kind := .add, old := none }
    | .remove => none
    | .unspecified => some b
  | .update =>
    let b := { b with old := a.old }
    if b.kind = .add then some { b with kind := .replace }   -- "not sure how this happens, but sure"
    else some b
  | .replace =>
    let b := { b with old := a.old }
    if b.kind = .add ∨ b.kind = .update then some { b with kind := .replace } else some b
  | .remove =>
    let b := { b with old := a.old }
    if b.kind ≠ .remove then some { b with kind := .replace } else some b
  | .unspecified => some b

variable [DecidableEq ι]

/-- Split the first pending change for id `i` out of the queue: `messages[i]` together with the queue
after `queue.Remove(n)` of the first node holding `i`. -/
def extract (i : ι) : List (Change ι μ) → Option (Change ι μ × List (Change ι μ))
  | [] => none
  | c :: cs =>
    if c.id = i then some (c, cs)
    else match extract i cs with
      | some (a, rest) => some (a, c :: rest)
      | none => none

/-- State of the `mergeCollectionExcess` goroutine: the pending changes in queue (FIFO) order. -/
structure MState (ι μ : Type) where
  pending : List (Change ι μ)

def MState.init : MState ι μ := ⟨[]⟩

/-- The `<-in` case (both the blocking receive of the empty-queue branch and the select case). -/
def recv (st : MState ι μ) (e : Change ι μ) : MState ι μ :=
  match st.pending with
  | [] => ⟨[e]⟩                                         -- `else` branch: queue empty, store and enqueue
  | _ =>
    match extract e.id st.pending with
    | some (a, rest) =>                                  -- hasOld: merge, unlink the id from the queue
      match mergeChanges a e with
      | some m => ⟨rest ++ [m]⟩                          -- messages[id] = merged; queue.PushBack(id)
      | none => ⟨rest⟩                                   -- !send: delete(messages, id); continue
    | none => ⟨st.pending ++ [e]⟩

/-- The `out <- event()` case: enabled iff the queue is non-empty; emits the front. -/
def emit (st : MState ι μ) : Option (Change ι μ × MState ι μ) :=
  match st.pending with
  | [] => none
  | c :: cs => some (c, ⟨cs⟩)

/-- A move of the environment: offer one input, or take one output. -/
inductive Move (α : Type) where
  | recv (e : α)
  | emit

/-- A run configuration: machine state plus the two histories the theorems talk about. -/
structure Cfg (ι μ : Type) where
  st : MState ι μ
  emitted : List (Change ι μ)
  received : List (Change ι μ)

def Cfg.init : Cfg ι μ := ⟨MState.init, [], []⟩

/-- One move. An `emit` offered while nothing is pending is not enabled: the configuration stays. -/
def step (c : Cfg ι μ) : Move (Change ι μ) → Cfg ι μ
  | .recv e => { c with st := recv c.st e, received := c.received ++ [e] }
  | .emit =>
    match emit c.st with
    | some (o, st') => { c with st := st', emitted := c.emitted ++ [o] }
    | none => c

def run (c : Cfg ι μ) (ms : List (Move (Change ι μ))) : Cfg ι μ := ms.foldl step c

/-- The answer of every `emit` move (`none` = not enabled) and the final state: the form in which the as-coded
machine (`crunOut`, MapQueue.lean, what the driver prints) is compared with this one.  `runOut_spec`
(MachineLemmas) ties it to `run`. -/
def runOut (st : MState ι μ) : List (Move (Change ι μ)) → List (Option (Change ι μ)) × MState ι μ
  | [] => ([], st)
  | .recv e :: ms => runOut (recv st e) ms
  | .emit :: ms =>
    match emit st with
    | some (o, st') => let r := runOut st' ms; (some o :: r.1, r.2)
    | none => let r := runOut st ms; (none :: r.1, r.2)

/-! ### DropExcess -/

/-- State of the `DropExcess` goroutine: `hasMessage`/`message`. -/
abbrev DState (α : Type) := Option α

def drecv {α : Type} (_ : DState α) (e : α) : DState α := some e

def demit {α : Type} (st : DState α) : Option (α × DState α) :=
  match st with
  | none => none
  | some m => some (m, none)

structure DCfg (α : Type) where
  st : DState α
  emitted : List α
  received : List α

def DCfg.init {α : Type} : DCfg α := ⟨none, [], []⟩

def dstep {α : Type} (c : DCfg α) : Move α → DCfg α
  | .recv e => { c with st := drecv c.st e, received := c.received ++ [e] }
  | .emit =>
    match demit c.st with
    | some (o, st') => { c with st := st', emitted := c.emitted ++ [o] }
    | none => c

def drun {α : Type} (c : DCfg α) (ms : List (Move α)) : DCfg α := ms.foldl dstep c

def drunOut {α : Type} (st : DState α) : List (Move α) → List (Option α) × DState α
  | [] => ([], st)
  | .recv e :: ms => drunOut (drecv st e) ms
  | .emit :: ms =>
    match demit st with
    | some (o, st') => let r := drunOut st' ms; (some o :: r.1, r.2)
    | none => let r := drunOut st ms; (none :: r.1, r.2)

end ScVerif.C09
