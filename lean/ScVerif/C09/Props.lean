import ScVerif.C09.MachineLemmas
import ScVerif.C09.SendTimeout
import ScVerif.C09.MapQueue
import ScVerif.C09.Pipeline
import ScVerif.C09.Include
/-!
# C09 — property theorems: lossy delivery preserves the folded view; slow readers never block writers

Property (fixed text): "Without backpressure, however slowly a subscriber receives, writes complete
without waiting for it, the subscriber eventually receives the most recent value or change, and the
events it does receive, folded in order, give the same view as the full sequence would (an add
followed by a remove cancels out, a remove followed by an add becomes a replace, old values chain per
id). With backpressure nothing is dropped while the subscriber keeps receiving and writers wait for
delivery; a Value write whose event cannot be delivered within its five-second send timeout returns
an error instead of hanging."

Models: `ScVerif/C09/Merge.lean` (`mergeChanges`, the `mergeCollectionExcess` machine `recv`/`emit`/`run`,
the `DropExcess` machine `drecv`/`demit`/`drun`), `MapQueue.lean` (the goroutine's map and queue as coded),
`Pipeline.lean` (the forwarder behind the machine, with `Include.lean`'s `Sim`; the Value pipeline), `SendTimeout.lean`;
all over arbitrary id and message types.
Spec: `View = ι → Option μ`, `apply`, `fold`, `WFHist` (`ScVerif/C09/Change.lean`).
Quantifiers: every theorem holds for all input streams (well-formed where stated) and all patterns
`ms : List Move` of "offer one input" / "take one output" — i.e. every producer/consumer interleaving.
-/
namespace ScVerif.C09

variable {ι μ : Type} [DecidableEq ι]

/-- Merge algebra, for ALL pairs of changes of one id and all views (no well-formedness needed): a merged change has
the effect of the two in sequence; only ADD;REMOVE yields nothing, and cancels when the ADD was from absent;
REMOVE;ADD becomes a REPLACE from the removed to the added value. -/
theorem C09_merge_algebra (a b : Change ι μ) (s : View ι μ) (hid : a.id = b.id) :
    (∀ m, mergeChanges a b = some m → m.id = b.id ∧ apply m s = apply b (apply a s)) ∧
    (mergeChanges a b = none → a.kind = .add ∧ b.kind = .remove ∧
        (s a.id = none → apply b (apply a s) = s)) ∧
    (a.kind = .add → b.kind = .remove → mergeChanges a b = none) ∧
    (a.kind = .remove → b.kind = .add →
        ∃ m, mergeChanges a b = some m ∧ m.kind = .replace ∧ m.old = a.old ∧ m.new = b.new) := by
  refine ⟨?_, ?_, ?_, ?_⟩
  · intro m hm
    rcases merge_cases a b with ⟨m', hm', h1, h2, _⟩ | ⟨hn, _⟩
    · rw [hm] at hm'
      cases hm'
      refine ⟨h1, ?_⟩
      rw [apply_apply_same a b s hid, apply_eq_set, h1, h2]
    · rw [hm] at hn; cases hn
  · intro hn
    rcases merge_cases a b with ⟨m', hm', _⟩ | ⟨_, h1, h2⟩
    · rw [hn] at hm'; cases hm'
    · refine ⟨h1, h2, ?_⟩
      intro hs
      rw [apply_apply_same a b s hid, Change.val, if_pos h2, ← hid, ← hs]
      exact set_self s a.id
  · intro ha hb
    rw [mergeChanges_eq, ha, hb]
    rfl
  · intro ha hb
    rw [mergeChanges_eq, ha, hb]
    exact ⟨_, rfl, rfl, by simp only [mergeOld, ha], rfl⟩

/-- Old values chain: the merge of two consecutive well-formed changes of one id is well formed where the first one
was, with the effect of both; when nothing is produced the two cancel exactly. -/
theorem C09_merge_wf (s : View ι μ) (a b : Change ι μ) (hid : a.id = b.id)
    (ha : WFChange s a) (hb : WFChange (apply a s) b) :
    match mergeChanges a b with
    | some m => m.id = b.id ∧ WFChange s m ∧ apply m s = apply b (apply a s)
    | none => apply b (apply a s) = s :=
  merge_wf hid ha hb

/-- The cells of the kind table commented "not sure how this happens" (ADD;ADD, UPDATE;ADD, REPLACE;ADD,
x;UNSPECIFIED …) never arise from consecutive well-formed changes of one id: only these eight kind pairs do. -/
theorem C09_reachable_cells (s : View ι μ) (a b : Change ι μ) (hid : a.id = b.id)
    (ha : WFChange s a) (hb : WFChange (apply a s) b) :
    (a.kind = .add ∨ a.kind = .update ∨ a.kind = .replace) ∧
        (b.kind = .update ∨ b.kind = .replace ∨ b.kind = .remove) ∨
    a.kind = .remove ∧ b.kind = .add := by
  have hab := WFChange_chain hid ha hb
  by_cases hr : a.kind = .remove
  · exact Or.inr ⟨hr, hab.mpr hr⟩
  · exact Or.inl ⟨Kind.of_ne_remove (WFChange_iff.mp ha).1 hr,
      Kind.of_ne_add (WFChange_iff.mp hb).1 (mt hab.mp hr)⟩

/-- View invariant, every well-formed input stream and every recv/emit pattern: what was emitted followed by what is
pending (FIFO order) folds to the same view as everything received, and everything offered has been received. -/
theorem C09_view_invariant (s0 : View ι μ) (ms : List (Move (Change ι μ)))
    (hw : WFHist s0 (inputs ms)) :
    let c := run Cfg.init ms
    c.received = inputs ms ∧
    fold (c.emitted ++ c.st.pending) s0 = fold c.received s0 := by
  have h := Inv_run ms (Inv_init s0) hw
  exact ⟨by simp [run_received, Cfg.init], h.view⟩

/-- The emitted stream (even continued by the pending changes) is itself a well-formed history from the same view. -/
theorem C09_out_wf (s0 : View ι μ) (ms : List (Move (Change ι μ))) (hw : WFHist s0 (inputs ms)) :
    let c := run Cfg.init ms
    WFHist s0 c.emitted ∧ WFHist s0 (c.emitted ++ c.st.pending) := by
  have h := Inv_run ms (Inv_init s0) hw
  exact ⟨(WFHist_append.mp h.wf).1, h.wf⟩

/-- Eventually the most recent state: once the consumer has taken everything pending, what it received folds to the
view of the full sequence. -/
theorem C09_drained_view (s0 : View ι μ) (ms : List (Move (Change ι μ))) (hw : WFHist s0 (inputs ms))
    (hd : (run Cfg.init ms).st.pending = []) :
    fold (run Cfg.init ms).emitted s0 = fold (inputs ms) s0 := by
  have h := C09_view_invariant s0 ms hw
  simp only [hd, List.append_nil] at h
  rw [h.2, h.1]

/-- Latest change per id (any input stream, any pattern): right after `e` is received the newest pending change is the
only one for `e`'s id and carries `e`'s new value, time and remove-ness; or nothing is pending for that id and `e`
was a REMOVE (an ADD met its REMOVE). -/
theorem C09_latest (ms : List (Move (Change ι μ))) (e : Change ι μ) :
    let P := (run Cfg.init (ms ++ [.recv e])).st.pending
    (∃ rest m, P = rest ++ [m] ∧ (∀ c ∈ rest, c.id ≠ e.id) ∧ m.id = e.id ∧ m.new = e.new ∧
        m.time = e.time ∧ (m.kind = .remove ↔ e.kind = .remove)) ∨
    ((∀ c ∈ P, c.id ≠ e.id) ∧ e.kind = .remove) := by
  have hb := run_bounded (Cfg.init : Cfg ι μ) ms List.nodup_nil (fun _ hi => nomatch hi)
  rw [run_append, run_cons, run_nil]
  generalize run Cfg.init ms = c at hb
  rcases c with ⟨⟨P⟩, E, R⟩
  obtain ⟨rest, hne, _, _, h | h⟩ := recv_latest P e hb.1
  · obtain ⟨m, hp, h1, h2, h3, h4⟩ := h
    exact Or.inl ⟨rest, m, hp, hne, h1, h2, h3, h4⟩
  · refine Or.inr ⟨?_, h.2⟩
    simp only [step]
    rw [h.1]; exact hne

/-- Never blocking, bounded memory (ANY input stream, any pattern — in particular no emit at all): `recv` is offered in
every state, at most one change per id is pending, and only for received ids. -/
theorem C09_nonblocking (ms : List (Move (Change ι μ))) :
    let c := run Cfg.init ms
    c.received = inputs ms ∧ (ids c.st.pending).Nodup ∧ ∀ i ∈ ids c.st.pending, i ∈ ids (inputs ms) := by
  have hb := run_bounded (Cfg.init : Cfg ι μ) ms List.nodup_nil (fun _ hi => nomatch hi)
  have hr : (run (Cfg.init : Cfg ι μ) ms).received = inputs ms := by simp [run_received, Cfg.init]
  exact ⟨hr, hb.1, by rw [← hr]; exact hb.2⟩

omit [DecidableEq ι] in
/-- `emit` — the `out <- event()` case of the goroutine's `select` — is offered exactly when the queue is non-empty. -/
theorem C09_emit_enabled (st : MState ι μ) : (emit st).isSome = !st.pending.isEmpty := by
  rcases st with ⟨P⟩
  cases P <;> simp

/-- DropExcess (any message type, any pattern): what the consumer received followed by the slot is a subsequence of
what was sent ending with the most recently sent message, so the next receive yields the latest value. -/
theorem C09_drop_latest {α : Type} (ms : List (Move α)) :
    let c := drun DCfg.init ms
    c.received = inputs ms ∧
    (c.emitted ++ c.st.toList).Sublist c.received ∧
    (c.emitted ++ c.st.toList).getLast? = c.received.getLast? ∧
    ∀ e, (drun DCfg.init (ms ++ [.recv e])).st = some e := by
  have h := DInv_run (DInv_init (α := α)) ms
  refine ⟨?_, h.sub, h.last, ?_⟩
  · simp [drun_received, DCfg.init]
  · intro e
    rw [drun_append, drun_cons, drun_nil]
    simp [dstep, drecv]

/-- Map + queue fidelity: the goroutine exactly as coded (`MapQueue.lean`) answers every emit of EVERY recv/emit
pattern as the single-list machine does, with the same pending changes in queue order — so every theorem about
`run` is a theorem about the code's data structure; `zero` (Go's zero value for a missing key) is never read. -/
theorem C09_map_queue_refines (zero : Change ι μ) (ms : List (Move (Change ι μ))) :
    (crunOut zero CState.init ms).1 = (runOut MState.init ms).1 ∧
    (crunOut zero CState.init ms).2.abs = (runOut MState.init ms).2.pending ∧
    (run Cfg.init ms).emitted = (crunOut zero CState.init ms).1.filterMap id ∧
    (run Cfg.init ms).st.pending = (crunOut zero CState.init ms).2.abs := by
  have h := crunOut_refines zero (CState.init : CState ι μ) CInv_init ms
  have habs : (CState.init : CState ι μ).abs = [] := rfl
  rw [habs] at h
  have hs := runOut_spec (MState.init : MState ι μ) [] [] ms
  refine ⟨h.1, h.2.1, ?_, ?_⟩
  · rw [h.1]; simpa [Cfg.init, MState.init] using hs.2
  · rw [h.2.1]
    have := hs.1
    simp only [Cfg.init] at this ⊢
    rw [this]
    rfl

/-- The three-stage pipeline of a lossy `Collection.Pull` (machine ▸ forwarder holding at most one event ▸ consumer)
with any forwarder transform that simulates a view map (`Sim T R`: the identity, or `include` as coded against the
filtered view, `C09_include_sim`), every interleaving of recv / take / deliver: everything offered is accepted;
delivered ▸ in hand ▸ pending-as-the-transform-will-show-it is a well-formed history of the mapped view (an item
moving out of the admitted set is a REMOVE, into it an ADD) folding to the mapped view of everything received. -/
theorem C09_pipeline_view (T : Change ι μ → Option (Change ι μ)) (R : View ι μ → View ι μ)
    (hsim : Sim T R) (s0 : View ι μ) (ms : List (PMove (Change ι μ)))
    (hw : WFHist s0 (pinputs ms)) :
    let c := prun T PCfg.init ms
    c.received = pinputs ms ∧
    fold (c.delivered ++ c.inHand.toList ++ c.st.pending.filterMap T) (R s0) = R (fold c.received s0) ∧
    WFHist (R s0) c.delivered ∧
    WFHist (R s0) (c.delivered ++ c.inHand.toList ++ c.st.pending.filterMap T) ∧
    (c.inHand = none → c.st.pending = [] →
        ∀ i, fold c.delivered (R s0) i = R (fold (pinputs ms) s0) i) := by
  have h := PInv_run ms (PInv_init T s0) hw
  have hrec : (prun T (PCfg.init : PCfg ι μ) ms).received = pinputs ms := by
    simp [prun_received, PCfg.init]
  obtain ⟨hwf', hview'⟩ := h.hist hsim
  refine ⟨hrec, hview', ?_, hwf', ?_⟩
  · exact (WFHist_append.mp (WFHist_append.mp hwf').1).1
  · intro hh hp i
    rw [hh, hp] at hview'
    simp only [Option.toList_none, List.append_nil, List.filterMap_nil] at hview'
    rw [hview', hrec]

/-- The lossy `Value.Pull` pipeline (DropExcess slot ▸ forwarder with the `last`-value equivalence ▸ consumer), ANY
equivalence `E` (`E last v` = "suppress v"), seed and interleaving: the consumer gets a subsequence of what was
written; no value is sent that `E` equates with the one sent before it (the seed included); the most recent write
is in the slot, or is the last value sent, or `E` equates the last value sent with it. -/
theorem C09_value_pipeline {α : Type} (E : Option α → α → Bool) (seed : Option α) (ms : List (PMove α)) :
    let c := vrun E (VCfg.init seed) ms
    (c.delivered ++ c.inHand.toList ++ c.slot.toList).Sublist c.received ∧
    (∀ pre a b post, seed.toList ++ c.delivered ++ c.inHand.toList = pre ++ a :: b :: post →
        E (some a) b = false) ∧
    (∀ r, c.received.getLast? = some r →
        c.slot = some r ∨ (c.slot = none ∧
          ((c.delivered ++ c.inHand.toList).getLast?.or seed = some r ∨
           E ((c.delivered ++ c.inHand.toList).getLast?.or seed) r = true))) := by
  have h := VInv_run (VInv_init E seed) ms
  refine ⟨h.sub, h.noDup, ?_⟩
  intro r hr
  have := h.fresh r hr
  rw [h.lastSent] at this
  exact this

/-- Send deadline of `Value.set` (`SendTimeout.lean`): the send is over by the deadline; a listener whose receiver
never takes the event (backpressure, subscriber not receiving) and is never cancelled makes `Send` give up exactly
at the deadline and `set` return an error; with every receiver ready at once (lossy listeners — `C09_nonblocking`
— or subscribers that keep receiving) the write completes at once. -/
theorem C09_send_timeout (dl : Nat) (ls : List Listener) (hdl : 0 < dl) :
    (busSend dl 0 ls).time ≤ dl ∧
    ((∃ l ∈ ls, l.readyAt = none ∧ l.cancelledAt = none) →
        busSend dl 0 ls = .deadlineExceeded dl ∧ setReturnsError dl ls = true) ∧
    ((∀ l ∈ ls, ∃ t, l.readyAt = some t ∧ t ≤ 0) →
        busSend dl 0 ls = .ok 0 ∧ setReturnsError dl ls = false) := by
  refine ⟨busSend_time_le dl 0 ls (Nat.zero_le _), ?_, ?_⟩
  · intro h
    have := busSend_never_ready dl 0 ls (Nat.zero_le _) h
    exact ⟨this, by simp [setReturnsError, this]⟩
  · intro h
    have := busSend_all_ready dl 0 ls hdl h
    exact ⟨this, by simp [setReturnsError, this]⟩

section examples

private def cAdd : Change Nat Nat := ⟨1, .add, 1, none, some 10, false, false⟩
private def cUpd : Change Nat Nat := ⟨1, .update, 2, some 10, some 20, false, false⟩
private def cRem : Change Nat Nat := ⟨1, .remove, 3, some 20, none, false, false⟩
private def cAdd2 : Change Nat Nat := ⟨2, .add, 4, none, some 30, false, false⟩

/-- Well-formed histories exist (add, update, remove of one id interleaved with another id). -/
example : WFHist (View.empty : View Nat Nat) [cAdd, cAdd2, cUpd, cRem] := by
  simp [WFHist, WFChange, apply, View.set, View.empty, cAdd, cAdd2, cUpd, cRem]

/-- A run that merges: three inputs for id 1 arrive before the consumer takes anything; the ADD, the
UPDATE and the REMOVE cancel to nothing and only id 2's ADD is emitted. -/
example : (run (Cfg.init : Cfg Nat Nat) [.recv cAdd, .recv cAdd2, .recv cUpd, .recv cRem, .emit, .emit]).emitted
    = [cAdd2] := rfl

/-- The cells "not sure how this happens": what the code does there (outside well-formed streams). -/
example : mergeChanges cAdd cAdd = some cAdd := rfl
example : (mergeChanges cUpd cAdd).map (·.kind) = some Kind.replace := rfl

/-- a pipeline run in which the forwarder holds an event in hand while two more merge behind it -/
example :
    (fun c : PCfg Nat Nat => (c.delivered.map (·.time), c.inHand.map (·.time), c.st.pending.map (·.time)))
      (prun some PCfg.init
        [.recv cAdd, .take, .recv cUpd, .recv cRem, .recv cAdd2, .deliver, .take, .deliver, .take])
      = ([1, 3], some 4, []) := rfl

/-- the as-coded map+queue machine on a merging run -/
example : (crunOut cAdd (CState.init : CState Nat Nat)
      [.recv cAdd, .recv cAdd2, .recv cUpd, .recv cRem, .emit, .emit]).1 = [some cAdd2, none] := rfl

/-- the two hypotheses of `C09_send_timeout` are satisfiable: a never-receiving backpressured listener
after a lossy one times out at 5000; two ready listeners complete at once -/
example : busSend 5000 0 [⟨some 0, none⟩, ⟨none, none⟩] = .deadlineExceeded 5000 := rfl
example : busSend 5000 0 [⟨some 0, none⟩, ⟨some 0, some 7⟩] = .ok 0 := rfl

end examples

end ScVerif.C09
