import ScVerif.C09.ReadOpts
/-!
# C09 — property theorems: the choice of the lossy or the blocking path from the read-option LIST

Model: `ScVerif/C09/ReadOpts.lean`.  The driver executes its definitions (op `ropts`); the harness ties them to the
real `resource.ComputeReadConfig` (all lists up to length 4) and to the path the real `Value.Pull` /
`Collection.Pull` take (all lists up to length 3: does a write return while the subscriber is idle?).
-/
namespace ScVerif.C09

/-- The LAST backpressure option of the list decides, whatever stands before it and whatever options not about
backpressure stand after it; with none the subscription is lossy.  (The code folds from the left over a zero
request; the spec `lastBP` / `lastUO` reads the list from the right.) -/
theorem C09_backpressure_option_last_wins :
    (∀ opts : List ROpt,
        (computeReadConfig opts).backpressure = (lastBP opts).getD false ∧
        (computeReadConfig opts).updatesOnly = (lastUO opts).getD false) ∧
    (∀ (pre post : List ROpt) (b : Bool), (∀ o ∈ post, ∀ b', o ≠ .backpressure b') →
        pathOf (computeReadConfig (pre ++ .backpressure b :: post)) = (if b then .blocking else .lossy)) ∧
    (∀ opts : List ROpt, (∀ o ∈ opts, ∀ b', o ≠ .backpressure b') →
        pathOf (computeReadConfig opts) = .lossy) := by
  refine ⟨fun opts => ⟨applyOpts_backpressure opts _, applyOpts_updatesOnly opts _⟩, ?_, ?_⟩
  · intro pre post b hpost
    rw [pathOf_computeReadConfig, lastBP_append_cons pre post b hpost]
    rfl
  · intro opts hno
    rw [pathOf_computeReadConfig, lastBP_none_of_no_bp opts hno]
    rfl

/-- "Without backpressure … writes complete without waiting", from the option list on: a subscription whose last
backpressure option says `false` (or that has none) takes ANY event at once in ANY state of its pipeline; one whose
last backpressure option says `true` takes it iff its forwarder holds nothing. -/
theorem C09_option_list_decides_who_waits {α : Type} (E : Option α → α → Bool) (F : α → α)
    (opts : List ROpt) (l : VCfg α) (b : BCfg α) (e : α) :
    (lastBP opts ≠ some true → (handTo E F (installed (computeReadConfig opts) l b) e).isSome = true) ∧
    (lastBP opts = some true →
        ((handTo E F (installed (computeReadConfig opts) l b) e).isSome = true ↔ b.inHand = none)) := by
  simp only [installed, pathOf_computeReadConfig]
  constructor
  · intro h
    have h0 : (lastBP opts).getD false = false := by
      cases hl : lastBP opts with
      | none => rfl
      | some x => cases x with
        | false => rfl
        | true => exact absurd hl h
    rw [h0]
    rfl
  · intro h
    rw [h]
    show (handTo E F (.bp b) e).isSome = true ↔ _
    simp only [handTo]
    cases hh : b.inHand with
    | none => simp
    | some x => simp

/-- non-vacuity: an adapter's default `true` overridden by the caller's `false` is a lossy subscription; the
other way round it is a blocking one; an option list without any backpressure option is lossy -/
example : pathOf (computeReadConfig [.backpressure true, .other, .backpressure false, .updatesOnly true]) = .lossy := rfl
example : pathOf (computeReadConfig [.backpressure false, .backpressure true, .other]) = .blocking := rfl
example : pathOf (computeReadConfig [.updatesOnly true, .other]) = .lossy := rfl
example : lastBP [.backpressure true, .other, .backpressure false, .updatesOnly true] = some false := rfl

end ScVerif.C09
