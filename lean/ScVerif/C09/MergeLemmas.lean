import ScVerif.C09.ChangeLemmas
import ScVerif.C09.Merge
/-! `mergeChanges` is a 5×5 kind table applied to the second change (`mergeChanges_eq`); all that is known of it is
read off one sweep of the table (`mergeKind_spec`). -/
namespace ScVerif.C09

variable {ι μ : Type} [DecidableEq ι]

/-- The kind of the merged change; `none` for ADD;REMOVE. -/
def mergeKind : Kind → Kind → Option Kind
  | .add, .remove => none
  | .add, .update | .add, .replace => some .add
  | .update, .add | .replace, .add | .replace, .update => some .replace
  | .remove, .remove => some .remove
  | .remove, _ => some .replace
  | _, k => some k

def mergeOld (a b : Change ι μ) : Option μ :=
  match a.kind with
  | .add => if b.kind = .update ∨ b.kind = .replace then none else b.old
  | .unspecified => b.old
  | _ => a.old

omit [DecidableEq ι] in
theorem mergeChanges_eq (a b : Change ι μ) :
    mergeChanges a b = (mergeKind a.kind b.kind).map fun k =>
      { b with kind := k, old := mergeOld a b, lastSeed := a.lastSeed || b.lastSeed } := by
  rcases a with ⟨ai, ak, at_, ao, an, as_, al⟩
  rcases b with ⟨bi, bk, bt, bo, bn, bs, bl⟩
  cases ak <;> cases bk <;> rfl

/-- All that is used of the table, as one sweep over its 25 cells.
* nothing is produced only for ADD;REMOVE, and what is produced is a REMOVE exactly when `b` is (both for every
  pair: `merge_cases`);
* under the three premises — which hold of consecutive well-formed changes of one id: neither kind is
  UNSPECIFIED and `b` is an ADD exactly after a REMOVE (`WFChange_chain`) — the merged kind is not UNSPECIFIED,
  it is ADD exactly when `a` was, and after an ADD `b` is an UPDATE or REPLACE, the cells where `mergeOld` is
  `none` (`merge_wf`). -/
theorem mergeKind_spec (a b : Kind) :
    match mergeKind a b with
    | none => a = .add ∧ b = .remove
    | some k => (k = .remove ↔ b = .remove) ∧
        (a ≠ .unspecified → b ≠ .unspecified → (b = .add ↔ a = .remove) →
          k ≠ .unspecified ∧ (k = .add ↔ a = .add) ∧ (a = .add → b = .update ∨ b = .replace)) := by
  cases a <;> cases b <;> simp [mergeKind]

omit [DecidableEq ι] in
theorem merge_cases (a b : Change ι μ) :
    (∃ m, mergeChanges a b = some m ∧ m.id = b.id ∧ m.val = b.val ∧ m.new = b.new ∧ m.time = b.time
        ∧ (m.kind = .remove ↔ b.kind = .remove)) ∨
    (mergeChanges a b = none ∧ a.kind = .add ∧ b.kind = .remove) := by
  have hk := mergeKind_spec a.kind b.kind
  rw [mergeChanges_eq]
  cases hm : mergeKind a.kind b.kind with
  | none => rw [hm] at hk; exact Or.inr ⟨rfl, hk⟩
  | some k =>
    rw [hm] at hk
    refine Or.inl ⟨_, rfl, rfl, ?_, rfl, rfl, hk.1⟩
    simp only [Change.val, hk.1]

theorem merge_wf {s : View ι μ} {a b : Change ι μ} (hid : a.id = b.id)
    (ha : WFChange s a) (hb : WFChange (apply a s) b) :
    match mergeChanges a b with
    | some m => m.id = b.id ∧ WFChange s m ∧ apply m s = apply b (apply a s)
    | none => apply b (apply a s) = s := by
  have hab := WFChange_chain hid ha hb
  rw [WFChange_iff] at ha hb
  obtain ⟨ha1, ha2, ha3, ha4⟩ := ha
  obtain ⟨hb1, hb2, hb3, hb4⟩ := hb
  have hk := mergeKind_spec a.kind b.kind
  rw [mergeChanges_eq]
  cases hm : mergeKind a.kind b.kind with
  | none =>
    rw [hm] at hk
    show apply b (apply a s) = s
    rw [apply_apply_same a b s hid, Change.val, if_pos hk.2, ← hid, ← ha3.mp hk.1, set_self]
  | some k =>
    rw [hm] at hk
    obtain ⟨hk2, hadd, hupd⟩ := hk.2 ha1 hb1 hab
    refine ⟨rfl, WFChange_iff.mpr ⟨hk2, ?_, ?_, ?_⟩, ?_⟩
    · show mergeOld a b = s b.id
      rw [← hid, ← ha2]
      unfold mergeOld
      cases hak : a.kind with
      | add => simp [hupd hak, ha2, ha3.mp hak]
      | unspecified => exact absurd hak ha1
      | _ => rfl
    · show k = .add ↔ s b.id = none
      rw [hadd, ha3, hid]
    · show k = .remove ↔ b.new = none
      rw [hk.1, hb4]
    · rw [apply_apply_same a b s hid, apply_eq_set]
      simp only [Change.val, hk.1]

theorem extract_some {i : ι} {l : List (Change ι μ)} {a : Change ι μ} {rest : List (Change ι μ)}
    (h : extract i l = some (a, rest)) :
    ∃ pre post, l = pre ++ a :: post ∧ rest = pre ++ post ∧ a.id = i ∧ ∀ c ∈ pre, c.id ≠ i := by
  induction l generalizing a rest with
  | nil => simp [extract] at h
  | cons c cs ih =>
    unfold extract at h
    by_cases hc : c.id = i
    · simp [hc] at h
      obtain ⟨rfl, rfl⟩ := h
      exact ⟨[], cs, by simp, by simp, hc, by simp⟩
    · simp only [hc, if_false] at h
      cases hx : extract i cs with
      | none => simp [hx] at h
      | some p =>
        obtain ⟨a', rest'⟩ := p
        simp [hx] at h
        obtain ⟨rfl, rfl⟩ := h
        obtain ⟨pre, post, h1, h2, h3, h4⟩ := ih hx
        refine ⟨c :: pre, post, by simp [h1], by simp [h2], h3, ?_⟩
        intro d hd
        rcases List.mem_cons.mp hd with rfl | hd
        · exact hc
        · exact h4 d hd

theorem extract_none {i : ι} {l : List (Change ι μ)} (h : extract i l = none) : ∀ c ∈ l, c.id ≠ i := by
  induction l with
  | nil => simp
  | cons c cs ih =>
    unfold extract at h
    by_cases hc : c.id = i
    · simp [hc] at h
    · simp only [hc, if_false] at h
      cases hx : extract i cs with
      | none =>
        intro d hd
        rcases List.mem_cons.mp hd with rfl | hd
        · exact hc
        · exact ih hx d hd
      | some p => simp [hx] at h

def ids (l : List (Change ι μ)) : List ι := l.map (·.id)

omit [DecidableEq ι] in
theorem ids_append (xs ys : List (Change ι μ)) : ids (xs ++ ys) = ids xs ++ ids ys := by
  simp [ids]

omit [DecidableEq ι] in
@[simp] theorem ids_nil : ids ([] : List (Change ι μ)) = [] := rfl

omit [DecidableEq ι] in
@[simp] theorem ids_cons (c : Change ι μ) (cs : List (Change ι μ)) : ids (c :: cs) = c.id :: ids cs := rfl

omit [DecidableEq ι] in
theorem mem_ids {i : ι} {l : List (Change ι μ)} : i ∈ ids l ↔ ∃ c ∈ l, c.id = i := List.mem_map

theorem extract_some_nodup {i : ι} {l : List (Change ι μ)} {a : Change ι μ} {rest : List (Change ι μ)}
    (h : extract i l = some (a, rest)) (hnd : (ids l).Nodup) :
    ∃ pre post, l = pre ++ a :: post ∧ rest = pre ++ post ∧ a.id = i ∧
      (∀ c ∈ rest, c.id ≠ i) ∧ (ids rest).Nodup := by
  obtain ⟨pre, post, hl, hrest, haid, hpre⟩ := extract_some h
  subst hl hrest
  have hnd' : (ids pre ++ a.id :: ids post).Nodup := by simpa [ids_append] using hnd
  rw [List.nodup_append] at hnd'
  obtain ⟨hndpre, hndapost, hcross⟩ := hnd'
  rw [List.nodup_cons] at hndapost
  refine ⟨pre, post, rfl, rfl, haid, ?_, ?_⟩
  · intro c hc
    rcases List.mem_append.mp hc with hc | hc
    · exact hpre c hc
    · exact fun hca => hndapost.1 (by rw [haid, ← hca]; exact List.mem_map_of_mem hc)
  · rw [ids_append, List.nodup_append]
    exact ⟨hndpre, hndapost.2, fun x hx y hy => hcross x hx y (List.mem_cons_of_mem _ hy)⟩

theorem Hist.merge {s t : View ι μ} {a b : Change ι μ} (hid : a.id = b.id) (h : Hist s [a, b] t) :
    Hist s (mergeChanges a b).toList t := by
  obtain ⟨⟨ha, hb, _⟩, rfl⟩ := h
  have hm := merge_wf hid ha hb
  cases hmc : mergeChanges a b with
  | some m => rw [hmc] at hm; exact ⟨⟨hm.2.1, trivial⟩, hm.2.2⟩
  | none => rw [hmc] at hm; exact ⟨trivial, hm.symm⟩

/-- The window: the pending change `a` of an id, the changes of other ids queued behind it, and a new change `e` of
that id: `a` leaves its place and the merge of the two goes to the back. -/
theorem Hist.window {s t : View ι μ} {a e : Change ι μ} {pre post : List (Change ι μ)}
    (hid : a.id = e.id) (hne : ∀ c ∈ post, c.id ≠ a.id) (h : Hist s (pre ++ a :: post) t) (he : WFChange t e) :
    Hist s (pre ++ post ++ (mergeChanges a e).toList) (apply e t) := by
  obtain ⟨hpre, h1⟩ := h.split
  have h2 : Hist (fold pre s) (post ++ [a, e]) (apply e t) := by simpa using (h1.move_end hne).snoc he
  obtain ⟨hpost, h3⟩ := h2.split
  simpa using Hist.append ⟨hpre, rfl⟩ (Hist.append ⟨hpost, rfl⟩ (h3.merge hid))

end ScVerif.C09
