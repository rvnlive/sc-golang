import ScVerif.C09.Include
/-
C09 — the conversions the trait packages put between `Collection.Pull` and their subscriber
(pkg/trait/parentpb/model.go `PullChildren` + `childrenChangeToProto`, hailpb `PullHails` + `castChange`,
publicationpb `PullPublications`, vendingpb `PullConsumables` / `PullInventory`, electricpb `PullModes`,
metadatapb `PullAllMetadata` + `collectionChangeFromResource`, and the `ModelServer.PullXs` loops on top).

Each of them is a goroutine (or the handler's own loop) of the shape

    for change := range upstream { select { case <-ctx.Done(): return; case out <- conv(change): } }

i.e. a hand-over stage that holds at most one converted event, with a conversion that copies the change type and
attaches `OldValue` / `NewValue` whenever they are non-nil — WHATEVER the change type: the upstream is the merge
buffer's output, where a REMOVE followed by an ADD has become a REPLACE no writer ever announced.

* `castChange f`   the conversion as coded (`f` = the type assertion / re-wrapping of the message; any function)
* `mapView f`      the subscriber's view in the converted message type
* `astep`/`arun`   the hand-over stage over an upstream stream `up` (a list that only grows: a `take` beyond what
                   has been produced so far is a no-op, so every interleaving with the upstream's own moves is a
                   run of `arun` over the final `up`)
* `map_cast`       a well-formed history converted event by event is one of the converted view: `filterMap_hist`
                   (Include.lean) for a transform that drops nothing and changes the message type
-/
namespace ScVerif.C09

variable {ι μ ν : Type}

def castChange (f : μ → ν) (c : Change ι μ) : Change ι ν :=
  ⟨c.id, c.kind, c.time, c.old.map f, c.new.map f, c.seed, c.lastSeed⟩

def mapView (f : μ → ν) (s : View ι μ) : View ι ν := fun i => (s i).map f

/-- counter-model: values attached by kind of change, with no arm for REPLACE -/
def castByKind (f : μ → ν) (c : Change ι μ) : Change ι ν :=
  match c.kind with
  | .add => ⟨c.id, c.kind, c.time, none, c.new.map f, c.seed, c.lastSeed⟩
  | .remove => ⟨c.id, c.kind, c.time, c.old.map f, none, c.seed, c.lastSeed⟩
  | .update => ⟨c.id, c.kind, c.time, c.old.map f, c.new.map f, c.seed, c.lastSeed⟩
  | _ => ⟨c.id, c.kind, c.time, none, none, c.seed, c.lastSeed⟩

structure ACfg (ι ν : Type) where
  taken : Nat                       -- how many upstream events the stage has taken (ghost)
  inHand : Option (Change ι ν)      -- the converted event it is blocked handing over
  out : List (Change ι ν)           -- what its subscriber has received

inductive AMove where
  | take
  | deliver
deriving DecidableEq, Repr

def ACfg.init : ACfg ι ν := ⟨0, none, []⟩

def astep (conv : Change ι μ → Change ι ν) (up : List (Change ι μ)) (c : ACfg ι ν) : AMove → ACfg ι ν
  | .take =>
    match c.inHand, up[c.taken]? with
    | none, some e => ⟨c.taken + 1, some (conv e), c.out⟩
    | _, _ => c
  | .deliver =>
    match c.inHand with
    | some e => ⟨c.taken, none, c.out ++ [e]⟩
    | none => c

def arun (conv : Change ι μ → Change ι ν) (up : List (Change ι μ)) (c : ACfg ι ν) (ms : List AMove) : ACfg ι ν :=
  ms.foldl (astep conv up) c

/-- the stage neither loses, duplicates nor reorders: received ++ in hand = the converted prefix taken -/
def AInv (conv : Change ι μ → Change ι ν) (up : List (Change ι μ)) (c : ACfg ι ν) : Prop :=
  c.out ++ c.inHand.toList = (up.take c.taken).map conv ∧ c.taken ≤ up.length

theorem AInv_step (conv : Change ι μ → Change ι ν) (up : List (Change ι μ)) (c : ACfg ι ν)
    (h : AInv conv up c) (m : AMove) : AInv conv up (astep conv up c m) := by
  obtain ⟨h1, h2⟩ := h
  cases m with
  | take =>
    cases hh : c.inHand with
    | some e => simp only [astep, hh]; exact ⟨h1, h2⟩
    | none =>
      cases hu : up[c.taken]? with
      | none => simp only [astep, hh, hu]; exact ⟨h1, h2⟩
      | some e =>
        have hlt : c.taken < up.length := by
          rcases List.getElem?_eq_some_iff.mp hu with ⟨hlt, _⟩
          exact hlt
        have hget : up[c.taken] = e := by
          rcases List.getElem?_eq_some_iff.mp hu with ⟨_, hg⟩
          exact hg
        simp only [astep, hh, hu, AInv]
        refine ⟨?_, hlt⟩
        rw [hh] at h1
        rw [List.take_succ_eq_append_getElem hlt, List.map_append, ← h1, hget]
        simp
  | deliver =>
    cases hh : c.inHand with
    | none => simp only [astep, hh]; exact ⟨h1, h2⟩
    | some e =>
      simp only [astep, hh, AInv]
      rw [hh] at h1
      exact ⟨by simpa using h1, h2⟩

theorem AInv_run (conv : Change ι μ → Change ι ν) (up : List (Change ι μ)) (ms : List AMove) :
    ∀ (c : ACfg ι ν), AInv conv up c → AInv conv up (arun conv up c ms) :=
  fun _ h => List.foldlRecOn (motive := AInv conv up) ms _ h fun c hc m _ => AInv_step conv up c hc m

theorem AInv_init (conv : Change ι μ → Change ι ν) (up : List (Change ι μ)) :
    AInv conv up (ACfg.init : ACfg ι ν) := by
  simp [AInv, ACfg.init]

theorem castChange_wf (f : μ → ν) (s : View ι μ) (c : Change ι μ) (h : WFChange s c) :
    WFChange (mapView f s) (castChange f c) := by
  unfold WFChange at h ⊢
  cases hk : c.kind <;> simp only [castChange, hk, mapView] at h ⊢ <;>
    (obtain ⟨h1, h2, h3⟩ := h; simp [h1, h2, h3, Option.isSome_map])

theorem castChange_val (f : μ → ν) (c : Change ι μ) : (castChange f c).val = c.val.map f := by
  unfold Change.val
  by_cases hk : c.kind = .remove <;> simp [castChange, hk]

variable [DecidableEq ι]

theorem mapView_set (f : μ → ν) (s : View ι μ) (i : ι) (v : Option μ) :
    mapView f (s.set i v) = (mapView f s).set i (v.map f) := by
  funext j
  by_cases h : j = i <;> simp [mapView, View.set, h]

theorem castChange_apply (f : μ → ν) (s : View ι μ) (c : Change ι μ) :
    apply (castChange f c) (mapView f s) = mapView f (apply c s) := by
  rw [apply_eq_set, apply_eq_set, mapView_set, castChange_val]
  rfl

theorem map_cast (f : μ → ν) {s : View ι μ} {xs : List (Change ι μ)} (hw : WFHist s xs) :
    WFHist (mapView f s) (xs.map (castChange f)) ∧
    fold (xs.map (castChange f)) (mapView f s) = mapView f (fold xs s) :=
  List.filterMap_eq_map (f := castChange f) ▸
    filterMap_hist (T := some ∘ castChange f) (fun s c h => ⟨castChange_wf f s c h, castChange_apply f s c⟩) hw

end ScVerif.C09
