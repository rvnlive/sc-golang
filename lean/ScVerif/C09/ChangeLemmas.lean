import ScVerif.C09.Change
/-! Views and histories.  The notion the later files work with is `Hist s xs t` — `xs` is a well-formed history from
view `s` to view `t` — which the merge machine rewrites by `Hist.swap`, `Hist.move_end` and (MergeLemmas) `Hist.merge`. -/
namespace ScVerif.C09

variable {ι μ : Type} [DecidableEq ι]

@[simp] theorem View.set_same (s : View ι μ) (i : ι) (v : Option μ) : s.set i v i = v := by
  simp [View.set]

theorem View.set_other (s : View ι μ) {i j : ι} (v : Option μ) (h : j ≠ i) : s.set i v j = s j := by
  simp [View.set, h]

theorem set_set (s : View ι μ) (i : ι) (v w : Option μ) : (s.set i v).set i w = s.set i w := by
  funext j; by_cases h : j = i <;> simp [View.set, h]

theorem set_self (s : View ι μ) (i : ι) : s.set i (s i) = s := by
  funext j; by_cases h : j = i <;> simp [View.set, h]

theorem apply_same (c : Change ι μ) (s : View ι μ) :
    apply c s c.id = if c.kind = .remove then none else c.new := by
  simp [apply]

theorem apply_other (c : Change ι μ) (s : View ι μ) {j : ι} (h : j ≠ c.id) : apply c s j = s j := by
  simp [apply, View.set, h]

/-- The value a change leaves at its id. -/
def Change.val (c : Change ι μ) : Option μ := if c.kind = .remove then none else c.new

theorem apply_eq_set (c : Change ι μ) (s : View ι μ) : apply c s = s.set c.id c.val := rfl

theorem apply_apply_same (a b : Change ι μ) (s : View ι μ) (h : a.id = b.id) :
    apply b (apply a s) = s.set b.id b.val := by
  rw [apply_eq_set, apply_eq_set, h, set_set]

@[simp] theorem fold_nil (s : View ι μ) : fold ([] : List (Change ι μ)) s = s := rfl

@[simp] theorem fold_cons (c : Change ι μ) (cs : List (Change ι μ)) (s : View ι μ) :
    fold (c :: cs) s = fold cs (apply c s) := rfl

theorem fold_append (xs ys : List (Change ι μ)) (s : View ι μ) :
    fold (xs ++ ys) s = fold ys (fold xs s) := by
  simp [fold, List.foldl_append]

theorem fold_snoc (xs : List (Change ι μ)) (c : Change ι μ) (s : View ι μ) :
    fold (xs ++ [c]) s = apply c (fold xs s) := by
  simp [fold_append]

theorem apply_comm (a b : Change ι μ) (s : View ι μ) (h : a.id ≠ b.id) :
    apply a (apply b s) = apply b (apply a s) := by
  funext j
  simp only [apply, View.set]
  by_cases h1 : j = a.id <;> by_cases h2 : j = b.id <;> simp_all

theorem fold_other (cs : List (Change ι μ)) (s : View ι μ) (i : ι) (h : ∀ c ∈ cs, c.id ≠ i) :
    fold cs s i = s i := by
  induction cs generalizing s with
  | nil => rfl
  | cons c cs ih =>
    have hc := h c (by simp)
    rw [fold_cons, ih _ (fun d hd => h d (by simp [hd])), apply_other _ _ (Ne.symm hc)]

omit [DecidableEq ι] in
theorem WFChange_congr {s s' : View ι μ} {c : Change ι μ} (h : s c.id = s' c.id) :
    WFChange s c ↔ WFChange s' c := by
  unfold WFChange
  rw [h]

omit [DecidableEq ι] in
theorem WFChange_iff {s : View ι μ} {c : Change ι μ} :
    WFChange s c ↔ c.kind ≠ .unspecified ∧ c.old = s c.id ∧ (c.kind = .add ↔ s c.id = none) ∧
      (c.kind = .remove ↔ c.new = none) := by
  unfold WFChange
  cases c.kind <;> cases s c.id <;> simp [Option.isSome_iff_ne_none]

omit [DecidableEq ι] in
/-- a well-formed change leaves its new value: only a REMOVE has none -/
theorem WFChange_val {s : View ι μ} {c : Change ι μ} (h : WFChange s c) : c.val = c.new := by
  unfold Change.val
  by_cases hr : c.kind = .remove
  · rw [if_pos hr, (WFChange_iff.mp h).2.2.2.mp hr]
  · rw [if_neg hr]

theorem Kind.of_ne_add {k : Kind} (h0 : k ≠ .unspecified) (h1 : k ≠ .add) :
    k = .update ∨ k = .replace ∨ k = .remove := by
  cases k <;> simp at h0 h1 ⊢

theorem Kind.of_ne_remove {k : Kind} (h0 : k ≠ .unspecified) (h1 : k ≠ .remove) :
    k = .add ∨ k = .update ∨ k = .replace := by
  cases k <;> simp at h0 h1 ⊢

theorem WFChange_chain {s : View ι μ} {a b : Change ι μ} (hid : a.id = b.id)
    (ha : WFChange s a) (hb : WFChange (apply a s) b) : b.kind = .add ↔ a.kind = .remove := by
  rw [(WFChange_iff.mp hb).2.2.1, ← hid, apply_same]
  by_cases h : a.kind = .remove
  · simp only [h, if_true]
  · simp only [h, if_false, iff_false]
    exact mt (WFChange_iff.mp ha).2.2.2.mpr h

theorem WFHist_nil (s : View ι μ) : WFHist s ([] : List (Change ι μ)) := trivial

theorem WFHist_cons {s : View ι μ} {c : Change ι μ} {cs : List (Change ι μ)} :
    WFHist s (c :: cs) ↔ WFChange s c ∧ WFHist (apply c s) cs := Iff.rfl

theorem WFHist_append {s : View ι μ} {xs ys : List (Change ι μ)} :
    WFHist s (xs ++ ys) ↔ WFHist s xs ∧ WFHist (fold xs s) ys := by
  induction xs generalizing s with
  | nil => simp [WFHist]
  | cons c cs ih => simp [WFHist, ih, and_assoc]

theorem WFHist_take {s : View ι μ} {xs : List (Change ι μ)} (hw : WFHist s xs) (k : Nat) :
    WFHist s (xs.take k) := by
  have : WFHist s (xs.take k ++ xs.drop k) := by rw [List.take_append_drop]; exact hw
  exact (WFHist_append.mp this).1

theorem WFHist_snoc {s : View ι μ} {xs : List (Change ι μ)} {c : Change ι μ} :
    WFHist s (xs ++ [c]) ↔ WFHist s xs ∧ WFChange (fold xs s) c := by
  rw [WFHist_append]; simp [WFHist]

/-- `xs` is a well-formed history leading from view `s` to view `t`. -/
def Hist (s : View ι μ) (xs : List (Change ι μ)) (t : View ι μ) : Prop := WFHist s xs ∧ fold xs s = t

theorem Hist.append {s t u : View ι μ} {xs ys : List (Change ι μ)} (h1 : Hist s xs t) (h2 : Hist t ys u) :
    Hist s (xs ++ ys) u := by
  obtain ⟨w1, rfl⟩ := h1
  exact ⟨WFHist_append.mpr ⟨w1, h2.1⟩, (fold_append ..).trans h2.2⟩

theorem Hist.split {s u : View ι μ} {xs ys : List (Change ι μ)} (h : Hist s (xs ++ ys) u) :
    WFHist s xs ∧ Hist (fold xs s) ys u :=
  ⟨(WFHist_append.mp h.1).1, (WFHist_append.mp h.1).2, (fold_append ..).symm.trans h.2⟩

theorem Hist.snoc {s t : View ι μ} {xs : List (Change ι μ)} {e : Change ι μ} (h : Hist s xs t)
    (he : WFChange t e) : Hist s (xs ++ [e]) (apply e t) :=
  h.append ⟨⟨he, trivial⟩, rfl⟩

theorem Hist.swap {s t : View ι μ} {a b : Change ι μ} {cs : List (Change ι μ)} (hab : a.id ≠ b.id)
    (h : Hist s (a :: b :: cs) t) : Hist s (b :: a :: cs) t := by
  obtain ⟨⟨ha, hb, hcs⟩, ht⟩ := h
  refine ⟨⟨(WFChange_congr (apply_other a s (Ne.symm hab))).mp hb,
    (WFChange_congr (apply_other b s hab)).mpr ha, ?_⟩, ?_⟩
  · rw [apply_comm a b s hab]; exact hcs
  · rw [← ht, fold_cons, fold_cons, fold_cons, fold_cons, apply_comm a b s hab]

theorem Hist.move_end {s t : View ι μ} {a : Change ι μ} {post : List (Change ι μ)}
    (hne : ∀ c ∈ post, c.id ≠ a.id) (h : Hist s (a :: post) t) : Hist s (post ++ [a]) t := by
  induction post generalizing s with
  | nil => exact h
  | cons b post ih =>
    obtain ⟨⟨hb, hw⟩, ht⟩ := h.swap fun e => hne b (by simp) e.symm
    obtain ⟨hw', ht'⟩ := ih (fun c hc => hne c (by simp [hc])) ⟨hw, ht⟩
    exact ⟨⟨hb, hw'⟩, ht'⟩

end ScVerif.C09
