import ScVerif.C09.ValueLemmas
import ScVerif.C09.Include
/-! Subscribers as embedded runs: a subscriber's moves are moves of its Pull goroutine, those are moves of its pipeline
or none, so a subscriber's pipeline in any run is a `prun` on the same inputs (`subRun_pipe`) and inherits `PInv`; the
seed loop (`Seeded`) and PullID (`QStep`, `QInv`) add their own invariants; then a system run seen from one
subscriber (`sysRun_proj`), and draining by rounds. -/
namespace ScVerif.C09

variable {ι μ : Type} [DecidableEq ι] (T : Change ι μ → Option (Change ι μ))

theorem pullIdAccept_cases (i : ι) (d : Change ι μ) :
    (d.id ≠ i ∧ pullIdAccept i d = (none, false)) ∨
    (d.id = i ∧ (d.kind = .remove ∨ d.new = none) ∧ pullIdAccept i d = (none, true)) ∨
    (d.id = i ∧ d.kind ≠ .remove ∧ ∃ v, d.new = some v ∧ pullIdAccept i d = (some v, false)) := by
  unfold pullIdAccept
  by_cases h1 : d.id ≠ i
  · exact Or.inl ⟨h1, if_pos h1⟩
  · have hid : d.id = i := by simpa using h1
    rw [if_neg h1]
    by_cases h2 : d.kind = .remove
    · exact Or.inr (Or.inl ⟨hid, Or.inl h2, if_pos h2⟩)
    · rw [if_neg h2]
      cases hn : d.new with
      | none => exact Or.inr (Or.inl ⟨hid, Or.inr rfl, rfl⟩)
      | some v => exact Or.inr (Or.inr ⟨hid, h2, v, rfl, rfl⟩)

theorem pullIdScan_cons (i : ι) (d : Change ι μ) (ds : List (Change ι μ)) :
    pullIdScan i (d :: ds) =
      if (pullIdAccept i d).2 then ([], true)
      else ((pullIdAccept i d).1.toList ++ (pullIdScan i ds).1, (pullIdScan i ds).2) := by
  rcases pullIdAccept_cases i d with ⟨hid, ha⟩ | ⟨hid, hk | hn, ha⟩ | ⟨hid, hk, v, hv, ha⟩ <;> rw [ha] <;>
    simp [pullIdScan, *]

theorem pullIdScan_snoc (i : ι) (ds : List (Change ι μ)) (d : Change ι μ)
    (h : (pullIdScan i ds).2 = false) :
    pullIdScan i (ds ++ [d]) = ((pullIdScan i ds).1 ++ (pullIdAccept i d).1.toList, (pullIdAccept i d).2) := by
  induction ds with
  | nil =>
    rw [List.nil_append, pullIdScan_cons]
    rcases pullIdAccept_cases i d with ⟨_, ha⟩ | ⟨_, _, ha⟩ | ⟨_, _, v, _, ha⟩ <;> rw [ha] <;> rfl
  | cons d0 ds ih =>
    simp only [List.cons_append, pullIdScan_cons] at h ⊢
    split at h
    · cases h
    · simp only [if_neg ‹_›, ih h, List.append_assoc]

/-- the loop ended only on a change of the watched id that removes it -/
theorem pullIdScan_gone (i : ι) (ds : List (Change ι μ)) (h : (pullIdScan i ds).2 = true) :
    ∃ d ∈ ds, d.id = i ∧ (d.kind = .remove ∨ d.new = none) := by
  induction ds with
  | nil => cases h
  | cons d ds ih =>
    rw [pullIdScan_cons] at h
    rcases pullIdAccept_cases i d with ⟨_, ha⟩ | ⟨hid, hk, _⟩ | ⟨_, _, v, _, ha⟩
    · rw [ha] at h
      obtain ⟨e, he, h3⟩ := ih h
      exact ⟨e, List.mem_cons_of_mem _ he, h3⟩
    · exact ⟨d, List.mem_cons_self, hid, hk⟩
    · rw [ha] at h
      obtain ⟨e, he, h3⟩ := ih h
      exact ⟨e, List.mem_cons_of_mem _ he, h3⟩

theorem getLast?_cons_or {α : Type} (v : α) (l : List α) (x : Option α) :
    ((v :: l).getLast?).or x = (l.getLast?).or (some v) := by
  rcases List.eq_nil_or_concat l with rfl | ⟨l', a, rfl⟩
  · rfl
  · rw [List.concat_eq_append, ← List.cons_append, List.getLast?_concat, List.getLast?_concat]; rfl

/-- while the loop runs, a consumer that keeps the last value it was sent holds the folded view at the id -/
theorem pullIdScan_live (i : ι) (ds : List (Change ι μ)) (h : (pullIdScan i ds).2 = false) (b : View ι μ) :
    fold ds b i = ((pullIdScan i ds).1.getLast?).or (b i) := by
  induction ds generalizing b with
  | nil => rfl
  | cons d ds ih =>
    rw [pullIdScan_cons] at h ⊢
    rw [fold_cons]
    rcases pullIdAccept_cases i d with ⟨hid, ha⟩ | ⟨_, _, ha⟩ | ⟨hid, hk, v, hv, ha⟩ <;> rw [ha] at h ⊢
    · rw [ih h, apply_other d b (Ne.symm hid)]; rfl
    · cases h
    · rw [ih h, ← hid, apply_same, if_neg hk, hv]
      exact (getLast?_cons_or v _ _).symm

theorem WFHist_mem_new {s : View ι μ} {ds : List (Change ι μ)} (hw : WFHist s ds) :
    ∀ d ∈ ds, d.new = none → d.kind = .remove := by
  induction ds generalizing s with
  | nil => intro d hd; cases hd
  | cons c cs ih =>
    intro d hd hn
    rcases List.mem_cons.mp hd with rfl | hmem
    · exact (WFChange_iff.mp hw.1).2.2.2.mpr hn
    · exact ih hw.2 d hmem hn

/-- While seeds remain, Pull's goroutine has taken nothing from the merge machine. -/
def Phase (c : SCfg ι μ) : Prop := c.seeds ≠ [] → c.p.delivered = [] ∧ c.p.inHand = none

theorem pstep_recv_delivered (T : Change ι μ → Option (Change ι μ)) (c : PCfg ι μ) (e : Change ι μ) :
    (pstep T c (.recv e)).delivered = c.delivered := rfl

theorem Phase_sstep {c : SCfg ι μ} (h : Phase c) (m : PMove (Change ι μ)) : Phase (sstep T c m) := by
  rcases c with ⟨seeds, seeded, p⟩
  cases m with
  | recv e => exact h
  | take =>
    cases seeds with
    | nil => intro hne; exact absurd rfl hne
    | cons s rest => exact h
  | deliver =>
    cases seeds with
    | nil => intro hne; exact absurd rfl hne
    | cons s rest =>
      intro _
      exact h (by simp)

theorem sstep_p (c : SCfg ι μ) (m : PMove (Change ι μ)) :
    (sstep T c m).p = pstep T c.p m ∨ ((sstep T c m).p = c.p ∧ pinputs [m] = []) := by
  rcases c with ⟨seeds, seeded, p⟩
  cases m with
  | recv e => exact Or.inl rfl
  | take | deliver =>
    cases seeds with
    | nil => exact Or.inl rfl
    | cons s rest => exact Or.inr ⟨rfl, rfl⟩

theorem sstep_out_recv (T : Change ι μ → Option (Change ι μ)) (c : SCfg ι μ) (e : Change ι μ) : (sstep T c (.recv e)).out = c.out := rfl

theorem sstep_out_pull (c : SCfg ι μ) {pm : PMove (Change ι μ)} (h : pm ≠ .deliver) : (sstep T c pm).out = c.out := by
  cases pm with
  | recv e => rfl
  | deliver => exact absurd rfl h
  | take =>
    rcases c with ⟨seeds, seeded, p⟩
    cases seeds with
    | cons s rest => rfl
    | nil =>
      show seeded ++ (pstep T p .take).delivered = seeded ++ p.delivered
      simp only [pstep]
      cases p.inHand <;> cases emit p.st <;> rfl

theorem sstep_out_deliver {c : SCfg ι μ} (hph : Phase c) {d : Change ι μ} (ho : c.offer = some d) :
    (sstep T c .deliver).out = c.out ++ [d] := by
  rcases c with ⟨seeds, seeded, p⟩
  cases seeds with
  | nil =>
    show seeded ++ (pstep T p .deliver).delivered = seeded ++ p.delivered ++ [d]
    rw [pstep_deliver T (show p.inHand = some d from ho), List.append_assoc]
  | cons s rest =>
    simp only [SCfg.offer, Option.some.injEq] at ho
    subst ho
    have := (hph (by simp)).1
    simp only at this
    simp [sstep, SCfg.out, this]

theorem sstep_out_deliver_none (T : Change ι μ → Option (Change ι μ)) {c : SCfg ι μ} (ho : c.offer = none) : sstep T c .deliver = c := by
  rcases c with ⟨seeds, seeded, p⟩
  cases seeds with
  | nil =>
    show (⟨[], seeded, pstep T p .deliver⟩ : SCfg ι μ) = _
    rw [pstep_deliver_none T (show p.inHand = none from ho)]
  | cons s rest => simp [SCfg.offer] at ho

/-- Pull's seed loop with seed list `sd`: it hands the seeds on in order (`split`) and takes nothing from the merge
machine before the last one is handed on (`phase`). -/
structure Seeded (sd : List (Change ι μ)) (c : SCfg ι μ) : Prop where
  split : c.seeded ++ c.seeds = sd
  phase : Phase c

omit [DecidableEq ι] in
theorem Seeded_init (sd : List (Change ι μ)) : Seeded sd (SCfg.init sd) :=
  ⟨rfl, fun _ => ⟨rfl, rfl⟩⟩

theorem Seeded_step {sd : List (Change ι μ)} {c : SCfg ι μ} (h : Seeded sd c) (m : PMove (Change ι μ)) :
    Seeded sd (sstep T c m) := by
  refine ⟨?_, Phase_sstep T h.phase m⟩
  have hs := h.split
  rcases c with ⟨seeds, seeded, p⟩
  cases m with
  | recv e => exact hs
  | take => cases seeds <;> exact hs
  | deliver =>
    cases seeds with
    | nil => exact hs
    | cons s rest => simpa [sstep] using hs

omit [DecidableEq ι] in
theorem Seeded.total {sd : List (Change ι μ)} {c : SCfg ι μ} (h : Seeded sd c) :
    c.out ++ c.seeds = sd ++ c.p.delivered := by
  obtain ⟨hs, hph⟩ := h
  rcases c with ⟨seeds, seeded, p⟩
  cases seeds with
  | nil => simp only [SCfg.out, List.append_nil] at hs ⊢; rw [hs]
  | cons s rest =>
    have hd : p.delivered = [] := (hph (by simp)).1
    simp only [SCfg.out, hd, List.append_nil]
    exact hs

/-- What a move of a PullID subscriber can do, with the input it carries. -/
inductive QStep (i : ι) (c : QCfg ι μ) : List (Change ι μ) → QCfg ι μ → Prop
  | idle : QStep i c [] c
  | pull (pm : PMove (Change ι μ)) (h : pm ≠ .deliver) : QStep i c (pinputs [pm]) { c with s := sstep T c.s pm }
  | hand (d : Change ι μ) (h2 : c.hand2 = none) (he : c.ended = false) (ho : c.s.offer = some d) :
      QStep i c []
        { c with s := sstep T c.s .deliver, hand2 := (pullIdAccept i d).1, ended := (pullIdAccept i d).2 }
  | deliver (v : μ) (h2 : c.hand2 = some v) : QStep i c [] { c with hand2 := none, out := c.out ++ [v] }

theorem qstep_QStep (i : ι) (c : QCfg ι μ) (m : QMove (Change ι μ)) :
    QStep T i c (qinputs [m]) (qstep T i c m) := by
  cases m with
  | recv e => exact .pull (.recv e) nofun
  | take =>
    simp only [qstep]
    split
    · exact .idle
    · exact .pull .take nofun
  | hand =>
    simp only [qstep]
    split
    · next h2 he ho => exact .hand _ h2 he ho
    · exact .idle
  | deliver =>
    simp only [qstep]
    split
    · next v h2 => exact .deliver v h2
    · exact .idle

/-- `scan`: PullID's consumer has received, and will next receive, exactly what the loop as specified (`pullIdScan`)
makes of what Pull handed on. -/
structure QInv (i : ι) (c : QCfg ι μ) : Prop where
  scan : pullIdScan i c.s.out = (c.out ++ c.hand2.toList, c.ended)
  phase : Phase c.s

theorem QInv_init (i : ι) (sd : List (Change ι μ)) : QInv i (QCfg.init sd : QCfg ι μ) :=
  ⟨rfl, fun _ => ⟨rfl, rfl⟩⟩

theorem QInv_step {i : ι} {c : QCfg ι μ} (h : QInv i c) (m : QMove (Change ι μ)) : QInv i (qstep T i c m) := by
  obtain ⟨hs, hph⟩ := h
  have hq := qstep_QStep T i c m
  generalize qstep T i c m = c', qinputs [m] = ins at hq
  cases hq with
  | idle => exact ⟨hs, hph⟩
  | pull pm hpm => exact ⟨sstep_out_pull T c.s hpm ▸ hs, Phase_sstep T hph _⟩
  | hand d h2 he ho =>
    rw [h2, he, Option.toList_none, List.append_nil] at hs
    exact ⟨by rw [sstep_out_deliver T hph ho, pullIdScan_snoc i _ d (by rw [hs]), hs], Phase_sstep T hph _⟩
  | deliver v h2 =>
    rw [h2] at hs
    exact ⟨by simpa using hs, hph⟩

theorem subStep_s (s : Sub ι μ) (m : QMove (Change ι μ)) :
    (∃ pm, (subStep s m).q.s = sstep s.tr s.q.s pm ∧ pinputs [pm] = qinputs [m]) ∨
    ((subStep s m).q.s = s.q.s ∧ qinputs [m] = []) := by
  rcases s with ⟨w, T, q⟩
  cases w with
  | none =>
    cases m with
    | recv e => exact Or.inl ⟨.recv e, rfl, rfl⟩
    | take => exact Or.inl ⟨.take, rfl, rfl⟩
    | hand => exact Or.inr ⟨rfl, rfl⟩
    | deliver => exact Or.inl ⟨.deliver, rfl, rfl⟩
  | some i =>
    show (∃ pm, (qstep T i q m).s = _ ∧ _) ∨ ((qstep T i q m).s = _ ∧ _)
    have hq := qstep_QStep T i q m
    generalize qstep T i q m = c', qinputs [m] = ins at hq
    cases hq with
    | idle => exact Or.inr ⟨rfl, rfl⟩
    | pull pm _ => exact Or.inl ⟨pm, rfl, rfl⟩
    | hand d _ _ _ => exact Or.inl ⟨.deliver, rfl, rfl⟩
    | deliver v _ => exact Or.inr ⟨rfl, rfl⟩

theorem subStep_tr (s : Sub ι μ) (m : QMove (Change ι μ)) : (subStep s m).tr = s.tr := by
  rcases s with ⟨w, T, q⟩
  cases w <;> cases m <;> rfl

theorem subStep_watch (s : Sub ι μ) (m : QMove (Change ι μ)) : (subStep s m).watch = s.watch := by
  rcases s with ⟨w, T, q⟩
  cases w <;> cases m <;> rfl

theorem subRun_nil (s : Sub ι μ) : subRun s [] = s := rfl
theorem subRun_cons (s : Sub ι μ) (m : QMove (Change ι μ)) (ms : List (QMove (Change ι μ))) :
    subRun s (m :: ms) = subRun (subStep s m) ms := rfl

theorem subRun_watch (s : Sub ι μ) (ms : List (QMove (Change ι μ))) : (subRun s ms).watch = s.watch := by
  induction ms generalizing s with
  | nil => rfl
  | cons m ms ih => rw [subRun_cons, ih, subStep_watch]

theorem qinputs_append {α : Type} (xs ys : List (QMove α)) : qinputs (xs ++ ys) = qinputs xs ++ qinputs ys := by
  induction xs with
  | nil => rfl
  | cons m xs ih => cases m <;> simp [qinputs, ih]

/-- What is known of `prun` holds of every subscriber's pipeline. -/
theorem subRun_pipe (s : Sub ι μ) (ms : List (QMove (Change ι μ))) :
    ∃ pms, (subRun s ms).q.s.p = prun s.tr s.q.s.p pms ∧ pinputs pms = qinputs ms := by
  induction ms generalizing s with
  | nil => exact ⟨[], rfl, rfl⟩
  | cons m ms ih =>
    obtain ⟨pms, h1, h2⟩ := ih (subStep s m)
    rw [subRun_cons, h1, subStep_tr, show qinputs (m :: ms) = _ from qinputs_append [m] ms]
    rcases subStep_s s m with ⟨pm, hs, hin⟩ | ⟨hs, hin⟩
    · rw [hs, ← hin]
      rcases sstep_p s.tr s.q.s pm with hp | ⟨hp, h0⟩
      · exact ⟨pm :: pms, by rw [hp]; rfl, h2 ▸ pinputs_append [pm] pms⟩
      · exact ⟨pms, by rw [hp], by rw [h0, h2]; rfl⟩
    · exact ⟨pms, by rw [hs], by rw [hin, h2]; rfl⟩

theorem subRun_Seeded {sd : List (Change ι μ)} {s : Sub ι μ} (h : Seeded sd s.q.s)
    (ms : List (QMove (Change ι μ))) : Seeded sd (subRun s ms).q.s :=
  List.foldlRecOn (motive := fun s : Sub ι μ => Seeded sd s.q.s) ms _ h fun s hs m _ => by
    rcases subStep_s s m with ⟨pm, h1, _⟩ | ⟨h1, _⟩ <;> rw [h1]
    · exact Seeded_step _ hs pm
    · exact hs

theorem subRun_QInv {i : ι} {s : Sub ι μ} (hwatch : s.watch = some i) (h : QInv i s.q)
    (ms : List (QMove (Change ι μ))) : QInv i (subRun s ms).q :=
  (List.foldlRecOn (motive := fun s : Sub ι μ => s.watch = some i ∧ QInv i s.q) ms _ ⟨hwatch, h⟩
    fun s hs m _ => ⟨(subStep_watch s m).trans hs.1, by
      rcases s with ⟨w, T, q⟩
      cases hs.1
      exact QInv_step T hs.2 m⟩).2

theorem subRun_init (w : Option ι) (T : Change ι μ → Option (Change ι μ)) (s0 : View ι μ)
    (sd : List (Change ι μ)) (ms : List (QMove (Change ι μ))) (hw : WFHist s0 (qinputs ms)) :
    (subRun (Sub.init w T sd) ms).q.s.p.received = qinputs ms ∧
    PInv T s0 (subRun (Sub.init w T sd) ms).q.s.p ∧ Seeded sd (subRun (Sub.init w T sd) ms).q.s := by
  obtain ⟨pms, hp, hin⟩ := subRun_pipe (Sub.init w T sd) ms
  rw [hp, ← hin]
  exact ⟨prun_received T _ pms, PInv_run pms (PInv_init T s0) (hin ▸ hw),
    subRun_Seeded (s := Sub.init w T sd) (Seeded_init sd) ms⟩

theorem Seeded.view {T : Change ι μ → Option (Change ι μ)} {R : View ι μ → View ι μ} (hsim : Sim T R)
    {b s0 : View ι μ} {sd : List (Change ι μ)} {c : SCfg ι μ} (h : Seeded sd c) (hp : PInv T s0 c.p)
    (hsd : WFHist b sd) (hs0 : fold sd b = R s0) :
    fold (c.out ++ c.seeds ++ c.p.inHand.toList ++ c.p.st.pending.filterMap T) b
        = R (fold c.p.received s0) ∧
    WFHist b c.out ∧
    (c.seeds = [] → c.p.inHand = none → c.p.st.pending = [] →
        fold c.out b = R (fold c.p.received s0)) := by
  have hh := Hist.append ⟨hsd, hs0⟩ (hp.hist hsim)
  rw [← List.append_assoc, ← List.append_assoc, ← h.total] at hh
  refine ⟨hh.2, ?_, fun h1 h2 h3 => ?_⟩
  · rw [List.append_assoc, List.append_assoc] at hh
    exact hh.split.1
  · simpa [h1, h2, h3] using hh.2

theorem sysRun_nil (subs : List (Sub ι μ)) : sysRun subs [] = subs := rfl
theorem sysRun_cons (subs : List (Sub ι μ)) (m : SMove (Change ι μ)) (ms : List (SMove (Change ι μ))) :
    sysRun subs (m :: ms) = sysRun (sysStep subs m) ms := rfl

theorem sysRun_proj (subs : List (Sub ι μ)) (ms : List (SMove (Change ι μ))) (k : Nat) :
    (sysRun subs ms)[k]? = (subs[k]?).map (fun s => subRun s (proj k ms)) := by
  induction ms generalizing subs with
  | nil => simp [sysRun_nil, proj, subRun_nil]
  | cons m ms ih =>
    rw [sysRun_cons, ih]
    cases m with
    | send e =>
      simp only [sysStep, proj, List.getElem?_map, Option.map_map]
      rfl
    | loc j lm =>
      simp only [sysStep, proj, modAt_getElem?]
      by_cases hjk : j = k
      · simp only [hjk, if_true, Option.map_map]
        rfl
      · simp [hjk]

theorem sysRun_sub {subs : List (Sub ι μ)} {ms : List (SMove (Change ι μ))} {k : Nat} {s0 s : Sub ι μ}
    (hk : subs[k]? = some s0) (hs : (sysRun subs ms)[k]? = some s) : s = subRun s0 (proj k ms) := by
  rw [sysRun_proj, hk] at hs
  exact (Option.some.inj hs).symm

/-- The events a system run sends on the bus. -/
def sent {α : Type} : List (SMove α) → List α
  | [] => []
  | .send e :: ms => e :: sent ms
  | .loc _ _ :: ms => sent ms

theorem qinputs_proj {α : Type} (k : Nat) (ms : List (SMove α)) : qinputs (proj k ms) = sent ms := by
  induction ms with
  | nil => rfl
  | cons m ms ih =>
    cases m with
    | send e => simp [proj, qinputs, sent, ih]
    | loc j lm =>
      simp only [proj, sent]
      by_cases hjk : j = k
      · simp only [hjk, if_true]
        cases lm <;> simpa [LMove.toQ, qinputs] using ih
      · simpa [hjk] using ih

/-- `n` rounds of a receiving consumer of a `Collection.Pull` subscriber; in one round the forwarder takes
what it can and the consumer receives what is offered -/
def drainMoves {α : Type} : Nat → List (QMove α)
  | 0 => []
  | n + 1 => .take :: .deliver :: drainMoves n

theorem qinputs_drainMoves {α : Type} (n : Nat) : qinputs (drainMoves n : List (QMove α)) = [] := by
  induction n with
  | zero => rfl
  | succ n ih => simpa [drainMoves, qinputs] using ih

theorem subRun_append (s : Sub ι μ) (xs ys : List (QMove (Change ι μ))) :
    subRun s (xs ++ ys) = subRun (subRun s xs) ys := by
  simp [subRun, List.foldl_append]

/-- what is still on its way to the consumer -/
def SCfg.backlog (c : SCfg ι μ) : Nat :=
  c.seeds.length + c.p.st.pending.length + (if c.p.inHand.isSome then 1 else 0)

/-- A `take` moves a pending change into the forwarder's hand or drops it; if nothing is on offer
afterwards, something was dropped or nothing was there. -/
theorem backlog_take (c : SCfg ι μ) :
    (sstep T c .take).backlog ≤ c.backlog ∧
    ((sstep T c .take).offer = none → (sstep T c .take).backlog ≤ c.backlog - 1) := by
  rcases c with ⟨seeds, seeded, ⟨⟨pending⟩, taken, inHand, delivered, received⟩⟩
  cases seeds with
  | cons s rest => simp [sstep, SCfg.offer]
  | nil =>
    cases inHand with
    | some d => simp [sstep, pstep, SCfg.offer]
    | none =>
      cases pending with
      | nil => simp [sstep, pstep, SCfg.backlog]
      | cons p ps => cases hT : T p <;> simp [sstep, pstep, SCfg.backlog, SCfg.offer, hT]

theorem backlog_deliver {c : SCfg ι μ} {d : Change ι μ}
    (h : c.offer = some d) : (sstep T c .deliver).backlog = c.backlog - 1 := by
  rcases c with ⟨seeds, seeded, p⟩
  cases seeds with
  | cons s rest =>
    show rest.length + p.st.pending.length + (if p.inHand.isSome then 1 else 0)
      = rest.length + 1 + p.st.pending.length + (if p.inHand.isSome then 1 else 0) - 1
    omega
  | nil =>
    have hh : p.inHand = some d := h
    simp [sstep, pstep, SCfg.backlog, hh]

theorem backlog_round (c : SCfg ι μ) :
    (sstep T (sstep T c .take) .deliver).backlog ≤ c.backlog - 1 := by
  obtain ⟨hle, hnone⟩ := backlog_take T c
  cases ho : (sstep T c .take).offer with
  | none => rw [sstep_out_deliver_none T ho]; exact hnone ho
  | some d => rw [backlog_deliver T ho]; omega

omit [DecidableEq ι] in
theorem backlog_zero {c : SCfg ι μ} (h : c.backlog = 0) :
    c.seeds = [] ∧ c.p.inHand = none ∧ c.p.st.pending = [] := by
  rcases c with ⟨seeds, seeded, ⟨⟨pending⟩, taken, inHand, delivered, received⟩⟩
  cases seeds <;> cases pending <;> cases inHand <;> simp_all [SCfg.backlog]

theorem subRun_drain_backlog (s : Sub ι μ) (hw : s.watch = none) (n : Nat) :
    (subRun s (drainMoves n)).q.s.backlog ≤ s.q.s.backlog - n := by
  induction n generalizing s with
  | zero => simp [drainMoves, subRun_nil]
  | succ n ih =>
    rcases s with ⟨w, T, q⟩
    subst hw
    simp only [drainMoves, subRun_cons]
    refine Nat.le_trans (ih _ rfl) ?_
    exact Nat.le_trans (Nat.sub_le_sub_right (backlog_round T q.s) n) (by omega)

/-- `n` rounds of a receiving consumer of a `Collection.PullID` subscriber: take, hand-over to PullID's
goroutine, receive -/
def qdrainMoves {α : Type} : Nat → List (QMove α)
  | 0 => []
  | n + 1 => .take :: .hand :: .deliver :: qdrainMoves n

theorem qinputs_qdrainMoves {α : Type} (n : Nat) : qinputs (qdrainMoves n : List (QMove α)) = [] := by
  induction n with
  | zero => rfl
  | succ n ih => simpa [qdrainMoves, qinputs] using ih

def QCfg.backlog (c : QCfg ι μ) : Nat := c.s.backlog + (if c.hand2.isSome then 1 else 0)

def qround (T : Change ι μ → Option (Change ι μ)) (i : ι) (c : QCfg ι μ) : QCfg ι μ :=
  qstep T i (qstep T i (qstep T i c .take) .hand) .deliver

theorem qstep_ended_mono (i : ι) (c : QCfg ι μ) (m : QMove (Change ι μ)) (h : c.ended = true) :
    (qstep T i c m).ended = true := by
  have hq := qstep_QStep T i c m
  generalize qstep T i c m = c', qinputs [m] = ins at hq
  cases hq with
  | hand d _ he _ => rw [h] at he; cases he
  | _ => exact h

theorem qround_progress (i : ι) (c : QCfg ι μ) (h : c.ended = false) :
    (qround T i c).ended = true ∨ (qround T i c).backlog ≤ c.backlog - 1 := by
  rcases c with ⟨s, hand2, ended, out⟩
  subst h
  obtain ⟨hle, hnone⟩ := backlog_take T s
  cases hand2 with
  | some v =>
    -- PullID's goroutine is busy: no hand-over, the consumer receives `v`
    right
    simp only [qround, qstep, QCfg.backlog, Bool.false_eq_true, if_false, Option.isSome_none,
      Option.isSome_some, if_true]
    omega
  | none =>
    cases ho : (sstep T s .take).offer with
    | none =>
      right
      simp only [qround, qstep, ho, QCfg.backlog, Bool.false_eq_true, if_false, Option.isSome_none]
      exact hnone ho
    | some d =>
      have hd := backlog_deliver T ho
      simp only [qround, qstep, ho, Bool.false_eq_true, if_false]
      rcases pullIdAccept i d with ⟨x, e⟩
      cases e with
      | true => left; cases x <;> rfl
      | false =>
        right
        cases x <;> simp only [QCfg.backlog, hd, Option.isSome_none, Bool.false_eq_true, if_false] <;> omega

theorem qround_ended (i : ι) (c : QCfg ι μ) (h : c.ended = true) : (qround T i c).ended = true :=
  qstep_ended_mono T i _ _ (qstep_ended_mono T i _ _ (qstep_ended_mono T i _ _ h))

theorem subRun_qdrain_backlog {i : ι} (s : Sub ι μ) (hw : s.watch = some i) (n : Nat) :
    (subRun s (qdrainMoves n)).q.ended = true ∨
      (s.q.ended = false ∧ (subRun s (qdrainMoves n)).q.backlog ≤ s.q.backlog - n) := by
  rcases s with ⟨w, T, q⟩
  subst hw
  show _ ∨ (q.ended = false ∧ _ ≤ q.backlog - n)
  induction n generalizing q with
  | zero => exact (Bool.eq_false_or_eq_true q.ended).imp_right fun h => ⟨h, Nat.le_refl _⟩
  | succ n ih =>
    rw [show subRun ⟨some i, T, q⟩ (qdrainMoves (n + 1)) = subRun ⟨some i, T, qround T i q⟩ (qdrainMoves n) from rfl]
    rcases ih (qround T i q) with h | ⟨he', hle⟩
    · exact Or.inl h
    · cases he : q.ended with
      | true => rw [qround_ended T i q he] at he'; cases he'
      | false =>
        rcases qround_progress T i q he with h1 | h1
        · rw [h1] at he'; cases he'
        · exact Or.inr ⟨rfl, Nat.le_trans hle (by rw [Nat.add_comm, ← Nat.sub_sub]; exact Nat.sub_le_sub_right h1 n)⟩

omit [DecidableEq ι] in
theorem qbacklog_zero {c : QCfg ι μ} (h : c.backlog = 0) :
    c.hand2 = none ∧ c.s.seeds = [] ∧ c.s.p.inHand = none ∧ c.s.p.st.pending = [] := by
  have h1 : c.s.backlog = 0 := by simp only [QCfg.backlog] at h; omega
  refine ⟨?_, backlog_zero h1⟩
  cases hh : c.hand2 with
  | none => rfl
  | some v => simp [QCfg.backlog, hh] at h

end ScVerif.C09
