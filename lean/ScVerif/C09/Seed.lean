import ScVerif.C09.Include
/-
C09 — the seed list of `Collection.Pull` (collection.go: `itemSlice(readConfig)` keeps the stored items the
include filter admits, the seed loop sends one ADD per item in id order, all flagged SeedValue, the last one
LastSeedValue) and its specification: a well-formed history from nothing that folds to the filtered view of
the stored items (`seedChanges_spec`) — the two seed hypotheses of the subscriber theorems.
-/
namespace ScVerif.C09
variable {ι μ : Type}

/-- The seed changes `Collection.Pull` sends (collection.go, the loop over `currentValues`): one ADD per
stored item in the order given (the code sorts by id), flagged SeedValue, the last one also LastSeedValue. -/
def seedChangesOf : List (ι × μ × Nat) → List (Change ι μ)
  | [] => []
  | [x] => [⟨x.1, .add, x.2.2, none, some x.2.1, true, true⟩]
  | x :: y :: rest => ⟨x.1, .add, x.2.2, none, some x.2.1, true, false⟩ :: seedChangesOf (y :: rest)

/-- `itemSlice(readConfig)`: the stored items the include filter admits (`f = fun _ _ => true` without one),
then the seed loop. -/
def seedChanges (f : ι → μ → Bool) (items : List (ι × μ × Nat)) : List (Change ι μ) :=
  seedChangesOf (items.filter (fun x => f x.1 x.2.1))

theorem seedChangesOf_mem (items : List (ι × μ × Nat)) :
    ∀ c ∈ seedChangesOf items, c.kind = .add ∧ c.seed = true ∧ ∃ x ∈ items, c.id = x.1 ∧ c.new = some x.2.1 := by
  induction items with
  | nil => intro c hc; cases hc
  | cons x rest ih =>
    intro c hc
    cases rest with
    | nil =>
      simp only [seedChangesOf, List.mem_singleton] at hc
      subst hc
      exact ⟨rfl, rfl, x, by simp, rfl, rfl⟩
    | cons y r =>
      simp only [seedChangesOf, List.mem_cons] at hc
      rcases hc with hc | hc
      · subst hc
        exact ⟨rfl, rfl, x, by simp, rfl, rfl⟩
      · obtain ⟨h1, h2, z, hz, h3⟩ := ih c (by simpa [seedChangesOf] using hc)
        exact ⟨h1, h2, z, List.mem_cons_of_mem _ hz, h3⟩

variable [DecidableEq ι]

/-- the view holding exactly the listed items (first entry of an id wins; ids are distinct in a map) -/
def viewOf (items : List (ι × μ × Nat)) : View ι μ :=
  fun i => (items.find? (fun x => x.1 = i)).map (fun x => x.2.1)

theorem viewOf_cons_same (x : ι × μ × Nat) (rest : List (ι × μ × Nat)) :
    viewOf (x :: rest) x.1 = some x.2.1 := by
  simp [viewOf]

theorem viewOf_cons_other (x : ι × μ × Nat) (rest : List (ι × μ × Nat)) {i : ι} (h : x.1 ≠ i) :
    viewOf (x :: rest) i = viewOf rest i := by
  simp [viewOf, h]

theorem viewOf_absent (rest : List (ι × μ × Nat)) (i : ι) (h : ¬ i ∈ rest.map (·.1)) : viewOf rest i = none := by
  simp only [viewOf, Option.map_eq_none_iff, List.find?_eq_none]
  intro y hy
  have : y.1 ≠ i := fun e => h (by rw [← e]; exact List.mem_map_of_mem hy)
  simpa using this

omit [DecidableEq ι] in
theorem seedChangesOf_cons (x : ι × μ × Nat) (rest : List (ι × μ × Nat)) :
    ∃ l, seedChangesOf (x :: rest) = ⟨x.1, .add, x.2.2, none, some x.2.1, true, l⟩ :: seedChangesOf rest := by
  cases rest with
  | nil => exact ⟨true, rfl⟩
  | cons y r => exact ⟨false, rfl⟩

theorem seedChangesOf_wf (items : List (ι × μ × Nat)) (s : View ι μ)
    (hnd : (items.map (·.1)).Nodup) (hs : ∀ x ∈ items, s x.1 = none) :
    WFHist s (seedChangesOf items) ∧
    ∀ i, fold (seedChangesOf items) s i = ((viewOf items) i).or (s i) := by
  induction items generalizing s with
  | nil => exact ⟨trivial, fun i => by simp [seedChangesOf, viewOf]⟩
  | cons x rest ih =>
    obtain ⟨l, hl⟩ := seedChangesOf_cons x rest
    rw [hl]
    simp only [List.map_cons, List.nodup_cons] at hnd
    have hx := hs x (by simp)
    have hrest : ∀ y ∈ rest, (apply (⟨x.1, .add, x.2.2, none, some x.2.1, true, l⟩ : Change ι μ) s) y.1 = none := by
      intro y hy
      have hne : y.1 ≠ x.1 := fun h => hnd.1 (by rw [← h]; exact List.mem_map_of_mem hy)
      rw [apply_other _ _ hne]
      exact hs y (by simp [hy])
    obtain ⟨h1, h2⟩ := ih _ hnd.2 hrest
    refine ⟨⟨by simp [WFChange, hx], h1⟩, ?_⟩
    intro i
    rw [fold_cons, h2 i]
    by_cases hi : x.1 = i
    · subst hi
      rw [viewOf_absent rest x.1 hnd.1, viewOf_cons_same]
      simp [apply, View.set]
    · have hi' : i ≠ x.1 := fun h => hi h.symm
      rw [apply_other _ _ hi', viewOf_cons_other x rest hi]

theorem viewOf_filter (f : ι → μ → Bool) (items : List (ι × μ × Nat)) (hnd : (items.map (·.1)).Nodup) :
    viewOf (items.filter (fun x => f x.1 x.2.1)) = restrict f (viewOf items) := by
  -- along the items, by whether the head is the id asked for and whether the filter admits it
  funext i
  induction items with
  | nil => simp [viewOf, restrict]
  | cons x rest ih =>
    simp only [List.map_cons, List.nodup_cons] at hnd
    have ih' := ih hnd.2
    by_cases hi : x.1 = i
    · subst hi
      have hnone := viewOf_absent rest x.1 hnd.1
      by_cases hf : f x.1 x.2.1
      · simp only [List.filter_cons, hf, if_true]
        rw [viewOf_cons_same]
        simp [restrict, viewOf_cons_same, hf]
      · simp only [List.filter_cons, hf]
        simp only [Bool.false_eq_true, if_false]
        rw [ih']
        simp [restrict, hnone, viewOf_cons_same, hf]
    · by_cases hf : f x.1 x.2.1
      · simp only [List.filter_cons, hf, if_true]
        rw [viewOf_cons_other _ _ hi, ih']
        simp [restrict, viewOf_cons_other x rest hi]
      · simp only [List.filter_cons, hf]
        simp only [Bool.false_eq_true, if_false]
        rw [ih']
        simp [restrict, viewOf_cons_other x rest hi]

theorem seedChanges_spec (f : ι → μ → Bool) (items : List (ι × μ × Nat)) (hnd : (items.map (·.1)).Nodup) :
    Hist (View.empty : View ι μ) (seedChanges f items) (restrict f (viewOf items)) := by
  have hnd' : ((items.filter (fun x => f x.1 x.2.1)).map (·.1)).Nodup :=
    (List.Sublist.map _ List.filter_sublist).nodup hnd
  obtain ⟨h1, h2⟩ := seedChangesOf_wf (items.filter (fun x => f x.1 x.2.1)) View.empty hnd'
    (fun _ _ => rfl)
  refine ⟨h1, ?_⟩
  funext i
  rw [seedChanges, h2 i, viewOf_filter f items hnd]
  simp [View.empty]

end ScVerif.C09
