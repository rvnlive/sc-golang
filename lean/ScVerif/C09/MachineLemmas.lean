import ScVerif.C09.MergeLemmas
/-! The merge goroutine keeps `emitted ++ pending` a history with the effect of everything received: a received change
joins the pending one of its id by the rewriting rules of `Hist` (`recv_hist`). -/
namespace ScVerif.C09

variable {ι μ : Type} [DecidableEq ι]

/-- `recv` without the (redundant) empty-queue special case. -/
theorem recv_pending (P : List (Change ι μ)) (e : Change ι μ) :
    (recv ⟨P⟩ e).pending =
      match extract e.id P with
      | some (a, rest) => rest ++ (mergeChanges a e).toList
      | none => P ++ [e] := by
  cases P with
  | nil => simp [recv, extract]
  | cons c cs =>
    simp only [recv]
    cases extract e.id (c :: cs) with
    | none => rfl
    | some p =>
      obtain ⟨a, rest⟩ := p
      simp only
      cases mergeChanges a e <;> simp

theorem recv_hist {s t : View ι μ} {P : List (Change ι μ)} {e : Change ι μ} (hnd : (ids P).Nodup)
    (h : Hist s P t) (he : WFChange t e) : Hist s (recv ⟨P⟩ e).pending (apply e t) := by
  rw [recv_pending]
  cases hx : extract e.id P with
  | none => exact h.snoc he
  | some p =>
    obtain ⟨a, rest⟩ := p
    obtain ⟨pre, post, rfl, rfl, haid, hne, _⟩ := extract_some_nodup hx hnd
    exact h.window haid (fun c hc => haid ▸ hne c (List.mem_append_right _ hc)) he

theorem recv_latest (P : List (Change ι μ)) (e : Change ι μ) (hnd : (ids P).Nodup) :
    ∃ rest, (∀ c ∈ rest, c.id ≠ e.id) ∧ (ids rest).Nodup ∧ (∀ c ∈ rest, c ∈ P) ∧
      ((∃ m, (recv ⟨P⟩ e).pending = rest ++ [m] ∧ m.id = e.id ∧ m.new = e.new ∧ m.time = e.time ∧
            (m.kind = .remove ↔ e.kind = .remove)) ∨
       ((recv ⟨P⟩ e).pending = rest ∧ e.kind = .remove)) := by
  have hp := recv_pending P e
  cases hx : extract e.id P with
  | none =>
    rw [hx] at hp
    exact ⟨P, extract_none hx, hnd, fun c hc => hc, Or.inl ⟨e, hp, rfl, rfl, rfl, Iff.rfl⟩⟩
  | some p =>
    obtain ⟨a, rest⟩ := p
    rw [hx] at hp
    obtain ⟨pre, post, hP, hrest, haid, hne, hndrest⟩ := extract_some_nodup hx hnd
    refine ⟨rest, hne, hndrest, ?_, ?_⟩
    · intro c hc
      rw [hrest] at hc
      rw [hP]
      rcases List.mem_append.mp hc with hc | hc
      · exact List.mem_append_left _ hc
      · exact List.mem_append_right _ (List.mem_cons_of_mem _ hc)
    · rcases merge_cases a e with ⟨m, hm, h1, _, h3, h4, h5⟩ | ⟨hm, _, h2⟩
      · simp only [hm, Option.toList_some] at hp
        exact Or.inl ⟨m, hp, h1, h3, h4, h5⟩
      · simp only [hm, Option.toList_none, List.append_nil] at hp
        exact Or.inr ⟨hp, h2⟩

theorem recv_nodup (P : List (Change ι μ)) (e : Change ι μ) (hnd : (ids P).Nodup) :
    (ids (recv ⟨P⟩ e).pending).Nodup := by
  obtain ⟨rest, hne, hnd', _, h | h⟩ := recv_latest P e hnd
  · obtain ⟨m, hp, hid, _⟩ := h
    rw [hp, ids_append, List.nodup_append]
    refine ⟨hnd', by simp, ?_⟩
    intro x hx y hy
    rw [ids_cons, ids_nil, List.mem_singleton] at hy
    subst hy
    obtain ⟨c, hc, rfl⟩ := mem_ids.mp hx
    rw [hid]; exact hne c hc
  · rw [h.1]; exact hnd'

/-- The inputs a list of moves offers, in order. -/
def inputs {α : Type} : List (Move α) → List α
  | [] => []
  | .recv e :: ms => e :: inputs ms
  | .emit :: ms => inputs ms

/-- Invariant of the merge goroutine run from view `s0`: what it has emitted followed by what is pending (queue order)
is a history with the effect of everything received (`wf` and `view` together: `Hist s0 (emitted ++ pending) (fold
received s0)`), and `messages` holds at most one change per id (`nodup`). -/
structure Inv (s0 : View ι μ) (c : Cfg ι μ) : Prop where
  wf : WFHist s0 (c.emitted ++ c.st.pending)
  view : fold (c.emitted ++ c.st.pending) s0 = fold c.received s0
  nodup : (ids c.st.pending).Nodup

theorem Inv_init (s0 : View ι μ) : Inv s0 (Cfg.init : Cfg ι μ) :=
  ⟨by simp [Cfg.init, MState.init, WFHist], by simp [Cfg.init, MState.init], by simp [Cfg.init, MState.init, ids]⟩

theorem Inv_recv {s0 : View ι μ} {c : Cfg ι μ} {e : Change ι μ} (h : Inv s0 c)
    (he : WFChange (fold c.received s0) e) : Inv s0 (step c (.recv e)) := by
  obtain ⟨hE, hP⟩ := Hist.split ⟨h.wf, h.view⟩
  have := Hist.append ⟨hE, rfl⟩ (recv_hist h.nodup hP he)
  exact ⟨this.1, this.2.trans (fold_snoc ..).symm, recv_nodup _ e h.nodup⟩

omit [DecidableEq ι] in
@[simp] theorem emit_nil : emit (⟨[]⟩ : MState ι μ) = none := rfl

omit [DecidableEq ι] in
@[simp] theorem emit_cons (p : Change ι μ) (ps : List (Change ι μ)) : emit ⟨p :: ps⟩ = some (p, ⟨ps⟩) := rfl

theorem step_emit_cons (p : Change ι μ) (ps E R : List (Change ι μ)) :
    step ⟨⟨p :: ps⟩, E, R⟩ .emit = ⟨⟨ps⟩, E ++ [p], R⟩ := rfl

theorem Inv_emit {s0 : View ι μ} {c : Cfg ι μ} (h : Inv s0 c) : Inv s0 (step c .emit) := by
  obtain ⟨hwf, hview, hnd⟩ := h
  rcases c with ⟨⟨P⟩, E, R⟩
  cases P with
  | nil => exact ⟨hwf, hview, hnd⟩
  | cons p ps =>
    rw [step_emit_cons]
    exact ⟨by simpa using hwf, by simpa using hview, (List.nodup_cons.mp hnd).2⟩

theorem run_nil (c : Cfg ι μ) : run c [] = c := rfl
theorem run_cons (c : Cfg ι μ) (m : Move (Change ι μ)) (ms : List (Move (Change ι μ))) :
    run c (m :: ms) = run (step c m) ms := rfl

theorem run_append (c : Cfg ι μ) (xs ys : List (Move (Change ι μ))) :
    run c (xs ++ ys) = run (run c xs) ys := by
  simp [run, List.foldl_append]

theorem step_received (c : Cfg ι μ) (m : Move (Change ι μ)) :
    (step c m).received = c.received ++ inputs [m] := by
  cases m with
  | recv e => simp [step, inputs]
  | emit =>
    simp only [step, inputs]
    cases emit c.st with
    | none => simp
    | some p => simp

theorem run_received (c : Cfg ι μ) (ms : List (Move (Change ι μ))) :
    (run c ms).received = c.received ++ inputs ms := by
  induction ms generalizing c with
  | nil => simp [run_nil, inputs]
  | cons m ms ih =>
    rw [run_cons, ih, step_received]
    cases m <;> simp [inputs]

theorem Inv_run {s0 : View ι μ} {c : Cfg ι μ} (ms : List (Move (Change ι μ))) (h : Inv s0 c)
    (hw : WFHist (fold c.received s0) (inputs ms)) : Inv s0 (run c ms) := by
  induction ms generalizing c with
  | nil => exact h
  | cons m ms ih =>
    rw [run_cons]
    cases m with
    | recv e =>
      refine ih (Inv_recv h hw.1) ?_
      simp only [step, fold_snoc]
      exact hw.2
    | emit =>
      refine ih (Inv_emit h) ?_
      rw [step_received]
      simpa [inputs] using hw

theorem recv_ids_subset (P : List (Change ι μ)) (e : Change ι μ) (hnd : (ids P).Nodup) :
    ∀ i ∈ ids (recv ⟨P⟩ e).pending, i ∈ ids P ∨ i = e.id := by
  obtain ⟨rest, _, _, hsub, h | h⟩ := recv_latest P e hnd
  · obtain ⟨m, hp, hid, _⟩ := h
    intro i hi
    rw [hp, ids_append] at hi
    rcases List.mem_append.mp hi with hi | hi
    · obtain ⟨c, hc, rfl⟩ := mem_ids.mp hi
      exact Or.inl (mem_ids.mpr ⟨c, hsub c hc, rfl⟩)
    · rw [ids_cons, ids_nil, List.mem_singleton] at hi
      exact Or.inr (hi.trans hid)
  · intro i hi
    rw [h.1] at hi
    obtain ⟨c, hc, rfl⟩ := mem_ids.mp hi
    exact Or.inl (mem_ids.mpr ⟨c, hsub c hc, rfl⟩)

theorem run_bounded (c : Cfg ι μ) (ms : List (Move (Change ι μ))) (hnd : (ids c.st.pending).Nodup)
    (hsub : ∀ i ∈ ids c.st.pending, i ∈ ids c.received) :
    (ids (run c ms).st.pending).Nodup ∧ ∀ i ∈ ids (run c ms).st.pending, i ∈ ids (run c ms).received := by
  induction ms generalizing c with
  | nil => exact ⟨hnd, hsub⟩
  | cons m ms ih =>
    rw [run_cons]
    rcases c with ⟨⟨P⟩, E, R⟩
    cases m with
    | recv e =>
      apply ih
      · exact recv_nodup P e hnd
      · intro i hi
        simp only [step, ids_append]
        rcases recv_ids_subset P e hnd i hi with h | h
        · exact List.mem_append_left _ (hsub i h)
        · exact List.mem_append_right _ (by simp [h])
    | emit =>
      cases P with
      | nil => exact ih _ hnd hsub
      | cons p ps =>
        rw [step_emit_cons]
        exact ih _ (List.nodup_cons.mp hnd).2 fun i hi => hsub i (List.mem_cons_of_mem _ hi)

theorem runOut_spec (st : MState ι μ) (E R : List (Change ι μ)) (ms : List (Move (Change ι μ))) :
    (run ⟨st, E, R⟩ ms).st = (runOut st ms).2 ∧
    (run ⟨st, E, R⟩ ms).emitted = E ++ (runOut st ms).1.filterMap id := by
  induction ms generalizing st E R with
  | nil => simp [run_nil, runOut]
  | cons m ms ih =>
    rw [run_cons]
    cases m with
    | recv e => simpa [step, runOut] using ih (recv st e) E (R ++ [e])
    | emit =>
      simp only [step, runOut]
      cases hem : emit st with
      | none => simpa using ih st E R
      | some p =>
        obtain ⟨o, st'⟩ := p
        have := ih st' (E ++ [o]) R
        simpa using this

theorem drun_nil {α : Type} (c : DCfg α) : drun c [] = c := rfl
theorem drun_cons {α : Type} (c : DCfg α) (m : Move α) (ms : List (Move α)) :
    drun c (m :: ms) = drun (dstep c m) ms := rfl
theorem drun_append {α : Type} (c : DCfg α) (xs ys : List (Move α)) :
    drun c (xs ++ ys) = drun (drun c xs) ys := by
  simp [drun, List.foldl_append]

/-- DropExcess: what was emitted, then the slot, is a subsequence of what was received (`sub`) and ends with the most
recently received message (`last`). -/
structure DInv {α : Type} (c : DCfg α) : Prop where
  sub : (c.emitted ++ c.st.toList).Sublist c.received
  last : (c.emitted ++ c.st.toList).getLast? = c.received.getLast?

theorem DInv_init {α : Type} : DInv (DCfg.init : DCfg α) := ⟨by simp [DCfg.init], by simp [DCfg.init]⟩

theorem DInv_step {α : Type} {c : DCfg α} (h : DInv c) (m : Move α) : DInv (dstep c m) := by
  obtain ⟨hsub, hlast⟩ := h
  rcases c with ⟨st, E, R⟩
  cases m with
  | recv e =>
    simp only [dstep, drecv]
    refine ⟨?_, by simp⟩
    have hE := (List.sublist_append_left E st.toList).trans hsub
    exact List.Sublist.append hE (List.Sublist.refl [e])
  | emit =>
    cases st with
    | none => exact ⟨hsub, hlast⟩
    | some x =>
      simp only [dstep, demit]
      exact ⟨by simpa using hsub, by simpa using hlast⟩

theorem DInv_run {α : Type} {c : DCfg α} (h : DInv c) (ms : List (Move α)) : DInv (drun c ms) :=
  List.foldlRecOn (motive := DInv) ms _ h fun _ hc m _ => DInv_step hc m

theorem drun_received {α : Type} (c : DCfg α) (ms : List (Move α)) :
    (drun c ms).received = c.received ++ inputs ms := by
  induction ms generalizing c with
  | nil => simp [drun_nil, inputs]
  | cons m ms ih =>
    rw [drun_cons, ih]
    cases m with
    | recv e => simp [dstep, inputs]
    | emit =>
      simp only [dstep, inputs]
      cases demit c.st <;> simp

end ScVerif.C09
