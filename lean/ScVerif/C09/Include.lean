import ScVerif.C09.ChangeLemmas
/-
C09 — the transform `Collection.Pull`'s forwarder applies to every event it takes from the merge machine
(pkg/resource/change.go, `(*CollectionChange).include`), and what it means for the subscriber's view.

* `includeChange f`   `include(includeFunc)` as coded: kind-agnostic — the filter is evaluated on OldValue and
                      NewValue (an absent value is never included); equal inclusion: forwarded unchanged iff
                      included; inclusion gained: re-wrapped as an ADD of the new value (LastSeedValue is NOT
                      copied); inclusion lost: re-wrapped as a REMOVE of the old value (no seed flags).
                      `includeFunc == nil` is `some` (the identity transform).
* `restrict f`        the view of a subscriber with that filter: the stored items the filter admits (what
                      `List(WithInclude f)` shows).
* `Sim T R`           "transform `T` simulates view map `R`": a change well formed at `s` becomes a change well
                      formed at `R s` with the effect of the original seen through `R` — or is dropped and then the
                      original has no effect through `R`.  `Sim some id` and `Sim (includeChange f) (restrict f)`
                      are proved here; the pipeline theorems are stated for any `T`, `R` with `Sim T R`.
-/
namespace ScVerif.C09

variable {ι μ : Type}

/-- `c.OldValue != nil && includeFunc(c.Id, c.OldValue)` / the same for NewValue. -/
def incl (f : ι → μ → Bool) (i : ι) : Option μ → Bool
  | none => false
  | some v => f i v

/-- `(*CollectionChange).include(includeFunc)` for a non-nil `includeFunc`; `none` = `ok == false`. -/
def includeChange (f : ι → μ → Bool) (c : Change ι μ) : Option (Change ι μ) :=
  let oldInclude := incl f c.id c.old
  let newInclude := incl f c.id c.new
  if oldInclude = newInclude then
    (if newInclude then some c else none)            -- skip only if both values are excluded
  else if newInclude then
    -- treat this like an Add (LastSeedValue is left out: "this is not safe, the caller needs to deal with this")
    some { id := c.id, kind := .add, time := c.time, old := none, new := c.new, seed := c.seed, lastSeed := false }
  else
    -- treat this like a remove
    some { id := c.id, kind := .remove, time := c.time, old := c.old, new := none, seed := false, lastSeed := false }

def restrict (f : ι → μ → Bool) (s : View ι μ) : View ι μ :=
  fun i => match s i with
    | some v => if f i v then some v else none
    | none => none

variable [DecidableEq ι]

/-- Transform `T` simulates the view map `R` (see the header). -/
def Sim (T : Change ι μ → Option (Change ι μ)) (R : View ι μ → View ι μ) : Prop :=
  ∀ (s : View ι μ) (c : Change ι μ), WFChange s c →
    match T c with
    | some c' => WFChange (R s) c' ∧ apply c' (R s) = R (apply c s)
    | none => R (apply c s) = R s

theorem Sim_some : Sim (some : Change ι μ → Option (Change ι μ)) id :=
  fun _ _ h => ⟨h, rfl⟩

theorem restrict_set (f : ι → μ → Bool) (s : View ι μ) (i : ι) (v : Option μ) :
    restrict f (s.set i v) = (restrict f s).set i (if incl f i v then v else none) := by
  funext j
  by_cases h : j = i
  · subst h
    cases v with
    | none => simp [restrict, View.set, incl]
    | some x => by_cases hf : f j x <;> simp [restrict, View.set, incl, hf]
  · simp [restrict, View.set, h]

omit [DecidableEq ι] in
theorem restrict_apply (f : ι → μ → Bool) (s : View ι μ) (i : ι) :
    restrict f s i = if incl f i (s i) then s i else none := by
  cases h : s i with
  | none => simp [restrict, h, incl]
  | some x => by_cases hf : f i x <;> simp [restrict, h, incl, hf]

omit [DecidableEq ι] in
theorem incl_isSome {f : ι → μ → Bool} {i : ι} {v : Option μ} (h : incl f i v = true) : v ≠ none := by
  rintro rfl; cases h

theorem Sim_include (f : ι → μ → Bool) : Sim (includeChange f) (restrict f) := by
  intro s c h
  obtain ⟨h1, h2, h3, h4⟩ := WFChange_iff.mp h
  -- a well-formed change leaves its new value, and the filtered view held the old one if admitted
  have hval := WFChange_val h
  have hR : restrict f s c.id = if incl f c.id c.old then c.old else none := by
    rw [restrict_apply, h2]
  have hto : restrict f (apply c s) = (restrict f s).set c.id (if incl f c.id c.new then c.new else none) := by
    rw [apply_eq_set, hval, restrict_set]
  rw [hto]
  unfold includeChange
  cases ho : incl f c.id c.old <;> cases hn : incl f c.id c.new <;>
    simp only [ho, if_true, if_false, Bool.false_eq_true] at hR ⊢
  · exact hR ▸ set_self _ _
  · -- inclusion gained: an ADD where the filtered view had nothing
    refine ⟨WFChange_iff.mpr ⟨nofun, hR.symm, ?_, ?_⟩, rfl⟩
    · exact ⟨fun _ => hR, fun _ => rfl⟩
    · -- not a REMOVE, and the new value is there since the filter admits it
      exact ⟨nofun, fun e => absurd e (incl_isSome hn)⟩
  · -- inclusion lost: a REMOVE of the value the filtered view held
    refine ⟨WFChange_iff.mpr ⟨nofun, hR.symm, ?_, ?_⟩, rfl⟩
    · -- not an ADD, and the filtered view held the old value since the filter admits it
      exact ⟨nofun, fun e => absurd (hR.symm.trans e) (incl_isSome ho)⟩
    · exact ⟨fun _ => rfl, fun _ => rfl⟩
  · -- admitted before and after: forwarded as it is
    refine ⟨WFChange_iff.mpr ⟨h1, hR.symm, ?_, h4⟩, ?_⟩
    · rw [h3, hR, ← h2]
    · rw [apply_eq_set, hval]

/-- A well-formed history seen through a per-change transform `T` that simulates a view map `R` — into any
message type `ν`: `Sim` is the case `ν = μ`, the trait packages' conversions (TraitAdapter.lean) change the type
— is a well-formed history of the mapped view with the mapped effect. -/
theorem filterMap_hist {ν : Type} {T : Change ι μ → Option (Change ι ν)} {R : View ι μ → View ι ν}
    (hsim : ∀ (s : View ι μ) (c : Change ι μ), WFChange s c →
      match T c with
      | some c' => WFChange (R s) c' ∧ apply c' (R s) = R (apply c s)
      | none => R (apply c s) = R s)
    {s : View ι μ} {xs : List (Change ι μ)} (hw : WFHist s xs) :
    Hist (R s) (xs.filterMap T) (R (fold xs s)) := by
  induction xs generalizing s with
  | nil => exact ⟨trivial, rfl⟩
  | cons c cs ih =>
    obtain ⟨hc, hcs⟩ := hw
    have h1 := hsim s c hc
    have h2 := ih hcs
    cases hT : T c with
    | none =>
      rw [hT] at h1
      simp only [List.filterMap_cons, hT, fold_cons]
      rw [h1] at h2
      exact h2
    | some c' =>
      rw [hT] at h1
      simp only [List.filterMap_cons, hT, fold_cons]
      rw [← h1.2] at h2
      exact ⟨⟨h1.1, h2.1⟩, h2.2⟩

theorem filterMap_sim {T : Change ι μ → Option (Change ι μ)} {R : View ι μ → View ι μ} (hsim : Sim T R)
    {s : View ι μ} {xs : List (Change ι μ)} (hw : WFHist s xs) :
    WFHist (R s) (xs.filterMap T) ∧ fold (xs.filterMap T) (R s) = R (fold xs s) :=
  filterMap_hist hsim hw

end ScVerif.C09
