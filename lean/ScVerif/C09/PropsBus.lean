import ScVerif.C09.BusLemmas
import ScVerif.C09.Writers
import ScVerif.C09.MixBus
/-!
# C09 — property theorems: several writers' `Bus.Send`s overlapping, cancelled listeners, `collect`

Model: `ScVerif/C09/Bus.lean` — `minibus.Bus` as coded: `Send` walks a PRIVATE copy of the listener list taken
when it started, skips listeners whose context is cancelled and collects them afterwards by building a fresh
list; any number of `Send`s are in progress at once (`Value.set` / `Collection.Update` send after releasing the
resource's lock), listeners are registered and cancelled at any moment.  The driver executes these
definitions (op `busrun`); the harness ties them to the real `minibus.Bus` with two and three overlapping
senders and cancelled-but-uncollected listeners.  `C09_delete_published_in_commit_order` is about `Writers.lean`
(commit and publication of Update versus Delete), `C09_mixed_several_writers` about `MixBus.lean` (this bus with the
subscribers of `Mixed.lean`).

Quantifier: EVERY interleaving of `listen`, `cancel k`, `send`, `visit e`, `finish e` (a sender blocked at a
listener with backpressure is a `visit` that has not been scheduled yet).
-/
namespace ScVerif.C09

/-- "With backpressure nothing is dropped" (and nothing is delivered twice) with any number of overlapping senders,
after EVERY schedule: no listener is handed an event twice; a `Send` that has returned has handed its event to every
listener registered when it started and not cancelled — whatever other sends were in progress, whatever was
cancelled and collected meanwhile; for a `Send` in progress each such listener has the event or is still ahead in
the sender's snapshot, never both. -/
theorem C09_bus_exactly_once (ms : List BusMove) :
    let c := busRun BusCfg.init ms
    c.handed.Nodup ∧
    (∀ e L, (e, L) ∈ c.done → ∀ k, k < L → k ∉ c.cancelled → (k, e) ∈ c.handed) ∧
    (∀ s ∈ c.sends, ∀ k, k < s.startL → k ∉ c.cancelled →
        (k ∈ s.rest ∧ (k, s.ev) ∉ c.handed) ∨ (k ∉ s.rest ∧ (k, s.ev) ∈ c.handed)) := by
  intro c
  have h := BusInv_run BusInv_init ms
  refine ⟨h.handed_nodup, fun e L hd k hk hc => h.done (e, L) hd k hk hc, ?_⟩
  intro s hs k hk hc
  have hok := h.sends s hs
  rcases hok.cover k hk hc with h1 | h1
  · exact Or.inl ⟨h1, hok.fresh k h1⟩
  · exact Or.inr ⟨fun hin => hok.fresh k hin h1, h1⟩

/-- `collect` never loses a live subscription and `Listen` never registers one twice, so the snapshot of the next
`Send` contains every live listener exactly once. -/
theorem C09_bus_collect_keeps_live (ms : List BusMove) :
    let c := busRun BusCfg.init ms
    c.reg.Nodup ∧ (∀ k ∈ c.reg, k < c.nextL) ∧ (∀ k, k < c.nextL → k ∉ c.cancelled → k ∈ c.reg) := by
  intro c
  have h := BusInv_run BusInv_init ms
  exact ⟨h.reg_nodup, h.reg_lt, h.reg_live⟩

/-- Progress of one sender, in ANY state: a live listener is handed the event, a cancelled one is skipped (`needGc`);
past its last listener the sender returns, and `collect` drops cancelled listeners only. -/
theorem C09_bus_send_progress (c : BusCfg) (s : BSend)
    (hs : c.sends.find? (fun t => t.ev == s.ev) = some s) :
    (∀ k r, s.rest = k :: r → k ∉ c.cancelled →
        (busStep c (.visit s.ev)).handed = c.handed ++ [(k, s.ev)] ∧
        (busStep c (.visit s.ev)).sends.find? (fun t => t.ev == s.ev) = some { s with rest := r }) ∧
    (∀ k r, s.rest = k :: r → k ∈ c.cancelled →
        (busStep c (.visit s.ev)).handed = c.handed ∧
        (busStep c (.visit s.ev)).sends.find? (fun t => t.ev == s.ev) = some { s with rest := r, gc := true }) ∧
    (s.rest = [] →
        (busStep c (.finish s.ev)).done = c.done ++ [(s.ev, s.startL)] ∧
        (busStep c (.finish s.ev)).sends.find? (fun t => t.ev == s.ev) = none ∧
        (∀ k, k ∈ c.reg → k ∉ c.cancelled → k ∈ (busStep c (.finish s.ev)).reg)) := by
  -- one visit, whether or not the listener's context is cancelled
  have hvisit : ∀ k r, s.rest = k :: r →
      (busStep c (.visit s.ev)).handed
        = (if c.cancelled.contains k then c.handed else c.handed ++ [(k, s.ev)]) ∧
      (busStep c (.visit s.ev)).sends.find? (fun t => t.ev == s.ev)
        = some { s with rest := r, gc := s.gc || c.cancelled.contains k } := by
    intro k r hr
    rw [busStep_visit hs hr, BSend.visit_cons hr]
    exact ⟨rfl, find_map_ev hs rfl⟩
  refine ⟨?_, ?_, ?_⟩
  · intro k r hr hk
    have hk' : c.cancelled.contains k = false := by simpa using hk
    obtain ⟨h1, h2⟩ := hvisit k r hr
    rw [h1, h2, hk', Bool.or_false]
    exact ⟨rfl, rfl⟩
  · intro k r hr hk
    have hk' : c.cancelled.contains k = true := by simpa using hk
    obtain ⟨h1, h2⟩ := hvisit k r hr
    rw [h1, h2, hk', Bool.or_true]
    exact ⟨rfl, rfl⟩
  · intro hr
    rw [busStep_finish hs hr]
    refine ⟨rfl, ?_, ?_⟩
    · show (c.sends.filter _).find? _ = none
      rw [List.find?_eq_none]
      intro t ht
      have := (List.mem_filter.mp ht).2
      simpa using this
    · intro k hk hc
      by_cases hg : s.gc = true
      · simp only [hg, if_true]
        exact List.mem_filter.mpr ⟨hk, by simpa using hc⟩
      · simp only [hg]
        exact hk

/-- `Collection.Delete` publishes its REMOVE while it still holds the collection's lock, so — any number of writers,
every schedule of commits and of the (unordered) publications of `Update`/`Add` events — whatever is COMMITTED after
a delete is PUBLISHED after the delete's REMOVE: a re-add reaches every listener as REMOVE then ADD (which the lossy
merge turns into the REPLACE a reader that is behind needs: `C09_merge_algebra`), never as ADD then REMOVE (which
would cancel out and leave it with the old item). -/
theorem C09_delete_published_in_commit_order {ι μ : Type} [DecidableEq ι] (s0 : View ι μ)
    (ms : List (WMove ι μ)) :
    let c := wrun (WCfg.init s0) ms
    ∀ (i j : Nat) (x r : Nat × Change ι μ), c.published[i]? = some x → c.published[j]? = some r →
      r.2.kind = .remove → r.1 < x.1 → j < i := by
  intro c i j x r hi hj hr hlt
  have h := WInv_run (WInv_init s0) ms
  apply Nat.lt_of_not_le
  intro hle
  rcases Nat.lt_or_eq_of_le hle with h1 | h1
  · have := h.ord i j x r hi hj hr h1
    omega
  · subst h1
    rw [hi] at hj
    cases hj
    omega

/-- Lossy and backpressured subscribers mixed on one bus with ANY NUMBER OF WRITERS whose sends overlap (`MixBus.lean`;
a writer blocked at a backpressured subscriber whose forwarder still holds an event is a `visit` that changes
nothing).  After EVERY schedule the bus part is a state of the bus model (so `C09_bus_exactly_once` and
`C09_bus_collect_keeps_live` hold of it); every subscriber has been handed what the bus's log says and keeps its
own guarantee (`MSub.Ok`); and "with backpressure nothing is dropped": what a backpressured subscriber's consumer
received, then the event in its forwarder's hand, is duplicate-free and contains the event of EVERY `Send` that
returned and had started after the subscriber was registered, unless its subscription was cancelled. -/
theorem C09_mixed_several_writers (E : Option Nat → Nat → Bool) (F : Nat → Nat) (ms : List MBMove) :
    let c := mbRun E F MBCfg.init ms
    (∃ bms, c.bus = busRun BusCfg.init bms) ∧
    (∀ k s, c.subs[k]? = some s → s.handed = c.bus.handedTo k ∧ s.Ok E F) ∧
    (∀ k b, c.subs[k]? = some (.bp b) →
      b.delivered ++ b.inHand.toList = c.bus.handedTo k ∧
      (b.delivered ++ b.inHand.toList).Nodup ∧
      ∀ e L, (e, L) ∈ c.bus.done → k < L → k ∉ c.bus.cancelled → e ∈ b.delivered ++ b.inHand.toList) := by
  intro c
  have h := MBInv_run (MBInv_init E F) ms
  obtain ⟨bms, hb⟩ := h.sim
  have hbus := hb ▸ BusInv_run BusInv_init bms
  refine ⟨⟨bms, hb⟩, ?_, ?_⟩
  · intro k s hk
    exact ⟨h.handed k s hk, h.ok s (List.mem_of_getElem? hk)⟩
  · intro k b hk
    have hh : b.accepted = c.bus.handedTo k := h.handed k _ hk
    have hok := h.ok _ (List.mem_of_getElem? hk)
    refine ⟨hok.trans hh, ?_, ?_⟩
    · rw [hok, hh]
      exact nodup_handedTo c.bus k hbus.handed_nodup
    · intro e L hd hkL hc
      rw [hok, hh, mem_handedTo]
      exact hbus.done (e, L) hd k hkL hc

section examples

/-- four subscribers, the first one cancelled but not collected yet; two senders overlap (both wait at
listener 1); the first completes and collects while the second still stands at listener 1; the second then
goes on over ITS OWN snapshot: listeners 1, 2 and 3 each get event 0 and then event 1, once -/
example :
    (fun c : BusCfg => (c.handedTo 1, c.handedTo 2, c.handedTo 3, c.handedTo 0, c.reg, c.done.map (·.1)))
      (busRun BusCfg.init
        [.listen, .listen, .listen, .listen, .cancel 0, .send, .send,
         .visit 0, .visit 1,                         -- both skip the dead listener
         .visit 0, .visit 0, .visit 0, .finish 0,    -- sender 0: listeners 1, 2, 3, collect
         .visit 1, .visit 1, .visit 1, .finish 1])
      = ([0, 1], [0, 1], [0, 1], [], [1, 2, 3], [0, 1]) := rfl

/-- a listener registered while a send is in progress is not in that send's snapshot and is in the next -/
example :
    (fun c : BusCfg => (c.handedTo 0, c.handedTo 1))
      (busRun BusCfg.init
        [.listen, .send, .listen, .visit 0, .finish 0, .send, .visit 1, .visit 1, .finish 1])
      = ([0, 1], [1]) := rfl

private def st0 : View Nat Nat := fun i => if i = 0 then some 10 else none

/-- delete, then re-add: the bus gets REMOVE (commit 0) and then ADD (commit 1) -/
example :
    ((wrun (WCfg.init st0) [.delete 0, .update 0 11, .publish 0]).published.map (fun p => (p.1, p.2.kind)))
      = [(0, Kind.remove), (1, Kind.add)] := rfl

/-- the other direction is NOT ordered by the code (`Update` publishes after unlocking; C03's recorded
finding): an update committed BEFORE a delete can be published after the delete's REMOVE -/
example :
    ((wrun (WCfg.init st0) [.update 0 11, .delete 0, .publish 0]).published.map (fun p => (p.1, p.2.kind)))
      = [(1, Kind.remove), (0, Kind.update)] := rfl

private def never2 : Option Nat → Nat → Bool := fun _ _ => false

/-- a backpressured, a lossy and a backpressured subscriber; the first write (0) is held by every forwarder;
two more writers start: both wait at subscriber 0 (a `visit` there changes nothing); as the consumers receive,
the sends go on one listener at a time: both backpressured consumers end up with 0, 1, 2 -/
example :
    (fun c : MBCfg => (c.subs.map MSub.delivered, c.bus.done.map (·.1)))
      (mbRun never2 id MBCfg.init
        [.listenB, .listenL, .listenB, .send, .visit 0, .visit 0, .visit 0, .finish 0,
         .send, .send, .visit 1, .visit 2,                       -- blocked: nothing changes
         .loc 0 .deliver, .visit 1, .visit 1, .loc 2 .deliver, .visit 1, .finish 1,
         .loc 0 .deliver, .visit 2, .visit 2, .loc 2 .deliver, .visit 2, .finish 2,
         .loc 0 .deliver, .loc 2 .deliver, .loc 1 .take, .loc 1 .deliver])
      = ([[0, 1, 2], [2], [0, 1, 2]], [0, 1, 2]) := rfl

end examples

end ScVerif.C09
