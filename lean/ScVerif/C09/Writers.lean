import ScVerif.C09.Change
import ScVerif.Base.ListLemmas
/-
C09 — two kinds of writers on one `Collection`, and the order in which the bus gets their events
(pkg/resource/collection.go).

* `Update` (also `Add`, `Update(WithCreateIfAbsent)`): commits under the collection's lock (`GetAndUpdate`),
  RELEASES the lock, then builds its event and calls `bus.Send` — move `update i v` (the commit; the event goes
  to `pending` with its commit number) and, at any later moment, `publish n` (the n-th pending event is sent;
  pending events of different writers go out in any order).
* `Delete`: takes the lock, removes the item, calls `bus.Send` with the REMOVE and only then unlocks — one
  atomic move `delete i` with respect to every other commit (commit and publication together).

`published` is the order in which `Bus.Send` is entered, i.e. the order in which every listener is handed the
events (C09_mixed_listener_progress / C09_bus_exactly_once); the commit numbers are ghost state.
-/
namespace ScVerif.C09

structure WCfg (ι μ : Type) where
  store : View ι μ
  pending : List (Nat × Change ι μ)
  published : List (Nat × Change ι μ)
  next : Nat

inductive WMove (ι μ : Type) where
  | update (i : ι) (v : μ)
  | publish (n : Nat)
  | delete (i : ι)

variable {ι μ : Type} [DecidableEq ι]

def WCfg.init (s : View ι μ) : WCfg ι μ := ⟨s, [], [], 0⟩

def wstep (c : WCfg ι μ) : WMove ι μ → WCfg ι μ
  | .update i v =>
    let k : Kind := if (c.store i).isSome then .update else .add
    { store := c.store.set i (some v)
      pending := c.pending ++ [(c.next, ⟨i, k, 0, c.store i, some v, false, false⟩)]
      published := c.published
      next := c.next + 1 }
  | .publish n =>
    match c.pending[n]? with
    | none => c
    | some p => { c with pending := c.pending.eraseIdx n, published := c.published ++ [p] }
  | .delete i =>
    match c.store i with
    | none => c                                        -- NotFound / allow-missing: nothing is published
    | some o =>
      { store := c.store.set i none
        pending := c.pending
        published := c.published ++ [(c.next, ⟨i, .remove, 0, some o, none, false, false⟩)]
        next := c.next + 1 }

def wrun (c : WCfg ι μ) (ms : List (WMove ι μ)) : WCfg ι μ := ms.foldl wstep c

/-- `next` is the next commit number.  `pub_lt`, `pend_lt`: only commits that happened are published or pending;
`pend_kind`: a REMOVE is never pending (`Delete` publishes under the lock); `ord`: whatever was published before a
REMOVE was committed before it. -/
structure WInv (c : WCfg ι μ) : Prop where
  pub_lt : ∀ p ∈ c.published, p.1 < c.next
  pend_lt : ∀ p ∈ c.pending, p.1 < c.next
  pend_kind : ∀ p ∈ c.pending, p.2.kind ≠ .remove
  ord : ∀ (i j : Nat) (x r : Nat × Change ι μ), c.published[i]? = some x → c.published[j]? = some r → r.2.kind = .remove →
    i < j → x.1 < r.1

omit [DecidableEq ι] in
theorem WInv_init (s : View ι μ) : WInv (WCfg.init s) where
  pub_lt := by intro p hp; cases hp
  pend_lt := by intro p hp; cases hp
  pend_kind := by intro p hp; cases hp
  ord := by intro i j x r hi; simp [WCfg.init] at hi

omit [DecidableEq ι] in
/-- The order clause of `WInv` for one more published event: it only has something to say if the new event
is a REMOVE, and then everything published before must carry a smaller commit number. -/
theorem ord_snoc {l : List (Nat × Change ι μ)} {p : Nat × Change ι μ}
    (hl : ∀ (i j : Nat) (x r : Nat × Change ι μ), l[i]? = some x → l[j]? = some r → r.2.kind = .remove →
      i < j → x.1 < r.1)
    (hp : p.2.kind = .remove → ∀ x ∈ l, x.1 < p.1) :
    ∀ (i j : Nat) (x r : Nat × Change ι μ), (l ++ [p])[i]? = some x → (l ++ [p])[j]? = some r →
      r.2.kind = .remove → i < j → x.1 < r.1 := by
  intro i j x r hi hj hr hij
  rcases Base.getElem?_concat_cases _ _ _ _ hi with ⟨_, hi'⟩ | ⟨hil, _⟩
  · rcases Base.getElem?_concat_cases _ _ _ _ hj with ⟨_, hj'⟩ | ⟨_, hj'⟩
    · exact hl i j x r hi' hj' hr hij
    · subst hj'
      exact hp hr x (List.mem_of_getElem? hi')
  · -- `x` is the last entry, so nothing comes after it
    have hjl := (List.getElem?_eq_some_iff.mp hj).1
    rw [List.length_append, List.length_singleton] at hjl
    omega

theorem WInv_step {c : WCfg ι μ} (h : WInv c) (m : WMove ι μ) : WInv (wstep c m) := by
  cases m with
  | update i v =>
    refine { pub_lt := fun p hp => Nat.lt_succ_of_lt (h.pub_lt p hp), pend_lt := ?_, pend_kind := ?_, ord := h.ord }
    · intro p hp
      rcases List.mem_append.mp hp with h1 | h1
      · exact Nat.lt_succ_of_lt (h.pend_lt p h1)
      · rw [List.mem_singleton.mp h1]; exact Nat.lt_succ_self _
    · intro p hp
      rcases List.mem_append.mp hp with h1 | h1
      · exact h.pend_kind p h1
      · rw [List.mem_singleton.mp h1]
        split <;> simp
  | publish n =>
    cases hn : c.pending[n]? with
    | none =>
      have : wstep c (.publish n) = c := by simp only [wstep, hn]
      rw [this]; exact h
    | some p =>
      have hstep : wstep c (.publish n) =
          { c with pending := c.pending.eraseIdx n, published := c.published ++ [p] } := by
        simp only [wstep, hn]
      rw [hstep]
      have hp := List.mem_of_getElem? hn
      refine { pub_lt := ?_
               pend_lt := fun q hq => h.pend_lt q (List.mem_of_mem_eraseIdx hq)
               pend_kind := fun q hq => h.pend_kind q (List.mem_of_mem_eraseIdx hq)
               ord := ord_snoc h.ord (fun hr => absurd hr (h.pend_kind p hp)) }
      intro q hq
      rcases List.mem_append.mp hq with h1 | h1
      · exact h.pub_lt q h1
      · rw [List.mem_singleton.mp h1]; exact h.pend_lt p hp
  | delete i =>
    cases hs : c.store i with
    | none =>
      have : wstep c (.delete i) = c := by simp only [wstep, hs]
      rw [this]; exact h
    | some o =>
      have hstep : wstep c (.delete i) =
          { store := c.store.set i none, pending := c.pending
            published := c.published ++ [(c.next, ⟨i, .remove, 0, some o, none, false, false⟩)]
            next := c.next + 1 } := by
        simp only [wstep, hs]
      rw [hstep]
      refine { pub_lt := ?_
               pend_lt := fun q hq => Nat.lt_succ_of_lt (h.pend_lt q hq)
               pend_kind := h.pend_kind
               ord := ord_snoc h.ord (fun _ => h.pub_lt) }
      intro q hq
      rcases List.mem_append.mp hq with h1 | h1
      · exact Nat.lt_succ_of_lt (h.pub_lt q h1)
      · rw [List.mem_singleton.mp h1]; exact Nat.lt_succ_self _

theorem WInv_run {c : WCfg ι μ} (h : WInv c) (ms : List (WMove ι μ)) : WInv (wrun c ms) :=
  List.foldlRecOn (motive := WInv) ms _ h fun _ hc m _ => WInv_step hc m

end ScVerif.C09
