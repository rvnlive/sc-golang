import ScVerif.C09.Subs
/-
C09 — lossy and backpressured subscribers MIXED on one bus, and `Bus.Send`'s listener-by-listener progress
(internal/minibus/bus.go: `Send` visits the listeners in registration order and blocks in `listener.send`
until that listener's receiver takes the event).

* `MSub`      a listener: `lossy` — DropExcess slot ▸ `Value.Pull`'s forwarder ▸ consumer (`VCfg`, moves of
              `vstepF`; for a collection whose writes are updates of one item the merge machine holds exactly
              the latest new value, which is what the tie observes) — or `bp` — the forwarder ranges over the
              listener's unbuffered channel itself (`BCfg`, `bstep`).
* `MixCfg`    the listeners in registration order, the `Send` in progress (its event and the index of the
              listener it is at) and the events whose `Send` has returned.  ONE writer at a time (a second
              `write` while a send is in progress is not enabled: a restriction of THIS model — only `Delete`
              sends under the collection's lock, `Update` and `Value.set` call `Bus.Send` after releasing it, and
              `Bus.lean` / `MixBus.lean` have any number of sends in progress; the ties of this model drive one writer).
* moves       `write e` (the commit is done, `Bus.Send` starts at listener 0), `advance` (`listener.send` of
              the listener the send is at: a lossy one takes the event at once, a backpressured one only while
              its forwarder holds nothing — otherwise the move changes nothing: the writer keeps waiting; past
              the last listener `Send` returns), `loc k m` (a local move of subscriber `k`: `take` / `deliver`).
-/
namespace ScVerif.C09

inductive MSub (α : Type) where
  | lossy (c : VCfg α)
  | bp (c : BCfg α)

/-- the events the bus has handed to this listener, in order -/
def MSub.handed {α : Type} : MSub α → List α
  | .lossy c => c.received
  | .bp c => c.accepted

/-- what the subscriber's consumer has received, in order -/
def MSub.delivered {α : Type} : MSub α → List α
  | .lossy c => c.delivered
  | .bp c => c.delivered

structure MixCfg (α : Type) where
  subs : List (MSub α)
  sending : Option (α × Nat)
  done : List α

inductive XMove (α : Type) where
  | write (e : α)
  | advance
  | loc (k : Nat) (m : LMove)

section
variable {α : Type} (E : Option α → α → Bool) (F : α → α)

/-- `listener.send`: `some` = the listener's receiver took the event, `none` = it is not ready (the select
stays blocked). -/
def handTo (s : MSub α) (e : α) : Option (MSub α) :=
  match s with
  | .lossy c => some (.lossy (vstepF E F c (.recv e)))      -- DropExcess is always at its receive
  | .bp c =>
    match c.inHand with
    | none => some (.bp (bstep c (.offer e)))                -- the forwarder is back at its receive
    | some _ => none                                         -- it still holds the previous event

def locStep (s : MSub α) : LMove → MSub α
  | .take => match s with | .lossy c => .lossy (vstepF E F c .take) | .bp c => .bp c
  | .hand => s
  | .deliver => match s with | .lossy c => .lossy (vstepF E F c .deliver) | .bp c => .bp (bstep c .deliver)

def xstep (c : MixCfg α) : XMove α → MixCfg α
  | .write e =>
    match c.sending with
    | none => { c with sending := some (e, 0) }
    | some _ => c
  | .advance =>
    match c.sending with
    | none => c
    | some (e, p) =>
      match c.subs[p]? with
      | none => { c with sending := none, done := c.done ++ [e] }      -- past the last listener: Send returns
      | some s =>
        match handTo E F s e with
        | some s' => { c with subs := modAt (fun _ => s') p c.subs, sending := some (e, p + 1) }
        | none => c
  | .loc k m => { c with subs := modAt (fun s => locStep E F s m) k c.subs }

def xrun (c : MixCfg α) (ms : List (XMove α)) : MixCfg α := ms.foldl (xstep E F) c

/-- what listener `k` has been handed of the send in progress -/
def MixCfg.partSent (c : MixCfg α) (k : Nat) : List α :=
  match c.sending with
  | some (e, p) => if k < p then [e] else []
  | none => []

/-- `n` consecutive `advance` moves -/
def advances (n : Nat) : List (XMove α) := List.replicate n .advance

end

end ScVerif.C09
