/-
C09 — model of the send deadline of `Value.set` (pkg/resource/value.go) through `Bus.Send` /
`listener.send` (internal/minibus/bus.go), at the level of *when each select case becomes ready*.

`Value.set` commits, then calls `bus.Send(ctx, event)` with `ctx` carrying a deadline (5 s).  `Send`
visits the listeners in order; for each, `listener.send` blocks in a `select` on
  `<-ctx.Done()`   (ready from the deadline on)   → returns ok=false, Send returns false at once
  `<-l.ctx.Done()` (ready from the listener's cancellation on) → skip this listener
  `l.ch <- event`  (ready from the moment the listener's receiver is ready) → delivered
A lossy listener's receiver (DropExcess / mergeCollectionExcess) is ready at once (C09_nonblocking);
a backpressured one is ready when the subscriber takes the previous event — possibly never.
Time is a natural number; a case that never becomes ready is `none`.  A `select` whose cases become
ready at different times takes the earliest; a tie with the deadline is resolved for the deadline here
(Go would pick either; the statement below only needs "not after the deadline").
-/
namespace ScVerif.C09

structure Listener where
  readyAt : Option Nat       -- when the receiver is ready to take the event
  cancelledAt : Option Nat   -- when the listen context is cancelled
deriving Repr

inductive SendResult where
  | ok (finishedAt : Nat)               -- every live listener got the event
  | deadlineExceeded (at_ : Nat)        -- ctx.Done() fired in some listener.send
deriving Repr, DecidableEq

def earliest (a b : Option Nat) : Option Nat :=
  match a, b with
  | none, b => b
  | a, none => a
  | some x, some y => some (min x y)

/-- `Bus.Send` from time `now` with deadline `dl`, listeners in order. -/
def busSend (dl : Nat) : (now : Nat) → List Listener → SendResult
  | now, [] => .ok now
  | now, l :: ls =>
    if dl ≤ now then .deadlineExceeded now      -- ctx already done when the select is reached
    else
      match earliest l.readyAt l.cancelledAt with
      | none => .deadlineExceeded dl              -- only ctx.Done() ever becomes ready
      | some t =>
        let t := max now t                        -- the case was possibly ready before we got here
        if dl ≤ t then .deadlineExceeded dl else busSend dl t ls

/-- `Value.set` after the commit: error iff the send context's deadline was exceeded. -/
def setReturnsError (dl : Nat) (ls : List Listener) : Bool :=
  match busSend dl 0 ls with
  | .ok _ => false
  | .deadlineExceeded _ => true

def SendResult.time : SendResult → Nat
  | .ok t => t
  | .deadlineExceeded t => t

theorem busSend_time_le (dl now : Nat) (ls : List Listener) (h : now ≤ dl) :
    (busSend dl now ls).time ≤ dl := by
  fun_induction busSend dl now ls with
  | case1 now => exact h
  | case2 now l ls h1 => exact h
  | case3 now l ls h1 he => exact Nat.le_refl _
  | case4 now l ls h1 t he t' h2 => exact Nat.le_refl _
  | case5 now l ls h1 t he t' h2 ih => exact ih (by omega)

theorem busSend_never_ready (dl now : Nat) (ls : List Listener) (h : now ≤ dl)
    (hn : ∃ l ∈ ls, l.readyAt = none ∧ l.cancelledAt = none) :
    busSend dl now ls = .deadlineExceeded dl := by
  fun_induction busSend dl now ls with
  | case1 now => obtain ⟨l, hl, _⟩ := hn; cases hl
  | case2 now l ls h1 => rw [Nat.le_antisymm h h1]
  | case3 now l ls h1 he => rfl
  | case4 now l ls h1 t he t' h2 => rfl
  | case5 now l ls h1 t he t' h2 ih =>
    -- the listener visited was ready at `t`, so the one that never is comes later
    refine ih (by omega) ?_
    obtain ⟨l', hl', h3, h4⟩ := hn
    rcases List.mem_cons.mp hl' with rfl | hl'
    · simp [earliest, h3, h4] at he
    · exact ⟨l', hl', h3, h4⟩

theorem busSend_all_ready (dl now : Nat) (ls : List Listener) (h : now < dl)
    (hr : ∀ l ∈ ls, ∃ t, l.readyAt = some t ∧ t ≤ now) :
    busSend dl now ls = .ok now := by
  induction ls with
  | nil => rfl
  | cons l ls ih =>
    unfold busSend
    obtain ⟨t, ht, hle⟩ := hr l (by simp)
    have h1 : ¬ dl ≤ now := by omega
    cases hc : l.cancelledAt with
    | none =>
      simp only [earliest, ht]
      have : max now t = now := by omega
      simp only [this, h1, if_false]
      exact ih (fun l' hl' => hr l' (by simp [hl']))
    | some c =>
      simp only [earliest, ht]
      have : max now (min t c) = now := by omega
      simp only [this, h1, if_false]
      exact ih (fun l' hl' => hr l' (by simp [hl']))

end ScVerif.C09
