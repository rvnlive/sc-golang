import ScVerif.C09.Pipeline
/-
C09 — subscribers on top of the lossy pipeline (model; lemmas in `SubsLemmas.lean`, those about `vstepF`, `bstep`,
`modAt` in `ValueLemmas.lean`):

* `SCfg / sstep`      `Collection.Pull`'s goroutine as coded: first its seed loop (one seed change offered at a
                      time; nothing is taken from the merge machine meanwhile, which keeps receiving and
                      merging), then the pipeline of `Pipeline.lean`.
* `QCfg / qstep`      `Collection.PullID`: a FOURTH stage after `Collection.Pull`.  PullID's goroutine ranges over Pull's channel; for one change it
                      (`pullIdAccept`): skips other ids, ends the stream on a REMOVE of the watched id (and on
                      a nil NewValue), otherwise holds the new value *in hand* (`hand2`) until its consumer
                      receives.  Moves: `recv e` (bus → merge machine), `take` (machine → Pull's forwarder),
                      `hand` (Pull's forwarder → PullID's goroutine: the rendezvous on Pull's unbuffered
                      channel, enabled iff Pull's forwarder holds an event and PullID's goroutine is free and
                      has not ended), `deliver` (consumer receives).
* `Sub / sysStep`     several subscribers on ONE bus: `send e` hands `e` to every subscriber's machine
                      (`Bus.Send` visits every listener; with lossy listeners every hand-over is accepted at
                      once — `C09_nonblocking`), `loc k m` is a local move of subscriber `k`.
* `vstepF`            `Value.Pull`'s forwarder exactly as coded: take from the DropExcess slot, apply the
                      response filter `F` (read mask), compare with `last` (the FILTERED value last sent),
                      then `last = change.Value` and block on the send.  `VCfg.subscribed` is the state right
                      after `Pull` returned: the filtered current value in hand as the seed.
-/
namespace ScVerif.C09

variable {ι μ : Type}

/-! ### Pull with its seed phase -/

/-- `Collection.Pull`'s goroutine with its seed loop in front of the pipeline: `seeds` are the seed
changes not yet handed on (the head is the one being offered on the channel), `seeded` those already
handed on; while seeds remain the forwarder takes nothing from the merge machine (which keeps
receiving and merging). -/
structure SCfg (ι μ : Type) where
  seeds : List (Change ι μ)
  seeded : List (Change ι μ)
  p : PCfg ι μ

def SCfg.init (sd : List (Change ι μ)) : SCfg ι μ := ⟨sd, [], PCfg.init⟩

/-- what Pull's goroutine is offering on its channel -/
def SCfg.offer (c : SCfg ι μ) : Option (Change ι μ) :=
  match c.seeds with
  | s :: _ => some s
  | [] => c.p.inHand

/-- everything Pull's goroutine has handed on (to the consumer / to PullID's goroutine), in order -/
def SCfg.out (c : SCfg ι μ) : List (Change ι μ) := c.seeded ++ c.p.delivered

/-! ### PullID -/

structure QCfg (ι μ : Type) where
  s : SCfg ι μ
  hand2 : Option μ
  ended : Bool
  out : List μ

def QCfg.init (sd : List (Change ι μ)) : QCfg ι μ := ⟨SCfg.init sd, none, false, []⟩

inductive QMove (α : Type) where
  | recv (e : α)
  | take
  | hand
  | deliver

def qinputs {α : Type} : List (QMove α) → List α
  | [] => []
  | .recv e :: ms => e :: qinputs ms
  | _ :: ms => qinputs ms

variable [DecidableEq ι]

/-- `T` is the transform of Pull's forwarder (`include`, then the read mask and the collection's
equivalence: the identity here): `some` for a Pull without `WithInclude`, `includeChange f` (Include.lean)
with it.  Seeds are not transformed (the seed list was built from the admitted items). -/
def sstep (T : Change ι μ → Option (Change ι μ)) (c : SCfg ι μ) : PMove (Change ι μ) → SCfg ι μ
  | .recv e => { c with p := pstep T c.p (.recv e) }
  | .take =>
    match c.seeds with
    | [] => { c with p := pstep T c.p .take }
    | _ :: _ => c                                   -- still in the seed loop
  | .deliver =>
    match c.seeds with
    | s :: rest => { c with seeds := rest, seeded := c.seeded ++ [s] }
    | [] => { c with p := pstep T c.p .deliver }

/-- One iteration of PullID's `for change := range changes`: what it then holds in hand, and whether
it returned (`defer close(send); defer cancel()`). -/
def pullIdAccept (i : ι) (d : Change ι μ) : Option μ × Bool :=
  if d.id ≠ i then (none, false)                 -- `continue`
  else if d.kind = .remove then (none, true)     -- `return`
  else match d.new with
    | none => (none, true)                       -- "NewValue is nil, but not a REMOVE change": `return`
    | some v => (some v, false)                  -- `send <- &ValueChange{Value: change.NewValue …}`

def qstep (T : Change ι μ → Option (Change ι μ)) (i : ι) (c : QCfg ι μ) : QMove (Change ι μ) → QCfg ι μ
  | .recv e => { c with s := sstep T c.s (.recv e) }
  | .take => if c.ended then c else { c with s := sstep T c.s .take }
  | .hand =>
    match c.hand2, c.ended, c.s.offer with
    | none, false, some d =>
      { c with s := sstep T c.s .deliver, hand2 := (pullIdAccept i d).1, ended := (pullIdAccept i d).2 }
    | _, _, _ => c
  | .deliver =>
    match c.hand2 with
    | some v => { c with hand2 := none, out := c.out ++ [v] }
    | none => c

def qrun (T : Change ι μ → Option (Change ι μ)) (i : ι) (c : QCfg ι μ) (ms : List (QMove (Change ι μ))) : QCfg ι μ :=
  ms.foldl (qstep T i) c

/-- Spec of PullID over the stream Pull delivers: the new values of the watched id's changes, in
order, up to the first REMOVE (or nil value) of that id; and whether such a change was met. -/
def pullIdScan (i : ι) : List (Change ι μ) → List μ × Bool
  | [] => ([], false)
  | d :: ds =>
    if d.id ≠ i then pullIdScan i ds
    else if d.kind = .remove then ([], true)
    else match d.new with
      | none => ([], true)
      | some v => (v :: (pullIdScan i ds).1, (pullIdScan i ds).2)

/-! ### several subscribers on one bus -/

/-- A subscriber: `watch = none` is `Collection.Pull` (its consumer receives Pull's events), `some i` is
`Collection.PullID i`; `tr` is the transform of its Pull forwarder (its own read options: `some`, or
`includeChange f` for `WithInclude f`). -/
structure Sub (ι μ : Type) where
  watch : Option ι
  tr : Change ι μ → Option (Change ι μ)
  q : QCfg ι μ

def Sub.init (w : Option ι) (T : Change ι μ → Option (Change ι μ)) (sd : List (Change ι μ)) : Sub ι μ :=
  ⟨w, T, QCfg.init sd⟩

def subStep (s : Sub ι μ) (m : QMove (Change ι μ)) : Sub ι μ :=
  match s.watch with
  | some i => { s with q := qstep s.tr i s.q m }
  | none =>
    match m with
    | .recv e => { s with q := { s.q with s := sstep s.tr s.q.s (.recv e) } }
    | .take => { s with q := { s.q with s := sstep s.tr s.q.s .take } }
    | .hand => s
    | .deliver => { s with q := { s.q with s := sstep s.tr s.q.s .deliver } }

def subRun (s : Sub ι μ) (ms : List (QMove (Change ι μ))) : Sub ι μ := ms.foldl subStep s

inductive LMove where
  | take | hand | deliver

def LMove.toQ {α : Type} : LMove → QMove α
  | .take => .take | .hand => .hand | .deliver => .deliver

inductive SMove (α : Type) where
  | send (e : α)
  | loc (k : Nat) (m : LMove)

def modAt {α : Type} (f : α → α) : Nat → List α → List α
  | _, [] => []
  | 0, x :: xs => f x :: xs
  | k + 1, x :: xs => x :: modAt f k xs

def sysStep (subs : List (Sub ι μ)) : SMove (Change ι μ) → List (Sub ι μ)
  | .send e => subs.map (fun s => subStep s (.recv e))
  | .loc k m => modAt (fun s => subStep s m.toQ) k subs

def sysRun (subs : List (Sub ι μ)) (ms : List (SMove (Change ι μ))) : List (Sub ι μ) := ms.foldl sysStep subs

/-- What subscriber `k` sees of a system run: every `send`, and its own local moves. -/
def proj {α : Type} (k : Nat) : List (SMove α) → List (QMove α)
  | [] => []
  | .send e :: ms => .recv e :: proj k ms
  | .loc j m :: ms => if j = k then m.toQ :: proj k ms else proj k ms

/-! ### Value.Pull with a response filter, from the state right after subscribing -/

omit [DecidableEq ι] in
def vstepF {α : Type} (E : Option α → α → Bool) (F : α → α) (c : VCfg α) : PMove α → VCfg α
  | .recv e => { c with slot := some e, received := c.received ++ [e] }
  | .take =>
    match c.inHand, c.slot with
    | none, some v =>
      if E c.last (F v) then { c with slot := none }                             -- continue
      else { c with slot := none, last := some (F v), inHand := some (F v) }     -- last = change.Value; send
    | _, _ => c
  | .deliver =>
    match c.inHand with
    | some d => { c with inHand := none, delivered := c.delivered ++ [d] }
    | none => c

def vrunF {α : Type} (E : Option α → α → Bool) (F : α → α) (c : VCfg α) (ms : List (PMove α)) : VCfg α :=
  ms.foldl (vstepF E F) c

/-- Right after `Value.Pull` returned with current value `cur` (`none`: unset value or updates-only):
`last` is the filtered seed and the seed change is in the forwarder's hand; `cur` counts as the first
value "received" (it is the most recent value at that moment). -/
def VCfg.subscribed {α : Type} (F : α → α) (cur : Option α) : VCfg α :=
  ⟨none, cur.map F, cur.map F, [], cur.toList⟩

/-- `c` seen through the filter: slot and write history filtered. -/
def VCfg.mapF {α : Type} (F : α → α) (c : VCfg α) : VCfg α :=
  { c with slot := c.slot.map F, received := c.received.map F }

def PMove.mapF {α : Type} (F : α → α) : PMove α → PMove α
  | .recv e => .recv (F e) | .take => .take | .deliver => .deliver

/-! ### a backpressured subscriber (no lossy stage) -/

/-- `Pull(WithBackpressure(true))`: the forwarder ranges over the bus listener's unbuffered channel
itself, so `Bus.Send` can hand an event over only while the forwarder is back at its receive, i.e. holds
nothing; `offer e` is the writer's attempt (`accepted` records the ones that went through — an attempt
while the forwarder holds an event leaves everything as it is: the writer keeps waiting). -/
structure BCfg (α : Type) where
  inHand : Option α
  delivered : List α
  accepted : List α

def BCfg.init {α : Type} : BCfg α := ⟨none, [], []⟩

inductive BMove (α : Type) where
  | offer (e : α)
  | deliver

def bstep {α : Type} (c : BCfg α) : BMove α → BCfg α
  | .offer e =>
    match c.inHand with
    | none => { c with inHand := some e, accepted := c.accepted ++ [e] }
    | some _ => c
  | .deliver =>
    match c.inHand with
    | some d => { c with inHand := none, delivered := c.delivered ++ [d] }
    | none => c

def brun {α : Type} (c : BCfg α) (ms : List (BMove α)) : BCfg α := ms.foldl bstep c

end ScVerif.C09
