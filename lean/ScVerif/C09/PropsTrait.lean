import ScVerif.C09.TraitAdapter
import ScVerif.C09.Props
/-!
# C09 — property theorems: the trait packages' conversions behind `Collection.Pull`

Model: `ScVerif/C09/TraitAdapter.lean`.  The harness drives the real stages of parentpb, hailpb, publicationpb,
vendingpb (two collections), electricpb and metadatapb from the subscriber's end with every merged kind (monitor
trait-collection-stream).  Any message conversion `f`, any well-formed upstream, EVERY interleaving of the stage's
take / deliver moves with the upstream (a take beyond what the upstream has produced is a no-op).
-/
namespace ScVerif.C09

variable {ι μ ν : Type} [DecidableEq ι]

/-- One conversion stage, any interleaving: what its subscriber received plus the event it holds is the converted
prefix of the upstream it has taken (nothing lost, duplicated or reordered), a well-formed history of the converted
view (every kind keeps the values it is about, REPLACE included) folding to the conversion of the prefix's fold.
The statement is about ANY upstream list, so it applies again to a second conversion on top (model change -> proto
change): `castChange g ∘ castChange f = castChange (g ∘ f)`. -/
theorem C09_trait_adapter_stage (f : μ → ν) (s : View ι μ) (up : List (Change ι μ)) (hw : WFHist s up)
    (ms : List AMove) :
    let c := arun (castChange f) up (ACfg.init : ACfg ι ν) ms
    c.out ++ c.inHand.toList = (up.take c.taken).map (castChange f) ∧
    WFHist (mapView f s) (c.out ++ c.inHand.toList) ∧
    WFHist (mapView f s) c.out ∧
    fold (c.out ++ c.inHand.toList) (mapView f s) = mapView f (fold (up.take c.taken) s) ∧
    (c.taken = up.length → c.inHand = none → fold c.out (mapView f s) = mapView f (fold up s)) ∧
    (∀ (g : ν → ν) (x : Change ι μ), castChange g (castChange f x) = castChange (g ∘ f) x) := by
  intro c
  obtain ⟨h1, _⟩ := AInv_run (castChange f) up ms ACfg.init (AInv_init _ up)
  have hm := map_cast f (WFHist_take hw c.taken)
  refine ⟨h1, ?_, ?_, ?_, ?_, ?_⟩
  · rw [h1]; exact hm.1
  · have : WFHist (mapView f s) (c.out ++ c.inHand.toList) := by rw [h1]; exact hm.1
    exact (WFHist_append.mp this).1
  · rw [h1]; exact hm.2
  · intro ht hh
    have h2 := hm.2
    rw [← h1, hh, ht, List.take_length] at h2
    simpa using h2
  · intro g x
    simp [castChange, Option.map_map]

/-- End to end: the lossy pipeline of `Collection.Pull` (any simulating forwarder transform) followed by a trait
package's conversion stage, every interleaving of both: the TRAIT's subscriber receives a well-formed history of the
converted (filtered) view and, once nothing is pending or in either hand, holds what the trait's List shows. -/
theorem C09_trait_stream_view (T : Change ι μ → Option (Change ι μ)) (R : View ι μ → View ι μ)
    (hsim : Sim T R) (f : μ → ν) (s0 : View ι μ) (ms : List (PMove (Change ι μ)))
    (hw : WFHist s0 (pinputs ms)) (as : List AMove) :
    let c := prun T PCfg.init ms
    let a := arun (castChange f) c.delivered (ACfg.init : ACfg ι ν) as
    WFHist (mapView f (R s0)) a.out ∧
    WFHist (mapView f (R s0)) (a.out ++ a.inHand.toList) ∧
    (c.inHand = none → c.st.pending = [] → a.taken = c.delivered.length → a.inHand = none →
      ∀ i, fold a.out (mapView f (R s0)) i = (R (fold (pinputs ms) s0) i).map f) := by
  intro c a
  obtain ⟨_, _, hdel, _, hdrain⟩ := C09_pipeline_view T R hsim s0 ms hw
  obtain ⟨_, h2, h3, _, h5, _⟩ := C09_trait_adapter_stage f (R s0) c.delivered hdel as
  refine ⟨h3, h2, ?_⟩
  intro hh hp ht hah i
  have := h5 ht hah
  rw [this]
  simp only [mapView]
  rw [hdrain hh hp i]

/-- non-vacuity, and why the conversion must not go by kind: a REMOVE merged with an ADD reaches the stage as a
REPLACE; the conversion as coded keeps both values and the subscriber's view moves to the new child, the
by-kind variant (no arm for REPLACE) delivers a change that is not well formed and names no item -/
example :
    let c : Change String String := ⟨"x", .replace, 0, some "t1", some "t2", false, false⟩
    (castChange (fun v => v ++ "!") c).new = some "t2!" ∧ (castChange (fun v => v ++ "!") c).old = some "t1!" ∧
    (castByKind (fun v => v ++ "!") c).new = none ∧ (castByKind (fun v => v ++ "!") c).old = none := by
  decide
example :
    (arun (castChange (fun v : String => v ++ "!"))
      [(⟨"x", .replace, 0, some "t1", some "t2", false, false⟩ : Change String String)]
      ACfg.init [.take, .deliver, .take]).out.map (fun c => (c.kind, c.new)) = [(.replace, some "t2!")] := rfl

end ScVerif.C09
