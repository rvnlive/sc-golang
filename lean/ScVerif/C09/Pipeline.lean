import ScVerif.C09.MachineLemmas
import ScVerif.C09.Include
/-
C09 — the three stages of a lossy `Pull`:

  bus ─recv→ merge machine (`mergeCollectionExcess` / `DropExcess`) ─take→ forwarder ─deliver→ consumer

The forwarder is the goroutine of `Collection.Pull` / `Value.Pull` ranging over the machine's output:
it takes one event, transforms it (`T`: include ▸ read mask ▸ equivalence for a collection — `none` =
`continue`; the identity for the plain statement of C09), and then blocks on `send <- change` holding
that ONE event *in hand* until the consumer receives.  Three moves:

  `recv e`   the machine accepts an input                      (always enabled)
  `take`     the forwarder takes the machine's front event      (enabled iff nothing in hand and something pending)
  `deliver`  the consumer receives the event in hand            (enabled iff something is in hand)

A move that is not enabled leaves the configuration unchanged.  `taken` is a ghost history: the raw
events the forwarder took from the machine, in order.
-/
namespace ScVerif.C09

variable {ι μ : Type}

inductive PMove (α : Type) where
  | recv (e : α)
  | take
  | deliver

structure PCfg (ι μ : Type) where
  st : MState ι μ
  taken : List (Change ι μ)
  inHand : Option (Change ι μ)
  delivered : List (Change ι μ)
  received : List (Change ι μ)

def PCfg.init : PCfg ι μ := ⟨MState.init, [], none, [], []⟩

def pinputs {α : Type} : List (PMove α) → List α
  | [] => []
  | .recv e :: ms => e :: pinputs ms
  | _ :: ms => pinputs ms

variable [DecidableEq ι]

def pstep (T : Change ι μ → Option (Change ι μ)) (c : PCfg ι μ) : PMove (Change ι μ) → PCfg ι μ
  | .recv e => { c with st := recv c.st e, received := c.received ++ [e] }
  | .take =>
    match c.inHand, emit c.st with
    | none, some (o, st') => { c with st := st', taken := c.taken ++ [o], inHand := T o }
    | _, _ => c
  | .deliver =>
    match c.inHand with
    | some d => { c with inHand := none, delivered := c.delivered ++ [d] }
    | none => c

def prun (T : Change ι μ → Option (Change ι μ)) (c : PCfg ι μ) (ms : List (PMove (Change ι μ))) : PCfg ι μ :=
  ms.foldl (pstep T) c

theorem prun_nil (T : Change ι μ → Option (Change ι μ)) (c : PCfg ι μ) : prun T c [] = c := rfl
theorem prun_cons (T : Change ι μ → Option (Change ι μ)) (c : PCfg ι μ) (m : PMove (Change ι μ))
    (ms : List (PMove (Change ι μ))) : prun T c (m :: ms) = prun T (pstep T c m) ms := rfl

/-- `inv`: the merge machine, with what the forwarder took as its emitted history, keeps `Inv`; `out`: what left the
forwarder (delivered, then in hand) is the transform of what it took — the hand-over `send <- change` loses and
reorders nothing. -/
structure PInv (T : Change ι μ → Option (Change ι μ)) (s0 : View ι μ) (c : PCfg ι μ) : Prop where
  inv : Inv s0 ⟨c.st, c.taken, c.received⟩
  out : c.delivered ++ c.inHand.toList = c.taken.filterMap T

theorem PInv_init (T : Change ι μ → Option (Change ι μ)) (s0 : View ι μ) : PInv T s0 (PCfg.init : PCfg ι μ) :=
  ⟨Inv_init s0, by simp [PCfg.init]⟩

section
variable (T : Change ι μ → Option (Change ι μ)) {c : PCfg ι μ} {d : Change ι μ}

theorem pstep_take {o : Change ι μ} {st' : MState ι μ} (hh : c.inHand = none) (he : emit c.st = some (o, st')) :
    pstep T c .take = { c with st := st', taken := c.taken ++ [o], inHand := T o } := by
  simp only [pstep, hh, he]

theorem pstep_take_busy (hh : c.inHand = some d) : pstep T c .take = c := by
  simp only [pstep, hh]

theorem pstep_take_empty (he : emit c.st = none) : pstep T c .take = c := by
  simp only [pstep, he]
  cases c.inHand <;> rfl

theorem pstep_deliver (hh : c.inHand = some d) :
    pstep T c .deliver = { c with inHand := none, delivered := c.delivered ++ [d] } := by
  simp only [pstep, hh]

theorem pstep_deliver_none (hh : c.inHand = none) : pstep T c .deliver = c := by
  simp only [pstep, hh]
end

theorem PInv_step {T : Change ι μ → Option (Change ι μ)} {s0 : View ι μ} {c : PCfg ι μ}
    (h : PInv T s0 c) (m : PMove (Change ι μ))
    (hw : ∀ e, m = .recv e → WFChange (fold c.received s0) e) : PInv T s0 (pstep T c m) := by
  obtain ⟨hinv, hout⟩ := h
  cases m with
  | recv e =>
    exact ⟨Inv_recv (c := ⟨c.st, c.taken, c.received⟩) hinv (hw e rfl), hout⟩
  | take =>
    cases hh : c.inHand with
    | some d => rw [pstep_take_busy T hh]; exact ⟨hinv, hout⟩
    | none =>
      cases he : emit c.st with
      | none => rw [pstep_take_empty T he]; exact ⟨hinv, hout⟩
      | some p =>
        obtain ⟨o, st'⟩ := p
        rw [pstep_take T hh he]
        have h2 := Inv_emit (c := ⟨c.st, c.taken, c.received⟩) hinv
        simp only [step, he] at h2
        refine ⟨h2, ?_⟩
        rw [hh] at hout
        show c.delivered ++ (T o).toList = _
        rw [List.filterMap_append, ← hout]
        cases hT : T o <;> simp [hT]
  | deliver =>
    cases hh : c.inHand with
    | none => rw [pstep_deliver_none T hh]; exact ⟨hinv, hout⟩
    | some d =>
      rw [pstep_deliver T hh]
      refine ⟨hinv, ?_⟩
      rw [hh] at hout
      simpa using hout

theorem pstep_received (T : Change ι μ → Option (Change ι μ)) (c : PCfg ι μ) (m : PMove (Change ι μ)) :
    (pstep T c m).received = c.received ++ pinputs [m] := by
  cases m with
  | recv e => simp [pstep, pinputs]
  | take =>
    simp only [pstep, pinputs]
    cases c.inHand <;> cases emit c.st <;> simp
  | deliver =>
    simp only [pstep, pinputs]
    cases c.inHand <;> simp

theorem prun_received (T : Change ι μ → Option (Change ι μ)) (c : PCfg ι μ) (ms : List (PMove (Change ι μ))) :
    (prun T c ms).received = c.received ++ pinputs ms := by
  induction ms generalizing c with
  | nil => simp [prun_nil, pinputs]
  | cons m ms ih =>
    rw [prun_cons, ih, pstep_received]
    cases m <;> simp [pinputs]

theorem PInv_run {T : Change ι μ → Option (Change ι μ)} {s0 : View ι μ} {c : PCfg ι μ}
    (ms : List (PMove (Change ι μ))) (h : PInv T s0 c)
    (hw : WFHist (fold c.received s0) (pinputs ms)) : PInv T s0 (prun T c ms) := by
  induction ms generalizing c with
  | nil => exact h
  | cons m ms ih =>
    rw [prun_cons]
    cases m with
    | recv e =>
      refine ih (PInv_step h _ (fun e' he' => by cases he'; exact hw.1)) ?_
      simp only [pstep, fold_snoc]
      exact hw.2
    | take | deliver =>
      refine ih (PInv_step h _ (fun e' he' => by cases he')) ?_
      rw [pstep_received]; simpa [pinputs] using hw

theorem PInv.hist {T : Change ι μ → Option (Change ι μ)} {R : View ι μ → View ι μ} (hsim : Sim T R)
    {s0 : View ι μ} {c : PCfg ι μ} (h : PInv T s0 c) :
    Hist (R s0) (c.delivered ++ c.inHand.toList ++ c.st.pending.filterMap T) (R (fold c.received s0)) := by
  have := filterMap_sim hsim h.inv.wf
  rwa [h.inv.view, List.filterMap_append, ← h.out] at this

/-- Configuration of a lossy `Value.Pull`: the DropExcess slot, the forwarder's `last` (the value it
last sent, initially the seed / `nil`), the event in hand, what the consumer received. -/
structure VCfg (α : Type) where
  slot : Option α
  last : Option α
  inHand : Option α
  delivered : List α
  received : List α

/-- `Value.Pull`'s forwarder without its response filter (`vstepF`, Subs.lean, is the forwarder as coded; it is this one
on the filtered values: `vstepF_mapF`; `C09_value_pipeline` is about `vstep`, PropsSubs and PropsMixed about `vstepF`).
`E last v`: `r.equivalence != nil && r.equivalence.Compare(last, change.Value)` (`last` may be nil). -/
def vstep {α : Type} (E : Option α → α → Bool) (c : VCfg α) : PMove α → VCfg α
  | .recv e => { c with slot := some e, received := c.received ++ [e] }
  | .take =>
    match c.inHand, c.slot with
    | none, some v =>
      if E c.last v then { c with slot := none }                       -- continue
      else { c with slot := none, last := some v, inHand := some v }   -- last = change.Value; send
    | _, _ => c
  | .deliver =>
    match c.inHand with
    | some d => { c with inHand := none, delivered := c.delivered ++ [d] }
    | none => c

def vrun {α : Type} (E : Option α → α → Bool) (c : VCfg α) (ms : List (PMove α)) : VCfg α :=
  ms.foldl (vstep E) c

def VCfg.init {α : Type} (seed : Option α) : VCfg α := ⟨none, seed, none, [], []⟩

/-- Invariant of the Value pipeline started with seed `seed` (already sent; `none` for updates-only or an unset value).
`sub`: nothing is invented or reordered; `lastSent`: the forwarder's `last` is the value it last sent (delivered or in
hand), or the seed; `fresh`: the most recent write is still in the slot, or was the last one compared — sent, or
suppressed by `E`; `noDup`: no value is sent that `E` equates with the one sent just before it (not: no duplicates). -/
structure VInv {α : Type} (E : Option α → α → Bool) (seed : Option α) (c : VCfg α) : Prop where
  sub : (c.delivered ++ c.inHand.toList ++ c.slot.toList).Sublist c.received
  lastSent : c.last = (c.delivered ++ c.inHand.toList).getLast?.or seed
  fresh : ∀ r, c.received.getLast? = some r →
    c.slot = some r ∨ (c.slot = none ∧ (c.last = some r ∨ E c.last r = true))
  noDup : ∀ pre a b post, seed.toList ++ c.delivered ++ c.inHand.toList = pre ++ a :: b :: post →
    E (some a) b = false

theorem adjacent_snoc {α : Type} {P : α → α → Prop} {L : List α} {v : α}
    (hL : ∀ pre a b post, L = pre ++ a :: b :: post → P a b)
    (hlast : ∀ a, L.getLast? = some a → P a v) :
    ∀ pre a b post, L ++ [v] = pre ++ a :: b :: post → P a b := by
  intro pre a b post heq
  rcases List.eq_nil_or_concat post with rfl | ⟨post', x, rfl⟩
  · have h : L ++ [v] = (pre ++ [a]) ++ [b] := by rw [heq, List.append_assoc]; rfl
    obtain ⟨h1, h2⟩ := List.append_inj' h rfl
    cases h2
    exact hlast a (by rw [h1, List.getLast?_concat])
  · have h : L ++ [v] = (pre ++ a :: b :: post') ++ [x] := by
      rw [heq, List.concat_eq_append, List.append_assoc]; rfl
    exact hL pre a b post' (List.append_inj' h rfl).1

theorem no_adjacent {α : Type} {L pre post : List α} {a b : α} (h : L.length ≤ 1) :
    L ≠ pre ++ a :: b :: post := by
  intro heq
  have := congrArg List.length heq
  simp at this
  omega

theorem VInv_step {α : Type} {E : Option α → α → Bool} {seed : Option α} {c : VCfg α}
    (h : VInv E seed c) (m : PMove α) : VInv E seed (vstep E c m) := by
  -- only a `take` that sends the slot's value has content: `last` becomes that value, which `E` told apart from the
  -- one sent before it; every other move shifts a value along `slot ▸ inHand ▸ delivered` or changes nothing
  obtain ⟨hsub, hlast, hfresh, hnd⟩ := h
  rcases c with ⟨slot, last, inHand, delivered, received⟩
  cases m with
  | recv e =>
    simp only [vstep]
    refine ⟨?_, hlast, ?_, hnd⟩
    · simp only [Option.toList_some]
      have : (delivered ++ inHand.toList).Sublist received :=
        (List.sublist_append_left _ slot.toList).trans hsub
      exact List.Sublist.append this (List.Sublist.refl [e])
    · intro r hr
      simp only [List.getLast?_append, List.getLast?_singleton, Option.some_or] at hr
      cases hr
      exact Or.inl rfl
  | take =>
    simp only [vstep]
    cases inHand with
    | some d => exact ⟨hsub, hlast, hfresh, hnd⟩
    | none =>
      cases slot with
      | none => exact ⟨hsub, hlast, hfresh, hnd⟩
      | some v =>
        by_cases hE : E last v
        · simp only [hE, if_true]
          refine ⟨?_, hlast, ?_, hnd⟩
          · simp only [Option.toList_none, List.append_nil] at hsub ⊢
            exact (List.sublist_append_left _ [v]).trans (by simpa using hsub)
          · intro r hr
            rcases hfresh r hr with h1 | h1
            · cases h1
              exact Or.inr ⟨rfl, Or.inr hE⟩
            · exact absurd h1.1 (by simp)
        · simp only [hE, Bool.false_eq_true, if_false]
          refine ⟨?_, ?_, ?_, ?_⟩
          · simpa using hsub
          · simp
          · intro r hr
            rcases hfresh r hr with h1 | h1
            · cases h1
              exact Or.inr ⟨rfl, Or.inl rfl⟩
            · exact absurd h1.1 (by simp)
          · simp only [Option.toList_none, List.append_nil, Option.toList_some] at hlast hnd ⊢
            refine adjacent_snoc hnd ?_
            intro a ha
            -- the last value sent so far (or the seed) is `last`, which `E` tells apart from `v`
            have hla : last = some a := by
              rw [hlast, ← ha, List.getLast?_append]
              cases seed <;> rfl
            rw [← hla]
            simpa using hE
  | deliver =>
    simp only [vstep]
    cases inHand with
    | none => exact ⟨hsub, hlast, hfresh, hnd⟩
    | some d =>
      refine ⟨by simpa using hsub, by simpa using hlast, hfresh, ?_⟩
      intro pre a b post heq
      exact hnd pre a b post (by simpa using heq)

theorem VInv_run {α : Type} {E : Option α → α → Bool} {seed : Option α} {c : VCfg α}
    (h : VInv E seed c) (ms : List (PMove α)) : VInv E seed (vrun E c ms) :=
  List.foldlRecOn (motive := VInv E seed) ms _ h fun _ hc m _ => VInv_step hc m

theorem VInv_init {α : Type} (E : Option α → α → Bool) (seed : Option α) : VInv E seed (VCfg.init seed) := by
  refine ⟨by simp [VCfg.init], by simp [VCfg.init], by simp [VCfg.init],
    fun pre a b post heq => absurd heq (no_adjacent ?_)⟩
  cases seed <;> simp [VCfg.init]

end ScVerif.C09
