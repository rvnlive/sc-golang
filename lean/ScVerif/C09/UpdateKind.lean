import ScVerif.C09.Writers
/-
C09 — `Collection.Update`'s two reads and the kind of the event it announces (pkg/resource/collection.go,
pkg/resource/atomic.go `GetAndUpdate`).

`Update(id, msg, opts…)` reads the item under the READ lock (first read), releases it, runs the caller's
callbacks (`WithExpectedCheck`, `InterceptBefore`: arbitrary code, in particular other writers), takes the WRITE
lock, reads again (re-validation), gives up with Aborted when the two reads differ (`proto.Equal`), saves, unlocks,
and then decides the change type of the event: ADD iff `oldValue == nil || (created != nil && !createdMeanwhile)`.
When the first read finds nothing and `WithCreateIfAbsent` is set, it returns a PROVISIONAL message (`created`, the
empty message of msg's type) so that the comparison has something to compare; a rival that creates the item with
exactly that empty message in between is not detected by the comparison — `createdMeanwhile` records it, and the
write is then the UPDATE of an item every subscriber has been told about.  On the lossy path the difference is not
cosmetic: a second ADD merges with a following REMOVE into nothing (`mergeChanges`), and the subscriber keeps an
item that no longer exists.

* `firstRead`   the GetFn's first call: `none` = NotFound
* `commit`      the GetFn's second call (all four branches as coded, including "present at the first read, gone at
                the second, create-if-absent": the second call then makes the provisional message), the
                comparison, `save`, and the kind decision; the store at that moment is ANY store (whatever the
                callbacks and other writers did since the first read)
* new value     the message written (the harness writes whole values; field masks are C01/C05's subject)
-/
namespace ScVerif.C09

structure UReq (ι μ : Type) where
  id : ι
  msg : μ
  createIfAbsent : Bool

/-- a call between its first read and its commit -/
structure UCall (ι μ : Type) where
  req : UReq ι μ
  oldValue : μ       -- what the first read returned: the stored body, or the provisional message
  created : Bool     -- `created != nil`

inductive UResult (ι μ : Type) where
  | aborted
  | ok (store : View ι μ) (ev : Change ι μ)

variable {ι μ : Type} [DecidableEq ι]

def firstRead (zero : μ) (s : View ι μ) (r : UReq ι μ) : Option (UCall ι μ) :=
  match s r.id with
  | some b => some ⟨r, b, false⟩
  | none => if r.createIfAbsent then some ⟨r, zero, true⟩ else none

/-- the re-validation read: (what it returns, `created != nil` afterwards, `createdMeanwhile`) -/
def secondRead (zero : μ) (s : View ι μ) (u : UCall ι μ) : Option μ × Bool × Bool :=
  if u.created then
    match s u.req.id with
    | some b => (some b, true, true)
    | none => (some zero, true, false)
  else
    match s u.req.id with
    | some b => (some b, false, false)
    | none => if u.req.createIfAbsent then (some zero, true, false) else (none, false, false)

/-- the event built after unlocking: ADD without old value iff `add`, else UPDATE from the first read's value -/
def updEvent (u : UCall ι μ) (add : Bool) : Change ι μ :=
  ⟨u.req.id, if add then .add else .update, 0, if add then none else some u.oldValue, some u.req.msg, false, false⟩

def commit [DecidableEq μ] (zero : μ) (s : View ι μ) (u : UCall ι μ) : UResult ι μ :=
  if (secondRead zero s u).1 = some u.oldValue then
    .ok (s.set u.req.id (some u.req.msg))
      (updEvent u ((secondRead zero s u).2.1 && !(secondRead zero s u).2.2))
  else .aborted

/-- SPEC: the event of an update that commits at store `s` (what `wstep … (.update i v)` of Writers.lean queues) -/
def commitEvent (s : View ι μ) (i : ι) (v : μ) : Change ι μ :=
  ⟨i, if (s i).isSome then .update else .add, 0, s i, some v, false, false⟩

omit [DecidableEq ι] in
theorem firstRead_cases {zero : μ} {s0 : View ι μ} {r : UReq ι μ} {u : UCall ι μ}
    (hu : firstRead zero s0 r = some u) :
    (∃ b, s0 r.id = some b ∧ u = ⟨r, b, false⟩) ∨ (s0 r.id = none ∧ r.createIfAbsent = true ∧ u = ⟨r, zero, true⟩) := by
  unfold firstRead at hu
  cases h0 : s0 r.id with
  | some b => rw [h0] at hu; cases hu; exact Or.inl ⟨b, rfl, rfl⟩
  | none =>
    rw [h0] at hu
    cases hcia : r.createIfAbsent with
    | false => rw [hcia] at hu; cases hu
    | true => rw [hcia] at hu; cases hu; exact Or.inr ⟨rfl, rfl, rfl⟩

theorem commit_ok_event [DecidableEq μ] (zero : μ) (s0 s : View ι μ) (r : UReq ι μ) (u : UCall ι μ)
    (hu : firstRead zero s0 r = some u) (s' : View ι μ) (ev : Change ι μ)
    (hc : commit zero s u = .ok s' ev) :
    ev = commitEvent s r.id r.msg ∧ s' = s.set r.id (some r.msg) := by
  -- the comparison passed, so the second read returned what the first read did; branch by branch of the second
  -- read the kind decision is then `commitEvent`'s
  have hreq : u.req = r ∧ (u.created = true → u.oldValue = zero) := by
    rcases firstRead_cases hu with ⟨b, _, rfl⟩ | ⟨_, _, rfl⟩
    · exact ⟨rfl, nofun⟩
    · exact ⟨rfl, fun _ => rfl⟩
  obtain ⟨hr, hz⟩ := hreq
  subst hr
  by_cases h : (secondRead zero s u).1 = some u.oldValue
  · rw [commit, if_pos h] at hc
    cases hc
    refine ⟨?_, rfl⟩
    cases hcr : u.created with
    | true =>
      cases hs : s u.req.id with
      | some b =>
        simp only [secondRead, hcr, hs, if_true] at h
        cases h
        simp [secondRead, updEvent, commitEvent, hcr, hs]
      | none => simp [secondRead, updEvent, commitEvent, hcr, hs]
    | false =>
      cases hs : s u.req.id with
      | some b =>
        simp only [secondRead, hcr, hs, Bool.false_eq_true, if_false] at h
        cases h
        simp [secondRead, updEvent, commitEvent, hcr, hs]
      | none =>
        cases hcia : u.req.createIfAbsent with
        | true => simp [secondRead, updEvent, commitEvent, hcr, hs, hcia]
        | false => simp [secondRead, hcr, hs, hcia] at h
  · rw [commit, if_neg h] at hc
    cases hc

omit [DecidableEq ι] in
theorem commitEvent_wf (s : View ι μ) (i : ι) (v : μ) : WFChange s (commitEvent s i v) := by
  unfold WFChange commitEvent
  cases hs : s i with
  | none => simp
  | some b => simp

theorem commitEvent_apply (s : View ι μ) (i : ι) (v : μ) :
    apply (commitEvent s i v) s = s.set i (some v) := by
  unfold apply commitEvent
  cases hs : s i <;> simp

theorem wstep_update_event (c : WCfg ι μ) (i : ι) (v : μ) :
    wstep c (.update i v) =
      { store := c.store.set i (some v), pending := c.pending ++ [(c.next, commitEvent c.store i v)],
        published := c.published, next := c.next + 1 } := rfl

theorem commit_ok_of_unchanged [DecidableEq μ] (zero : μ) (s0 s : View ι μ) (r : UReq ι μ) (u : UCall ι μ)
    (hu : firstRead zero s0 r = some u) (hsame : s r.id = s0 r.id) :
    ∃ s' ev, commit zero s u = .ok s' ev := by
  have h : (secondRead zero s u).1 = some u.oldValue := by
    rcases firstRead_cases hu with ⟨b, h0, rfl⟩ | ⟨h0, hcia, rfl⟩ <;> simp [secondRead, hsame, h0]
  exact ⟨_, _, by rw [commit, if_pos h]⟩

end ScVerif.C09
