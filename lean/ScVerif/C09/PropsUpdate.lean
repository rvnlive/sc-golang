import ScVerif.C09.UpdateKind
/-!
# C09 — property theorems: the event an overtaken `Collection.Update` announces

Model: `ScVerif/C09/UpdateKind.lean`.  The driver executes its definitions (op `ucommit`); the harness ties them to
the real `resource.Collection` with the rival writer placed in the call's own `InterceptBefore` callback (every
pair of "what the first read saw" / "what is stored at commit time" over absent, the empty message and two values,
with and without `WithCreateIfAbsent`).  The stores at the first read and at commit time are ANY stores.
-/
namespace ScVerif.C09

variable {ι μ : Type} [DecidableEq ι] [DecidableEq μ]

/-- Whatever happened between the two reads: an `Update` that goes through announces the event of a commit at the
store AS IT IS AT COMMIT TIME — ADD without old value iff the item is absent then, otherwise UPDATE from the value
stored then — the event the writers' model (`wstep`, C09_delete_published_in_commit_order) queues.  In particular
an item a rival created meanwhile is never announced as a second ADD (which, merged with a following REMOVE on the
lossy path, would cancel and leave the subscriber with an item that is gone). -/
theorem C09_update_event_matches_commit_state (zero : μ) (s0 s : View ι μ) (r : UReq ι μ) (u : UCall ι μ)
    (hu : firstRead zero s0 r = some u) (s' : View ι μ) (ev : Change ι μ)
    (hc : commit zero s u = .ok s' ev) :
    ev = commitEvent s r.id r.msg ∧
    (ev.kind = .add ↔ s r.id = none) ∧ ev.old = s r.id ∧
    WFChange s ev ∧ apply ev s = s' ∧
    ∀ (pend pub : List (Nat × Change ι μ)) (n : Nat),
      wstep ⟨s, pend, pub, n⟩ (.update r.id r.msg) = ⟨s', pend ++ [(n, ev)], pub, n + 1⟩ := by
  obtain ⟨hev, hs'⟩ := commit_ok_event zero s0 s r u hu s' ev hc
  subst hev hs'
  refine ⟨rfl, ?_, rfl, commitEvent_wf s r.id r.msg, commitEvent_apply s r.id r.msg, ?_⟩
  · unfold commitEvent
    cases hs : s r.id <;> simp
  · intro pend pub n
    exact wstep_update_event ⟨s, pend, pub, n⟩ r.id r.msg

/-- No spurious failure: if the item is, at commit time, what the first read saw (nobody interfered, or whoever did
put it back), the call goes through; so Aborted means the item really changed in between. -/
theorem C09_update_aborts_only_when_overtaken (zero : μ) (s0 s : View ι μ) (r : UReq ι μ) (u : UCall ι μ)
    (hu : firstRead zero s0 r = some u) :
    (s r.id = s0 r.id → ∃ s' ev, commit zero s u = .ok s' ev) ∧
    (commit zero s u = .aborted → s r.id ≠ s0 r.id) := by
  refine ⟨commit_ok_of_unchanged zero s0 s r u hu, ?_⟩
  intro hab hsame
  obtain ⟨s', ev, hok⟩ := commit_ok_of_unchanged zero s0 s r u hu hsame
  rw [hok] at hab
  cases hab

/-- non-vacuity: the overtaken create that goes through (first read: absent; a rival stores the empty message;
the write commits) is an UPDATE from the empty message, not an ADD; the undisturbed create is an ADD; a rival that
stores something else makes the call abort -/
example :
    (firstRead "" (View.empty : View String String) ⟨"a", "v", true⟩).map
      (fun u => match commit "" ((View.empty : View String String).set "a" (some "")) u with
        | .ok _ ev => (ev.kind, ev.old) | .aborted => (.unspecified, none)) = some (.update, some "") := rfl
example :
    (firstRead "" (View.empty : View String String) ⟨"a", "v", true⟩).map
      (fun u => match commit "" (View.empty : View String String) u with
        | .ok _ ev => (ev.kind, ev.old) | .aborted => (.unspecified, none)) = some (.add, none) := rfl
example :
    (firstRead "" (View.empty : View String String) ⟨"a", "v", true⟩).map
      (fun u => match commit "" ((View.empty : View String String).set "a" (some "w")) u with
        | .ok _ _ => true | .aborted => false) = some false := rfl

end ScVerif.C09
