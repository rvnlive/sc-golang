import ScVerif.C09.SubsLemmas
import ScVerif.C09.Seed
/-!
# C09 — property theorems: subscribers on top of the lossy pipeline

Model: `ScVerif/C09/Subs.lean` — `Collection.Pull`'s goroutine with its seed loop (`sstep`), `Collection.PullID` as a
fourth stage (`qstep`), several subscribers on one bus (`sysStep`), and `Value.Pull`'s forwarder exactly as coded
with its response filter from the state right after subscribing (`vstepF`, `VCfg.subscribed`).  The driver executes
these definitions (ops `vrun`, `crun`); the harness ties them to the real `Value` / `Collection` end to end.  The
forwarder's transform and the seed list as coded are in `Include.lean` and `Seed.lean`.

Quantifiers: all well-formed sent streams (any stream where stated), all interleavings of the moves, any number and
mix of subscribers, any transform `T` with `Sim T R`, any equivalence `E` and filter `F`, any id and message types.
-/
namespace ScVerif.C09

variable {ι μ : Type} [DecidableEq ι]

/-- Subscribers are independent: with any number of lossy subscribers (`Collection.Pull` and `Collection.PullID`
mixed) on one bus, after every interleaving subscriber `k`'s state is what it would be alone, given the sent stream
and its own local moves.  (The code shares the bus's `*CollectionChange` among listeners; the model's machines
copy, as `mergeCollectionExcess` does on the way in and out — the tie checks event objects are not
rewritten after delivery.) -/
theorem C09_subscribers_independent (subs : List (Sub ι μ)) (ms : List (SMove (Change ι μ)))
    (k : Nat) (s : Sub ι μ) (hk : subs[k]? = some s) :
    (sysRun subs ms)[k]? = some (subRun s (proj k ms)) ∧
    qinputs (proj k ms) = sent ms := by
  refine ⟨?_, qinputs_proj k ms⟩
  rw [sysRun_proj, hk]
  rfl

/-- The forwarder transforms of the code simulate the subscriber's view: the identity without `WithInclude`; with
`WithInclude f`, for ANY `f`, `(*CollectionChange).include` as coded (kind-agnostic, so also on the REPLACE only
merging makes) against the filtered view `restrict f s` (what `List(WithInclude f)` shows): a change moving an item
out of the admitted set becomes a REMOVE of its old value, into it an ADD. -/
theorem C09_include_sim (f : ι → μ → Bool) :
    Sim (some : Change ι μ → Option (Change ι μ)) id ∧ Sim (includeChange f) (restrict f) :=
  ⟨Sim_some, Sim_include f⟩

/-- Every subscriber of a multi-subscriber system, whatever the others are and do, for any forwarder transform with
`Sim T R` (`C09_include_sim`).  The seed list `sd` is any well-formed history from a base view `b` folding to
`R s0`: `b` empty and one ADD per ADMITTED stored item for a seeded `Collection.Pull`, `b = R s0` and no seeds for
`WithUpdatesOnly`.  The bus never waits for `k`; what it has been and is still to be handed folds to the mapped
view of everything sent (writes arriving while seeds are still being handed on included); what was handed on is a
well-formed history, seeds first. -/
theorem C09_every_subscriber_view (T : Change ι μ → Option (Change ι μ)) (R : View ι μ → View ι μ)
    (hsim : Sim T R) (b s0 : View ι μ) (sd : List (Change ι μ))
    (hsd : WFHist b sd) (hs0 : fold sd b = R s0)
    (subs : List (Sub ι μ)) (w : Option ι) (k : Nat) (hk : subs[k]? = some (Sub.init w T sd))
    (ms : List (SMove (Change ι μ))) (hw : WFHist s0 (sent ms))
    (s : Sub ι μ) (hs : (sysRun subs ms)[k]? = some s) :
    s.q.s.p.received = sent ms ∧
    fold (s.q.s.out ++ s.q.s.seeds ++ s.q.s.p.inHand.toList ++ s.q.s.p.st.pending.filterMap T) b
        = R (fold (sent ms) s0) ∧
    WFHist b s.q.s.out ∧
    (s.q.s.seeds = [] → s.q.s.p.inHand = none → s.q.s.p.st.pending = [] →
        fold s.q.s.out b = R (fold (sent ms) s0)) := by
  cases sysRun_sub hk hs
  obtain ⟨hrec, hp, hseed⟩ := subRun_init w T s0 sd (proj k ms) (by rw [qinputs_proj]; exact hw)
  rw [qinputs_proj] at hrec
  have hf := hseed.view hsim hp hsd hs0
  rw [hrec] at hf
  exact ⟨hrec, hf⟩

/-- `Collection.PullID` on a lossy Pull (merge machine ▸ Pull's goroutine with its seed loop ▸ PullID's goroutine ▸
consumer), every interleaving: the consumer gets the new values of the watched id's changes that Pull handed on
(seeds included), in order, up to the first REMOVE, which ends the stream; live with nothing in flight, the last
value received is the item's current value (what `b` holds if nothing was received: absent for a seeded
subscription). -/
theorem C09_pullid_stage (T : Change ι μ → Option (Change ι μ)) (R : View ι μ → View ι μ)
    (hsim : Sim T R) (i : ι) (b s0 : View ι μ) (sd : List (Change ι μ))
    (hsd : WFHist b sd) (hs0 : fold sd b = R s0)
    (ms : List (QMove (Change ι μ))) (hw : WFHist s0 (qinputs ms)) :
    let c := (subRun (Sub.init (some i) T sd) ms).q
    c.s.p.received = qinputs ms ∧
    pullIdScan i c.s.out = (c.out ++ c.hand2.toList, c.ended) ∧
    (c.ended = true → ∃ d ∈ c.s.out, d.id = i ∧ d.kind = .remove) ∧
    (c.ended = false → c.hand2 = none → c.s.seeds = [] → c.s.p.inHand = none → c.s.p.st.pending = [] →
        R (fold (qinputs ms) s0) i = (c.out.getLast?).or (b i)) := by
  obtain ⟨hrec, hp, hseed⟩ := subRun_init (some i) T s0 sd ms hw
  have hq := subRun_QInv (s := Sub.init (some i) T sd) rfl (QInv_init i sd) ms
  obtain ⟨_, hwfo, hquiet⟩ := hseed.view hsim hp hsd hs0
  rw [hrec] at hquiet
  refine ⟨hrec, hq.scan, ?_, ?_⟩
  · intro he
    obtain ⟨d, hd, hid, hk | hn⟩ := pullIdScan_gone i _ (by rw [hq.scan]; exact he)
    · exact ⟨d, hd, hid, hk⟩
    · exact ⟨d, hd, hid, WFHist_mem_new hwfo d hd hn⟩
  · intro he h2 hsd0 hh hpend
    rw [← hquiet hsd0 hh hpend, pullIdScan_live i _ (by rw [hq.scan]; exact he), hq.scan, h2]
    simp

/-- `Value.Pull` without backpressure exactly as coded — DropExcess slot ▸ forwarder (response filter `F`, then the
equivalence `E` against the FILTERED value last sent, then `last = change.Value`) ▸ consumer — from the state right
after subscribing (`cur` in hand as the seed; `none` = updates only), any `E`, `F` and interleaving: writers never
wait; the consumer gets a subsequence of the filtered values with no value `E` equates with the one sent before it;
once slot and hand are empty the last value received is the filtered most recent one modulo `E`. -/
theorem C09_value_pull_eventually_latest {α : Type} (E : Option α → α → Bool) (F : α → α)
    (cur : Option α) (ms : List (PMove α)) :
    let c := vrunF E F (VCfg.subscribed F cur) ms
    c.received = cur.toList ++ pinputs ms ∧
    (c.delivered ++ c.inHand.toList ++ (c.slot.map F).toList).Sublist (c.received.map F) ∧
    (∀ pre a b post, c.delivered ++ c.inHand.toList = pre ++ a :: b :: post → E (some a) b = false) ∧
    (c.slot = none → c.inHand = none → ∀ r, c.received.getLast? = some r →
        c.delivered.getLast? = some (F r) ∨ E c.delivered.getLast? (F r) = true) := by
  have h := VInv_run (VInv_subscribed E F cur) (ms.map (PMove.mapF F))
  rw [← vrunF_mapF] at h
  have hquiet := fun hs r hr => h.quiet_latest hs (r := r) hr
  obtain ⟨hsub, hlast, _, hnd⟩ := h
  simp only [VCfg.mapF] at hsub hlast hnd
  refine ⟨by rw [vrunF_received]; rfl, hsub, ?_, ?_⟩
  · intro pre a b post heq
    exact hnd pre a b post (by simpa using heq)
  · intro hs hh r hr
    have hq := hquiet hs r hr
    rw [hlast, hh] at hq
    simpa using hq

/-- With backpressure (no lossy stage; `BCfg`), every interleaving of write attempts and receives: nothing is dropped
or reordered; a write goes through iff the forwarder holds nothing (writers wait for delivery, and only then); a
subscriber that receives after every write gets every write. -/
theorem C09_backpressure_lossless {α : Type} (ms : List (BMove α)) (es : List α) :
    (let c := brun BCfg.init ms
     c.delivered ++ c.inHand.toList = c.accepted ∧
     ∀ e, (bstep c (.offer e)).accepted = (if c.inHand.isNone then c.accepted ++ [e] else c.accepted)) ∧
    (brun BCfg.init (es.flatMap (fun e => [BMove.offer e, BMove.deliver]))).delivered = es := by
  refine ⟨⟨brun_lossless (by simp [BCfg.init]) ms, ?_⟩, ?_⟩
  · intro e
    cases h : (brun BCfg.init ms).inHand with
    | none => rw [bstep_offer h]; rfl
    | some d => rw [bstep_offer_busy h]; rfl
  · simpa [BCfg.init] using brun_offer_deliver es BCfg.init rfl

/-- Eventually the most recent change: from any state a `Collection.Pull` subscriber has reached, a consumer that
receives `backlog` more times (seeds, pending changes and the event in hand still on their way; no further write)
has nothing left to come and holds the current view. -/
theorem C09_eventually_current_view (T : Change ι μ → Option (Change ι μ)) (R : View ι μ → View ι μ)
    (hsim : Sim T R) (b s0 : View ι μ) (sd : List (Change ι μ))
    (hsd : WFHist b sd) (hs0 : fold sd b = R s0)
    (subs : List (Sub ι μ)) (k : Nat) (hk : subs[k]? = some (Sub.init none T sd))
    (ms : List (SMove (Change ι μ))) (hw : WFHist s0 (sent ms))
    (s : Sub ι μ) (hs : (sysRun subs ms)[k]? = some s) :
    let s' := subRun s (drainMoves s.q.s.backlog)
    s'.q.s.p.received = sent ms ∧
    s'.q.s.seeds = [] ∧ s'.q.s.p.inHand = none ∧ s'.q.s.p.st.pending = [] ∧
    WFHist b s'.q.s.out ∧
    fold s'.q.s.out b = R (fold (sent ms) s0) := by
  cases sysRun_sub hk hs
  generalize hn : (subRun (Sub.init none T sd : Sub ι μ) (proj k ms)).q.s.backlog = n
  intro s'
  -- the drained subscriber is the initial one run on the sent stream followed by the receives
  have hin : qinputs (proj k ms ++ drainMoves (α := Change ι μ) n) = sent ms := by
    rw [qinputs_append, qinputs_drainMoves, qinputs_proj, List.append_nil]
  obtain ⟨hrec, hp, hseed⟩ := subRun_init none T s0 sd (proj k ms ++ drainMoves n) (by rw [hin]; exact hw)
  rw [subRun_append, hin] at hrec
  rw [subRun_append] at hp hseed
  have hb : s'.q.s.backlog = 0 := by
    have := subRun_drain_backlog (subRun (Sub.init none T sd : Sub ι μ) (proj k ms))
      (by rw [subRun_watch]; rfl) n
    rw [hn, Nat.sub_self] at this
    exact Nat.le_zero.mp this
  obtain ⟨h1, h2, h3⟩ := backlog_zero hb
  obtain ⟨_, hwfo, hquiet⟩ := hseed.view hsim hp hsd hs0
  rw [hrec] at hquiet
  exact ⟨hrec, h1, h2, h3, hwfo, hquiet h1 h2 h3⟩

/-- Eventually the most recent value: from any state a lossy `Value.Pull` subscriber has reached, two more receives
(no further write) empty slot and hand, and the last value received is the filtered most recent one modulo `E`. -/
theorem C09_value_pull_drains {α : Type} (E : Option α → α → Bool) (F : α → α)
    (cur : Option α) (ms : List (PMove α)) :
    let c := vrunF E F (VCfg.subscribed F cur) (ms ++ [.take, .deliver, .take, .deliver])
    c.slot = none ∧ c.inHand = none ∧ c.received = cur.toList ++ pinputs ms ∧
    ∀ r, c.received.getLast? = some r →
        c.delivered.getLast? = some (F r) ∨ E c.delivered.getLast? (F r) = true := by
  intro c
  have hq : c.slot = none ∧ c.inHand = none := by
    show (vrunF E F _ (ms ++ _)).slot = none ∧ (vrunF E F _ (ms ++ _)).inHand = none
    rw [vrunF_append]
    exact vdrain_quiet E F _
  obtain ⟨hr, _, _, hl⟩ := C09_value_pull_eventually_latest E F cur (ms ++ [.take, .deliver, .take, .deliver])
  refine ⟨hq.1, hq.2, ?_, hl hq.1 hq.2⟩
  rw [pinputs_append] at hr
  exact hr.trans (congrArg _ (List.append_nil _))

/-- Eventually, for `Collection.PullID`: `backlog` more rounds of take / hand / deliver (no further write) end the
stream — then a REMOVE of the item was shown — or leave nothing to come, the last value received being the item's
current one. -/
theorem C09_pullid_eventually (T : Change ι μ → Option (Change ι μ)) (R : View ι μ → View ι μ)
    (hsim : Sim T R) (i : ι) (b s0 : View ι μ) (sd : List (Change ι μ))
    (hsd : WFHist b sd) (hs0 : fold sd b = R s0)
    (ms : List (QMove (Change ι μ))) (hw : WFHist s0 (qinputs ms)) :
    let n := (subRun (Sub.init (some i) T sd) ms).q.backlog
    let c := (subRun (Sub.init (some i) T sd) (ms ++ qdrainMoves n)).q
    c.s.p.received = qinputs ms ∧
    ((c.ended = true ∧ ∃ d ∈ c.s.out, d.id = i ∧ d.kind = .remove) ∨
     (c.ended = false ∧ c.hand2 = none ∧ c.s.seeds = [] ∧ c.s.p.inHand = none ∧ c.s.p.st.pending = [] ∧
        R (fold (qinputs ms) s0) i = (c.out.getLast?).or (b i))) := by
  intro n c
  have hin : qinputs (ms ++ qdrainMoves (α := Change ι μ) n) = qinputs ms := by
    rw [qinputs_append, qinputs_qdrainMoves, List.append_nil]
  obtain ⟨h1, _, h3, h4⟩ := C09_pullid_stage T R hsim i b s0 sd hsd hs0 (ms ++ qdrainMoves n) (by rw [hin]; exact hw)
  rw [hin] at h1 h4
  refine ⟨h1, ?_⟩
  have hd := subRun_qdrain_backlog (subRun (Sub.init (some i) T sd : Sub ι μ) ms) (by rw [subRun_watch]; rfl) n
  rw [← subRun_append] at hd
  cases he : c.ended with
  | true => exact Or.inl ⟨rfl, h3 he⟩
  | false =>
    have hb : c.backlog ≤ n - n := (hd.resolve_left (by rw [he]; nofun)).2
    obtain ⟨q1, q2, q3, q4⟩ := qbacklog_zero (Nat.le_zero.mp (Nat.sub_self n ▸ hb))
    exact Or.inr ⟨rfl, q1, q2, q3, q4, h4 he q1 q2 q3 q4⟩

/-- The seed list of `Collection.Pull` as coded (`seedChanges`: `itemSlice` keeps the stored items the filter admits,
one ADD per item in id order flagged SeedValue, the last ADMITTED one LastSeedValue) meets the two seed hypotheses
of the subscriber theorems, for any filter and stored items with distinct ids. -/
theorem C09_seed_list (f : ι → μ → Bool) (items : List (ι × μ × Nat)) (hnd : (items.map (·.1)).Nodup) :
    WFHist (View.empty : View ι μ) (seedChanges f items) ∧
    fold (seedChanges f items) View.empty = restrict f (viewOf items) ∧
    (∀ c ∈ seedChanges f items, c.kind = .add ∧ c.seed = true ∧ incl f c.id c.new = true) := by
  refine ⟨(seedChanges_spec f items hnd).1, (seedChanges_spec f items hnd).2, fun c hc => ?_⟩
  obtain ⟨h1, h2, x, hx, h3, h4⟩ := seedChangesOf_mem _ c hc
  exact ⟨h1, h2, by rw [h3, h4]; exact (List.mem_filter.mp hx).2⟩

/-- A lossy `Collection.Pull(WithInclude f)` end to end as coded: the seeds and the transform are the code's, not hypotheses.
What the subscriber is handed is a well-formed history from nothing (a REPLACE the merge made out of a delete and a
re-create reaches it as a REMOVE when the new value is excluded, as an ADD when only the new one is admitted, not
at all when neither is), and after `backlog` more receives it holds exactly the filtered current view. -/
theorem C09_include_subscriber_view (f : ι → μ → Bool) (items : List (ι × μ × Nat))
    (hnd : (items.map (·.1)).Nodup)
    (subs : List (Sub ι μ)) (k : Nat)
    (hk : subs[k]? = some (Sub.init none (includeChange f) (seedChanges f items)))
    (ms : List (SMove (Change ι μ))) (hw : WFHist (viewOf items) (sent ms))
    (s : Sub ι μ) (hs : (sysRun subs ms)[k]? = some s) :
    s.q.s.p.received = sent ms ∧
    WFHist View.empty s.q.s.out ∧
    (let s' := subRun s (drainMoves s.q.s.backlog)
     s'.q.s.seeds = [] ∧ s'.q.s.p.inHand = none ∧ s'.q.s.p.st.pending = [] ∧
     WFHist View.empty s'.q.s.out ∧
     fold s'.q.s.out View.empty = restrict f (fold (sent ms) (viewOf items))) := by
  obtain ⟨hsd, hs0⟩ := seedChanges_spec f items hnd
  obtain ⟨h1, _, h3, _⟩ := C09_every_subscriber_view (includeChange f) (restrict f) (Sim_include f)
    View.empty (viewOf items) (seedChanges f items) hsd hs0 subs none k hk ms hw s hs
  obtain ⟨_, e1, e2, e3, e4, e5⟩ := C09_eventually_current_view (includeChange f) (restrict f) (Sim_include f)
    View.empty (viewOf items) (seedChanges f items) hsd hs0 subs k hk ms hw s hs
  exact ⟨h1, h3, e1, e2, e3, e4, e5⟩

section examples

private def eAdd (i t : Nat) (v : Nat) : Change Nat Nat := ⟨i, .add, t, none, some v, false, false⟩
private def eUpd (i t : Nat) (o v : Nat) : Change Nat Nat := ⟨i, .update, t, some o, some v, false, false⟩
private def eRem (i t : Nat) (o : Nat) : Change Nat Nat := ⟨i, .remove, t, some o, none, false, false⟩

/-- two subscribers, the first stalls after its forwarder took one event and merges the next two in its
buffer; the second keeps receiving and gets all three unmerged -/
example :
    ((sysRun [Sub.init none some [], Sub.init none some []]
        [.send (eAdd 1 1 10), .loc 0 .take, .loc 1 .take, .loc 1 .deliver,
         .send (eUpd 1 2 10 20), .loc 1 .take, .send (eUpd 1 3 20 30), .loc 1 .deliver,
         .loc 1 .take, .loc 1 .deliver]).map
      (fun s : Sub Nat Nat => (s.q.s.p.delivered.map (·.time), s.q.s.p.inHand.map (·.time), s.q.s.p.st.pending.map (·.old))))
      = [([], some 1, [some 10]), ([1, 2, 3], none, [])] := rfl

/-- a PullID subscriber of id 1: other ids are skipped, values are forwarded, the REMOVE ends it -/
example :
    (fun c : QCfg Nat Nat => (c.out, c.hand2, c.ended))
      (subRun (Sub.init (some 1) some [])
        [.recv (eAdd 1 1 10), .take, .hand, .recv (eAdd 2 2 7), .take, .deliver, .hand,
         .recv (eUpd 1 3 10 20), .take, .hand, .recv (eRem 1 4 20), .deliver, .take, .hand]).q
      = ([10, 20], none, true) := rfl

/-- the hypotheses of the quiescent clause of `C09_pullid_stage` are reachable (live, nothing in flight) -/
example :
    (fun c : QCfg Nat Nat => (c.ended, c.hand2, c.s.seeds, c.s.p.inHand.isNone, c.s.p.st.pending.isEmpty, c.out))
      (subRun (Sub.init (some 1) some [])
        [.recv (eAdd 1 1 10), .recv (eUpd 1 2 10 20), .take, .hand, .deliver]).q
      = (false, none, [], true, true, [20]) := rfl

/-- a seed list that is a well-formed history from nothing (ids 1 and 2 stored) -/
example : WFHist (View.empty : View Nat Nat) [eAdd 1 0 10, eAdd 2 0 7] := by
  simp [WFHist, WFChange, apply, View.set, View.empty, eAdd]

/-- a Pull subscriber whose consumer is still on the first seed while an update of id 2 and its removal merge
behind the seeds: it is handed seed 1, seed 2, then the merged REMOVE -/
example :
    (fun c : SCfg Nat Nat => (c.out.map (fun d => (d.id, d.kind)), c.seeds, c.p.st.pending))
      (subRun (Sub.init none some [eAdd 1 0 10, eAdd 2 0 7])
        [.take, .recv (eUpd 2 1 7 8), .take, .deliver, .recv (eRem 2 2 8), .deliver, .take, .deliver]).q.s
      = ([(1, .add), (2, .add), (2, .remove)], [], []) := rfl

/-- Value.Pull with "same parity" as the equivalence and no filter: seed 1 delivered, 2 in hand, 3
written meanwhile: the consumer gets 2 and then 3 — never ends on the stale 2 -/
example :
    (fun c : VCfg Nat => (c.delivered, c.inHand, c.slot))
      (vrunF (fun l v => match l with | some a => a % 2 == v % 2 | none => false) id (VCfg.subscribed id (some 1))
        [.deliver, .recv 2, .take, .recv 3, .deliver, .take, .deliver])
      = ([1, 2, 3], none, none) := rfl

/-- backpressure: the second write is attempted while the first is still in hand and has to wait; it goes
through after the receive -/
example :
    (fun c : BCfg Nat => (c.delivered, c.inHand, c.accepted))
      (brun BCfg.init [.offer 1, .offer 2, .deliver, .offer 2, .deliver]) = ([1, 2], none, [1, 2]) := rfl

private def evenOnly : Nat → Nat → Bool := fun _ v => v % 2 == 0

/-- the merge output piped through `include`: item 1 holds 10 (admitted by "even values only"); the
subscriber's forwarder is parked on item 2's ADD while item 1 is deleted and re-created holding 11
(excluded), stamped with DEcreasing change times: the merged REPLACE(10 → 11) reaches the subscriber as a
REMOVE of 10 carrying the time of the last write, so its view {2 ↦ 20} is the filtered collection -/
example :
    (fun c : SCfg Nat Nat => (c.out.map (fun d => (d.id, d.kind, d.old, d.new, d.time)), c.p.st.pending.map (·.kind)))
      (subRun (Sub.init none (includeChange evenOnly) (seedChanges evenOnly [(1, 10, 5)]))
        [.deliver, .recv (eAdd 2 9 20), .take, .recv (eRem 1 8 10), .recv (eAdd 1 7 11),
         .deliver, .take, .deliver]).q.s
      = ([(1, .add, none, some 10, 5), (2, .add, none, some 20, 9), (1, .remove, some 10, none, 7)], []) := rfl

/-- a REPLACE between two excluded values is dropped, one between two admitted values goes through as it is,
one from an excluded to an admitted value becomes an ADD -/
example : includeChange evenOnly (⟨1, .replace, 3, some 11, some 13, false, false⟩ : Change Nat Nat) = none := rfl
example : (includeChange evenOnly (⟨1, .replace, 3, some 10, some 12, false, false⟩ : Change Nat Nat)).map (·.kind)
    = some .replace := rfl
example : (includeChange evenOnly (⟨1, .replace, 3, some 11, some 12, false, false⟩ : Change Nat Nat)).map
    (fun c => (c.kind, c.old)) = some (.add, none) := rfl

/-- the seed list of a filtered Pull over four stored items: the excluded ones are left out and the last
ADMITTED one carries the LastSeedValue flag; the hypothesis of `C09_seed_list` holds for it -/
example : (seedChanges evenOnly [(1, 10, 5), (2, 21, 5), (3, 30, 5), (4, 41, 5)]).map
    (fun c => (c.id, c.lastSeed)) = [(1, false), (3, true)] := rfl
example : (([(1, 10, 5), (2, 21, 5), (3, 30, 5), (4, 41, 5)] : List (Nat × Nat × Nat)).map (·.1)).Nodup := by decide

end examples

end ScVerif.C09
