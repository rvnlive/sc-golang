import ScVerif.C09.MixedLemmas
/-!
# C09 — property theorems: lossy and backpressured subscribers mixed on one bus

Model: `ScVerif/C09/Mixed.lean` — `Bus.Send` visiting the listeners one by one in registration order
(`xstep … .advance`), lossy listeners (DropExcess slot ▸ forwarder ▸ consumer) and backpressured ones
(forwarder ranging over the listener's unbuffered channel) in any number and order, one writer at a time.
The driver executes these definitions (op `xrun`); the harness ties them to the real `Value` / `Collection`.

Quantifiers: any equivalence `E`, any response filter `F`, any message type, any list of subscribers in any
states, every interleaving of writes, `advance` and the subscribers' local moves.
-/
namespace ScVerif.C09

variable {α : Type}

/-- `Bus.Send`'s listener-by-listener progress, from ANY initial subscribers after EVERY interleaving: every listener
has been handed what it had at the start, then every event whose `Send` has returned, then — iff the send in
progress has passed it — the event being sent (so a backpressured subscriber that stalls holds back the listeners
registered after it, and only those). -/
theorem C09_mixed_listener_progress (E : Option α → α → Bool) (F : α → α) (subs0 : List (MSub α))
    (ms : List (XMove α)) :
    let c := xrun E F ⟨subs0, none, []⟩ ms
    c.subs.length = subs0.length ∧
    (∀ k s0, subs0[k]? = some s0 →
        ∃ s, c.subs[k]? = some s ∧ s.handed = s0.handed ++ c.done ++ c.partSent k) ∧
    (∀ e p, c.sending = some (e, p) → p ≤ c.subs.length) := by
  intro c
  obtain ⟨hlen, hag, hp⟩ := XInv_iff.mp (XInv_run E F (XInv_init subs0) ms)
  rw [List.length_map] at hlen
  refine ⟨hlen, fun k s0 hk => ?_, hp⟩
  have hk' := List.getElem?_eq_getElem (hlen ▸ (List.getElem?_eq_some_iff.mp hk).1 : k < c.subs.length)
  refine ⟨_, hk', ?_⟩
  simp only [hag k _ hk', List.getElem?_map, hk]
  rfl

/-- Writers wait for delivery to backpressured subscribers and for nothing else.  With a send at listener `p`: a lossy
listener takes the event at once, whatever state its pipeline is in; a backpressured one iff its forwarder holds
nothing — otherwise the writer keeps waiting until that subscriber's consumer has received; past the last listener
`Send` returns; if no backpressured listener from `p` on holds an undelivered event the remaining `advance`s
complete the send. -/
theorem C09_mixed_writers_wait_only_for_backpressure (E : Option α → α → Bool) (F : α → α)
    (c : MixCfg α) (e : α) (p : Nat) (hs : c.sending = some (e, p)) :
    (∀ v, c.subs[p]? = some (.lossy v) → (xstep E F c .advance).sending = some (e, p + 1)) ∧
    (∀ b, c.subs[p]? = some (.bp b) →
        (b.inHand = none → (xstep E F c .advance).sending = some (e, p + 1)) ∧
        (b.inHand ≠ none → xstep E F c .advance = c ∧
            (xstep E F (xstep E F c (.loc p .deliver)) .advance).sending = some (e, p + 1))) ∧
    (c.subs[p]? = none →
        (xstep E F c .advance).sending = none ∧ (xstep E F c .advance).done = c.done ++ [e]) ∧
    (p ≤ c.subs.length → (∀ k b, p ≤ k → c.subs[k]? = some (.bp b) → b.inHand = none) →
        (xrun E F c (advances (c.subs.length - p + 1))).sending = none ∧
        (xrun E F c (advances (c.subs.length - p + 1))).done = c.done ++ [e]) := by
  refine ⟨?_, ?_, ?_, ?_⟩
  · intro v hv
    rw [xstep_advance_at E F hs hv]
    rfl
  · intro b hb
    have hadv := xstep_advance_at E F hs hb
    refine ⟨?_, ?_⟩
    · intro hh
      rw [hadv]
      simp only [handTo, hh]
    · intro hh
      cases hd : b.inHand with
      | none => exact absurd hd hh
      | some d =>
        refine ⟨by rw [hadv]; simp only [handTo, hd], ?_⟩
        -- after the consumer's receive the forwarder holds nothing and the listener takes the event
        have h1 : (xstep E F c (.loc p .deliver)).subs[p]? = some (.bp (bstep b .deliver)) := by
          simp [xstep_loc, modAt_getElem?, hb, locStep]
        have h2 : (xstep E F c (.loc p .deliver)).sending = some (e, p) := hs
        have h3 : (bstep b .deliver).inHand = none := by rw [bstep_deliver hd]
        rw [xstep_advance_at E F h2 h1]
        simp only [handTo, h3]
  · intro hn
    rw [xstep_advance_past E F hs hn]
    exact ⟨rfl, rfl⟩
  · intro hp hfree
    exact xrun_advances_done E F c e (c.subs.length - p) p hs (by omega) hfree

/-- Every subscriber of a mixed system keeps its own guarantee, whatever the others do (stall, receive, make the
writer wait): a backpressured one has lost and reordered nothing of what the bus handed it, a lossy one has the
guarantees of `C09_value_pull_eventually_latest` on what the bus handed it. -/
theorem C09_mixed_subscribers (E : Option α → α → Bool) (F : α → α) (subs0 : List (MSub α))
    (h0 : ∀ s ∈ subs0, s.Ok E F) (ms : List (XMove α)) :
    let c := xrun E F ⟨subs0, none, []⟩ ms
    (∀ b, MSub.bp b ∈ c.subs → b.delivered ++ b.inHand.toList = b.accepted) ∧
    (∀ v, MSub.lossy v ∈ c.subs →
        (v.delivered ++ v.inHand.toList ++ (v.slot.map F).toList).Sublist (v.received.map F) ∧
        (v.slot = none → v.inHand = none → ∀ r, v.received.getLast? = some r →
            v.last = some (F r) ∨ E v.last (F r) = true)) := by
  intro c
  have h := xrun_Ok E F (c := ⟨subs0, none, []⟩) h0 ms
  refine ⟨fun b hb => h _ hb, ?_⟩
  intro v hv
  have hv' := h _ hv
  refine ⟨by simpa [VCfg.mapF] using hv'.sub, ?_⟩
  intro hs _ r hr
  exact hv'.quiet_latest hs hr

section examples

private def never : Option Nat → Nat → Bool := fun _ _ => false
private def fresh : List (MSub Nat) := [.lossy (VCfg.subscribed id none), .bp BCfg.init, .lossy (VCfg.subscribed id none)]

/-- lossy, backpressured, lossy: the first write goes through; the second is handed to the first lossy
listener and then waits at the backpressured one (its forwarder still holds 1), the lossy listener behind it
has not been handed 2; once the backpressured consumer receives, the send completes -/
example :
    (fun c : MixCfg Nat => (c.subs.map MSub.handed, c.sending, c.done))
      (xrun never id ⟨fresh, none, []⟩
        [.write 1, .advance, .advance, .advance, .advance, .write 2, .advance, .advance, .advance])
      = ([[1, 2], [1], [1]], some (2, 1), [1]) := rfl

example :
    (fun c : MixCfg Nat => (c.subs.map MSub.handed, c.sending, c.done))
      (xrun never id ⟨fresh, none, []⟩
        [.write 1, .advance, .advance, .advance, .advance, .write 2, .advance, .advance,
         .loc 1 .deliver, .advance, .advance, .advance])
      = ([[1, 2], [1, 2], [1, 2]], none, [1, 2]) := rfl

/-- the initial states of the examples satisfy the hypothesis of `C09_mixed_subscribers` -/
example : ∀ s ∈ fresh, s.Ok never id := by
  intro s hs
  simp only [fresh, List.mem_cons, List.mem_nil_iff, or_false] at hs
  rcases hs with rfl | rfl | rfl
  · exact VInv_subscribed never id none
  · rfl
  · exact VInv_subscribed never id none

end examples

end ScVerif.C09
