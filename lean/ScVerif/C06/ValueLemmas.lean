import ScVerif.C06.ValuePull
import ScVerif.C06.ChangeLemmas
import ScVerif.C06.OptsLemmas
/-! `Value.Pull` over `read mask` (see `ChangeLemmas.lean`). -/
namespace ScVerif.C06
open ScVerif.C05

/-- The event loop of `Value.Pull` when reads return `f`: `f` on every change, then the equivalence
against what was sent last. -/
def valueEventsSpec (f : Fields → Fields) (eq : Equiv) (last : Option Fields) (evs : List ValueChange) :
    List ValueChange :=
  match eq with
  | none => evs.map (·.mapValue f)
  | some cmp => dedupSpec cmp last (evs.map (·.mapValue f))

theorem valueEvents_eq (mask : Option (List Path)) (eq : Equiv)
    (evs : List ValueChange) :
    ∀ last, valueEvents mask eq last evs = some (valueEventsSpec (read mask) eq last evs) := by
  induction evs with
  | nil => intro last; cases eq <;> rfl
  | cons e rest ih =>
    intro last
    rw [valueEvents, valueChange_filter_eq]
    cases eq with
    | none => simp only [ih, Option.map_some]; rfl
    | some cmp =>
      simp only [valueEventsSpec, List.map_cons, dedupSpec]
      split
      · exact ih last
      · rw [ih]; rfl

theorem valuePull_eq (rr : ReadRequest) (eq : Equiv)
    (cur : Option (Fields × Int)) (evs : List ValueChange) :
    valuePull rr eq cur evs = some (
      match (if rr.updatesOnly then none else cur) with
      | none => valueEventsSpec (read rr.readMask) eq none evs
      | some (v, t) => ⟨some (read rr.readMask v), t, true, true⟩
          :: valueEventsSpec (read rr.readMask) eq (some (read rr.readMask v)) evs) := by
  rw [valuePull, responseFilter_eq]
  cases (if rr.updatesOnly then none else cur) with
  | none => exact valueEvents_eq _ eq evs none
  | some vt => simp only [valueChange_filter_eq, valueEvents_eq]; rfl

theorem valuePull_none_eq (rr : ReadRequest)
    (cur : Option (Fields × Int)) (evs : List ValueChange) :
    valuePull rr none cur evs = some ((rawValueStream rr cur evs).map (·.mapValue (read rr.readMask))) := by
  rw [valuePull_eq rr, rawValueStream]
  cases (if rr.updatesOnly then none else cur) <;> rfl

theorem dedupSpec_sublist (cmp : Option Fields → Option Fields → Bool) :
    ∀ (l : List ValueChange) (last : Option Fields), (dedupSpec cmp last l).Sublist l
  | [], _ => List.Sublist.slnil
  | d :: rest, last => by
    unfold dedupSpec
    split
    · exact (dedupSpec_sublist cmp rest last).cons _
    · exact (dedupSpec_sublist cmp rest _).cons_cons _

end ScVerif.C06
