import ScVerif.C06.ReadAfter
import ScVerif.C06.OptsLemmas
/-! The store as a map from ids to messages (`bodyOf`): every step of a schedule is a step of the plain map. -/
namespace ScVerif.C06
open ScVerif.C05

theorem lookup_nil (i : String) : lookup [] i = none := rfl

theorem lookup_append_new (e : Item) (i : String) (st : Store) (h : lookup st e.id = none) :
    lookup (st ++ [e]) i = if i = e.id then some e else lookup st i := by
  unfold lookup at h ⊢
  rw [List.find?_append]
  by_cases hi : i = e.id
  · rw [if_pos hi, hi, h]
    simp
  · rw [if_neg hi, List.find?_singleton, if_neg (by simpa using Ne.symm hi), Option.or_none]

theorem lookup_filter_ne (id i : String) (st : Store) :
    lookup (st.filter (fun x => x.id != id)) i = if i = id then none else lookup st i := by
  unfold lookup
  rw [List.find?_filter]
  by_cases hi : i = id
  · rw [if_pos hi, hi, List.find?_eq_none.mpr (by simp)]
  · rw [if_neg hi]
    congr 1
    funext x
    by_cases hx : x.id = i <;> simp [hx, hi]

theorem lookup_cons (x : Item) (st : Store) (i : String) :
    lookup (x :: st) i = if x.id = i then some x else lookup st i := by
  unfold lookup
  by_cases h : x.id = i <;> simp [h]

/-- Replacing the entries named `id` by `e'` (which is named `id` too) changes no entry's id: the first
match for `i` stands at the same place, and is `e'` exactly when `i = id`. -/
theorem lookup_map_set (id : String) (e' : Item) (he : e'.id = id) (i : String) : ∀ st : Store,
    lookup (st.map (fun x => if x.id == id then e' else x)) i
      = if i = id then (lookup st id).map (fun _ => e') else lookup st i
  | [] => by simp [lookup_nil]
  | x :: st => by
    have ih := lookup_map_set id e' he i st
    rw [List.map_cons, lookup_cons, ih, lookup_cons, lookup_cons]
    by_cases hx : x.id = id
    · by_cases hi : i = id
      · subst hi; simp [hx, he]
      · have h1 : ¬ id = i := fun h' => hi h'.symm
        simp [hx, hi, h1, he]
    · by_cases hi : i = id
      · subst hi; simp [hx]
      · by_cases hxi : x.id = i
        · simp [hi, hxi]
        · simp [hx, hi, hxi]

theorem bodyOf_set {st st' : Store} {id : String} {x : Option Item}
    (h : ∀ i, lookup st' i = if i = id then x else lookup st i) :
    bodyOf st' = (bodyOf st).set id (x.map (·.body)) := by
  funext i
  unfold bodyOf Held.set
  rw [h i]
  exact apply_ite (Option.map Item.body) ..

theorem bodyOf_add {st : Store} {id : String} (m : Fields) (t : Int) (h : lookup st id = none) :
    bodyOf (st ++ [⟨id, m, t⟩]) = (bodyOf st).set id (some m) :=
  bodyOf_set fun i => lookup_append_new ⟨id, m, t⟩ i st h

theorem bodyOf_update {st : Store} {id : String} {e : Item} (m : Fields) (t : Int) (h : lookup st id = some e) :
    bodyOf (st.map (fun x => if x.id == id then ⟨id, m, t⟩ else x)) = (bodyOf st).set id (some m) :=
  (bodyOf_set fun i => lookup_map_set id ⟨id, m, t⟩ rfl i st).trans (by rw [h]; rfl)

theorem bodyOf_delete (st : Store) (id : String) :
    bodyOf (st.filter (fun x => x.id != id)) = (bodyOf st).set id none :=
  bodyOf_set fun i => lookup_filter_ne id i st

theorem step_bodyOf (w : World) (s : Step) : bodyOf (step w s).1.store = heldStep (bodyOf w.store) s := by
  have hb : ∀ id, bodyOf w.store id = (lookup w.store id).map (·.body) := fun _ => rfl
  cases s with
  | add id m =>
    simp only [step, heldStep, hb]
    cases hl : lookup w.store id with
    | some e => rfl
    | none => exact bodyOf_add m _ hl
  | update id m =>
    simp only [step, heldStep, hb]
    cases hl : lookup w.store id with
    | none => rfl
    | some e => exact bodyOf_update m _ hl
  | publish k =>
    simp only [step, heldStep]
    split <;> rfl
  | delete id =>
    cases hl : lookup w.store id with
    | none =>
      -- nothing is removed, and nothing was held
      simp only [step, heldStep, hl]
      funext i
      unfold Held.set
      split
      · next hi => rw [hi, hb, hl]; rfl
      · rfl
    | some e =>
      simp only [step, heldStep, hl]
      exact bodyOf_delete w.store id

theorem run_bodyOf : ∀ (steps : List Step) (w : World), bodyOf (run w steps).1.store = heldRun (bodyOf w.store) steps
  | [], _ => rfl
  | s :: rest, w => by
    simp only [run, heldRun, run_bodyOf rest (step w s).1, step_bodyOf]

theorem write_chain (w : World) (hp : w.pending = []) (a : Write) :
    (run w a.steps).1.pending = []
      ∧ ∀ rest, chains (bodyOf (run w a.steps).1.store) rest → chains (bodyOf w.store) ((run w a.steps).2 ++ rest) := by
  -- In every case `simp` evaluates the one or two steps of the write.  A refused write changes nothing and
  -- publishes nothing.  An accepted one parks nothing in the end and publishes one change: its old value
  -- is what is stored for the id (`ho`), and the bodies held afterwards are the old ones with the id set
  -- to the new value (`bodyOf_add / _update / _delete`): that is the definition of `chains` for one change.
  cases a with
  | add id m =>
    cases hl : lookup w.store id with
    | some e => simp [Write.steps, run, step, hl, hp]
    | none =>
      have ho : bodyOf w.store id = none := by simp [bodyOf, hl]
      simp [Write.steps, run, step, hl, hp, chains, bodyOf_add m _ hl, ho]
  | update id m =>
    cases hl : lookup w.store id with
    | none => simp [Write.steps, run, step, hl, hp]
    | some e =>
      have ho : bodyOf w.store id = some e.body := by simp [bodyOf, hl]
      -- `simp` rewrites the `==` of `step` to `=`, so the equation is put into that form first
      have hb := bodyOf_update m (w.clock + w.tick) hl
      simp only [beq_iff_eq] at hb
      simp [Write.steps, run, step, hl, hp, chains, hb, ho]
  | delete id =>
    cases hl : lookup w.store id with
    | none => simp [Write.steps, run, step, hl, hp]
    | some e =>
      have ho : bodyOf w.store id = some e.body := by simp [bodyOf, hl]
      simp [Write.steps, run, step, hl, hp, chains, bodyOf_delete, ho]

theorem vstep_publish_value (w : VWorld) (k : Nat) : (vstep w (.publish k)).1.value = w.value := by
  simp only [vstep]
  split <;> rfl

theorem vrun_value : ∀ (steps : List VStep) (w : VWorld), (vrun w steps).1.value = heldAfter w.value steps
  | [], _ => rfl
  | .set m t :: rest, w => vrun_value rest _
  | .publish k :: rest, w => (vrun_value rest _).trans (by rw [vstep_publish_value]; rfl)

theorem heldAfter_untimed : ∀ (steps : List VStep) (v : Option Fields),
    heldAfter v (steps.map VStep.untimed) = heldAfter v steps
  | [], _ => rfl
  | .set m t :: rest, v => by simp only [List.map_cons, VStep.untimed, heldAfter, heldAfter_untimed rest]
  | .publish k :: rest, v => by simp only [List.map_cons, VStep.untimed, heldAfter, heldAfter_untimed rest]

theorem vgetAfter_eq (rr : ReadRequest) (w0 : VWorld) (steps : List VStep) :
    vgetAfter rr w0 steps = filterCloneOpt rr.readMask (heldAfter w0.value steps) := by
  rw [← vrun_value, ← responseFilter_eq]
  unfold vgetAfter
  cases (vrun w0 steps).1.value <;> rfl

theorem getAfter_eq (rr : ReadRequest) (w0 : World) (steps : List Step) (id : String) :
    getAfter rr w0 steps id = filterCloneOpt rr.readMask (heldRun (bodyOf w0.store) steps id) := by
  rw [← run_bodyOf, ← responseFilter_eq]
  unfold getAfter bodyOf
  cases lookup (run w0 steps).1.store id <;> rfl

end ScVerif.C06
