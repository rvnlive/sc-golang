import ScVerif.C06.Get
/-
"Never mutates" for COMPOSED responses.  Trait-level readers build a fresh container message whose
message-valued fields POINT AT stored messages (`dst.States[i] = position`, `dst.Preset = preset`)
and then project it.  On immutable trees there is nothing to mutate, so this file adds the one level
of sharing that matters: a heap of stored messages (by address) and containers whose fields are
either owned values or references into the heap.

* `filterInPlace`  — `ResponseFilter.Filter(container)`: `filterMessage` recurses INTO the referenced
  messages, i.e. it writes to the heap whenever the mask continues below a reference field;
* `cloneC`         — `proto.Clone(container)`: a deep copy, every field owned;
* `filterCloneH`   — `ResponseFilter.FilterClone(container)` = clone, then filter the clone in place.
-/
namespace ScVerif.C06
open ScVerif.C05

/-- Stored messages by address. -/
abbrev Heap := List Fields

def Heap.read (h : Heap) (a : Nat) : Fields := h.getD a .nil

/-- A field of a container. -/
inductive HVal where
  | own (v : Val)            -- built for this response, nobody else holds it
  | ref (a : Nat)            -- singular message field: the stored message at address `a`
  | refs (as : List Nat)     -- repeated message field: its elements are the stored messages at `as`
deriving DecidableEq, Repr

abbrev Container := List (Name × HVal)

def readAll (h : Heap) : List Nat → Msgs
  | [] => .nil
  | a :: as => .cons (h.read a) (readAll h as)

/-- What a reader of the container sees. -/
def HVal.resolve (h : Heap) : HVal → Val
  | .own v => v
  | .ref a => .msg (h.read a)
  | .refs as => .msgs (readAll h as)

def resolve (h : Heap) : Container → Fields
  | [] => .nil
  | (k, v) :: rest => .cons k (v.resolve h) (resolve h rest)

/-- `filterMessage(list.Get(i).Message(), sub)` for every element: each write goes to the heap. -/
def writeAll (sub : Mask) (h : Heap) : List Nat → Heap
  | [] => h
  | a :: as => writeAll sub (h.set a (safeFields sub (h.read a))) as

/-- Body of `filterMessage(container, mask)` for a non-empty mask, threading the heap. -/
def filterInPlaceFields (mask : Mask) : Heap → Container → Container × Heap
  | h, [] => ([], h)
  | h, (k, v) :: rest =>
    match mask.find k with
    | none => filterInPlaceFields mask h rest              -- msg.Clear(fd): only the container's slot
    | some sub =>
      if sub.isEmpty then
        let r := filterInPlaceFields mask h rest
        ((k, v) :: r.1, r.2)
      else
        match v with
        | .own w =>
          let r := filterInPlaceFields mask h rest
          ((k, .own (safeVal sub w)) :: r.1, r.2)
        | .ref a =>
          let r := filterInPlaceFields mask (h.set a (safeFields sub (h.read a))) rest
          ((k, .ref a) :: r.1, r.2)
        | .refs as =>
          let r := filterInPlaceFields mask (writeAll sub h as) rest
          ((k, .refs as) :: r.1, r.2)

/-- `ResponseFilter.Filter(container)`. -/
def filterInPlace : Option (List Path) → Heap → Container → Container × Heap
  | none, h, c => (c, h)
  | some [], h, _ => ([], h)                               -- proto.Reset(container)
  | some ps, h, c =>
    if (nestedMask ps).isEmpty then (c, h) else filterInPlaceFields (nestedMask ps) h c

/-- `proto.Clone(container)`: a deep copy. -/
def cloneC (h : Heap) : Container → Container
  | [] => []
  | (k, v) :: rest => (k, .own (v.resolve h)) :: cloneC h rest

/-- `ResponseFilter.FilterClone(container)` (for a non-nil mask; a nil mask returns the container itself). -/
def filterCloneH (mask : Option (List Path)) (h : Heap) (c : Container) : Container × Heap :=
  match mask with
  | none => (c, h)
  | some ps => filterInPlace (some ps) h (cloneC h c)

/-- The mask does not continue below a reference field of the container. -/
def FlatOnRefs (mask : Mask) : Container → Prop
  | [] => True
  | (_, .own _) :: rest => FlatOnRefs mask rest
  | (k, _) :: rest => (∀ sub, mask.find k = some sub → sub.isEmpty = true) ∧ FlatOnRefs mask rest

end ScVerif.C06
