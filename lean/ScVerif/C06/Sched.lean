import ScVerif.C06.Coll
/-
Model of WHEN a collection read meets the writes of `pkg/resource/collection.go`: a write stores its
value under the lock (`c.byId[id] = &item{…}` inside `GetAndUpdate`), releases the lock and only then
publishes its change (`c.bus.Send(…)` at the end of `Collection.Update`; `Collection.Add` is an
`Update` with `WithExpectAbsent, WithCreateIfAbsent`); `Collection.Delete` removes the entry and
publishes while it still holds the lock.  Between the two halves of an `Update` anything may happen:
other writers store and publish, subscriptions open.

* a `World` is the store, the injected clock, and the writers that have stored but not published (`pending`, in
  storage order).  The clock advances by `tick` at every reading (any step; 0 for a clock that stands still, so that
  every item and every change carry the same time) and is read twice per write: when the value is stored (the item's
  change time) and when the change literal is built (the event's change time);
* a `Step` is one half of a write: `add` / `update` up to (not including) `bus.Send`, `publish k`
  the `bus.Send` of the k-th waiting writer (ANY of them: publications may overtake each other),
  `delete` both halves at once;
* a subscription that opens after the steps `pre` finds the store of that moment (`onUpdate` reads
  it and registers with the bus under the read lock) and is then handed every change published by the
  steps `post` — also the changes of writers that had stored BEFORE it opened.  So the changes a
  subscriber receives for an id do not form a chain that starts at its seed value.

What the subscriber is sent is `pullStream` / `pullID` of `Coll.lean` on that store and those changes.
-/
namespace ScVerif.C06
open ScVerif.C05

/-- A writer parked between "value stored" and `bus.Send`: the change it is going to publish. -/
structure Pending where
  id : String
  kind : ChangeType
  old : Option Fields
  new : Fields
deriving DecidableEq, Repr

structure World where
  store : Store := []
  clock : Int := 0
  pending : List Pending := []
  /-- how far the injected clock advances at every reading (the harness's: 1; a clock that stands still: 0) -/
  tick : Int := 1
deriving Repr

inductive Step where
  | add (id : String) (m : Fields)       -- Collection.Add(id, m) up to bus.Send
  | update (id : String) (m : Fields)    -- Collection.Update(id, m) up to bus.Send
  | publish (k : Nat)                    -- bus.Send of the k-th parked writer
  | delete (id : String)                 -- Collection.Delete(id): stores and publishes under the lock
deriving DecidableEq, Repr

def lookup (st : Store) (id : String) : Option Item := st.find? (fun e => e.id == id)

/-- One step: the world afterwards and what was put on the bus. -/
def step (w : World) : Step → World × List CollectionChange
  | .add id m =>
    match lookup w.store id with
    | some _ => (w, [])                                       -- ExpectAbsentPreconditionFailed
    | none =>
      ({ store := w.store ++ [⟨id, m, w.clock + w.tick⟩], clock := w.clock + w.tick,
         pending := w.pending ++ [⟨id, .add, none, m⟩], tick := w.tick }, [])
  | .update id m =>
    match lookup w.store id with
    | none => (w, [])                                         -- NotFound
    | some e =>
      ({ store := w.store.map (fun x => if x.id == id then ⟨id, m, w.clock + w.tick⟩ else x),
         clock := w.clock + w.tick, pending := w.pending ++ [⟨id, .update, some e.body, m⟩], tick := w.tick }, [])
  | .publish k =>
    match w.pending[k]? with
    | none => (w, [])
    | some p =>
      ({ w with clock := w.clock + w.tick, pending := w.pending.eraseIdx k },
        [⟨p.id, w.clock + w.tick, p.kind, p.old, some p.new, false, false⟩])
  | .delete id =>
    match lookup w.store id with
    | none => (w, [])                                         -- NotFound
    | some e =>
      ({ w with store := w.store.filter (fun x => x.id != id), clock := w.clock + w.tick },
        [⟨id, w.clock + w.tick, .remove, some e.body, none, false, false⟩])

/-- A schedule: the world at the end and everything published on the way, in order. -/
def run : World → List Step → World × List CollectionChange
  | w, [] => (w, [])
  | w, s :: rest => ((run (step w s).1 rest).1, (step w s).2 ++ (run (step w s).1 rest).2)

/-- A `Collection.Pull(opts…)` that opens after `pre` and stays open during `post`. -/
def session (I : Nat → Pred) (rr : ReadRequest) (eq : Equiv) (w0 : World) (pre post : List Step) :
    Out (List CollectionChange) :=
  pullStream I rr eq (run w0 pre).1.store (run (run w0 pre).1 post).2

/-- A `Collection.PullID(id, opts…)` likewise. -/
def sessionID (I : Nat → Pred) (rr : ReadRequest) (eq : Equiv) (w0 : World) (pre post : List Step)
    (id : String) : Out (List ValueChange) :=
  pullID I rr eq (run w0 pre).1.store (run (run w0 pre).1 post).2 id

/-- A `Collection.List(opts…)` after `pre`. -/
def listAfter (I : Nat → Pred) (rr : ReadRequest) (w0 : World) (pre : List Step) : Out (List Fields) :=
  listWith I rr (run w0 pre).1.store

/-- The message a step writes, if it is the first half of a write. -/
def Step.msg? : Step → Option Fields
  | .add _ m => some m
  | .update _ m => some m
  | _ => none

/-- `P` holds of every message the world holds: stored bodies, and the values of unpublished changes. -/
def World.All (P : Fields → Prop) (w : World) : Prop :=
  (∀ e ∈ w.store, P e.body) ∧ (∀ p ∈ w.pending, P p.new ∧ ∀ o, p.old = some o → P o)

end ScVerif.C06
