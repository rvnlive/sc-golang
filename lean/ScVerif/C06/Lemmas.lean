import ScVerif.C05.Nested
import ScVerif.C06.Spec
/-
The nested-mask filter of the code (`safeFields`) against the path-set projection (`project`), which is
characterised path by path.
-/
namespace ScVerif.C06
open ScVerif.C05

/-- For clean paths `nestedMask ps` is `maskOf (minimal ps)` (C05's `nestedMask_eq`). -/
abbrev maskOf (ps : List Path) : Mask := Mask.insertAll .nil ps

theorem find_maskOf (k : Name) (ps : List Path) :
    (maskOf ps).find k = if (tails k ps).isEmpty then none else some (maskOf (tails k ps)) := by
  simp [maskOf, Mask.find_insertAll, Mask.find]

/-- Below a field of a prefix-free path set, fmutils' nested mask is empty exactly when a path ends at
the field (then all of them do). -/
theorem maskOf_tails_isEmpty {k : Name} {ps : List Path} (hp : PrefixFree ps) (h1 : tails k ps ≠ []) :
    (maskOf (tails k ps)).isEmpty = (tails k ps).contains [] := by
  rw [Bool.eq_iff_iff, List.contains_iff_mem, Mask.insertAll_nil_isEmpty]
  constructor
  · intro hall
    obtain ⟨t, ht⟩ := List.exists_mem_of_ne_nil _ h1
    exact hall t ht ▸ ht
  · exact prefixFree_all_nil hp

mutual
  theorem safeFields_eq_project : ∀ (fs : Fields) (ps : List Path), PrefixFree ps →
      safeFields (maskOf ps) fs = project ps fs
    | .nil, _, _ => rfl
    | .cons k v rest, ps, hp => by
      rw [safeFields, project, find_maskOf, safeFields_eq_project rest ps hp]
      by_cases h1 : (tails k ps).isEmpty = true
      · rw [if_pos h1, if_pos h1]
      · rw [if_neg h1, if_neg h1]
        show (if (maskOf (tails k ps)).isEmpty = true then _ else _) = _
        rw [maskOf_tails_isEmpty hp (fun e => h1 (e ▸ rfl)),
          safeVal_eq_projectVal v (tails k ps) (prefixFree_tails hp)]
  theorem safeVal_eq_projectVal : ∀ (v : Val) (ts : List Path), PrefixFree ts →
      safeVal (maskOf ts) v = projectVal ts v
    | .sc _, _, _ => rfl
    | .scs _, _, _ => rfl
    | .map _, _, _ => rfl
    | .msg fs, ts, hp => congrArg Val.msg (safeFields_eq_project fs ts hp)
    | .msgs xs, ts, hp => congrArg Val.msgs (safeMsgs_eq_projectMsgs xs ts hp)
  theorem safeMsgs_eq_projectMsgs : ∀ (xs : Msgs) (ts : List Path), PrefixFree ts →
      safeMsgs (maskOf ts) xs = projectMsgs ts xs
    | .nil, _, _ => rfl
    | .cons m rest, ts, hp => by
      rw [safeMsgs, projectMsgs, safeFields_eq_project m ts hp, safeMsgs_eq_projectMsgs rest ts hp]
end

theorem get_cons_self (k : Name) (v : Val) (rest : Fields) : (Fields.cons k v rest).get k = some v := by
  rw [Fields.get, if_pos rfl]

theorem get_cons_ne {k n : Name} (h : k ≠ n) (v : Val) (rest : Fields) :
    (Fields.cons k v rest).get n = rest.get n := by
  rw [Fields.get, if_neg h]

theorem get_project (k : Name) (ps : List Path) : ∀ fs : Fields,
    (project ps fs).get k =
      if (tails k ps).isEmpty then none
      else if (tails k ps).contains [] then fs.get k
      else (fs.get k).map (projectVal (tails k ps))
  | .nil => by rw [project, Fields.get, Option.map_none, ite_self, ite_self]
  | .cons k' v rest => by
    have ih := get_project k ps rest
    by_cases hk : k' = k
    · -- the field asked for: what becomes of it is what the right side says; dropped, the rest has none either
      subst hk
      rw [project, get_cons_self]
      by_cases h1 : (tails k' ps).isEmpty = true
      · rw [if_pos h1, if_pos h1, ih, if_pos h1]
      · rw [if_neg h1, if_neg h1]
        by_cases h2 : (tails k' ps).contains [] = true
        · rw [if_pos h2, if_pos h2, get_cons_self]
        · rw [if_neg h2, if_neg h2, get_cons_self]; rfl
    · -- another field: dropped or kept, it does not answer for `k`
      rw [get_cons_ne hk, ← ih, project]
      split
      · rfl
      · split <;> exact get_cons_ne hk _ _

theorem get_project_whole {k : Name} {ps : List Path} (h : [] ∈ tails k ps) (fs : Fields) :
    (project ps fs).get k = fs.get k := by
  rw [get_project, if_neg (by rw [List.isEmpty_iff]; exact List.ne_nil_of_mem h),
    if_pos (List.contains_iff_mem.mpr h)]

theorem get_project_below {k : Name} {ps : List Path} {t : Path} (ht : t ∈ tails k ps)
    (h : [] ∉ tails k ps) (fs : Fields) :
    (project ps fs).get k = (fs.get k).map (projectVal (tails k ps)) := by
  rw [get_project, if_neg (by rw [List.isEmpty_iff]; exact List.ne_nil_of_mem ht),
    if_neg (fun hc => h (List.contains_iff_mem.mp hc))]

theorem exists_prefix_tails {k : Name} {p : Path} {ps : List Path} :
    (∃ q ∈ ps, q ≠ [] ∧ q <+: (k :: p)) → ∃ t ∈ tails k ps, t <+: p := by
  rintro ⟨q, hq, hne, hpre⟩
  cases q with
  | nil => exact absurd rfl hne
  | cons a t =>
    obtain ⟨ha, ht⟩ := List.cons_prefix_cons.mp hpre
    subst ha
    exact ⟨t, mem_tails.mpr hq, ht⟩

/-- `project` asks two questions of the continuations below a field, `isEmpty` and `contains []`, and goes on
with them only where no path ends at the field.  `R` relates only path sets that answer alike all the way
down: related sets answer both questions alike, and their continuations are related again wherever the
projection goes on. -/
def Alike (R : List Path → List Path → Prop) : Prop :=
  ∀ ps qs, R ps qs → ∀ k, (tails k ps = [] ↔ tails k qs = []) ∧ ([] ∈ tails k ps ↔ [] ∈ tails k qs)
    ∧ ([] ∉ tails k qs → R (tails k ps) (tails k qs))

mutual
  theorem project_alike {R : List Path → List Path → Prop} (hR : Alike R) :
      ∀ (fs : Fields) (ps qs : List Path), R ps qs → project ps fs = project qs fs
    | .nil, _, _, _ => rfl
    | .cons k v rest, ps, qs, h => by
      obtain ⟨h1, h2, h3⟩ := hR ps qs h k
      simp only [project, List.isEmpty_iff, List.contains_iff_mem, h1, h2, project_alike hR rest ps qs h]
      by_cases hn : [] ∈ tails k qs
      · simp only [hn, if_true]
      · rw [projectVal_alike hR v _ _ (h3 hn)]
  theorem projectVal_alike {R : List Path → List Path → Prop} (hR : Alike R) :
      ∀ (v : Val) (ts us : List Path), R ts us → projectVal ts v = projectVal us v
    | .sc _, _, _, _ => rfl
    | .scs _, _, _, _ => rfl
    | .map _, _, _, _ => rfl
    | .msg fs, ts, us, h => congrArg Val.msg (project_alike hR fs ts us h)
    | .msgs xs, ts, us, h => congrArg Val.msgs (projectMsgs_alike hR xs ts us h)
  theorem projectMsgs_alike {R : List Path → List Path → Prop} (hR : Alike R) :
      ∀ (xs : Msgs) (ts us : List Path), R ts us → projectMsgs ts xs = projectMsgs us xs
    | .nil, _, _, _ => rfl
    | .cons m rest, ts, us, h => by
      rw [projectMsgs, projectMsgs, project_alike hR m ts us h, projectMsgs_alike hR rest ts us h]
end

/-- Dropping nested paths: below a field where no path ends the continuations are again without the empty
path, which is what `tails_minimal` needs. -/
theorem alike_minimal : Alike fun ps qs => ps = minimal qs ∧ NonNil qs := fun ps qs ⟨e, hn⟩ k => by
  subst e
  rw [tails_minimal k qs hn]
  exact ⟨minimal_eq_nil_iff _, nil_mem_minimal_iff _, fun h => ⟨rfl, fun t ht e => h (e ▸ ht)⟩⟩

theorem project_minimal (fs : Fields) (ps : List Path) (h : NonNil ps) :
    project (minimal ps) fs = project ps fs :=
  project_alike alike_minimal fs _ ps ⟨rfl, h⟩

theorem projectVal_minimal : ∀ (v : Val) (ts : List Path), NonNil ts →
      projectVal (minimal ts) v = projectVal ts v :=
  fun v ts h => projectVal_alike alike_minimal v _ ts ⟨rfl, h⟩

theorem projectMsgs_minimal : ∀ (xs : Msgs) (ts : List Path), NonNil ts →
      projectMsgs (minimal ts) xs = projectMsgs ts xs :=
  fun xs ts h => projectMsgs_alike alike_minimal xs _ ts ⟨rfl, h⟩

theorem alike_sameSet : Alike fun ps qs => ∀ p, p ∈ ps ↔ p ∈ qs := fun ps qs h k =>
  have ht : ∀ t, t ∈ tails k ps ↔ t ∈ tails k qs := fun t => by rw [mem_tails, mem_tails]; exact h _
  ⟨by simp only [List.eq_nil_iff_forall_not_mem, ht], ht [], fun _ => ht⟩

theorem project_congr (fs : Fields) (ps qs : List Path) (h : ∀ p, p ∈ ps ↔ p ∈ qs) :
    project ps fs = project qs fs :=
  project_alike alike_sameSet fs ps qs h

theorem projectVal_congr : ∀ (v : Val) (ts us : List Path), (∀ p, p ∈ ts ↔ p ∈ us) →
      projectVal ts v = projectVal us v :=
  projectVal_alike alike_sameSet

theorem projectMsgs_congr : ∀ (xs : Msgs) (ts us : List Path), (∀ p, p ∈ ts ↔ p ∈ us) →
      projectMsgs ts xs = projectMsgs us xs :=
  projectMsgs_alike alike_sameSet

theorem projectMask_none (fs : Fields) : projectMask none fs = fs := rfl

theorem project_nil_paths : ∀ fs : Fields, project [] fs = .nil
  | .nil => by simp [project]
  | .cons k v rest => by simp [project, tails, project_nil_paths rest]

theorem filterClone_eq : ∀ (mask : Option (List Path)) (fs : Fields), filterClone mask fs = some (read mask fs)
  | none, _ => rfl
  | some [], _ => rfl
  | some (_ :: _), _ => rfl

theorem proper_none : Proper (none : Option (List Path)) := fun _ e => by cases e

/-- The nested mask fmutils builds from the outermost paths of a proper mask is not empty, so
`filterMessage` does filter; and what it keeps is the projection (`safeFields_eq_project` on the
outermost paths, `project_minimal` back to all of them). -/
theorem read_eq_project : ∀ {mask : Option (List Path)}, Proper mask → ∀ fs, read mask fs = projectMask mask fs
  | none, _, _ => rfl
  | some [], _, fs => (project_nil_paths fs).symm
  | some (p :: ps), h, fs => by
    obtain ⟨hn, hc⟩ := h _ rfl
    show safeMsg (nestedMask (p :: ps)) fs = project (p :: ps) fs
    rw [safeMsg, if_neg (by rw [nestedMask_not_empty hc hn (List.cons_ne_nil _ _)]; exact Bool.false_ne_true),
      nestedMask_eq hc, safeFields_eq_project fs _ (prefixFree_minimal _), project_minimal fs _ hn]

theorem filterClone_proper {ps : List Path} (h : NonNil ps ∧ Clean ps) (fs : Fields) :
    filterClone (some ps) fs = some (project ps fs) := by
  rw [filterClone_eq, read_eq_project (fun _ e => Option.some.inj e ▸ h)]
  rfl

end ScVerif.C06
