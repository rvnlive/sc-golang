import ScVerif.C06.LossyLemmas
import ScVerif.C06.SchedLemmas
import ScVerif.C06.PropsColl
/-!
# C06 — masked subscriptions WITHOUT backpressure (the lossy stage)

Model: `ScVerif/C06/Lossy.lean` (`mergeChanges`, the goroutine of `mergeCollectionExcess` under an
arbitrary schedule of its two `select` cases, `Collection.Pull` behind it).
-/
namespace ScVerif.C06
open ScVerif.C05

/-- Whatever the lossy stage merges or cancels (any schedule), what the masked subscriber is sent is, change
by change, the projection of what the same subscription without the mask is sent when the stage takes the
same decisions — the mask has no influence on which changes are merged. -/
theorem C06_lossy_pull_commutes (I : Nat → Pred) (rr : ReadRequest) (st : Store) (sched : List Bool)
    (evs : List CollectionChange) (h : Proper rr.readMask) :
    pullLossy I rr none st sched evs
      = (pullLossy I { rr with readMask := none } none st sched evs).map
          (List.map (projectChange rr.readMask)) :=
  C06_pull_stream_commutes I rr st _ h

/-- Merging looks at ids, kinds and flags only: `mergeChanges` and the whole stage, under every schedule and
from every queue, commute with projection.  (So the read mask could sit on either side of the lossy stage;
the code applies it behind.) -/
theorem C06_lossy_stage_commutes_with_projection (mask : Option (List Path)) :
    (∀ a b, mergeChanges (projectChange mask a) (projectChange mask b)
        = (mergeChanges a b).map (projectChange mask))
    ∧ ∀ (sched : List Bool) (q evs : List CollectionChange),
        lossy sched (q.map (projectChange mask)) (evs.map (projectChange mask))
          = (lossy sched q evs).map (projectChange mask) := by
  rw [projectChange_eq]
  exact ⟨mergeChanges_map _, lossy_map _⟩

/-- Each value a masked subscriber WITHOUT backpressure is handed — seed, new value, old value of a possibly
merged change — is the projection of a message the collection held or a writer wrote. -/
theorem C06_lossy_delivered_values_were_stored (P : Fields → Prop) (I : Nat → Pred) (rr : ReadRequest)
    (eq : Equiv) (w0 : World) (pre post : List Step) (sched : List Bool) (h : Proper rr.readMask)
    (hw : w0.All P) (hs : ∀ s ∈ pre ++ post, ∀ m, s.msg? = some m → P m)
    (ds : List CollectionChange)
    (hd : pullLossy I rr eq (run w0 pre).1.store sched (run (run w0 pre).1 post).2 = some ds) :
    ∀ d ∈ ds, d.All (fun v => ∃ u, P u ∧ v = projectMask rr.readMask u) := by
  obtain ⟨h1, h2⟩ := session_all P w0 pre post hw hs
  exact read_eq_projectMask h ▸ pullStream_all P I rr eq _ _ h1
    (lossy_all P sched [] _ (List.forall_mem_nil _) h2) ds hd

/-- The queue of the lossy stage never holds two changes of one id; so a subscriber that takes nothing while
any number of changes are published is afterwards handed at most ONE, merged, change per id. -/
theorem C06_lossy_stalled_one_change_per_id (evs : List CollectionChange) :
    (∀ q c, OnePerId q → OnePerId (enqueue q c)) ∧ OnePerId (lossy [] [] evs) :=
  ⟨enqueue_onePerId, lossy_queue_onePerId evs [] List.Pairwise.nil⟩

/-- No schedule, mask (valid or not), callback or equivalence makes the
subscription without backpressure panic in the filter. -/
theorem C06_lossy_no_panic (I : Nat → Pred) (rr : ReadRequest) (eq : Equiv) (st : Store) (sched : List Bool)
    (evs : List CollectionChange) : pullLossy I rr eq st sched evs ≠ none := by
  rw [pullLossy, pullStream_eq]
  exact Option.some_ne_none _

/-- the Pull loop is busy while `x` is updated twice: the two UPDATEs reach the masked subscriber as
one, from the first old value to the last new value, both projected -/
example : pullLossy (fun _ => fun _ _ => true) ⟨some [["g"]], false, false, none⟩ none [] [false, false, true]
      [⟨"x", 1, .update, some (.cons "g" (.sc "i1") (.cons "r" (.scs ["i1"]) .nil)), some (.cons "g" (.sc "i2") .nil), false, false⟩,
       ⟨"x", 2, .update, some (.cons "g" (.sc "i2") .nil), some (.cons "g" (.sc "i3") (.cons "r" (.scs ["i1"]) .nil)), false, false⟩]
    = some [⟨"x", 2, .update, some (.cons "g" (.sc "i1") .nil), some (.cons "g" (.sc "i3") .nil), false, false⟩] := by
  decide +kernel

/-- an ADD and the REMOVE of the same id cancel in the queue -/
example : lossy [false, false] []
      [⟨"x", 1, .add, none, some (.cons "g" (.sc "i1") .nil), false, false⟩,
       ⟨"x", 2, .remove, some (.cons "g" (.sc "i1") .nil), none, false, false⟩] = [] := by decide +kernel

end ScVerif.C06
