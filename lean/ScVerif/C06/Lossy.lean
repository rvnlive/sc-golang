import ScVerif.C06.Sched
/-
Model of the lossy stage of a subscription without backpressure (`pkg/resource/backpressure.go`):
`mergeChanges` and the goroutine of `mergeCollectionExcess`, which sits between the bus and the loop
of `Collection.Pull` (`ch = mergeCollectionExcess(ch)` in `onUpdate`).  While the Pull loop is busy
handing a change to its receiver, newly published changes are queued, at most one per id: a change
for an id that is already queued is merged into the queued one (ADD+UPDATE = ADD, UPDATE+UPDATE keeps
the first old value, ADD+REMOVE cancel, …) and moves to the back of the queue.

Which of the two `select` cases fires — take the next published change, or hand the front of the
queue to the Pull loop — is the schedule (`List Bool`, `true` = hand over); every theorem quantifies
over all of them.
-/
namespace ScVerif.C06
open ScVerif.C05

/-- `mergeChanges(a, b)`; `none`: `send = false` (the two changes cancel). -/
def mergeChanges (a b : CollectionChange) : Option CollectionChange :=
  let b := { b with lastSeedValue := a.lastSeedValue || b.lastSeedValue }
  match a.changeType with
  | .add =>
    match b.changeType with
    | .add => some b
    | .update => some { b with changeType := .add, oldValue := none }
    | .replace => some { b with changeType := .add, oldValue := none }
    | .remove => none
    | .unspecified => some b
  | .update =>
    some { b with oldValue := a.oldValue, changeType := if b.changeType = .add then .replace else b.changeType }
  | .replace =>
    some { b with oldValue := a.oldValue,
                  changeType := if b.changeType = .add ∨ b.changeType = .update then .replace else b.changeType }
  | .remove =>
    some { b with oldValue := a.oldValue, changeType := if b.changeType = .remove then .remove else .replace }
  | .unspecified => some b

/-- A newly published change meets the queue (`messages` + `queue`, front first): merged into the
queued change of the same id, which leaves its place and goes to the back (or disappears), else
appended. -/
def enqueue : List CollectionChange → CollectionChange → List CollectionChange
  | [], c => [c]
  | old :: q, c =>
    if old.id = c.id then
      match mergeChanges old c with
      | none => q
      | some n => q ++ [n]
    else old :: enqueue q c

/-- The goroutine of `mergeCollectionExcess` under a schedule: `q` the queue, `evs` what the bus still
has to deliver; `true` hands the front of the queue to the Pull loop (not possible when the queue is
empty: the goroutine then only receives), `false` takes the next published change.  When the schedule
is used up everything left is taken and then handed over. -/
def lossy : List Bool → List CollectionChange → List CollectionChange → List CollectionChange
  | [], q, evs => evs.foldl enqueue q
  | true :: s, [], evs => lossy s [] evs
  | true :: s, c :: q, evs => c :: lossy s q evs
  | false :: s, q, [] => lossy s q []
  | false :: s, q, e :: evs => lossy s (enqueue q e) evs

/-- `Collection.Pull(WithBackpressure(false), opts…)`: the Pull loop runs over what the lossy stage
hands it. -/
def pullLossy (I : Nat → Pred) (rr : ReadRequest) (eq : Equiv) (st : Store) (sched : List Bool)
    (evs : List CollectionChange) : Out (List CollectionChange) :=
  pullStream I rr eq st (lossy sched [] evs)

/-- The same goroutine with every hand-over attempt recorded (`none`: the queue was empty, nothing can
be handed over) — what the driver prints, so that the harness knows when a receive would block. -/
def lossyT : List Bool → List CollectionChange → List CollectionChange → List (Option CollectionChange)
  | [], q, evs => (evs.foldl enqueue q).map some
  | true :: s, [], evs => none :: lossyT s [] evs
  | true :: s, c :: q, evs => some c :: lossyT s q evs
  | false :: s, q, [] => lossyT s q []
  | false :: s, q, e :: evs => lossyT s (enqueue q e) evs

/-- `messages` is a map: at most one queued change per id. -/
def OnePerId (q : List CollectionChange) : Prop := q.Pairwise (fun a b => a.id ≠ b.id)

end ScVerif.C06
