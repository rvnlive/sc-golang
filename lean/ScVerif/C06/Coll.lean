import ScVerif.C06.Opts
import ScVerif.C06.Change
/-
Model of the COLLECTION reads of `pkg/resource/collection.go` that combine a read mask with an
include callback (`resource.WithInclude`) — `List`, the seed values and the update events of `Pull`,
and `PullID`:

* `ReadRequest.Exclude(id, m)` hands the include callback the STORED message (`itemSlice`), the read
  mask is applied afterwards, to the items that were kept (`filter.FilterClone(e.body)`);
* `Pull` seeds: the kept items sorted by id, each as an ADD change with the seed flag, the last one
  flagged `LastSeedValue`, each passed through `change.filter(filter)` (unless `UpdatesOnly`);
* `Pull` events: `change.include(readConfig.Include)` first — on the stored old / new values —, then
  `change.filter(filter)`, then the collection's equivalence (if any) on the filtered values;
* `PullID`: the `Pull` stream restricted to one id, REMOVE ends it; the single seed value of an item
  is flagged as the last one.

Include callbacks are arbitrary functions `String → Fields → Bool` in every theorem; the driver knows
a small closed family by number (`namedPred`, shared with the harness).
-/
namespace ScVerif.C06
open ScVerif.C05

/-- `resource.FilterFunc`. -/
abbrev Pred := String → Fields → Bool

/-- One entry of `c.byId`. -/
structure Item where
  id : String
  body : Fields
  changeTime : Int
deriving DecidableEq, Repr

/-- `c.byId` in the order the map iteration happens to visit it (ids are unique: `UniqueIds`). -/
abbrev Store := List Item

/-- `c.byId` is a Go map: no two entries share an id. -/
def UniqueIds (st : Store) : Prop := (st.map (·.id)).Nodup

/-- `rr.Exclude(id, m)` = `rr.Include != nil && !rr.Include(id, m)`. -/
def exclude (incl : Option Pred) (id : String) (m : Fields) : Bool :=
  match incl with
  | none => false
  | some f => !f id m

/-- `c.itemSlice(readConfig)`: the callback sees the stored body. -/
def itemSlice (incl : Option Pred) (st : Store) : List Item :=
  st.filter (fun e => !exclude incl e.id e.body)

/-- `sort.Slice(tmp, func(i, j) bool { return tmp[i].id < tmp[j].id })` (ids are unique, so every
sorting algorithm produces the same slice; this one is insertion sort). -/
def insertById (x : Item) : List Item → List Item
  | [] => [x]
  | y :: ys => if x.id < y.id then x :: y :: ys else y :: insertById x ys

def sortById : List Item → List Item
  | [] => []
  | x :: xs => insertById x (sortById xs)

/-- The loop `for _, e := range tmp { result = append(result, filter.FilterClone(e.body)) }`. -/
def filterBodies (mask : Option (List Path)) : List Item → Out (List Fields)
  | [] => some []
  | e :: rest =>
    match filterClone mask e.body, filterBodies mask rest with
    | some m, some ms => some (m :: ms)
    | _, _ => none

/-- `Collection.List` with a configured request (`I` interprets the named include callbacks). -/
def listWith (I : Nat → Pred) (rr : ReadRequest) (st : Store) : Out (List Fields) :=
  filterBodies rr.responseFilter (sortById (itemSlice (rr.incl.map I) st))

/-- `Collection.List(opts...)`. -/
def collList (I : Nat → Pred) (S : Schema) (ty : Nat) (opts : List ReadOpt) (st : Store) : Out (List Fields) :=
  match computeReadConfig S ty opts with
  | none => none
  | some rr => listWith I rr st

/-- The seed loop of `Collection.Pull` over the sorted current values. -/
def seedsFrom (mask : Option (List Path)) : List Item → Out (List CollectionChange)
  | [] => some []
  | e :: rest =>
    match CollectionChange.filter mask ⟨e.id, e.changeTime, .add, none, some e.body, true, rest.isEmpty⟩,
      seedsFrom mask rest with
    | some c, some cs => some (c :: cs)
    | _, _ => none

/-- `onUpdate` + the seed loop: nothing with `UpdatesOnly`. -/
def pullSeeds (I : Nat → Pred) (rr : ReadRequest) (st : Store) : Out (List CollectionChange) :=
  if rr.updatesOnly then some []
  else seedsFrom rr.responseFilter (sortById (itemSlice (rr.incl.map I) st))

/-- "an absent value is never included". -/
def includedOpt (f : Pred) (id : String) : Option Fields → Bool
  | none => false
  | some v => f id v

/-- `(*CollectionChange).include(includeFunc)`; `none`: the change is not forwarded. -/
def CollectionChange.includeP (incl : Option Pred) (c : CollectionChange) : Option CollectionChange :=
  match incl with
  | none => some c
  | some f =>
    let oldInc := includedOpt f c.id c.oldValue
    let newInc := includedOpt f c.id c.newValue
    if oldInc = newInc then (if newInc then some c else none)
    else if newInc then
      some ⟨c.id, c.changeTime, .add, none, c.newValue, c.seedValue, false⟩
    else
      some ⟨c.id, c.changeTime, .remove, c.oldValue, none, false, false⟩

/-- `c.equivalence` of the collection (`resource.WithMessageEquivalence`), if any. -/
abbrev Equiv := Option (Option Fields → Option Fields → Bool)

/-- One iteration of `for event := range emit` in `Collection.Pull`: outer `none` is a panic, inner
`none` means nothing is sent for this event. -/
def pullEvent (incl : Option Pred) (mask : Option (List Path)) (eq : Equiv) (c : CollectionChange) :
    Out (Option CollectionChange) :=
  match c.includeP incl with
  | none => some none
  | some c' =>
    match c'.filter mask with
    | none => none
    | some d =>
      match eq with
      | some cmp => if cmp d.oldValue d.newValue then some none else some (some d)
      | none => some (some d)

/-- The event loop of `Collection.Pull`: `pullEvent` on every change, in order. -/
def pullEvents (incl : Option Pred) (mask : Option (List Path)) (eq : Equiv) :
    List CollectionChange → Out (List CollectionChange)
  | [] => some []
  | c :: rest =>
    match pullEvent incl mask eq c, pullEvents incl mask eq rest with
    | some none, some ds => some ds
    | some (some d), some ds => some (d :: ds)
    | _, _ => none

/-- Everything a `Collection.Pull` subscriber with the request `rr` is sent: the seeds of the store
it found, then the events published afterwards (`evs`: the raw changes on the bus). -/
def pullStream (I : Nat → Pred) (rr : ReadRequest) (eq : Equiv) (st : Store) (evs : List CollectionChange) :
    Out (List CollectionChange) :=
  match pullSeeds I rr st, pullEvents (rr.incl.map I) rr.responseFilter eq evs with
  | some a, some b => some (a ++ b)
  | _, _ => none

/-- The goroutine of `Collection.PullID` over the changes its `Pull` delivers. -/
def pullIDLoop (id : String) : List CollectionChange → List ValueChange
  | [] => []
  | c :: rest =>
    if c.id ≠ id then pullIDLoop id rest
    else if c.changeType = .remove then []
    else
      match c.newValue with
      | none => []                                         -- "NewValue is nil, but not a REMOVE change"
      | some v => ⟨some v, c.changeTime, c.seedValue, c.seedValue⟩ :: pullIDLoop id rest

/-- `Collection.PullID(ctx, id, opts...)`. -/
def pullID (I : Nat → Pred) (rr : ReadRequest) (eq : Equiv) (st : Store) (evs : List CollectionChange)
    (id : String) : Out (List ValueChange) :=
  (pullStream I rr eq st evs).map (pullIDLoop id)

/-! ## Specification (no response filter, no request: predicate on the stored item, then projection) -/

/-- What a subscriber is to see of a change under a mask: both values projected, the rest as it is. -/
def projectChange (mask : Option (List Path)) (c : CollectionChange) : CollectionChange :=
  { c with newValue := projectOpt mask c.newValue, oldValue := projectOpt mask c.oldValue }

/-- The same for a value change (what `PullID` and `Value.Pull` deliver). -/
def projectValueChange (mask : Option (List Path)) (v : ValueChange) : ValueChange :=
  { v with value := projectOpt mask v.value }

/-- `P` holds of the old and of the new value, where present: how "every delivered value was stored" is said. -/
def CollectionChange.All (P : Fields → Prop) (c : CollectionChange) : Prop :=
  (∀ v, c.newValue = some v → P v) ∧ (∀ v, c.oldValue = some v → P v)

/-- The stored items the request selects: those the callback accepts — judged on what is STORED. -/
def selected (incl : Option Pred) (st : Store) : List Item :=
  st.filter (fun e => match incl with | none => true | some f => f e.id e.body)

/-- The seed changes for a sorted selection (unprojected). -/
def seedSpec : List Item → List CollectionChange
  | [] => []
  | e :: rest => ⟨e.id, e.changeTime, .add, none, some e.body, true, rest.isEmpty⟩ :: seedSpec rest

/-- Sorted by id (`≤` on strings is `¬ >`). -/
def SortedById (l : List Item) : Prop := l.Pairwise (fun a b => ¬ b.id < a.id)

/-- A variant that is NOT the code: the callback is handed the projection (what handing it a defensive,
already filtered copy would do).  Only used by `C06_include_on_projection_differs`. -/
def selectedOnProjection (incl : Option Pred) (mask : Option (List Path)) (st : Store) : List Item :=
  st.filter (fun e => match incl with | none => true | some f => f e.id (projectMask mask e.body))

/-! ## The closed family of include callbacks the driver and the harness share -/

def namedPred : Nat → Pred
  | 0 => fun _ _ => true
  | 1 => fun _ _ => false
  | 2 => fun _ m => m != .nil                               -- the message has a populated field
  | 3 => fun id m => id == "zz" || m != .nil
  | 4 => fun _ m => m.has "default_int32"
  | 5 => fun _ m => (m.getPath ["default_foreign_message", "c"]).isSome
  | 6 => fun id _ => id != "y"
  | _ => fun _ m => m.has "default_string"

end ScVerif.C06
