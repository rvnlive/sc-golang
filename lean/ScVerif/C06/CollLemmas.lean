import ScVerif.Base.InsertSort
import ScVerif.C06.ChangeLemmas
import ScVerif.C06.OptsLemmas
/-! The loops of `Coll.lean` over `read mask` (see `ChangeLemmas.lean`). -/
namespace ScVerif.C06
open ScVerif.C05

theorem itemSlice_eq_selected (incl : Option Pred) (st : Store) : itemSlice incl st = selected incl st := by
  unfold itemSlice selected
  congr 1
  funext e
  cases incl <;> simp [exclude]

theorem sortById_isSort : IsInsertSort (·.id) insertById sortById :=
  ⟨fun _ => rfl, fun _ _ _ => rfl, rfl, fun _ _ => rfl⟩

theorem sortById_perm (l : List Item) : (sortById l).Perm l := sortById_isSort.perm l

theorem sortById_sorted (l : List Item) : SortedById (sortById l) := sortById_isSort.sorted_le l

theorem mem_sorted_selected {I : Nat → Pred} {rr : ReadRequest} {st : Store} {e : Item} :
    e ∈ sortById (selected (rr.incl.map I) st) ↔ e ∈ st ∧ ∀ n, rr.incl = some n → I n e.id e.body = true := by
  rw [(sortById_perm _).mem_iff]
  unfold selected
  cases rr.incl <;> simp

section
variable (mask : Option (List Path))

theorem filterBodies_eq (l : List Item) : filterBodies mask l = some (l.map (fun e => read mask e.body)) := by
  induction l with
  | nil => rfl
  | cons e rest ih => rw [filterBodies, filterClone_eq, ih]; rfl

theorem seedsFrom_eq (l : List Item) : seedsFrom mask l = some ((seedSpec l).map (·.mapValues (read mask))) := by
  induction l with
  | nil => rfl
  | cons e rest ih => rw [seedsFrom, collectionChange_filter_eq, ih]; rfl

end

/-- One iteration of the event loop of `Pull` when reads return `f`: `include` on the stored values,
then `f` on both, then the equivalence on what `f` returned. -/
def pullEventSpec (f : Fields → Fields) (incl : Option Pred) (eq : Equiv) (c : CollectionChange) :
    Option CollectionChange :=
  match c.includeP incl with
  | none => none
  | some c' =>
    match eq with
    | some cmp => if cmp (c'.oldValue.map f) (c'.newValue.map f) then none else some (c'.mapValues f)
    | none => some (c'.mapValues f)

theorem pullEventSpec_none (f : Fields → Fields) (incl : Option Pred) (c : CollectionChange) :
    pullEventSpec f incl none c = (c.includeP incl).map (·.mapValues f) := by
  unfold pullEventSpec
  cases c.includeP incl <;> rfl

section
variable (mask : Option (List Path))

theorem pullEvent_eq (incl : Option Pred) (eq : Equiv) (c : CollectionChange) :
    pullEvent incl mask eq c = some (pullEventSpec (read mask) incl eq c) := by
  unfold pullEvent pullEventSpec
  cases c.includeP incl with
  | none => rfl
  | some c' =>
    simp only [collectionChange_filter_eq mask c']
    cases eq with
    | none => rfl
    | some cmp => exact (apply_ite some _ _ _).symm

theorem pullEvents_eq (incl : Option Pred) (eq : Equiv) (evs : List CollectionChange) :
    pullEvents incl mask eq evs = some (evs.filterMap (pullEventSpec (read mask) incl eq)) := by
  induction evs with
  | nil => rfl
  | cons c rest ih =>
    rw [pullEvents, pullEvent_eq, ih, List.filterMap_cons]
    cases pullEventSpec (read mask) incl eq c <;> rfl

end

/-- The seeds of a request before any read mask: one ADD per accepted stored item, in id order. -/
def rawSeeds (I : Nat → Pred) (rr : ReadRequest) (st : Store) : List CollectionChange :=
  if rr.updatesOnly then [] else seedSpec (sortById (selected (rr.incl.map I) st))

section
variable (I : Nat → Pred) (rr : ReadRequest)

theorem listWith_eq (st : Store) :
    listWith I rr st = some ((sortById (selected (rr.incl.map I) st)).map (fun e => read rr.readMask e.body)) := by
  rw [listWith, responseFilter_eq, itemSlice_eq_selected, filterBodies_eq]

theorem pullSeeds_eq (st : Store) :
    pullSeeds I rr st = some ((rawSeeds I rr st).map (·.mapValues (read rr.readMask))) := by
  rw [pullSeeds, responseFilter_eq, itemSlice_eq_selected, seedsFrom_eq, rawSeeds]
  cases rr.updatesOnly <;> rfl

theorem pullStream_eq (eq : Equiv) (st : Store) (evs : List CollectionChange) :
    pullStream I rr eq st evs
      = some ((rawSeeds I rr st).map (·.mapValues (read rr.readMask))
          ++ evs.filterMap (pullEventSpec (read rr.readMask) (rr.incl.map I) eq)) := by
  rw [pullStream, pullSeeds_eq I rr, responseFilter_eq, pullEvents_eq]

end

theorem pullStream_none_eq (I : Nat → Pred) (rr : ReadRequest)
    (st : Store) (evs : List CollectionChange) :
    pullStream I rr none st evs
      = some ((rawSeeds I rr st ++ evs.filterMap (·.includeP (rr.incl.map I))).map (·.mapValues (read rr.readMask))) := by
  rw [pullStream_eq I rr, List.map_append, List.map_filterMap,
    funext (pullEventSpec_none (read rr.readMask) (rr.incl.map I))]

theorem mapValues_self (c : CollectionChange) : c.mapValues (fun fs => fs) = c := by
  obtain ⟨_, _, _, o, n, _, _⟩ := c
  cases o <;> cases n <;> rfl

theorem pullEventSpec_some {f : Fields → Fields} {incl : Option Pred} {eq : Equiv} {c d : CollectionChange}
    (h : pullEventSpec f incl eq c = some d) : ∃ c', c.includeP incl = some c' ∧ d = c'.mapValues f := by
  unfold pullEventSpec at h
  cases hi : c.includeP incl with
  | none => rw [hi] at h; cases h
  | some c' =>
    rw [hi] at h
    refine ⟨c', rfl, ?_⟩
    cases eq with
    | none => exact (Option.some.inj h).symm
    | some cmp =>
      simp only at h
      split at h
      · cases h
      · exact (Option.some.inj h).symm

theorem includeP_some_eq (f : Pred) (c : CollectionChange) :
    c.includeP (some f) =
      match includedOpt f c.id c.oldValue, includedOpt f c.id c.newValue with
      | false, false => none
      | true, true => some c
      | false, true => some ⟨c.id, c.changeTime, .add, none, c.newValue, c.seedValue, false⟩
      | true, false => some ⟨c.id, c.changeTime, .remove, c.oldValue, none, false, false⟩ := by
  simp only [CollectionChange.includeP]
  cases h1 : includedOpt f c.id c.oldValue <;> cases h2 : includedOpt f c.id c.newValue <;> simp

theorem includeP_all (P : Fields → Prop) (incl : Option Pred) (c c' : CollectionChange)
    (h : c.includeP incl = some c') (hc : c.All P) : c'.All P := by
  cases incl with
  | none => exact Option.some.inj h ▸ hc
  | some f =>
    -- whichever row forwards something: the change itself, or one of its values and none
    rw [includeP_some_eq] at h
    revert h
    cases includedOpt f c.id c.oldValue <;> cases includedOpt f c.id c.newValue <;> intro h
    · cases h
    · exact Option.some.inj h ▸ ⟨hc.1, nofun⟩
    · exact Option.some.inj h ▸ ⟨nofun, hc.2⟩
    · exact Option.some.inj h ▸ hc

theorem mapValues_all {P : Fields → Prop} (f : Fields → Fields) {c : CollectionChange} (hc : c.All P) :
    (c.mapValues f).All (fun v => ∃ u, P u ∧ v = f u) := by
  constructor
  · intro v hv
    obtain ⟨u, hu, rfl⟩ := Option.map_eq_some_iff.mp hv
    exact ⟨u, hc.1 u hu, rfl⟩
  · intro v hv
    obtain ⟨u, hu, rfl⟩ := Option.map_eq_some_iff.mp hv
    exact ⟨u, hc.2 u hu, rfl⟩

theorem seedSpec_all (P : Fields → Prop) (l : List Item) (h : ∀ e ∈ l, P e.body) : ∀ c ∈ seedSpec l, c.All P := by
  induction l with
  | nil => exact List.forall_mem_nil _
  | cons e rest ih =>
    rw [List.forall_mem_cons] at h
    exact List.forall_mem_cons.mpr ⟨⟨fun v hv => Option.some.inj hv ▸ h.1, nofun⟩, ih h.2⟩

theorem pullStream_all (P : Fields → Prop) (I : Nat → Pred) (rr : ReadRequest)
    (eq : Equiv) (st : Store) (evs : List CollectionChange)
    (hst : ∀ e ∈ st, P e.body) (hev : ∀ c ∈ evs, c.All P) (ds : List CollectionChange)
    (hd : pullStream I rr eq st evs = some ds) : ∀ d ∈ ds, d.All (fun v => ∃ u, P u ∧ v = read rr.readMask u) := by
  rw [pullStream_eq I rr] at hd
  cases hd
  intro d hm
  rcases List.mem_append.mp hm with hm | hm
  · -- a seed: `read rr.readMask` of a stored item
    unfold rawSeeds at hm
    split at hm
    · cases hm
    · obtain ⟨c, hc, rfl⟩ := List.mem_map.mp hm
      exact mapValues_all _ (seedSpec_all P _ (fun e he => hst e (mem_sorted_selected.mp he).1) c hc)
  · -- an event: `read rr.readMask` of what `include` forwarded of a published change
    obtain ⟨c, hc, hd⟩ := List.mem_filterMap.mp hm
    obtain ⟨c', hi, rfl⟩ := pullEventSpec_some hd
    exact mapValues_all _ (includeP_all P _ c c' hi (hev c hc))

theorem pullIDLoop_map (f : Fields → Fields) (id : String) (cs : List CollectionChange) :
    pullIDLoop id (cs.map (·.mapValues f)) = (pullIDLoop id cs).map (·.mapValue f) := by
  -- `pullIDLoop id (c.mapValues f :: …)` unfolds to the three tests of the loop; `mapValues` leaves id and
  -- kind alone, so each test is decided as for `c` (`if_pos` / `if_neg` below), and only the value differs
  fun_induction pullIDLoop id cs with
  | case1 => rfl
  | case2 c rest h ih => exact (if_pos h).trans ih
  | case3 c rest h hr => exact (if_neg h).trans (if_pos hr)
  | case4 c rest h hr hn =>
    refine (if_neg h).trans ((if_neg hr).trans ?_)
    simp only [CollectionChange.mapValues, hn, Option.map_none, List.map_nil]
  | case5 c rest h hr v hn ih =>
    refine (if_neg h).trans ((if_neg hr).trans ?_)
    rw [List.map_cons, ← ih]
    simp only [CollectionChange.mapValues, hn, Option.map_some, ValueChange.mapValue]

theorem filter_id_eq {e : Item} {l : List Item} (hn : (l.map (·.id)).Nodup) (he : e ∈ l) :
    l.filter (·.id = e.id) = [e] := by
  induction l with
  | nil => cases he
  | cons x xs ih =>
    rw [List.map_cons, List.nodup_cons] at hn
    have hxs : ∀ {y}, y ∈ xs → y.id ≠ x.id := fun hy e' => hn.1 (e' ▸ List.mem_map_of_mem hy)
    rcases List.mem_cons.mp he with rfl | he'
    · rw [List.filter_cons, if_pos (decide_eq_true rfl),
        List.filter_eq_nil_iff.mpr fun y hy h => hxs hy (of_decide_eq_true h)]
    · rw [List.filter_cons, if_neg fun h => hxs he' (of_decide_eq_true h).symm, ih hn.2 he']

/-- A seed is an ADD: it never ends the loop of `PullID`. -/
theorem pullIDLoop_seeds (f : Fields → Fields) (id : String) (rest : List CollectionChange) (l : List Item) :
    pullIDLoop id ((seedSpec l).map (·.mapValues f) ++ rest)
      = (l.filter (·.id = id)).map (fun e => ⟨some (f e.body), e.changeTime, true, true⟩)
        ++ pullIDLoop id rest := by
  induction l with
  | nil => rfl
  | cons x xs ih =>
    by_cases hx : x.id = id
    · rw [List.filter_cons, if_pos (decide_eq_true hx)]
      -- first test: the id is `id`; second: a seed is an ADD, not a REMOVE; its new value is present
      exact (if_neg (fun h => h hx)).trans ((if_neg ChangeType.noConfusion).trans (congrArg (_ :: ·) ih))
    · rw [List.filter_cons, if_neg fun h => hx (of_decide_eq_true h)]
      exact (if_pos hx).trans ih

theorem pullID_eq (I : Nat → Pred) (rr : ReadRequest)
    (eq : Equiv) (st : Store) (evs : List CollectionChange) (id : String) :
    pullID I rr eq st evs id = some (
      (if rr.updatesOnly then [] else ((sortById (selected (rr.incl.map I) st)).filter (·.id = id)).map
        (fun e => ⟨some (read rr.readMask e.body), e.changeTime, true, true⟩))
      ++ pullIDLoop id (evs.filterMap (pullEventSpec (read rr.readMask) (rr.incl.map I) eq))) := by
  rw [pullID, pullStream_eq I rr, Option.map_some, rawSeeds]
  cases rr.updatesOnly with
  | true => rfl
  | false => exact congrArg some (pullIDLoop_seeds _ id _ _)

/-- A stored, accepted id: the stream STARTS with exactly one seed, then the loop over the forwarded events. -/
theorem pullID_seed (I : Nat → Pred) (rr : ReadRequest)
    (eq : Equiv) (st : Store) (evs : List CollectionChange) (e : Item) (hu : UniqueIds st) (he : e ∈ st)
    (hinc : ∀ n, rr.incl = some n → I n e.id e.body = true) (hupd : rr.updatesOnly = false) :
    pullID I rr eq st evs e.id
      = some (⟨some (read rr.readMask e.body), e.changeTime, true, true⟩
          :: pullIDLoop e.id (evs.filterMap (pullEventSpec (read rr.readMask) (rr.incl.map I) eq))) := by
  have hn : ((sortById (selected (rr.incl.map I) st)).map (·.id)).Nodup :=
    (((sortById_perm _).map _).nodup_iff).mpr (List.Nodup.sublist (List.Sublist.map _ List.filter_sublist) hu)
  rw [pullID_eq I rr, hupd, filter_id_eq hn (mem_sorted_selected.mpr ⟨he, hinc⟩)]
  rfl

/-- No seed: the stream is the loop over the forwarded events alone. -/
theorem pullID_no_seed (I : Nat → Pred) (rr : ReadRequest)
    (eq : Equiv) (st : Store) (evs : List CollectionChange) (id : String)
    (hno : rr.updatesOnly = true ∨ ∀ e ∈ st, e.id = id → ∃ n, rr.incl = some n ∧ I n e.id e.body = false) :
    pullID I rr eq st evs id
      = some (pullIDLoop id (evs.filterMap (pullEventSpec (read rr.readMask) (rr.incl.map I) eq))) := by
  rw [pullID_eq I rr]
  rcases hno with hu | hno
  · rw [hu]; rfl
  · have : (sortById (selected (rr.incl.map I) st)).filter (·.id = id) = [] :=
      List.filter_eq_nil_iff.mpr fun x hx hid => by
        obtain ⟨hxs, hacc⟩ := mem_sorted_selected.mp hx
        obtain ⟨n, hn, hf⟩ := hno x hxs (of_decide_eq_true hid)
        exact Bool.noConfusion ((hacc n hn).symm.trans hf)
    rw [this]
    cases rr.updatesOnly <;> rfl

end ScVerif.C06
