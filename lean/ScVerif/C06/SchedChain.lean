import ScVerif.C06.Sched
/-! When do the changes a subscriber receives chain from what it was seeded with?  When no writer is
parked as the subscription opens and every later write publishes before the next one stores
(`Write.steps`: the two halves of a write are adjacent).  `C06_sched_changes_need_not_chain` is a schedule where they do not. -/
namespace ScVerif.C06
open ScVerif.C05

/-- A map from ids to messages: what a subscriber holds per id (`chains`), what the collection stores (`bodyOf`). -/
abbrev Held := String → Option Fields

def Held.set (h : Held) (id : String) (v : Option Fields) : Held := fun i => if i = id then v else h i

/-- The changes form a chain from `held`: each reports as old value what is held for its id (absent:
`none`), and what it reports as new is held afterwards. -/
def chains : Held → List CollectionChange → Prop
  | _, [] => True
  | h, c :: rest => c.oldValue = h c.id ∧ chains (h.set c.id c.newValue) rest

/-- The body stored under an id. -/
def bodyOf (st : Store) : Held := fun id => (lookup st id).map (·.body)

/-- A write whose two halves are not separated: the writer publishes before anybody else stores. -/
inductive Write where
  | add (id : String) (m : Fields)
  | update (id : String) (m : Fields)
  | delete (id : String)
deriving DecidableEq, Repr

def Write.steps : Write → List Step
  | .add id m => [.add id m, .publish 0]
  | .update id m => [.update id m, .publish 0]
  | .delete id => [.delete id]

end ScVerif.C06
