import ScVerif.C06.Sched
/-! A property of messages that holds of everything in the world and of everything written holds of everything
published. -/
namespace ScVerif.C06
open ScVerif.C05

theorem step_all (P : Fields → Prop) (w : World) (s : Step) (hw : w.All P) (hs : ∀ m, s.msg? = some m → P m) :
    (step w s).1.All P ∧ ∀ c ∈ (step w s).2, c.All P := by
  have refused : w.All P ∧ ∀ c ∈ ([] : List CollectionChange), c.All P := ⟨hw, List.forall_mem_nil _⟩
  cases s with
  | add id m =>
    simp only [step]
    split
    · exact refused
    · refine ⟨⟨?_, ?_⟩, List.forall_mem_nil _⟩
      · -- the store gains the item
        exact List.forall_mem_append.mpr ⟨hw.1, List.forall_mem_singleton.mpr (hs m rfl)⟩
      · -- a writer is parked with the new value and no old one
        exact List.forall_mem_append.mpr ⟨hw.2, List.forall_mem_singleton.mpr ⟨hs m rfl, nofun⟩⟩
  | update id m =>
    simp only [step]
    split
    · exact refused
    · next e hl =>
      refine ⟨⟨List.forall_mem_map.mpr fun x hx => ?_, ?_⟩, List.forall_mem_nil _⟩
      · -- every stored item is the new one or as before
        split
        · exact hs m rfl
        · exact hw.1 x hx
      · -- a writer is parked with the new value and the stored body `e.body` as old one
        have hold : ∀ o, some e.body = some o → P o := fun o ho => Option.some.inj ho ▸ hw.1 e (List.mem_of_find?_eq_some hl)
        exact List.forall_mem_append.mpr ⟨hw.2, List.forall_mem_singleton.mpr ⟨hs m rfl, hold⟩⟩
  | publish k =>
    simp only [step]
    split
    · exact refused
    · next p hk =>
      -- the change carries the values of the parked writer `p`
      have hp := hw.2 p (List.mem_of_getElem? hk)
      have hnew : ∀ v, some p.new = some v → P v := fun v hv => Option.some.inj hv ▸ hp.1
      exact ⟨⟨hw.1, fun q hq => hw.2 q (List.mem_of_mem_eraseIdx hq)⟩,
        List.forall_mem_singleton.mpr ⟨hnew, hp.2⟩⟩
  | delete id =>
    simp only [step]
    split
    · exact refused
    · next e hl =>
      -- the change carries the stored body `e.body` as old value and no new one
      have hold : ∀ v, some e.body = some v → P v := fun v hv => Option.some.inj hv ▸ hw.1 e (List.mem_of_find?_eq_some hl)
      exact ⟨⟨fun x hx => hw.1 x (List.mem_filter.mp hx).1, hw.2⟩,
        List.forall_mem_singleton.mpr ⟨nofun, hold⟩⟩

theorem run_all (P : Fields → Prop) (steps : List Step) : ∀ (w : World), w.All P →
    (∀ s ∈ steps, ∀ m, s.msg? = some m → P m) →
    (run w steps).1.All P ∧ ∀ c ∈ (run w steps).2, c.All P := by
  induction steps with
  | nil => exact fun w hw _ => ⟨hw, List.forall_mem_nil _⟩
  | cons s rest ih =>
    intro w hw hs
    rw [List.forall_mem_cons] at hs
    have h1 := step_all P w s hw hs.1
    have h2 := ih (step w s).1 h1.1 hs.2
    exact ⟨h2.1, List.forall_mem_append.mpr ⟨h1.2, h2.2⟩⟩

theorem run_append (w : World) (a b : List Step) :
    run w (a ++ b) = ((run (run w a).1 b).1, (run w a).2 ++ (run (run w a).1 b).2) := by
  induction a generalizing w with
  | nil => simp [run]
  | cons s rest ih => simp [run, ih, List.append_assoc]

theorem session_all (P : Fields → Prop) (w0 : World) (pre post : List Step) (hw : w0.All P)
    (hs : ∀ s ∈ pre ++ post, ∀ m, s.msg? = some m → P m) :
    (∀ e ∈ (run w0 pre).1.store, P e.body) ∧ ∀ c ∈ (run (run w0 pre).1 post).2, c.All P := by
  rw [List.forall_mem_append] at hs
  have h1 := run_all P pre w0 hw hs.1
  exact ⟨h1.1.1, (run_all P post _ h1.1 hs.2).2⟩

end ScVerif.C06
