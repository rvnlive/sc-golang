import ScVerif.C06.ValueLemmas
import ScVerif.C06.Props
/-!
# C06 — what `Value.Pull` delivers under a read mask

Model: `ScVerif/C06/ValuePull.lean` (the seed value and the event loop of `(*Value).Pull`, with the
resource's equivalence, an arbitrary function).
-/
namespace ScVerif.C06
open ScVerif.C05

/-- Without an equivalence, everything a masked `Value.Pull` subscriber is sent — the seed value (flagged seed
and last seed; none under `UpdatesOnly` or for a nil value) and every published change — is the projection
of what the unmasked subscription is sent. -/
theorem C06_value_pull_projection (rr : ReadRequest) (cur : Option (Fields × Int)) (evs : List ValueChange)
    (h : Proper rr.readMask) :
    valuePull rr none cur evs = some ((rawValueStream rr cur evs).map (projectValueChange rr.readMask)) := by
  rw [valuePull_none_eq, read_eq_projectMask h, projectValueChange_eq]

/-- With an equivalence: the seed, when there is one, is never compared away; every change is
projected FIRST and then compared with the value most recently sent as the receiver saw it (so
changes that differ only outside the mask are duplicates for a masked subscriber). -/
theorem C06_value_pull_dedup (rr : ReadRequest) (cmp : Option Fields → Option Fields → Bool)
    (cur : Option (Fields × Int)) (evs : List ValueChange) (h : Proper rr.readMask) :
    valuePull rr (some cmp) cur evs = some (
      match (if rr.updatesOnly then none else cur) with
      | none => dedupSpec cmp none (evs.map (projectValueChange rr.readMask))
      | some (v, t) =>
        ⟨some (projectMask rr.readMask v), t, true, true⟩
          :: dedupSpec cmp (some (projectMask rr.readMask v)) (evs.map (projectValueChange rr.readMask))) := by
  rw [valuePull_eq, read_eq_projectMask h, projectValueChange_eq]
  rfl

/-- Whatever the equivalence, the values a masked subscriber is sent are projections of values the resource
held (the seed or a published change), in the order of publication. -/
theorem C06_value_pull_members (rr : ReadRequest) (eq : Equiv) (cur : Option (Fields × Int))
    (evs : List ValueChange) (h : Proper rr.readMask) :
    ∃ out, valuePull rr eq cur evs = some out ∧
      out.Sublist ((rawValueStream rr cur evs).map (projectValueChange rr.readMask)) := by
  cases eq with
  | none => exact ⟨_, C06_value_pull_projection rr cur evs h, List.Sublist.refl _⟩
  | some cmp =>
    refine ⟨_, C06_value_pull_dedup rr cmp cur evs h, ?_⟩
    unfold rawValueStream
    cases hc : (if rr.updatesOnly then none else cur) with
    | none => exact dedupSpec_sublist cmp _ _
    | some vt =>
      obtain ⟨v, t⟩ := vt
      simp only [List.map_cons, projectValueChange_some]
      exact (dedupSpec_sublist cmp _ _).cons_cons _

/-- No panic, for any mask (valid or not). -/
theorem C06_value_pull_no_panic (rr : ReadRequest) (eq : Equiv) (cur : Option (Fields × Int))
    (evs : List ValueChange) : valuePull rr eq cur evs ≠ none := by
  rw [valuePull_eq]
  exact Option.some_ne_none _

/-- under the mask `{g}` and `WithNoDuplicates`, a change of `f` only is a duplicate; a change of `g` is sent -/
example : valuePull ⟨some [["g"]], false, false, none⟩ (some (fun a b => a == b)) (some (exMsg, 1))
      [⟨some (.cons "g" (.sc "i3") .nil), 2, false, false⟩, ⟨some (.cons "g" (.sc "i4") .nil), 3, false, false⟩]
    = some [⟨some (.cons "g" (.sc "i3") .nil), 1, true, true⟩, ⟨some (.cons "g" (.sc "i4") .nil), 3, false, false⟩] := by
  decide +kernel

end ScVerif.C06
