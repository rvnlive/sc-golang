import ScVerif.C06.Heap
/-! On a container that is flat on references (a clone is) the in-place filter is the tree-level read and writes
nothing to the heap. -/
namespace ScVerif.C06
open ScVerif.C05

theorem resolve_cloneC (h h' : Heap) : ∀ c : Container, resolve h' (cloneC h c) = resolve h c
  | [] => rfl
  | (k, v) :: rest => by simp [cloneC, resolve, HVal.resolve, resolve_cloneC h h' rest]

theorem flatOnRefs_tail {mask : Mask} {k : Name} {v : HVal} {rest : Container}
    (hf : FlatOnRefs mask ((k, v) :: rest)) : FlatOnRefs mask rest := by
  cases v with
  | own _ => exact hf
  | ref _ | refs _ => exact hf.2

theorem filterInPlaceFields_flat (mask : Mask) (h : Heap) (c : Container) (hf : FlatOnRefs mask c) :
    (filterInPlaceFields mask h c).2 = h
      ∧ resolve h (filterInPlaceFields mask h c).1 = safeFields mask (resolve h c) := by
  fun_induction filterInPlaceFields mask h c with
  | case1 h => exact ⟨rfl, rfl⟩
  | case2 h k v rest hm ih =>
    rw [resolve, safeFields, hm]
    exact ih (flatOnRefs_tail hf)
  | case3 h k v rest sub hm hs r ih =>
    obtain ⟨ih1, ih2⟩ := ih (flatOnRefs_tail hf)
    rw [resolve, resolve, safeFields, hm, ← ih2]
    exact ⟨ih1, (if_pos hs).symm⟩
  | case4 h k rest sub hm hs w r ih =>
    obtain ⟨ih1, ih2⟩ := ih hf
    rw [resolve, resolve, safeFields, hm, ← ih2]
    exact ⟨ih1, (if_neg hs).symm⟩
  | case5 h k rest sub hm hs a => exact absurd (hf.1 sub hm) hs
  | case6 h k rest sub hm hs a => exact absurd (hf.1 sub hm) hs

theorem flatOnRefs_cloneC (mask : Mask) (h : Heap) : ∀ c : Container, FlatOnRefs mask (cloneC h c)
  | [] => trivial
  | (_, _) :: rest => flatOnRefs_cloneC mask h rest

theorem filterInPlace_flat (mask : Option (List Path)) (h : Heap) (c : Container)
    (hflat : ∀ ps, mask = some ps → FlatOnRefs (nestedMask ps) c) :
    (filterInPlace mask h c).2 = h
      ∧ some (resolve h (filterInPlace mask h c).1) = filterClone mask (resolve h c) := by
  match mask, hflat with
  | none, _ => exact ⟨rfl, rfl⟩
  | some [], _ => exact ⟨rfl, rfl⟩
  | some (p :: ps), hflat =>
    show _ ∧ _ = some (safeMsg (nestedMask (p :: ps)) (resolve h c))
    simp only [filterInPlace, safeMsg]
    split
    · exact ⟨rfl, rfl⟩
    · exact (filterInPlaceFields_flat _ h c (hflat _ rfl)).imp_right (congrArg some)

end ScVerif.C06
