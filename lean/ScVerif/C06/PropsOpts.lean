import ScVerif.C06.Props
import ScVerif.C06.OptsLemmas
/-!
# C06 — read-option lists, mask normalisation, and which paths `WithReadPaths` / `Validate` refuse

Model: `ScVerif/C06/Opts.lean` (`resource.WithReadMask / WithReadPaths / …`, `ComputeReadConfig`,
`ReadRequest.ResponseFilter / FilterClone`, `masks.NewResponseFilter` with `WithFieldMask`).
Specification: `lastMask` / `effectiveMask` — the mask of the right-most read-mask option, found by
recursion from the right, without a request being threaded through.
-/
namespace ScVerif.C06
open ScVerif.C05

/-- The fold of `ComputeReadConfig` computes exactly the specification
`effectiveMask` for every option list. -/
theorem C06_options_effective (S : Schema) (ty : Nat) (opts : List ReadOpt) (rr : ReadRequest)
    (h : computeReadConfig S ty opts = some rr) : rr.readMask = effectiveMask opts := by
  obtain rfl := computeReadConfig_some h
  exact applyAll_readMask opts {}

/-- Whatever precedes it and whatever non-mask options follow it,
the mask of the last read-mask option is the configured read mask — in particular a
`WithReadMask(nil)` after a non-nil mask RESETS it (`m = none`). -/
theorem C06_options_last_mask_wins (S : Schema) (ty : Nat) (pre post : List ReadOpt) (o : ReadOpt)
    (m : Option (List Path)) (rr : ReadRequest)
    (ho : o.mask? = some m) (hpost : ∀ x ∈ post, x.mask? = none)
    (h : computeReadConfig S ty (pre ++ o :: post) = some rr) : rr.readMask = m := by
  rw [C06_options_effective S ty _ rr h, effectiveMask_append_mask pre post o m ho hpost]

/-- No read-mask option: the nil mask. -/
theorem C06_options_no_mask (S : Schema) (ty : Nat) (opts : List ReadOpt) (rr : ReadRequest)
    (hno : ∀ x ∈ opts, x.mask? = none) (h : computeReadConfig S ty opts = some rr) :
    rr.readMask = none := by
  rw [C06_options_effective S ty opts rr h, effectiveMask, lastMask_eq_lastOf, lastOf_eq_none hno]
  rfl

/-- Building and applying an option list panics exactly when some
`WithReadPaths` names a path that is not valid for the message (documented behaviour). -/
theorem C06_options_panic_iff (S : Schema) (ty : Nat) (opts : List ReadOpt) :
    computeReadConfig S ty opts = none ↔ ∃ ps, ReadOpt.readPaths ps ∈ opts ∧ isValid S ty ps = false := by
  -- the list fails to build iff one option does, and only a `WithReadPaths` can
  rw [computeReadConfig_eq_none_iff, List.all_eq_false]
  constructor
  · rintro ⟨o, ho, hb⟩
    -- every other kind of option builds: `simp` closes those five cases
    cases o <;> simp [ReadOpt.builds] at hb
    exact ⟨_, ho, hb⟩
  · rintro ⟨ps, hmem, hv⟩
    exact ⟨_, hmem, by simp [ReadOpt.builds, hv]⟩

/-- Read-mask options (and the empty option) leave `UpdatesOnly`,
`Backpressure` and `Include` as they were. -/
theorem C06_options_frame (opts : List ReadOpt) (rr : ReadRequest)
    (h : ∀ x ∈ opts, x.mask? ≠ none ∨ x = .empty) :
    (applyAll rr opts).updatesOnly = rr.updatesOnly ∧ (applyAll rr opts).backpressure = rr.backpressure
      ∧ (applyAll rr opts).incl = rr.incl := by
  have hk := fun x hx => ReadOpt.other_kinds_of_mask (h x hx)
  rw [applyAll_updatesOnly, applyAll_backpressure, applyAll_incl,
    lastOf_eq_none (fun x hx => (hk x hx).1), lastOf_eq_none (fun x hx => (hk x hx).2.1),
    lastOf_eq_none (fun x hx => (hk x hx).2.2)]
  exact ⟨rfl, rfl, rfl⟩

/-- A read with ANY option list that builds returns the projection of the stored
message onto the mask of the last read-mask option (nil — everything — if there is none or it is
`WithReadMask(nil)`; no paths — nothing), provided that mask is `Proper` (every mask `Validate` accepts is). -/
theorem C06_read_with_options (S : Schema) (ty : Nat) (opts : List ReadOpt) (fs : Fields)
    (hb : opts.all (ReadOpt.builds S ty) = true)
    (h : ∀ ps, effectiveMask opts = some ps → NonNil ps ∧ Clean ps) :
    readWith S ty opts fs = some (projectMask (effectiveMask opts) fs) := by
  rw [readWith, computeReadConfig_of_builds hb]
  show filterClone (applyAll {} opts).responseFilter fs = _
  rw [responseFilter_eq, applyAll_readMask]
  exact C06_projection _ fs h

/-- "nil mask means everything" for option lists: a final `WithReadMask(nil)` returns the stored
message whole, whatever masks came before it. -/
theorem C06_nil_mask_resets (S : Schema) (ty : Nat) (pre post : List ReadOpt) (fs : Fields)
    (hb : (pre ++ ReadOpt.readMask none :: post).all (ReadOpt.builds S ty) = true)
    (hpost : ∀ x ∈ post, x.mask? = none) :
    readWith S ty (pre ++ ReadOpt.readMask none :: post) fs = some fs := by
  have he := effectiveMask_append_mask pre post (.readMask none) none rfl hpost
  rw [C06_read_with_options S ty _ fs hb (by rw [he]; exact proper_none), he]
  rfl

/-- As the last mask option, a `WithReadPaths ps` that builds yields exactly the projection onto `ps`: its paths
satisfy the side condition of `C06_read_with_options`. -/
theorem C06_read_paths_valid (S : Schema) (hS : NoEmptyName S) (ty : Nat) (pre post : List ReadOpt)
    (ps : List Path) (fs : Fields)
    (hb : (pre ++ ReadOpt.readPaths ps :: post).all (ReadOpt.builds S ty) = true)
    (hpost : ∀ x ∈ post, x.mask? = none) :
    readWith S ty (pre ++ ReadOpt.readPaths ps :: post) fs = some (project ps fs) := by
  have he := effectiveMask_append_mask pre post (.readPaths ps) (some ps) rfl hpost
  have hv : validate S ty (some ps) = true :=
    List.all_eq_true.mp hb _ (List.mem_append_right _ (List.mem_cons_self ..))
  have hp : Proper (some ps) := fun _ e => Option.some.inj e ▸ C06_valid_masks_are_proper S hS ty ps hv
  rw [C06_read_with_options S ty _ fs hb (he ▸ hp), he]
  rfl

/-- `masks.NewResponseFilter` with a list of `WithFieldMask`
options: the last NON-nil mask is the filter's mask (`masks.WithFieldMask(nil)` is the empty
option there — unlike `resource.WithReadMask(nil)`). -/
theorem C06_response_filter_options (pre post : List (Option (List Path))) (ps : List Path)
    (hpost : ∀ x ∈ post, x = none) :
    newResponseFilter (pre ++ some ps :: post) = some ps := by
  -- from the right, one `WithFieldMask(nil)` at a time (`newResponseFilter_snoc`)
  obtain ⟨r, rfl⟩ : ∃ r, post = r.reverse := ⟨post.reverse, (List.reverse_reverse _).symm⟩
  induction r with
  | nil => exact newResponseFilter_snoc pre (some ps)
  | cons x r ih =>
    have hx : x = none := hpost x (by simp)
    rw [List.reverse_cons, ← List.cons_append, ← List.append_assoc, newResponseFilter_snoc, hx]
    exact ih fun y hy => hpost y (by simp [hy])

/-- `withoutNestedPaths` (dropping the paths inside another path of the list, before fmutils builds its
nested mask) never changes the projection, `{f, f.c, f.d}` and deeper chains included. -/
theorem C06_normalise_preserves (ps : List Path) (fs : Fields) (h : NonNil ps) :
    project (minimal ps) fs = project ps fs :=
  project_minimal fs ps h

/-- The projection depends only on the SET of paths: order and
duplicates have no meaning. -/
theorem C06_project_path_set (ps qs : List Path) (fs : Fields) (h : ∀ p, p ∈ ps ↔ p ∈ qs) :
    project ps fs = project qs fs :=
  project_congr fs ps qs h

/-- …hence so does every read. -/
theorem C06_read_path_set (ps qs : List Path) (fs : Fields) (h : ∀ p, p ∈ ps ↔ p ∈ qs)
    (hps : NonNil ps ∧ Clean ps) :
    filterClone (some ps) fs = filterClone (some qs) fs := by
  have hqs : NonNil qs ∧ Clean qs :=
    ⟨fun p hp => hps.1 p ((h p).mpr hp), fun p hp => hps.2 p ((h p).mpr hp)⟩
  rw [filterClone_proper hps, filterClone_proper hqs, project_congr fs ps qs h]

/-- Two masks whose normal forms (nested paths dropped) have the same
path set read the same: `{f, f.c, f.d}`, `{f.d, f}` and `{f}` are one mask. -/
theorem C06_read_normal_form (ps qs : List Path) (fs : Fields)
    (h : ∀ p, p ∈ minimal ps ↔ p ∈ minimal qs)
    (hps : NonNil ps ∧ Clean ps) (hqs : NonNil qs ∧ Clean qs) :
    filterClone (some ps) fs = filterClone (some qs) fs := by
  rw [filterClone_proper hps, filterClone_proper hqs, ← project_minimal fs ps hps.1,
    ← project_minimal fs qs hqs.1, project_congr fs _ _ h]

/-- A path that goes on below a field that is NOT a singular message (scalar, repeated, map) is no field
mask path, WHATEVER the following segments are called (the `key` / `value` of a map entry, a field of the
repeated element or of the map's message value, an index); nor is one whose next segment names no field.
A path that stops at a field reached through singular message fields is one. -/
theorem C06_path_stops_below_non_message (S : Schema) (ty t : Nat) (pre : Path) (seg : Name)
    (hl : Leads S ty pre t) :
    (∀ fd next rest, S.field t seg = some fd → (∀ u, fd.kind ≠ .message u) →
        validPath S ty (pre ++ seg :: next :: rest) = false)
    ∧ (∀ rest, S.field t seg = none → validPath S ty (pre ++ seg :: rest) = false)
    ∧ (∀ fd, S.field t seg = some fd → validPath S ty (pre ++ [seg]) = true) := by
  refine ⟨fun fd next rest hf hk => ?_, fun rest hf => ?_, fun fd hf => ?_⟩
  · rw [validPath_leads hl]
    cases hkk : fd.kind with
    | message u => exact absurd hkk (hk u)
    | _ => simp only [validStep, hf, hkk]
  · rw [validPath_leads hl]; simp only [validStep, hf]
  · rw [validPath_leads hl]; simp only [validStep, hf]
    cases fd.kind <;> rfl

/-- `WithReadPaths` ("panics if paths aren't part of m") and `ResponseFilter.Validate` agree on the
corrupted masks the property names: an option with such a path makes every option list containing it panic
when it is built, at any position (no read is made with the mask), and `Validate` reports the mask invalid. -/
theorem C06_read_paths_refuses_continuation (S : Schema) (ty t : Nat) (pre : Path) (seg : Name)
    (tail : Path) (hl : Leads S ty pre t)
    (hbad : (∃ fd next rest, tail = next :: rest ∧ S.field t seg = some fd ∧ ∀ u, fd.kind ≠ .message u)
      ∨ S.field t seg = none)
    (ps : List Path) (hp : pre ++ seg :: tail ∈ ps) :
    validate S ty (some ps) = false
    ∧ ∀ (opts : List ReadOpt) (fs : Fields), ReadOpt.readPaths ps ∈ opts →
        computeReadConfig S ty opts = none ∧ readWith S ty opts fs = none := by
  have hv : validPath S ty (pre ++ seg :: tail) = false := by
    have h := C06_path_stops_below_non_message S ty t pre seg hl
    rcases hbad with ⟨fd, next, rest, rfl, hf, hk⟩ | hf
    · exact h.1 fd next rest hf hk
    · exact h.2.1 tail hf
  have hi : isValid S ty ps = false := by
    unfold isValid
    rw [List.all_eq_false]
    exact ⟨_, hp, by simp [hv]⟩
  refine ⟨by simpa [validate] using hi, fun opts fs hm => ?_⟩
  have hc : computeReadConfig S ty opts = none := (C06_options_panic_iff S ty opts).2 ⟨ps, hm, hi⟩
  exact ⟨hc, by simp [readWith, hc]⟩

/-- What validation accepts, completely: every path is singular-message fields leading somewhere, then
ONE more field of the message reached — of any kind — and nothing after it; `WithReadPaths` panics exactly on
the rest. -/
theorem C06_validate_iff_stops_at_reachable_field (S : Schema) (ty : Nat) (ps : List Path) :
    (validate S ty (some ps) = true ↔
      ∀ p ∈ ps, ∃ pre seg t fd, p = pre ++ [seg] ∧ Leads S ty pre t ∧ S.field t seg = some fd)
    ∧ (validate S ty (some ps) = true ↔ computeReadConfig S ty [.readPaths ps] ≠ none) := by
  refine ⟨?_, ?_⟩
  · simp only [C06_validate, Option.some.injEq, forall_eq', goodPath_iff_leads]
  -- both sides are `isValid S ty ps = true`: the one option builds iff its paths are valid
  · simp [validate, Ne, computeReadConfig_eq_none_iff, ReadOpt.builds]

/-- `f` leads from type 0 to type 1; the map `m` and the repeated `r` lead nowhere. -/
example : Leads exSchema 0 ["f"] 1 := .step (fd := ⟨"f", .message 1, 0⟩) (by decide +kernel) rfl .here
/-- The entry-field names of a map are refused like any other continuation, alone or after a valid path,
before or after other options. -/
example : readWith exSchema 0 [.readPaths [["m", "value"]]] exMsg = none
    ∧ readWith exSchema 0 [.readPaths [["g"], ["m", "key"]], .readMask none] exMsg = none
    ∧ readWith exSchema 0 [.readMask (some [["g"]]), .readPaths [["m", "value", "c"]]] exMsg = none
    ∧ validate exSchema 0 (some [["m", "value"]]) = false := by decide +kernel
/-- …while the map itself, and a field below the singular message, are accepted. -/
example : readWith exSchema 0 [.readPaths [["m"], ["f", "d"]]] exMsg
    = some (.cons "f" (.msg (.cons "d" (.sc "i2") .nil)) .nil) := by decide +kernel

/-- mask, then nil: everything; nil, then mask: the mask; two masks: the last. -/
example : readWith exSchema 0 [.readMask (some [["g"]]), .updatesOnly true, .readMask none, .empty] exMsg = some exMsg := by decide +kernel
example : readWith exSchema 0 [.readMask none, .readMask (some [["g"]])] exMsg = some (.cons "g" (.sc "i3") .nil) := by decide +kernel
example : readWith exSchema 0 [.readPaths [["f", "c"]], .readMask (some [["g"]])] exMsg = some (.cons "g" (.sc "i3") .nil) := by decide +kernel
/-- `WithReadPaths` with a path through a repeated field does not build (panics)… -/
example : readWith exSchema 0 [.readPaths [["r", "x"]]] exMsg = none := by decide +kernel
/-- …and with no paths selects nothing. -/
example : readWith exSchema 0 [.readPaths []] exMsg = some .nil := by decide +kernel
/-- The hypotheses of `C06_read_with_options` / `C06_nil_mask_resets` are satisfiable. -/
example : ([.readMask (some [["f"], ["f", "c"]]), .readMask none] : List ReadOpt).all (ReadOpt.builds exSchema 0) = true := by decide +kernel
/-- `{f, f.c, f.d}` is `{f}`. -/
example : minimal [["f"], ["f", "c"], ["f", "d"]] = [["f"]] := by decide +kernel
example : filterClone (some [["f", "d"], ["f"], ["f", "c"]]) exMsg = filterClone (some [["f"]]) exMsg := by decide +kernel
example : newResponseFilter [some [["g"]], none] = some [["g"]] := by decide +kernel

end ScVerif.C06
