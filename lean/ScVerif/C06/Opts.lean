import ScVerif.C06.Get
/-
Model of the read-option plumbing of `pkg/resource/opt.go` and `pkg/masks/get.go`:

* `resource.ReadOption` values (`WithReadMask`, `WithReadPaths`, `WithUpdatesOnly`, `WithBackpressure`,
  `WithInclude`, `EmptyReadOption`) and `ComputeReadConfig`, which applies them IN ORDER to a zero
  `ReadRequest` — so a later read-mask option replaces an earlier one and `WithReadMask(nil)` RESETS
  the mask (openclosepb `GetPositions` relies on it: `append(opts, WithReadMask(nil))`);
* `WithReadPaths(m, paths...)` = `fieldmaskpb.New(m, paths...)`, which panics (when the option is
  built) if a path is not valid for `m`, and yields a non-nil mask without paths for zero paths;
* `ReadRequest.ResponseFilter` / `FilterClone` = `masks.NewResponseFilter(masks.WithFieldMask(rr.ReadMask))`,
  where — unlike `resource.WithReadMask` — `masks.WithFieldMask(nil)` is the EMPTY option.

Independent specification: `lastMask`, the mask of the right-most mask option (recursion from the
right, no state).
-/
namespace ScVerif.C06
open ScVerif.C05

/-- One `resource.ReadOption`.  Include predicates are opaque (named by a number). -/
inductive ReadOpt where
  | readMask (m : Option (List Path))      -- WithReadMask(mask); `none` is Go's nil mask
  | readPaths (ps : List Path)             -- WithReadPaths(msg, paths...)
  | updatesOnly (b : Bool)
  | backpressure (b : Bool)
  | incl (f : Option Nat)                  -- WithInclude(f); `none` is a nil func
  | empty                                  -- EmptyReadOption{}
deriving DecidableEq, Repr

/-- `resource.ReadRequest`. -/
structure ReadRequest where
  readMask : Option (List Path) := none
  updatesOnly : Bool := false
  backpressure : Bool := false
  incl : Option Nat := none
deriving DecidableEq, Repr

/-- `opt.apply(rr)`. -/
def ReadOpt.apply : ReadOpt → ReadRequest → ReadRequest
  | .readMask m, rr => { rr with readMask := m }
  | .readPaths ps, rr => { rr with readMask := some ps }
  | .updatesOnly b, rr => { rr with updatesOnly := b }
  | .backpressure b, rr => { rr with backpressure := b }
  | .incl f, rr => { rr with incl := f }
  | .empty, rr => rr

/-- Building the option does not panic: `fieldmaskpb.New` accepts the paths of a `WithReadPaths`. -/
def ReadOpt.builds (S : Schema) (ty : Nat) : ReadOpt → Bool
  | .readPaths ps => isValid S ty ps
  | _ => true

/-- The loop of `ComputeReadConfig` from an arbitrary request. -/
def applyAll (rr : ReadRequest) (opts : List ReadOpt) : ReadRequest :=
  opts.foldl (fun rr o => o.apply rr) rr

/-- Building the option list, then `ComputeReadConfig(opts...)`; `none` is the panic of a
`WithReadPaths` with a path that is not part of the message. -/
def computeReadConfig (S : Schema) (ty : Nat) (opts : List ReadOpt) : Out ReadRequest :=
  if opts.all (ReadOpt.builds S ty) then some (applyAll {} opts) else none

/-- `masks.NewResponseFilter(opts...)` where every option is a `masks.WithFieldMask(fm)` (or
`WithFieldMaskPaths`, a non-nil mask): a nil mask is the empty option, it configures nothing. -/
def newResponseFilter (opts : List (Option (List Path))) : Option (List Path) :=
  opts.foldl (fun fields o => match o with | none => fields | some ps => some ps) none

/- Stands beside the definition because its statement shares the definition's matcher (in another module it would
elaborate to a `match` of its own); `C06_response_filter_options` goes from the right with it. -/
theorem newResponseFilter_snoc (opts : List (Option (List Path))) (o : Option (List Path)) :
    newResponseFilter (opts ++ [o]) = match o with | none => newResponseFilter opts | some ps => some ps := by
  simp only [newResponseFilter, List.foldl_append, List.foldl_cons, List.foldl_nil]

/-- `rr.ResponseFilter()`. -/
def ReadRequest.responseFilter (rr : ReadRequest) : Option (List Path) := newResponseFilter [rr.readMask]

/-- `rr.FilterClone(m)`. -/
def ReadRequest.filterClone (rr : ReadRequest) (fs : Fields) : Out Fields :=
  C06.filterClone rr.responseFilter fs

/-- A read (Get / one List item / one Pull value) with an option list: build, configure, project. -/
def readWith (S : Schema) (ty : Nat) (opts : List ReadOpt) (fs : Fields) : Out Fields :=
  match computeReadConfig S ty opts with
  | none => none
  | some rr => rr.filterClone fs

/-- The mask an option carries, if it is a read-mask option. -/
def ReadOpt.mask? : ReadOpt → Option (Option (List Path))
  | .readMask m => some m
  | .readPaths ps => some (some ps)
  | _ => none

/-- The mask of the right-most read-mask option (`none`: the list has none). -/
def lastMask : List ReadOpt → Option (Option (List Path))
  | [] => none
  | o :: rest =>
    match lastMask rest with
    | some m => some m
    | none => o.mask?

/-- The effective read mask of an option list: the last one given, nil (everything) if none. -/
def effectiveMask (opts : List ReadOpt) : Option (List Path) := (lastMask opts).getD none

/-! ## The other kinds of option: the last one of each kind decides (specification by recursion from
the right, as `lastMask`) -/

def ReadOpt.incl? : ReadOpt → Option (Option Nat)
  | .incl f => some f
  | _ => none

def ReadOpt.updatesOnly? : ReadOpt → Option Bool
  | .updatesOnly b => some b
  | _ => none

def ReadOpt.backpressure? : ReadOpt → Option Bool
  | .backpressure b => some b
  | _ => none

/-- The payload of the right-most option of one kind (`sel` picks the kind). -/
def lastOf {α : Type} (sel : ReadOpt → Option α) : List ReadOpt → Option α
  | [] => none
  | o :: rest =>
    match lastOf sel rest with
    | some a => some a
    | none => sel o

/-- The include callback in effect: the last `WithInclude` (a nil func switches an earlier one off). -/
def effectiveIncl (opts : List ReadOpt) : Option Nat := (lastOf ReadOpt.incl? opts).getD none
def effectiveUpdatesOnly (opts : List ReadOpt) : Bool := (lastOf ReadOpt.updatesOnly? opts).getD false
def effectiveBackpressure (opts : List ReadOpt) : Bool := (lastOf ReadOpt.backpressure? opts).getD false

end ScVerif.C06
