import ScVerif.C06.Spec
/- `validPath` of C05/Lib against the two inductive descriptions of well-formed paths: a path is valid iff it is a
`GoodPath`, iff it STOPS at a field reached through singular message fields (`Leads`). -/
namespace ScVerif.C06
open ScVerif.C05

theorem goodPath_ne_nil {S : Schema} {ty : Nat} {p : Path} (h : GoodPath S ty p) : p ≠ [] := by
  cases h <;> simp

theorem validStep_of_goodPath {S : Schema} {ty : Nat} {p : Path} (h : GoodPath S ty p) :
    validStep S (some ty) p = true := by
  induction h with
  | @last _ _ fd hf => simp only [validStep, hf]; cases fd.kind <;> rfl
  | step hf hk _ ih => simp only [validStep, hf, hk]; exact ih

theorem validStep_iff (S : Schema) : ∀ (p : Path) (ty : Nat), p ≠ [] →
    (validStep S (some ty) p = true ↔ GoodPath S ty p)
  | [], _, h => absurd rfl h
  | seg :: rest, ty, _ => by
    constructor
    · intro hv
      rw [validStep] at hv
      cases hf : S.field ty seg with
      | none => rw [hf] at hv; cases hv
      | some fd =>
        cases rest with
        | nil => exact .last hf
        | cons next rest' =>
          -- the path goes on: only a singular message field lets it
          rw [hf] at hv
          cases hk : fd.kind with
          | message t =>
            simp only [hk] at hv
            exact .step hf hk ((validStep_iff S _ t (List.cons_ne_nil _ _)).mp hv)
          | scalar | repScalar | repMessage _ | map => simp only [hk] at hv; cases hv
    · exact validStep_of_goodPath

theorem validPath_iff (S : Schema) (ty : Nat) (p : Path) : validPath S ty p = true ↔ GoodPath S ty p := by
  cases p with
  | nil =>
    simp only [validPath, Bool.false_eq_true, false_iff]
    intro h; exact goodPath_ne_nil h rfl
  | cons seg rest => simpa [validPath] using validStep_iff S (seg :: rest) ty (by simp)

theorem field_seg_ne {S : Schema} (hS : NoEmptyName S) {ty : Nat} {seg : Name} {fd : FieldDesc}
    (hf : S.field ty seg = some fd) : seg ≠ "" := by
  have hn : fd.name = seg := by simpa using List.find?_some hf
  exact hn ▸ hS ty fd (List.mem_of_find?_eq_some hf)

theorem goodPath_segments {S : Schema} (hS : NoEmptyName S) :
    ∀ {ty : Nat} {p : Path}, GoodPath S ty p → "" ∉ p := by
  intro ty p h
  induction h with
  | last hf => exact fun hmem => field_seg_ne hS hf (List.mem_singleton.mp hmem).symm
  | step hf _ _ ih =>
    intro hmem
    rcases List.mem_cons.mp hmem with h | h
    · exact field_seg_ne hS hf h.symm
    · exact ih h

theorem validStep_leads {S : Schema} {ty t : Nat} {pre : Path} (h : Leads S ty pre t) (rest : Path) :
    validStep S (some ty) (pre ++ rest) = validStep S (some t) rest := by
  induction h with
  | here => rfl
  | step hf hk _ ih => simp only [List.cons_append, validStep, hf, hk, ih]

theorem validPath_leads {S : Schema} {ty t : Nat} {pre : Path} (h : Leads S ty pre t) (seg : Name) (rest : Path) :
    validPath S ty (pre ++ seg :: rest) = validStep S (some t) (seg :: rest) := by
  rw [← validStep_leads h]
  unfold validPath
  split
  · next heq => cases pre <;> simp at heq
  · rfl

theorem goodPath_iff_leads (S : Schema) (ty : Nat) (p : Path) :
    GoodPath S ty p ↔ ∃ pre seg t fd, p = pre ++ [seg] ∧ Leads S ty pre t ∧ S.field t seg = some fd := by
  constructor
  · intro h
    induction h with
    | @last ty seg fd hf => exact ⟨[], seg, ty, fd, rfl, .here, hf⟩
    | @step ty t seg fd rest hf hk _ ih =>
      obtain ⟨pre, s, u, fd', rfl, hl, hf'⟩ := ih
      exact ⟨seg :: pre, s, u, fd', rfl, .step hf hk hl, hf'⟩
  · rintro ⟨pre, seg, t, fd, rfl, hl, hf⟩
    induction hl with
    | here => exact .last hf
    | step hf' hk _ ih => exact .step hf' hk (ih hf)

end ScVerif.C06
