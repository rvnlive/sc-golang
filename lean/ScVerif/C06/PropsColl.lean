import ScVerif.C06.CollLemmas
import ScVerif.C06.PropsOpts
/-!
# C06 — collection reads that combine a read mask with an include callback; PullID

Model: `ScVerif/C06/Coll.lean` (`ReadRequest.Exclude`, `Collection.itemSlice / List`, the seed loop
and the event loop of `Collection.Pull` with `CollectionChange.include`, `Collection.PullID`).
Specification: the include callback is a predicate on the STORED item (`selected`), the read mask
only selects fields of what was kept (`projectMask`, `projectChange`).  Stores come in any iteration
order, include callbacks are arbitrary functions.
-/
namespace ScVerif.C06
open ScVerif.C05

/-- `List` with a read mask and an include callback returns,
sorted by id, the projection of exactly those stored items the callback accepts WHEN GIVEN THE STORED
MESSAGE: the mask has no say in which items are returned. -/
theorem C06_list_include (I : Nat → Pred) (rr : ReadRequest) (st : Store) (h : Proper rr.readMask) :
    listWith I rr st
      = some ((sortById (selected (rr.incl.map I) st)).map (fun e => projectMask rr.readMask e.body)) := by
  rw [listWith_eq, read_eq_projectMask h]

/-- Hence a masked `List` is, item by item, the projection of the unmasked `List` with the same other
options (the statement the monitor evaluates on the code). -/
theorem C06_list_mask_commutes (I : Nat → Pred) (rr : ReadRequest) (st : Store) (h : Proper rr.readMask) :
    listWith I rr st
      = (listWith I { rr with readMask := none } st).map (List.map (projectMask rr.readMask)) := by
  rw [C06_list_include I rr st h, C06_list_include I { rr with readMask := none } st proper_none,
    Option.map_some, List.map_map]
  rfl

/-- What is projected is sorted by id and has exactly the accepted stored items as members. -/
theorem C06_list_sorted_selection (I : Nat → Pred) (rr : ReadRequest) (st : Store) (h : Proper rr.readMask) :
    ∃ sel : List Item, listWith I rr st = some (sel.map (fun e => projectMask rr.readMask e.body))
      ∧ SortedById sel
      ∧ ∀ e, e ∈ sel ↔ e ∈ st ∧ (∀ n, rr.incl = some n → I n e.id e.body = true) := by
  exact ⟨_, C06_list_include I rr st h, sortById_sorted _, fun _ => mem_sorted_selected⟩

/-- Each field of the configured request is what the right-most option of its kind says (the zero value if
there is none): a nil func after a callback switches it off; options of one kind never disturb another. -/
theorem C06_options_last_of_each_kind (S : Schema) (ty : Nat) (opts : List ReadOpt) (rr : ReadRequest)
    (h : computeReadConfig S ty opts = some rr) :
    rr.readMask = effectiveMask opts ∧ rr.incl = effectiveIncl opts
      ∧ rr.updatesOnly = effectiveUpdatesOnly opts ∧ rr.backpressure = effectiveBackpressure opts := by
  obtain rfl := computeReadConfig_some h
  exact ⟨C06_options_effective S ty opts _ h, applyAll_incl opts {}, applyAll_updatesOnly opts {},
    applyAll_backpressure opts {}⟩

/-- `List` from an option list: the LAST include callback (judged on the stored message), the LAST read mask. -/
theorem C06_list_with_options (I : Nat → Pred) (S : Schema) (ty : Nat) (opts : List ReadOpt) (st : Store)
    (hb : opts.all (ReadOpt.builds S ty) = true) (h : Proper (effectiveMask opts)) :
    collList I S ty opts st
      = some ((sortById (selected ((effectiveIncl opts).map I) st)).map
          (fun e => projectMask (effectiveMask opts) e.body)) := by
  have hm : (applyAll {} opts).readMask = effectiveMask opts := applyAll_readMask opts {}
  have hi : (applyAll {} opts).incl = effectiveIncl opts := applyAll_incl opts {}
  rw [collList, computeReadConfig_of_builds hb]
  show listWith I (applyAll {} opts) st = _
  rw [C06_list_include I _ st (hm ▸ h), hm, hi]

/-- The seed values of `Pull`: nothing with `UpdatesOnly`; otherwise one ADD per accepted stored item
(accepted on the STORED message), in id order, with the item's change time, the seed flag, the last-seed
flag on the final one only, and the PROJECTION of the item. -/
theorem C06_pull_seeds (I : Nat → Pred) (rr : ReadRequest) (st : Store) (h : Proper rr.readMask) :
    pullSeeds I rr st = some (if rr.updatesOnly then []
      else (seedSpec (sortById (selected (rr.incl.map I) st))).map (projectChange rr.readMask)) := by
  rw [pullSeeds_eq, read_eq_projectMask h, projectChange_eq, rawSeeds]
  cases rr.updatesOnly <;> rfl

/-- One published change: `include` decides on the STORED old / new values whether and as what (UPDATE, ADD
on entering, REMOVE on leaving) it is forwarded; both values are then projected; a collection equivalence,
if configured, is asked about the projected values. -/
theorem C06_pull_event (incl : Option Pred) (mask : Option (List Path)) (eq : Equiv) (c : CollectionChange)
    (h : Proper mask) :
    pullEvent incl mask eq c = some (match c.includeP incl with
      | none => none
      | some c' =>
        match eq with
        | some cmp =>
          if cmp (projectOpt mask c'.oldValue) (projectOpt mask c'.newValue) then none
          else some (projectChange mask c')
        | none => some (projectChange mask c')) := by
  rw [pullEvent_eq, read_eq_projectMask h, projectOpt_eq_map, projectChange_eq]
  rfl

/-- What `include` forwards, row by row (an absent value is never accepted). -/
theorem C06_include_sees_stored (f : Pred) (c : CollectionChange) :
    c.includeP (some f) =
      match includedOpt f c.id c.oldValue, includedOpt f c.id c.newValue with
      | false, false => none
      | true, true => some c
      | false, true => some ⟨c.id, c.changeTime, .add, none, c.newValue, c.seedValue, false⟩
      | true, false => some ⟨c.id, c.changeTime, .remove, c.oldValue, none, false, false⟩ :=
  includeP_some_eq f c

/-- Without a collection equivalence, everything a masked `Pull` subscriber is sent — seeds and events,
under any include callback — is, change by change, the projection of what the same subscription without
the mask is sent. -/
theorem C06_pull_stream_commutes (I : Nat → Pred) (rr : ReadRequest) (st : Store)
    (evs : List CollectionChange) (h : Proper rr.readMask) :
    pullStream I rr none st evs
      = (pullStream I { rr with readMask := none } none st evs).map (List.map (projectChange rr.readMask)) := by
  rw [pullStream_none_eq I rr, read_eq_projectMask h, pullStream_none_eq I { rr with readMask := none },
    show read none = fun fs => fs from rfl,
    funext mapValues_self, List.map_id', projectChange_eq]
  rfl

/-- …and so is every value `PullID` delivers, for any id. -/
theorem C06_pullid_commutes (I : Nat → Pred) (rr : ReadRequest) (st : Store)
    (evs : List CollectionChange) (id : String) (h : Proper rr.readMask) :
    pullID I rr none st evs id
      = (pullID I { rr with readMask := none } none st evs id).map (List.map (projectValueChange rr.readMask)) := by
  rw [pullID, pullID, C06_pull_stream_commutes I rr st evs h, Option.map_map, Option.map_map,
    projectChange_eq, projectValueChange_eq]
  exact congrArg (Option.map · _) (funext fun cs => pullIDLoop_map _ id cs)

/-- `PullID` on an item that is stored and accepted: exactly one seed value — the PROJECTION of the stored
item, its change time, flagged as seed and as last seed, wherever the item sorts among the items. -/
theorem C06_pullid_seed (I : Nat → Pred) (rr : ReadRequest) (eq : Equiv) (st : Store) (e : Item)
    (h : Proper rr.readMask) (hu : UniqueIds st) (he : e ∈ st)
    (hinc : ∀ n, rr.incl = some n → I n e.id e.body = true) (hupd : rr.updatesOnly = false) :
    pullID I rr eq st [] e.id
      = some [⟨some (projectMask rr.readMask e.body), e.changeTime, true, true⟩] :=
  read_eq_projectMask h ▸ pullID_seed I rr eq st [] e hu he hinc hupd

/-- No seed value when the id is not stored, is not accepted by the callback
(judged on the stored item), or the subscription is `UpdatesOnly`.  This holds for every mask: the hypothesis `h` is
not needed (without a seed nothing is projected). -/
theorem C06_pullid_no_seed (I : Nat → Pred) (rr : ReadRequest) (eq : Equiv) (st : Store) (id : String)
    (h : Proper rr.readMask)
    (hno : rr.updatesOnly = true ∨ ∀ e ∈ st, e.id = id → ∃ n, rr.incl = some n ∧ I n e.id e.body = false) :
    pullID I rr eq st [] id = some [] :=
  pullID_no_seed I rr eq st [] id hno

/-- No store, option, callback, mask (valid or not), event
sequence or equivalence makes `List`, `Pull` or `PullID` panic in the filter. -/
theorem C06_collection_reads_no_panic (I : Nat → Pred) (rr : ReadRequest) (eq : Equiv) (st : Store)
    (evs : List CollectionChange) (id : String) :
    listWith I rr st ≠ none ∧ pullStream I rr eq st evs ≠ none ∧ pullID I rr eq st evs id ≠ none := by
  rw [listWith_eq, pullID, pullStream_eq, Option.map_some]
  exact ⟨Option.some_ne_none _, Option.some_ne_none _, Option.some_ne_none _⟩

/-- Handing the callback the projection instead of the stored
message (what looks like a defensive copy) is a different function: with the mask `{f}` a callback that
looks at `g` loses the item. -/
theorem C06_include_on_projection_differs :
    ∃ (f : Pred) (mask : Option (List Path)) (st : Store),
      selectedOnProjection (some f) mask st ≠ selected (some f) st :=
  ⟨fun _ m => m.has "g", some [["f"]], [⟨"x", exMsg, 0⟩], by decide +kernel⟩

/-- a callback, then a nil func: no callback; two masks and two callbacks: the last of each -/
example : effectiveIncl [.incl (some 4), .readMask none, .incl none] = none := by decide +kernel
example : computeReadConfig exSchema 0 [.incl (some 4), .readMask (some [["g"]]), .updatesOnly true, .incl (some 2), .readMask (some [["f"]])]
    = some ⟨some [["f"]], true, false, some 2⟩ := by decide +kernel

def exStore : Store :=
  [⟨"y", exMsg, 2⟩, ⟨"x", .cons "g" (.sc "i9") .nil, 1⟩, ⟨"w", .cons "f" (.msg (.cons "c" (.sc "i5") .nil)) .nil, 3⟩]

/-- mask `{f.c}` with a callback that looks at `g` (which the mask does not select): the two items
with a `g` are returned, in id order, projected (one of them to the empty message). -/
example : listWith (fun _ => fun _ m => m.has "g") ⟨some [["f", "c"]], false, false, some 0⟩ exStore
    = some [.nil, .cons "f" (.msg (.cons "c" (.sc "i1") .nil)) .nil] := by decide +kernel
example : UniqueIds exStore := by unfold UniqueIds; decide +kernel
/-- PullID on "x" (which sorts in the middle): one seed value, projected, flagged last. -/
example : pullID (fun _ => fun _ _ => true) ⟨some [["g"]], false, false, none⟩ none exStore [] "x"
    = some [⟨some (.cons "g" (.sc "i9") .nil), 1, true, true⟩] := by decide +kernel
/-- an UPDATE that leaves the include set (judged on the stored new value) is forwarded as a REMOVE
carrying the projection of the old value -/
example : pullEvent (some (fun _ m => m.has "g")) (some [["f", "c"]]) none
      ⟨"y", 5, .update, some exMsg, some (.cons "r" (.scs ["i1"]) .nil), false, false⟩
    = some (some ⟨"y", 5, .remove, some (.cons "f" (.msg (.cons "c" (.sc "i1") .nil)) .nil), none, false, false⟩) := by
  decide +kernel

end ScVerif.C06
