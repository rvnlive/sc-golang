import ScVerif.C06.SchedChain
import ScVerif.C06.VSched
/-
Reads that come AFTER writes: `Value.Get` (`req.FilterClone(r.value)` under the read lock) and
`Collection.Get` (`readConfig.FilterClone(entry.body)` of the entry found under the read lock; the
include callback has no say, an absent id is `(nil, false)`) at any point of a schedule of write
halves (`Sched.lean`, `VSched.lean`).  Both read what is stored at that moment — also the value of a
writer that has not published yet — and compute the projection from it: nothing a read made earlier,
and nothing the clock showed, goes in.

The specification of "what is stored" is a plain register / a plain map from ids to messages
(`heldAfter`, `heldRun`) that knows nothing of clocks, change times, parked writers or publications.
-/
namespace ScVerif.C06
open ScVerif.C05

/-- `Value.Get(opts…)` after the steps; the inner `none`: the value holds Go's nil message. -/
def vgetAfter (rr : ReadRequest) (w0 : VWorld) (steps : List VStep) : Out (Option Fields) :=
  match (vrun w0 steps).1.value with
  | none => some none
  | some v => (rr.filterClone v).map some

/-- Specification: a register. `Set` overwrites it, a publication does not touch it. -/
def heldAfter (v : Option Fields) : List VStep → Option Fields
  | [] => v
  | .set m _ :: rest => heldAfter (some m) rest
  | .publish _ :: rest => heldAfter v rest

/-- A schedule with its time stamps forgotten. -/
def VStep.untimed : VStep → VStep
  | .set m _ => .set m 0
  | .publish k => .publish k

/-- `Collection.Get(id, opts…)` after the steps; the inner `none`: `(nil, false)`, no such id. -/
def getAfter (rr : ReadRequest) (w0 : World) (steps : List Step) (id : String) : Out (Option Fields) :=
  match lookup (run w0 steps).1.store id with
  | none => some none
  | some e => (rr.filterClone e.body).map some

/-- Specification: a map from ids to messages.  `Add` needs the id absent, `Update` present (else the
write is refused and nothing changes), `Delete` removes, a publication does not touch it. -/
def heldStep (h : Held) : Step → Held
  | .add id m => if (h id).isNone then h.set id (some m) else h
  | .update id m => if (h id).isSome then h.set id (some m) else h
  | .publish _ => h
  | .delete id => h.set id none

def heldRun (h : Held) : List Step → Held
  | [] => h
  | s :: rest => heldRun (heldStep h s) rest

end ScVerif.C06
