import ScVerif.C06.Coll
import ScVerif.C06.Lemmas
/-!
Every function of `Change.lean` and `Coll.lean` calls `filterClone` on the messages it handles and is otherwise a
plain loop: it returns `some` of the same loop over `read mask` (hence never panics), and `read mask` is
`projectMask mask` for a proper mask (`read_eq_projectMask`).
-/
namespace ScVerif.C06
open ScVerif.C05

theorem read_eq_projectMask {mask : Option (List Path)} (h : Proper mask) : read mask = projectMask mask :=
  funext (read_eq_project h)

def CollectionChange.mapValues (f : Fields → Fields) (c : CollectionChange) : CollectionChange :=
  { c with newValue := c.newValue.map f, oldValue := c.oldValue.map f }

def ValueChange.mapValue (f : Fields → Fields) (v : ValueChange) : ValueChange :=
  { v with value := v.value.map f }

theorem projectOpt_eq_map (mask : Option (List Path)) : projectOpt mask = Option.map (projectMask mask) := by
  funext x
  cases x <;> rfl

theorem projectChange_eq (mask : Option (List Path)) :
    projectChange mask = CollectionChange.mapValues (projectMask mask) := by
  funext c
  rw [projectChange, projectOpt_eq_map]
  rfl

theorem projectValueChange_eq (mask : Option (List Path)) :
    projectValueChange mask = ValueChange.mapValue (projectMask mask) := by
  funext v
  rw [projectValueChange, projectOpt_eq_map]
  rfl

theorem projectValueChange_some (mask : Option (List Path)) (v : Fields) (t : Int) (s l : Bool) :
    projectValueChange mask ⟨some v, t, s, l⟩ = ⟨some (projectMask mask v), t, s, l⟩ := rfl

theorem projectOpt_nil_mask (x : Option Fields) : projectOpt none x = x := by
  cases x <;> rfl

theorem projectChange_nil_mask (c : CollectionChange) : projectChange none c = c := by
  cases c; simp [projectChange, projectOpt_nil_mask]

theorem projectValueChange_nil_mask (v : ValueChange) : projectValueChange none v = v := by
  cases v; simp [projectValueChange, projectOpt_nil_mask]

section
variable (mask : Option (List Path))

theorem filterCloneOpt_eq (x : Option Fields) : filterCloneOpt mask x = some (x.map (read mask)) := by
  cases x with
  | none => rfl
  | some fs => exact congrArg (Option.map some) (filterClone_eq mask fs)

theorem valueChange_filter_eq (v : ValueChange) : v.filter mask = some (v.mapValue (read mask)) := by
  rw [ValueChange.filter, filterCloneOpt_eq]
  rfl

theorem collectionChange_filter_eq (c : CollectionChange) : c.filter mask = some (c.mapValues (read mask)) := by
  rw [CollectionChange.filter, filterCloneOpt_eq, filterCloneOpt_eq]
  rfl

end

end ScVerif.C06
