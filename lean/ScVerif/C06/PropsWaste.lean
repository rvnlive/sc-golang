import ScVerif.C06.WasteLemmas
/-!
# C06 — a trait-level adapter inside the model: wastepb `ModelServer.PullWasteRecords`

Model: `ScVerif/C06/Waste.lean` (`pullWasteRecordsWrapper`: the replay of history through
`ResponseFilter.FilterClone` under the model's lock, then `lastWasteRecord.Pull` with the read mask).
The history may be shorter or longer than the 50 records replayed, and the current value of
`lastWasteRecord` need NOT be the last historical record: an `AddWasteRecord` that has published its
record but not appended it yet.
-/
namespace ScVerif.C06
open ScVerif.C05

/-- Everything the masked stream sends — every replayed historical record, the seed of the subscription, every
record added afterwards — is the projection of what the unmasked stream sends, in whatever state of an
`AddWasteRecord` the stream was opened. -/
theorem C06_waste_pull_commutes (mask : Option (List Path)) (updatesOnly : Bool) (hist : List Fields)
    (cur : Option Fields) (evs : List Fields) (h : Proper mask) :
    wastePull mask updatesOnly hist cur evs
      = (wastePull none updatesOnly hist cur evs).map (List.map (projectOpt mask)) := by
  rw [wastePull_eq mask, read_eq_projectMask h, wastePull_eq none,
    Option.map_some, List.map_map]
  rfl

/-- `updates_only` off, `lastWasteRecord` holding `c`: the replayed window, then `c`, then every record published. -/
theorem C06_waste_pull_values (mask : Option (List Path)) (hist : List Fields) (c : Fields) (evs : List Fields)
    (h : Proper mask) :
    wastePull mask false hist (some c) evs
      = some ((wasteWindow hist ++ c :: evs).map (fun r => some (projectMask mask r))) := by
  rw [wastePull_eq mask, read_eq_projectMask h]
  exact congrArg (fun l => some (List.map _ l)) (List.append_assoc ..)

/-- With `updates_only` nothing is replayed and there is no seed. -/
theorem C06_waste_pull_updates_only (mask : Option (List Path)) (hist : List Fields) (cur : Option Fields)
    (evs : List Fields) (h : Proper mask) :
    wastePull mask true hist cur evs = some (evs.map (fun r => some (projectMask mask r))) :=
  read_eq_projectMask h ▸ wastePull_eq mask ..

/-- The replay followed by the last historical record is exactly the last 50
records of the history (all of it when there are fewer). -/
theorem C06_waste_window (hist : List Fields) (hne : hist ≠ []) :
    wasteWindow hist ++ [hist.getLast hne] = hist.drop (hist.length - 50) := by
  have hlen : hist.length - 50 < hist.length := by
    have : 0 < hist.length := List.length_pos_iff.mpr hne
    omega
  have hd : hist.drop (hist.length - 50) ≠ [] := by
    intro e
    have := congrArg List.length e
    simp only [List.length_drop, List.length_nil] at this
    omega
  unfold wasteWindow
  have hl : (hist.drop (hist.length - 50)).getLast hd = hist.getLast hne := List.getLast_drop hd
  rw [← hl]
  exact List.dropLast_concat_getLast hd

/-- No mask, history or state of the model makes the stream panic. -/
theorem C06_waste_pull_no_panic (mask : Option (List Path)) (updatesOnly : Bool) (hist : List Fields)
    (cur : Option Fields) (evs : List Fields) : wastePull mask updatesOnly hist cur evs ≠ none := by
  rw [wastePull_eq]
  exact Option.some_ne_none _

/-- an `AddWasteRecord` between its `Set` and its append: the history ends with `b`, the value holds `c`;
under the mask `{g}` the stream sends `a`, then `c` (the seed), then the record added next, all projected —
the last historical record `b` is sent by nobody (modelled as the code behaves) -/
example : wastePull (some [["g"]]) false
      [.cons "g" (.sc "i1") (.cons "h" (.sc "i7") .nil), .cons "g" (.sc "i2") .nil] (some (.cons "g" (.sc "i3") (.cons "h" (.sc "i8") .nil)))
      [.cons "h" (.sc "i9") .nil]
    = some [some (.cons "g" (.sc "i1") .nil), some (.cons "g" (.sc "i3") .nil), some .nil] := by
  decide +kernel

example : (wasteWindow (List.replicate 120 Fields.nil)).length = 49 ∧ wasteWindow [Fields.nil] = [] ∧ wasteWindow [] = [] := by
  decide +kernel

end ScVerif.C06
