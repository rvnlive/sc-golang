import ScVerif.C06.HeapLemmas
import ScVerif.C06.Lemmas
/-!
# C06 — "never mutates" for composed responses (one level of sharing)

Model: `ScVerif/C06/Heap.lean`.  A trait-level reader (openclosepb `GetPositions` / `PullPositions`,
the List RPCs) builds a fresh container whose message fields are the STORED messages and projects
it.  `FilterClone` deep-copies first; `Filter` works in place and follows the references.
-/
namespace ScVerif.C06
open ScVerif.C05

/-- Projecting a composed response with `FilterClone` never writes to a stored message,
whatever the mask (nested below the shared fields, through repeated fields, invalid …). -/
theorem C06_composed_clone_pure (mask : Option (List Path)) (h : Heap) (c : Container) :
    (filterCloneH mask h c).2 = h := by
  cases mask with
  | none => rfl
  | some ps => exact (filterInPlace_flat (some ps) h _ (fun _ _ => flatOnRefs_cloneC _ h c)).1

/-- …and what it returns is the tree-level read (`filterClone` of `Get.lean`) of what the container shows. -/
theorem C06_composed_clone_value (ps : List Path) (h : Heap) (c : Container) :
    some (resolve (filterCloneH (some ps) h c).2 (filterCloneH (some ps) h c).1)
      = filterClone (some ps) (resolve h c) := by
  rw [C06_composed_clone_pure]
  exact (filterInPlace_flat (some ps) h _ (fun _ _ => flatOnRefs_cloneC _ h c)).2.trans
    (congrArg _ (resolve_cloneC h h c))

/-- The statement the harness's `composed-read-semantics` monitor evaluates on the real readers. -/
theorem C06_composed_projection (ps : List Path) (h : Heap) (c : Container)
    (hps : NonNil ps ∧ Clean ps) :
    resolve h (filterCloneH (some ps) h c).1 = project ps (resolve h c) ∧ (filterCloneH (some ps) h c).2 = h := by
  have hv := C06_composed_clone_value ps h c
  rw [C06_composed_clone_pure, filterClone_proper hps] at hv
  exact ⟨Option.some.inj hv, C06_composed_clone_pure _ h c⟩

/-- The in-place `Filter` on a shallow-fresh container is NOT
pure: a mask that continues below a shared field (`states.open_percent`) clears fields of the stored
message (openclosepb `PullPositions` before 6769c0c; `GetPositions` before c820953). -/
theorem C06_composed_inplace_fails :
    ∃ (mask : Option (List Path)) (h : Heap) (c : Container), (filterInPlace mask h c).2 ≠ h :=
  ⟨some [["states", "open_percent"]],
   [.cons "open_percent" (.sc "f1") (.cons "direction" (.sc "e1") .nil)],
   [("states", .refs [0])], by decide +kernel⟩

/-- The in-place `Filter` leaves the store alone when the mask
does not continue below a reference field (top-level masks: why the defect stayed latent). -/
theorem C06_composed_inplace_partial (mask : Option (List Path)) (h : Heap) (c : Container)
    (hflat : ∀ ps, mask = some ps → FlatOnRefs (nestedMask ps) c) :
    (filterInPlace mask h c).2 = h :=
  (filterInPlace_flat mask h c hflat).1

def exHeap : Heap :=
  [.cons "open_percent" (.sc "f1") (.cons "direction" (.sc "e1") .nil),
   .cons "name" (.sc "s1") (.cons "title" (.sc "s2") .nil)]
def exContainer : Container := [("states", .refs [0]), ("preset", .ref 1)]

/-- a nested mask through both kinds of reference: the clone is projected, the store untouched -/
example : resolve exHeap (filterCloneH (some [["states", "open_percent"], ["preset", "name"]]) exHeap exContainer).1
    = .cons "states" (.msgs (.cons (.cons "open_percent" (.sc "f1") .nil) .nil))
        (.cons "preset" (.msg (.cons "name" (.sc "s1") .nil)) .nil) := by decide +kernel
example : (filterInPlace (some [["preset", "name"]]) exHeap exContainer).2 ≠ exHeap := by decide +kernel
/-- the hypothesis of the partial theorem is satisfiable by a non-trivial mask -/
example : FlatOnRefs (nestedMask [["states"]]) exContainer := by
  simp only [FlatOnRefs, exContainer]; decide +kernel

end ScVerif.C06
