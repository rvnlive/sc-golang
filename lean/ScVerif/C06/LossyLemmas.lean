import ScVerif.C06.Lossy
import ScVerif.C06.ChangeLemmas
/-! What `enqueue` keeps, the whole stage keeps under every schedule: a property of messages, a function applied to
every value (the projection is one), at most one change per id. -/
namespace ScVerif.C06
open ScVerif.C05

/-- The trace the driver prints is the stage itself, with the failed hand-overs left in. -/
theorem lossyT_eq : ∀ (s : List Bool) (q evs : List CollectionChange),
    (lossyT s q evs).filterMap id = lossy s q evs := by
  intro s q evs
  fun_induction lossy s q evs with
  | case1 q evs => simp [lossyT, List.filterMap_map]
  | case2 s evs ih => exact ih
  | case3 s c q evs ih => exact congrArg (c :: ·) ih
  | case4 s q ih => exact ih
  | case5 s q e evs ih => exact ih

/-- A merged change is the later change with another kind, flag and old value: the old value of
either change, or none. -/
theorem mergeChanges_some {a b n : CollectionChange} (h : mergeChanges a b = some n) :
    n.id = b.id ∧ n.newValue = b.newValue
      ∧ (n.oldValue = none ∨ n.oldValue = b.oldValue ∨ n.oldValue = a.oldValue) := by
  obtain ⟨ia, ta, ka, oa, na, sa, la⟩ := a
  cases ka with
  | add =>
    obtain ⟨ib, tb, kb, ob, nb, sb, lb⟩ := b
    cases kb with
    | remove => cases h
    -- an UPDATE / REPLACE after an ADD becomes the ADD: no old value
    | update | replace => cases h; exact ⟨rfl, rfl, .inl rfl⟩
    | add | unspecified => cases h; exact ⟨rfl, rfl, .inr (.inl rfl)⟩
  -- the second change as it is
  | unspecified => cases h; exact ⟨rfl, rfl, .inr (.inl rfl)⟩
  -- the first old value is kept
  | update | replace | remove => cases h; exact ⟨rfl, rfl, .inr (.inr rfl)⟩

theorem mergeChanges_all {P : Fields → Prop} {a b n : CollectionChange} (ha : a.All P) (hb : b.All P)
    (h : mergeChanges a b = some n) : n.All P := by
  obtain ⟨_, hn, ho⟩ := mergeChanges_some h
  refine ⟨fun v hv => hb.1 v (hn ▸ hv), fun v hv => ?_⟩
  rcases ho with ho | ho | ho
  · rw [ho] at hv; cases hv
  · exact hb.2 v (ho ▸ hv)
  · exact ha.2 v (ho ▸ hv)

/-- Merging looks at kinds and flags only: it commutes with any function applied to both values.  (Only the
ADD branch of `mergeChanges` matches on the second kind; the others carry it along in an `if`.) -/
theorem mergeChanges_map (f : Fields → Fields) (a b : CollectionChange) :
    mergeChanges (a.mapValues f) (b.mapValues f) = (mergeChanges a b).map (·.mapValues f) := by
  obtain ⟨ia, ta, ka, oa, na, sa, la⟩ := a
  cases ka with
  | add =>
    obtain ⟨ib, tb, kb, ob, nb, sb, lb⟩ := b
    cases kb <;> rfl
  | unspecified | update | replace | remove => rfl

theorem mem_enqueue {q : List CollectionChange} {c x : CollectionChange} (h : x ∈ enqueue q c) :
    x ∈ q ∨ x = c ∨ ∃ old ∈ q, mergeChanges old c = some x := by
  fun_induction enqueue q c with
  | case1 c => exact .inr (.inl (List.mem_singleton.mp h))
  | case2 old q c _ hm => exact .inl (List.mem_cons_of_mem _ h)
  | case3 old q c hid n hm =>
    rcases List.mem_append.mp h with h | h
    · exact .inl (List.mem_cons_of_mem _ h)
    · exact .inr (.inr ⟨old, List.mem_cons_self .., List.mem_singleton.mp h ▸ hm⟩)
  | case4 old q c _ ih =>
    rcases List.mem_cons.mp h with rfl | h
    · exact .inl (List.mem_cons_self ..)
    · exact (ih h).imp (List.mem_cons_of_mem _)
        (Or.imp_right fun ⟨o, ho, hh⟩ => ⟨o, List.mem_cons_of_mem _ ho, hh⟩)

theorem enqueue_all (P : Fields → Prop) (q : List CollectionChange) (c : CollectionChange)
    (hq : ∀ x ∈ q, x.All P) (hc : c.All P) : ∀ x ∈ enqueue q c, x.All P := by
  intro x hx
  rcases mem_enqueue hx with h | rfl | ⟨old, ho, hm⟩
  · exact hq x h
  · exact hc
  · exact mergeChanges_all (hq old ho) hc hm

theorem foldl_enqueue_inv {Q : List CollectionChange → Prop} {R : CollectionChange → Prop}
    (step : ∀ q c, Q q → R c → Q (enqueue q c)) (evs : List CollectionChange) :
    ∀ q, Q q → (∀ c ∈ evs, R c) → Q (evs.foldl enqueue q) := by
  induction evs with
  | nil => exact fun _ hq _ => hq
  | cons e evs ih =>
    exact fun q hq he => ih _ (step q e hq (he e (List.mem_cons_self ..)))
      (fun c hc => he c (List.mem_cons_of_mem _ hc))

theorem lossy_all (P : Fields → Prop) (s : List Bool) (q evs : List CollectionChange) :
    (∀ x ∈ q, x.All P) → (∀ c ∈ evs, c.All P) → ∀ x ∈ lossy s q evs, x.All P := by
  fun_induction lossy s q evs with
  | case1 q evs => exact foldl_enqueue_inv (enqueue_all P) evs q
  | case2 s evs ih => exact ih
  | case3 s c q evs ih =>
    intro hq he
    exact List.forall_mem_cons.mpr ⟨hq c (List.mem_cons_self ..),
      ih (fun y hy => hq y (List.mem_cons_of_mem _ hy)) he⟩
  | case4 s q ih => exact ih
  | case5 s q e evs ih =>
    intro hq he
    exact ih (enqueue_all P q e hq (he e (List.mem_cons_self ..))) (fun c hc => he c (List.mem_cons_of_mem _ hc))

theorem enqueue_map (f : Fields → Fields) (q : List CollectionChange) (c : CollectionChange) :
    enqueue (q.map (·.mapValues f)) (c.mapValues f) = (enqueue q c).map (·.mapValues f) := by
  fun_induction enqueue q c with
  | case1 c => rfl
  | case2 old q c hid hm =>
    rw [List.map_cons, enqueue, mergeChanges_map, hm]
    exact if_pos hid
  | case3 old q c hid n hm =>
    rw [List.map_cons, enqueue, mergeChanges_map, hm, List.map_append]
    exact if_pos hid
  | case4 old q c hid ih =>
    rw [List.map_cons, enqueue, ih]
    exact if_neg hid

theorem lossy_map (f : Fields → Fields) (s : List Bool) (q evs : List CollectionChange) :
    lossy s (q.map (·.mapValues f)) (evs.map (·.mapValues f)) = (lossy s q evs).map (·.mapValues f) := by
  fun_induction lossy s q evs with
  | case1 q evs =>
    rw [lossy, List.foldl_map]
    exact List.foldl_hom (List.map (·.mapValues f)) (g₁ := enqueue) (g₂ := fun q c => enqueue q (c.mapValues f))
      (enqueue_map f)
  | case2 s evs ih => exact ih
  | case3 s c q evs ih => exact congrArg (c.mapValues f :: ·) ih
  | case4 s q ih => exact ih
  | case5 s q e evs ih =>
    rw [List.map_cons, lossy, enqueue_map]
    exact ih

theorem enqueue_onePerId (q : List CollectionChange) (c : CollectionChange) (h : OnePerId q) :
    OnePerId (enqueue q c) := by
  fun_induction enqueue q c with
  | case1 c => exact List.pairwise_singleton ..
  | case2 old q c _ hm => exact (List.pairwise_cons.mp h).2
  | case3 old q c hid n hm =>
    obtain ⟨h1, h2⟩ := List.pairwise_cons.mp h
    refine List.pairwise_append.mpr ⟨h2, List.pairwise_singleton .., fun a ha b hb => ?_⟩
    rw [List.mem_singleton.mp hb, (mergeChanges_some hm).1, ← hid]
    exact fun e => h1 a ha e.symm
  | case4 old q c hid ih =>
    obtain ⟨h1, h2⟩ := List.pairwise_cons.mp h
    refine List.pairwise_cons.mpr ⟨fun x hx => ?_, ih h2⟩
    -- whatever is queued behind `old` now was queued there before, or carries the id of `c`
    rcases mem_enqueue hx with hq | rfl | ⟨o, _, hm⟩
    · exact h1 x hq
    · exact hid
    · rw [(mergeChanges_some hm).1]; exact hid

/-- Taking any number of published changes into a one-per-id queue leaves it one-per-id (what a
stalled subscriber finds when it comes back: `lossy [] q evs`). -/
theorem lossy_queue_onePerId (evs q : List CollectionChange) (h : OnePerId q) : OnePerId (evs.foldl enqueue q) :=
  foldl_enqueue_inv (R := fun _ => True) (fun q c hq _ => enqueue_onePerId q c hq) evs q h (fun _ _ => trivial)

end ScVerif.C06
