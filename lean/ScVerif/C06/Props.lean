import ScVerif.C06.Lemmas
import ScVerif.C06.ValidLemmas
/-!
# C06 — reads return exactly the read-mask projection and never mutate

Model: `ScVerif/C06/Get.lean` (`ResponseFilter.Validate / Filter / FilterClone` and `filterMessage`
of pkg/masks/get.go after the fixes a72a629 (no panic) and 40c1599 (`nestedMask`: paths nested inside
another path of the mask are dropped), over fmutils' `NestedMaskFromPaths` and
`fieldmaskpb.IsValid` from `ScVerif/C05/Lib.lean`).  Specification: `project`, the projection of a
message tree onto a *set of paths*, defined without nested masks and characterised path by path.

"Never mutates" has no counterpart on immutable trees: for one level of sharing (a fresh container
referencing stored messages) it is proved in `PropsHeap.lean` over `Heap.lean`; beyond that it is
evaluated on the real code by the monitor (deep copy before / after every read) and is C07's subject.
-/
namespace ScVerif.C06
open ScVerif.C05

/-- No mask and no message make a read panic.  (`fmutils.Filter`, which the read called before a72a629, panics on a
mask continuing through a populated map or repeated scalar.) -/
theorem C06_no_panic (mask : Option (List Path)) (fs : Fields) : filterClone mask fs ≠ none := by
  rw [filterClone_eq]
  exact Option.some_ne_none _

/-- For every mask whose paths are non-empty and have no empty segment — every mask
`Validate` accepts (`C06_valid_masks_are_proper`), parent+child paths, duplicates and overlaps included —
the read returns exactly the projection onto the mask's path set; the nil mask returns the message, the
empty mask the empty message.  (Before 40c1599 this failed for `{f, f.c}`: `C06_projection_legacy_fails`.) -/
theorem C06_projection (mask : Option (List Path)) (fs : Fields)
    (h : ∀ ps, mask = some ps → NonNil ps ∧ Clean ps) :
    filterClone mask fs = some (projectMask mask fs) := by
  rw [filterClone_eq, read_eq_project h]

/-- The code before 40c1599 built the nested mask from the raw
paths: with the mask `{f, f.c}` (the same path set as `{f}`) it returned only `f.c`, where the
projection keeps `f.d`. -/
theorem C06_projection_legacy_fails :
    ∃ (ps : List Path) (fs : Fields), NonNil ps ∧ Clean ps ∧
      safeMsg (Mask.fromPaths ps) fs ≠ project ps fs :=
  ⟨[["f"], ["f", "c"]],
   .cons "f" (.msg (.cons "c" (.sc "i1") (.cons "d" (.sc "i2") .nil))) .nil,
   by decide +kernel, by decide +kernel, by decide +kernel⟩

/-- The specification, path by path: whatever lies at or below a path of the mask is there unchanged… -/
theorem C06_project_selected (ps : List Path) (fs : Fields) (p : Path)
    (h : ∃ q ∈ ps, q ≠ [] ∧ q <+: p) : (project ps fs).getPath p = fs.getPath p := by
  induction p generalizing ps fs with
  | nil =>
    obtain ⟨q, _, hne, hpre⟩ := h
    exact absurd (List.prefix_nil.mp hpre) hne
  | cons k rest ih =>
    obtain ⟨t, ht, htpre⟩ := exists_prefix_tails h
    by_cases h2 : [] ∈ tails k ps
    · exact Fields.getPath_congr (get_project_whole h2 fs) rest
    · -- no path ends at `k`: `t` goes on, so does `rest`, and both sides look below the field's value
      have ht0 : t ≠ [] := fun e => h2 (e ▸ ht)
      have hr : rest ≠ [] := fun e => ht0 (List.prefix_nil.mp (e ▸ htpre))
      rw [Fields.getPath_cons _ _ hr, Fields.getPath_cons _ _ hr, get_project_below ht h2]
      cases fs.get k with
      | none => rfl
      | some v =>
        cases v with
        | msg sub => exact ih (tails k ps) sub ⟨t, ht, ht0, htpre⟩
        | _ => rfl

/-- …and nothing lies at a path neither below nor above any path of the mask. -/
theorem C06_project_unselected (ps : List Path) (fs : Fields) (p : Path) (hp : p ≠ [])
    (h : ∀ q ∈ ps, q ≠ [] → ¬ q <+: p ∧ ¬ p <+: q) : (project ps fs).getPath p = none := by
  induction p generalizing ps fs with
  | nil => exact absurd rfl hp
  | cons k rest ih =>
    cases hh : tails k ps with
    | nil => exact Fields.getPath_of_get_none (by rw [get_project, hh]; rfl) rest
    | cons t0 ts =>
      have ht0 : t0 ∈ tails k ps := hh ▸ List.mem_cons_self ..
      have hn : [] ∉ tails k ps := fun hm => (unrelated_tails h [] hm).1 List.nil_prefix
      -- a path goes on below `k`, so `rest` does too (it would lie above it otherwise)
      have hr : rest ≠ [] := fun e => (unrelated_tails h t0 ht0).2 (e ▸ List.nil_prefix)
      rw [Fields.getPath_cons _ _ hr, get_project_below ht0 hn]
      cases fs.get k with
      | none => rfl
      | some v =>
        cases v with
        | msg sub => exact ih (tails k ps) sub hr fun t ht _ => unrelated_tails h t ht
        | _ => rfl

/-- The same of what a read returns. -/
theorem C06_read_selected (ps : List Path) (fs r : Fields) (p : Path)
    (hps : NonNil ps ∧ Clean ps) (hr : filterClone (some ps) fs = some r) :
    ((∃ q ∈ ps, q <+: p) → r.getPath p = fs.getPath p) ∧
    (p ≠ [] → (∀ q ∈ ps, ¬ q <+: p ∧ ¬ p <+: q) → r.getPath p = none) := by
  obtain rfl : project ps fs = r := Option.some.inj ((filterClone_proper hps fs).symm.trans hr)
  constructor
  · rintro ⟨q, hq, hpre⟩
    exact C06_project_selected ps fs p ⟨q, hq, hps.1 q hq, hpre⟩
  · intro hp h
    exact C06_project_unselected ps fs p hp (fun q hq _ => h q hq)

/-- `Validate` accepts a non-nil mask iff every path is well-formed for the message type: an unknown
segment, and a continuation through a scalar, map or repeated field, are rejected (`InvalidArgument`). -/
theorem C06_validate (S : Schema) (ty : Nat) (mask : Option (List Path)) :
    validate S ty mask = true ↔ ∀ ps, mask = some ps → ∀ p ∈ ps, GoodPath S ty p := by
  cases mask with
  | none => simp [validate]
  | some ps => simp only [validate, isValid, List.all_eq_true, validPath_iff, Option.some.injEq, forall_eq']

/-- The side conditions `NonNil` and `Clean` of
`C06_projection` hold for every mask that `Validate` accepts. -/
theorem C06_valid_masks_are_proper (S : Schema) (hS : NoEmptyName S) (ty : Nat) (ps : List Path)
    (h : validate S ty (some ps) = true) : NonNil ps ∧ Clean ps := by
  have hg := (C06_validate S ty (some ps)).mp h ps rfl
  exact ⟨fun p hp => goodPath_ne_nil (hg p hp), fun p hp => goodPath_segments hS (hg p hp)⟩

/-- Every read mask that `Validate` accepts yields exactly the projection. -/
theorem C06_projection_valid (S : Schema) (hS : NoEmptyName S) (ty : Nat) (ps : List Path) (fs : Fields)
    (hv : validate S ty (some ps) = true) :
    filterClone (some ps) fs = some (project ps fs) :=
  filterClone_proper (C06_valid_masks_are_proper S hS ty ps hv) fs

/-- No message-typed field is a leaf for a read mask, whatever its
type (a `google.protobuf.Timestamp` is a message with the fields `seconds` and `nanos` like any
other): the mask `{k.c}` returns `k.c` as stored and nothing at a sibling `k.d`. -/
theorem C06_read_below_message_field (k c d : Name) (fs r : Fields)
    (hk : k ≠ "") (hc : c ≠ "") (hcd : c ≠ d)
    (hr : filterClone (some [[k, c]]) fs = some r) :
    r.getPath [k, c] = fs.getPath [k, c] ∧ r.getPath [k, d] = none := by
  have hps : NonNil [[k, c]] ∧ Clean [[k, c]] := by simp [NonNil, Clean, Ne.symm hk, Ne.symm hc]
  have h := fun p => C06_read_selected [[k, c]] fs r p hps hr
  refine ⟨(h [k, c]).1 ⟨_, List.mem_singleton_self _, List.prefix_refl _⟩,
    (h [k, d]).2 (List.cons_ne_nil _ _) fun q hq => ?_⟩
  rw [List.mem_singleton.mp hq]
  simp [hcd, Ne.symm hcd]

/-- A small schema: type 0 = {f : message 1, g : scalar, r : repeated scalar, m : map}, type 1 = {c, d}. -/
def exSchema : Schema :=
  [[⟨"f", .message 1, 0⟩, ⟨"g", .scalar, 0⟩, ⟨"r", .repScalar, 0⟩, ⟨"m", .map, 0⟩],
   [⟨"c", .scalar, 0⟩, ⟨"d", .scalar, 0⟩]]

def exMsg : Fields :=
  .cons "f" (.msg (.cons "c" (.sc "i1") (.cons "d" (.sc "i2") .nil)))
    (.cons "g" (.sc "i3") (.cons "r" (.scs ["i1"]) .nil))

/-- The hypotheses of `C06_projection` / `C06_projection_valid` are satisfiable, by parent+child masks too. -/
example : NonNil [["f", "c"], ["g"], ["f"]] ∧ Clean [["f", "c"], ["g"], ["f"]] := by
  decide +kernel
example : filterClone (some [["f", "c"], ["f"]]) exMsg
    = some (.cons "f" (.msg (.cons "c" (.sc "i1") (.cons "d" (.sc "i2") .nil))) .nil) := by decide +kernel
example : validate exSchema 0 (some [["f", "c"], ["g"]]) = true := by decide +kernel
example : filterClone (some [["f", "c"], ["g"]]) exMsg
    = some (.cons "f" (.msg (.cons "c" (.sc "i1") .nil)) (.cons "g" (.sc "i3") .nil)) := by decide +kernel
/-- Masks of the kinds the property names are rejected… -/
example : validate exSchema 0 (some [["r", "x"]]) = false ∧ validate exSchema 0 (some [["m", "a"]]) = false
    ∧ validate exSchema 0 (some [["g", "x"]]) = false ∧ validate exSchema 0 (some [["nope"]]) = false := by decide +kernel
/-- …and reading with them does not panic (the field is selected whole). -/
example : filterClone (some [["r", "x"]]) exMsg = some (.cons "r" (.scs ["i1"]) .nil) := by decide +kernel

/-- A message with a well-known-type field: type 0 = {t : message 1, n : scalar}, type 1 is
`google.protobuf.Timestamp` = {seconds, nanos}. -/
def wkSchema : Schema :=
  [[⟨"t", .message 1, 0⟩, ⟨"n", .scalar, 0⟩], [⟨"seconds", .scalar, 0⟩, ⟨"nanos", .scalar, 0⟩]]
def wkMsg : Fields :=
  .cons "t" (.msg (.cons "seconds" (.sc "i1790724832") (.cons "nanos" (.sc "i5") .nil))) (.cons "n" (.sc "i3") .nil)
/-- A path INTO the Timestamp is a valid read mask and selects just that field of it: the nanos are
not returned (a filter that keeps the Timestamp whole differs from the projection). -/
example : validate wkSchema 0 (some [["t", "seconds"]]) = true := by decide +kernel
example : filterClone (some [["t", "seconds"]]) wkMsg
    = some (.cons "t" (.msg (.cons "seconds" (.sc "i1790724832") .nil)) .nil) := by decide +kernel
example : (project [["t", "seconds"]] wkMsg).getPath ["t", "nanos"] = none := by decide +kernel
example : (project [["t", "seconds"]] wkMsg).getPath ["t", "seconds"] = wkMsg.getPath ["t", "seconds"] := by decide +kernel

end ScVerif.C06
