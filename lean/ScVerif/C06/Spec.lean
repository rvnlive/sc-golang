import ScVerif.C05.MaskLemmas
import ScVerif.C06.Get
/-
The notions the theorems about `Get.lean` are stated with: well-formed paths described independently of
`numValidPaths` (`GoodPath`, and `Leads` for the part a path may continue through), the side conditions
`NoEmptyName` and `Proper`; and `read`, the value a read returns, with which the lemma modules state every loop of the
model (no property theorem mentions it).
-/
namespace ScVerif.C06
open ScVerif.C05

/-- Well-formed paths of message type `ty`, described independently of `numValidPaths`: a known
field, optionally followed — only below a *singular message* field — by a well-formed path of that
field's type. -/
inductive GoodPath (S : Schema) : Nat → Path → Prop where
  | last {ty : Nat} {seg : Name} {fd : FieldDesc} : S.field ty seg = some fd → GoodPath S ty [seg]
  | step {ty t : Nat} {seg : Name} {fd : FieldDesc} {rest : Path} :
      S.field ty seg = some fd → fd.kind = .message t → GoodPath S t rest → GoodPath S ty (seg :: rest)

/-- `Leads S ty pre t`: the segments `pre` lead from message type `ty` to message type `t`, every one
of them naming a SINGULAR message field (the only kind of field a mask path may continue through). -/
inductive Leads (S : Schema) : Nat → Path → Nat → Prop where
  | here {ty : Nat} : Leads S ty [] ty
  | step {ty t u : Nat} {seg : Name} {fd : FieldDesc} {rest : Path} :
      S.field ty seg = some fd → fd.kind = .message t → Leads S t rest u → Leads S ty (seg :: rest) u

/-- No declared field has the empty name (true of every protobuf descriptor). -/
def NoEmptyName (S : Schema) : Prop := ∀ ty : Nat, ∀ fd ∈ S.fields ty, fd.name ≠ ""

/-- The side condition of the projection theorems: every path is non-empty and has no empty segment
(implied by `Validate`, see `C06_valid_masks_are_proper`).  It is, unfolded, the hypothesis of
`C06_projection` and of the change-filter theorems; for a mask known to be `some ps` it is `NonNil ps ∧ Clean ps`. -/
abbrev Proper (mask : Option (List Path)) : Prop := ∀ ps, mask = some ps → NonNil ps ∧ Clean ps

/-- The value `filterClone` returns: it is total (`filterClone_eq`). -/
def read : Option (List Path) → Fields → Fields
  | none, fs => fs
  | some [], _ => .nil
  | some ps, fs => safeMsg (nestedMask ps) fs

end ScVerif.C06
