import ScVerif.C06.Waste
import ScVerif.C06.ValueLemmas
/-! The wastepb adapter over `read mask` (see `ChangeLemmas.lean`). -/
namespace ScVerif.C06
open ScVerif.C05

theorem filterAll_eq (mask : Option (List Path)) (l : List Fields) :
    filterAll mask l = some (l.map (read mask)) := by
  induction l with
  | nil => rfl
  | cons r rest ih => rw [filterAll, filterClone_eq, ih]; rfl

/-- The records the stream sends before any read mask: unless `updates_only`, the replayed window and the value
the subscription is seeded with; then every record published. -/
def wasteRecords (updatesOnly : Bool) (hist : List Fields) (cur : Option Fields) (evs : List Fields) : List Fields :=
  (if updatesOnly then [] else wasteWindow hist ++ cur.toList) ++ evs

theorem wastePull_eq (mask : Option (List Path)) (updatesOnly : Bool)
    (hist : List Fields) (cur : Option Fields) (evs : List Fields) :
    wastePull mask updatesOnly hist cur evs
      = some ((wasteRecords updatesOnly hist cur evs).map (fun r => some (read mask r))) := by
  rw [wastePull, valuePull_none_eq ⟨mask, updatesOnly, false, none⟩, newResponseFilter_single,
    filterAll_eq, wasteRecords, rawValueStream]
  cases updatesOnly <;> cases cur <;>
    simp [ValueChange.mapValue, List.map_map, Function.comp_def]

end ScVerif.C06
