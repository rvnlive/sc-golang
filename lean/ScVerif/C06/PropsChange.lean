import ScVerif.C06.ChangeLemmas
import ScVerif.C06.Props
/-!
# C06 — what a subscription delivers under a read mask

Model: `ScVerif/C06/Change.lean` (`ValueChange.filter`, `CollectionChange.filter` of
pkg/resource/change.go, applied by Value.Pull / Collection.Pull / Collection.PullID to every change).
-/
namespace ScVerif.C06
open ScVerif.C05

/-- One value slot of a change: an absent value (Go's nil message: the new value of a REMOVE, the old value
of an ADD) stays absent, a present one is replaced by its projection. -/
theorem C06_delivered_value (mask : Option (List Path)) (x : Option Fields)
    (h : ∀ ps, mask = some ps → NonNil ps ∧ Clean ps) :
    filterCloneOpt mask x = some (projectOpt mask x) := by
  rw [filterCloneOpt_eq, read_eq_projectMask h, projectOpt_eq_map]

/-- Time and seed flags of a value change are untouched. -/
theorem C06_value_change_filter (mask : Option (List Path)) (v : ValueChange)
    (h : ∀ ps, mask = some ps → NonNil ps ∧ Clean ps) :
    v.filter mask = some { v with value := projectOpt mask v.value } := by
  rw [valueChange_filter_eq, read_eq_projectMask h, projectOpt_eq_map]
  rfl

/-- A collection change carries the projection of BOTH its new and its old value (so also the old value of an
UPDATE or a REMOVE); id, change type, time and seed flags are untouched — a read mask never changes which
events a subscriber sees. -/
theorem C06_collection_change_filter (mask : Option (List Path)) (c : CollectionChange)
    (h : ∀ ps, mask = some ps → NonNil ps ∧ Clean ps) :
    c.filter mask = some { c with newValue := projectOpt mask c.newValue, oldValue := projectOpt mask c.oldValue } := by
  rw [collectionChange_filter_eq, read_eq_projectMask h, projectOpt_eq_map]
  rfl

/-- Filtering a change never panics, for any mask (valid or not). -/
theorem C06_change_filter_no_panic (mask : Option (List Path)) (v : ValueChange) (c : CollectionChange) :
    v.filter mask ≠ none ∧ c.filter mask ≠ none := by
  rw [valueChange_filter_eq, collectionChange_filter_eq]
  exact ⟨Option.some_ne_none _, Option.some_ne_none _⟩

/-- Without a mask the change is delivered as it is. -/
theorem C06_change_filter_nil_mask (v : ValueChange) (c : CollectionChange) :
    v.filter none = some v ∧ c.filter none = some c := by
  rw [C06_value_change_filter none v proper_none, C06_collection_change_filter none c proper_none]
  simp only [projectOpt_nil_mask, and_self]

/-- a REMOVE: the old value is projected, the absent new value stays absent -/
example : (CollectionChange.filter (some [["f", "c"]])
      ⟨"x", 7, .remove, some exMsg, none, false, false⟩)
    = some ⟨"x", 7, .remove, some (.cons "f" (.msg (.cons "c" (.sc "i1") .nil)) .nil), none, false, false⟩ := by decide +kernel

end ScVerif.C06
