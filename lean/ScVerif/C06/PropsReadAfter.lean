import ScVerif.C06.HeldLemmas
import ScVerif.C06.ChangeLemmas
/-!
# C06 — reads that come after writes show what is stored THEN, whatever the clock showed

Model: `ScVerif/C06/ReadAfter.lean` (`Value.Get` / `Collection.Get` at any point of a schedule of write
halves of `VSched.lean` / `Sched.lean`).  The specifications are a plain register and a plain map from
ids to messages that know nothing of change times, clocks, parked writers or publications.  The clock may
stand still (`tick := 0`) and the `Set`s may carry equal time stamps (`WithWriteTime`).
-/
namespace ScVerif.C06
open ScVerif.C05

/-- A masked `Value.Get` after any schedule of `Set` halves returns the projection of the message written
LAST — also when that writer has not published yet, and whatever time stamps the writes carried. -/
theorem C06_value_get_after_writes (rr : ReadRequest) (w0 : VWorld) (steps : List VStep)
    (h : Proper rr.readMask) :
    vgetAfter rr w0 steps = some ((heldAfter w0.value steps).map (projectMask rr.readMask)) := by
  rw [vgetAfter_eq, filterCloneOpt_eq, read_eq_projectMask h]

/-- Schedules that differ only in the time stamps of their writes answer every `Value.Get` alike: for
every mask, proper or not. -/
theorem C06_value_get_ignores_times (rr : ReadRequest) (w0 w1 : VWorld) (s0 s1 : List VStep)
    (hv : w0.value = w1.value) (hs : s0.map VStep.untimed = s1.map VStep.untimed) :
    vgetAfter rr w0 s0 = vgetAfter rr w1 s1 := by
  rw [vgetAfter_eq, vgetAfter_eq, ← heldAfter_untimed s0, ← heldAfter_untimed s1, hv, hs]

/-- Why a read may not be answered from a projection remembered
under (mask, change time): two writes with the same time stamp leave the value with the change time it
had after the first one, yet the masked `Get` must answer differently. -/
theorem C06_change_time_is_not_a_version :
    ∃ (rr : ReadRequest) (m1 m2 : Fields) (t : Int),
      (vrun {} [.set m1 t]).1.changeTime = (vrun {} [.set m1 t, .publish 0, .set m2 t]).1.changeTime
        ∧ vgetAfter rr {} [.set m1 t] ≠ vgetAfter rr {} [.set m1 t, .publish 0, .set m2 t] :=
  ⟨⟨some [["g"]], false, false, none⟩, .cons "g" (.sc "i1") .nil, .cons "g" (.sc "i2") .nil, 7, by decide +kernel⟩

/-- A masked `Collection.Get(id)` after any schedule of write halves returns the projection of what a plain
map holds for the id after the same writes — `(nil, false)` exactly when the map holds nothing. -/
theorem C06_collection_get_after_writes (rr : ReadRequest) (w0 : World) (steps : List Step) (id : String)
    (h : Proper rr.readMask) :
    getAfter rr w0 steps id
      = some ((heldRun (bodyOf w0.store) steps id).map (projectMask rr.readMask)) := by
  rw [getAfter_eq, filterCloneOpt_eq, read_eq_projectMask h]

/-- Collections that hold the same messages under the same ids answer every `Get` after the same writes
alike, whatever their clocks, item change times and parked writers: for every mask. -/
theorem C06_collection_get_ignores_the_clock (rr : ReadRequest) (w0 w1 : World) (steps : List Step) (id : String)
    (hb : bodyOf w0.store = bodyOf w1.store) :
    getAfter rr w0 steps id = getAfter rr w1 steps id := by
  rw [getAfter_eq, getAfter_eq, hb]

/-- a frozen clock: both items and the change carry time 0, the masked Get shows the second write -/
example : getAfter ⟨some [["g"]], false, false, none⟩ { tick := 0 }
      [.add "x" (.cons "g" (.sc "i1") (.cons "h" (.sc "i9") .nil)), .publish 0, .update "x" (.cons "g" (.sc "i2") .nil)] "x"
    = some (some (.cons "g" (.sc "i2") .nil)) := by
  decide +kernel

example : (run { tick := 0 } [.add "x" .nil, .publish 0, .update "x" .nil, .publish 0]).2.map (·.changeTime) = [0, 0] := by
  decide +kernel

/-- an absent id, a deleted id -/
example : getAfter {} {} [.add "x" .nil, .delete "x"] "x" = some none ∧ getAfter {} {} [] "q" = some none := by
  decide +kernel

/-- two different worlds (clock, tick, item times) with the same bodies -/
example : bodyOf ({ store := [⟨"x", .nil, 5⟩], clock := 9, tick := 0 } : World).store
    = bodyOf ({ store := [⟨"x", .nil, 1⟩] } : World).store := by
  funext i; simp [bodyOf, lookup_cons, lookup_nil]

/-- the register with a parked writer: the Get already shows its value -/
example : vgetAfter {} { value := some .nil } [.set (.cons "g" (.sc "i1") .nil) 3]
    = some (some (.cons "g" (.sc "i1") .nil)) := by
  decide +kernel

end ScVerif.C06
