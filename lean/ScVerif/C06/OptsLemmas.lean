import ScVerif.C06.Opts
/- The option fold of `Opts.lean`, one field of the request at a time (`applyAll_field`). -/
namespace ScVerif.C06
open ScVerif.C05

theorem lastMask_eq_lastOf : ∀ opts : List ReadOpt, lastMask opts = lastOf ReadOpt.mask? opts
  | [] => rfl
  | o :: rest => by
    rw [lastMask, lastOf, lastMask_eq_lastOf rest]
    cases lastOf ReadOpt.mask? rest <;> rfl

theorem lastOf_eq_none {α : Type} {sel : ReadOpt → Option α} :
    ∀ {opts : List ReadOpt}, (∀ x ∈ opts, sel x = none) → lastOf sel opts = none
  | [], _ => rfl
  | x :: xs, h => by
    rw [lastOf, lastOf_eq_none (fun y hy => h y (List.mem_cons_of_mem _ hy))]
    exact h x (List.mem_cons_self ..)

theorem lastOf_append_cons {α : Type} {sel : ReadOpt → Option α} {o : ReadOpt} {a : α}
    (ho : sel o = some a) {post : List ReadOpt} (hpost : ∀ x ∈ post, sel x = none) :
    ∀ pre : List ReadOpt, lastOf sel (pre ++ o :: post) = some a
  | [] => by rw [List.nil_append, lastOf, lastOf_eq_none hpost]; exact ho
  | x :: xs => by rw [List.cons_append, lastOf, lastOf_append_cons ho hpost xs]

/-- The fold of `ComputeReadConfig`, one field of the request at a time: if every option either sets
the field (`sel o = some a`) or leaves it alone, the field ends up as the right-most setting says. -/
theorem applyAll_field {α : Type} (get : ReadRequest → α) (sel : ReadOpt → Option α)
    (h : ∀ o rr, get (o.apply rr) = (sel o).getD (get rr)) :
    ∀ (opts : List ReadOpt) (rr : ReadRequest), get (applyAll rr opts) = (lastOf sel opts).getD (get rr)
  | [], _ => rfl
  | o :: rest, rr => by
    have ih : get (applyAll (o.apply rr) rest) = _ := applyAll_field get sel h rest (o.apply rr)
    rw [show applyAll rr (o :: rest) = applyAll (o.apply rr) rest from rfl, ih, h, lastOf]
    cases lastOf sel rest <;> rfl

theorem applyAll_readMask (opts : List ReadOpt) (rr : ReadRequest) :
    (applyAll rr opts).readMask = (lastMask opts).getD rr.readMask := by
  rw [lastMask_eq_lastOf]
  exact applyAll_field (·.readMask) _ (fun o _ => by cases o <;> rfl) opts rr

theorem applyAll_incl : ∀ (opts : List ReadOpt) (rr : ReadRequest),
    (applyAll rr opts).incl = (lastOf ReadOpt.incl? opts).getD rr.incl :=
  applyAll_field (·.incl) _ (fun o _ => by cases o <;> rfl)

theorem applyAll_updatesOnly : ∀ (opts : List ReadOpt) (rr : ReadRequest),
    (applyAll rr opts).updatesOnly = (lastOf ReadOpt.updatesOnly? opts).getD rr.updatesOnly :=
  applyAll_field (·.updatesOnly) _ (fun o _ => by cases o <;> rfl)

theorem applyAll_backpressure : ∀ (opts : List ReadOpt) (rr : ReadRequest),
    (applyAll rr opts).backpressure = (lastOf ReadOpt.backpressure? opts).getD rr.backpressure :=
  applyAll_field (·.backpressure) _ (fun o _ => by cases o <;> rfl)

theorem effectiveMask_append_mask (pre post : List ReadOpt) (o : ReadOpt) (m : Option (List Path))
    (ho : o.mask? = some m) (hpost : ∀ x ∈ post, x.mask? = none) :
    effectiveMask (pre ++ o :: post) = m := by
  rw [effectiveMask, lastMask_eq_lastOf, lastOf_append_cons ho hpost pre]
  rfl

theorem ReadOpt.other_kinds_of_mask {o : ReadOpt} (h : o.mask? ≠ none ∨ o = .empty) :
    o.updatesOnly? = none ∧ o.backpressure? = none ∧ o.incl? = none := by
  cases o with
  | readMask _ | readPaths _ | empty => exact ⟨rfl, rfl, rfl⟩
  | updatesOnly _ | backpressure _ | incl _ => exact (h.elim (fun h => absurd rfl h) ReadOpt.noConfusion)

theorem computeReadConfig_of_builds {S : Schema} {ty : Nat} {opts : List ReadOpt}
    (hb : opts.all (ReadOpt.builds S ty) = true) : computeReadConfig S ty opts = some (applyAll {} opts) :=
  if_pos hb

theorem computeReadConfig_eq_none_iff {S : Schema} {ty : Nat} {opts : List ReadOpt} :
    computeReadConfig S ty opts = none ↔ opts.all (ReadOpt.builds S ty) = false := by
  unfold computeReadConfig
  cases opts.all (ReadOpt.builds S ty) <;> simp

theorem computeReadConfig_some {S : Schema} {ty : Nat} {opts : List ReadOpt} {rr : ReadRequest}
    (h : computeReadConfig S ty opts = some rr) : rr = applyAll {} opts := by
  cases hb : opts.all (ReadOpt.builds S ty) with
  | true => exact (Option.some.inj ((computeReadConfig_of_builds hb).symm.trans h)).symm
  | false => rw [computeReadConfig_eq_none_iff.mpr hb] at h; cases h

theorem newResponseFilter_single (m : Option (List Path)) : newResponseFilter [m] = m := by
  cases m <;> rfl

theorem responseFilter_eq (rr : ReadRequest) : rr.responseFilter = rr.readMask :=
  newResponseFilter_single _

end ScVerif.C06
