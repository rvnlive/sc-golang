import ScVerif.C06.HeldLemmas
import ScVerif.C06.SchedLemmas
import ScVerif.C06.PropsColl
import ScVerif.C06.PropsValue
/-!
# C06 — masked subscriptions under EVERY interleaving of writers' commits and publications

Model: `ScVerif/C06/Sched.lean` (`Collection.Update/Add` = store under the lock, then `bus.Send`
after the lock was released; `Delete` = both under the lock; a subscription opens at an arbitrary
point of the schedule, finds the store of that moment and receives everything published later —
also the changes of writers that stored before it opened, in whatever order they get to `bus.Send`),
`ScVerif/C06/SchedChain.lean` (writes whose two halves are adjacent) and `ScVerif/C06/VSched.lean` (the same
two halves of `Value.Set`).
-/
namespace ScVerif.C06
open ScVerif.C05

/-- Whatever writers did before the subscription opened and do afterwards — stored but not yet published,
published in another order than stored, deleted in between —, the new AND the old value of every change
the masked `Pull` is sent are projections of that change's own values, never of anything sent before. -/
theorem C06_sched_pull_commutes (I : Nat → Pred) (rr : ReadRequest) (w0 : World) (pre post : List Step)
    (h : Proper rr.readMask) :
    session I rr none w0 pre post
      = (session I { rr with readMask := none } none w0 pre post).map (List.map (projectChange rr.readMask)) :=
  C06_pull_stream_commutes I rr _ _ h

/-- The same for every `PullID` stream. -/
theorem C06_sched_pullid_commutes (I : Nat → Pred) (rr : ReadRequest) (w0 : World) (pre post : List Step)
    (id : String) (h : Proper rr.readMask) :
    sessionID I rr none w0 pre post id
      = (sessionID I { rr with readMask := none } none w0 pre post id).map
          (List.map (projectValueChange rr.readMask)) :=
  C06_pullid_commutes I rr _ _ id h

/-- Each value a masked subscriber is handed — seed, new value, old value — is the projection of a message
that the collection held or a writer wrote (`P`: any property of messages that holds of everything in the
initial world and of every message written; take `P u := u ∈ …`). -/
theorem C06_sched_delivered_values_were_stored (P : Fields → Prop) (I : Nat → Pred) (rr : ReadRequest)
    (eq : Equiv) (w0 : World) (pre post : List Step) (h : Proper rr.readMask) (hw : w0.All P)
    (hs : ∀ s ∈ pre ++ post, ∀ m, s.msg? = some m → P m)
    (ds : List CollectionChange) (hd : session I rr eq w0 pre post = some ds) :
    ∀ d ∈ ds, d.All (fun v => ∃ u, P u ∧ v = projectMask rr.readMask u) := by
  obtain ⟨h1, h2⟩ := session_all P w0 pre post hw hs
  exact read_eq_projectMask h ▸ pullStream_all P I rr eq _ _ h1 h2 ds hd

/-- Why the old value must be projected from the change itself: a subscription that opens while a writer is
parked between its commit and its publication is seeded with the value the writer stored and is then sent
that writer's change — whose old value is NOT what the subscriber was sent last for that id. -/
theorem C06_sched_changes_need_not_chain :
    ∃ (w0 : World) (pre post : List Step) (seed chg : CollectionChange),
      session (fun _ => fun _ _ => true) ⟨some [["f"]], false, true, none⟩ none w0 pre post = some [seed, chg]
        ∧ seed.id = chg.id ∧ chg.changeType = .update ∧ chg.newValue = seed.newValue
        ∧ chg.oldValue ≠ seed.newValue :=
  ⟨{ store := [⟨"x", exMsg, 0⟩] }, [.update "x" (.cons "f" (.msg (.cons "c" (.sc "i2") .nil)) .nil)], [.publish 0],
    ⟨"x", 1, .add, none, some (.cons "f" (.msg (.cons "c" (.sc "i2") .nil)) .nil), true, true⟩,
    ⟨"x", 2, .update, some (.cons "f" (.msg (.cons "c" (.sc "i1") (.cons "d" (.sc "i2") .nil))) .nil),
      some (.cons "f" (.msg (.cons "c" (.sc "i2") .nil)) .nil), false, false⟩,
    by decide +kernel, by decide +kernel, by decide +kernel, by decide +kernel, by decide +kernel⟩

/-- …and when they do chain: no writer parked when the subscription opens, every later write publishing
before the next one stores (`Write.steps`; refused writes included).  Only then would taking the old value
from what was sent before be right. -/
theorem C06_sched_quiet_changes_chain (w0 : World) (pre : List Step) (ws : List Write)
    (hq : (run w0 pre).1.pending = []) :
    chains (bodyOf (run w0 pre).1.store) (run (run w0 pre).1 (ws.flatMap Write.steps)).2 := by
  generalize (run w0 pre).1 = w at hq ⊢
  induction ws generalizing w with
  | nil => trivial
  | cons a ws ih =>
    obtain ⟨h1, h3⟩ := write_chain w hq a
    rw [List.flatMap_cons, run_append]
    exact h3 _ (ih _ h1)

/-- Commutation (as `C06_sched_pull_commutes`) for `Value.Pull` under every interleaving of `Set` halves. -/
theorem C06_sched_value_pull_commutes (rr : ReadRequest) (w0 : VWorld) (pre post : List VStep) (h : Proper rr.readMask) :
    vsession rr none w0 pre post
      = (vsession { rr with readMask := none } none w0 pre post).map (List.map (projectValueChange rr.readMask)) := by
  have hc : projectValueChange rr.readMask ∘ projectValueChange none = projectValueChange rr.readMask :=
    funext fun c => congrArg _ (projectValueChange_nil_mask c)
  rw [vsession, vsession, C06_value_pull_projection rr _ _ h,
    C06_value_pull_projection { rr with readMask := none } _ _ proper_none, Option.map_some, List.map_map, hc]
  rfl

/-- A masked `Value.Pull` that opens while the only writer is parked, on a value with a reflexive
equivalence (`WithNoDuplicates`): the writer's change, published afterwards, is recognised as a duplicate of
what was SENT — the subscriber is not handed the same projection twice. -/
theorem C06_sched_value_pending_write_not_sent_twice (rr : ReadRequest) (cmp : Option Fields → Option Fields → Bool) (w : VWorld) (m : Fields) (t : Int)
    (h : Proper rr.readMask) (hrefl : ∀ x, cmp x x = true) (hu : rr.updatesOnly = false)
    (hv : w.value = some m) (hp : w.pending = [(m, t)]) :
    vsession rr (some cmp) w [] [.publish 0]
      = some [⟨some (projectMask rr.readMask m), w.changeTime, true, true⟩] := by
  unfold vsession
  rw [C06_value_pull_dedup rr cmp _ _ h]
  -- the value read at the opening is `m`, so the seed is `project m`; the one change published is `m` again,
  -- its projection is what was sent last, and `hrefl` drops it
  simp [vrun, vstep, hp, VWorld.cur, hv, hu, dedupSpec, projectValueChange_some, hrefl]

/-- two writers whose publications overtake each other: the subscriber (opened while both are parked)
is seeded with the last stored value and is then sent `v2 → v3` before `v1 → v2` -/
example : session (fun _ => fun _ _ => true) {} none { store := [⟨"x", .cons "g" (.sc "i1") .nil, 0⟩] }
      [.update "x" (.cons "g" (.sc "i2") .nil), .update "x" (.cons "g" (.sc "i3") .nil)] [.publish 1, .publish 0]
    = some [⟨"x", 2, .add, none, some (.cons "g" (.sc "i3") .nil), true, true⟩,
        ⟨"x", 3, .update, some (.cons "g" (.sc "i2") .nil), some (.cons "g" (.sc "i3") .nil), false, false⟩,
        ⟨"x", 4, .update, some (.cons "g" (.sc "i1") .nil), some (.cons "g" (.sc "i2") .nil), false, false⟩] := by
  decide +kernel

/-- an item deleted while its update is still unpublished: not among the seeds, the UPDATE arrives anyway -/
example : session (fun _ => fun _ _ => true) {} none { store := [⟨"x", .cons "g" (.sc "i1") .nil, 0⟩] }
      [.update "x" (.cons "g" (.sc "i2") .nil), .delete "x"] [.publish 0]
    = some [⟨"x", 3, .update, some (.cons "g" (.sc "i1") .nil), some (.cons "g" (.sc "i2") .nil), false, false⟩] := by
  decide +kernel

/-- the hypothesis of `C06_sched_quiet_changes_chain` is reachable with a non-trivial chain: add, update,
delete, add again — four changes, each old value = what was held -/
example : (run {} []).1.pending = []
    ∧ (run {} ([Write.add "x" exMsg, .update "x" .nil, .delete "x", .add "x" exMsg].flatMap Write.steps)).2.length = 4 := by
  decide +kernel

/-- the hypotheses of `C06_sched_value_pending_write_not_sent_twice` are reachable: one `Set` parked -/
example : (vrun {} [.set exMsg 5]).1.value = some exMsg ∧ (vrun {} [.set exMsg 5]).1.pending = [(exMsg, 5)] := by
  decide +kernel

end ScVerif.C06
