/-! Order facts about `Rat` that core does not provide. -/
namespace ScVerif.C16

theorem le_max_of {a b c : Rat} (h : a ≤ b ∨ a ≤ c) : a ≤ max b c := by
  rw [Rat.max_def]
  split
  · exact h.elim (fun h => Rat.le_trans h ‹b ≤ c›) id
  · exact h.elim id (fun h => Rat.le_trans h (Rat.le_of_lt (Rat.not_le.mp ‹¬ b ≤ c›)))

theorem min_comm' (p q : Rat) : min p q = min q p := by grind

theorem div_nonneg' (a u : Rat) (ha : 0 ≤ a) (hu : 0 < u) : 0 ≤ a / u := by
  rw [Rat.div_def]
  exact Rat.mul_nonneg ha (Rat.le_of_lt (Rat.inv_pos.mpr hu))

theorem num_pos' (a : Rat) (ha : 0 < a) : 0 < a.num := by
  have h1 : 0 ≤ a.num := Rat.num_nonneg.mpr (Rat.le_of_lt ha)
  have h2 : a.num ≠ 0 := fun h => by
    have := Rat.num_eq_zero.mp h
    grind
  omega

theorem div_le_of_le_mul {a c u : Rat} (hu : 0 < u) (h : a ≤ c * u) : a / u ≤ c :=
  Rat.le_of_mul_le_mul_right (by rwa [Rat.div_mul_cancel (fun e => Rat.lt_irrefl (e ▸ hu))]) hu

theorem le_div_of_mul_le {a c u : Rat} (hu : 0 < u) (h : c * u ≤ a) : c ≤ a / u :=
  Rat.le_of_mul_le_mul_right (by rwa [Rat.div_mul_cancel (fun e => Rat.lt_irrefl (e ▸ hu))]) hu

theorem div_le_div_right' (a b u : Rat) (h : a ≤ b) (hu : 0 < u) : a / u ≤ b / u := by
  rw [Rat.div_def, Rat.div_def]
  exact Rat.mul_le_mul_of_nonneg_right h (Rat.le_of_lt (Rat.inv_pos.mpr hu))

end ScVerif.C16
