import ScVerif.C16.LogicLemmas
import ScVerif.C16.PullLemmas
import ScVerif.C16.ToleranceLemmas
import ScVerif.C16.Shells
/-!
# C16 — property theorems

Property (fixed text): "The default message comparer agrees with protobuf equality on every pair of
messages (same or different types, unset versus default, NaN, maps, lists, unknown fields, nil), except
that it ignores change_time inside Change messages; tolerance comparers for floats, timestamps and
durations are reflexive and symmetric, accept exactly the pairs within the stated tolerance, and only
affect fields of their own kind, and And/Or combine comparers as conjunction and disjunction. A resource
configured with an equivalence never delivers a change whose value is equivalent to the one the
subscriber already holds for it, and never suppresses a non-equivalent one."
-/
namespace ScVerif.C16

/-- Over exact arithmetic; float values are always claimed. -/
theorem C16_float_approx (fr mg x y : Rat) (a b c d : Bool) :
    floatValueApprox (.fin fr a) (.fin mg b) (.sc (.float (.fin x c))) (.sc (.float (.fin y d))) =
      (decide ((x - y).abs ≤ max mg (fr * min x.abs y.abs)), true) := by
  rw [floatValueApprox_eq, floatCmp_fin, floatApproxF_fin]

/-- `FloatValueApprox(fraction, margin)` answers alike in both argument orders on all float values, NaN and infinities
included. -/
theorem C16_float_approx_symm (fr mg : Rat) (a b : Bool) (fx fy : F) :
    floatValueApprox (.fin fr a) (.fin mg b) (.sc (.float fx)) (.sc (.float fy)) =
    floatValueApprox (.fin fr a) (.fin mg b) (.sc (.float fy)) (.sc (.float fx)) :=
  floatCmp_symm _ (fun p _ q _ => by rw [floatApproxF_fin, floatApproxF_fin, Rat.abs_sub_comm, min_comm']) fx fy

/-- It accepts every float value against itself, NaN and infinities included, when the margin or the fraction is
non-negative. -/
theorem C16_float_approx_refl (fr mg : Rat) (a b : Bool) (fx : F) (h : 0 ≤ mg ∨ 0 ≤ fr) :
    floatValueApprox (.fin fr a) (.fin mg b) (.sc (.float fx)) (.sc (.float fx)) = (true, true) :=
  floatCmp_refl _ fx fun q z e => by
    rw [e, floatApproxF_fin, Rat.sub_self, Rat.abs_zero, Std.min_self,
      decide_eq_true (le_max_of (h.imp id fun h => Rat.mul_nonneg h Rat.abs_nonneg))]

/-- NaN is within tolerance of NaN only, an infinity of itself only, whatever the tolerance. -/
theorem C16_float_approx_nonfinite (fr mg : F) (fx fy : F) (h : fx.isFinite = false ∨ fy.isFinite = false) :
    floatValueApprox fr mg (.sc (.float fx)) (.sc (.float fy)) = (decide (fx = fy ∧ fx.isFinite = false), true) :=
  floatCmp_nonfinite _ fx fy h

/-- The tolerance is below the maximal Duration, or the instants are less than 2^63 ns apart: `Time.Sub` saturates. -/
theorem C16_time_within (d : Int) (fx fy : Fields) (ux uy : Unk)
    (h : d < maxI64 ∨ (toTimeNs fx - toTimeNs fy ≤ maxI64 ∧ toTimeNs fy - toTimeNs fx ≤ maxI64)) :
    timeValueWithin d (.msg tsName true fx ux) (.msg tsName true fy uy) =
      (decide (toTimeNs fx - toTimeNs fy ≤ d ∧ toTimeNs fy - toTimeNs fx ≤ d), true) := by
  rw [timeValueWithin_eq, typedCmp_valid,
    Bool.eq_iff_iff.mpr ((timeWithinT_iff d _ _ h).trans decide_eq_true_iff.symm)]

/-- The hypothesis of `C16_time_within` is needed only at the extreme: instants more than 2^63 ns apart are
"within" the maximal Duration because `Time.Sub` saturates. -/
example : timeWithinT maxI64 (10000000000 * 1000000000) (-(10000000000 * 1000000000)) = true := by decide
/-- … and every ordinary tolerance satisfies it. -/
example : (5 : Int) < maxI64 := by decide

/-- No overflow hypothesis: the subtraction's wrap-around is detected. -/
theorem C16_duration_within (d : Int) (hd : d ≤ maxI64) (fx fy : Fields) (ux uy : Unk) :
    durationValueWithin d (.msg durName true fx ux) (.msg durName true fy uy) =
      (decide (toDurationNs fx - toDurationNs fy ≤ d ∧ toDurationNs fy - toDurationNs fx ≤ d), true) := by
  have hx := toDurationNs_range fx
  have hy := toDurationNs_range fy
  rw [durationValueWithin_eq, typedCmp_valid,
    Bool.eq_iff_iff.mpr ((durWithinD_iff d _ _ hx.1 hx.2 hy.1 hy.2 hd).trans decide_eq_true_iff.symm)]

/-- The arithmetic of `TimeValueWithin` and `DurationValueWithin` on two instants / durations is symmetric, and reflexive for
`d ≥ 0`. -/
theorem C16_within_symm_refl (d xt yt : Int) :
    timeWithinT d xt yt = timeWithinT d yt xt ∧ durWithinD d xt yt = durWithinD d yt xt ∧
    (0 ≤ d → timeWithinT d xt xt = true ∧ durWithinD d xt xt = true) := by
  refine ⟨timeWithinT_symm d xt yt, durWithinD_symm d xt yt, ?_⟩
  · intro hd
    constructor
    · unfold timeWithinT timeSub sat64 maxI64 minI64
      simp; omega
    · unfold durWithinD wrap64
      simp; omega

/-- On anything but its own kind a tolerance comparer answers `ok = false`, so the default comparison decides. -/
theorem C16_own_kind_only (fr mg p : F) (d : Int) (x y : Val) :
    ((∀ fx, x ≠ .sc (.float fx)) → (floatValueApprox fr mg x y).2 = false) ∧
    (x.typeName ≠ tsName → y.typeName ≠ tsName → (timeValueWithin d x y).2 = false) ∧
    (x.typeName ≠ durName → y.typeName ≠ durName →
      (durationValueWithin d x y).2 = false ∧ (durationValueWithinP p x y).2 = false) :=
  ⟨floatCmp_other _ x y, typedCmp_other _ _ _ x y,
   fun hx hy => ⟨durationValueWithin_eq d ▸ typedCmp_other _ _ _ x y hx hy,
                 durationValueWithinP_eq p ▸ typedCmp_other _ _ _ x y hx hy⟩⟩

/-- The time comparers read a Timestamp / Duration through its fields number 1 (seconds) and 2 (nanos) only, whatever
else differs (other populated fields, unknown fields; the Go representation is not part of a message tree at all).
This is what `toTime` / `toDuration` do for a value that is not of the generated Go type: seconds and nanos by field
number, then the same `AsTime` / `AsDuration`
(the neighbour runs of the pull tie use such messages). -/
theorem C16_time_comparers_read_seconds_nanos (t : String) (v : Bool) (fx fx' : Fields) (ux ux' : Unk) (y : Val)
    (h1 : intField fx 1 = intField fx' 1) (h2 : intField fx 2 = intField fx' 2) (d : Int) (p : F) :
    timeValueWithin d (.msg t v fx ux) y = timeValueWithin d (.msg t v fx' ux') y ∧
    timeValueWithin d y (.msg t v fx ux) = timeValueWithin d y (.msg t v fx' ux') ∧
    durationValueWithin d (.msg t v fx ux) y = durationValueWithin d (.msg t v fx' ux') y ∧
    durationValueWithin d y (.msg t v fx ux) = durationValueWithin d y (.msg t v fx' ux') ∧
    durationValueWithinP p (.msg t v fx ux) y = durationValueWithinP p (.msg t v fx' ux') y ∧
    durationValueWithinP p y (.msg t v fx ux) = durationValueWithinP p y (.msg t v fx' ux') := by
  have ht : toTimeNs fx = toTimeNs fx' := by simp only [toTimeNs, h1, h2]
  have hd : toDurationNs fx = toDurationNs fx' := by simp only [toDurationNs, h1, h2]
  have tc := fun name conv f h => typedCmp_congr name conv f t v fx fx' ux ux' h y
  rw [timeValueWithin_eq, durationValueWithin_eq, durationValueWithinP_eq]
  exact ⟨(tc _ _ _ ht).1, (tc _ _ _ ht).2, (tc _ _ _ hd).1, (tc _ _ _ hd).2, (tc _ _ _ hd).1, (tc _ _ _ hd).2⟩

/-- Where no comparer of the list claims a pair, `Equal(cs...)` compares it exactly like `Equal()`. -/
theorem C16_unclaimed_is_default (cs : List VCmp) (x y : Val) (h : ∀ c ∈ cs, (c x y).2 = false) :
    (valueAnd cs x y).2 = false := by
  rw [← Bool.not_eq_true, valueAnd_eq, claimers_isEmpty]
  rintro ⟨c, hc, h2⟩
  rw [h c hc] at h2
  cases h2

/-- Full strength, over exact arithmetic: "within p percent of each other" is `100·|x − y| ≤ p·min(|x|, |y|)`, for all int64
durations; symmetric for every p, NaN and ±Inf included. -/
theorem C16_durationP (p : Rat) (z : Bool) (xd yd : Int) :
    (durWithinPD (.fin p z) xd yd = true ↔ ((xd : Rat) - (yd : Rat)).abs * 100 ≤ p * minAbs xd yd) ∧
    (∀ q : F, durWithinPD q xd yd = durWithinPD q yd xd) ∧
    (0 ≤ p → durWithinPD (.fin p z) xd xd = true) :=
  ⟨durWithinPD_iff p z xd yd, fun q => durWithinPD_symm q xd yd, fun hp => durWithinPD_refl p z hp xd⟩

/-- On two valid Durations `DurationValueWithinP(p)` is the arithmetic of `C16_durationP` on `AsDuration()` of each. -/
theorem C16_durationP_comparer (p : F) (fx fy : Fields) (ux uy : Unk) :
    durationValueWithinP p (.msg durName true fx ux) (.msg durName true fy uy) =
      (durWithinPD p (toDurationNs fx) (toDurationNs fy), true) := by
  rw [durationValueWithinP_eq, typedCmp_valid]

/-- Non-vacuity: 4ns and 5ns are within 25 percent of each other, in both orders, and not within 12.5;
a duration is within every non-negative percentage of itself, however small (4ns vs 4ns, p = 1/8). -/
example : durWithinPD (.fin 25 false) 4 5 = true ∧ durWithinPD (.fin 25 false) 5 4 = true ∧
    durWithinPD (.fin (25/2) false) 4 5 = false ∧ durWithinPD (.fin (1/8) false) 4 4 = true := by
  decide +kernel

/-- `And` is conjunction, `Or` disjunction, over arbitrary message comparers (the empty `And` accepts, the empty `Or`
rejects). -/
theorem C16_and_or (eqs : List MCmp) (x y : Top) :
    (mAnd eqs x y = true ↔ ∀ e ∈ eqs, e x y = true) ∧
    (mOr eqs x y = true ↔ ∃ e ∈ eqs, e x y = true) := by
  simp [mAnd, mOr, mAnd_go_eq, mOr_go_eq]

/-- `ok` iff some comparer claims the pair; `equal` is the conjunction / disjunction over the claiming comparers (so
`true` / `false` when none claims it). -/
theorem C16_value_and_or (eqs : List VCmp) (x y : Val) :
    ((valueAnd eqs x y).2 = true ↔ ∃ e ∈ eqs, (e x y).2 = true) ∧
    ((valueAnd eqs x y).1 = true ↔ ∀ e ∈ eqs, (e x y).2 = true → (e x y).1 = true) ∧
    ((valueOr eqs x y).2 = true ↔ ∃ e ∈ eqs, (e x y).2 = true) ∧
    ((valueOr eqs x y).1 = true ↔ ∃ e ∈ eqs, (e x y).2 = true ∧ (e x y).1 = true) := by
  rw [valueAnd_eq, valueOr_eq]
  exact ⟨claimers_isEmpty eqs x y, by simp only [List.all_eq_true, mem_claimers, and_imp],
    claimers_isEmpty eqs x y, by simp only [List.any_eq_true, mem_claimers, and_assoc]⟩

/-- `Value.Pull` with any function E and any response filter: the seed is sent; then an event is delivered iff its
filtered value is not E-equivalent to what the subscriber holds at that moment, the value of the last change delivered
to it.  The decisions follow the events one to one.  `cur = none` is `WithUpdatesOnly` (`onUpdate` hands back no current
value): no seed, and `last` starts as nil. -/
theorem C16_no_dup_delivery (E : MCmp) (flt : Val → Val) (cur : Top) (events : List Val) :
    (valuePull (some E) flt cur events).map (·.value) = (cur.toList ++ events).map flt ∧
    (∀ v, cur = some v → (valuePull (some E) flt cur events).head? = some ⟨flt v, true⟩) ∧
    (∀ pre d post, valuePull (some E) flt cur events = pre ++ d :: post → (pre ≠ [] ∨ cur = none) →
      d.delivered = !E (heldAfter none pre) (some d.value)) := by
  cases cur with
  | none =>
    refine ⟨by simp [valuePull, valuePullLoop_values], by simp, ?_⟩
    intro pre d post h _
    exact valuePullLoop_decision E flt pre events none d post h
  | some v =>
    refine ⟨by simp [valuePull, valuePullLoop_values], by simp [valuePull], ?_⟩
    intro pre d post h hne
    cases pre with
    | nil => simp at hne
    | cons p pre =>
      simp only [valuePull, List.cons_append] at h
      injection h with h1 h2
      subst h1
      have := valuePullLoop_decision E flt pre events (some (flt v)) d post h2
      simpa [heldAfter] using this

/-- A Value without an equivalence forwards every event. -/
theorem C16_no_equivalence_delivers_all (flt : Val → Val) (cur : Top) (events : List Val) :
    ∀ d ∈ valuePull none flt cur events, d.delivered = true := by
  intro d hd
  cases cur with
  | none => exact valuePullLoop_none flt events none d hd
  | some v =>
    simp only [valuePull, List.mem_cons] at hd
    rcases hd with h | h
    · subst h; rfl
    · exact valuePullLoop_none flt events _ d h

/-- Without `WithInclude` the loop of `Collection.Pull` is the pointwise map of its step (the loop of the theorems below). -/
theorem C16_include_none (E : Option MCmp) (flt : Val → Val) (events : List CEvent) :
    collPullLoopI E flt none events = (collPullLoop E flt events).map some := by
  induction events with
  | nil => simp [collPullLoopI, collPullLoop]
  | cons ev rest ih =>
    simp only [collPullLoopI] at ih
    cases E <;> simp [collPullLoopI, collPullLoop, collPullStep, includeAdjust, ih]

/-- `Collection.Pull` decides each change by its OWN old and new value (after the filter). -/
theorem C16_no_dup_delivery_collection_local (E : MCmp) (flt : Val → Val) (events : List CEvent)
    (pre : List CDecision) (d : CDecision) (post : List CDecision)
    (h : collPullLoop (some E) flt events = pre ++ d :: post) :
    d.delivered = !E d.old d.new := by
  have hm : some d ∈ collPullLoopI (some E) flt none events :=
    C16_include_none .. ▸ h ▸ List.mem_map_of_mem (List.mem_append_right _ List.mem_cons_self)
  obtain ⟨ev, _, he⟩ := List.mem_map.1 hm
  cases he
  rfl

/-! Full-strength statement, FALSE on the current code for tolerance comparers (recorded finding): for the changes of one
id, a change is delivered iff its new value is not E-equivalent to the value the subscriber holds for that id. -/

/-- With an E that is not transitive (a tolerance: |a-b| ≤ 1 on an integer field) two small steps are both
suppressed although the subscriber's copy (0) is not equivalent to the final value (2). -/
theorem C16_no_dup_delivery_collection_fails :
    ∃ (E : MCmp) (events : List CEvent) (init : Top), Chain init events ∧
      ∃ pre d post, collPullLoop (some E) id events = pre ++ d :: post ∧
        d.delivered = false ∧ E (heldAfterC init pre) d.new = false := by
  let n : Top → Int := fun t => match t with
    | some (.sc (.int i)) => i
    | _ => 0
  let E : MCmp := fun a b => decide (n a - n b ≤ 1 ∧ n b - n a ≤ 1)
  let v : Int → Top := fun i => some (.sc (.int i))
  refine ⟨E, [⟨v 0, v 1⟩, ⟨v 1, v 2⟩], v 0, by simp [Chain, v], [⟨v 0, v 1, false⟩], ⟨v 1, v 2, false⟩, [], ?_, rfl, ?_⟩
  · rfl
  · rfl

/-- PARTIAL (extra hypothesis: E is an equivalence relation, as `Equal()` is): for the chain of changes of one id, from a
subscriber that holds the current value, a change is delivered iff its new value is not E-equivalent to what the
subscriber holds. -/
theorem C16_no_dup_delivery_collection_partial (E : MCmp) (flt : Val → Val)
    (hrefl : ∀ a, E a a = true) (hsymm : ∀ a b, E a b = E b a)
    (htrans : ∀ a b c, E a b = true → E b c = true → E a c = true)
    (init : Top) (events : List CEvent) (hc : Chain init events)
    (pre : List CDecision) (d : CDecision) (post : List CDecision)
    (h : collPullLoop (some E) flt events = pre ++ d :: post) :
    d.delivered = !E (heldAfterC (init.map flt) pre) d.new :=
  collPullLoop_decision_held E flt hrefl hsymm htrans pre events init (init.map flt) d post hc (hrefl _) h

/-- The hypothesis is satisfiable: equality of the integer payload is an equivalence relation. -/
example : ∃ E : MCmp, (∀ a, E a a = true) ∧ (∀ a b, E a b = E b a) ∧
    (∀ a b c, E a b = true → E b c = true → E a c = true) := by
  let n : Top → Int := fun t => match t with
    | some (.sc (.int i)) => i
    | _ => 0
  refine ⟨fun a b => decide (n a = n b), by simp, ?_, ?_⟩
  · intro a b; simp [eq_comm]
  · intro a b c; simp; intro h1 h2; rw [h1, h2]

/-- Include first, then the read-mask filter, then the equivalence, on the change as the subscriber sees it; E never
equates an absent value with a value (every `cmp.Equal(...)`: next theorem).  A write that moves the
item across the include boundary is ALWAYS delivered, as an ADD or a REMOVE, whatever E says of the stored values. -/
theorem C16_include_then_equivalence (E : MCmp) (flt : Val → Val) (f : Val → Bool) (ev : CEvent)
    (hnil : ∀ v, E none (some v) = false ∧ E (some v) none = false) :
    (visible f ev.old = false → visible f ev.new = false → collPullStep (some E) flt (some f) ev = none) ∧
    (visible f ev.old = false → visible f ev.new = true →
      collPullStep (some E) flt (some f) ev = some ⟨none, ev.new.map flt, true⟩) ∧
    (visible f ev.old = true → visible f ev.new = false →
      collPullStep (some E) flt (some f) ev = some ⟨ev.old.map flt, none, true⟩) ∧
    (visible f ev.old = true → visible f ev.new = true →
      collPullStep (some E) flt (some f) ev =
        some ⟨ev.old.map flt, ev.new.map flt, !E (ev.old.map flt) (ev.new.map flt)⟩) := by
  unfold collPullStep
  rw [includeAdjust_visible]
  refine ⟨fun ho hn => by rw [ho, hn]; rfl, fun ho hn => ?_, fun ho hn => ?_, fun ho hn => by rw [ho, hn]; rfl⟩
  -- at a crossing the visible end is a value, and `hnil` says the equivalence cannot suppress the ADD / REMOVE
  · obtain ⟨v, hv⟩ := visible_true hn
    rw [ho, hn, hv]
    show some (CDecision.mk none (some (flt v)) (!E none (some (flt v)))) = _
    rw [(hnil (flt v)).1]
    rfl
  · obtain ⟨v, hv⟩ := visible_true ho
    rw [ho, hn, hv]
    show some (CDecision.mk (some (flt v)) none (!E (some (flt v)) none)) = _
    rw [(hnil (flt v)).2]
    rfl

/-- The hypothesis of `C16_include_then_equivalence` holds for every `cmp.Equal(...)`: nil only equals nil. -/
theorem C16_equal_absent_never_equivalent (cs : List VCmp) (v : Val) :
    equal cs none (some v) = false ∧ equal cs (some v) none = false := by
  simp [equal, compare]

end ScVerif.C16
