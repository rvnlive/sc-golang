import ScVerif.C16.Float
import ScVerif.C16.Wire
/-!
# C16 — protobuf message trees (populated fields only)

A message is what `protoreflect.Message` exposes to `pkg/cmp`: its descriptor (full name), validity
(`IsValid`: false for a typed nil pointer), the populated fields that `Range` visits — each with its
field descriptor (number + name) and a singular value, list or map — and the unknown fields already
split into wire records `(field number, raw bytes)` — by the model of
`protowire.ConsumeField` in `Wire.lean` when the driver reads a message.

Strings and bytes are carried as the lower-case hex of their bytes (equality of hex = equality of bytes).
-/
namespace ScVerif.C16

inductive Scalar where
  | bool (b : Bool)
  | enum (n : Int)
  | int (i : Int)
  | uint (n : Nat)
  | float (f : F)
  | str (hex : String)
  | bytes (hex : String)
  deriving DecidableEq, Repr, Inhabited

/-- Field descriptor as far as `pkg/cmp` looks at it. -/
structure FD where
  num : Nat
  name : String
  deriving DecidableEq, Repr, Inhabited

/-- Unknown fields: wire records in order, `(field number, the record's raw bytes)`. -/
abbrev Unk := List (Nat × Bytes)

mutual
  inductive Val where
    | sc (s : Scalar)
    | msg (ty : String) (valid : Bool) (fs : Fields) (unk : Unk)
  inductive FVal where
    | one (v : Val)
    | list (vs : Vals)
    | map (es : Entries)
  inductive Fields where
    | nil
    | cons (fd : FD) (fv : FVal) (rest : Fields)
  inductive Vals where
    | nil
    | cons (v : Val) (rest : Vals)
  inductive Entries where
    | nil
    | cons (k : Scalar) (v : Val) (rest : Entries)
end

instance : Inhabited Val := ⟨.sc (.bool false)⟩
instance : Inhabited FVal := ⟨.one default⟩

/-- A top-level `proto.Message` argument: the nil interface, or a message (possibly a typed nil:
`valid = false`). -/
abbrev Top := Option Val

namespace Fields
def toList : Fields → List (FD × FVal)
  | .nil => []
  | .cons fd fv rest => (fd, fv) :: toList rest

def ofList : List (FD × FVal) → Fields
  | [] => .nil
  | (fd, fv) :: r => .cons fd fv (ofList r)

/-- `Has(fd)` + `Get(fd)`: the value of the first populated field with this descriptor. -/
def get? : Fields → FD → Option FVal
  | .nil, _ => none
  | .cons fd fv rest, k => if fd = k then some fv else get? rest k

/-- Number of populated fields (the two `Range` loops of `equalMessage` count the not ignored ones: `countFields`). -/
def count : Fields → Nat
  | .nil => 0
  | .cons _ _ rest => count rest + 1

def keys : Fields → List FD
  | .nil => []
  | .cons fd _ rest => fd :: keys rest
end Fields

namespace Vals
def toList : Vals → List Val
  | .nil => []
  | .cons v rest => v :: toList rest

def ofList : List Val → Vals
  | [] => .nil
  | v :: r => .cons v (ofList r)

def len : Vals → Nat
  | .nil => 0
  | .cons _ rest => len rest + 1
end Vals

namespace Entries
def ofList : List (Scalar × Val) → Entries
  | [] => .nil
  | (k, v) :: r => .cons k v (ofList r)

def get? : Entries → Scalar → Option Val
  | .nil, _ => none
  | .cons k v rest, q => if k = q then some v else get? rest q

def len : Entries → Nat
  | .nil => 0
  | .cons _ _ rest => len rest + 1

def keys : Entries → List Scalar
  | .nil => []
  | .cons k _ rest => k :: keys rest
end Entries

namespace Val
def isValid : Val → Bool
  | .msg _ v _ _ => v
  | .sc _ => true

def typeName : Val → String
  | .msg ty _ _ _ => ty
  | .sc _ => ""

def fields : Val → Fields
  | .msg _ _ fs _ => fs
  | .sc _ => .nil
end Val

/-- `Descriptor().Name()`: the part of the full name after the last dot. -/
def shortName (full : String) : String :=
  match (full.splitOn ".").getLast? with
  | some s => s
  | none => full

/-- Integer value of the singular int field `num` of a message (0 when not populated): the generated
getters `GetSeconds` / `GetNanos`. -/
def intField (fs : Fields) (num : Nat) : Int :=
  match fs.toList.find? (fun p => p.1.num == num) with
  | some (_, .one (.sc (.int i))) => i
  | _ => 0

/-! ## Well-formedness: what `Range` guarantees — each field / map key is visited once — and the unknown
fields of every message are records cut from raw bytes by the model of `protowire.ConsumeField`. -/
mutual
  def Val.WF : Val → Prop
    | .sc _ => True
    | .msg _ _ fs u => fs.keys.Nodup ∧ Fields.WF fs ∧ WireCut u
  def FVal.WF : FVal → Prop
    | .one v => Val.WF v
    | .list vs => Vals.WF vs
    | .map es => es.keys.Nodup ∧ Entries.WF es
  def Fields.WF : Fields → Prop
    | .nil => True
    | .cons _ fv rest => FVal.WF fv ∧ Fields.WF rest
  def Vals.WF : Vals → Prop
    | .nil => True
    | .cons v rest => Val.WF v ∧ Vals.WF rest
  def Entries.WF : Entries → Prop
    | .nil => True
    | .cons _ v rest => Val.WF v ∧ Entries.WF rest
end

end ScVerif.C16
