import ScVerif.C16.Rounded
import ScVerif.C16.RatLemmas
/-!
# C16 — facts about the executable binary64 rounding `rne64`

Monotone: `ilog2` really is `⌊log2⌋` (`ilog2_spec`, from the bit lengths of numerator and denominator), so the exponent
is monotone; within one binade round-half-even onto the integers is monotone (`rneInt_mono`); across binades a power of
two separates the rounded values (`rne64_le_pow2`, `pow2_le_rne64`).  Idempotent: every value is a binary64 number
`n·2^(E-52)` (`rne64_significand`), and those are fixed points (`rne64_fix`).  That `rne64` is what the hardware computes
is the binary64-rounding tie (checked on every run).
-/
namespace ScVerif.C16

theorem pow2_eq (e : Int) : pow2 e = (2 : Rat) ^ e := by
  unfold pow2
  split
  · rename_i h
    obtain ⟨n, rfl⟩ : ∃ n : Nat, e = (n : Int) := ⟨e.toNat, by omega⟩
    rw [Rat.zpow_natCast, Rat.natCast_pow]
    simp
  · rename_i h
    obtain ⟨n, rfl⟩ : ∃ n : Nat, e = -(n : Int) := ⟨(-e).toNat, by omega⟩
    rw [Rat.zpow_neg, Rat.zpow_natCast, Rat.natCast_pow, Rat.div_def]
    simp

theorem pow2_pos (e : Int) : 0 < pow2 e := by
  rw [pow2_eq]
  exact Rat.zpow_pos (by decide)

theorem pow2_ne_zero (e : Int) : pow2 e ≠ 0 := fun h => Rat.lt_irrefl (h ▸ pow2_pos e)

theorem pow2_add (a b : Int) : pow2 (a + b) = pow2 a * pow2 b := by
  rw [pow2_eq, pow2_eq, pow2_eq, Rat.zpow_add (by decide)]

theorem pow2_nat (k : Nat) : pow2 (k : Int) = ((2 ^ k : Nat) : Rat) := by
  unfold pow2
  simp

theorem one_le_pow2 (k : Nat) : 1 ≤ pow2 (k : Int) := by
  rw [pow2_nat]
  have : (1 : Nat) ≤ 2 ^ k := Nat.one_le_two_pow
  have := Rat.natCast_le_natCast.mpr this
  simpa using this

theorem pow2_mono (a b : Int) (h : a ≤ b) : pow2 a ≤ pow2 b := by
  have hb : b = a + ((b - a).toNat : Int) := by omega
  rw [hb, pow2_add]
  have h1 := one_le_pow2 (b - a).toNat
  have h2 := pow2_pos a
  have := Rat.mul_le_mul_of_nonneg_left h1 (Rat.le_of_lt h2)
  simpa using this

theorem pow2_succ (e : Int) : pow2 (e + 1) = pow2 e * 2 := by
  rw [pow2_add]
  have : pow2 1 = 2 := by decide +kernel
  rw [this]

theorem pow2_lt (a b : Int) (h : a < b) : pow2 a < pow2 b := by
  have h1 : pow2 (a + 1) ≤ pow2 b := pow2_mono _ _ (by omega)
  have h2 : pow2 (a + 1) = pow2 a * 2 := pow2_succ a
  have h3 := pow2_pos a
  grind

theorem lt_of_pow2_lt {a b : Int} (h : pow2 a < pow2 b) : a < b :=
  Int.not_le.mp fun hba => Rat.not_le.mpr h (pow2_mono b a hba)

/-- The binary64 grid of the binade `E`: spacing `2^(E-52)`, from `2^52` spacings (`= 2^E`) up to `2^53`. -/
theorem pow2_grid52 (E : Int) : ((2 ^ 52 : Int) : Rat) * pow2 (E - 52) = pow2 E := by
  have h52 : pow2 52 = ((2 ^ 52 : Int) : Rat) := by decide +kernel
  rw [← h52, ← pow2_add]
  congr 1
  omega

theorem pow2_grid53 (E : Int) : ((2 ^ 53 : Int) : Rat) * pow2 (E - 52) = pow2 (E + 1) := by
  have h53 : pow2 53 = ((2 ^ 53 : Int) : Rat) := by decide +kernel
  rw [← h53, ← pow2_add]
  congr 1
  omega

theorem rneInt_cases (k : Rat) :
    (rneInt k = k.floor ∧ k - (k.floor : Rat) ≤ 1 / 2 ∧ (k - (k.floor : Rat) = 1 / 2 → k.floor % 2 = 0)) ∨
    (rneInt k = k.floor + 1 ∧ 1 / 2 ≤ k - (k.floor : Rat) ∧ (k - (k.floor : Rat) = 1 / 2 → k.floor % 2 ≠ 0)) := by
  unfold rneInt
  simp only []
  split
  · rename_i h
    exact Or.inl ⟨rfl, Rat.le_of_lt h, fun e => absurd (e ▸ h) Rat.lt_irrefl⟩
  · split
    · rename_i h
      exact Or.inr ⟨rfl, Rat.le_of_lt h, fun e => absurd (e ▸ h) Rat.lt_irrefl⟩
    · rename_i h1 h2
      split
      · exact Or.inl ⟨rfl, Rat.not_lt.mp h2, fun _ => ‹_›⟩
      · exact Or.inr ⟨rfl, Rat.not_lt.mp h1, fun _ => ‹_›⟩

theorem floor_le_rneInt (k : Rat) : k.floor ≤ rneInt k := by
  rcases rneInt_cases k with ⟨e, _⟩ | ⟨e, _⟩ <;> omega

theorem rneInt_le_floor_succ (k : Rat) : rneInt k ≤ k.floor + 1 := by
  rcases rneInt_cases k with ⟨e, _⟩ | ⟨e, _⟩ <;> omega

theorem rneInt_nonneg (k : Rat) (hk : 0 ≤ k) : 0 ≤ rneInt k :=
  Int.le_trans (Rat.le_floor_iff.mpr (by simpa using hk)) (floor_le_rneInt k)

/-- Between two integers round-half-even steps up once, at one half. -/
theorem rneInt_mono (k1 k2 : Rat) (h : k1 ≤ k2) : rneInt k1 ≤ rneInt k2 := by
  have hf := Rat.floor_monotone h
  have lo := floor_le_rneInt k2
  have hi := rneInt_le_floor_succ k1
  by_cases hlt : k1.floor < k2.floor
  · omega
  · have he : k1.floor = k2.floor := by omega
    rcases rneInt_cases k1 with ⟨e1, _⟩ | ⟨e1, up1, odd1⟩
    · omega
    · rcases rneInt_cases k2 with ⟨e2, dn2, even2⟩ | ⟨e2, _⟩
      · -- k1 rounds up and k2, with the same floor and no smaller a fraction, rounds down: both fractions are
        -- one half, and the floor is odd and even
        have hr : k1 - (k1.floor : Rat) ≤ k2 - (k2.floor : Rat) := by
          rw [he, Rat.sub_eq_add_neg, Rat.sub_eq_add_neg]
          exact Rat.add_le_add_right.mpr h
        have := odd1 (Rat.le_antisymm (Rat.le_trans hr dn2) up1)
        have := even2 (Rat.le_antisymm dn2 (Rat.le_trans up1 hr))
        omega
      · omega

theorem rneInt_intCast (n : Int) : rneInt (n : Rat) = n := by
  unfold rneInt
  simp only [Rat.floor_intCast, Rat.sub_self]
  have : (0 : Rat) < 1 / 2 := by decide +kernel
  simp [this]

theorem rne64_nonneg (a : Rat) (ha : 0 ≤ a) : 0 ≤ rne64 a := by
  unfold rne64
  by_cases h0 : a = 0
  · simp [h0]
  · have hn : ¬ a < 0 := Rat.not_lt.mpr ha
    simp only [h0, hn, if_false]
    have hu := pow2_pos (max (ilog2 a.abs) (-1022) - 52)
    have hk := rneInt_nonneg _ (div_nonneg' a.abs _ Rat.abs_nonneg hu)
    exact Rat.mul_nonneg (Rat.intCast_nonneg.mpr hk) (Rat.le_of_lt hu)

theorem rne64_odd (q : Rat) : rne64 (-q) = -rne64 q := by
  unfold rne64
  by_cases h0 : q = 0
  · subst h0; simp
  · have h0' : ¬ (-q = 0) := by grind
    simp only [h0, h0', if_false, Rat.abs_neg]
    by_cases hn : q < 0
    · have : ¬ (-q < 0) := by grind
      simp only [hn, this, if_true, if_false, Rat.neg_neg]
    · have : -q < 0 := by grind
      simp only [hn, this, if_true, if_false]

theorem rne64_signSymmetric : SignSymmetric rne64 := ⟨rne64_odd, rne64_nonneg⟩

theorem mul_den_eq (a : Rat) (ha : 0 < a) : a * (a.den : Rat) = (a.num.natAbs : Rat) := by
  have hnum : 0 < a.num := num_pos' a ha
  have h1 : a = (a.num : Rat) / (a.den : Rat) := by
    have := Rat.mkRat_eq_div a.num a.den
    rw [Rat.mkRat_self] at this
    exact this
  have hd : (a.den : Rat) ≠ 0 := by
    have := Rat.natCast_pos.mpr a.den_pos
    grind
  have h2 : a * (a.den : Rat) = (a.num : Rat) := by
    have := Rat.div_mul_cancel (a := (a.num : Rat)) hd
    rw [← h1] at this
    exact this
  rw [h2]
  have : a.num = ((a.num.natAbs : Nat) : Int) := by omega
  conv => lhs; rw [this]
  exact Rat.intCast_natCast _

theorem pow2_log2_le (n : Nat) (h : n ≠ 0) : pow2 (Nat.log2 n : Int) ≤ (n : Rat) := by
  rw [pow2_nat]
  exact Rat.natCast_le_natCast.mpr (Nat.log2_self_le h)

theorem lt_pow2_log2 (n : Nat) : (n : Rat) < pow2 ((Nat.log2 n : Int) + 1) := by
  rw [show ((Nat.log2 n : Int) + 1) = ((Nat.log2 n + 1 : Nat) : Int) by omega, pow2_nat]
  exact Rat.natCast_lt_natCast.mpr Nat.lt_log2_self

theorem ilog2_spec (a : Rat) (ha : 0 < a) : pow2 (ilog2 a) ≤ a ∧ a < pow2 (ilog2 a + 1) := by
  have hn0 : a.num.natAbs ≠ 0 := by have := num_pos' a ha; omega
  have hmul := mul_den_eq a ha
  have hdpos : (0 : Rat) < (a.den : Rat) := Rat.natCast_pos.mpr a.den_pos
  have n_lo := pow2_log2_le a.num.natAbs hn0
  have n_hi := lt_pow2_log2 a.num.natAbs
  have d_lo := pow2_log2_le a.den a.den_nz
  have d_hi := lt_pow2_log2 a.den
  -- numerator in [2^ln, 2^(ln+1)), denominator in [2^ld, 2^(ld+1)): the quotient lies in (2^(ln-ld-1), 2^(ln-ld+1))
  unfold ilog2
  simp only []
  generalize (Nat.log2 a.num.natAbs : Int) = ln at *
  generalize (Nat.log2 a.den : Int) = ld at *
  have upper : a < pow2 (ln - ld + 1) := by
    apply Rat.lt_of_mul_lt_mul_right (c := (a.den : Rat)) _ (Rat.le_of_lt hdpos)
    rw [hmul]
    have e : pow2 (ln + 1) = pow2 (ln - ld + 1) * pow2 ld := by rw [← pow2_add]; congr 1; omega
    exact Std.lt_of_lt_of_le (e ▸ n_hi) (Rat.mul_le_mul_of_nonneg_left d_lo (Rat.le_of_lt (pow2_pos _)))
  have lower : pow2 (ln - ld - 1) ≤ a := by
    apply Rat.le_of_mul_le_mul_right (c := (a.den : Rat)) _ hdpos
    rw [hmul]
    have e : pow2 ln = pow2 (ln - ld - 1) * pow2 (ld + 1) := by rw [← pow2_add]; congr 1; omega
    exact Rat.le_trans (Rat.le_of_lt (Rat.mul_lt_mul_of_pos_left d_hi (pow2_pos _))) (e ▸ n_lo)
  split
  · exact ⟨‹_›, upper⟩
  · rename_i h
    refine ⟨lower, ?_⟩
    rw [show ln - ld - 1 + 1 = ln - ld by omega]
    exact Rat.not_le.mp h

theorem ilog2_mono (a b : Rat) (ha : 0 < a) (hab : a ≤ b) : ilog2 a ≤ ilog2 b := by
  have hb : 0 < b := Std.lt_of_lt_of_le ha hab
  have := lt_of_pow2_lt (Std.lt_of_le_of_lt (Rat.le_trans (ilog2_spec a ha).1 hab) (ilog2_spec b hb).2)
  omega

/-- The exponent `rne64` works with: `⌊log2 a⌋`, not below the subnormal range. -/
def expOf (a : Rat) : Int := max (ilog2 a) (-1022)

theorem rne64_pos_eq (a : Rat) (ha : 0 < a) :
    rne64 a = (rneInt (a / pow2 (expOf a - 52)) : Rat) * pow2 (expOf a - 52) := by
  unfold rne64 expOf
  have h0 : ¬ a = 0 := fun e => Rat.lt_irrefl (e ▸ ha)
  have hn : ¬ a < 0 := Rat.not_lt.mpr (Rat.le_of_lt ha)
  simp only [h0, hn, if_false, Rat.abs_of_nonneg (Rat.le_of_lt ha)]

/-- Against a grid point `c·2^(expOf a - 52)` that is a power of two above `a` (`a < 2^(ilog2 a + 1)`) the significand is at
most `c`; against one at or below `2^ilog2 a` it is at least `c`. -/
theorem significand_le (a : Rat) (ha : 0 < a) {c e : Int} (hc : (c : Rat) * pow2 (expOf a - 52) = pow2 e)
    (he : ilog2 a + 1 ≤ e) : rneInt (a / pow2 (expOf a - 52)) ≤ c :=
  rneInt_intCast c ▸ rneInt_mono _ _ (div_le_of_le_mul (pow2_pos _)
    (hc ▸ Rat.le_of_lt (Std.lt_of_lt_of_le (ilog2_spec a ha).2 (pow2_mono _ _ he))))

theorem le_significand (a : Rat) (ha : 0 < a) {c e : Int} (hc : (c : Rat) * pow2 (expOf a - 52) = pow2 e)
    (he : e ≤ ilog2 a) : c ≤ rneInt (a / pow2 (expOf a - 52)) :=
  rneInt_intCast c ▸ rneInt_mono _ _ (le_div_of_mul_le (pow2_pos _) (hc ▸ Rat.le_trans (pow2_mono _ _ he) (ilog2_spec a ha).1))

theorem rne64_significand (a : Rat) (ha : 0 < a) :
    0 ≤ rneInt (a / pow2 (expOf a - 52)) ∧ rneInt (a / pow2 (expOf a - 52)) ≤ 2 ^ 53 ∧
    (-1022 ≤ ilog2 a → 2 ^ 52 ≤ rneInt (a / pow2 (expOf a - 52))) ∧
    (ilog2 a < -1022 → rneInt (a / pow2 (expOf a - 52)) ≤ 2 ^ 52) :=
  ⟨rneInt_nonneg _ (div_nonneg' a _ (Rat.le_of_lt ha) (pow2_pos _)),
   significand_le a ha (pow2_grid53 _) (by unfold expOf; omega),
   fun hn => le_significand a ha (pow2_grid52 _) (by unfold expOf; omega),
   fun hs => significand_le a ha (pow2_grid52 _) (by unfold expOf; omega)⟩

theorem rne64_le_pow2 (a : Rat) (ha : 0 < a) : rne64 a ≤ pow2 (expOf a + 1) := by
  rw [rne64_pos_eq a ha, ← pow2_grid53]
  exact Rat.mul_le_mul_of_nonneg_right (Rat.intCast_le_intCast.mpr (rne64_significand a ha).2.1)
    (Rat.le_of_lt (pow2_pos _))

theorem pow2_le_rne64 (a : Rat) (ha : 0 < a) (hn : -1022 ≤ ilog2 a) : pow2 (expOf a) ≤ rne64 a := by
  rw [rne64_pos_eq a ha, ← pow2_grid52 (expOf a)]
  exact Rat.mul_le_mul_of_nonneg_right (Rat.intCast_le_intCast.mpr ((rne64_significand a ha).2.2.1 hn))
    (Rat.le_of_lt (pow2_pos _))

theorem rne64_mono_pos (a b : Rat) (ha : 0 < a) (hab : a ≤ b) : rne64 a ≤ rne64 b := by
  have hb : 0 < b := Std.lt_of_lt_of_le ha hab
  have hl := ilog2_mono a b ha hab
  by_cases heq : expOf a = expOf b
  · -- same binade: the significands are ordered
    rw [rne64_pos_eq a ha, rne64_pos_eq b hb, heq]
    have hu := pow2_pos (expOf b - 52)
    exact Rat.mul_le_mul_of_nonneg_right
      (Rat.intCast_le_intCast.mpr (rneInt_mono _ _ (div_le_div_right' a b _ hab hu))) (Rat.le_of_lt hu)
  · -- across binades a power of two separates the rounded values
    have hlt : expOf a + 1 ≤ expOf b := by unfold expOf at heq ⊢; omega
    have hnb : -1022 ≤ ilog2 b := by unfold expOf at hlt; omega
    exact Rat.le_trans (rne64_le_pow2 a ha) (Rat.le_trans (pow2_mono _ _ hlt) (pow2_le_rne64 b hb hnb))

theorem rne64_mono (a b : Rat) (hab : a ≤ b) : rne64 a ≤ rne64 b := by
  by_cases ha : 0 < a
  · exact rne64_mono_pos a b ha hab
  · by_cases hb : 0 ≤ b
    · -- a ≤ 0 ≤ b
      have h1 := rne64_nonneg b hb
      have h2 := rne64_nonneg (-a) (by grind)
      rw [rne64_odd] at h2
      grind
    · -- both negative
      have hb' : 0 < -b := by grind
      have := rne64_mono_pos (-b) (-a) hb' (by grind)
      rw [rne64_odd, rne64_odd] at this
      grind

theorem rne64_rounding : Rounding rne64 := ⟨rne64_mono, rne64_odd⟩

/-- A binary64 number `n·2^(E-52)`: `E ≥ -1022`, `0 < n < 2^53`, and `n ≥ 2^52` unless `E = -1022` (subnormal).
Its exponent is `E`. -/
theorem expOf_grid (n E : Int) (hE : -1022 ≤ E) (h0 : 0 < n) (h2 : n < 2 ^ 53) (h1 : 2 ^ 52 ≤ n ∨ E = -1022) :
    expOf ((n : Rat) * pow2 (E - 52)) = E := by
  have hu := pow2_pos (E - 52)
  have s := ilog2_spec _ (Rat.mul_pos (Rat.intCast_pos.mpr h0) hu)
  have up : ilog2 ((n : Rat) * pow2 (E - 52)) < E + 1 := by
    apply lt_of_pow2_lt (Std.lt_of_le_of_lt s.1 _)
    rw [← pow2_grid53]
    exact Rat.mul_lt_mul_of_pos_right (Rat.intCast_lt_intCast.mpr h2) hu
  unfold expOf
  rcases h1 with h1 | h1
  · have lo : E < ilog2 ((n : Rat) * pow2 (E - 52)) + 1 := by
      apply lt_of_pow2_lt (Std.lt_of_le_of_lt _ s.2)
      rw [← pow2_grid52 E]
      exact Rat.mul_le_mul_of_nonneg_right (Rat.intCast_le_intCast.mpr h1) (Rat.le_of_lt hu)
    omega
  · omega

theorem rne64_fix (n E : Int) (hE : -1022 ≤ E) (h0 : 0 < n) (h2 : n < 2 ^ 53) (h1 : 2 ^ 52 ≤ n ∨ E = -1022) :
    rne64 ((n : Rat) * pow2 (E - 52)) = (n : Rat) * pow2 (E - 52) := by
  rw [rne64_pos_eq _ (Rat.mul_pos (Rat.intCast_pos.mpr h0) (pow2_pos _)), expOf_grid n E hE h0 h2 h1,
    Rat.mul_div_cancel (pow2_ne_zero _), rneInt_intCast]

theorem rne64_idem_pos (a : Rat) (ha : 0 < a) : rne64 (rne64 a) = rne64 a := by
  obtain ⟨h0, h53, hnorm, hsub⟩ := rne64_significand a ha
  have hE : -1022 ≤ expOf a := by unfold expOf; omega
  rw [rne64_pos_eq a ha]
  generalize rneInt (a / pow2 (expOf a - 52)) = n at *
  by_cases hz : n = 0
  · subst hz
    rw [Rat.intCast_zero, Rat.zero_mul]
    rfl
  by_cases htop : n = 2 ^ 53
  · -- carry into the next binade: 2^53 · 2^(E-52) = 2^52 · 2^(E+1-52)
    subst htop
    rw [pow2_grid53, ← pow2_grid52 (expOf a + 1)]
    exact rne64_fix (2 ^ 52) (expOf a + 1) (by omega) (by decide) (by decide) (Or.inl (by decide))
  · refine rne64_fix n (expOf a) hE (by omega) (by omega) ?_
    by_cases hn : -1022 ≤ ilog2 a
    · exact Or.inl (hnorm hn)
    · exact Or.inr (by unfold expOf; omega)

theorem rne64_idem (q : Rat) : rne64 (rne64 q) = rne64 q := by
  by_cases hp : 0 < q
  · exact rne64_idem_pos q hp
  · by_cases hz : q = 0
    · subst hz; rfl
    · have hn : 0 < -q := by grind
      have := rne64_idem_pos (-q) hn
      rw [rne64_odd, rne64_odd] at this
      grind

end ScVerif.C16
