/-!
# C16 — floating point values over exact arithmetic

`F` models an IEEE-754 value as used by `pkg/cmp`: NaN, ±Inf, or a finite value carried as an exact
rational (every finite float64/float32 is a dyadic rational).  The sign of zero is kept (`negz`) so
that `+0` and `-0` are distinct *representations* that compare equal, as in Go.

What is NOT modelled here: rounding and overflow of finite results (`F.mul`, `F.sub`, `F.div` are exact); the
arithmetic with rounding and overflow is in `Rounded.lean` / `RoundedF.lean`.
-/
namespace ScVerif.C16

inductive F where
  | nan
  | inf (neg : Bool)
  | fin (q : Rat) (negz : Bool)
  deriving DecidableEq, Repr, Inhabited

namespace F

def ofRat (q : Rat) : F := .fin q false

def isNaN : F → Bool
  | .nan => true
  | _ => false

def isFinite : F → Bool
  | .fin _ _ => true
  | _ => false

/-- Sign bit of a non-NaN value (true = negative), as seen by multiplication/division. -/
def signBit : F → Bool
  | .nan => false
  | .inf n => n
  | .fin q nz => if q = 0 then nz else decide (q < 0)

/-- Go `==` on float64: NaN is unequal to everything, `+0 == -0`. -/
def eq : F → F → Bool
  | .inf a, .inf b => a == b
  | .fin p _, .fin q _ => decide (p = q)
  | _, _ => false

/-- Go `<=`. -/
def le : F → F → Bool
  | .nan, _ => false
  | _, .nan => false
  | .inf true, _ => true
  | _, .inf false => true
  | .inf false, _ => false
  | _, .inf true => false
  | .fin p _, .fin q _ => decide (p ≤ q)

/-- Go `<`. -/
def lt : F → F → Bool
  | .nan, _ => false
  | _, .nan => false
  | .inf true, .inf true => false
  | .inf false, .inf false => false
  | .inf true, _ => true
  | _, .inf false => true
  | .inf false, _ => false
  | _, .inf true => false
  | .fin p _, .fin q _ => decide (p < q)

def neg : F → F
  | .nan => .nan
  | .inf n => .inf (!n)
  | .fin q nz => .fin (-q) (!nz)

/-- `math.Abs`. -/
def abs : F → F
  | .nan => .nan
  | .inf _ => .inf false
  | .fin q _ => .fin q.abs false

/-- `x - y` (exact on finite values). -/
def sub : F → F → F
  | .nan, _ => .nan
  | _, .nan => .nan
  | .inf a, .inf b => if a == b then .nan else .inf a
  | .inf a, .fin _ _ => .inf a
  | .fin _ _, .inf b => .inf (!b)
  | .fin p pz, .fin q qz => .fin (p - q) (pz && !qz)

/-- `x * y` (exact on finite values). -/
def mul : F → F → F
  | .nan, _ => .nan
  | _, .nan => .nan
  | .inf a, .inf b => .inf (a != b)
  | .inf a, .fin q qz => if q = 0 then .nan else .inf (a != signBit (.fin q qz))
  | .fin p pz, .inf b => if p = 0 then .nan else .inf (signBit (.fin p pz) != b)
  | .fin p pz, .fin q qz => .fin (p * q) (signBit (.fin p pz) != signBit (.fin q qz))

/-- `x / y` (exact on finite values; division by zero gives ±Inf or NaN as in IEEE). -/
def div : F → F → F
  | .nan, _ => .nan
  | _, .nan => .nan
  | .inf _, .inf _ => .nan
  | .inf a, .fin q qz => .inf (a != signBit (.fin q qz))
  | .fin p pz, .inf b => .fin 0 (signBit (.fin p pz) != b)
  | .fin p pz, .fin q qz =>
    if q = 0 then (if p = 0 then .nan else .inf (signBit (.fin p pz) != signBit (.fin q qz)))
    else .fin (p / q) (signBit (.fin p pz) != signBit (.fin q qz))

/-- `math.Min`: `Min(x, -Inf) = -Inf` first, then NaN, then `Min(-0, ±0) = -0`. -/
def min (x y : F) : F :=
  if x = .inf true || y = .inf true then .inf true
  else if x.isNaN || y.isNaN then .nan
  else match x, y with
    | .fin p pz, .fin q qz =>
      if p = 0 ∧ q = 0 then .fin 0 (pz || qz) else if p < q then x else y
    | _, _ => if lt x y then x else y

/-- `math.Max`: `Max(x, +Inf) = +Inf` first, then NaN, then `Max(+0, ±0) = +0`. -/
def max (x y : F) : F :=
  if x = .inf false || y = .inf false then .inf false
  else if x.isNaN || y.isNaN then .nan
  else match x, y with
    | .fin p pz, .fin q qz =>
      if p = 0 ∧ q = 0 then .fin 0 (pz && qz) else if p > q then x else y
    | _, _ => if lt y x then x else y

end F
end ScVerif.C16
