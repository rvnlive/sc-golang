import ScVerif.C16.ToleranceLemmas
import ScVerif.C16.Shells
import ScVerif.C16.Loops
/-! `equalList` hands each pair of corresponding elements to `equalValue`, whose first step is the value-comparer override:
a repeated field whose elements are of a compared kind is compared element by element WITH the tolerance.
`Equal(c)` is `equator{ValueAnd(c)}`, hence `valueAnd [c]`. -/
namespace ScVerif.C16

theorem eqValue_claimed (c : VCmp) (x y : Val) (h : (c x y).2 = true) : eqValue c x y = (c x y).1 := by
  unfold eqValue; simp [h]

theorem valueAnd_single_claimed (c : VCmp) (x y : Val) (h : (c x y).2 = true) :
    valueAnd [c] x y = ((c x y).1, true) := by
  simp only [valueAnd, valueAnd.go, h, if_true]
  cases (c x y).1 <;> simp

theorem eqValue_single_claimed (c : VCmp) (x y : Val) (v : Bool) (h : c x y = (v, true)) :
    eqValue (valueAnd [c]) x y = v := by
  have hc : (c x y).2 = true := by rw [h]
  rw [eqValue_claimed _ _ _ (by rw [valueAnd_single_claimed _ _ _ hc]), valueAnd_single_claimed _ _ _ hc, h]

theorem Vals.toList_ofList (l : List Val) : (Vals.ofList l).toList = l := by
  induction l with
  | nil => rfl
  | cons a r ih => simp [Vals.ofList, Vals.toList, ih]

theorem eqField_list_iff (c : VCmp) (xs ys : Vals) :
    eqField c (.list xs) (.list ys) = true ↔
      xs.toList.length = ys.toList.length ∧ ∀ p ∈ List.zip xs.toList ys.toList, eqValue c p.1 p.2 = true := by
  unfold eqField
  rw [Bool.and_eq_true, eqListLoop_iff, Vals.len_eq_length, Vals.len_eq_length]
  simp only [beq_iff_eq]
  exact ⟨fun h => h.2, fun h => ⟨h.1, h⟩⟩

/-- Over two lists of elements built by one constructor `f`, the per-element verdict being characterised by `P`. -/
theorem eqField_list_with_iff {α : Type} (c : VCmp) (f : α → Val) (P : α → α → Prop)
    (hP : ∀ a b, eqValue c (f a) (f b) = true ↔ P a b) (xs ys : List α) :
    eqField c (.list (Vals.ofList (xs.map f))) (.list (Vals.ofList (ys.map f))) = true ↔
      xs.length = ys.length ∧ ∀ p ∈ List.zip xs ys, P p.1 p.2 := by
  rw [eqField_list_iff, Vals.toList_ofList, Vals.toList_ofList, List.length_map, List.length_map, List.zip_map,
    List.forall_mem_map]
  simp only [Prod.map, hP]

theorem eqValue_time_within (d : Int) (hd : d < maxI64) (fx fy : Fields) (ux uy : Unk) :
    eqValue (valueAnd [timeValueWithin d]) (.msg tsName true fx ux) (.msg tsName true fy uy) = true ↔
      toTimeNs fx - toTimeNs fy ≤ d ∧ toTimeNs fy - toTimeNs fx ≤ d := by
  rw [timeValueWithin_eq, eqValue_single_claimed _ _ _ _ (typedCmp_valid ..), timeWithinT_iff d _ _ (Or.inl hd)]

theorem eqValue_duration_within (d : Int) (hd : d ≤ maxI64) (fx fy : Fields) (ux uy : Unk) :
    eqValue (valueAnd [durationValueWithin d]) (.msg durName true fx ux) (.msg durName true fy uy) = true ↔
      toDurationNs fx - toDurationNs fy ≤ d ∧ toDurationNs fy - toDurationNs fx ≤ d := by
  have hx := toDurationNs_range fx
  have hy := toDurationNs_range fy
  rw [durationValueWithin_eq, eqValue_single_claimed _ _ _ _ (typedCmp_valid ..),
    durWithinD_iff d _ _ hx.1 hx.2 hy.1 hy.2 hd]

end ScVerif.C16
