import ScVerif.Base.Line
/-!
# C16 — second float tier: IEEE-754 binary64 / binary32 (Lean core `Float`, `Float32`)

Used ONLY by the driver, for the correspondence check on inputs where the code's floating point
arithmetic rounds (the theorems are stated over exact rationals: `Float.lean` / `Tolerance.lean`, and with a
rounding function `Rounded.lean` / `RoundedF.lean`; no theorem is about Lean's `Float`).
The definitions follow `pkg/cmp/number.go` and `DurationValueWithinP` operation by operation, so a change
in rounding-sensitive code (operation order, an extra conversion, min/max special cases) shows up as a
disagreement of this tier even where the exact tier cannot be compared.
-/
namespace ScVerif.C16.IEEE

def isNegZero (x : Float) : Bool := x == 0.0 && x.toBits == 0x8000000000000000

/-- Go `math.Min`. -/
def goMin (x y : Float) : Float :=
  if (x.isInf && x < 0.0) || (y.isInf && y < 0.0) then Float.ofBits 0xFFF0000000000000
  else if x.isNaN || y.isNaN then Float.ofBits 0x7FF8000000000001
  else if x == 0.0 && y == 0.0 then (if isNegZero x then x else y)
  else if x < y then x else y

/-- Go `math.Max`. -/
def goMax (x y : Float) : Float :=
  if (x.isInf && x > 0.0) || (y.isInf && y > 0.0) then Float.ofBits 0x7FF0000000000000
  else if x.isNaN || y.isNaN then Float.ofBits 0x7FF8000000000001
  else if x == 0.0 && y == 0.0 then (if isNegZero x then y else x)
  else if x > y then x else y

/-- `FloatValueApprox(fraction, margin)` on two float64 values, in binary64 arithmetic. -/
def floatApprox (fraction margin fx fy : Float) : Bool :=
  if fx.isNaN || fy.isNaN then fx.isNaN && fy.isNaN
  else if fx.isInf || fy.isInf then fx == fy
  else
    let relMarg := fraction * goMin fx.abs fy.abs
    (fx - fy).abs <= goMax margin relMarg

/-- `DurationValueWithinP(p)` on two int64 durations, in binary64 arithmetic (p is a float32, widened). -/
def durWithinP (p : Float32) (xd yd : Int64) : Bool :=
  let fx := xd.toFloat
  let fy := yd.toFloat
  (fx - fy).abs * 100.0 <= p.toFloat * goMin fx.abs fy.abs

open ScVerif.Line in
def handle? (toks : List String) : Option String :=
  match toks with
  | ["fa64", fr, mg, x, y] => do
    let fr ← parseNat? fr
    let mg ← parseNat? mg
    let x ← parseNat? x
    let y ← parseNat? y
    let f := fun (n : Nat) => Float.ofBits n.toUInt64
    pure (showBool (floatApprox (f fr) (f mg) (f x) (f y)))
  | ["dp64", p, x, y] => do
    let p ← parseNat? p
    let x ← parseInt? x
    let y ← parseInt? y
    pure (showBool (durWithinP (Float32.ofBits p.toUInt32) (Int64.ofInt x) (Int64.ofInt y)))
  | _ => none

end ScVerif.C16.IEEE
