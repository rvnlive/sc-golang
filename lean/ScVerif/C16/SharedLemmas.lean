import ScVerif.C16.Shared
/-! The repository's `include` never writes the published object, so under any schedule every subscriber's progress is a
stage of its solo computation (`SubPc.Solo`); progress by counting a subscriber's moves (`SubPc.rank`). -/
namespace ScVerif.C16

theorem includeFresh_cell (inc : Option (Val → Bool)) (cell : CEvent) : (includeFresh inc cell).2 = cell := by
  unfold includeFresh
  cases inc with
  | none => rfl
  | some f =>
    simp only
    generalize incOf f cell.old = a
    generalize incOf f cell.new = b
    cases a <;> cases b <;> rfl

/-- `incOf` is `visible` of `StreamSpec.lean` under the name `Shared.lean` gives it; the same equation in that spelling is
`includeAdjust_visible` (`PullLemmas.lean`). -/
theorem includeAdjust_incOf (f : Val → Bool) (ev : CEvent) :
    includeAdjust (some f) ev =
      (if incOf f ev.old == incOf f ev.new then (if incOf f ev.new then some ev else none)
       else if incOf f ev.new then some ⟨none, ev.new⟩ else some ⟨ev.old, none⟩) := by
  unfold includeAdjust incOf
  rfl

theorem includeFresh_adjust (inc : Option (Val → Bool)) (ev : CEvent) :
    includeAdjust inc ev = ((includeFresh inc ev).1).map (ChRef.deref ev) := by
  cases inc with
  | none => rfl
  | some f =>
    rw [includeAdjust_incOf]
    unfold includeFresh
    simp only
    generalize incOf f ev.old = a
    generalize incOf f ev.new = b
    cases a <;> cases b <;> rfl

/-- On the unchanged published event a step leads from one stage of the subscriber's solo computation to the next and
leaves the event as it is: `includeFresh` is `includeAdjust` read through the pointer (`includeFresh_adjust`), and the mask
and the decision read through it too. -/
theorem stepSub_solo (E : Option MCmp) (cfg : SubCfg) (ev : CEvent) (pc : SubPc)
    (h : pc.Solo E cfg ev) :
    ((stepSub includeFresh E cfg ev pc).1).Solo E cfg ev ∧ (stepSub includeFresh E cfg ev pc).2 = ev := by
  cases pc with
  | start =>
    have hc := includeFresh_cell cfg.inc ev
    have ha := includeFresh_adjust cfg.inc ev
    unfold stepSub
    rcases hx : includeFresh cfg.inc ev with ⟨r, c'⟩
    rw [hx] at hc ha
    simp only at hc ha
    cases r with
    | none =>
      refine ⟨?_, hc⟩
      simp only [SubPc.Solo, collPullStep, ha, Option.map_none]
    | some r =>
      refine ⟨?_, hc⟩
      simp only [SubPc.Solo, hx]
  | included r =>
    refine ⟨?_, rfl⟩
    exact ⟨r, h, rfl⟩
  | filtered r =>
    refine ⟨?_, rfl⟩
    obtain ⟨r0, h0, hr⟩ := h
    have ha := includeFresh_adjust cfg.inc ev
    rw [h0] at ha
    simp only [Option.map_some] at ha
    simp only [stepSub, SubPc.Solo, collPullStep, ha]
    subst hr
    unfold filterRef SubCfg.flt decideChange
    cases hm : cfg.mask with
    | none => cases E <;> simp [ChRef.deref]
    | some g => cases E <;> simp [ChRef.deref]
  | done d => exact ⟨h, rfl⟩

theorem sysRun_solo (E : Option MCmp) (cfg : Nat → SubCfg) (ev : CEvent) (sched : List Nat) :
    ∀ (s : SharedSys), s.cell = ev → (∀ j, (s.pc j).Solo E (cfg j) ev) →
      (sysRun includeFresh E cfg s sched).cell = ev ∧
        ∀ j, ((sysRun includeFresh E cfg s sched).pc j).Solo E (cfg j) ev := by
  induction sched with
  | nil => intro s hc hs; exact ⟨hc, hs⟩
  | cons i rest ih =>
    intro s hc hs
    have hstep := stepSub_solo E (cfg i) ev (s.pc i) (hs i)
    apply ih
    · simp only [sysStep, hc]; exact hstep.2
    · intro j
      simp only [sysStep, hc]
      by_cases hj : j = i
      · subst hj; simp only [if_true]; exact hstep.1
      · simp only [hj, if_false]; exact hs j

theorem stepSub_rank (impl : IncludeImpl) (E : Option MCmp) (cfg : SubCfg) (cell : CEvent) (pc : SubPc) :
    min 3 (pc.rank + 1) ≤ ((stepSub impl E cfg cell pc).1).rank := by
  cases pc with
  | start =>
    unfold stepSub
    rcases impl cfg.inc cell with ⟨r, c'⟩
    cases r <;> simp [SubPc.rank] <;> omega
  | included r => simp [stepSub, SubPc.rank]
  | filtered r => simp [stepSub, SubPc.rank]
  | done d => simp [stepSub, SubPc.rank]

theorem sysRun_rank (impl : IncludeImpl) (E : Option MCmp) (cfg : Nat → SubCfg) (i : Nat) (sched : List Nat) :
    ∀ (s : SharedSys), min 3 ((s.pc i).rank + sched.count i) ≤ ((sysRun impl E cfg s sched).pc i).rank := by
  induction sched with
  | nil => intro s; simp [sysRun]; omega
  | cons k rest ih =>
    intro s
    have h := ih (sysStep impl E cfg s k)
    simp only [sysRun]
    by_cases hk : k = i
    · subst hk
      have hr := stepSub_rank impl E (cfg k) s.cell (s.pc k)
      have hpc : (sysStep impl E cfg s k).pc k = (stepSub impl E (cfg k) s.cell (s.pc k)).1 := by
        simp [sysStep]
      rw [hpc] at h
      simp only [List.count_cons_self]
      omega
    · have : ((sysStep impl E cfg s k).pc i) = s.pc i := by
        simp only [sysStep]
        have : ¬ i = k := fun e => hk e.symm
        simp [this]
      rw [this] at h
      rw [List.count_cons_of_ne hk]
      exact h

theorem rank_done (pc : SubPc) (h : 3 ≤ pc.rank) : ∃ d, pc = .done d := by
  cases pc with
  | done d => exact ⟨d, rfl⟩
  | start => simp [SubPc.rank] at h
  | included r => simp [SubPc.rank] at h
  | filtered r => simp [SubPc.rank] at h

end ScVerif.C16
