import ScVerif.C16.Equator
/-! `equalUnknown` on the raw bytes, as the driver runs it; apart from the lemmas about it (`WireLemmas.lean`). -/
namespace ScVerif.C16

/-- `equalUnknown(x, y)` on the raw bytes, following the Go code: length test, `bytes.Equal` shortcut, the two
`ConsumeField` loops filling `map[FieldNumber]RawFields` by appending, `reflect.DeepEqual` of the maps (same
keys, same bytes per key).  `none`: a record does not parse (the Go code panics). -/
def eqUnknownRaw (x y : Bytes) : Option Bool :=
  if x.length != y.length then some false
  else if x == y then some true
  else match wireRecords x, wireRecords y with
    | some rx, some ry =>
      some (((rx ++ ry).map (·.1)).all (fun n =>
        ((rx.map (·.1)).contains n == (ry.map (·.1)).contains n) && unkGroup n rx == unkGroup n ry))
    | _, _ => none

end ScVerif.C16
