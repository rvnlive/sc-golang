import ScVerif.C16.UpdateLemmas
/-!
# C16 — what `Collection.Update` announces is the write the subscribers must judge

`Collection.Pull` compares a change's own `OldValue` with its `NewValue`.  That is only the comparison "against the
value the subscriber holds" if `OldValue` is what was stored when the write committed — also when another
writer got in between this write's unlocked first read and its locked re-validation read (a rival creator of
the same id, a rival re-writing or deleting the item).
-/
namespace ScVerif.C16

/-- A write that goes through announces as `OldValue` exactly what was stored when it committed, whatever was stored at
the unlocked first read, and as `NewValue` the change function's result on what the first read saw (the provisional
empty message for an absent item). -/
theorem C16_update_announces_commit_predecessor {M : Type} [DecidableEq M] (rq : UReq) (empty : M)
    (first again : Option M) (change : M → M) (a : Announced M)
    (h : collUpdate rq empty first again change = .ok a) :
    a.old = again ∧ (a.type = .add ↔ again = none) ∧ a.new = change (first.getD empty) := by
  rw [((collUpdate_ok_iff rq empty first again change a).1 h).2]
  exact ⟨rfl, by cases again <;> simp, rfl⟩

/-- The options' preconditions are `WithExpectAbsent`: no item; no `WithCreateIfAbsent`: an item.  An absent item counts as
the empty message. -/
theorem C16_update_succeeds_iff {M : Type} [DecidableEq M] (rq : UReq) (empty : M)
    (first again : Option M) (change : M → M) :
    (∃ a, collUpdate rq empty first again change = .ok a) ↔
      (first.isSome → rq.expectAbsent = false) ∧ (first = none → rq.createIfAbsent = true) ∧
      (again.isSome → rq.expectAbsent = false) ∧ (again = none → rq.createIfAbsent = true) ∧
      first.getD empty = again.getD empty :=
  ⟨fun ⟨a, h⟩ => ((collUpdate_ok_iff rq empty first again change a).1 h).1,
   fun h => ⟨_, (collUpdate_ok_iff rq empty first again change _).2 ⟨h, rfl⟩⟩⟩

/-- Non-vacuity, the overtaken creator: the first read found nothing, a rival created the item (equal to the
provisional message) before the lock was taken: the write goes through and is an UPDATE of the rival's item. -/
example : collUpdate (M := Nat) ⟨true, false⟩ 0 none (some 0) (fun _ => 7) = .ok ⟨.update, some 0, 7⟩ := by rfl
/-- ... a rival that stored something else makes the overtaken creator fail. -/
example : collUpdate (M := Nat) ⟨true, false⟩ 0 none (some 3) (fun _ => 7) = .error .aborted := by rfl
/-- ... an item deleted in between, re-created by a `WithCreateIfAbsent` update that had read an empty item: ADD. -/
example : collUpdate (M := Nat) ⟨true, false⟩ 0 (some 0) none (fun _ => 7) = .ok ⟨.add, none, 7⟩ := by rfl
/-- ... and the undisturbed update of a present item. -/
example : collUpdate (M := Nat) ⟨false, false⟩ 0 (some 5) (some 5) (fun m => m + 1) = .ok ⟨.update, some 5, 6⟩ := by rfl

end ScVerif.C16
