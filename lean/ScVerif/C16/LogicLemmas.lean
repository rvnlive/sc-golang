import ScVerif.C16.Equator
/-! `And` / `Or` are `all` / `any` over the list; `ValueAnd` / `ValueOr` are `all` / `any` over the comparers that claim the
pair (`claimers`), and `ok` says whether there is one. -/
namespace ScVerif.C16

theorem mAnd_go_eq (eqs : List MCmp) (x y : Top) :
    mAnd.go x y eqs = eqs.all (fun e => e x y) := by
  induction eqs with
  | nil => rfl
  | cons e rest ih =>
    simp only [mAnd.go, List.all_cons, ih]
    cases e x y <;> simp

theorem mOr_go_eq (eqs : List MCmp) (x y : Top) :
    mOr.go x y eqs = eqs.any (fun e => e x y) := by
  induction eqs with
  | nil => rfl
  | cons e rest ih =>
    simp only [mOr.go, List.any_cons, ih]
    cases e x y <;> simp

/-- The comparers of the list that claim the pair. -/
def claimers (eqs : List VCmp) (x y : Val) : List VCmp := eqs.filter (fun e => (e x y).2)

theorem claimers_cons (e : VCmp) (rest : List VCmp) (x y : Val) :
    claimers (e :: rest) x y = if (e x y).2 = true then e :: claimers rest x y else claimers rest x y :=
  List.filter_cons

theorem mem_claimers {eqs : List VCmp} {x y : Val} {e : VCmp} : e ∈ claimers eqs x y ↔ e ∈ eqs ∧ (e x y).2 = true :=
  List.mem_filter

/-- `ok` ends up true exactly when a comparer claimed the pair: a failed conjunction has a claimer too. -/
theorem valueAnd_go_eq (eqs : List VCmp) (x y : Val) (ok : Bool) :
    valueAnd.go x y eqs ok =
      ((claimers eqs x y).all (fun e => (e x y).1), ok || !(claimers eqs x y).isEmpty) := by
  induction eqs generalizing ok with
  | nil => simp [valueAnd.go, show claimers [] x y = [] from rfl]
  | cons e rest ih =>
    simp only [valueAnd.go, claimers_cons]
    -- the head comparer claims the pair or not, and then accepts it or not
    cases h2 : (e x y).2 <;> cases h1 : (e x y).1 <;> simp [h1, ih]

theorem valueOr_go_eq (eqs : List VCmp) (x y : Val) (ok : Bool) :
    valueOr.go x y eqs ok =
      ((claimers eqs x y).any (fun e => (e x y).1), ok || !(claimers eqs x y).isEmpty) := by
  induction eqs generalizing ok with
  | nil => simp [valueOr.go, show claimers [] x y = [] from rfl]
  | cons e rest ih =>
    simp only [valueOr.go, claimers_cons]
    cases h2 : (e x y).2 <;> cases h1 : (e x y).1 <;> simp [h1, ih]

theorem valueAnd_eq (eqs : List VCmp) (x y : Val) :
    valueAnd eqs x y = ((claimers eqs x y).all (fun e => (e x y).1), !(claimers eqs x y).isEmpty) := by
  rw [valueAnd, valueAnd_go_eq, Bool.false_or]

theorem valueOr_eq (eqs : List VCmp) (x y : Val) :
    valueOr eqs x y = ((claimers eqs x y).any (fun e => (e x y).1), !(claimers eqs x y).isEmpty) := by
  rw [valueOr, valueOr_go_eq, Bool.false_or]

theorem claimers_isEmpty (eqs : List VCmp) (x y : Val) :
    (!(claimers eqs x y).isEmpty) = true ↔ ∃ e ∈ eqs, (e x y).2 = true := by
  simp only [Bool.not_eq_true', List.isEmpty_eq_false_iff_exists_mem, mem_claimers]

end ScVerif.C16
