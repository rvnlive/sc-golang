import ScVerif.C16.Tolerance
/-! Every tolerance comparer of `number.go` / `time.go` claims the pairs of its own kind, disposes of the special values and
hands the rest to an arithmetic kernel: `floatCmp`, `typedCmp` are the two shapes with the kernel as a parameter, the comparers
are instances (`floatValueApprox_eq`, `timeValueWithin_eq`, …), and what does not depend on the kernel is proved once. -/
namespace ScVerif.C16

/-- The shape of `FloatValueApprox`: `f` decides the finite pairs. -/
def floatCmp (f : F → F → Bool) : VCmp
  | .sc (.float fx), .sc (.float fy) =>
    if fx.isNaN || fy.isNaN then (fx.isNaN && fy.isNaN, true)
    else if !fx.isFinite || !fy.isFinite then (F.eq fx fy, true)
    else (f fx fy, true)
  | _, _ => (false, false)

theorem floatValueApprox_eq (fr mg : F) : floatValueApprox fr mg = floatCmp (floatApproxF fr mg) := rfl

section
variable (f : F → F → Bool)

theorem floatCmp_other (x y : Val) (h : ∀ fx, x ≠ .sc (.float fx)) :
    (floatCmp f x y).2 = false := by
  unfold floatCmp
  split
  · exact absurd rfl (h _)
  · rfl

theorem floatCmp_fin (p q : Rat) (a b : Bool) :
    floatCmp f (.sc (.float (.fin p a))) (.sc (.float (.fin q b))) = (f (.fin p a) (.fin q b), true) := rfl

theorem floatCmp_symm (h : ∀ p a q b, f (.fin p a) (.fin q b) = f (.fin q b) (.fin p a))
    (fx fy : F) :
    floatCmp f (.sc (.float fx)) (.sc (.float fy)) = floatCmp f (.sc (.float fy)) (.sc (.float fx)) := by
  -- nine pairs of NaN / ±Inf / finite; evaluation settles all but finite against finite
  cases fx <;> cases fy <;> simp [floatCmp, F.isNaN, F.isFinite, F.eq, Bool.beq_comm, h]

theorem floatCmp_refl (fx : F) (h : ∀ p a, fx = .fin p a → f fx fx = true) :
    floatCmp f (.sc (.float fx)) (.sc (.float fx)) = (true, true) := by
  cases fx with
  | nan => rfl
  | inf n => simp [floatCmp, F.isNaN, F.isFinite, F.eq]
  | fin p a => rw [floatCmp_fin, h p a rfl]

theorem floatCmp_nonfinite (fx fy : F) (h : fx.isFinite = false ∨ fy.isFinite = false) :
    floatCmp f (.sc (.float fx)) (.sc (.float fy)) = (decide (fx = fy ∧ fx.isFinite = false), true) := by
  -- evaluation on each non-finite pair; what is left is two infinities, equal iff their signs are
  cases fx <;> cases fy <;> simp_all [floatCmp, F.isNaN, F.isFinite, F.eq]
  rename_i a b
  cases a <;> cases b <;> rfl

end

/-- The shape of the Timestamp and Duration comparers; `conv` is `AsTime` / `AsDuration`. -/
def typedCmp (name : String) (conv : Fields → Int) (f : Int → Int → Bool) : VCmp
  | .msg tx vx fx _, .msg ty vy fy _ =>
    if !(tx == name) && !(ty == name) then (false, false)
    else if (tx == name) != (ty == name) then (false, true)
    else if !vx || !vy then (vx == vy, true)
    else (f (conv fx) (conv fy), true)
  | _, _ => (false, false)

theorem timeValueWithin_eq (d : Int) : timeValueWithin d = typedCmp tsName toTimeNs (timeWithinT d) := rfl

/-- `cmpDuration` followed by a kernel, as the three Duration comparers are written. -/
theorem durCmp_eq (f : Int → Int → Bool) (x y : Val) :
    (match cmpDuration x y with
      | (xd, yd, equal, ok, early) => if early then (equal, ok) else (f xd yd, true)) =
    typedCmp durName toDurationNs f x y := by
  cases x with
  | sc => rfl
  | msg tx vx fx ux =>
  cases y with
  | sc => rfl
  | msg ty vy fy uy =>
  unfold cmpDuration typedCmp
  simp only []
  by_cases h1 : (!(tx == durName) && !(ty == durName)) = true
  · rw [if_pos h1, if_pos h1]; rfl
  · rw [if_neg h1, if_neg h1]
    by_cases h2 : ((tx == durName) != (ty == durName)) = true
    · rw [if_pos h2, if_pos h2]; rfl
    · rw [if_neg h2, if_neg h2]
      by_cases h3 : (!vx || !vy) = true
      · rw [if_pos h3, if_pos h3]; rfl
      · rw [if_neg h3, if_neg h3]; rfl

theorem durationValueWithin_eq (d : Int) :
    durationValueWithin d = typedCmp durName toDurationNs (durWithinD d) :=
  funext fun x => funext fun y => durCmp_eq _ x y

theorem durationValueWithinP_eq (p : F) :
    durationValueWithinP p = typedCmp durName toDurationNs (durWithinPD p) :=
  funext fun x => funext fun y => durCmp_eq _ x y

section
variable (name : String) (conv : Fields → Int) (f : Int → Int → Bool)

theorem typedCmp_other (x y : Val)
    (hx : x.typeName ≠ name) (hy : y.typeName ≠ name) : (typedCmp name conv f x y).2 = false := by
  cases x <;> cases y <;> simp_all [typedCmp, Val.typeName]

theorem typedCmp_valid (fx fy : Fields) (ux uy : Unk) :
    typedCmp name conv f (.msg name true fx ux) (.msg name true fy uy) = (f (conv fx) (conv fy), true) := by
  simp [typedCmp]

theorem typedCmp_congr (t : String) (v : Bool)
    (fx fx' : Fields) (ux ux' : Unk) (h : conv fx = conv fx') (y : Val) :
    typedCmp name conv f (.msg t v fx ux) y = typedCmp name conv f (.msg t v fx' ux') y ∧
    typedCmp name conv f y (.msg t v fx ux) = typedCmp name conv f y (.msg t v fx' ux') := by
  cases y with
  | sc s => exact ⟨rfl, rfl⟩
  | msg ty vy fy uy => simp only [typedCmp, h, and_self]

end

end ScVerif.C16
