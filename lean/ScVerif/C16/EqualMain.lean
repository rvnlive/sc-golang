import ScVerif.C16.WireLemmas
import ScVerif.C16.Loops
/-! `Equal()` is `PEq ignoredField`.  The code checks "every field (key) of x is in y" and equal counts; that the two field
(key) sets are then the same is counting on duplicate-free lists (`subset_of_length_eq`), done once for two finite maps
(`range_loop_iff`) and used for messages (`msg_iff`) and maps (`map_iff`) alike; then the induction over the message tree. -/
namespace ScVerif.C16

/-- `Equal()`'s value comparer `ValueAnd()`; it claims nothing (`valueAnd_nil`). -/
abbrev noCmp : VCmp := valueAnd []

theorem valueAnd_nil (x y : Val) : valueAnd [] x y = (true, false) := rfl

theorem subset_of_length_eq {α : Type} [DecidableEq α] :
    ∀ (xs ys : List α), xs.Nodup → (∀ a ∈ xs, a ∈ ys) → ys.length ≤ xs.length → ∀ a ∈ ys, a ∈ xs :=
  fun xs ys hn hs hl a ha => Classical.byContradiction fun hna => by
    -- an element of `ys` outside `xs` would make `a :: xs` a duplicate-free sublist of `ys` longer than `ys`
    have := List.Nodup.length_le_of_subset (List.nodup_cons.mpr ⟨hna, hn⟩) (l₂ := ys)
      (List.cons_subset.mpr ⟨ha, fun b hb => hs b hb⟩)
    rw [List.length_cons] at this
    omega

/-- The `Range` loop with its count test against the specification: `lx` the pairs the loop over x visits, `kx`, `ky` the
keys that count (those `keep` selects), `gx`, `gy` the lookups; the loop tests `R`, the specification asks `R'`. -/
theorem range_loop_iff {κ ν : Type} [DecidableEq κ] (keep : κ → Prop) (lx : List (κ × ν)) (kx ky : List κ)
    (gx gy : κ → Option ν) (R R' : ν → ν → Prop) (hx : kx.Nodup) (hy : ky.Nodup)
    (hlx : ∀ k a, (k, a) ∈ lx ↔ gx k = some a)
    (hgx : ∀ k, k ∈ kx ↔ (gx k).isSome = true ∧ keep k) (hgy : ∀ k, k ∈ ky ↔ (gy k).isSome = true ∧ keep k)
    (H : ∀ k a b, gx k = some a → gy k = some b → (R a b ↔ R' a b)) :
    ((∀ q ∈ lx, keep q.1 → ∃ b, gy q.1 = some b ∧ R q.2 b) ∧ kx.length = ky.length) ↔
    ((∀ k, keep k → (gx k).isSome = (gy k).isSome) ∧
      ∀ k a b, keep k → gx k = some a → gy k = some b → R' a b) := by
  constructor
  · rintro ⟨hloop, hlen⟩
    replace hloop : ∀ k a, keep k → gx k = some a → ∃ b, gy k = some b ∧ R a b :=
      fun k a hk ha => hloop (k, a) ((hlx k a).2 ha) hk
    have hsub : ∀ k ∈ kx, k ∈ ky := fun k hk => by
      obtain ⟨hs, hkeep⟩ := (hgx k).1 hk
      obtain ⟨a, ha⟩ := Option.isSome_iff_exists.mp hs
      obtain ⟨b, hb, _⟩ := hloop k a hkeep ha
      exact (hgy k).2 ⟨by rw [hb]; rfl, hkeep⟩
    -- equal counts: the inclusion of the key sets is an equality
    have hsup := subset_of_length_eq kx ky hx hsub (Nat.le_of_eq hlen.symm)
    refine ⟨fun k hkeep => Bool.eq_iff_iff.mpr
      ⟨fun h => ((hgy k).1 (hsub k ((hgx k).2 ⟨h, hkeep⟩))).1, fun h => ((hgx k).1 (hsup k ((hgy k).2 ⟨h, hkeep⟩))).1⟩,
      fun k a b hkeep ha hb => ?_⟩
    obtain ⟨b', hb', he⟩ := hloop k a hkeep ha
    rw [hb] at hb'
    cases hb'
    exact (H k a b ha hb).1 he
  · rintro ⟨hsome, hval⟩
    refine ⟨fun q hq hkeep => ?_, ((List.perm_ext_iff_of_nodup hx hy).2 fun k => ?_).length_eq⟩
    · have ha := (hlx q.1 q.2).1 hq
      have h1 := hsome q.1 hkeep
      rw [ha] at h1
      obtain ⟨b, hb⟩ := Option.isSome_iff_exists.mp h1.symm
      exact ⟨b, hb, (H _ _ b ha hb).2 (hval _ _ b hkeep ha hb)⟩
    · rw [hgx, hgy]
      exact ⟨fun ⟨h1, h2⟩ => ⟨(hsome k h2) ▸ h1, h2⟩, fun ⟨h1, h2⟩ => ⟨(hsome k h2).symm ▸ h1, h2⟩⟩

theorem Fields.get?_isSome : ∀ (fs : Fields) (fd : FD), (fs.get? fd).isSome = true ↔ fd ∈ fs.keys
  | .nil, _ => by simp [Fields.get?, Fields.keys]
  | .cons k _ rest, fd => by
    simp only [Fields.get?, Fields.keys, List.mem_cons]
    by_cases h : k = fd
    · simp [h]
    · simp [h, Ne.symm h, Fields.get?_isSome rest fd]

theorem Entries.get?_isSome : ∀ (es : Entries) (k : Scalar), (es.get? k).isSome = true ↔ k ∈ es.keys
  | .nil, _ => by simp [Entries.get?, Entries.keys]
  | .cons k0 _ rest, k => by
    simp only [Entries.get?, Entries.keys, List.mem_cons]
    by_cases h : k0 = k
    · simp [h]
    · simp [h, Ne.symm h, Entries.get?_isSome rest k]

theorem Fields.mem_toList : ∀ (fs : Fields), fs.keys.Nodup → ∀ fd a, (fd, a) ∈ fs.toList ↔ fs.get? fd = some a
  | .nil, _, _, _ => by simp [Fields.toList, Fields.get?]
  | .cons k v rest, hnd, fd, a => by
    simp only [Fields.keys, List.nodup_cons] at hnd
    simp only [Fields.toList, Fields.get?, List.mem_cons, Prod.mk.injEq, Fields.mem_toList rest hnd.2]
    by_cases hk : k = fd
    · subst hk
      have : rest.get? k ≠ some a := fun h => hnd.1 ((Fields.get?_isSome rest k).1 (by simp [h]))
      simp [this, eq_comm]
    · simp [hk, Ne.symm hk]

theorem Entries.mem_toList : ∀ (es : Entries), es.keys.Nodup → ∀ k a, (k, a) ∈ es.toList ↔ es.get? k = some a
  | .nil, _, _, _ => by simp [Entries.toList, Entries.get?]
  | .cons k0 v rest, hnd, k, a => by
    simp only [Entries.keys, List.nodup_cons] at hnd
    simp only [Entries.toList, Entries.get?, List.mem_cons, Prod.mk.injEq, Entries.mem_toList rest hnd.2]
    by_cases hk : k0 = k
    · subst hk
      have : rest.get? k0 ≠ some a := fun h => hnd.1 ((Entries.get?_isSome rest k0).1 (by simp [h]))
      simp [this, eq_comm]
    · simp [hk, Ne.symm hk]

theorem Fields.WF_get? : ∀ (fs : Fields) (fd : FD) (a : FVal), Fields.WF fs → fs.get? fd = some a → FVal.WF a
  | .nil, _, _, _, h => by simp [Fields.get?] at h
  | .cons k fv rest, fd, a, hwf, h => by
    simp only [Fields.WF] at hwf
    simp only [Fields.get?] at h
    split at h
    · cases h; exact hwf.1
    · exact Fields.WF_get? rest fd a hwf.2 h

theorem Entries.WF_get? : ∀ (es : Entries) (k : Scalar) (a : Val), Entries.WF es → es.get? k = some a → Val.WF a
  | .nil, _, _, _, h => by simp [Entries.get?] at h
  | .cons k0 v rest, k, a, hwf, h => by
    simp only [Entries.WF] at hwf
    simp only [Entries.get?] at h
    split at h
    · cases h; exact hwf.1
    · exact Entries.WF_get? rest k a hwf.2 h

/-- The field descriptors the two loops count: those not ignored, in order. -/
def keysN (p : String) (fs : Fields) : List FD := fs.keys.filter (fun fd => !ignoredField p fd)

theorem countFields_eq : ∀ (p : String) (fs : Fields), countFields p fs = (keysN p fs).length
  | _, .nil => rfl
  | p, .cons fd _ rest => by
    simp only [countFields, keysN, Fields.keys, List.filter_cons]
    have := countFields_eq p rest
    simp only [keysN] at this
    cases h : ignoredField p fd <;> simp [this]

theorem Entries.len_eq_keys : ∀ (es : Entries), es.len = es.keys.length
  | .nil => rfl
  | .cons _ _ rest => by simp [Entries.len, Entries.keys, Entries.len_eq_keys rest]

theorem scalarEq_iff (a b : Scalar) : scalarEq a b = true ↔ a.canon = b.canon := by
  -- all pairs but float against float are evaluation; there NaN = NaN and +0 = -0 are what `canon` says
  cases a <;> cases b <;> simp [scalarEq, Scalar.canon]
  rename_i f g
  cases f <;> cases g <;> simp [F.isNaN, F.eq, F.canon]

theorem mem_keysN (p : String) (fs : Fields) (fd : FD) :
    fd ∈ keysN p fs ↔ (fs.get? fd).isSome = true ∧ ignoredField p fd = false := by
  simp [keysN, List.mem_filter, Fields.get?_isSome]

theorem nodup_keysN (p : String) (fs : Fields) (h : fs.keys.Nodup) : (keysN p fs).Nodup :=
  List.Nodup.sublist (List.filter_sublist) h

theorem msg_iff (tx ty : String) (vx vy : Bool) (fx fy : Fields) (ux uy : Unk)
    (hx : fx.keys.Nodup) (hy : fy.keys.Nodup) (hux : WireCut ux) (huy : WireCut uy)
    (H : ∀ fd a b, fx.get? fd = some a → fy.get? fd = some b →
      (eqField noCmp a b = true ↔ FEq ignoredField a b)) :
    (tx == ty && eqFieldsLoop noCmp (shortName tx) fx fy &&
      (countFields (shortName tx) fx == countFields (shortName ty) fy) && eqUnknown ux uy) = true ↔
    PEq ignoredField (.msg tx vx fx ux) (.msg ty vy fy uy) := by
  have key := range_loop_iff (fun fd => ignoredField (shortName tx) fd = false) fx.toList _ _ fx.get? fy.get? _ _
    (nodup_keysN _ fx hx) (nodup_keysN _ fy hy) (Fields.mem_toList fx hx) (mem_keysN _ fx) (mem_keysN _ fy) H
  simp only [Bool.and_eq_true, beq_iff_eq, eqFieldsLoop_iff, countFields_eq, eqUnknown_iff_wire ux uy hux huy]
  constructor
  · rintro ⟨⟨⟨rfl, hloop⟩, hcount⟩, hunk⟩
    obtain ⟨h1, h2⟩ := key.1 ⟨hloop, hcount⟩
    exact PEq.msg rfl h1 h2 hunk
  · intro h
    cases h with
    | msg ht hsome hval hunk =>
      subst ht
      obtain ⟨h1, h2⟩ := key.2 ⟨hsome, hval⟩
      exact ⟨⟨⟨rfl, h1⟩, h2⟩, hunk⟩

theorem map_iff (xs ys : Entries) (hx : xs.keys.Nodup) (hy : ys.keys.Nodup)
    (H : ∀ k a b, xs.get? k = some a → ys.get? k = some b →
      (eqValue noCmp a b = true ↔ PEq ignoredField a b)) :
    ((xs.len == ys.len) && eqMapLoop noCmp xs ys) = true ↔ FEq ignoredField (.map xs) (.map ys) := by
  have key := range_loop_iff (fun _ => True) xs.toList _ _ xs.get? ys.get? _ _ hx hy (Entries.mem_toList xs hx)
    (fun k => by rw [Entries.get?_isSome, and_true]) (fun k => by rw [Entries.get?_isSome, and_true]) H
  simp only [Bool.and_eq_true, beq_iff_eq, eqMapLoop_iff, Entries.len_eq_keys]
  constructor
  · rintro ⟨hlen, hloop⟩
    obtain ⟨h1, h2⟩ := key.1 ⟨fun q hq _ => hloop q hq, hlen⟩
    exact FEq.map (fun k => h1 k trivial) (fun k a b => h2 k a b trivial)
  · intro h
    cases h with
    | map hsome hval =>
      obtain ⟨h1, h2⟩ := key.2 ⟨fun k _ => hsome k, fun k a b _ => hval k a b⟩
      exact ⟨h2, fun q hq => h1 q hq trivial⟩

theorem LEq_len : ∀ (xs ys : Vals), LEq ignoredField xs ys → xs.len = ys.len
  | .nil, .nil, _ => rfl
  | .cons _ r, .cons _ s, h => by
    cases h with
    | cons _ hr => simp [Vals.len, LEq_len r s hr]
  | .nil, .cons _ _, h => by cases h
  | .cons _ _, .nil, h => by cases h

mutual
  theorem value_iff : ∀ (x y : Val), Val.WF x → Val.WF y →
      (eqValue noCmp x y = true ↔ PEq ignoredField x y)
    | .sc a, .sc b, _, _ => by
      unfold eqValue
      simp only [valueAnd_nil, Bool.false_eq_true, if_false, scalarEq_iff]
      exact ⟨PEq.sc, fun h => by cases h; assumption⟩
    | .sc a, .msg _ _ _ _, _, _ => by unfold eqValue; exact iff_of_false Bool.false_ne_true nofun
    | .msg _ _ _ _, .sc b, _, _ => by unfold eqValue; exact iff_of_false Bool.false_ne_true nofun
    | .msg tx vx fx ux, .msg ty vy fy uy, hx, hy => by
      simp only [Val.WF] at hx hy
      unfold eqValue
      simp only [valueAnd_nil, Bool.false_eq_true, if_false]
      exact msg_iff tx ty vx vy fx fy ux uy hx.1 hy.1 hx.2.2 hy.2.2 (fields_iff fx fy hx.2.1 hy.2.1)
  termination_by structural x => x
  theorem field_iff : ∀ (x y : FVal), FVal.WF x → FVal.WF y →
      (eqField noCmp x y = true ↔ FEq ignoredField x y)
    | .one a, .one b, hx, hy => by
      simp only [FVal.WF] at hx hy
      unfold eqField
      rw [value_iff a b hx hy]
      exact ⟨FEq.one, fun h => by cases h; assumption⟩
    | .list xs, .list ys, hx, hy => by
      simp only [FVal.WF] at hx hy
      unfold eqField
      simp only [Bool.and_eq_true, beq_iff_eq, list_iff xs ys hx hy]
      constructor
      · rintro ⟨_, h⟩; exact FEq.list h
      · intro h; cases h with
        | list h => exact ⟨LEq_len xs ys h, h⟩
    | .map xs, .map ys, hx, hy => by
      simp only [FVal.WF] at hx hy
      unfold eqField
      exact map_iff _ _ hx.1 hy.1 (entries_iff _ _ hx.2 hy.2)
    | .one _, .list _, _, _ => by unfold eqField; exact iff_of_false Bool.false_ne_true nofun
    | .one _, .map _, _, _ => by unfold eqField; exact iff_of_false Bool.false_ne_true nofun
    | .list _, .one _, _, _ => by unfold eqField; exact iff_of_false Bool.false_ne_true nofun
    | .list _, .map _, _, _ => by unfold eqField; exact iff_of_false Bool.false_ne_true nofun
    | .map _, .one _, _, _ => by unfold eqField; exact iff_of_false Bool.false_ne_true nofun
    | .map _, .list _, _, _ => by unfold eqField; exact iff_of_false Bool.false_ne_true nofun
  termination_by structural x => x
  theorem fields_iff : ∀ (xs fy : Fields), Fields.WF xs → Fields.WF fy →
      ∀ fd a b, xs.get? fd = some a → fy.get? fd = some b →
      (eqField noCmp a b = true ↔ FEq ignoredField a b)
    | .nil, _, _, _, _, _, _, ha, _ => by simp [Fields.get?] at ha
    | .cons k fv rest, fy, hx, hy, fd, a, b, ha, hb => by
      simp only [Fields.WF] at hx
      simp only [Fields.get?] at ha
      by_cases hk : k = fd
      · simp only [hk, if_true, Option.some.injEq] at ha
        subst ha
        exact field_iff fv b hx.1 (Fields.WF_get? fy fd b hy hb)
      · simp only [hk, if_false] at ha
        exact fields_iff rest fy hx.2 hy fd a b ha hb
  termination_by structural x => x
  theorem list_iff : ∀ (xs ys : Vals), Vals.WF xs → Vals.WF ys →
      (eqListLoop noCmp xs ys = true ↔ LEq ignoredField xs ys)
    | .nil, .nil, _, _ => by unfold eqListLoop; exact ⟨fun _ => LEq.nil, fun _ => rfl⟩
    | .cons a r, .cons b s, hx, hy => by
      simp only [Vals.WF] at hx hy
      unfold eqListLoop
      simp only [Bool.and_eq_true, value_iff a b hx.1 hy.1, list_iff r s hx.2 hy.2]
      constructor
      · rintro ⟨h1, h2⟩; exact LEq.cons h1 h2
      · intro h; cases h with
        | cons h1 h2 => exact ⟨h1, h2⟩
    | .nil, .cons _ _, _, _ => by unfold eqListLoop; exact iff_of_false Bool.false_ne_true nofun
    | .cons _ _, .nil, _, _ => by unfold eqListLoop; exact iff_of_false Bool.false_ne_true nofun
  termination_by structural x => x
  theorem entries_iff : ∀ (xs ys : Entries), Entries.WF xs → Entries.WF ys →
      ∀ k a b, xs.get? k = some a → ys.get? k = some b →
      (eqValue noCmp a b = true ↔ PEq ignoredField a b)
    | .nil, _, _, _, _, _, _, ha, _ => by simp [Entries.get?] at ha
    | .cons k0 v rest, ys, hx, hy, k, a, b, ha, hb => by
      simp only [Entries.WF] at hx
      simp only [Entries.get?] at ha
      by_cases hk : k0 = k
      · simp only [hk, if_true, Option.some.injEq] at ha
        subst ha
        exact value_iff v b hx.1 (Entries.WF_get? ys k b hy hb)
      · simp only [hk, if_false] at ha
        exact entries_iff rest ys hx.2 hy k a b ha hb
  termination_by structural x => x
end

/-- `equalValue`'s message case is `equalMessage` inlined: with no value comparer the two are one function. -/
theorem eqMessage_eq_eqValue (tx ty : String) (vx vy : Bool) (fx fy : Fields) (ux uy : Unk) :
    eqMessage noCmp (.msg tx vx fx ux) (.msg ty vy fy uy) = eqValue noCmp (.msg tx vx fx ux) (.msg ty vy fy uy) := by
  unfold eqValue
  simp only [valueAnd_nil, Bool.false_eq_true, if_false]
  rfl

end ScVerif.C16
