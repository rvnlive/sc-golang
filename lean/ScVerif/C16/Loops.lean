import ScVerif.C16.CmpSpec
/-! The loops of `equalMessage`, `equalList` and `equalMap` as statements about the lists `Range` visits. -/
namespace ScVerif.C16

theorem eqFieldsLoop_iff (c : VCmp) (p : String) (fy : Fields) : (xs : Fields) →
    (eqFieldsLoop c p xs fy = true ↔
      ∀ q ∈ xs.toList, ignoredField p q.1 = false → ∃ b, fy.get? q.1 = some b ∧ eqField c q.2 b = true)
  | .nil => by unfold eqFieldsLoop; simp [Fields.toList]
  | .cons k v rest => by
    have ih := eqFieldsLoop_iff c p fy rest
    unfold eqFieldsLoop
    simp only [Fields.toList, List.mem_cons, forall_eq_or_imp, ← ih]
    cases ignoredField p k
    · cases fy.get? k <;> simp
    · simp

theorem eqListLoop_iff (c : VCmp) : (xs ys : Vals) →
    (eqListLoop c xs ys = true ↔
      xs.toList.length = ys.toList.length ∧ ∀ p ∈ List.zip xs.toList ys.toList, eqValue c p.1 p.2 = true)
  | .nil, .nil => by unfold eqListLoop; simp [Vals.toList]
  | .nil, .cons _ _ => by unfold eqListLoop; simp [Vals.toList]
  | .cons _ _, .nil => by unfold eqListLoop; simp [Vals.toList]
  | .cons a r, .cons b s => by
    have ih := eqListLoop_iff c r s
    unfold eqListLoop
    simp only [Bool.and_eq_true, ih, Vals.toList, List.length_cons, Nat.add_right_cancel_iff, List.zip_cons_cons,
      List.mem_cons, forall_eq_or_imp]
    constructor
    · rintro ⟨h1, h2, h3⟩; exact ⟨h2, h1, h3⟩
    · rintro ⟨h2, h1, h3⟩; exact ⟨h1, h2, h3⟩

theorem eqMapLoop_iff (c : VCmp) (ys : Entries) : (xs : Entries) →
    (eqMapLoop c xs ys = true ↔
      ∀ p ∈ xs.toList, ∃ vy, ys.get? p.1 = some vy ∧ eqValue c p.2 vy = true)
  | .nil => by unfold eqMapLoop; simp [Entries.toList]
  | .cons k v rest => by
    have ih := eqMapLoop_iff c ys rest
    unfold eqMapLoop
    simp only [Bool.and_eq_true, Entries.toList, List.mem_cons, forall_eq_or_imp, ← ih]
    cases ys.get? k <;> simp

theorem Vals.len_eq_length : (xs : Vals) → xs.len = xs.toList.length
  | .nil => rfl
  | .cons _ r => by simp [Vals.len, Vals.toList, Vals.len_eq_length r]

theorem Entries.len_eq_length : (xs : Entries) → xs.len = xs.toList.length
  | .nil => rfl
  | .cons _ _ r => by simp [Entries.len, Entries.toList, Entries.len_eq_length r]

end ScVerif.C16
