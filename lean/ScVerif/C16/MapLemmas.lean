import ScVerif.C16.RepeatedLemmas
/-! `equalMap` hands each value of x, with the value of y under the same key, to `equalValue`. -/
namespace ScVerif.C16

theorem eqField_map_iff (c : VCmp) (xs ys : Entries) :
    eqField c (.map xs) (.map ys) = true ↔
      xs.toList.length = ys.toList.length ∧
        ∀ p ∈ xs.toList, ∃ vy, ys.get? p.1 = some vy ∧ eqValue c p.2 vy = true := by
  unfold eqField
  rw [Bool.and_eq_true, eqMapLoop_iff, Entries.len_eq_length, Entries.len_eq_length]
  simp only [beq_iff_eq]

theorem Entries.get?_ofListWith {α : Type} (f : α → Val) (k : Scalar) : (l : List (Scalar × α)) →
    (Entries.ofListWith f l).get? k = (l.find? (fun e => decide (e.1 = k))).map (fun e => f e.2)
  | [] => rfl
  | (k', a) :: r => by
    have ih := Entries.get?_ofListWith f k r
    unfold Entries.ofListWith at ih ⊢
    simp only [List.map_cons, Entries.ofList, Entries.get?, List.find?_cons]
    by_cases hk : k' = k
    · simp [hk]
    · simp [hk, ih]

theorem Entries.toList_ofListWith {α : Type} (f : α → Val) : (l : List (Scalar × α)) →
    (Entries.ofListWith f l).toList = l.map (fun p => (p.1, f p.2))
  | [] => rfl
  | (k', a) :: r => by
    have ih := Entries.toList_ofListWith f r
    unfold Entries.ofListWith at ih ⊢
    simp only [List.map_cons, Entries.ofList, Entries.toList, ih]

/-- Over two maps whose values are built by one constructor `f`, the per-value verdict being characterised by `P`. -/
theorem eqField_map_with_iff {α : Type} (c : VCmp) (f : α → Val) (P : α → α → Prop)
    (hP : ∀ a b, eqValue c (f a) (f b) = true ↔ P a b) (xs ys : List (Scalar × α)) :
    eqField c (.map (Entries.ofListWith f xs)) (.map (Entries.ofListWith f ys)) = true ↔
      xs.length = ys.length ∧
        ∀ p ∈ xs, ∃ q, ys.find? (fun e => decide (e.1 = p.1)) = some q ∧ P p.2 q.2 := by
  rw [eqField_map_iff, Entries.toList_ofListWith, Entries.toList_ofListWith]
  simp only [List.length_map, List.mem_map, Entries.get?_ofListWith]
  constructor
  · rintro ⟨hl, hp⟩
    refine ⟨hl, fun p hm => ?_⟩
    obtain ⟨vy, hg, hv⟩ := hp (p.1, f p.2) ⟨p, hm, rfl⟩
    simp only at hg hv
    cases hf : ys.find? (fun e => decide (e.1 = p.1)) with
    | none => simp [hf] at hg
    | some q =>
      simp only [hf, Option.map_some, Option.some.injEq] at hg
      subst hg
      exact ⟨q, rfl, (hP _ _).1 hv⟩
  · rintro ⟨hl, hp⟩
    refine ⟨hl, ?_⟩
    rintro _ ⟨p, hm, rfl⟩
    obtain ⟨q, hf, hq⟩ := hp p hm
    exact ⟨f q.2, by simp [hf], (hP _ _).2 hq⟩

end ScVerif.C16
