import ScVerif.C16.Rounded
/-! What follows of a rounding from monotonicity and sign symmetry alone. -/
namespace ScVerif.C16

theorem odd_zero {rnd : Rat → Rat} (h : ∀ a, rnd (-a) = -rnd a) : rnd 0 = 0 := by
  have := h 0
  rw [Rat.neg_zero] at this
  grind

theorem Rounding.nonneg {rnd : Rat → Rat} (h : Rounding rnd) (a : Rat) (ha : 0 ≤ a) : 0 ≤ rnd a := by
  have := h.mono 0 a ha
  rw [odd_zero h.odd] at this
  exact this

theorem Rounding.abs {rnd : Rat → Rat} (h : Rounding rnd) (a : Rat) : (rnd a).abs = rnd a.abs := by
  rcases Rat.le_total (a := 0) (b := a) with ha | ha
  · rw [Rat.abs_of_nonneg ha, Rat.abs_of_nonneg (h.nonneg a ha)]
  · have h2 : rnd a ≤ 0 := by
      have := h.mono a 0 ha
      rwa [odd_zero h.odd] at this
    rw [Rat.abs_of_nonpos ha, Rat.abs_of_nonpos h2, h.odd]

theorem Rounding.max {rnd : Rat → Rat} (h : Rounding rnd) (a b : Rat) : rnd (max a b) = max (rnd a) (rnd b) := by
  rw [Rat.max_def, Rat.max_def]
  by_cases hab : a ≤ b
  · rw [if_pos hab, if_pos (h.mono a b hab)]
  · rw [if_neg hab]
    have hba := h.mono b a (Rat.le_of_lt (Rat.not_le.mp hab))
    split
    · exact Rat.le_antisymm ‹_› hba
    · rfl

theorem Rounding.signSymmetric {rnd : Rat → Rat} (h : Rounding rnd) : SignSymmetric rnd :=
  ⟨h.odd, h.nonneg⟩

theorem SignSymmetric.zero {rnd : Rat → Rat} (h : SignSymmetric rnd) : rnd 0 = 0 := odd_zero h.odd

theorem SignSymmetric.abs_sub_comm {rnd : Rat → Rat} (h : SignSymmetric rnd) (x y : Rat) :
    (rnd (x - y)).abs = (rnd (y - x)).abs := by
  rw [← Rat.neg_sub y x, h.odd, Rat.abs_neg]

theorem SignSymmetric.abs_sub_self {rnd : Rat → Rat} (h : SignSymmetric rnd) (x : Rat) : (rnd (x - x)).abs = 0 := by
  rw [Rat.sub_self, h.zero, Rat.abs_zero]

theorem floatApproxR_def (rnd : Rat → Rat) (fr mg x y : Rat) :
    floatApproxR rnd fr mg x y = decide ((rnd (x - y)).abs ≤ max mg (rnd (fr * min x.abs y.abs))) := rfl

theorem durWithinPR_def (rnd : Rat → Rat) (p : Rat) (xd yd : Int) :
    durWithinPR rnd p xd yd =
      decide (rnd ((rnd (rnd xd - rnd yd)).abs * 100) ≤ rnd (p * min (rnd xd).abs (rnd yd).abs)) := rfl

/-- The rounded comparison is a comparison of two rounded exact quantities: the distance and the tolerance. -/
theorem floatApproxR_eq (rnd : Rat → Rat) (h : Rounding rnd) (fr mg x y : Rat) (hmg : rnd mg = mg) :
    floatApproxR rnd fr mg x y = decide (rnd (x - y).abs ≤ rnd (max mg (fr * min x.abs y.abs))) := by
  rw [floatApproxR_def, h.abs, h.max, hmg]

theorem rounding_id : Rounding id := ⟨fun _ _ h => h, fun _ => rfl⟩

/-- Rounding everything to zero is (degenerately) monotone and sign-symmetric: the hypotheses do not force
`rnd` to be exact anywhere but at 0. -/
theorem rounding_zero : Rounding (fun _ => 0) := ⟨fun _ _ _ => by grind, fun _ => by grind⟩

theorem Rounding.le_iff {rnd : Rat → Rat} (h : Rounding rnd) (A B : Rat) :
    rnd A ≤ rnd B ↔ (A ≤ B ∨ rnd A = rnd B) := by
  constructor
  · intro hle
    rcases Rat.le_total (a := A) (b := B) with hd | hd
    · exact Or.inl hd
    · exact Or.inr (Rat.le_antisymm hle (h.mono B A hd))
  · rintro (hd | he)
    · exact h.mono _ _ hd
    · rw [he]; exact Rat.le_refl

end ScVerif.C16
