import ScVerif.C16.EqualMain
/-!
# C16 — the default comparer and protobuf equality
-/
namespace ScVerif.C16

/-- Full strength: on well-formed arguments (`Range` visits each field / map key once; the unknown fields of every
message, at any depth, are what the model of `protowire.ConsumeField` cuts out of some raw bytes) `cmp.Equal()` is equality in
the sense of proto.Equal's documentation (`PEqTop`: nil, typed nil, NaN = NaN, +0 = -0, for every field number the same
unknown bytes in order, and no length or raw-byte-identity clause) EXCEPT that the fields selected by `ignoredField`,
`change_time` of a message named `Change`, take no part: neither their value nor whether they are set.
`PEqTop (fun _ _ => false)` is protobuf equality itself. -/
theorem C16_equal_agrees (x y : Top) (hx : TopWF x) (hy : TopWF y) :
    equal [] x y = true ↔ PEqTop ignoredField x y := by
  cases x with
  | none => cases y <;> simp [equal, compare, PEqTop]
  | some x =>
    cases y with
    | none => simp [equal, compare, PEqTop]
    | some y =>
      cases x with
      | sc _ => exact absurd hx (by simp [TopWF])
      | msg tx vx fx ux =>
        cases y with
        | sc _ => exact absurd hy (by simp [TopWF])
        | msg ty vy fy uy =>
          simp only [equal, compare, Val.isValid, PEqTop, eqMessage_eq_eqValue]
          by_cases hval : vx = vy
          · subst hval
            simp only [bne_self_eq_false, Bool.false_eq_true, if_false, true_and]
            exact value_iff _ _ hx hy
          · have : (vx != vy) = true := by simpa using hval
            simp [this, hval]

/-- The same at every nested position. -/
theorem C16_equal_agrees_values (x y : Val) (hx : Val.WF x) (hy : Val.WF y) :
    eqValue (valueAnd []) x y = true ↔ PEq ignoredField x y :=
  value_iff x y hx hy

/-- The only fields `cmp.Equal` leaves out are `change_time` of a message named `Change`. -/
theorem C16_ignored_only_change_time (parent : String) (fd : FD) :
    ignoredField parent fd = true ↔ (fd.name = "change_time" ∧ parent = "Change") := by
  simp [ignoredField]

/-- A message whose name merely ENDS in "Change" keeps its change_time in the comparison. -/
example : ignoredField "AudioLevelChange" ⟨2, "change_time"⟩ = false := by simp [ignoredField]
example : ignoredField "Change" ⟨2, "change_time"⟩ = true := by simp [ignoredField]
example : ignoredField "Change" ⟨4, "last_change_time"⟩ = false := by simp [ignoredField]

/-- `equalUnknown` (length test, identical-bytes shortcut, per-number maps) decides "the same raw bytes for every field
number".  The length test is redundant; the shortcut is sound given that wire parsing is a function of the bytes, the
hypothesis `hdet`, which `C16_unknown_fields_wire` discharges for records cut from raw bytes by the model of
`protowire.ConsumeField`, as the driver reads a message. -/
theorem C16_unknown_fields (x y : Unk)
    (hdet : unkBytes x = unkBytes y → ∀ n, unkGroup n x = unkGroup n y) :
    eqUnknown x y = true ↔ ∀ n, unkGroup n x = unkGroup n y :=
  eqUnknown_iff_groups x y hdet

/-- The hypothesis is satisfiable on a non-trivial pair (records of two numbers in different order: the
bytes differ, so the shortcut does not fire, and the groups agree). -/
example : (unkBytes [(1000, [0xc0, 0x3e, 1]), (1001, [0xc8, 0x3e, 2])] =
      unkBytes [(1001, [0xc8, 0x3e, 2]), (1000, [0xc0, 0x3e, 1])] →
    ∀ n, unkGroup n [(1000, [0xc0, 0x3e, 1]), (1001, [0xc8, 0x3e, 2])] =
      unkGroup n [(1001, [0xc8, 0x3e, 2]), (1000, [0xc0, 0x3e, 1])]) := by
  intro h
  simp [unkBytes, recBytes] at h

/-- Unknown fields from the RAW bytes, no hypothesis about parsing: `equalUnknown` as the Go code runs it (length test,
`bytes.Equal` shortcut, the two per-number maps filled by appending every record, `reflect.DeepEqual`).  The key-set half
of DeepEqual and the length test are redundant on parsable bytes; on unparsable bytes the length test is what answers
before the parser fails, which is outside this theorem and tied / monitored.  (This is also the rule of proto.Equal in
the protobuf version of go.mod.) -/
theorem C16_unknown_fields_wire (bx by_ : Bytes) (rx ry : Unk)
    (hx : wireRecords bx = some rx) (hy : wireRecords by_ = some ry) :
    (eqUnknownRaw bx by_ = some true ↔ ∀ n, unkGroup n rx = unkGroup n ry) ∧
    eqUnknownRaw bx by_ = some (eqUnknown rx ry) ∧ unkBytes rx = bx ∧ unkBytes ry = by_ := by
  have hbx := (splitRecords_spec _ bx rx hx).1
  have hby := (splitRecords_spec _ by_ ry hy).1
  have heq := eqUnknownRaw_eq bx by_ rx ry hx hy
  refine ⟨?_, heq, hbx, hby⟩
  rw [heq, Option.some.injEq]
  exact eqUnknown_iff_wire rx ry ⟨bx, hx⟩ ⟨by_, hy⟩

/-- "The same set of unknown field values" at the level of RECORDS: wire records are self-delimiting (`ConsumeField` looks
at the bytes of the record only, for varint, fixed32/64, length-delimited and nested group records), so two record lists
with the same concatenated bytes are the same lists; records of different numbers may be interleaved differently. -/
theorem C16_unknown_same_records (x y : Unk) (hx : WireCut x) (hy : WireCut y) :
    eqUnknown x y = true ↔ ∀ n, x.filter (fun r => r.1 == n) = y.filter (fun r => r.1 == n) := by
  rw [eqUnknown_iff_wire x y hx hy]
  unfold unkSame
  constructor
  · intro h n; exact (group_eq_iff_records x y hx hy n).1 (h n)
  · intro h n; exact (group_eq_iff_records x y hx hy n).2 (h n)

/-- The hypothesis is satisfiable (and is what the driver establishes for every message it reads). -/
example : WireCut [(1000, [0xc0, 0x3e, 1]), (1001, [0xc8, 0x3e, 9]), (1000, [0xc0, 0x3e, 2])] :=
  ⟨[0xc0, 0x3e, 1, 0xc8, 0x3e, 9, 0xc0, 0x3e, 2], by decide +kernel⟩

/-- On parsable bytes the Go loop `x[:n]; x = x[n:]` neither stalls nor slices out of range, and the fuel of the model is
immaterial (the Go loop has none). -/
theorem C16_wire_cutter (b : Bytes) :
    (∀ num n, consumeField b = some (num, n) → 1 ≤ n ∧ n ≤ b.length) ∧
    (∀ fuel, b.length ≤ fuel → splitRecords fuel b = wireRecords b) :=
  ⟨fun num n h => consumeField_bounds b num n h,
   fun fuel h => splitRecords_fuel fuel b.length b h (Nat.le_refl _)⟩

/-- Non-vacuity: `#1000: 1, #1001: 9, #1000: 2` parses into three records; against `#1000: 3, …` (a
difference in a NON-last occurrence of a repeated number, same total length) the answer is false. -/
example : wireRecords [0xc0, 0x3e, 1, 0xc8, 0x3e, 9, 0xc0, 0x3e, 2] =
    some [(1000, [0xc0, 0x3e, 1]), (1001, [0xc8, 0x3e, 9]), (1000, [0xc0, 0x3e, 2])] := by decide +kernel

example : eqUnknownRaw [0xc0, 0x3e, 1, 0xc8, 0x3e, 9, 0xc0, 0x3e, 2] [0xc0, 0x3e, 3, 0xc0, 0x3e, 2, 0xc8, 0x3e, 9] =
    some false := by decide +kernel

example : eqUnknownRaw [0xc0, 0x3e, 1, 0xc8, 0x3e, 9, 0xc0, 0x3e, 2] [0xc0, 0x3e, 1, 0xc0, 0x3e, 2, 0xc8, 0x3e, 9] =
    some true := by decide +kernel

/-- Non-vacuity: well-formed arguments exist (a message with two fields, a map and unknown fields). -/
example : TopWF (some (.msg "pkg.T" true
    (.cons ⟨1, "a"⟩ (.one (.sc (.int 1)))
      (.cons ⟨2, "m"⟩ (.map (.cons (.str "6b") (.sc (.float .nan)) .nil)) .nil)) [(1000, [0xc0, 0x3e, 1])])) := by
  simp only [TopWF, Val.WF, Fields.WF, FVal.WF, Entries.WF, Fields.keys, Entries.keys]
  exact ⟨by decide, ⟨trivial, ⟨by decide, trivial, trivial⟩, trivial⟩, [0xc0, 0x3e, 1], by decide⟩

/-- The exception at work: for any message type whose short name is `Change`, a message with
`change_time` set and one without are equal for the spec-with-exception and NOT equal for protobuf equality. -/
example (ty : String) (hty : shortName ty = "Change") (ts : Val) :
    PEq ignoredField (.msg ty true (.cons ⟨2, "change_time"⟩ (.one ts) .nil) []) (.msg ty true .nil []) ∧
    ¬ PEq (fun _ _ => false) (.msg ty true (.cons ⟨2, "change_time"⟩ (.one ts) .nil) []) (.msg ty true .nil []) := by
  constructor
  · refine PEq.msg rfl ?_ ?_ (fun _ => rfl)
    · intro fd hfd
      by_cases h : (⟨2, "change_time"⟩ : FD) = fd
      · subst h; simp [ignoredField, hty] at hfd
      · simp [Fields.get?, h]
    · intro fd a b hfd ha hb
      simp [Fields.get?] at hb
  · intro h
    cases h with
    | msg _ hsome _ _ =>
      have := hsome ⟨2, "change_time"⟩ rfl
      simp [Fields.get?] at this

end ScVerif.C16
