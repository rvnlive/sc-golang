/-!
# C16 — the float arithmetic of `pkg/cmp` WITH rounding

`Float.lean` / `Tolerance.lean` compute over exact rationals.  The code computes in binary64: every
arithmetic result is rounded.  Here the finite branch of `FloatValueApprox` and `DurationValueWithinP` is
written operation by operation as in `number.go` / `time.go`, with a rounding function `rnd`
applied wherever binary64 rounds:

```go
relMarg := fraction * math.Min(math.Abs(fx), math.Abs(fy))     // one rounding (the product)
return math.Abs(fx-fy) <= math.Max(margin, relMarg), true       // one rounding (the difference)

fx, fy := float64(xd), float64(yd)                              // one rounding each (int64 -> float64)
return math.Abs(fx-fy)*100 <= float64(p)*math.Min(math.Abs(fx), math.Abs(fy)), true   // difference, two products
```

`math.Abs`, `math.Min`, `math.Max`, `<=` and the widening `float64(p)` of a float32 are exact.

The theorems (PropsRounded.lean) hold for every rounding function that is monotone and sign-symmetric (`Rounding`):
IEEE-754 round-to-nearest-even is one (`rne64_rounding`), so is the identity (`rounding_id`, exact arithmetic).
`rne64` is an executable round-to-nearest-even onto the binary64 grid (subnormals included, no overflow: the exponent is
unbounded above) used by the driver: the tie compares `floatValueApproxR rne64 maxFloat64` (`RoundedF.lean`) and
`durWithinPR rne64` with the real code on inputs whose arithmetic rounds, and `rne64` itself with Go's `big.Rat.Float64`.
-/
namespace ScVerif.C16

/-- What the theorems need of binary64 rounding: monotone and sign-symmetric. -/
structure Rounding (rnd : Rat → Rat) : Prop where
  mono : ∀ a b, a ≤ b → rnd a ≤ rnd b
  odd : ∀ a, rnd (-a) = -rnd a

/-- The finite branch of `FloatValueApprox(fraction, margin)` in rounded arithmetic. -/
def floatApproxR (rnd : Rat → Rat) (fraction margin fx fy : Rat) : Bool :=
  let relMarg := rnd (fraction * min fx.abs fy.abs)
  decide ((rnd (fx - fy)).abs ≤ max margin relMarg)

/-- `DurationValueWithinP(p)` on two int64 durations in rounded arithmetic. -/
def durWithinPR (rnd : Rat → Rat) (p : Rat) (xd yd : Int) : Bool :=
  let fx := rnd xd
  let fy := rnd yd
  decide (rnd ((rnd (fx - fy)).abs * 100) ≤ rnd (p * min fx.abs fy.abs))

/-- `2^e` as a rational. -/
def pow2 (e : Int) : Rat := if 0 ≤ e then ((2 ^ e.toNat : Nat) : Rat) else 1 / ((2 ^ (-e).toNat : Nat) : Rat)

/-- `⌊log2 q⌋` for `q > 0`: from the bit lengths of numerator and denominator, corrected by one comparison. -/
def ilog2 (q : Rat) : Int :=
  let e : Int := (Nat.log2 q.num.natAbs : Int) - (Nat.log2 q.den : Int)
  if pow2 e ≤ q then e else e - 1

/-- Round half to even onto the integers (`k ≥ 0`). -/
def rneInt (k : Rat) : Int :=
  let f := k.floor
  let r := k - (f : Rat)
  if r < 1 / 2 then f else if 1 / 2 < r then f + 1 else if f % 2 = 0 then f else f + 1

/-- Round to nearest, ties to even, onto the binary64 grid: 53 significant bits, spacing never below
`2^-1074` (subnormals).  The exponent is unbounded above (no overflow to infinity). -/
def rne64 (q : Rat) : Rat :=
  if q = 0 then 0
  else
    let a := q.abs
    let e := max (ilog2 a) (-1022)
    let u := pow2 (e - 52)
    let n : Rat := (rneInt (a / u) : Rat)
    if q < 0 then -(n * u) else n * u

def maxFloat64 : Rat := (((2 ^ 53 - 1 : Nat) : Rat)) * pow2 971

/-- What symmetry and reflexivity of the comparers need of a rounding, less than `Rounding`: sign-symmetric and
sign-preserving; monotonicity is not asked. -/
structure SignSymmetric (rnd : Rat → Rat) : Prop where
  odd : ∀ a, rnd (-a) = -rnd a
  nonneg : ∀ a, 0 ≤ a → 0 ≤ rnd a

end ScVerif.C16
