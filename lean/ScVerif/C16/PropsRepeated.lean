import ScVerif.C16.RepeatedLemmas
/-!
# C16 — repeated occurrences of the compared kinds

"Only affect fields of their own kind" includes repeated occurrences of those kinds.  `equalList` hands every
pair of corresponding ELEMENTS to `equalValue`, whose first step is the value-comparer override: a
`repeated google.protobuf.Timestamp` / `repeated google.protobuf.Duration` field is compared element by element
WITH the tolerance, not field by field (seconds, nanos).
-/
namespace ScVerif.C16

/-- `equalList` compares element by element under `equalValue`, for every value comparer (which decides where it claims the
pair). -/
theorem C16_repeated_pointwise (c : VCmp) (xs ys : Vals) :
    eqField c (.list xs) (.list ys) = true ↔
      xs.toList.length = ys.toList.length ∧ ∀ p ∈ List.zip xs.toList ys.toList, eqValue c p.1 p.2 = true :=
  eqField_list_iff c xs ys

/-- A comparer that claims every pair of corresponding elements decides the repeated field alone. -/
theorem C16_repeated_claimed (c : VCmp) (xs ys : Vals)
    (h : ∀ p ∈ List.zip xs.toList ys.toList, (c p.1 p.2).2 = true) :
    eqField c (.list xs) (.list ys) = true ↔
      xs.toList.length = ys.toList.length ∧ ∀ p ∈ List.zip xs.toList ys.toList, (c p.1 p.2).1 = true := by
  rw [C16_repeated_pointwise]
  constructor
  · rintro ⟨hl, hp⟩; exact ⟨hl, fun p hm => by rw [← eqValue_claimed c p.1 p.2 (h p hm)]; exact hp p hm⟩
  · rintro ⟨hl, hp⟩; exact ⟨hl, fun p hm => by rw [eqValue_claimed c p.1 p.2 (h p hm)]; exact hp p hm⟩

/-- `Equal(TimeValueWithin(d))` on a `repeated google.protobuf.Timestamp` field (tolerance below the maximal Duration, as
in `C16_time_within`). -/
theorem C16_repeated_times_within (d : Int) (hd : d < maxI64) (xs ys : List (Fields × Unk)) :
    eqField (valueAnd [timeValueWithin d]) (.list (Vals.ofList (xs.map tsVal))) (.list (Vals.ofList (ys.map tsVal))) = true ↔
      xs.length = ys.length ∧ ∀ p ∈ List.zip xs ys,
        toTimeNs p.1.1 - toTimeNs p.2.1 ≤ d ∧ toTimeNs p.2.1 - toTimeNs p.1.1 ≤ d :=
  eqField_list_with_iff _ tsVal _ (fun a b => eqValue_time_within d hd a.1 b.1 a.2 b.2) xs ys

/-- `Equal(DurationValueWithin(d))` on a `repeated google.protobuf.Duration` field. -/
theorem C16_repeated_durations_within (d : Int) (hd : d ≤ maxI64) (xs ys : List (Fields × Unk)) :
    eqField (valueAnd [durationValueWithin d]) (.list (Vals.ofList (xs.map durVal))) (.list (Vals.ofList (ys.map durVal))) = true ↔
      xs.length = ys.length ∧ ∀ p ∈ List.zip xs ys,
        toDurationNs p.1.1 - toDurationNs p.2.1 ≤ d ∧ toDurationNs p.2.1 - toDurationNs p.1.1 ≤ d :=
  eqField_list_with_iff _ durVal _ (fun a b => eqValue_duration_within d hd a.1 b.1 a.2 b.2) xs ys

/-- Non-vacuity: two one-element lists of Timestamps 1 ns apart (field 2 = nanos) are equal under a 1 ns
tolerance, different under a 0 ns tolerance; and lists of different lengths are never equal. -/
example :
    let x : Fields × Unk := (.cons ⟨2, "nanos"⟩ (.one (.sc (.int 1))) .nil, [])
    let y : Fields × Unk := (.cons ⟨2, "nanos"⟩ (.one (.sc (.int 2))) .nil, [])
    eqField (valueAnd [timeValueWithin 1]) (.list (Vals.ofList ([x].map tsVal))) (.list (Vals.ofList ([y].map tsVal))) = true ∧
    eqField (valueAnd [timeValueWithin 0]) (.list (Vals.ofList ([x].map tsVal))) (.list (Vals.ofList ([y].map tsVal))) ≠ true ∧
    eqField (valueAnd [timeValueWithin 1]) (.list (Vals.ofList ([x, x].map tsVal))) (.list (Vals.ofList ([y].map tsVal))) ≠ true := by
  intro x y
  refine ⟨?_, ?_, ?_⟩
  · rw [C16_repeated_times_within 1 (by decide)]
    exact ⟨rfl, by decide⟩
  · intro hh
    rw [C16_repeated_times_within 0 (by decide)] at hh
    exact absurd (hh.2 (x, y) (by simp)) (by decide)
  · intro hh
    rw [C16_repeated_times_within 1 (by decide)] at hh
    exact absurd hh.1 (by decide)

end ScVerif.C16
