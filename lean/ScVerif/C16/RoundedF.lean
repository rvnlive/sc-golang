import ScVerif.C16.Rounded
import ScVerif.C16.Tolerance
/-!
# C16 — `FloatValueApprox` as a whole in rounded arithmetic, overflow included

`Rounded.lean` has the finite branch over rationals (`floatApproxR`).  Here the same arithmetic on `F` values: every exact
finite result is rounded by `rnd` and overflows to ±Inf when its rounded magnitude exceeds `lim` (binary64: `rne64`,
`maxFloat64`); without overflow it is `floatApproxR` (`floatApproxFR_fin`).
-/
namespace ScVerif.C16

/-- Rounding of an exact finite result to the format: `rnd` onto the grid, then overflow to ±Inf beyond `lim`
(IEEE: a result whose rounded magnitude — exponent unbounded — exceeds the largest finite value). -/
def F.round (rnd : Rat → Rat) (lim : Rat) : F → F
  | .fin q z => if lim < (rnd q).abs then .inf (decide (q < 0)) else .fin (rnd q) z
  | f => f

/-- The arithmetic of `FloatValueApprox` with the product and the difference rounded (and overflowing). -/
def floatApproxFR (rnd : Rat → Rat) (lim : Rat) (fraction margin fx fy : F) : Bool :=
  let relMarg := F.round rnd lim (F.mul fraction (F.min (F.abs fx) (F.abs fy)))
  F.le (F.abs (F.round rnd lim (F.sub fx fy))) (F.max margin relMarg)

/-- `FloatValueApprox(fraction, margin)` as a comparer in rounded arithmetic. -/
def floatValueApproxR (rnd : Rat → Rat) (lim : Rat) (fraction margin : F) : VCmp
  | .sc (.float fx), .sc (.float fy) =>
    if fx.isNaN || fy.isNaN then (fx.isNaN && fy.isNaN, true)
    else if !fx.isFinite || !fy.isFinite then (F.eq fx fy, true)
    else (floatApproxFR rnd lim fraction margin fx fy, true)
  | _, _ => (false, false)

/-- `DurationValueWithinP(p)` as a comparer in rounded arithmetic.  A non-finite p (NaN, ±Inf) makes the right-hand
product NaN or ±Inf whatever the roundings, so the exact special-value arithmetic decides. -/
def durationValueWithinPR (rnd : Rat → Rat) (p : F) : VCmp := fun x y =>
  let (xd, yd, equal, ok, early) := cmpDuration x y
  if early then (equal, ok) else
    match p with
    | .fin q _ => (durWithinPR rnd q xd yd, true)
    | _ => (durWithinPD p xd yd, true)

end ScVerif.C16
