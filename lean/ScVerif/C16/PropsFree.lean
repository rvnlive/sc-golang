import ScVerif.C16.FreeLemmas
import ScVerif.C16.Props
/-!
# C16 — free-running slow subscribers (no backpressure), any schedule

The delivery property when the subscriber receives whenever it likes: `Value.Pull` behind `minibus.DropExcess`,
`Collection.Pull` behind `mergeCollectionExcess`.  A schedule is an arbitrary interleaving of `recv` (the bus hands a
message to the lossy stage) and `take` (the forwarding loop takes what the stage offers).
-/
namespace ScVerif.C16

/-- `DropExcess` under every schedule: whatever was dropped, the final value is never lost. -/
theorem C16_drop_excess {β : Type} (sched : List (Act β)) :
    List.Sublist (dropRun none sched).1 (recvs sched) ∧
    ((dropRun none sched).2 = none ∨ (dropRun none sched).2 = (recvs sched).getLast?) ∧
    ((dropRun none sched).2 = none → recvs sched ≠ [] →
      (dropRun none sched).1.getLast? = (recvs sched).getLast?) := by
  have hl := dropRun_last sched (none : Option β)
  simp only [offered, Option.toList_none, List.nil_append] at hl
  refine ⟨by simpa [offered] using dropRun_sublist sched (none : Option β), ?_, fun h _ => ?_⟩
  · cases h : (dropRun none sched).2 with
    | none => exact Or.inl rfl
    | some a => right; rw [← hl, h]; simp
  · rw [← hl, h, Option.toList_none, List.append_nil]

/-- `Value.Pull` without backpressure, for any function E (a tolerance too): each value the loop is handed is delivered
iff it is not E-equivalent to what the subscriber holds at that moment, and once the stage is drained after the last
write `w` the subscriber holds `flt w` or a value E accepts for it: a non-equivalent final value is never suppressed,
whatever was dropped on the way.  No hypothesis on E: `Value.Pull` compares with what it last SENT (contrast
`C16_free_lossy_tracks`). -/
theorem C16_value_lossy (E : MCmp) (flt : Val → Val) (cur : Top) (sched : List (Act Val)) :
    List.Sublist (dropRun none sched).1 (recvs sched) ∧
    (∀ pre d post, valuePull (some E) flt cur (dropRun none sched).1 = pre ++ d :: post → (pre ≠ [] ∨ cur = none) →
      d.delivered = !E (heldAfter none pre) (some d.value)) ∧
    (∀ w, (dropRun none sched).2 = none → (recvs sched).getLast? = some w →
      heldAfter none (valuePull (some E) flt cur (dropRun none sched).1) = some (flt w) ∨
      E (heldAfter none (valuePull (some E) flt cur (dropRun none sched).1)) (some (flt w)) = true) := by
  refine ⟨(C16_drop_excess sched).1, (C16_no_dup_delivery E flt cur _).2.2, ?_⟩
  intro w hq hw
  have hne : recvs sched ≠ [] := by intro e; rw [e] at hw; simp at hw
  have hl := (C16_drop_excess sched).2.2 hq hne
  rw [hw] at hl
  obtain ⟨evs, he⟩ : ∃ evs, (dropRun none sched).1 = evs ++ [w] := by
    rw [List.getLast?_eq_some_iff] at hl
    exact hl
  rw [he]
  exact valuePull_last E flt w cur evs

/-- Several ids under any schedule do not disturb each other: id `i` sees the one-id machine `idRun` on its own events,
with a `take` exactly where `i`'s change was at the front of the queue. -/
theorem C16_free_merger_per_id {α : Type} (i : String) (acts : List (Act (Chg α))) :
    (mergerRun [] acts).1.filter (fun c => c.id == i) = (idRun none (projI i [] acts)).1 ∧
    (mergerRun [] acts).2.find? (fun c => c.id == i) = (idRun none (projI i [] acts)).2 ∧
    recvs (projI i [] acts) = (recvs acts).filter (fun c => c.id == i) ∧
    ((mergerRun [] acts).2.map (·.id)).Nodup :=
  mergerRun_proj i acts [] List.nodup_nil

/-- The merged stream of an id is itself a chain with the same end points, under every schedule in which the events of
`i` are what the collection can publish for it (`IdChain`).  Each change handed to the loop carries as `OldValue` the
value stored when `i`'s previous change was taken (what this subscriber was last told about) and as `NewValue` the value
stored when it was taken itself; what is still queued for `i` is exactly `w → e`. -/
theorem C16_free_merger_chain {α : Type} (i : String) (s e : Option α) (acts : List (Act (Chg α)))
    (hc : IdChain i s ((recvs acts).filter (fun c => c.id == i)) e) :
    ∃ w, Coarse i s ((mergerRun [] acts).1.filter (fun c => c.id == i)) w ∧
      Inv i w e ((mergerRun [] acts).2.find? (fun c => c.id == i)) ∧
      ((mergerRun [] acts).2.find? (fun c => c.id == i) = none → w = e) := by
  obtain ⟨h1, h2, h3, _⟩ := C16_free_merger_per_id i acts
  rw [← h3] at hc
  obtain ⟨w, hw, hi⟩ := idRun_chain i (projI i [] acts) s e s none hc inv_fresh
  rw [← h1] at hw
  rw [← h2] at hi
  refine ⟨w, hw, hi, ?_⟩
  intro hn
  rcases hi with ⟨_, h⟩ | ⟨h, _⟩
  · exact h
  · exact absurd hn h

/-- Every change the loop is handed under a free schedule is decided as ONE write, from the value stored when the
subscriber was last told about the item to the value stored now. -/
theorem C16_free_window_decision {α : Type} (E : Option α → Option α → Bool) (flt : α → α) (i : String)
    (t u : Option α) (c : Chg α) (hp : Pending i t u (some c)) :
    lossyStep (some E) flt c = (⟨i, c.ct, t.map flt, u.map flt⟩, !E (t.map flt) (u.map flt)) ∧
    ¬ (t = none ∧ u = none) := by
  obtain ⟨hi, ho, hn, hne⟩ := pending_some_fields hp
  refine ⟨?_, hne⟩
  cases c
  simp only at hi ho hn
  subst hi ho hn
  rfl

/-- The subscriber keeps track under every schedule.  PARTIAL in the same sense as
`C16_no_dup_delivery_collection_partial` (E reflexive and transitive, as `Equal()` / `WithNoDuplicates`; a tolerance
drifts, the recorded finding): the copy stays E-equivalent to the value `w` stored when `i`'s last change was taken, and
to the value stored NOW once nothing is queued for `i`. -/
theorem C16_free_lossy_tracks {α : Type} (E : Option α → Option α → Bool) (flt : α → α)
    (hrefl : ∀ a, E a a = true) (htrans : ∀ a b c, E a b = true → E b c = true → E a c = true)
    (i : String) (s e : Option α) (acts : List (Act (Chg α)))
    (hc : IdChain i s ((recvs acts).filter (fun c => c.id == i)) e)
    (held : Option α) (hheld : E held (s.map flt) = true) :
    ∃ w, Inv i w e ((mergerRun [] acts).2.find? (fun c => c.id == i)) ∧
      E (viewFold E flt held ((mergerRun [] acts).1.filter (fun c => c.id == i))) (w.map flt) = true ∧
      ((mergerRun [] acts).2.find? (fun c => c.id == i) = none →
        E (viewFold E flt held ((mergerRun [] acts).1.filter (fun c => c.id == i))) (e.map flt) = true) := by
  obtain ⟨w, hw, hi, hq⟩ := C16_free_merger_chain i s e acts hc
  have ht := coarse_tracks E (Option.map flt) (viewFold E flt) (fun _ => rfl) (fun _ _ _ => rfl) hrefl htrans i hw held hheld
  exact ⟨w, hi, ht, fun hn => by rw [← hq hn]; exact ht⟩

/-- The same with `WithInclude`: what the subscriber may see of an item is `vis`, nothing when the item is absent or
outside the include filter, else the item under the read mask; E never equates an absent value with a present one
(every `cmp.Equal(...)`: `C16_equal_absent_never_equivalent`).  In particular, once nothing is queued for `i`, the item
is in the subscriber's view iff it is stored and inside the filter. -/
theorem C16_free_lossy_tracks_include {α : Type} (E : Option α → Option α → Bool) (flt : α → α) (inc : α → Bool)
    (hrefl : ∀ a, E a a = true) (htrans : ∀ a b c, E a b = true → E b c = true → E a c = true)
    (hnil : ∀ w, E none (some w) = false ∧ E (some w) none = false)
    (i : String) (s e : Option α) (acts : List (Act (Chg α)))
    (hc : IdChain i s ((recvs acts).filter (fun c => c.id == i)) e)
    (held : Option α) (hheld : E held (vis flt inc s) = true) :
    ∃ w, Inv i w e ((mergerRun [] acts).2.find? (fun c => c.id == i)) ∧
      E (viewFoldI E flt inc held ((mergerRun [] acts).1.filter (fun c => c.id == i))) (vis flt inc w) = true ∧
      ((mergerRun [] acts).2.find? (fun c => c.id == i) = none →
        E (viewFoldI E flt inc held ((mergerRun [] acts).1.filter (fun c => c.id == i))) (vis flt inc e) = true ∧
        ((viewFoldI E flt inc held ((mergerRun [] acts).1.filter (fun c => c.id == i))).isSome =
          (vis flt inc e).isSome)) := by
  obtain ⟨w, hw, hi, hq⟩ := C16_free_merger_chain i s e acts hc
  have ht := coarse_tracks E (vis flt inc) (viewFoldI E flt inc) (fun _ => rfl) (viewFoldI_cons E flt inc (hrefl none))
    hrefl htrans i hw held hheld
  refine ⟨w, hi, ht, fun hn => ?_⟩
  rw [← hq hn]
  refine ⟨ht, ?_⟩
  cases hv : viewFoldI E flt inc held ((mergerRun [] acts).1.filter (fun c => c.id == i)) with
  | none =>
    cases hx : vis flt inc w with
    | none => rfl
    | some x => rw [hv, hx, (hnil x).1] at ht; cases ht
  | some y =>
    cases hx : vis flt inc w with
    | none => rw [hv, hx, (hnil y).2] at ht; cases ht
    | some x => rfl

/-- The hypotheses are satisfiable (plain equality of the payload). -/
example : ∃ E : Option Nat → Option Nat → Bool, (∀ a, E a a = true) ∧
    (∀ a b c, E a b = true → E b c = true → E a c = true) ∧
    (∀ w, E none (some w) = false ∧ E (some w) none = false) :=
  ⟨fun a b => a == b, by simp, by intro a b c; simp; intro h1 h2; rw [h1, h2], by simp⟩

/-- A schedule with a take in the middle moves an item out of and back into the filter `· > 15`. -/
example : viewFoldI (fun a b => a == b) id (fun v => decide (v > 15)) (some 20)
    ((mergerRun [] [.recv ⟨"k", .update, some 20, some 10⟩, .take, .recv ⟨"k", .update, some 10, some 12⟩,
      .recv ⟨"k", .update, some 12, some (30 : Nat)⟩, .take]).1) = some 30 := by decide

/-- A schedule that takes in the middle of a run on one id while another id interleaves: the second change of
"k" starts at the value stored at the first take (20), not at the window's first old value. -/
example : (mergerRun [] [.recv ⟨"k", .update, some 10, some 20⟩, .recv ⟨"j", .add, none, some 1⟩, .take,
    .recv ⟨"k", .update, some 20, some 30⟩, .recv ⟨"k", .remove, some 30, none⟩, .take, .take]).1.map
      (fun c => (c.id, c.ct, c.old, c.new)) =
    [("k", .update, some 10, some (20 : Nat)), ("j", .add, none, some 1), ("k", .remove, some 20, none)] := by
  decide

/-- The events of "k" in that schedule are a chain the collection can publish … -/
example : IdChain "k" (some (10 : Nat)) [⟨"k", .update, some 10, some 20⟩, ⟨"k", .update, some 20, some 30⟩,
    ⟨"k", .remove, some 30, none⟩] none :=
  .update 10 20 (.update 20 30 (.remove 30 (.done _)))

/-- … and what is handed over for "k" is a chain of windows. -/
example : Coarse "k" (some (10 : Nat)) [⟨"k", .update, some 10, some 20⟩, ⟨"k", .remove, some 20, none⟩] none :=
  .cons (u := some 20) (by simp [Pending]) (.cons (u := none) (by simp [Pending]) (.nil _))

/-- DropExcess: three writes, a take after the second and one at the end: 2 then 3 are handed over, 1 is
dropped, nothing is left. -/
example : dropRun none [.recv 1, .recv 2, .take, .recv (3 : Nat), .take] = ([2, 3], none) := by decide

end ScVerif.C16
