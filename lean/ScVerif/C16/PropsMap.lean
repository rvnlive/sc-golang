import ScVerif.C16.MapLemmas
/-!
# C16 — map values of the compared kinds

`equalMap` ranges over x's entries and hands each value, with the value of y under the same key, to `equalValue`,
whose first step is the value-comparer override: a `map<_, google.protobuf.Timestamp>` /
`map<_, google.protobuf.Duration>` field is compared value by value WITH the tolerance. (That the keys of a
well-formed map are distinct, so that equal sizes make the two key sets equal, is part of `C16_equal_agrees`.)
-/
namespace ScVerif.C16

/-- `equalMap` compares each value of x with the value of y under its key, under `equalValue`, for every value comparer. -/
theorem C16_map_pointwise (c : VCmp) (xs ys : Entries) :
    eqField c (.map xs) (.map ys) = true ↔
      xs.toList.length = ys.toList.length ∧
        ∀ p ∈ xs.toList, ∃ vy, ys.get? p.1 = some vy ∧ eqValue c p.2 vy = true :=
  eqField_map_iff c xs ys

/-- A comparer that claims every pair of values under one key decides the map field alone. -/
theorem C16_map_claimed (c : VCmp) (xs ys : Entries)
    (h : ∀ p ∈ xs.toList, ∀ vy, ys.get? p.1 = some vy → (c p.2 vy).2 = true) :
    eqField c (.map xs) (.map ys) = true ↔
      xs.toList.length = ys.toList.length ∧
        ∀ p ∈ xs.toList, ∃ vy, ys.get? p.1 = some vy ∧ (c p.2 vy).1 = true := by
  rw [C16_map_pointwise]
  constructor
  · rintro ⟨hl, hp⟩
    refine ⟨hl, fun p hm => ?_⟩
    obtain ⟨vy, hg, hv⟩ := hp p hm
    exact ⟨vy, hg, by rw [← eqValue_claimed c p.2 vy (h p hm vy hg)]; exact hv⟩
  · rintro ⟨hl, hp⟩
    refine ⟨hl, fun p hm => ?_⟩
    obtain ⟨vy, hg, hv⟩ := hp p hm
    exact ⟨vy, hg, by rw [eqValue_claimed c p.2 vy (h p hm vy hg)]; exact hv⟩

/-- `Equal(TimeValueWithin(d))` on a `map<_, google.protobuf.Timestamp>` field. -/
theorem C16_map_times_within (d : Int) (hd : d < maxI64) (xs ys : List (Scalar × (Fields × Unk))) :
    eqField (valueAnd [timeValueWithin d]) (.map (Entries.ofListWith tsVal xs)) (.map (Entries.ofListWith tsVal ys)) = true ↔
      xs.length = ys.length ∧ ∀ p ∈ xs, ∃ q, ys.find? (fun e => decide (e.1 = p.1)) = some q ∧
        toTimeNs p.2.1 - toTimeNs q.2.1 ≤ d ∧ toTimeNs q.2.1 - toTimeNs p.2.1 ≤ d :=
  eqField_map_with_iff _ tsVal _ (fun a b => eqValue_time_within d hd a.1 b.1 a.2 b.2) xs ys

/-- `Equal(DurationValueWithin(d))` on a `map<_, google.protobuf.Duration>` field. -/
theorem C16_map_durations_within (d : Int) (hd : d ≤ maxI64) (xs ys : List (Scalar × (Fields × Unk))) :
    eqField (valueAnd [durationValueWithin d]) (.map (Entries.ofListWith durVal xs)) (.map (Entries.ofListWith durVal ys)) = true ↔
      xs.length = ys.length ∧ ∀ p ∈ xs, ∃ q, ys.find? (fun e => decide (e.1 = p.1)) = some q ∧
        toDurationNs p.2.1 - toDurationNs q.2.1 ≤ d ∧ toDurationNs q.2.1 - toDurationNs p.2.1 ≤ d :=
  eqField_map_with_iff _ durVal _ (fun a b => eqValue_duration_within d hd a.1 b.1 a.2 b.2) xs ys

/-- Non-vacuity: two one-entry maps whose Timestamps are 1 ns apart are equal under a 1 ns tolerance, different
under 0 ns; a key that y lacks makes them different whatever the tolerance. -/
example :
    let x : Fields × Unk := (.cons ⟨2, "nanos"⟩ (.one (.sc (.int 1))) .nil, [])
    let y : Fields × Unk := (.cons ⟨2, "nanos"⟩ (.one (.sc (.int 2))) .nil, [])
    eqField (valueAnd [timeValueWithin 1]) (.map (Entries.ofListWith tsVal [(.str "61", x)])) (.map (Entries.ofListWith tsVal [(.str "61", y)])) = true ∧
    eqField (valueAnd [timeValueWithin 0]) (.map (Entries.ofListWith tsVal [(.str "61", x)])) (.map (Entries.ofListWith tsVal [(.str "61", y)])) ≠ true ∧
    eqField (valueAnd [timeValueWithin 1]) (.map (Entries.ofListWith tsVal [(.str "61", x)])) (.map (Entries.ofListWith tsVal [(.str "62", y)])) ≠ true := by
  intro x y
  refine ⟨?_, ?_, ?_⟩
  · rw [C16_map_times_within 1 (by decide)]
    exact ⟨rfl, by decide⟩
  · intro hh
    rw [C16_map_times_within 0 (by decide)] at hh
    obtain ⟨q, hq, hw⟩ := hh.2 (.str "61", x) (by simp)
    simp at hq
    subst hq
    exact absurd hw (by decide)
  · intro hh
    rw [C16_map_times_within 1 (by decide)] at hh
    obtain ⟨q, hq, _⟩ := hh.2 (.str "61", x) (by simp)
    simp at hq

end ScVerif.C16
