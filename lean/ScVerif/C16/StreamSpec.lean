import ScVerif.C16.Free
/-! Vocabulary of the delivery properties (`Props.lean`, `PropsMerge.lean`, `PropsFree.lean`) besides the model. -/
namespace ScVerif.C16

/-- SPEC. What a subscriber of a Value holds after a list of decisions: the value of the last change delivered to it. -/
def heldAfter (init : Top) : List Decision → Top
  | [] => init
  | d :: rest => heldAfter (if d.delivered then some d.value else init) rest

/-- SPEC. What a subscriber of a Collection holds for one id after a list of decisions about that id. -/
def heldAfterC (init : Top) : List CDecision → Top
  | [] => init
  | d :: rest => heldAfterC (if d.delivered then d.new else init) rest

/-- The events about one id form a chain from `init`: each change's old value is the previous new value. -/
def Chain : Top → List CEvent → Prop
  | _, [] => True
  | cur, ev :: rest => ev.old = cur ∧ Chain ev.new rest

/-- Whether the subscriber (with include predicate `f`) sees the item when its stored value is `t`. -/
def visible (f : Val → Bool) : Top → Bool
  | some v => f v
  | none => false

section
variable {α : Type}

/-- What is pending for id `i` after its stored item went from `s0` (window start) to `cur`. -/
def Pending (i : String) : Option α → Option α → Option (Chg α) → Prop
  | none, none, p => p = none
  | none, some v, p => p = some ⟨i, .add, none, some v⟩
  | some u, none, p => p = some ⟨i, .remove, some u, none⟩
  | some u, some v, p => p = some ⟨i, .update, some u, some v⟩ ∨ p = some ⟨i, .replace, some u, some v⟩

/-- The changes of id `i` handed over so far form a chain of windows, each "stored at the previous take → stored at this
take" (never absent → absent), from `t` to `w`. -/
inductive Coarse (i : String) : Option α → List (Chg α) → Option α → Prop
  | nil (t : Option α) : Coarse i t [] t
  | cons {t u w : Option α} {c : Chg α} {rest : List (Chg α)} :
      Pending i t u (some c) → Coarse i u rest w → Coarse i t (c :: rest) w

/-- Invariant of one id in the merger: `t` = the value stored when `i`'s change was last taken (or at the start), `cur` =
the value stored now; nothing pending means nothing happened since (or the item was absent then and is absent now). -/
def Inv (i : String) (t cur : Option α) (p : Option (Chg α)) : Prop :=
  (p = none ∧ t = cur) ∨ (p ≠ none ∧ Pending i t cur p)

/-- What a subscriber with an include filter may see of a stored item: nothing when absent or outside the
filter, else the item under the read mask. -/
def vis (flt : α → α) (inc : α → Bool) : Option α → Option α
  | some v => if inc v then some (flt v) else none
  | none => none

/-- The subscriber's copy of one item folded over the changes of that id handed to the loop of `Collection.Pull` with
`WithInclude` (`lossyStepI`). -/
def viewFoldI (E : Option α → Option α → Bool) (flt : α → α) (inc : α → Bool) : Option α → List (Chg α) → Option α
  | held, [] => held
  | held, c :: rest =>
    viewFoldI E flt inc
      (match lossyStepI (some E) flt (some inc) c with
        | some (c', true) => c'.new
        | _ => held) rest

end

end ScVerif.C16
