import ScVerif.C16.Spec
import ScVerif.C16.UnknownRaw
import ScVerif.C16.WireCutter
/-!
`equalUnknown`.  On records the length test is implied by the per-field-number comparison.  On RAW bytes the records are
cut by the model of `protowire.ConsumeField`, so that "equal raw bytes give equal records" is a fact, not a hypothesis; wire
records are self-delimiting, hence "the same bytes per field number" is "the same records per field number".
-/
namespace ScVerif.C16

theorem unkGroup_eq_nil {n : Nat} {u : Unk} : unkGroup n u = [] ↔ ∀ r ∈ u, r.1 = n → r.2 = [] := by
  simp only [unkGroup, recBytes, List.flatMap_eq_nil_iff, List.mem_filter, beq_iff_eq, and_imp]

theorem group_empty_of_not_mem (u : Unk) (n : Nat) (hn : n ∉ u.map (·.1)) : unkGroup n u = [] :=
  unkGroup_eq_nil.2 fun r hr e => absurd (List.mem_map.mpr ⟨r, hr, e⟩) hn

theorem eqUnknown_iff_code (x y : Unk) : eqUnknown x y = true ↔
    (unkBytes x = unkBytes y ∨ ((unkBytes x).length = (unkBytes y).length ∧ ∀ n, unkGroup n x = unkGroup n y)) := by
  unfold eqUnknown unkLen
  by_cases hl : (unkBytes x).length = (unkBytes y).length
  · by_cases hb : unkBytes x = unkBytes y
    · simp [hb]
    · simp only [hl, bne_self_eq_false, Bool.false_eq_true, if_false, beq_iff_eq, hb, false_or, true_and,
        List.all_eq_true, List.mem_map, List.mem_append]
      constructor
      · intro h n
        by_cases hn : ∃ r, (r ∈ x ∨ r ∈ y) ∧ r.1 = n
        · obtain ⟨r, hr, rfl⟩ := hn
          exact h r.1 ⟨r, hr, rfl⟩
        · rw [group_empty_of_not_mem x n fun hm => let ⟨r, hr, e⟩ := List.mem_map.mp hm; hn ⟨r, Or.inl hr, e⟩,
            group_empty_of_not_mem y n fun hm => let ⟨r, hr, e⟩ := List.mem_map.mp hm; hn ⟨r, Or.inr hr, e⟩]
      · rintro h n ⟨r, _, rfl⟩
        exact h r.1
  · have hb : unkBytes x ≠ unkBytes y := fun e => hl (by rw [e])
    simp [hl, hb]

theorem unkLen_split (n : Nat) : ∀ u : Unk,
    unkLen u = (unkGroup n u).length + unkLen (u.filter (fun r => r.1 != n))
  | [] => by simp [unkLen, unkBytes, unkGroup]
  | r :: u => by
    have ih := unkLen_split n u
    simp only [unkLen, unkBytes, unkGroup, List.length_flatMap] at ih ⊢
    by_cases h : r.1 = n
    · simp only [List.filter_cons, h, beq_self_eq_true, if_true, bne_self_eq_false, Bool.false_eq_true,
        if_false, List.map_cons, List.sum_cons]
      omega
    · have h' : (r.1 == n) = false := by simpa using h
      have h'' : (r.1 != n) = true := by simpa using h
      simp only [List.filter_cons, h', h'', Bool.false_eq_true, if_false, if_true, List.map_cons, List.sum_cons]
      omega

theorem unkGroup_filter_ne (n n0 : Nat) (u : Unk) :
    unkGroup n (u.filter (fun r => r.1 != n0)) = if n = n0 then [] else unkGroup n u := by
  simp only [unkGroup, List.filter_filter]
  by_cases h : n = n0
  · subst h
    have : u.filter (fun r => (r.1 == n) && (r.1 != n)) = [] := by
      simp [List.filter_eq_nil_iff]
    simp [this]
  · simp only [h, if_false]
    congr 1
    apply List.filter_congr
    intro r _
    by_cases hr : r.1 = n
    · simp [hr]
      exact fun e => h e
    · simp [hr]

theorem unkLen_zero_of_groups_empty (y : Unk) (h : ∀ n, unkGroup n y = []) : unkLen y = 0 := by
  have : unkBytes y = [] := by
    simp only [unkBytes, List.flatMap_eq_nil_iff]
    exact fun r hr => unkGroup_eq_nil.1 (h r.1) r hr rfl
  simp [unkLen, this]

/-- By induction on a bound `k` of the length: the recursive call is on `x` with one field number filtered out,
not on a tail of `x`. -/
theorem unkLen_eq_of_groups (k : Nat) : ∀ (x y : Unk), x.length ≤ k →
    (∀ n, unkGroup n x = unkGroup n y) → unkLen x = unkLen y := by
  have hnil : ∀ y : Unk, (∀ n, unkGroup n [] = unkGroup n y) → unkLen [] = unkLen y := fun y h => by
    rw [unkLen_zero_of_groups_empty y (fun n => (h n).symm)]
    rfl
  induction k with
  | zero =>
    intro x y hk h
    rw [List.eq_nil_of_length_eq_zero (Nat.le_zero.mp hk)] at h ⊢
    exact hnil y h
  | succ k ih =>
    intro x y hk h
    cases x with
    | nil => exact hnil y h
    | cons r x' =>
      rw [unkLen_split r.1 (r :: x'), unkLen_split r.1 y, h r.1]
      congr 1
      apply ih
      · have : ((r :: x').filter (fun q => q.1 != r.1)) = x'.filter (fun q => q.1 != r.1) := by
          simp
        rw [this]
        have := List.length_filter_le (fun q : Nat × Bytes => q.1 != r.1) x'
        simp only [List.length_cons] at hk
        omega
      · intro n
        rw [unkGroup_filter_ne, unkGroup_filter_ne, h n]

/-- `hdet`: wire parsing is a function of the bytes.  The length test adds nothing. -/
theorem eqUnknown_iff_groups (x y : Unk)
    (hdet : unkBytes x = unkBytes y → ∀ n, unkGroup n x = unkGroup n y) :
    eqUnknown x y = true ↔ ∀ n, unkGroup n x = unkGroup n y := by
  rw [eqUnknown_iff_code]
  constructor
  · rintro (h | ⟨_, h⟩)
    · exact hdet h
    · exact h
  · intro h
    exact Or.inr ⟨unkLen_eq_of_groups x.length x y (Nat.le_refl _) h, h⟩

theorem splitRecords_spec : ∀ (fuel : Nat) (b : Bytes) (rs : List (Nat × Bytes)),
    splitRecords fuel b = some rs → unkBytes rs = b ∧ ∀ r ∈ rs, SelfDelim r
  | _, [], rs, h => by
    simp only [splitRecords, Option.some.injEq] at h
    subst h
    exact ⟨rfl, nofun⟩
  | 0, _ :: _, rs, h => by simp [splitRecords] at h
  | fuel + 1, c :: b, rs, h => by
    simp only [splitRecords] at h
    split at h
    · cases h
    · rename_i num n hcf
      split at h
      · cases h
      · rename_i rest hrest
        simp only [Option.some.injEq] at h
        subst h
        obtain ⟨hb, hs⟩ := splitRecords_spec fuel _ rest hrest
        refine ⟨?_, fun r hr => ?_⟩
        · simp only [unkBytes, List.flatMap_cons, recBytes] at hb ⊢
          rw [hb]
          exact List.take_append_drop n (c :: b)
        · rcases List.mem_cons.mp hr with rfl | hr
          · exact selfDelim_of_consumeField (c :: b) num n hcf
          · exact hs r hr

/-- The key-set half of `reflect.DeepEqual` adds nothing to the comparison of the groups. -/
theorem contains_eq_group (u : Unk) (hu : ∀ r ∈ u, r.2 ≠ []) (n : Nat) :
    (u.map (·.1)).contains n = !(unkGroup n u).isEmpty := by
  by_cases hn : n ∈ u.map (·.1)
  · rw [List.contains_iff_mem.mpr hn]
    obtain ⟨r, hr, rfl⟩ := List.mem_map.mp hn
    cases h : unkGroup r.1 u with
    | nil => exact absurd (unkGroup_eq_nil.1 h r hr rfl) (hu r hr)
    | cons => rfl
  · rw [group_empty_of_not_mem u n hn]
    simpa using hn

theorem eqUnknownRaw_eq (bx by_ : Bytes) (rx ry : Unk)
    (hx : wireRecords bx = some rx) (hy : wireRecords by_ = some ry) :
    eqUnknownRaw bx by_ = some (eqUnknown rx ry) := by
  obtain ⟨hbx, hnx⟩ := splitRecords_spec _ bx rx hx
  obtain ⟨hby, hny⟩ := splitRecords_spec _ by_ ry hy
  unfold eqUnknownRaw eqUnknown unkLen
  rw [hbx, hby, hx, hy]
  by_cases hl : bx.length = by_.length
  · by_cases hb : bx = by_
    · simp [hb]
    · simp only [hl, bne_self_eq_false, Bool.false_eq_true, if_false, beq_iff_eq, hb, Option.some.injEq]
      apply Bool.eq_iff_iff.mpr
      simp only [List.all_eq_true, Bool.and_eq_true, beq_iff_eq]
      constructor
      · intro h n hn; exact (h n hn).2
      · intro h n hn
        exact ⟨by rw [contains_eq_group rx fun r hr => (hnx r hr).1, contains_eq_group ry fun r hr => (hny r hr).1,
          h n hn], h n hn⟩
  · simp [hl]

theorem wireCut_selfDelim (u : Unk) (h : WireCut u) : ∀ r ∈ u, SelfDelim r := by
  obtain ⟨b, hb⟩ := h
  exact (splitRecords_spec _ b u hb).2

theorem records_unique : ∀ (R1 R2 : List (Nat × Bytes)), (∀ r ∈ R1, SelfDelim r) → (∀ r ∈ R2, SelfDelim r) →
    R1.flatMap recBytes = R2.flatMap recBytes → R1 = R2
  | [], [], _, _, _ => rfl
  | [], r2 :: R2, _, h2, h => by
    simp only [List.flatMap_nil, List.flatMap_cons, recBytes] at h
    exact absurd (List.append_eq_nil_iff.mp h.symm).1 (h2 r2 List.mem_cons_self).1
  | r1 :: R1, [], h1, _, h => by
    simp only [List.flatMap_nil, List.flatMap_cons, recBytes] at h
    exact absurd (List.append_eq_nil_iff.mp h).1 (h1 r1 List.mem_cons_self).1
  | r1 :: R1, r2 :: R2, h1, h2, h => by
    simp only [List.flatMap_cons, recBytes] at h
    have c1 := (h1 r1 (List.mem_cons_self)).2 (R1.flatMap recBytes)
    have c2 := (h2 r2 (List.mem_cons_self)).2 (R2.flatMap recBytes)
    rw [h, c2] at c1
    simp only [Option.some.injEq, Prod.mk.injEq] at c1
    obtain ⟨e1, e2⟩ := c1
    have := List.append_inj h e2.symm
    have hr : r1 = r2 := Prod.ext e1.symm this.1
    subst hr
    congr 1
    exact records_unique R1 R2 (fun r hr => h1 r (List.mem_cons_of_mem _ hr))
      (fun r hr => h2 r (List.mem_cons_of_mem _ hr)) this.2

/-- On unknown fields cut from raw bytes `equalUnknown` decides `unkSame`: equal bytes are equal records. -/
theorem eqUnknown_iff_wire (x y : Unk) (hx : WireCut x) (hy : WireCut y) :
    eqUnknown x y = true ↔ unkSame x y :=
  eqUnknown_iff_groups x y fun h _ => by
    rw [records_unique x y (wireCut_selfDelim x hx) (wireCut_selfDelim y hy) h]

theorem group_eq_iff_records (x y : Unk) (hx : WireCut x) (hy : WireCut y) (n : Nat) :
    unkGroup n x = unkGroup n y ↔ x.filter (fun r => r.1 == n) = y.filter (fun r => r.1 == n) := by
  constructor
  · intro h
    apply records_unique _ _ _ _ h
    · intro r hr; exact wireCut_selfDelim x hx r (List.mem_filter.mp hr).1
    · intro r hr; exact wireCut_selfDelim y hy r (List.mem_filter.mp hr).1
  · intro h
    unfold unkGroup
    rw [h]

end ScVerif.C16
