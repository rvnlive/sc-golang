import ScVerif.C16.StreamSpec
/-! The loops of `Value.Pull` and `Collection.Pull`: the loop's state is what the subscriber holds after the decisions so far. -/
namespace ScVerif.C16

/-- How a subscriber's copy follows the store: a change `a → b` is taken (reflexivity) or skipped (transitivity). -/
theorem track_step {β : Type} {E : β → β → Bool} (hrefl : ∀ a, E a a = true)
    (htrans : ∀ a b c, E a b = true → E b c = true → E a c = true) {held a : β} (h : E held a = true) (b : β) :
    E (if (!E a b) = true then b else held) b = true := by
  cases hd : E a b
  · exact hrefl b
  · exact htrans _ _ _ h hd

theorem valuePullLoop_cons (E : MCmp) (flt : Val → Val) (last : Top) (ev : Val) (rest : List Val) :
    valuePullLoop (some E) flt last (ev :: rest) =
      ⟨flt ev, !E last (some (flt ev))⟩ ::
        valuePullLoop (some E) flt (if (!E last (some (flt ev))) = true then some (flt ev) else last) rest := by
  simp only [valuePullLoop]
  split <;> simp [*]

theorem valuePullLoop_decision (E : MCmp) (flt : Val → Val) :
    ∀ (pre : List Decision) (events : List Val) (last : Top) (d : Decision) (post : List Decision),
      valuePullLoop (some E) flt last events = pre ++ d :: post →
      d.delivered = !E (heldAfter last pre) (some d.value)
  | pre, [], _, _, _, h => by cases pre <;> cases h
  | [], ev :: rest, last, d, post, h => by
    rw [valuePullLoop_cons] at h
    cases h
    rfl
  | p :: pre, ev :: rest, last, d, post, h => by
    rw [valuePullLoop_cons] at h
    injection h with h1 h2
    subst h1
    exact valuePullLoop_decision E flt pre rest _ d post h2

theorem valuePullLoop_last (E : MCmp) (flt : Val → Val) (w : Val) :
    ∀ (evs : List Val) (last : Top),
      heldAfter last (valuePullLoop (some E) flt last (evs ++ [w])) = some (flt w) ∨
      E (heldAfter last (valuePullLoop (some E) flt last (evs ++ [w]))) (some (flt w)) = true
  | [], last => by
    simp only [List.nil_append, valuePullLoop_cons, valuePullLoop, heldAfter]
    cases he : E last (some (flt w)) <;> simp [he]
  | ev :: rest, last => by
    rw [List.cons_append, valuePullLoop_cons]
    exact valuePullLoop_last E flt w rest _

theorem valuePull_last (E : MCmp) (flt : Val → Val) (w : Val) (cur : Top) (evs : List Val) :
    heldAfter none (valuePull (some E) flt cur (evs ++ [w])) = some (flt w) ∨
    E (heldAfter none (valuePull (some E) flt cur (evs ++ [w]))) (some (flt w)) = true := by
  cases cur with
  | none => simpa [valuePull] using valuePullLoop_last E flt w evs none
  | some v => simpa [valuePull, heldAfter] using valuePullLoop_last E flt w evs (some (flt v))

theorem valuePullLoop_values (E : Option MCmp) (flt : Val → Val) :
    ∀ (events : List Val) (last : Top), (valuePullLoop E flt last events).map (·.value) = events.map flt
  | [], _ => by simp [valuePullLoop]
  | ev :: rest, last => by
    cases E with
    | none => simp [valuePullLoop, valuePullLoop_values none flt rest]
    | some e =>
      simp only [valuePullLoop]
      split <;> simp [valuePullLoop_values (some e) flt rest]

theorem valuePullLoop_none (flt : Val → Val) :
    ∀ (events : List Val) (last : Top), ∀ d ∈ valuePullLoop none flt last events, d.delivered = true
  | [], _, d, h => by simp [valuePullLoop] at h
  | ev :: rest, last, d, h => by
    simp only [valuePullLoop, List.mem_cons] at h
    rcases h with h | h
    · subst h; rfl
    · exact valuePullLoop_none flt rest _ d h

/-- With an equivalence relation E, comparing old with new is the same as comparing the subscriber's
copy with new: invariant `E held cur`. -/
theorem collPullLoop_decision_held (E : MCmp) (flt : Val → Val)
    (hrefl : ∀ a, E a a = true) (hsymm : ∀ a b, E a b = E b a)
    (htrans : ∀ a b c, E a b = true → E b c = true → E a c = true) :
    ∀ (pre : List CDecision) (events : List CEvent) (cur held : Top) (d : CDecision) (post : List CDecision),
      Chain cur events → E held (cur.map flt) = true →
      collPullLoop (some E) flt events = pre ++ d :: post →
      d.delivered = !E (heldAfterC held pre) d.new
  | pre, [], _, _, _, _, _, _, h => by cases pre <;> cases h
  | [], ev :: rest, cur, held, d, post, hc, hinv, h => by
    cases h
    show (!E (ev.old.map flt) (ev.new.map flt)) = !E held (ev.new.map flt)
    rw [hc.1, Bool.eq_iff_iff.mpr ⟨htrans _ _ _ hinv, htrans _ _ _ (hsymm _ _ ▸ hinv)⟩]
  | p :: pre, ev :: rest, cur, held, d, post, hc, hinv, h => by
    injection h with h1 h2
    subst h1
    exact collPullLoop_decision_held E flt hrefl hsymm htrans pre rest ev.new _ d post hc.2
      (hc.1 ▸ track_step hrefl htrans hinv _) h2

/-- `CollectionChange.include` by the visibility of the two ends (`includeAdjust_incOf` of `SharedLemmas.lean` is the same
equation with `incOf`, the name `Shared.lean` has for `visible`). -/
theorem includeAdjust_visible (f : Val → Bool) (ev : CEvent) :
    includeAdjust (some f) ev =
      (if visible f ev.old == visible f ev.new then (if visible f ev.new then some ev else none)
       else if visible f ev.new then some ⟨none, ev.new⟩ else some ⟨ev.old, none⟩) := rfl

theorem visible_true {f : Val → Bool} {t : Top} (h : visible f t = true) : ∃ v, t = some v := by
  cases t with
  | none => cases h
  | some v => exact ⟨v, rfl⟩

end ScVerif.C16
