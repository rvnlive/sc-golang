import ScVerif.C16.Update
/-! `Collection.Update` as a whole: when it goes through and what it then announces. -/
namespace ScVerif.C16

theorem ok_eq_ite {ε α : Type} (p : Prop) [Decidable p] (a x : α) (e : ε) :
    (Except.ok a = if p then Except.ok x else Except.error e) ↔ p ∧ a = x := by
  split <;> simp [*]

/-- Sixteen cases (item present or not at either read, the two options), each by evaluation; where both reads pass, `simp`
leaves `.ok a = if first' = again' then .ok … else .error …`, which `ok_eq_ite` reads as a conjunction. -/
theorem collUpdate_ok_iff {M : Type} [DecidableEq M] (rq : UReq) (empty : M)
    (first again : Option M) (change : M → M) (a : Announced M) :
    collUpdate rq empty first again change = .ok a ↔
      ((first.isSome → rq.expectAbsent = false) ∧ (first = none → rq.createIfAbsent = true) ∧
       (again.isSome → rq.expectAbsent = false) ∧ (again = none → rq.createIfAbsent = true) ∧
       first.getD empty = again.getD empty) ∧
      a = ⟨if again = none then .add else .update, again, change (first.getD empty)⟩ := by
  obtain ⟨ci, ea⟩ := rq
  cases first <;> cases again <;> cases ci <;> cases ea <;> simp [collUpdate, updGet, eq_comm]
  all_goals rw [ok_eq_ite]
  all_goals exact and_congr_right fun h => by subst h; rfl

end ScVerif.C16
