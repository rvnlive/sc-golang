import ScVerif.C16.MergeLemmas
import ScVerif.C16.PullLemmas
/-! The lossy stages under any schedule: `DropExcess` never loses the latest message (`dropRun_last`); what the merger hands
over for one id is a chain of windows (`idRun_chain`), along which the subscriber's copy tracks the store (`coarse_tracks`). -/
namespace ScVerif.C16

section Drop
variable {β : Type}

/-- The messages a consumer can be handed, in order: what was held at the start, then the bus's messages. -/
def offered (p : Option β) (sched : List (Act β)) : List β := p.toList ++ recvs sched

theorem dropRun_recv (p : Option β) (b : β) (rest : List (Act β)) :
    dropRun p (.recv b :: rest) = dropRun (some b) rest := by
  cases p <;> rfl

theorem dropRun_sublist : ∀ (sched : List (Act β)) (p : Option β),
    List.Sublist (dropRun p sched).1 (offered p sched)
  | [], p => by simp [dropRun]
  | .recv b :: rest, p => by
    have ih := dropRun_sublist rest (some b)
    rw [dropRun_recv]
    simp only [offered, recvs, Option.toList_some] at ih ⊢
    exact ih.trans (List.sublist_append_right _ _)
  | .take :: rest, none => by
    have ih := dropRun_sublist rest none
    simpa [dropRun, offered, recvs] using ih
  | .take :: rest, some a => by
    have ih := dropRun_sublist rest none
    simp only [dropRun, offered, recvs, Option.toList_some, Option.toList_none, List.nil_append,
      List.singleton_append] at ih ⊢
    exact ih.cons_cons a

theorem dropRun_last : ∀ (sched : List (Act β)) (p : Option β),
    ((dropRun p sched).1 ++ (dropRun p sched).2.toList).getLast? = (offered p sched).getLast?
  | [], p => by simp [dropRun, offered, recvs]
  | .recv b :: rest, p => by
    rw [dropRun_recv, dropRun_last rest (some b)]
    simp only [offered, recvs, Option.toList_some]
    rw [List.getLast?_append, List.getLast?_append]
    simp [List.getLast?_cons]
  | .take :: rest, none => by
    simpa [dropRun, offered, recvs] using dropRun_last rest none
  | .take :: rest, some a => by
    have ih := dropRun_last rest none
    simp only [offered, Option.toList_none, List.nil_append] at ih
    simp only [dropRun, offered, recvs, Option.toList_some, List.cons_append, List.nil_append, List.getLast?_cons, ih]

end Drop

section Merger
variable {α : Type}

theorem idRun_recv (p : Option (Chg α)) (b : Chg α) (rest : List (Act (Chg α))) :
    idRun p (.recv b :: rest) = idRun (recvP p b) rest := by
  cases p <;> rfl

/-- The induction behind the free-running theorems: under any schedule the changes handed over for one id form a chain of
windows (`Coarse`) and `Inv` holds of what is left.  A receive keeps `Inv` (`recvP_pending`); a take closes a window at
the value stored now and starts afresh. -/
theorem idRun_chain (i : String) : ∀ (sched : List (Act (Chg α))) (cur e t : Option α) (p : Option (Chg α)),
    IdChain i cur (recvs sched) e → Inv i t cur p →
    ∃ w, Coarse i t (idRun p sched).1 w ∧ Inv i w e (idRun p sched).2
  | [], cur, e, t, p, hc, hinv => by
    cases hc
    exact ⟨t, Coarse.nil t, hinv⟩
  | .recv b :: rest, cur, e, t, p, hc, hinv => by
    obtain ⟨cur', h1, h2⟩ := idChain_cons.1 hc
    rw [idRun_recv]
    exact idRun_chain i rest cur' e t _ h2 (inv_of_pending (recvP_pending h1 hinv))
  | .take :: rest, cur, e, t, none, hc, hinv => idRun_chain i rest cur e t none hc hinv
  | .take :: rest, cur, e, t, some a, hc, hinv => by
    obtain ⟨w, hw, hi⟩ := idRun_chain i rest cur e cur none hc inv_fresh
    rcases hinv with ⟨hp, _⟩ | ⟨_, hpend⟩
    · cases hp
    · exact ⟨w, Coarse.cons hpend hw, hi⟩

theorem nodup_tail {c : Chg α} {q : List (Chg α)} (h : NodupIds (c :: q)) :
    NodupIds q ∧ q.find? (fun d => d.id == c.id) = none := by
  simp only [NodupIds, List.map_cons, List.nodup_cons] at h
  refine ⟨h.2, ?_⟩
  rw [List.find?_eq_none]
  intro d hd
  have : d.id ≠ c.id := fun e => h.1 (e ▸ List.mem_map_of_mem hd)
  simpa using this

/-- From any duplicate-free queue: id `i` sees of the queue the one-id machine `idRun` on its own projection of the schedule
(a `take` where `i`'s change is at the front), the projection receives exactly `i`'s events, and no id is queued twice.
By induction on the schedule; a receive is `mergerRecv_find`. -/
theorem mergerRun_proj (i : String) : ∀ (acts : List (Act (Chg α))) (q : List (Chg α)), NodupIds q →
    (mergerRun q acts).1.filter (fun c => c.id == i) =
      (idRun (q.find? (fun c => c.id == i)) (projI i q acts)).1 ∧
    (mergerRun q acts).2.find? (fun c => c.id == i) =
      (idRun (q.find? (fun c => c.id == i)) (projI i q acts)).2 ∧
    recvs (projI i q acts) = (recvs acts).filter (fun c => c.id == i) ∧
    NodupIds (mergerRun q acts).2
  | [], q, h => ⟨rfl, rfl, rfl, h⟩
  | .recv b :: rest, q, h => by
    have ih := mergerRun_proj i rest (mergerRecv q b) (mergerRecv_nodup q b h)
    rw [mergerRecv_find q b i h] at ih
    simp only [mergerRun, projI, recvs, List.filter_cons]
    by_cases hbi : b.id = i
    · simp only [hbi, if_true, beq_self_eq_true, recvs, List.cons.injEq, true_and] at ih ⊢
      rw [idRun_recv]
      exact ih
    · have hb : (b.id == i) = false := by simpa using hbi
      simp only [hbi, hb, if_false, Bool.false_eq_true] at ih ⊢
      exact ih
  | .take :: rest, [], h => mergerRun_proj i rest [] h
  | .take :: rest, c :: q, h => by
    obtain ⟨hq, hnone⟩ := nodup_tail h
    have ih := mergerRun_proj i rest q hq
    simp only [mergerRun, projI]
    by_cases hci : c.id = i
    · subst hci
      rw [hnone] at ih
      simp only [if_true, List.find?_cons, beq_self_eq_true, List.filter_cons, idRun, recvs]
      exact ⟨by rw [ih.1], ih.2⟩
    · have hb : (c.id == i) = false := by simpa using hci
      simp only [hci, if_false, List.find?_cons, hb, List.filter_cons, recvs]
      simpa using ih

/-- One step of the subscriber's copy under an include filter; of `E` only `E none none` is asked (both ends invisible:
nothing changes), whatever it says of an absent against a present value. -/
theorem viewFoldI_cons (E : Option α → Option α → Bool) (flt : α → α) (inc : α → Bool)
    (h0 : E none none = true) (held : Option α) (c : Chg α) (rest : List (Chg α)) :
    viewFoldI E flt inc held (c :: rest) =
      viewFoldI E flt inc
        (if (!E (vis flt inc c.old) (vis flt inc c.new)) = true then vis flt inc c.new else held) rest := by
  simp only [viewFoldI, lossyStepI_vis]
  congr 1
  by_cases h : ((vis flt inc c.old).isSome || (vis flt inc c.new).isSome) = true
  · rw [if_pos h]
    cases E (vis flt inc c.old) (vis flt inc c.new) <;> rfl
  · rw [if_neg h]
    simp only [Bool.or_eq_true, not_or, Bool.not_eq_true, Option.isSome_eq_false_iff, Option.isNone_iff_eq_none] at h
    rw [h.1, h.2, h0]
    rfl

/-- For any fold that takes the visible (`g`) new value of a change exactly when `E` tells its visible ends apart. -/
theorem coarse_tracks (E : Option α → Option α → Bool) (g : Option α → Option α)
    (fold : Option α → List (Chg α) → Option α) (hnil : ∀ h, fold h [] = h)
    (hcons : ∀ h c r, fold h (c :: r) = fold (if (!E (g c.old) (g c.new)) = true then g c.new else h) r)
    (hrefl : ∀ a, E a a = true) (htrans : ∀ a b c, E a b = true → E b c = true → E a c = true)
    (i : String) {t w : Option α} {out : List (Chg α)} (hc : Coarse i t out w) :
    ∀ held, E held (g t) = true → E (fold held out) (g w) = true := by
  induction hc with
  | nil t => intro held h; rwa [hnil]
  | @cons t u w c rest hp _ ih =>
    intro held h
    obtain ⟨_, ho, hn, _⟩ := pending_some_fields hp
    rw [hcons, ho, hn]
    exact ih _ (track_step hrefl htrans h _)

end Merger

end ScVerif.C16
