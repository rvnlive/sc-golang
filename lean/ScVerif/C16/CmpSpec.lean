import ScVerif.C16.Tolerance
/-! Vocabulary of the statements about repeated and map fields (`PropsRepeated.lean`, `PropsMap.lean`) besides the model;
`Entries.toList` is also what the lemmas about `equalMap`'s loop are stated in (`Loops.lean`). -/
namespace ScVerif.C16

/-- The entries `Range` visits, in order. -/
def Entries.toList : Entries → List (Scalar × Val)
  | .nil => []
  | .cons k v rest => (k, v) :: toList rest

/-- A map whose values are built by one constructor `f`. -/
def Entries.ofListWith {α : Type} (f : α → Val) (l : List (Scalar × α)) : Entries :=
  Entries.ofList (l.map (fun p => (p.1, f p.2)))

/-- A valid Timestamp message with the given fields and unknown fields. -/
def tsVal (p : Fields × Unk) : Val := .msg tsName true p.1 p.2
/-- A valid Duration message with the given fields and unknown fields. -/
def durVal (p : Fields × Unk) : Val := .msg durName true p.1 p.2

end ScVerif.C16
