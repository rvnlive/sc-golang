import ScVerif.C16.StreamSpec
/-! The merger, id by id: a receive keeps the pending change equal to "stored at the last take → stored now" (`Inv`,
`recvP_pending`), and the queue seen from one id is that one-id machine (`mergerRecv_find`). -/
namespace ScVerif.C16

variable {α : Type}

theorem pending_none {i : String} {t c : Option α} (h : Pending i t c none) : t = none ∧ c = none := by
  cases t <;> cases c <;> simp [Pending] at h ⊢

theorem pending_some_fields {i : String} {t u : Option α} {c : Chg α} (h : Pending i t u (some c)) :
    c.id = i ∧ c.old = t ∧ c.new = u ∧ ¬ (t = none ∧ u = none) := by
  cases t <;> cases u <;> simp only [Pending] at h
  · cases h
  · injection h with h; subst h; simp
  · injection h with h; subst h; simp
  · rcases h with h | h <;> (injection h with h; subst h; simp)

theorem pending_ends {i : String} {s e : Option α} {p : Option (Chg α)} (h : Pending i s e p) :
    (s = none → e = none → p = none) ∧ (¬ (s = none ∧ e = none) → ∃ ct, p = some ⟨i, ct, s, e⟩) := by
  refine ⟨fun hs he => by subst hs he; exact h, fun hn => ?_⟩
  cases p with
  | none => exact absurd (pending_none h) hn
  | some c =>
    obtain ⟨hi, ho, hn', _⟩ := pending_some_fields h
    exact ⟨c.ct, by rw [← hi, ← ho, ← hn']⟩

/-- Nothing pending since the last take. -/
theorem inv_fresh {i : String} {t : Option α} : Inv i t t none := Or.inl ⟨rfl, rfl⟩

theorem inv_of_pending {i : String} {t cur : Option α} {p : Option (Chg α)} (h : Pending i t cur p) : Inv i t cur p := by
  cases p with
  | none => obtain ⟨rfl, rfl⟩ := pending_none h; exact inv_fresh
  | some c => exact Or.inr ⟨nofun, h⟩

/-- What a receive does to the pending change of its id. -/
def recvP (p : Option (Chg α)) (b : Chg α) : Option (Chg α) :=
  match p with
  | none => some b
  | some a => mergeChanges a b

theorem mergeFold_cons (p : Option (Chg α)) (b : Chg α) (rest : List (Chg α)) :
    mergeFold p (b :: rest) = mergeFold (recvP p b) rest := by
  cases p <;> rfl

theorem mergeFold_some_cons (a b : Chg α) (rest : List (Chg α)) :
    mergeFold (some a) (b :: rest) = mergeFold (mergeChanges a b) rest := rfl

theorem idChain_cons {i : String} {s e : Option α} {b : Chg α} {rest : List (Chg α)} :
    IdChain i s (b :: rest) e ↔ ∃ s', IdChain i s [b] s' ∧ IdChain i s' rest e := by
  constructor
  · intro h
    cases h with
    | add v h => exact ⟨_, .add v (.done _), h⟩
    | update u v h => exact ⟨_, .update u v (.done _), h⟩
    | remove u h => exact ⟨_, .remove u (.done _), h⟩
  · rintro ⟨s', h1, h2⟩
    cases h1 with
    | add v h => cases h; exact .add v h2
    | update u v h => cases h; exact .update u v h2
    | remove u h => cases h; exact .remove u h2

/-- The three events against the table of `mergeChanges`, from a fresh window (`p = none`, `t = cur`) or a pending change. -/
theorem recvP_pending {i : String} {t cur cur' : Option α} {p : Option (Chg α)} {b : Chg α}
    (hstep : IdChain i cur [b] cur') (h : Inv i t cur p) :
    Pending i t cur' (recvP p b) := by
  rcases h with ⟨rfl, rfl⟩ | ⟨_, h⟩
  · cases hstep <;> rename_i h' <;> cases h' <;> simp [recvP, Pending]
  · -- the event fixes `cur`, and with `t` absent or present `Pending i t cur p` names `p`: an ADD meets nothing pending or a
    -- REMOVE (→ REPLACE); an UPDATE or REMOVE meets an ADD (→ ADD, nothing), an UPDATE or a REPLACE (→ the same with the new end)
    cases hstep <;> rename_i h' <;> cases h' <;> cases t <;> simp only [Pending] at h <;>
      rcases h with rfl | rfl <;> simp [recvP, Pending, mergeChanges]

theorem mergeFold_pending (i : String) : ∀ (evs : List (Chg α)) {s e t : Option α} {p : Option (Chg α)},
    IdChain i s evs e → Pending i t s p → Pending i t e (mergeFold p evs)
  | [], _, _, _, _, hc, hp => by cases hc; exact hp
  | b :: rest, _, _, _, _, hc, hp => by
    obtain ⟨s', h1, h2⟩ := idChain_cons.1 hc
    rw [mergeFold_cons]
    exact mergeFold_pending i rest h2 (recvP_pending h1 (inv_of_pending hp))

theorem mergeFold_window (i : String) {s e : Option α} {evs : List (Chg α)} (hc : IdChain i s evs e)
    (hne : evs ≠ []) : Pending i s e (mergeFold none evs) := by
  cases evs with
  | nil => exact absurd rfl hne
  | cons b rest =>
    obtain ⟨s', h1, h2⟩ := idChain_cons.1 hc
    rw [mergeFold_cons]
    exact mergeFold_pending i rest h2 (recvP_pending h1 inv_fresh)

theorem mergeChanges_id {a b c : Chg α} (h : mergeChanges a b = some c) : c.id = b.id := by
  unfold mergeChanges at h
  cases ha : a.ct <;> simp only [ha] at h
  · injection h with h; subst h; rfl
  · cases hb : b.ct <;> simp only [hb] at h <;> first | (injection h with h; subst h; rfl) | cases h
  · injection h with h; subst h; rfl
  · injection h with h; subst h; rfl
  · injection h with h; subst h; rfl

theorem recvP_id {p : Option (Chg α)} {b c : Chg α} (h : recvP p b = some c) : c.id = b.id := by
  cases p with
  | none => cases h; rfl
  | some a => exact mergeChanges_id h

/-- The queue holds at most one pending change per id (`messages` is a map). -/
def NodupIds (q : List (Chg α)) : Prop := (q.map (·.id)).Nodup

theorem eraseP_eq_filter (k : String) : ∀ q : List (Chg α), NodupIds q →
    q.eraseP (fun c => c.id == k) = q.filter (fun c => c.id != k)
  | [], _ => rfl
  | c :: q, h => by
    simp only [NodupIds, List.map_cons, List.nodup_cons] at h
    by_cases hk : c.id = k
    · have hq : q.filter (fun c => c.id != k) = q := by
        apply List.filter_eq_self.mpr
        intro d hd
        have : d.id ≠ k := fun e => h.1 (hk ▸ e ▸ List.mem_map_of_mem hd)
        simpa using this
      simp [hk, hq]
    · have ih := eraseP_eq_filter k q h.2
      simp [hk, ih]

theorem find_filter_ne (i k : String) (q : List (Chg α)) (hik : k ≠ i) :
    (q.filter (fun c => c.id != k)).find? (fun c => c.id == i) = q.find? (fun c => c.id == i) := by
  rw [List.find?_filter]
  congr 1
  funext c
  by_cases h : c.id = i
  · simp [h, Ne.symm hik]
  · simp [h]

theorem nodup_filter (k : String) (q : List (Chg α)) (h : NodupIds q) :
    NodupIds (q.filter (fun c => c.id != k)) := by
  unfold NodupIds at *
  exact (List.Sublist.map _ List.filter_sublist).nodup h

theorem nodup_append_single (q : List (Chg α)) (c : Chg α) (h : NodupIds q) (hc : ∀ d ∈ q, d.id ≠ c.id) :
    NodupIds (q ++ [c]) := by
  unfold NodupIds at *
  rw [List.map_append, List.nodup_append]
  refine ⟨h, by simp, ?_⟩
  intro a ha x hx
  simp only [List.map_cons, List.map_nil, List.mem_singleton] at hx
  subst hx
  obtain ⟨d, hd, rfl⟩ := List.mem_map.mp ha
  exact hc d hd

theorem mergerRecv_eq (q : List (Chg α)) (b : Chg α) (h : NodupIds q) :
    mergerRecv q b = q.filter (fun c => c.id != b.id) ++ (recvP (q.find? (fun c => c.id == b.id)) b).toList := by
  unfold mergerRecv recvP
  cases hf : q.find? (fun c => c.id == b.id) with
  | none =>
    have : q.filter (fun c => c.id != b.id) = q :=
      List.filter_eq_self.mpr fun d hd => by simpa using List.find?_eq_none.mp hf d hd
    simp [this]
  | some a =>
    simp only [eraseP_eq_filter b.id q h]
    cases mergeChanges a b <;> simp

theorem mergerRecv_nodup (q : List (Chg α)) (b : Chg α) (h : NodupIds q) : NodupIds (mergerRecv q b) := by
  rw [mergerRecv_eq q b h]
  cases hr : recvP (q.find? (fun c => c.id == b.id)) b with
  | none => simpa using nodup_filter _ _ h
  | some c =>
    exact nodup_append_single _ c (nodup_filter _ q h) fun d hd => by
      simpa [recvP_id hr] using (List.mem_filter.mp hd).2

theorem mergerRecv_find (q : List (Chg α)) (b : Chg α) (i : String) (h : NodupIds q) :
    (mergerRecv q b).find? (fun c => c.id == i) =
      if b.id = i then recvP (q.find? (fun c => c.id == i)) b else q.find? (fun c => c.id == i) := by
  rw [mergerRecv_eq q b h, List.find?_append]
  by_cases hbi : b.id = i
  · subst hbi
    rw [if_pos rfl, List.find?_eq_none.mpr (by simp), Option.none_or]
    cases hr : recvP (q.find? (fun c => c.id == b.id)) b with
    | none => rfl
    | some c => simp [recvP_id hr]
  · rw [if_neg hbi, find_filter_ne i b.id q hbi]
    cases hr : recvP (q.find? (fun c => c.id == b.id)) b with
    | none => simp
    | some c =>
      have : c.id ≠ i := by rw [recvP_id hr]; exact hbi
      simp [this]

theorem foldl_mergerRecv_find (i : String) : ∀ (evs : List (Chg α)) (q : List (Chg α)), NodupIds q →
    (evs.foldl mergerRecv q).find? (fun c => c.id == i) =
      mergeFold (q.find? (fun c => c.id == i)) (evs.filter (fun c => c.id == i)) ∧
    NodupIds (evs.foldl mergerRecv q)
  | [], q, h => ⟨by simp [mergeFold], h⟩
  | b :: evs, q, h => by
    have ih := foldl_mergerRecv_find i evs _ (mergerRecv_nodup q b h)
    refine ⟨?_, ih.2⟩
    rw [List.foldl_cons, ih.1, mergerRecv_find q b i h]
    by_cases hbi : b.id = i
    · simp only [hbi, if_true, List.filter_cons, beq_self_eq_true, mergeFold_cons]
    · have : (b.id == i) = false := by simpa using hbi
      simp [hbi, this]

/-- Include and read mask leave the change `vis old → vis new` (dropped when both are invisible, an ADD / a REMOVE when the
visibility changes), and `E` judges that. -/
theorem lossyStepI_vis (E : Option α → Option α → Bool) (flt : α → α) (inc : α → Bool) (c : Chg α) :
    lossyStepI (some E) flt (some inc) c =
      if (vis flt inc c.old).isSome || (vis flt inc c.new).isSome then
        some (⟨c.id, if (vis flt inc c.old).isSome == (vis flt inc c.new).isSome then c.ct
                     else if (vis flt inc c.new).isSome then .add else .remove,
               vis flt inc c.old, vis flt inc c.new⟩, !E (vis flt inc c.old) (vis flt inc c.new))
      else none := by
  obtain ⟨i, ct, o, n⟩ := c
  cases o with
  | none =>
    cases n with
    | none => rfl
    | some v => cases hv : inc v <;> simp [lossyStepI, includeChg, lossyStep, vis, hv]
  | some x =>
    cases n with
    | none => cases hx : inc x <;> simp [lossyStepI, includeChg, lossyStep, vis, hx]
    | some v => cases hx : inc x <;> cases hv : inc v <;> simp [lossyStepI, includeChg, lossyStep, vis, hx, hv]

end ScVerif.C16
