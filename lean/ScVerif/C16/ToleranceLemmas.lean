import ScVerif.C16.Tolerance
import ScVerif.C16.RatLemmas
/-! Finite float arithmetic is rational arithmetic (`F.Is`); the two integer kernels are symmetric and a band because they
order their arguments and test the difference (`ite_lt_symm`, `ite_lt_iff`). -/
namespace ScVerif.C16

theorem F_abs_fin (q : Rat) (z : Bool) : F.abs (.fin q z) = .fin q.abs false := rfl

theorem F_sub_fin (p q : Rat) (a b : Bool) : F.sub (.fin p a) (.fin q b) = .fin (p - q) (a && !b) := rfl

/-- `math.Min` on two finite values: the zeros first (their signs combine), then the order. -/
theorem F_min_fin_eq (p q : Rat) (a b : Bool) : F.min (.fin p a) (.fin q b) =
    if p = 0 ∧ q = 0 then .fin 0 (a || b) else if p < q then .fin p a else .fin q b := by
  simp [F.min, F.isNaN]

theorem F_max_fin_eq (p q : Rat) (a b : Bool) : F.max (.fin p a) (.fin q b) =
    if p = 0 ∧ q = 0 then .fin 0 (a && b) else if p > q then .fin p a else .fin q b := by
  simp [F.max, F.isNaN]

theorem F_min_abs (p q : Rat) : F.min (.fin p false) (.fin q false) = .fin (min p q) false := by
  rw [F_min_fin_eq, Rat.min_def]
  split
  · rename_i h0
    rw [h0.1, h0.2, if_pos Rat.le_refl]
    rfl
  · split
    · rw [if_pos (Rat.le_of_lt ‹p < q›)]
    · split
      · rw [Rat.le_antisymm ‹p ≤ q› (Rat.not_lt.mp ‹¬ p < q›)]
      · rfl

/-- `x` is finite with value `q`, whatever the sign of a zero; the float operations act on the values (`F.Is.sub` … `F.Is.le`). -/
def F.Is (x : F) (q : Rat) : Prop := ∃ z, x = .fin q z

namespace F.Is
variable {x y : F} {p q : Rat}

theorem fin (q : Rat) (z : Bool) : (F.fin q z).Is q := ⟨z, rfl⟩

theorem abs (h : x.Is p) : (F.abs x).Is p.abs := by
  obtain ⟨_, rfl⟩ := h
  exact ⟨_, rfl⟩

theorem sub (hx : x.Is p) (hy : y.Is q) : (F.sub x y).Is (p - q) := by
  obtain ⟨_, rfl⟩ := hx
  obtain ⟨_, rfl⟩ := hy
  exact ⟨_, rfl⟩

theorem mul (hx : x.Is p) (hy : y.Is q) : (F.mul x y).Is (p * q) := by
  obtain ⟨_, rfl⟩ := hx
  obtain ⟨_, rfl⟩ := hy
  exact ⟨_, rfl⟩

theorem min_abs (hx : x.Is p) (hy : y.Is q) : (F.min (F.abs x) (F.abs y)).Is (Min.min p.abs q.abs) := by
  obtain ⟨_, rfl⟩ := hx
  obtain ⟨_, rfl⟩ := hy
  exact ⟨false, F_min_abs _ _⟩

theorem max (hx : x.Is p) (hy : y.Is q) : (F.max x y).Is (Max.max p q) := by
  obtain ⟨a, rfl⟩ := hx
  obtain ⟨b, rfl⟩ := hy
  rw [F_max_fin_eq, Rat.max_def]
  split
  · rename_i h0
    exact ⟨a && b, by rw [h0.1, h0.2, if_pos Rat.le_refl]⟩
  · split
    · exact ⟨a, by rw [if_neg (Rat.not_le.mpr ‹p > q›)]⟩
    · exact ⟨b, by rw [if_pos (Rat.not_lt.mp ‹¬ p > q›)]⟩

theorem le (hx : x.Is p) (hy : y.Is q) : F.le x y = decide (p ≤ q) := by
  obtain ⟨_, rfl⟩ := hx
  obtain ⟨_, rfl⟩ := hy
  rfl

end F.Is

theorem floatApproxF_fin (fr mg x y : Rat) (a b c d : Bool) :
    floatApproxF (.fin fr a) (.fin mg b) (.fin x c) (.fin y d) =
      decide ((x - y).abs ≤ max mg (fr * min x.abs y.abs)) :=
  ((F.Is.fin x c).sub (.fin y d)).abs.le ((F.Is.fin mg b).max ((F.Is.fin fr a).mul ((F.Is.fin x c).min_abs (.fin y d))))

theorem wrap64_range (v : Int) : minI64 ≤ wrap64 v ∧ wrap64 v ≤ maxI64 := by
  unfold wrap64 maxI64 minI64
  omega

/-- Ordering the two arguments first makes a function symmetric (`if xt.Before(yt) …`, `if xd < yd …`). -/
theorem ite_lt_symm {β : Type} (g : Int → Int → β) (x y : Int) :
    (if x < y then g y x else g x y) = (if y < x then g x y else g y x) := by
  rcases Int.lt_trichotomy x y with h | rfl | h
  · rw [if_pos h, if_neg (by omega)]
  · rfl
  · rw [if_neg (by omega), if_pos h]

/-- Ordering the two arguments first and testing the difference is the band `|x - y| ≤ d`, where the test `P` is `· ≤ d` on
the non-negative difference at hand. -/
theorem ite_lt_iff {P : Int → Bool} {d x y : Int} {b : Bool} (hb : b = if x < y then P (y - x) else P (x - y))
    (h : ∀ z, 0 ≤ z → z = x - y ∨ z = y - x → (P z = true ↔ z ≤ d)) :
    b = true ↔ (x - y ≤ d ∧ y - x ≤ d) := by
  subst hb
  split
  · rw [h _ (by omega) (Or.inr rfl)]; omega
  · rw [h _ (by omega) (Or.inl rfl)]; omega

/-- The tolerance is not the maximal Duration, or the instants are less than 2^63 ns apart: `Time.Sub` saturates. -/
theorem timeWithinT_iff (d xt yt : Int) (h : d < maxI64 ∨ (xt - yt ≤ maxI64 ∧ yt - xt ≤ maxI64)) :
    timeWithinT d xt yt = true ↔ (xt - yt ≤ d ∧ yt - xt ≤ d) := by
  refine ite_lt_iff (P := fun z => decide (sat64 z ≤ d)) rfl fun z hz hzz => ?_
  unfold sat64 maxI64 minI64 at *
  rw [decide_eq_true_iff]
  split <;> omega

/-- The difference of the larger and the smaller is below 2^64, so a wrapped difference shows as a negative one. -/
theorem durWithinD_iff (d xd yd : Int) (hx1 : minI64 ≤ xd) (hx2 : xd ≤ maxI64)
    (hy1 : minI64 ≤ yd) (hy2 : yd ≤ maxI64) (hd : d ≤ maxI64) :
    durWithinD d xd yd = true ↔ (xd - yd ≤ d ∧ yd - xd ≤ d) := by
  refine ite_lt_iff (P := fun z => decide (0 ≤ wrap64 z) && decide (wrap64 z ≤ d))
    (by unfold durWithinD; split <;> rfl) fun z hz hzz => ?_
  unfold wrap64 maxI64 minI64 at *
  rw [Bool.and_eq_true, decide_eq_true_iff, decide_eq_true_iff]
  omega

theorem timeWithinT_symm (d xt yt : Int) : timeWithinT d xt yt = timeWithinT d yt xt :=
  ite_lt_symm (fun a b => decide (timeSub a b ≤ d)) xt yt

theorem durWithinD_symm (d xd yd : Int) : durWithinD d xd yd = durWithinD d yd xd := by
  unfold durWithinD
  simp only []
  rw [show (if xd < yd then yd else xd) = (if yd < xd then xd else yd) from ite_lt_symm (fun a _ => a) xd yd,
    show (if xd < yd then xd else yd) = (if yd < xd then yd else xd) from ite_lt_symm (fun _ b => b) xd yd]

theorem toDurationNs_range (fs : Fields) : minI64 ≤ toDurationNs fs ∧ toDurationNs fs ≤ maxI64 := by
  unfold toDurationNs
  have hm : maxI64 = 9223372036854775807 := rfl
  have hn : minI64 = -9223372036854775808 := rfl
  simp only []
  split
  · split
    · omega
    · split
      · omega
      · exact wrap64_range _
  · exact wrap64_range _

theorem minAbs_eq_min (xd yd : Int) : minAbs xd yd = min (xd : Rat).abs (yd : Rat).abs := by
  unfold minAbs; grind

theorem durWithinPD_iff (p : Rat) (z : Bool) (xd yd : Int) :
    durWithinPD (.fin p z) xd yd = true ↔ ((xd : Rat) - (yd : Rat)).abs * 100 ≤ p * minAbs xd yd := by
  simp only [durWithinPD, F.ofRat]
  rw [(((F.Is.fin xd false).sub (.fin yd false)).abs.mul (.fin 100 false)).le
    ((F.Is.fin p z).mul ((F.Is.fin xd false).min_abs (.fin yd false))), decide_eq_true_iff, minAbs_eq_min]

theorem durWithinPD_symm (p : F) (xd yd : Int) : durWithinPD p xd yd = durWithinPD p yd xd := by
  simp only [durWithinPD, F.ofRat, F.sub, F.abs, F_min_abs, min_comm' (xd : Rat).abs,
    Rat.abs_sub_comm (x := (xd : Rat))]

theorem durWithinPD_refl (p : Rat) (z : Bool) (hp : 0 ≤ p) (xd : Int) : durWithinPD (.fin p z) xd xd = true := by
  rw [durWithinPD_iff]
  have h0 : ((xd : Rat) - (xd : Rat)).abs = 0 := by
    have : (xd : Rat) - (xd : Rat) = 0 := by grind
    rw [this]; rfl
  rw [h0]
  have hm : 0 ≤ minAbs xd xd := by
    unfold minAbs; simp
  have := Rat.mul_nonneg hp hm
  grind

end ScVerif.C16
