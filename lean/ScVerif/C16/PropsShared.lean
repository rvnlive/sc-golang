import ScVerif.C16.SharedLemmas
/-!
# C16 — subscribers of one collection do not disturb each other's equivalence check

The change a write publishes is one object handed to every subscriber; a schedule is a list of subscriber numbers: who
performs its next step (include, read mask, equivalence check).  Tied to the code by the neighbour runs of the pull tie
(harness neighbours.go), in which the interleaving "the neighbours adapt the shared event first" is forced through the
include predicates.
-/
namespace ScVerif.C16

/-- Handling an event never changes the published `*CollectionChange`, whatever the interleaving of the subscribers. -/
theorem C16_shared_event_unchanged (E : Option MCmp) (cfg : Nat → SubCfg) (ev : CEvent) (sched : List Nat) :
    (sysRun includeFresh E cfg (SharedSys.init ev) sched).cell = ev :=
  (sysRun_solo E cfg ev sched (SharedSys.init ev) rfl (fun _ => trivial)).1

/-- NON-INTERFERENCE: a subscriber that has finished with the event has decided exactly what it decides when it is the
only subscriber (`collPullStep`). -/
theorem C16_shared_event_noninterference (E : Option MCmp) (cfg : Nat → SubCfg) (ev : CEvent)
    (sched : List Nat) (i : Nat) (d : Option CDecision)
    (h : (sysRun includeFresh E cfg (SharedSys.init ev) sched).pc i = .done d) :
    d = collPullStep E (cfg i).flt (cfg i).inc ev := by
  have := (sysRun_solo E cfg ev sched (SharedSys.init ev) rfl (fun _ => trivial)).2 i
  rw [h] at this
  exact this

/-- PROGRESS, for ANY implementation of include. -/
theorem C16_shared_event_progress (impl : IncludeImpl) (E : Option MCmp) (cfg : Nat → SubCfg) (ev : CEvent)
    (sched : List Nat) (i : Nat) (h : 3 ≤ sched.count i) :
    ∃ d, (sysRun impl E cfg (SharedSys.init ev) sched).pc i = .done d := by
  apply rank_done
  have := sysRun_rank impl E cfg i sched (SharedSys.init ev)
  have h0 : ((SharedSys.init ev).pc i).rank = 0 := rfl
  rw [h0] at this
  omega

/-- Both together: every subscriber scheduled three times ends with its solo decision. -/
theorem C16_shared_event_decisions (E : Option MCmp) (cfg : Nat → SubCfg) (ev : CEvent)
    (sched : List Nat) (i : Nat) (h : 3 ≤ sched.count i) :
    (sysRun includeFresh E cfg (SharedSys.init ev) sched).pc i =
      .done (collPullStep E (cfg i).flt (cfg i).inc ev) := by
  obtain ⟨d, hd⟩ := C16_shared_event_progress includeFresh E cfg ev sched i h
  rw [hd, C16_shared_event_noninterference E cfg ev sched i d hd]

/-- Adapting the change IN PLACE is refuted: subscriber 0 has an include predicate that the update
crosses, subscriber 1 has none and holds the item; when 0 moves first, 1 delivers a change whose new value is
equivalent to its old one (its solo decision is: suppressed). -/
theorem C16_shared_event_in_place_fails :
    ∃ (E : Option MCmp) (cfg : Nat → SubCfg) (ev : CEvent) (sched : List Nat) (d : CDecision),
      (sysRun includeInPlace E cfg (SharedSys.init ev) sched).pc 1 = .done (some d) ∧ d.delivered = true ∧
      ∃ d', collPullStep E (cfg 1).flt (cfg 1).inc ev = some d' ∧ d'.delivered = false := by
  refine ⟨some anyPresent,
    fun i => if i = 0 then ⟨none, some (fun v => match v with | .sc (.bool b) => b | _ => false)⟩ else ⟨none, none⟩,
    ⟨some (.sc (.bool false)), some (.sc (.bool true))⟩, [0, 1, 1, 1],
    ⟨none, some (.sc (.bool true)), true⟩, ?_, rfl, ⟨some (.sc (.bool false)), some (.sc (.bool true)), false⟩, ?_, rfl⟩
  · rfl
  · rfl

/-- The schedule quantified over in the theorems reaches finished subscribers (non-vacuity). -/
example (E : Option MCmp) (cfg : Nat → SubCfg) (ev : CEvent) :
    (sysRun includeFresh E cfg (SharedSys.init ev) [1, 0, 1, 0, 0, 1]).pc 0 =
      .done (collPullStep E (cfg 0).flt (cfg 0).inc ev) :=
  C16_shared_event_decisions E cfg ev _ 0 (by decide)

end ScVerif.C16
