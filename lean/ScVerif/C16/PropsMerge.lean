import ScVerif.C16.MergeLemmas
/-!
# C16 — the equivalence behind the lossy path of `Collection.Pull`

The delivery property when the subscriber is slow and `mergeCollectionExcess` folds the changes of an id into one before
the equivalence check.
-/
namespace ScVerif.C16

/-- The merged change of a window is "what the subscriber last saw → what is stored now", for every sequence of events
the collection can publish for the id (`IdChain`: any length ≥ 1, any number of delete+add cycles) folded by
`mergeChanges` while the consumer is busy; nothing is reported when the item was and is absent. -/
theorem C16_merge_window {α : Type} (i : String) (s e : Option α) (evs : List (Chg α))
    (hc : IdChain i s evs e) (hne : evs ≠ []) :
    (s = none → e = none → mergeFold none evs = none) ∧
    (∀ v, s = none → e = some v → mergeFold none evs = some ⟨i, .add, none, some v⟩) ∧
    (∀ u, s = some u → e = none → mergeFold none evs = some ⟨i, .remove, some u, none⟩) ∧
    (∀ u v, s = some u → e = some v →
      mergeFold none evs = some ⟨i, .update, some u, some v⟩ ∨
      mergeFold none evs = some ⟨i, .replace, some u, some v⟩) := by
  have h := mergeFold_window i hc hne
  refine ⟨?_, ?_, ?_, ?_⟩
  · intro hs he; subst hs he; simpa [Pending] using h
  · intro v hs he; subst hs he; simpa [Pending] using h
  · intro u hs he; subst hs he; simpa [Pending] using h
  · intro u v hs he; subst hs he; simpa [Pending] using h

/-- Several ids in one window do not disturb each other, however their events interleave. -/
theorem C16_merger_per_id {α : Type} (i : String) (evs : List (Chg α)) :
    (mergerWindow evs).find? (fun c => c.id == i) = mergeFold none (evs.filter (fun c => c.id == i)) ∧
    ((mergerWindow evs).map (·.id)).Nodup :=
  foldl_mergerRecv_find i evs [] List.nodup_nil

/-- The decision on a merged window is the decision on ONE write from the window's first old value to its last new
value: a run of writes that ends E-equivalent to where it began is suppressed as a whole, and one that ends elsewhere is
never suppressed, whatever intermediate values (even ones equivalent to the final value) were merged away. -/
theorem C16_lossy_window_decision {α : Type} (E : Option α → Option α → Bool) (flt : α → α) (i : String)
    (s e : Option α) (evs : List (Chg α)) (hc : IdChain i s evs e) (hne : evs ≠ []) :
    (s = none → e = none → (mergeFold none evs).map (lossyStep (some E) flt) = none) ∧
    (¬ (s = none ∧ e = none) → ∃ ct,
      (mergeFold none evs).map (lossyStep (some E) flt) =
        some (⟨i, ct, s.map flt, e.map flt⟩, !E (s.map flt) (e.map flt))) := by
  have h := pending_ends (mergeFold_window i hc hne)
  exact ⟨fun hs he => by rw [h.1 hs he]; rfl, fun hn => (h.2 hn).imp fun ct h' => by rw [h']; rfl⟩

/-- With `WithInclude` on the lossy path, include is applied to the merged change, i.e. to the value stored when the
window began and the value stored when it ended, never to a value that was merged away. -/
theorem C16_lossy_window_include {α : Type} (E : Option α → Option α → Bool) (flt : α → α) (inc : α → Bool)
    (i : String) (s e : Option α) (evs : List (Chg α)) (hc : IdChain i s evs e) (hne : evs ≠ []) :
    (s = none → e = none → (mergeFold none evs).bind (lossyStepI (some E) flt (some inc)) = none) ∧
    (¬ (s = none ∧ e = none) → ∃ ct,
      (mergeFold none evs).bind (lossyStepI (some E) flt (some inc)) =
        lossyStepI (some E) flt (some inc) ⟨i, ct, s, e⟩) := by
  have h := pending_ends (mergeFold_window i hc hne)
  exact ⟨fun hs he => by rw [h.1 hs he]; rfl, fun hn => (h.2 hn).imp fun ct h' => by rw [h']; rfl⟩

/-- What the loop makes of one change under an include predicate; E never equates an absent value with a present one,
as every `cmp.Equal(...)` (`C16_equal_absent_never_equivalent`). -/
theorem C16_lossy_include_cases {α : Type} (E : Option α → Option α → Bool) (flt : α → α) (inc : α → Bool)
    (i : String) (ct : CT) (u v : α) (hnil : ∀ w, E none (some w) = false ∧ E (some w) none = false) :
    (inc u = false → inc v = false → lossyStepI (some E) flt (some inc) ⟨i, ct, some u, some v⟩ = none) ∧
    (inc u = false → inc v = true →
      lossyStepI (some E) flt (some inc) ⟨i, ct, some u, some v⟩ = some (⟨i, .add, none, some (flt v)⟩, true)) ∧
    (inc u = true → inc v = false →
      lossyStepI (some E) flt (some inc) ⟨i, ct, some u, some v⟩ = some (⟨i, .remove, some (flt u), none⟩, true)) ∧
    (inc u = true → inc v = true →
      lossyStepI (some E) flt (some inc) ⟨i, ct, some u, some v⟩ =
        some (⟨i, ct, some (flt u), some (flt v)⟩, !E (some (flt u)) (some (flt v)))) := by
  refine ⟨?_, ?_, ?_, ?_⟩ <;> intro hu hv <;>
    simp [lossyStepI_vis, vis, hu, hv, (hnil (flt v)).1, (hnil (flt u)).2]

/-- The subscriber keeps track through lossy windows.  PARTIAL in the same sense as
`C16_no_dup_delivery_collection_partial` (E reflexive and transitive, as `Equal()` / `WithNoDuplicates` is; a tolerance
is not transitive and drifts, the recorded finding): whatever was merged away, whether or not anything was delivered. -/
theorem C16_lossy_window_tracks {α : Type} (E : Option α → Option α → Bool) (flt : α → α)
    (hrefl : ∀ a, E a a = true) (htrans : ∀ a b c, E a b = true → E b c = true → E a c = true)
    (i : String) (s e : Option α) (evs : List (Chg α)) (hc : IdChain i s evs e) (hne : evs ≠ [])
    (held : Option α) (hheld : E held (s.map flt) = true) :
    E (viewAfter E flt held evs) (e.map flt) = true := by
  have h := C16_lossy_window_decision E flt i s e evs hc hne
  unfold viewAfter
  by_cases hn : s = none ∧ e = none
  · rw [h.1 hn.1 hn.2]
    obtain ⟨hs, he⟩ := hn
    subst hs he
    simpa using hheld
  · obtain ⟨ct, hr⟩ := h.2 hn
    rw [hr]
    cases hd : E (s.map flt) (e.map flt) with
    | true => simp only [Bool.not_true]; exact htrans _ _ _ hheld hd
    | false => simp only [Bool.not_false]; exact hrefl _

/-- The hypotheses are satisfiable: plain equality of the payload. -/
example : ∃ E : Option Nat → Option Nat → Bool, (∀ a, E a a = true) ∧
    (∀ a b c, E a b = true → E b c = true → E a c = true) :=
  ⟨fun a b => a == b, by simp, by intro a b c; simp; intro h1 h2; rw [h1, h2]⟩

/-- Non-vacuity: a chain with a delete+add cycle and a later update — the shape that reaches the REPLACE
arm of `mergeChanges` — exists, and its merged change carries the FIRST old value. -/
example : IdChain "k" (some 10) [⟨"k", .remove, some 10, none⟩, ⟨"k", .add, none, some 50⟩,
    ⟨"k", .update, some 50, some 10⟩] (some (10 : Nat)) :=
  .remove 10 (.add 50 (.update 50 10 (.done _)))

example : (mergeFold none [⟨"k", .remove, some 10, none⟩, ⟨"k", .add, none, some 50⟩,
    ⟨"k", .update, some 50, some (10 : Nat)⟩]).map (fun c => (c.ct, c.old, c.new)) =
    some (.replace, some 10, some 10) := by decide

end ScVerif.C16
