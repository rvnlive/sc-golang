import ScVerif.C16.RoundedF
import ScVerif.C16.RoundingLemmas
import ScVerif.C16.ToleranceLemmas
import ScVerif.C16.Shells
/-! The rounded float comparer on `F`: without overflow its finite branch is `floatApproxR`; symmetric and reflexive
through overflow too. -/
namespace ScVerif.C16

theorem F.Is.round {rnd : Rat → Rat} {lim : Rat} {x : F} {q : Rat} (h : x.Is q) (hl : (rnd q).abs ≤ lim) :
    (F.round rnd lim x).Is (rnd q) := by
  obtain ⟨z, rfl⟩ := h
  exact ⟨z, if_neg (Rat.not_lt.mpr hl)⟩

theorem floatApproxFR_fin (rnd : Rat → Rat) (lim fr mg x y : Rat) (a b c d : Bool)
    (h1 : (rnd (x - y)).abs ≤ lim) (h2 : (rnd (fr * min x.abs y.abs)).abs ≤ lim) :
    floatApproxFR rnd lim (.fin fr a) (.fin mg b) (.fin x c) (.fin y d) = floatApproxR rnd fr mg x y := by
  unfold floatApproxFR floatApproxR
  exact (((F.Is.fin x c).sub (.fin y d)).round h1).abs.le
    ((F.Is.fin mg b).max (((F.Is.fin fr a).mul ((F.Is.fin x c).min_abs (.fin y d))).round h2))

theorem F_abs_round_sub_comm (rnd : Rat → Rat) (hodd : ∀ a, rnd (-a) = -rnd a) (lim x y : Rat) (c d : Bool) :
    F.abs (F.round rnd lim (F.sub (.fin x c) (.fin y d))) = F.abs (F.round rnd lim (F.sub (.fin y d) (.fin x c))) := by
  simp only [F_sub_fin, F.round]
  have e : y - x = -(x - y) := by grind
  rw [e, hodd, Rat.abs_neg]
  by_cases h : lim < (rnd (x - y)).abs
  · simp [h, F.abs]
  · simp [h, F.abs, Rat.abs_neg]

theorem floatApproxFR_symm (rnd : Rat → Rat) (hodd : ∀ a, rnd (-a) = -rnd a) (lim : Rat) (fraction margin : F)
    (x y : Rat) (c d : Bool) :
    floatApproxFR rnd lim fraction margin (.fin x c) (.fin y d) =
    floatApproxFR rnd lim fraction margin (.fin y d) (.fin x c) := by
  unfold floatApproxFR
  simp only []
  rw [F_abs_round_sub_comm rnd hodd, F_abs_fin, F_abs_fin, F_min_abs, F_min_abs, min_comm']

theorem floatValueApproxR_eq (rnd : Rat → Rat) (lim : Rat) (fraction margin : F) :
    floatValueApproxR rnd lim fraction margin = floatCmp (floatApproxFR rnd lim fraction margin) := rfl

theorem floatApproxFR_refl (rnd : Rat → Rat) (h : SignSymmetric rnd) (lim : Rat) (hlim : 0 ≤ lim)
    (fr mg x : Rat) (a b c : Bool) (hp : 0 ≤ mg ∨ 0 ≤ fr) :
    floatApproxFR rnd lim (.fin fr a) (.fin mg b) (.fin x c) (.fin x c) = true := by
  unfold floatApproxFR
  have h0 := h.abs_sub_self x
  have hd := (((F.Is.fin x c).sub (.fin x c)).round (rnd := rnd) (lim := lim) (h0 ▸ hlim)).abs
  have hm := (F.Is.fin fr a).mul ((F.Is.fin x c).min_abs (.fin x c))
  rw [h0] at hd
  rw [Std.min_self] at hm
  by_cases ho : (rnd (fr * x.abs)).abs ≤ lim
  · rw [hd.le ((F.Is.fin mg b).max (hm.round ho)), decide_eq_true_eq]
    exact le_max_of (hp.imp id fun hp => h.nonneg _ (Rat.mul_nonneg hp Rat.abs_nonneg))
  · -- the product overflows to the infinity of its sign; a negative product needs fr < 0, so the margin is non-negative
    obtain ⟨z0, e0⟩ := hd
    obtain ⟨z, e⟩ := hm
    rw [e0, e]
    simp only [F.round, if_pos (Rat.not_le.mp ho)]
    by_cases hneg : fr * x.abs < 0
    · have hmg : 0 ≤ mg := hp.elim id fun hp => absurd (Rat.mul_nonneg hp Rat.abs_nonneg) (Rat.not_le.mpr hneg)
      simp [hneg, F.max, F.isNaN, F.lt, F.le, hmg]
    · simp [hneg, F.max, F.le]

theorem durationValueWithinPR_eq (rnd : Rat → Rat) (p : F) : durationValueWithinPR rnd p =
    typedCmp durName toDurationNs (fun xd yd => match p with
      | .fin q _ => durWithinPR rnd q xd yd
      | _ => durWithinPD p xd yd) :=
  funext fun x => funext fun y => by
    rw [← durCmp_eq]
    unfold durationValueWithinPR
    cases p <;> rfl

end ScVerif.C16
