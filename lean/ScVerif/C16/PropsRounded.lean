import ScVerif.C16.RoundedFLemmas
import ScVerif.C16.RoundedLemmas
/-!
# C16 — the tolerance comparers in rounded arithmetic

`Props.lean` proves "reflexive, symmetric, accept exactly the pairs within the stated tolerance" over exact rationals;
binary64 rounds.  Here the arithmetic is as the code performs it, for every rounding `rnd` that is monotone and
sign-symmetric (`Rounding`), without any "the arithmetic is exact on these inputs" hypothesis, and then for binary64
itself (`rne64`).
-/
namespace ScVerif.C16

/-- `FloatValueApprox` in rounded arithmetic accepts exactly the pairs within the stated tolerance over the reals, or
whose distance rounds to the same number as that tolerance: rounding never rejects a pair that is within tolerance, and
accepts one beyond it by less than one rounding step.  (`margin` is a float: `rnd margin = margin`.) -/
theorem C16_float_approx_rounded (rnd : Rat → Rat) (h : Rounding rnd) (fr mg x y : Rat) (hmg : rnd mg = mg) :
    floatApproxR rnd fr mg x y = true ↔
      ((x - y).abs ≤ max mg (fr * min x.abs y.abs) ∨
       rnd (x - y).abs = rnd (max mg (fr * min x.abs y.abs))) := by
  rw [floatApproxR_eq rnd h fr mg x y hmg, decide_eq_true_eq]
  exact h.le_iff _ _

/-- Where the distance and the tolerance are floats themselves, the rounded comparer is the exact one of `Props.lean`. -/
theorem C16_float_approx_rounded_exact (rnd : Rat → Rat) (h : Rounding rnd) (fr mg x y : Rat) (hmg : rnd mg = mg)
    (hd : rnd (x - y).abs = (x - y).abs)
    (ht : rnd (max mg (fr * min x.abs y.abs)) = max mg (fr * min x.abs y.abs)) :
    floatApproxR rnd fr mg x y = floatApproxF (.fin fr false) (.fin mg false) (.fin x false) (.fin y false) := by
  rw [floatApproxF_fin, floatApproxR_eq rnd h fr mg x y hmg, hd, ht]

/-- Only `h.odd` is used: no monotonicity, not even sign preservation. -/
theorem C16_float_approx_rounded_symm (rnd : Rat → Rat) (h : SignSymmetric rnd) (fr mg x y : Rat) :
    floatApproxR rnd fr mg x y = floatApproxR rnd fr mg y x := by
  rw [floatApproxR_def, floatApproxR_def, h.abs_sub_comm x y, min_comm' x.abs y.abs]

/-- Reflexive in rounded arithmetic when the margin or the fraction is non-negative: sign preservation is what that
needs of the rounding. -/
theorem C16_float_approx_rounded_refl (rnd : Rat → Rat) (h : SignSymmetric rnd) (fr mg x : Rat) (hp : 0 ≤ mg ∨ 0 ≤ fr) :
    floatApproxR rnd fr mg x x = true := by
  rw [floatApproxR_def, decide_eq_true_eq, h.abs_sub_self, Std.min_self]
  exact le_max_of (hp.imp id fun hp => h.nonneg _ (Rat.mul_nonneg hp Rat.abs_nonneg))

/-- All int64 durations, also those beyond 2^53 ns, which float64 cannot represent: the two conversions, the difference
and both products round. -/
theorem C16_durationP_rounded (rnd : Rat → Rat) (h : SignSymmetric rnd) (p : Rat) (xd yd : Int) :
    durWithinPR rnd p xd yd = durWithinPR rnd p yd xd ∧
    (0 ≤ p → durWithinPR rnd p xd xd = true) := by
  constructor
  · rw [durWithinPR_def, durWithinPR_def, h.abs_sub_comm (rnd xd) (rnd yd), min_comm' (rnd xd).abs (rnd yd).abs]
  · intro hp
    rw [durWithinPR_def, decide_eq_true_eq, h.abs_sub_self, Rat.zero_mul, h.zero, Std.min_self]
    exact h.nonneg _ (Rat.mul_nonneg hp Rat.abs_nonneg)

/-- Accepted iff 100 times the rounded distance of the converted durations is at most p times the smaller converted
magnitude, or both sides round to the same number; on durations float64 represents exactly (all |d| ≤ 2^52 ns) that is
`C16_durationP`'s band, or the two products round to the same float. -/
theorem C16_durationP_rounded_band (rnd : Rat → Rat) (h : Rounding rnd) (p : Rat) (xd yd : Int) :
    (durWithinPR rnd p xd yd = true ↔
      ((rnd (rnd xd - rnd yd)).abs * 100 ≤ p * min (rnd xd).abs (rnd yd).abs ∨
       rnd ((rnd (rnd xd - rnd yd)).abs * 100) = rnd (p * min (rnd xd).abs (rnd yd).abs))) ∧
    (rnd xd = xd → rnd yd = yd → rnd ((xd : Rat) - (yd : Rat)) = (xd : Rat) - (yd : Rat) →
      (durWithinPR rnd p xd yd = true ↔
        (((xd : Rat) - (yd : Rat)).abs * 100 ≤ p * minAbs xd yd ∨
         rnd (((xd : Rat) - (yd : Rat)).abs * 100) = rnd (p * minAbs xd yd)))) := by
  have hiff : durWithinPR rnd p xd yd = true ↔
      ((rnd (rnd xd - rnd yd)).abs * 100 ≤ p * min (rnd xd).abs (rnd yd).abs ∨
       rnd ((rnd (rnd xd - rnd yd)).abs * 100) = rnd (p * min (rnd xd).abs (rnd yd).abs)) := by
    rw [durWithinPR_def, decide_eq_true_eq]
    exact h.le_iff _ _
  refine ⟨hiff, ?_⟩
  intro hx hy hd
  rw [hiff, hx, hy, hd, minAbs_eq_min]

/-- The band of `DurationValueWithinP` in binary64 itself, on durations float64 represents exactly. -/
theorem C16_durationP_binary64 (p : Rat) (xd yd : Int)
    (hx : rne64 xd = xd) (hy : rne64 yd = yd) (hd : rne64 ((xd : Rat) - (yd : Rat)) = (xd : Rat) - (yd : Rat)) :
    durWithinPR rne64 p xd yd = true ↔
      (((xd : Rat) - (yd : Rat)).abs * 100 ≤ p * minAbs xd yd ∨
       rne64 (((xd : Rat) - (yd : Rat)).abs * 100) = rne64 (p * minAbs xd yd)) :=
  (C16_durationP_rounded_band rne64 rne64_rounding p xd yd).2 hx hy hd

/-- The exactness hypotheses are satisfiable (and fail beyond 2^53: that is where the conversions round). -/
example : rne64 ((4503599627370496 : Int) : Rat) = ((4503599627370496 : Int) : Rat) ∧
    rne64 ((9007199254740993 : Int) : Rat) ≠ ((9007199254740993 : Int) : Rat) := by
  decide +kernel

/-- With exact arithmetic (`rnd = id`) the rounded comparer is the one of `C16_durationP`. -/
theorem C16_durationP_rounded_exact (p : Rat) (z : Bool) (xd yd : Int) :
    durWithinPR id p xd yd = durWithinPD (.fin p z) xd yd := by
  rw [Bool.eq_iff_iff, durWithinPD_iff]
  rw [minAbs_eq_min]
  simp only [durWithinPR_def, id, decide_eq_true_eq]

/-! `rne64` is the function the driver runs and the tie compares with the hardware on every run.  It is proved monotone and
sign-symmetric (`rne64_rounding`), so the theorems above hold of it outright. -/

/-- The margin is a binary64 number: a value of `rne64`, which is idempotent (`rne64_idem`). -/
theorem C16_float_approx_binary64 (fr mg x y : Rat) (hmg : ∃ m, mg = rne64 m) :
    floatApproxR rne64 fr mg x y = true ↔
      ((x - y).abs ≤ max mg (fr * min x.abs y.abs) ∨
       rne64 (x - y).abs = rne64 (max mg (fr * min x.abs y.abs))) := by
  obtain ⟨m, rfl⟩ := hmg
  exact C16_float_approx_rounded rne64 rne64_rounding fr (rne64 m) x y (rne64_idem m)

/-- In binary64 (`rne64`), with no hypothesis left: `FloatValueApprox` and `DurationValueWithinP` are symmetric, and
reflexive for non-negative tolerances, on all int64 durations (beyond 2^53 ns too). -/
theorem C16_tolerance_binary64 (fr mg x y p : Rat) (xd yd : Int) :
    floatApproxR rne64 fr mg x y = floatApproxR rne64 fr mg y x ∧
    ((0 ≤ mg ∨ 0 ≤ fr) → floatApproxR rne64 fr mg x x = true) ∧
    durWithinPR rne64 p xd yd = durWithinPR rne64 p yd xd ∧
    (0 ≤ p → durWithinPR rne64 p xd xd = true) :=
  ⟨C16_float_approx_rounded_symm rne64 rne64_signSymmetric fr mg x y,
   C16_float_approx_rounded_refl rne64 rne64_signSymmetric fr mg x,
   (C16_durationP_rounded rne64 rne64_signSymmetric p xd yd).1,
   (C16_durationP_rounded rne64 rne64_signSymmetric p xd yd).2⟩

/-- The binary64 numbers are the fixed points of `rne64`: 0, 0.5 and 0.1-as-a-float are, 0.1 is not. -/
example : rne64 0 = 0 ∧ rne64 (1 / 2) = 1 / 2 ∧
    rne64 (3602879701896397 / 36028797018963968) = 3602879701896397 / 36028797018963968 ∧
    rne64 (1 / 10) ≠ 1 / 10 := by
  decide +kernel

/-- With overflow (a result whose rounded magnitude exceeds `lim` becomes ±Inf), on all float values, NaN and ±Inf
included, for every fraction and margin. -/
theorem C16_float_value_approx_rounded (rnd : Rat → Rat) (h : SignSymmetric rnd) (lim : Rat) (hlim : 0 ≤ lim)
    (fraction margin fx fy : F) :
    floatValueApproxR rnd lim fraction margin (.sc (.float fx)) (.sc (.float fy)) =
      floatValueApproxR rnd lim fraction margin (.sc (.float fy)) (.sc (.float fx)) ∧
    (∀ fr mg a b, fraction = .fin fr a → margin = .fin mg b → (0 ≤ mg ∨ 0 ≤ fr) →
      floatValueApproxR rnd lim fraction margin (.sc (.float fx)) (.sc (.float fx)) = (true, true)) := by
  refine ⟨floatCmp_symm _ (fun _ _ _ _ => floatApproxFR_symm rnd h.odd lim fraction margin _ _ _ _) fx fy, ?_⟩
  intro fr mg a b hf hm hp
  subst hf hm
  exact floatCmp_refl _ fx fun q z e => e ▸ floatApproxFR_refl rnd h lim hlim fr mg q a b z hp

/-- Without overflow the finite branch is `floatApproxR`, the function the "accepts exactly" theorem is about. -/
theorem C16_float_approx_rounded_no_overflow (rnd : Rat → Rat) (lim fr mg x y : Rat) (a b c d : Bool)
    (h1 : (rnd (x - y)).abs ≤ lim) (h2 : (rnd (fr * min x.abs y.abs)).abs ≤ lim) :
    floatValueApproxR rnd lim (.fin fr a) (.fin mg b) (.sc (.float (.fin x c))) (.sc (.float (.fin y d))) =
      (floatApproxR rnd fr mg x y, true) := by
  rw [floatValueApproxR_eq, floatCmp_fin, floatApproxFR_fin rnd lim fr mg x y a b c d h1 h2]

/-- Binary64 with overflow beyond `maxFloat64`: the comparer is symmetric on all float64 values and reflexive for finite
tolerances with a non-negative margin or fraction. -/
theorem C16_float_value_approx_binary64 (fraction margin fx fy : F) :
    floatValueApproxR rne64 maxFloat64 fraction margin (.sc (.float fx)) (.sc (.float fy)) =
      floatValueApproxR rne64 maxFloat64 fraction margin (.sc (.float fy)) (.sc (.float fx)) ∧
    (∀ fr mg a b, fraction = .fin fr a → margin = .fin mg b → (0 ≤ mg ∨ 0 ≤ fr) →
      floatValueApproxR rne64 maxFloat64 fraction margin (.sc (.float fx)) (.sc (.float fx)) = (true, true)) :=
  C16_float_value_approx_rounded rne64 rne64_signSymmetric maxFloat64 (by decide +kernel) fraction margin fx fy

/-- Overflow is reachable and modelled: the largest float and its negation are an infinite float64 distance apart,
within no finite margin — and within a fraction whose product overflows too (`+Inf <= +Inf`). -/
example :
    floatValueApproxR rne64 maxFloat64 (.fin 0 false) (.fin maxFloat64 false)
      (.sc (.float (.fin maxFloat64 false))) (.sc (.float (.fin (-maxFloat64) false))) = (false, true) ∧
    floatValueApproxR rne64 maxFloat64 (.fin 4 false) (.fin 0 false)
      (.sc (.float (.fin maxFloat64 false))) (.sc (.float (.fin (-maxFloat64) false))) = (true, true) := by
  decide +kernel

/-- The rounded comparers claim values of their own kind only. -/
theorem C16_own_kind_only_rounded (rnd : Rat → Rat) (lim : Rat) (fr mg p : F) (x y : Val) :
    ((∀ fx, x ≠ .sc (.float fx)) → (floatValueApproxR rnd lim fr mg x y).2 = false) ∧
    (x.typeName ≠ durName → y.typeName ≠ durName → (durationValueWithinPR rnd p x y).2 = false) ∧
    (∀ q z fx fy ux uy, durationValueWithinPR rnd (.fin q z) (.msg durName true fx ux) (.msg durName true fy uy) =
      (durWithinPR rnd q (toDurationNs fx) (toDurationNs fy), true)) :=
  ⟨floatCmp_other _ x y, durationValueWithinPR_eq rnd p ▸ typedCmp_other _ _ _ x y,
   fun q z fx fy ux uy => by rw [durationValueWithinPR_eq, typedCmp_valid]⟩

/-- The hypotheses are satisfiable, by the exact arithmetic and by a rounding that is exact nowhere but at 0. -/
example : Rounding id ∧ Rounding (fun _ => 0) ∧ Rounding rne64 :=
  ⟨rounding_id, rounding_zero, rne64_rounding⟩

/-- The second disjunct of `C16_float_approx_rounded` is real: with fraction 0.1 (as a float), x = 232 and
y = 210.9090909090909 are beyond the exact tolerance 0.1·y by less than one rounding step and are accepted, because the
product 0.1·y rounds up to the distance; in exact arithmetic the pair is rejected. -/
example :
    let fr : Rat := 3602879701896397 / 36028797018963968   -- 0.1 as a float
    let x : Rat := 232
    let y : Rat := 7420703931462749 / 35184372088832        -- 210.9090909090909
    floatApproxR rne64 fr 0 x y = true ∧ ¬ ((x - y).abs ≤ max 0 (fr * min x.abs y.abs)) ∧
    floatApproxR id fr 0 x y = false := by
  decide +kernel

end ScVerif.C16
