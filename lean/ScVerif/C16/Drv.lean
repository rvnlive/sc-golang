import ScVerif.Base.Line
import ScVerif.C16.Tolerance
import ScVerif.C16.Pull
import ScVerif.C16.Merge
import ScVerif.C16.Free
import ScVerif.C16.UnknownRaw
import ScVerif.C16.FloatIEEE
import ScVerif.C16.RoundedF
import ScVerif.C16.Update
import ScVerif.C16.Shared
/-!
Driver handler for C16.  Parsing/printing glue only (trusted base of the correspondence check).

Tree token (no spaces, atoms separated by `,`, prefix notation):
```
val   ::= b0 | b1 | e<int> | i<int> | u<nat> | f<F> | s<hex> | y<hex>
        | M<0|1>,<type>,<nfields>,field*,X<hex of the raw unknown bytes>
field ::= S<num>:<name>,val | L<num>:<name>,<n>,val* | P<num>:<name>,<n>,(val,val)*
F     ::= n | pi | mi | nz | <int>/<k>            (int / 2^k)
top   ::= nil | val
```
Comparer tokens:
```
atom  ::= fa_<F>_<F> | tw_<int> | dw_<int> | dp_<F>
vspec ::= atom | VA(atom+...) | VO(atom+...)
mspec ::= E[vspec;...] | MA{E[..]|E[..]...} | MO{...} | none
inc   ::= any | gt:<num>:<F> | lt:<num>:<F> | ge:<num>:<F>
```
-/
namespace ScVerif.C16
open ScVerif.Line

def parseF? (s : String) : Option F :=
  if s = "n" then some .nan
  else if s = "pi" then some (.inf false)
  else if s = "mi" then some (.inf true)
  else if s = "nz" then some (.fin 0 true)
  else match s.splitOn "/" with
    | [a, k] => do
      let n ← parseInt? a
      let e ← parseNat? k
      pure (.fin ((n : Rat) / ((2 ^ e : Nat) : Rat)) false)
    | _ => none

def parseScalar? (a : String) : Option Scalar :=
  let body := (a.drop 1).toString
  match a.front with
  | 'b' => if body = "0" then some (.bool false) else if body = "1" then some (.bool true) else none
  | 'e' => (parseInt? body).map .enum
  | 'i' => (parseInt? body).map .int
  | 'u' => (parseNat? body).map .uint
  | 'f' => (parseF? body).map .float
  | 's' => some (.str body)
  | 'y' => some (.bytes body)
  | _ => none

def parseFD? (s : String) : Option FD :=
  match s.splitOn ":" with
  | [a, b] => (parseNat? a).map (fun n => ⟨n, b⟩)
  | _ => none

def hexDigit? (c : Char) : Option Nat :=
  if '0' ≤ c ∧ c ≤ '9' then some (c.toNat - '0'.toNat)
  else if 'a' ≤ c ∧ c ≤ 'f' then some (c.toNat - 'a'.toNat + 10)
  else none

def parseHex? : List Char → Option Bytes
  | [] => some []
  | a :: b :: rest => do
    let h ← hexDigit? a
    let l ← hexDigit? b
    let more ← parseHex? rest
    pure (UInt8.ofNat (16 * h + l) :: more)
  | _ => none

/-- The unknown fields of a message: `X<hex>`, the RAW bytes; the records are cut here, by the model of
`protowire.ConsumeField` (bytes that do not parse are outside the model: the request is refused). -/
def parseUnk? (s : String) : Option Unk :=
  if s.front = 'X' then do
    let b ← parseHex? ((s.drop 1).toString.toList)
    wireRecords b
  else none

mutual
  partial def parseVal (atoms : List String) : Option (Val × List String) :=
    match atoms with
    | [] => none
    | a :: rest =>
      if a = "M0" || a = "M1" then
        match rest with
        | ty :: n :: rest => do
          let n ← parseNat? n
          let (fs, rest) ← parseFields n rest
          match rest with
          | u :: rest => do
            let us ← parseUnk? u
            pure (.msg ty (a = "M1") (Fields.ofList fs) us, rest)
          | [] => none
        | _ => none
      else (parseScalar? a).map (fun s => (.sc s, rest))
  partial def parseFields (n : Nat) (atoms : List String) : Option (List (FD × FVal) × List String) :=
    if n = 0 then some ([], atoms) else
    match atoms with
    | [] => none
    | a :: rest => do
      let fd ← parseFD? ((a.drop 1).toString)
      let (fv, rest) ← (match a.front with
        | 'S' => do
          let (v, rest) ← parseVal rest
          pure (FVal.one v, rest)
        | 'L' => (match rest with
          | k :: rest => do
            let k ← parseNat? k
            let (vs, rest) ← parseVals k rest
            pure (FVal.list (Vals.ofList vs), rest)
          | [] => none)
        | 'P' => (match rest with
          | k :: rest => do
            let k ← parseNat? k
            let (es, rest) ← parseEntries k rest
            pure (FVal.map (Entries.ofList es), rest)
          | [] => none)
        | _ => none)
      let (more, rest) ← parseFields (n - 1) rest
      pure ((fd, fv) :: more, rest)
  partial def parseVals (n : Nat) (atoms : List String) : Option (List Val × List String) :=
    if n = 0 then some ([], atoms) else do
      let (v, rest) ← parseVal atoms
      let (more, rest) ← parseVals (n - 1) rest
      pure (v :: more, rest)
  partial def parseEntries (n : Nat) (atoms : List String) : Option (List (Scalar × Val) × List String) :=
    if n = 0 then some ([], atoms) else do
      let (k, rest) ← parseVal atoms
      let key ← (match k with | .sc s => some s | _ => none)
      let (v, rest) ← parseVal rest
      let (more, rest) ← parseEntries (n - 1) rest
      pure ((key, v) :: more, rest)
end

def parseTree? (s : String) : Option Val :=
  match parseVal (s.splitOn ",") with
  | some (v, []) => some v
  | _ => none

def parseTop? (s : String) : Option Top :=
  if s = "nil" then some none else (parseTree? s).map some

def parseAtom? (s : String) : Option VCmp :=
  match s.splitOn "_" with
  | ["fa", a, b] => do
    let fr ← parseF? a
    let mg ← parseF? b
    pure (floatValueApprox fr mg)
  | ["tw", d] => (parseInt? d).map timeValueWithin
  | ["dw", d] => (parseInt? d).map durationValueWithin
  | ["dp", p] => (parseF? p).map durationValueWithinP
  | _ => none

def splitNonEmpty (s : String) (sep : String) : List String :=
  if s = "" then [] else s.splitOn sep

def inner (s : String) (pre : Nat) : String := ((s.drop pre).dropEnd 1).toString

def parseVSpec? (s : String) : Option VCmp :=
  if s.startsWith "VA(" && s.endsWith ")" then
    ((splitNonEmpty (inner s 3) "+").mapM parseAtom?).map valueAnd
  else if s.startsWith "VO(" && s.endsWith ")" then
    ((splitNonEmpty (inner s 3) "+").mapM parseAtom?).map valueOr
  else parseAtom? s

def parseE? (s : String) : Option MCmp :=
  if s.startsWith "E[" && s.endsWith "]" then
    ((splitNonEmpty (inner s 2) ";").mapM parseVSpec?).map equal
  else none

def parseMSpec? (s : String) : Option MCmp :=
  if s.startsWith "MA{" && s.endsWith "}" then
    ((splitNonEmpty (inner s 3) "|").mapM parseE?).map mAnd
  else if s.startsWith "MO{" && s.endsWith "}" then
    ((splitNonEmpty (inner s 3) "|").mapM parseE?).map mOr
  else parseE? s

def parseOptMSpec? (s : String) : Option (Option MCmp) :=
  if s = "none" then some none else (parseMSpec? s).map some

/-- Read-mask filter of the closed family used by the tie: `all`, or `k<n1>.<n2>...` keeping only the
top-level fields with these numbers (unknown fields are kept: fmutils.Filter does not touch them). -/
def keepTop (nums : List Nat) : Val → Val
  | .msg ty v fs u => .msg ty v (Fields.ofList (fs.toList.filter (fun p => nums.contains p.1.num))) u
  | x => x

def parseFilter? (s : String) : Option (Val → Val) :=
  if s = "all" then some id
  else if s.startsWith "k" then
    ((splitNonEmpty ((s.drop 1).toString) ".").mapM parseNat?).map keepTop
  else none

/-- The float field `num` of a message (0 when unset). -/
def floatField (num : Nat) : Val → F
  | .msg _ _ fs _ =>
    match fs.toList.find? (fun p => p.1.num == num) with
    | some (_, .one (.sc (.float f))) => f
    | _ => .fin 0 false
  | _ => .fin 0 false

/-- Include predicates of the closed family used by the tie: `any` (no include filter), or
`gt:<num>:<F>` / `lt:<num>:<F>` / `ge:<num>:<F>`: the float field `num` (0 when unset) compared with a threshold. -/
def parseInc? (s : String) : Option (Option (Val → Bool)) :=
  if s = "any" then some none
  else match s.splitOn ":" with
    | [op, n, t] => do
      let num ← parseNat? n
      let thr ← parseF? t
      if op = "gt" then pure (some (fun v => F.lt thr (floatField num v)))
      else if op = "lt" then pure (some (fun v => F.lt (floatField num v) thr))
      else if op = "ge" then pure (some (fun v => F.le thr (floatField num v)))
      else none
    | _ => none

def showDec : Option CDecision → String
  | none => "0"
  | some d => if d.delivered then "1" else "0"

def showBits (bs : List Bool) : String := String.join (bs.map (fun b => if b then "1" else "0"))

def pairUp : List Top → Option (List CEvent)
  | [] => some []
  | a :: b :: rest => (pairUp rest).map (fun r => ⟨a, b⟩ :: r)
  | _ => none

/-! `cmerge <mspec> <filter> <inc> (<id> <A|U|R> <old> <new>)*`: one parked window of a lossy `Collection.Pull`.
Values are tagged with their position in the request (old of event k: 2k, new: 2k+1) so that the answer
names WHICH values the delivered change carries: `q=<id>:<TYPE>:<old pos|->:<new pos|->,...`. -/
def parseCT? (s : String) : Option CT :=
  if s = "A" then some .add else if s = "U" then some .update else if s = "R" then some .remove else none

def showCT : CT → String
  | .unspecified => "UNSPECIFIED" | .add => "ADD" | .update => "UPDATE" | .remove => "REMOVE" | .replace => "REPLACE"

def parseChgs (k : Nat) : List String → Option (List (Chg (Val × Nat)))
  | [] => some []
  | id :: ct :: o :: n :: rest => do
    let ct ← parseCT? ct
    let o ← parseTop? o
    let n ← parseTop? n
    let more ← parseChgs (k + 1) rest
    pure (⟨id, ct, o.map (fun v => (v, 2 * k)), n.map (fun v => (v, 2 * k + 1))⟩ :: more)
  | _ => none

def showPos : Option (Val × Nat) → String
  | some (_, k) => toString k
  | none => "-"

def showChg (c : Chg (Val × Nat)) : String :=
  c.id ++ ":" ++ showCT c.ct ++ ":" ++ showPos c.old ++ ":" ++ showPos c.new

/-! Free-running schedules (`Free.lean`).
`drop (t | r<nat>)*`: `minibus.DropExcess` on labelled messages: `o=<labels handed over> p=<label held|->`.
`vfree <mspec> <filter> <cur> (t | <val>)*`: `Value.Pull` behind `DropExcess`: the writes are numbered 0..;
`h=<numbers of the writes handed to the loop> d=<delivered bits, seed first> p=<number still held|->`.
`cfree <mspec> <filter> <inc> (t | <id> <A|U|R> <old> <new>)*`: `Collection.Pull` behind
`mergeCollectionExcess`: values tagged like `cmerge`; `m=<changes handed to the loop> q=<queue left>
d=<changes the subscriber receives>`. -/
def parseDropActs : List String → Option (List (Act Nat))
  | [] => some []
  | tok :: rest => do
    let more ← parseDropActs rest
    if tok = "t" then pure (.take :: more)
    else if tok.front = 'r' then do
      let n ← parseNat? (tok.drop 1).toString
      pure (.recv n :: more)
    else none

def parseValActs (k : Nat) : List String → Option (List (Act (Val × Nat)))
  | [] => some []
  | tok :: rest =>
    if tok = "t" then (parseValActs k rest).map (fun more => .take :: more)
    else do
      let v ← parseTree? tok
      let more ← parseValActs (k + 1) rest
      pure (.recv (v, k) :: more)

def parseChgActs (k : Nat) : List String → Option (List (Act (Chg (Val × Nat))))
  | [] => some []
  | "t" :: rest => (parseChgActs k rest).map (fun more => .take :: more)
  | id :: ct :: o :: n :: rest => do
    let ct ← parseCT? ct
    let o ← parseTop? o
    let n ← parseTop? n
    let more ← parseChgActs (k + 1) rest
    pure (.recv ⟨id, ct, o.map (fun v => (v, 2 * k)), n.map (fun v => (v, 2 * k + 1))⟩ :: more)
  | _ => none

def showOptNat : Option Nat → String
  | some n => toString n
  | none => "-"

def handle? (toks : List String) : Option String :=
  match toks with
  | ["cmp", m, x, y] => do
    let e ← parseMSpec? m
    let x ← parseTop? x
    let y ← parseTop? y
    pure (showBool (e x y))
  | ["vcmp", v, x, y] => do
    let c ← parseVSpec? v
    let x ← parseTree? x
    let y ← parseTree? y
    let r := c x y
    pure (showBool r.1 ++ "," ++ showBool r.2)
  | "vpull" :: m :: f :: cur :: evs => do
    let e ← parseOptMSpec? m
    let flt ← parseFilter? f
    let cur ← parseTop? cur
    let evs ← evs.mapM parseTree?
    pure ("d=" ++ showBits ((valuePull e flt cur evs).map (·.delivered)))
  | "cpull" :: m :: f :: i :: evs => do
    let e ← parseOptMSpec? m
    let flt ← parseFilter? f
    let inc ← parseInc? i
    let tops ← evs.mapM parseTop?
    let ces ← pairUp tops
    pure ("d=" ++ String.join ((collPullLoopI e flt inc ces).map showDec))
  | "cshared" :: m :: f :: i :: ns :: evs => do
    -- `cshared <mspec> <filter> <inc> <inc1|inc2|...> (<old> <new>)*`: the observed subscriber (number 0) next to
    -- neighbours 1..n with include predicates of their own; per event the neighbours finish first, then 0 moves
    let e ← parseOptMSpec? m
    let flt ← parseFilter? f
    let inc ← parseInc? i
    let nincs ← (ns.splitOn "|").mapM parseInc?
    let tops ← evs.mapM parseTop?
    let ces ← pairUp tops
    let cfg : Nat → SubCfg := fun k =>
      if k = 0 then ⟨if f = "all" then none else some flt, inc⟩
      else ⟨none, (nincs.getD (k - 1) none)⟩
    let sched : List Nat :=
      ((List.range nincs.length).flatMap (fun k => [k + 1, k + 1, k + 1])) ++ [0, 0, 0]
    let dec (ev : CEvent) : String :=
      match (sysRun includeFresh e cfg (SharedSys.init ev) sched).pc 0 with
      | .done d => showDec d
      | _ => "?"
    pure ("d=" ++ String.join (ces.map dec))
  | ["wire", h] => do
    let b ← parseHex? h.toList
    match wireRecords b with
    | some rs => pure ("r=" ++ ",".intercalate (rs.map (fun r => toString r.1 ++ ":" ++ toString r.2.length)))
    | none => pure "malformed"
  | ["wire"] => pure "r="
  | ["unk", hx, hy] => do
    let x ← parseHex? hx.toList
    let y ← parseHex? hy.toList
    match eqUnknownRaw x y with
    | some r => pure (showBool r)
    | none => pure "malformed"
  | "cmerge" :: m :: f :: i :: evs => do
    let e ← parseOptMSpec? m
    let flt ← parseFilter? f
    let inc ← parseInc? i
    let chgs ← parseChgs 0 evs
    let e' : Option (Option (Val × Nat) → Option (Val × Nat) → Bool) :=
      e.map (fun e a b => e (a.map Prod.fst) (b.map Prod.fst))
    let inc' : Option (Val × Nat → Bool) := inc.map (fun f p => f p.1)
    pure ("q=" ++ ",".intercalate ((lossyWindow e' (fun p => (flt p.1, p.2)) inc' chgs).map showChg))
  | "drop" :: acts => do
    let acts ← parseDropActs acts
    let r := dropRun none acts
    pure ("o=" ++ ",".intercalate (r.1.map toString) ++ " p=" ++ showOptNat r.2)
  | "vfree" :: m :: f :: cur :: acts => do
    let e ← parseOptMSpec? m
    let flt ← parseFilter? f
    let cur ← parseTop? cur
    let acts ← parseValActs 0 acts
    let r := dropRun none acts
    pure ("h=" ++ ",".intercalate (r.1.map (fun p => toString p.2)) ++
      " d=" ++ showBits ((valuePull e flt cur (r.1.map Prod.fst)).map (·.delivered)) ++
      " p=" ++ showOptNat (r.2.map Prod.snd))
  | "cfree" :: m :: f :: i :: acts => do
    let e ← parseOptMSpec? m
    let flt ← parseFilter? f
    let inc ← parseInc? i
    let acts ← parseChgActs 0 acts
    let e' : Option (Option (Val × Nat) → Option (Val × Nat) → Bool) :=
      e.map (fun e a b => e (a.map Prod.fst) (b.map Prod.fst))
    let inc' : Option (Val × Nat → Bool) := inc.map (fun f p => f p.1)
    let r := mergerRun [] acts
    pure ("m=" ++ ",".intercalate (r.1.map showChg) ++ " q=" ++ ",".intercalate (r.2.map showChg) ++
      " d=" ++ ",".intercalate ((freeDeliveries e' (fun p => (flt p.1, p.2)) inc' acts).map showChg))
  | _ => none

/-- Finite rational of an `F` token. -/
def parseFin? (s : String) : Option Rat :=
  match parseF? s with
  | some (.fin q _) => some q
  | _ => none

def showRat (q : Rat) : String := toString q.num ++ "/" ++ toString q.den

/-- The rounded tier (Rounded.lean): the comparers' arithmetic over exact rationals with `rne64` applied where
binary64 rounds; `far` is the whole comparer on any float values, overflow to ±Inf included (RoundedF.lean). -/
def handleR? (toks : List String) : Option String :=
  match toks with
  | ["far", fr, mg, x, y] => do
    let fr ← parseF? fr
    let mg ← parseF? mg
    let x ← parseF? x
    let y ← parseF? y
    pure (showBool (floatValueApproxR rne64 maxFloat64 fr mg (.sc (.float x)) (.sc (.float y))).1)
  | ["dpr", p, x, y] => do
    let p ← parseFin? p
    let x ← parseInt? x
    let y ← parseInt? y
    pure (showBool (durWithinPR rne64 p x y))
  | ["rne", n, d] => do
    let n ← parseInt? n
    let d ← parseNat? d
    if d = 0 then none
    else
      let r := rne64 ((n : Rat) / (d : Rat))
      if maxFloat64 < r.abs then pure "overflow" else pure (showRat r)
  | _ => none

/-- `Collection.Update`'s announcement (Update.lean): `cupd <createIfAbsent> <expectAbsent> <first> <again> <new>`,
messages as small numbers (0 = the empty message), `-` = nothing stored; the change function is the constant
`new` (the value the real write returned). -/
def handleU? (toks : List String) : Option String :=
  let parseOpt? (s : String) : Option (Option Nat) := if s == "-" then some none else (parseNat? s).map some
  let parseB? (s : String) : Option Bool := if s == "1" then some true else if s == "0" then some false else none
  let showOpt (o : Option Nat) : String := match o with | some n => toString n | none => "-"
  match toks with
  | ["cupd", ci, ea, first, again, new] => do
    let ci ← parseB? ci
    let ea ← parseB? ea
    let first ← parseOpt? first
    let again ← parseOpt? again
    let new ← parseNat? new
    match collUpdate ⟨ci, ea⟩ 0 first again (fun _ => new) with
    | .error .notFound => pure "err:NotFound"
    | .error .alreadyExists => pure "err:AlreadyExists"
    | .error .aborted => pure "err:Aborted"
    | .ok a => pure ((match a.type with | .add => "ADD" | .update => "UPDATE") ++ " " ++ showOpt a.old ++ " " ++ toString a.new)
  | _ => none

def handle (toks : List String) : String :=
  match handle? toks with
  | some r => r
  | none =>
    match IEEE.handle? toks with
    | some r => r
    | none =>
      match handleR? toks with
      | some r => r
      | none =>
        match handleU? toks with
        | some r => r
        | none => "!bad-op"

end ScVerif.C16
