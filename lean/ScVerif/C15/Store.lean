import ScVerif.C15.Spec
import ScVerif.Base.InsertSort
/-!
C15 — the collection layer below the key-token listers (`pkg/resource/collection.go` as the six models use it).

`Collection` keeps its items in a Go map `byId` (no order, no duplicate ids); `Collection.List` copies the map
into a slice and `sort.Slice`s it by id.  The creation / update / deletion APIs of the models decide which ids
can ever be in the map:

* `Collection.Add(id, …, WithGenIDIfAbsent())` (electric `CreateMode`/`AddMode`, hail `CreateHail`, publication
  `CreatePublication`, vending `CreateConsumable` / `CreateStock`): an empty id is replaced by
  `GenerateUniqueId` (up to 10 random candidates; the first one that is non-empty and not yet used, else
  `Aborted`); an id that is already used answers `AlreadyExists` and changes nothing;
* parent `AddChild` (`validateChild` refuses an empty name before the collection is touched; a duplicate changes
  nothing) and `AddChildTrait` (`Update(name, …, WithCreateIfAbsent())`; an empty name is refused);
* `Update*` of an existing id never changes the set of ids (the record stays stored under, and keeps, its id);
* `Delete*` removes the id.

Here the store is the list of the map's ids in insertion order (a map has no order: `listing` sorts), the
operations are `StoreOp`, and `Store.run []` is everything they can produce from the empty collection.
-/
namespace ScVerif.C15

def insertKey (k : String) : List String → List String
  | [] => [k]
  | x :: xs => if k < x then k :: x :: xs else x :: insertKey k xs

/-- `sort.Slice(tmp, func(i, j) bool { return tmp[i].id < tmp[j].id })` on distinct ids.  Any correct sorting
algorithm returns this list (`sorted_ext`): a strictly ascending permutation is unique. -/
def sortKeys : List String → List String
  | [] => []
  | x :: xs => insertKey x (sortKeys xs)

theorem sortKeys_isSort : IsInsertSort id insertKey sortKeys := ⟨fun _ => rfl, fun _ _ _ => rfl, rfl, fun _ _ => rfl⟩

theorem sortKeys_perm (l : List String) : (sortKeys l).Perm l := sortKeys_isSort.perm l

theorem mem_sortKeys {a : String} {l : List String} : a ∈ sortKeys l ↔ a ∈ l := (sortKeys_perm l).mem_iff

theorem length_sortKeys (l : List String) : (sortKeys l).length = l.length := (sortKeys_perm l).length_eq

theorem sorted_sortKeys {l : List String} (h : l.Nodup) : Sorted (sortKeys l) := by
  have := sortKeys_isSort.sorted (l := l) (by rwa [List.map_id])
  rwa [List.map_id] at this

theorem sorted_ext {l₁ l₂ : List String} (h1 : Sorted l₁) (h2 : Sorted l₂) (h : ∀ a, a ∈ l₁ ↔ a ∈ l₂) : l₁ = l₂ :=
  ((List.perm_ext_iff_of_nodup (sorted_nodup h1) (sorted_nodup h2)).mpr h).eq_of_pairwise
    (fun _ _ _ _ hab hba => absurd (Std.lt_trans hab hba) Std.lt_irrefl) h1 h2

/-- The ids of `byId`, most recently created first. -/
abbrev Store := List String

/-- What `Collection.List` hands to the paging code (as keys). -/
def listing (s : Store) : List String := sortKeys s

/-- `GenerateUniqueId`: `tries` more candidates `cand i, cand (i+1), …`; the first that is non-empty and unused. -/
def genId (cand : Nat → String) (used : String → Bool) : Nat → Nat → Option String
  | 0, _ => none
  | tries + 1, i =>
    if cand i ≠ "" ∧ used (cand i) = false then some (cand i) else genId cand used tries (i + 1)

inductive StoreOp where
  /-- `Collection.Add(id, …, WithGenIDIfAbsent())`; `cand` are the random candidates of the id generator -/
  | add (id : String) (cand : Nat → String)
  /-- parent `AddChild` / `AddChildTrait`: the name is required; an existing child keeps the id set as it is -/
  | ensure (name : String)
  /-- `Update*` without create-if-absent -/
  | update (id : String)
  | delete (id : String)

inductive StoreRes where
  | ok (id : String)
  | alreadyExists
  | notFound
  | aborted      -- id generation attempts exhausted
  | rejected     -- the empty name is refused before the collection is touched
  deriving DecidableEq, Repr

def Store.step (s : Store) : StoreOp → Store × StoreRes
  | .add id cand =>
    match (if id = "" then genId cand (fun c => decide (c ∈ s)) 10 0 else some id) with
    | none => (s, .aborted)
    | some id' => if id' ∈ s then (s, .alreadyExists) else (id' :: s, .ok id')
  | .ensure name =>
    if name = "" then (s, .rejected)
    else if name ∈ s then (s, .ok name) else (name :: s, .ok name)
  | .update id => if id ∈ s then (s, .ok id) else (s, .notFound)
  | .delete id => if id ∈ s then (s.erase id, .ok id) else (s, .notFound)

def Store.run (s : Store) : List StoreOp → Store
  | [] => s
  | op :: ops => Store.run (s.step op).1 ops

/-- Invariant of the collection: a map has no duplicate ids, and no API stores an empty id.  (The form `RStore.Inv`
is stated with; the proofs carry `Store.Good`, which adds which ids are there.) -/
def Store.Inv (s : Store) : Prop := s.Nodup ∧ "" ∉ s

theorem genId_spec (cand : Nat → String) (used : String → Bool) :
    ∀ tries i id, genId cand used tries i = some id → id ≠ "" ∧ used id = false := by
  intro tries
  induction tries with
  | zero => intro i id h; simp [genId] at h
  | succ t ih =>
    intro i id h
    unfold genId at h
    split at h
    · rename_i hc
      cases h
      exact hc
    · exact ih _ _ h

/-- Spec: the collection as a set (characteristic function), independent of lists and sorting. -/
abbrev IdSet := String → Bool

def IdSet.step (f : IdSet) : StoreOp → IdSet
  | .add id cand =>
    match (if id = "" then genId cand f 10 0 else some id) with
    | none => f
    | some id' => fun x => decide (x = id') || f x
  | .ensure name => if name = "" then f else fun x => decide (x = name) || f x
  | .update _ => f
  | .delete id => fun x => !decide (x = id) && f x

def IdSet.run (f : IdSet) : List StoreOp → IdSet
  | [] => f
  | op :: ops => IdSet.run (f.step op) ops

/-- The store holds exactly the ids of the set `f`, each once (a map has no duplicate ids), and not the empty id (no API
stores it). -/
structure Store.Good (s : Store) (f : IdSet) : Prop where
  nodup : s.Nodup
  noEmpty : "" ∉ s
  mem : ∀ x, x ∈ s ↔ f x = true

theorem genId_congr (cand : Nat → String) {u₁ u₂ : String → Bool} (h : ∀ x, u₁ x = u₂ x) :
    ∀ tries i, genId cand u₁ tries i = genId cand u₂ tries i := by
  intro tries
  induction tries with
  | zero => intro i; rfl
  | succ t ih => intro i; simp only [genId, h, ih]

theorem Store.Good.insert_mem {s : Store} {f : IdSet} (h : s.Good f) {id : String} (hm : id ∈ s) :
    s.Good (fun x => decide (x = id) || f x) := by
  refine ⟨h.nodup, h.noEmpty, fun x => ?_⟩
  by_cases hx : x = id
  · subst hx; simp [hm]
  · simp [hx, h.mem x]

theorem Store.Good.insert_new {s : Store} {f : IdSet} (h : s.Good f) {id : String} (hid : id ≠ "") (hm : id ∉ s) :
    Store.Good (id :: s) (fun x => decide (x = id) || f x) :=
  ⟨List.nodup_cons.mpr ⟨hm, h.nodup⟩, fun hmem => (List.mem_cons.mp hmem).elim (fun e => hid e.symm) h.noEmpty,
    fun x => by simp [List.mem_cons, h.mem x]⟩

theorem Store.step_good (s : Store) (f : IdSet) (op : StoreOp) (h : s.Good f) : (s.step op).1.Good (f.step op) := by
  have hu : ∀ x, (fun c => decide (c ∈ s)) x = f x := fun x => by
    rw [Bool.eq_iff_iff, decide_eq_true_eq]; exact h.mem x
  cases op with
  | add id cand =>
    simp only [Store.step, IdSet.step]
    rw [genId_congr cand hu]
    split
    · exact h
    · rename_i id' hid
      split
      · rename_i hm; exact h.insert_mem hm
      · rename_i hm
        refine h.insert_new ?_ hm
        split at hid
        · exact (genId_spec _ _ _ _ _ hid).1
        · cases hid; assumption
  | ensure name =>
    simp only [Store.step, IdSet.step]
    split
    · exact h
    · rename_i hn
      split
      · rename_i hm; exact h.insert_mem hm
      · rename_i hm; exact h.insert_new hn hm
  | update id =>
    simp only [Store.step, IdSet.step]
    split <;> exact h
  | delete id =>
    simp only [Store.step, IdSet.step]
    split
    · refine ⟨h.nodup.erase _, fun hm => h.noEmpty (List.mem_of_mem_erase hm), fun x => ?_⟩
      rw [h.nodup.mem_erase_iff]
      by_cases hx : x = id
      · simp [hx]
      · simp [hx, h.mem x]
    · rename_i hm
      refine ⟨h.nodup, h.noEmpty, fun x => ?_⟩
      by_cases hx : x = id
      · subst hx
        simp [hm]
      · simp [hx, h.mem x]

theorem Store.run_good : ∀ (ops : List StoreOp) (s : Store) (f : IdSet), s.Good f → (s.run ops).Good (f.run ops) := by
  intro ops
  induction ops with
  | nil => intro s f h; exact h
  | cons op ops ih => intro s f h; exact ih _ _ (s.step_good f op h)

theorem Store.good_nil : Store.Good [] (fun _ => false) := ⟨List.nodup_nil, by simp, by simp⟩

end ScVerif.C15
