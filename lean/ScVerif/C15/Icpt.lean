import ScVerif.C15.Records
/-!
C15 — collections configured with `resource.WithIDInterceptor(f)`.

`NewModel(resource.WithIDInterceptor(f))` hands the interceptor to every collection of the six key-token models.
`Collection.Update` / `Add` / `Delete` / `Get` map the id they are given through `f` BEFORE it is used as the map key
(`id = c.idInterceptor(id)`), while the stored message keeps the spelling it was written with: a child added as
`Alpha` under `strings.ToLower` lives under the key `alpha` and carries `Name: "Alpha"`.  So

* `Collection.List` (sorted by map KEY) is in general NOT ascending in the key FIELD the List RPCs search and mint
  tokens from (`rlisting`): keys `alpha, beta, delta` carry `Alpha, beta, Delta`;
* parent `ListChildren` has always re-sorted by `Name` before it searches; since 0a40c2f
  ListModes / ListHails / ListPublications / ListConsumables / ListInventory re-sort by their key field too, so all
  six page over `flisting`: the key FIELDS in ascending order.

The operations (`istep f`) follow the same code as `RStore.step`, with the interceptor where the code applies it:

* `Collection.Add(id, msg, WithGenIDIfAbsent(), WithIDCallback(…))`: `id = f(id)`; when the id AS GIVEN is empty
  (929e9c0: decided before the interceptor runs; `istepWith false` is the code before it, which looked at `f(id)`
  only) or `f(id)` is empty an id is generated: `genID` probes `f(candidate)` for existence and returns
  `f(candidate)`, which the callback writes into the message; otherwise the message keeps its own spelling `id` and is
  stored under `f(id)`;
* parent `AddChild` (`ensure`): an existing child (same `f(name)`) is left alone, whatever its spelling;
* `Update*(msg)`, `UpdatePublication(id, msg)`, parent `AddChildTrait(name)` (= a create-if-absent update of
  `{Name: name}`) and `RemoveChildTrait(name)` (= an update): stored under `f(id)`; the key field is always among the
  written fields, so an existing item is RE-SPELLED to `id`;
* `Delete*(id)` removes `f(id)`;
* initial records (`WithInitial…(msg)`, `resource.WithInitialRecord(id, msg)`): since 215ba16 `NewCollection` keeps
  a record under `f(id)` like every other route (before it the record was kept under the id as configured and was
  unreachable by id: `istepWith false`), and two initial records that `f` maps to one id are refused (panic at
  construction, as a repeated id always was).
-/
namespace ScVerif.C15

/-- The key FIELDS of the stored messages in ascending order: what the six List RPCs page over (parent always;
the other five since they sort by the field they search). -/
def flisting (s : RStore) : List String := sortKeys (s.map (·.key))

/-- `Collection.Update(id, msg{key: fld}, …)` under the storage id `sid`; the code answers with the written message,
whose key field is `fld`. -/
def RStore.iwrite (s : RStore) (sid fld : String) (upsert writesKey : Bool) : RStore × StoreRes :=
  let r := s.write sid fld upsert writesKey
  (r.1, match r.2 with | .ok _ => .ok fld | x => x)

def RStore.istepWith (fixed : Bool) (f : String → String) (s : RStore) : RecOp → RStore × StoreRes
  | .add id cand =>
    match (if (fixed = true ∧ id = "") ∨ f id = "" then (genId cand (fun c => decide (f c ∈ s.ids)) 10 0).map (fun c => (f c, f c))
           else some (f id, id)) with
    | none => (s, .aborted)
    | some (sid, fld) => if sid ∈ s.ids then (s, .alreadyExists) else ({ id := sid, key := fld } :: s, .ok fld)
  | .ensure name =>
    if name = "" then (s, .rejected)
    else if f name ∈ s.ids then (s, .ok name) else ({ id := f name, key := name } :: s, .ok name)
  | .updateMsg k upsert mask =>
    if k = "" then (s, .rejected)
    else s.iwrite (f k) k upsert mask.moreKey.writesKey
  | .updateId id msgKey upsert mask =>
    if id = "" then (s, .rejected)
    else s.iwrite (f id) (if msgKey ≠ id then id else msgKey) upsert mask.moreKey.writesKey
  | .delete id allowMissing =>
    if f id ∈ s.ids then (s.filter (fun r => r.id != f id), .ok id)
    else if allowMissing then (s, .ok id) else (s, .notFound)
  | .initial key =>
    let sid := if fixed then f key else key
    if key = "" then (s, .rejected)
    else if sid ∈ s.ids then (s, .alreadyExists) else ({ id := sid, key := key } :: s, .ok key)

/-- `istepWith true`: the code at HEAD (`false` replays the code before 215ba16 / 929e9c0). -/
def RStore.istep (f : String → String) (s : RStore) (op : RecOp) : RStore × StoreRes := s.istepWith true f op

def RStore.irunWith (fixed : Bool) (f : String → String) (s : RStore) : List RecOp → RStore
  | [] => s
  | op :: ops => RStore.irunWith fixed f (s.istepWith fixed f op).1 ops

def RStore.irun (f : String → String) (s : RStore) : List RecOp → RStore
  | [] => s
  | op :: ops => RStore.irun f (s.istep f op).1 ops

/-- The link between `irun`, which has its own recursion, and `irunWith true`: the examples of `Props.lean` set `irunWith false`
against `irun`. -/
theorem RStore.irun_eq_irunWith (f : String → String) : ∀ (ops : List RecOp) (s : RStore),
    s.irun f ops = s.irunWith true f ops
  | [], _ => rfl
  | _ :: ops, _ => RStore.irun_eq_irunWith f ops _

/-- What makes `flisting` the listing of distinct, non-empty keys (`flisting_facts`): the map key of an item is `f` of the
spelling its message carries, so two items with one key field would share a map key. -/
def RStore.IInv (f : String → String) (s : RStore) : Prop :=
  s.ids.Nodup ∧ ∀ r ∈ s, r.id = f r.key ∧ r.key ≠ ""

theorem RStore.iinv_nil (f : String → String) : RStore.IInv f [] := ⟨List.nodup_nil, by simp⟩

theorem RStore.iinv_cons {f : String → String} {s : RStore} (h : s.IInv f) {sid fld : String}
    (hm : sid ∉ s.ids) (hid : sid = f fld) (hne : fld ≠ "") : RStore.IInv f ({ id := sid, key := fld } :: s) := by
  refine ⟨by rw [RStore.ids_cons]; exact List.nodup_cons.mpr ⟨hm, h.1⟩, ?_⟩
  intro r hr
  rcases List.mem_cons.mp hr with e | hr
  · subst e; exact ⟨hid, hne⟩
  · exact h.2 r hr

theorem RStore.iinv_rekey {f : String → String} {s : RStore} (h : s.IInv f) (sid : String) (g : String → String)
    (hg : ∀ r ∈ s, r.id = sid → sid = f (g r.key) ∧ g r.key ≠ "") :
    RStore.IInv f (s.map (fun r => if r.id = sid then { r with key := g r.key } else r)) := by
  refine ⟨by rw [ids_map_setkey]; exact h.1, fun r hr => ?_⟩
  obtain ⟨r', hr', rfl⟩ := List.mem_map.mp hr
  split
  · rename_i e
    exact ⟨e.trans (hg r' hr' e).1, (hg r' hr' e).2⟩
  · exact h.2 r' hr'

/-- The `if` is the guard of the `updateMsg` / `updateId` branches of `istepWith`. -/
theorem write_iinv {f : String → String} {s : RStore} (h : s.IInv f) (fld : String) (upsert : Bool) :
    (if fld = "" then (s, StoreRes.rejected) else s.iwrite (f fld) fld upsert true).1.IInv f := by
  by_cases hne : fld = ""
  · simp only [hne, if_true]; exact h
  simp only [hne, if_false, RStore.iwrite]
  unfold RStore.write
  by_cases hm : f fld ∈ s.ids
  · simp only [hm, if_true]
    exact RStore.iinv_rekey h (f fld) (fun _ => fld) (fun _ _ _ => ⟨rfl, hne⟩)
  · simp only [hm, if_false]
    cases upsert with
    | false => exact h
    | true => exact RStore.iinv_cons h hm rfl hne

/-- What `RStore.istep_iinv` needs of the interceptor: a generated id `f c` is stored with key field `f c` (`idem`) and is
not empty (`nonempty`).  `f ""` is free: whether an id was given is decided before the interceptor runs (929e9c0). -/
structure GoodIcpt (f : String → String) : Prop where
  nonempty : ∀ x, x ≠ "" → f x ≠ ""
  idem : ∀ x, f (f x) = f x

theorem goodIcpt_id : GoodIcpt id := ⟨fun _ h => h, fun _ => rfl⟩

theorem RStore.istep_iinv {f : String → String} (hf : GoodIcpt f) (s : RStore) (op : RecOp) (h : s.IInv f) :
    (s.istep f op).1.IInv f := by
  cases op with
  | add id cand =>
    simp only [RStore.istep, RStore.istepWith, true_and]
    by_cases he : id = "" ∨ f id = ""
    · simp only [he, if_true]
      cases hg : genId cand (fun c => decide (f c ∈ s.ids)) 10 0 with
      | none => exact h
      | some c =>
        simp only [Option.map_some]
        obtain ⟨hc, hu⟩ := genId_spec _ _ _ _ _ hg
        have hm : f c ∉ s.ids := by simpa using hu
        simp only [hm, if_false]
        exact RStore.iinv_cons h hm (hf.idem c).symm (hf.nonempty c hc)
    · simp only [he, if_false]
      split
      · exact h
      · rename_i hm
        exact RStore.iinv_cons h hm rfl (fun e => he (Or.inl e))
  | updateMsg k upsert mask =>
    simp only [RStore.istep, RStore.istepWith, Mask.moreKey_writesKey]
    exact write_iinv h k upsert
  | updateId id msgKey upsert mask =>
    simp only [RStore.istep, RStore.istepWith, Mask.moreKey_writesKey, forcedKey_eq]
    exact write_iinv h id upsert
  | delete id allowMissing =>
    simp only [RStore.istep, RStore.istepWith]
    split
    · refine ⟨?_, fun r hr => h.2 r (List.mem_filter.mp hr).1⟩
      rw [filter_ids_erase s (f id) h.1]
      exact h.1.erase _
    · split <;> exact h
  | _ =>
    -- `ensure` and `initial`: an empty key is refused, an item stored under `f key` left alone, a new one put in front
    simp only [RStore.istep, RStore.istepWith, if_true]
    split
    · exact h
    · rename_i hn
      split
      · exact h
      · rename_i hm
        exact RStore.iinv_cons h hm rfl hn

theorem RStore.irun_iinv {f : String → String} (hf : GoodIcpt f) : ∀ (ops : List RecOp) (s : RStore), s.IInv f →
    (s.irun f ops).IInv f := by
  intro ops
  induction ops with
  | nil => intro s h; exact h
  | cons op ops ih =>
    intro s h
    exact ih _ (s.istep_iinv hf op h)

theorem keys_nodup {f : String → String} {s : RStore} (h : s.IInv f) : (s.map (·.key)).Nodup := by
  have hids : s.ids = (s.map (·.key)).map f := by
    rw [List.map_map]; exact List.map_congr_left (fun r hr => (h.2 r hr).1)
  have hnd := h.1
  rw [hids] at hnd
  exact List.Pairwise.of_map f (fun a b hab e => hab (congrArg f e)) hnd

theorem flisting_spec {s : RStore} (hnd : (s.map (·.key)).Nodup) (hne : ∀ r ∈ s, r.key ≠ "") :
    Sorted (flisting s) ∧ "" ∉ flisting s ∧ (flisting s).length = s.length ∧
    ∀ x, x ∈ flisting s ↔ ∃ r ∈ s, r.key = x := by
  have hmem : ∀ x, x ∈ flisting s ↔ ∃ r ∈ s, r.key = x := fun x => by
    unfold flisting; rw [mem_sortKeys, List.mem_map]
  refine ⟨sorted_sortKeys hnd, fun hm => ?_, by simp [flisting, length_sortKeys], hmem⟩
  obtain ⟨r, hr, hk⟩ := (hmem "").mp hm
  exact hne r hr hk

theorem flisting_facts {f : String → String} {s : RStore} (h : s.IInv f) :
    Sorted (flisting s) ∧ "" ∉ flisting s ∧ (flisting s).length = s.length ∧
    ∀ x, x ∈ flisting s ↔ ∃ r ∈ s, r.key = x :=
  flisting_spec (keys_nodup h) (fun r hr => (h.2 r hr).2)

/-- A write answers with the id it was given, so when that is the spelling written `iwrite` is `write`. -/
theorem iwrite_self (s : RStore) (id : String) (upsert w : Bool) :
    s.iwrite id id upsert w = s.write id id upsert w := by
  unfold RStore.iwrite RStore.write
  by_cases hm : id ∈ s.ids
  · simp [hm]
  · cases upsert <;> simp [hm]

theorem RStore.istep_id (s : RStore) (op : RecOp) : s.istep id op = s.step op := by
  cases op with
  | add i cand =>
    simp only [RStore.istep, RStore.istepWith, RStore.step, RStore.stepWith, id, true_and, or_self]
    by_cases he : i = ""
    · simp only [he, if_true]
      cases genId cand (fun c => decide (c ∈ s.ids)) 10 0 <;> rfl
    · simp only [he, if_false]
  | ensure name => rfl
  | updateMsg k upsert mask =>
    simp only [RStore.istep, RStore.istepWith, RStore.step, RStore.stepWith, id, if_true, iwrite_self]
  | updateId i msgKey upsert mask =>
    simp only [RStore.istep, RStore.istepWith, RStore.step, RStore.stepWith, id, if_true, forcedKey_eq, iwrite_self,
      Bool.true_and, decide_eq_true_eq]
  | delete i allowMissing => rfl
  | initial key => rfl

theorem RStore.irun_id : ∀ (ops : List RecOp) (s : RStore), s.irun id ops = s.run ops := by
  intro ops
  induction ops with
  | nil => intro s; rfl
  | cons op ops ih =>
    intro s
    simp only [RStore.irun, RStore.run, RStore.runWith]
    rw [RStore.istep_id, ih]
    rfl

/-! ### Without an interceptor: `Records.lean`'s model is the case `f = id`; its invariant is kept because `IInv id` is,
and under it the two listings agree -/

theorem RStore.inv_iff_iinv (s : RStore) : s.Inv ↔ s.IInv id := by
  constructor
  · exact fun ⟨⟨hnd, hne⟩, hk⟩ => ⟨hnd, fun r hr =>
      ⟨(hk r hr).symm, fun e => hne (List.mem_map.mpr ⟨r, hr, (hk r hr).symm.trans e⟩)⟩⟩
  · rintro ⟨hnd, h⟩
    refine ⟨⟨hnd, fun hm => ?_⟩, fun r hr => (h r hr).1.symm⟩
    obtain ⟨r, hr, e⟩ := List.mem_map.mp hm
    exact (h r hr).2 ((h r hr).1.symm.trans e)

theorem RStore.run_inv : ∀ (ops : List RecOp) (s : RStore), s.Inv →
    (s.run ops).Inv ∧ (s.run ops).ids = Store.run s.ids (ops.map RecOp.proj) := by
  intro ops
  induction ops with
  | nil => intro s h; exact ⟨h, rfl⟩
  | cons op ops ih =>
    intro s h
    have h' := (s.inv_iff_iinv).mp h
    have := ih _ ((RStore.inv_iff_iinv _).mpr (s.istep_id op ▸ s.istep_iinv goodIcpt_id op h'))
    rwa [s.step_ids op h'.1] at this

theorem keyOf_self {s : RStore} (h : ∀ r ∈ s, r.key = r.id) {id : String} (hm : id ∈ s.ids) : s.keyOf id = id := by
  unfold RStore.keyOf
  obtain ⟨r, hr, hrid⟩ := List.mem_map.mp hm
  cases hf : s.find? (fun r => r.id = id) with
  | none =>
    have := List.find?_eq_none.mp hf r hr
    simp [hrid] at this
  | some r' =>
    have hmem := List.mem_of_find?_eq_some hf
    have hp := List.find?_some hf
    simp only [decide_eq_true_eq] at hp
    simp [h r' hmem, hp]

theorem rlisting_eq {s : RStore} (h : s.Inv) : rlisting s = listing s.ids := by
  unfold rlisting listing
  have : ∀ x ∈ sortKeys s.ids, s.keyOf x = x := fun x hx => keyOf_self h.2 (mem_sortKeys.mp hx)
  calc (sortKeys s.ids).map s.keyOf = (sortKeys s.ids).map id := List.map_congr_left this
    _ = sortKeys s.ids := by simp

theorem flisting_eq_rlisting {s : RStore} (h : s.Inv) : flisting s = rlisting s := by
  rw [rlisting_eq h]
  unfold flisting listing
  congr 1
  exact List.map_congr_left (fun r hr => h.2 r hr)

/-- ASCII lower-casing (the harness passes the same byte-wise function to `resource.WithIDInterceptor`). -/
def asciiLower (s : String) : String := s.map Char.toLower
def asciiUpper (s : String) : String := s.map Char.toUpper

/-- A letter moved into lower case lies outside `A..Z`, so the second pass leaves it alone. -/
theorem toLower_idem (c : Char) : c.toLower.toLower = c.toLower := by
  simp only [Char.toLower]
  split
  · split
    · next h1 h2 =>
      simp only [ge_iff_le, UInt32.le_iff_toNat_le, UInt32.toNat_add, seval] at h1 h2
      omega
    · rfl
  · rfl

/-- Likewise upwards: the letter lands in `A..Z`, outside the range `a..z` the second pass tests. -/
theorem toUpper_idem (c : Char) : c.toUpper.toUpper = c.toUpper := by
  simp only [Char.toUpper]
  split
  · split
    · next h1 h2 =>
      simp only [UInt32.le_iff_toNat_le, UInt32.toNat_add, seval] at h1 h2
      omega
    · rfl
  · rfl

theorem map_good (g : Char → Char) (hg : ∀ c, g (g c) = g c) : GoodIcpt (String.map g) := by
  refine ⟨?_, ?_⟩
  · intro x hx h
    have := congrArg String.toList h
    simp [String.toList_map] at this
    exact hx this
  · intro x
    rw [String.map_map]
    congr 1
    funext c
    exact hg c

/-- A case-folding interceptor on two letters, for the examples of `Props.lean` (string literals only, so that the
kernel can evaluate it). -/
def foldAB (s : String) : String := if s = "A" then "a" else if s = "B" then "b" else s

end ScVerif.C15
