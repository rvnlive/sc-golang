/-
C15 — executable model of the paged List RPCs of /repo, read masks included, as they are after the `fix:` commits
f9325fa, c118094, 2829c35, d0c1476 (the `*Unfixed` definitions: before).

Follows `pkg/trait/{electricpb,hailpb,publicationpb,vendingpb}/model_server.go` (variant `gt`),
`pkg/trait/parentpb/model_server.go` (variant `ge`), the five identical `pages.go`, and
`pkg/trait/wastepb/{model_server.go,model.go}` (index tokens).

Abstractions (see props/C15.json):
* an item is represented by its key (`Id` / `Name` / `Consumable`); the list handed to the paging code
  is the collection's listing (strictly ascending, no empty key: the hypotheses `Sorted keys` and `"" ∉ keys` of the
  paging theorems, proved in `Props.lean` for every history of the models' APIs and monitored on the real models by
  the harness);
* token decoding (`base64` + `proto.Unmarshal`) is "either it fails (InvalidArgument) or it yields an
  arbitrary last key": `Tok.bad | Tok.empty | Tok.key k`, so garbage that happens to decode is covered
  by the `∀ k`; encoding then decoding a key gives that key back (checked by the harness);
* Go's index / slice bound checks are explicit: an out-of-range access is the outcome `Out.panic`.
-/
namespace ScVerif.C15

inductive Code where
  | invalidArgument
  | unknown
  deriving DecidableEq, Repr

def Code.name : Code → String
  | .invalidArgument => "InvalidArgument"
  | .unknown => "Unknown"

/-- Outcome of a call: a response, a gRPC error status, or a Go run-time panic. -/
inductive Out (α : Type) where
  | ok (a : α)
  | err (c : Code)
  | panic
  deriving Repr

instance {α} [DecidableEq α] : DecidableEq (Out α) := by
  intro a b
  cases a <;> cases b <;> first
    | (rename_i x y; exact if h : x = y then isTrue (by rw [h]) else isFalse (by intro e; cases e; exact h rfl))
    | exact isTrue rfl
    | exact isFalse (by intro e; cases e)

/-! ### pages.go -/

def defaultPageSize : Int := 50
def maxPageSize : Int := 1000

/-- `capPageSize` of pages.go. -/
def capPageSize (pageSize : Int) : Int :=
  if pageSize = 0 then defaultPageSize
  else if pageSize > maxPageSize then maxPageSize
  else pageSize

/-! ### sort.Search -/

/-- The loop of Go's `sort.Search`: `for i < j { h := (i+j)/2; if !f(h) { i = h+1 } else { j = h } }`.
`fuel` bounds the iterations (`j - i` suffices; every iteration shrinks the interval). -/
def searchLoop (f : Nat → Bool) : Nat → Nat → Nat → Nat
  | 0, i, _ => i
  | fuel + 1, i, j =>
    if i < j then
      let h := (i + j) / 2
      if !f h then searchLoop f fuel (h + 1) j else searchLoop f fuel i h
    else i

/-- `sort.Search(n, f)`. -/
def sortSearch (n : Nat) (f : Nat → Bool) : Nat := searchLoop f n 0 n

/-! ### Go slice operations with their bound checks -/

/-- `xs[i]` -/
def index {α} (xs : List α) (i : Int) : Out α :=
  if 0 ≤ i then
    match xs[i.toNat]? with
    | some x => .ok x
    | none => .panic
  else .panic

/-- `xs[lo:hi]` (for a slice whose capacity equals its length) -/
def slice {α} (xs : List α) (lo hi : Int) : Out (List α) :=
  if 0 ≤ lo ∧ lo ≤ hi ∧ hi ≤ xs.length then .ok ((xs.drop lo.toNat).take (hi.toNat - lo.toNat))
  else .panic

/-! ### key-token paging (ListModes, ListHails, ListPublications, ListConsumables, ListInventory; ListChildren) -/

/-- A decoded page token. -/
inductive Tok where
  | empty                 -- page_token == ""
  | bad                   -- base64 or proto decoding fails
  | key (lastKey : String) -- decodes; `GetLastResourceName()` is `lastKey` (possibly "")
  deriving DecidableEq, Repr

inductive Variant where
  | gt  -- sort.Search(keys[i] > lastKey)
  | ge  -- parent: sort.Search(keys[i] >= lastKey), then skip an equal key
  deriving DecidableEq, Repr

structure Page where
  items : List String
  /-- `none`: empty next_page_token; `some k`: a token whose last_resource_name is `k`. -/
  next : Option String
  total : Nat
  deriving DecidableEq, Repr

/-- `sortedItems[i].Id` inside the closure of `sort.Search`, which only probes `i < len`: the default is never read. -/
def keyAt (keys : List String) (i : Nat) : String := keys.getD i ""

/-- `nextIndex` as computed by the List functions. -/
def nextIndex (v : Variant) (keys : List String) (lastKey : String) : Nat :=
  if lastKey = "" then 0
  else match v with
    | .gt => sortSearch keys.length (fun i => decide (lastKey < keyAt keys i))
    | .ge =>
      let n := sortSearch keys.length (fun i => decide (lastKey ≤ keyAt keys i))
      if n < keys.length ∧ keyAt keys n = lastKey then n + 1 else n

/-- One List call on the listing `keys` (already sorted by the collection / by `sort.Slice`). -/
def listPage (v : Variant) (keys : List String) (tok : Tok) (size : Int) : Out Page :=
  match tok with
  | .bad => .err .invalidArgument                     -- decodePageToken fails
  | tok =>
    let lastKey := match tok with
      | .key k => k
      | _ => ""
    if size < 0 then .err .invalidArgument             -- the guard added by f9325fa
    else
      let pageSize := capPageSize size
      let ni : Int := nextIndex v keys lastKey
      let upperBound := ni + pageSize
      if upperBound > keys.length then
        match slice keys ni keys.length with             -- upperBound = len; pageToken = nil
        | .ok items => .ok ⟨items, none, keys.length⟩
        | .err c => .err c
        | .panic => .panic
      else
        match index keys (upperBound - 1) with           -- sorted[upperBound-1].Id
        | .ok k =>
          match slice keys ni upperBound with
          | .ok items => .ok ⟨items, some k, keys.length⟩
          | .err c => .err c
          | .panic => .panic
        | .err c => .err c
        | .panic => .panic

/-- A List call with a read mask (after the read-mask fix): paging — search, slice and the next token —
works on the unmasked listing; the mask only decides what the returned items show.  `keyVisible = false`:
the mask does not mention the key field, the items come back with an empty key. -/
def listPageMasked (v : Variant) (keys : List String) (tok : Tok) (size : Int) (keyVisible : Bool) : Out Page :=
  match listPage v keys tok size with
  | .ok p => .ok { p with items := if keyVisible then p.items else p.items.map (fun _ => "") }
  | .err c => .err c
  | .panic => .panic

/-- What a page shows under the read mask. -/
def Page.display (keyVisible : Bool) (p : Page) : Page :=
  { p with items := if keyVisible then p.items else p.items.map (fun _ => "") }

/-- Following next_page_token with a read mask. -/
def chainMasked (v : Variant) (keys : List String) (size : Nat → Int) (keyVisible : Bool) :
    Nat → Nat → Tok → Option (List Page)
  | 0, _, _ => none
  | fuel + 1, i, tok =>
    match listPageMasked v keys tok (size i) keyVisible with
    | .ok p =>
      match p.next with
      | none => some [p]
      | some k => (chainMasked v keys size keyVisible fuel (i + 1) (.key k)).map (p :: ·)
    | _ => none

/-- Before 2829c35 the id-keyed listers fetched the listing THROUGH the read mask and paged over what
came back: with the key hidden every key the paging code saw was "". -/
def listPageMaskedUnfixed (v : Variant) (keys : List String) (tok : Tok) (size : Int) (keyVisible : Bool) : Out Page :=
  listPage v (if keyVisible then keys else keys.map (fun _ => "")) tok size

/-- The same call on the code as it was before f9325fa (no negative-size guard); kept to state what
the repaired defect was. -/
def listPageUnfixed (v : Variant) (keys : List String) (tok : Tok) (size : Int) : Out Page :=
  match tok with
  | .bad => .err .invalidArgument
  | tok =>
    let lastKey := match tok with
      | .key k => k
      | _ => ""
    let pageSize := capPageSize size
    let ni : Int := nextIndex v keys lastKey
    let upperBound := ni + pageSize
    if upperBound > keys.length then
      match slice keys ni keys.length with
      | .ok items => .ok ⟨items, none, keys.length⟩
      | .err c => .err c
      | .panic => .panic
    else
      match index keys (upperBound - 1) with
      | .ok k =>
        match slice keys ni upperBound with
        | .ok items => .ok ⟨items, some k, keys.length⟩
        | .err c => .err c
        | .panic => .panic
      | .err c => .err c
      | .panic => .panic

/-- Following next_page_token: page number `i` asks for `size i` items. `none` = no empty token
within `fuel` pages, or a call failed. -/
def chain (v : Variant) (keys : List String) (size : Nat → Int) : Nat → Nat → Tok → Option (List Page)
  | 0, _, _ => none
  | fuel + 1, i, tok =>
    match listPage v keys tok (size i) with
    | .ok p =>
      match p.next with
      | none => some [p]
      | some k => (chain v keys size fuel (i + 1) (.key k)).map (p :: ·)
    | _ => none

/-! ### waste: index tokens counting down from the newest record -/

/-- A decoded waste token (`strconv.Atoi`). -/
inductive WTok where
  | empty
  | bad               -- not a machine integer
  | idx (i : Int)
  deriving DecidableEq, Repr

structure WPage where
  items : List Nat      -- indices into allWasteRecords
  next : Option Int
  total : Nat
  deriving DecidableEq, Repr

/-- `Model.ListWasteRecords(start, count)`: `for i := start-1; i >= 0; i-- { append(all[i]); if len >= count { break } }`
with `k = i+1` iterations left. -/
def wasteLoop (n : Nat) (count : Int) : Nat → List Nat → Out (List Nat)
  | 0, acc => .ok acc
  | k + 1, acc =>
    if k < n then
      let acc' := acc ++ [k]
      if count ≤ acc'.length then .ok acc' else wasteLoop n count k acc'
    else .panic                                        -- allWasteRecords[k] out of range

def wasteRecords (n : Nat) (start count : Int) : Out (List Nat) := wasteLoop n count start.toNat []

/-- wastepb `ModelServer.ListWasteRecords` caps the count inline (`if count == 0 { count = 50 } else if count > 1000 …`):
the constants of `pages.go`, not the function. -/
def wasteCount (size : Int) : Int := if size = 0 then 50 else if size > 1000 then 1000 else size

/-- The rest of the RPC: `if int(count) == len(resp.WasteRecords) { npt := startIndex - int(count); if npt > 0 { … } }`,
`TotalSize = GetWasteRecordCount()`. -/
def wastePageOf (n : Nat) (start count : Int) : Out WPage :=
  match wasteRecords n start count with
  | .ok recs =>
    let next : Option Int :=
      if count = recs.length then (if start - count > 0 then some (start - count) else none) else none
    .ok ⟨recs, next, n⟩
  | .err c => .err c
  | .panic => .panic

/-- `ModelServer.ListWasteRecords` on a model holding `n` records (after c118094 and f9325fa). -/
def listWaste (n : Nat) (tok : WTok) (size : Int) : Out WPage :=
  match tok with
  | .bad => .err .unknown                              -- the strconv error is returned as is
  | .idx i =>
    if i < 0 ∨ i > n then .err .invalidArgument         -- c118094
    else if size < 0 then .err .invalidArgument         -- f9325fa
    else wastePageOf n i (wasteCount size)
  | .empty =>
    if size < 0 then .err .invalidArgument
    else wastePageOf n n (wasteCount size)

/-- What a waste page shows under a read mask: `none` = the record comes back without its id. -/
structure WShown where
  items : List (Option Nat)
  next : Option Int
  total : Nat
  deriving DecidableEq, Repr

def WPage.display (idVisible : Bool) (p : WPage) : WShown :=
  ⟨p.items.map (fun i => if idVisible then some i else none), p.next, p.total⟩

/-- `ListWasteRecords` with a read mask (honoured since d0c1476): index, count, token and total are computed
on the stored records; the mask is applied to copies of the returned page only. -/
def listWasteMasked (n : Nat) (tok : WTok) (size : Int) (idVisible : Bool) : Out WShown :=
  match listWaste n tok size with
  | .ok p => .ok (p.display idVisible)
  | .err c => .err c
  | .panic => .panic

/-- The RPC as it was before the two fixes. -/
def listWasteUnfixed (n : Nat) (tok : WTok) (size : Int) : Out WPage :=
  match tok with
  | .bad => .err .unknown
  | .idx i => wastePageOf n i (wasteCount size)
  | .empty => wastePageOf n n (wasteCount size)

def wasteChain (n : Nat) (size : Nat → Int) : Nat → Nat → WTok → Option (List WPage)
  | 0, _, _ => none
  | fuel + 1, i, tok =>
    match listWaste n tok (size i) with
    | .ok p =>
      match p.next with
      | none => some [p]
      | some k => (wasteChain n size fuel (i + 1) (.idx k)).map (p :: ·)
    | _ => none

end ScVerif.C15
