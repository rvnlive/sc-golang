import ScVerif.C15.Spec
/-! What `sort.Search` computes on any predicate; `keyAt`; `nextIndex`, bounded on any listing and, on a strictly
ascending one, landing behind the token's key. -/
namespace ScVerif.C15

/-- Go's `sort.Search` loop, whatever `f` is: it stops inside `[i, j]` — at `i` or right above a false value, and at
`j` or on a true value. -/
theorem searchLoop_spec (f : Nat → Bool) : ∀ fuel i j, i ≤ j → j - i ≤ fuel →
    i ≤ searchLoop f fuel i j ∧ searchLoop f fuel i j ≤ j ∧
    (searchLoop f fuel i j = i ∨ f (searchLoop f fuel i j - 1) = false) ∧
    (searchLoop f fuel i j = j ∨ f (searchLoop f fuel i j) = true) := by
  intro fuel
  induction fuel with
  | zero => intro i j hij hf; exact ⟨Nat.le_refl _, hij, Or.inl rfl, Or.inl (by simp only [searchLoop]; omega)⟩
  | succ fuel ih =>
    intro i j hij hf
    unfold searchLoop
    split
    · -- all that matters of the probe `h = (i + j) / 2` is `i ≤ h < j`
      have hm : i ≤ (i + j) / 2 ∧ (i + j) / 2 < j := by omega
      dsimp only
      generalize (i + j) / 2 = h at hm ⊢
      split
      · rename_i hfh
        obtain ⟨h1, h2, h3, h4⟩ := ih (h + 1) j (by omega) (by omega)
        refine ⟨by omega, h2, h3.elim (fun e => Or.inr ?_) Or.inr, h4⟩
        rw [e]; simpa using hfh
      · rename_i hfh
        obtain ⟨h1, h2, h3, h4⟩ := ih i h (by omega) (by omega)
        refine ⟨h1, by omega, h3, h4.elim (fun e => Or.inr ?_) Or.inr⟩
        rw [e]; simpa using hfh
    · exact ⟨Nat.le_refl _, hij, Or.inl rfl, Or.inl (by omega)⟩

theorem sortSearch_spec (n : Nat) (f : Nat → Bool) :
    sortSearch n f ≤ n ∧ (sortSearch n f = 0 ∨ f (sortSearch n f - 1) = false) ∧
      (sortSearch n f = n ∨ f (sortSearch n f) = true) :=
  (searchLoop_spec f n 0 n (Nat.zero_le _) (Nat.le_refl _)).2

theorem keyAt_zero (x : String) (xs : List String) : keyAt (x :: xs) 0 = x := by
  simp [keyAt]

theorem keyAt_succ (x : String) (xs : List String) (i : Nat) : keyAt (x :: xs) (i + 1) = keyAt xs i := by
  simp [keyAt]

theorem keyAt_eq_getElem (keys : List String) (i : Nat) (h : i < keys.length) : keyAt keys i = keys[i] := by
  simp [keyAt, List.getD_eq_getElem?_getD, h]

theorem keyAt_mem (keys : List String) (i : Nat) (h : i < keys.length) : keyAt keys i ∈ keys := by
  rw [keyAt_eq_getElem keys i h]; exact List.getElem_mem h

theorem getElem?_eq_keyAt (keys : List String) (i : Nat) (h : i < keys.length) : keys[i]? = some (keyAt keys i) := by
  rw [keyAt_eq_getElem keys i h]; simp [h]

theorem sorted_keyAt_lt {keys : List String} (hs : Sorted keys) {a b : Nat} (hab : a < b) (hb : b < keys.length) :
    keyAt keys a < keyAt keys b := by
  rw [keyAt_eq_getElem keys a (by omega), keyAt_eq_getElem keys b hb]
  exact (List.pairwise_iff_getElem.mp hs) a b (by omega) hb hab

theorem sorted_keyAt_le {keys : List String} (hs : Sorted keys) {a b : Nat} (hab : a ≤ b) (hb : b < keys.length) :
    keyAt keys a ≤ keyAt keys b := by
  by_cases h : a = b
  · subst h; exact Std.le_refl _
  · exact Std.le_of_lt (sorted_keyAt_lt hs (by omega) hb)

/-- On a strictly ascending listing the keys greater than `k` start at ANY index with a key `≤ k` right below it (or
none) and a key `> k` on it (or none): the order does the rest.  That is what `sort.Search` guarantees of its result. -/
theorem filter_gt_eq_drop {keys : List String} (hs : Sorted keys) (k : String) {r : Nat} (hr : r ≤ keys.length)
    (lo : r = 0 ∨ keyAt keys (r - 1) ≤ k) (hi : r = keys.length ∨ k < keyAt keys r) :
    keys.filter (fun x => decide (k < x)) = keys.drop r := by
  conv => lhs; rw [← List.take_append_drop r keys]
  rw [List.filter_append, List.filter_eq_nil_iff.mpr, List.nil_append, List.filter_eq_self]
  · intro a ha
    obtain ⟨i, h, rfl⟩ := List.mem_drop_iff_getElem.mp ha
    rw [← keyAt_eq_getElem, decide_eq_true_eq]
    exact Std.lt_of_lt_of_le (hi.resolve_left (by omega)) (sorted_keyAt_le hs (Nat.le_add_right r i) (by omega))
  · intro a ha
    obtain ⟨i, h, rfl⟩ := List.mem_take_iff_getElem.mp ha
    rw [← keyAt_eq_getElem, decide_eq_true_eq]
    exact Std.not_lt.mpr (Std.le_trans (sorted_keyAt_le hs (by omega) (by omega)) (lo.resolve_left (by omega)))

theorem nextIndex_le (v : Variant) (keys : List String) (k : String) : nextIndex v keys k ≤ keys.length := by
  unfold nextIndex
  by_cases hk : k = ""
  · simp [hk]
  · simp only [hk, if_false]
    cases v with
    | gt => exact (sortSearch_spec _ _).1
    | ge =>
      simp only
      have := (sortSearch_spec keys.length (fun i => decide (k ≤ keyAt keys i))).1
      split
      · rename_i h; omega
      · exact this

/-- Both search variants land on the first key greater than `k`. -/
theorem nextIndex_spec (v : Variant) {keys : List String} (hs : Sorted keys) (k : String) :
    keys.drop (nextIndex v keys k) = after keys k := by
  unfold nextIndex after
  by_cases hk : k = ""
  · simp [hk]
  · simp only [hk, if_false]
    symm
    cases v with
    | gt =>
      obtain ⟨hle, hlo, hhi⟩ := sortSearch_spec keys.length (fun i => decide (k < keyAt keys i))
      exact filter_gt_eq_drop hs k hle (hlo.imp_right fun h => Std.not_lt.mp (of_decide_eq_false h))
        (hhi.imp_right of_decide_eq_true)
    | ge =>
      obtain ⟨hle, hlo, hhi⟩ := sortSearch_spec keys.length (fun i => decide (k ≤ keyAt keys i))
      simp only
      generalize sortSearch keys.length (fun i => decide (k ≤ keyAt keys i)) = r0 at hle hlo hhi
      split
      · -- the key searched for is there, at `r0`: skip it
        rename_i h
        refine filter_gt_eq_drop hs k (by omega) (Or.inr ?_) ?_
        · rw [Nat.add_sub_cancel, h.2]; exact Std.le_refl _
        · by_cases hn : r0 + 1 = keys.length
          · exact Or.inl hn
          · exact Or.inr (h.2 ▸ sorted_keyAt_lt hs (Nat.lt_succ_self r0) (by omega))
      · rename_i h
        refine filter_gt_eq_drop hs k hle (hlo.imp_right fun h' => Std.le_of_lt (Std.not_le.mp (of_decide_eq_false h')))
          (hhi.elim Or.inl fun h' => ?_)
        by_cases hn : r0 = keys.length
        · exact Or.inl hn
        · exact Or.inr (Std.lt_of_le_of_ne (of_decide_eq_true h') fun e => h ⟨by omega, e.symm⟩)

theorem after_keyAt {keys : List String} (hs : Sorted keys) (hne : "" ∉ keys) (m : Nat)
    (hm : m < keys.length) : after keys (keyAt keys m) = keys.drop (m + 1) := by
  rw [after_eq_filter hne]
  refine filter_gt_eq_drop hs _ hm (Or.inr (Std.le_refl _)) ?_
  by_cases hn : m + 1 = keys.length
  · exact Or.inl hn
  · exact Or.inr (sorted_keyAt_lt hs (Nat.lt_succ_self m) (by omega))

end ScVerif.C15
