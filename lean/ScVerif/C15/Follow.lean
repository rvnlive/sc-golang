import ScVerif.C15.Paging
/-! Token chains in general: a call answers a token with the first few of the items the token is still OWED, and the
token it returns is owed the rest (`Serves`); so the pages of a chain cut what its first token is owed into consecutive
pieces (`Follows.enumerates`), of a known shape when every page asks for the same size (`Follows.shape`). -/
namespace ScVerif.C15

variable {T K P α : Type}

/-- `ch fuel i t` follows next-page tokens from token `t`: call number `i` is `call i`, `next` reads the token off an
answer, `mk` is the token as the next request carries it; an answer without token ends the chain. -/
structure Follows (ch : Nat → Nat → T → Option (List P)) (call : Nat → T → Out P) (next : P → Option K)
    (mk : K → T) : Prop where
  last : ∀ {i t p}, call i t = .ok p → next p = none → ∀ fuel, ch (fuel + 1) i t = some [p]
  more : ∀ {i t p k}, call i t = .ok p → next p = some k →
    ∀ fuel, ch (fuel + 1) i t = (ch fuel (i + 1) (mk k)).map (p :: ·)

/-- How an RPC pages: the tokens it accepts, the items a token is still owed, how an answer shows its items and its
token, and how many items must be left over for a token to be minted (`slack`).  With `slack ≤ 1` and pages of at least
one item an answer without token holds all that was owed; a larger slack would strand items. -/
structure Scheme (T K P α : Type) where
  valid : T → Prop
  owed : T → List α
  items : P → List α
  next : P → Option K
  tok : K → T
  slack : Nat

/-- The answer `p` serves token `t` with `c` items: it holds the first `c` of the items owed to `t`, and it carries a
token exactly when at least `c + slack` items were owed — a valid one that is owed the rest. -/
structure Serves (S : Scheme T K P α) (c : Nat) (t : T) (p : P) : Prop where
  items : S.items p = (S.owed t).take c
  more : ∀ k, S.next p = some k → S.valid (S.tok k) ∧ c + S.slack ≤ (S.owed t).length ∧ S.owed (S.tok k) = (S.owed t).drop c
  last : S.next p = none → (S.owed t).length < c + S.slack

theorem forall_getElem?_cons {α} {P : Nat → α → Prop} {a : α} {l : List α} :
    (∀ j p, (a :: l)[j]? = some p → P j p) ↔ P 0 a ∧ ∀ j p, l[j]? = some p → P (j + 1) p := by
  constructor
  · exact fun h => ⟨h 0 a rfl, fun j p hp => h (j + 1) p hp⟩
  · rintro ⟨h0, hs⟩ j p hp
    cases j with
    | zero => cases hp; exact h0
    | succ j => exact hs j p hp

variable {ch : Nat → Nat → T → Option (List P)} {call : Nat → T → Out P} {S : Scheme T K P α}

/-- The form both RPC families' pages have: the first `c` of what is owed, and a token `k` exactly when enough is left
(`cond` is the code's test). -/
theorem Serves.of_ite {c : Nat} {t : T} {p : P} {k : K} {cond : Prop} [Decidable cond]
    (hitems : S.items p = (S.owed t).take c) (hnext : S.next p = if cond then some k else none)
    (hcond : cond ↔ c + S.slack ≤ (S.owed t).length)
    (hk : cond → S.valid (S.tok k) ∧ S.owed (S.tok k) = (S.owed t).drop c) : Serves S c t p := by
  refine ⟨hitems, fun k' hk' => ?_, fun hn => ?_⟩
  · rw [hnext] at hk'
    split at hk'
    · rename_i h
      cases hk'
      exact ⟨(hk h).1, hcond.mp h, (hk h).2⟩
    · cases hk'
  · rw [hnext] at hn
    split at hn
    · cases hn
    · rename_i h
      exact Nat.lt_of_not_le fun hle => h (hcond.mpr hle)

theorem Serves.length_le {c : Nat} {t : T} {p : P} (h : Serves S c t p) : (S.items p).length ≤ c := by
  rw [h.items, List.length_take]; exact Nat.min_le_left _ _

theorem Serves.items_last {c : Nat} {t : T} {p : P} (h : Serves S c t p) (hslack : S.slack ≤ 1)
    (hn : S.next p = none) : S.items p = S.owed t := by
  have := h.last hn
  rw [h.items, List.take_of_length_le (by omega)]

theorem Serves.items_more {c : Nat} {t : T} {p : P} (h : Serves S c t p) {k : K} (hn : S.next p = some k) :
    S.items p ++ S.owed (S.tok k) = S.owed t := by
  rw [h.items, (h.more k hn).2.2, List.take_append_drop]

theorem Follows.enumerates (hch : Follows ch call S.next S.tok) (hslack : S.slack ≤ 1) {cnt : Nat → Nat}
    (hc : ∀ i, 1 ≤ cnt i) {Q : Nat → P → Prop}
    (hcall : ∀ i t, S.valid t → ∃ p, call i t = .ok p ∧ Serves S (cnt i) t p ∧ Q i p) :
    ∀ fuel i t, S.valid t → (S.owed t).length < fuel →
      ∃ pages, ch fuel i t = some pages ∧ (pages.map S.items).flatten = S.owed t ∧
        pages.length ≤ (S.owed t).length + 1 ∧ ∀ j p, pages[j]? = some p → Q (i + j) p := by
  intro fuel
  induction fuel with
  | zero => intro i t _ h; omega
  | succ fuel ih =>
    intro i t hv hfuel
    obtain ⟨p, hp, hsv, hq⟩ := hcall i t hv
    have := hc i
    cases hn : S.next p with
    | none =>
      refine ⟨[p], hch.last hp hn fuel, ?_, by simp, forall_getElem?_cons.mpr ⟨hq, by simp⟩⟩
      simp only [List.map_cons, List.map_nil, List.flatten_cons, List.flatten_nil, List.append_nil,
        hsv.items_last hslack hn]
    | some k =>
      obtain ⟨hv', hle, hrest⟩ := hsv.more k hn
      have hlen : (S.owed (S.tok k)).length = (S.owed t).length - cnt i := by rw [hrest, List.length_drop]
      obtain ⟨pages, hpg, hfl, hl, hb⟩ := ih (i + 1) (S.tok k) hv' (by omega)
      refine ⟨p :: pages, by rw [hch.more hp hn, hpg]; rfl, ?_, by simp only [List.length_cons]; omega,
        forall_getElem?_cons.mpr ⟨hq, fun j q hj => Nat.add_right_comm i j 1 ▸ hb j q hj⟩⟩
      simp only [List.map_cons, List.flatten_cons, hfl, hsv.items_more hn]

theorem Follows.shape (hch : Follows ch call S.next S.tok) {c : Nat} (hc : 1 ≤ c) {Q : Nat → P → Prop}
    (hcall : ∀ i t, S.valid t → ∃ p, call i t = .ok p ∧ Serves S c t p ∧ Q i p) :
    ∀ fuel i t, S.valid t → (S.owed t).length < fuel →
      ∃ pages, ch fuel i t = some pages ∧ pages.length = ((S.owed t).length - S.slack) / c + 1 ∧
        ∀ j p, pages[j]? = some p →
          S.items p = ((S.owed t).drop (j * c)).take c ∧ (S.next p = none ↔ j + 1 = pages.length) ∧ Q (i + j) p := by
  intro fuel
  induction fuel with
  | zero => intro i t _ h; omega
  | succ fuel ih =>
    intro i t hv hfuel
    obtain ⟨p, hp, hsv, hq⟩ := hcall i t hv
    cases hn : S.next p with
    | none =>
      have := hsv.last hn
      refine ⟨[p], hch.last hp hn fuel, ?_, forall_getElem?_cons.mpr ⟨⟨by simpa using hsv.items, by simp [hn], hq⟩, by simp⟩⟩
      rw [Nat.div_eq_of_lt (by omega)]; rfl
    | some k =>
      obtain ⟨hv', hle, hrest⟩ := hsv.more k hn
      have hlen : (S.owed (S.tok k)).length = (S.owed t).length - c := by rw [hrest, List.length_drop]
      obtain ⟨pages, hpg, hl, hb⟩ := ih (i + 1) (S.tok k) hv' (by omega)
      refine ⟨p :: pages, by rw [hch.more hp hn, hpg]; rfl, ?_,
        forall_getElem?_cons.mpr ⟨⟨by simpa using hsv.items, by simp [hn, hl], hq⟩, fun j q hj => ?_⟩⟩
      · rw [List.length_cons, hl, hlen, Nat.div_eq_sub_div hc (by omega : c ≤ (S.owed t).length - S.slack)]
        -- the two quotients have the same numerator: m - c - slack = m - slack - c
        congr 3; omega
      · obtain ⟨h1, h2, h3⟩ := hb j q hj
        rw [h1, h2, hrest, List.drop_drop, Nat.succ_mul, List.length_cons]
        -- page j of the rest starts at c + j·c = j·c + c
        exact ⟨by congr 2; omega, by omega, Nat.add_right_comm i j 1 ▸ h3⟩

end ScVerif.C15
