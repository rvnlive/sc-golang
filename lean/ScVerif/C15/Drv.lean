import ScVerif.Base.Line
import ScVerif.C15.Paging
import ScVerif.C15.Store
import ScVerif.C15.Records
import ScVerif.C15.Icpt
import ScVerif.C15.Hooks
/-! Driver handler for C15: the state is the collection as records (`keys` line: its ids in ANY order, each
record carrying its id as key field and stored under the intercepted id; `sop` lines: the creation / update /
deletion operations of `Records.lean` / `Icpt.lean`), the collection's id interceptor, and what the List RPCs page
over, `flisting` (the key fields in ascending order); `listing` is `Collection.List` (`rlisting`).

```
icpt <id|lower|upper|ns>            → ok                (resource.WithIDInterceptor of the collection, for the lines that follow)
keys <hex,hex,…|->                 → ok <n>            (ids in insertion order; the model sorts)
sop add <hex|-> <hex|->            → ok <hex> | exists | aborted     (id or "-" = empty: generate; candidate id)
sop ensure <hex|->                 → ok <hex> | rejected
sop updm <hex|-> <0|1> <n|k|x|e>   → ok <hex> | notfound | rejected   (Update*(message): create-if-absent; update mask none / with key / without key / non-nil without paths)
sop updi <hex|-> <hex|-> <0|1> <n|k|x|e> → the same for UpdatePublication(id, message carrying that Id)
sop delete <hex|-> <0|1>           → ok <hex> | notfound               (1: allow-missing)
sop initial <hex|->                → ok <hex> | exists | rejected      (a WithInitial… record)
sop hook <hex|-> <w|r|z>           → ok <hex> | failed | notfound | rejected   (Update*(message, InterceptBefore(cb)) without mask: the callback leaves the written key / makes the message a copy of the stored one and records an error / drops the key and records an error; vending Dispense)
sop dispense <hex|-> <u|-> <u|-> <u> → the same for the callback of vending DispenseInstantly: units (enum numbers) Used / Remaining are kept in ("-": not kept), unit dispensed
sop raw <hex|-> <hex|->            → ok <hex> | exists                 (resource.WithInitialRecord(storage id, message with that key field))
listing                            → <hex,…|->        (Collection.List: items by storage id, shown by key field)
page <gt|ge> <size> <E|B|K<hex>>   → ok <hex,…|-> <N|T<hex>> <total> | err <Code> | panic
codec <gt|ge> <hex bytes>           → <first page> | <page after its token>   or   invalid (not UTF-8)
waste <n> <size> <E|B|I<int>> [vis] → ok <i,…|-> <N|T<int>> <total>   | err <Code> | panic   (vis=0: ids hidden, items print as _)
```
Keys travel as the hex of their UTF-8 bytes. -/
namespace ScVerif.C15
open ScVerif.Line

def hexVal? (c : Char) : Option Nat :=
  if '0' ≤ c ∧ c ≤ '9' then some (c.toNat - '0'.toNat)
  else if 'a' ≤ c ∧ c ≤ 'f' then some (c.toNat - 'a'.toNat + 10)
  else none

def hexBytes? : List Char → Option (List UInt8)
  | [] => some []
  | [_] => none
  | a :: b :: rest => do
    let x ← hexVal? a
    let y ← hexVal? b
    let r ← hexBytes? rest
    pure (UInt8.ofNat (x * 16 + y) :: r)

def unhex? (s : String) : Option String := do
  let bs ← hexBytes? s.toList
  String.fromUTF8? (ByteArray.mk bs.toArray)

def hexDigit (n : Nat) : Char := if n < 10 then Char.ofNat (n + 48) else Char.ofNat (n + 87)

def hex (s : String) : String :=
  String.ofList (s.toUTF8.toList.flatMap fun b => [hexDigit (b.toNat / 16), hexDigit (b.toNat % 16)])

def parseKeys? (s : String) : Option (List String) :=
  if s = "-" then some [] else (s.splitOn ",").mapM unhex?

def showKeys (ks : List String) : String :=
  if ks.isEmpty then "-" else ",".intercalate (ks.map hex)

def parseTok? (s : String) : Option Tok :=
  if s = "E" then some .empty
  else if s = "B" then some .bad
  else if s.startsWith "K" then (unhex? (s.drop 1).toString).map .key
  else none

def parseWTok? (s : String) : Option WTok :=
  if s = "E" then some .empty
  else if s = "B" then some .bad
  else if s.startsWith "I" then (parseInt? (s.drop 1).toString).map .idx
  else none

def parseVariant? (s : String) : Option Variant :=
  if s = "gt" then some .gt else if s = "ge" then some .ge else none

def showPage : Out Page → String
  | .ok p => s!"ok {showKeys p.items} {match p.next with | none => "N" | some k => "T" ++ hex k} {p.total}"
  | .err c => "err " ++ c.name
  | .panic => "panic"

def showWPage : Out WPage → String
  | .ok p =>
    let items := if p.items.isEmpty then "-" else ",".intercalate (p.items.map toString)
    s!"ok {items} {match p.next with | none => "N" | some k => "T" ++ toString k} {p.total}"
  | .err c => "err " ++ c.name
  | .panic => "panic"

def unhexId? (s : String) : Option String := if s = "-" then some "" else unhex? s

def showRes : StoreRes → String
  | .ok id => "ok " ++ (if id = "" then "-" else hex id)
  | .alreadyExists => "exists"
  | .notFound => "notfound"
  | .aborted => "aborted"
  | .rejected => "rejected"

/-- Driver state: the collection's records and what the List RPC sees of them (`flisting`, recomputed after every change). -/
structure St where
  recs : RStore := []
  /-- what the List RPCs page over: the key fields in ascending order (`flisting`) -/
  keys : List String := []
  /-- the collection's id interceptor -/
  f : String → String := id

def St.apply (st : St) (op : RecOp) : St × String :=
  let r := st.recs.istep st.f op
  ({ st with recs := r.1, keys := flisting r.1 }, showRes r.2)

def parseIcpt? (s : String) : Option (String → String) :=
  if s = "id" then some id else if s = "lower" then some asciiLower else if s = "upper" then some asciiUpper
  else if s = "ns" then some (fun x => if x = "" then "ns/" else x) else none

def parseMask? (s : String) : Option Mask :=
  if s = "n" then some .none else if s = "k" then some .withKey else if s = "x" then some .withoutKey
  else if s = "e" then some .empty else none

def stepSt (st : St) (toks : List String) : Option (St × String) :=
  match toks with
  | ["icpt", name] => do
    let f ← parseIcpt? name
    pure ({ st with f := f }, "ok")
  | ["keys", ks] => do
    let l ← parseKeys? ks
    let recs : RStore := l.map fun id => { id := st.f id, key := id }
    pure ({ st with recs := recs, keys := flisting recs }, s!"ok {l.length}")
  | ["sop", "add", id, cand] => do
    let id ← unhexId? id
    let cand ← unhexId? cand
    pure (st.apply (.add id (fun _ => cand)))
  | ["sop", "ensure", id] => do
    let id ← unhexId? id
    pure (st.apply (.ensure id))
  | ["sop", "updm", id, up, mask] => do
    let id ← unhexId? id
    let up ← parseBool? up
    let mask ← parseMask? mask
    pure (st.apply (.updateMsg id up mask))
  | ["sop", "updi", id, msgKey, up, mask] => do
    let id ← unhexId? id
    let msgKey ← unhexId? msgKey
    let up ← parseBool? up
    let mask ← parseMask? mask
    pure (st.apply (.updateId id msgKey up mask))
  | ["sop", "delete", id, allow] => do
    let id ← unhexId? id
    let allow ← parseBool? allow
    pure (st.apply (.delete id allow))
  | ["sop", "initial", id] => do
    let id ← unhexId? id
    pure (st.apply (.initial id))
  | ["sop", "hook", id, g] => do
    let id ← unhexId? id
    let g ← (if g = "w" then some keepNew else if g = "r" then some restoreOld else if g = "z" then some dropKey else none)
    let r := st.recs.hstep st.f (.hooked id g)
    pure ({ st with recs := r.1, keys := flisting r.1 }, match r.2 with | .res x => showRes x | .failed => "failed")
  | ["sop", "dispense", id, used, rem, q] => do
    -- vending Dispense of a stock that keeps Used / Remaining in the given units ("-": not kept), quantity in unit q
    let id ← unhexId? id
    let used ← (if used = "-" then some none else (parseNat? used).map some)
    let rem ← (if rem = "-" then some none else (parseNat? rem).map some)
    let q ← parseNat? q
    let r := st.recs.hstep st.f (.hooked id (dispenseHook used rem q))
    pure ({ st with recs := r.1, keys := flisting r.1 }, match r.2 with | .res x => showRes x | .failed => "failed")
  | ["sop", "raw", sid, key] => do
    -- resource.WithInitialRecord(sid, message whose key field is `key`): a raw resource option, not an API of the models
    let sid ← unhexId? sid
    let key ← unhexId? key
    if st.f sid ∈ st.recs.ids then pure (st, "exists")
    else
      let recs : RStore := { id := st.f sid, key := key } :: st.recs
      pure ({ st with recs := recs, keys := flisting recs }, "ok " ++ (if key = "" then "-" else hex key))
  | ["listing"] => pure (st, showKeys (rlisting st.recs))
  | _ => none

def showWShown : Out WShown → String
  | .ok p =>
    let items := if p.items.isEmpty then "-" else ",".intercalate (p.items.map fun | some i => toString i | none => "_")
    s!"ok {items} {match p.next with | none => "N" | some k => "T" ++ toString k} {p.total}"
  | .err c => "err " ++ c.name
  | .panic => "panic"

def step (keys : List String) (toks : List String) : Option (List String × String) :=
  match toks with
  | ["page", v, size, tok] => do
    let v ← parseVariant? v
    let size ← parseInt? size
    let tok ← parseTok? tok
    pure (keys, showPage (listPage v keys tok size))
  | ["page", v, size, tok, vis] => do
    let v ← parseVariant? v
    let size ← parseInt? size
    let tok ← parseTok? tok
    let vis ← parseBool? vis
    pure (keys, showPage (listPageMasked v keys tok size vis))
  | ["codec", v, h] => do
    -- a one-item listing whose key is the given byte string: mint a token from it and use it
    let v ← parseVariant? v
    let bs ← hexBytes? h.toList
    match String.fromUTF8? (ByteArray.mk bs.toArray) with
    | none => pure (keys, "invalid")        -- not a string: a protobuf string field cannot carry it
    | some s =>
      pure (keys, showPage (listPage v [s] .empty 1) ++ " | " ++ showPage (listPage v [s] (.key s) 1))
  | ["waste", n, size, tok] => do
    let n ← parseNat? n
    let size ← parseInt? size
    let tok ← parseWTok? tok
    pure (keys, showWPage (listWaste n tok size))
  | ["waste", n, size, tok, vis] => do
    let n ← parseNat? n
    let size ← parseInt? size
    let tok ← parseWTok? tok
    let vis ← parseBool? vis
    pure (keys, showWShown (listWasteMasked n tok size vis))
  | _ => none

def handleS (st : St) (toks : List String) : St × String :=
  match stepSt st toks with
  | some r => r
  | none =>
    match step st.keys toks with
    | some r => (st, r.2)
    | none => (st, "!bad-op")

end ScVerif.C15
