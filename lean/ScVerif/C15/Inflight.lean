/-!
C15 — writes in flight while a client pages.

The property holds the contents fixed while paging.  A write that is REFUSED does not change the contents, so a
client paging while such a write is being processed must see exactly the collection as it is: the write APIs of the
models take the caller's `resource.WriteOption`s (`WithExpectedCheck`, `WithExpectedValue`, update masks on a model
with `WithWritableFields`, interceptors), whose callbacks run with NO lock held (`GetAndUpdate`'s contract), so "being
processed" lasts as long as the caller's callback and List calls can run in the middle of it.

The code has two phases per write, and only the second touches what the listers read:

* `Collection.Update` / `Value.Set` (`GetAndUpdate`): read under RLock → preconditions, callbacks, merge with no
  lock held (the verdict: accepted or refused) → under Lock re-check and store (`byId[id] = …`) — only if accepted;
* wastepb `AddWasteRecord(wr, opts…)`: `lastWasteRecord.Set(wr, opts…)` first (the verdict), and only an accepted
  record is appended to `allWasteRecords` — the slice `GetWasteRecordCount` / `ListWasteRecords` read.

`Sys σ` is that structure for any state `σ` (the records of a collection, the record list of waste): the committed
state and the calls that are inside their verdict phase, each with its verdict and with what it will do to the state
when it commits.  Events: a call enters (`begin`), a call leaves (`finish i`: commits if accepted, vanishes if
refused); List calls read `st` at any point in between and keep nothing from one call to the next (each reads the
collection / the record slice again).
-/
namespace ScVerif.C15

structure Sys (σ : Type) where
  /-- what the listers read: `byId` / `allWasteRecords` -/
  st : σ
  /-- calls between their first read and their commit: (accepted?, the commit) -/
  pending : List (Bool × (σ → σ))

inductive Ev (σ : Type) where
  | begin (accept : Bool) (commit : σ → σ)
  | finish (i : Nat)

/-- `finish i` names the call by its place among those in flight; an `i` that names none changes nothing, so every
event list is an interleaving. -/
def Sys.step {σ} (s : Sys σ) : Ev σ → Sys σ
  | .begin a c => { s with pending := s.pending ++ [(a, c)] }
  | .finish i =>
    match s.pending[i]? with
    | none => s
    | some (a, c) => { st := if a then c s.st else s.st, pending := s.pending.eraseIdx i }

def Sys.run {σ} (s : Sys σ) : List (Ev σ) → Sys σ
  | [] => s
  | e :: es => Sys.run (s.step e) es

/-- The hypothesis of `C15_refused_writes_invisible`: the calls in flight and those that enter are all refused ones. -/
def AllRefused {σ} (s : Sys σ) (evs : List (Ev σ)) : Prop :=
  (∀ p ∈ s.pending, p.1 = false) ∧ ∀ a c, Ev.begin a c ∈ evs → a = false

/-- The commits that take effect along an interleaving, in the order in which their calls finish. -/
def Sys.commits {σ} (s : Sys σ) : List (Ev σ) → List (σ → σ)
  | [] => []
  | e :: es =>
    (match e with
     | .finish i =>
       match s.pending[i]? with
       | some (true, c) => [c]
       | _ => []
     | .begin _ _ => []) ++ Sys.commits (s.step e) es

def applyAll {σ} (st : σ) (cs : List (σ → σ)) : σ := cs.foldl (fun st c => c st) st

theorem applyAll_append {σ} (st : σ) (a b : List (σ → σ)) : applyAll st (a ++ b) = applyAll (applyAll st a) b := by
  simp [applyAll, List.foldl_append]

theorem run_st_commits {σ} : ∀ (evs : List (Ev σ)) (s : Sys σ), (s.run evs).st = applyAll s.st (s.commits evs) := by
  intro evs
  induction evs with
  | nil => intro s; rfl
  | cons e es ih =>
    intro s
    simp only [Sys.run, Sys.commits]
    rw [ih (s.step e), applyAll_append]
    congr 1
    -- the step's own commit, if it releases one
    cases e with
    | begin a c => rfl
    | finish i =>
      simp only [Sys.step]
      cases hi : s.pending[i]? with
      | none => rfl
      | some ac =>
        obtain ⟨a, c⟩ := ac
        cases a <;> simp [applyAll]

theorem commits_refused {σ} : ∀ (evs : List (Ev σ)) (s : Sys σ), AllRefused s evs → s.commits evs = [] := by
  intro evs
  induction evs with
  | nil => intro s _; rfl
  | cons e es ih =>
    intro s ⟨hp, he⟩
    have hes : ∀ a c, Ev.begin a c ∈ es → a = false := fun a c hm => he a c (List.mem_cons_of_mem _ hm)
    simp only [Sys.commits]
    cases e with
    | begin a c =>
      refine ih _ ⟨fun p hm => ?_, hes⟩
      rcases List.mem_append.mp hm with hm | hm
      · exact hp p hm
      · rw [List.mem_singleton.mp hm]; exact he a c List.mem_cons_self
    | finish i =>
      simp only [Sys.step]
      cases hi : s.pending[i]? with
      | none => exact ih _ ⟨hp, hes⟩
      | some ac =>
        obtain ⟨a, c⟩ := ac
        cases hp (a, c) (List.mem_of_getElem? hi)
        exact ih _ ⟨fun p hm => hp p (List.mem_of_mem_eraseIdx hm), hes⟩

theorem run_append {σ} : ∀ (a b : List (Ev σ)) (s : Sys σ), s.run (a ++ b) = (s.run a).run b := by
  intro a
  induction a with
  | nil => intro b s; rfl
  | cons e es ih => intro b s; simp only [List.cons_append, Sys.run]; exact ih b _

theorem commits_append {σ} : ∀ (a b : List (Ev σ)) (s : Sys σ),
    s.commits (a ++ b) = s.commits a ++ (s.run a).commits b := by
  intro a
  induction a with
  | nil => intro b s; rfl
  | cons e es ih =>
    intro b s
    simp only [List.cons_append, Sys.commits, Sys.run, List.append_assoc]
    rw [ih b]

/-- wastepb `AddWasteRecord(r, opts…)` as a call of `Sys`: the commit appends the record. -/
def wasteAdd (accept : Bool) (r : Nat) : Ev (List Nat) := .begin accept (· ++ [r])

end ScVerif.C15
