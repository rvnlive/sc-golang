import ScVerif.C15.Icpt
/-!
C15 — writes that carry a write INTERCEPTOR (`resource.InterceptBefore`).

The stored records carry more than their key field, and some write entry points of the models decide what is
written from what is stored: `vendingpb.Model.DispenseInstantly(consumable, quantity)` (the `Dispense` RPC) runs

```go
m.UpdateStock(&Consumable_Stock{Consumable: consumable}, resource.InterceptBefore(func(old, new proto.Message) {
    if err := updateStock(quantity, oldVal, newVal); err != nil {   // unit conversion failed, perhaps half-way
        maskedErr = err
        proto.Reset(newVal); proto.Merge(newVal, oldVal)            // the write becomes a copy of the stored value
        return
    }
    newVal.LastDispensed = quantity; newVal.Dispensing = false
}))
```

There is no update mask, so every field of the message the callback leaves behind is written - the key field too.
As far as paging is concerned the callback is a function `g stored written ↦ key field of the message after it ran`,
plus whether it recorded an error that the call returns in place of the written value:

* a dispense that succeeds leaves the key field alone: `g old new = new` (`HOp.hooked k keepNew`);
* a dispense that fails makes the message a copy of the stored one: `g old new = old`, error (`restoreOld`);
* an "undo" that resets the message and puts back the quantities only is `g old new = ""` (`dropKey`): the item is
  then listed under the empty key (example in `Props.lean`).

`HOp` adds such writes to the operations of `Records.lean` / `Icpt.lean`; `RStore.hstep` follows
`Collection.Update` under the collection's id interceptor `f`: the empty id is refused (`UpdateStock`: "consumable
not specified"), an absent item is `NotFound` before the callback ever runs (no create-if-absent), an existing item
has its key field replaced by what the callback left.
-/
namespace ScVerif.C15

/-- A write interceptor as paging sees it: (key field stored, key field written) ↦ (key field of the message after
the callback ran, whether the callback recorded an error the call reports). -/
abbrev Hook := String → String → String × Bool

/-- The callback leaves the key field of the written message alone (a dispense that succeeds). -/
def keepNew : Hook := fun _ new => (new, false)
/-- The callback turns the written message into a copy of the stored one and records an error (a dispense whose
unit conversion fails: `proto.Reset(newVal); proto.Merge(newVal, oldVal)`). -/
def restoreOld : Hook := fun old _ => (old, true)
/-- An undo that forgets the key field (`proto.Reset(newVal)` and then only the quantities are put back). -/
def dropKey : Hook := fun _ _ => ("", true)

/-- The callback never invents a key: the message it leaves carries the stored key field or the written one. -/
def Hook.Tame (g : Hook) : Prop := ∀ old new, (g old new).1 = old ∨ (g old new).1 = new

theorem keepNew_tame : keepNew.Tame := fun _ _ => Or.inr rfl
theorem restoreOld_tame : restoreOld.Tame := fun _ _ => Or.inl rfl

/-! ### The callback of `DispenseInstantly`

`updateStock(quantity, src, dst)` converts the dispensed amount into the unit `src.Used` is kept in, then into the
unit of `src.Remaining` (each only if present), with `unitpb.Convert32`: equal units convert, otherwise both units
must be in the table `siUnits` and of one category.  Units are `traits.Consumable.Unit` enum numbers:
0 unspecified, 1 no unit, 2 metre (length), 3 litre, 4 cubic metre, 5 cup (volume), 6 kilogram (weight). -/

/-- `siUnits[u].category`: 0 length, 1 volume, 2 weight; `none` = not in the table. -/
def unitCat (u : Nat) : Option Nat :=
  if u = 2 then some 0 else if u = 3 ∨ u = 4 ∨ u = 5 then some 1 else if u = 6 then some 2 else none

/-- `unitpb.Convert(v, from, to)` returns no error. -/
def convertOk (frm to : Nat) : Bool :=
  frm == to || (match unitCat frm, unitCat to with
    | some a, some b => a == b
    | _, _ => false)

/-- `updateStock` returns an error - at once (Used does not convert) or half-way (Used did, Remaining does not). -/
def dispenseFails (used remaining : Option Nat) (q : Nat) : Bool :=
  (match used with | some u => !convertOk q u | none => false) ||
  (match remaining with | some u => !convertOk q u | none => false)

/-- The callback `DispenseInstantly` hands to `UpdateStock`, for a stock whose Used / Remaining are kept in the given
units (`none`: not kept) and a quantity in unit `q`. -/
def dispenseHook (used remaining : Option Nat) (q : Nat) : Hook :=
  if dispenseFails used remaining q then restoreOld else keepNew

theorem dispenseHook_tame (used remaining : Option Nat) (q : Nat) : (dispenseHook used remaining q).Tame := by
  unfold dispenseHook
  split
  · exact restoreOld_tame
  · exact keepNew_tame

inductive HOp where
  /-- an operation of `Records.lean` -/
  | plain (op : RecOp)
  /-- `Update*(msg{key: k}, InterceptBefore(g))`, no update mask, no create-if-absent -/
  | hooked (k : String) (g : Hook)

/-- The outcome of a hooked write: the callback's error replaces the result of a write that went through. -/
inductive HRes where
  | res (r : StoreRes)
  /-- the write went through (whatever the callback left was stored) and the call returned the callback's error -/
  | failed
  deriving DecidableEq

def RStore.hstep (f : String → String) (s : RStore) : HOp → RStore × HRes
  | .plain op => let r := s.istep f op; (r.1, .res r.2)
  | .hooked k g =>
    if k = "" then (s, .res .rejected)
    else if f k ∈ s.ids then
      (s.map (fun r => if r.id = f k then { r with key := (g r.key k).1 } else r),
        if (g (s.keyOf (f k)) k).2 then .failed else .res (.ok (g (s.keyOf (f k)) k).1))
    else (s, .res .notFound)

def RStore.hrun (f : String → String) (s : RStore) : List HOp → RStore
  | [] => s
  | op :: ops => RStore.hrun f (s.hstep f op).1 ops

def HOp.Tame : HOp → Prop
  | .plain _ => True
  | .hooked _ g => g.Tame

/-- What a hooked write does to the store: nothing when the id is empty or absent, else it re-keys the item under `f k`. -/
theorem RStore.hstep_hooked_fst (f : String → String) (s : RStore) (k : String) (g : Hook) :
    (s.hstep f (.hooked k g)).1 = if k ≠ "" ∧ f k ∈ s.ids then
      s.map (fun r => if r.id = f k then { r with key := (g r.key k).1 } else r) else s := by
  simp only [RStore.hstep]
  by_cases hk : k = ""
  · simp [hk]
  · by_cases hm : f k ∈ s.ids <;> simp [hk, hm]

/-- A hooked write with a tame callback keeps the invariant: the item stays under its storage id, and its key field
is the stored one (which had the invariant) or the written one (`k`, not empty, stored under `f k`). -/
theorem RStore.hstep_iinv {f : String → String} (hf : GoodIcpt f) (s : RStore) (op : HOp) (ht : op.Tame)
    (h : s.IInv f) : (s.hstep f op).1.IInv f := by
  cases op with
  | plain op => exact s.istep_iinv hf op h
  | hooked k g =>
    rw [RStore.hstep_hooked_fst]
    split
    · rename_i hkm
      refine RStore.iinv_rekey h (f k) (fun old => (g old k).1) (fun r hr e => ?_)
      rcases ht r.key k with ho | hn
      · rw [ho]; exact ⟨e.symm.trans (h.2 r hr).1, (h.2 r hr).2⟩
      · rw [hn]; exact ⟨rfl, hkm.1⟩
    · exact h

theorem RStore.hrun_iinv {f : String → String} (hf : GoodIcpt f) : ∀ (ops : List HOp) (s : RStore),
    (∀ op ∈ ops, op.Tame) → s.IInv f → (s.hrun f ops).IInv f := by
  intro ops
  induction ops with
  | nil => intro s _ h; exact h
  | cons op ops ih =>
    intro s ht h
    exact ih _ (fun o ho => ht o (List.mem_cons_of_mem _ ho))
      (s.hstep_iinv hf op (ht op List.mem_cons_self) h)

theorem RStore.hstep_restore (f : String → String) (s : RStore) (k : String) (g : Hook)
    (hg : ∀ old new, (g old new).1 = old) : (s.hstep f (.hooked k g)).1 = s := by
  rw [RStore.hstep_hooked_fst]
  split
  · conv => rhs; rw [← List.map_id s]
    apply List.map_congr_left
    intro r _
    split
    · rw [hg]; rfl
    · rfl
  · rfl

theorem RStore.hrun_plain (f : String → String) : ∀ (ops : List RecOp) (s : RStore),
    s.hrun f (ops.map .plain) = s.irun f ops := by
  intro ops
  induction ops with
  | nil => intro s; rfl
  | cons op ops ih => intro s; simp only [List.map_cons, RStore.hrun, RStore.hstep, RStore.irun]; exact ih _

end ScVerif.C15
