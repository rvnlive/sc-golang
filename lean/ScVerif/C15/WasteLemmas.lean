import ScVerif.C15.Spec
import ScVerif.C15.Follow
/-! waste's index paging: one call in closed form (`listWaste_idx_ok`), which serves its token with the records below it
(`listWaste_serves`); the chain theorems are those of `Follow.lean` with `slack = 1`. -/
namespace ScVerif.C15

theorem down_eq : ∀ k m, down k m = (List.range k).reverse.take m := by
  intro k
  induction k with
  | zero => intro m; simp [down]
  | succ k ih =>
    intro m
    cases m with
    | zero => rfl
    | succ m => rw [down, ih, List.range_succ, List.reverse_append]; rfl

theorem length_down (k m : Nat) : (down k m).length = min k m := by
  rw [down_eq, List.length_take, List.length_reverse, List.length_range, Nat.min_comm]

theorem reverse_range_drop (k m : Nat) : (List.range k).reverse.drop m = (List.range (k - m)).reverse := by
  rw [List.drop_reverse, List.length_range, List.take_range, Nat.min_eq_left (Nat.sub_le k m)]

/-- Go compares `count` with `len(acc)`, so the invariant of the loop is "`c` more to collect". -/
theorem wasteLoop_spec (n : Nat) : ∀ k (acc : List Nat) (c : Nat), k ≤ n → 1 ≤ c →
    wasteLoop n ((acc.length + c : Nat) : Int) k acc = .ok (acc ++ down k c) := by
  intro k
  induction k with
  | zero => intro acc c _ _; simp [wasteLoop, down]
  | succ k ih =>
    intro acc c hk hc
    unfold wasteLoop
    have hkn : k < n := by omega
    simp only [hkn, if_true]
    by_cases h1 : c = 1
    · subst h1
      have : ((acc.length + 1 : Nat) : Int) ≤ ((acc ++ [k]).length : Nat) := by simp
      simp only [this, if_true, down, down_zero]
    · have : ¬ ((acc.length + c : Nat) : Int) ≤ ((acc ++ [k]).length : Nat) := by
        simp only [List.length_append, List.length_cons, List.length_nil]; omega
      simp only [this, if_false]
      have h2 : acc.length + c = (acc ++ [k]).length + (c - 1) := by
        simp only [List.length_append, List.length_cons, List.length_nil]; omega
      rw [h2, ih (acc ++ [k]) (c - 1) (by omega) (by omega)]
      obtain ⟨c', rfl⟩ : ∃ c', c = c' + 1 := ⟨c - 1, by omega⟩
      simp [down]

/-- What a call answers that starts below record `start` and may return `c` records: `start-1` downwards, and the index
`start - c` as token when records are left below it (`wastePageOf`: `count = len(recs)` and `start - count > 0`). -/
def wpageAt (n start c : Nat) : WPage :=
  ⟨down start c, if c < start then some ((start : Int) - c) else none, n⟩

theorem wastePageOf_ok (n : Nat) {start c : Nat} (hstart : start ≤ n) (hc : 1 ≤ c) :
    wastePageOf n (start : Int) (c : Int) = .ok (wpageAt n start c) := by
  have h := wasteLoop_spec n start [] c hstart hc
  simp only [List.length_nil, Nat.zero_add, List.nil_append] at h
  simp only [wastePageOf, wasteRecords, Int.toNat_natCast, h, length_down, wpageAt]
  -- Go mints a token when `count = len(recs)` and `start - count > 0`; with `len = min start c` that is `c < start`
  congr 2
  by_cases hlt : c < start
  · rw [if_pos (by omega), if_pos (by omega), if_pos hlt]
  · by_cases he : (c : Int) = ((min start c : Nat) : Int)
    · rw [if_pos he, if_neg (by omega), if_neg hlt]
    · rw [if_neg he, if_neg hlt]

/-- waste caps the page size as `capPageSize` does (the same constants, written out). -/
theorem wasteCount_eq (size : Int) : wasteCount size = capPageSize size := rfl

theorem listWaste_idx_ok (n : Nat) {start : Nat} (size : Int) (hstart : start ≤ n) (hsz : 0 ≤ size) :
    listWaste n (.idx start) size = .ok (wpageAt n start (wasteCount size).toNat) := by
  have hc := (capPageSize_spec hsz).1
  rw [wasteCount_eq]
  obtain ⟨c, hcc⟩ : ∃ c : Nat, capPageSize size = (c : Int) := ⟨(capPageSize size).toNat, by omega⟩
  have hr : ¬ ((start : Int) < 0 ∨ (start : Int) > n) := by omega
  simp only [listWaste, hr, if_false, show ¬ size < 0 by omega, wasteCount_eq]
  rw [hcc, wastePageOf_ok n hstart (by omega), Int.toNat_natCast]

theorem listWaste_empty (n : Nat) (size : Int) : listWaste n .empty size = listWaste n (.idx n) size := by
  have hr : ¬ ((n : Int) < 0 ∨ (n : Int) > n) := by omega
  simp only [listWaste, hr, if_false]

theorem listWaste_idx_err (n : Nat) {i size : Int} (h : (i < 0 ∨ i > n) ∨ size < 0) :
    listWaste n (.idx i) size = .err .invalidArgument := by
  rcases h with h | h
  · simp only [listWaste, h, if_true]
  · simp only [listWaste, h, if_true, ite_self]

/-- How ListWasteRecords pages over `n` records: the empty token and the index tokens `0..n` are owed the records below
them, newest first; a token is minted only when something is left, so there is no trailing empty page. -/
def wasteScheme (n : Nat) : Scheme WTok Int WPage Nat where
  valid
    | .empty => True
    | .idx s => 0 ≤ s ∧ s ≤ n
    | .bad => False
  owed
    | .empty => (List.range n).reverse
    | .idx s => (List.range s.toNat).reverse
    | .bad => []
  items := WPage.items
  next := WPage.next
  tok := WTok.idx
  slack := 1

theorem wasteChain_follows (n : Nat) (size : Nat → Int) :
    Follows (wasteChain n size) (fun i tok => listWaste n tok (size i)) WPage.next WTok.idx :=
  ⟨fun hp hn _ => by rw [wasteChain, hp]; simp only [hn], fun hp hn _ => by rw [wasteChain, hp]; simp only [hn]⟩

theorem wpageAt_serves (n : Nat) {start : Nat} (hstart : start ≤ n) {c : Nat} (hc : 1 ≤ c) :
    Serves (wasteScheme n) c (.idx start) (wpageAt n start c) := by
  have hlen : ((wasteScheme n).owed (.idx start)).length = start := by simp [wasteScheme]
  refine .of_ite (down_eq _ _) rfl (by rw [hlen]; show _ ↔ c + 1 ≤ _; omega) fun hlt => ⟨?_, ?_⟩
  · show 0 ≤ (start : Int) - c ∧ (start : Int) - c ≤ n
    omega
  · show (List.range ((start : Int) - c).toNat).reverse = (List.range (start : Int).toNat).reverse.drop c
    rw [show ((start : Int) - c).toNat = start - c by omega, Int.toNat_natCast, reverse_range_drop]

theorem listWaste_serves (n : Nat) {t : WTok} (ht : (wasteScheme n).valid t) {size : Int} (hsz : 0 ≤ size) :
    ∃ p, listWaste n t size = .ok p ∧ Serves (wasteScheme n) (wasteCount size).toNat t p ∧
      (p.items.length : Int) ≤ allowed size ∧ p.total = n := by
  have hc : 1 ≤ (wasteCount size).toNat := capPageSize_toNat_pos hsz
  cases t with
  | bad => exact ht.elim
  | empty =>
    -- the empty token is the index token `n`: the same call, and owed the same by `rfl` (`Int.toNat_natCast`), so the
    -- fields of `h` serve it as they are
    have h := wpageAt_serves n (Nat.le_refl n) hc
    exact ⟨_, listWaste_empty n size ▸ listWaste_idx_ok n size (Nat.le_refl n) hsz, ⟨h.items, h.more, h.last⟩,
      le_allowed hsz h.length_le, rfl⟩
  | idx s =>
    obtain ⟨start, rfl⟩ : ∃ start : Nat, s = (start : Int) := ⟨s.toNat, by have := ht.1; omega⟩
    have hstart : start ≤ n := by have := ht.2; omega
    have h := wpageAt_serves n hstart hc
    exact ⟨_, listWaste_idx_ok n size hstart hsz, h, le_allowed hsz h.length_le, rfl⟩

theorem listWaste_err (n : Nat) {t : WTok} {size : Int} (h : ¬ (wasteScheme n).valid t ∨ size < 0) :
    listWaste n t size = .err (if t = .bad then .unknown else .invalidArgument) := by
  cases t with
  | bad => rfl
  | empty => rw [listWaste_empty, listWaste_idx_err n (Or.inr (h.resolve_left fun h => h trivial))]; rfl
  | idx i =>
    refine listWaste_idx_err n (h.imp_left fun hv => ?_)
    have : ¬ (0 ≤ i ∧ i ≤ n) := hv
    omega

theorem wasteChain_from (n : Nat) (size : Nat → Int) (hsz : ∀ i, 0 ≤ size i) (fuel i : Nat) {t : WTok}
    (ht : (wasteScheme n).valid t) {m : Nat} (hm : (wasteScheme n).owed t = (List.range m).reverse) (hfuel : m < fuel) :
    ∃ pages, wasteChain n size fuel i t = some pages ∧
      (pages.map (·.items)).flatten = (List.range m).reverse ∧ pages.length ≤ m + 1 ∧
      ∀ j p, pages[j]? = some p → (p.items.length : Int) ≤ allowed (size (i + j)) ∧ p.total = n := by
  have := (wasteChain_follows n size).enumerates (S := wasteScheme n) (Nat.le_refl 1)
    (fun i => capPageSize_toNat_pos (hsz i)) (fun i _ ht => listWaste_serves n ht (hsz i)) fuel i t ht
  rw [hm, List.length_reverse, List.length_range] at this
  exact this hfuel

theorem wasteChain_shape (n : Nat) {sz : Int} (hsz : 0 ≤ sz) (fuel i : Nat) {t : WTok}
    (ht : (wasteScheme n).valid t) {m : Nat} (hm : (wasteScheme n).owed t = (List.range m).reverse) (hfuel : m < fuel) :
    ∃ pages, wasteChain n (fun _ => sz) fuel i t = some pages ∧
      pages.length = (m - 1) / (wasteCount sz).toNat + 1 ∧
      ∀ j p, pages[j]? = some p →
        p.items = down (m - j * (wasteCount sz).toNat) (wasteCount sz).toNat ∧
        (p.next = none ↔ j + 1 = pages.length) ∧ (p.items.length : Int) ≤ allowed sz ∧ p.total = n := by
  have := (wasteChain_follows n _).shape (S := wasteScheme n) (c := (wasteCount sz).toNat) (capPageSize_toNat_pos hsz)
    (fun _ _ ht => listWaste_serves n ht hsz) fuel i t ht
  rw [hm, List.length_reverse, List.length_range] at this
  simp only [reverse_range_drop, ← down_eq] at this
  exact this hfuel

end ScVerif.C15
