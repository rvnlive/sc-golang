import ScVerif.C15.WasteLemmas
import ScVerif.C15.Store
import ScVerif.C15.Chain
import ScVerif.C15.Records
import ScVerif.C15.Icpt
import ScVerif.C15.Inflight
import ScVerif.C15.Hooks
/-!
# C15 — Paged List RPCs enumerate every item exactly once

Property (fixed text): for any collection contents (held fixed while paging) and any page sizes,
following next_page_token from the first page until it is empty returns every item exactly once in
the listing's order, each page no larger than requested (default 50, capped at 1000), with total_size
equal to the number of items.  A malformed page token or a negative page size is answered with an
error status, never a panic or an endless token chain.

The paging theorems are about `listPage` (ListModes, ListHails, ListChildren, ListPublications, ListConsumables,
ListInventory) and `listWaste` (ListWasteRecords) of `Paging.lean`, those from `C15_listing_canonical` on also about the
collection layer that supplies the listings (`Store`, `Records`, `Icpt`, `Hooks`, `Inflight`); all tied to /repo by the
harness on every run.  The hypotheses `Sorted keys` (`Collection.List` / parent's `sort.Slice`) and `"" ∉ keys` (every
creation API rejects or replaces an empty id) are proved for whatever the models' APIs build; every hypothesis has a
non-vacuity or necessity `example` at the end of the file.
-/
namespace ScVerif.C15

/-- The property on a strictly ascending listing without empty key; the page size may change from page to page. -/
theorem C15_enumerates (v : Variant) (keys : List String) (hs : Sorted keys) (hne : "" ∉ keys)
    (size : Nat → Int) (hsz : ∀ i, 0 ≤ size i) :
    ∃ pages, chain v keys size (keys.length + 1) 0 .empty = some pages ∧
      (pages.map (·.items)).flatten = keys ∧
      pages.length ≤ keys.length + 1 ∧
      ∀ j p, pages[j]? = some p → (p.items.length : Int) ≤ allowed (size j) ∧ p.total = keys.length := by
  obtain ⟨pages, h1, h2, -, -, h3, h4⟩ := chain_enumerates v hs hne size hsz rfl (fun _ => Iff.rfl)
  exact ⟨pages, h1, h2, h3, h4⟩

/-- "Never a panic": Go's index and slice bound checks (`Out.panic` in the model) are never hit, sorted listing or not. -/
theorem C15_any_token_no_panic (v : Variant) (keys : List String) (tok : Tok) (size : Int) :
    listPage v keys tok size ≠ .panic := by
  by_cases h : tok = .bad ∨ size < 0
  · rw [listPage_err v keys h]; exact fun e => nomatch e
  · rw [listPage_ok v keys tok size (fun e => h (Or.inl e)) (by omega)]; exact fun e => nomatch e

/-- The decoded key may be that of an item present, deleted or never present, garbage that happened to decode, or "". -/
theorem C15_any_token (v : Variant) (keys : List String) (hs : Sorted keys) (hne : "" ∉ keys)
    (size : Nat → Int) (hsz : ∀ i, 0 ≤ size i) (k : String) :
    ∃ pages, chain v keys size (keys.length + 1) 0 (.key k) = some pages ∧
      (pages.map (·.items)).flatten = after keys k ∧
      pages.length ≤ (after keys k).length + 1 ∧ pages.length ≤ keys.length + 1 ∧
      ∀ j p, pages[j]? = some p → (p.items.length : Int) ≤ allowed (size j) ∧ p.total = keys.length := by
  have hle := length_after_le keys k
  obtain ⟨pages, h1, h2, h3, h4⟩ := chain_after v hs hne size hsz (keys.length + 1) 0 (tok := .key k) (by simp)
    (by simp only [lastKeyOf_key]; omega)
  simp only [lastKeyOf_key, Nat.zero_add] at h2 h3 h4
  exact ⟨pages, h1, h2, h3, by omega, h4⟩

/-- "A malformed page token is answered with an error status": `decodePageToken` fails, InvalidArgument. -/
theorem C15_bad_token (v : Variant) (keys : List String) (size : Int) :
    listPage v keys .bad size = .err .invalidArgument :=
  listPage_err v keys (Or.inl rfl)

/-- "A negative page size is answered with an error status": the guard of f9325fa, InvalidArgument. -/
theorem C15_negative_size (v : Variant) (keys : List String) (tok : Tok) (size : Int) (h : size < 0) :
    listPage v keys tok size = .err .invalidArgument :=
  listPage_err v keys (Or.inr h)

/-- A read mask, whether or not it shows the key field, does not disturb paging (since 2829c35). -/
theorem C15_read_mask (v : Variant) (keys : List String) (hs : Sorted keys) (hne : "" ∉ keys)
    (size : Nat → Int) (hsz : ∀ i, 0 ≤ size i) (keyVisible : Bool) :
    (∀ fuel i tok, chainMasked v keys size keyVisible fuel i tok =
      (chain v keys size fuel i tok).map (·.map (Page.display keyVisible))) ∧
    (∀ tok sz, listPageMasked v keys tok sz keyVisible ≠ .panic) ∧
    ∃ pages, chainMasked v keys size keyVisible (keys.length + 1) 0 .empty = some pages ∧
      pages.length ≤ keys.length + 1 ∧
      ((pages.map (·.items)).flatten).length = keys.length ∧
      (keyVisible = true → (pages.map (·.items)).flatten = keys) ∧
      ∀ j p, pages[j]? = some p → (p.items.length : Int) ≤ allowed (size j) ∧ p.total = keys.length := by
  refine ⟨chainMasked_eq v keys size keyVisible, ?_, ?_⟩
  · intro tok sz hp
    -- `listPageMasked` is `.panic` only where `listPage` is
    rw [listPageMasked_eq] at hp
    cases h : listPage v keys tok sz with
    | panic => exact C15_any_token_no_panic v keys tok sz h
    | _ => rw [h] at hp; cases hp
  · obtain ⟨pages, h1, h2, h3, h4⟩ := C15_enumerates v keys hs hne size hsz
    refine ⟨pages.map (Page.display keyVisible), by rw [chainMasked_eq, h1]; rfl, by simpa using h3, ?_, ?_, ?_⟩
    · rw [← h2]
      simp only [List.length_flatten, List.map_map, Function.comp_def, display_items_length]
    · rintro rfl
      rwa [display_true, List.map_id]
    · intro j p hp
      simp only [List.getElem?_map, Option.map_eq_some_iff] at hp
      obtain ⟨q, hq, rfl⟩ := hp
      rw [display_items_length]
      exact h4 j q hq

/-- For ANY history (generated ids: ANY random candidates) both hypotheses hold of `Collection.List`, and it is the ids
of the set-specification in the only possible ascending order: it does not matter which algorithm `sort.Slice` runs. -/
theorem C15_listing_canonical (ops : List StoreOp) :
    Sorted (listing (Store.run [] ops)) ∧ "" ∉ listing (Store.run [] ops) ∧
    (∀ x, x ∈ listing (Store.run [] ops) ↔ IdSet.run (fun _ => false) ops x = true) ∧
    (∀ l', Sorted l' → (∀ x, x ∈ l' ↔ x ∈ Store.run [] ops) → l' = listing (Store.run [] ops)) := by
  have h := Store.run_good ops [] (fun _ => false) Store.good_nil
  have hs := sorted_sortKeys h.nodup
  refine ⟨hs, fun hm => h.noEmpty (mem_sortKeys.mp hm), fun x => ?_, fun l' hs' hm => ?_⟩
  · rw [← h.mem x]; exact mem_sortKeys
  · exact sorted_ext hs' hs (fun a => by rw [hm a]; exact mem_sortKeys.symm)

/-- The property with no hypothesis on the listing: any history of the collection. -/
theorem C15_any_contents (v : Variant) (ops : List StoreOp) (size : Nat → Int) (hsz : ∀ i, 0 ≤ size i) :
    ∃ pages, chain v (listing (Store.run [] ops)) size ((listing (Store.run [] ops)).length + 1) 0 .empty = some pages ∧
      (pages.map (·.items)).flatten = listing (Store.run [] ops) ∧
      ((pages.map (·.items)).flatten).Nodup ∧
      (∀ x, x ∈ (pages.map (·.items)).flatten ↔ IdSet.run (fun _ => false) ops x = true) ∧
      pages.length ≤ (Store.run [] ops).length + 1 ∧
      ∀ j p, pages[j]? = some p →
        (p.items.length : Int) ≤ allowed (size j) ∧ p.total = (Store.run [] ops).length := by
  obtain ⟨hs, hne, hset, -⟩ := C15_listing_canonical ops
  exact chain_enumerates v hs hne size hsz (length_sortKeys _) hset

/-- … and from a token decoding to any key (an id since deleted, never present, garbage).  `k ≠ ""` is not used: no listed key is empty, so `"" < x` holds of all of them. -/
theorem C15_any_token_any_contents (v : Variant) (ops : List StoreOp) (size : Nat → Int) (hsz : ∀ i, 0 ≤ size i)
    (k : String) (hk : k ≠ "") :
    ∃ pages, chain v (listing (Store.run [] ops)) size ((listing (Store.run [] ops)).length + 1) 0 (.key k) = some pages ∧
      pages.length ≤ (Store.run [] ops).length + 1 ∧
      Sorted ((pages.map (·.items)).flatten) ∧
      ∀ x, x ∈ (pages.map (·.items)).flatten ↔ (IdSet.run (fun _ => false) ops x = true ∧ k < x) := by
  obtain ⟨hs, hne, hset, -⟩ := C15_listing_canonical ops
  exact chain_enumerates_after v hs hne size hsz (length_sortKeys _) hset k

/-- One page size throughout: `n / c + 1` pages, so when `n` is a positive multiple of `c` the chain ends with one EMPTY
page. -/
theorem C15_page_shape (v : Variant) (ops : List StoreOp) (sz : Int) (hsz : 0 ≤ sz) :
    ∃ pages, chain v (listing (Store.run [] ops)) (fun _ => sz) ((listing (Store.run [] ops)).length + 1) 0 .empty = some pages ∧
      pages.length = (Store.run [] ops).length / (capPageSize sz).toNat + 1 ∧
      ∀ j p, pages[j]? = some p →
        p.items = ((listing (Store.run [] ops)).drop (j * (capPageSize sz).toNat)).take (capPageSize sz).toNat ∧
        (p.next = none ↔ j + 1 = pages.length) ∧ p.total = (Store.run [] ops).length := by
  obtain ⟨hs, hne, -, -⟩ := C15_listing_canonical ops
  rw [← length_sortKeys (Store.run [] ops)]
  obtain ⟨pages, h1, h2, h3⟩ := chain_shape v hs hne hsz ((listing (Store.run [] ops)).length + 1) 0 (tok := .empty)
    (by simp) (by simp only [lastKeyOf_empty, after_empty]; omega)
  simp only [lastKeyOf_empty, after_empty] at h2 h3
  exact ⟨pages, h1, h2, fun j p hp => ⟨(h3 j p hp).1, (h3 j p hp).2.1, (h3 j p hp).2.2.2⟩⟩

/-- `Collection.List` sorts the items by the id they are stored under; the List RPCs search, and mint tokens from, the
key FIELD of the stored messages.  For ANY history of the routes of `Records.lean` the two agree, so the RPC pages
over the sorted id list of `Store.lean` (a create-if-absent update is an `ensure`). -/
theorem C15_record_keys (ops : List RecOp) :
    (∀ r ∈ RStore.run [] ops, r.key = r.id) ∧
    (RStore.run [] ops).ids = Store.run [] (ops.map RecOp.proj) ∧
    rlisting (RStore.run [] ops) = listing (Store.run [] (ops.map RecOp.proj)) ∧
    Sorted (rlisting (RStore.run [] ops)) ∧ "" ∉ rlisting (RStore.run [] ops) := by
  obtain ⟨hi, hids⟩ := RStore.run_inv ops [] RStore.inv_nil
  have hl : rlisting (RStore.run [] ops) = listing (Store.run [] (ops.map RecOp.proj)) := by
    rw [rlisting_eq hi, hids]; rfl
  obtain ⟨hs, hne, -, -⟩ := C15_listing_canonical (ops.map RecOp.proj)
  exact ⟨hi.2, hids, hl, hl ▸ hs, hl ▸ hne⟩

/-- The property over what the RPC really searches, the key fields. -/
theorem C15_any_contents_records (v : Variant) (ops : List RecOp) (size : Nat → Int) (hsz : ∀ i, 0 ≤ size i) :
    ∃ pages, chain v (rlisting (RStore.run [] ops)) size ((rlisting (RStore.run [] ops)).length + 1) 0 .empty = some pages ∧
      (pages.map (·.items)).flatten = rlisting (RStore.run [] ops) ∧
      ((pages.map (·.items)).flatten).Nodup ∧
      (∀ x, x ∈ (pages.map (·.items)).flatten ↔ IdSet.run (fun _ => false) (ops.map RecOp.proj) x = true) ∧
      pages.length ≤ (RStore.run [] ops).length + 1 ∧
      ∀ j p, pages[j]? = some p →
        (p.items.length : Int) ≤ allowed (size j) ∧ p.total = (RStore.run [] ops).length := by
  obtain ⟨-, hids, hl, -, -⟩ := C15_record_keys ops
  have hlen : (RStore.run [] ops).length = (Store.run [] (ops.map RecOp.proj)).length := by
    rw [← hids]; simp [RStore.ids]
  rw [hl, hlen]
  exact C15_any_contents v (ops.map RecOp.proj) size hsz

/-- The server never refuses or misreads a token it issued, whatever the keys look like (the model's tokens carry the
key itself: no bound on length or characters): the token names the last item of its page, and a call carrying it,
with any page size, returns the items that follow. -/
theorem C15_own_token (v : Variant) (ops : List RecOp) (tok : Tok) (htok : tok ≠ .bad) (size : Int) (hsz : 0 ≤ size)
    (p : Page) (hp : listPage v (rlisting (RStore.run [] ops)) tok size = .ok p) (k : String) (hk : p.next = some k) :
    p.items[p.items.length - 1]? = some k ∧ k ∈ rlisting (RStore.run [] ops) ∧ k ≠ "" ∧
    IdSet.run (fun _ => false) (ops.map RecOp.proj) k = true ∧
    ∀ size', 0 ≤ size' → ∃ q, listPage v (rlisting (RStore.run [] ops)) (.key k) size' = .ok q ∧
      p.items ++ q.items = ((rlisting (RStore.run [] ops)).drop
        (nextIndex v (rlisting (RStore.run [] ops)) (lastKeyOf tok))).take
          ((capPageSize size).toNat + (capPageSize size').toNat) := by
  obtain ⟨-, -, hl, hs, hne⟩ := C15_record_keys ops
  obtain ⟨h1, h2, h3, h4⟩ := own_token v hs hne tok htok size hsz p hp k hk
  refine ⟨h1, h2, h3, ?_, h4⟩
  have := (C15_listing_canonical (ops.map RecOp.proj)).2.2.1 k
  rw [← hl] at this
  exact this.mp h2

/-- `NewModel(resource.WithIDInterceptor(f))`: every id is mapped through `f` before it is used as the map key, the stored
message keeps its own spelling (`Alpha` under the key `alpha`), so `Collection.List` is NOT ascending in the key field
the RPCs search; since 0a40c2f all six page over the key fields in ascending order (`flisting`).  `GoodIcpt` leaves
`f ""` free (929e9c0: whether an id was given is decided before the interceptor runs); initial records are covered in
any spelling (215ba16: `NewCollection` keeps them under `f` of their id too). -/
theorem C15_id_interceptor (f : String → String) (hf : GoodIcpt f) (ops : List RecOp) (v : Variant) (size : Nat → Int) (hsz : ∀ i, 0 ≤ size i) :
    (∀ r ∈ RStore.irun f [] ops, r.id = f r.key ∧ r.key ≠ "") ∧
    Sorted (flisting (RStore.irun f [] ops)) ∧ "" ∉ flisting (RStore.irun f [] ops) ∧
    ∃ pages, chain v (flisting (RStore.irun f [] ops)) size ((flisting (RStore.irun f [] ops)).length + 1) 0 .empty
        = some pages ∧
      (pages.map (·.items)).flatten = flisting (RStore.irun f [] ops) ∧
      ((pages.map (·.items)).flatten).Nodup ∧
      (∀ x, x ∈ (pages.map (·.items)).flatten ↔ ∃ r ∈ RStore.irun f [] ops, r.key = x) ∧
      pages.length ≤ (RStore.irun f [] ops).length + 1 ∧
      ∀ j p, pages[j]? = some p →
        (p.items.length : Int) ≤ allowed (size j) ∧ p.total = (RStore.irun f [] ops).length := by
  have hi := RStore.irun_iinv hf ops [] (RStore.iinv_nil f)
  obtain ⟨hs, hne, hlen, hmem⟩ := flisting_facts hi
  exact ⟨hi.2, hs, hne, chain_enumerates v hs hne size hsz hlen hmem⟩

/-- … and from a token decoding to any key: the spelling of a stored item, another spelling of it, an absent or
deleted one.  `k ≠ ""` is not used: no listed key is empty, so `"" < x` holds of all of them. -/
theorem C15_id_interceptor_any_token (f : String → String) (hf : GoodIcpt f) (ops : List RecOp) (v : Variant) (size : Nat → Int) (hsz : ∀ i, 0 ≤ size i)
    (k : String) (hk : k ≠ "") :
    ∃ pages, chain v (flisting (RStore.irun f [] ops)) size ((flisting (RStore.irun f [] ops)).length + 1) 0 (.key k)
        = some pages ∧
      pages.length ≤ (RStore.irun f [] ops).length + 1 ∧
      Sorted ((pages.map (·.items)).flatten) ∧
      ∀ x, x ∈ (pages.map (·.items)).flatten ↔ ((∃ r ∈ RStore.irun f [] ops, r.key = x) ∧ k < x) := by
  obtain ⟨hs, hne, hlen, hmem⟩ := flisting_facts (RStore.irun_iinv hf ops [] (RStore.iinv_nil f))
  exact chain_enumerates_after v hs hne size hsz hlen hmem k

/-- Since 0a40c2f paging does not depend on HOW the items came to be stored (e.g. `resource.WithInitialRecord(id, msg)`
with an id unrelated to the message's key field, or a caller's write interceptor): pairwise different, non-empty key
fields suffice.  Both are needed: the examples on two items with the SAME key field and on an EMPTY key at the end of
this file.  `k ≠ ""` is not used: no listed key is empty, so `"" < x` holds of all of them. -/
theorem C15_any_stored_contents (s : RStore) (hnd : (s.map (·.key)).Nodup) (hne : ∀ r ∈ s, r.key ≠ "")
    (v : Variant) (size : Nat → Int) (hsz : ∀ i, 0 ≤ size i) :
    (∃ pages, chain v (flisting s) size ((flisting s).length + 1) 0 .empty = some pages ∧
      (pages.map (·.items)).flatten = flisting s ∧
      ((pages.map (·.items)).flatten).Nodup ∧
      (∀ x, x ∈ (pages.map (·.items)).flatten ↔ ∃ r ∈ s, r.key = x) ∧
      pages.length ≤ s.length + 1 ∧
      ∀ j p, pages[j]? = some p → (p.items.length : Int) ≤ allowed (size j) ∧ p.total = s.length) ∧
    ∀ k, k ≠ "" → ∃ pages, chain v (flisting s) size ((flisting s).length + 1) 0 (.key k) = some pages ∧
      pages.length ≤ s.length + 1 ∧
      Sorted ((pages.map (·.items)).flatten) ∧
      ∀ x, x ∈ (pages.map (·.items)).flatten ↔ ((∃ r ∈ s, r.key = x) ∧ k < x) := by
  obtain ⟨hs, hne', hlen, hmem⟩ := flisting_spec hnd hne
  exact ⟨chain_enumerates v hs hne' size hsz hlen hmem,
    fun k _ => chain_enumerates_after v hs hne' size hsz hlen hmem k⟩

/-- not reachable through the models' APIs, reachable through raw resource options: a hail configured with
`resource.WithInitialRecord("zz", {Id: "b"})` next to `{Id: "c"}` stored under "a" -/
example : rlisting [⟨"zz", "b"⟩, ⟨"a", "c"⟩] = ["c", "b"] ∧ flisting [⟨"zz", "b"⟩, ⟨"a", "c"⟩] = ["b", "c"] := by decide +kernel

/-- `GoodIcpt` holds of every per-character normalisation with an idempotent character map, in particular of the ASCII
lower- and upper-casing the harness configures on the real collections (the documented use: "a case-insensitive
collection by mapping all IDs to lowercase"). -/
theorem C15_interceptor_family :
    (∀ g : Char → Char, (∀ c, g (g c) = g c) → GoodIcpt (String.map g)) ∧
    GoodIcpt asciiLower ∧ GoodIcpt asciiUpper ∧ GoodIcpt id :=
  ⟨map_good, map_good _ toLower_idem, map_good _ toUpper_idem, goodIcpt_id⟩

/-- Without an interceptor the theorems on `irun` / `flisting` and `C15_record_keys`, `C15_any_contents_records`,
`C15_own_token` speak about the same operations and the same listing. -/
theorem C15_interceptor_identity (ops : List RecOp) :
    RStore.irun id [] ops = RStore.run [] ops ∧
    flisting (RStore.run [] ops) = rlisting (RStore.run [] ops) := by
  obtain ⟨hi, -⟩ := RStore.run_inv ops [] RStore.inv_nil
  exact ⟨RStore.irun_id ops [], flisting_eq_rlisting hi⟩

/-- `Dispense` / `Model.DispenseInstantly` decides what it writes from what is stored, inside a
`resource.InterceptBefore` callback of an update WITHOUT mask (every field the callback leaves behind is written, the
key field too).  Paging stays right when such writes, with TAME callbacks, are interleaved with the other routes.
`Tame` is needed: example `dropKey` below.  `k ≠ ""` is not used: no listed key is empty, so `"" < x` holds of all of them. -/
theorem C15_intercepted_writes (f : String → String) (hf : GoodIcpt f) (ops : List HOp) (ht : ∀ op ∈ ops, op.Tame)
    (v : Variant) (size : Nat → Int) (hsz : ∀ i, 0 ≤ size i) :
    (∀ r ∈ RStore.hrun f [] ops, r.id = f r.key ∧ r.key ≠ "") ∧
    (∃ pages, chain v (flisting (RStore.hrun f [] ops)) size ((flisting (RStore.hrun f [] ops)).length + 1) 0 .empty
        = some pages ∧
      (pages.map (·.items)).flatten = flisting (RStore.hrun f [] ops) ∧
      ((pages.map (·.items)).flatten).Nodup ∧
      (∀ x, x ∈ (pages.map (·.items)).flatten ↔ ∃ r ∈ RStore.hrun f [] ops, r.key = x) ∧
      pages.length ≤ (RStore.hrun f [] ops).length + 1 ∧
      ∀ j p, pages[j]? = some p →
        (p.items.length : Int) ≤ allowed (size j) ∧ p.total = (RStore.hrun f [] ops).length) ∧
    ∀ k, k ≠ "" →
      ∃ pages, chain v (flisting (RStore.hrun f [] ops)) size ((flisting (RStore.hrun f [] ops)).length + 1) 0 (.key k)
          = some pages ∧
        pages.length ≤ (RStore.hrun f [] ops).length + 1 ∧
        ∀ x, x ∈ (pages.map (·.items)).flatten ↔ ((∃ r ∈ RStore.hrun f [] ops, r.key = x) ∧ k < x) := by
  have hi := RStore.hrun_iinv hf ops [] ht (RStore.iinv_nil f)
  obtain ⟨hs, hne, hlen, hmem⟩ := flisting_facts hi
  refine ⟨hi.2, chain_enumerates v hs hne size hsz hlen hmem, fun k _ => ?_⟩
  obtain ⟨pages, h1, h2, -, h3⟩ := chain_enumerates_after v hs hne size hsz hlen hmem k
  exact ⟨pages, h1, h2, h3⟩

/-- A failed dispense (the callback makes the written message a copy of the stored one, when the unit conversion fails
at once or half-way) leaves ANY collection exactly as it was, under any interceptor, and the call reports the
callback's error; the callback of `DispenseInstantly` (`dispenseHook`) is tame for every combination of units; and a
history without intercepted writes is one of `C15_id_interceptor`. -/
theorem C15_failed_dispense_invisible (f : String → String) (s : RStore) (k : String) :
    (s.hstep f (.hooked k restoreOld)).1 = s ∧
    flisting (s.hstep f (.hooked k restoreOld)).1 = flisting s ∧
    (∀ (v : Variant) (tok : Tok) (size : Int),
      listPage v (flisting (s.hstep f (.hooked k restoreOld)).1) tok size = listPage v (flisting s) tok size) ∧
    ((s.hstep f (.hooked k restoreOld)).2 =
      if k = "" then .res .rejected else if f k ∈ s.ids then .failed else .res .notFound) ∧
    keepNew.Tame ∧ restoreOld.Tame ∧
    (∀ (used remaining : Option Nat) (q : Nat), (dispenseHook used remaining q).Tame ∧
      (dispenseFails used remaining q = true →
        (s.hstep f (.hooked k (dispenseHook used remaining q))).1 = s)) ∧
    ∀ ops : List RecOp, RStore.hrun f s (ops.map .plain) = RStore.irun f s ops := by
  have h := RStore.hstep_restore f s k restoreOld (fun _ _ => rfl)
  refine ⟨h, by rw [h], fun v tok size => by rw [h], ?_, keepNew_tame, restoreOld_tame,
    fun used remaining q => ⟨dispenseHook_tame used remaining q, fun hq => by
      simp only [dispenseHook, hq, if_true]; exact h⟩,
    fun ops => RStore.hrun_plain f ops s⟩
  simp only [RStore.hstep, restoreOld]
  by_cases hk : k = ""
  · simp [hk]
  · by_cases hm : f k ∈ s.ids <;> simp [hk, hm]

/-- The contents are "held fixed" also while REFUSED writes are being processed: the write APIs run the caller's write
options (`WithExpectedCheck`, interceptors, …) with no lock held, so a List call can run in the middle of a write; the
code commits (`byId[id] = …`, `append(allWasteRecords, wr)`) only after the verdict, and only an accepted write. -/
theorem C15_refused_writes_invisible :
    (∀ {σ : Type} (s : Sys σ) (evs : List (Ev σ)), AllRefused s evs → ∀ pre, pre <+: evs → (s.run pre).st = s.st) ∧
    (∀ (s : Sys (List Nat)) evs, AllRefused s evs → ∀ pre, pre <+: evs → ∀ tok size,
      listWaste (s.run pre).st.length tok size = listWaste s.st.length tok size) ∧
    (∀ (s : Sys RStore) evs, AllRefused s evs → ∀ pre, pre <+: evs → ∀ v tok size,
      listPage v (flisting (s.run pre).st) tok size = listPage v (flisting s.st) tok size) := by
  -- up to any point of the interleaving nothing was committed
  have key : ∀ {σ : Type} (s : Sys σ) (evs : List (Ev σ)), AllRefused s evs → ∀ pre, pre <+: evs →
      (s.run pre).st = s.st := fun s evs h pre hpre => by
    rw [run_st_commits, commits_refused pre s ⟨h.1, fun a c hm => h.2 a c (hpre.subset hm)⟩]; rfl
  exact ⟨key, fun s evs h pre hpre tok size => by rw [key s evs h pre hpre],
    fun s evs h pre hpre v tok size => by rw [key s evs h pre hpre]⟩

/-- ACCEPTED writes are in flight as long as the caller's callback runs, and the listers keep nothing between calls:
(1) at the end the accepted calls that have FINISHED are applied once each, in finishing order; (2) before the first of
them finishes a List call sees the contents BEFORE the write; (3) every List call afterwards answers as on a quiescent
model given those writes one after the other.  `pre <+: evs` (clause 2) is not used: the clause is about `pre` alone. -/
theorem C15_writes_commit_when_they_finish :
    (∀ {σ : Type} (s : Sys σ) (evs : List (Ev σ)), (s.run evs).st = applyAll s.st (s.commits evs)) ∧
    (∀ {σ : Type} (s : Sys σ) (evs : List (Ev σ)) pre, pre <+: evs → s.commits pre = [] → (s.run pre).st = s.st) ∧
    (∀ (s : Sys (List Nat)) evs tok size,
      listWaste (s.run evs).st.length tok size = listWaste (applyAll s.st (s.commits evs)).length tok size) ∧
    (∀ (s : Sys RStore) evs v tok size,
      listPage v (flisting (s.run evs).st) tok size = listPage v (flisting (applyAll s.st (s.commits evs))) tok size) := by
  refine ⟨fun s evs => run_st_commits evs s, ?_, ?_, ?_⟩
  · intro σ s evs pre _ hc
    rw [run_st_commits pre s, hc]; rfl
  · intro s evs tok size; rw [run_st_commits]
  · intro s evs v tok size; rw [run_st_commits]

/-- Beyond the property, what remains true when ids are inserted or deleted between pages: no item is returned twice,
and every id present at every page of the chain is returned.  (A token whose key has been deleted is
`C15_any_token`.)  `hsz` is not used: a chain that was returned is its own witness that the sizes were acceptable. -/
theorem C15_changing_contents (v : Variant) (ks : Nat → List String) (hs : ∀ j, Sorted (ks j))
    (hne : ∀ j, "" ∉ ks j) (size : Nat → Int) (hsz : ∀ j, 0 ≤ size j) (fuel : Nat) (pages : List Page)
    (h : chainVar v ks size fuel 0 .empty = some pages) :
    Sorted ((pages.map (·.items)).flatten) ∧ ((pages.map (·.items)).flatten).Nodup ∧
    ∀ x, (∀ j, j < pages.length → x ∈ ks j) →
      x ∈ (pages.map (·.items)).flatten ∧ ((pages.map (·.items)).flatten).count x = 1 := by
  obtain ⟨-, h2, h3, h4⟩ := chainVar_facts v ks hs hne size fuel 0 .empty pages h
  have hnd := sorted_nodup h2
  refine ⟨h2, hnd, ?_⟩
  intro x hx
  have hpos := List.length_pos_iff.mpr h4
  have hx0 : x ∈ ks 0 := hx 0 hpos
  have hxne : x ≠ "" := fun e => hne 0 (e ▸ hx0)
  have hmem := h3 x (by simpa [lastKeyOf_empty] using empty_lt hxne) (fun j hj => by simpa using hx j hj)
  exact ⟨hmem, by rw [hnd.count]; simp [hmem]⟩

/-- The property for ListWasteRecords: record indices, newest first. -/
theorem C15_waste_enumerates (n : Nat) (size : Nat → Int) (hsz : ∀ i, 0 ≤ size i) :
    ∃ pages, wasteChain n size (n + 1) 0 .empty = some pages ∧
      (pages.map (·.items)).flatten = (List.range n).reverse ∧
      pages.length ≤ n + 1 ∧
      ∀ j p, pages[j]? = some p → (p.items.length : Int) ≤ allowed (size j) ∧ p.total = n := by
  simpa only [Nat.zero_add] using wasteChain_from n size hsz (n + 1) 0 (t := .empty) trivial rfl (Nat.lt_succ_self n)

/-- "Never a panic" for ListWasteRecords: `allWasteRecords[i]` stays in range for every token and size (c118094, f9325fa). -/
theorem C15_waste_no_panic (n : Nat) (tok : WTok) (size : Int) : listWaste n tok size ≠ .panic := by
  by_cases h : ¬ (wasteScheme n).valid tok ∨ size < 0
  · rw [listWaste_err n h]; exact fun e => nomatch e
  · obtain ⟨p, hp, -⟩ := listWaste_serves n (Classical.not_not.mp fun hv => h (Or.inl hv)) (size := size) (by omega)
    rw [hp]; exact fun e => nomatch e

/-- An index token may be any integer, not only one the server issued: outside `0..n` it is refused (c118094), inside it
is owed the records below it. -/
theorem C15_waste_any_token (n : Nat) (size : Nat → Int) (hsz : ∀ i, 0 ≤ size i) (start : Int) :
    ((start < 0 ∨ start > n) → ∀ s, listWaste n (.idx start) s = .err .invalidArgument) ∧
    (0 ≤ start → start ≤ n →
      ∃ pages, wasteChain n size (n + 1) 0 (.idx start) = some pages ∧
        (pages.map (·.items)).flatten = (List.range start.toNat).reverse ∧
        pages.length ≤ start.toNat + 1 ∧
        ∀ j p, pages[j]? = some p → (p.items.length : Int) ≤ allowed (size j) ∧ p.total = n) := by
  refine ⟨fun h s => listWaste_idx_err n (Or.inl h), fun h0 hn => ?_⟩
  simpa only [Nat.zero_add] using wasteChain_from n size hsz (n + 1) 0 (t := .idx start) ⟨h0, hn⟩ rfl (by omega)

/-- A token that is not an integer: the strconv error as it is, status `Unknown`; a negative page size: an error status,
whatever the token. -/
theorem C15_waste_errors (n : Nat) (tok : WTok) (size : Int) :
    listWaste n .bad size = .err .unknown ∧ (size < 0 → ∃ c, listWaste n tok size = .err c) :=
  ⟨rfl, fun h => ⟨_, listWaste_err n (Or.inr h)⟩⟩

/-- One page size throughout: `(n-1)/c + 1` pages, NO trailing empty page (the token is dropped when a page reaches the
oldest record). -/
theorem C15_waste_page_shape (n : Nat) (sz : Int) (hsz : 0 ≤ sz) :
    ∃ pages, wasteChain n (fun _ => sz) (n + 1) 0 .empty = some pages ∧
      pages.length = (n - 1) / (wasteCount sz).toNat + 1 ∧
      ∀ j p, pages[j]? = some p →
        p.items = down (n - j * (wasteCount sz).toNat) (wasteCount sz).toNat ∧
        (p.next = none ↔ j + 1 = pages.length) ∧ p.total = n := by
  obtain ⟨pages, h1, h2, h3⟩ := wasteChain_shape n hsz (n + 1) 0 (t := .empty) trivial rfl (Nat.lt_succ_self n)
  exact ⟨pages, h1, h2, fun j p hp => ⟨(h3 j p hp).1, (h3 j p hp).2.1, (h3 j p hp).2.2.2⟩⟩

/-- ListWasteRecords honours a read mask since d0c1476, on copies of the returned page only: index, count, token and total
are those of the unmasked call. -/
theorem C15_waste_read_mask (n : Nat) (tok : WTok) (size : Int) (idVisible : Bool) :
    listWasteMasked n tok size idVisible ≠ .panic ∧
    (∀ c, listWaste n tok size = .err c → listWasteMasked n tok size idVisible = .err c) ∧
    ∀ p, listWaste n tok size = .ok p → ∃ q, listWasteMasked n tok size idVisible = .ok q ∧
      q.next = p.next ∧ q.total = p.total ∧ q.items.length = p.items.length ∧
      (idVisible = true → q.items = p.items.map some) := by
  have hnp := C15_waste_no_panic n tok size
  unfold listWasteMasked
  cases h : listWaste n tok size with
  | panic => exact absurd h hnp
  | err c => simp
  | ok p =>
    refine ⟨by simp, by simp, ?_⟩
    intro p' hp
    cases hp
    refine ⟨_, rfl, rfl, rfl, by simp [WPage.display], ?_⟩
    intro hv; subst hv; simp [WPage.display]

/-- The hypotheses are satisfiable by a reachable listing (ids that are prefixes of each other). -/
example : Sorted ["a", "a/", "ab", "b"] ∧ "" ∉ ["a", "a/", "ab", "b"] := by
  unfold Sorted
  decide +kernel

/-- The model computes what the theorem says on that listing (page size 3 then 1). -/
example : (chain .gt ["a", "a/", "ab", "b"] (fun i => if i = 0 then 3 else 1) 5 0 .empty).map (·.map (·.items))
    = some [["a", "a/", "ab"], ["b"], []] := by decide +kernel

/-- A history with generated ids, a duplicate, an update and a delete; the listing and a three-page chain. -/
example : listing (Store.run [] [.add "b" (fun _ => ""), .add "" (fun i => if i = 0 then "" else if i = 1 then "b" else "gen"),
      .add "b" (fun _ => ""), .ensure "a", .ensure "", .update "zz", .add "c" (fun _ => ""), .delete "c"]) = ["a", "b", "gen"] ∧
    (chain .gt ["a", "b", "gen"] (fun _ => 1) 4 0 .empty).map (·.map (·.items)) = some [["a"], ["b"], ["gen"], []] := by
  decide +kernel

/-- A history through every update route (a mask that leaves the key out, a message carrying the FOREIGN id "x", one
without id, an update of the empty id): the RPC pages over the sorted ids. -/
example : rlisting (RStore.run [] [.initial "d", .initial "", .initial "d", .add "b" (fun _ => ""),
      .updateMsg "c" true .withoutKey, .updateId "b" "x" false .none, .updateId "a" "" true .withoutKey,
      .updateId "" "q" true .none, .updateMsg "" true .none, .updateMsg "zz" false .withKey, .delete "q" true, .delete "d" false,
      .updateMsg "e" true .empty, .updateId "f" "" true .empty, .updateMsg "g" false .empty])
    = ["a", "b", "c", "e", "f"] := by decide +kernel

/-- Before b40db78 (hail, publication, vending ×2; electric: 2b5cf2c) a create-if-absent update whose mask leaves
the key field out stored an item with an EMPTY key field, and before eb62186 `UpdatePublication("", …)` /
`UpdateMode({Id: ""}, …)` with create-if-absent stored one under the EMPTY id: the first page then repeats for ever. -/
example : rlisting (RStore.runWith false [] [.add "a" (fun _ => ""), .updateMsg "b" true .withoutKey]) = ["a", ""] ∧
    rlisting (RStore.runWith false [] [.add "a" (fun _ => ""), .updateMsg "b" true .empty]) = ["a", ""] ∧
    rlisting (RStore.runWith false [] [.add "a" (fun _ => ""), .updateId "" "" true .none]) = ["", "a"] ∧
    chain .gt ["", "a"] (fun _ => 1) 10 0 .empty = none := by decide +kernel

/-- Why the key field must be the storage id (`UpdatePublication` forces it): were the foreign `Id` "x" written into
the item stored under "b", the RPC would search the UNSORTED sequence a, x, c, d: after the page [a, x] the token "x"
finds nothing greater, and c, d are never returned although total_size says 4. -/
example : rlisting ((RStore.run [] [.add "a" (fun _ => ""), .add "b" (fun _ => ""), .add "c" (fun _ => ""),
      .add "d" (fun _ => "")]).write "b" "x" false true).1 = ["a", "x", "c", "d"] ∧
    (chain .gt ["a", "x", "c", "d"] (fun _ => 2) 5 0 .empty).map (·.map (·.items)) = some [["a", "x"], []] := by decide +kernel

/-- `C15_own_token` on ids no generator would invent (35 and 304 bytes): the token minted from the long id is served. -/
example : listPage .gt ["site-7/lobby/lift-bank-A/hail-0001", "site-7/lobby/lift-bank-A/hail-0002"] .empty 1
      = .ok ⟨["site-7/lobby/lift-bank-A/hail-0001"], some "site-7/lobby/lift-bank-A/hail-0001", 2⟩ ∧
    listPage .gt ["site-7/lobby/lift-bank-A/hail-0001", "site-7/lobby/lift-bank-A/hail-0002"]
      (.key "site-7/lobby/lift-bank-A/hail-0001") 1
      = .ok ⟨["site-7/lobby/lift-bank-A/hail-0002"], some "site-7/lobby/lift-bank-A/hail-0002", 2⟩ := by decide +kernel

/-- `GoodIcpt` holds of `id` (no interceptor) and of the case-folding interceptor on the ids used below (`foldAB`). -/
example : GoodIcpt id := goodIcpt_id
example : GoodIcpt foldAB := by
  refine ⟨?_, ?_⟩
  · intro x hx
    unfold foldAB
    split
    · decide
    · split
      · decide
      · exact hx
  · intro x
    unfold foldAB
    by_cases h1 : x = "A"
    · subst h1; decide
    · by_cases h2 : x = "B"
      · subst h2; decide
      · simp [h1, h2]

/-- `C15_id_interceptor` on a history in several spellings: `a` and `B` are created, `A` re-spells the first item
(an update always writes the key field), `b` finds the second one: `Collection.List` shows `A, B` stored under
`a, b`; the RPCs page over the spellings in ascending order (`B` before `a`). -/
example : rlisting (RStore.irun foldAB [] [.add "a" (fun _ => ""), .add "B" (fun _ => ""), .add "b" (fun _ => ""),
      .updateMsg "A" false .withoutKey, .ensure "c", .delete "C" true]) = ["A", "B", "c"] ∧
    (RStore.irun foldAB [] [.add "a" (fun _ => ""), .add "B" (fun _ => "")]).ids = ["b", "a"] ∧
    rlisting (RStore.irun foldAB [] [.add "a" (fun _ => ""), .add "B" (fun _ => "")]) = ["a", "B"] ∧
    flisting (RStore.irun foldAB [] [.add "a" (fun _ => ""), .add "B" (fun _ => "")]) = ["B", "a"] := by decide +kernel

/-- Before 0a40c2f the five `gt` listers searched `Collection.List` as it came — here `a, B`, not ascending — and
the item `B` was never returned (page size 1: `[a]`, then the token `a` finds nothing greater); ascending, it is. -/
example : (chain .gt ["a", "B"] (fun _ => 1) 3 0 .empty).map (·.map (·.items)) = some [["a"], []] ∧
    (chain .gt ["B", "a"] (fun _ => 1) 3 0 .empty).map (·.map (·.items)) = some [["B"], ["a"], []] := by decide +kernel

/-- Before 215ba16 `NewCollection` stored an initial record under the id it was configured with, so
`WithInitialMode({Id: "A"})` plus `AddMode({Id: "A"})` (stored under `a`) were two items with the SAME key field, and
one-item pages lost the second; since then the second creation is refused and the listing holds `A` once. -/
example : flisting (RStore.irunWith false foldAB [] [.initial "A", .add "A" (fun _ => "")]) = ["A", "A"] ∧
    (chain .gt ["A", "A"] (fun _ => 1) 3 0 .empty).map (·.map (·.items)) = some [["A"], []] ∧
    flisting (RStore.irun foldAB [] [.initial "A", .add "A" (fun _ => "")]) = ["A"] ∧
    (RStore.irun foldAB [] [.initial "A", .initial "a", .updateMsg "a" false .empty]).map (·.id) = ["a"] := by decide +kernel

/-- `Hook.Tame` is needed in `C15_intercepted_writes`: an "undo" that resets the written message and puts back
only the quantities (the trial change /verif/seeded/C15-19) drops the key field; the write has no mask, so the stock is stored without a
name: it sorts first, a one-item page mints the token "" and the chain never ends.  The real callbacks leave the
listing alone (failed) or keep the name (succeeded). -/
example : flisting (RStore.hrun id [] [.plain (.initial "coffee"), .plain (.initial "milk"), .hooked "milk" dropKey])
      = ["", "coffee"] ∧
    chain .gt ["", "coffee"] (fun _ => 1) 10 0 .empty = none ∧
    flisting (RStore.hrun id [] [.plain (.initial "coffee"), .plain (.initial "milk"), .hooked "milk" restoreOld,
      .hooked "milk" keepNew, .hooked "tea" keepNew]) = ["coffee", "milk"] ∧
    (RStore.hstep id [⟨"milk", "milk"⟩] (.hooked "milk" restoreOld)).2 = .failed ∧
    (RStore.hstep id [⟨"milk", "milk"⟩] (.hooked "milk" keepNew)).2 = .res (.ok "milk") ∧
    (RStore.hstep id [⟨"milk", "milk"⟩] (.hooked "tea" keepNew)).2 = .res .notFound ∧
    (RStore.hstep foldAB [⟨"a", "a"⟩] (.hooked "A" keepNew)).1 = [⟨"a", "A"⟩] := by decide +kernel

/-- The unit table: litres convert to cubic metres and cups, not to kilograms or metres; an unspecified unit converts
only to itself; a stock kept in litres AND kilograms fails every dispense - in litres half-way (Used converts,
Remaining does not). -/
example : convertOk 3 4 = true ∧ convertOk 3 5 = true ∧ convertOk 3 6 = false ∧ convertOk 3 2 = false ∧
    convertOk 0 0 = true ∧ convertOk 0 3 = false ∧ convertOk 1 1 = true ∧
    dispenseFails (some 3) (some 3) 4 = false ∧ dispenseFails (some 3) (some 6) 3 = true ∧
    dispenseFails (some 3) (some 6) 6 = true ∧ dispenseFails none (some 6) 6 = false ∧
    dispenseFails none none 0 = false := by decide +kernel

/-- `GoodIcpt` does not ask for `f "" = ""`: before 929e9c0 `Collection.Update` tested the INTERCEPTED id for
emptiness, so an interceptor that maps the empty id to a key of its own switched id generation off and
`CreateMode({})` stored a mode without Id (`irunWith false`); since then the id as given decides and an id is generated. -/
example : flisting (RStore.irunWith false (fun s => if s = "" then "x" else s) [] [.add "" (fun _ => "gen")]) = [""] ∧
    flisting (RStore.irun (fun s => if s = "" then "x" else s) [] [.add "" (fun _ => "gen")]) = ["gen"] ∧
    GoodIcpt (fun s => if s = "" then "x" else s) := by
  refine ⟨by decide +kernel, by decide +kernel, ⟨?_, ?_⟩⟩
  · intro x hx; simp [hx]
  · intro x
    by_cases h : x = ""
    · subst h; decide
    · simp [h]

/-- `C15_refused_writes_invisible` is about real interleavings: two refused `AddWasteRecord` calls in flight at
once, finishing in the other order, around three records; and the accepted call it does not cover changes the list
only when it finishes. -/
example : (Sys.run ⟨[0, 1, 2], []⟩ [wasteAdd false 7, wasteAdd false 8, .finish 1, .finish 0]).st = [0, 1, 2] ∧
    (Sys.run ⟨[0, 1, 2], []⟩ [wasteAdd true 7]).st = [0, 1, 2] ∧
    (Sys.run ⟨[0, 1, 2], []⟩ [wasteAdd true 7, .finish 0]).st = [0, 1, 2, 7] := by decide +kernel

/-- `C15_writes_commit_when_they_finish` on a real interleaving: an accepted `AddWasteRecord(7)` enters, a refused one and
a second accepted one (8) behind it; 8 finishes first, then the refused one, then 7.  And on a collection: an accepted
`DeleteMode("a")` parked in its callback, `UpdateMode({Id: "c"}, WithCreateIfAbsent())` accepted meanwhile. -/
example : (Sys.run ⟨[0], []⟩ [wasteAdd true 7, wasteAdd false 9, wasteAdd true 8]).st = [0] ∧
    (Sys.run ⟨[0], []⟩ [wasteAdd true 7, wasteAdd false 9, wasteAdd true 8, .finish 2]).st = [0, 8] ∧
    (Sys.run ⟨[0], []⟩ [wasteAdd true 7, wasteAdd false 9, wasteAdd true 8, .finish 2, .finish 1, .finish 0]).st = [0, 8, 7] ∧
    flisting (Sys.run ⟨RStore.run [] [.add "a" (fun _ => ""), .add "b" (fun _ => "")], []⟩
      [.begin true (fun s => (s.step (.delete "a" false)).1),
       .begin true (fun s => (s.step (.updateMsg "c" true .none)).1), .finish 1]).st = ["a", "b", "c"] ∧
    flisting (Sys.run ⟨RStore.run [] [.add "a" (fun _ => ""), .add "b" (fun _ => "")], []⟩
      [.begin true (fun s => (s.step (.delete "a" false)).1),
       .begin true (fun s => (s.step (.updateMsg "c" true .none)).1), .finish 1, .finish 0]).st = ["b", "c"] := by decide +kernel

/-- Changing contents: "b" is deleted and "ab", "z" are inserted after page 0, "c" is inserted behind the
token after page 1: nothing comes twice, and "a", "d" (present throughout) are returned. -/
example : (chainVar .gt (fun j => if j = 0 then ["a", "b", "d"] else if j = 1 then ["a", "ab", "d", "z"] else ["a", "ab", "c", "d", "z"])
      (fun _ => 1) 6 0 .empty).map (·.map (·.items)) = some [["a"], ["ab"], ["c"], ["d"], ["z"], []] := by decide +kernel

/-- The trailing empty page of `C15_page_shape` (2 items, page size 2) and its absence for waste. -/
example : chain .ge ["a", "b"] (fun _ => 2) 3 0 .empty = some [⟨["a", "b"], some "b", 2⟩, ⟨[], none, 2⟩] ∧
    wasteChain 2 (fun _ => 2) 3 0 .empty = some [⟨[1, 0], none, 2⟩] := by decide +kernel

/-- The hypothesis `"" ∉ keys` is needed: with an item whose key is empty, a one-item first page mints a
token whose last key is "" and the listing restarts for ever (no creation API can produce such an item;
the harness monitors that no listed key is empty). -/
example : listPage .gt ["", "a"] .empty 1 = .ok ⟨[""], some "", 2⟩ ∧
    listPage .gt ["", "a"] (.key "") 1 = .ok ⟨[""], some "", 2⟩ ∧
    chain .gt ["", "a"] (fun _ => 1) 10 0 .empty = none := by decide +kernel

/-- Before 2829c35 a read mask that hides the key made the first page repeat for ever (the token was
minted from the masked item: empty key), and a later token returned nothing. -/
example : listPageMaskedUnfixed .gt ["a", "b"] .empty 1 false = .ok ⟨[""], some "", 2⟩ ∧
    listPageMaskedUnfixed .gt ["a", "b"] (.key "") 1 false = .ok ⟨[""], some "", 2⟩ ∧
    listPageMaskedUnfixed .gt ["a", "b"] (.key "a") 1 false = .ok ⟨[], none, 2⟩ ∧
    listPageMasked .gt ["a", "b"] .empty 1 false = .ok ⟨[""], some "a", 2⟩ := by decide +kernel

/-- Before f9325fa a negative page size panicked (index out of range [-2]). -/
example : listPageUnfixed .gt ["a"] .empty (-1) = .panic := by decide +kernel
example : listPageUnfixed .ge [] (.key "x") (-5) = .panic := by decide +kernel
/-- Before c118094/f9325fa: a waste token above the record count panicked; a negative size returned one record. -/
example : listWasteUnfixed 3 (.idx 4) 0 = .panic := by decide +kernel
example : listWasteUnfixed 3 .empty (-2) = .ok ⟨[2], none, 3⟩ := by decide +kernel

end ScVerif.C15
