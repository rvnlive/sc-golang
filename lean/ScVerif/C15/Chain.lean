import ScVerif.C15.Lemmas
import ScVerif.C15.Follow
/-! One List call in closed form (`listPage_ok`); on a strictly ascending listing it serves its token with the keys
`after` the token's (`listPage_serves`), so the chain theorems are those of `Follow.lean`. -/
namespace ScVerif.C15

theorem index_natCast (xs : List String) {i : Nat} (h : i < xs.length) : index xs (i : Int) = .ok (keyAt xs i) := by
  simp only [index, Int.natCast_nonneg, if_true, Int.toNat_natCast, getElem?_eq_keyAt xs i h]

theorem slice_natCast {α} (xs : List α) {lo hi : Nat} (h1 : lo ≤ hi) (h2 : hi ≤ xs.length) :
    slice xs (lo : Int) (hi : Int) = .ok ((xs.drop lo).take (hi - lo)) := by
  have : (0 : Int) ≤ lo ∧ (lo : Int) ≤ hi ∧ (hi : Int) ≤ xs.length := by omega
  simp only [slice, this, and_self, if_true, Int.toNat_natCast]

/-- What a call answers that starts at index `r` and may return `c` items (`upperBound = r + c`): if that is within the
listing, items `r … r+c-1` and a token minted from the last of them, `sorted[upperBound-1]`; else the rest, no token. -/
def pageAt (keys : List String) (r c : Nat) : Page :=
  ⟨(keys.drop r).take c, if r + c ≤ keys.length then some (keyAt keys (r + c - 1)) else none, keys.length⟩

theorem listPage_ok (v : Variant) (keys : List String) (tok : Tok) (size : Int)
    (htok : tok ≠ .bad) (hsize : 0 ≤ size) :
    listPage v keys tok size =
      .ok (pageAt keys (nextIndex v keys (lastKeyOf tok)) (capPageSize size).toNat) := by
  -- with `capPageSize size` named as a Nat `c ≥ 1` and `nextIndex` as `r ≤ len`, the two branches of
  -- `upperBound > len` are bookkeeping of casts between Go's `int` and list positions
  have key : ∀ k, listPage v keys (.key k) size = .ok (pageAt keys (nextIndex v keys k) (capPageSize size).toNat) := by
    intro k
    have hc1 := (capPageSize_spec hsize).1
    obtain ⟨c, hc⟩ : ∃ c : Nat, capPageSize size = (c : Int) := ⟨(capPageSize size).toNat, by omega⟩
    have hr := nextIndex_le v keys k
    simp only [listPage, show ¬ size < 0 by omega, if_false, hc, Int.toNat_natCast]
    generalize nextIndex v keys k = r at hr
    have hc' : 1 ≤ c := by omega
    clear hc hc1
    unfold pageAt
    by_cases hle : r + c ≤ keys.length
    · have hub : ¬ (r : Int) + c > keys.length := by omega
      have h1 : (r : Int) + c - 1 = ((r + c - 1 : Nat) : Int) := by omega
      have h2 : (r : Int) + c = ((r + c : Nat) : Int) := by omega
      rw [if_neg hub, if_pos hle, h1, index_natCast keys (by omega), h2, slice_natCast keys (by omega) hle,
        Nat.add_sub_cancel_left]
    · have hub : (r : Int) + c > keys.length := by omega
      rw [if_pos hub, if_neg hle, slice_natCast keys hr (Nat.le_refl _),
        List.take_of_length_le (by simp), List.take_of_length_le (by simp; omega)]
  cases tok with
  | bad => exact absurd rfl htok
  | empty => exact key ""
  | key k => exact key k

theorem listPage_err (v : Variant) (keys : List String) {tok : Tok} {size : Int} (h : tok = .bad ∨ size < 0) :
    listPage v keys tok size = .err .invalidArgument := by
  rcases h with rfl | h
  · rfl
  · cases tok <;> simp [listPage, h]

/-- An answer says that token and size were acceptable. -/
theorem listPage_ok_inv {v : Variant} {keys : List String} {tok : Tok} {size : Int} {p : Page}
    (hp : listPage v keys tok size = .ok p) : tok ≠ .bad ∧ 0 ≤ size := by
  refine ⟨fun e => ?_, Int.not_lt.mp fun h => ?_⟩
  · rw [listPage_err v keys (Or.inl e)] at hp; cases hp
  · rw [listPage_err v keys (Or.inr h)] at hp; cases hp

theorem chain_follows (v : Variant) (keys : List String) (size : Nat → Int) :
    Follows (chain v keys size) (fun i tok => listPage v keys tok (size i)) Page.next Tok.key :=
  ⟨fun hp hn _ => by rw [chain, hp]; simp only [hn], fun hp hn _ => by rw [chain, hp]; simp only [hn]⟩

/-- How the six key-token listers page over `keys`: a decodable token is owed the keys after its own; a full page always
comes with a token, hence the trailing empty page when the page size divides what was owed. -/
def keyScheme (keys : List String) : Scheme Tok String Page String :=
  ⟨(· ≠ .bad), fun t => after keys (lastKeyOf t), Page.items, Page.next, Tok.key, 0⟩

theorem pageAt_serves (v : Variant) {keys : List String} (hs : Sorted keys) (hne : "" ∉ keys) (tok : Tok)
    {c : Nat} (hc : 1 ≤ c) : Serves (keyScheme keys) c tok (pageAt keys (nextIndex v keys (lastKeyOf tok)) c) := by
  have hr := nextIndex_le v keys (lastKeyOf tok)
  have hA : keys.drop _ = (keyScheme keys).owed tok := nextIndex_spec v hs (lastKeyOf tok)
  generalize nextIndex v keys (lastKeyOf tok) = r at hr hA
  refine .of_ite (congrArg (List.take c) hA) rfl (by rw [← hA, List.length_drop]; show _ ↔ c + 0 ≤ _; omega) fun hle => ?_
  -- the token names item r + c - 1, and what comes after that item is the listing from r + c on
  refine ⟨by simp [keyScheme], ?_⟩
  show after keys (keyAt keys (r + c - 1)) = _
  rw [← hA, after_keyAt hs hne _ (by omega), List.drop_drop]
  congr 1; omega

theorem listPage_serves (v : Variant) {keys : List String} (hs : Sorted keys) (hne : "" ∉ keys)
    {tok : Tok} (htok : tok ≠ .bad) {size : Int} (hsz : 0 ≤ size) :
    ∃ p, listPage v keys tok size = .ok p ∧ Serves (keyScheme keys) (capPageSize size).toNat tok p ∧
      (p.items.length : Int) ≤ allowed size ∧ p.total = keys.length :=
  have h := pageAt_serves v hs hne tok (capPageSize_toNat_pos hsz)
  ⟨_, listPage_ok v keys tok size htok hsz, h, le_allowed hsz h.length_le, rfl⟩

theorem chain_after (v : Variant) {keys : List String} (hs : Sorted keys) (hne : "" ∉ keys)
    (size : Nat → Int) (hsz : ∀ i, 0 ≤ size i) (fuel i : Nat) {tok : Tok} (htok : tok ≠ .bad)
    (hfuel : (after keys (lastKeyOf tok)).length < fuel) :
    ∃ pages, chain v keys size fuel i tok = some pages ∧
      (pages.map (·.items)).flatten = after keys (lastKeyOf tok) ∧
      pages.length ≤ (after keys (lastKeyOf tok)).length + 1 ∧
      ∀ j p, pages[j]? = some p → (p.items.length : Int) ≤ allowed (size (i + j)) ∧ p.total = keys.length :=
  (chain_follows v keys size).enumerates (S := keyScheme keys) (Nat.zero_le 1) (fun i => capPageSize_toNat_pos (hsz i))
    (fun i _ ht => listPage_serves v hs hne ht (hsz i)) fuel i tok htok hfuel

theorem chain_shape (v : Variant) {keys : List String} (hs : Sorted keys) (hne : "" ∉ keys)
    {sz : Int} (hsz : 0 ≤ sz) (fuel i : Nat) {tok : Tok} (htok : tok ≠ .bad)
    (hfuel : (after keys (lastKeyOf tok)).length < fuel) :
    ∃ pages, chain v keys (fun _ => sz) fuel i tok = some pages ∧
      pages.length = (after keys (lastKeyOf tok)).length / (capPageSize sz).toNat + 1 ∧
      ∀ j p, pages[j]? = some p →
        p.items = ((after keys (lastKeyOf tok)).drop (j * (capPageSize sz).toNat)).take (capPageSize sz).toNat ∧
        (p.next = none ↔ j + 1 = pages.length) ∧ (p.items.length : Int) ≤ allowed sz ∧ p.total = keys.length :=
  (chain_follows v keys _).shape (S := keyScheme keys) (capPageSize_toNat_pos hsz)
    (fun _ _ ht => listPage_serves v hs hne ht hsz) fuel i tok htok hfuel

/-- The property for a listing known by its size `N` and its elements `P`: from the empty token the pages are the
listing, each element once. -/
theorem chain_enumerates (v : Variant) {keys : List String} (hs : Sorted keys) (hne : "" ∉ keys)
    (size : Nat → Int) (hsz : ∀ i, 0 ≤ size i) {N : Nat} (hlen : keys.length = N)
    {P : String → Prop} (hmem : ∀ x, x ∈ keys ↔ P x) :
    ∃ pages, chain v keys size (keys.length + 1) 0 .empty = some pages ∧
      (pages.map (·.items)).flatten = keys ∧
      ((pages.map (·.items)).flatten).Nodup ∧
      (∀ x, x ∈ (pages.map (·.items)).flatten ↔ P x) ∧
      pages.length ≤ N + 1 ∧
      ∀ j p, pages[j]? = some p → (p.items.length : Int) ≤ allowed (size j) ∧ p.total = N := by
  obtain ⟨pages, h1, h2, h3, h4⟩ := chain_after v hs hne size hsz (keys.length + 1) 0 (tok := .empty) (by simp)
    (by simp only [lastKeyOf_empty, after_empty]; omega)
  simp only [lastKeyOf_empty, after_empty, Nat.zero_add, hlen] at h2 h3 h4
  exact ⟨pages, h1, h2, h2 ▸ sorted_nodup hs, h2 ▸ hmem, h3, h4⟩

theorem chain_enumerates_after (v : Variant) {keys : List String} (hs : Sorted keys) (hne : "" ∉ keys)
    (size : Nat → Int) (hsz : ∀ i, 0 ≤ size i) {N : Nat} (hlen : keys.length = N)
    {P : String → Prop} (hmem : ∀ x, x ∈ keys ↔ P x) (k : String) :
    ∃ pages, chain v keys size (keys.length + 1) 0 (.key k) = some pages ∧
      pages.length ≤ N + 1 ∧
      Sorted ((pages.map (·.items)).flatten) ∧
      ∀ x, x ∈ (pages.map (·.items)).flatten ↔ (P x ∧ k < x) := by
  have hle := length_after_le keys k
  obtain ⟨pages, h1, h2, h3, -⟩ := chain_after v hs hne size hsz (keys.length + 1) 0 (tok := .key k) (by simp)
    (by simp only [lastKeyOf_key]; omega)
  simp only [lastKeyOf_key] at h2 h3
  exact ⟨pages, h1, by omega, h2 ▸ sorted_after hs k, fun x => by rw [h2, mem_after hne, hmem x]⟩

theorem pageAt_next {keys : List String} {r c : Nat} (hc : 1 ≤ c) {k : String} (h : (pageAt keys r c).next = some k) :
    (pageAt keys r c).items[(pageAt keys r c).items.length - 1]? = some k ∧ k ∈ keys := by
  unfold pageAt at h ⊢
  split at h
  · rename_i hle
    cases h
    obtain ⟨c, rfl⟩ : ∃ c', c = c' + 1 := ⟨c - 1, by omega⟩
    have hm : r + c < keys.length := hle
    refine ⟨?_, keyAt_mem keys _ hm⟩
    rw [List.length_take_of_le (by rw [List.length_drop]; omega), Nat.add_sub_cancel,
      List.getElem?_take_of_lt (Nat.lt_succ_self c), List.getElem?_drop]
    exact getElem?_eq_keyAt keys _ hm
  · cases h

/-- A token names the LAST item of its page, and a call carrying it, with whatever page size, resumes right after that
item. -/
theorem own_token (v : Variant) {keys : List String} (hs : Sorted keys) (hne : "" ∉ keys)
    (tok : Tok) (htok : tok ≠ .bad) (size : Int) (hsz : 0 ≤ size) (p : Page)
    (hp : listPage v keys tok size = .ok p) (k : String) (hk : p.next = some k) :
    p.items[p.items.length - 1]? = some k ∧ k ∈ keys ∧ k ≠ "" ∧
    ∀ size', 0 ≤ size' → ∃ q, listPage v keys (.key k) size' = .ok q ∧
      (p.items ++ q.items = ((keys.drop (nextIndex v keys (lastKeyOf tok))).take
        ((capPageSize size).toNat + (capPageSize size').toNat))) := by
  rw [listPage_ok v keys tok size htok hsz] at hp
  cases hp
  have hc := capPageSize_toNat_pos hsz
  obtain ⟨h1, h2⟩ := pageAt_next hc hk
  have hsv := pageAt_serves v hs hne tok hc
  refine ⟨h1, h2, fun e => hne (e ▸ h2), fun size' hsz' => ⟨_, listPage_ok v keys _ size' (by simp) hsz', ?_⟩⟩
  -- the first `c` of what `tok` is owed, then the first `c'` of what `k` is owed: the rest
  have e1 : Page.items _ = (after keys (lastKeyOf tok)).take _ := hsv.items
  have e2 : Page.items _ = (after keys k).take _ := (pageAt_serves v hs hne (.key k) (capPageSize_toNat_pos hsz')).items
  have e3 : after keys k = (after keys (lastKeyOf tok)).drop _ := (hsv.more k hk).2.2
  rw [e1, e2, e3, ← List.take_add, nextIndex_spec v hs]

/-- `listPageMasked` writes out what `Page.display` names. -/
theorem listPageMasked_eq (v : Variant) (keys : List String) (tok : Tok) (size : Int) (vis : Bool) :
    listPageMasked v keys tok size vis =
      match listPage v keys tok size with
      | .ok p => .ok (p.display vis)
      | .err c => .err c
      | .panic => .panic := by
  unfold listPageMasked Page.display
  cases listPage v keys tok size <;> rfl

theorem display_items_length (vis : Bool) (p : Page) : (p.display vis).items.length = p.items.length := by
  cases vis <;> simp [Page.display]

theorem display_true : Page.display true = id := funext fun _ => rfl

theorem display_next (vis : Bool) (p : Page) : (p.display vis).next = p.next := rfl

theorem chainMasked_eq (v : Variant) (keys : List String) (size : Nat → Int) (vis : Bool) :
    ∀ fuel i tok, chainMasked v keys size vis fuel i tok =
      (chain v keys size fuel i tok).map (·.map (Page.display vis)) := by
  intro fuel
  induction fuel with
  | zero => intro i tok; rfl
  | succ fuel ih =>
    intro i tok
    unfold chainMasked chain
    rw [listPageMasked_eq]
    cases h : listPage v keys tok (size i) with
    | ok p =>
      simp only [display_next]
      cases p.next with
      | none => rfl
      | some k =>
        simp only [ih]
        cases chain v keys size fuel (i + 1) (Tok.key k) <;> rfl
    | err c => rfl
    | panic => rfl

/-! Contents that CHANGE between pages (beyond the property's "held fixed"): page `i` of a chain is served from
the listing `ks i`. -/

/-- One call on a strictly ascending listing, in terms of the order alone. -/
theorem listPage_order (v : Variant) {keys : List String} (hs : Sorted keys) (hne : "" ∉ keys)
    {tok : Tok} {size : Int} {p : Page} (hp : listPage v keys tok size = .ok p) :
    Sorted p.items ∧ (∀ x ∈ p.items, lastKeyOf tok < x) ∧
    (∀ x ∈ keys, lastKeyOf tok < x → x ∈ p.items ∨ ∃ t, p.next = some t ∧ t < x) ∧
    ∀ t, p.next = some t → lastKeyOf tok < t ∧ ∀ a ∈ p.items, a ≤ t := by
  obtain ⟨htok, hsz⟩ := listPage_ok_inv hp
  have hc := capPageSize_toNat_pos hsz
  rw [listPage_ok v keys tok size htok hsz] at hp
  cases hp
  have hsv := pageAt_serves v hs hne tok hc
  have hlast := fun t => pageAt_next (keys := keys) (r := nextIndex v keys (lastKeyOf tok)) hc (k := t)
  generalize pageAt keys _ _ = p at hsv hlast
  have hL := sorted_after hs (lastKeyOf tok)
  have hlastp : p.next = none → p.items = after keys (lastKeyOf tok) := hsv.items_last (Nat.zero_le 1)
  have hmore : ∀ t, p.next = some t → p.items ++ after keys t = after keys (lastKeyOf tok) := fun _ => hsv.items_more
  have hit : p.items = (after keys (lastKeyOf tok)).take _ := hsv.items
  have hmem : ∀ x ∈ p.items, x ∈ keys ∧ lastKeyOf tok < x := fun x hx =>
    (mem_after hne).mp (List.mem_of_mem_take (hit ▸ hx))
  cases hn : p.next with
  | none =>
    rw [← hlastp hn] at hL
    exact ⟨hL, fun x hx => (hmem x hx).2, fun x hx hkx => Or.inl (hlastp hn ▸ (mem_after hne).mpr ⟨hx, hkx⟩),
      fun t ht => nomatch ht⟩
  | some t =>
    -- the page and what its token is owed are the two halves of what `tok` is owed
    rw [← hmore t hn] at hL
    obtain ⟨hs1, -, hcross⟩ := List.pairwise_append.mp hL
    obtain ⟨ht, -⟩ := hlast t hn
    refine ⟨hs1, fun x hx => (hmem x hx).2, fun x hx hkx => ?_, fun t' ht' => ?_⟩
    · have hx' := (mem_after hne).mpr ⟨hx, hkx⟩
      rw [← hmore t hn] at hx'
      exact (List.mem_append.mp hx').imp id fun h => ⟨t, rfl, ((mem_after hne).mp h).2⟩
    · cases ht'
      -- a key of the page greater than the token would also be owed to the token: on both sides of the cut
      exact ⟨(hmem t (List.mem_of_getElem? ht)).2, fun a ha => Std.not_lt.mp fun hta =>
        Std.lt_irrefl (hcross a ha a ((mem_after hne).mpr ⟨(hmem a ha).1, hta⟩))⟩

/-- By induction along the chain: every page lies behind the token it answers (`listPage_order`), so pages ascend across
the changes, and a key present at every page is either on the page or behind its token, hence on a later one. -/
theorem chainVar_facts (v : Variant) (ks : Nat → List String) (hs : ∀ i, Sorted (ks i)) (hne : ∀ i, "" ∉ ks i)
    (size : Nat → Int) :
    ∀ fuel i tok pages, chainVar v ks size fuel i tok = some pages →
      (∀ x ∈ (pages.map (·.items)).flatten, lastKeyOf tok < x) ∧
      Sorted ((pages.map (·.items)).flatten) ∧
      (∀ x, lastKeyOf tok < x → (∀ j, j < pages.length → x ∈ ks (i + j)) →
        x ∈ (pages.map (·.items)).flatten) ∧ pages ≠ [] := by
  intro fuel
  induction fuel with
  | zero => intro i tok pages h; cases h
  | succ fuel ih =>
    intro i tok pages h
    unfold chainVar at h
    split at h
    · rename_i p hp
      obtain ⟨p1, p2, p3, p4⟩ := listPage_order v (hs i) (hne i) hp
      split at h
      · rename_i hn
        cases h
        simp only [List.map_cons, List.map_nil, List.flatten_cons, List.flatten_nil, List.append_nil]
        refine ⟨p2, p1, fun x hkx hall => ?_, List.cons_ne_nil _ _⟩
        rcases p3 x (by simpa using hall 0 (by simp)) hkx with h | ⟨t, ht, -⟩
        · exact h
        · rw [hn] at ht; cases ht
      · rename_i t hn
        obtain ⟨rest, hrest, rfl⟩ := Option.map_eq_some_iff.mp h
        obtain ⟨r1, r2, r3, -⟩ := ih (i + 1) (.key t) rest hrest
        obtain ⟨hkt, hle⟩ := p4 t hn
        simp only [lastKeyOf_key] at r1 r3
        simp only [List.map_cons, List.flatten_cons]
        refine ⟨fun x hx => ?_, List.pairwise_append.mpr ⟨p1, r2, fun a ha b hb => ?_⟩, fun x hkx hall => ?_,
          List.cons_ne_nil _ _⟩
        · rcases List.mem_append.mp hx with hx | hx
          · exact p2 x hx
          · exact Std.lt_trans hkt (r1 x hx)
        · exact Std.lt_of_le_of_lt (hle a ha) (r1 b hb)
        · rcases p3 x (by simpa using hall 0 (by simp)) hkx with h | ⟨t', ht', htx⟩
          · exact List.mem_append_left _ h
          · rw [hn] at ht'; cases ht'
            refine List.mem_append_right _ (r3 x htx fun j hj => ?_)
            have := hall (j + 1) (by simp only [List.length_cons]; omega)
            rwa [show i + (j + 1) = i + 1 + j by omega] at this
    · cases h

end ScVerif.C15
