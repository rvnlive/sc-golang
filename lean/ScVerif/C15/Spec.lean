import ScVerif.C15.Paging
/-! The vocabulary of the property theorems that is not part of the model. -/
namespace ScVerif.C15

/-- The listing handed to the paging code: strictly ascending keys (sorted, no duplicates). -/
def Sorted (keys : List String) : Prop := keys.Pairwise (· < ·)

/-- Spec: the keys that come after `lastKey` in the listing ("" = from the start). -/
def after (keys : List String) (lastKey : String) : List String :=
  if lastKey = "" then keys else keys.filter (fun x => decide (lastKey < x))

theorem sorted_nodup {l : List String} (h : Sorted l) : l.Nodup :=
  List.Pairwise.imp (fun hlt e => by subst e; exact Std.lt_irrefl hlt) h

theorem after_empty (keys : List String) : after keys "" = keys := if_pos rfl

theorem length_after_le (keys : List String) (k : String) : (after keys k).length ≤ keys.length := by
  unfold after
  split
  · exact Nat.le_refl _
  · exact List.length_filter_le _ _

theorem empty_lt {s : String} (h : s ≠ "") : "" < s := by
  simp [String.lt_iff, String.toList_empty]; cases hs : s.toList <;> simp_all

theorem after_eq_filter {keys : List String} (hne : "" ∉ keys) (k : String) :
    after keys k = keys.filter (fun x => decide (k < x)) := by
  unfold after
  by_cases hk : k = ""
  · subst hk
    simp only [if_true]
    symm
    apply List.filter_eq_self.mpr
    intro a ha
    have : a ≠ "" := fun h => hne (h ▸ ha)
    simpa using empty_lt this
  · simp [hk]

theorem mem_after {keys : List String} (hne : "" ∉ keys) {k x : String} : x ∈ after keys k ↔ x ∈ keys ∧ k < x := by
  rw [after_eq_filter hne, List.mem_filter, decide_eq_true_eq]

theorem sorted_after {keys : List String} (hs : Sorted keys) (k : String) : Sorted (after keys k) := by
  unfold after
  split
  · exact hs
  · exact List.Pairwise.sublist List.filter_sublist hs

/-- The last key a token stands for: what the inline `match tok` of `listPage` computes (`""` for the empty token). -/
def lastKeyOf : Tok → String
  | .key k => k
  | _ => ""

theorem lastKeyOf_empty : lastKeyOf .empty = "" := rfl

theorem lastKeyOf_key (k : String) : lastKeyOf (.key k) = k := rfl

/-- The size a request for `size` items is allowed to return: `min (size, or 50 if 0) 1000`. -/
def allowed (size : Int) : Int := min (if size = 0 then 50 else size) 1000

theorem capPageSize_spec {size : Int} (h : 0 ≤ size) : 1 ≤ capPageSize size ∧ capPageSize size = allowed size := by
  unfold capPageSize defaultPageSize maxPageSize allowed
  split
  · omega
  · split <;> omega

theorem capPageSize_toNat_pos {size : Int} (h : 0 ≤ size) : 1 ≤ (capPageSize size).toNat := by
  have := (capPageSize_spec h).1
  omega

theorem le_allowed {len : Nat} {size : Int} (hsz : 0 ≤ size) (h : len ≤ (capPageSize size).toNat) :
    (len : Int) ≤ allowed size := by
  obtain ⟨hpos, he⟩ := capPageSize_spec hsz
  omega

/-- `down k m` = `[k-1, k-2, …]`, `m` entries (fewer when 0 is reached). -/
def down : Nat → Nat → List Nat
  | 0, _ => []
  | _ + 1, 0 => []
  | k + 1, m + 1 => k :: down k m

theorem down_zero (k : Nat) : down k 0 = [] := by cases k <;> rfl

/-- Following next_page_token while the collection changes: page number `i` is computed on `ks i`. -/
def chainVar (v : Variant) (ks : Nat → List String) (size : Nat → Int) : Nat → Nat → Tok → Option (List Page)
  | 0, _, _ => none
  | fuel + 1, i, tok =>
    match listPage v (ks i) tok (size i) with
    | .ok p =>
      match p.next with
      | none => some [p]
      | some k => (chainVar v ks size fuel (i + 1) (.key k)).map (p :: ·)
    | _ => none

end ScVerif.C15
