import ScVerif.C15.Store
/-!
C15 — the collection as RECORDS: the id an item is stored under (`byId`'s map key) AND the key field of the stored
message (`ElectricMode.id`, `Hail.id`, `Child.name`, `Publication.id`, `Consumable.name`, `Stock.consumable`).

`Collection.List` sorts the items by the id they are stored under, but the List RPCs never see that id: they
binary-search, and mint page tokens from, the key FIELD of the messages (`sortedItems[i].Id > lastKey`).  Paging is
only right when the two agree.  `Store.lean` tracks the ids alone; here every creation / update API of the six
models is followed down to the key field it stores:

* `Collection.Add(id, msg, WithGenIDIfAbsent(), WithIDCallback(msg.key = id))` — the callback writes a generated id
  into the message before it is stored; a given id is the message's own key field;
* parent `AddChild(child)` stores under `child.Name`; `AddChildTrait(name)` creates `{Name: name}`;
* `UpdateMode(mode, opts…)`, `UpdateHail(hail, opts…)`, `UpdateConsumable(c, opts…)`, `UpdateStock(s, opts…)`
  (`updateMsg`): the id IS the written message's key field; the empty id is refused; the caller's write options
  reach `Collection.Update`: `WithCreateIfAbsent()` and an update mask that may leave the key field out — a created
  item starts as an EMPTY message into which only the masked fields are merged.  Since 2b5cf2c (electric) and
  b40db78 (hail, vending ×2) the key field is appended to whatever mask the caller gave
  (`WithMoreUpdatePaths(key)`; a nil mask stays nil = every field);
* `UpdatePublication(id, msg, opts…)` (`updateId`): the id is a separate argument; since ac34320 a message whose
  `Id` differs from `id` (empty or foreign) is cloned and given `id`; since eb62186 the empty id is refused; since
  b40db78 the `Id` is always among the written fields;
* `Delete*(id, opts…)` removes the record; a missing one is `NotFound` unless `WithAllowMissing(true)` /
  `allow_missing` was given;
* initial records (`WithInitialMode`, `WithInitialChildren`, `WithInitialPublication`, `WithInitialConsumable`,
  `WithInitialStock`): the message is stored under its own key field; an empty key and a duplicate are refused
  (both panic at construction, by contract).

`stepWith false` is the code before b40db78 / eb62186 (the examples in `Props.lean` replay the defects on it).
-/
namespace ScVerif.C15

structure Rec where
  /-- the id the item is stored under -/
  id : String
  /-- the key field of the stored message -/
  key : String
  deriving DecidableEq

/-- `byId`, most recently created first. -/
abbrev RStore := List Rec

def RStore.ids (s : RStore) : List String := s.map (·.id)

theorem RStore.ids_cons (r : Rec) (s : RStore) : RStore.ids (r :: s) = r.id :: s.ids := rfl

/-- `byId[id].body`'s key field. -/
def RStore.keyOf (s : RStore) (id : String) : String :=
  match s.find? (fun r => r.id = id) with
  | some r => r.key
  | none => ""

/-- What the List RPC pages over: `Collection.List` (the items sorted by the id they are stored under), each item
seen through its key field. -/
def rlisting (s : RStore) : List String := (sortKeys s.ids).map s.keyOf

/-- The update mask of a write, as far as the key field is concerned. -/
inductive Mask where
  | none        -- no mask: every field is written
  | withKey     -- a mask that names the key field
  | withoutKey  -- a mask that leaves the key field out
  | empty       -- a mask that is not nil but has NO paths (`&fieldmaskpb.FieldMask{}`): on its own it writes nothing
  deriving DecidableEq

def Mask.writesKey : Mask → Bool
  | .withoutKey => false
  | .empty => false
  | _ => true

/-- `resource.WithMoreUpdatePaths(key)`: a nil mask stays nil (the guard is `request.UpdateMask == nil`), any other
mask - the one without paths included - names the key. -/
def Mask.moreKey : Mask → Mask
  | .none => .none
  | _ => .withKey

inductive RecOp where
  | add (id : String) (cand : Nat → String)
  | ensure (name : String)
  /-- `Update*(msg, opts…)` where the id is the message's key field -/
  | updateMsg (key : String) (upsert : Bool) (mask : Mask)
  /-- `UpdatePublication(id, msg, opts…)`: `msgKey` is the `Id` the written message carries -/
  | updateId (id : String) (msgKey : String) (upsert : Bool) (mask : Mask)
  | delete (id : String) (allowMissing : Bool)
  /-- a `WithInitial…(msg)` option of `NewModel`: `key` is the message's key field -/
  | initial (key : String)

/-- `Collection.Update(id, msg, opts…)` for a message whose key field is `wkey`: an existing item has the masked
fields merged in; an absent one is created (with create-if-absent) from an EMPTY message plus the masked fields. -/
def RStore.write (s : RStore) (id wkey : String) (upsert writesKey : Bool) : RStore × StoreRes :=
  if id ∈ s.ids then
    ((if writesKey then s.map (fun r => if r.id = id then { r with key := wkey } else r) else s), .ok id)
  else if upsert then ({ id := id, key := if writesKey then wkey else "" } :: s, .ok id)
  else (s, .notFound)

def RStore.stepWith (fixed : Bool) (s : RStore) : RecOp → RStore × StoreRes
  | .add id cand =>
    match (if id = "" then genId cand (fun c => decide (c ∈ s.ids)) 10 0 else some id) with
    | none => (s, .aborted)
    | some id' => if id' ∈ s.ids then (s, .alreadyExists) else ({ id := id', key := id' } :: s, .ok id')
  | .ensure name =>
    if name = "" then (s, .rejected)
    else if name ∈ s.ids then (s, .ok name) else ({ id := name, key := name } :: s, .ok name)
  | .updateMsg k upsert mask =>
    if k = "" then (s, .rejected)
    else s.write k k upsert (if fixed then mask.moreKey else mask).writesKey
  | .updateId id msgKey upsert mask =>
    if fixed && id = "" then (s, .rejected)
    else s.write id (if msgKey ≠ id then id else msgKey) upsert (if fixed then mask.moreKey else mask).writesKey
  | .delete id allowMissing =>
    if id ∈ s.ids then (s.filter (fun r => r.id != id), .ok id)
    else if allowMissing then (s, .ok id) else (s, .notFound)
  | .initial key =>
    if key = "" then (s, .rejected)
    else if key ∈ s.ids then (s, .alreadyExists) else ({ id := key, key := key } :: s, .ok key)

/-- `stepWith true`: the code at HEAD (`false` replays the code before b40db78 / eb62186). -/
def RStore.step (s : RStore) (op : RecOp) : RStore × StoreRes := s.stepWith true op

def RStore.runWith (fixed : Bool) (s : RStore) : List RecOp → RStore
  | [] => s
  | op :: ops => RStore.runWith fixed (s.stepWith fixed op).1 ops

def RStore.run (s : RStore) (ops : List RecOp) : RStore := s.runWith true ops

/-- The ids' view of an operation: a create-if-absent update is an `ensure`. -/
def RecOp.proj : RecOp → StoreOp
  | .add id cand => .add id cand
  | .ensure name => .ensure name
  | .updateMsg k upsert _ => if upsert then .ensure k else .update k
  | .updateId id _ upsert _ => if upsert then .ensure id else .update id
  | .delete id _ => .delete id
  | .initial key => .ensure key

/-- What makes `rlisting` the sorted ids (`rlisting_eq`).  It is the case `f = id` of `RStore.IInv`
(`RStore.inv_iff_iinv`), and that is how `Icpt.lean` proves it kept (`RStore.run_inv`); this form is the one the
statements about `rlisting` use. -/
def RStore.Inv (s : RStore) : Prop := Store.Inv s.ids ∧ ∀ r ∈ s, r.key = r.id

theorem RStore.inv_nil : RStore.Inv [] := ⟨⟨List.nodup_nil, List.not_mem_nil⟩, fun _ h => nomatch h⟩

theorem Mask.moreKey_writesKey (m : Mask) : m.moreKey.writesKey = true := by cases m <;> rfl

theorem ids_map_setkey (s : RStore) (p : Rec → Prop) [DecidablePred p] (h : Rec → String) :
    RStore.ids (s.map (fun r => if p r then { r with key := h r } else r)) = s.ids := by
  unfold RStore.ids
  rw [List.map_map]
  apply List.map_congr_left
  intro r _
  by_cases e : p r <;> simp [e]

/-- `UpdatePublication` forces the key field to the id it is given. -/
theorem forcedKey_eq (msgKey id : String) : (if msgKey ≠ id then id else msgKey) = id := by
  by_cases e : msgKey = id <;> simp [e]

theorem filter_ids_erase (s : RStore) (id : String) (hnd : s.ids.Nodup) :
    RStore.ids (s.filter (fun r => r.id != id)) = s.ids.erase id := by
  rw [hnd.erase_eq_filter, RStore.ids, RStore.ids, List.filter_map]
  rfl

/-- The `if` is the guard of the `updateMsg` / `updateId` branches of `stepWith`. -/
theorem RStore.write_ids (s : RStore) (id wkey : String) (upsert w : Bool) :
    (if id = "" then (s, StoreRes.rejected) else s.write id wkey upsert w).1.ids =
      (Store.step s.ids (if upsert then .ensure id else .update id)).1 := by
  -- a refused, a found and a created id are the three outcomes of `ensure`; without create-if-absent, of `update`
  unfold RStore.write
  by_cases hid : id = ""
  · cases upsert <;> simp only [hid, if_true, Store.step, Bool.false_eq_true, if_false] <;> split <;> rfl
  by_cases hm : id ∈ s.ids
  · cases upsert <;> cases w <;> simp [hid, hm, Store.step, ids_map_setkey]
  · cases upsert <;> simp [hid, hm, Store.step, RStore.ids_cons]

theorem RStore.step_ids (s : RStore) (op : RecOp) (hnd : s.ids.Nodup) :
    (s.step op).1.ids = (Store.step s.ids op.proj).1 := by
  cases op with
  | add id cand =>
    simp only [RStore.step, RStore.stepWith, RecOp.proj, Store.step]
    cases (if id = "" then genId cand (fun c => decide (c ∈ s.ids)) 10 0 else some id) with
    | none => rfl
    | some id' => dsimp only; split <;> rfl
  | updateMsg k upsert mask => exact s.write_ids k k upsert _
  | updateId id msgKey upsert mask =>
    simp only [RStore.step, RStore.stepWith, RecOp.proj, Bool.true_and, decide_eq_true_eq]
    exact s.write_ids id _ upsert _
  | delete id allowMissing =>
    simp only [RStore.step, RStore.stepWith, RecOp.proj, Store.step]
    split
    · exact filter_ids_erase s id hnd
    · split <;> rfl
  | _ =>
    -- `ensure` and `initial`: an empty key is refused, a stored one left alone, a new one put in front
    simp only [RStore.step, RStore.stepWith, RecOp.proj, Store.step, apply_ite Prod.fst, apply_ite RStore.ids,
      RStore.ids_cons]

end ScVerif.C15
