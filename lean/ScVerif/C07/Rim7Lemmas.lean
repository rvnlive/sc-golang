import ScVerif.C07.Rim7
import ScVerif.C07.WriteSet
/-! C07 — the nested heap model of lightpb (Rim7.lean): which cells each step of a write may touch
(`clone_fresh` and `protoMerge_fresh` are those of Rim6Lemmas.lean word for word: two heap types). -/
namespace ScVerif.C07.Rim7

/-- `h'` extends `h` and differs from it below `h`'s allocation pointers at most at brightness cells in `WC` and preset message
cells in `WT` -/
def Wr (h h' : H) (WC WT : Nat → Prop) : Prop :=
  h.bn ≤ h'.bn ∧ h.pn ≤ h'.pn ∧ (∀ c, c < h.bn → ¬ WC c → h'.bs c = h.bs c) ∧
    (∀ t, t < h.pn → ¬ WT t → h'.ps t = h.ps t)

def H.view (h : H) : Cells B P := ⟨h.bs, h.bn, h.ps, h.pn⟩

/-- the four facts of `Wr` as the structure of WriteSet.lean: the proofs use this form, the `_spec` statements the tuple -/
abbrev Wrv (h h' : H) (WC WT : Nat → Prop) : Prop := h.view.Wr h'.view WC WT

theorem wr_view {h h' : H} {WC WT : Nat → Prop} (a : Wr h h' WC WT) : Wrv h h' WC WT := ⟨a.1, a.2.1, a.2.2.1, a.2.2.2⟩

theorem wr_of_view {h h' : H} {WC WT : Nat → Prop} (a : Wrv h h' WC WT) : Wr h h' WC WT :=
  ⟨a.an_le, a.bn_le, a.a_same, a.b_same⟩

theorem Wr.trans' {h h' h'' : H} {WC WT WC' WT' : Nat → Prop} (a : Wr h h' WC WT) (b : Wr h' h'' WC' WT')
    (hc : ∀ c, c < h.bn → WC' c → WC c) (ht : ∀ t, t < h.pn → WT' t → WT t) : Wr h h'' WC WT :=
  ⟨Nat.le_trans a.1 b.1, Nat.le_trans a.2.1 b.2.1,
    fun c h1 hw => (b.2.2.1 c (Nat.lt_of_lt_of_le h1 a.1) (fun w => hw (hc c h1 w))).trans (a.2.2.1 c h1 hw),
    fun t h1 hw => (b.2.2.2 t (Nat.lt_of_lt_of_le h1 a.2.1) (fun w => hw (ht t h1 w))).trans (a.2.2.2 t h1 hw)⟩

theorem Wr.mono {h h' : H} {WC WT WC' WT' : Nat → Prop} (a : Wr h h' WC WT) (hc : ∀ c, WC c → WC' c)
    (ht : ∀ t, WT t → WT' t) : Wr h h' WC' WT' :=
  ⟨a.1, a.2.1, fun c h1 h2 => a.2.2.1 c h1 (fun w => h2 (hc c w)), fun t h1 h2 => a.2.2.2 t h1 (fun w => h2 (ht t w))⟩

abbrev Fresh (h0 h : H) (WC WT : Nat → Prop) (d : Nat) : Prop := Cells.Fresh B.preset h0.view h.view WC WT d

theorem clone_ref (h : H) (c : Nat) : (clone h c).2 = h.bn := by
  unfold clone; split <;> rfl

theorem clone_deep (h : H) (c : Nat) : deep (clone h c).1 h.bn = deep h c := by
  unfold clone
  cases hr : (h.bs c).preset <;> simp [deep, H.allocB, H.allocP, hr]

variable {h0 h : H} {WC WT : Nat → Prop} {d : Nat}

theorem clone_fresh (x : Wrv h0 h WC WT) (c : Nat) : Fresh h0 (clone h c).1 WC WT (clone h c).2 := by
  unfold clone
  split
  · next hr => exact x.fresh _ fun t ht => nomatch hr.symm.trans ht
  · exact (x.allocB _).fresh _ fun t ht => by cases ht; exact ⟨x.bn_le, Nat.lt_succ_self _⟩

/-- `proto.Merge(dst, src)` writes `dst` and `dst`'s OWN preset message, or gives it a new one -/
theorem protoMerge_fresh (p : Fresh h0 h WC WT d) (src : Nat) : Fresh h0 (protoMerge h d src) WC WT d := by
  simp only [protoMerge]
  split
  · exact p.setD _ fun t ht => .inl ht
  · split
    · exact (p.allocB _).setD _ fun t ht => by cases ht; exact .inr ⟨p.wr.bn_le, Nat.lt_succ_self _⟩
    · next dt hd => exact (p.setB (.inr (p.sub dt hd).1) _).setD _ fun t ht => .inl ht

/-- the in-place filter of the source writes `src` and, under a nested mask, the preset message `src` refers to -/
theorem filterSrc_fresh (m : Mask) (p : Fresh h0 h WC WT d) {src : Nat} (hs : WC src ∨ h0.bn ≤ src) (hne : src ≠ d)
    (hsp : ∀ q, (h.bs src).preset = some q → WT q ∨ h0.pn ≤ q) : Fresh h0 (filterSrc m h src) WC WT d := by
  simp only [filterSrc]
  split
  · next q _ hq => exact (p.setA hs hne _).setB (hsp q hq) _
  · exact p.setA hs hne _

/-- `pruneEmpty` writes `dst` and `dst`'s own preset message; `dst` gets no new reference -/
theorem pruneEmpty_fresh (m : Mask) (p : Fresh h0 h WC WT d) (src : Nat) : Fresh h0 (pruneEmpty m h d src) WC WT d := by
  have p1 := p.setD { h.bs d with level := if m.level && (h.bs src).level = 0 then 0 else (h.bs d).level }
    fun t ht => .inl ht
  simp only [pruneEmpty]
  split
  · exact p1
  · next dp hd =>
    have hdp := (p.sub dp hd).1
    split
    · exact p1
    · split
      · exact p1.setD _ fun t ht => by cases ht
      · exact p1
    · split <;> exact p1.setB (.inr hdp) _

/-- `FieldUpdater.Merge(dst, src)` for every update mask, nested ones included: of what existed it writes at most `src`
and the preset message `src` refers to -/
theorem merge_fresh (u : Option Mask) (p : Fresh h0 h WC WT d) {src : Nat} (hs : WC src ∨ h0.bn ≤ src) (hne : src ≠ d)
    (hsp : ∀ q, (h.bs src).preset = some q → WT q ∨ h0.pn ≤ q) : Fresh h0 (merge u h d src) WC WT d := by
  cases u with
  | none => exact protoMerge_fresh (p.setD _ fun t ht => by cases ht) src
  | some m =>
    simp only [merge]
    split
    · exact p
    · exact pruneEmpty_fresh m (protoMerge_fresh (filterSrc_fresh m p hs hne hsp) src) src

/-- `Value.Set` at any point of a call that started from `h0`: the write sets hold `src` and the preset message `src`
refers to unless the call built them -/
theorem valueSet_fresh (u : Option Mask) (x : Wrv h0 h WC WT) (old : Nat) {src : Nat} (hs : WC src ∨ h0.bn ≤ src)
    (hsrc : src < h.bn) (hsp : ∀ q, (h.bs src).preset = some q → WT q ∨ h0.pn ≤ q) :
    Fresh h0 (valueSet u h old src).1 WC WT (valueSet u h old src).2 := by
  -- the clone leaves `src` as it is and is another cell
  have cl := clone_fresh (Cells.Wr.refl h.view (fun _ => False) (fun _ => False)) old
  refine merge_fresh u (clone_fresh x old) hs (Nat.ne_of_lt (Nat.lt_of_lt_of_le hsrc cl.lo)) fun q hq => hsp q ?_
  rwa [show (clone h old).1.bs src = h.bs src from cl.wr.a_same src hsrc id] at hq

theorem valueSet_spec (u : Option Mask) (h : H) (old src : Nat) (hsrc : src < h.bn) :
    Wr h (valueSet u h old src).1 (· = src) (fun p => (h.bs src).preset = some p) ∧
    (valueSet u h old src).2 = h.bn ∧ (valueSet u h old src).1.bn = h.bn + 1 ∧
    (∀ p, ((valueSet u h old src).1.bs h.bn).preset = some p → h.pn ≤ p) := by
  have p := valueSet_fresh u (Cells.Wr.refl h.view (· = src) (fun p => (h.bs src).preset = some p)) old (.inl rfl) hsrc
    fun _ hq => .inl hq
  have ref : (valueSet u h old src).2 = h.bn := clone_ref h old
  exact ⟨wr_of_view p.wr, ref, ref ▸ p.top, fun t ht => (p.sub t (ref ▸ ht)).1⟩

theorem setLevel_spec (h : H) (table : Table) (b : Nat) :
    Wr h (setLevel h table b).1 (· = b) (fun _ => False) ∧ (setLevel h table b).1.bn = h.bn ∧
    ((setLevel h table b).2 = false → (setLevel h table b).1 = h) ∧
    ((setLevel h table b).2 = true →
      ((setLevel h table b).1.bs b).preset = some h.pn ∧ (setLevel h table b).1.pn = h.pn + 1) := by
  simp only [setLevel]
  split
  · exact ⟨wr_of_view (Cells.Wr.refl _ _ _), rfl, fun _ => rfl, fun x => by simp at x⟩
  · split
    · exact ⟨wr_of_view (Cells.Wr.refl _ _ _), rfl, fun _ => rfl, fun x => by simp at x⟩
    · refine ⟨wr_of_view (((Cells.Wr.refl h.view (· = b) _).allocB _).setA (r := b) (.inl rfl) _), rfl,
        fun x => by simp at x, fun _ => ⟨by simp [H.setB], rfl⟩⟩

/-- the state of the witness: the stored brightness 0 (level 10, no preset), the caller's brightness 1 naming preset
"n1" (its own preset message 1), the configured preset "n1" / "T1" at level 40 (preset message 0) -/
def exH : H :=
  { bs := fun x => if x = 1 then ⟨0, some 1⟩ else ⟨10, none⟩, bn := 2,
    ps := fun x => if x = 0 then ⟨"n1", "T1"⟩ else ⟨"n1", ""⟩, pn := 2 }

end ScVerif.C07.Rim7
