import ScVerif.Generated.C07Facts
/-! # C07 — K3 table: loops over resource Pull channels (regenerated from the source tree on every run) -/
namespace ScVerif.C07
open ScVerif.Generated.C07

/-- No `range` loop over a resource `Pull`/`PullID` channel in `pkg/trait`
contains a DEFINITE write through the change it received (with a nil read mask that value IS the
stored message). Receives the tracker does not recognise (select/receive instead of range) and calls
it cannot see into are undecided, not failures: the snapshot monitor covers them. -/
theorem C07_pull_loops_pure : ∀ r, r ∈ pullLoops → r.pure = true := by decide

example : pullLoops.length ≥ 20 := by decide

end ScVerif.C07
