/-!
C07 — rim model: a model method that hands a STORED message to a write as its source.

`FieldUpdater.Merge(dst, src)` (pkg/masks/update.go) filters `src` IN PLACE (`writableMask.Filter(src)`,
`updateMask.Filter(src)`): a write edits the message it is handed. For a caller's own request that is the caller's
business (ScVerif/C07/Core.lean has it in the write set of the call); a model method that looks a message up in one
resource and hands it to the write of another resource hands over a message readers and subscribers hold.

electricpb `Model.changeActiveMode` (pkg/trait/electricpb/model.go; `ChangeActiveMode`, `ChangeToNormalMode`,
`ModelServer.UpdateActiveMode`, `ModelServer.ClearActiveMode`): `findMode(id)` returns the stored record of the modes
collection, `activeMode.Set(…, InterceptAfter(start time))` is the write. Since fix 5105353 the write is handed
`proto.Clone(mode)`; before, the stored record itself (`changeActiveStored`).

`merge` stands for `FieldUpdater.Merge` under WHATEVER the active mode resource is configured with (writable fields
or none) as a function from the contents of (dst, src) to their new contents; `after` for the after-interceptor as
a function from (old contents, new contents) to the new contents (it writes `new` only). References are natural
numbers, `next` is the allocation pointer (as in Rim.lean / Rim3.lean / Rim4.lean).
-/
namespace ScVerif.C07.Rim5

structure H (M : Type) where
  cells : Nat → M
  next : Nat

def H.alloc {M : Type} (h : H M) (m : M) : H M × Nat :=
  ({ cells := fun x => if x = h.next then m else h.cells x, next := h.next + 1 }, h.next)

def H.set {M : Type} (h : H M) (r : Nat) (m : M) : H M :=
  { h with cells := fun x => if x = r then m else h.cells x }

/-- the modes collection: key ↦ reference of the stored record -/
abbrev Store := List (String × Nat)

def find (s : Store) (k : String) : Option Nat := (s.find? (fun kr => kr.1 = k)).map (·.2)

/-- `Value.Set(src, InterceptAfter(after))` without update / reset mask as far as messages go (GetAndUpdate +
changeFn): `dst = proto.Clone(old)`; `writer.Merge(dst, src)` writes BOTH; the after-interceptor writes `dst`;
`dst` becomes the value, is announced and returned. Returns the heap and the reference of the new value. -/
def valueSet {M : Type} (merge : M → M → M × M) (after : M → M → M) (h : H M) (old src : Nat) : H M × Nat :=
  let (h1, dst) := h.alloc (h.cells old)
  let ds := merge (h1.cells dst) (h1.cells src)
  let h2 := (h1.set dst ds.1).set src ds.2
  (h2.set dst (after (h2.cells old) (h2.cells dst)), dst)

structure Res (M : Type) where
  heap : H M
  /-- the reference held by the active mode value afterwards -/
  active : Nat
  /-- the returned message (`none`: ErrModeNotFound) -/
  result : Option Nat

/-- `changeActiveMode(id)` as it is now (fix 5105353): the write is handed a clone of the stored mode -/
def changeActive {M : Type} (merge : M → M → M × M) (after : M → M → M) (h : H M) (modes : Store) (active : Nat)
    (id : String) : Res M :=
  match find modes id with
  | none => { heap := h, active := active, result := none }
  | some r =>
    let (h1, c) := h.alloc (h.cells r)
    let (h2, d) := valueSet merge after h1 active c
    { heap := h2, active := d, result := some d }

/-- before fix 5105353: the stored mode itself is the source of the write -/
def changeActiveStored {M : Type} (merge : M → M → M × M) (after : M → M → M) (h : H M) (modes : Store) (active : Nat)
    (id : String) : Res M :=
  match find modes id with
  | none => { heap := h, active := active, result := none }
  | some r =>
    let (h2, d) := valueSet merge after h active r
    { heap := h2, active := d, result := some d }

/-- `Model.SetActiveMode(mode)` (the exported Go entry point): the id must be known, then the CALLER's message
is the source of `activeMode.Set` (no interceptor, "the mode.StartTime will not be set for you"). `idOf` reads the id
of a message. The result is the new active mode (the Go function returns only the error). -/
def setActive {M : Type} (idOf : M → String) (merge : M → M → M × M) (h : H M) (modes : Store) (active src : Nat) : Res M :=
  match find modes (idOf (h.cells src)) with
  | none => { heap := h, active := active, result := none }
  | some _ =>
    let (h2, d) := valueSet merge (fun _ n => n) h active src
    { heap := h2, active := d, result := some d }

/-- the shape of seeded change C07-20 ("activate the mode as it is known"): the caller's start time is written onto
the LOOKED-UP mode, a clone of which is then the source of the write -/
def setActiveKnown {M : Type} (idOf : M → String) (withStart : M → M → M) (merge : M → M → M × M) (h : H M)
    (modes : Store) (active src : Nat) : Res M :=
  match find modes (idOf (h.cells src)) with
  | none => { heap := h, active := active, result := none }
  | some r =>
    let h1 := h.set r (withStart (h.cells r) (h.cells src))
    let (h2, c) := h1.alloc (h1.cells r)
    let (h3, d) := valueSet merge (fun _ n => n) h2 active c
    { heap := h3, active := d, result := some d }

/-! ### the concrete instance the driver runs: an `ElectricMode` as (id, title, description, start time set) and
`FieldUpdater.Merge` with optional writable fields over {id, title, description, start time} -/

structure EMode where
  id : String
  title : String
  descr : String
  /-- `start_time` (a step counter of the injected clock; 0 = not set) -/
  start : Nat
  deriving DecidableEq

structure WMask where
  id : Bool
  title : Bool
  descr : Bool
  start : Bool

/-- `writableMask.Filter(src)`: fields outside the mask are cleared -/
def filterE (w : WMask) (m : EMode) : EMode :=
  { id := if w.id then m.id else "", title := if w.title then m.title else "",
    descr := if w.descr then m.descr else "", start := if w.start then m.start else 0 }

/-- `FieldUpdater.Merge(dst, src)` without update mask: no writable fields → `dst` looks like `src`, `src` untouched;
an EMPTY writable mask → nothing is written (early return); otherwise `src` is filtered in place, the writable
fields of `dst` are pruned and the filtered `src` merged in -/
def mergeE (w : Option WMask) (dst src : EMode) : EMode × EMode :=
  match w with
  | none => (src, src)
  | some w =>
    if !w.id && !w.title && !w.descr && !w.start then (dst, src)
    else
      ({ id := if w.id then src.id else dst.id, title := if w.title then src.title else dst.title,
         descr := if w.descr then src.descr else dst.descr, start := if w.start then src.start else dst.start },
       filterE w src)

/-- the after-interceptor of `changeActiveMode`: a new start time when the id changes -/
def afterE (now : Nat) (old new : EMode) : EMode :=
  if old.id ≠ new.id then { new with start := now } else new

/-! ### driver -/

/-- `id:title:descr` -/
def parseMode? (s : String) : Option EMode :=
  match s.splitOn ":" with
  | [a, b, c] => some ⟨a, b, c, 0⟩
  | _ => none

/-- `-` = no writable fields configured, else four 0/1 for id, title, description, start_time (`0000` = the empty mask) -/
def parseW? (s : String) : Option (Option WMask) :=
  if s = "-" then some none
  else match s.toList with
    | [a, b, c, d] =>
      if [a, b, c, d].all (fun ch => ch = '0' || ch = '1') then some (some ⟨a = '1', b = '1', c = '1', d = '1'⟩) else none
    | _ => none

def showMode (m : EMode) : String := s!"{m.id}:{m.title}:{m.descr}:{if m.start = 0 then "-" else toString m.start}"

/-- the calls of a script, the clock reading `k + 1` during call `k` -/
def runCalls (w : Option WMask) (modes : Store) : H EMode → Nat → Nat → List String → List String → H EMode × List String
  | h, _, _, [], out => (h, out.reverse)
  | h, active, k, id :: rest, out =>
    let r := changeActive (mergeE w) (afterE (k + 1)) h modes active id
    let o := match r.result with
      | some d => showMode (r.heap.cells d)
      | none => "nf"
    runCalls w modes r.heap r.active (k + 1) rest (o :: out)

/-- `rim active <w> <active mode> <mode;mode|-> <id,id>`: cell 0 is the initial active mode, cells 1.. the stored modes
(key = their id) → the result of every `ChangeActiveMode(id)` (`nf` = not found), then `|modes=` the stored modes
afterwards -/
def handleActive (toks : List String) : String :=
  match toks with
  | [w, act, ms, ids] =>
    match parseW? w, parseMode? act, (if ms = "-" then some [] else (ms.splitOn ";").mapM parseMode?) with
    | some w, some act, some ms =>
      let h : H EMode := { cells := fun x => if x = 0 then act else ms.getD (x - 1) ⟨"", "", "", 0⟩, next := ms.length + 1 }
      let store : Store := (List.range ms.length).map fun i => ((ms.getD i ⟨"", "", "", 0⟩).id, i + 1)
      let (h', outs) := runCalls w store h 0 0 (ids.splitOn ",") []
      ",".intercalate outs ++ "|modes=" ++ ";".intercalate (store.map fun kr => showMode (h'.cells kr.2))
    | _, _, _ => "!bad-op"
  | _ => "!bad-op"

/-- `id:title:descr:start` (`-` = no start time) -/
def parseModeS? (s : String) : Option EMode :=
  match s.splitOn ":" with
  | [a, b, c, d] => if d = "-" then some ⟨a, b, c, 0⟩ else d.toNat?.map fun n => ⟨a, b, c, n⟩
  | _ => none

/-- the `SetActiveMode` calls of a script; cell `src` of call `k` is the caller's message -/
def runSets (w : Option WMask) (modes : Store) : H EMode → Nat → List Nat → List String → H EMode × List String
  | h, _, [], out => (h, out.reverse)
  | h, active, src :: rest, out =>
    let r := setActive (·.id) (mergeE w) h modes active src
    let o := match r.result with
      | some d => showMode (r.heap.cells d)
      | none => "nf"
    runSets w modes r.heap r.active rest (o :: out)

/-- `rim setactive <w> <active mode> <mode;mode|-> <mode:start,mode:start>`: cell 0 is the initial active mode, cells
1..n the stored modes, the following cells the caller's messages, one per call → per `SetActiveMode` call the active
mode afterwards (`nf` = not found), `|modes=` the stored modes afterwards, `|own=` the caller's messages afterwards -/
def handleSetActive (toks : List String) : String :=
  match toks with
  | [w, act, ms, calls] =>
    match parseW? w, parseMode? act, (if ms = "-" then some [] else (ms.splitOn ";").mapM parseMode?),
        (calls.splitOn ",").mapM parseModeS? with
    | some w, some act, some ms, some cs =>
      let all := act :: (ms ++ cs)
      let h : H EMode := { cells := fun x => all.getD x ⟨"", "", "", 0⟩, next := all.length }
      let store : Store := (List.range ms.length).map fun i => ((ms.getD i ⟨"", "", "", 0⟩).id, i + 1)
      let srcs := (List.range cs.length).map (· + ms.length + 1)
      let (h', outs) := runSets w store h 0 srcs []
      ",".intercalate outs ++ "|modes=" ++ ";".intercalate (store.map fun kr => showMode (h'.cells kr.2)) ++
        "|own=" ++ ";".intercalate (srcs.map fun c => showMode (h'.cells c))
    | _, _, _, _ => "!bad-op"
  | _ => "!bad-op"

end ScVerif.C07.Rim5
