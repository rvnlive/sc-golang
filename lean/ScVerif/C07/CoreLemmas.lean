import ScVerif.C07.Core
/-! Every phase of an operation extends the state (`Ext`): it allocates upwards, writes below the old pointer only inside
a write set, and what it newly publishes is fresh or named in a list `P`, to be justified at the end. -/
namespace ScVerif.C07

variable {M Mask : Type}

@[simp] theorem Heap.set_same (h : Heap M) (r : Ref) (m : M) : h.set r m r = m := by simp [Heap.set]

theorem Heap.set_ne (h : Heap M) {r x : Ref} (m : M) (hx : x ≠ r) : h.set r m x = h x := by
  simp [Heap.set, hx]

/-- `s'` extends `s`, writing below `s.next` only inside `W` and newly publishing only fresh refs or refs in `P`. -/
structure Ext (s s' : St M Mask) (W P : List Ref) : Prop where
  next_le : s.next ≤ s'.next
  frame : ∀ r, r < s.next → r ∉ W → s'.heap r = s.heap r
  pub_old : ∀ r, r ∈ s.pub → r ∈ s'.pub
  pub_new : ∀ r, r ∈ s'.pub → r ∈ s.pub ∨ (s.next ≤ r ∧ r < s'.next) ∨ r ∈ P
  owned_eq : s'.owned = s.owned
  stored_new : ∀ r, Stored s' r → Stored s r ∨ (s.next ≤ r ∧ r < s'.next ∧ r ∈ s'.pub)

theorem Ext.refl (s : St M Mask) : Ext s s [] [] :=
  ⟨Nat.le_refl _, fun _ _ _ => rfl, fun _ h => h, fun _ h => Or.inl h, rfl, fun _ h => Or.inl h⟩

theorem Ext.trans {s s1 s2 : St M Mask} {W1 P1 W2 P2 : List Ref}
    (a : Ext s s1 W1 P1) (b : Ext s1 s2 W2 P2) : Ext s s2 (W1 ++ W2) (P1 ++ P2) where
  next_le := Nat.le_trans a.next_le b.next_le
  frame r hr hw := by
    have h1 : r ∉ W1 := fun h => hw (List.mem_append.mpr (Or.inl h))
    have h2 : r ∉ W2 := fun h => hw (List.mem_append.mpr (Or.inr h))
    rw [b.frame r (Nat.lt_of_lt_of_le hr a.next_le) h2, a.frame r hr h1]
  pub_old r h := b.pub_old r (a.pub_old r h)
  pub_new r h := by
    rcases b.pub_new r h with h | h | h
    · rcases a.pub_new r h with h | h | h
      · exact Or.inl h
      · exact Or.inr (Or.inl ⟨h.1, Nat.lt_of_lt_of_le h.2 b.next_le⟩)
      · exact Or.inr (Or.inr (List.mem_append.mpr (Or.inl h)))
    · exact Or.inr (Or.inl ⟨Nat.le_trans a.next_le h.1, h.2⟩)
    · exact Or.inr (Or.inr (List.mem_append.mpr (Or.inr h)))
  owned_eq := by rw [b.owned_eq, a.owned_eq]
  stored_new r h := by
    rcases b.stored_new r h with h | h
    · rcases a.stored_new r h with h | h
      · exact Or.inl h
      · exact Or.inr ⟨h.1, Nat.lt_of_lt_of_le h.2.1 b.next_le, b.pub_old r h.2.2⟩
    · exact Or.inr ⟨Nat.le_trans a.next_le h.1, h.2.1, h.2.2⟩

theorem Ext.mono {s s' : St M Mask} {W P W' P' : List Ref} (a : Ext s s' W P)
    (hw : ∀ r, r ∈ W → r ∈ W') (hp : ∀ r, r ∈ P → r ∈ P') : Ext s s' W' P' :=
  { a with
    frame := fun r hr h => a.frame r hr (fun h' => h (hw r h'))
    pub_new := fun r h => by
      rcases a.pub_new r h with h | h | h
      · exact Or.inl h
      · exact Or.inr (Or.inl h)
      · exact Or.inr (Or.inr (hp r h)) }

/-- `s'` is `s` after handing messages out: an `Ext` that writes nothing, with the store and the subscriber lists as
they were and every message among `items` published -/
structure Delivers (s s' : St M Mask) (P : List Ref) (items : List Item) : Prop where
  ext : Ext s s' [] P
  val : s'.val = s.val
  coll : s'.coll = s.coll
  vsubs : s'.vsubs = s.vsubs
  csubs : s'.csubs = s.csubs
  items : ∀ x, Item.msg x ∈ items → x ∈ s'.pub

theorem Delivers.refl (s : St M Mask) : Delivers s s [] [] :=
  ⟨Ext.refl s, rfl, rfl, rfl, rfl, fun _ h => nomatch h⟩

theorem Delivers.trans {s s1 s2 : St M Mask} {P1 P2 : List Ref} {i1 i2 : List Item}
    (a : Delivers s s1 P1 i1) (b : Delivers s1 s2 P2 i2) : Delivers s s2 (P1 ++ P2) (i1 ++ i2) where
  ext := a.ext.trans b.ext
  val := b.val.trans a.val
  coll := b.coll.trans a.coll
  vsubs := b.vsubs.trans a.vsubs
  csubs := b.csubs.trans a.csubs
  items x h := (List.mem_append.mp h).elim (fun h => b.ext.pub_old x (a.items x h)) (b.items x)

theorem Delivers.mono {s s' : St M Mask} {P P' : List Ref} {items : List Item} (a : Delivers s s' P items)
    (hp : ∀ r, r ∈ P → r ∈ P') : Delivers s s' P' items :=
  { a with ext := a.ext.mono (fun _ h => h) hp }

theorem Delivers.cons {s s' : St M Mask} {P : List Ref} {items : List Item} (a : Delivers s s' P items) (it : Item)
    (hit : ∀ x, Item.msg x ≠ it) : Delivers s s' P (it :: items) :=
  { a with items := fun x h => a.items x ((List.mem_cons.mp h).resolve_left (hit x)) }

theorem deliver_delivers (F : Funs M Mask) (mask : Option Mask) (s : St M Mask) (r : Option Ref) :
    Delivers s (deliver F mask s r).1 r.toList [(deliver F mask s r).2] := by
  cases r with
  | none => simpa [deliver] using (Delivers.refl s).cons .absent fun _ => Item.noConfusion
  | some r =>
    have old : ∀ {l : List Ref} x, x ∈ s.pub → x ∈ s.pub ++ l := fun _ h => List.mem_append.mpr (.inl h)
    have item : ∀ {x y : Ref}, Item.msg x ∈ [Item.msg y] → x ∈ s.pub ++ [y] := fun h =>
      List.mem_append.mpr (.inr (List.mem_singleton.mpr (Item.msg.inj (List.mem_singleton.mp h))))
    cases mask with
    | none =>
      refine ⟨⟨Nat.le_refl _, fun _ _ _ => rfl, old, fun x hx => ?_, rfl, fun _ h => .inl h⟩, rfl, rfl, rfl, rfl,
        fun _ => item⟩
      exact (List.mem_append.mp hx).imp_right .inr
    | some m =>
      refine ⟨⟨Nat.le_succ _, fun x hx _ => Heap.set_ne _ _ (Nat.ne_of_lt hx), old, fun x hx => ?_, rfl,
        fun _ h => .inl h⟩, rfl, rfl, rfl, rfl, fun _ => item⟩
      refine (List.mem_append.mp hx).imp_right fun h => .inl ?_
      cases List.mem_singleton.mp h
      exact ⟨Nat.le_refl _, Nat.lt_succ_self _⟩

/-- what `deliver` answers has crossed: it is in the published list afterwards -/
theorem deliver_item (F : Funs M Mask) (mask : Option Mask) (s : St M Mask) (r : Option Ref) (x : Ref)
    (h : (deliver F mask s r).2 = .msg x) : x ∈ (deliver F mask s r).1.pub :=
  (deliver_delivers F mask s r).items x (List.mem_singleton.mpr h.symm)

theorem deliverList_delivers (F : Funs M Mask) (mask : Option Mask) (rs : List Ref) :
    ∀ s : St M Mask, Delivers s (deliverList F mask s rs).1 rs (deliverList F mask s rs).2 := by
  induction rs with
  | nil => exact Delivers.refl
  | cons r rs ih => exact fun s => (deliver_delivers F mask s (some r)).trans (ih _)

theorem emit_delivers (F : Funs M Mask) (tag : String) (old new : Option Ref) (subs : List (Sub Mask)) :
    ∀ s : St M Mask, Delivers s (emit F tag old new s subs).1 (old.toList ++ new.toList) (emit F tag old new s subs).2 := by
  induction subs with
  | nil => exact fun s => (Delivers.refl s).mono (fun _ h => nomatch h)
  | cons sub rest ih =>
    intro s
    simp only [emit]
    split
    · -- a live subscriber: the old value, the new value, then the rest
      refine (((deliver_delivers F sub.mask s old).trans ((deliver_delivers F sub.mask _ new).trans (ih _))).cons
        (.tag tag) fun _ => Item.noConfusion).mono ?_
      intro r h
      simp only [List.mem_append] at h ⊢
      rcases h with h | h | h
      · exact .inl h
      · exact .inr h
      · exact h
    · exact ih s

theorem emit_store (F : Funs M Mask) (tag : String) (old new : Option Ref) (subs : List (Sub Mask)) :
    ∀ s : St M Mask, (emit F tag old new s subs).1.val = s.val ∧ (emit F tag old new s subs).1.coll = s.coll ∧
      (emit F tag old new s subs).1.vsubs = s.vsubs ∧ (emit F tag old new s subs).1.csubs = s.csubs :=
  fun s => have d := emit_delivers F tag old new subs s
  ⟨d.val, d.coll, d.vsubs, d.csubs⟩

theorem emitOnly_delivers (F : Funs M Mask) (id : Nat) (new : Ref) (subs : List (Sub Mask)) :
    ∀ s : St M Mask, Delivers s (emitOnly F id new s subs).1 [new] (emitOnly F id new s subs).2 := by
  induction subs with
  | nil => exact fun s => (Delivers.refl s).mono (fun _ h => nomatch h)
  | cons sub rest ih =>
    intro s
    simp only [emitOnly]
    split
    · refine (((deliver_delivers F sub.mask s (some new)).trans (ih _)).cons (.tag "P") fun _ => Item.noConfusion).mono ?_
      intro r h
      simpa using h
    · exact ih s

theorem emitOnly_store (F : Funs M Mask) (id : Nat) (new : Ref) (subs : List (Sub Mask)) :
    ∀ s : St M Mask, (emitOnly F id new s subs).1.val = s.val ∧ (emitOnly F id new s subs).1.coll = s.coll ∧
      (emitOnly F id new s subs).1.vsubs = s.vsubs ∧ (emitOnly F id new s subs).1.csubs = s.csubs :=
  fun s => have d := emitOnly_delivers F id new subs s
  ⟨d.val, d.coll, d.vsubs, d.csubs⟩

theorem runCb_frame (cb : Option (Cb M)) (hp : ∀ f, cb = some f → OldPure f) (h : Heap M) (o : Option Ref) (n r : Ref)
    (hr : r ≠ n) : runCb cb h o n r = h r := by
  cases cb with
  | none => rfl
  | some f => exact hp f rfl h o n r hr

theorem change_frame (F : Funs M Mask) (s : St M Mask) (old : Option Ref) (dst src : Ref) (o : WOpts M Mask)
    (hp : o.Pure) (r : Ref) (hd : r ≠ dst) (hs : r ≠ src) : (change F s old dst src o).1 r = s.heap r := by
  unfold change
  simp only
  split
  · rfl
  · split
    · rfl
    · simp only
      rw [runCb_frame o.after hp.2 _ _ _ _ hd, Heap.set_ne _ _ hs, Heap.set_ne _ _ hd,
        runCb_frame o.before hp.1 _ _ _ _ hs]

theorem lookup_mem {c : List (Nat × Ref)} {id : Nat} {r : Ref} (h : lookup c id = some r) : (id, r) ∈ c := by
  -- the pair `find?` returns is in the list and has the key
  obtain ⟨p, hf, rfl⟩ := Option.map_eq_some_iff.mp h
  have hk : p.1 = id := of_decide_eq_true (List.find?_some (p := fun x : Nat × Ref => decide (x.1 = id)) hf)
  exact hk ▸ List.mem_of_find?_eq_some hf

theorem mem_insertSorted {id k : Nat} {r v : Ref} {c : List (Nat × Ref)}
    (h : (k, v) ∈ insertSorted id r c) : (k, v) = (id, r) ∨ (k, v) ∈ c := by
  induction c with
  | nil => simp [insertSorted] at h; exact Or.inl (by simp [h])
  | cons p rest ih =>
    cases p with
    | mk a b =>
      simp only [insertSorted] at h
      split at h
      · simp only [List.mem_cons] at h ⊢
        rcases h with h | h | h
        · exact Or.inl h
        · exact Or.inr (Or.inl h)
        · exact Or.inr (Or.inr h)
      · split at h
        · simp only [List.mem_cons] at h ⊢
          rcases h with h | h
          · exact Or.inl h
          · exact Or.inr (Or.inr h)
        · simp only [List.mem_cons] at h ⊢
          rcases h with h | h
          · exact Or.inr (Or.inl h)
          · rcases ih h with h | h
            · exact Or.inl h
            · exact Or.inr (Or.inr h)

theorem mem_erase {id k : Nat} {v : Ref} {c : List (Nat × Ref)} (h : (k, v) ∈ erase id c) : (k, v) ∈ c := by
  unfold erase at h
  exact (List.mem_filter.mp h).1

/-- published references are allocated; caller-owned messages are allocated and never published;
whatever the store holds has been published (it is what an unmasked Get returns). -/
structure Inv (s : St M Mask) : Prop where
  pub_lt : ∀ r, r ∈ s.pub → r < s.next
  owned_ok : ∀ r, r ∈ s.owned → r < s.next ∧ r ∉ s.pub
  stored_pub : ∀ r, Stored s r → r ∈ s.pub

theorem Inv.init (w : Option Mask) (h : Heap M) : Inv (St.init w h) :=
  ⟨fun r hr => by simp [St.init] at hr, fun r hr => by simp [St.init] at hr,
    fun r hr => by simp [Stored, St.init] at hr⟩

theorem Ext.inv {s s' : St M Mask} {W P : List Ref} (e : Ext s s' W P) (hi : Inv s)
    (hP : ∀ r, r ∈ P → Stored s r ∨ (s.next ≤ r ∧ r < s'.next)) : Inv s' where
  pub_lt r hr := by
    rcases e.pub_new r hr with h | h | h
    · exact Nat.lt_of_lt_of_le (hi.pub_lt r h) e.next_le
    · exact h.2
    · rcases hP r h with h | h
      · exact Nat.lt_of_lt_of_le (hi.pub_lt r (hi.stored_pub r h)) e.next_le
      · exact h.2
  owned_ok r hr := by
    rw [e.owned_eq] at hr
    have ho := hi.owned_ok r hr
    refine ⟨Nat.lt_of_lt_of_le ho.1 e.next_le, fun hp => ?_⟩
    rcases e.pub_new r hp with h | h | h
    · exact ho.2 h
    · exact absurd ho.1 (Nat.not_lt.mpr h.1)
    · rcases hP r h with h | h
      · exact ho.2 (hi.stored_pub r h)
      · exact absurd ho.1 (Nat.not_lt.mpr h.1)
  stored_pub r hr := by
    rcases e.stored_new r hr with h | h
    · exact e.pub_old r (hi.stored_pub r h)
    · exact h.2.2

theorem Ext.published_same {s s' : St M Mask} {W P : List Ref} (e : Ext s s' W P) (hi : Inv s)
    (hW : ∀ r, r ∈ W → r ∈ s.owned) (r : Ref) (hr : r ∈ s.pub) : s'.heap r = s.heap r :=
  e.frame r (hi.pub_lt r hr) (fun hw => (hi.owned_ok r (hW r hw)).2 hr)

end ScVerif.C07
