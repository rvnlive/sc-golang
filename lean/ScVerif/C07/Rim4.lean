import ScVerif.Base.Line
/-!
C07 — rim models of code OUTSIDE the anchor files that sits between callers and the store.

  * electricpb `Model.createOrAddMode` (pkg/trait/electricpb/model.go): clones the caller's mode, lets the
    `WithIDCallback` callback write the generated id into the CLONE, hands the clone to `modes.Add`; the record the
    collection creates is announced (`bus.Send`) while the writer is still inside `Add`. The model has the moment
    of the announcement as a heap of its own (`atSend`) so that "what a subscriber was handed while the write was in
    flight" can be compared with the heap at the end of the call;
  * hailpb `Model.gc` / `ListHails` / `CreateHail` (pkg/trait/hailpb/model.go): the rate limited collector
    (`gcTicket`), run by `CreateHail` only;
  * bookingpb `ModelServer.ListBookings` (`resource.WithInclude` around `timepb.PeriodsIntersect`, pkg/time/cut.go
    `cutPeriod`): an include predicate is handed the LIVE stored message; predicates are modelled as heap
    transformers so that "the predicate writes its argument" is expressible.

References are natural numbers, `next` is the allocation pointer (as in Rim.lean / Rim3.lean).
-/
namespace ScVerif.C07.Rim4

/-! ### electricpb createOrAddMode -/

/-- an `ElectricMode` as far as the code looks at it: the id, the `normal` flag, everything else -/
structure Mode (B : Type) where
  id : String
  normal : Bool
  body : B

structure MH (B : Type) where
  cells : Nat → Mode B
  next : Nat

def MH.alloc {B : Type} (h : MH B) (m : Mode B) : MH B × Nat :=
  ({ cells := fun x => if x = h.next then m else h.cells x, next := h.next + 1 }, h.next)

def MH.setId {B : Type} (h : MH B) (r : Nat) (id : String) : MH B :=
  { h with cells := fun x => if x = r then { h.cells r with id := id } else h.cells x }

/-- the modes collection: key ↦ reference of the stored record -/
abbrev Store := List (String × Nat)

def hasKey (s : Store) (k : String) : Bool := s.any (fun kr => kr.1 = k)

structure CreateRes (B : Type) where
  /-- the heap at the moment the ADD event is handed to the subscribers (the writer is inside `bus.Send`) -/
  atSend : MH B
  /-- the heap when the call returns -/
  heap : MH B
  store : Store
  /-- the returned mode = the stored record = `NewValue` of the ADD event (`none`: the call failed, nothing was announced) -/
  record : Option Nat

/-- `createOrAddMode(mode)` as it is. `gen` is the id the collection's generator comes up with (not a key of
the store: `Collection.genID` retries until that holds); `normalTaken` = "there is another normal mode". -/
def createMode {B : Type} (h : MH B) (store : Store) (src : Nat) (gen : String) (normalTaken : Bool) : CreateRes B :=
  -- mode = proto.Clone(mode)
  let (h1, c) := h.alloc (h.cells src)
  if (h1.cells c).normal && normalTaken then
    { atSend := h1, heap := h1, store := store, record := none }
  else
    -- modes.Add(mode.Id, mode, WithGenIDIfAbsent(), WithIDCallback(func(id) { mode.Id = id }))
    let generated := (h1.cells c).id = ""
    let key := if generated then gen else (h1.cells c).id
    let h2 := if generated then h1.setId c key else h1 -- the callback writes the clone
    if hasKey store key then
      { atSend := h2, heap := h2, store := store, record := none } -- AlreadyExists
    else
      -- the record is built by merging the clone into an empty message; saved; announced; returned
      let (h3, r) := h2.alloc (h2.cells c)
      { atSend := h3, heap := h3, store := store ++ [(key, r)], record := some r }

/-- the seeded shape (C07-13): no clone, the callback only remembers the id, the caller's message goes to `Add` as
it is, and the id is written onto the message `Add` returned — after it has been saved and announced -/
def createModeLate {B : Type} (h : MH B) (store : Store) (src : Nat) (gen : String) (normalTaken : Bool) : CreateRes B :=
  if (h.cells src).normal && normalTaken then
    { atSend := h, heap := h, store := store, record := none }
  else
    let generated := (h.cells src).id = ""
    let key := if generated then gen else (h.cells src).id
    if hasKey store key then
      { atSend := h, heap := h, store := store, record := none }
    else
      let (h1, r) := h.alloc (h.cells src)
      let h2 := if generated then h1.setId r key else h1 -- created.Id = allocatedID
      { atSend := h1, heap := h2, store := store ++ [(key, r)], record := some r }

/-! ### hailpb: the collector -/

/-- a `Hail` as far as the collector looks at it -/
structure Hail (B : Type) where
  id : String
  /-- `arrive_time` (any totally ordered time scale; `none`: has not arrived) -/
  arrive : Option Int
  body : B

structure HS (B : Type) where
  cells : Nat → Hail B
  next : Nat
  /-- the hails collection: key ↦ reference (a key need not equal the record's own `id`: `WithInitialRecord`) -/
  store : List (String × Nat)
  /-- `gcTicket` holds an item -/
  ticket : Bool

/-- `arrivedBefore(hail, t)` -/
def arrivedBefore {B : Type} (hl : Hail B) (t : Int) : Bool :=
  match hl.arrive with
  | none => false
  | some a => decide (a < t)

/-- `hails.Delete(hail.Id, WithAllowMissing(true), WithExpectedValue(hail))`: removes the record stored under the
hail's OWN id if its value equals the hail (`eqv` = proto.Equal on the bodies); a missing record or another value
is not an error the collector looks at -/
def deleteExpected {B : Type} (eqv : B → B → Bool) (cells : Nat → Hail B) (store : List (String × Nat)) (hl : Hail B) : List (String × Nat) :=
  store.filter (fun kr => !(kr.1 = hl.id && ((cells kr.2).id = hl.id && (cells kr.2).arrive = hl.arrive && eqv (cells kr.2).body hl.body)))

/-- the loop of `gc` over the snapshot `hails.List()` -/
def gcLoop {B : Type} (eqv : B → B → Bool) (cells : Nat → Hail B) (t : Int) : List (String × Nat) → List (String × Nat) → List (String × Nat)
  | [], store => store
  | (_, r) :: rest, store =>
    if arrivedBefore (cells r) t then gcLoop eqv cells t rest (deleteExpected eqv cells store (cells r))
    else gcLoop eqv cells t rest store

/-- `(*Model).gc()`; the ticket comes back by a timer (`tick`) -/
def gc {B : Type} (eqv : B → B → Bool) (keepAlive now : Int) (st : HS B) : HS B :=
  if keepAlive < 0 then st
  else if !st.ticket then st
  else { st with ticket := false, store := gcLoop eqv st.cells (now - keepAlive) st.store st.store }

def tick {B : Type} (st : HS B) : HS B := { st with ticket := true }

inductive HOp (B : Type) where
  /-- `CreateHail(hail)` with the id the generator comes up with -/
  | create (hl : Hail B) (gen : String)
  | get (id : String)
  | list
  /-- opening `PullHails` / `PullHail` (the seed is a list / a get) -/
  | pull
  | delete (id : String)
  /-- the timer hands the ticket back -/
  | tick

def HOp.isRead {B : Type} : HOp B → Bool
  | .get _ | .list | .pull => true
  | _ => false

/-- one public call of the model as it is; the answer is the list of references handed out -/
def hstep {B : Type} (eqv : B → B → Bool) (keepAlive now : Int) (st : HS B) : HOp B → HS B × List Nat
  | .create hl gen =>
    -- Add("", hail, WithGenIDIfAbsent, WithIDCallback(hail.Id = id)); defer gc()
    if st.store.any (fun kr => kr.1 = gen) then (gc eqv keepAlive now st, [])
    else
      let st1 : HS B := { st with cells := fun x => if x = st.next then { hl with id := gen } else st.cells x, next := st.next + 1,
                                  store := st.store ++ [(gen, st.next)] }
      (gc eqv keepAlive now st1, [st.next])
  | .get id => (st, (st.store.filter (fun kr => kr.1 = id)).map (·.2))
  | .list => (st, st.store.map (·.2))
  | .pull => (st, st.store.map (·.2))
  | .delete id => ({ st with store := st.store.filter (fun kr => kr.1 ≠ id) }, [])
  | .tick => (tick st, [])

/-- the seeded shape (C07-15): `ListHails` runs the collector first -/
def listCollecting {B : Type} (eqv : B → B → Bool) (keepAlive now : Int) (st : HS B) : HS B × List Nat :=
  let st1 := gc eqv keepAlive now st
  (st1, st1.store.map (·.2))

/-! ### include predicates are handed the live stored message (bookingpb × pkg/time) -/

/-- a `Period`: `start_time`, `end_time` -/
structure Period where
  s : Option Int
  e : Option Int
deriving DecidableEq

inductive Cut where
  | belowAll
  | below (t : Int)
  | aboveAll
deriving DecidableEq

/-- `this.CompareTo(that)` for the three kinds of cut `cutPeriod` produces -/
def Cut.cmp : Cut → Cut → Int
  | .belowAll, .belowAll => 0
  | .belowAll, _ => -1
  | .aboveAll, .aboveAll => 0
  | .aboveAll, _ => 1
  | .below _, .belowAll => 1
  | .below _, .aboveAll => -1
  | .below a, .below b => if a < b then -1 else if b < a then 1 else 0

structure PHp where
  per : Nat → Period
  next : Nat

/-- `cutPeriod(p)`: reads the period, returns the two cuts (a heap transformer that returns the heap it was given) -/
def cutPeriod (h : PHp) (p : Nat) : PHp × Cut × Cut :=
  match (h.per p).s, (h.per p).e with
  | none, none => (h, .belowAll, .aboveAll)
  | none, some e => (h, .belowAll, .below e)
  | some s, none => (h, .below s, .aboveAll)
  | some s, some e => (h, .below s, .below e)

/-- the seeded shape (C07-14): a backwards period is put in order ON THE ARGUMENT -/
def cutPeriodSwap (h : PHp) (p : Nat) : PHp × Cut × Cut :=
  match (h.per p).s, (h.per p).e with
  | none, none => (h, .belowAll, .aboveAll)
  | none, some e => (h, .belowAll, .below e)
  | some s, none => (h, .below s, .aboveAll)
  | some s, some e =>
    if e < s then ({ h with per := fun x => if x = p then ⟨some e, some s⟩ else h.per x }, .below e, .below s)
    else (h, .below s, .below e)

/-- `PeriodsIntersect(p1, p2)` over a `cutPeriod` implementation; `none` = nil pointer -/
def periodsIntersect (cut : PHp → Nat → PHp × Cut × Cut) (h : PHp) (p1 p2 : Option Nat) : PHp × Bool :=
  match p1, p2 with
  | some a, some b =>
    let (h1, l1, u1) := cut h a
    let (h2, l2, u2) := cut h1 b
    (h2, decide (l1.cmp u2 < 0) && decide (l2.cmp u1 < 0))
  | _, _ => (h, false)

/-- a stored item: the reference of its `booked` period, if it has one -/
abbrev Item := Option Nat

/-- `Collection.List(WithInclude(pred))`: the predicate is called with every stored item — the stored message, not a
copy — in order; the answer lists the items it accepted -/
def listInclude (pred : PHp → Item → PHp × Bool) : PHp → List Item → PHp × List Item
  | h, [] => (h, [])
  | h, it :: rest =>
    let (h1, keep) := pred h it
    let (h2, out) := listInclude pred h1 rest
    (h2, if keep then it :: out else out)

/-- bookingpb's predicate: `timepb.PeriodsIntersect(item.Booked, request.BookingIntersects)` -/
def bookingPred (cut : PHp → Nat → PHp × Cut × Cut) (req : Nat) : PHp → Item → PHp × Bool :=
  fun h it => periodsIntersect cut h it (some req)

/-! ### Driver -/

def parseOptInt? (s : String) : Option (Option Int) :=
  if s = "-" then some none else (ScVerif.Line.parseInt? s).map some

/-- `key:id:arrive:body` -/
def parseRec? (s : String) : Option (String × Hail String) :=
  match s.splitOn ":" with
  | [k, id, a, b] => (parseOptInt? a).map fun a => (k, ⟨id, a, b⟩)
  | _ => none

def sortedKeys (store : List (String × Nat)) : String :=
  ".".intercalate ((store.map (·.1)).mergeSort (fun a b => decide (a ≤ b)))

def rest1 (s : String) : String := String.ofList (s.toList.drop 1)

/-- ops: `l` ListHails, `p` open a Pull, `g<key>` GetHail, `d<key>` DeleteHail, `c<arrive>:<body>` CreateHail (the
n-th create is given the id `g<n>`) -/
def runHailOps (keepAlive now : Int) : HS String → Nat → List String → Option (List String)
  | _, _, [] => some []
  | st, n, op :: rest =>
    let next (st' : HS String) (n' : Nat) : Option (List String) :=
      (runHailOps keepAlive now st' n' rest).map fun out => sortedKeys st'.store :: out
    if op = "l" then next (hstep (fun a b => a == b) keepAlive now st .list).1 n
    else if op = "p" then next (hstep (fun a b => a == b) keepAlive now st .pull).1 n
    else if op.startsWith "g" then next (hstep (fun a b => a == b) keepAlive now st (.get (rest1 op))).1 n
    else if op.startsWith "d" then next (hstep (fun a b => a == b) keepAlive now st (.delete (rest1 op))).1 n
    else if op.startsWith "c" then
      match (rest1 op).splitOn ":" with
      | [a, b] =>
        match parseOptInt? a with
        | some a => next (hstep (fun x y => x == y) keepAlive now st (.create ⟨"", a, b⟩ s!"g{n + 1}")).1 (n + 1)
        | none => none
      | _ => none
    else none

/-- `rim hail <keepAlive> <now> <rec;rec|-> <op,op>` → the keys of the collection after every op, `|`-separated.
The model is as `NewModel` builds it: the initial records stored as given, the ticket primed. -/
def handleHail (toks : List String) : String :=
  match toks with
  | [ka, now, recs, ops] =>
    match ScVerif.Line.parseInt? ka, ScVerif.Line.parseInt? now,
      (if recs = "-" then some [] else (recs.splitOn ";").mapM parseRec?) with
    | some ka, some now, some recs =>
      let cells : Nat → Hail String := fun x => (recs.getD x ("", ⟨"", none, ""⟩)).2
      let st : HS String := { cells := cells, next := recs.length,
                              store := (List.range recs.length).map (fun i => ((recs.getD i ("", ⟨"", none, ""⟩)).1, i)), ticket := true }
      match runHailOps ka now st 0 (ops.splitOn ",") with
      | some out => "|".intercalate out
      | none => "!bad-op"
    | _, _, _ => "!bad-op"
  | _ => "!bad-op"

/-- `rim create <key,key|-> <src id, - = empty> <normal 0|1> <normalTaken 0|1>`: cell 0 is the caller's mode, cells 1.. the
stored records; the generator comes up with `G`.
→ `out=<ok|none>|send=<id of the record when announced>|final=<its id when the call returns>|src=<the caller's id afterwards>|keys=<k.k>` -/
def handleCreate (toks : List String) : String :=
  match toks with
  | [keys, sid, nrm, tk] =>
    match ScVerif.Line.parseBool? nrm, ScVerif.Line.parseBool? tk with
    | some nrm, some tk =>
      let ks : List String := if keys = "-" then [] else keys.splitOn ","
      let sid := if sid = "-" then "" else sid
      let h : MH Nat := { cells := fun x => if x = 0 then ⟨sid, nrm, 0⟩ else ⟨ks.getD (x - 1) "", false, 0⟩, next := ks.length + 1 }
      let store : Store := (List.range ks.length).map fun i => (ks.getD i "", i + 1)
      let r := createMode h store 0 "G" tk
      let showId (s : String) : String := if s = "" then "-" else s
      let ids := match r.record with
        | some rc => s!"out=ok|send={showId (r.atSend.cells rc).id}|final={showId (r.heap.cells rc).id}"
        | none => "out=none|send=-|final=-"
      s!"{ids}|src={showId (r.heap.cells 0).id}|keys={sortedKeys r.store}"
    | _, _ => "!bad-op"
  | _ => "!bad-op"

/-- `s:e` or `n` (the item has no booked period) -/
def parsePeriod? (s : String) : Option (Option Period) :=
  if s = "n" then some none
  else match s.splitOn ":" with
    | [a, b] => match parseOptInt? a, parseOptInt? b with
      | some a, some b => some (some ⟨a, b⟩)
      | _, _ => none
    | _ => none

def showOptInt : Option Int → String
  | none => "-"
  | some i => toString i

/-- `rim incl <req s:e> <item;item>` → `acc=<1|0 per item>|per=<s:e per item, n without a period>` (the stored
periods AFTER the list) -/
def handleIncl (toks : List String) : String :=
  match toks with
  | [req, items] =>
    match parsePeriod? req, (items.splitOn ";").mapM parsePeriod? with
    | some (some rq), some its =>
      let n := its.length
      let h : PHp := { per := fun x => if x = n then rq else (its.getD x none).getD ⟨none, none⟩, next := n + 1 }
      let refs : List Item := (List.range n).map fun i => (its.getD i none).map fun _ => i
      let r := listInclude (bookingPred cutPeriod n) h refs
      let acc := String.join (refs.map fun it => if r.2.contains it then "1" else "0")
      let per := ";".intercalate ((List.range n).map fun i =>
        match its.getD i none with
        | none => "n"
        | some _ => showOptInt (r.1.per i).s ++ ":" ++ showOptInt (r.1.per i).e)
      s!"acc={acc}|per={per}"
    | _, _ => "!bad-op"
  | _ => "!bad-op"

end ScVerif.C07.Rim4
