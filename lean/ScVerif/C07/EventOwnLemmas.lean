import ScVerif.C07.EventOwn
import ScVerif.C07.EventValsLemmas
/-! The ownership invariant `GInv` is kept by every step: `GInv.move` for the three pipeline shapes, fed by `Act.OK`. -/
namespace ScVerif.C07.Events

theorem gstep_none {M : Type} (pm : M → M) (g : GS M) (s : Step) (h : filtered g.v.es s = none) :
    gstep pm g (.ev s) = { v := { g.v with es := step id g.v.es s }, mown := g.mown } := by
  simp only [gstep, vstep_none pm g.v s h]
  congr 1
  funext x
  rw [if_neg]
  omega

theorem vals_projEv {M : Type} (pm : M → M) (msgs : Nat → M) (n : Nat) (e : Ev) :
    ∀ r, r ∈ (projEv (projFor n e) e).vals → n ≤ r ∧ r < (cloneVals pm msgs n e).2 := by
  intro r hr
  rw [vals_projEv_map] at hr
  obtain ⟨x, hx, rfl⟩ := List.mem_map.mp hr
  exact ⟨(cloneVals_proj pm msgs n hx).1, (cloneVals_proj pm msgs n hx).2.1⟩

/-- a move keeps the ownership invariant when the merger's new copies carry stored messages and the consumer is handed
stored messages (unmasked) or its own filter's clones (masked); message cells may be allocated on the way -/
theorem GInv.move {M : Type} {g : GS M} (hi : GInv g) {sb : Sub} {f : Sub → Sub} (hsb : sb ∈ g.v.es.subs)
    (hidx : (f sb).idx = sb.idx) (hmask : (f sb).mask = sb.mask)
    (cells : List Ev) (msgs' : Nat → M) (mnext' : Nat) (mown' : Nat → Option Nat)
    (hn : g.v.mnext ≤ mnext') (hm : ∀ r, r < g.v.mnext → mown' r = g.mown r)
    (hinv : Inv (g.v.es.move sb f cells))
    (hpend : ∀ p, p ∈ (f sb).pending → (p ∈ sb.pending ∨ ∀ r, r ∈ p.vals → r < mnext' ∧ mown' r = none))
    (hout : ∀ c, c ∈ (f sb).out → c ∈ sb.out ∨
      ∀ r, r ∈ (pushCells g.v.es.heap g.v.es.next cells c).vals →
        r < mnext' ∧ mown' r = (if sb.mask then some sb.idx else none)) :
    GInv (GS.mk (VS.mk (g.v.es.move sb f cells) msgs' mnext') mown') := by
  have mono : ∀ {o : Option Nat} {e : Ev}, ValsOwned g o e →
      ValsOwned (GS.mk (VS.mk (g.v.es.move sb f cells) msgs' mnext') mown') o e := fun h => h.mono hn hm
  refine ⟨hinv, ?_, ?_, ?_⟩
  · intro c hc ho
    simp only [ES.move] at hc ho ⊢
    by_cases hlt : c < g.v.es.next
    · rw [setOwner_below _ _ _ _ _ hlt] at ho
      intro r hr
      rw [pushCells_below _ _ _ _ hlt] at hr
      exact mono (hi.bus c hlt ho) r hr
    · rw [setOwner_at _ _ _ _ _ (by omega) hc] at ho
      exact absurd ho (by simp)
  · intro y hy p hp
    rcases mem_replaceSub hy with ⟨hys, _⟩ | ⟨hyf, _⟩
    · exact fun r hr => mono (hi.pend y hys p hp) r hr
    · subst hyf
      rcases hpend p hp with h | h
      · exact fun r hr => mono (hi.pend sb hsb p h) r hr
      · exact h
  · intro y hy c hc
    simp only [ES.move] at hy ⊢
    rcases mem_replaceSub hy with ⟨hys, _⟩ | ⟨hyf, _⟩
    · have hlt := (hi.inv.out y hys c hc).1
      intro r hr
      rw [pushCells_below _ _ _ _ hlt] at hr
      exact mono (hi.out y hys c hc) r hr
    · subst hyf
      rw [hmask, hidx]
      rcases hout c hc with h | h
      · have hlt := (hi.inv.out sb hsb c h).1
        intro r hr
        rw [pushCells_below _ _ _ _ hlt] at hr
        exact mono (hi.out sb hsb c h) r hr
      · exact h

theorem GInv.replace {M : Type} {g : GS M} (hi : GInv g) (sb : Sub) (hsb : sb ∈ g.v.es.subs) (f : Sub → Sub)
    (hidx : (f sb).idx = sb.idx) (hmask : (f sb).mask = sb.mask)
    (hinv : Inv { g.v.es with subs := replaceSub g.v.es.subs sb f })
    (hpend : ∀ p, p ∈ (f sb).pending → (p ∈ sb.pending ∨ ∀ r, r ∈ p.vals → r < g.v.mnext ∧ g.mown r = none))
    (hout : ∀ c, c ∈ (f sb).out → c ∈ sb.out ∨
      ∀ r, r ∈ (g.v.es.heap c).vals → r < g.v.mnext ∧ g.mown r = (if sb.mask then some sb.idx else none)) :
    GInv (GS.mk (VS.mk ({ g.v.es with subs := replaceSub g.v.es.subs sb f } : ES) g.v.msgs g.v.mnext) g.mown) := by
  have e := ES.move_nil g.v.es sb f
  have h := hi.move hsb hidx hmask [] g.v.msgs g.v.mnext g.mown (Nat.le_refl _) (fun _ _ => rfl) (e ▸ hinv) hpend hout
  rw [e] at h
  exact h

theorem GInv.mono {M : Type} {g g' : GS M} (hi : GInv g) (he : g'.v.es = g.v.es) (hn : g.v.mnext ≤ g'.v.mnext)
    (hm : ∀ r, r < g.v.mnext → g'.mown r = g.mown r) : GInv g' := by
  refine ⟨by rw [he]; exact hi.inv, ?_, ?_, ?_⟩
  · intro c hc ho
    rw [he] at hc ho ⊢
    exact (hi.bus c hc ho).mono hn hm
  · intro sb hsb p hp
    rw [he] at hsb
    exact (hi.pend sb hsb p hp).mono hn hm
  · intro sb hsb c hc
    rw [he] at hsb ⊢
    exact (hi.out sb hsb c hc).mono hn hm

theorem gstep_inv {M : Type} (pm : M → M) (g : GS M) (st : VStep M) (hi : GInv g) (hok : SendOK g st) :
    GInv (gstep pm g st) := by
  cases st with
  | store m =>
    refine hi.mono rfl (Nat.le_succ _) (fun r hr => ?_)
    simp only [gstep]
    rw [if_neg (Nat.ne_of_lt hr)]
  | ev s =>
    obtain ⟨a, ha, hfa, haok⟩ := step_act g.v.es s
    have hinv : ∀ proj, Inv (g.v.es.apply proj a) := fun proj => ha proj ▸ step_inv proj g.v.es s hi.inv
    -- whatever a pipeline has in hand carries stored messages
    have held : ∀ {sb e}, sb ∈ g.v.es.subs → Held g.v.es sb s e → ValsOwned g none e := by
      intro sb e hsb h
      rcases h with ⟨r, hr, rfl⟩ | h | ⟨i, rfl⟩
      · have := hi.inv.inbox sb hsb r hr
        exact hi.bus r this.1 this.2
      · exact hi.pend sb hsb e h
      · exact hok
    cases haok with
    | idle =>
      rw [gstep_none pm g s hfa, ha]
      exact hi.mono rfl (Nat.le_refl _) (fun _ _ => rfl)
    | subscribe =>
      rw [gstep_none pm g s hfa, ha]
      refine ⟨hinv id, hi.bus, fun sb hsb p hp => ?_, fun sb hsb c hc => ?_⟩
      · rcases mem_snoc hsb with h | rfl
        · exact hi.pend sb h p hp
        · cases hp
      · rcases mem_snoc hsb with h | rfl
        · exact hi.out sb h c hc
        · cases hc
    | @send e f hst hf =>
      rw [gstep_none pm g s hfa, ha]
      have hsent : ValsOwned g none e := by rcases hst with rfl | rfl <;> exact hok
      refine ⟨hinv id, fun c hc ho => ?_, fun sb hsb p hp => ?_, fun sb hsb c hc => ?_⟩
      · show ValsOwned _ none (pushCells g.v.es.heap g.v.es.next [e] c)
        by_cases hlt : c < g.v.es.next
        · rw [pushCells_below _ _ _ _ hlt]
          exact hi.bus c hlt (by rwa [show (g.v.es.apply id (.send e f)).owner c = _ from setOwner_below _ _ _ _ _ hlt] at ho)
        · have : c = g.v.es.next := Nat.le_antisymm (Nat.le_of_lt_succ hc) (Nat.le_of_not_lt hlt)
          subst this
          simp only [pushCells, if_true]
          exact hsent
      · obtain ⟨x, hx, rfl⟩ := List.mem_map.mp hsb
        exact hi.pend x hx p ((sent_same hf x).2.2.2.2.1 ▸ hp)
      · obtain ⟨x, hx, rfl⟩ := List.mem_map.mp hsb
        obtain ⟨h1, -, h3, -, -, h6, -⟩ := sent_same hf x
        rw [h1, h3]
        have hc' : c ∈ x.out := h6 ▸ hc
        show ValsOwned _ _ (pushCells g.v.es.heap g.v.es.next [e] c)
        rw [pushCells_below _ _ _ _ (hi.inv.out x hx c hc').1]
        exact hi.out x hx c hc'
    | @requeue sb f hf hpend hout =>
      rw [gstep_none pm g s hfa, ha]
      refine hi.replace sb hf.mem f (hf.idx sb) hf.mask (hinv id) (fun p hp => (hpend p hp).imp_right ?_)
        (fun c hc => (hout c hc).imp_right ?_)
      · rintro ⟨r, hr, hp⟩
        exact ValsOwned.mergePending (hi.pend sb hf.mem) (held hf.mem (.inl ⟨r, hr, rfl⟩)) p hp
      · rintro ⟨hr, hm, -⟩
        rw [hm]
        exact held hf.mem (.inl ⟨c, hr, rfl⟩)
    | @alloc sb f init e src hf hpend hheld hconv hout =>
      rw [gstep_none pm g s hfa, ha]
      refine hi.move hf.mem (hf.idx sb) hf.mask _ _ _ _ (Nat.le_refl _) (fun _ _ => rfl) (hinv id)
        (fun p hp => .inl (hpend p hp)) (fun c hc => (hout c hc).imp_right ?_)
      rintro ⟨rfl, hm⟩
      rw [pushCells_last, hm]
      rcases hconv with rfl | ⟨d, rfl⟩
      · exact held hf.mem hheld
      · exact (held hf.mem hheld).conv d
    | @filter sb f pre e hf hpend hm hidx hout =>
      simp only [gstep, vstep_some pm g.v s e hfa, ha]
      refine hi.move hf.mem (hf.idx sb) hf.mask _ _ _ _ (cloneVals_frame pm _ _ e).1 (fun x hx => if_neg (by omega))
        (hinv _) (fun p hp => .inl (hpend p hp)) (fun c hc => (hout c hc).imp_right ?_)
      rintro rfl r hr
      rw [pushCells_last] at hr
      have hv := vals_projEv pm g.v.msgs g.v.mnext e r hr
      exact ⟨hv.2, by rw [if_pos hv, if_pos hm, hidx]⟩

theorem grun_inv {M : Type} (pm : M → M) (steps : List (VStep M)) :
    ∀ g : GS M, GInv g → OKfrom pm g steps → GInv (grun pm g steps) := by
  induction steps with
  | nil => intro g hi _; exact hi
  | cons st rest ih => intro g hi hok; exact ih _ (gstep_inv pm g st hi hok.1) hok.2

theorem GInv.init {M : Type} [Inhabited M] : GInv (GS.init : GS M) :=
  ⟨Inv.init, fun c hc => by simp [GS.init, VS.init, ES.init] at hc,
   fun sb hsb => by simp [GS.init, VS.init, ES.init] at hsb,
   fun sb hsb => by simp [GS.init, VS.init, ES.init] at hsb⟩

/-- erasing the ghost: the layered model's run -/
theorem grun_v {M : Type} (pm : M → M) (steps : List (VStep M)) : ∀ g : GS M, (grun pm g steps).v = vrun pm g.v steps := by
  induction steps with
  | nil => intro g; rfl
  | cons st rest ih => intro g; exact ih (gstep pm g st)

end ScVerif.C07.Events
