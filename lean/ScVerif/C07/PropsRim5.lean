import ScVerif.C07.Rim5Lemmas
/-!
# C07 — a model method that hands a looked-up message to a write (electricpb changeActiveMode)

`FieldUpdater.Merge` writes its SOURCE (in-place filter). The code as it is (after fix 5105353) hands the write a clone
of the stored mode; `merge` is any function, i.e. any configuration of the active mode resource.
-/
namespace ScVerif.C07.Rim5

/-- `changeActiveMode(id)`: (1) no message that existed before the call is written —
not a stored mode, not the old active mode; (2) an unknown id changes nothing at all; (3) the returned message is the
new active mode, allocated by the call. -/
theorem C07_change_active_mode_frame {M : Type} (merge : M → M → M × M) (after : M → M → M) (h : H M) (modes : Store)
    (active : Nat) (id : String) :
    (∀ x, x < h.next → (changeActive merge after h modes active id).heap.cells x = h.cells x) ∧
    (find modes id = none → (changeActive merge after h modes active id).heap = h ∧
      (changeActive merge after h modes active id).active = active ∧
      (changeActive merge after h modes active id).result = none) ∧
    (∀ d, (changeActive merge after h modes active id).result = some d →
      h.next ≤ d ∧ d < (changeActive merge after h modes active id).heap.next ∧
      (changeActive merge after h modes active id).active = d) := by
  cases hf : find modes id with
  | none => simp [changeActive, hf]
  | some r =>
    rw [changeActive_some hf]
    refine ⟨fun x hx => ?_, (fun h0 => nomatch h0), fun d hd => ?_⟩
    · exact (valueSet_other x (Nat.lt_succ_of_lt hx) (Nat.ne_of_lt hx)).trans (alloc_other _ _ _ hx)
    · cases hd
      exact ⟨Nat.le_succ _, Nat.lt_succ_self _, rfl⟩

/-- the repair changes nothing about the value the write produces: with the stored mode as the source (before
5105353) and with its clone (after it) the new active mode has the same contents -/
theorem C07_change_active_mode_same_result {M : Type} (merge : M → M → M × M) (after : M → M → M) (h : H M)
    (modes : Store) (active : Nat) (id : String) (r : Nat) (hact : active < h.next) (hr : r < h.next)
    (hne : r ≠ active) (hf : find modes id = some r) :
    (changeActive merge after h modes active id).heap.cells (changeActive merge after h modes active id).active =
    (changeActiveStored merge after h modes active id).heap.cells (changeActiveStored merge after h modes active id).active := by
  rw [changeActive_some hf, changeActiveStored_some hf]
  -- both writes merge the contents of the stored mode into a clone of the old active mode
  show (valueSet merge after (h.alloc (h.cells r)).1 active h.next).1.cells (h.alloc (h.cells r)).1.next =
    (valueSet merge after h active r).1.cells h.next
  rw [valueSet_new (Nat.lt_succ_of_lt hact) (Nat.lt_succ_self _) (Nat.ne_of_lt hact),
    valueSet_new hact hr hne.symm, alloc_other _ _ _ hact]
  show after _ (merge _ (if h.next = h.next then _ else _)).1 = _
  rw [if_pos rfl]

/-- before fix 5105353 (the stored mode itself is the source): with writable fields {id, title} on the active mode
resource, changing to mode "a" strips the stored mode "a" of its description -/
theorem C07_change_active_mode_stored_source_writes_stored_mode :
    ∃ (h : H EMode) (modes : Store) (active : Nat) (r : Nat), active < h.next ∧ r < h.next ∧ find modes "a" = some r ∧
      (changeActiveStored (mergeE (some ⟨true, true, false, false⟩)) (afterE 5) h modes active "a").heap.cells r ≠ h.cells r ∧
      (changeActive (mergeE (some ⟨true, true, false, false⟩)) (afterE 5) h modes active "a").heap.cells r = h.cells r :=
    by
  have hf : find [("a", 1)] "a" = some 1 := by simp [find]
  refine ⟨{ cells := fun x => if x = 1 then ⟨"a", "A", "desc", 0⟩ else ⟨"", "", "", 0⟩, next := 2 }, [("a", 1)], 0, 1,
    by decide, by decide, hf, ?_, (C07_change_active_mode_frame _ _ _ _ _ _).1 1 (by decide)⟩
  -- the stored mode is the source of the write, and the write filters its source
  rw [changeActiveStored_some hf, valueSet_src (by decide)]
  simp [mergeE, filterE]

/-- why instances with default settings never showed it: before fix 5105353 the frame held exactly as far as the
configured Merge leaves its source alone (no writable fields, or the empty mask) -/
theorem C07_change_active_mode_stored_source_partial {M : Type} (merge : M → M → M × M) (after : M → M → M) (h : H M)
    (modes : Store) (active : Nat) (id : String) (hsrc : ∀ d s, (merge d s).2 = s) :
    ∀ x, x < h.next → (changeActiveStored merge after h modes active id).heap.cells x = h.cells x := by
  intro x hx
  cases hf : find modes id with
  | none => simp [changeActiveStored, hf]
  | some r =>
    rw [changeActiveStored_some hf]
    by_cases hxr : x = r
    · rw [hxr, valueSet_src (hxr ▸ hx), hsrc]
    · exact valueSet_other x hx hxr

/-- the hypothesis of the partial theorem holds for the resource as the package configures it (no writable fields)
and for the empty mask, and fails for a proper mask -/
example : (∀ d s, (mergeE none d s).2 = s) ∧ (∀ d s, (mergeE (some ⟨false, false, false, false⟩) d s).2 = s) ∧
    ¬ (∀ d s, (mergeE (some ⟨true, true, false, false⟩) d s).2 = s) :=
  ⟨fun _ _ => rfl, fun _ _ => rfl, fun hall => by
    have := hall ⟨"", "", "", 0⟩ ⟨"a", "A", "desc", 0⟩
    simp [mergeE, filterE] at this⟩

/-- non-vacuity: a reachable state that satisfies the hypotheses of `C07_change_active_mode_same_result` and on which
the call succeeds -/
example : ∃ (h : H EMode) (modes : Store) (active : Nat), active < h.next ∧ find modes "a" = some 1 ∧ 1 < h.next ∧ 1 ≠ active ∧
    (changeActive (mergeE none) (afterE 5) h modes active "a").result = some 3 :=
  ⟨{ cells := fun x => if x = 1 then ⟨"a", "A", "desc", 0⟩ else ⟨"", "", "", 0⟩, next := 2 }, [("a", 1)], 0,
    by decide, by simp [find], by decide, by decide, by rw [changeActive_some (r := 1) (by simp [find])]⟩

/-- `Model.SetActiveMode(mode)`, the exported entry point that hands the caller's own
message to the write: (1) of the messages that existed only the caller's own is written (the in-place filter) — no
stored mode, not the old active mode; (2) an unknown id changes nothing at all; (3) the new active mode is a message
allocated by the call. -/
theorem C07_set_active_mode_frame {M : Type} (idOf : M → String) (merge : M → M → M × M) (h : H M) (modes : Store)
    (active src : Nat) :
    (∀ x, x < h.next → x ≠ src → (setActive idOf merge h modes active src).heap.cells x = h.cells x) ∧
    (find modes (idOf (h.cells src)) = none → (setActive idOf merge h modes active src).heap = h ∧
      (setActive idOf merge h modes active src).active = active ∧
      (setActive idOf merge h modes active src).result = none) ∧
    (∀ d, (setActive idOf merge h modes active src).result = some d →
      h.next ≤ d ∧ d < (setActive idOf merge h modes active src).heap.next ∧
      (setActive idOf merge h modes active src).active = d) := by
  cases hf : find modes (idOf (h.cells src)) with
  | none => simp [setActive, hf]
  | some r =>
    rw [setActive_some hf]
    refine ⟨fun x hx hne => valueSet_other (after := fun _ n => n) x hx hne, (fun h0 => nomatch h0), fun d hd => ?_⟩
    cases hd
    exact ⟨Nat.le_refl _, Nat.lt_succ_self _, rfl⟩

/-- the shape of seeded change C07-20 (the caller's start time written onto the looked-up mode before a clone of it
is activated): `SetActiveMode({id: "a", start: 9})` gives the STORED mode "a" a start time; the code as it is leaves
it alone and produces the same active mode here -/
theorem C07_set_active_mode_known_writes_stored_mode :
    ∃ (h : H EMode) (modes : Store) (active src r : Nat), active < h.next ∧ src < h.next ∧ r < h.next ∧ r ≠ src ∧
      find modes "a" = some r ∧
      (setActiveKnown (·.id) (fun k s => { k with start := s.start }) (mergeE none) h modes active src).heap.cells r ≠ h.cells r ∧
      (setActive (·.id) (mergeE none) h modes active src).heap.cells r = h.cells r := by
  refine ⟨{ cells := fun x => if x = 1 then ⟨"a", "A", "desc", 0⟩ else if x = 2 then ⟨"a", "", "", 9⟩ else ⟨"", "", "", 0⟩, next := 3 },
    [("a", 1)], 0, 2, 1, by decide, by decide, by decide, by decide, by simp [find], ?_,
    (C07_set_active_mode_frame _ _ _ _ _ _).1 1 (by decide) (by decide)⟩
  -- the write itself leaves cell 1 alone (its source is a clone): what changed it is the start time written before
  rw [setActiveKnown_some (r := 1) (by simp [find]), valueSet_other 1 (by decide) (by decide),
    alloc_other _ _ _ (by decide)]
  simp [H.set]

end ScVerif.C07.Rim5
