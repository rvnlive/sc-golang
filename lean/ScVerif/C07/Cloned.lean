/-!
Cloning a list of cells, as `proto.Clone` of a repeated field does it: the three loops `Rim.cloneAll`, `Rim3.cloneList`,
`Rim3.cloneMap` satisfy one relation, and what the frame theorems need of them is proved of the relation.
-/
namespace ScVerif.C07

/-- `g` of each of the cells `rs`, in order, copied into the cells from `n` on: the cells afterwards, the allocation
pointer afterwards, the copies -/
inductive Cloned {α : Type} (g : α → α) : (Nat → α) → Nat → List Nat → (Nat → α) → Nat → List Nat → Prop
  | nil {f : Nat → α} {n : Nat} : Cloned g f n [] f n []
  | cons {f f' : Nat → α} {n n' r : Nat} {rs out : List Nat} :
      Cloned g (fun x => if x = n then g (f r) else f x) (n + 1) rs f' n' out → Cloned g f n (r :: rs) f' n' (n :: out)

structure Cloned.Frame {α : Type} (f : Nat → α) (n : Nat) (f' : Nat → α) (n' : Nat) (out : List Nat) : Prop where
  same : ∀ x, x < n → f' x = f x
  refs : ∀ r, r ∈ out → n ≤ r ∧ r < n'
  mono : n ≤ n'

theorem Cloned.fresh {α : Type} {g : α → α} {f f' : Nat → α} {n n' : Nat} {rs out : List Nat} (c : Cloned g f n rs f' n' out) :
    Cloned.Frame f n f' n' out := by
  induction c with
  | nil => exact ⟨fun _ _ => rfl, fun _ h => absurd h List.not_mem_nil, Nat.le_refl _⟩
  | cons _ ih =>
    refine ⟨fun x hx => (ih.same x (Nat.lt_succ_of_lt hx)).trans (if_neg (Nat.ne_of_lt hx)), fun y hy => ?_,
      Nat.le_of_succ_le ih.mono⟩
    rcases List.mem_cons.mp hy with rfl | hy
    · exact ⟨Nat.le_refl _, ih.mono⟩
    · exact ⟨Nat.le_of_succ_le (ih.refs y hy).1, (ih.refs y hy).2⟩

end ScVerif.C07
