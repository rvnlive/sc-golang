import ScVerif.C07.Rim5
/-! What `valueSet` (the write of the active mode) does to the heap: one new cell, and of the cells that existed
only its source is written.  The model methods are a lookup followed by that write. -/
namespace ScVerif.C07.Rim5

theorem alloc_other {M : Type} (h : H M) (m : M) (x : Nat) (hx : x < h.next) : (h.alloc m).1.cells x = h.cells x :=
  if_neg (Nat.ne_of_lt hx)

theorem set_other {M : Type} (h : H M) (r : Nat) (m : M) (x : Nat) (hx : x ≠ r) : (h.set r m).cells x = h.cells x :=
  if_neg hx

variable {M : Type} {merge : M → M → M × M} {after : M → M → M} {h : H M} {old src : Nat}

theorem valueSet_other (x : Nat) (hx : x < h.next) (hs : x ≠ src) : (valueSet merge after h old src).1.cells x = h.cells x := by
  have hd : x ≠ h.next := Nat.ne_of_lt hx
  show (((((h.alloc (h.cells old)).1.set h.next _).set src _).set h.next _).cells x) = _
  rw [set_other _ _ _ _ hd, set_other _ _ _ _ hs, set_other _ _ _ _ hd, alloc_other _ _ _ hx]

/-- `Merge` filters its source in place -/
theorem valueSet_src (hs : src < h.next) :
    (valueSet merge after h old src).1.cells src = (merge (h.cells old) (h.cells src)).2 := by
  simp [valueSet, H.alloc, H.set, Nat.ne_of_lt hs]

theorem valueSet_new (ho : old < h.next) (hs : src < h.next) (hne : old ≠ src) :
    (valueSet merge after h old src).1.cells h.next = after (h.cells old) (merge (h.cells old) (h.cells src)).1 := by
  simp [valueSet, H.alloc, H.set, Nat.ne_of_lt hs, (Nat.ne_of_lt hs).symm, Nat.ne_of_lt ho, hne]

variable {modes : Store} {active : Nat} {id : String}

theorem changeActive_some {r : Nat} (hf : find modes id = some r) :
    changeActive merge after h modes active id =
      { heap := (valueSet merge after (h.alloc (h.cells r)).1 active h.next).1, active := h.next + 1, result := some (h.next + 1) } := by
  simp only [changeActive, hf]
  rfl

theorem changeActiveStored_some {r : Nat} (hf : find modes id = some r) :
    changeActiveStored merge after h modes active id =
      { heap := (valueSet merge after h active r).1, active := h.next, result := some h.next } := by
  simp only [changeActiveStored, hf]
  rfl

theorem setActive_some {idOf : M → String} {r : Nat} (hf : find modes (idOf (h.cells src)) = some r) :
    setActive idOf merge h modes active src =
      { heap := (valueSet merge (fun _ n => n) h active src).1, active := h.next, result := some h.next } := by
  simp only [setActive, hf]
  rfl

theorem setActiveKnown_some {idOf : M → String} {withStart : M → M → M} {r : Nat}
    (hf : find modes (idOf (h.cells src)) = some r) :
    setActiveKnown idOf withStart merge h modes active src =
      { heap := (valueSet merge (fun _ n => n)
          ((h.set r (withStart (h.cells r) (h.cells src))).alloc ((h.set r (withStart (h.cells r) (h.cells src))).cells r)).1
          active h.next).1,
        active := h.next + 1, result := some (h.next + 1) } := by
  simp only [setActiveKnown, hf]
  rfl

end ScVerif.C07.Rim5
