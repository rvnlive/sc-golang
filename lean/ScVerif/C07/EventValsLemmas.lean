import ScVerif.C07.EventsAct
/-! The value layer: `filtered` names the steps that use the projection, and every value of a filtered event is cloned
into the cell the step's projection names (`cloneVals_proj`). -/
namespace ScVerif.C07.Events

theorem step_indep_of_proj (s : ES) (st : Step) (h : filtered s st = none) (p q : Nat → Nat) :
    step p s st = step q s st := by
  obtain ⟨a, ha, hf, -⟩ := step_act s st
  rw [ha p, ha q]
  -- only the filter looks at the projection
  cases a with
  | filter => cases hf.symm.trans h
  | _ => rfl

theorem step_filtered (proj : Nat → Nat) (s : ES) (st : Step) (e : Ev) (h : filtered s st = some e) :
    s.next < (step proj s st).next ∧ (step proj s st).heap ((step proj s st).next - 1) = projEv proj e := by
  obtain ⟨a, ha, hf, -⟩ := step_act s st
  rw [ha proj]
  cases a with
  | filter sb f pre e' =>
    cases hf.symm.trans h
    show s.next < s.next + (pre ++ [projEv proj e]).length ∧
      pushCells s.heap s.next (pre ++ [projEv proj e]) (s.next + (pre ++ [projEv proj e]).length - 1) = projEv proj e
    rw [List.length_append, show s.next + (pre.length + [projEv proj e].length) - 1 = s.next + pre.length from rfl]
    exact ⟨Nat.lt_add_of_pos_right (Nat.succ_pos _), pushCells_last _ _ _ _⟩
  | _ => cases hf.symm.trans h

theorem cloneVal_frame {M : Type} (pm : M → M) (msgs : Nat → M) (n : Nat) (o : Option Nat) :
    Grows msgs n (cloneVal pm msgs n o).1 (cloneVal pm msgs n o).2 := by
  cases o with
  | none => exact .refl _ _
  | some x => exact ⟨Nat.le_succ _, fun r hr => if_neg (Nat.ne_of_lt hr)⟩

theorem cloneVal_at {M : Type} (pm : M → M) (msgs : Nat → M) (n x : Nat) :
    (cloneVal pm msgs n (some x)).1 n = pm (msgs x) ∧ (cloneVal pm msgs n (some x)).2 = n + 1 := by
  simp [cloneVal]

/-- `filter`'s two `FilterClone` calls on the values of `e`: the message heap and its allocation pointer afterwards -/
def cloneVals {M : Type} (pm : M → M) (msgs : Nat → M) (n : Nat) (e : Ev) : (Nat → M) × Nat :=
  cloneVal pm (cloneVal pm msgs n e.new).1 (cloneVal pm msgs n e.new).2 e.old

theorem cloneVals_frame {M : Type} (pm : M → M) (msgs : Nat → M) (n : Nat) (e : Ev) :
    Grows msgs n (cloneVals pm msgs n e).1 (cloneVals pm msgs n e).2 :=
  (cloneVal_frame pm msgs n e.new).trans (cloneVal_frame pm _ _ e.old)

theorem projFor_new {n : Nat} {e : Ev} {r : Nat} (h : e.new = some r) : projFor n e r = n := by simp [projFor, h]

/-- every value `r` of `e` has its clone in the cell `projFor n e r`: a cell the two `FilterClone` calls allocate, holding
`pm` of the original (also when old and new value are the same message: both references then name the first clone) -/
theorem cloneVals_proj {M : Type} (pm : M → M) (msgs : Nat → M) (n : Nat) {e : Ev} {r : Nat} (h : r ∈ e.vals) :
    n ≤ projFor n e r ∧ projFor n e r < (cloneVals pm msgs n e).2 ∧
      (r < n → (cloneVals pm msgs n e).1 (projFor n e r) = pm (msgs r)) := by
  cases hn : e.new <;> cases ho : e.old <;>
    simp [Ev.vals, projFor, cloneVals, cloneVal, hn, ho] at h ⊢
  · exact h ▸ fun _ => rfl
  · subst h; simp
  · rename_i a b
    rcases h with rfl | rfl
    · by_cases hab : a = r
      · simp [hab]; omega
      · simp [hab]; exact fun hr => by rw [if_neg (Nat.ne_of_lt hr)]
    · simp; omega

theorem vals_projEv_map (p : Nat → Nat) (e : Ev) : (projEv p e).vals = e.vals.map p := by
  cases ho : e.old <;> cases hn : e.new <;> simp [Ev.vals, projEv, ho, hn]

/-- `step_indep_of_proj` is why the projection `id` may stand here -/
theorem vstep_none {M : Type} (pm : M → M) (v : VS M) (st : Step) (h : filtered v.es st = none) :
    vstep pm v (.ev st) = { v with es := step id v.es st } := by
  simp only [vstep, h]

theorem vstep_some {M : Type} (pm : M → M) (v : VS M) (st : Step) (e : Ev) (h : filtered v.es st = some e) :
    vstep pm v (.ev st) = { es := step (projFor v.mnext e) v.es st, msgs := (cloneVals pm v.msgs v.mnext e).1,
                            mnext := (cloneVals pm v.msgs v.mnext e).2 } := by
  simp only [vstep, h, cloneVals]

/-- what a masked pipeline step delivers, for EVERY value of the filtered event (old, new, or both at once) -/
theorem filter_clones {M : Type} (pm : M → M) (v : VS M) (st : Step) (e : Ev) (h : filtered v.es st = some e) :
    let v' := vstep pm v (.ev st)
    v.es.next < v'.es.next ∧ v'.es.heap (v'.es.next - 1) = projEv (projFor v.mnext e) e ∧
    ∀ r, r ∈ e.vals → v.mnext ≤ projFor v.mnext e r ∧ projFor v.mnext e r < v'.mnext ∧
      (r < v.mnext → v'.msgs (projFor v.mnext e r) = pm (v.msgs r)) := by
  intro v'
  have hs : v' = _ := vstep_some pm v st e h
  rw [hs]
  exact ⟨(step_filtered _ _ _ _ h).1, (step_filtered _ _ _ _ h).2, fun r hr => cloneVals_proj pm v.msgs v.mnext hr⟩

theorem vstep_frame {M : Type} (pm : M → M) (v : VS M) (st : VStep M) :
    Grows v.msgs v.mnext (vstep pm v st).msgs (vstep pm v st).mnext ∧
      Grows v.es.heap v.es.next (vstep pm v st).es.heap (vstep pm v st).es.next := by
  cases st with
  | store m => exact ⟨⟨Nat.le_succ _, fun r hr => if_neg (Nat.ne_of_lt hr)⟩, .refl _ _⟩
  | ev st =>
    cases h : filtered v.es st with
    | none =>
      rw [vstep_none pm v st h]
      exact ⟨.refl _ _, step_frame id v.es st⟩
    | some e =>
      rw [vstep_some pm v st e h]
      exact ⟨cloneVals_frame pm v.msgs v.mnext e, step_frame (projFor v.mnext e) v.es st⟩

theorem vrun_frame {M : Type} (pm : M → M) (steps : List (VStep M)) :
    ∀ v : VS M, Grows v.msgs v.mnext (vrun pm v steps).msgs (vrun pm v steps).mnext ∧
      Grows v.es.heap v.es.next (vrun pm v steps).es.heap (vrun pm v steps).es.next := by
  induction steps with
  | nil => exact fun v => ⟨.refl _ _, .refl _ _⟩
  | cons st rest ih =>
    exact fun v => ⟨(vstep_frame pm v st).1.trans (ih _).1, (vstep_frame pm v st).2.trans (ih _).2⟩

theorem vrun_append {M : Type} (pm : M → M) (a b : List (VStep M)) :
    ∀ v : VS M, vrun pm v (a ++ b) = vrun pm (vrun pm v a) b := by
  induction a with
  | nil => intro v; rfl
  | cons st rest ih => intro v; exact ih (vstep pm v st)

theorem vstep_inv {M : Type} (pm : M → M) (v : VS M) (st : VStep M) (hi : Inv v.es) : Inv (vstep pm v st).es := by
  cases st with
  | store m => exact hi
  | ev st =>
    simp only [vstep]
    split
    · exact step_inv id v.es st hi
    · exact step_inv _ v.es st hi

theorem vrun_inv {M : Type} (pm : M → M) (steps : List (VStep M)) : ∀ v : VS M, Inv v.es → Inv (vrun pm v steps).es := by
  induction steps with
  | nil => intro v hi; exact hi
  | cons st rest ih => intro v hi; exact ih _ (vstep_inv pm v st hi)

end ScVerif.C07.Events
