import ScVerif.C07.RimLemmas
/-!
# C07 — the rim models of Rim.lean (Go slice semantics): parent traits, metadata merge, enter/leave seed

The code after the `fix:` commits 61cd22e, cc201f5, cb83336. The `…_writes` theorems show that the model is
fine enough to express the defects: the pre-fix code, in the same model, changes the caller's (stored) array /
message. `traitUnion`/`traitRemove` are tied to the real functions by an exhaustive small-scope differential (harness
tie `rim-slices`).
-/
namespace ScVerif.C07.Rim

/-- `traitUnion` never writes to an array that existed before the call, whatever the
stored slice's capacity. -/
theorem C07_parent_union_frame (h : AH) (has : Slice) (more : List String) :
    ∀ x, x < h.next → (traitUnion h has more).1.arr x = h.arr x := by
  intro x hx
  have a := allocWith_fresh (n0 := h.next) (Nat.le_refl _) (rd h has) (has.len + more.length)
  have b := unionLoop_fresh (n0 := h.next) more a.lo a.hi
  exact (a.trans b).same x hx

/-- Likewise for `traitRemove`. -/
theorem C07_parent_remove_frame (h : AH) (has : Slice) (remove : List String) :
    ∀ x, x < h.next → (traitRemove h has remove).1.arr x = h.arr x := by
  intro x hx
  have a := allocWith_fresh (n0 := h.next) (Nat.le_refl _) (rd h has) has.len
  have b := removeLoop_fresh (n0 := h.next) remove a.lo a.hi
  exact (a.trans b).same x hx

/-- the pre-fix `traitUnion` (no clone) inserted in place when capacity allowed: the stored array changes -/
theorem C07_parent_union_legacy_writes :
    ∃ (h : AH) (has : Slice) (more : List String), has.a < h.next ∧
      (traitUnionLegacy h has more).1.arr has.a ≠ h.arr has.a :=
  ⟨{ arr := fun _ => ["a", "c", ""], next := 1 }, ⟨0, 2, 3⟩, ["b"], by decide, by decide⟩

/-- the pre-fix `traitRemove` copied within the stored array -/
theorem C07_parent_remove_legacy_writes :
    ∃ (h : AH) (has : Slice) (remove : List String), has.a < h.next ∧
      (traitRemoveLegacy h has remove).1.arr has.a ≠ h.arr has.a :=
  ⟨{ arr := fun _ => ["a", "c"], next := 1 }, ⟨0, 2, 2⟩, ["a"], by decide, by decide⟩

/-- The metadata merge (clone of the old Traits, then merge of the update's traits by
name, appending unknown ones) writes to no message cell that existed before. -/
theorem C07_metadata_merge_frame (h : MH) (oldTraits : List Ref) (upd : List TMd) :
    ∀ x, x < h.next → (mergeTraits h oldTraits upd).1.msg x = h.msg x := by
  intro x hx
  have a := (cloneAll_cloned oldTraits h).fresh
  have b := mergeAll_fresh (n0 := h.next) upd a.mono a.refs
  exact (b.same x hx).trans (a.same x hx)

/-- the pre-fix interceptor merged into the stored trait message itself -/
theorem C07_metadata_merge_legacy_writes :
    ∃ (h : MH) (oldTraits : List Ref) (upd : List TMd), (∀ r, r ∈ oldTraits → r < h.next) ∧
      ∃ r, r ∈ oldTraits ∧ (mergeTraitsLegacy h oldTraits upd).1.msg r ≠ h.msg r :=
  ⟨{ msg := fun _ => ⟨"t", [("k", "v")]⟩, arr := fun _ => [], next := 1 }, [0], [⟨"t", [("k", "w")]⟩],
    by decide, 0, by decide, by decide⟩

/-- The seed edit of `PullEnterLeaveEvents` writes only the cell it allocates: the seed
it was handed (the stored event when there is no read mask) is unchanged, and what the subscriber receives is the
fresh cell. -/
theorem C07_enterleave_seed_frame (h : Heap ELE) (next seed : Ref) (hs : seed < next) :
    (∀ r, r < next → (seedEdit h next seed).1 r = h r) ∧ (seedEdit h next seed).1 seed = h seed ∧
    (seedEdit h next seed).2 = next ∧
    (seedEdit h next seed).1 next = { h seed with direction := 0, occupant := none } := by
  have hf : ∀ r, r < next → (seedEdit h next seed).1 r = h r := fun r hr => Heap.set_ne _ _ (Nat.ne_of_lt hr)
  exact ⟨hf, hf seed hs, rfl, Heap.set_same _ _ _⟩

/-- the pre-fix code cleared occupant and direction on the seed itself -/
theorem C07_enterleave_seed_legacy_writes :
    ∃ (h : Heap ELE) (next seed : Ref), seed < next ∧ (seedEditLegacy h next seed).1 seed ≠ h seed :=
  ⟨fun _ => ⟨1, some "x", 3⟩, 1, 0, by decide, by decide⟩

/-- `PullEnterLeaveEvents(ctx, opts...)` up to its first message, for every read mask
(none included): the seed `Value.Pull` produces (the stored event itself without a mask, a filtered clone with one)
followed by the adapter's edit writes no cell that existed and sends a new cell. -/
theorem C07_enterleave_pull_frame (mask : Option EMask) (h : Heap ELE) (next stored : Ref) (hs : stored < next) :
    (∀ r, r < next → (pullFirst mask h next stored).1 r = h r) ∧ (pullFirst mask h next stored).1 stored = h stored ∧
    next ≤ (pullFirst mask h next stored).2 ∧
    (pullFirst mask h next stored).1 (pullFirst mask h next stored).2 =
      { (match mask with | none => h stored | some m => projELE m (h stored)) with direction := 0, occupant := none } := by
  -- the seed `Value.Pull` produces, then the adapter's edit of it
  obtain ⟨sf, sn, ss, sc⟩ := pullSeedRef_spec mask h next stored hs
  obtain ⟨ef, -, en, ec⟩ := C07_enterleave_seed_frame (pullSeedRef mask h next stored).1 _ _ ss
  have hf : ∀ r, r < next → (pullFirst mask h next stored).1 r = h r := fun r hr =>
    (ef r (Nat.lt_of_lt_of_le hr sn)).trans (sf r hr)
  refine ⟨hf, hf stored hs, en ▸ sn, ?_⟩
  rw [show (pullFirst mask h next stored).2 = _ from en]
  exact ec.trans (by rw [sc]; cases mask <;> rfl)

/-- The seeded shape (C07-11): with a non-empty option list that holds
no read mask (what the gRPC server passes for a request without read_mask) the conditional clone is skipped and the
edit lands on the stored event. -/
theorem C07_enterleave_pull_conditional_clone_writes :
    ∃ (h : Heap ELE) (next stored : Ref), stored < next ∧ (pullFirstIfNoOpts false none h next stored).1 stored ≠ h stored :=
  ⟨fun _ => ⟨1, some "x", 3⟩, 1, 0, by decide, by decide⟩

/-- with a read mask the shortcut is harmless (that is what makes it look right): the seed is a clone already -/
example : ∀ m : EMask, (pullFirstIfNoOpts false (some m) (fun _ => ⟨1, some "x", 3⟩) 1 0).1 0 = ⟨1, some "x", 3⟩ := by
  intro m
  obtain ⟨d, o, t⟩ := m
  cases d <;> cases o <;> cases t <;> decide

end ScVerif.C07.Rim
