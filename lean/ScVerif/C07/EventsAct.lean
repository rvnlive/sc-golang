import ScVerif.C07.EventsLemmas
import ScVerif.C07.EventVals
/-!
What a step comes to once its guards are evaluated (`Act`): every step of `Events.step` is one of six things, three of
them (`requeue`, `alloc`, `filter`) moves of one subscriber's pipeline.  `step_act` reads this off `step` and `filtered` once.
-/
namespace ScVerif.C07.Events

inductive Act
  | idle
  | subscribe (lossy mask value : Bool)
  /-- a new bus cell; `g` puts its reference into the inboxes of the listeners -/
  | send (e : Ev) (g : Sub → Sub)
  /-- `sb`'s queues updated by `f`, nothing allocated -/
  | requeue (sb : Sub) (f : Sub → Sub)
  /-- `sb`'s pipeline allocates `cells`, none of them through the read-mask filter -/
  | alloc (sb : Sub) (f : Sub → Sub) (cells : List Ev)
  /-- `sb`'s pipeline allocates `pre`, then hands `e` to the read-mask filter: one more cell, the consumer's -/
  | filter (sb : Sub) (f : Sub → Sub) (pre : List Ev) (e : Ev)

def Act.filt : Act → Option Ev
  | .filter _ _ _ e => some e
  | _ => none

def ES.apply (proj : Nat → Nat) (s : ES) : Act → ES
  | .idle => s
  | .subscribe l m v =>
    { s with subs := s.subs ++ [{ idx := s.subs.length, lossy := l, mask := m, value := v, inbox := [], pending := [], out := [] }] }
  | .send e g =>
    { s with heap := pushCells s.heap s.next [e], owner := setOwner s.owner s.next 1 none, next := s.next + 1,
             subs := s.subs.map g }
  | .requeue sb f => { s with subs := replaceSub s.subs sb f }
  | .alloc sb f cells => s.move sb f cells
  | .filter sb f pre e => s.move sb f (pre ++ [projEv proj e])

/-- `e` is something `sb`'s pipeline has in hand at step `st`: a bus event in its inbox, a private copy of its
merger, or the seed it is told to build -/
def Held (s : ES) (sb : Sub) (st : Step) (e : Ev) : Prop :=
  (∃ r, r ∈ sb.inbox ∧ e = s.heap r) ∨ e ∈ sb.pending ∨ ∃ i, st = .seed i e

/-- What is known of each shape.  The `out` clauses are the premises of `Inv.move`; the `pending` clauses, `Held` and
`sb.idx = stepSub st` are those of `GInv.move` (EventOwnLemmas.lean): whose messages the events a step touches carry. -/
inductive Act.OK (s : ES) (st : Step) : Act → Prop
  | idle : OK s st .idle
  | subscribe {l m v : Bool} : OK s st (.subscribe l m v)
  | send {e : Ev} {g : Sub → Sub} : (st = .send e ∨ st = .vsend e) →
      (∀ sb, g sb = sb ∨ g sb = { sb with inbox := sb.inbox ++ [s.next] }) → OK s st (.send e g)
  /-- the merger may take a bus event in; an unmasked backpressure or Value consumer may be handed the bus cell itself -/
  | requeue {sb : Sub} {f : Sub → Sub} : Fits s sb f →
      (∀ p, p ∈ (f sb).pending → p ∈ sb.pending ∨ ∃ r, r ∈ sb.inbox ∧ p ∈ mergePending sb.pending (s.heap r)) →
      (∀ c, c ∈ (f sb).out → c ∈ sb.out ∨ (c ∈ sb.inbox ∧ sb.mask = false ∧ (sb.lossy = false ∨ sb.value = true))) →
      OK s st (.requeue sb f)
  /-- the last cell is, or is `include`'s replacement of, an event in hand; only an unmasked consumer can get it.
  (The index is literally `init ++ [e]`: `step_act` has to name its cell lists in that form, `[] ++ [_]`, `[_] ++ [_]`.) -/
  | alloc {sb : Sub} {f : Sub → Sub} {init : List Ev} {e src : Ev} : Fits s sb f →
      (∀ p, p ∈ (f sb).pending → p ∈ sb.pending) → Held s sb st src → (e = src ∨ ∃ d, e = convEv d src) →
      (∀ c, c ∈ (f sb).out → c ∈ sb.out ∨ (c = s.next + init.length ∧ sb.mask = false)) →
      OK s st (.alloc sb f (init ++ [e]))
  | filter {sb : Sub} {f : Sub → Sub} {pre : List Ev} {e : Ev} : Fits s sb f →
      (∀ p, p ∈ (f sb).pending → p ∈ sb.pending) → sb.mask = true → sb.idx = stepSub st →
      (∀ c, c ∈ (f sb).out → c ∈ sb.out ∨ c = s.next + pre.length) →
      OK s st (.filter sb f pre e)

theorem not_lossyColl {l v : Bool} (h : (l && !v) = false) : l = false ∨ v = true := by
  cases l <;> cases v <;> simp at h ⊢

theorem mem_snoc {α : Type} {c x : α} {l : List α} (h : c ∈ l ++ [x]) : c ∈ l ∨ c = x := by
  simpa using h

/-- Every step, read off `step` and `filtered` together.  The case analysis follows the guards of `step` in their
order; each case names its shape, and both equations then hold by unfolding. -/
theorem step_act (s : ES) (st : Step) :
    ∃ a, (∀ proj, step proj s st = s.apply proj a) ∧ filtered s st = a.filt ∧ a.OK s st := by
  cases st with
  | sub l m => exact ⟨.subscribe l m false, fun _ => rfl, rfl, .subscribe⟩
  | vsub l m => exact ⟨.subscribe l m true, fun _ => rfl, rfl, .subscribe⟩
  | send e =>
    refine ⟨.send e _, fun _ => rfl, rfl, .send (.inl rfl) fun sb => ?_⟩
    split
    · exact .inl rfl
    · exact .inr rfl
  | vsend e =>
    refine ⟨.send e _, fun _ => rfl, rfl, .send (.inr rfl) fun sb => ?_⟩
    split
    · exact .inr rfl
    · exact .inl rfl
  | dropIn i =>
    dsimp only [step, filtered]
    cases hf : s.subs.find? (fun sb => sb.idx = i) with
    | none => exact ⟨.idle, fun _ => rfl, rfl, .idle⟩
    | some sb =>
      have hsb := List.mem_of_find?_eq_some hf
      dsimp only
      cases hl : (!(sb.lossy && sb.value)) with
      | true => exact ⟨.idle, fun _ => rfl, rfl, .idle⟩
      | false =>
        cases hib : sb.inbox with
        | nil => exact ⟨.idle, fun _ => rfl, rfl, .idle⟩
        | cons r1 t =>
          cases t with
          | nil => exact ⟨.idle, fun _ => rfl, rfl, .idle⟩
          | cons r2 rest =>
            exact ⟨.requeue sb _, fun _ => rfl, rfl,
              .requeue ⟨hsb, fun _ => rfl, rfl, rfl, rfl, fun x hx => hib ▸ List.mem_cons_of_mem _ hx⟩
                (fun _ h => .inl h) (fun _ h => .inl h)⟩
  | mergeIn i =>
    dsimp only [step, filtered]
    cases hf : s.subs.find? (fun sb => sb.idx = i) with
    | none => exact ⟨.idle, fun _ => rfl, rfl, .idle⟩
    | some sb =>
      have hsb := List.mem_of_find?_eq_some hf
      dsimp only
      cases hl : (!(sb.lossy && !sb.value)) with
      | true => exact ⟨.idle, fun _ => rfl, rfl, .idle⟩
      | false =>
        cases hib : sb.inbox with
        | nil => exact ⟨.idle, fun _ => rfl, rfl, .idle⟩
        | cons r rest =>
          exact ⟨.requeue sb _, fun _ => rfl, rfl,
            .requeue ⟨hsb, fun _ => rfl, rfl, rfl, rfl, fun x hx => hib ▸ List.mem_cons_of_mem _ hx⟩
              (fun _ h => .inr ⟨r, hib ▸ List.mem_cons_self, h⟩) (fun _ h => .inl h)⟩
  | forward i =>
    dsimp only [step, filtered]
    cases hf : s.subs.find? (fun sb => sb.idx = i) with
    | none => exact ⟨.idle, fun _ => rfl, rfl, .idle⟩
    | some sb =>
      have hsb := List.mem_of_find?_eq_some hf
      have hidx : sb.idx = i := by simpa using List.find?_some hf
      dsimp only
      cases hl : (sb.lossy && !sb.value) with
      | true => exact ⟨.idle, fun _ => rfl, rfl, .idle⟩
      | false =>
        cases hib : sb.inbox with
        | nil => exact ⟨.idle, fun _ => rfl, rfl, .idle⟩
        | cons r rest =>
          have hrest : ∀ x, x ∈ rest → x ∈ sb.inbox := fun x hx => hib ▸ List.mem_cons_of_mem _ hx
          dsimp only
          cases hm : sb.mask with
          | true =>
            exact ⟨.filter sb _ [] (s.heap r), fun _ => rfl, rfl,
              .filter ⟨hsb, fun _ => rfl, rfl, rfl, rfl, hrest⟩ (fun _ h => h) hm hidx (fun c hc => mem_snoc hc)⟩
          | false =>
            exact ⟨.requeue sb _, fun _ => rfl, rfl,
              .requeue ⟨hsb, fun _ => rfl, rfl, rfl, rfl, hrest⟩ (fun _ h => .inl h) fun c hc =>
                (mem_snoc hc).imp_right fun (h : c = r) => ⟨h ▸ hib ▸ List.mem_cons_self, hm, not_lossyColl hl⟩⟩
  | forwardIncl i d =>
    dsimp only [step, filtered]
    cases hf : s.subs.find? (fun sb => sb.idx = i) with
    | none => exact ⟨.idle, fun _ => rfl, rfl, .idle⟩
    | some sb =>
      have hsb := List.mem_of_find?_eq_some hf
      have hidx : sb.idx = i := by simpa using List.find?_some hf
      dsimp only
      cases hl : (sb.lossy && !sb.value) with
      | true => exact ⟨.idle, fun _ => rfl, rfl, .idle⟩
      | false =>
        cases hib : sb.inbox with
        | nil => exact ⟨.idle, fun _ => rfl, rfl, .idle⟩
        | cons r rest =>
          have hfits : ∀ out : Sub → List Nat, Fits s sb fun x => { x with inbox := rest, out := out x } := fun _ =>
            ⟨hsb, fun _ => rfl, rfl, rfl, rfl, fun x hx => hib ▸ List.mem_cons_of_mem _ hx⟩
          have held : Held s sb (.forwardIncl i d) (s.heap r) := .inl ⟨r, hib ▸ List.mem_cons_self, rfl⟩
          dsimp only
          cases d with
          | skip => exact ⟨.requeue sb _, fun _ => rfl, rfl, .requeue (hfits _) (fun _ h => .inl h) (fun _ h => .inl h)⟩
          | toAdd | toRemove =>
            cases hm : sb.mask with
            | true =>
              exact ⟨.filter sb _ [_] _, fun _ => rfl, rfl,
                .filter (hfits _) (fun _ h => h) hm hidx (fun c hc => mem_snoc hc)⟩
            | false =>
              exact ⟨.alloc sb _ ([] ++ [_]), fun _ => rfl, rfl,
                .alloc (hfits _) (fun _ h => h) held (.inr ⟨_, rfl⟩) (fun c hc => (mem_snoc hc).imp_right (⟨·, hm⟩))⟩
  | emit i =>
    dsimp only [step, filtered]
    cases hf : s.subs.find? (fun sb => sb.idx = i) with
    | none => exact ⟨.idle, fun _ => rfl, rfl, .idle⟩
    | some sb =>
      have hsb := List.mem_of_find?_eq_some hf
      have hidx : sb.idx = i := by simpa using List.find?_some hf
      dsimp only
      cases hl : (!(sb.lossy && !sb.value)) with
      | true => exact ⟨.idle, fun _ => rfl, rfl, .idle⟩
      | false =>
        cases hp : sb.pending with
        | nil => exact ⟨.idle, fun _ => rfl, rfl, .idle⟩
        | cons c0 rest =>
          have hfits : ∀ out : Sub → List Nat, Fits s sb fun x => { x with pending := rest, out := out x } := fun _ =>
            ⟨hsb, fun _ => rfl, rfl, rfl, rfl, fun _ h => h⟩
          have hrest : ∀ p, p ∈ rest → p ∈ sb.pending := fun p h => hp ▸ List.mem_cons_of_mem _ h
          have held : Held s sb (.emit i) c0 := .inr (.inl (hp ▸ List.mem_cons_self))
          dsimp only
          cases hm : sb.mask with
          | true =>
            exact ⟨.filter sb _ [_] _, fun _ => rfl, rfl, .filter (hfits _) hrest hm hidx (fun c hc => mem_snoc hc)⟩
          | false =>
            exact ⟨.alloc sb _ ([] ++ [_]), fun _ => rfl, rfl,
              .alloc (hfits _) hrest held (.inl rfl) (fun c hc => (mem_snoc hc).imp_right (⟨·, hm⟩))⟩
  | emitIncl i d =>
    dsimp only [step, filtered]
    cases hf : s.subs.find? (fun sb => sb.idx = i) with
    | none => exact ⟨.idle, fun _ => rfl, rfl, .idle⟩
    | some sb =>
      have hsb := List.mem_of_find?_eq_some hf
      have hidx : sb.idx = i := by simpa using List.find?_some hf
      dsimp only
      cases hl : (!(sb.lossy && !sb.value)) with
      | true => exact ⟨.idle, fun _ => rfl, rfl, .idle⟩
      | false =>
        cases hp : sb.pending with
        | nil => exact ⟨.idle, fun _ => rfl, rfl, .idle⟩
        | cons c0 rest =>
          have hfits : ∀ out : Sub → List Nat, Fits s sb fun x => { x with pending := rest, out := out x } := fun _ =>
            ⟨hsb, fun _ => rfl, rfl, rfl, rfl, fun _ h => h⟩
          have hrest : ∀ p, p ∈ rest → p ∈ sb.pending := fun p h => hp ▸ List.mem_cons_of_mem _ h
          have held : Held s sb (.emitIncl i d) c0 := .inr (.inl (hp ▸ List.mem_cons_self))
          dsimp only
          cases d with
          | skip =>
            exact ⟨.alloc sb _ ([] ++ [_]), fun _ => rfl, rfl, .alloc (hfits _) hrest held (.inl rfl) (fun _ h => .inl h)⟩
          | toAdd | toRemove =>
            cases hm : sb.mask with
            | true =>
              exact ⟨.filter sb _ [_, _] _, fun _ => rfl, rfl, .filter (hfits _) hrest hm hidx (fun c hc => mem_snoc hc)⟩
            | false =>
              exact ⟨.alloc sb _ ([_] ++ [_]), fun _ => rfl, rfl,
                .alloc (hfits _) hrest held (.inr ⟨_, rfl⟩) (fun c hc => (mem_snoc hc).imp_right (⟨·, hm⟩))⟩
  | seed i e =>
    dsimp only [step, filtered]
    cases hf : s.subs.find? (fun sb => sb.idx = i) with
    | none => exact ⟨.idle, fun _ => rfl, rfl, .idle⟩
    | some sb =>
      have hsb := List.mem_of_find?_eq_some hf
      have hidx : sb.idx = i := by simpa using List.find?_some hf
      have hfits : ∀ out : Sub → List Nat, Fits s sb fun x => { x with out := out x } := fun _ =>
        ⟨hsb, fun _ => rfl, rfl, rfl, rfl, fun _ h => h⟩
      dsimp only
      cases hm : sb.mask with
      | true =>
        exact ⟨.filter sb _ [_] _, fun _ => rfl, rfl, .filter (hfits _) (fun _ h => h) hm hidx (fun c hc => mem_snoc hc)⟩
      | false =>
        exact ⟨.alloc sb _ ([] ++ [_]), fun _ => rfl, rfl,
          .alloc (hfits fun x => x.out ++ [s.next]) (fun _ h => h) (.inr (.inr ⟨i, rfl⟩)) (.inl rfl)
            (fun c hc => (mem_snoc hc).imp_right (⟨·, hm⟩))⟩

theorem sent_same {n : Nat} {g : Sub → Sub} (hg : ∀ sb, g sb = sb ∨ g sb = { sb with inbox := sb.inbox ++ [n] }) (x : Sub) :
    (g x).idx = x.idx ∧ (g x).lossy = x.lossy ∧ (g x).mask = x.mask ∧ (g x).value = x.value ∧
      (g x).pending = x.pending ∧ (g x).out = x.out ∧ ∀ r, r ∈ (g x).inbox → r ∈ x.inbox ∨ r = n := by
  rcases hg x with h | h <;> rw [h]
  · exact ⟨rfl, rfl, rfl, rfl, rfl, rfl, fun _ h => .inl h⟩
  · exact ⟨rfl, rfl, rfl, rfl, rfl, rfl, fun _ h => mem_snoc h⟩

theorem step_frame (proj : Nat → Nat) (s : ES) (st : Step) :
    Grows s.heap s.next (step proj s st).heap (step proj s st).next := by
  obtain ⟨a, ha, -, -⟩ := step_act s st
  rw [ha proj]
  have alloc : ∀ cells, Grows s.heap s.next (pushCells s.heap s.next cells) (s.next + cells.length) := fun _ =>
    ⟨Nat.le_add_right _ _, fun _ hr => pushCells_below _ _ _ _ hr⟩
  cases a with
  | idle | subscribe | requeue => exact .refl _ _
  | send e g => exact alloc [e]
  | alloc sb f cells => exact alloc cells
  | filter sb f pre e => exact alloc _

theorem run_frame (proj : Nat → Nat) (steps : List Step) :
    ∀ s : ES, Grows s.heap s.next (run proj s steps).heap (run proj s steps).next := by
  induction steps with
  | nil => exact fun s => .refl _ _
  | cons st rest ih => exact fun s => (step_frame proj s st).trans (ih _)

theorem step_inv (proj : Nat → Nat) (s : ES) (st : Step) (hi : Inv s) : Inv (step proj s st) := by
  obtain ⟨a, ha, -, hok⟩ := step_act s st
  rw [ha proj]
  cases hok with
  | idle => exact hi
  | subscribe =>
    -- the new subscriber holds nothing yet
    refine ⟨fun y hy r hr => ?_, fun y hy r hr => ?_, ?_⟩
    · rcases mem_snoc hy with hy | rfl
      · exact hi.inbox y hy r hr
      · cases hr
    · rcases mem_snoc hy with hy | rfl
      · exact hi.out y hy r hr
      · cases hr
    · simp only [ES.apply, List.map_append, List.length_append, List.map_cons, List.map_nil, List.length_cons, List.length_nil]
      rw [hi.idx, List.range_succ]
  | @send e g _ hg =>
    refine ⟨fun y hy r hr => ?_, fun y hy r hr => ?_, ?_⟩
    · obtain ⟨x, hx, rfl⟩ := List.mem_map.mp hy
      rcases (sent_same hg x).2.2.2.2.2.2 r hr with hr | rfl
      · have := hi.inbox x hx r hr
        exact ⟨Nat.lt_succ_of_lt this.1, (setOwner_below _ _ _ _ _ this.1).trans this.2⟩
      · exact ⟨Nat.lt_succ_self _, setOwner_at _ _ _ _ _ (Nat.le_refl _) (Nat.lt_succ_self _)⟩
    · obtain ⟨x, hx, rfl⟩ := List.mem_map.mp hy
      obtain ⟨h1, h2, h3, h4, -, h6, -⟩ := sent_same hg x
      rw [h1, h2, h3, h4]
      have := hi.out x hx r (h6 ▸ hr)
      refine ⟨Nat.lt_succ_of_lt this.1, ?_⟩
      show setOwner s.owner s.next 1 none r = _ ∨ setOwner s.owner s.next 1 none r = _ ∧ _
      rw [setOwner_below _ _ _ _ _ this.1]
      exact this.2
    · show (s.subs.map g).map (·.idx) = List.range (s.subs.map g).length
      rw [List.length_map, ← hi.idx, List.map_map]
      exact List.map_congr_left fun x _ => (sent_same hg x).1
  | requeue hf _ hout =>
    exact hi.replace _ hf.mem _ hf.idx hf.lossy hf.mask hf.value hf.inbox hout
  | @alloc _ _ init _ _ hf _ _ _ hout =>
    refine hi.move hf _ fun r hr => (hout r hr).imp_right fun h => .inl ?_
    rw [h.1, List.length_append]
    exact ⟨Nat.le_add_right _ _, Nat.add_lt_add_left (Nat.lt_succ_self _) _⟩
  | @filter _ _ pre _ hf _ _ _ hout =>
    refine hi.move hf _ fun r hr => (hout r hr).imp_right fun h => .inl ?_
    rw [h, List.length_append]
    exact ⟨Nat.le_add_right _ _, Nat.add_lt_add_left (Nat.lt_succ_self _) _⟩

theorem run_inv (proj : Nat → Nat) (steps : List Step) : ∀ s : ES, Inv s → Inv (run proj s steps) := by
  induction steps with
  | nil => intro s hi; exact hi
  | cons st rest ih => intro s hi; exact ih _ (step_inv proj s st hi)

end ScVerif.C07.Events
