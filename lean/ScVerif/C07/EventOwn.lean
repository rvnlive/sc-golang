import ScVerif.C07.EventsLemmas
import ScVerif.C07.EventVals
/-!
C07 — WHO holds which message: ghost ownership of message cells.

Every message cell gets a ghost owner: `none` for a cell a writer stored (the stored message itself, which `Get`, write
results, `Delete` and unmasked events hand out), `some i` for a clone made by the read-mask filter of subscriber `i`.
-/
namespace ScVerif.C07.Events

structure GS (M : Type) where
  v : VS M
  mown : Nat → Option Nat

/-- the one modelling decision of the layer: every message cell a pipeline step allocates (they are the filter's clones)
belongs to the subscriber the step belongs to -/
def gstep {M : Type} (pm : M → M) (g : GS M) (st : VStep M) : GS M :=
  { v := vstep pm g.v st,
    mown := match st with
      | .store _ => fun x => if x = g.v.mnext then none else g.mown x
      | .ev s => fun x => if g.v.mnext ≤ x ∧ x < (vstep pm g.v st).mnext then some (stepSub s) else g.mown x }

def grun {M : Type} (pm : M → M) (g : GS M) : List (VStep M) → GS M
  | [] => g
  | st :: rest => grun pm (gstep pm g st) rest

def GS.init {M : Type} [Inhabited M] : GS M := { v := VS.init, mown := fun _ => none }

/-- every value of `e` is an existing message cell owned by `o` -/
def ValsOwned {M : Type} (g : GS M) (o : Option Nat) (e : Ev) : Prop :=
  ∀ r, r ∈ e.vals → r < g.v.mnext ∧ g.mown r = o

/-- writers send stored messages: the values of a `send` / `vsend` are cells a writer stored; so are the values of a seed
(the current value(s) of the resource) -/
def SendOK {M : Type} (g : GS M) : VStep M → Prop
  | .ev (.send e) => ValsOwned g none e
  | .ev (.vsend e) => ValsOwned g none e
  | .ev (.seed _ e) => ValsOwned g none e
  | _ => True

def OKfrom {M : Type} (pm : M → M) : GS M → List (VStep M) → Prop
  | _, [] => True
  | g, st :: rest => SendOK g st ∧ OKfrom pm (gstep pm g st) rest

instance {M : Type} (g : GS M) (o : Option Nat) (e : Ev) : Decidable (ValsOwned g o e) := by
  unfold ValsOwned; exact inferInstance

instance {M : Type} (g : GS M) (st : VStep M) : Decidable (SendOK g st) := by
  cases st with
  | store m => exact isTrue trivial
  | ev s => cases s <;> simp only [SendOK] <;> exact inferInstance

instance decOKfrom {M : Type} (pm : M → M) : (g : GS M) → (steps : List (VStep M)) → Decidable (OKfrom pm g steps)
  | _, [] => isTrue trivial
  | g, st :: rest => by
    simp only [OKfrom]
    have := decOKfrom pm (gstep pm g st) rest
    exact inferInstance

/-- Bus events and the merger's private copies carry stored messages; what a consumer has received carries stored
messages if it is unmasked and clones of its own filter if it is masked. -/
structure GInv {M : Type} (g : GS M) : Prop where
  inv : Inv g.v.es
  bus : ∀ c, c < g.v.es.next → g.v.es.owner c = none → ValsOwned g none (g.v.es.heap c)
  pend : ∀ sb, sb ∈ g.v.es.subs → ∀ p, p ∈ sb.pending → ValsOwned g none p
  out : ∀ sb, sb ∈ g.v.es.subs → ∀ c, c ∈ sb.out →
    ValsOwned g (if sb.mask then some sb.idx else none) (g.v.es.heap c)

theorem ValsOwned.mono {M : Type} {g g' : GS M} {o : Option Nat} {e : Ev} (h : ValsOwned g o e)
    (hn : g.v.mnext ≤ g'.v.mnext) (hm : ∀ r, r < g.v.mnext → g'.mown r = g.mown r) : ValsOwned g' o e := by
  intro r hr
  have := h r hr
  exact ⟨by omega, by rw [hm r this.1]; exact this.2⟩

/-- `include`'s replacement event carries a subset of the original's values -/
theorem ValsOwned.conv {M : Type} {g : GS M} {o : Option Nat} {e : Ev} (h : ValsOwned g o e) (d : Decision) :
    ValsOwned g o (convEv d e) := by
  intro r hr
  apply h r
  cases d <;> simp [convEv, Ev.vals] at hr ⊢ <;> simp [hr]

theorem vals_mergeChanges (a b m : Ev) (h : mergeChanges a b = some m) : ∀ r, r ∈ m.vals → r ∈ a.vals ∨ r ∈ b.vals := by
  -- in every case `m` is `b` with `old` taken from `a`, kept or dropped
  intro r hr
  simp only [mergeChanges] at h
  cases ha : a.kind <;> simp only [ha] at h
  · cases hb : b.kind <;> simp only [hb] at h
    · cases h; right; simpa [Ev.vals] using hr
    · cases h; right; simp [Ev.vals] at hr ⊢; simp [hr]
    · exact absurd h (by simp)
    · cases h; right; simp [Ev.vals] at hr ⊢; simp [hr]
  all_goals
    cases h
    simp [Ev.vals] at hr ⊢
    rcases hr with hr | hr
    · left; left; exact hr
    · right; right; exact hr

theorem mem_mergePending {pending : List Ev} {nw p : Ev} (h : p ∈ mergePending pending nw) :
    p ∈ pending ∨ p = nw ∨ ∃ o, o ∈ pending ∧ mergeChanges o nw = some p := by
  simp only [mergePending] at h
  split at h
  · simp only [List.mem_append, List.mem_singleton] at h
    rcases h with h | h
    · exact Or.inl h
    · exact Or.inr (Or.inl h)
  · rename_i o ho
    split at h
    · exact Or.inl (List.mem_filter.mp h).1
    · rename_i m hm
      simp only [List.mem_append, List.mem_singleton] at h
      rcases h with h | h
      · exact Or.inl (List.mem_filter.mp h).1
      · subst h
        exact Or.inr (Or.inr ⟨o, List.mem_of_find?_eq_some ho, hm⟩)

theorem ValsOwned.mergePending {M : Type} {g : GS M} {pending : List Ev} {nw : Ev}
    (hp : ∀ p, p ∈ pending → ValsOwned g none p) (hn : ValsOwned g none nw) :
    ∀ p, p ∈ mergePending pending nw → ValsOwned g none p := by
  intro p h
  rcases mem_mergePending h with h | h | ⟨o, ho, hm⟩
  · exact hp p h
  · subst h; exact hn
  · intro r hr
    rcases vals_mergeChanges o nw p hm r hr with h | h
    · exact hp o ho r h
    · exact hn r h

end ScVerif.C07.Events
