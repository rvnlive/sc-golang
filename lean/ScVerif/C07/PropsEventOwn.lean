import ScVerif.C07.EventOwnLemmas
/-!
# C07 — who holds which message: stored messages are shared, filtered clones are private

Every message cell has a ghost owner (`none`: a writer stored it; `some i`: a clone made by the read-mask filter of
subscriber `i`); sends and seeds carry stored messages (`OKfrom`: what writers and `Pull` do). The ghost does not
influence the run (`(grun …).v = vrun …`).
-/
namespace ScVerif.C07.Events

/-- The values of every event an UNMASKED subscriber's consumer has received
are stored messages: the very cells `Get`, the write result, `Delete` and every other unmasked subscriber hold. There is
no copy between them, so their isolation is `C07_event_values_immutable` (nobody writes) and nothing else. -/
theorem C07_unmasked_events_carry_stored_messages {M : Type} [Inhabited M] (pm : M → M) (steps : List (VStep M))
    (hok : OKfrom pm (GS.init : GS M) steps) :
    let g := grun pm (GS.init : GS M) steps
    g.v = vrun pm VS.init steps ∧
    ∀ sb, sb ∈ g.v.es.subs → sb.mask = false → ∀ c, c ∈ sb.out → ∀ r, r ∈ (g.v.es.heap c).vals →
      r < g.v.mnext ∧ g.mown r = none := by
  intro g
  have hi : GInv g := grun_inv pm steps _ GInv.init hok
  refine ⟨grun_v pm steps _, fun sb hsb hm c hc r hr => ?_⟩
  have := hi.out sb hsb c hc r hr
  rw [hm] at this
  exact this

/-- The values of every event a MASKED subscriber's consumer has received are clones
its own filter made: no bus event, no merger copy and no event any other subscriber's consumer holds refers to them. -/
theorem C07_masked_event_values_private {M : Type} [Inhabited M] (pm : M → M) (steps : List (VStep M))
    (hok : OKfrom pm (GS.init : GS M) steps) :
    let g := grun pm (GS.init : GS M) steps
    ∀ sb, sb ∈ g.v.es.subs → sb.mask = true → ∀ c, c ∈ sb.out → ∀ r, r ∈ (g.v.es.heap c).vals →
      g.mown r = some sb.idx ∧
      (∀ b, b < g.v.es.next → g.v.es.owner b = none → r ∉ (g.v.es.heap b).vals) ∧
      (∀ sb', sb' ∈ g.v.es.subs → ∀ p, p ∈ sb'.pending → r ∉ p.vals) ∧
      (∀ sb', sb' ∈ g.v.es.subs → ∀ c', c' ∈ sb'.out → r ∈ (g.v.es.heap c').vals → sb'.idx = sb.idx) := by
  intro g sb hsb hm c hc r hr
  have hi : GInv g := grun_inv pm steps _ GInv.init hok
  have ho : g.mown r = some sb.idx := by
    have := (hi.out sb hsb c hc r hr).2
    rw [hm] at this
    exact this
  refine ⟨ho, ?_, ?_, ?_⟩
  · intro b hb hob hrb
    have := (hi.bus b hb hob r hrb).2
    rw [ho] at this
    exact absurd this (by simp)
  · intro sb' hsb' p hp hrp
    have := (hi.pend sb' hsb' p hp r hrp).2
    rw [ho] at this
    exact absurd this (by simp)
  · intro sb' hsb' c' hc' hr'
    have := (hi.out sb' hsb' c' hc' r hr').2
    rw [ho] at this
    cases hm' : sb'.mask
    · rw [hm'] at this; exact absurd this (by simp)
    · rw [hm'] at this; exact (Option.some.inj this).symm

/-! non-vacuity: a run in which every send carries stored messages (`OKfrom`), with an unmasked and a masked
subscriber; the masked one's values are cells 1 and 2 (its clones), the unmasked one's are cell 0 (the stored message) -/

def demo : List (VStep (Nat × Nat)) :=
  [.ev (.sub false false), .ev (.sub false true), .store (4, 7), .ev (.send ⟨.add, 1, none, some 0, false⟩),
   .ev (.forward 0), .ev (.forward 1), .ev (.send ⟨.remove, 1, some 0, none, false⟩), .ev (.forward 0), .ev (.forward 1)]

example : OKfrom (fun m : Nat × Nat => (m.1, 0)) GS.init demo := by decide +kernel

example :
    let g := grun (fun m : Nat × Nat => (m.1, 0)) GS.init demo
    g.v.es.subs.map (·.out) = [[0, 2], [1, 3]] ∧ (g.v.es.heap 2).vals = [0] ∧ (g.v.es.heap 3).vals = [2] ∧
      g.mown 0 = none ∧ g.mown 2 = some 1 := by decide +kernel

end ScVerif.C07.Events
