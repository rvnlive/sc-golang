import ScVerif.C07.Rim
import ScVerif.C07.CoreLemmas
import ScVerif.C07.Cloned
/-! Frame lemmas for the rim models: a call whose working slice lives in a cell allocated by the call
writes to no cell that existed before the call. -/
namespace ScVerif.C07.Rim

/-- `r` works on cells at or above `n0`, and everything below `n0` is as in `h` -/
structure Fresh (n0 : Ref) (h : AH) (r : AH × Slice) : Prop where
  same : ∀ x, x < n0 → r.1.arr x = h.arr x
  lo : n0 ≤ r.2.a
  hi : r.2.a < r.1.next

theorem set_fresh {n0 : Ref} {h : AH} {s : Slice} (hlo : n0 ≤ s.a) (hhi : s.a < h.next) (xs : List String) (s' : Slice)
    (ha : s'.a = s.a) : Fresh n0 h (h.set s.a xs, s') where
  same x hx := by
    have : x ≠ s.a := Nat.ne_of_lt (Nat.lt_of_lt_of_le hx hlo)
    simp [AH.set, this]
  lo := by rw [ha]; exact hlo
  hi := by rw [ha]; exact hhi

theorem allocWith_fresh {n0 : Ref} {h : AH} (hn : n0 ≤ h.next) (xs : List String) (cap : Nat) :
    Fresh n0 h (allocWith h xs cap) where
  same x hx := by
    have : x ≠ h.next := Nat.ne_of_lt (Nat.lt_of_lt_of_le hx hn)
    simp [allocWith, this]
  lo := hn
  hi := Nat.lt_succ_self _

theorem Fresh.trans {n0 : Ref} {h : AH} {r : AH × Slice} {r' : AH × Slice}
    (a : Fresh n0 h r) (b : Fresh n0 r.1 r') : Fresh n0 h r' where
  same x hx := (b.same x hx).trans (a.same x hx)
  lo := b.lo
  hi := b.hi

theorem Fresh.refl {n0 : Ref} {h : AH} {s : Slice} (hlo : n0 ≤ s.a) (hhi : s.a < h.next) : Fresh n0 h (h, s) :=
  ⟨fun _ _ => rfl, hlo, hhi⟩

theorem appendS_fresh {n0 : Ref} {h : AH} {s : Slice} (hlo : n0 ≤ s.a) (hhi : s.a < h.next) (xs : List String) :
    Fresh n0 h (appendS h s xs) := by
  unfold appendS
  split
  · exact set_fresh hlo hhi _ _ rfl
  · exact allocWith_fresh (Nat.le_trans hlo (Nat.le_of_lt hhi)) _ _

theorem unionStep_fresh {n0 : Ref} {h : AH} {s : Slice} (hlo : n0 ≤ s.a) (hhi : s.a < h.next) (t : String) :
    Fresh n0 h (unionStep h s t) := by
  unfold unionStep
  simp only
  split
  · exact appendS_fresh hlo hhi _
  · split
    · exact Fresh.refl hlo hhi
    · have a := appendS_fresh (s := { s with len := search (rd h s) t + 1 }) hlo hhi ((rd h s).drop (search (rd h s) t))
      exact a.trans (set_fresh a.lo a.hi _ _ rfl)

theorem unionLoop_fresh {n0 : Ref} (ts : List String) :
    ∀ {h : AH} {s : Slice}, n0 ≤ s.a → s.a < h.next → Fresh n0 h (unionLoop h s ts) := by
  induction ts with
  | nil => intro h s hlo hhi; exact Fresh.refl hlo hhi
  | cons t ts ih =>
    intro h s hlo hhi
    have a := unionStep_fresh hlo hhi t
    exact a.trans (ih a.lo a.hi)

theorem removeStep_fresh {n0 : Ref} {h : AH} {s : Slice} (hlo : n0 ≤ s.a) (hhi : s.a < h.next) (t : String) :
    Fresh n0 h (removeStep h s t) := by
  unfold removeStep
  simp only
  split
  · exact Fresh.refl hlo hhi
  · exact set_fresh hlo hhi _ _ rfl

theorem removeLoop_fresh {n0 : Ref} (ts : List String) :
    ∀ {h : AH} {s : Slice}, n0 ≤ s.a → s.a < h.next → Fresh n0 h (removeLoop h s ts) := by
  induction ts with
  | nil => intro h s hlo hhi; exact Fresh.refl hlo hhi
  | cons t ts ih =>
    intro h s hlo hhi
    have a := removeStep_fresh hlo hhi t
    exact a.trans (ih a.lo a.hi)

theorem mergeInto_fresh {n0 : Ref} {h : MH} {tmds : List Ref} (hn : n0 ≤ h.next)
    (hr : ∀ x, x ∈ tmds → n0 ≤ x ∧ x < h.next) (tmd : TMd) :
    Cloned.Frame h.msg n0 (mergeInto h tmds tmd).1.msg (mergeInto h tmds tmd).1.next (mergeInto h tmds tmd).2 := by
  unfold mergeInto
  cases hf : tmds.find? (fun r => (h.msg r).name = tmd.name) with
  | some r =>
    have hm := List.mem_of_find?_eq_some hf
    refine ⟨fun x hx => ?_, hr, hn⟩
    have : x ≠ r := Nat.ne_of_lt (Nat.lt_of_lt_of_le hx (hr r hm).1)
    simp [this]
  | none =>
    refine ⟨fun x hx => ?_, fun x hx => ?_, Nat.le_succ_of_le hn⟩
    · have : x ≠ h.next := Nat.ne_of_lt (Nat.lt_of_lt_of_le hx hn)
      simp [this]
    · rcases List.mem_append.mp hx with hx | hx
      · exact ⟨(hr x hx).1, Nat.lt_succ_of_lt (hr x hx).2⟩
      · simp at hx; subst hx; exact ⟨hn, Nat.lt_succ_self _⟩

theorem mergeAll_fresh {n0 : Ref} (upd : List TMd) :
    ∀ {h : MH} {tmds : List Ref}, n0 ≤ h.next → (∀ x, x ∈ tmds → n0 ≤ x ∧ x < h.next) →
      Cloned.Frame h.msg n0 (mergeAll h tmds upd).1.msg (mergeAll h tmds upd).1.next (mergeAll h tmds upd).2 := by
  induction upd with
  | nil => intro h tmds hn hr; exact ⟨fun _ _ => rfl, hr, hn⟩
  | cons t ts ih =>
    intro h tmds hn hr
    have a := mergeInto_fresh hn hr t
    have b := ih a.mono a.refs
    exact ⟨fun x hx => (b.same x hx).trans (a.same x hx), b.refs, b.mono⟩

theorem cloneAll_cloned : ∀ (rs : List Ref) (h : MH),
    Cloned id h.msg h.next rs (cloneAll h rs).1.msg (cloneAll h rs).1.next (cloneAll h rs).2
  | [], _ => .nil
  | r :: rs, h =>
    .cons (cloneAll_cloned rs { h with msg := fun x => if x = h.next then h.msg r else h.msg x, next := h.next + 1 })

theorem pullSeedRef_spec (mask : Option EMask) (h : Heap ELE) (next stored : Ref) (hs : stored < next) :
    (∀ r, r < next → (pullSeedRef mask h next stored).1 r = h r) ∧ next ≤ (pullSeedRef mask h next stored).2.1 ∧
    (pullSeedRef mask h next stored).2.2 < (pullSeedRef mask h next stored).2.1 ∧
    (pullSeedRef mask h next stored).1 (pullSeedRef mask h next stored).2.2 =
      (match mask with | none => h stored | some m => projELE m (h stored)) := by
  cases mask with
  | none => exact ⟨fun _ _ => rfl, Nat.le_refl _, hs, rfl⟩
  | some m => exact ⟨fun r hr => Heap.set_ne _ _ (Nat.ne_of_lt hr), Nat.le_succ _, Nat.lt_succ_self _, Heap.set_same _ _ _⟩

end ScVerif.C07.Rim
