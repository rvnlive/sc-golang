import ScVerif.C07.Rim6
import ScVerif.C07.WriteSet
/-! C07 — the nested heap model of countpb (Rim6.lean): which cells each step of a write may touch, and the device
invariant `Inv` that every call and every caller action keeps. -/
namespace ScVerif.C07.Rim6

/-- `h'` extends `h` and differs from it below `h`'s allocation pointers at most at count cells in `WC` and timestamp
cells in `WT` -/
def Wr (h h' : H) (WC WT : Nat → Prop) : Prop :=
  h.cn ≤ h'.cn ∧ h.tn ≤ h'.tn ∧ (∀ c, c < h.cn → ¬ WC c → h'.cs c = h.cs c) ∧
    (∀ t, t < h.tn → ¬ WT t → h'.ts t = h.ts t)

def H.view (h : H) : Cells Cnt Int := ⟨h.cs, h.cn, h.ts, h.tn⟩

/-- the four facts of `Wr` as the structure of WriteSet.lean: the proofs use this form, the `_spec` statements the tuple -/
abbrev Wrv (h h' : H) (WC WT : Nat → Prop) : Prop := h.view.Wr h'.view WC WT

theorem wr_view {h h' : H} {WC WT : Nat → Prop} (a : Wr h h' WC WT) : Wrv h h' WC WT := ⟨a.1, a.2.1, a.2.2.1, a.2.2.2⟩

theorem wr_of_view {h h' : H} {WC WT : Nat → Prop} (a : Wrv h h' WC WT) : Wr h h' WC WT :=
  ⟨a.an_le, a.bn_le, a.a_same, a.b_same⟩

abbrev Fresh (h0 h : H) (WC WT : Nat → Prop) (d : Nat) : Prop := Cells.Fresh Cnt.rt h0.view h.view WC WT d

theorem clone_spec (h : H) (c : Nat) (WC WT : Nat → Prop) :
    Wr h (clone h c).1 WC WT ∧ (clone h c).2 = h.cn ∧ (clone h c).1.cn = h.cn + 1 ∧
    (clone h c).1.tn ≤ h.tn + 1 ∧
    (∀ t, ((clone h c).1.cs h.cn).rt = some t → t = h.tn ∧ (clone h c).1.tn = h.tn + 1) ∧
    deep (clone h c).1 h.cn = deep h c := by
  unfold clone
  cases hr : (h.cs c).rt with
  | none =>
    refine ⟨wr_of_view ((Cells.Wr.refl _ _ _).allocA _), rfl, rfl, Nat.le_succ _, ?_, ?_⟩
    · intro t ht; simp [H.allocC, hr] at ht
    · simp [deep, H.allocC, hr]
  | some t0 =>
    refine ⟨wr_of_view (((Cells.Wr.refl _ _ _).allocB _).allocA _), rfl, rfl, Nat.le_refl _, ?_, ?_⟩
    · intro t ht; simp [H.allocC, H.allocT] at ht; exact ⟨ht.symm, rfl⟩
    · simp [deep, H.allocC, H.allocT, hr]

theorem clone_ref (h : H) (c : Nat) : (clone h c).2 = h.cn := (clone_spec h c (fun _ => False) (fun _ => False)).2.1

variable {h0 h : H} {WC WT : Nat → Prop} {d : Nat}

theorem clone_fresh (x : Wrv h0 h WC WT) (c : Nat) : Fresh h0 (clone h c).1 WC WT (clone h c).2 := by
  unfold clone
  split
  · next hr => exact x.fresh _ fun t ht => nomatch hr.symm.trans ht
  · exact (x.allocB _).fresh _ fun t ht => by cases ht; exact ⟨x.bn_le, Nat.lt_succ_self _⟩

/-- `proto.Merge(dst, src)` writes `dst` and `dst`'s OWN reset time, or gives it a new one -/
theorem protoMerge_fresh (p : Fresh h0 h WC WT d) (src : Nat) : Fresh h0 (protoMerge h d src) WC WT d := by
  simp only [protoMerge]
  split
  · exact p.setD _ fun t ht => .inl ht
  · split
    · exact (p.allocB _).setD _ fun t ht => by cases ht; exact .inr ⟨p.wr.bn_le, Nat.lt_succ_self _⟩
    · next dt hd => exact (p.setB (.inr (p.sub dt hd).1) _).setD _ fun t ht => .inl ht

theorem filterC_rt (m : Mask) (c : Cnt) (t : Nat) (h : (filterC m c).rt = some t) : c.rt = some t := by
  unfold filterC at h; cases hm : m.rt <;> simp [hm] at h; exact h

theorem pruneC_rt (m : Mask) (c : Cnt) (t : Nat) (h : (pruneC m c).rt = some t) : c.rt = some t := by
  unfold pruneC at h; cases hm : m.rt <;> simp [hm] at h; exact h

theorem pruneEmptyC_rt (m : Mask) (s d : Cnt) (t : Nat) (h : (pruneEmptyC m s d).rt = some t) : d.rt = some t := by
  unfold pruneEmptyC at h
  by_cases hc : (m.rt && s.rt.isNone) = true <;> simp [hc] at h <;> exact h

/-- a masked `GetCount` filters its own clone -/
theorem read_fresh (m : Mask) (x : Wrv h0 h WC WT) (c : Nat) :
    Fresh h0 ((clone h c).1.setC (clone h c).2 (filterC m ((clone h c).1.cs (clone h c).2))) WC WT (clone h c).2 :=
  (clone_fresh x c).setD _ fun t ht => .inl (filterC_rt m _ t ht)

theorem wfilter_fresh (w : Option Mask) (p : Fresh h0 h WC WT d) {src : Nat} (hs : WC src ∨ h0.cn ≤ src) (hne : src ≠ d) :
    Fresh h0 (wfilter w h src) WC WT d := by
  cases w with
  | none => exact p
  | some wm => exact p.setA hs hne _

/-- `FieldUpdater.Merge(dst, src)` for every writable mask and update mask: of what existed it writes at most `src` (the
in-place filters); `dst` only loses its reset time, keeps it or gets a new one -/
theorem merge_fresh (w u : Option Mask) (p : Fresh h0 h WC WT d) {src : Nat} (hs : WC src ∨ h0.cn ≤ src) (hne : src ≠ d) :
    Fresh h0 (merge w u h d src) WC WT d := by
  have pf := wfilter_fresh w p hs hne
  unfold merge
  split
  · exact p
  · cases u with
    | none =>
      refine protoMerge_fresh (pf.setD _ fun t ht => .inl ?_) src
      cases w with
      | none => cases ht
      | some wm => exact pruneC_rt wm _ t ht
    | some um =>
      dsimp only
      split
      · exact pf
      · exact (protoMerge_fresh (pf.setA hs hne _) src).setD _ fun t ht => .inl (pruneEmptyC_rt um _ _ t ht)

/-- `Value.Set` at any point of a call that started from `h0`, with a source that is in the write set or was built by
the call (the interceptor and the in-place filters write it) -/
theorem valueSet_fresh (w u : Option Mask) (delta : Bool) (x : Wrv h0 h WC WT) (old : Nat) {src : Nat}
    (hs : WC src ∨ h0.cn ≤ src) (hsrc : src < h.cn) :
    Fresh h0 (valueSet w u delta h old src).1 WC WT (valueSet w u delta h old src).2 := by
  have hne : src ≠ (clone h old).2 := clone_ref h old ▸ Nat.ne_of_lt hsrc
  refine merge_fresh w u ?_ hs hne
  cases delta with
  | false => exact clone_fresh x old
  | true => exact (clone_fresh x old).setA hs hne _

/-- `ResetCount` builds the source of its write itself, whatever timestamp the request carries -/
theorem reset_fresh (x : Wrv h0 h WC WT) (stored : Nat) (req : Option Nat) (now : Int) :
    Fresh h0 (reset h stored req now).1 WC WT (reset h stored req now).2 := by
  unfold reset
  cases req with
  | some t => exact valueSet_fresh none none false (x.allocA _) stored (.inr x.an_le) (Nat.lt_succ_self _)
  | none => exact valueSet_fresh none none false ((x.allocB _).allocA _) stored (.inr x.an_le) (Nat.lt_succ_self _)

theorem valueSet_spec (w u : Option Mask) (delta : Bool) (h : H) (old src : Nat) (hsrc : src < h.cn) :
    Wr h (valueSet w u delta h old src).1 (· = src) (fun _ => False) ∧
    (valueSet w u delta h old src).2 = h.cn ∧ (valueSet w u delta h old src).1.cn = h.cn + 1 ∧
    (∀ t, ((valueSet w u delta h old src).1.cs h.cn).rt = some t →
      h.tn ≤ t ∧ t < (valueSet w u delta h old src).1.tn) := by
  have p := valueSet_fresh w u delta (Cells.Wr.refl h.view (· = src) (fun _ => False)) old (.inl rfl) hsrc
  have ref : (valueSet w u delta h old src).2 = h.cn := clone_ref h old
  exact ⟨wr_of_view p.wr, ref, ref ▸ p.top, fun t ht => p.sub t (ref ▸ ht)⟩

theorem reset_spec (h : H) (stored : Nat) (req : Option Nat) (now : Int) :
    Wr h (reset h stored req now).1 (fun _ => False) (fun _ => False) ∧
    (reset h stored req now).2 = h.cn + 1 ∧ (reset h stored req now).1.cn = h.cn + 2 ∧
    (∀ t, ((reset h stored req now).1.cs (h.cn + 1)).rt = some t → h.tn ≤ t ∧ t < (reset h stored req now).1.tn) := by
  have p := reset_fresh (Cells.Wr.refl h.view (fun _ => False) (fun _ => False)) stored req now
  have ref : (reset h stored req now).2 = h.cn + 1 := by
    unfold reset
    cases req <;> exact clone_ref _ stored
  exact ⟨wr_of_view p.wr, ref, p.top.trans (congrArg (· + 1) ref), fun t ht => p.sub t (ref ▸ ht)⟩

theorem deep_same {h h' : H} {WC WT : Nat → Prop} (hw : Wrv h h' WC WT) {c : Nat} (hc : c < h.cn) (hnc : ¬ WC c)
    (ht : ∀ t, (h.cs c).rt = some t → t < h.tn ∧ ¬ WT t) : h'.cs c = h.cs c ∧ deep h' c = deep h c := by
  have e : h'.cs c = h.cs c := hw.a_same c hc hnc
  refine ⟨e, ?_⟩
  simp only [deep, e]
  cases hr : (h.cs c).rt with
  | none => rfl
  | some t =>
    have : h'.ts t = h.ts t := hw.b_same t (ht t hr).1 (ht t hr).2
    simp [this]

theorem merge_all_deep (h : H) (dst src : Nat) (hne : dst ≠ src) : deep (merge none none h dst src) dst = deep h src := by
  -- `dst` is reset to zero first, so merging yields `src`'s fields; `zero`: a populated-or-zero scalar is the scalar
  have zero : ∀ a : Int, (if a = 0 then 0 else a) = a := fun a => by split <;> simp [*]
  cases hr : (h.cs src).rt with
  | none => simp [merge, wEmpty, wfilter, resetDst, protoMerge, H.setC, deep, hr, hne.symm, zero]
  | some t => simp [merge, wEmpty, wfilter, resetDst, protoMerge, H.setC, H.allocT, deep, hr, hne.symm, zero]

theorem valueSet_all_deep (h : H) (old src : Nat) (hsrc : src < h.cn) (ht : ∀ t, (h.cs src).rt = some t → t < h.tn) :
    deep (valueSet none none false h old src).1 (valueSet none none false h old src).2 = deep h src := by
  obtain ⟨clW, clRef, -⟩ := clone_spec h old (fun _ => False) (fun _ => False)
  exact (merge_all_deep _ _ src (clRef ▸ (Nat.ne_of_lt hsrc).symm)).trans
    (deep_same (wr_view clW) hsrc id fun t hr => ⟨ht t hr, id⟩).2

theorem deep_allocC (g : H) (a r : Int) (t : Nat) : deep (g.allocC ⟨a, r, some t⟩).1 g.cn = (a, r, some (g.ts t)) := by
  simp only [deep, H.allocC, if_pos, Option.map_some]

/-- Published counts and their reset times are allocated; what a caller owns is allocated and apart from what is
published: an owned count is not published, an owned timestamp is no published count's reset time. -/
structure Inv (s : S) : Prop where
  stored : s.stored ∈ s.pub
  pubC : ∀ p, p ∈ s.pub → p < s.h.cn
  pubT : ∀ p, p ∈ s.pub → ∀ t, (s.h.cs p).rt = some t → t < s.h.tn
  ownC : ∀ c, c ∈ s.ownC → c < s.h.cn ∧ c ∉ s.pub
  ownT : ∀ t, t ∈ s.ownT → t < s.h.tn ∧ ∀ p, p ∈ s.pub → (s.h.cs p).rt ≠ some t

theorem Inv.kept {s : S} (hi : Inv s) {h' : H} (hw : Wrv s.h h' (· ∈ s.ownC) (· ∈ s.ownT)) (p : Nat) (hp : p ∈ s.pub) :
    h'.cs p = s.h.cs p ∧ deep h' p = deep s.h p :=
  deep_same hw (hi.pubC p hp) (fun x => (hi.ownC p x).2 hp)
    (fun t hr => ⟨hi.pubT p hp t hr, fun x => (hi.ownT t x).2 p hp hr⟩)

/-- What a step may add: newly published counts allocated by the step together with their reset times, newly owned
cells allocated by the step and not published (a timestamp: not referred to by a published count). -/
theorem Inv.next {s s' : S} (hi : Inv s) (hw : Wrv s.h s'.h (· ∈ s.ownC) (· ∈ s.ownT)) (hst : s'.stored ∈ s'.pub)
    (hpub : ∀ p, p ∈ s'.pub → p ∈ s.pub ∨
      (s.h.cn ≤ p ∧ p < s'.h.cn ∧ ∀ t, (s'.h.cs p).rt = some t → s.h.tn ≤ t ∧ t < s'.h.tn))
    (hC : ∀ c, c ∈ s'.ownC → c ∈ s.ownC ∨ (s.h.cn ≤ c ∧ c < s'.h.cn ∧ c ∉ s'.pub))
    (hT : ∀ t, t ∈ s'.ownT → t ∈ s.ownT ∨
      (s.h.tn ≤ t ∧ t < s'.h.tn ∧ ∀ p, p ∈ s'.pub → (s'.h.cs p).rt ≠ some t)) : Inv s' := by
  refine ⟨hst, fun p hp => ?_, fun p hp t ht => ?_, fun c hc => ?_, fun t ht => ?_⟩
  · rcases hpub p hp with h | h
    · exact Nat.lt_of_lt_of_le (hi.pubC p h) hw.an_le
    · exact h.2.1
  · rcases hpub p hp with h | h
    · rw [(hi.kept hw p h).1] at ht
      exact Nat.lt_of_lt_of_le (hi.pubT p h t ht) hw.bn_le
    · exact (h.2.2 t ht).2
  · rcases hC c hc with h | h
    · refine ⟨Nat.lt_of_lt_of_le (hi.ownC c h).1 hw.an_le, fun hp => ?_⟩
      rcases hpub c hp with h' | h'
      · exact (hi.ownC c h).2 h'
      · exact Nat.not_le_of_lt (hi.ownC c h).1 h'.1
    · exact h.2
  · rcases hT t ht with h | h
    · refine ⟨Nat.lt_of_lt_of_le (hi.ownT t h).1 hw.bn_le, fun p hp hx => ?_⟩
      rcases hpub p hp with h' | h'
      · rw [(hi.kept hw p h').1] at hx
        exact (hi.ownT t h).2 p h' hx
      · exact Nat.not_le_of_lt (hi.ownT t h).1 (h'.2.2 t hx).1
    · exact h.2

theorem Inv.publish {s : S} (hi : Inv s) {h' : H} (hw : Wr s.h h' (· ∈ s.ownC) (· ∈ s.ownT)) (n st : Nat)
    (hn : s.h.cn ≤ n) (hn' : n < h'.cn) (hrt : ∀ t, (h'.cs n).rt = some t → s.h.tn ≤ t ∧ t < h'.tn)
    (hst : st = n ∨ st = s.stored) :
    Inv { s with h := h', stored := st, pub := n :: s.pub } :=
  hi.next (s' := { s with h := h', stored := st, pub := n :: s.pub }) (wr_view hw)
    (hst.elim (fun e => e ▸ List.mem_cons_self) (fun e => e ▸ List.mem_cons_of_mem _ hi.stored))
    (fun p hp => by
      rcases List.mem_cons.mp hp with rfl | h
      · exact .inr ⟨hn, hn', hrt⟩
      · exact .inl h)
    (fun _ => .inl) (fun _ => .inl)

/-- what every step keeps: the invariant, every published count (still published, reading as before), and a count the
step hands back is published -/
def Kept (s : S) (r : S × Option Nat) : Prop :=
  Inv r.1 ∧ (∀ p, p ∈ s.pub → p ∈ r.1.pub ∧ deep r.1.h p = deep s.h p) ∧ ∀ c, r.2 = some c → c ∈ r.1.pub

theorem Inv.call {s : S} (hi : Inv s) {h' : H} {n : Nat} (p : Fresh s.h h' (· ∈ s.ownC) (· ∈ s.ownT) n) (st : Nat)
    (hst : st = n ∨ st = s.stored) : Kept s ({ s with h := h', stored := st, pub := n :: s.pub }, some n) :=
  ⟨hi.publish (wr_of_view p.wr) n st p.lo (Nat.lt_of_lt_of_eq (Nat.lt_succ_self _) p.top.symm) p.sub hst,
    fun q hq => ⟨List.mem_cons_of_mem _ hq, (hi.kept p.wr q hq).2⟩,
    fun _ hc => Option.some.inj hc ▸ List.mem_cons_self⟩

theorem Inv.caller {s s' : S} (hi : Inv s) (hw : Wrv s.h s'.h (· ∈ s.ownC) (· ∈ s.ownT)) (hst : s'.stored = s.stored)
    (hpub : s'.pub = s.pub)
    (hC : ∀ c, c ∈ s'.ownC → c ∈ s.ownC ∨ (s.h.cn ≤ c ∧ c < s'.h.cn ∧ c ∉ s'.pub))
    (hT : ∀ t, t ∈ s'.ownT → t ∈ s.ownT ∨
      (s.h.tn ≤ t ∧ t < s'.h.tn ∧ ∀ p, p ∈ s'.pub → (s'.h.cs p).rt ≠ some t)) : Kept s (s', none) :=
  ⟨hi.next hw (hst ▸ hpub ▸ hi.stored) (fun _ hp => .inl (hpub ▸ hp)) hC hT,
    fun p hp => ⟨hpub ▸ hp, (hi.kept hw p hp).2⟩, fun _ hc => nomatch hc⟩

theorem pokeT_stored (w : Option Mask) (s : S) (t : Nat) (v : Int) : (step w s (.pokeT t v)).1.stored = s.stored := by
  simp only [step]; split <;> rfl

theorem step_kept (w : Option Mask) (s : S) (op : Op) (hi : Inv s) : Kept s (step w s op) := by
  have start : Wrv s.h s.h (· ∈ s.ownC) (· ∈ s.ownT) := Cells.Wr.refl _ _ _
  have skip : Kept s (s, none) := ⟨hi, fun p hp => ⟨hp, rfl⟩, fun _ hc => nomatch hc⟩
  cases op with
  | get m =>
    cases m with
    | none => exact ⟨hi, fun p hp => ⟨hp, rfl⟩, fun _ hc => Option.some.inj hc ▸ hi.stored⟩
    | some m => exact hi.call (read_fresh m start s.stored) s.stored (.inr rfl)
  | reset req now => exact hi.call (reset_fresh start s.stored req now) _ (.inl rfl)
  | update src u delta =>
    dsimp only [step]
    split
    · next hs =>
      split
      · exact hi.call (valueSet_fresh w u delta start s.stored (.inl hs) (hi.ownC src hs).1) _ (.inl rfl)
      · exact skip
    · exact skip
  | newT v =>
    refine hi.caller (s' := (step w s (.newT v)).1) (start.allocB v) rfl rfl (fun _ => .inl) fun t ht => ?_
    rcases List.mem_cons.mp ht with rfl | h
    · -- no published count refers to the new timestamp: what they refer to exists already
      exact .inr ⟨Nat.le_refl _, Nat.lt_succ_self _, fun p hp hx => Nat.lt_irrefl _ (hi.pubT p hp _ hx)⟩
    · exact .inl h
  | newC a r rt =>
    refine hi.caller (s' := (step w s (.newC a r rt)).1) (start.allocA _) rfl rfl (fun c hc => ?_) (fun _ => .inl)
    rcases List.mem_cons.mp hc with rfl | h
    · exact .inr ⟨Nat.le_refl _, Nat.lt_succ_self _, fun hp => Nat.lt_irrefl _ (hi.pubC _ hp)⟩
    · exact .inl h
  | pokeT t v =>
    dsimp only [step]
    split
    · next ht => exact hi.caller (s' := { s with h := s.h.setT t v }) (start.setB (.inl ht) v) rfl rfl (fun _ => .inl) (fun _ => .inl)
    · exact skip
  | pokeC c x =>
    dsimp only [step]
    split
    · next hc => exact hi.caller (s' := { s with h := s.h.setC c x }) (start.setA (.inl hc) x) rfl rfl (fun _ => .inl) (fun _ => .inl)
    · exact skip

theorem step_inv (w : Option Mask) (s : S) (op : Op) (hi : Inv s) :
    Inv (step w s op).1 ∧ ∀ p, p ∈ s.pub → p ∈ (step w s op).1.pub ∧ deep (step w s op).1.h p = deep s.h p :=
  ⟨(step_kept w s op hi).1, (step_kept w s op hi).2.1⟩

/-- the state of the examples: the stored count 0 with reset time 0 (contents 5), the caller's timestamp 1 (contents 7) -/
def exS : S :=
  { h := { cs := fun _ => ⟨3, 1, some 0⟩, cn := 1, ts := fun x => if x = 1 then 7 else 5, tn := 2 },
    stored := 0, pub := [0], ownC := [], ownT := [1] }

theorem exS_inv : Inv exS :=
  { stored := by simp [exS]
    pubC := fun p hp => by simp [exS] at hp ⊢; omega
    pubT := fun p hp t ht => by simp [exS] at hp ht ⊢; omega
    ownC := fun c hc => by simp [exS] at hc
    ownT := fun t ht => by simp [exS] at ht ⊢; omega }

end ScVerif.C07.Rim6
