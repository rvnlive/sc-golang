/-!
C07 — change events as heap objects (pkg/resource/collection.go `Pull`, pkg/resource/backpressure.go
`mergeCollectionExcess` / `mergeChanges`, pkg/resource/change.go `filter`, internal/minibus `Bus.Send`).

A write builds ONE `*CollectionChange` and `Bus.Send` hands that very pointer to every listener, so
an event object is shared between all subscribers of a resource.  Each subscriber has its own
pipeline between the bus and its consumer:

  backpressure   Pull goroutine: `include` (nil: same pointer) ▸ `filter` (nil read mask: SAME
                 pointer, else a new `CollectionChange` with filtered clones of the values)
  lossy          `mergeCollectionExcess`: copies the event BY VALUE into its private map
                 (`*(newAny.(*CollectionChange))`), merges later events of the same id into that
                 private copy (`mergeChanges`), emits `&change` — a NEW object — then the Pull
                 goroutine's `filter` as above

  seeds          a subscription that asks for the current value(s) first: the Pull goroutine builds the seed changes
                 itself (new objects), `filter`, hands them to the consumer before it starts on the bus's events

Event cells live in a heap `Nat → Ev`; the values an event carries are opaque message references
(the message heap is EventVals.lean's business; Core.lean's `emit` models the same code independently, with its own
tie).  Every pipeline step declares what it allocates; none
writes to a cell it received.  `owner` is a ghost: who allocated a cell (`none` = the bus).
-/
namespace ScVerif.C07.Events

-- event references are natural numbers (written `Nat` throughout: `omega` does not look through an abbreviation)

/-- `types.ChangeType` -/
inductive Kind | add | update | remove | replace
  deriving DecidableEq, Repr, Inhabited

/-- `resource.CollectionChange` (change time left out; `old`/`new` are message references) -/
structure Ev where
  kind : Kind
  id : Nat
  old : Option Nat
  new : Option Nat
  lastSeed : Bool
  deriving DecidableEq, Repr, Inhabited

/-- `mergeChanges(a, b)` (backpressure.go), `none` = "don't send" (ADD then REMOVE) -/
def mergeChanges (a b : Ev) : Option Ev :=
  let b := { b with lastSeed := a.lastSeed || b.lastSeed }
  match a.kind with
  | .add =>
    match b.kind with
    | .add => some b
    | .update | .replace => some { b with kind := .add, old := none }
    | .remove => none
  | .update => some { b with old := a.old, kind := if b.kind = .add then .replace else b.kind }
  | .replace => some { b with old := a.old, kind := if b.kind = .add ∨ b.kind = .update then .replace else b.kind }
  | .remove => some { b with old := a.old, kind := if b.kind = .remove then .remove else .replace }

/-- `CollectionChange.filter` with a non-nil read mask: a new event whose values are filtered clones -/
def projEv (proj : Nat → Nat) (e : Ev) : Ev := { e with old := e.old.map proj, new := e.new.map proj }

/-- one subscriber's pipeline -/
structure Sub where
  idx : Nat
  /-- `WithBackpressure(false)`: `mergeCollectionExcess` sits between the bus and the Pull goroutine -/
  lossy : Bool
  /-- a non-nil read mask -/
  mask : Bool
  /-- a subscriber of a `resource.Value` (value.go `Pull`): its events come from the Value's bus (`vsend`) and its lossy
  stage is `minibus.DropExcess`, which keeps the latest POINTER — no copy, no merge — so even a lossy consumer
  receives the bus's object -/
  value : Bool
  /-- events the bus has handed to this listener and its pipeline has not taken yet (oldest first) -/
  inbox : List Nat
  /-- lossy: the merger's private copies in queue order, one per id (`messages` + `queue`) -/
  pending : List Ev
  /-- events the consumer has received (oldest first) -/
  out : List Nat
  deriving DecidableEq, Repr

structure ES where
  heap : Nat → Ev
  next : Nat
  subs : List Sub
  /-- ghost: which pipeline allocated the cell (`none`: the bus, i.e. the writer's `Send`) -/
  owner : Nat → Option Nat

/-- what `CollectionChange.include` decides when the item's inclusion changes or it is excluded throughout
(inclusion unchanged and included = the plain `forward`) -/
inductive Decision | skip | toAdd | toRemove
  deriving DecidableEq, Repr

/-- `include`'s replacement event: a NEW `CollectionChange` (change.go: "treat this like an Add / a remove") -/
def convEv (d : Decision) (e : Ev) : Ev :=
  match d with
  | .toAdd => { kind := .add, id := e.id, old := none, new := e.new, lastSeed := false }
  | _ => { kind := .remove, id := e.id, old := e.old, new := none, lastSeed := false }

inductive Step
  /-- `Collection.Pull`: a new subscriber -/
  | sub (lossy mask : Bool)
  /-- `Value.Pull`: a new subscriber of the Value -/
  | vsub (lossy mask : Bool)
  /-- a write's `bus.Send(ctx, &CollectionChange{…})`: one new cell, its reference to every listener of the Collection -/
  | send (e : Ev)
  /-- `Value.Set`'s `bus.Send(ctx, &ValueChange{…})`: one new cell, its reference to every listener of the Value -/
  | vsend (e : Ev)
  /-- the Pull goroutine takes the next event, filters, hands it to the consumer (backpressure subscribers, and Value
  subscribers of either kind: `DropExcess` passes pointers on) -/
  | forward (i : Nat)
  /-- lossy Value subscriber: `DropExcess` discards the pending event when a newer one arrives -/
  | dropIn (i : Nat)
  /-- backpressure subscriber with an include filter (`WithInclude`), when the filter does not simply pass the event:
  it is dropped, or REPLACED by a new ADD / REMOVE event, which then goes through the read-mask filter -/
  | forwardIncl (i : Nat) (d : Decision)
  /-- lossy subscriber: the merger receives the next event (copy in, merge into the private entry of that id) -/
  | mergeIn (i : Nat)
  /-- lossy subscriber: the merger emits the front of its queue (`&change`: a new cell), the Pull goroutine filters -/
  | emit (i : Nat)
  /-- lossy subscriber with an include filter, when the filter does not simply pass the merger's event: `include` runs in the
  Pull goroutine, i.e. BEHIND the merger — the emitted cell is dropped, or replaced by a new ADD / REMOVE which then goes
  through the read-mask filter -/
  | emitIncl (i : Nat) (d : Decision)
  /-- the seed of a subscription (`Pull` without `WithUpdatesOnly`): the Pull goroutine of subscriber `i` builds a change
  for a current value itself (`&CollectionChange{…, SeedValue: true}` / `&ValueChange{…}`: a new cell, never a bus cell),
  filters it and hands it to the consumer — seeds do not pass through the merger of a lossy subscriber -/
  | seed (i : Nat) (e : Ev)
  deriving Repr

/-- write `cells` at `n, n+1, …` -/
def pushCells (h : Nat → Ev) (n : Nat) : List Ev → (Nat → Ev)
  | [] => h
  | c :: cs => pushCells (fun x => if x = n then c else h x) (n + 1) cs

/-- ghost: cells `n … n+k-1` belong to `o` -/
def setOwner (ow : Nat → Option Nat) (n k : Nat) (o : Option Nat) : Nat → Option Nat :=
  fun x => if n ≤ x ∧ x < n + k then o else ow x

/-- apply `f` to the subscriber `sb` -/
def replaceSub (subs : List Sub) (sb : Sub) (f : Sub → Sub) : List Sub :=
  subs.map fun x => if x = sb then f x else x

/-- the merger's map + queue after receiving (a copy of) `nw` -/
def mergePending (pending : List Ev) (nw : Ev) : List Ev :=
  match pending.find? (fun p => p.id = nw.id) with
  | none => pending ++ [nw]
  | some old =>
    match mergeChanges old nw with
    | none => pending.filter (fun p => p.id ≠ nw.id)
    | some m => pending.filter (fun p => p.id ≠ nw.id) ++ [m]

def step (proj : Nat → Nat) (s : ES) : Step → ES
  | .sub l m =>
    { s with subs := s.subs ++ [{ idx := s.subs.length, lossy := l, mask := m, value := false, inbox := [], pending := [], out := [] }] }
  | .vsub l m =>
    { s with subs := s.subs ++ [{ idx := s.subs.length, lossy := l, mask := m, value := true, inbox := [], pending := [], out := [] }] }
  | .send e =>
    { s with heap := pushCells s.heap s.next [e], owner := setOwner s.owner s.next 1 none, next := s.next + 1,
             subs := s.subs.map fun sb => if sb.value then sb else { sb with inbox := sb.inbox ++ [s.next] } }
  | .vsend e =>
    { s with heap := pushCells s.heap s.next [e], owner := setOwner s.owner s.next 1 none, next := s.next + 1,
             subs := s.subs.map fun sb => if sb.value then { sb with inbox := sb.inbox ++ [s.next] } else sb }
  | .dropIn i =>
    match s.subs.find? (fun sb => sb.idx = i) with
    | none => s
    | some sb =>
      if !(sb.lossy && sb.value) then s else
      match sb.inbox with
      | _ :: r2 :: rest => { s with subs := replaceSub s.subs sb fun x => { x with inbox := r2 :: rest } }
      | _ => s
  | .forward i =>
    match s.subs.find? (fun sb => sb.idx = i) with
    | none => s
    | some sb =>
      if sb.lossy && !sb.value then s else
      match sb.inbox with
      | [] => s
      | r :: rest =>
        if sb.mask then
          { s with heap := pushCells s.heap s.next [projEv proj (s.heap r)],
                   owner := setOwner s.owner s.next 1 (some sb.idx), next := s.next + 1,
                   subs := replaceSub s.subs sb fun x => { x with inbox := rest, out := x.out ++ [s.next] } }
        else
          { s with subs := replaceSub s.subs sb fun x => { x with inbox := rest, out := x.out ++ [r] } }
  | .forwardIncl i d =>
    match s.subs.find? (fun sb => sb.idx = i) with
    | none => s
    | some sb =>
      if sb.lossy && !sb.value then s else
      match sb.inbox with
      | [] => s
      | r :: rest =>
        if d = .skip then { s with subs := replaceSub s.subs sb fun x => { x with inbox := rest } }
        else if sb.mask then
          { s with heap := pushCells s.heap s.next [convEv d (s.heap r), projEv proj (convEv d (s.heap r))],
                   owner := setOwner s.owner s.next 2 (some sb.idx), next := s.next + 2,
                   subs := replaceSub s.subs sb fun x => { x with inbox := rest, out := x.out ++ [s.next + 1] } }
        else
          { s with heap := pushCells s.heap s.next [convEv d (s.heap r)],
                   owner := setOwner s.owner s.next 1 (some sb.idx), next := s.next + 1,
                   subs := replaceSub s.subs sb fun x => { x with inbox := rest, out := x.out ++ [s.next] } }
  | .mergeIn i =>
    match s.subs.find? (fun sb => sb.idx = i) with
    | none => s
    | some sb =>
      if !(sb.lossy && !sb.value) then s else
      match sb.inbox with
      | [] => s
      | r :: rest =>
        { s with subs := replaceSub s.subs sb fun x => { x with inbox := rest, pending := mergePending x.pending (s.heap r) } }
  | .emit i =>
    match s.subs.find? (fun sb => sb.idx = i) with
    | none => s
    | some sb =>
      if !(sb.lossy && !sb.value) then s else
      match sb.pending with
      | [] => s
      | c :: rest =>
        if sb.mask then
          { s with heap := pushCells s.heap s.next [c, projEv proj c],
                   owner := setOwner s.owner s.next 2 (some sb.idx), next := s.next + 2,
                   subs := replaceSub s.subs sb fun x => { x with pending := rest, out := x.out ++ [s.next + 1] } }
        else
          { s with heap := pushCells s.heap s.next [c],
                   owner := setOwner s.owner s.next 1 (some sb.idx), next := s.next + 1,
                   subs := replaceSub s.subs sb fun x => { x with pending := rest, out := x.out ++ [s.next] } }
  | .emitIncl i d =>
    match s.subs.find? (fun sb => sb.idx = i) with
    | none => s
    | some sb =>
      if !(sb.lossy && !sb.value) then s else
      match sb.pending with
      | [] => s
      | c :: rest =>
        if d = .skip then
          { s with heap := pushCells s.heap s.next [c],
                   owner := setOwner s.owner s.next 1 (some sb.idx), next := s.next + 1,
                   subs := replaceSub s.subs sb fun x => { x with pending := rest } }
        else if sb.mask then
          { s with heap := pushCells s.heap s.next [c, convEv d c, projEv proj (convEv d c)],
                   owner := setOwner s.owner s.next 3 (some sb.idx), next := s.next + 3,
                   subs := replaceSub s.subs sb fun x => { x with pending := rest, out := x.out ++ [s.next + 2] } }
        else
          { s with heap := pushCells s.heap s.next [c, convEv d c],
                   owner := setOwner s.owner s.next 2 (some sb.idx), next := s.next + 2,
                   subs := replaceSub s.subs sb fun x => { x with pending := rest, out := x.out ++ [s.next + 1] } }

  | .seed i e =>
    match s.subs.find? (fun sb => sb.idx = i) with
    | none => s
    | some sb =>
      if sb.mask then
        { s with heap := pushCells s.heap s.next [e, projEv proj e],
                 owner := setOwner s.owner s.next 2 (some sb.idx), next := s.next + 2,
                 subs := replaceSub s.subs sb fun x => { x with out := x.out ++ [s.next + 1] } }
      else
        { s with heap := pushCells s.heap s.next [e],
                 owner := setOwner s.owner s.next 1 (some sb.idx), next := s.next + 1,
                 subs := replaceSub s.subs sb fun x => { x with out := x.out ++ [s.next] } }

/-- any interleaving of writers and pipeline steps is a list of steps -/
def run (proj : Nat → Nat) (s : ES) : List Step → ES
  | [] => s
  | st :: rest => run proj (step proj s st) rest

def ES.init : ES := { heap := fun _ => default, next := 0, subs := [], owner := fun _ => none }

/-- the seeded shape (a merger that keeps the bus's pointer and writes the merge result through it) -/
def mergeInPlace (h : Nat → Ev) (kept incoming : Nat) : Nat → Ev :=
  match mergeChanges (h kept) (h incoming) with
  | some m => fun x => if x = kept then m else h x
  | none => h

end ScVerif.C07.Events
