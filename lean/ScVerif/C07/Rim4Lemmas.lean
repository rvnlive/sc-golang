import ScVerif.C07.Rim4
/-! Normal forms of the Rim4 models: how `createMode` can end, what the hail collector can do (its loop is one filter),
include predicates that hand back the heap they were given. -/
namespace ScVerif.C07.Rim4

theorem alloc_other {B : Type} (h : MH B) (m : Mode B) (x : Nat) (hx : x < h.next) : (h.alloc m).1.cells x = h.cells x := by
  simp [MH.alloc, Nat.ne_of_lt hx]

theorem setId_other {B : Type} (h : MH B) (r : Nat) (id : String) (x : Nat) (hx : x ≠ r) : (h.setId r id).cells x = h.cells x := by
  simp [MH.setId, hx]

/-- `createMode` ends in one of two ways, on a heap `h2` that extends `h` by the clone (cell `h.next`, which alone the
callback may have written): refused, nothing stored; or the record — the next cell, a copy of the clone — stored
under the clone's id, announced and returned with no write in between. -/
theorem createMode_cases {B : Type} (h : MH B) (store : Store) (src : Nat) (gen : String) (normalTaken : Bool) :
    ∃ h2 : MH B, (∀ x, x < h.next → h2.cells x = h.cells x) ∧ h2.next = h.next + 1 ∧
      (createMode h store src gen normalTaken = { atSend := h2, heap := h2, store := store, record := none } ∨
       createMode h store src gen normalTaken =
        { atSend := (h2.alloc (h2.cells h.next)).1, heap := (h2.alloc (h2.cells h.next)).1,
          store := store ++ [((h2.cells h.next).id, h2.next)], record := some h2.next }) := by
  have clone : ∀ x, x < h.next → (h.alloc (h.cells src)).1.cells x = h.cells x := alloc_other h _
  simp only [createMode]
  split
  · exact ⟨_, clone, rfl, .inl rfl⟩
  · by_cases hg : ((h.alloc (h.cells src)).1.cells (h.alloc (h.cells src)).2).id = ""
    · -- the callback writes the generated id into the clone
      have cloneId : ∀ x, x < h.next → ((h.alloc (h.cells src)).1.setId h.next gen).cells x = h.cells x :=
        fun x hx => (setId_other _ _ _ x (Nat.ne_of_lt hx)).trans (clone x hx)
      have hid : gen = (((h.alloc (h.cells src)).1.setId h.next gen).cells h.next).id := by simp [MH.setId]
      simp only [if_pos hg]
      split
      · exact ⟨_, cloneId, rfl, .inl rfl⟩
      · exact ⟨(h.alloc (h.cells src)).1.setId h.next gen, cloneId, rfl, .inr (by rw [← hid]; rfl)⟩
    · simp only [if_neg hg]
      split
      · exact ⟨_, clone, rfl, .inl rfl⟩
      · exact ⟨_, clone, rfl, .inr rfl⟩

/-- `Delete` with the hail `hl` as expected value takes the record `kr` -/
def takes {B : Type} (eqv : B → B → Bool) (cells : Nat → Hail B) (hl : Hail B) (kr : String × Nat) : Bool :=
  kr.1 = hl.id && ((cells kr.2).id = hl.id && (cells kr.2).arrive = hl.arrive && eqv (cells kr.2).body hl.body)

theorem deleteExpected_eq {B : Type} (eqv : B → B → Bool) (cells : Nat → Hail B) (store : List (String × Nat)) (hl : Hail B) :
    deleteExpected eqv cells store hl = store.filter fun kr => !takes eqv cells hl kr := rfl

/-- the collector's loop is one filter: a record goes when a hail of the snapshot that arrived before `t` takes it -/
theorem gcLoop_eq {B : Type} (eqv : B → B → Bool) (cells : Nat → Hail B) (t : Int) :
    ∀ (snap store : List (String × Nat)), gcLoop eqv cells t snap store =
      store.filter fun kr => !snap.any fun q => arrivedBefore (cells q.2) t && takes eqv cells (cells q.2) kr
  | [], store => (List.filter_eq_self.mpr fun _ _ => rfl).symm
  | (_, r) :: rest, store => by
    simp only [gcLoop, List.any_cons]
    split
    · next h =>
      rw [gcLoop_eq eqv cells t rest, deleteExpected_eq, List.filter_filter]
      simp only [h, Bool.true_and, Bool.not_or, Bool.and_comm]
    · next h =>
      rw [gcLoop_eq eqv cells t rest]
      simp only [Bool.not_eq_true] at h
      simp only [h, Bool.false_and, Bool.false_or]

theorem gcLoop_sublist {B : Type} (eqv : B → B → Bool) (cells : Nat → Hail B) (t : Int) :
    ∀ (snap store : List (String × Nat)), (gcLoop eqv cells t snap store).Sublist store :=
  fun snap store => gcLoop_eq eqv cells t snap store ▸ List.filter_sublist

theorem gcLoop_removed {B : Type} (eqv : B → B → Bool) (cells : Nat → Hail B) (t : Int) :
    ∀ (snap store : List (String × Nat)) (kr : String × Nat), kr ∈ store → kr ∉ gcLoop eqv cells t snap store →
      ∃ q, q ∈ snap ∧ arrivedBefore (cells q.2) t = true ∧ kr.1 = (cells q.2).id ∧ (cells kr.2).id = (cells q.2).id ∧
        (cells kr.2).arrive = (cells q.2).arrive := by
  intro snap store kr hin hout
  rw [gcLoop_eq, List.mem_filter] at hout
  have : (snap.any fun q => arrivedBefore (cells q.2) t && takes eqv cells (cells q.2) kr) = true := by
    cases h : snap.any _
    · exact absurd ⟨hin, by rw [h]; rfl⟩ hout
    · rfl
  obtain ⟨q, hq, h⟩ := List.any_eq_true.mp this
  simp only [takes, Bool.and_eq_true, decide_eq_true_eq] at h
  exact ⟨q, hq, h.1, h.2.1, h.2.2.1.1, h.2.2.1.2⟩

theorem gc_cases {B : Type} (eqv : B → B → Bool) (keepAlive now : Int) (st : HS B) :
    gc eqv keepAlive now st = st ∨ (0 ≤ keepAlive ∧ st.ticket = true ∧
      gc eqv keepAlive now st =
        { st with ticket := false, store := gcLoop eqv st.cells (now - keepAlive) st.store st.store }) := by
  unfold gc
  split
  · exact .inl rfl
  · next hk =>
    split
    · exact .inl rfl
    · next ht => exact .inr ⟨Int.not_lt.mp hk, by simpa using ht, rfl⟩

theorem cutPeriod_heap (h : PHp) (p : Nat) : (cutPeriod h p).1 = h := by
  simp only [cutPeriod]; split <;> rfl

theorem periodsIntersect_heap (h : PHp) (p1 p2 : Option Nat) : (periodsIntersect cutPeriod h p1 p2).1 = h := by
  cases p1 with
  | none => rfl
  | some a =>
    cases p2 with
    | none => rfl
    | some b =>
      have ha := cutPeriod_heap h a
      have hb := cutPeriod_heap (cutPeriod h a).1 b
      simp only [periodsIntersect]
      rw [hb, ha]

theorem listInclude_heap (pred : PHp → Item → PHp × Bool) (hp : ∀ h it, (pred h it).1 = h) :
    ∀ (h : PHp) (items : List Item), (listInclude pred h items).1 = h
  | h, [] => rfl
  | h, it :: rest => by
    simp only [listInclude]
    rw [listInclude_heap pred hp (pred h it).1 rest, hp]

end ScVerif.C07.Rim4
