/-
C07 — heap-with-references model of `resource.Value` / `resource.Collection`
(pkg/resource/{atomic,opt,value,collection}.go, pkg/masks/{update,get}.go).

Messages live in a heap of cells addressed by references (Go pointers).  The store holds
references; every message that crosses the API is a reference.  The model follows the code's
phases and records exactly where each phase writes:

  Set/Update   validate ▸ read old ▸ dst := alloc clone(old) ▸ expected checks ▸ interceptBefore(old, src)
               ▸ FieldUpdater.Merge(dst, src)  (writes dst AND filters the caller's src in place)
               ▸ interceptAfter(old, dst) ▸ save dst ▸ publish dst (result, events)
  Get/List/seed/event value   `FilterClone`: nil read mask → THE STORED REFERENCE ITSELF, else a fresh clone

What a message *contains* and how masks merge is abstract (`Funs`): the isolation theorems hold for
every `merge/validate/project`; the driver instantiates them with flat 4-field messages (Flat.lean).
Interceptors are arbitrary heap transformers; `OldPure` is the documented contract (opt.go:
"Do not write to the old value").
-/
namespace ScVerif.C07

abbrev Ref := Nat

abbrev Heap (M : Type) := Ref → M

def Heap.set {M : Type} (h : Heap M) (r : Ref) (m : M) : Heap M := fun x => if x = r then m else h x

/-- An interceptor `(old, new)`: may read the whole heap, returns the heap after its writes. -/
abbrev Cb (M : Type) := Heap M → Option Ref → Ref → Heap M

/-- The interceptor contract: it writes to nothing but its `new` argument. -/
def OldPure {M : Type} (cb : Cb M) : Prop := ∀ h o n r, r ≠ n → cb h o n r = h r

/-- gRPC status codes that the modelled paths can return. -/
inductive Err | invalidArgument | failedPrecondition | notFound | alreadyExists | internal
  deriving DecidableEq, Repr

def Err.name : Err → String
  | .invalidArgument => "InvalidArgument"
  | .failedPrecondition => "FailedPrecondition"
  | .notFound => "NotFound"
  | .alreadyExists => "AlreadyExists"
  | .internal => "Internal"

/-- The message-level functions the resource code delegates to (protobuf + masks); abstract here. -/
structure Funs (M Mask : Type) where
  zero : M
  /-- `FieldUpdater.Validate` given (writable fields, update mask, message) -/
  validate : Option Mask → Option Mask → M → Option Err
  /-- `FieldUpdater.Merge(dst, src)` given (writable fields, update mask, reset mask): new contents of
  `(dst, src)` — src is filtered in place -/
  merge : Option Mask → Option Mask → Option Mask → M → M → M × M
  /-- `ResponseFilter.FilterClone` with a non-nil mask, applied to a clone -/
  project : Mask → M → M
  /-- `proto.Equal` -/
  eq : M → M → Bool

structure WOpts (M Mask : Type) where
  umask : Option Mask := none
  /-- `WithResetMask` -/
  rmask : Option Mask := none
  before : Option (Cb M) := none
  after : Option (Cb M) := none
  /-- `WithExpectedValue` -/
  expected : Option M := none
  /-- `WithExpectedCheck` on the old contents (`none` = no current message) -/
  check : Option (Option M → Option Err) := none
  createIfAbsent : Bool := false
  expectAbsent : Bool := false
  allowMissing : Bool := false

def WOpts.Pure {M Mask : Type} (o : WOpts M Mask) : Prop :=
  (∀ cb, o.before = some cb → OldPure cb) ∧ (∀ cb, o.after = some cb → OldPure cb)

structure Sub (Mask : Type) where
  mask : Option Mask
  live : Bool
  /-- `PullID`: only this item's changes, the new value only; ends when the item is removed -/
  only : Option Nat := none

structure St (M Mask : Type) where
  heap : Heap M
  /-- allocation pointer: every reference `≥ next` is unallocated -/
  next : Ref
  writable : Option Mask
  /-- `WithIDInterceptor` (identity when not configured) -/
  idmap : Nat → Nat := id
  /-- `Value.value` -/
  val : Option Ref
  /-- `Collection.byId`, kept sorted by id -/
  coll : List (Nat × Ref)
  vsubs : List (Sub Mask)
  csubs : List (Sub Mask)
  /-- ghost: every reference that has crossed the API boundary outwards, in crossing order -/
  pub : List Ref
  /-- ghost: messages built by the caller (arguments of writes), in creation order -/
  owned : List Ref

/-- One token of an answer: the driver prints message items by their heap contents. -/
inductive Item | msg (r : Ref) | absent | tag (s : String)
  deriving DecidableEq, Repr

structure Ans where
  err : Option Err := none
  bad : Bool := false
  items : List Item := []

variable {M Mask : Type}

def Ans.ok (items : List Item) : Ans := { items := items }
def Ans.fail (e : Err) : Ans := { err := some e }
def Ans.malformed : Ans := { bad := true }

/-- A stored message leaves the API through a read filter (`FilterClone`): nil mask → the reference
itself, otherwise a freshly allocated filtered clone.  `none` stays `none`. -/
def deliver (F : Funs M Mask) (mask : Option Mask) (s : St M Mask) (r : Option Ref) : St M Mask × Item :=
  match r, mask with
  | none, _ => (s, .absent)
  | some r, none => ({ s with pub := s.pub ++ [r] }, .msg r)
  | some r, some m =>
    ({ s with heap := s.heap.set s.next (F.project m (s.heap r)), next := s.next + 1, pub := s.pub ++ [s.next] },
      .msg s.next)

/-- deliver a list of stored references in order (List results, Pull seeds) -/
def deliverList (F : Funs M Mask) (mask : Option Mask) : St M Mask → List Ref → St M Mask × List Item
  | s, [] => (s, [])
  | s, r :: rs =>
    let (s1, i) := deliver F mask s (some r)
    let (s2, is) := deliverList F mask s1 rs
    (s2, i :: is)

/-- `bus.Send` of one change `(old, new)` to every live subscriber, each through its own read filter. -/
def emit (F : Funs M Mask) (tag : String) (old new : Option Ref) : St M Mask → List (Sub Mask) → St M Mask × List Item
  | s, [] => (s, [])
  | s, sub :: rest =>
    if sub.live then
      let (s1, o) := deliver F sub.mask s old
      let (s2, n) := deliver F sub.mask s1 new
      let (s3, is) := emit F tag old new s2 rest
      (s3, .tag tag :: o :: n :: is)
    else emit F tag old new s rest

/-- the same change as seen by the `PullID` subscribers of item `id`: the new value only -/
def emitOnly (F : Funs M Mask) (id : Nat) (new : Ref) : St M Mask → List (Sub Mask) → St M Mask × List Item
  | s, [] => (s, [])
  | s, sub :: rest =>
    if sub.live && sub.only == some id then
      let (s1, n) := deliver F sub.mask s (some new)
      let (s2, is) := emitOnly F id new s1 rest
      (s2, .tag "P" :: n :: is)
    else emitOnly F id new s rest

def isWide (sub : Sub Mask) : Bool := sub.only.isNone

def runCb (cb : Option (Cb M)) (h : Heap M) (o : Option Ref) (n : Ref) : Heap M :=
  match cb with
  | some f => f h o n
  | none => h

/-- `changeFn` after the clone: expected checks, interceptBefore, Merge, interceptAfter.
`old` is what the interceptors and checks see; `dst` already holds clone(old). -/
def change (F : Funs M Mask) (s : St M Mask) (old : Option Ref) (dst src : Ref) (o : WOpts M Mask) :
    Heap M × Option Err :=
  let oldc := old.map s.heap
  let expErr : Option Err :=
    match o.expected with
    | some e => (match oldc with
        | some c => if F.eq c e then none else some .failedPrecondition
        | none => some .failedPrecondition)
    | none => none
  match expErr with
  | some e => (s.heap, some e)
  | none =>
    match (match o.check with | some f => f oldc | none => none) with
    | some e => (s.heap, some e)
    | none =>
      let h1 := runCb o.before s.heap old src
      let ds := F.merge s.writable o.umask o.rmask (h1 dst) (h1 src)
      let h2 := (h1.set dst ds.1).set src ds.2
      let h3 := runCb o.after h2 old dst
      (h3, none)

/-- allocate a private cell (neither published nor caller-owned) -/
def St.alloc (s : St M Mask) (m : M) : St M Mask :=
  { s with heap := s.heap.set s.next m, next := s.next + 1 }

def lookup (c : List (Nat × Ref)) (id : Nat) : Option Ref := (c.find? (·.1 = id)).map (·.2)

def insertSorted (id : Nat) (r : Ref) : List (Nat × Ref) → List (Nat × Ref)
  | [] => [(id, r)]
  | (k, v) :: rest =>
    if id < k then (id, r) :: (k, v) :: rest
    else if id = k then (id, r) :: rest
    else (k, v) :: insertSorted id r rest

def erase (id : Nat) (c : List (Nat × Ref)) : List (Nat × Ref) := c.filter (·.1 ≠ id)

/-- The end of `Value.Set` / `Collection.Update`: `res` is the outcome of `changeFn`; on success the
new message `dst` is saved (`target = none`: the Value; `some id`: the collection item), returned and
sent to the subscribers. `s0` already contains the private allocations of the call. -/
def commit (F : Funs M Mask) (s0 : St M Mask) (target : Option Nat) (tag : String) (oldEv : Option Ref)
    (dst : Ref) (res : Heap M × Option Err) : St M Mask × Ans :=
  match res.2 with
  | some e => (s0, .fail e)
  | none =>
    let s1 : St M Mask := match target with
      | none => { s0 with heap := res.1, val := some dst, pub := s0.pub ++ [dst] }
      | some id => { s0 with heap := res.1, coll := insertSorted id dst s0.coll, pub := s0.pub ++ [dst] }
    let r := emit F tag oldEv (some dst) s1 (match target with | none => s1.vsubs | some _ => s1.csubs.filter isWide)
    let r2 := emitOnly F (target.getD 0) dst r.1 (match target with | none => [] | some _ => s1.csubs)
    (r2.1, .ok (.msg dst :: (r.2 ++ r2.2)))

/-- `Value.Set(owned[i], opts)` -/
def vset (F : Funs M Mask) (s : St M Mask) (i : Nat) (o : WOpts M Mask) : St M Mask × Ans :=
  match s.owned[i]? with
  | none => (s, .malformed)
  | some src =>
    match F.validate s.writable o.umask (s.heap src) with
    | some e => (s, .fail e)
    | none =>
      -- GetAndUpdate: newValue = proto.Clone(oldValue)   (nil → allocated by changeFn: same cell here)
      let s0 := s.alloc (match s.val with | some r => s.heap r | none => F.zero)
      commit F s0 none "V" none s.next (change F s0 s.val s.next src o)

/-- `Collection.Update(id, owned[i], opts)` (Add = expectAbsent + createIfAbsent) -/
def cupd (F : Funs M Mask) (s : St M Mask) (id : Nat) (i : Nat) (o : WOpts M Mask) : St M Mask × Ans :=
  match s.owned[i]? with
  | none => (s, .malformed)
  | some src =>
    match F.validate s.writable o.umask (s.heap src) with
    | some e => (s, .fail e)
    | none =>
      match lookup s.coll id with
      | some old =>
        if o.expectAbsent then (s, .fail .alreadyExists) else
        let s0 := s.alloc (s.heap old)
        commit F s0 (some id) "U" (some old) s.next (change F s0 (some old) s.next src o)
      | none =>
        if !o.createIfAbsent then (s, .fail .notFound) else
        -- created := msg.New(); it is what interceptors see as `old`; it is never stored or published
        let s0 := (s.alloc F.zero).alloc F.zero
        commit F s0 (some id) "A" none (s.next + 1) (change F s0 (some s.next) (s.next + 1) src o)

/-- Delete's precondition checks on the stored contents: `expectedCheck` then `expectedValue` -/
def delCheck (F : Funs M Mask) (o : WOpts M Mask) (c : M) : Option Err :=
  match (match o.check with | some f => f (some c) | none => none) with
  | some e => some e
  | none =>
    match o.expected with
    | some e => if F.eq c e then none else some Err.failedPrecondition
    | none => none

/-- `Collection.Delete(id, opts)`: returns the stored reference (also when a precondition fails);
the REMOVE event carries it as old value. -/
def cdel (F : Funs M Mask) (s : St M Mask) (id : Nat) (o : WOpts M Mask) : St M Mask × Ans :=
  match lookup s.coll id with
  | none => if o.allowMissing then (s, .ok [.absent]) else (s, .fail .notFound)
  | some old =>
    match delCheck F o (s.heap old) with
    | some e => ({ s with pub := s.pub ++ [old] }, { err := some e, items := [.msg old] })
    | none =>
      let s1 : St M Mask := { s with coll := erase id s.coll, pub := s.pub ++ [old] }
      let r := emit F "R" (some old) none s1 (s1.csubs.filter isWide)
      -- the item's PullID streams end (PullID returns on REMOVE without sending)
      ({ r.1 with csubs := r.1.csubs.map fun sub => if sub.only == some id then { sub with live := false } else sub },
        .ok (.msg old :: r.2))

def closeSub (subs : List (Sub Mask)) (i : Nat) : List (Sub Mask) :=
  subs.mapIdx fun j sub => if j = i then { sub with live := false } else sub

inductive Op (M Mask : Type)
  /-- the caller builds a message -/
  | alloc (m : M)
  /-- the caller overwrites a message it built (possibly one it passed to a write earlier) -/
  | mutate (i : Nat) (m : M)
  | vset (i : Nat) (o : WOpts M Mask)
  | vget (mask : Option Mask)
  | vpull (mask : Option Mask) (updatesOnly : Bool)
  | vclose (i : Nat)
  | cupd (id : Nat) (i : Nat) (o : WOpts M Mask)
  | cdel (id : Nat) (o : WOpts M Mask)
  | cget (id : Nat) (mask : Option Mask)
  | clist (mask : Option Mask)
  | cpull (mask : Option Mask) (updatesOnly : Bool)
  | cpullid (id : Nat) (mask : Option Mask) (updatesOnly : Bool)
  | cclose (i : Nat)

def step (F : Funs M Mask) (s : St M Mask) : Op M Mask → St M Mask × Ans
  | .alloc m => ({ s with heap := s.heap.set s.next m, next := s.next + 1, owned := s.owned ++ [s.next] }, .ok [])
  | .mutate i m =>
    match s.owned[i]? with
    | none => (s, .malformed)
    | some r => ({ s with heap := s.heap.set r m }, .ok [])
  | .vset i o => vset F s i o
  | .vget mask =>
    let (s1, it) := deliver F mask s s.val
    (s1, .ok [it])
  | .vpull mask uo =>
    -- onUpdate reads the current value unless updates-only; the seed goes through the read filter
    let (s1, it) := if uo then (s, Item.absent) else deliver F mask s s.val
    ({ s1 with vsubs := s1.vsubs ++ [{ mask := mask, live := true }] }, .ok [it])
  | .vclose i => ({ s with vsubs := closeSub s.vsubs i }, .ok [])
  -- the id interceptor maps the caller's id first
  | .cupd id i o => cupd F s (s.idmap id) i o
  | .cdel id o => cdel F s (s.idmap id) o
  | .cget id mask =>
    match lookup s.coll (s.idmap id) with
    | none => (s, .ok [.absent])
    | some r => let (s1, it) := deliver F mask s (some r); (s1, .ok [it])
  | .clist mask =>
    let (s1, its) := deliverList F mask s (s.coll.map (·.2))
    (s1, .ok its)
  | .cpull mask uo =>
    let (s1, its) := if uo then (s, []) else deliverList F mask s (s.coll.map (·.2))
    ({ s1 with csubs := s1.csubs ++ [{ mask := mask, live := true }] }, .ok its)
  | .cpullid id mask uo =>
    -- PullID: the seed is the item itself if it exists (unless updates-only)
    let r := if uo then (s, Item.absent) else deliver F mask s (lookup s.coll (s.idmap id))
    ({ r.1 with csubs := r.1.csubs ++ [{ mask := mask, live := true, only := some (s.idmap id) }] }, .ok [r.2])
  | .cclose i => ({ s with csubs := closeSub s.csubs i }, .ok [])

def run (F : Funs M Mask) : St M Mask → List (Op M Mask) → St M Mask
  | s, [] => s
  | s, op :: ops => run F (step F s op).1 ops

/-- The set of caller-owned references an operation may write (its declared write set). -/
def writeSet (s : St M Mask) : Op M Mask → List Ref
  | .mutate i _ | .vset i _ | .cupd _ i _ => (s.owned[i]?).toList
  | _ => []

/-- interceptors of an op respect the contract -/
def Op.Pure : Op M Mask → Prop
  | .vset _ o | .cupd _ _ o | .cdel _ o => o.Pure
  | _ => True

def Op.isRead : Op M Mask → Bool
  | .vget _ | .vpull _ _ | .cget _ _ | .clist _ | .cpull _ _ | .cpullid _ _ _ => true
  | _ => false

/-- `r` is held by the store -/
def Stored (s : St M Mask) (r : Ref) : Prop := s.val = some r ∨ ∃ id, (id, r) ∈ s.coll

/-- the initial state: nothing allocated, no value, nothing published -/
def St.init (writable : Option Mask) (h : Heap M) : St M Mask :=
  { heap := h, next := 0, writable := writable, val := none, coll := [], vsubs := [], csubs := [], pub := [], owned := [] }

end ScVerif.C07
