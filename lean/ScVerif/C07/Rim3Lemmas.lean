import ScVerif.C07.Rim3
import ScVerif.C07.Cloned
/-! The primitives of Rim3.lean write the cell they are given or cells they allocate, nothing else. -/
namespace ScVerif.C07.Rim3

theorem put_other (h : MapH) (r : Nat) (k v : String) (x : Nat) (hx : x ≠ r) : (h.put r k v).maps x = h.maps x := by
  simp [MapH.put, hx]

theorem put_next (h : MapH) (r : Nat) (k v : String) : (h.put r k v).next = h.next := rfl

theorem adjustOne_other (avail : String → List String) (h : MapH) (oldM newM : Nat) (mode : String) (adj : Int)
    (x : Nat) (hx : x ≠ newM) : (adjustOne avail h oldM newM mode adj).maps x = h.maps x := by
  unfold adjustOne
  split
  · rfl
  · split
    · exact put_other _ _ _ _ _ hx
    · split <;> exact put_other _ _ _ _ _ hx

theorem adjust_other (avail : String → List String) (oldM newM : Nat) (rel : List (String × Int)) (x : Nat) (hx : x ≠ newM) :
    ∀ h : MapH, (adjust avail h oldM newM rel).maps x = h.maps x := by
  induction rel with
  | nil => exact fun _ => rfl
  | cons p rest ih => exact fun h => (ih _).trans (adjustOne_other avail h oldM newM p.1 p.2 x hx)

theorem mergeInto_other (dst : Nat) (kvs : KV) (x : Nat) (hx : x ≠ dst) :
    ∀ h : MapH, (mergeInto h dst kvs).maps x = h.maps x := by
  induction kvs with
  | nil => exact fun _ => rfl
  | cons p rest ih => exact fun h => (ih _).trans (put_other _ _ _ _ _ hx)

theorem alloc_other (h : MapH) (m : KV) (x : Nat) (hx : x < h.next) : (h.alloc m).1.maps x = h.maps x := by
  simp [MapH.alloc, Nat.ne_of_lt hx]

theorem interceptPhase_other (avail : String → List String) (h : MapH) (stored : Nat) (src : Option Nat)
    (rel : List (String × Int)) (x : Nat) (hx : x < h.next) (hne : some x ≠ src) :
    (interceptPhase avail h stored src rel).1.maps x = h.maps x := by
  unfold interceptPhase
  split
  · rfl
  · cases src with
    | some s =>
      have : x ≠ s := fun e => hne (by rw [e])
      exact adjust_other avail stored s rel x this _
    | none =>
      have : x ≠ (h.alloc []).2 := Nat.ne_of_lt hx
      exact (adjust_other avail stored _ rel x this _).trans (alloc_other _ _ x hx)

theorem mergePhase_other (h : MapH) (dst : Nat) (srcKV : KV) (masked : Bool) (x : Nat) (hx : x ≠ dst) :
    (mergePhase h dst srcKV masked).maps x = h.maps x := by
  unfold mergePhase
  split
  · split
    · simp [hx]
    · exact mergeInto_other _ _ x hx _
  · refine (mergeInto_other _ _ x hx _).trans ?_
    simp [hx]

theorem cloneList_cloned {M : Type} : ∀ (l : List Nat) (h : PH M),
    Cloned id h.cells h.next l (cloneList h l).1.cells (cloneList h l).1.next (cloneList h l).2
  | [], _ => .nil
  | r :: rs, h =>
    .cons (cloneList_cloned rs { cells := fun x => if x = h.next then h.cells r else h.cells x, next := h.next + 1 })

theorem cloneMap_cloned {M : Type} (f : M → M) : ∀ (l : List Nat) (h : IH M),
    Cloned f h.item h.next l (cloneMap f h l).1.item (cloneMap f h l).1.next (cloneMap f h l).2
  | [], _ => .nil
  | r :: rs, h =>
    .cons (cloneMap_cloned f rs { item := fun x => if x = h.next then f (h.item r) else h.item x, next := h.next + 1 })

theorem statesPhase_fresh {M : Type} (m : CMask M) (h : IH M) (stored : List Nat) :
    (∀ x, x < h.next → (statesPhase m h stored).1.item x = h.item x) ∧ (∀ r, r ∈ (statesPhase m h stored).2 → h.next ≤ r) ∧
      h.next ≤ (statesPhase m h stored).1.next := by
  unfold statesPhase
  split
  · exact ⟨fun _ _ => rfl, fun _ hr => by simp at hr, Nat.le_refl _⟩
  · next f _ =>
    have c := (cloneMap_cloned f stored h).fresh
    exact ⟨c.same, fun r hr => (c.refs r hr).1, c.mono⟩

end ScVerif.C07.Rim3
