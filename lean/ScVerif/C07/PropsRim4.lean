import ScVerif.C07.Rim4Lemmas
/-!
# C07 — electricpb CreateMode (records announced while the write is in flight), the hailpb collector,
# include predicates on live stored messages (bookingpb × pkg/time)

Code OUTSIDE the anchor files that sits between callers and the store. Each `…_changes…` / `…_writes…` theorem shows
that the same model expresses the corresponding seeded change (C07-13, C07-15, C07-14).
-/
namespace ScVerif.C07.Rim4

/-- `createOrAddMode`: (1) no message that existed before the call is written — not the
caller's, not a stored or published one; (2) from the moment the ADD event is handed to subscribers (the writer still
inside `bus.Send`) until the call returns, no message is written at all; (3) the announced record is a message
allocated by the call and carries, already when announced, the key it is stored under. -/
theorem C07_create_mode_frame {B : Type} (h : MH B) (store : Store) (src : Nat) (gen : String) (normalTaken : Bool) :
    (∀ x, x < h.next → (createMode h store src gen normalTaken).heap.cells x = h.cells x) ∧
    (∀ x, (createMode h store src gen normalTaken).heap.cells x = (createMode h store src gen normalTaken).atSend.cells x) ∧
    (∀ r, (createMode h store src gen normalTaken).record = some r →
      h.next ≤ r ∧ r < (createMode h store src gen normalTaken).atSend.next ∧
      (createMode h store src gen normalTaken).store =
        store ++ [(((createMode h store src gen normalTaken).atSend.cells r).id, r)]) := by
  obtain ⟨h2, frame, hn, hc | hc⟩ := createMode_cases h store src gen normalTaken <;> rw [hc]
  · exact ⟨frame, fun _ => rfl, fun r hr => nomatch hr⟩
  · refine ⟨fun x hx => ?_, fun _ => rfl, fun r hr => ?_⟩
    · exact (alloc_other h2 _ x (hn ▸ Nat.lt_succ_of_lt hx)).trans (frame x hx)
    · cases hr
      refine ⟨hn ▸ Nat.le_succ _, Nat.lt_succ_self _, ?_⟩
      show _ = store ++ [((if h2.next = h2.next then h2.cells h.next else _).id, _)]
      rw [if_pos rfl]

/-- the seeded shape C07-13 (the id is written onto the record `Add` returned): the message a subscriber was handed
with the ADD event changes before the call returns -/
theorem C07_create_mode_late_id_changes_announced_record :
    ∃ (h : MH Nat) (store : Store) (src : Nat) (gen : String) (r : Nat), src < h.next ∧
      (createModeLate h store src gen false).record = some r ∧ r < (createModeLate h store src gen false).atSend.next ∧
      ((createModeLate h store src gen false).heap.cells r).id ≠ ((createModeLate h store src gen false).atSend.cells r).id :=
  ⟨{ cells := fun _ => ⟨"", false, 7⟩, next := 1 }, [], 0, "ZJLz3iJs", 1, by decide, by decide +kernel, by decide +kernel,
    by decide +kernel⟩

/-- `GetHail`, `ListHails` and opening `PullHails`/`PullHail` leave the hail model exactly
as it was — records, ticket of the collector, every message. -/
theorem C07_hail_reads_frame {B : Type} (eqv : B → B → Bool) (keepAlive now : Int) (st : HS B) (op : HOp B)
    (hr : op.isRead = true) : (hstep eqv keepAlive now st op).1 = st := by
  cases op <;> first | rfl | simp [HOp.isRead] at hr

/-- No call of the hail model — `CreateHail` with the collector run it defers
included — writes a message that existed before; the collector itself allocates nothing and only removes records. -/
theorem C07_hail_collector_frame {B : Type} (eqv : B → B → Bool) (keepAlive now : Int) (st : HS B) :
    (∀ op x, x < st.next → (hstep eqv keepAlive now st op).1.cells x = st.cells x) ∧
    (gc eqv keepAlive now st).cells = st.cells ∧ (gc eqv keepAlive now st).next = st.next ∧
    (gc eqv keepAlive now st).store.Sublist st.store := by
  have gcs : ∀ s : HS B, (gc eqv keepAlive now s).cells = s.cells ∧ (gc eqv keepAlive now s).next = s.next ∧
      (gc eqv keepAlive now s).store.Sublist s.store := by
    intro s
    rcases gc_cases eqv keepAlive now s with h | ⟨-, -, h⟩ <;> rw [h]
    · exact ⟨rfl, rfl, .refl _⟩
    · exact ⟨rfl, rfl, gcLoop_sublist eqv s.cells _ s.store s.store⟩
  refine ⟨fun op x hx => ?_, gcs st⟩
  cases op with
  | create hl gen =>
    simp only [hstep]
    split
    · rw [(gcs _).1]
    · rw [(gcs _).1]
      exact if_neg (Nat.ne_of_lt hx)
  | _ => rfl

/-- A record the collector removes is stored under the id of, and has
the id and arrive time of, a stored hail that arrived before `now - keepAlive`; it removes nothing unless
`keepAlive ≥ 0` and it holds the ticket. -/
theorem C07_hail_collector_removes_only_expired {B : Type} (eqv : B → B → Bool) (keepAlive now : Int) (st : HS B)
    (kr : String × Nat) (hin : kr ∈ st.store) (hout : kr ∉ (gc eqv keepAlive now st).store) :
    0 ≤ keepAlive ∧ st.ticket = true ∧
    ∃ q, q ∈ st.store ∧ arrivedBefore (st.cells q.2) (now - keepAlive) = true ∧ kr.1 = (st.cells q.2).id ∧
      (st.cells kr.2).id = (st.cells q.2).id ∧ (st.cells kr.2).arrive = (st.cells q.2).arrive := by
  rcases gc_cases eqv keepAlive now st with h | ⟨hk, ht, h⟩ <;> rw [h] at hout
  · exact absurd hin hout
  · exact ⟨hk, ht, gcLoop_removed eqv st.cells _ st.store st.store kr hin hout⟩

/-- the seeded shape C07-15 (`ListHails` runs the collector first): on a model as `NewModel` builds it from an initial
record that arrived long ago, the read removes the record -/
theorem C07_hail_list_collecting_changes_store :
    ∃ (st : HS Nat) (keepAlive now : Int), 0 ≤ keepAlive ∧ st.ticket = true ∧
      (listCollecting (fun a b => a == b) keepAlive now st).1.store ≠ st.store :=
  ⟨{ cells := fun _ => ⟨"h1", some 100, 0⟩, next := 1, store := [("h1", 0)], ticket := true }, 30, 1000, by decide, rfl, by decide +kernel⟩

/-- `Collection.List(WithInclude(pred))` hands `pred` every stored message itself: for EVERY
predicate that writes nothing, the list leaves every message as it was; bookingpb's predicate
(`timepb.PeriodsIntersect` over `cutPeriod`; backwards periods included) is such a predicate. -/
theorem C07_include_frame :
    (∀ (pred : PHp → Item → PHp × Bool), (∀ h it, (pred h it).1 = h) →
      ∀ h items, (listInclude pred h items).1 = h) ∧
    (∀ (req : Nat) (h : PHp) (items : List Item), (listInclude (bookingPred cutPeriod req) h items).1 = h) :=
  ⟨listInclude_heap, fun req h items =>
    listInclude_heap (bookingPred cutPeriod req) (fun h it => periodsIntersect_heap h it (some req)) h items⟩

/-- the seeded shape C07-14 (`cutPeriod` puts a backwards period in order on its argument): a `List` with the include
predicate rewrites a stored booking's period -/
theorem C07_include_swap_writes_stored :
    ∃ (h : PHp) (items : List Item) (req r : Nat), some r ∈ items ∧ r < h.next ∧ r ≠ req ∧
      (listInclude (bookingPred cutPeriodSwap req) h items).1.per r ≠ h.per r :=
  ⟨{ per := fun x => if x = 0 then ⟨some 500, some 100⟩ else ⟨some 200, some 300⟩, next := 2 }, [some 0], 1, 0,
    by simp, by decide, by decide, by decide +kernel⟩

/-- CreateMode with an empty id: the clone (cell 1) gets the generated id, the record (cell 2) is announced with it,
the caller's message (cell 0) keeps its empty id -/
example :
    let r := createMode (B := Nat) { cells := fun _ => ⟨"", false, 7⟩, next := 1 } [] 0 "ZJLz3iJs" false
    r.record = some 2 ∧ (r.atSend.cells 2).id = "ZJLz3iJs" ∧ (r.heap.cells 0).id = "" ∧ r.store = [("ZJLz3iJs", 2)] := by
  decide +kernel

/-- CreateHail of a hail that arrived long ago: the deferred collector removes it at once (a write may do that) and
keeps the one that has not arrived; a ListHails afterwards changes nothing -/
example :
    let st : HS Nat := { cells := fun _ => ⟨"h0", none, 0⟩, next := 1, store := [("h0", 0)], ticket := true }
    let st1 := (hstep (fun a b => a == b) 30 1000 st (.create ⟨"", some 100, 5⟩ "g1")).1
    st1.store = [("h0", 0)] ∧ st1.ticket = false ∧ (hstep (fun a b => a == b) 30 1000 st1 .list).1.store = st1.store := by
  decide +kernel

/-- a backwards stored period and the real `cutPeriod`: the include predicate answers and the period is as it was -/
example :
    let h : PHp := { per := fun x => if x = 0 then ⟨some 500, some 100⟩ else ⟨some 200, some 300⟩, next := 2 }
    (listInclude (bookingPred cutPeriod 1) h [some 0]).1.per 0 = ⟨some 500, some 100⟩ := by
  decide +kernel

end ScVerif.C07.Rim4
