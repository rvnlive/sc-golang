import ScVerif.Generated.C07Facts
/-! # C07 — K3 table: model constructors (regenerated from the source tree on every run) -/
namespace ScVerif.C07
open ScVerif.Generated.C07

/-- Every stateful trait model / server constructor present in the source
tree (a `New…` function of a `pkg/trait` package returning a struct that holds a `*resource.Value`
or `*resource.Collection`, directly or through its model) is a row of the table the snapshot monitor
drives: a new model cannot be added without the monitor covering it. Only discovery is syntactic. -/
theorem C07_models_all_driven : ∀ c, c ∈ discoveredModels → c ∈ drivenModels := by
  -- Both tables are printed in sorted order, so inclusion shows as a sublist: equal heads are matched, a
  -- driven row that was not discovered is passed over.  Only equal literals are ever compared (deciding
  -- string equality in the kernel is slow).
  have sub : discoveredModels.Sublist drivenModels := by
    unfold discoveredModels drivenModels
    repeat first | exact .slnil | apply List.Sublist.cons_cons | apply List.Sublist.cons
  exact fun _ h => sub.subset h

example : discoveredModels.length ≥ 20 := by decide

end ScVerif.C07
