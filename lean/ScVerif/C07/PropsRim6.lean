import ScVerif.C07.Rim6Lemmas
/-!
# C07 — a device whose message has a sub-message (countpb MemoryDevice): sharing BELOW the top level

The core theorems (Props.lean) treat a message as one cell and trust `proto.Clone` / `proto.Merge` to copy deeply. In
Rim6.lean the nested level is explicit: a count refers to a timestamp cell, and the steps of `Value.Set` are functions
on the two-sorted heap. Caller actions on the messages they own (`newT`, `newC`, `pokeT`, `pokeC`) are steps like the
device calls.
-/
namespace ScVerif.C07.Rim6

/-- Every count somebody holds (earlier write results, read results, the stored
one) reads after any sequence of device calls and caller actions as it did — counters and the CONTENTS of its reset
time. That callers may freely overwrite what they own (also the timestamp a `ResetCount` carried and the count an
`UpdateCount` carried) is part of the statement. -/
theorem C07_count_published_immutable (w : Option Mask) (ops : List Op) (s : S) (hi : Inv s) :
    Inv (run w s ops) ∧ ∀ p, p ∈ s.pub → p ∈ (run w s ops).pub ∧ deep (run w s ops).h p = deep s.h p := by
  induction ops generalizing s with
  | nil => exact ⟨hi, fun p hp => ⟨hp, rfl⟩⟩
  | cons op ops ih =>
    have st := step_inv w s op hi
    have r := ih (step w s op).1 st.1
    refine ⟨r.1, fun p hp => ?_⟩
    have a := st.2 p hp
    have b := r.2 p a.1
    exact ⟨b.1, by show deep (run w (step w s op).1 ops).h p = _; rw [b.2, a.2]⟩

/-- The count a call hands back is published from that moment on. -/
theorem C07_count_results_published (w : Option Mask) (s : S) (op : Op) (hi : Inv s) (c : Nat)
    (hc : (step w s op).2 = some c) : c ∈ (step w s op).1.pub :=
  (step_kept w s op hi).2.2 c hc

/-- `GetCount` writes no count and no timestamp that existed; a masked read hands back a
count allocated by the call whose reset time (if the mask keeps it) is a timestamp allocated by the call. -/
theorem C07_count_reads_frame (w : Option Mask) (s : S) (m : Option Mask) :
    (step w s (.get m)).1.stored = s.stored ∧
    (∀ c, c < s.h.cn → (step w s (.get m)).1.h.cs c = s.h.cs c) ∧
    (∀ t, t < s.h.tn → (step w s (.get m)).1.h.ts t = s.h.ts t) ∧
    (m ≠ none → ∀ c, (step w s (.get m)).2 = some c →
      s.h.cn ≤ c ∧ ∀ t, ((step w s (.get m)).1.h.cs c).rt = some t → s.h.tn ≤ t) := by
  cases m with
  | none => exact ⟨rfl, fun _ _ => rfl, fun _ _ => rfl, fun h => absurd rfl h⟩
  | some m =>
    have p := read_fresh m (Cells.Wr.refl s.h.view (fun _ => False) (fun _ => False)) s.stored
    refine ⟨rfl, fun c hc => p.wr.a_same c hc id, fun t ht => p.wr.b_same t ht id, fun _ c hc => ?_⟩
    cases hc
    exact ⟨p.lo, fun t ht => (p.sub t ht).1⟩

/-- `Value.Set` as `UpdateCount` uses it: of the cells that existed only the caller's own
request count is written (the interceptor adds the old counters to it, `Merge` filters it in place) — never the old
value, never any timestamp. `ResetCount` builds its source itself: it writes nothing that existed, whatever timestamp
the request carries (also one a reader holds). -/
theorem C07_count_write_set (w u : Option Mask) (delta : Bool) (h : H) (old src : Nat) (hsrc : src < h.cn)
    (req : Option Nat) (now : Int) :
    ((∀ c, c < h.cn → c ≠ src → (valueSet w u delta h old src).1.cs c = h.cs c) ∧
     (∀ t, t < h.tn → (valueSet w u delta h old src).1.ts t = h.ts t) ∧
     h.cn ≤ (valueSet w u delta h old src).2 ∧
     ∀ t, ((valueSet w u delta h old src).1.cs (valueSet w u delta h old src).2).rt = some t → h.tn ≤ t) ∧
    ((∀ c, c < h.cn → (reset h old req now).1.cs c = h.cs c) ∧
     (∀ t, t < h.tn → (reset h old req now).1.ts t = h.ts t) ∧
     h.cn ≤ (reset h old req now).2 ∧
     ∀ t, ((reset h old req now).1.cs (reset h old req now).2).rt = some t → h.tn ≤ t) := by
  obtain ⟨vsW, vsRef, -, vsRt⟩ := valueSet_spec w u delta h old src hsrc
  obtain ⟨rsW, rsRef, -, rsRt⟩ := reset_spec h old req now
  rw [vsRef, rsRef]
  exact ⟨⟨(wr_view vsW).a_same, fun t ht => (wr_view vsW).b_same t ht id, Nat.le_refl _, fun t ht => (vsRt t ht).1⟩,
    ⟨fun c hc => (wr_view rsW).a_same c hc id, fun t ht => (wr_view rsW).b_same t ht id, Nat.le_succ _,
      fun t ht => (rsRt t ht).1⟩⟩

/-- What `ResetCount` hands back (and stores) reads (0, 0, the time the request carried AT
THE CALL, or the clock's reading when it carried none). (`hst` is not used: the stored count is only cloned.) -/
theorem C07_count_reset_value (h : H) (stored : Nat) (req : Option Nat) (now : Int) (hst : stored < h.cn)
    (hreq : ∀ t, req = some t → t < h.tn) :
    deep (reset h stored req now).1 (reset h stored req now).2 =
      (0, 0, some (match req with | some t => h.ts t | none => now)) := by
  -- the source of the write is the count `ResetCount` builds around the reset time `t`, which exists by then
  have built : ∀ (g : H) (t : Nat), t < g.tn → deep (valueSet none none false (g.allocC ⟨0, 0, some t⟩).1 stored g.cn).1
      (valueSet none none false (g.allocC ⟨0, 0, some t⟩).1 stored g.cn).2 = (0, 0, some (g.ts t)) := fun g t ht =>
    (valueSet_all_deep _ stored _ (Nat.lt_succ_self _) fun t' hr => by
      rw [show (g.allocC ⟨0, 0, some t⟩).1.cs g.cn = ⟨0, 0, some t⟩ from if_pos rfl] at hr
      cases hr; exact ht).trans (deep_allocC g 0 0 t)
  cases req with
  | none =>
    exact (built (h.allocT now).1 h.tn (Nat.lt_succ_self _)).trans
      (by rw [show (h.allocT now).1.ts h.tn = now from if_pos rfl])
  | some t => exact built h t (hreq t rfl)

/-- A caller that overwrites the timestamp its `ResetCount` request carried, after the
call returned, changes neither the response nor the stored count. -/
theorem C07_count_caller_may_mutate (w : Option Mask) (s : S) (hi : Inv s) (t : Nat) (now v : Int) :
    let s1 := (step w s (.reset (some t) now)).1
    let s2 := (step w s1 (.pokeT t v)).1
    s2.stored = s1.stored ∧ deep s2.h s2.stored = deep s1.h s1.stored ∧
      ∀ c, (step w s (.reset (some t) now)).2 = some c → deep s2.h c = deep s1.h c := by
  intro s1 s2
  have st1 := step_inv w s (.reset (some t) now) hi
  have st2 := step_inv w s1 (.pokeT t v) st1.1
  have hst : s2.stored = s1.stored := pokeT_stored w s1 t v
  refine ⟨hst, ?_, fun c hc => ?_⟩
  · rw [hst]; exact (st2.2 s1.stored st1.1.stored).2
  · exact (st2.2 c (C07_count_results_published w s _ hi c hc)).2

/-- The shape of seeded change C07-21 (the after-interceptor assigns the reset time by pointer): with the device's
own writable fields {added, removed} the response of `ResetCount(reset_time = t)` reads (0, 0, 7) when the call returns and (0, 0, 99) once the caller has overwritten ITS
timestamp, while the code as it is keeps (0, 0, 7). -/
theorem C07_count_reset_time_by_pointer_shares :
    let w : Option Mask := some ⟨true, true, false⟩
    let s1 := (stepIcpt w exS (.reset (some 1) 1000)).1
    let s2 := (stepIcpt w s1 (.pokeT 1 99)).1
    let r1 := (step w exS (.reset (some 1) 1000)).1
    let r2 := (step w r1 (.pokeT 1 99)).1
    Inv exS ∧ deep s1.h s1.stored = (0, 0, some 7) ∧ deep s2.h s1.stored = (0, 0, some 99) ∧
      deep r1.h r1.stored = (0, 0, some 7) ∧ deep r2.h r1.stored = (0, 0, some 7) := by
  refine ⟨exS_inv, ?_, ?_, ?_, ?_⟩ <;> decide +kernel

/-- non-vacuity: `UpdateCount` with `delta` under the device's writable fields does write the caller's request — the
write set of `C07_count_write_set` is not empty — and the new value keeps the old reset time's contents in a
timestamp of its own -/
example :
    let w : Option Mask := some ⟨true, true, false⟩
    let s0 := (step w exS (.newC 2 0 (some 1))).1
    let s1 := (step w s0 (.update 1 none true)).1
    deep s0.h 1 = (2, 0, some 7) ∧ deep s1.h 1 = (5, 1, none) ∧ deep s1.h s1.stored = (5, 1, some 5) ∧
      (s1.h.cs s1.stored).rt ≠ (s1.h.cs 0).rt := by
  decide +kernel

end ScVerif.C07.Rim6
