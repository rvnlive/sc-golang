import ScVerif.C07.EventValsLemmas
/-!
# C07 — the VALUES of change events never change afterwards (read-mask filters clone, they never mask in place)

The old value of an event is not a private message: it is the message that was stored — the pointer earlier unmasked
`Get`/`List` calls returned, the write that stored it returned and announced as `NewValue`, `Delete` returns, and every
other subscriber receives in the same (shared) event. The theorems hold for any message type `M`, any read-mask
projection `pm` and ANY interleaving of writers, sends and pipeline steps.
Tie: harness `core-events` (K1: contents of every event seen so far AND which value objects they share, after every
write) and the `snapshot-core*` / `snapshot-models` monitors.
-/
namespace ScVerif.C07.Events

/-- Every message cell and every event cell that exists keeps its contents through any
further stores, sends and pipeline steps (filters of masked subscribers included). -/
theorem C07_event_values_immutable {M : Type} (pm : M → M) (v : VS M) (steps : List (VStep M)) :
    (∀ r, r < v.mnext → (vrun pm v steps).msgs r = v.msgs r) ∧
    (∀ c, c < v.es.next → (vrun pm v steps).es.heap c = v.es.heap c) :=
  ⟨(vrun_frame pm steps v).1.2, (vrun_frame pm steps v).2.2⟩

/-- An event some consumer has received (or that waits in some pipeline's
inbox) stays the same event, and its old and new value — when they are messages that exist, which is what writers
send — keep their contents. -/
theorem C07_event_values_received_immutable {M : Type} [Inhabited M] (pm : M → M) (before after : List (VStep M)) :
    let v1 := vrun pm (VS.init : VS M) before
    let v2 := vrun pm (VS.init : VS M) (before ++ after)
    ∀ sb, sb ∈ v1.es.subs → ∀ c, (c ∈ sb.out ∨ c ∈ sb.inbox) →
      v2.es.heap c = v1.es.heap c ∧
      (∀ r, (v1.es.heap c).old = some r → r < v1.mnext → v2.msgs r = v1.msgs r) ∧
      (∀ r, (v1.es.heap c).new = some r → r < v1.mnext → v2.msgs r = v1.msgs r) := by
  intro v1 v2 sb hsb c hc
  have f := vrun_frame pm after v1
  rw [show v2 = vrun pm v1 after from vrun_append pm before after _]
  exact ⟨f.2.2 c ((vrun_inv pm before _ Inv.init).held_lt hsb hc), fun r _ => f.1.2 r, fun r _ => f.1.2 r⟩

/-- A pipeline step that hands an event `e` to the read-mask filter of a masked subscriber
delivers a NEW event whose values are NEW message cells holding `pm` of `e`'s values (a nil value stays nil), and
leaves every message that existed — `e`'s own values among them — as it was. -/
theorem C07_filter_clones {M : Type} (pm : M → M) (v : VS M) (st : Step) (e : Ev) (h : filtered v.es st = some e) :
    let v' := vstep pm v (.ev st)
    let out := v'.es.heap (v'.es.next - 1)
    v.es.next ≤ v'.es.next - 1 ∧
    (∀ r, r < v.mnext → v'.msgs r = v.msgs r) ∧
    (∀ r, e.new = some r → r < v.mnext → ∃ k, out.new = some k ∧ v.mnext ≤ k ∧ k < v'.mnext ∧ v'.msgs k = pm (v.msgs r)) ∧
    (∀ r, e.old = some r → r < v.mnext → e.old ≠ e.new →
      ∃ k, out.old = some k ∧ v.mnext ≤ k ∧ k < v'.mnext ∧ v'.msgs k = pm (v.msgs r)) ∧
    (e.new = none → out.new = none) ∧ (e.old = none → out.old = none) := by
  intro v' out
  obtain ⟨hlt, hout, hv⟩ := filter_clones pm v st e h
  have hout : out = projEv (projFor v.mnext e) e := hout
  refine ⟨Nat.le_sub_one_of_lt hlt, (vstep_frame pm v (.ev st)).1.2, fun r hn hr => ?_, fun r ho hr _ => ?_, ?_, ?_⟩
  · have p := hv r (by simp [Ev.vals, hn])
    exact ⟨_, by rw [hout, projEv, hn]; rfl, p.1, p.2.1, p.2.2 hr⟩
  · have p := hv r (by simp [Ev.vals, ho])
    exact ⟨_, by rw [hout, projEv, ho]; rfl, p.1, p.2.1, p.2.2 hr⟩
  · intro hn; rw [hout, projEv, hn]; rfl
  · intro ho; rw [hout, projEv, ho]; rfl

/-- The seeded shape (C07-10) — a REMOVE's `OldValue` is masked where it is
instead of being cloned — writes to a message cell that existed: the removed message that an earlier `Get`, the
`Delete` call and every unmasked subscriber hold loses the fields outside the masked subscriber's read mask. -/
theorem C07_remove_masked_in_place_writes :
    ∃ (pm : Nat × Nat → Nat × Nat) (msgs : Nat → Nat × Nat) (e : Ev) (r : Nat),
      e.old = some r ∧ filterRemoveInPlace pm msgs e r ≠ msgs r :=
  ⟨fun m => (m.1, 0), fun _ => (4, 7), ⟨.remove, 1, some 0, none, false⟩, 0, rfl, by decide⟩

/-- an unmasked and a masked subscriber see a Delete: the unmasked consumer's event carries the stored message itself
(cell 0, also the ADD's new value); the masked consumer's event carries a clone with the projection applied; the
stored message still reads (4, 7) -/
example :
    let v := vrun (fun m : Nat × Nat => (m.1, 0)) VS.init [.ev (.sub false false), .ev (.sub false true),
      .store (4, 7), .ev (.send ⟨.add, 1, none, some 0, false⟩), .ev (.forward 0), .ev (.forward 1),
      .ev (.send ⟨.remove, 1, some 0, none, false⟩), .ev (.forward 0), .ev (.forward 1)]
    v.es.subs.map (·.out) = [[0, 2], [1, 3]] ∧ (v.es.heap 2).old = some 0 ∧ (v.es.heap 3).old = some 2 ∧
      v.msgs 0 = (4, 7) ∧ v.msgs 2 = (4, 0) ∧ v.mnext = 3 := by decide +kernel

/-- `filtered` fires: the premise of `C07_filter_clones` is satisfiable (masked forward of an UPDATE: two clones) -/
example :
    let v := vrun (fun m : Nat × Nat => (m.1, 0)) VS.init [.ev (.sub false true), .store (4, 7), .store (5, 7),
      .ev (.send ⟨.update, 1, some 0, some 1, false⟩)]
    filtered v.es (.forward 0) = some ⟨.update, 1, some 0, some 1, false⟩ ∧
      (let v' := vstep (fun m : Nat × Nat => (m.1, 0)) v (.ev (.forward 0))
       v'.es.heap 1 = ⟨.update, 1, some 3, some 2, false⟩ ∧ v'.msgs 2 = (5, 0) ∧ v'.msgs 3 = (4, 0)) := by decide +kernel

end ScVerif.C07.Events
