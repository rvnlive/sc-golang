import ScVerif.C07.CoreLemmas
/-!
Every operation of the model is sound (`Sound`): a good extension — `Ext` with its declared write set, everything
it newly publishes fresh or held by the store — whose answer shows only published messages.
-/
namespace ScVerif.C07

variable {M Mask : Type}

def Good (s s' : St M Mask) (W : List Ref) : Prop :=
  ∃ P, Ext s s' W P ∧ ∀ r, r ∈ P → Stored s r ∨ (s.next ≤ r ∧ r < s'.next)

theorem Ext.subs {s s' : St M Mask} {W P : List Ref} (e : Ext s s' W P) (vs cs : List (Sub Mask)) :
    Ext s { s' with vsubs := vs, csubs := cs } W P :=
  ⟨e.next_le, e.frame, e.pub_old, e.pub_new, e.owned_eq, e.stored_new⟩

def Sound (s : St M Mask) (r : St M Mask × Ans) (W : List Ref) : Prop :=
  Good s r.1 W ∧ ∀ x, Item.msg x ∈ r.2.items → x ∈ r.1.pub

theorem Sound.subs {s s' : St M Mask} {a : Ans} {W : List Ref} (h : Sound s (s', a) W) (vs cs : List (Sub Mask)) :
    Sound s ({ s' with vsubs := vs, csubs := cs }, a) W :=
  ⟨h.1.imp fun _ e => ⟨e.1.subs vs cs, e.2⟩, h.2⟩

theorem Sound.skip (s : St M Mask) (a : Ans) (W : List Ref) (ha : ∀ x, Item.msg x ∉ a.items) : Sound s (s, a) W :=
  ⟨⟨[], (Ext.refl s).mono (fun _ h => nomatch h) (fun _ h => h), fun _ h => nomatch h⟩, fun x h => absurd h (ha x)⟩

theorem Ext.alloc {s s0 : St M Mask} {W P : List Ref} (a : Ext s s0 W P) (m : M) : Ext s (s0.alloc m) W P where
  next_le := Nat.le_succ_of_le a.next_le
  frame r hr hw := (Heap.set_ne _ _ (Nat.ne_of_lt (Nat.lt_of_lt_of_le hr a.next_le))).trans (a.frame r hr hw)
  pub_old := a.pub_old
  pub_new r h := (a.pub_new r h).imp_right (.imp_left fun h => ⟨h.1, Nat.lt_succ_of_lt h.2⟩)
  owned_eq := a.owned_eq
  stored_new r h := (a.stored_new r h).imp_right fun h => ⟨h.1, Nat.lt_succ_of_lt h.2.1, h.2.2⟩

/-- a state change `a` (write set `W`, handing out `P0`) that publishes `x`, then events: sound when what is handed out
was stored at the start or allocated by the change -/
theorem sound_of_emit {s s1 s2 : St M Mask} {W P0 P : List Ref} {items : List Item} {x : Ref}
    (a : Ext s s1 W P0) (d : Delivers s1 s2 P items) (hx : x ∈ s1.pub)
    (hP : ∀ r, r ∈ P0 ++ P → Stored s r ∨ (s.next ≤ r ∧ r < s1.next)) :
    Sound s (s2, .ok (.msg x :: items)) W := by
  refine ⟨⟨P0 ++ P, (a.trans d.ext).mono (fun _ h => by simpa using h) (fun _ h => h),
    fun r hr => (hP r hr).imp_right fun h => ⟨h.1, Nat.lt_of_lt_of_le h.2 d.ext.next_le⟩⟩, fun y hy => ?_⟩
  rcases List.mem_cons.mp hy with h | h
  · exact (Item.msg.inj h) ▸ d.ext.pub_old x hx
  · exact d.items y h

theorem commit_sound (F : Funs M Mask) {s s0 : St M Mask} (a : Ext s s0 [] []) (target : Option Nat) (tag : String)
    (oldEv old : Option Ref) (dst src : Ref) (o : WOpts M Mask) (hp : o.Pure) (hd : s.next ≤ dst ∧ dst < s0.next)
    (hold : ∀ r, r ∈ oldEv.toList → Stored s r) :
    Sound s (commit F s0 target tag oldEv dst (change F s0 old dst src o)) [src] := by
  -- `s` to the state with `dst` saved is an `Ext` with write set `[src]` (`change_frame`); the events are `Delivers`;
  -- `sound_of_emit` puts the two together
  unfold commit
  cases hres : (change F s0 old dst src o).2 with
  | some e => exact ⟨⟨[], a.mono (fun _ h => nomatch h) (fun _ h => h), fun _ h => nomatch h⟩, fun _ h => nomatch h⟩
  | none =>
    have write : ∀ s1 : St M Mask, s1.next = s0.next → s1.heap = (change F s0 old dst src o).1 → s1.pub = s0.pub ++ [dst] →
        s1.owned = s0.owned → (∀ r, Stored s1 r → Stored s0 r ∨ r = dst) →
        Ext s s1 [src] [] := fun s1 h1 h2 h3 h4 h6 =>
      { next_le := h1 ▸ a.next_le
        frame := fun r hr hn => by
          rw [h2, change_frame F s0 old dst src o hp r (Nat.ne_of_lt (Nat.lt_of_lt_of_le hr hd.1)) (by simpa using hn)]
          exact a.frame r hr List.not_mem_nil
        pub_old := fun r h => by rw [h3]; exact List.mem_append.mpr (.inl (a.pub_old r h))
        pub_new := fun r h => by
          rw [h3] at h
          rcases List.mem_append.mp h with h | h
          · exact (a.pub_new r h).imp_right (.imp_left fun h => ⟨h.1, h1 ▸ h.2⟩)
          · cases List.mem_singleton.mp h; exact .inr (.inl (h1 ▸ hd))
        owned_eq := h4.trans a.owned_eq
        stored_new := fun r h => by
          have pubd : ∀ {x}, x ∈ s0.pub ∨ x = dst → x ∈ s1.pub := fun h => by
            rw [h3]; exact List.mem_append.mpr (h.imp_right List.mem_singleton.mpr)
          rcases h6 r h with h | rfl
          · exact (a.stored_new r h).imp_right fun h => ⟨h.1, h1 ▸ h.2.1, pubd (.inl h.2.2)⟩
          · exact .inr ⟨hd.1, h1 ▸ hd.2, pubd (.inr rfl)⟩ }
    have hP : ∀ r, r ∈ [] ++ ((oldEv.toList ++ (some dst).toList) ++ [dst]) → Stored s r ∨ (s.next ≤ r ∧ r < s0.next) := by
      intro r hr
      simp only [List.nil_append, List.mem_append, Option.toList_some, List.mem_singleton, or_self, or_assoc] at hr
      rcases hr with hr | rfl
      · exact .inl (hold r hr)
      · exact .inr hd
    cases target with
    | none =>
      refine sound_of_emit ?_ ((emit_delivers F tag oldEv (some dst) _ _).trans (emitOnly_delivers F _ dst _ _))
        (List.mem_append.mpr (.inr List.mem_cons_self)) hP
      refine write _ rfl rfl rfl rfl fun r hst => ?_
      rcases hst with hst | ⟨k, hst⟩
      · exact .inr (Option.some.inj hst).symm
      · exact .inl (.inr ⟨k, hst⟩)
    | some id =>
      refine sound_of_emit ?_ ((emit_delivers F tag oldEv (some dst) _ _).trans (emitOnly_delivers F _ dst _ _))
        (List.mem_append.mpr (.inr List.mem_cons_self)) hP
      refine write _ rfl rfl rfl rfl fun r hst => ?_
      rcases hst with hst | ⟨k, hst⟩
      · exact .inl (.inl hst)
      · rcases mem_insertSorted hst with h' | h'
        · exact .inr (Prod.mk.inj h').2
        · exact .inl (.inr ⟨k, h'⟩)

theorem vset_sound (F : Funs M Mask) (s : St M Mask) (i : Nat) (o : WOpts M Mask) (hp : o.Pure) :
    Sound s (vset F s i o) (s.owned[i]?).toList := by
  unfold vset
  cases hsrc : s.owned[i]? with
  | none => exact Sound.skip s _ _ (fun _ h => nomatch h)
  | some src =>
    simp only []
    cases hv : F.validate s.writable o.umask (s.heap src) with
    | some e => exact Sound.skip s _ _ (fun _ h => nomatch h)
    | none =>
      exact commit_sound F ((Ext.refl s).alloc _) none "V" none s.val s.next src o hp ⟨Nat.le_refl _, Nat.lt_succ_self _⟩
        (fun _ h => nomatch h)

theorem cupd_sound (F : Funs M Mask) (s : St M Mask) (id i : Nat) (o : WOpts M Mask) (hp : o.Pure) :
    Sound s (cupd F s id i o) (s.owned[i]?).toList := by
  unfold cupd
  cases hsrc : s.owned[i]? with
  | none => exact Sound.skip s _ _ (fun _ h => nomatch h)
  | some src =>
    simp only []
    cases hv : F.validate s.writable o.umask (s.heap src) with
    | some e => exact Sound.skip s _ _ (fun _ h => nomatch h)
    | none =>
      simp only []
      cases hl : lookup s.coll id with
      | some old =>
        simp only []
        split
        · exact Sound.skip s _ _ (fun _ h => nomatch h)
        · exact commit_sound F ((Ext.refl s).alloc _) (some id) "U" (some old) (some old) s.next src o hp
            ⟨Nat.le_refl _, Nat.lt_succ_self _⟩ fun r hr => by cases List.mem_singleton.mp hr; exact .inr ⟨id, lookup_mem hl⟩
      | none =>
        simp only []
        split
        · exact Sound.skip s _ _ (fun _ h => nomatch h)
        · exact commit_sound F (((Ext.refl s).alloc _).alloc _) (some id) "A" none (some s.next) (s.next + 1) src o hp
            ⟨Nat.le_succ _, Nat.lt_succ_self _⟩ (fun _ h => nomatch h)

theorem ext_publish_stored (s : St M Mask) (old : Ref) : Ext s { s with pub := s.pub ++ [old] } [] [old] where
  next_le := Nat.le_refl _
  frame _ _ _ := rfl
  pub_old r h := List.mem_append.mpr (Or.inl h)
  pub_new r h := by
    rcases List.mem_append.mp h with h | h
    · exact Or.inl h
    · exact Or.inr (Or.inr h)
  owned_eq := rfl
  stored_new _ h := Or.inl h

theorem cdel_sound (F : Funs M Mask) (s : St M Mask) (id : Nat) (o : WOpts M Mask) :
    Sound s (cdel F s id o) [] := by
  unfold cdel
  cases hl : lookup s.coll id with
  | none => simp only []; split <;> exact Sound.skip s _ _ (fun _ h => nomatch h)
  | some old =>
    have hold : Stored s old := Or.inr ⟨id, lookup_mem hl⟩
    simp only []
    cases hdc : delCheck F o (s.heap old) with
    | some e =>
      exact ⟨⟨[old], ext_publish_stored s old, fun r hr => by cases List.mem_singleton.mp hr; exact .inl hold⟩,
        fun x hx => by cases List.mem_singleton.mp hx; exact List.mem_append.mpr (.inr List.mem_cons_self)⟩
    | none =>
      simp only []
      -- the record leaves the store and is published; the REMOVE events carry it
      have a : Ext s { s with coll := erase id s.coll, pub := s.pub ++ [old] } [] [old] :=
        { ext_publish_stored s old with
          stored_new := fun r h => h.elim (fun h => .inl (.inl h)) fun ⟨k, h⟩ => .inl (.inr ⟨k, mem_erase h⟩) }
      exact (sound_of_emit a (emit_delivers F "R" (some old) none (s.csubs.filter isWide) _)
        (List.mem_append.mpr (.inr List.mem_cons_self)) (fun r hr => by simp at hr; exact .inl (hr ▸ hold))).subs _ _

/-- a read hands out stored messages and may add a subscriber: that is all it does -/
def Reads (s : St M Mask) (r : St M Mask × Ans) : Prop :=
  ∃ (s' : St M Mask) (P : List Ref) (items : List Item) (vs cs : List (Sub Mask)),
    Delivers s s' P items ∧ (∀ x, x ∈ P → Stored s x) ∧ r = ({ s' with vsubs := vs, csubs := cs }, .ok items)

theorem step_read (F : Funs M Mask) (s : St M Mask) (op : Op M Mask) (hr : op.isRead = true) : Reads s (step F s op) := by
  have hval : ∀ r, r ∈ s.val.toList → Stored s r := fun r h => .inl (Option.mem_toList.mp h)
  have hlook : ∀ id r, r ∈ (lookup s.coll id).toList → Stored s r := fun id r h =>
    .inr ⟨id, lookup_mem (Option.mem_toList.mp h)⟩
  have hcoll : ∀ r, r ∈ s.coll.map (·.2) → Stored s r := fun r h =>
    have ⟨p, hp, e⟩ := List.mem_map.mp h
    .inr ⟨p.1, e ▸ hp⟩
  have none : Delivers s s [] [.absent] := (Delivers.refl s).cons .absent fun _ => Item.noConfusion
  cases op with
  | vget mask => exact ⟨_, _, _, _, _, deliver_delivers F mask s s.val, hval, rfl⟩
  | vpull mask uo =>
    cases uo with
    | true => exact ⟨_, _, _, _, _, none, nofun, rfl⟩
    | false => exact ⟨_, _, _, _, _, deliver_delivers F mask s s.val, hval, rfl⟩
  | cget id mask =>
    simp only [step]
    cases hl : lookup s.coll (s.idmap id) with
    | none => exact ⟨_, _, _, _, _, none, nofun, rfl⟩
    | some r => exact ⟨_, _, _, _, _, deliver_delivers F mask s (some r), fun x hx => hlook (s.idmap id) x (hl ▸ hx), rfl⟩
  | clist mask => exact ⟨_, _, _, _, _, deliverList_delivers F mask _ s, hcoll, rfl⟩
  | cpull mask uo =>
    cases uo with
    | true => exact ⟨_, _, _, _, _, Delivers.refl s, nofun, rfl⟩
    | false => exact ⟨_, _, _, _, _, deliverList_delivers F mask _ s, hcoll, rfl⟩
  | cpullid id mask uo =>
    cases uo with
    | true => exact ⟨_, _, _, _, _, none, nofun, rfl⟩
    | false => exact ⟨_, _, _, _, _, deliver_delivers F mask s (lookup s.coll (s.idmap id)), hlook _, rfl⟩
  | _ => exact Bool.noConfusion hr

theorem Reads.sound {s : St M Mask} {r : St M Mask × Ans} (h : Reads s r) (W : List Ref) : Sound s r W := by
  obtain ⟨s', P, items, vs, cs, d, hP, rfl⟩ := h
  exact ⟨⟨P, (d.ext.subs vs cs).mono (fun _ h => nomatch h) (fun _ h => h), fun r h => .inl (hP r h)⟩, d.items⟩

/-- `alloc` is left out: it is the one operation that extends `owned` (`Ext.owned_eq`); `step_published` treats it by hand -/
theorem step_sound (F : Funs M Mask) (s : St M Mask) (op : Op M Mask) (hp : op.Pure)
    (hna : ∀ m, op ≠ .alloc m) : Sound s (step F s op) (writeSet s op) := by
  cases op with
  | alloc m => exact absurd rfl (hna m)
  | mutate i m =>
    simp only [step, writeSet]
    cases hsrc : s.owned[i]? with
    | none => exact Sound.skip s _ _ (fun _ h => nomatch h)
    | some r =>
      have frame : ∀ x, x < s.next → x ∉ [r] → s.heap.set r m x = s.heap x := fun x _ hx =>
        Heap.set_ne _ _ (fun e => hx (List.mem_singleton.mpr e))
      exact ⟨⟨[], ⟨Nat.le_refl _, frame, fun _ h => h, fun _ h => Or.inl h, rfl, fun _ h => Or.inl h⟩,
        fun _ h => nomatch h⟩, fun _ h => nomatch h⟩
  | vset i o => exact vset_sound F s i o hp
  | cupd id i o => exact cupd_sound F s (s.idmap id) i o hp
  | cdel id o => exact cdel_sound F s (s.idmap id) o
  | vclose i | cclose i => exact ⟨⟨[], (Ext.refl s).subs _ _, fun _ h => nomatch h⟩, fun _ h => nomatch h⟩
  | vget _ | vpull _ _ | cget _ _ | clist _ | cpull _ _ | cpullid _ _ _ => exact (step_read F s _ rfl).sound _

/-- the caller's edit of its own message is no write to the store -/
theorem mutate_store (F : Funs M Mask) (s : St M Mask) (i : Nat) (m : M) :
    (step F s (.mutate i m)).1.val = s.val ∧ (step F s (.mutate i m)).1.coll = s.coll := by
  simp only [step]; split <;> exact ⟨rfl, rfl⟩

theorem writeSet_owned (s : St M Mask) (op : Op M Mask) : ∀ r, r ∈ writeSet s op → r ∈ s.owned := by
  intro r hr
  cases op with
  | mutate i _ | vset i _ | cupd _ i _ => exact List.mem_of_getElem? (Option.mem_toList.mp hr)
  | _ => exact nomatch hr

theorem step_published (F : Funs M Mask) (s : St M Mask) (op : Op M Mask) (hi : Inv s) (hp : op.Pure) :
    Inv (step F s op).1 ∧ ∀ r, r ∈ s.pub → (step F s op).1.heap r = s.heap r ∧ r ∈ (step F s op).1.pub := by
  by_cases ha : ∃ m, op = .alloc m
  · obtain ⟨m, rfl⟩ := ha
    refine ⟨⟨?_, ?_, ?_⟩, ?_⟩
    · intro r hr; exact Nat.lt_succ_of_lt (hi.pub_lt r hr)
    · intro r hr
      simp only [step] at hr
      rcases List.mem_append.mp hr with hr | hr
      · exact ⟨Nat.lt_succ_of_lt (hi.owned_ok r hr).1, (hi.owned_ok r hr).2⟩
      · simp at hr; subst hr
        exact ⟨Nat.lt_succ_self _, fun h => Nat.lt_irrefl _ (hi.pub_lt _ h)⟩
    · intro r hr; exact hi.stored_pub r hr
    · intro r hr
      exact ⟨Heap.set_ne _ _ (Nat.ne_of_lt (hi.pub_lt r hr)), hr⟩
  · have hna : ∀ m, op ≠ .alloc m := fun m h => ha ⟨m, h⟩
    obtain ⟨P, e, hP⟩ := (step_sound F s op hp hna).1
    exact ⟨e.inv hi hP, fun r hr => ⟨e.published_same hi (writeSet_owned s op) r hr, e.pub_old r hr⟩⟩

theorem run_published (F : Funs M Mask) (ops : List (Op M Mask)) :
    ∀ s : St M Mask, Inv s → (∀ op, op ∈ ops → op.Pure) →
      Inv (run F s ops) ∧ ∀ r, r ∈ s.pub → (run F s ops).heap r = s.heap r ∧ r ∈ (run F s ops).pub := by
  induction ops with
  | nil => exact fun s hi _ => ⟨hi, fun r hr => ⟨rfl, hr⟩⟩
  | cons op ops ih =>
    intro s hi hp
    have h1 := step_published F s op hi (hp op (List.mem_cons_self))
    have h2 := ih _ h1.1 (fun o ho => hp o (List.mem_cons_of_mem _ ho))
    exact ⟨h2.1, fun r hr => ⟨((h2.2 r (h1.2 r hr).2).1).trans (h1.2 r hr).1, (h2.2 r (h1.2 r hr).2).2⟩⟩

theorem run_append (F : Funs M Mask) (a b : List (Op M Mask)) :
    ∀ s : St M Mask, run F s (a ++ b) = run F (run F s a) b := by
  induction a with
  | nil => intro s; rfl
  | cons op a ih => intro s; exact ih _

/-- an interceptor that only overwrites its `new` argument keeps the contract -/
theorem cbAdd_like_pure (f : Heap M → Option Ref → Ref → M) : OldPure (fun h o n => h.set n (f h o n)) := by
  intro h o n r hr
  exact Heap.set_ne _ _ hr

end ScVerif.C07
