import ScVerif.Generated.C07Facts
/-! # C07 — K3 table: interceptors (regenerated from the source tree on every run) -/
namespace ScVerif.C07
open ScVerif.Generated.C07

/-- ("rim": the trait code around the core resources, not the `Rim*` model files.) No interceptor registered in
`pkg/trait` (closures, named functions, method values, closures returned by methods, and the functions of the same package they call) contains a
DEFINITE write through its `old` parameter: no assignment or `++` through it, no `append`/`copy`/sort/
`proto.Merge`/`proto.Reset`/`Reset()` on it or on a slice/message reached from it. The core theorems assume
`Op.Pure` (no write at all through `old`); this is what the syntactic tracker can say of the interceptors that
exist. Places the tracker cannot decide (listed per row under `unknown`) do not fail this theorem: they are covered by
the snapshot monitor only. -/
theorem C07_rim_pure : ∀ r, r ∈ interceptors → r.pure = true := by decide

example : interceptors.length ≥ 10 := by decide

end ScVerif.C07
