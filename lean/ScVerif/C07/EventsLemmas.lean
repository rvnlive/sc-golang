import ScVerif.C07.Events
/-! Event objects: every pipeline step is a move of ONE subscriber (`ES.move`); `Inv` says whose cell each reference is. -/
namespace ScVerif.C07.Events

/-- the frame of every step of the event models, for event cells, their owners and message cells alike -/
def Grows {α : Type} (f : Nat → α) (n : Nat) (f' : Nat → α) (n' : Nat) : Prop := n ≤ n' ∧ ∀ r, r < n → f' r = f r

theorem Grows.refl {α : Type} (f : Nat → α) (n : Nat) : Grows f n f n := ⟨Nat.le_refl _, fun _ _ => rfl⟩

theorem Grows.trans {α : Type} {f f' f'' : Nat → α} {n n' n'' : Nat} (a : Grows f n f' n') (b : Grows f' n' f'' n'') :
    Grows f n f'' n'' :=
  ⟨Nat.le_trans a.1 b.1, fun r hr => (b.2 r (Nat.lt_of_lt_of_le hr a.1)).trans (a.2 r hr)⟩

theorem pushCells_below (cs : List Ev) : ∀ (h : Nat → Ev) (n r : Nat), r < n → pushCells h n cs r = h r := by
  induction cs with
  | nil => intro h n r _; rfl
  | cons c cs ih =>
    intro h n r hr
    simp only [pushCells]
    rw [ih _ (n + 1) r (by omega)]
    simp [Nat.ne_of_lt hr]

theorem pushCells_last (pre : List Ev) (c : Ev) : ∀ (h : Nat → Ev) (n : Nat), pushCells h n (pre ++ [c]) (n + pre.length) = c := by
  induction pre with
  | nil => intro h n; simp [pushCells]
  | cons p pre ih =>
    intro h n
    have := ih (fun x => if x = n then p else h x) (n + 1)
    rw [List.length_cons, ← Nat.add_assoc, Nat.add_right_comm]
    exact this

theorem setOwner_below (ow : Nat → Option Nat) (n k : Nat) (o : Option Nat) (r : Nat) (hr : r < n) :
    setOwner ow n k o r = ow r := by
  simp only [setOwner]
  rw [if_neg]
  omega

theorem setOwner_at (ow : Nat → Option Nat) (n k : Nat) (o : Option Nat) (r : Nat) (h1 : n ≤ r) (h2 : r < n + k) :
    setOwner ow n k o r = o := by
  simp only [setOwner]
  rw [if_pos ⟨h1, h2⟩]

theorem run_append (proj : Nat → Nat) (a b : List Step) : ∀ s : ES, run proj s (a ++ b) = run proj (run proj s a) b := by
  induction a with
  | nil => intro s; rfl
  | cons st rest ih => intro s; exact ih (step proj s st)

theorem replaceSub_idx (subs : List Sub) (sb : Sub) (f : Sub → Sub) (hf : ∀ x, (f x).idx = x.idx) :
    (replaceSub subs sb f).map (·.idx) = subs.map (·.idx) := by
  simp only [replaceSub, List.map_map]
  apply List.map_congr_left
  intro x _
  simp only [Function.comp]
  split
  · exact hf x
  · rfl

theorem mem_replaceSub {subs : List Sub} {sb : Sub} {f : Sub → Sub} {y : Sub} (h : y ∈ replaceSub subs sb f) :
    (y ∈ subs ∧ y ≠ sb) ∨ (y = f sb ∧ sb ∈ subs) := by
  simp only [replaceSub, List.mem_map] at h
  obtain ⟨x, hx, hy⟩ := h
  by_cases hxs : x = sb
  · rw [if_pos hxs] at hy
    subst hxs
    exact Or.inr ⟨hy.symm, hx⟩
  · rw [if_neg hxs] at hy
    subst hy
    exact Or.inl ⟨hx, hxs⟩

def Ev.vals (e : Ev) : List Nat := e.old.toList ++ e.new.toList

/-- the subscriber whose filter runs at a step: the ghost owner `gstep` (EventOwn.lean) gives the message cells the step
allocates (sends and subscriptions allocate none: their `0` is never looked at) -/
def stepSub : Step → Nat
  | .forward i => i
  | .forwardIncl i _ => i
  | .emit i => i
  | .emitIncl i _ => i
  | .seed i _ => i
  | .dropIn i => i
  | .mergeIn i => i
  | _ => 0

/-- The one shape of every pipeline step: subscriber `sb`'s pipeline allocates `cells` (it owns them) and
updates its own entry by `f`. -/
def ES.move (s : ES) (sb : Sub) (f : Sub → Sub) (cells : List Ev) : ES :=
  { s with heap := pushCells s.heap s.next cells, owner := setOwner s.owner s.next cells.length (some sb.idx),
           next := s.next + cells.length, subs := replaceSub s.subs sb f }

theorem ES.move_nil (s : ES) (sb : Sub) (f : Sub → Sub) : s.move sb f [] = { s with subs := replaceSub s.subs sb f } := by
  have : setOwner s.owner s.next 0 (some sb.idx) = s.owner := by
    funext x
    simp only [setOwner, Nat.add_zero]
    rw [if_neg]
    omega
  simp only [ES.move, List.length_nil, this]
  rfl

/-- The reachability invariant.  Every reference a pipeline holds is allocated; what sits in an inbox
is a bus cell; what a consumer received is either a cell its own pipeline allocated, or — only for an
unmasked subscriber that is backpressured or subscribes to a Value — the bus cell itself. -/
structure Inv (s : ES) : Prop where
  inbox : ∀ sb, sb ∈ s.subs → ∀ r, r ∈ sb.inbox → r < s.next ∧ s.owner r = none
  out : ∀ sb, sb ∈ s.subs → ∀ r, r ∈ sb.out →
    r < s.next ∧ (s.owner r = some sb.idx ∨ (s.owner r = none ∧ sb.mask = false ∧ (sb.lossy = false ∨ sb.value = true)))
  idx : s.subs.map (·.idx) = List.range s.subs.length

theorem Inv.init : Inv ES.init :=
  ⟨fun _ h => by simp [ES.init] at h, fun _ h => by simp [ES.init] at h, rfl⟩

theorem Inv.held_lt {s : ES} (hi : Inv s) {sb : Sub} (hsb : sb ∈ s.subs) {r : Nat} (hr : r ∈ sb.out ∨ r ∈ sb.inbox) :
    r < s.next :=
  hr.elim (fun h => (hi.out sb hsb r h).1) (fun h => (hi.inbox sb hsb r h).1)

/-- `f` only moves references between the queues of the subscriber `sb` of `s`: what `Inv.move` needs of a move -/
structure Fits (s : ES) (sb : Sub) (f : Sub → Sub) : Prop where
  mem : sb ∈ s.subs
  idx : ∀ x, (f x).idx = x.idx
  lossy : (f sb).lossy = sb.lossy
  mask : (f sb).mask = sb.mask
  value : (f sb).value = sb.value
  inbox : ∀ r, r ∈ (f sb).inbox → r ∈ sb.inbox

theorem Inv.move {s : ES} (hi : Inv s) {sb : Sub} {f : Sub → Sub} (hf : Fits s sb f) (cells : List Ev)
    (hout : ∀ r, r ∈ (f sb).out → r ∈ sb.out ∨ (s.next ≤ r ∧ r < s.next + cells.length) ∨
      (r ∈ sb.inbox ∧ sb.mask = false ∧ (sb.lossy = false ∨ sb.value = true))) :
    Inv (s.move sb f cells) := by
  -- whatever was allocated before the move keeps its owner
  have old : ∀ {r}, r < s.next → r < (s.move sb f cells).next ∧ (s.move sb f cells).owner r = s.owner r :=
    fun hr => ⟨Nat.lt_of_lt_of_le hr (Nat.le_add_right _ _), setOwner_below _ _ _ _ _ hr⟩
  refine ⟨?_, ?_, ?_⟩
  · intro y hy r hr
    have hr' : r ∈ sb.inbox ∨ (y ∈ s.subs ∧ r ∈ y.inbox) := by
      rcases mem_replaceSub hy with ⟨hys, _⟩ | ⟨hyf, _⟩
      · exact Or.inr ⟨hys, hr⟩
      · exact Or.inl (hf.inbox r (hyf ▸ hr))
    have := hr'.elim (hi.inbox sb hf.mem r) (fun h => hi.inbox y h.1 r h.2)
    exact ⟨(old this.1).1, (old this.1).2.trans this.2⟩
  · intro y hy r hr
    rcases mem_replaceSub hy with ⟨hys, _⟩ | ⟨hyf, _⟩
    · have := hi.out y hys r hr
      exact ⟨(old this.1).1, (old this.1).2 ▸ this.2⟩
    · subst hyf
      rw [hf.idx, hf.lossy, hf.mask, hf.value]
      rcases hout r hr with h1 | h2 | h3
      · have := hi.out sb hf.mem r h1
        exact ⟨(old this.1).1, (old this.1).2 ▸ this.2⟩
      · exact ⟨h2.2, Or.inl (setOwner_at _ _ _ _ _ h2.1 h2.2)⟩
      · have := hi.inbox sb hf.mem r h3.1
        exact ⟨(old this.1).1, Or.inr ⟨(old this.1).2.trans this.2, h3.2⟩⟩
  · show (replaceSub s.subs sb f).map (·.idx) = List.range (replaceSub s.subs sb f).length
    rw [replaceSub_idx _ _ _ hf.idx, replaceSub, List.length_map]
    exact hi.idx

theorem Inv.replace {s : ES} (hi : Inv s) (sb : Sub) (hsb : sb ∈ s.subs) (f : Sub → Sub)
    (hidx : ∀ x, (f x).idx = x.idx) (hlossy : (f sb).lossy = sb.lossy) (hmask : (f sb).mask = sb.mask)
    (hvalue : (f sb).value = sb.value)
    (hin : ∀ r, r ∈ (f sb).inbox → r ∈ sb.inbox)
    (hout : ∀ r, r ∈ (f sb).out → r ∈ sb.out ∨ (r ∈ sb.inbox ∧ sb.mask = false ∧ (sb.lossy = false ∨ sb.value = true))) :
    Inv { s with subs := replaceSub s.subs sb f } := by
  rw [← ES.move_nil]
  exact hi.move ⟨hsb, hidx, hlossy, hmask, hvalue, hin⟩ [] (fun r hr => (hout r hr).imp_right Or.inr)

end ScVerif.C07.Events
