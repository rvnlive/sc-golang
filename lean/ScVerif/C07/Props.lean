import ScVerif.C07.CoreStep
import ScVerif.C07.Flat
/-!
# C07 — messages are isolated (core resources)

`resource.Value` / `resource.Collection` in the heap model of Core.lean, tied to the code by the harness after every
operation. The theorems hold for EVERY message algebra `F` and every interceptor that keeps the documented contract
`OldPure` (writes nothing but its `new` argument). `Inv` is the reachability invariant (`Inv.init`, `C07_inv_run`).
-/
namespace ScVerif.C07

variable {M Mask : Type}

/-- Every state an operation sequence reaches satisfies `Inv`: what is published is allocated, what the
caller owns is never published, what the store holds is published. -/
theorem C07_inv_run (F : Funs M Mask) (ops : List (Op M Mask)) :
    ∀ s : St M Mask, Inv s → (∀ op, op ∈ ops → op.Pure) → Inv (run F s ops) :=
  fun s hi hp => (run_published F ops s hi hp).1

/-- A published reference (a write result, a read result, a Pull seed, an event's new or
old value, or a stored message) has the same heap contents after any number of further operations — writes, reads,
subscriptions, caller edits of its own messages. -/
theorem C07_published_immutable (F : Funs M Mask) (s0 : St M Mask) (hi : Inv s0)
    (before after : List (Op M Mask)) (hp : ∀ op, op ∈ before ++ after → op.Pure) :
    ∀ r, r ∈ (run F s0 before).pub →
      (run F s0 (before ++ after)).heap r = (run F s0 before).heap r := by
  intro r hr
  rw [run_append]
  have hi1 := C07_inv_run F before s0 hi (fun o ho => hp o (List.mem_append.mpr (Or.inl ho)))
  exact ((run_published F after _ hi1 (fun o ho => hp o (List.mem_append.mpr (Or.inr ho)))).2 r hr).1

/-- The ghost list is not vacuous: every message an operation answers with (result, list
element, seed, event old/new value) is in the published list afterwards, and the store only ever holds published
references. -/
theorem C07_results_published (F : Funs M Mask) (s : St M Mask) (op : Op M Mask) (hi : Inv s) (hp : op.Pure) :
    (∀ x, Item.msg x ∈ (step F s op).2.items → x ∈ (step F s op).1.pub) ∧
    (∀ r, Stored (step F s op).1 r → r ∈ (step F s op).1.pub) := by
  refine ⟨fun x h => ?_, (step_published F s op hi hp).1.stored_pub⟩
  by_cases ha : ∃ m, op = .alloc m
  · obtain ⟨m, rfl⟩ := ha
    exact nomatch h
  · exact (step_sound F s op hp (fun m e => ha ⟨m, e⟩)).2 x h

/-- Get / List / Pull (with its seed) leave the store exactly as it was and write to no allocated
cell at all (they only allocate filtered clones). -/
theorem C07_reads_frame (F : Funs M Mask) (s : St M Mask) (op : Op M Mask) (hr : op.isRead = true) :
    (step F s op).1.val = s.val ∧ (step F s op).1.coll = s.coll ∧
    ∀ r, r < s.next → (step F s op).1.heap r = s.heap r := by
  obtain ⟨s', P, items, vs, cs, d, -, e⟩ := step_read F s op hr
  rw [e]
  exact ⟨d.val, d.coll, fun r hlt => d.ext.frame r hlt List.not_mem_nil⟩

/-- The caller overwriting a message it built — in particular one it handed to an earlier
Set/Update/Add — changes no published message, hence no stored message, and not the store's shape. -/
theorem C07_caller_may_mutate (F : Funs M Mask) (s0 : St M Mask) (hi : Inv s0) (ops : List (Op M Mask))
    (hp : ∀ op, op ∈ ops → op.Pure) (i : Nat) (m : M) :
    let s := run F s0 ops
    let s' := (step F s (.mutate i m)).1
    s'.val = s.val ∧ s'.coll = s.coll ∧ (∀ r, r ∈ s.pub → s'.heap r = s.heap r) ∧
      (∀ r, Stored s r → s'.heap r = s.heap r) := by
  intro s s'
  have his : Inv s := C07_inv_run F ops s0 hi hp
  have h := (step_published F s (.mutate i m) his True.intro).2
  exact ⟨(mutate_store F s i m).1, (mutate_store F s i m).2, fun r hr => (h r hr).1,
    fun r hr => (h r (his.stored_pub r hr)).1⟩

/-- What a write may touch below the allocation pointer is exactly the caller's own message it was
given (the code filters it in place). -/
theorem C07_write_set (F : Funs M Mask) (s : St M Mask) (op : Op M Mask) (hp : op.Pure) (hna : ∀ m, op ≠ .alloc m) :
    ∀ r, r < s.next → r ∉ writeSet s op → (step F s op).1.heap r = s.heap r := by
  obtain ⟨⟨P, e, _⟩, _⟩ := step_sound F s op hp hna
  exact e.frame

example (w : Option FMask) (h : Heap Msg) : Inv (St.init w h) := Inv.init w h

/-- an interceptor that writes into `old` (what the three rim models did) does NOT keep the contract -/
example : ¬ OldPure (fun (h : Heap Msg) (o : Option Ref) (_ : Ref) =>
    match o with | some r => h.set r Msg.zero | none => h) := by
  intro hp
  have := hp (fun _ => ⟨1, 1, 1, 1⟩) (some 0) 1 0 (by decide)
  simp [Heap.set, Msg.zero] at this

/-- a concrete run publishes something and stores it: Set then unmasked Get return the same reference -/
example :
    let s := run flat (St.init none (fun _ => Msg.zero))
      [.alloc ⟨1, 2, 3, 1⟩, .vset 0 {}, .vget none]
    s.pub = [1, 1] ∧ s.val = some 1 ∧ s.heap 1 = ⟨1, 2, 3, 1⟩ := by decide +kernel

end ScVerif.C07
