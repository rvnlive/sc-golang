import ScVerif.C07.Rim3Lemmas
/-!
# C07 — more rim models: modepb relative adjustment, lightpb / openclosepb presets, openclosepb GetPositions

The code as it is (lightpb after ddd33a0, openclosepb after 5499bf0 and 6769c0c). Each `…_writes…` theorem shows the
same model expresses the corresponding defect (seeded shape or pre-fix code). `updateModeValues` is tied to the real
`modepb.ModelServer` (harness tie `rim-mode`, K1).
-/
namespace ScVerif.C07.Rim3

/-- `ModelServer.UpdateModeValues` — absolute values, relative adjustments (current values
supported, unsupported or absent), with or without the `values` update mask — writes no map that existed before the
call except the caller's own request map; the live old message's map is unchanged, and the result is a new map. -/
theorem C07_mode_update_frame (avail : String → List String) (h : MapH) (stored : Nat) (src : Option Nat)
    (rel : List (String × Int)) (masked : Bool) :
    (∀ x, x < h.next → some x ≠ src → (updateModeValues avail h stored src rel masked).heap.maps x = h.maps x) ∧
      h.next ≤ (updateModeValues avail h stored src rel masked).result := by
  refine ⟨fun x hx hne => ?_, Nat.le_refl _⟩
  have hxd : x ≠ (h.alloc (h.maps stored)).2 := Nat.ne_of_lt hx
  simp only [updateModeValues]
  rw [mergePhase_other _ _ _ _ x hxd,
    interceptPhase_other avail _ stored src rel x (Nat.lt_succ_of_lt hx) hne]
  exact alloc_other h _ x hx

/-- the seeded shape (the lookup helper "corrects" an unsupported current value in the map it is given)
writes the live old message's map -/
theorem C07_mode_seeded_writes_old :
    ∃ (avail : String → List String) (h : MapH) (oldM newM : Nat) (mode : String) (adj : Int), oldM ≠ newM ∧
      (adjustOneSeeded avail h oldM newM mode adj).maps oldM ≠ h.maps oldM :=
  ⟨fun _ => ["auto", "slow"], { maps := fun x => if x = 0 then [("spin", "turbo")] else [], next := 2 }, 0, 1, "spin", 1,
    by decide, by decide +kernel⟩

/-- After the model has applied a preset to the caller's message `b` (lightpb
`UpdateBrightness` selecting a preset, openclosepb `UpdatePositions` with a preset), the caller rewriting `b` and every
message `b` points to changes no other cell that existed before the call: not the configured preset messages, not a
stored message. -/
theorem C07_preset_plant_frame {M : Type} (h : PH M) (b : Nat) (preset : List Nat) (setBody f : M → M) :
    ∀ x, x < h.next → x ≠ b → (callerEdit (plant h b preset setBody) b f).cells x = h.cells x := by
  intro x hx hxb
  have c := (cloneList_cloned preset h).fresh
  have hsubs : ((plant h b preset setBody).cells b).subs = (cloneList h preset).2 := by simp [plant]
  have hnot : ¬ (x = b ∨ x ∈ ((plant h b preset setBody).cells b).subs) := by
    rw [hsubs]
    intro hor
    rcases hor with e | e
    · exact hxb e
    · exact Nat.lt_irrefl _ (Nat.lt_of_lt_of_le hx (c.refs x e).1)
  simp only [callerEdit]
  rw [if_neg hnot]
  simp only [plant, hxb, if_false]
  exact c.same x hx

/-- the pre-fix code (before ddd33a0 / 5499bf0): the caller's message pointed at the configured preset
message itself, so the caller's edit rewrote the model's preset table -/
theorem C07_preset_plant_legacy_writes :
    ∃ (h : PH Nat) (b p : Nat) (f : Nat → Nat), p < h.next ∧ p ≠ b ∧
      (callerEdit (plantLegacy h b [p] id) b f).cells p ≠ h.cells p :=
  ⟨{ cells := fun _ => ⟨7, []⟩, next := 2 }, 0, 1, fun _ => 9, by decide, by decide, by
    simp [callerEdit, plantLegacy]⟩

/-- `GetPositions` writes no item cell that existed before; with a read mask the response
shares no cell with the store: every state (and the preset description) of the response is a cell allocated by the
call. -/
theorem C07_openclose_get_frame {M : Type} (h : IH M) (stored : List Nat) (preset : Option Nat) (mask : Option (CMask M)) :
    (∀ x, x < h.next → (getPositions h stored preset mask).heap.item x = h.item x) ∧
    (mask ≠ none → (∀ r, r ∈ (getPositions h stored preset mask).states → h.next ≤ r) ∧
      (∀ p, (getPositions h stored preset mask).preset = some p → h.next ≤ p)) := by
  cases mask with
  | none => exact ⟨fun _ _ => rfl, fun hn => absurd rfl hn⟩
  | some m =>
    have a := statesPhase_fresh m h stored
    simp only [getPositions]
    split
    · refine ⟨fun x hx => ?_, fun _ => ⟨a.2.1, fun p hp => ?_⟩⟩
      · have : x ≠ (statesPhase m h stored).1.next := Nat.ne_of_lt (Nat.lt_of_lt_of_le hx a.2.2)
        show (if x = _ then _ else _) = _
        rw [if_neg this]
        exact a.1 x hx
      · simp only [Option.some.injEq] at hp
        rw [← hp]; exact a.2.2
    · exact ⟨a.1, fun _ => ⟨a.2.1, fun p hp => by simp at hp⟩⟩

/-- the seeded shape (the read mask applied in place to the composed message) clears fields of the
stored items -/
theorem C07_openclose_get_inplace_writes :
    ∃ (h : IH Nat) (stored : List Nat) (m : CMask Nat) (r : Nat), r ∈ stored ∧ r < h.next ∧
      (getPositionsInPlace h stored none m).heap.item r ≠ h.item r :=
  ⟨{ item := fun _ => 5, next := 1 }, [0], { states := some (fun _ => 0), preset := none }, 0, by decide, by decide, by decide +kernel⟩

/-- an unsupported current value ("turbo") and a relative step: the result selects the first value, the old map is as
it was, the request's map was allocated and written -/
example :
    let r := updateModeValues (fun _ => ["auto", "slow"]) { maps := fun x => if x = 0 then [("spin", "turbo")] else [], next := 1 }
      0 none [("spin", 1)] false
    r.heap.maps r.result = [("spin", "auto")] ∧ r.heap.maps 0 = [("spin", "turbo")] ∧ r.src = some 2 := by
  decide +kernel

/-- a masked GetPositions returns fresh cells holding the projections -/
example :
    let r := getPositions { item := fun _ => 5, next := 2 } [0, 1] none (some { states := some (fun n => n + 1), preset := none })
    r.states = [2, 3] ∧ r.heap.item 2 = 6 ∧ r.heap.item 0 = 5 := by decide +kernel

end ScVerif.C07.Rim3
