import ScVerif.C07.Rim7Lemmas
/-!
# C07 — a nested update mask filters the sub-message a write's source refers to (lightpb UpdateBrightness)

`FieldUpdater.Merge` filters its source in place, and under a path below a message field (`preset.name`) it filters
the SUB-MESSAGE the source refers to. lightpb `Model.UpdateBrightness` puts the selected preset into the caller's
message before the write: what that reference points at is written by the filter.
-/
namespace ScVerif.C07.Rim7

/-- `Model.UpdateBrightness(light, WithUpdateMask(u))` as it is (the selected preset is
planted as a clone), for every update mask — none, empty, top-level, `preset`, any subset of `preset.name` /
`preset.title`: (1) of the brightness messages that existed only the caller's own is written; (2) of the preset
messages that existed at most the one the CALLER's message referred to; (3) when a preset of the table is selected not
even that; (4) the new value is a brightness allocated by the call and its preset (if any) a message allocated by the
call. -/
theorem C07_light_update_frame (table : Table) (u : Option Mask) (h : H) (stored b : Nat) (hb : b < h.bn) :
    (∀ c, c < h.bn → c ≠ b → (update table u h stored b).1.bs c = h.bs c) ∧
    (∀ p, p < h.pn → (h.bs b).preset ≠ some p → (update table u h stored b).1.ps p = h.ps p) ∧
    ((setLevel h table b).2 = true → ∀ p, p < h.pn → (update table u h stored b).1.ps p = h.ps p) ∧
    h.bn ≤ (update table u h stored b).2 ∧
    (∀ p, ((update table u h stored b).1.bs (update table u h stored b).2).preset = some p → h.pn ≤ p) := by
  obtain ⟨slW, slBn, slOff, slOn⟩ := setLevel_spec h table b
  -- the whole call: writes `b`, and a preset message that existed only when nothing was selected
  have p : Fresh h (update table u h stored b).1 (· = b)
      (fun q => (h.bs b).preset = some q ∧ (setLevel h table b).2 = false) (update table u h stored b).2 := by
    refine valueSet_fresh _ (wr_view (slW.mono (fun _ x => x) (fun _ x => x.elim))) stored (.inl rfl) (slBn ▸ hb) fun q hq => ?_
    cases hsel : (setLevel h table b).2 with
    | false => rw [slOff hsel] at hq; exact .inl ⟨hq, rfl⟩
    | true => rw [(slOn hsel).1] at hq; cases hq; exact .inr (Nat.le_refl _)
  exact ⟨p.wr.a_same, fun q hq hne => p.wr.b_same q hq (fun x => hne x.1),
    fun hsel q hq => p.wr.b_same q hq (fun x => by rw [hsel] at x; simp at x), p.lo, fun q hq => (p.sub q hq).1⟩

/-- The shape of seeded change C07-19 and of the code before ddd33a0 (the configured preset itself goes into the
caller's message): selecting preset "n1" under the update mask `preset.name`
clears the TITLE of the configured preset — a message every `ListPresets` / `DescribeBrightness` reader holds — and
leaves the caller's message referring to it; the code as it is leaves the configured preset alone and produces the
same value. -/
theorem C07_light_preset_by_pointer_filtered :
    let u : Option Mask := some ⟨false, .sub true false⟩
    let l := updateLegacy [(0, 40)] u exH 0 1
    let r := update [(0, 40)] u exH 0 1
    exH.ps 0 = ⟨"n1", "T1"⟩ ∧ l.1.ps 0 = ⟨"n1", ""⟩ ∧ (l.1.bs 1).preset = some 0 ∧
      r.1.ps 0 = ⟨"n1", "T1"⟩ ∧ (r.1.bs 1).preset = some 2 ∧
      deep l.1 l.2 = (40, some ⟨"n1", ""⟩) ∧ deep r.1 r.2 = (40, some ⟨"n1", ""⟩) := by
  decide +kernel

/-- non-vacuity of (2): with a preset name the table does not know, the nested mask does write the preset message the
caller's brightness refers to (the caller's own) — and only that one -/
example :
    let r := update [(0, 40)] (some ⟨false, .sub false true⟩) { exH with ps := fun x => if x = 0 then ⟨"n1", "T1"⟩ else ⟨"zz", "q"⟩ } 0 1
    r.1.ps 1 = ⟨"", "q"⟩ ∧ r.1.ps 0 = ⟨"n1", "T1"⟩ ∧ deep r.1 r.2 = (10, some ⟨"", "q"⟩) := by
  decide +kernel

end ScVerif.C07.Rim7
