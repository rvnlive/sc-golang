import ScVerif.Base.Line
/-!
C07 — more rim models in the heap model (references are natural numbers, `next` is the allocation pointer).

  * modepb `ModelServer.UpdateModeValues` with `relativeAdjustment` (pkg/trait/modepb/model_server.go): the
    `Values` map of a `ModeValues` message is a Go map, i.e. a reference; the interceptor READS the live old
    message's map and writes the map of its `new` argument (the caller's request message, allocating it when nil);
  * lightpb `Model.setLevelFromPreset` and openclosepb `Model.UpdatePositions` with a preset
    (pkg/trait/lightpb/model.go, pkg/trait/openclosepb/model.go): the model puts (copies of) its configured preset
    messages into the caller's message;
  * openclosepb `Model.GetPositions`: an unmasked `List` hands out the stored items, a new container is composed of
    them (and of the configured preset description), `FilterClone` applies the read mask.
-/
namespace ScVerif.C07.Rim3

/-! ### Go maps as heap cells (modepb) -/

abbrev KV := List (String × String)

def lookup (m : KV) (k : String) : Option String := (m.find? (fun kv => kv.1 = k)).map (·.2)

/-- `m[k] = v` -/
def put (m : KV) (k v : String) : KV :=
  if m.any (fun kv => kv.1 = k) then m.map (fun kv => if kv.1 = k then (k, v) else kv) else m ++ [(k, v)]

structure MapH where
  maps : Nat → KV
  next : Nat

def MapH.put (h : MapH) (r : Nat) (k v : String) : MapH :=
  { h with maps := fun x => if x = r then Rim3.put (h.maps r) k v else h.maps x }

def MapH.alloc (h : MapH) (m : KV) : MapH × Nat :=
  ({ maps := fun x => if x = h.next then m else h.maps x, next := h.next + 1 }, h.next)

/-- `newI := (int64(i) + int64(adjustment)) % int64(len(values)); if newI < 0 { newI += len }` (Go `%` truncates) -/
def newIdx (i : Nat) (adj : Int) (n : Nat) : Nat :=
  let t := Int.tmod (Int.ofNat i + adj) (Int.ofNat n)
  (if t < 0 then t + Int.ofNat n else t).toNat

/-- one iteration of `relativeAdjustment`'s loop: reads `oldM`, writes `newM` -/
def adjustOne (avail : String → List String) (h : MapH) (oldM newM : Nat) (mode : String) (adj : Int) : MapH :=
  match avail mode with
  | [] => h
  | v0 :: vs =>
    match lookup (h.maps oldM) mode with
    | none => h.put newM mode v0
    | some cur =>
      match (v0 :: vs).idxOf? cur with
      | some i => h.put newM mode ((v0 :: vs).getD (newIdx i adj (v0 :: vs).length) v0)
      | none => h.put newM mode v0 -- "apparently the current value isn't one of the supported values, let's correct that"

def adjust (avail : String → List String) (h : MapH) (oldM newM : Nat) : List (String × Int) → MapH
  | [] => h
  | (mode, adj) :: rest => adjust avail (adjustOne avail h oldM newM mode adj) oldM newM rest

/-- the seeded shape: the helper that looks the current value up "corrects" it in the map it was given — the old map -/
def adjustOneSeeded (avail : String → List String) (h : MapH) (oldM newM : Nat) (mode : String) (adj : Int) : MapH :=
  match avail mode with
  | [] => h
  | v0 :: vs =>
    match lookup (h.maps oldM) mode with
    | none => h.put newM mode v0
    | some cur =>
      match (v0 :: vs).idxOf? cur with
      | some i => h.put newM mode ((v0 :: vs).getD (newIdx i adj (v0 :: vs).length) v0)
      | none => (h.put oldM mode v0).put newM mode v0

/-- `proto.Merge` on a map field: every entry of `src` is set in `dst` -/
def mergeInto (h : MapH) (dst : Nat) : KV → MapH
  | [] => h
  | (k, v) :: rest => mergeInto (h.put dst k v) dst rest

structure ModeRes where
  heap : MapH
  /-- the map of the new stored message (= the result, = the event value) -/
  result : Nat
  /-- the map of the request's message after the call (the interceptor wrote into it) -/
  src : Option Nat

/-- phase 2 of the write: `interceptBefore(old, src)` — installed only for a non-empty relative map;
`if newVal.Values == nil { newVal.Values = make(…) }` -/
def interceptPhase (avail : String → List String) (h : MapH) (stored : Nat) (src : Option Nat)
    (rel : List (String × Int)) : MapH × Option Nat :=
  if rel.isEmpty then (h, src) else
    match src with
    | some s => (adjust avail h stored s rel, some s)
    | none => (adjust avail (h.alloc []).1 stored (h.alloc []).2 rel, some (h.alloc []).2)

/-- phase 3: `FieldUpdater.Merge(dst, src)` on the `values` field. nil mask: `proto.Reset(dst)` then Merge;
mask `{values}`: Merge, and an empty src field clears dst's -/
def mergePhase (h : MapH) (dst : Nat) (srcKV : KV) (masked : Bool) : MapH :=
  if masked then (if srcKV.isEmpty then { h with maps := fun x => if x = dst then [] else h.maps x } else mergeInto h dst srcKV)
  else mergeInto { h with maps := fun x => if x = dst then [] else h.maps x } dst srcKV

/-- `ModelServer.UpdateModeValues`: `stored` is the map of the live old message, `src` the map of
`request.ModeValues` (`none`: nil message or nil map), `masked` = update mask `{values}` (else nil: replace).
Phases as in `Value.Set`: dst := clone(old) ▸ interceptBefore(old, src) ▸ FieldUpdater.Merge(dst, src). -/
def updateModeValues (avail : String → List String) (h : MapH) (stored : Nat) (src : Option Nat)
    (rel : List (String × Int)) (masked : Bool) : ModeRes :=
  -- dst := proto.Clone(old)
  let a := h.alloc (h.maps stored)
  let p := interceptPhase avail a.1 stored src rel
  let srcKV : KV := match p.2 with | some s => p.1.maps s | none => []
  { heap := mergePhase p.1 a.2 srcKV masked, result := a.2, src := p.2 }

/-! ### cells with pointers to sub-messages (lightpb / openclosepb presets) -/

structure PCell (M : Type) where
  body : M
  subs : List Nat

structure PH (M : Type) where
  cells : Nat → PCell M
  next : Nat

/-- `proto.Clone` of each listed message: one new cell per element -/
def cloneList {M : Type} (h : PH M) : List Nat → PH M × List Nat
  | [] => (h, [])
  | r :: rs =>
    let h1 : PH M := { cells := fun x => if x = h.next then h.cells r else h.cells x, next := h.next + 1 }
    let rest := cloneList h1 rs
    (rest.1, h.next :: rest.2)

/-- the model applies a preset to the caller's message `b` as the code does NOW: the caller's message gets
COPIES of the configured preset messages (lightpb: `b.LevelPercent = …; b.Preset = clone(p.LightPreset)`;
openclosepb: `positions.States = clones of presetPositions`) -/
def plant {M : Type} (h : PH M) (b : Nat) (preset : List Nat) (setBody : M → M) : PH M :=
  let c := cloneList h preset
  { c.1 with cells := fun x => if x = b then { body := setBody (c.1.cells b).body, subs := c.2 } else c.1.cells x }

/-- the pre-fix code put the configured messages themselves there -/
def plantLegacy {M : Type} (h : PH M) (b : Nat) (preset : List Nat) (setBody : M → M) : PH M :=
  { h with cells := fun x => if x = b then { body := setBody (h.cells b).body, subs := preset } else h.cells x }

/-- afterwards the caller rewrites its message and every message it points to (allowed by the property) -/
def callerEdit {M : Type} (h : PH M) (b : Nat) (f : M → M) : PH M :=
  { h with cells := fun x => if x = b ∨ x ∈ (h.cells b).subs then { h.cells x with body := f (h.cells x).body } else h.cells x }

/-! ### openclosepb GetPositions -/

structure IH (M : Type) where
  item : Nat → M
  next : Nat

/-- a read mask on `OpenClosePositions`: per field, not selected (`none`) or the projection of the sub-mask -/
structure CMask (M : Type) where
  states : Option (M → M)
  preset : Option (M → M)

/-- filtered clones of the listed items -/
def cloneMap {M : Type} (f : M → M) (h : IH M) : List Nat → IH M × List Nat
  | [] => (h, [])
  | r :: rs =>
    let h1 : IH M := { item := fun x => if x = h.next then f (h.item r) else h.item x, next := h.next + 1 }
    let rest := cloneMap f h1 rs
    (rest.1, h.next :: rest.2)

structure Positions (M : Type) where
  heap : IH M
  states : List Nat
  preset : Option Nat

/-- the `states` part of the filtered clone: dropped when the mask does not select it, else filtered clones -/
def statesPhase {M : Type} (m : CMask M) (h : IH M) (stored : List Nat) : IH M × List Nat :=
  match m.states with
  | none => (h, [])
  | some f => cloneMap f h stored

/-- `GetPositions`: the composed container holds the stored items themselves; `FilterClone` returns it as is for a
nil read mask (published stored references, by design) and a deep filtered clone otherwise -/
def getPositions {M : Type} (h : IH M) (stored : List Nat) (preset : Option Nat) (mask : Option (CMask M)) : Positions M :=
  match mask with
  | none => { heap := h, states := stored, preset := preset }
  | some m =>
    let st := statesPhase m h stored
    match m.preset, preset with
    | some f, some p =>
      { heap := { item := fun x => if x = st.1.next then f (st.1.item p) else st.1.item x, next := st.1.next + 1 },
        states := st.2, preset := some st.1.next }
    | _, _ => { heap := st.1, states := st.2, preset := none }

/-- the seeded shape: `ResponseFilter.Filter(dst)` in place on the composed message -/
def getPositionsInPlace {M : Type} (h : IH M) (stored : List Nat) (preset : Option Nat) (m : CMask M) : Positions M :=
  let h1 : IH M := match m.states with
    | none => h
    | some f => { h with item := fun x => if x ∈ stored then f (h.item x) else h.item x }
  match m.preset, preset with
  | some f, some p => { heap := { h1 with item := fun x => if x = p then f (h1.item x) else h1.item x }, states := (if m.states.isSome then stored else []), preset := some p }
  | _, _ => { heap := h1, states := (if m.states.isSome then stored else []), preset := none }

/-! ### driver ops (`rim mode`: K1 tie of `updateModeValues` with the real ModelServer; `rim plant`, `rim positions`) -/

def parseKV (s : String) : KV :=
  if s = "-" then [] else (s.splitOn ",").filterMap fun kv =>
    match kv.splitOn "=" with
    | [k, v] => some (k, v)
    | _ => none

def insertKV (kv : String × String) : KV → KV
  | [] => [kv]
  | x :: xs => if kv.1 < x.1 then kv :: x :: xs else x :: insertKV kv xs

def showKV (m : KV) : String :=
  let s := m.foldl (fun acc kv => insertKV kv acc) []
  if s.isEmpty then "-" else ",".intercalate (s.map fun kv => kv.1 ++ "=" ++ kv.2)

/-- `mode:v1,v2;mode:…` or `-` -/
def parseAvail (s : String) : String → List String :=
  let tbl : List (String × List String) := if s = "-" then [] else (s.splitOn ";").filterMap fun e =>
    match e.splitOn ":" with
    | [m, vs] => some (m, vs.splitOn ",")
    | _ => none
  fun mode => ((tbl.find? (fun e => e.1 = mode)).map (·.2)).getD []

def parseRel (s : String) : Option (List (String × Int)) :=
  if s = "-" then some [] else (s.splitOn ",").mapM fun kv =>
    match kv.splitOn "=" with
    | [k, v] => v.toInt?.map fun n => (k, n)
    | _ => none

/-- `rim mode <avail> <stored map> <request map | ~ (nil)> <relative> <masked 0|1>` (further tokens are ignored)
→ `result map|stored map afterwards|request map afterwards` -/
def handleMode (toks : List String) : String :=
  match toks with
  | avail :: stored :: src :: rel :: masked :: _rest =>
    match parseRel rel, ScVerif.Line.parseBool? masked with
    | some rel, some masked =>
      -- cell 0: the stored message's map; cell 1: the request's map (when there is one)
      let h0 : MapH := { maps := fun x => if x = 0 then parseKV stored else if x = 1 ∧ src ≠ "~" then parseKV src else [], next := 2 }
      let r := updateModeValues (parseAvail avail) h0 0 (if src = "~" then none else some 1) rel masked
      showKV (r.heap.maps r.result) ++ "|" ++ showKV (r.heap.maps 0) ++ "|" ++
        (if src = "~" then "~" else match r.src with | some s => showKV (r.heap.maps s) | none => "~")
    | _, _ => "!bad-op"
  | _ => "!bad-op"

/-- `rim plant <k>` (`plant-legacy`: the pre-fix code): the caller's message is cell 0, the configured preset messages are
cells 1…k; the preset is applied, then the caller rewrites its message and everything it points to.
→ `shared=<cells the caller's message points to that existed before>|changed=<preset cells that differ afterwards>` -/
def handlePlant (toks : List String) (legacy : Bool) : String :=
  match toks with
  | [k] =>
    match k.toNat? with
    | some k =>
      let h0 : PH Nat := { cells := fun x => ⟨x, []⟩, next := k + 1 }
      let preset := (List.range k).map (· + 1)
      let h1 := if legacy then plantLegacy h0 0 preset id else plant h0 0 preset id
      let shared := ((h1.cells 0).subs.filter (· < k + 1)).length
      let h2 := callerEdit h1 0 (· + 100)
      let changed := (preset.filter fun r => (h2.cells r).body != (h0.cells r).body).length
      s!"shared={shared}|changed={changed}"
    | none => "!bad-op"
  | _ => "!bad-op"

/-- `rim positions <k> <preset 0|1> <mask: nil|states|states.f|preset|preset.f|both>`: cells 0…k-1 are the stored positions,
cell k the configured preset description (current when `preset = 1`).
→ `shared=<states of the response that are stored cells>,<the response's preset IS the configured cell: 1|0, - if none>|changed=<old cells that differ>` -/
def handlePositions (toks : List String) : String :=
  match toks with
  | [k, pr, mask] =>
    match k.toNat?, ScVerif.Line.parseBool? pr with
    | some k, some pr =>
      let h0 : IH Nat := { item := fun x => x + 10, next := k + 1 }
      let m : Option (Option (CMask Nat)) :=
        if mask = "nil" then some none
        else if mask = "states" then some (some { states := some id, preset := none })
        else if mask = "states.f" then some (some { states := some (· + 100), preset := none })
        else if mask = "preset" then some (some { states := none, preset := some id })
        else if mask = "preset.f" then some (some { states := none, preset := some (· + 100) })
        else if mask = "both" then some (some { states := some (· + 100), preset := some (· + 100) })
        else none
      match m with
      | none => "!bad-op"
      | some m =>
        let r := getPositions h0 (List.range k) (if pr then some k else none) m
        let shared := (r.states.filter (· < k + 1)).length
        let ps := match r.preset with | none => "-" | some p => if p < k + 1 then "1" else "0"
        let changed := ((List.range (k + 1)).filter fun x => r.heap.item x != h0.item x).length
        s!"shared={shared},{ps}|changed={changed}"
    | _, _ => "!bad-op"
  | _ => "!bad-op"

end ScVerif.C07.Rim3
