/-!
Two sorts of cells, each with its allocation pointer — what the nested heaps of Rim6.lean (counts and their reset
times) and Rim7.lean (brightness messages and their presets) have in common — with the write-set relation `Wr` on them
and `Fresh`, what is known of a write at every point between its first allocation and its return.
-/
namespace ScVerif.C07

structure Cells (A B : Type) where
  a : Nat → A
  an : Nat
  b : Nat → B
  bn : Nat

namespace Cells

variable {A B : Type}

/-- `h'` extends `h` and differs from it below `h`'s allocation pointers at most at `a`-cells in `WA` and `b`-cells
in `WB` -/
structure Wr (h h' : Cells A B) (WA WB : Nat → Prop) : Prop where
  an_le : h.an ≤ h'.an
  bn_le : h.bn ≤ h'.bn
  a_same : ∀ c, c < h.an → ¬ WA c → h'.a c = h.a c
  b_same : ∀ t, t < h.bn → ¬ WB t → h'.b t = h.b t

theorem Wr.refl (h : Cells A B) (WA WB : Nat → Prop) : Wr h h WA WB :=
  ⟨Nat.le_refl _, Nat.le_refl _, fun _ _ _ => rfl, fun _ _ _ => rfl⟩

section
variable {h0 h : Cells A B} {WA WB : Nat → Prop}

theorem Wr.setA (x : Wr h0 h WA WB) {r : Nat} (hr : WA r ∨ h0.an ≤ r) (c : A) :
    Wr h0 { h with a := fun y => if y = r then c else h.a y } WA WB :=
  { x with a_same := fun y hy hw =>
      (if_neg fun e : y = r => hr.elim (e ▸ hw) (e ▸ Nat.not_le_of_lt hy)).trans (x.a_same y hy hw) }

theorem Wr.setB (x : Wr h0 h WA WB) {r : Nat} (hr : WB r ∨ h0.bn ≤ r) (v : B) :
    Wr h0 { h with b := fun y => if y = r then v else h.b y } WA WB :=
  { x with b_same := fun y hy hw =>
      (if_neg fun e : y = r => hr.elim (e ▸ hw) (e ▸ Nat.not_le_of_lt hy)).trans (x.b_same y hy hw) }

theorem Wr.allocA (x : Wr h0 h WA WB) (c : A) :
    Wr h0 { h with a := fun y => if y = h.an then c else h.a y, an := h.an + 1 } WA WB :=
  { x.setA (.inr x.an_le) c with an_le := Nat.le_succ_of_le x.an_le }

theorem Wr.allocB (x : Wr h0 h WA WB) (v : B) :
    Wr h0 { h with b := fun y => if y = h.bn then v else h.b y, bn := h.bn + 1 } WA WB :=
  { x.setB (.inr x.bn_le) v with bn_le := Nat.le_succ_of_le x.bn_le }

end

/-- A write in progress.  Since `h0` only `WA` / `WB` were written of what existed, and the `a`-cell `d` the write builds
was allocated since `h0` (it is the last one allocated), as was the `b`-cell it refers to (`ref`), if any.  Writes to `d`
and to what `d` refers to are therefore free; the same four facts are what a finished call is known by. -/
structure Fresh (ref : A → Option Nat) (h0 h : Cells A B) (WA WB : Nat → Prop) (d : Nat) : Prop where
  wr : Wr h0 h WA WB
  lo : h0.an ≤ d
  top : h.an = d + 1
  sub : ∀ t, ref (h.a d) = some t → h0.bn ≤ t ∧ t < h.bn

variable {ref : A → Option Nat} {h0 h : Cells A B} {WA WB : Nat → Prop} {d : Nat}

theorem Wr.fresh (x : Wr h0 h WA WB) (c : A) (hc : ∀ t, ref c = some t → h0.bn ≤ t ∧ t < h.bn) :
    Fresh ref h0 { h with a := fun y => if y = h.an then c else h.a y, an := h.an + 1 } WA WB h.an :=
  ⟨x.allocA c, x.an_le, rfl, fun t ht => hc t (by simpa using ht)⟩

theorem Fresh.setA (p : Fresh ref h0 h WA WB d) {r : Nat} (hr : WA r ∨ h0.an ≤ r) (hd : r ≠ d) (c : A) :
    Fresh ref h0 { h with a := fun y => if y = r then c else h.a y } WA WB d :=
  ⟨p.wr.setA hr c, p.lo, p.top, fun t ht => p.sub t (by simpa [Ne.symm hd] using ht)⟩

theorem Fresh.setD (p : Fresh ref h0 h WA WB d) (c : A)
    (hc : ∀ t, ref c = some t → ref (h.a d) = some t ∨ (h0.bn ≤ t ∧ t < h.bn)) :
    Fresh ref h0 { h with a := fun y => if y = d then c else h.a y } WA WB d :=
  ⟨p.wr.setA (.inr p.lo) c, p.lo, p.top, fun t ht => (hc t (by simpa using ht)).elim (p.sub t) id⟩

theorem Fresh.setB (p : Fresh ref h0 h WA WB d) {r : Nat} (hr : WB r ∨ h0.bn ≤ r) (v : B) :
    Fresh ref h0 { h with b := fun y => if y = r then v else h.b y } WA WB d :=
  ⟨p.wr.setB hr v, p.lo, p.top, p.sub⟩

theorem Fresh.allocB (p : Fresh ref h0 h WA WB d) (v : B) :
    Fresh ref h0 { h with b := fun y => if y = h.bn then v else h.b y, bn := h.bn + 1 } WA WB d :=
  ⟨p.wr.allocB v, p.lo, p.top, fun t ht => ⟨(p.sub t ht).1, Nat.lt_succ_of_lt (p.sub t ht).2⟩⟩

end Cells

end ScVerif.C07
