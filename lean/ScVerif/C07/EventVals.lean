import ScVerif.Base.Line
import ScVerif.C07.Events
/-!
C07 — the VALUES change events carry, as message cells (pkg/resource/change.go `CollectionChange.filter` /
`ValueChange.filter`, pkg/masks/get.go `ResponseFilter.FilterClone`, change.go `include`, backpressure.go
`mergeChanges`).

Events.lean treats the values of an event as opaque references.  Here they are cells of a message heap
`Nat → M` (any message type `M`, any read-mask projection `pm : M → M`):

* a writer stores a new message: a new cell (`GetAndUpdate` builds the new value on `proto.Clone(old)`; Core.lean
  is about what the writer does with it) — the event it then sends refers to the cell of the replaced message
  (`OldValue`: the very message earlier unmasked `Get`/`List` calls returned, `Delete` returns, the `Add`/`Update`
  that stored it returned and announced as `NewValue`) and to the new cell (`NewValue`);
* `filter` with a non-nil read mask: `FilterClone(c.NewValue)`, then `FilterClone(c.OldValue)` — each non-nil value
  is CLONED into a new cell holding `pm` of the original, the new event refers to the clones; with a nil mask
  `FilterClone` returns its argument and `filter` returns the event it was given;
* `include`'s replacement events and `mergeChanges`' results carry the SAME value references on (no copy).

The event-object steps are those of Events.lean, unchanged: `vstep` runs `Events.step` with the reference
projection of THIS step (`projFor`: new value ↦ first new cell, old value ↦ next new cell).  An `UPDATE` never has
`OldValue == NewValue` (the new value is a fresh clone), so one projection function per step loses nothing; in that
degenerate shape the model's event would name the first clone twice.
-/
namespace ScVerif.C07.Events

/-- event objects + the message cells their values refer to -/
structure VS (M : Type) where
  es : ES
  msgs : Nat → M
  mnext : Nat

/-- `FilterClone(v)` under a non-nil mask: nil stays nil, a message is cloned into the new cell `mnext`, the clone is
projected; returns the heap, the allocation pointer -/
def cloneVal {M : Type} (pm : M → M) (msgs : Nat → M) (mnext : Nat) : Option Nat → (Nat → M) × Nat
  | none => (msgs, mnext)
  | some r => (fun x => if x = mnext then pm (msgs r) else msgs x, mnext + 1)

/-- where `filter`'s two `FilterClone` calls put their results (new value first, as in the code) -/
def projFor (mnext : Nat) (e : Ev) : Nat → Nat :=
  fun r => if e.new = some r then mnext else mnext + (if e.new.isSome then 1 else 0)

/-- the event a step hands to the read-mask filter of a MASKED subscriber, if it does: the bus's event (`forward`),
`include`'s replacement (`forwardIncl`, `emitIncl`), the merger's output (`emit`), a seed (`seed`).  Same conditions, same order as `Events.step`. -/
def filtered (s : ES) : Step → Option Ev
  | .forward i =>
    match s.subs.find? (fun sb => sb.idx = i) with
    | none => none
    | some sb =>
      if sb.lossy && !sb.value then none else
      match sb.inbox with
      | [] => none
      | r :: _ => if sb.mask then some (s.heap r) else none
  | .forwardIncl i d =>
    match s.subs.find? (fun sb => sb.idx = i) with
    | none => none
    | some sb =>
      if sb.lossy && !sb.value then none else
      match sb.inbox with
      | [] => none
      | r :: _ => if d = .skip then none else if sb.mask then some (convEv d (s.heap r)) else none
  | .emit i =>
    match s.subs.find? (fun sb => sb.idx = i) with
    | none => none
    | some sb =>
      if !(sb.lossy && !sb.value) then none else
      match sb.pending with
      | [] => none
      | c :: _ => if sb.mask then some c else none
  | .emitIncl i d =>
    match s.subs.find? (fun sb => sb.idx = i) with
    | none => none
    | some sb =>
      if !(sb.lossy && !sb.value) then none else
      match sb.pending with
      | [] => none
      | c :: _ => if d = .skip then none else if sb.mask then some (convEv d c) else none
  | .seed i e =>
    match s.subs.find? (fun sb => sb.idx = i) with
    | none => none
    | some sb => if sb.mask then some e else none
  | _ => none

inductive VStep (M : Type)
  /-- a writer stores a new message (the cell a following `send`'s `new` refers to) -/
  | store (m : M)
  /-- a send or a pipeline step of Events.lean -/
  | ev (st : Step)

def vstep {M : Type} (pm : M → M) (v : VS M) : VStep M → VS M
  | .store m => { v with msgs := fun x => if x = v.mnext then m else v.msgs x, mnext := v.mnext + 1 }
  | .ev st =>
    match filtered v.es st with
    | none => { v with es := step id v.es st }
    | some e =>
      let c1 := cloneVal pm v.msgs v.mnext e.new
      let c2 := cloneVal pm c1.1 c1.2 e.old
      { es := step (projFor v.mnext e) v.es st, msgs := c2.1, mnext := c2.2 }

/-- any interleaving of writers, sends and pipeline steps -/
def vrun {M : Type} (pm : M → M) (v : VS M) : List (VStep M) → VS M
  | [] => v
  | st :: rest => vrun pm (vstep pm v st) rest

def VS.init {M : Type} [Inhabited M] : VS M := { es := ES.init, msgs := fun _ => default, mnext := 0 }

/-- the seeded shape (C07-10): "a removal only carries the value that went away, mask it where it is" — `Filter`
instead of `FilterClone` on the `OldValue` of a REMOVE -/
def filterRemoveInPlace {M : Type} (pm : M → M) (msgs : Nat → M) (e : Ev) : Nat → M :=
  if e.kind = .remove then
    match e.old with
    | some r => fun x => if x = r then pm (msgs r) else msgs x
    | none => msgs
  else msgs

/-! ### driver: `ev …` ops (K1 tie of the sharing structure of event objects AND of their values with the real code)

Messages are tokens (`M := Nat`); the harness's read mask maps a message with token `t` to one that shows as `1000 + t`.
A line `ev send KIND id old new` names the values by their tokens: the driver stores the new message (a new cell) and
looks the replaced one up among the cells stored so far (tokens are unique per sequence). -/

open ScVerif.Line

structure DrvEv where
  v : VS Nat := VS.init
  /-- event references in the order a consumer first saw them: the canonical numbering of the answers -/
  seen : List Nat := []
  /-- indices of the subscribers opened with the driver's include filter ("the value's token is even") -/
  incl : List Nat := []
  /-- per subscriber index: how many of its `out` events the consumer of a lossy Collection subscriber has actually taken
  (`emit` puts an event into `out` when the Pull goroutine has it in hand; a stalled consumer takes it later) -/
  taken : List Nat := []
  /-- the seeds the Pull goroutines of lossy subscribers have still to build and hand over, in order (subscriber, event) -/
  seedQ : List (Nat × Ev) := []

def parseKind? (s : String) : Option Kind :=
  if s = "ADD" then some .add else if s = "UPDATE" then some .update
  else if s = "REMOVE" then some .remove else if s = "REPLACE" then some .replace else none

def showKind : Kind → String
  | .add => "ADD" | .update => "UPDATE" | .remove => "REMOVE" | .replace => "REPLACE"

def parseTok? (s : String) : Option (Option Nat) := if s = "-" then some none else s.toNat?.map some

def showTok : Option Nat → String
  | none => "-"
  | some n => toString n

/-- an event shows the CONTENTS of its values -/
def showEvV (v : VS Nat) (e : Ev) : String :=
  s!"{showKind e.kind},{e.id},{showTok (e.old.map v.msgs)},{showTok (e.new.map v.msgs)}" ++ (if e.lastSeed then ",L" else "")

/-- the driver's read-mask projection on message tokens -/
def drvPm (t : Nat) : Nat := 1000 + t

/-- the cell a writer stored the message with token `t` in (the latest such cell) -/
def cellOf (v : VS Nat) (t : Nat) : Option Nat :=
  ((List.range v.mnext).reverse).find? (fun r => v.msgs r == t)

/-- the driver's include filter, as `CollectionChange.include` evaluates it on an event (on the values' contents):
`none` = pass it on as it is -/
def drvDecision (v : VS Nat) (e : Ev) : Option Decision :=
  let inc : Option Nat → Bool := fun x => match x with | some r => v.msgs r % 2 == 0 | none => false
  if inc e.old = inc e.new then (if inc e.new then none else some .skip)
  else if inc e.new then some .toAdd else some .toRemove

/-- the Pull goroutine of the lossy Collection subscriber `i` takes events from its merger until it holds one the consumer
has not taken yet (it blocks handing it over) or the merger has nothing: `include` (behind the merger) may drop some -/
def pump : Nat → DrvEv → Nat → DrvEv
  | 0, d, _ => d
  | fuel + 1, d, i =>
    match d.v.es.subs.find? (fun x => x.idx = i) with
    | none => d
    | some sb =>
      if sb.out.length > d.taken.getD i 0 then d else
      -- the seeds come first: they are sent before the goroutine starts to range over the merger's channel
      match d.seedQ.find? (fun q => q.1 = i) with
      | some q => { d with v := vstep drvPm d.v (.ev (.seed i q.2)), seedQ := d.seedQ.erase q }
      | none =>
      match sb.pending with
      | [] => d
      | c :: _ =>
        let st := if d.incl.contains i then
            (match drvDecision d.v c with | some dc => Step.emitIncl i dc | none => Step.emit i)
          else Step.emit i
        pump fuel { d with v := vstep drvPm d.v (.ev st) } i

/-- the Pull goroutine of the lossy Value subscriber `i` takes the pointer `DropExcess` holds, unless it still has something
in hand (the seed, or an event the consumer has not taken yet) -/
def pumpV (d : DrvEv) (i : Nat) : DrvEv :=
  match d.v.es.subs.find? (fun x => x.idx = i) with
  | none => d
  | some sb =>
    if sb.out.length > d.taken.getD i 0 then d else
    -- the seed comes first
    match d.seedQ.find? (fun q => q.1 = i) with
    | some q => { d with v := vstep drvPm d.v (.ev (.seed i q.2)), seedQ := d.seedQ.erase q }
    | none =>
    match sb.inbox with
    | [] => d
    | _ :: _ => { d with v := vstep drvPm d.v (.ev (.forward i)) }

/-- after a send, once everything has run until it blocks (the harness's schedule: one operation at a time): every
backpressure subscriber forwards (through its include filter if it has one) and its consumer takes the event; a lossy
Collection subscriber's merger takes the event in (copy, merge) and its Pull goroutine pumps; a lossy Value subscriber
lets `DropExcess` drop the older pending pointer and its Pull goroutine pumps -/
def settle (d : DrvEv) : DrvEv :=
  d.v.es.subs.foldl (fun acc sb =>
    if !sb.lossy then
      { acc with v := vstep drvPm acc.v (.ev
        (if acc.incl.contains sb.idx then
          match (acc.v.es.subs.find? (fun x => x.idx = sb.idx)).bind (fun x => x.inbox.head?) with
          | some r => (match drvDecision acc.v (acc.v.es.heap r) with | some dc => .forwardIncl sb.idx dc | none => .forward sb.idx)
          | none => .forward sb.idx
        else .forward sb.idx)) }
    else if sb.value then pumpV { acc with v := vstep drvPm acc.v (.ev (.dropIn sb.idx)) } sb.idx
    else
      let a1 := { acc with v := vstep drvPm acc.v (.ev (.mergeIn sb.idx)) }
      pump (sb.pending.length + 2) a1 sb.idx) d

def canon (seen : List Nat) (r : Nat) : List Nat × Nat :=
  match seen.idxOf? r with
  | some i => (seen, i)
  | none => (seen ++ [r], seen.length)

/-- what each backpressure subscriber's consumer received since `before` (the subscribers' `out` lengths before the send):
`#canonical-ref:event` of the last one, `-` if nothing new -/
def lastOuts (before : List Nat) (d : DrvEv) : DrvEv × List String :=
  d.v.es.subs.foldl (fun (acc : DrvEv × List String) sb =>
    if sb.lossy then acc else
    if sb.out.length = before.getD sb.idx 0 then (acc.1, acc.2 ++ ["-"]) else
    match sb.out.getLast? with
    | none => (acc.1, acc.2 ++ ["-"])
    | some r =>
      let (seen', k) := canon acc.1.seen r
      ({ acc.1 with seen := seen' }, acc.2 ++ [s!"#{k}:{showEvV acc.1.v (acc.1.v.es.heap r)}"])) (d, [])

/-- which value OBJECTS the events seen so far carry: message references numbered in first-seen order (old before new,
events in `seen` order), `-` for nil -/
def valueSharing (d : DrvEv) : String :=
  let step1 := fun (acc : List Nat × List String) (r : Nat) =>
    let e := d.v.es.heap r
    let one := fun (a : List Nat × String) (x : Option Nat) =>
      match x with
      | none => (a.1, a.2 ++ "-")
      | some m => let (s', k) := canon a.1 m; (s', a.2 ++ toString k)
    let a1 := one (acc.1, "") e.old
    let a2 := one (a1.1, a1.2 ++ ".") e.new
    (a2.1, acc.2 ++ [a2.2])
  ";".intercalate (d.seen.foldl step1 ([], [])).2

def handleEv (d : DrvEv) (toks : List String) : DrvEv × String :=
  match toks with
  | ["reset"] => ({}, "ok")
  | ["sub", l, m] =>
    match parseBool? l, parseBool? m with
    | some l, some m => ({ d with v := vstep drvPm d.v (.ev (.sub l m)), taken := d.taken ++ [0] }, "ok")
    | _, _ => (d, "!bad-op")
  | ["subi", m] =>
    match parseBool? m with
    | some m => ({ d with v := vstep drvPm d.v (.ev (.sub false m)), incl := d.incl ++ [d.v.es.subs.length], taken := d.taken ++ [0] }, "ok")
    | none => (d, "!bad-op")
  | ["subli", m] =>
    -- a LOSSY subscriber with the include filter (the filter runs behind the merger)
    match parseBool? m with
    | some m => ({ d with v := vstep drvPm d.v (.ev (.sub true m)), incl := d.incl ++ [d.v.es.subs.length], taken := d.taken ++ [0] }, "ok")
    | none => (d, "!bad-op")
  | ["seed", i, id, t, l] =>
    -- subscriber `i` (opened without `WithUpdatesOnly`) is owed a seed for item `id`, whose stored message has token `t`
    match i.toNat?, id.toNat?, t.toNat?, parseBool? l with
    | some i, some id, some t, some l =>
      match d.v.es.subs.find? (fun x => x.idx = i), cellOf d.v t with
      | some sb, some r =>
        let e : Ev := { kind := .add, id := id, old := none, new := some r, lastSeed := l }
        if sb.value then (d, "!bad-op") else
        if sb.lossy then (pump 1 { d with seedQ := d.seedQ ++ [(i, e)] } i, "ok") else
        -- the consumer of a backpressure subscriber (drained) takes it at once
        let v1 := vstep drvPm d.v (.ev (.seed i e))
        match (v1.es.subs.find? (fun x => x.idx = i)).bind (fun x => x.out.getLast?) with
        | some c =>
          let (seen', k) := canon d.seen c
          ({ d with v := v1, seen := seen' }, s!"#{k}:{showEvV v1 (v1.es.heap c)}")
        | none => (d, "!bad-op")
      | _, _ => (d, "!bad-op")
    | _, _, _, _ => (d, "!bad-op")
  | ["poll", i] =>
    -- the consumer of the lossy Collection subscriber `i` takes the event its Pull goroutine holds, if it holds one
    match i.toNat? with
    | none => (d, "!bad-op")
    | some i =>
      match d.v.es.subs.find? (fun x => x.idx = i) with
      | none => (d, "!bad-op")
      | some sb =>
        if !(sb.lossy && !sb.value) then (d, "!bad-op") else
        let n := d.taken.getD i 0
        match sb.out[n]? with
        | none => (d, "-")
        | some r =>
          let (seen', k) := canon d.seen r
          let d1 := { d with seen := seen', taken := d.taken.set i (n + 1) }
          (pump (sb.pending.length + 2) d1 i, s!"#{k}:{showEvV d.v (d.v.es.heap r)}")
  | ["vstore", t] =>
    -- the Value's initial message (`WithInitialValue`)
    match t.toNat? with
    | some t => ({ d with v := vstep drvPm d.v (.store t) }, "ok")
    | none => (d, "!bad-op")
  | ["vsub", l, m, sd] =>
    -- `sd`: `-` (`WithUpdatesOnly`) or the token of the current value: the subscriber's Pull goroutine first builds a seed
    -- change for it (a new object), filters it and hands it over
    match parseBool? l, parseBool? m, parseTok? sd with
    | some l, some m, some sd =>
      let i := d.v.es.subs.length
      let d0 := { d with v := vstep drvPm d.v (.ev (.vsub l m)), taken := d.taken ++ [0] }
      match sd with
      | none => (d0, "ok")
      | some t =>
        match cellOf d.v t with
        | none => (d, "!bad-op")
        | some r =>
          let e : Ev := { kind := .update, id := 0, old := none, new := some r, lastSeed := true }
          if l then (pumpV { d0 with seedQ := d0.seedQ ++ [(i, e)] } i, "ok") else
          -- the consumer of a backpressure subscriber (drained) takes the seed at once
          let v1 := vstep drvPm d0.v (.ev (.seed i e))
          match (v1.es.subs.find? (fun x => x.idx = i)).bind (fun x => x.out.getLast?) with
          | some c =>
            let (seen', k) := canon d0.seen c
            ({ d0 with v := v1, seen := seen' }, s!"ok|#{k}:{showEvV v1 (v1.es.heap c)}")
          | none => (d, "!bad-op")
    | _, _, _ => (d, "!bad-op")
  | ["vpoll", i] =>
    -- the consumer of the lossy Value subscriber `i` takes what its Pull goroutine holds (the seed first)
    match i.toNat? with
    | none => (d, "!bad-op")
    | some i =>
      match d.v.es.subs.find? (fun x => x.idx = i) with
      | none => (d, "!bad-op")
      | some sb =>
        if !(sb.lossy && sb.value) then (d, "!bad-op") else
        let n := d.taken.getD i 0
        match sb.out[n]? with
        | none => (d, "-")
        | some r =>
          let (seen', k) := canon d.seen r
          let d1 := { d with seen := seen', taken := d.taken.set i (n + 1) }
          (pumpV d1 i, s!"#{k}:{showEvV d.v (d.v.es.heap r)}")
  | ["vsend", n] =>
    match n.toNat? with
    | some n =>
      let v0 := vstep drvPm d.v (.store n)
      let d1 := settle { d with v := vstep drvPm v0 (.ev (.vsend { kind := .update, id := 0, old := none, new := some d.v.mnext, lastSeed := false })) }
      let (d2, outs) := lastOuts (d.v.es.subs.map (·.out.length)) d1
      (d2, "|".intercalate ("ok" :: outs))
    | none => (d, "!bad-op")
  | ["send", k, id, o, n] =>
    match parseKind? k, id.toNat?, parseTok? o, parseTok? n with
    | some k, some id, some o, some n =>
      -- the replaced message is the cell stored earlier under that token; an unknown token is a malformed request
      match (match o with | none => some none | some t => (cellOf d.v t).map some) with
      | none => (d, "!bad-op")
      | some oref =>
        let (v0, nref) := match n with
          | none => (d.v, none)
          | some t => (vstep drvPm d.v (.store t), some d.v.mnext)
        let d1 := settle { d with v := vstep drvPm v0 (.ev (.send { kind := k, id := id, old := oref, new := nref, lastSeed := false })) }
        let (d2, outs) := lastOuts (d.v.es.subs.map (·.out.length)) d1
        (d2, "|".intercalate ("ok" :: outs))
    | _, _, _, _ => (d, "!bad-op")
  | ["audit"] =>
    (d, "seen=" ++ ";".intercalate (d.seen.map fun r => showEvV d.v (d.v.es.heap r)) ++ "|vals=" ++ valueSharing d)
  | _ => (d, "!bad-op")

end ScVerif.C07.Events
