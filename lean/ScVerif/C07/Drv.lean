import ScVerif.Base.Line
import ScVerif.C07.Flat
import ScVerif.C07.Rim
import ScVerif.C07.EventVals
import ScVerif.C07.Rim3
import ScVerif.C07.Rim4
import ScVerif.C07.Rim5
import ScVerif.C07.Rim6
import ScVerif.C07.Rim7
/-!
Driver handler for C07 (stateful).  One op per line; the answer lists every message that crossed
the boundary in this op by its contents; `audit` prints the current contents of every published
reference (crossing order) and of every caller-owned message.

  init <writable|-> <initial msg|-> <idmap: -|mod2>
  alloc <msg> | mutate <k> <msg>
  vset <k> <umask> <resetmask> <before> <after> <expect|->           vget <rmask>   vpull <rmask> <uo>   vclose <i>
  cupd <id> <k> <umask> <resetmask> <before> <after> <expect|-> <flags>   cdel <id> <expect|-> <flags>
  cget <id> <rmask>   clist <rmask>   cpull <rmask> <uo>   cpullid <id> <rmask> <uo>   cclose <i>
  audit
  ev reset | ev sub <lossy> <mask> | ev subi <mask> / ev subli <mask> (backpressure / lossy subscriber with the include filter `token is even`)
  ev send <ADD|UPDATE|REMOVE|REPLACE> <id> <old|-> <new|->   (values named by their tokens: the new one is stored in a new message cell, the old one looked up)
  ev poll <i>   (the consumer of the lossy Collection subscriber i takes the event its Pull goroutine holds: `#<ref>:<event>` or `-`)
  ev vstore <tok> | ev vsub <lossy> <mask> <current tok|-> | ev vsend <new> | ev vpoll <i>     (initial value / subscribers / writes / lossy consumers of a resource.Value; events print as UPDATE,0,-,<new>[,L]; a subscriber given the current token is owed a seed)
  ev seed <i> <id> <tok> <last>   (Collection subscriber i is owed a seed for item id)
  rim <family> …   (the rim models: active, setactive, count, light, light-legacy, create, hail, incl, mode, positions, plant,
                    plant-legacy, union, remove, merge, seed, seedp; formats at the `handle…` definitions of Rim*.lean)
  ev audit      (`seen=<contents of every event seen>|vals=<which message objects they carry, numbered by identity>`)
     (event objects and their values, Events.lean + EventVals.lean: after a send everything runs until it blocks — every backpressure subscriber forwards,
      every lossy one merges in / drops the older pointer and its Pull goroutine pumps; the answer to a send lists, per backpressure subscriber,
      `#<canonical event ref>:<event>` of what its consumer received)

expect = `-` | msg | `chk:<field>:<n>:<FP|IA>` (named WithExpectedCheck); msg = `a,b,c,d`; mask = `-` (nil) | `0` (empty) | letters of `abcd`; callbacks: `-` | `add:<f>` | `set:<f>:<n>`;
flags: letters of `c` (create if absent) `x` (expect absent) `m` (allow missing) or `-`.
-/
namespace ScVerif.C07
open ScVerif.Line

def parseMsg? (s : String) : Option Msg :=
  match (s.splitOn ",").mapM parseInt? with
  | some [a, b, c, d] => some ⟨a, b, c, d⟩
  | _ => none

def showMsg (m : Msg) : String := s!"{m.a},{m.b},{m.c},{m.d}"

def fieldIdx? (c : Char) : Option Nat :=
  if c = 'a' then some 0 else if c = 'b' then some 1 else if c = 'c' then some 2 else if c = 'd' then some 3 else none

def parseMask? (s : String) : Option (Option FMask) :=
  if s = "-" then some none
  else if s = "0" then some (some [])
  else (s.toList.mapM fieldIdx?).map some

def parseOptMsg? (s : String) : Option (Option Msg) :=
  if s = "-" then some none else (parseMsg? s).map some

/-- named interceptors shared with the harness; all of them write only `new` -/
def cbAdd (f : Nat) : Cb Msg := fun h o n =>
  h.set n ((h n).setF f ((h n).get f + (match o with | some r => (h r).get f | none => 0)))

def cbSet (f : Nat) (v : Int) : Cb Msg := fun h _ n => h.set n ((h n).setF f v)

def parseCb? (s : String) : Option (Option (Cb Msg)) :=
  if s = "-" then some none else
  match s.splitOn ":" with
  | ["add", f] => do
    let i ← (f.toList.head?).bind fieldIdx?
    pure (some (cbAdd i))
  | ["set", f, v] => do
    let i ← (f.toList.head?).bind fieldIdx?
    let x ← parseInt? v
    pure (some (cbSet i x))
  | _ => none

/-- named `WithExpectedCheck` callbacks shared with the harness: `chk:<field>:<n>:<FP|IA>` rejects (FailedPrecondition /
InvalidArgument) when field `f` of the old message (all zeros when there is none) equals `n` -/
def cbCheck (f : Nat) (n : Int) (e : Err) : Option Msg → Option Err := fun o =>
  if (match o with | some m => m.get f | none => 0) = n then some e else none

/-- the precondition token: `-`, an expected message `a,b,c,d`, or a named check -/
structure Pre where
  expected : Option Msg := none
  check : Option (Option Msg → Option Err) := none

def parsePre? (s : String) : Option Pre :=
  match s.splitOn ":" with
  | ["chk", f, n, code] => do
    let i ← (f.toList.head?).bind fieldIdx?
    let x ← parseInt? n
    let e ← if code = "FP" then some Err.failedPrecondition else if code = "IA" then some Err.invalidArgument else none
    pure { check := some (cbCheck i x e) }
  | _ => (parseOptMsg? s).map fun e => { expected := e }

def mkOpts (um rm : Option FMask) (b a : Option (Cb Msg)) (e : Pre) (flags : String) : WOpts Msg FMask :=
  { umask := um, rmask := rm, before := b, after := a, expected := e.expected, check := e.check,
    createIfAbsent := flags.toList.contains 'c', expectAbsent := flags.toList.contains 'x',
    allowMissing := flags.toList.contains 'm' }

def parseOp? (toks : List String) : Option (Op Msg FMask) :=
  match toks with
  | ["alloc", m] => do pure (.alloc (← parseMsg? m))
  | ["mutate", k, m] => do pure (.mutate (← parseNat? k) (← parseMsg? m))
  | ["vset", k, um, rm, b, a, e] => do
    pure (.vset (← parseNat? k) (mkOpts (← parseMask? um) (← parseMask? rm) (← parseCb? b) (← parseCb? a) (← parsePre? e) "-"))
  | ["vget", rm] => do pure (.vget (← parseMask? rm))
  | ["vpull", rm, uo] => do pure (.vpull (← parseMask? rm) (← parseBool? uo))
  | ["vclose", i] => do pure (.vclose (← parseNat? i))
  | ["cupd", id, k, um, rm, b, a, e, fl] => do
    pure (.cupd (← parseNat? id) (← parseNat? k) (mkOpts (← parseMask? um) (← parseMask? rm) (← parseCb? b) (← parseCb? a) (← parsePre? e) fl))
  | ["cdel", id, e, fl] => do
    pure (.cdel (← parseNat? id) (mkOpts none none none none (← parsePre? e) fl))
  | ["cget", id, rm] => do pure (.cget (← parseNat? id) (← parseMask? rm))
  | ["clist", rm] => do pure (.clist (← parseMask? rm))
  | ["cpull", rm, uo] => do pure (.cpull (← parseMask? rm) (← parseBool? uo))
  | ["cpullid", id, rm, uo] => do pure (.cpullid (← parseNat? id) (← parseMask? rm) (← parseBool? uo))
  | ["cclose", i] => do pure (.cclose (← parseNat? i))
  | _ => none

def showItem (h : Heap Msg) : Item → String
  | .msg r => showMsg (h r)
  | .absent => "-"
  | .tag s => s

def showAns (h : Heap Msg) (a : Ans) : String :=
  if a.bad then "!bad-op" else
  let head := match a.err with | some e => "err:" ++ e.name | none => "ok"
  "|".intercalate (head :: a.items.map (showItem h))

def showRefs (h : Heap Msg) (rs : List Ref) : String := ";".intercalate (rs.map fun r => showMsg (h r))

/-- named id interceptors shared with the harness: `-` (none) or `mod2` (id ↦ id mod 2) -/
def parseIdMap? (s : String) : Option (Nat → Nat) :=
  if s = "-" then some id else if s = "mod2" then some (· % 2) else none

def initState (w : Option FMask) (iv : Option Msg) (im : Nat → Nat) : St Msg FMask :=
  match iv with
  | none => { St.init w (fun _ => Msg.zero) with idmap := im }
  | some m =>
    -- WithInitialValue stores the given message itself; it counts as published from the start
    { St.init w (fun _ => Msg.zero) with heap := Heap.set (fun _ => Msg.zero) 0 m, next := 1, val := some 0, pub := [0], idmap := im }

abbrev CoreState := St Msg FMask

/-- the driver's state: the core heap model and the event-object model (independent op families) -/
structure DrvState where
  core : CoreState
  ev : Events.DrvEv := {}

def DrvState.start : DrvState := { core := initState none none id }

def handleCore (s : CoreState) (toks : List String) : CoreState × String :=
  match toks with
  | ["init", w, iv, im] =>
    match parseMask? w, parseOptMsg? iv, parseIdMap? im with
    | some w, some iv, some im => (initState w iv im, "ok")
    | _, _, _ => (s, "!bad-op")
  | ["audit"] => (s, "pub=" ++ showRefs s.heap s.pub ++ " own=" ++ showRefs s.heap s.owned)
  | _ =>
    match parseOp? toks with
    | none => (s, "!bad-op")
    | some op =>
      let (s', a) := step flat s op
      (s', showAns s'.heap a)

def handle (s : DrvState) (toks : List String) : DrvState × String :=
  match toks with
  | "rim" :: "active" :: rest => (s, Rim5.handleActive rest)
  | "rim" :: "setactive" :: rest => (s, Rim5.handleSetActive rest)
  | "rim" :: "count" :: rest => (s, Rim6.handleCount rest)
  | "rim" :: "light" :: rest => (s, Rim7.handleLight rest)
  | "rim" :: "light-legacy" :: rest => (s, Rim7.handleLightWith true rest)
  | "rim" :: "create" :: rest => (s, Rim4.handleCreate rest)
  | "rim" :: "hail" :: rest => (s, Rim4.handleHail rest)
  | "rim" :: "incl" :: rest => (s, Rim4.handleIncl rest)
  | "rim" :: "mode" :: rest => (s, Rim3.handleMode rest)
  | "rim" :: "positions" :: rest => (s, Rim3.handlePositions rest)
  | "rim" :: "plant" :: rest => (s, Rim3.handlePlant rest false)
  | "rim" :: "plant-legacy" :: rest => (s, Rim3.handlePlant rest true)
  | "rim" :: rest => (s, handleRim rest)
  | "ev" :: rest => let (e, a) := Events.handleEv s.ev rest; ({ s with ev := e }, a)
  | _ => let (c, a) := handleCore s.core toks; ({ s with core := c }, a)

end ScVerif.C07
