/-!
C07 — rim model: a NESTED update mask and the in-place filter of a write's source.

`FieldUpdater.Merge` filters its source in place (`updateMask.Filter(src)`); with a path BELOW a message field
(`preset.name`) the filter descends into the source's sub-message and clears fields THERE: a write edits the
sub-messages its source refers to. lightpb `Model.UpdateBrightness` first puts the selected preset into the caller's
message (`setLevelFromPreset`) and then hands that message to `brightness.Set`: whatever `light.Preset` refers to at
that moment is written by the filter. The code as it is plants a CLONE of the configured preset (`setLevel`); the
shape of seeded change C07-19 (and of the code before ddd33a0) plants the configured preset itself
(`setLevelLegacy`).

Brightness cells refer to preset cells; masks are {level_percent} x {nothing, `preset`, a non-empty subset of
`preset.name` / `preset.title`} (a path list containing `preset` and paths below it means `preset`:
`withoutNestedPaths`). The brightness resource has no writable-fields restriction here (the default model).
-/
namespace ScVerif.C07.Rim7

/-- a `traits.LightPreset` -/
structure P where
  name : String
  title : String
  deriving DecidableEq

/-- a `traits.Brightness`: the level and a reference to its `preset` message -/
structure B where
  level : Int
  preset : Option Nat
  deriving DecidableEq

structure H where
  bs : Nat → B
  bn : Nat
  ps : Nat → P
  pn : Nat

def H.allocB (h : H) (b : B) : H × Nat :=
  ({ h with bs := fun x => if x = h.bn then b else h.bs x, bn := h.bn + 1 }, h.bn)

def H.allocP (h : H) (p : P) : H × Nat :=
  ({ h with ps := fun x => if x = h.pn then p else h.ps x, pn := h.pn + 1 }, h.pn)

def H.setB (h : H) (r : Nat) (b : B) : H := { h with bs := fun x => if x = r then b else h.bs x }

def H.setP (h : H) (r : Nat) (p : P) : H := { h with ps := fun x => if x = r then p else h.ps x }

/-- what a holder of the brightness `b` sees -/
def deep (h : H) (b : Nat) : Int × Option P := ((h.bs b).level, (h.bs b).preset.map h.ps)

/-- the part of a mask below `preset` -/
inductive PM where
  | no
  | whole
  | sub (name title : Bool)
  deriving DecidableEq

structure Mask where
  level : Bool
  preset : PM
  deriving DecidableEq

def Mask.isEmpty (m : Mask) : Bool := !m.level && (m.preset = .no)

def filterP (n t : Bool) (p : P) : P := ⟨if n then p.name else "", if t then p.title else ""⟩

/-- `updateMask.Filter(src)`: top-level fields outside the mask are cleared; under a nested mask the SUB-MESSAGE the
source refers to is filtered where it is -/
def filterSrc (m : Mask) (h : H) (src : Nat) : H :=
  let s := h.bs src
  let h1 := h.setB src { level := if m.level then s.level else 0,
                         preset := if m.preset = .no then none else s.preset }
  match m.preset, s.preset with
  | .sub n t, some p => h1.setP p (filterP n t (h.ps p))
  | _, _ => h1

def mergeP (d s : P) : P := ⟨if s.name = "" then d.name else s.name, if s.title = "" then d.title else s.title⟩

/-- `proto.Merge(dst, src)` -/
def protoMerge (h : H) (dst src : Nat) : H :=
  let s := h.bs src
  let d := h.bs dst
  let d1 : B := { d with level := if s.level = 0 then d.level else s.level }
  match s.preset with
  | none => h.setB dst d1
  | some sp =>
    match d.preset with
    | none => ((h.allocP (h.ps sp)).1).setB dst { d1 with preset := some h.pn }
    | some dp => (h.setP dp (mergeP (h.ps dp) (h.ps sp))).setB dst d1

/-- `pruneEmpty(dst, src, mask)`: what the mask mentions and `src` lacks is cleared in `dst` (below `preset`: in
`dst`'s own sub-message) -/
def pruneEmpty (m : Mask) (h : H) (dst src : Nat) : H :=
  let s := h.bs src
  let d := h.bs dst
  let h1 := h.setB dst { d with level := if m.level && s.level = 0 then 0 else d.level }
  match d.preset with
  | none => h1
  | some dp =>
    match m.preset with
    | .no => h1
    | .whole =>
      (match s.preset with
       | none => h1.setB dst { (h1.bs dst) with preset := none }
       | some _ => h1)
    | .sub n t =>
      match s.preset with
      | none => h1.setP dp ⟨if n then "" else (h.ps dp).name, if t then "" else (h.ps dp).title⟩
      | some sp => h1.setP dp ⟨if n && (h.ps sp).name = "" then "" else (h.ps dp).name,
                               if t && (h.ps sp).title = "" then "" else (h.ps dp).title⟩

/-- `FieldUpdater.Merge(dst, src)` without writable-fields restriction -/
def merge (u : Option Mask) (h : H) (dst src : Nat) : H :=
  match u with
  | none => protoMerge (h.setB dst ⟨0, none⟩) dst src
  | some m => if m.isEmpty then h else pruneEmpty m (protoMerge (filterSrc m h src) dst src) dst src

/-- `proto.Clone` -/
def clone (h : H) (b : Nat) : H × Nat :=
  match (h.bs b).preset with
  | none => h.allocB (h.bs b)
  | some p => ((h.allocP (h.ps p)).1).allocB { (h.bs b) with preset := some h.pn }

/-- `Value.Set(src, WithUpdateMask(u))` -/
def valueSet (u : Option Mask) (h : H) (old src : Nat) : H × Nat :=
  let hd := clone h old
  (merge u hd.1 hd.2 src, hd.2)

/-- the preset table of the model: configured preset message and level -/
abbrev Table := List (Nat × Int)

def findPreset (h : H) (table : Table) (name : String) : Option (Nat × Int) :=
  table.find? (fun pl => (h.ps pl.1).name = name)

/-- `setLevelFromPreset(b)` as it is: the level and a CLONE of the configured preset go into the caller's message -/
def setLevel (h : H) (table : Table) (b : Nat) : H × Bool :=
  match (h.bs b).preset with
  | none => (h, false)
  | some bp =>
    match findPreset h table (h.ps bp).name with
    | none => (h, false)
    | some pl => (((h.allocP (h.ps pl.1)).1).setB b ⟨pl.2, some h.pn⟩, true)

/-- the shape of seeded change C07-19 / the code before ddd33a0: the configured preset itself -/
def setLevelLegacy (h : H) (table : Table) (b : Nat) : H × Bool :=
  match (h.bs b).preset with
  | none => (h, false)
  | some bp =>
    match findPreset h table (h.ps bp).name with
    | none => (h, false)
    | some pl => (h.setB b ⟨pl.2, some pl.1⟩, true)

/-- `WithMoreUpdatePaths("level_percent")`: added to a mask that is there -/
def moreLevel (sel : Bool) (u : Option Mask) : Option Mask :=
  if sel then u.map (fun m => { m with level := true }) else u

/-- `Model.UpdateBrightness(light, WithUpdateMask(u))` -/
def update (table : Table) (u : Option Mask) (h : H) (stored b : Nat) : H × Nat :=
  let r := setLevel h table b
  valueSet (moreLevel r.2 u) r.1 stored b

def updateLegacy (table : Table) (u : Option Mask) (h : H) (stored b : Nat) : H × Nat :=
  let r := setLevelLegacy h table b
  valueSet (moreLevel r.2 u) r.1 stored b

/-! ### driver -/

/-- `-` no mask; else `<l><p>` with l ∈ {0,1} and p ∈ {n (nothing), w (preset), a (preset.name), t (preset.title),
b (both)}; `0n` is the empty mask -/
def parseMask? (s : String) : Option (Option Mask) :=
  if s = "-" then some none
  else match s.toList with
    | [l, p] =>
      let pm : Option PM := match p with
        | 'n' => some .no
        | 'w' => some .whole
        | 'a' => some (.sub true false)
        | 't' => some (.sub false true)
        | 'b' => some (.sub true true)
        | _ => none
      if l = '0' || l = '1' then pm.map fun pm => some ⟨l = '1', pm⟩ else none
    | _ => none

def showP (p : P) : String := s!"{p.name}~{p.title}"

def showDeep (d : Int × Option P) : String :=
  s!"{d.1}/{match d.2 with | some p => showP p | none => "-"}"

/-- `name~title` -/
def parseP? (s : String) : Option P :=
  match s.splitOn "~" with
  | [a, b] => some ⟨a, b⟩
  | _ => none

/-- `level/name~title`, a dash for no preset -/
def parseB? (s : String) : Option (Int × Option P) :=
  match s.splitOn "/" with
  | [l, p] => match l.toInt? with
    | some l => if p = "-" then some (l, none) else (parseP? p).map fun p => (l, some p)
    | none => none
  | _ => none

/-- brightness cells and the preset cells they refer to, numbered from `next` on -/
def mkCells : List (Int × Option P) → Nat → List B × List P
  | [], _ => ([], [])
  | (l, some p) :: rest, next => let r := mkCells rest (next + 1); (⟨l, some next⟩ :: r.1, p :: r.2)
  | (l, none) :: rest, next => let r := mkCells rest next; (⟨l, none⟩ :: r.1, r.2)

/-- the calls of a script: call `k` uses the caller's brightness cell `k + 1` -/
def runCalls (legacy : Bool) (table : Table) : H → Nat → Nat → List (Option Mask) → List String → H × Nat × List String
  | h, stored, _, [], out => (h, stored, out.reverse)
  | h, stored, k, u :: rest, out =>
    let pn0 := h.pn
    let r := if legacy then updateLegacy table u h stored (k + 1) else update table u h stored (k + 1)
    -- the value handed back; `a`: its preset message existed before the call
    let o := s!"{showDeep (deep r.1 r.2)}{match (r.1.bs r.2).preset with | some p => if p < pn0 then "a" else "" | none => ""}"
    runCalls legacy table r.1 r.2 (k + 1) rest (o :: out)

/-- `rim light <presets name~title@level;…|-> <initial level/preset> <call;call>` with call = `<mask>=<level/preset>`:
brightness cell 0 is the stored value, cells 1.. the caller's messages (one per call); preset cells: the configured
presets first, then the stored value's, then the callers'. Answer: the value every call hands back, `|presets=` the
configured presets afterwards, `|own=` the caller's messages afterwards. -/
def handleLightWith (legacy : Bool) (toks : List String) : String :=
  match toks with
  | [prs, ini, calls] =>
    let prsL : Option (List (P × Int)) :=
      if prs = "-" then some [] else (prs.splitOn ";").mapM fun s =>
        match s.splitOn "@" with
        | [p, l] => match parseP? p, l.toInt? with
          | some p, some l => some (p, l)
          | _, _ => none
        | _ => none
    let callsL : Option (List (Option Mask × (Int × Option P))) := (calls.splitOn ";").mapM fun s =>
      match s.splitOn "=" with
      | [m, b] => match parseMask? m, parseB? b with
        | some m, some b => some (m, b)
        | _, _ => none
      | _ => none
    match prsL, parseB? ini, callsL with
    | some prsL, some ini, some callsL =>
      let bsAll : List (Int × Option P) := ini :: callsL.map (·.2)
      let np := prsL.length
      let cells := mkCells bsAll np
      let psAll := prsL.map (·.1) ++ cells.2
      let h : H := { bs := fun x => cells.1.getD x ⟨0, none⟩, bn := cells.1.length, ps := fun x => psAll.getD x ⟨"", ""⟩, pn := psAll.length }
      let table : Table := (List.range np).map fun i => (i, (prsL.getD i (⟨"", ""⟩, 0)).2)
      let (h', _, outs) := runCalls legacy table h 0 0 (callsL.map (·.1)) []
      ",".intercalate outs ++ "|presets=" ++ ";".intercalate ((List.range np).map fun i => showP (h'.ps i)) ++
        "|own=" ++ ";".intercalate ((List.range callsL.length).map fun k => showDeep (deep h' (k + 1)))
    | _, _, _ => "!bad-op"
  | _ => "!bad-op"

def handleLight (toks : List String) : String := handleLightWith false toks

end ScVerif.C07.Rim7
