/-!
C07 — rim model: a trait device built directly on `resource.Value` whose message has a SUB-MESSAGE
(countpb `MemoryDevice`: `traits.Count{added, removed, reset_time *timestamppb.Timestamp}`).

The core heap model (ScVerif/C07/Core.lean) is over an abstract message algebra: a message is one cell. Whether two
messages share a sub-message is invisible there — `proto.Clone` / `proto.Merge` are trusted to copy deeply. This
file makes the nested level explicit for one device: count cells hold a REFERENCE to a timestamp cell, and the
steps of `Value.Set` (`proto.Clone(old)`, the before-interceptor, `FieldUpdater.Merge` with writable fields and
update mask: in-place filter of the source, reset / prune of the destination, `proto.Merge`, `pruneEmpty`) are
functions on that two-sorted heap, with `proto.Merge`'s rule for message fields spelled out (destination field
nil: a new sub-message is allocated and the source's copied into it; present: merged INTO the existing one).

`reset` is `MemoryDevice.ResetCount` as it is (the reset time travels inside the source message of a write with
`WithAllFieldsWritable` and is deep-copied by the merge), `resetIcpt` the shape of seeded change C07-21 (the
after-interceptor assigns the caller's timestamp by pointer). References are natural numbers, `cn` / `tn` the
allocation pointers of the two sorts.
-/
namespace ScVerif.C07.Rim6

/-- a `traits.Count`: two counters and a reference to its `reset_time` message (`none` = nil) -/
structure Cnt where
  added : Int
  removed : Int
  rt : Option Nat
  deriving DecidableEq

structure H where
  cs : Nat → Cnt
  cn : Nat
  ts : Nat → Int
  tn : Nat

def H.allocC (h : H) (c : Cnt) : H × Nat :=
  ({ h with cs := fun x => if x = h.cn then c else h.cs x, cn := h.cn + 1 }, h.cn)

def H.allocT (h : H) (v : Int) : H × Nat :=
  ({ h with ts := fun x => if x = h.tn then v else h.ts x, tn := h.tn + 1 }, h.tn)

def H.setC (h : H) (r : Nat) (c : Cnt) : H := { h with cs := fun x => if x = r then c else h.cs x }

def H.setT (h : H) (r : Nat) (v : Int) : H := { h with ts := fun x => if x = r then v else h.ts x }

/-- what a holder of the count `c` sees: both counters and the CONTENTS of its reset time -/
def deep (h : H) (c : Nat) : Int × Int × Option Int :=
  ((h.cs c).added, (h.cs c).removed, (h.cs c).rt.map h.ts)

/-- a field mask over the three top-level fields -/
structure Mask where
  added : Bool
  removed : Bool
  rt : Bool
  deriving DecidableEq

def Mask.isEmpty (m : Mask) : Bool := !m.added && !m.removed && !m.rt

/-- every path of `a` is a path of `b` (`Validate`: the update mask may only mention writable fields) -/
def Mask.sub (a b : Mask) : Bool := (!a.added || b.added) && (!a.removed || b.removed) && (!a.rt || b.rt)

/-- `NestedMask.Filter(m)`: fields outside the mask are cleared (a cleared message field drops the reference, the
sub-message itself is not written) -/
def filterC (m : Mask) (c : Cnt) : Cnt :=
  { added := if m.added then c.added else 0, removed := if m.removed then c.removed else 0,
    rt := if m.rt then c.rt else none }

/-- `NestedMask.Prune(m)`: fields inside the mask are cleared -/
def pruneC (m : Mask) (c : Cnt) : Cnt :=
  { added := if m.added then 0 else c.added, removed := if m.removed then 0 else c.removed,
    rt := if m.rt then none else c.rt }

/-- `pruneEmpty(dst, src, updateMask)`: a field the mask mentions and `src` does not have is cleared in `dst` -/
def pruneEmptyC (m : Mask) (s d : Cnt) : Cnt :=
  { added := if m.added && s.added = 0 then 0 else d.added,
    removed := if m.removed && s.removed = 0 then 0 else d.removed,
    rt := if m.rt && s.rt.isNone then none else d.rt }

/-- `proto.Clone(c)`: a new count and, when `c` has a reset time, a new timestamp with its contents -/
def clone (h : H) (c : Nat) : H × Nat :=
  match (h.cs c).rt with
  | none => h.allocC (h.cs c)
  | some t =>
    let h1 := (h.allocT (h.ts t)).1
    h1.allocC { (h.cs c) with rt := some h.tn }

/-- `proto.Merge(dst, src)`: populated scalars of `src` overwrite; a message field of `src` is copied into a NEW
sub-message when `dst` has none and merged INTO `dst`'s existing sub-message otherwise (a timestamp is one number
here: whole seconds) -/
def protoMerge (h : H) (dst src : Nat) : H :=
  let s := h.cs src
  let d := h.cs dst
  let d1 : Cnt := { d with added := if s.added = 0 then d.added else s.added,
                           removed := if s.removed = 0 then d.removed else s.removed }
  match s.rt with
  | none => h.setC dst d1
  | some t =>
    match d.rt with
    | none => ((h.allocT (h.ts t)).1).setC dst { d1 with rt := some h.tn }
    | some dt => (h.setT dt (if h.ts t = 0 then h.ts dt else h.ts t)).setC dst d1

/-- an empty (non-nil) writable mask: `Merge` returns at once -/
def wEmpty (w : Option Mask) : Bool :=
  match w with
  | some wm => wm.isEmpty
  | none => false

/-- `writableMask.Filter(src)`: the SOURCE is filtered in place -/
def wfilter (w : Option Mask) (h : H) (src : Nat) : H :=
  match w with
  | none => h
  | some wm => h.setC src (filterC wm (h.cs src))

/-- without update mask `dst` is made to look like `src`: `proto.Reset(dst)` when everything is writable, else
`writableMask.Prune(dst)` -/
def resetDst (w : Option Mask) (c : Cnt) : Cnt :=
  match w with
  | none => ⟨0, 0, none⟩
  | some wm => pruneC wm c

/-- with a (non-empty) update mask: `updateMask.Filter(src)`, `proto.Merge(dst, src)`, `pruneEmpty(dst, src, mask)` -/
def mergeMasked (um : Mask) (h : H) (dst src : Nat) : H :=
  let h3 := protoMerge (h.setC src (filterC um (h.cs src))) dst src
  h3.setC dst (pruneEmptyC um (h3.cs src) (h3.cs dst))

/-- `FieldUpdater.Merge(dst, src)` with writable fields `w` (`none` = all fields, `WithAllFieldsWritable` or a resource
without writable fields) and update mask `u` (`none` = no mask); the reset mask is not modelled (no caller here
passes one) -/
def merge (w u : Option Mask) (h : H) (dst src : Nat) : H :=
  if wEmpty w then h
  else
    match u with
    | none => protoMerge ((wfilter w h src).setC dst (resetDst w ((wfilter w h src).cs dst))) dst src
    | some um => if um.isEmpty then wfilter w h src else mergeMasked um (wfilter w h src) dst src

/-- the before-interceptor of `UpdateCount` with `delta`: the caller's message gains the old counters -/
def addOld (h : H) (old src : Nat) : H :=
  h.setC src { (h.cs src) with added := (h.cs src).added + (h.cs old).added,
                               removed := (h.cs src).removed + (h.cs old).removed }

/-- `Value.Set(src, WithUpdateMask(u), InterceptBefore(delta))` as far as messages go (validation done by the caller
of this function): `dst = proto.Clone(old)`, the interceptor writes `src`, `Merge` writes both; `dst` becomes the
value, is announced and returned -/
def valueSet (w u : Option Mask) (delta : Bool) (h : H) (old src : Nat) : H × Nat :=
  let hd := clone h old
  let h2 := if delta then addOld hd.1 old src else hd.1
  (merge w u h2 hd.2 src, hd.2)

/-- `MemoryDevice.ResetCount` as it is: `rt := request.ResetTime` or a new timestamp, then
`Set(&traits.Count{ResetTime: rt}, WithAllFieldsWritable())` -/
def reset (h : H) (stored : Nat) (req : Option Nat) (now : Int) : H × Nat :=
  let ht : H × Nat := match req with
    | some t => (h, t)
    | none => h.allocT now
  let hs := ht.1.allocC ⟨0, 0, some ht.2⟩
  valueSet none none false hs.1 stored hs.2

/-- the shape of seeded change C07-21: an empty count written under the update mask {added, removed} of a device with
writable fields `w`, the reset time assigned by the after-interceptor BY POINTER -/
def resetIcpt (w : Option Mask) (h : H) (stored : Nat) (req : Option Nat) (now : Int) : H × Nat :=
  let ht : H × Nat := match req with
    | some t => (h, t)
    | none => h.allocT now
  let hs := ht.1.allocC ⟨0, 0, none⟩
  let r := valueSet w (some ⟨true, true, false⟩) false hs.1 stored hs.2
  (r.1.setC r.2 { (r.1.cs r.2) with rt := some ht.2 }, r.2)

/-! ### the device with its callers -/

structure S where
  h : H
  /-- the count the value holds -/
  stored : Nat
  /-- every count somebody was handed: write results, read results, the stored one -/
  pub : List Nat
  /-- the counts / timestamps a caller built and still owns (its requests) -/
  ownC : List Nat
  ownT : List Nat

inductive Op where
  /-- `GetCount(read_mask)` -/
  | get (m : Option Mask)
  /-- `ResetCount(reset_time)`: any timestamp the caller can name, or none -/
  | reset (req : Option Nat) (now : Int)
  /-- `UpdateCount(count, update_mask, delta)` with a count the caller owns -/
  | update (src : Nat) (u : Option Mask) (delta : Bool)
  /-- the caller builds a timestamp / a count (whose reset time is any timestamp it can name) -/
  | newT (v : Int)
  | newC (a r : Int) (rt : Option Nat)
  /-- the caller overwrites a timestamp / a count it owns -/
  | pokeT (t : Nat) (v : Int)
  | pokeC (c : Nat) (x : Cnt)

/-- `FieldUpdater.Validate`: an update mask may only mention writable fields -/
def valid (w u : Option Mask) : Bool :=
  match u, w with
  | some um, some wm => um.sub wm
  | _, _ => true

/-- one call; the second component is the returned count (`none`: no message returned / the call was refused).
A caller that names a count or timestamp it does not own in `update` / `poke…` breaks its side of the contract: the
call is skipped. -/
def step (w : Option Mask) (s : S) : Op → S × Option Nat
  | .get none => (s, some s.stored)
  | .get (some m) =>
    let hc := clone s.h s.stored
    ({ s with h := hc.1.setC hc.2 (filterC m (hc.1.cs hc.2)), pub := hc.2 :: s.pub }, some hc.2)
  | .reset req now =>
    let r := reset s.h s.stored req now
    ({ s with h := r.1, stored := r.2, pub := r.2 :: s.pub }, some r.2)
  | .update src u delta =>
    if src ∈ s.ownC then
      if valid w u then
        let r := valueSet w u delta s.h s.stored src
        ({ s with h := r.1, stored := r.2, pub := r.2 :: s.pub }, some r.2)
      else (s, none)
    else (s, none)
  | .newT v => ({ s with h := (s.h.allocT v).1, ownT := s.h.tn :: s.ownT }, none)
  | .newC a r rt => ({ s with h := (s.h.allocC ⟨a, r, rt⟩).1, ownC := s.h.cn :: s.ownC }, none)
  | .pokeT t v => if t ∈ s.ownT then ({ s with h := s.h.setT t v }, none) else (s, none)
  | .pokeC c x => if c ∈ s.ownC then ({ s with h := s.h.setC c x }, none) else (s, none)

def run (w : Option Mask) (s : S) : List Op → S
  | [] => s
  | op :: ops => run w (step w s op).1 ops

/-- the same with `ResetCount` in the shape of seeded change C07-21 -/
def stepIcpt (w : Option Mask) (s : S) : Op → S × Option Nat
  | .reset req now =>
    let r := resetIcpt w s.h s.stored req now
    ({ s with h := r.1, stored := r.2, pub := r.2 :: s.pub }, some r.2)
  | op => step w s op

/-! ### driver -/

def parseMask? (s : String) : Option (Option Mask) :=
  if s = "-" then some none
  else match s.toList with
    | [a, b, c] =>
      if [a, b, c].all (fun ch => ch = '0' || ch = '1') then some (some ⟨a = '1', b = '1', c = '1'⟩) else none
    | _ => none

/-- readings of the wall clock (`timestamppb.Now()`) are `nowBase + k`; rendered `N` -/
def nowBase : Int := 1000000

def showT (v : Int) : String := if v ≥ nowBase then "N" else toString v

def showDeep (d : Int × Int × Option Int) : String :=
  s!"{d.1}/{d.2.1}/{match d.2.2 with | some v => showT v | none => "-"}"

/-- one script token → op. `g` / `g<mask>` get; `r-` / `r<i>` reset without time / with the caller's timestamp cell `i`;
`u<i>:<mask|->:<d|s>` update with the caller's count cell `i`; `t<i>=<v>` the caller overwrites its timestamp `i`;
`c<i>=<a>/<r>` the caller overwrites the counters of its count `i` -/
def parseOp? (h : H) (k : Nat) (tok : String) : Option Op :=
  match tok.toList with
  | ['g'] => some (.get none)
  | 'g' :: m => (parseMask? (String.ofList m)).bind fun m => m.map fun m => .get (some m)
  | ['r', '-'] => some (.reset none (nowBase + k))
  | 'r' :: i => (String.ofList i).toNat?.map fun i => .reset (some i) (nowBase + k)
  | 'u' :: rest =>
    match (String.ofList rest).splitOn ":" with
    | [i, m, d] =>
      match i.toNat?, parseMask? m with
      | some i, some m => some (.update i m (d = "d"))
      | _, _ => none
    | _ => none
  | 't' :: rest =>
    match (String.ofList rest).splitOn "=" with
    | [i, v] => match i.toNat?, v.toInt? with
      | some i, some v => some (.pokeT i v)
      | _, _ => none
    | _ => none
  | 'c' :: rest =>
    match (String.ofList rest).splitOn "=" with
    | [i, v] =>
      match i.toNat?, v.splitOn "/" with
      | some i, [a, r] => match a.toInt?, r.toInt? with
        | some a, some r => some (.pokeC i { (h.cs i) with added := a, removed := r })
        | _, _ => none
      | _, _ => none
    | _ => none
  | _ => none

/-- `a/r/t` with `t` = `-` or seconds -/
def parseCnt? (s : String) : Option (Int × Int × Option Int) :=
  match s.splitOn "/" with
  | [a, r, t] => match a.toInt?, r.toInt? with
    | some a, some r => if t = "-" then some (a, r, none) else t.toInt?.map fun t => (a, r, some t)
    | _, _ => none
  | _ => none

/-- the caller's counts as cells, their reset times numbered from `nt` on -/
def mkCells : List (Int × Int × Option Int) → Nat → List Cnt
  | [], _ => []
  | (a, r, some _) :: rest, nt => ⟨a, r, some nt⟩ :: mkCells rest (nt + 1)
  | (a, r, none) :: rest, nt => ⟨a, r, none⟩ :: mkCells rest nt

def runScript (w : Option Mask) (icpt : Bool) : S → Nat → List String → List String → Option (S × List String)
  | s, _, [], out => some (s, out.reverse)
  | s, k, tok :: rest, out =>
    match parseOp? s.h k tok with
    | none => none
    | some op =>
      let tn0 := s.h.tn
      let r := if icpt then stepIcpt w s op else step w s op
      let o := match r.2 with
        | some c =>
          -- the value handed back, whether it IS the stored message, whether its reset time is a timestamp that
          -- existed before the call
          s!"{showDeep (deep r.1.h c)}{if c = r.1.stored then "s" else ""}{match (r.1.h.cs c).rt with | some t => if t < tn0 then "a" else "" | none => ""}"
        | none => "-"
      runScript w icpt r.1 (k + 1) rest (o :: out)

/-- `rim count <w> <initial a/r/t> <caller timestamps v,v|-> <caller counts a/r/t;…|-> <script tok,tok>`:
timestamp cell 0 is the initial reset time (when there is one), the caller's timestamps follow, then the reset
times of the caller's counts; count cell 0 is the initial value, cells 1.. the caller's counts. Answer: per call the
returned count (flags `s` = it is the stored message, `a` = its reset time existed before the call), then
`|pub=` every published count as it reads at the end, `|own=` the caller's counts at the end. -/
def handleCountWith (icpt : Bool) (toks : List String) : String :=
  match toks with
  | [w, ini, tss, css, script] =>
    match parseMask? w, parseCnt? ini, (if tss = "-" then some [] else (tss.splitOn ",").mapM String.toInt?),
        (if css = "-" then some [] else (css.splitOn ";").mapM parseCnt?) with
    | some w, some ini, some tvs, some cvs =>
      let t0 : List Int := match ini.2.2 with | some v => [v] | none => []
      let base := t0.length + tvs.length
      -- reset times of the caller's counts, in order
      let extra : List Int := cvs.filterMap (·.2.2)
      let tsAll := t0 ++ tvs ++ extra
      let c0 : Cnt := ⟨ini.1, ini.2.1, ini.2.2.map fun _ => 0⟩
      let cells := c0 :: mkCells cvs base
      let h : H := { cs := fun x => cells.getD x ⟨0, 0, none⟩, cn := cells.length, ts := fun x => tsAll.getD x 0, tn := tsAll.length }
      let s : S := { h := h, stored := 0, pub := [0], ownC := (List.range cvs.length).map (· + 1),
                     ownT := (List.range tvs.length).map (· + t0.length) }
      -- script tokens name the caller's cells by their index among the caller's cells
      let toks := (script.splitOn ",").map fun tok =>
        match tok.toList with
        | 'r' :: i => match (String.ofList i).toNat? with
          | some i => s!"r{i + t0.length}"
          | none => tok
        | 't' :: rest => match (String.ofList rest).splitOn "=" with
          | [i, v] => match i.toNat? with
            | some i => s!"t{i + t0.length}={v}"
            | none => tok
          | _ => tok
        | 'u' :: rest => match (String.ofList rest).splitOn ":" with
          | [i, m, d] => match i.toNat? with
            | some i => s!"u{i + 1}:{m}:{d}"
            | none => tok
          | _ => tok
        | 'c' :: rest => match (String.ofList rest).splitOn "=" with
          | [i, v] => match i.toNat? with
            | some i => s!"c{i + 1}={v}"
            | none => tok
          | _ => tok
        | _ => tok
      match runScript w icpt s 0 toks [] with
      | none => "!bad-op"
      | some (s', outs) =>
        ",".intercalate outs ++ "|pub=" ++ ";".intercalate (s'.pub.reverse.map fun p => showDeep (deep s'.h p)) ++
          "|own=" ++ ";".intercalate (s.ownC.map fun c => showDeep (deep s'.h c))
    | _, _, _, _ => "!bad-op"
  | _ => "!bad-op"

def handleCount (toks : List String) : String := handleCountWith false toks

end ScVerif.C07.Rim6
