import ScVerif.C07.EventsAct
/-!
# C07 — a change event never changes afterwards (event objects shared through the bus)

`Bus.Send` hands ONE `*CollectionChange` to every subscriber; an unmasked backpressure subscriber's consumer receives
that very pointer. The theorems hold for ANY interleaving of sends and pipeline steps of any number of subscribers and
every read-mask projection `proj`. A lossy VALUE subscriber is not covered by the privacy theorem: `minibus.DropExcess`
keeps the latest pointer, so its consumer holds the bus's object like everybody else.
Tie: harness `core-events` (K1, sharing structure + contents after every write) and the `snapshot-core-events` monitor.
-/
namespace ScVerif.C07.Events

/-- Whatever has been allocated — every event the bus has sent, every event any consumer has
received — has the same contents after any further sends and pipeline steps, however far a stalled lossy
subscriber's merger falls behind (`mergeCollectionExcess` merges into private copies). -/
theorem C07_events_immutable (proj : Nat → Nat) (s : ES) (steps : List Step) :
    ∀ r, r < s.next → (run proj s steps).heap r = s.heap r :=
  (run_frame proj steps s).2

/-- An event reference some consumer has received, or that still waits in some
pipeline's inbox, denotes the same event ever after. -/
theorem C07_events_received_immutable (proj : Nat → Nat) (before after : List Step) :
    let s1 := run proj ES.init before
    ∀ sb, sb ∈ s1.subs → ∀ r, (r ∈ sb.out ∨ r ∈ sb.inbox) →
      (run proj ES.init (before ++ after)).heap r = s1.heap r := by
  intro s1 sb hsb r hr
  rw [run_append]
  exact (run_frame proj after _).2 r ((run_inv proj before _ Inv.init).held_lt hsb hr)

/-- An event a lossy Collection subscriber's consumer has received was allocated by that
subscriber's own pipeline: it is not a cell of the bus, and no other subscriber's consumer holds it. -/
theorem C07_events_lossy_private (proj : Nat → Nat) (steps : List Step) :
    let s := run proj ES.init steps
    (s.subs.map (·.idx)).Nodup ∧
    ∀ sb, sb ∈ s.subs → sb.lossy = true → sb.value = false → ∀ r, r ∈ sb.out →
      s.owner r = some sb.idx ∧ (∀ sb', sb' ∈ s.subs → r ∈ sb'.out → sb'.idx = sb.idx) ∧
      (∀ sb', sb' ∈ s.subs → r ∉ sb'.inbox) := by
  intro s
  have hi : Inv s := run_inv proj steps _ Inv.init
  refine ⟨by rw [hi.idx]; exact List.nodup_range, ?_⟩
  intro sb hsb hl hv r hr
  have ho : s.owner r = some sb.idx := by
    rcases (hi.out sb hsb r hr).2 with h | h
    · exact h
    · rw [hl, hv] at h
      rcases h.2.2 with h' | h' <;> exact absurd h' (by decide)
  refine ⟨ho, ?_, ?_⟩
  · intro sb' hsb' hr'
    rcases (hi.out sb' hsb' r hr').2 with h | h
    · rw [ho] at h; exact (Option.some.inj h).symm
    · rw [ho] at h; exact absurd h.1 (by simp)
  · intro sb' hsb' hr'
    have := (hi.inbox sb' hsb' r hr').2
    rw [ho] at this
    exact absurd this (by simp)

/-- The seeded shape — the merger keeps the pointer it got from
the bus and writes `mergeChanges(old, new)` back through it — changes a cell other subscribers hold:
`k: foo→bar` becomes `k: foo→baz` under their feet. -/
theorem C07_events_shared_merge_writes :
    ∃ (h : Nat → Ev) (kept incoming : Nat), mergeInPlace h kept incoming kept ≠ h kept :=
  ⟨fun r => if r = 0 then ⟨.update, 1, some 10, some 11, false⟩ else ⟨.update, 1, some 11, some 12, false⟩, 0, 1, by decide⟩

/-- two unmasked backpressure subscribers receive THE SAME cell (the sharing the theorems are about),
a masked one and a lossy one receive cells of their own -/
example :
    let s := run id ES.init [.sub false false, .sub false false, .sub false true, .sub true false,
      .send ⟨.add, 1, none, some 5, false⟩, .forward 0, .forward 1, .forward 2, .mergeIn 3, .emit 3]
    s.subs.map (·.out) = [[0], [0], [1], [2]] ∧ s.heap 0 = s.heap 2 := by decide +kernel

/-- a stalled lossy subscriber merges two updates of one id in its private copy; the bus cells the
other subscriber holds are untouched -/
example :
    let s := run id ES.init [.sub false false, .sub true false,
      .send ⟨.update, 1, some 10, some 11, false⟩, .forward 0, .mergeIn 1,
      .send ⟨.update, 1, some 11, some 12, false⟩, .forward 0, .mergeIn 1, .emit 1]
    s.subs.map (·.out) = [[0, 1], [2]] ∧ s.heap 0 = ⟨.update, 1, some 10, some 11, false⟩ ∧
      s.heap 2 = ⟨.update, 1, some 10, some 12, false⟩ := by decide +kernel

/-- an include filter replaces the shared UPDATE by a NEW ADD for its own subscriber; the other subscriber's object
(the bus cell 0) still says UPDATE -/
example :
    let s := run id ES.init [.sub false false, .sub false false,
      .send ⟨.update, 1, some 11, some 12, false⟩, .forward 0, .forwardIncl 1 .toAdd]
    s.subs.map (·.out) = [[0], [1]] ∧ s.heap 0 = ⟨.update, 1, some 11, some 12, false⟩ ∧
      s.heap 1 = ⟨.add, 1, none, some 12, false⟩ := by decide +kernel

/-- include runs BEHIND the merger of a lossy subscriber: two updates of one id are merged in the private copy
(11 → 13), the filter turns the merged event into a NEW REMOVE for its consumer -/
example :
    let s := run id ES.init [.sub false false, .sub true false,
      .send ⟨.update, 1, some 11, some 12, false⟩, .forward 0, .mergeIn 1,
      .send ⟨.update, 1, some 12, some 13, false⟩, .forward 0, .mergeIn 1, .emitIncl 1 .toRemove]
    s.subs.map (·.out) = [[0, 1], [3]] ∧ s.heap 2 = ⟨.update, 1, some 11, some 13, false⟩ ∧
      s.heap 3 = ⟨.remove, 1, some 11, none, false⟩ ∧ s.heap 1 = ⟨.update, 1, some 12, some 13, false⟩ := by decide +kernel

/-- seeds: a subscriber that asks for the current items first is handed events its own Pull goroutine builds, never a
cell of the bus (cell 0) -/
example :
    let s := run id ES.init [.sub false false, .send ⟨.add, 1, none, some 5, false⟩, .forward 0,
      .sub false false, .seed 1 ⟨.add, 1, none, some 5, true⟩, .sub true true, .seed 2 ⟨.add, 1, none, some 5, true⟩]
    s.subs.map (·.out) = [[0], [1], [3]] ∧ s.owner 0 = none ∧ s.owner 1 = some 1 ∧ s.owner 3 = some 2 := by decide +kernel

/-- a Value: `DropExcess` drops the older pending pointer; the lossy consumer then receives the bus's own cell, the
very cell the backpressure consumer received -/
example :
    let s := run id ES.init [.vsub false false, .vsub true false,
      .vsend ⟨.update, 0, none, some 11, false⟩, .forward 0, .vsend ⟨.update, 0, none, some 12, false⟩, .forward 0,
      .dropIn 1, .forward 1]
    s.subs.map (·.out) = [[0, 1], [1]] ∧ s.owner 1 = none ∧ s.heap 0 = ⟨.update, 0, none, some 11, false⟩ := by decide +kernel

end ScVerif.C07.Events
