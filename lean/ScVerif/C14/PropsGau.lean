import ScVerif.C14.GauLemmas
/-!
# C14 — the optimistic write (`resource.GetAndUpdate`) is one atomic register write, or nothing

The register model and the writers model take a successful Update as ONE step `apply cur u` on the value the register
holds at that moment, and a rejected one as no step at all. The code reads, computes without a lock, and re-validates
under the lock (`Gau.lean`). The theorems hold for EVERY write pipeline `change` and EVERY interleaving of any number
of writers' reads and commits; the schedules are those the window family forces (window.go: the harness parks one
Update between its read and its commit while others run to completion).
-/
namespace ScVerif.C14

variable {V U : Type} [DecidableEq V]

/-- every request of `us` succeeds on the atomic register started at `c`, one after the other -/
def AllStore (change : V → U → Except Nat V) : V → List U → Prop
  | _, [] => True
  | c, u :: us => ∃ v, change c u = .ok v ∧ AllStore change v us

/-- The requests whose commit stored a value all succeed on the ATOMIC register,
applied in commit order from the value the register had, and the register ends on exactly the value that produces. -/
theorem C14_gau_refines_atomic_register (change : V → U → Except Nat V) (sched : List (GStep U)) :
    ∀ s : GSt V U,
      AllStore change s.cur (gstored change s sched) ∧
      (grun change s sched).cur = (gstored change s sched).foldl (atomicApply change) s.cur := by
  induction sched with
  | nil => intro s; exact ⟨trivial, rfl⟩
  | cons x xs ih =>
    intro s
    cases x with
    | read w u =>
      have h := ih (gstep change s (.read w u))
      simpa [gstored, grun, gstep] using h
    | commit w =>
      have h := ih (gstep change s (.commit w))
      rcases gstep_commit change s w xs with ⟨hcur, hst⟩ | ⟨g, rest, v, _, hcur, hs, hst⟩ <;> rw [hst, grun]
      · rw [← hcur]; exact h
      · -- the commit stores `v`, which is what the atomic register computes from the value it holds
        rw [hs] at h ⊢
        exact ⟨⟨v, hcur, h.1⟩, h.2.trans (by simp only [List.foldl_cons, atomicApply, hcur])⟩

/-- So an Update answered with ANY error status (its pipeline's, or Aborted)
leaves Get unchanged. -/
theorem C14_gau_register_changes_only_with_ok (change : V → U → Except Nat V) (s : GSt V U) (w : Nat)
    (hne : (gstep change s (.commit w)).cur ≠ s.cur) :
    (gstep change s (.commit w)).log = s.log ++ [(w, .ok (gstep change s (.commit w)).cur)] := by
  rcases gstep_commit change s w [] with ⟨hcur, _⟩ | ⟨g, rest, v, _, _, hs, _⟩
  · exact absurd hcur hne
  · rw [hs]

/-- The read and the lock-free computation of `GetAndUpdate` leave the register and
the answers as they were. -/
theorem C14_gau_reads_change_nothing (change : V → U → Except Nat V) (s : GSt V U) (w : Nat) (u : U) :
    (gstep change s (.read w u)).cur = s.cur ∧ (gstep change s (.read w u)).log = s.log := ⟨rfl, rfl⟩

/-- A writer whose pipeline accepts the request and who finds, at its commit, another
value than the one it read is answered Aborted; nothing else changes. -/
theorem C14_gau_overtaken_writer_aborts (change : V → U → Except Nat V) (s : GSt V U) (w : Nat)
    (g : GWriter V U) (rest : List (GWriter V U)) (v : V)
    (ht : takeWriter w s.inflight = some (g, rest)) (hc : change g.old g.u = .ok v) (hne : g.old ≠ s.cur) :
    gstep change s (.commit w) = { s with inflight := rest, log := s.log ++ [(w, .error aborted)] } := by
  simp [gstep, ht, hc, hne]

/-- The schedule the window sessions force (A reads, B reads and commits, A commits): A is
answered Aborted when B changed the value, and is stored on top of it, with the value computed from what it read, when
B did not. -/
theorem C14_gau_window_schedule (change : V → U → Except Nat V) (c vA vB : V) (uA uB : U)
    (hA : change c uA = .ok vA) (hB : change c uB = .ok vB) :
    let s := grun change ({ cur := c } : GSt V U) [.read 1 uA, .read 2 uB, .commit 2, .commit 1]
    (vB ≠ c → s.cur = vB ∧ s.log = [(2, .ok vB), (1, .error aborted)]) ∧
    (vB = c → s.cur = vA ∧ s.log = [(2, .ok vB), (1, .ok vA)]) := by
  constructor
  · intro hne
    have hne' : ¬ c = vB := fun h => hne h.symm
    -- B commits on the value it read and is stored; A then finds `vB` where it read `c`: Aborted
    simp [grun, gstep, takeWriter, hA, hB, hne']
  · intro heq
    subst heq
    -- B stores the value that was there: A's re-validation compares values and passes
    simp [grun, gstep, takeWriter, hA, hB]

/-- non-vacuity: increments on a counter; the overtaken writer is rejected and the register keeps the other's value -/
example : (grun (fun (c u : Nat) => (.ok (c + u) : Except Nat Nat)) ({ cur := 5 } : GSt Nat Nat)
    [.read 1 10, .read 2 20, .commit 2, .commit 1]).cur = 25 := by decide +kernel

/-- … and without overlap both are stored -/
example : (grun (fun (c u : Nat) => (.ok (c + u) : Except Nat Nat)) ({ cur := 5 } : GSt Nat Nat)
    [.read 2 20, .commit 2, .read 1 10, .commit 1]).cur = 35 := by decide +kernel

/-! The window family's resend+open case: the re-validation of `GetAndUpdate` compares VALUES, so any number of writers
that read and commit a request leaving the value as it is (clients re-sending the current state) between the held
writer's read and its commit do not abort it. -/

/-- heartbeat writers: each reads and commits, one after the other -/
def heartbeats (hs : List (Nat × U)) : List (GStep U) := hs.flatMap fun h => [.read h.1 h.2, .commit h.1]

/-- Afterwards the register still holds `c` and `g` is still the one writer in
flight (only the log of answers has grown). -/
theorem C14_gau_heartbeats_keep_held_writer (change : V → U → Except Nat V) (c : V) (g : GWriter V U)
    (rest : List (GStep U)) (hs : List (Nat × U)) :
    (∀ h, h ∈ hs → h.1 ≠ g.id ∧ change c h.2 = .ok c) →
    ∀ L : List (Nat × Except Nat V), ∃ L',
      grun change { cur := c, inflight := [g], log := L } (heartbeats hs ++ rest)
        = grun change { cur := c, inflight := [g], log := L' } rest := by
  induction hs with
  | nil => intro _ L; exact ⟨L, by simp [heartbeats]⟩
  | cons h hs ih =>
    intro hh L
    have h1 := hh h List.mem_cons_self
    have hne : ¬ g.id = h.1 := fun e => h1.1 e.symm
    obtain ⟨L', hL'⟩ := ih (fun x hx => hh x (List.mem_cons_of_mem _ hx)) (L ++ [(h.1, .ok c)])
    refine ⟨L', ?_⟩
    rw [← hL']
    -- the heartbeat's commit takes its own entry (`hne`: not the held writer's) and stores `c` again (`h1.2`)
    simp [heartbeats, List.flatMap_cons, grun, gstep, takeWriter, hne, h1.2]

/-- Clients re-sending the current state while an Update is parked between its read
and its commit do not make it fail: it is stored with the value computed from what it read. -/
theorem C14_gau_heartbeats_do_not_abort (change : V → U → Except Nat V) (c vA : V) (uA : U) (a : Nat)
    (hs : List (Nat × U)) (hA : change c uA = .ok vA)
    (hh : ∀ h, h ∈ hs → h.1 ≠ a ∧ change c h.2 = .ok c) :
    (grun change ({ cur := c } : GSt V U) (.read a uA :: (heartbeats hs ++ [.commit a]))).cur = vA := by
  obtain ⟨L', hL'⟩ := C14_gau_heartbeats_keep_held_writer change c ⟨a, uA, c⟩ [.commit a] hs hh []
  simp only [grun, gstep, List.nil_append]
  rw [hL']
  simp [grun, gstep, takeWriter, hA]

/-- non-vacuity: two heartbeats (request 0 = leave the value), then the held writer's 7 is stored -/
example : (grun (fun (c u : Nat) => (.ok (if u = 0 then c else u) : Except Nat Nat)) ({ cur := 5 } : GSt Nat Nat)
    (.read 1 7 :: (heartbeats [(2, 0), (3, 0)] ++ [.commit 1]))).cur = 7 := by decide +kernel

end ScVerif.C14
