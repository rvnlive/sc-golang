import ScVerif.C14.Server
/-!
The register server run as a **trace acceptor**.  Values and masks are opaque identifiers (the
harness interns message contents); the projection is a table of facts the harness supplies
(`proj m v = p`, computed by its own independent projection).  The Update response is taken as
the oracle for the arbitrary `apply`; every later observation must be the one the model forces.
`eqv` is unknown to the acceptor, so an event whose projected value equals the previous projected
value MAY be suppressed (optional entry); one that differs MUST arrive.
-/
namespace ScVerif.C14

abbrev VId := Nat
abbrev MId := Nat   -- 0 = nil mask

structure Entry where
  val : VId
  must : Bool
  seed : Bool
  deriving DecidableEq, Repr

structure AStream where
  mask : MId
  queue : List Entry
  live : Bool
  /-- the server-side subscription is known to exist and its reader keeps up: a seeded stream proves it with its seed, an
  updates_only stream with its first message (the Pull RPC returns before the handler subscribes, so until then an
  Update may be missed) or with the observation `estab`; `stall` clears the flag, `resume` sets it again -/
  established : Bool
  /-- the last message this stream delivered (seed included) -/
  lastSeen : Option VId := none
  /-- the register (0 = the single register of an unkeyed resource; otherwise the item's id) this stream is bound to -/
  key : Nat := 0
  /-- the item was deleted: the stream has to END (PullID returns on REMOVE) -/
  ending : Bool := false

structure Acc where
  /-- key ↦ register value (absent: unknown yet / no such item) -/
  regs : List (Nat × VId) := []
  streams : List AStream
  facts : List ((MId × VId) × VId)
  /-- background mode: an accepted Update started server-side writes (a tween); until the harness reports
  quiescence, stream messages and intermediate values are not constrained, `regs` holds where the register
  has to END: the background job's target, or the response of a later Update that interrupted it -/
  bg : Bool := false

def Acc.init : Acc := { streams := [], facts := [] }

def Acc.curOf (a : Acc) (k : Nat) : Option VId := (a.regs.find? (·.1 = k)).map (·.2)

def Acc.setCur (a : Acc) (k : Nat) (v : VId) : Acc := { a with regs := (k, v) :: a.regs.filter (·.1 ≠ k) }

def Acc.delCur (a : Acc) (k : Nat) : Acc := { a with regs := a.regs.filter (·.1 ≠ k) }

/-- projection by table; `none` when the harness did not supply the fact -/
def Acc.proj (a : Acc) (m : MId) (v : VId) : Option VId :=
  if m = 0 then some v else (a.facts.find? (fun f => f.1 = (m, v))).map (·.2)

inductive Obs
  | fact (m : MId) (v p : VId)
  | get (k : Nat) (m : MId) (w : VId)
  | getnf (k : Nat)              -- Get answered NotFound
  | updok (k : Nat) (v : VId)    -- also Create
  | upderr
  | updlate (k : Nat) (v : VId)  -- two writers: an Update STORED before the current value was, ANNOUNCED only now
  | delete (k : Nat)             -- the item was deleted: its streams must end
  | ended (i : Nat)              -- stream i ended (without being cancelled)
  | updokbg (k : Nat) (v target : VId)   -- Update accepted, background writes started; `target`: where they end
  | quiesce                    -- the harness waited past the background job's deadline and drained
  | open_ (k : Nat) (m : MId) (uo : Bool)
  | recv (i : Nat) (w : VId) (nameOk : Bool)
  | idle (i : Nat)
  | close (i : Nat)
  | stall (i : Nat)       -- the reader of stream i stops calling Recv: it no longer keeps up, nothing is owed to it
  | estab (i : Nat)       -- the subscription of stream i is KNOWN to exist before the next write: the harness saw its listener(s) in the snapshot `Bus.Send` took for that write (first.go), so the write's event was handed to it
  | resume (i : Nat)      -- the reader of stream i has read what was waiting for it and keeps up again: the stream has to have ENDED on the register (`quiesce`)
  | bad (cls : String)    -- panics, errors on Get/open: never produced by the model

inductive Verdict
  | ok
  | reject (cls : String)
  | missingFact
  deriving DecidableEq, Repr

def setAt {α : Type} (l : List α) (i : Nat) (f : α → α) : List α := l.mapIdx fun j x => if j = i then f x else x

/-- drop optional entries at the head that are not `w` -/
def skipOptional (w : VId) : List Entry → List Entry
  | [] => []
  | e :: rest => if !e.must && e.val ≠ w then skipOptional w rest else e :: rest

/-- an Update response reaches a stream's expectation queue: `w` its projected value, `wp` the previous one -/
def qPush (q : List Entry) (w wp : VId) (established : Bool) : List Entry :=
  q ++ [{ val := w, must := w ≠ wp && established, seed := false }]

/-- a message `w` arrives on a stream with expectation queue `q` -/
def qRecv (q : List Entry) (w : VId) (nameOk : Bool) : List Entry × Verdict :=
  match skipOptional w q with
  | [] => ([], .reject "Pull/unexpected-stream-message")
  | e :: rest =>
    if e.val ≠ w then (rest, .reject (if e.seed then "Pull/seed-wrong" else "Pull/wrong-stream-value"))
    else if !nameOk then (rest, .reject "Pull/wrong-name")
    else (rest, .ok)

/-- the reader found the stream idle: nothing that MUST arrive may be outstanding -/
def qIdle (q : List Entry) : Verdict :=
  match q.find? (·.must) with
  | none => .ok
  | some e => .reject (if e.seed then "Pull/seed-missing" else "Pull/update-missing-on-stream")

def pushEntry (a : Acc) (k : Nat) (prev : Option VId) (v : VId) (s : AStream) : Option AStream :=
  if !s.live || s.key ≠ k then some s else
  match a.proj s.mask v with
  | none => none
  | some w =>
    match prev with
    | none => some { s with queue := s.queue ++ [{ val := w, must := s.established, seed := false }] }
    | some p =>
      match a.proj s.mask p with
      | none => none
      | some wp => some { s with queue := qPush s.queue w wp s.established }

def accept (a : Acc) : Obs → Acc × Verdict
  | .fact m v p => ({ a with facts := ((m, v), p) :: a.facts }, .ok)
  | .get k m w =>
    match a.curOf k with
    | none => if m = 0 then (a.setCur k w, .ok) else (a, .ok)
    | some c =>
      match a.proj m c with
      | none => (a, .missingFact)
      | some p =>
        if p = w then (a, .ok)
        else (a, .reject (if m = 0 then "Get/differs-from-register" else "Get/masked-get-not-projection"))
  | .getnf k =>
    match a.curOf k with
    | none => (a, .ok)
    | some _ => (a, .reject "Get/not-found-for-existing-item")
  | .updokbg k _ target =>
    ({ a.setCur k target with bg := true, streams := a.streams.map fun s => { s with queue := [] } }, .ok)
  | .quiesce =>
    -- every live, established stream must have ENDED on its register's value
    match a.streams.mapM (fun s =>
        match a.curOf s.key with
        | none => some true
        | some c => if s.live && s.established then (a.proj s.mask c).map (fun p => s.lastSeen == some p) else some true) with
    | none => (a, .missingFact)
    | some oks =>
      if oks.all id then ({ a with bg := false }, .ok)
      else ({ a with bg := false }, .reject "Pull/stream-does-not-end-on-register")
  | .updok k v =>
    if a.bg then (a.setCur k v, .ok) else
    match a.streams.mapM (pushEntry a k (a.curOf k) v) with
    | none => (a, .missingFact)
    | some ss => ({ a.setCur k v with streams := ss }, .ok)
  | .updlate k v =>
    -- the overtaken writer of two (held between `store` and `send`, Writers.lean): the register keeps the later
    -- store, the event reaches every stream of the register now, compared with the later value (sent before it)
    match a.streams.mapM (pushEntry a k (a.curOf k) v) with
    | none => (a, .missingFact)
    | some ss => ({ a with streams := ss }, .ok)
  | .upderr => (a, .ok)
  | .delete k =>
    ({ a.delCur k with streams := a.streams.map fun s => if s.live && s.key = k then { s with ending := true } else s }, .ok)
  | .ended i =>
    match a.streams[i]? with
    | none => (a, .reject "Pull/stream-ended")
    | some s =>
      if s.ending then ({ a with streams := setAt a.streams i fun s => { s with live := false, ending := false } }, .ok)
      else (a, .reject "Pull/stream-ended")
  | .open_ k m uo =>
    match a.curOf k, uo with
    | some c, false =>
      match a.proj m c with
      | none => (a, .missingFact)
      | some p => ({ a with streams := a.streams ++ [{ mask := m, queue := [{ val := p, must := true, seed := true }], live := true, established := true, key := k }] }, .ok)
    | _, _ => ({ a with streams := a.streams ++ [{ mask := m, queue := [], live := true, established := false, key := k }] }, .ok)
  | .recv i w nameOk =>
    match a.streams[i]? with
    | none => (a, .reject "Pull/unexpected-stream-message")
    | some s =>
      if a.bg then
        -- background mode: any value may pass by; only the name is checked
        ({ a with streams := setAt a.streams i fun s => { s with established := true, lastSeen := some w } },
          if nameOk then .ok else .reject "Pull/wrong-name")
      else
      let r := qRecv s.queue w nameOk
      ({ a with streams := setAt a.streams i fun s => { s with queue := r.1, established := s.established || r.2 == .ok, lastSeen := some w } }, r.2)
  | .idle i =>
    match a.streams[i]? with
    | none => (a, .ok)
    | some s =>
      if s.ending then (a, .reject "Pull/not-ended-after-delete") else
      match qIdle s.queue with
      | .ok => (a, .ok)
      | v => ({ a with streams := setAt a.streams i fun s => { s with queue := [] } }, v)
  | .close i => ({ a with streams := setAt a.streams i fun s => { s with live := false, queue := [] } }, .ok)
  | .stall i =>
    -- "whose reader keeps up" no longer applies: every value announced from now on is an optional entry (the resource
    -- keeps only the latest value for a slow subscriber: the one-slot buffer of `Bus.lean`, any subsequence may arrive later)
    ({ a with streams := setAt a.streams i fun s => { s with established := false } }, .ok)
  | .estab i =>
    -- an updates-only stream that has delivered nothing yet, but whose listener is on the bus: from now on every
    -- value-changing write is owed to it, the very first one included (whatever its value: `C14_first_update_delivered`)
    ({ a with streams := setAt a.streams i fun s => { s with established := true } }, .ok)
  | .resume i =>
    -- the reader has caught up: nothing announced during the stall is expected any more; the subscription exists (it
    -- delivered before the stall): the stream is judged again, `quiesce` requires it to have ended on the register
    ({ a with streams := setAt a.streams i fun s => { s with established := true, queue := [] } }, .ok)
  | .bad cls => (a, .reject cls)

end ScVerif.C14
