import ScVerif.C14.Keyed
/-!
C14 — hailpb.Model's collector of arrived hails on top of the keyed family (pkg/trait/hailpb/model.go).

  CreateHail:  defer m.gc();  hails.Add(…)
  UpdateHail:  hails.Update(id, …)                    -- no collector
  gc():        if keepAlive < 0 return; take the ticket or return; (the ticket comes back after keepAlive)
               for every hail with arrive_time before now-keepAlive: hails.Delete(id, WithAllowMissing, WithExpectedValue)

`old v` abstracts "arrive_time of v lies further back than the keep-alive" (any predicate); `keys` the ids the
collection lists; `rearm` is the timer putting the ticket back. `gcOnUpdate` is the seeded variant C14-11.

`gstep` / `grun` (and `GSrv`, `GReq`) here are the collector's; Gau.lean declares other functions under the same two names
(with `GSt`, `GStep`) in this namespace: no module may import both files.
-/
namespace ScVerif.C14

variable {K V Mask U : Type} [DecidableEq K]

/-- one collector run: a Delete (allow_missing) of every listed item that is old -/
def collect (C : KCfg V Mask U) (old : V → Bool) (keys : List K) (s : KSrv K V Mask) : KSrv K V Mask :=
  keys.foldl (fun s k =>
    match s.regs k with
    | some v => if old v then (kstep C s (.delete k true)).1 else s
    | none => s) s

structure GSrv (K V Mask : Type) where
  k : KSrv K V Mask
  ticket : Bool

inductive GReq (K Mask U : Type)
  | req (r : KReq K Mask U)
  | rearm

/-- does the request end with a (deferred) collector call? -/
def runsGc (gcOnUpdate : Bool) : KReq K Mask U → Bool
  | .create _ _ => true
  | .update _ _ _ => gcOnUpdate
  | _ => false

def gstep (C : KCfg V Mask U) (old : V → Bool) (keys : List K) (gcOnUpdate : Bool) (s : GSrv K V Mask) :
    GReq K Mask U → GSrv K V Mask × Resp V
  | .rearm => ({ s with ticket := true }, .done)
  | .req r =>
    let o := kstep C s.k r
    if runsGc gcOnUpdate r && s.ticket then ({ k := collect C old keys o.1, ticket := false }, o.2)
    else ({ s with k := o.1 }, o.2)

def grun (C : KCfg V Mask U) (old : V → Bool) (keys : List K) (b : Bool) : GSrv K V Mask → List (GReq K Mask U) → GSrv K V Mask
  | s, [] => s
  | s, r :: rs => grun C old keys b (gstep C old keys b s r).1 rs

/-- the request is not a Create and does not write `k` (rearm included) -/
def GReq.quiet (k : K) : GReq K Mask U → Bool
  | .rearm => true
  | .req (.create _ _) => false
  | .req r => !r.writes k

end ScVerif.C14
