import ScVerif.Generated.C14Facts
/-!
# C14 — table regenerated from the source tree on every run (K3): server constructors

`ScVerif/Generated/C14Facts.lean` is written by `harness/cmd/c14 -facts` from `/repo`'s current
sources before this file is built. Only DISCOVERY is syntactic (which constructors exist); how a
server method translates its request is not matched syntactically — that is established
behaviourally, per discovered triple, by the trace acceptor and its scenario families.
-/
namespace ScVerif.C14
open ScVerif.Generated.C14

/-- Every server implementation over a resource present in the source
tree (a `New…` constructor of a `pkg/trait` package returning a struct that embeds a generated
`Unimplemented…ApiServer` and holds a resource or a model) is a row of the table of stacks the
acceptor drives: a new server cannot be added without being driven. -/
theorem C14_servers_all_driven : ∀ c, c ∈ discoveredServers → c ∈ drivenServers := by
  -- two regenerated tables: evaluation fails exactly when a discovered constructor is not a row of the table of stacks
  decide +kernel

/-- the table is not empty -/
example : discoveredServers.length ≥ 20 := by decide +kernel

end ScVerif.C14
