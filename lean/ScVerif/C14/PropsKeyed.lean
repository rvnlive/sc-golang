import ScVerif.C14.KeyedHist
/-!
# C14 — keyed families of registers (hail, publication, vending stock)

The register theorems lifted pointwise to `id ↦ register`, for every write pipeline, equivalence,
projection and create pipeline, plus the two statements that only make sense for a family: no
cross-talk between ids, and Delete ends the item's streams; last the whole history of one single-item stream
as the fold of its item's events (`C14_keyed_stream_history`).
-/
namespace ScVerif.C14

variable {K V Mask U : Type} [DecidableEq K]

/-- A request that does not write item `k` leaves its register alone. With `krun_other_reg` it stands here, ahead of
the property's theorems, because both are counted among the property's obligations. -/
theorem kstep_other_reg (C : KCfg V Mask U) (s : KSrv K V Mask) (r : KReq K Mask U) (k : K)
    (h : r.writes k = false) : (kstep C s r).1.regs k = s.regs k := by
  rw [kstep_reg, kevent_of_not_writes C s r k h]
  rfl

/-- A session none of whose requests writes item `k` leaves its register alone. -/
theorem krun_other_reg (C : KCfg V Mask U) (k : K) (rs : List (KReq K Mask U)) :
    ∀ s : KSrv K V Mask, (∀ r, r ∈ rs → r.writes k = false) → (krun C s rs).regs k = s.regs k := by
  induction rs with
  | nil => intro s _; rfl
  | cons r rs ih =>
    intro s h
    exact (ih _ fun x hx => h x (List.mem_cons_of_mem _ hx)).trans (kstep_other_reg C s r k (h r List.mem_cons_self))

/-- Read-your-writes per item, across any requests that do not write `k` (writes of
OTHER ids among them). -/
theorem C14_keyed_update_then_get (C : KCfg V Mask U) (s : KSrv K V Mask) (k : K) (name : String) (u : U) (v : V)
    (h : (kstep C s (.update k name u)).2 = .val v)
    (rs : List (KReq K Mask U)) (hrs : ∀ r, r ∈ rs → r.writes k = false) (name' : String) :
    (kstep C (krun C (kstep C s (.update k name u)).1 rs) (.get k name' none)).2 = .val v := by
  have hfin : (krun C (kstep C s (.update k name u)).1 rs).regs k = some v :=
    (krun_other_reg C k rs _ hrs).trans (by rw [kstep_update_val C s k name u v h]; exact if_pos rfl)
  rw [kstep_get C _ k name' none v hfin]
  rfl

/-- A Get of an item with a read mask is the projection of its unmasked Get. -/
theorem C14_keyed_masked_get (C : KCfg V Mask U) (s : KSrv K V Mask) (k : K) (n n' : String) (m : Mask) (v : V)
    (h : (kstep C s (.get k n none)).2 = .val v) :
    (kstep C s (.get k n' (some m))).2 = .val (C.proj m v) := by
  cases hr : s.regs k with
  | none => rw [kstep_get_missing C s k n none hr] at h; cases h
  | some cur => rw [kstep_get C s k n none cur hr] at h; rw [kstep_get C s k n' (some m) cur hr]; cases h; rfl

/-- As `C14_pull_seed`; a Pull of a missing item starts empty. -/
theorem C14_keyed_pull_seed (C : KCfg V Mask U) (s : KSrv K V Mask) (k : K) (name : String) (m : Option Mask) (uo : Bool) :
    let s' := (kstep C s (.pull k name m uo)).1
    s'.regs = s.regs ∧ s'.streams.take s.streams.length = s.streams ∧
    ∃ st, s'.streams[s.streams.length]? = some st ∧ st.key = k ∧ st.s.name = name ∧ st.s.mask = m ∧ st.s.live = true ∧
      st.s.out = (match s.regs k with
        | some cur => if uo then [] else [(view C.toCfg m cur, name)]
        | none => []) := by
  intro s'
  refine ⟨rfl, List.take_left, { key := k, s := pullStream C s k name m uo }, List.getElem?_concat_length, rfl, ?_⟩
  unfold pullStream
  cases s.regs k with
  | none => exact ⟨rfl, rfl, rfl, rfl⟩
  | some cur => cases uo <;> exact ⟨rfl, rfl, rfl, rfl⟩

/-- A successful Update of `k` is a `push` on every stream bound to `k`, and every stream bound to another id is left as
it was (no cross-talk on streams). -/
theorem C14_keyed_update_on_streams (C : KCfg V Mask U) (s : KSrv K V Mask) (k : K) (name : String) (u : U) (v : V)
    (h : (kstep C s (.update k name u)).2 = .val v) (i : Nat) (st : KStream K V Mask) (hi : s.streams[i]? = some st) :
    (kstep C s (.update k name u)).1.streams[i]? =
      some (if st.key = k then { st with s := push C.toCfg v st.s } else st) := by
  rw [kstep_update_val C s k name u v h]
  simp only [List.getElem?_map, hi, Option.map_some]
  rfl

/-- An Update of an item that is answered with an error, NotFound for a missing id included, changes nothing. -/
theorem C14_keyed_rejected_frame (C : KCfg V Mask U) (s : KSrv K V Mask) (k : K) (name : String) (u : U) (c : Nat)
    (h : (kstep C s (.update k name u)).2 = .err c) : (kstep C s (.update k name u)).1 = s := by
  rw [kstep_write C s (.update k name u) k (decide_eq_true rfl), kevent_update, h]

/-- A write of id `k` (Update, Create or Delete) leaves the register and the streams of every other id as they were. -/
theorem C14_keyed_no_crosstalk (C : KCfg V Mask U) (s : KSrv K V Mask) (k k' : K) (hk : k' ≠ k) (r : KReq K Mask U)
    (n : String) (u : U) (am : Bool)
    (hr : r = .update k n u ∨ r = .create k u ∨ r = .delete k am) :
    (kstep C s r).1.regs k' = s.regs k' ∧
    ∀ (i : Nat) (st : KStream K V Mask), s.streams[i]? = some st → st.key = k' → (kstep C s r).1.streams[i]? = some st := by
  have hn : r.writes k' = false := by
    rcases hr with rfl | rfl | rfl <;> exact decide_eq_false (Ne.symm hk)
  have hc : ∀ i, r.cancels i = false := by
    rcases hr with rfl | rfl | rfl <;> exact fun _ => rfl
  refine ⟨kstep_other_reg C s r k' hn, fun i st hi hkey => ?_⟩
  rw [kstep_stream C s r i st hi (hc i), hkey, kevent_of_not_writes C s r k' hn, ← hkey]
  rfl

/-- After a successful Delete the item's Get and Update answer NotFound and every
Pull stream of the item has ended (PullID returns on REMOVE). -/
theorem C14_keyed_delete_ends_streams (C : KCfg V Mask U) (s : KSrv K V Mask) (k : K) (am : Bool) (cur : V)
    (hex : s.regs k = some cur) :
    let s' := (kstep C s (.delete k am)).1
    s'.regs k = none ∧ (∀ n m, (kstep C s' (.get k n m)).2 = .err notFound) ∧
    (∀ n u, (kstep C s' (.update k n u)) = (s', .err notFound)) ∧
    ∀ (i : Nat) (st : KStream K V Mask), s.streams[i]? = some st → st.key = k →
      s'.streams[i]? = some { st with s := { st.s with live := false } } := by
  intro s'
  have hs' : s' = { regs := setReg s.regs k none, streams := s.streams.map (kend k) } :=
    congrArg Prod.fst (kstep_delete C s k am cur hex)
  have hreg : s'.regs k = none := by rw [hs']; exact if_pos rfl
  refine ⟨hreg, fun n m => by rw [kstep_get_missing C s' k n m hreg], fun n u => kstep_update_missing C s' k n u hreg,
    fun i st hi hkey => ?_⟩
  rw [hs']
  simp only [List.getElem?_map, hi, Option.map_some, kend, hkey, if_true]

/-- The WHOLE history of a single-item stream, for any session that does not cancel it: the
fold of the events of ITS item in session order (a successful Update or Create is one `push`, a successful Delete ends
it), and nothing else ever touches it. -/
theorem C14_keyed_stream_history {K : Type} [DecidableEq K] (C : KCfg V Mask U) (s : KSrv K V Mask)
    (rs : List (KReq K Mask U)) (i : Nat) (st : KStream K V Mask) (hi : s.streams[i]? = some st)
    (hc : ∀ r, r ∈ rs → r.cancels i = false) :
    (krun C s rs).streams[i]? = some { key := st.key, s := (kevents C st.key s rs).foldl (applyEv C) st.s } :=
  krun_stream C rs s i st hi hc

def exKCfg : KCfg Nat Nat Nat := { exCfg' with init := fun u => if u = 0 then .error 3 else .ok u }
where exCfg' : Cfg Nat Nat Nat :=
  { proj := fun m v => v % m, apply := fun cur u => if u = 0 then .error 3 else .ok (cur + u), eqv := fun l w => l == some w }

example :
    let s := krun exKCfg (⟨fun _ => none, []⟩ : KSrv Nat Nat Nat)
      [.create 1 10, .create 2 20, .pull 1 "a" none false, .pull 2 "b" none false, .update 1 "x" 5, .delete 2 false, .update 2 "x" 1]
    s.regs 1 = some 15 ∧ s.regs 2 = none ∧
      s.streams.map (fun st => (st.key, st.s.out, st.s.live)) = [(1, [(10, "a"), (15, "a")], true), (2, [(20, "b")], false)] := by
  decide +kernel

end ScVerif.C14
