import ScVerif.C14.Masks
import ScVerif.C14.CompositeLemmas
/-!
# C14 — update masks of the composed register (masks.RemovePrefix + masked item merge)

`UpdatePositions` hands the request's update mask to every item write after `masks.RemovePrefix("states", …)`.
The theorems state what that translation is for EVERY mask, and what a masked Update therefore does to the collection.
-/
namespace ScVerif.C14

/-- What one path of the request mask contributes: the list's name alone and `name.*` select
whole items (nothing is contributed). -/
theorem C14_strip_one_cases (pfx : String) :
    stripOne pfx [pfx] = none ∧ stripOne pfx [pfx, "*"] = none ∧
    (∀ f r, f ≠ "*" → stripOne pfx (pfx :: f :: r) = some (f :: r)) ∧
    (∀ f r, stripOne pfx (pfx :: "*" :: f :: r) = some (f :: r)) ∧
    (∀ s r, s ≠ pfx → stripOne pfx (s :: r) = none) := by
  refine ⟨by simp [stripOne], by simp [stripOne], ?_, ?_, ?_⟩
  · intro f r hf
    cases r <;> simp [stripOne, hf]
  · intro f r
    simp [stripOne]
  · intro s r hs
    cases r <;> simp [stripOne, hs]

/-- "No mask" (the items are written whole) exactly when no path contributes; never an
empty non-nil mask (which `FieldUpdater.Merge` reads as "no changes"). -/
theorem C14_remove_prefix_result (pfx : String) (m : Option (List Path)) :
    removePrefix pfx m ≠ some [] ∧
    (removePrefix pfx m = none ↔ m = none ∨ ∃ ps, m = some ps ∧ ∀ p, p ∈ ps → stripOne pfx p = none) ∧
    (∀ ps out, m = some ps → removePrefix pfx m = some out → out = ps.filterMap (stripOne pfx) ∧
      ∀ q, q ∈ out ↔ ∃ p, p ∈ ps ∧ stripOne pfx p = some q) := by
  cases m with
  | none => exact ⟨nofun, ⟨fun _ => Or.inl rfl, fun _ => rfl⟩, nofun⟩
  | some ps =>
    have hr : removePrefix pfx (some ps) = none ∧ ps.filterMap (stripOne pfx) = [] ∨
        removePrefix pfx (some ps) = some (ps.filterMap (stripOne pfx)) ∧ ps.filterMap (stripOne pfx) ≠ [] := by
      simp only [removePrefix]
      cases ps.filterMap (stripOne pfx) <;> simp
    rcases hr with ⟨hr, he⟩ | ⟨hr, hne⟩ <;> rw [hr]
    · exact ⟨nofun, ⟨fun _ => Or.inr ⟨ps, rfl, List.filterMap_eq_nil_iff.mp he⟩, fun _ => rfl⟩, nofun⟩
    · refine ⟨fun h => hne (Option.some.inj h), ⟨nofun, ?_⟩, fun ps' out h ho => ?_⟩
      · rintro (h | ⟨ps', h, hall⟩)
        · cases h
        · cases h
          exact absurd (List.filterMap_eq_nil_iff.mpr hall) hne
      · cases h
        cases ho
        exact ⟨rfl, fun q => List.mem_filterMap⟩

/-- The item an Update writes, for every request mask; without item fields in the mask (no
mask, the list's name, `name.*`, only other fields of the resource) the item IS the written one. -/
theorem C14_update_mask_frame {X : Type} (pfx : String) (reqMask : Option (List Path))
    (old : Option (String → Option X)) (x : String → Option X) :
    (maskFields (removePrefix pfx reqMask) = none → itemMerge pfx reqMask old x = x) ∧
    (∀ l, maskFields (removePrefix pfx reqMask) = some l → ∀ g,
      (g ∈ l → itemMerge pfx reqMask old x g = x g) ∧ (g ∉ l → itemMerge pfx reqMask old x g = old.bind (· g))) := by
  constructor
  · intro h
    simp [itemMerge, maskedMerge, h]
  · intro l h g
    simp only [itemMerge, maskedMerge, h]
    constructor
    · intro hg; simp [hg]
    · intro hg; simp [hg]

/-- The request mask `[name.f]` writes field `f` of the item and nothing else; no mask
and `[name]` write the whole item. -/
theorem C14_update_mask_single_field {X : Type} (pfx f : String) (hf : f ≠ "*")
    (old : Option (String → Option X)) (x : String → Option X) :
    (∀ g, itemMerge pfx (some [[pfx, f]]) old x g = if g = f then x f else old.bind (· g)) ∧
    itemMerge pfx none old x = x ∧ itemMerge pfx (some [[pfx]]) old x = x := by
  have h1 := (C14_strip_one_cases pfx).2.2.1 f [] hf
  refine ⟨?_, by simp [itemMerge, removePrefix, maskFields, maskedMerge], ?_⟩
  · intro g
    simp only [itemMerge, removePrefix, List.filterMap_cons, h1, List.filterMap_nil, List.isEmpty_cons,
      Bool.false_eq_true, if_false, maskFields, maskedMerge, List.mem_singleton]
    by_cases hg : g = f
    · simp [hg]
    · simp [hg]
  · have h2 := (C14_strip_one_cases pfx).1
    simp [itemMerge, removePrefix, h2, maskFields, maskedMerge]

variable {K V Mask U X : Type} [DecidableEq K]

/-- the composed register whose item writes merge through the translated request mask -/
def maskedCfg (pfx : String) (compose : (K → Option (String → Option X)) → V) (proj : Mask → V → V)
    (resolve : U → Except Nat (List (K × (String → Option X)))) (valid : Option (List Path) → Bool)
    (eqv : Option V → V → Bool) :
    CCfg K (String → Option X) (K × (String → Option X)) (Option (List Path)) U V Mask where
  compose := compose
  proj := proj
  resolve := resolve
  keyOf := fun s => s.1
  valid := valid
  merge := fun um old s => itemMerge pfx um old s.2
  eqv := eqv

/-- Through UpdatePositions: a successful Update of ONE item with request mask
`[name.f]` changes field `f` of that item only, and the response composes exactly that collection: the next Get shows
the payload's `f` and the stored values of every other field. -/
theorem C14_composite_masked_update (pfx f : String) (hf : f ≠ "*")
    (compose : (K → Option (String → Option X)) → V) (proj : Mask → V → V)
    (resolve : U → Except Nat (List (K × (String → Option X)))) (valid : Option (List Path) → Bool)
    (eqv : Option V → V → Bool) (b : Bool)
    (s : CSrv K (String → Option X) V Mask) (name : String) (u : U) (k : K) (x : String → Option X) (v : V)
    (hx : resolve u = .ok [(k, x)]) :
    let C := maskedCfg pfx compose proj resolve valid eqv
    (cstep C b s (.update name u (some [[pfx, f]]))).2 = .val v →
    let s' := (cstep C b s (.update name u (some [[pfx, f]]))).1
    v = compose s'.items ∧
    (∀ k', k' ≠ k → s'.items k' = s.items k') ∧
    ∃ it, s'.items k = some it ∧ ∀ g, it g = if g = f then x f else (s.items k).bind (· g) := by
  intro C h s'
  obtain ⟨xs, hxs, hval, hstate, hv⟩ := cstep_update_val C b s name u _ v h
  cases hx.symm.trans hxs
  -- the loop's one write leaves the collection with the merged item under `k`
  have hitems : s'.items = setItem s.items k (itemMerge pfx (some [[pfx, f]]) (s.items k) x) :=
    (congrArg CSrv.items hstate).trans (Option.some.inj (writeAll_closed C _ _ hval s).2.1).symm
  refine ⟨hv.trans (congrArg (fun t : CSrv K (String → Option X) V Mask => compose t.items) hstate.symm),
    fun k' hk => ?_, _, ?_, (C14_update_mask_single_field pfx f hf (s.items k) x).1⟩
  · rw [hitems]; exact if_neg hk
  · rw [hitems]; exact if_pos rfl

example : removePrefix "states" (some [["states", "open_percent"], ["preset"], ["states", "*", "direction"], ["states"]])
    = some [["open_percent"], ["direction"]] := by decide +kernel

example : removePrefix "states" (some [["states"], ["preset", "name"]]) = none := by decide +kernel

example : itemMerge "states" (some [["states", "a"]]) (some fun g => if g = "b" then some 1 else none)
    (fun g => if g = "a" then some 2 else if g = "b" then some 3 else none) "b" = some 1 := by decide +kernel

end ScVerif.C14
