/-!
C14 — the router of the full stack when it creates its clients on first use
(pkg/router/router.go `(*router).Get` with `WithFactory`, reached from every generated `ApiRouter.GetX/UpdateX/PullX`
through `GetXxxApiClient`; configured with the generated `WithXxxApiClientFactory`).

  Get(name):
     RLock; child, exists := registry[name]; RUnlock            -- step `lookup`
     if !exists { child, exists = factory(name) }               -- step `factory`: NO lock held, a NEW client each call
     if created {
        Lock; child2, exists2 := registry[name]                 -- step `insert`: check again
        if exists2 { child = child2 } else { registry[name] = child }
        Unlock }
     return child

Requests for ONE name; every request runs these steps, a schedule is any interleaving. `served` records, per
request, the client `Get` returned — the device that request is executed on. `keepOwn` is the seeded variant C14-12
(the loser of the race keeps the client it created).
-/
namespace ScVerif.C14

/-- the devices behind the router: client id ↦ state; a request is executed on the client `Get` returned -/
def execOn {S R : Type} (stepOn : S → R → S) (devs : Nat → S) : List (Nat × R) → Nat → S
  | [] => devs
  | (c, r) :: rest => execOn stepOn (fun d => if d = c then stepOn (devs c) r else devs d) rest

def runOn {S R : Type} (stepOn : S → R → S) : S → List R → S
  | s, [] => s
  | s, r :: rs => runOn stepOn (stepOn s r) rs

inductive RPhase
  | missed
  | created (c : Nat)
  deriving DecidableEq

structure RState where
  /-- the client remembered for the name -/
  registry : Option Nat
  /-- requests inside `Get`: request id ↦ phase -/
  inflight : List (Nat × RPhase)
  /-- request id ↦ the client `Get` returned to it -/
  served : List (Nat × Nat)
  /-- the factory builds a new device on every call -/
  fresh : Nat
  deriving DecidableEq

inductive RStep
  | lookup (r : Nat)
  | factory (r : Nat)
  | insert (r : Nat)

def phaseOf (r : Nat) (l : List (Nat × RPhase)) : Option RPhase := (l.find? (·.1 = r)).map (·.2)

def rstep (keepOwn : Bool) (s : RState) : RStep → RState
  | .lookup r =>
    match phaseOf r s.inflight with
    | some _ => s
    | none =>
      match s.registry with
      | some c => { s with served := (r, c) :: s.served }
      | none => { s with inflight := (r, .missed) :: s.inflight }
  | .factory r =>
    match phaseOf r s.inflight with
    | some .missed => { s with inflight := (r, .created s.fresh) :: s.inflight.filter (·.1 ≠ r), fresh := s.fresh + 1 }
    | _ => s
  | .insert r =>
    match phaseOf r s.inflight with
    | some (.created c) =>
      match s.registry with
      | some c2 => { s with inflight := s.inflight.filter (·.1 ≠ r), served := (r, if keepOwn then c else c2) :: s.served }
      | none => { s with registry := some c, inflight := s.inflight.filter (·.1 ≠ r), served := (r, c) :: s.served }
    | _ => s

def rrun (keepOwn : Bool) : RState → List RStep → RState
  | s, [] => s
  | s, x :: xs => rrun keepOwn (rstep keepOwn s x) xs

end ScVerif.C14
