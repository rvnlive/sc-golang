import ScVerif.C14.Server
/-!
C14 — concurrent clients on one register: `resource.Value.set` as the TWO steps it is.

  set(value, request):
     GetAndUpdate(&mu, …)            -- STORE: read, apply, re-check and save under the write lock: `r.value = newValue`
     -- no lock is held from here on --
     bus.Send(ValueChange{newValue}) -- SEND: every Pull goroutine filters / compares / forwards the event
     return newValue                 -- the response

Any number of writers run these two steps each; a schedule is ANY interleaving of their steps (a writer's
`send` only does something once it has stored: it takes the writer's oldest stored-but-unannounced value).
The successful `GetAndUpdate` is one atomic step: its optimistic read is re-validated under the lock and the
loser is rejected with Aborted — a rejected write stores and announces nothing (`apply … = error`).

`skipOvertaken` is the seeded variant C14-10 (an event is dropped when a later store has replaced the value).
-/
namespace ScVerif.C14

/-- a stored value whose event has not been sent yet -/
structure Pending (V : Type) where
  writer : Nat
  /-- ordinal of the store (1, 2, …) -/
  seq : Nat
  val : V

structure WSrv (V Mask : Type) where
  cur : V
  streams : List (Stream V Mask)
  /-- stored, not yet announced, in store order -/
  pending : List (Pending V)
  /-- number of successful stores so far: the value the register holds came from the store with this ordinal -/
  nstores : Nat

inductive WStep (U : Type)
  | store (w : Nat) (u : U)
  | send (w : Nat)

variable {V Mask U : Type}

/-- the oldest unannounced value of writer `w`, and the others -/
def takePending (w : Nat) : List (Pending V) → Option (Pending V × List (Pending V))
  | [] => none
  | p :: ps =>
    if p.writer = w then some (p, ps)
    else match takePending w ps with
      | none => none
      | some (q, r) => some (q, p :: r)

def wstep (C : Cfg V Mask U) (skipOvertaken : Bool) (s : WSrv V Mask) : WStep U → WSrv V Mask
  | .store w u =>
    match C.apply s.cur u with
    | .error _ => s
    | .ok v => { s with cur := v, nstores := s.nstores + 1, pending := s.pending ++ [⟨w, s.nstores + 1, v⟩] }
  | .send w =>
    match takePending w s.pending with
    | none => s
    | some (p, rest) =>
      if skipOvertaken && p.seq != s.nstores then { s with pending := rest }
      else { s with pending := rest, streams := s.streams.map (push C p.val) }

def wrun (C : Cfg V Mask U) (b : Bool) : WSrv V Mask → List (WStep U) → WSrv V Mask
  | s, [] => s
  | s, x :: xs => wrun C b (wstep C b s x) xs

/-- the values successfully stored along a schedule, in store order (each is the response of its writer) -/
def storedOf (C : Cfg V Mask U) (b : Bool) : WSrv V Mask → List (WStep U) → List V
  | _, [] => []
  | s, .store w u :: xs =>
    match C.apply s.cur u with
    | .error _ => storedOf C b (wstep C b s (.store w u)) xs
    | .ok v => v :: storedOf C b (wstep C b s (.store w u)) xs
  | s, .send w :: xs => storedOf C b (wstep C b s (.send w)) xs

/-- the values announced (sent to the bus) along a schedule, in send order -/
def sentOf (C : Cfg V Mask U) (b : Bool) : WSrv V Mask → List (WStep U) → List V
  | _, [] => []
  | s, .store w u :: xs => sentOf C b (wstep C b s (.store w u)) xs
  | s, .send w :: xs =>
    match takePending w s.pending with
    | none => sentOf C b (wstep C b s (.send w)) xs
    | some (p, _) =>
      if b && p.seq != s.nstores then sentOf C b (wstep C b s (.send w)) xs
      else p.val :: sentOf C b (wstep C b s (.send w)) xs

def pvals (l : List (Pending V)) : List V := l.map (·.val)

/-- every `send` announces the OLDEST stored value there is (the order of the stores is the order of the sends) -/
def Fifo (C : Cfg V Mask U) (b : Bool) : WSrv V Mask → List (WStep U) → Prop
  | _, [] => True
  | s, .store w u :: xs => Fifo C b (wstep C b s (.store w u)) xs
  | s, .send w :: xs => (∀ p ps, s.pending = p :: ps → p.writer = w) ∧ Fifo C b (wstep C b s (.send w)) xs

end ScVerif.C14
