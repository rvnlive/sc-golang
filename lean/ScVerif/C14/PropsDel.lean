import ScVerif.C14.DelLemmas
/-!
# C14 — a Delete next to concurrent Updates of the same item (`Collection.Delete`)

For EVERY interleaving of a Delete's read and commit attempts with any number of complete Updates of the item: a Delete
never removes (or announces, or answers with) a value it was overtaken on.
-/
namespace ScVerif.C14

variable {V : Type} [DecidableEq V]

/-- When the Delete is answered OK with `v`, `v` is the LAST value the
item held, and the bus announced every stored value in order and then REMOVE with exactly `v`. -/
theorem C14_delete_removes_the_value_it_announces (v0 : V) (sched : List (DStep V)) (v : V)
    (hok : (drun (dinit v0) sched).answer = some (.ok v)) :
    let s := drun (dinit v0) sched
    s.item = none ∧ s.hist.getLast? = some v ∧ s.events = s.hist.tail.map .upd ++ [.removed v] := by
  rcases (drun_inv sched (dinit v0) (dinit_inv v0)).cases with ⟨_, _, _, _, _, hno⟩ | ⟨w, hi, h1, h2, h3⟩
  · exact absurd hok (hno v)
  · cases Option.some.inj (hok.symm.trans h3)
    exact ⟨hi, h1, h2⟩

/-- As long as the Delete has not been answered OK (not yet answered, NotFound,
Unavailable after five overtaken attempts) the item is there and no REMOVE was announced. -/
theorem C14_rejected_delete_leaves_the_item (v0 : V) (sched : List (DStep V))
    (hno : ∀ v, (drun (dinit v0) sched).answer ≠ some (.ok v)) :
    let s := drun (dinit v0) sched
    ∃ n v, s.item = some (n, v) ∧ s.hist.getLast? = some v ∧ s.events = s.hist.tail.map .upd := by
  rcases (drun_inv sched (dinit v0) (dinit_inv v0)).cases with ⟨n, w, hi, h1, h2, _⟩ | ⟨w, _, _, _, h3⟩
  · exact ⟨n, w, hi, h1, h2⟩
  · exact absurd h3 (hno w)

/-- The schedule the keyed window sessions force (the Delete reads, an Update of the item
runs to completion, the Delete goes on): the second commit attempt removes the UPDATED item. -/
theorem C14_delete_window_schedule (v0 v : V) :
    let s := drun (dinit v0) [.dread, .store v, .dcommit, .dcommit]
    s.item = none ∧ s.answer = some (.ok v) ∧ s.events = [.upd v, .removed v] ∧ s.attempts = 1 := by
  -- the store gives the item a new version, so the first commit re-reads (attempt 1) and the second finds what it read
  simp [drun, dstep, dinit]

/-- non-vacuity: five Updates overtake the Delete five times: Unavailable, the item stays, no REMOVE -/
example : (drun (dinit (0 : Nat)) [.dread, .store 1, .dcommit, .store 2, .dcommit, .store 3, .dcommit, .store 4, .dcommit,
    .store 5, .dcommit]).answer = some (.error 14) := rfl

end ScVerif.C14
