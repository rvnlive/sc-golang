import ScVerif.C14.Keyed
/-!
C14 — keyed families behind an ID INTERCEPTOR (`resource.WithIDInterceptor`): one item, many spellings of its id.

`pkg/resource/collection.go`: `Get`, `Update` (and `Add` = `Update` with create options), `Delete` and `PullID` all
start with `id = c.idInterceptor(id)` and use that ONE variable for everything that follows:

  Get(id)      looks `byId[id]` up
  Update(id)   reads / stores `byId[id]` and publishes `CollectionChange{Id: id, NewValue: v}`
  Delete(id)   removes `byId[id]` and publishes `CollectionChange{Id: id, ChangeType: REMOVE}`
  PullID(id)   subscribes to the collection's changes (seeds included) and, change by change:
                 `if change.Id != id { continue }`; REMOVE → return (the channel closes); else forward `NewValue`

The model keeps the two halves of a write apart, as the code does: the write produces a CHANGE carrying an id
(`SChange`), and every open single-item stream decides by comparing that id with the id IT holds (`sdeliver`).
That the two ids are images of the same interceptor is what makes an Update under one spelling reach a stream opened
under another: `sstep_refines` proves the spelled server equal, request by request, to the keyed server of Keyed.lean on
the interceptor's images. The interceptor is an arbitrary function: nothing assumes it idempotent (the code applies it
exactly once to every id it is given).
-/
namespace ScVerif.C14

structure SCfg (S V Mask U : Type) extends KCfg V Mask U where
  /-- `resource.WithIDInterceptor` -/
  icpt : S → S

/-- a `CollectionChange` as `PullID` reads it: the id it carries, the new value (`none`: ChangeType REMOVE) -/
structure SChange (S V : Type) where
  id : S
  newValue : Option V

variable {S V Mask U : Type} [DecidableEq S]

/-- the body of PullID's loop for one change; `st.key` is the variable `id` of PullID (the interceptor's image of the
id in the Pull request) -/
def sdeliver (C : SCfg S V Mask U) (ch : SChange S V) (st : KStream S V Mask) : KStream S V Mask :=
  if st.key ≠ ch.id then st
  else
    match ch.newValue with
    | none => { st with s := { st.s with live := false } }
    | some v => { st with s := push C.toCfg v st.s }

/-- publish: every subscription sees the change -/
def spublish (C : SCfg S V Mask U) (ch : SChange S V) (sts : List (KStream S V Mask)) : List (KStream S V Mask) :=
  sts.map (sdeliver C ch)

/-- one request, the id spelled as the caller likes -/
def sstep (C : SCfg S V Mask U) (s : KSrv S V Mask) : KReq S Mask U → KSrv S V Mask × Resp V
  | .get id _ m =>
    let id := C.icpt id
    match s.regs id with
    | none => (s, .err notFound)
    | some v => (s, .val (view C.toCfg m v))
  | .update id _ u =>
    let id := C.icpt id
    match s.regs id with
    | none => (s, .err notFound)
    | some cur =>
      match C.apply cur u with
      | .error c => (s, .err c)
      | .ok v => ({ regs := setReg s.regs id (some v), streams := spublish C ⟨id, some v⟩ s.streams }, .val v)
  | .create id u =>
    let id := C.icpt id
    match s.regs id with
    | some _ => (s, .err alreadyExists)
    | none =>
      match C.init u with
      | .error c => (s, .err c)
      | .ok v => ({ regs := setReg s.regs id (some v), streams := spublish C ⟨id, some v⟩ s.streams }, .val v)
  | .delete id allowMissing =>
    let id := C.icpt id
    match s.regs id with
    | none => (s, if allowMissing then .done else .err notFound)
    | some _ => ({ regs := setReg s.regs id none, streams := spublish C ⟨id, none⟩ s.streams }, .done)
  | .pull id name m uo =>
    let id := C.icpt id
    ({ s with streams := s.streams ++ [{ key := id, s := pullStream C.toKCfg s id name m uo }] }, .opened s.streams.length)
  | .cancel i =>
    ({ s with streams := s.streams.mapIdx fun j st => if j = i then { st with s := { st.s with live := false } } else st }, .done)

/-- `NewCollection`: every initial record (`WithInitialRecord(id, v)`) is kept under the interceptor's image of its id
(two records with one image make NewCollection panic: `sinitOk`); no streams yet -/
def sinit (C : SCfg S V Mask U) (recs : List (S × V)) : KSrv S V Mask :=
  { regs := fun k => (recs.find? fun kv => C.icpt kv.1 = k).map (·.2), streams := [] }

/-- NewCollection does not panic: the images of the configured ids are pairwise different -/
def sinitOk (C : SCfg S V Mask U) (recs : List (S × V)) : Prop :=
  (recs.map fun kv => C.icpt kv.1).Nodup

def srun (C : SCfg S V Mask U) : KSrv S V Mask → List (KReq S Mask U) → KSrv S V Mask
  | s, [] => s
  | s, r :: rs => srun C (sstep C s r).1 rs

/-- the responses of a session, in order -/
def sresps (C : SCfg S V Mask U) : KSrv S V Mask → List (KReq S Mask U) → List (Resp V)
  | _, [] => []
  | s, r :: rs => (sstep C s r).2 :: sresps C (sstep C s r).1 rs

def kresps (C : KCfg V Mask U) : KSrv S V Mask → List (KReq S Mask U) → List (Resp V)
  | _, [] => []
  | s, r :: rs => (kstep C s r).2 :: kresps C (kstep C s r).1 rs

/-- the request with its id replaced by the interceptor's image -/
def KReq.mapKey (f : S → S) : KReq S Mask U → KReq S Mask U
  | .get k n m => .get (f k) n m
  | .update k n u => .update (f k) n u
  | .create k u => .create (f k) u
  | .delete k am => .delete (f k) am
  | .pull k n m uo => .pull (f k) n m uo
  | .cancel i => .cancel i

end ScVerif.C14
