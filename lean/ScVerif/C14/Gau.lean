import ScVerif.C14.Server
/-!
C14 — `resource.GetAndUpdate` (pkg/resource/atomic.go) as the steps it is: the optimistic write under `Value.set`
and `Collection.Update`.

  GetAndUpdate(mu, get, change, save):
     RLock; old := get(); RUnlock                        -- READ
     new, err := change(old, clone(old)); if err → return err    -- no lock held; validation, masks, interceptors
     Lock; again := get()
     if !proto.Equal(old, again) → Unlock; return Aborted        -- COMMIT, rejected: somebody stored in between
     save(new); Unlock; return new                               -- COMMIT, stored

Any number of writers; a schedule is ANY interleaving of their `read` and `commit` steps (a `commit` of a writer
that has not read does nothing). `change` is the whole write pipeline of the request (`Cfg.apply`): the Writers
model (`Writers.lean`) and the register model (`Server.lean`) treat a successful write as ONE atomic step
`apply cur u`; the theorems of `PropsGau.lean` are why they may.

`gstep` / `grun` (and `GSt`, `GStep`) here are GetAndUpdate's; Collector.lean declares other functions under the same two
names (with `GSrv`, `GReq`) in this namespace: no module may import both files.
-/
namespace ScVerif.C14

/-- the status a writer is answered with when the value changed between its read and its commit -/
def aborted : Nat := 10

structure GWriter (V U : Type) where
  id : Nat
  u : U
  /-- the value it read -/
  old : V

structure GSt (V U : Type) where
  cur : V
  /-- writers that have read and not committed yet -/
  inflight : List (GWriter V U) := []
  /-- the answers so far, in commit order -/
  log : List (Nat × Except Nat V) := []

inductive GStep (U : Type)
  | read (w : Nat) (u : U)
  | commit (w : Nat)

variable {V U : Type}

def takeWriter (w : Nat) : List (GWriter V U) → Option (GWriter V U × List (GWriter V U))
  | [] => none
  | g :: gs =>
    if g.id = w then some (g, gs)
    else match takeWriter w gs with
      | none => none
      | some (x, r) => some (x, g :: r)

def gstep [DecidableEq V] (change : V → U → Except Nat V) (s : GSt V U) : GStep U → GSt V U
  | .read w u => { s with inflight := s.inflight ++ [⟨w, u, s.cur⟩] }
  | .commit w =>
    match takeWriter w s.inflight with
    | none => s
    | some (g, rest) =>
      match change g.old g.u with
      | .error c => { s with inflight := rest, log := s.log ++ [(w, .error c)] }
      | .ok v =>
        if g.old = s.cur then { cur := v, inflight := rest, log := s.log ++ [(w, .ok v)] }
        else { s with inflight := rest, log := s.log ++ [(w, .error aborted)] }

def grun [DecidableEq V] (change : V → U → Except Nat V) : GSt V U → List (GStep U) → GSt V U
  | s, [] => s
  | s, x :: xs => grun change (gstep change s x) xs

/-- the requests whose commit stored a value, in commit order -/
def gstored [DecidableEq V] (change : V → U → Except Nat V) : GSt V U → List (GStep U) → List U
  | _, [] => []
  | s, .read w u :: xs => gstored change (gstep change s (.read w u)) xs
  | s, .commit w :: xs =>
    match takeWriter w s.inflight with
    | none => gstored change (gstep change s (.commit w)) xs
    | some (g, _) =>
      match change g.old g.u with
      | .error _ => gstored change (gstep change s (.commit w)) xs
      | .ok _ =>
        if g.old = s.cur then g.u :: gstored change (gstep change s (.commit w)) xs
        else gstored change (gstep change s (.commit w)) xs

/-- the register as ONE atomic step per request (`Server.step` on `.update`): a rejected request changes nothing -/
def atomicApply (change : V → U → Except Nat V) (c : V) (u : U) : V :=
  match change c u with
  | .ok v => v
  | .error _ => c

end ScVerif.C14
