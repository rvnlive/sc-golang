import ScVerif.C14.Bus
/-!
C14 — the bus and the one-slot buffers together: what ONE subscriber is handed, end to end.

`Bus.lean` has the listener list and the buffer separately. Here every listener has its own buffer: a `deliver e`
puts `e` into the buffer of every listed listener whose context has not ended; `take i` is subscriber i's goroutine
taking what is waiting. `owed i` (ghost) lists the events sent since listener i was registered, while its context
had not ended — what "every open Pull stream" is about. Listener ids are fresh: a `listen i` for an id that was
registered before does nothing. `collect` is one critical section here (the code as it is).
-/
namespace ScVerif.C14

variable {E : Type}

structure Feed (E : Type) where
  bus : BusSt E := {}
  slots : Nat → Slot E := fun _ => {}
  owed : Nat → List E := fun _ => []

inductive FStep (E : Type)
  | listen (i : Nat)
  | cancel (i : Nat)
  | deliver (e : E)
  | collect
  | take (i : Nat)

def Feed.alive (s : Feed E) (i : Nat) : Bool := s.bus.registered.contains i && !s.bus.dead.contains i

def fstep (s : Feed E) : FStep E → Feed E
  | .listen i => if s.bus.registered.contains i then s else { s with bus := bstep false s.bus (.listen i) }
  | .cancel i => { s with bus := bstep false s.bus (.cancel i) }
  | .deliver e =>
    { bus := bstep false s.bus (.deliver e),
      slots := fun j => if s.bus.listeners.contains j && !s.bus.dead.contains j then slotStep (s.slots j) (.put e) else s.slots j,
      owed := fun j => if s.alive j then s.owed j ++ [e] else s.owed j }
  | .collect => { s with bus := bstep false s.bus .scan }
  | .take i => { s with slots := fun j => if j = i then slotStep (s.slots j) .take else s.slots j }

def frun : Feed E → List (FStep E) → Feed E
  | s, [] => s
  | s, x :: xs => frun (fstep s x) xs

/-- what subscriber `j` has been handed plus what is waiting for it -/
def Feed.seen (s : Feed E) (j : Nat) : List E := (s.slots j).out ++ (s.slots j).buf.toList

/-- `sub`, `tip` and `quiet` are the buffer's contract `SlotOk (s.slots j) (s.owed j)` (BusLemmas.lean) field by field, for the
live subscribers; `fresh` gives it to those not registered yet -/
structure FeedInv (s : Feed E) : Prop where
  bus : BusInv s.bus
  idle : BusIdle s.bus
  listed : ∀ j, j ∈ s.bus.listeners → j ∈ s.bus.registered
  fresh : ∀ j, s.bus.registered.contains j = false → s.slots j = {} ∧ s.owed j = []
  sub : ∀ j, s.alive j = true → (s.seen j).Sublist (s.owed j)
  tip : ∀ j, s.alive j = true → s.owed j ≠ [] → (s.slots j).tip = (s.owed j).getLast?
  quiet : ∀ j, s.alive j = true → s.owed j = [] → s.slots j = {}

end ScVerif.C14
