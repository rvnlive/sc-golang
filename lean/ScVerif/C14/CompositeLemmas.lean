import ScVerif.C14.Composite
import ScVerif.C14.Lemmas
/-! Lemmas about the composed register. A stream goroutine without its private map is a register stream (`CStream.reg`), and
as long as that map is the collection (`Tracks`) a collection event is one register event, the composition of the
updated collection (`cpush_reg`). -/
namespace ScVerif.C14

variable {K I S UM U V Mask : Type} [DecidableEq K]

theorem writeItem_valid (C : CCfg K I S UM U V Mask) (um : UM) (s : CSrv K I V Mask) (x : S) (hv : C.valid um = true) :
    writeItem C um s x = .ok ⟨setItem s.items (C.keyOf x) (C.merge um (s.items (C.keyOf x)) x),
      s.streams.map (cpush C (C.keyOf x) (C.merge um (s.items (C.keyOf x)) x))⟩ := by
  simp only [writeItem, hv, if_true]

theorem writeItem_err (C : CCfg K I S UM U V Mask) (um : UM) (s : CSrv K I V Mask) (x : S) (c : Nat)
    (h : writeItem C um s x = .error c) : C.valid um = false := by
  unfold writeItem at h
  split at h
  · cases h
  · next hv => simpa using hv

theorem itemsAlong_tail (C : CCfg K I S UM U V Mask) (um : UM) (f : K → Option I) (x : S) (xs : List S) :
    (itemsAlong C um f (x :: xs)).tail = itemsAlong C um (setItem f (C.keyOf x) (C.merge um (f (C.keyOf x)) x)) xs := rfl

theorem itemsAlong_getLast (C : CCfg K I S UM U V Mask) (um : UM) (f : K → Option I) (x : S) (xs : List S) :
    (itemsAlong C um f (x :: xs)).getLast? =
      (itemsAlong C um (setItem f (C.keyOf x) (C.merge um (f (C.keyOf x)) x)) xs).getLast? := by
  cases xs <;> rfl

/-- the register the composed values form: projection and equivalence of `C`, a write is its own value -/
def CCfg.reg (C : CCfg K I S UM U V Mask) : Cfg V Mask V := { proj := C.proj, apply := fun _ v => .ok v, eqv := C.eqv }

def CStream.reg (st : CStream K I V Mask) : Stream V Mask :=
  { name := st.name, mask := st.mask, updatesOnly := false, last := st.last, out := st.out, live := st.live }

theorem cpush_reg (C : CCfg K I S UM U V Mask) (k : K) (i : I) (st : CStream K I V Mask) (f : K → Option I)
    (hf : st.live = true → st.all = f) :
    (cpush C k i st).reg = push C.reg (C.compose (setItem f k i)) st.reg ∧
    ((cpush C k i st).live = true → (cpush C k i st).all = setItem f k i) := by
  have hv : ∀ w, view C.reg st.reg.mask w = cview C st.mask w := fun _ => rfl
  unfold cpush push
  simp only [hv]
  cases hl : st.live with
  | false => simp [CStream.reg, hl]
  | true =>
    cases hf hl
    cases he : C.eqv st.last (cview C st.mask (C.compose (setItem st.all k i))) <;> simp [CStream.reg, CCfg.reg, hl, he]

/-- UpdatePositions' loop when it cannot fail (a valid mask, or nothing to write): no error, it ends on the last collection of
`itemsAlong`, and from a state whose goroutines track the collection it leads to one, each stream having taken the
compositions of the collections after the first, second, … write (`itemsAlong`'s tail) as register events. -/
theorem writeAll_closed (C : CCfg K I S UM U V Mask) (um : UM) : ∀ xs : List S, C.valid um = true ∨ xs = [] →
    ∀ s : CSrv K I V Mask,
      (writeAll C um s xs).2 = none ∧ (itemsAlong C um s.items xs).getLast? = some (writeAll C um s xs).1.items ∧
      (Tracks s → Tracks (writeAll C um s xs).1 ∧
        ∀ (i : Nat) (st : CStream K I V Mask), s.streams[i]? = some st →
          ∃ st', (writeAll C um s xs).1.streams[i]? = some st' ∧
            st'.reg = pushes C.reg ((itemsAlong C um s.items xs).tail.map C.compose) st.reg) := by
  intro xs
  induction xs with
  | nil => intro _ s; exact ⟨rfl, rfl, fun ht => ⟨ht, fun i st hi => ⟨st, hi, rfl⟩⟩⟩
  | cons x xs ih =>
    intro hv s
    have hv : C.valid um = true := hv.resolve_right (List.cons_ne_nil _ _)
    let k := C.keyOf x
    let it := C.merge um (s.items k) x
    let s1 : CSrv K I V Mask := { items := setItem s.items k it, streams := s.streams.map (cpush C k it) }
    have hwa : writeAll C um s (x :: xs) = writeAll C um s1 xs := by simp only [writeAll, writeItem_valid C um s x hv, s1, k, it]
    obtain ⟨h1, h2, h3⟩ := ih (Or.inl hv) s1
    rw [hwa]
    refine ⟨h1, (itemsAlong_getLast C um s.items x xs).trans h2, fun ht => ?_⟩
    have ht1 : Tracks s1 := by
      intro st' hm
      obtain ⟨st, hst, rfl⟩ := List.mem_map.mp hm
      exact (cpush_reg C k it st s.items (ht st hst)).2
    refine ⟨(h3 ht1).1, fun i st hi => ?_⟩
    obtain ⟨st', g1, g2⟩ := (h3 ht1).2 i (cpush C k it st) (by simp only [s1, List.getElem?_map, hi, Option.map_some])
    refine ⟨st', g1, g2.trans ?_⟩
    -- the first event is the composition of `s1.items`, the head of the tail of `itemsAlong`
    rw [(cpush_reg C k it st s.items (ht st (List.mem_of_getElem? hi))).1, itemsAlong_tail]
    cases xs <;> rfl

theorem cstep_update (C : CCfg K I S UM U V Mask) (b : Bool) (s : CSrv K I V Mask) (n : String) (u : U) (um : UM) :
    (∃ c, cstep C b s (.update n u um) = (s, .err c)) ∨
    ∃ xs, C.resolve u = .ok xs ∧ (C.valid um = true ∨ xs = []) ∧
      cstep C b s (.update n u um) = ((writeAll C um s xs).1, .val (C.compose (writeAll C um s xs).1.items)) := by
  simp only [cstep]
  cases C.resolve u with
  | error c => exact Or.inl ⟨c, rfl⟩
  | ok xs =>
    dsimp only
    by_cases hv : C.valid um = true ∨ xs = []
    · refine Or.inr ⟨xs, rfl, hv, ?_⟩
      have h := (writeAll_closed C um xs hv s).1
      generalize writeAll C um s xs = p at h ⊢
      obtain ⟨s1, o⟩ := p
      obtain rfl : o = none := h
      rfl
    · cases xs with
      | nil => exact absurd (Or.inr rfl) hv
      | cons x xs =>
        have hf : C.valid um = false := by
          cases h : C.valid um with
          | false => rfl
          | true => exact absurd (Or.inl h) hv
        exact Or.inl ⟨3, by simp [writeAll, writeItem, hf]⟩

theorem cstep_update_val (C : CCfg K I S UM U V Mask) (b : Bool) (s : CSrv K I V Mask) (n : String) (u : U) (um : UM)
    (v : V) (h : (cstep C b s (.update n u um)).2 = .val v) :
    ∃ xs, C.resolve u = .ok xs ∧ (C.valid um = true ∨ xs = []) ∧
      (cstep C b s (.update n u um)).1 = (writeAll C um s xs).1 ∧ v = C.compose (writeAll C um s xs).1.items := by
  -- an error answer contradicts `h`; in the other case `h` identifies `v`
  rcases cstep_update C b s n u um with ⟨c, h'⟩ | ⟨xs, hxs, hv, h'⟩ <;> rw [h'] at h ⊢ <;> cases h
  exact ⟨xs, hxs, hv, rfl, rfl⟩

/-- a successful UpdatePositions from a state whose goroutines track the collection: every stream takes the burst of
`writeAll_closed`, and (first part) the response `v` is the last event of that burst. -/
theorem cstep_update_streams (C : CCfg K I S UM U V Mask) (b : Bool) (s : CSrv K I V Mask) (ht : Tracks s)
    (n : String) (u : U) (um : UM) (xs : List S) (v : V) (hx : C.resolve u = .ok xs)
    (h : (cstep C b s (.update n u um)).2 = .val v) :
    (xs ≠ [] → ((itemsAlong C um s.items xs).tail.map C.compose).getLast? = some v) ∧
    ∀ (i : Nat) (st : CStream K I V Mask), s.streams[i]? = some st →
      ∃ st', (cstep C b s (.update n u um)).1.streams[i]? = some st' ∧
        st'.reg = pushes C.reg ((itemsAlong C um s.items xs).tail.map C.compose) st.reg := by
  obtain ⟨xs', hxs, hv, hstate, rfl⟩ := cstep_update_val C b s n u um v h
  cases hx.symm.trans hxs
  obtain ⟨_, hit, hcl⟩ := writeAll_closed C um xs hv s
  rw [hstate]
  refine ⟨fun hne => ?_, (hcl ht).2⟩
  -- the last collection the loop passes through is the one it ends on
  rw [List.getLast?_map, ← Option.map_some, ← hit]
  cases xs with
  | nil => exact absurd rfl hne
  | cons x xs => rw [itemsAlong_tail, itemsAlong_getLast]

theorem cstep_tracks (C : CCfg K I S UM U V Mask) (s : CSrv K I V Mask) (r : CReq UM U Mask)
    (ht : Tracks s) : Tracks (cstep C true s r).1 := by
  cases r with
  | get n m => exact ht
  | update n u um =>
    rcases cstep_update C true s n u um with ⟨c, h⟩ | ⟨xs, _, hv, h⟩ <;> rw [h]
    · exact ht
    · exact ((writeAll_closed C um xs hv s).2.2 ht).1
  | pull n m uo =>
    intro st hm hl
    simp only [cstep] at hm ⊢
    rcases List.mem_append.mp hm with h | h
    · exact ht st h hl
    · simp at h
      subst h
      simp [copen]
  | cancel i =>
    intro st hm hl
    simp only [cstep] at hm ⊢
    obtain ⟨j, hj, rfl⟩ := List.mem_mapIdx.mp hm
    by_cases hji : j = i
    · simp [hji] at hl
    · simp only [hji, if_false] at hl ⊢
      exact ht _ (List.getElem_mem _) hl

theorem crun_tracks (C : CCfg K I S UM U V Mask) (rs : List (CReq UM U Mask)) :
    ∀ s : CSrv K I V Mask, Tracks s → Tracks (crun C true s rs) := by
  induction rs with
  | nil => intro s ht; exact ht
  | cons r rs ih => intro s ht; exact ih _ (cstep_tracks C s r ht)

def CReq.isUpdate : CReq UM U Mask → Bool
  | .update _ _ _ => true
  | _ => false

theorem cstep_nonupdate_items (C : CCfg K I S UM U V Mask) (b : Bool) (s : CSrv K I V Mask) (r : CReq UM U Mask)
    (h : r.isUpdate = false) : (cstep C b s r).1.items = s.items := by
  cases r <;> simp [CReq.isUpdate] at h <;> rfl

theorem crun_nonupdate_items (C : CCfg K I S UM U V Mask) (b : Bool) (rs : List (CReq UM U Mask)) :
    ∀ s : CSrv K I V Mask, (∀ r, r ∈ rs → r.isUpdate = false) → (crun C b s rs).items = s.items := by
  induction rs with
  | nil => intro s _; rfl
  | cons r rs ih =>
    intro s h
    simp only [crun]
    rw [ih _ (fun x hx => h x (List.mem_cons_of_mem _ hx)), cstep_nonupdate_items C b s r (h r List.mem_cons_self)]

end ScVerif.C14
