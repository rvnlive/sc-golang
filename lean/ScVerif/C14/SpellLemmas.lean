import ScVerif.C14.Spell
import ScVerif.C14.KeyedHist
/-! The spelled server is, request by request, the keyed server on the interceptor's images (`sstep_refines`). -/
namespace ScVerif.C14

variable {S V Mask U : Type} [DecidableEq S]

theorem sinit_reg (C : SCfg S V Mask U) (recs : List (S × V)) (h : sinitOk C recs) (id : S) (v : V)
    (hm : (id, v) ∈ recs) : (sinit C recs : KSrv S V Mask).regs (C.icpt id) = some v := by
  induction recs with
  | nil => cases hm
  | cons kv rest ih =>
    simp only [sinitOk, List.map_cons, List.nodup_cons] at h
    rcases List.mem_cons.mp hm with e | hm'
    · subst e; simp [sinit]
    · have hne : C.icpt kv.1 ≠ C.icpt id := by
        intro e
        exact h.1 (e ▸ List.mem_map.mpr ⟨(id, v), hm', rfl⟩)
      have := ih h.2 hm'
      simp only [sinit] at this ⊢
      simp [hne, this]

theorem sdeliver_some (C : SCfg S V Mask U) (k : S) (v : V) :
    sdeliver C ⟨k, some v⟩ = kpush C.toKCfg k v := by
  funext st
  by_cases h : st.key = k <;> simp [sdeliver, kpush, h]

theorem sdeliver_none (C : SCfg S V Mask U) (k : S) :
    sdeliver C (⟨k, none⟩ : SChange S V) = kend k := by
  funext st
  by_cases h : st.key = k <;> simp [sdeliver, kend, h]

theorem sstep_refines (C : SCfg S V Mask U) (s : KSrv S V Mask) (r : KReq S Mask U) :
    sstep C s r = kstep C.toKCfg s (r.mapKey C.icpt) := by
  -- the two step functions differ only in how a change reaches the streams
  cases r <;> simp only [sstep, spublish, sdeliver_some, sdeliver_none] <;> rfl

theorem srun_refines (C : SCfg S V Mask U) (rs : List (KReq S Mask U)) :
    ∀ s : KSrv S V Mask, srun C s rs = krun C.toKCfg s (rs.map (KReq.mapKey C.icpt)) := by
  induction rs with
  | nil => intro s; rfl
  | cons r rs ih => intro s; simp only [srun, krun, List.map_cons, sstep_refines, ih]

theorem sresps_refines (C : SCfg S V Mask U) (rs : List (KReq S Mask U)) :
    ∀ s : KSrv S V Mask, sresps C s rs = kresps C.toKCfg s (rs.map (KReq.mapKey C.icpt)) := by
  induction rs with
  | nil => intro s; rfl
  | cons r rs ih => intro s; simp only [sresps, kresps, List.map_cons, sstep_refines, ih]

theorem mapKey_writes (f : S → S) (k : S) (r : KReq S Mask U) :
    (r.mapKey f).writes k = (match r with
      | .update k' _ _ | .create k' _ | .delete k' _ => decide (f k' = k)
      | _ => false) := by
  cases r <;> rfl

theorem sstep_pull_stream (C : SCfg S V Mask U) (s : KSrv S V Mask) (b : S) (cur : V)
    (hex : s.regs (C.icpt b) = some cur) (n : String) (m : Option Mask) (uo : Bool) :
    (sstep C s (.pull b n m uo)).1.streams[s.streams.length]? =
      some { key := C.icpt b, s := openStream C.toCfg cur n m uo } := by
  show (s.streams ++ [_])[s.streams.length]? = _
  rw [List.getElem?_concat_length, pullStream_some C.toKCfg s _ cur hex]

end ScVerif.C14
