import ScVerif.C14.CompositeLemmas
import ScVerif.C14.CompositeDrv
/-!
# C14 — a register composed of collection items (openclosepb: GetPositions / UpdatePositions / PullPositions)

Theorems about the model in Composite.lean, for EVERY composition, projection, preset table, id function, update-mask
validity and merge, equivalence, initial collection and request history.

What makes the composed register behave as ONE register is an invariant of the stream goroutines: each keeps its own
map of the items, and that map IS the collection at every moment (`C14_composite_streams_track_collection`), because
the internal collection subscription is always seeded, whatever the caller's updates_only. An Update that writes
several items is several register writes (the recorded finding).
-/
namespace ScVerif.C14

variable {K I S UM U V Mask : Type} [DecidableEq K]

/-- After a successful UpdatePositions and any requests that are not Updates, a Get
returns the (projected) response and changes nothing (the read mask is applied to a copy of the composed message).
Holds for both seeding choices. -/
theorem C14_composite_update_then_get (C : CCfg K I S UM U V Mask) (b : Bool) (s : CSrv K I V Mask)
    (name : String) (u : U) (um : UM) (v : V)
    (h : (cstep C b s (.update name u um)).2 = .val v)
    (rs : List (CReq UM U Mask)) (hrs : ∀ r, r ∈ rs → r.isUpdate = false) (name' : String) (m : Option Mask) :
    let s' := crun C b (cstep C b s (.update name u um)).1 rs
    (cstep C b s' (.get name' m)).2 = .val (cview C m v) ∧ (cstep C b s' (.get name' m)).1 = s' := by
  intro s'
  refine ⟨?_, rfl⟩
  show Resp.val (cview C m (C.compose s'.items)) = Resp.val (cview C m v)
  obtain ⟨xs, _, _, hstate, hv⟩ := cstep_update_val C b s name u um v h
  rw [crun_nonupdate_items C b rs _ hrs, hstate, hv]

/-- An UpdatePositions answered with an error status (an unknown preset, or an update
mask the item writes reject) changes nothing: the mask is the same for every item of the loop, so the loop can only
fail at its FIRST write. -/
theorem C14_composite_rejected_frame (C : CCfg K I S UM U V Mask) (b : Bool) (s : CSrv K I V Mask)
    (name : String) (u : U) (um : UM) (c : Nat)
    (h : (cstep C b s (.update name u um)).2 = .err c) :
    (cstep C b s (.update name u um)).1 = s := by
  -- the request failed at once and left `s` alone, or it was answered `.val`, which `h` excludes
  rcases cstep_update C b s name u um with ⟨c', h'⟩ | ⟨xs, _, _, h'⟩ <;> rw [h'] at h ⊢
  cases h

/-- The invariant of PullPositions' goroutines: whatever the history, the map
`all` a live goroutine keeps for itself IS the collection. -/
theorem C14_composite_streams_track_collection (C : CCfg K I S UM U V Mask) (items0 : K → Option I)
    (rs : List (CReq UM U Mask)) : Tracks (crun C true ⟨items0, []⟩ rs) :=
  crun_tracks C rs ⟨items0, []⟩ (fun _ h => by simp at h)

/-- A new PullPositions starts with exactly the projection of what GetPositions returns,
under the request's name, or empty with updates_only; nothing else is touched. -/
theorem C14_composite_pull_seed (C : CCfg K I S UM U V Mask) (s : CSrv K I V Mask) (name : String)
    (m : Option Mask) (uo : Bool) (v : V) (n : String) (hg : (cstep C true s (.get n none)).2 = .val v) :
    let s' := (cstep C true s (.pull name m uo)).1
    s'.items = s.items ∧ s'.streams.take s.streams.length = s.streams ∧
    ∃ st, s'.streams[s.streams.length]? = some st ∧ st.name = name ∧ st.mask = m ∧ st.live = true ∧
      st.out = (if uo then [] else [(cview C m v, name)]) := by
  intro s'
  have hv : v = C.compose s.items := by
    simp only [cstep, cview] at hg
    cases hg
    rfl
  refine ⟨rfl, by simp [s', cstep], copen C true s.items name m uo, by simp [s', cstep], rfl, rfl, rfl, ?_⟩
  simp [copen, hv]

/-- In every reachable state a successful UpdatePositions that writes
ONE item (one state in the request, or a preset with one position) is one register write, with the conclusion of
`C14_update_on_streams`, whatever the stream's updates_only flag and however many other items the collection holds. -/
theorem C14_composite_single_item_update_on_streams (C : CCfg K I S UM U V Mask) (items0 : K → Option I)
    (rs : List (CReq UM U Mask)) (name : String) (u : U) (um : UM) (x : S) (v : V)
    (hx : C.resolve u = .ok [x]) :
    let s := crun C true ⟨items0, []⟩ rs
    (cstep C true s (.update name u um)).2 = .val v →
    ∀ (i : Nat) (st : CStream K I V Mask), s.streams[i]? = some st →
      ∃ st', (cstep C true s (.update name u um)).1.streams[i]? = some st' ∧
        st'.name = st.name ∧ st'.mask = st.mask ∧ st'.live = st.live ∧
        (st.live = true → C.eqv st.last (cview C st.mask v) = false →
          st'.out = st.out ++ [(cview C st.mask v, st.name)]) ∧
        (st'.out = st.out ∨ st'.out = st.out ++ [(cview C st.mask v, st.name)]) := by
  intro s h i st hi
  obtain ⟨hv, hs⟩ := cstep_update_streams C true s (C14_composite_streams_track_collection C items0 rs) name u um [x] v hx h
  obtain ⟨st', h1, h2⟩ := hs i st hi
  -- the burst is the one event `v`
  have h2 : st'.reg = push C.reg v st.reg :=
    h2.trans (congrArg (fun w => push C.reg w st.reg) (Option.some.inj (hv (List.cons_ne_nil _ _))))
  have hp := push_spec C.reg v st.reg
  rw [← h2] at hp
  exact ⟨st', h1, hp⟩

/-- In every reachable state, for a successful UpdatePositions writing
ANY number of items: every message a stream gets during the Update is its projection of the composition of a
collection the loop really passed through, and for a live stream the burst ENDS on the response (sent, or suppressed by
the stream's equivalence). -/
theorem C14_composite_multi_item_update_on_streams (C : CCfg K I S UM U V Mask) (items0 : K → Option I)
    (rs : List (CReq UM U Mask)) (name : String) (u : U) (um : UM) (xs : List S) (v : V)
    (hx : C.resolve u = .ok xs) :
    let s := crun C true ⟨items0, []⟩ rs
    (cstep C true s (.update name u um)).2 = .val v →
    ∀ (i : Nat) (st : CStream K I V Mask), s.streams[i]? = some st →
      ∃ st', (cstep C true s (.update name u um)).1.streams[i]? = some st' ∧
        st'.name = st.name ∧ st'.mask = st.mask ∧ st'.live = st.live ∧
        (∀ m, m ∈ st'.out → m ∈ st.out ∨
          ∃ f, f ∈ (itemsAlong C um s.items xs).tail ∧ m = (cview C st.mask (C.compose f), st.name)) ∧
        (st.live = true → xs ≠ [] →
          st'.last = some (cview C st.mask v) ∨ C.eqv st'.last (cview C st.mask v) = true) := by
  intro s h i st hi
  obtain ⟨hv, hs⟩ := cstep_update_streams C true s (C14_composite_streams_track_collection C items0 rs) name u um xs v hx h
  obtain ⟨st', h1, h2⟩ := hs i st hi
  obtain ⟨hn, hm, hl, hmsgs, hlast⟩ := pushes_spec C.reg ((itemsAlong C um s.items xs).tail.map C.compose) st.reg
  rw [← h2] at hn hm hl hmsgs hlast
  refine ⟨st', h1, hn, hm, hl, fun m hmem => (hmsgs m hmem).imp_right ?_, fun hlive hne => hlast v hlive (hv hne)⟩
  rintro ⟨w, hw, e⟩
  obtain ⟨f, hf, rfl⟩ := List.mem_map.mp hw
  exact ⟨f, hf, e⟩

/-- a concrete composed register: items and keys are numbers, the composition is the sum of the items
under keys 0-3, masks take remainders, a request is its list of `(key, new item)`, equality as equivalence -/
def exCC : CCfg Nat Nat (Nat × Nat) Bool (List (Nat × Nat)) Nat Nat where
  compose := fun f => ((List.range 4).map fun k => (f k).getD 0).sum
  proj := fun m v => v % m
  resolve := fun u => if u.any (fun x => x.2 = 0) then .error 3 else .ok u
  keyOf := fun x => x.1
  valid := fun um => um
  merge := fun _ _ x => x.2
  eqv := fun l w => l == some w

def exItems : Nat → Option Nat := fun k => if k = 0 then some 10 else if k = 1 then some 80 else none

/-- two items, one seeded and one updates-only stream, a single-item Update, a multi-item Update, a rejected one:
the updates-only stream reports the WHOLE register from its first message on -/
example :
    let s := crun exCC true ⟨exItems, []⟩
      [.pull "a" none false, .pull "b" none true, .update "x" [(0, 35)] true, .update "x" [(0, 1), (1, 2)] true,
       .update "x" [(0, 7)] false, .update "x" [(0, 0)] true]
    exCC.compose s.items = 3 ∧ (s.streams.map (·.out)) = [[(90, "a"), (115, "a"), (81, "a"), (3, "a")], [(115, "b"), (81, "b"), (3, "b")]] := by
  decide +kernel

/-- every item write publishes an event, also one that leaves the item as it is: an updates-only stream that has
not sent anything yet answers it with the composition at that moment. An Update whose FIRST write changes nothing
(a preset whose first position is already in place) therefore shows such a stream the value from BEFORE the Update
(90) ahead of the response (91) — why the harness counts Updates whose items the server derives as multi-item writes -/
example :
    let s := crun exCC true ⟨exItems, []⟩ [.pull "b" none true, .update "x" [(0, 10), (1, 81)] true]
    (s.streams.map (·.out)) = [[(90, "b"), (91, "b")]] := by
  decide +kernel

/-- With the opposite seeding choice (updates_only passed down to
the collection subscription, seeded change C14-7) the single-item statement is false: the stream reports a register
made of the written item alone. -/
theorem C14_composite_unseeded_update_on_streams_fails :
    let s := crun exCC false ⟨exItems, []⟩ [.pull "b" none true]
    (cstep exCC false s (.update "x" [(0, 35)] true)).2 = .val 115 ∧
    ((cstep exCC false s (.update "x" [(0, 35)] true)).1.streams.map (·.out)) = [[(35, "b")]] := by
  decide +kernel

/-- The driver runs the model with a concrete composition (`simCfg`, CompositeDrv.lean), an
instance of `CCfg`. It is what GetPositions computes: exactly the items of the collection (ids below 100, the range of
`directionToID`), each once, in strictly increasing id order. -/
theorem C14_composite_sim_listing (f : Nat → Option Nat) :
    (∀ k i, (k, i) ∈ listingOf f ↔ k < 100 ∧ f k = some i) ∧
    ((listingOf f).map (·.1)).Pairwise (· < ·) := by
  constructor
  · intro k i
    unfold listingOf
    simp only [List.mem_filterMap, List.mem_range, Option.map_eq_some_iff]
    constructor
    · rintro ⟨a, ha, b, hb, he⟩
      cases he
      exact ⟨ha, hb⟩
    · rintro ⟨hk, hf⟩
      exact ⟨k, hk, i, hf, rfl⟩
  · unfold listingOf
    rw [List.map_filterMap]
    refine List.Pairwise.filterMap _ ?_ List.pairwise_lt_range
    intro a a' hlt b hb b' hb'
    cases hfa : f a with
    | none => simp [hfa] at hb
    | some x =>
      cases hfa' : f a' with
      | none => simp [hfa'] at hb'
      | some y =>
        simp [hfa] at hb
        simp [hfa'] at hb'
        omega

/-- the simulator on the example collection: the listing, a seeded and an updates-only stream, a two-item burst -/
example :
    let c := simCfg []
    let s := crun c true ⟨exItems, []⟩ [.pull "a" none false, .pull "b" none true, .update "x" [(1, 81), (0, 11)] true]
    c.compose s.items = [(0, 11), (1, 81)] ∧
    (s.streams.map (·.out)) = [[([(0, 10), (1, 80)], "a"), ([(0, 10), (1, 81)], "a"), ([(0, 11), (1, 81)], "a")],
                               [([(0, 10), (1, 81)], "b"), ([(0, 11), (1, 81)], "b")]] := by
  decide +kernel

end ScVerif.C14
