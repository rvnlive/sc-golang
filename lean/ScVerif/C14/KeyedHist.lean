import ScVerif.C14.KeyedEvents
/-!
C14 — the keyed family seen through the EVENTS of one item. `kevent C k s r` is what request `r` publishes for item `k`
(from the response the server gave): a new value, REMOVE, or nothing. Every request leaves the state alone, registers or
cancels a stream, or is a write of one item - and a write is its event: the item's register becomes the event's value
and the item's streams take the event (`kstep_write`). Register and stream lemmas are read off that; the whole history
of a single-item stream after ANY session is the fold of its item's events over the stream as it was opened
(`krun_stream`, by `kstep_stream`; `C14_keyed_stream_history`).
-/
namespace ScVerif.C14

variable {K V Mask U : Type} [DecidableEq K]

/-- an event of item `k` offered to a stream: only the item's own streams take it (`kpush` and `kend` in one) -/
def kdeliver (C : KCfg V Mask U) (k : K) (e : Option V) (st : KStream K V Mask) : KStream K V Mask :=
  if st.key = k then { st with s := applyEv C st.s e } else st

theorem kstep_get (C : KCfg V Mask U) (s : KSrv K V Mask) (k : K) (n : String) (m : Option Mask) (v : V)
    (h : s.regs k = some v) : kstep C s (.get k n m) = (s, .val (view C.toCfg m v)) := by
  simp only [kstep, h]

theorem kstep_get_missing (C : KCfg V Mask U) (s : KSrv K V Mask) (k : K) (n : String) (m : Option Mask)
    (h : s.regs k = none) : kstep C s (.get k n m) = (s, .err notFound) := by
  simp only [kstep, h]

theorem kstep_update_missing (C : KCfg V Mask U) (s : KSrv K V Mask) (k : K) (n : String) (u : U)
    (h : s.regs k = none) : kstep C s (.update k n u) = (s, .err notFound) := by
  simp only [kstep, h]

theorem kstep_delete (C : KCfg V Mask U) (s : KSrv K V Mask) (k : K) (am : Bool) (cur : V) (h : s.regs k = some cur) :
    kstep C s (.delete k am) = ({ regs := setReg s.regs k none, streams := s.streams.map (kend k) }, .done) := by
  simp only [kstep, h]

theorem kevent_of_not_writes (C : KCfg V Mask U) (s : KSrv K V Mask) (r : KReq K Mask U) (k : K)
    (h : r.writes k = false) : kevent C k s r = none := by
  -- Get, Pull, cancel have no event by definition; a write names another item (`h`)
  cases r <;> first | rfl | exact if_neg (of_decide_eq_false h)

theorem kevent_update (C : KCfg V Mask U) (s : KSrv K V Mask) (k : K) (n : String) (u : U) :
    kevent C k s (.update k n u) = match (kstep C s (.update k n u)).2 with
      | .val v => some (some v)
      | _ => none := if_pos rfl

theorem kevent_create (C : KCfg V Mask U) (s : KSrv K V Mask) (k : K) (u : U) :
    kevent C k s (.create k u) = match (kstep C s (.create k u)).2 with
      | .val v => some (some v)
      | _ => none := if_pos rfl

theorem kevent_delete (C : KCfg V Mask U) (s : KSrv K V Mask) (k : K) (am : Bool) :
    kevent C k s (.delete k am) = (s.regs k).map fun _ => none := by
  show (if k = k then _ else _) = _
  rw [if_pos rfl]
  cases s.regs k <;> rfl

theorem KReq.writes_unique {r : KReq K Mask U} {k k' : K} (hw : r.writes k' = true) (hk : k ≠ k') : r.writes k = false := by
  -- only a write can satisfy `hw`, and it names `k'`
  cases r <;> first | rfl | exact decide_eq_false fun e => hk (e.symm.trans (of_decide_eq_true hw))

theorem kstep_write (C : KCfg V Mask U) (s : KSrv K V Mask) (r : KReq K Mask U) (k : K) (hw : r.writes k = true) :
    (kstep C s r).1 = match kevent C k s r with
      | none => s
      | some e => { regs := setReg s.regs k e, streams := s.streams.map (kdeliver C k e) } := by
  cases r with
  | update k' n u =>
    have e : k' = k := of_decide_eq_true hw
    subst e
    rw [kevent_update]
    cases h : s.regs k' with
    | none => simp only [kstep, h]
    | some cur => cases ha : C.apply cur u <;> simp only [kstep, h, ha] <;> rfl
  | create k' u =>
    have e : k' = k := of_decide_eq_true hw
    subst e
    rw [kevent_create]
    cases h : s.regs k' with
    | some cur => simp only [kstep, h]
    | none => cases ha : C.init u <;> simp only [kstep, h, ha] <;> rfl
  | delete k' am =>
    have e : k' = k := of_decide_eq_true hw
    subst e
    rw [kevent_delete]
    cases h : s.regs k' <;> simp only [kstep, h] <;> rfl
  | get k' n m => cases hw
  | pull k' n m uo => cases hw
  | cancel i => cases hw

theorem kstep_cases (C : KCfg V Mask U) (s : KSrv K V Mask) (r : KReq K Mask U) :
    (∃ k', r.writes k' = true) ∨
    ((∀ k, r.writes k = false) ∧ (kstep C s r).1.regs = s.regs ∧
      ∀ (i : Nat) (st : KStream K V Mask), s.streams[i]? = some st → r.cancels i = false →
        (kstep C s r).1.streams[i]? = some st) := by
  cases r with
  | update k' n u => exact Or.inl ⟨k', decide_eq_true rfl⟩
  | create k' u => exact Or.inl ⟨k', decide_eq_true rfl⟩
  | delete k' am => exact Or.inl ⟨k', decide_eq_true rfl⟩
  | get k' n m =>
    refine Or.inr ⟨fun _ => rfl, ?_, fun i st hi _ => ?_⟩ <;> simp only [kstep] <;> split
    · rfl
    · rfl
    · exact hi
    · exact hi
  | pull k' n m uo =>
    exact Or.inr ⟨fun _ => rfl, rfl, fun i st hi _ =>
      (List.getElem?_append_left (List.getElem?_eq_some_iff.mp hi).1).trans hi⟩
  | cancel j =>
    refine Or.inr ⟨fun _ => rfl, rfl, fun i st hi hc => ?_⟩
    simp only [kstep, List.getElem?_mapIdx, hi, Option.map_some, if_neg (Ne.symm (of_decide_eq_false hc))]

theorem kstep_reg (C : KCfg V Mask U) (s : KSrv K V Mask) (r : KReq K Mask U) (k : K) :
    (kstep C s r).1.regs k = (kevent C k s r).getD (s.regs k) := by
  rcases kstep_cases C s r with ⟨k', hw⟩ | ⟨hn, hr, _⟩
  · -- a write of an item `k'` sets the register of `k'` only
    rw [kstep_write C s r k' hw]
    by_cases hk : k = k'
    · subst hk
      cases kevent C k s r with
      | none => rfl
      | some e => exact if_pos rfl
    · rw [kevent_of_not_writes C s r k (KReq.writes_unique hw hk)]
      split
      · rfl
      · exact if_neg hk
  · rw [hr, kevent_of_not_writes C s r k (hn k)]
    rfl

theorem kstep_update_val (C : KCfg V Mask U) (s : KSrv K V Mask) (k : K) (n : String) (u : U) (v : V)
    (h : (kstep C s (.update k n u)).2 = .val v) :
    (kstep C s (.update k n u)).1 = { regs := setReg s.regs k (some v), streams := s.streams.map (kpush C k v) } := by
  rw [kstep_write C s (.update k n u) k (decide_eq_true rfl), kevent_update, h]
  rfl

omit [DecidableEq K] in
theorem pullStream_some (C : KCfg V Mask U) (s : KSrv K V Mask) (k : K) (cur : V) (h : s.regs k = some cur)
    (name : String) (m : Option Mask) (uo : Bool) : pullStream C s k name m uo = openStream C.toCfg cur name m uo := by
  simp only [pullStream, h]

theorem kstep_stream (C : KCfg V Mask U) (s : KSrv K V Mask) (r : KReq K Mask U) (i : Nat) (st : KStream K V Mask)
    (hi : s.streams[i]? = some st) (hc : r.cancels i = false) :
    (kstep C s r).1.streams[i]? =
      some { key := st.key, s := (kevent C st.key s r).toList.foldl (applyEv C) st.s } := by
  rcases kstep_cases C s r with ⟨k', hw⟩ | ⟨hn, _, hs⟩
  · -- a write of an item `k'` reaches the streams of `k'` only
    rw [kstep_write C s r k' hw]
    by_cases hk : st.key = k'
    · subst hk
      cases kevent C st.key s r with
      | none => exact hi
      | some e => simp only [List.getElem?_map, hi, Option.map_some, kdeliver, if_true]; rfl
    · rw [kevent_of_not_writes C s r st.key (KReq.writes_unique hw hk)]
      split
      · exact hi
      · simp only [List.getElem?_map, hi, Option.map_some, kdeliver, if_neg hk]; rfl
  · rw [hs i st hi hc, kevent_of_not_writes C s r st.key (hn st.key)]
    rfl

theorem krun_stream (C : KCfg V Mask U) (rs : List (KReq K Mask U)) :
    ∀ (s : KSrv K V Mask) (i : Nat) (st : KStream K V Mask), s.streams[i]? = some st →
      (∀ r, r ∈ rs → r.cancels i = false) →
      (krun C s rs).streams[i]? = some { key := st.key, s := (kevents C st.key s rs).foldl (applyEv C) st.s } := by
  induction rs with
  | nil => intro s i st hi _; exact hi
  | cons r rs ih =>
    intro s i st hi hc
    have h1 := kstep_stream C s r i st hi (hc r List.mem_cons_self)
    have h2 := ih (kstep C s r).1 i _ h1 (fun x hx => hc x (List.mem_cons_of_mem _ hx))
    simp only [krun, kevents, List.foldl_append]
    exact h2

end ScVerif.C14
