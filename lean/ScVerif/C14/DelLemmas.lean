import ScVerif.C14.Del
/-! The invariant of the Delete model: announcements follow the item's history, REMOVE carries its last value. -/
namespace ScVerif.C14

variable {V : Type} [DecidableEq V]

/-- while the item exists the bus has announced exactly the values stored since the start and Delete has not been
answered OK; once it is gone the bus has announced those and then REMOVE with the LAST of them, which is Delete's answer -/
def DInv (s : DSt V) : Prop :=
  s.hist ≠ [] ∧
  match s.item with
  | some (_, v) => s.hist.getLast? = some v ∧ s.events = s.hist.tail.map .upd ∧ (∀ x, s.answer ≠ some (.ok x))
  | none => ∃ v, s.hist.getLast? = some v ∧ s.events = s.hist.tail.map .upd ++ [.removed v] ∧ s.answer = some (.ok v)

omit [DecidableEq V] in
/-- the invariant reads the item, its history, the announcements and whether Delete was answered OK: a step that leaves
the first three alone and answers, if at all, with an error keeps it -/
theorem DInv.frame {s s' : DSt V} (h : DInv s) (hi : s'.item = s.item) (hh : s'.hist = s.hist)
    (he : s'.events = s.events)
    (ha : s'.answer = s.answer ∨ (s.answer = none ∧ ∀ x, s'.answer ≠ some (.ok x))) : DInv s' := by
  obtain ⟨hne, h⟩ := h
  refine ⟨hh ▸ hne, ?_⟩
  rw [hi, hh, he]
  cases hitem : s.item with
  | none =>
    rw [hitem] at h
    obtain ⟨v, h1, h2, h3⟩ := h
    rcases ha with ha | ⟨ha, _⟩
    · exact ⟨v, h1, h2, ha.trans h3⟩
    · rw [ha] at h3; cases h3
  | some it =>
    rw [hitem] at h
    rcases ha with ha | ⟨_, ha⟩
    · exact ⟨h.1, h.2.1, ha ▸ h.2.2⟩
    · exact ⟨h.1, h.2.1, ha⟩

omit [DecidableEq V] in
theorem DInv.cases {s : DSt V} (h : DInv s) :
    (∃ n v, s.item = some (n, v) ∧ s.hist.getLast? = some v ∧ s.events = s.hist.tail.map .upd ∧
      ∀ x, s.answer ≠ some (.ok x)) ∨
    (∃ v, s.item = none ∧ s.hist.getLast? = some v ∧ s.events = s.hist.tail.map .upd ++ [.removed v] ∧
      s.answer = some (.ok v)) := by
  have h := h.2
  cases hi : s.item with
  | some it => rw [hi] at h; exact Or.inl ⟨it.1, it.2, rfl, h⟩
  | none => rw [hi] at h; exact Or.inr (h.imp fun v hv => ⟨rfl, hv⟩)

theorem dstep_inv (s : DSt V) (x : DStep V) (h : DInv s) : DInv (dstep s x) := by
  cases x with
  | store v =>
    cases hi : s.item with
    | none => simp only [dstep, hi]; exact h
    | some it =>
      -- the Update stores `v` and announces it: history and announcements grow together
      obtain ⟨hne, h⟩ := h
      rw [hi] at h
      simp only [dstep, hi]
      refine ⟨by simp, by simp, ?_, h.2.2⟩
      rw [h.2.1]
      cases hh : s.hist with
      | nil => exact absurd hh hne
      | cons a l => simp
  | dread =>
    simp only [dstep]
    split
    · exact h
    · exact h.frame rfl rfl rfl (Or.inl rfl)
  | dcommit =>
    simp only [dstep]
    split
    · exact h
    · exact h
    · rename_i hans _
      exact h.frame rfl rfl rfl (Or.inr ⟨hans, fun x hx => by cases hx⟩)
    · rename_i it hans _
      split
      · -- the item is the one Delete read: removed and announced with its value, which is the answer
        rename_i heq
        obtain ⟨hne, h⟩ := h
        rw [heq] at h
        exact ⟨hne, it.2, h.1, by rw [h.2.1], rfl⟩
      · split
        · exact h.frame rfl rfl rfl (Or.inr ⟨hans, fun x hx => by cases hx⟩)
        · exact h.frame rfl rfl rfl (Or.inl rfl)

theorem drun_inv (sched : List (DStep V)) : ∀ s : DSt V, DInv s → DInv (drun s sched) := by
  induction sched with
  | nil => intro s h; exact h
  | cons x xs ih => intro s h; exact ih _ (dstep_inv s x h)

omit [DecidableEq V] in
theorem dinit_inv (v0 : V) : DInv (dinit v0) := by
  refine ⟨by simp [dinit], ?_⟩
  simp [dinit]

end ScVerif.C14
