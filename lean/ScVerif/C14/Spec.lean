import ScVerif.C14.Acceptor
/-! What the statements about the register and its acceptor speak of beside the models. -/
namespace ScVerif.C14

variable {V Mask U : Type}

/-- A value is *explained* by a history when it is the initial value or the response of a successful Update. -/
inductive Explained (C : Cfg V Mask U) (init : V) : List (Req Mask U) → V → Prop
  | init (rs) : Explained C init rs init
  | resp (rs : List (Req Mask U)) (name : String) (u : U) (v : V) (rest : List (Req Mask U)) :
      C.apply (run C ⟨init, []⟩ rs).cur u = .ok v → Explained C init (rs ++ .update name u :: rest) v

/-- the values the register holds along a run: before it and after every request -/
def vals (C : Cfg V Mask U) : Srv V Mask → List (Req Mask U) → List V
  | s, [] => [s.cur]
  | s, r :: rs => s.cur :: vals C (step C s r).1 rs

/-- a message on a stream is accounted for: it was there before, or it is the stream's view of a value in `vs` under the stream's name -/
def Accounted (C : Cfg V Mask U) (old : List (Stream V Mask)) (vs : List V) (st : Stream V Mask) (x : V × String) : Prop :=
  (∃ so, so ∈ old ∧ x ∈ so.out) ∨ (x.2 = st.name ∧ ∃ v, v ∈ vs ∧ x.1 = view C st.mask v)

/-- every entry is optional and carries the value `x` -/
def AllOpt (q : List Entry) (x : VId) : Prop := ∀ e, e ∈ q → e.must = false ∧ e.val = x

/-- replay one announced value `v` against the acceptor's queue `q` of a stream: `qPush`, then — if the model sends
the message — `qRecv` of exactly that message and `qIdle`, else `qIdle` at once. Returns the queue afterwards,
whether a message was sent, and whether every verdict was `ok`. -/
def acceptPush (C : Cfg Nat Nat U) (st : Stream Nat Nat) (q : List Entry) (prev v : Nat) (est : Bool) :
    List Entry × Bool × Bool :=
  let x := view C st.mask v
  let q1 := qPush q x (view C st.mask prev) est
  if C.eqv st.last x then (q1, false, qIdle q1 == .ok)
  else ((qRecv q1 x true).1, true, (qRecv q1 x true).2 == .ok && qIdle (qRecv q1 x true).1 == .ok)

/-- the values `vs` are announced one after the other; `prev` is the value announced before them -/
def acceptAll (C : Cfg Nat Nat U) : Stream Nat Nat → List Entry → Nat → Bool → List Nat → Bool
  | _, _, _, _, [] => true
  | st, q, prev, est, v :: vs =>
    let r := acceptPush C st q prev v est
    r.2.2 && acceptAll C (push C v st) r.1 v (est || r.2.1) vs

end ScVerif.C14
