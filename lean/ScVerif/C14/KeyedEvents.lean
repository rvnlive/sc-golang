import ScVerif.C14.Keyed
/-! The events of one item: what the statements about the history of a single-item stream speak of. -/
namespace ScVerif.C14

variable {K V Mask U : Type} [DecidableEq K]

/-- the event a request publishes for item `k` in state `s`: `some (some v)` a new value, `some none` REMOVE -/
def kevent (C : KCfg V Mask U) (k : K) (s : KSrv K V Mask) (r : KReq K Mask U) : Option (Option V) :=
  match r with
  | .update k' _ _ | .create k' _ =>
    if k' = k then
      match (kstep C s r).2 with
      | .val v => some (some v)
      | _ => none
    else none
  | .delete k' _ =>
    if k' = k then
      match s.regs k with
      | some _ => some none
      | none => none
    else none
  | _ => none

def kevents (C : KCfg V Mask U) (k : K) : KSrv K V Mask → List (KReq K Mask U) → List (Option V)
  | _, [] => []
  | s, r :: rs => (kevent C k s r).toList ++ kevents C k (kstep C s r).1 rs

/-- one event reaches one stream of the item -/
def applyEv (C : KCfg V Mask U) (st : Stream V Mask) : Option V → Stream V Mask
  | some v => push C.toCfg v st
  | none => { st with live := false }

def KReq.cancels (i : Nat) : KReq K Mask U → Bool
  | .cancel j => decide (j = i)
  | _ => false

end ScVerif.C14
