import ScVerif.C14.SpellLemmas
import ScVerif.C14.PropsKeyed
/-!
# C14 — keyed families behind an id interceptor: one register per item, whatever the spelling

For EVERY interceptor `icpt : S → S` (no idempotence assumed), write pipeline, create pipeline, projection and
equivalence: the server that applies the interceptor at the head of Get / Update / Create / Delete / PullID and
publishes changes under the intercepted id (Spell.lean, following pkg/resource/collection.go) is, request by request
and response by response, the keyed server on the interceptor's images. Hence every statement of PropsKeyed holds with
"same id" read as "spellings with the same image".
-/
namespace ScVerif.C14

variable {S V Mask U : Type} [DecidableEq S]

/-- A collection behind `WithIDInterceptor` is, in its final state and in every response, the
collection without it fed the same requests with each id replaced by the interceptor's image. -/
theorem C14_spelled_refines_keyed (C : SCfg S V Mask U) (s : KSrv S V Mask) (rs : List (KReq S Mask U)) :
    srun C s rs = krun C.toKCfg s (rs.map (KReq.mapKey C.icpt)) ∧
    sresps C s rs = kresps C.toKCfg s (rs.map (KReq.mapKey C.icpt)) :=
  ⟨srun_refines C rs s, sresps_refines C rs s⟩

/-- A collection built with initial records (`sinitOk`: NewCollection does not panic):
a Get or Pull that names a record by ANY spelling with the same image as the id it was configured under finds the
configured value, also when the configured id itself is outside the interceptor's image (`"Tea"` under a lower-casing
one). -/
theorem C14_spelled_initial_records (C : SCfg S V Mask U) (recs : List (S × V)) (h : sinitOk C recs) (id b : S) (v : V)
    (hm : (id, v) ∈ recs) (hb : C.icpt b = C.icpt id) (n : String) (m : Option Mask) :
    (sstep C (sinit C recs) (.get b n m)).2 = .val (view C.toCfg m v) ∧
    ((sstep C (sinit C recs) (.pull b n m false)).1.streams.map (·.s.out)) = [[(view C.toCfg m v, n)]] := by
  have hreg := sinit_reg C recs h id v hm
  rw [← hb] at hreg
  constructor
  · simp only [sstep, hreg]
  · show ([{ key := C.icpt b, s := pullStream C.toKCfg (sinit C recs) (C.icpt b) n m false }] :
      List (KStream S V Mask)).map (·.s.out) = _
    rw [pullStream_some C.toKCfg _ _ v hreg]
    rfl

/-- After a successful Update under one spelling of an item and any requests that write no spelling of it, a Get under
any spelling with the same image returns the Update's response. -/
theorem C14_spelled_update_then_get (C : SCfg S V Mask U) (s : KSrv S V Mask) (a b : S) (hab : C.icpt a = C.icpt b)
    (name : String) (u : U) (v : V) (h : (sstep C s (.update a name u)).2 = .val v)
    (rs : List (KReq S Mask U)) (hrs : ∀ r, r ∈ rs → (r.mapKey C.icpt).writes (C.icpt a) = false) (name' : String) :
    (sstep C (srun C (sstep C s (.update a name u)).1 rs) (.get b name' none)).2 = .val v := by
  rw [sstep_refines] at h
  rw [sstep_refines, srun_refines, sstep_refines]
  simp only [KReq.mapKey] at h ⊢
  rw [← hab]
  refine C14_keyed_update_then_get C.toKCfg s (C.icpt a) name u v h _ ?_ name'
  intro r hr
  obtain ⟨r0, hr0, rfl⟩ := List.mem_map.mp hr
  exact hrs r0 hr0

/-- A successful Update that names the item `a` is a `push` on every stream whose Pull
request named the item by ANY spelling with the same image (such a stream holds `icpt b = icpt a`, see
C14_spelled_pull_then_update); every other stream is left as it was. -/
theorem C14_spelled_update_on_streams (C : SCfg S V Mask U) (s : KSrv S V Mask) (a : S) (name : String) (u : U) (v : V)
    (h : (sstep C s (.update a name u)).2 = .val v) (i : Nat) (st : KStream S V Mask) (hi : s.streams[i]? = some st) :
    (sstep C s (.update a name u)).1.streams[i]? =
      some (if st.key = C.icpt a then { st with s := push C.toCfg v st.s } else st) := by
  rw [sstep_refines] at h ⊢
  exact C14_keyed_update_on_streams C.toKCfg s (C.icpt a) name u v h i st hi

/-- End to end across spellings: a Pull names the item `b`, then an Update names it `a`,
`icpt a = icpt b`: the stream is `push v` of the opened stream. -/
theorem C14_spelled_pull_then_update (C : SCfg S V Mask U) (s : KSrv S V Mask) (a b : S) (hab : C.icpt a = C.icpt b)
    (cur : V) (hex : s.regs (C.icpt b) = some cur) (n : String) (m : Option Mask) (uo : Bool)
    (name : String) (u : U) (v : V)
    (h : (sstep C (sstep C s (.pull b n m uo)).1 (.update a name u)).2 = .val v) :
    ((sstep C (sstep C s (.pull b n m uo)).1 (.update a name u)).1.streams[s.streams.length]?).map (·.s) =
      some (push C.toCfg v (openStream C.toCfg cur n m uo)) := by
  rw [C14_spelled_update_on_streams C _ a name u v h _ _ (sstep_pull_stream C s b cur hex n m uo)]
  simp only [hab, if_true, Option.map_some]

/-- An Update answered with an error, under any spelling, changes nothing at all. -/
theorem C14_spelled_rejected_frame (C : SCfg S V Mask U) (s : KSrv S V Mask) (a : S) (name : String) (u : U) (c : Nat)
    (h : (sstep C s (.update a name u)).2 = .err c) : (sstep C s (.update a name u)).1 = s := by
  rw [sstep_refines] at h ⊢
  exact C14_keyed_rejected_frame C.toKCfg s (C.icpt a) name u c h

/-- A write under one spelling leaves the item and the streams of every spelling with
ANOTHER image as they were. -/
theorem C14_spelled_no_crosstalk (C : SCfg S V Mask U) (s : KSrv S V Mask) (a b : S) (hab : C.icpt b ≠ C.icpt a)
    (r : KReq S Mask U) (n : String) (u : U) (am : Bool)
    (hr : r = .update a n u ∨ r = .create a u ∨ r = .delete a am) :
    (sstep C s r).1.regs (C.icpt b) = s.regs (C.icpt b) ∧
    ∀ (i : Nat) (st : KStream S V Mask), s.streams[i]? = some st → st.key = C.icpt b → (sstep C s r).1.streams[i]? = some st := by
  rw [sstep_refines]
  refine C14_keyed_no_crosstalk C.toKCfg s (C.icpt a) (C.icpt b) hab _ n u am ?_
  rcases hr with rfl | rfl | rfl
  · exact Or.inl rfl
  · exact Or.inr (Or.inl rfl)
  · exact Or.inr (Or.inr rfl)

/-- After a Delete under one spelling, Get and Update under every spelling with the same image answer NotFound and every
stream of the item has ended. -/
theorem C14_spelled_delete_ends_streams (C : SCfg S V Mask U) (s : KSrv S V Mask) (a b : S) (hab : C.icpt a = C.icpt b)
    (am : Bool) (cur : V) (hex : s.regs (C.icpt a) = some cur) :
    let s' := (sstep C s (.delete a am)).1
    (∀ n m, (sstep C s' (.get b n m)).2 = .err notFound) ∧
    (∀ n u, (sstep C s' (.update b n u)) = (s', .err notFound)) ∧
    ∀ (i : Nat) (st : KStream S V Mask), s.streams[i]? = some st → st.key = C.icpt b →
      s'.streams[i]? = some { st with s := { st.s with live := false } } := by
  intro s'
  have hk := C14_keyed_delete_ends_streams C.toKCfg s (C.icpt a) am cur hex
  have hs' : s' = (kstep C.toKCfg s (.delete (C.icpt a) am)).1 := by simp only [s', sstep_refines, KReq.mapKey]
  rw [hs']
  refine ⟨fun n m => ?_, fun n u => ?_, fun i st hi hkey => ?_⟩
  · rw [sstep_refines]; simp only [KReq.mapKey, ← hab]; exact hk.2.1 n m
  · rw [sstep_refines]; simp only [KReq.mapKey, ← hab]; exact hk.2.2.1 n u
  · exact hk.2.2.2 i st hi (hkey.trans hab.symm)

/-- `C14_keyed_stream_history` behind an id interceptor, end to end: the stream is the
fold, over the opened stream, of the events of the requests whose id has the image `icpt b`, whatever their spelling,
and of no others. -/
theorem C14_spelled_stream_history (C : SCfg S V Mask U) (s : KSrv S V Mask) (b : S) (cur : V)
    (hex : s.regs (C.icpt b) = some cur) (n : String) (m : Option Mask) (uo : Bool)
    (rs : List (KReq S Mask U)) (hc : ∀ r, r ∈ rs → r.cancels s.streams.length = false) :
    let s1 := (sstep C s (.pull b n m uo)).1
    ((srun C s1 rs).streams[s.streams.length]?).map (·.s) =
      some ((kevents C.toKCfg (C.icpt b) s1 (rs.map (KReq.mapKey C.icpt))).foldl (applyEv C.toKCfg)
        (openStream C.toCfg cur n m uo)) := by
  intro s1
  have hc' : ∀ r, r ∈ rs.map (KReq.mapKey C.icpt) → r.cancels s.streams.length = false := by
    intro r hr
    obtain ⟨r0, hr0, rfl⟩ := List.mem_map.mp hr
    have h0 := hc r0 hr0
    cases r0 <;> exact h0
  rw [srun_refines, C14_keyed_stream_history C.toKCfg s1 _ _ _ (sstep_pull_stream C s b cur hex n m uo) hc']
  rfl

/-- ids are numbers, spelled modulo 10 (13 and 3 name one item) -/
def exSCfg : SCfg Nat Nat Nat Nat := { exKCfg with icpt := fun n => n % 10 }

example :
    let s := srun exSCfg (⟨fun _ => none, []⟩ : KSrv Nat Nat Nat)
      [.create 13 10, .create 2 20, .pull 3 "a" none false, .pull 12 "b" none false, .update 23 "x" 5, .delete 32 false, .update 2 "x" 1]
    s.regs 3 = some 15 ∧ s.regs 13 = none ∧ s.regs 2 = none ∧
      s.streams.map (fun st => (st.key, st.s.out, st.s.live)) = [(3, [(10, "a"), (15, "a")], true), (2, [(20, "b")], false)] := by
  decide +kernel

/-- the history theorem on the session above: the stream opened under 3 carries the seed and the Update made under 23 -/
example :
    let s0 := srun exSCfg (⟨fun _ => none, []⟩ : KSrv Nat Nat Nat) [.create 13 10, .create 2 20]
    (kevents exSCfg.toKCfg 3 (sstep exSCfg s0 (.pull 3 "a" none false)).1
      ([.pull 12 "b" none false, .update 23 "x" 5, .delete 32 false, .update 2 "x" 1].map (KReq.mapKey exSCfg.icpt))) = [some 15] := by
  decide +kernel

example : sinitOk exSCfg [(13, 10), (2, 20)] := by simp [sinitOk, exSCfg]

/-- what the id in the change is for: a change published under the caller's raw spelling (23) instead of its image (3)
passes every stream of the item by -/
example :
    let s := srun exSCfg (⟨fun _ => none, []⟩ : KSrv Nat Nat Nat) [.create 13 10, .pull 3 "a" none false]
    (spublish exSCfg ⟨23, some 15⟩ s.streams).map (fun st => st.s.out) = [[(10, "a")]] ∧
    (spublish exSCfg ⟨exSCfg.icpt 23, some 15⟩ s.streams).map (fun st => st.s.out) = [[(10, "a"), (15, "a")]] := by
  decide +kernel

end ScVerif.C14
