import ScVerif.C14.WritersLemmas
import ScVerif.C14.Props
/-!
# C14 — several clients writing one register concurrently (Writers.lean)

`resource.Value.set` stores under the lock and announces after releasing it. The theorems quantify over EVERY
interleaving of the writers' `store` / `send` steps (any number of writers, any write pipeline, any projection). What
the code as it is does NOT give, streams ending on the register when two writers overlap, is stated with its `_fails`
witness and the `_partial` theorem.
-/
namespace ScVerif.C14

variable {V Mask U : Type}

/-- Whatever else is going on (other writers between their store and their send,
later values already stored), a writer's `send` reaches every stream with the value it stored (its response): the
conclusion of `C14_update_on_streams`; the register is untouched. -/
theorem C14_writers_send_reaches_streams (C : Cfg V Mask U) (s : WSrv V Mask) (w : Nat) (p : Pending V)
    (rest : List (Pending V)) (hp : takePending w s.pending = some (p, rest))
    (i : Nat) (st : Stream V Mask) (hi : s.streams[i]? = some st) :
    ∃ st', (wstep C false s (.send w)).streams[i]? = some st' ∧
      st'.name = st.name ∧ st'.mask = st.mask ∧ st'.live = st.live ∧
      (st.live = true → C.eqv st.last (view C st.mask p.val) = false → st'.out = st.out ++ [(view C st.mask p.val, st.name)]) ∧
      (st'.out = st.out ∨ st'.out = st.out ++ [(view C st.mask p.val, st.name)]) ∧
      (wstep C false s (.send w)).cur = s.cur ∧ (wstep C false s (.send w)).pending = rest := by
  rw [wstep_send C s w p rest hp]
  obtain ⟨hn, hm, hl, hsent, hout⟩ := push_spec C p.val st
  exact ⟨push C p.val st, by rw [List.getElem?_map, hi]; rfl, hn, hm, hl, hsent, hout, rfl, rfl⟩

/-- Over every schedule the values announced so far together with those still waiting are, as a multiset, the values
that waited at the start together with every value stored since. Hence once every writer has returned, every acknowledged
Update has been announced exactly once. -/
theorem C14_writers_sent_perm_stored (C : Cfg V Mask U) (sched : List (WStep U)) : ∀ s : WSrv V Mask,
    (sentOf C false s sched ++ pvals (wrun C false s sched).pending).Perm
      (pvals s.pending ++ storedOf C false s sched) :=
  fun s => (sent_account C sched s).1

/-- Refinement, for every equivalence: after any schedule the streams
are what the sequential register server produces when it is fed the ANNOUNCED values in send order. So every
per-stream statement of the sequential model carries over to concurrent writers, with the send order in place of the
request order. -/
theorem C14_writers_streams_are_sequential_pushes (C : Cfg V Mask U) (sched : List (WStep U)) : ∀ s : WSrv V Mask,
    (wrun C false s sched).streams = (sentOf C false s sched).foldl (fun ss v => ss.map (push C v)) s.streams := by
  induction sched with
  | nil => intro s; rfl
  | cons x xs ih =>
    intro s
    cases x with
    | store w u =>
      simp only [wrun, sentOf]
      rw [ih]
      congr 1
      simp only [wstep]; cases C.apply s.cur u <;> rfl
    | send w =>
      simp only [wrun, sentOf]
      rw [ih]
      cases ht : takePending w s.pending with
      | none => simp [wstep_send_none C false s w ht]
      | some pr =>
        obtain ⟨p, rest⟩ := pr
        simp [wstep_send C s w p rest ht]

/-- On a register whose streams suppress nothing (no equivalence configured: every
server in pkg/trait but the ones with a tolerance), every live stream receives exactly the announced values in send
order. With `C14_writers_sent_perm_stored`: when all writers have returned, each acknowledged value is on every stream. -/
theorem C14_writers_all_delivered (C : Cfg V Mask U) (hne : ∀ l x, C.eqv l x = false) (sched : List (WStep U)) :
    ∀ (s : WSrv V Mask) (i : Nat) (st : Stream V Mask), s.streams[i]? = some st → st.live = true →
    ∃ st', (wrun C false s sched).streams[i]? = some st' ∧ st'.name = st.name ∧ st'.mask = st.mask ∧ st'.live = true ∧
      st'.out = st.out ++ (sentOf C false s sched).map (fun v => (view C st.mask v, st.name)) := by
  intro s i st hi hl
  obtain ⟨hn, hm, hlv, _⟩ := pushes_spec C (sentOf C false s sched) st
  rw [C14_writers_streams_are_sequential_pushes C sched s, foldl_map_push, List.getElem?_map, hi]
  exact ⟨_, rfl, hn, hm, hlv.trans hl, pushes_all C hne _ st hl⟩

/-- After any schedule the register holds the value of the LAST successful
store, independently of the order in which the events were announced (also for the seeded variant). -/
theorem C14_writers_register_is_last_store (C : Cfg V Mask U) (b : Bool) (sched : List (WStep U)) :
    ∀ s : WSrv V Mask, (wrun C b s sched).cur = ((storedOf C b s sched).getLast?).getD s.cur := by
  induction sched with
  | nil => intro s; rfl
  | cons x xs ih =>
    intro s
    cases x with
    | store w u =>
      simp only [wrun, storedOf]
      rw [ih]
      cases ha : C.apply s.cur u with
      | error c => simp [wstep_store_err C b s w u c ha]
      | ok v => simp only [wstep_store_ok C b s w u v ha]; rw [getLast_cons_getD]
    | send w =>
      simp only [wrun, storedOf]
      rw [ih]
      congr 1
      simp only [wstep]
      cases takePending w s.pending with
      | none => rfl
      | some pr => obtain ⟨p, rest⟩ := pr; simp only []; split <;> rfl

/-- The schedule the harness forces (kind "duel": writer 1 held between its store and
its send while writer 2 runs): both are acknowledged, the register ends on `v2`, and every stream was handed `v2`'s
event first and `v1`'s after it: the acceptor's `updok v2` followed by `updlate v1`. -/
theorem C14_writers_held_schedule (C : Cfg V Mask U) (s : WSrv V Mask) (hp : s.pending = [])
    (u1 u2 : U) (v1 v2 : V) (h1 : C.apply s.cur u1 = .ok v1) (h2 : C.apply v1 u2 = .ok v2)
    (w1 w2 : Nat) (hw : w1 ≠ w2) :
    let sched : List (WStep U) := [.store w1 u1, .store w2 u2, .send w2, .send w1]
    (wrun C false s sched).cur = v2 ∧ (wrun C false s sched).pending = [] ∧
    (wrun C false s sched).streams = (s.streams.map (push C v2)).map (push C v1) ∧
    storedOf C false s sched = [v1, v2] ∧ sentOf C false s sched = [v2, v1] := by
  intro sched
  -- the four steps are run one by one: `takePending w2` steps over writer 1's entry (`hw`) and takes writer 2's,
  -- `takePending w1` then finds writer 1's alone
  simp [sched, wrun, wstep, storedOf, sentOf, h1, h2, hp, takePending, hw]

/-- the seeded change C14-10 (an overtaken writer drops its event): an acknowledged, value-changing Update (15)
never reaches the open stream although every writer has returned -/
theorem C14_writers_skip_overtaken_fails :
    let s : WSrv Nat Nat := ⟨10, [openStream exCfg 10 "a" none false], [], 0⟩
    let sched : List (WStep Nat) := [.store 1 5, .store 2 4, .send 2, .send 1]
    storedOf exCfg true s sched = [15, 19] ∧ (wrun exCfg true s sched).pending.length = 0 ∧
    (wrun exCfg true s sched).streams.map (·.out) = [[(10, "a"), (19, "a")]] := by decide +kernel

/-- the same schedule on the code as it is: both values arrive (non-vacuity of the theorems above) -/
example :
    let s : WSrv Nat Nat := ⟨10, [openStream exCfg 10 "a" none false], [], 0⟩
    let sched : List (WStep Nat) := [.store 1 5, .store 2 4, .send 2, .send 1]
    sentOf exCfg false s sched = [19, 15] ∧ (wrun exCfg false s sched).cur = 19 ∧
    (wrun exCfg false s sched).streams.map (·.out) = [[(10, "a"), (19, "a"), (15, "a")]] := by decide +kernel

/-! A recorded finding: nothing orders the sends of two writers, so the events can reach the subscribers in the opposite
order of the stores: every update appears, but the stream ENDS on a value the register no longer holds and stays there
until the next write. -/

/-- the witness: every writer has returned, Get returns 19 for ever, the live stream's last message is 15 -/
theorem C14_writers_stream_ends_on_register_fails :
    ∃ (s : WSrv Nat Nat) (sched : List (WStep Nat)),
      s.pending.length = 0 ∧ (wrun exCfg false s sched).pending.length = 0 ∧
      (wrun exCfg false s sched).streams.map
          (fun st => (st.live, st.out.getLast?, (view exCfg st.mask (wrun exCfg false s sched).cur, st.name))) =
        [(true, some (15, "a"), (19, "a"))] :=
  ⟨⟨10, [openStream exCfg 10 "a" none false], [], 0⟩, [.store 1 5, .store 2 4, .send 2, .send 1],
    by decide +kernel, by decide +kernel, by decide +kernel⟩

/-- **partial:** when the sends happen in the order of the stores (hypothesis `Fifo`: e.g. one writer at a time, or
writers that do not overlap between store and send) on a register without equivalence, then once every writer has
returned each live stream has received the acknowledged values in store order and ends on the register's value. -/
theorem C14_writers_stream_ends_on_register_partial (C : Cfg V Mask U) (hne : ∀ l x, C.eqv l x = false)
    (s : WSrv V Mask) (sched : List (WStep U)) (hf : Fifo C false s sched)
    (h0 : s.pending = []) (hdone : (wrun C false s sched).pending = [])
    (i : Nat) (st : Stream V Mask) (hi : s.streams[i]? = some st) (hl : st.live = true) :
    ∃ st', (wrun C false s sched).streams[i]? = some st' ∧
      st'.out = st.out ++ (storedOf C false s sched).map (fun v => (view C st.mask v, st.name)) ∧
      (storedOf C false s sched ≠ [] →
        st'.out.getLast? = some (view C st.mask (wrun C false s sched).cur, st.name)) := by
  obtain ⟨st', h1, _, _, _, h5⟩ := C14_writers_all_delivered C hne sched s i st hi hl
  have hs := fifo_sent_eq_stored C sched s hf
  rw [h0, hdone] at hs
  simp only [pvals, List.map_nil, List.append_nil, List.nil_append] at hs
  rw [hs] at h5
  refine ⟨st', h1, h5, ?_⟩
  intro hne'
  rw [h5, C14_writers_register_is_last_store C false sched s]
  cases hlast : (storedOf C false s sched).getLast? with
  | none => exact absurd (List.getLast?_eq_none_iff.mp hlast) hne'
  | some x =>
    rw [List.getLast?_append]
    simp [List.getLast?_map, hlast]

/-- the hypothesis is satisfiable: two writers one after the other -/
example :
    let s : WSrv Nat Nat := ⟨10, [openStream exCfg 10 "a" none false], [], 0⟩
    let sched : List (WStep Nat) := [.store 1 5, .send 1, .store 2 4, .send 2]
    Fifo exCfg false s sched ∧ (wrun exCfg false s sched).streams.map (·.out) = [[(10, "a"), (15, "a"), (19, "a")]] := by
  refine ⟨⟨?_, ?_, trivial⟩, by decide +kernel⟩
  -- at each of the two sends the one pending value is the sending writer's own
  · intro p ps h
    simp [wstep, exCfg] at h
    simp [← h.1]
  · intro p ps h
    simp [wstep, exCfg, takePending] at h
    simp [← h.1]

end ScVerif.C14
