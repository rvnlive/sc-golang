/-!
C14 — how an update mask of the composed register reaches the item writes: `masks.RemovePrefix`
(pkg/masks/util.go, only caller `openclosepb.Model.UpdatePositions`) and the masked item merge
(`FieldUpdater.Merge` for top-level item fields).

  RemovePrefix(prefix, mask)                      -- as repaired by 1cf4513
      mask == nil            → nil
      for path in mask.Paths:
          path == prefix                  → dropped      ("states": whole items)
          path starts with prefix + "."   → rest := path without prefix and dot
               rest == "*"                → dropped
               rest starts with "*."      → out += rest without "*."
               else                       → out += rest
          else                            → dropped      (another field of the resource)
      len(out) == 0 → nil  else out       -- never an empty non-nil mask (which would mean "no changes")

A path is modelled as its list of segments (`states.open_percent` = ["states", "open_percent"]).
-/
namespace ScVerif.C14

abbrev Path := List String

/-- what one path contributes -/
def stripOne (pfx : String) : Path → Option Path
  | [] => none
  | s :: rest =>
    if s ≠ pfx then none
    else
      match rest with
      | [] => none
      | ["*"] => none
      | "*" :: r => some r
      | r => some r

def removePrefix (pfx : String) : Option (List Path) → Option (List Path)
  | none => none
  | some ps =>
    let out := ps.filterMap (stripOne pfx)
    if out.isEmpty then none else some out

/-- the item fields a (stripped) item mask names: its single-segment paths -/
def maskFields : Option (List Path) → Option (List String)
  | none => none
  | some ps => some (ps.filterMap fun p => match p with | [f] => some f | _ => none)

/-- an item as its top-level fields; `FieldUpdater.Merge`: without a mask the item becomes the written one, with a
mask exactly the named fields are taken from the written item (cleared when it lacks them) -/
def maskedMerge {X : Type} (fs : Option (List String)) (old : Option (String → Option X)) (x : String → Option X) :
    String → Option X :=
  match fs with
  | none => x
  | some l => fun f => if f ∈ l then x f else old.bind (· f)

/-- the item merge of UpdatePositions for a REQUEST mask: strip the list's name, then merge field-wise -/
def itemMerge {X : Type} (pfx : String) (reqMask : Option (List Path)) (old : Option (String → Option X))
    (x : String → Option X) : String → Option X :=
  maskedMerge (maskFields (removePrefix pfx reqMask)) old x

end ScVerif.C14
