import ScVerif.C14.Writers
/-! The writers model by the arms of its step, and its accounting: what was announced plus what still waits is what waited
plus what was stored. -/
namespace ScVerif.C14

variable {V Mask U : Type}

theorem wstep_store_err (C : Cfg V Mask U) (b : Bool) (s : WSrv V Mask) (w : Nat) (u : U) (c : Nat)
    (ha : C.apply s.cur u = .error c) : wstep C b s (.store w u) = s := by
  simp only [wstep, ha]

theorem wstep_store_ok (C : Cfg V Mask U) (b : Bool) (s : WSrv V Mask) (w : Nat) (u : U) (v : V)
    (ha : C.apply s.cur u = .ok v) :
    wstep C b s (.store w u) =
      { s with cur := v, nstores := s.nstores + 1, pending := s.pending ++ [⟨w, s.nstores + 1, v⟩] } := by
  simp only [wstep, ha]

theorem wstep_send_none (C : Cfg V Mask U) (b : Bool) (s : WSrv V Mask) (w : Nat)
    (ht : takePending w s.pending = none) : wstep C b s (.send w) = s := by
  simp only [wstep, ht]

theorem wstep_send (C : Cfg V Mask U) (s : WSrv V Mask) (w : Nat) (p : Pending V) (rest : List (Pending V))
    (ht : takePending w s.pending = some (p, rest)) :
    wstep C false s (.send w) = { s with pending := rest, streams := s.streams.map (push C p.val) } := by
  simp only [wstep, ht, Bool.false_and, Bool.false_eq_true, if_false]

theorem takePending_perm (w : Nat) : ∀ (l : List (Pending V)) (p : Pending V) (rest : List (Pending V)),
    takePending w l = some (p, rest) → l.Perm (p :: rest) := by
  intro l
  induction l with
  | nil => intro p rest h; simp [takePending] at h
  | cons a l ih =>
    intro p rest h
    simp only [takePending] at h
    split at h
    · cases h; exact List.Perm.refl _
    · cases ht : takePending w l with
      | none => simp [ht] at h
      | some qr =>
        obtain ⟨q, r⟩ := qr
        simp [ht] at h
        obtain ⟨rfl, rfl⟩ := h
        exact ((ih q r ht).cons a).trans (List.Perm.swap q a r)

theorem getLast_cons_getD (v d : V) (l : List V) : ((v :: l).getLast?).getD d = (l.getLast?).getD v := by
  rw [List.getLast?_cons]
  rfl

theorem sent_account (C : Cfg V Mask U) (sched : List (WStep U)) : ∀ s : WSrv V Mask,
    (sentOf C false s sched ++ pvals (wrun C false s sched).pending).Perm
      (pvals s.pending ++ storedOf C false s sched) ∧
    (Fifo C false s sched →
      sentOf C false s sched ++ pvals (wrun C false s sched).pending = pvals s.pending ++ storedOf C false s sched) := by
  induction sched with
  | nil => intro s; simp [sentOf, wrun, storedOf]
  | cons x xs ih =>
    intro s
    cases x with
    | store w u =>
      have key := ih (wstep C false s (.store w u))
      simp only [sentOf, wrun, storedOf, Fifo]
      cases ha : C.apply s.cur u with
      | error c => simpa [wstep_store_err C false s w u c ha, ha] using key
      | ok v =>
        simp only [wstep_store_ok C false s w u v ha] at key ⊢
        exact ⟨key.1.trans (by simp [pvals]), fun hf => (key.2 hf).trans (by simp [pvals])⟩
    | send w =>
      have key := ih (wstep C false s (.send w))
      simp only [sentOf, wrun, storedOf, Fifo]
      cases ht : takePending w s.pending with
      | none =>
        simp only [wstep_send_none C false s w ht] at key ⊢
        exact ⟨key.1, fun hf => key.2 hf.2⟩
      | some pr =>
        obtain ⟨p, rest⟩ := pr
        simp only [wstep_send C s w p rest ht, Bool.false_and, Bool.false_eq_true, if_false] at key ⊢
        have hperm : (pvals s.pending).Perm (p.val :: pvals rest) := (takePending_perm w s.pending p rest ht).map _
        refine ⟨(key.1.cons p.val).trans (List.Perm.append_right _ hperm.symm), fun hf => ?_⟩
        -- the oldest pending value belongs to `w`: it is the one taken
        cases hpd : s.pending with
        | nil => rw [hpd] at ht; cases ht
        | cons p' ps' =>
          simp only [hpd, takePending, hf.1 p' ps' hpd, if_true] at ht
          cases ht
          exact congrArg (List.cons _) (key.2 hf.2)

theorem fifo_sent_eq_stored (C : Cfg V Mask U) (sched : List (WStep U)) : ∀ s : WSrv V Mask, Fifo C false s sched →
    sentOf C false s sched ++ pvals (wrun C false s sched).pending = pvals s.pending ++ storedOf C false s sched :=
  fun s => (sent_account C sched s).2

end ScVerif.C14
