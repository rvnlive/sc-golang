import ScVerif.C14.Collector
import ScVerif.C14.FactoryRouter
import ScVerif.C14.KeyedHist
/-! The two extra pieces of the stack: the factory router serves everybody with the client it remembers (`RInv`), and
hailpb's collector acts on a Create only, so without one its session is the keyed server's (`grun_noncreate`). -/
namespace ScVerif.C14

/-- every request served so far was served by the remembered client -/
def RInv (s : RState) : Prop := ∀ x, x ∈ s.served → s.registry = some x.2

theorem rstep_spec (b : Bool) (s : RState) (x : RStep) :
    ((rstep b s x).registry = s.registry ∨ s.registry = none) ∧
    ((rstep b s x).served = s.served ∨
      ∃ r c, (rstep b s x).served = (r, c) :: s.served ∧ (b = false → (rstep b s x).registry = some c)) := by
  cases x with
  | lookup r =>
    simp only [rstep]
    split
    · exact ⟨Or.inl rfl, Or.inl rfl⟩
    · split
      · rename_i c hc
        exact ⟨Or.inl rfl, Or.inr ⟨r, c, rfl, fun _ => hc⟩⟩
      · exact ⟨Or.inl rfl, Or.inl rfl⟩
  | factory r =>
    simp only [rstep]
    split <;> exact ⟨Or.inl rfl, Or.inl rfl⟩
  | insert r =>
    simp only [rstep]
    split
    · split
      · rename_i c c2 hc
        exact ⟨Or.inl rfl, Or.inr ⟨r, _, rfl, fun hb => by rw [hb]; exact hc⟩⟩
      · rename_i hc
        exact ⟨Or.inr hc, Or.inr ⟨r, _, rfl, fun _ => rfl⟩⟩
    · exact ⟨Or.inl rfl, Or.inl rfl⟩

theorem rstep_inv (s : RState) (x : RStep) (h : RInv s) : RInv (rstep false s x) := by
  obtain ⟨hreg, hserved⟩ := rstep_spec false s x
  -- requests served before keep their client: the registry was not empty then, so it is unchanged
  have hold : ∀ y, y ∈ s.served → (rstep false s x).registry = some y.2 := by
    intro y hy
    rcases hreg with hreg | hreg
    · rw [hreg]; exact h y hy
    · have := h y hy
      rw [hreg] at this
      cases this
  rcases hserved with hs | ⟨r, c, hs, hc⟩
  · intro y hy
    rw [hs] at hy
    exact hold y hy
  · intro y hy
    rw [hs] at hy
    rcases List.mem_cons.mp hy with rfl | hy
    · exact hc rfl
    · exact hold y hy

theorem rrun_inv (xs : List RStep) : ∀ s, RInv s → RInv (rrun false s xs) := by
  induction xs with
  | nil => intro s h; exact h
  | cons x xs ih => intro s h; exact ih _ (rstep_inv s x h)

variable {K V Mask U : Type} [DecidableEq K]

theorem gstep_noncreate (C : KCfg V Mask U) (old : V → Bool) (keys : List K) (s : GSrv K V Mask) (r : KReq K Mask U)
    (h : runsGc false r = false) :
    (gstep C old keys false s (.req r)).1.k = (kstep C s.k r).1 ∧ (gstep C old keys false s (.req r)).2 = (kstep C s.k r).2 := by
  simp [gstep, h]

/-- the keyed request inside a collector request -/
def GReq.req? : GReq K Mask U → Option (KReq K Mask U)
  | .req r => some r
  | .rearm => none

/-- without a Create in it, a session of hailpb with its collector IS the keyed server's session -/
theorem grun_noncreate (C : KCfg V Mask U) (old : V → Bool) (keys : List K) (rs : List (GReq K Mask U)) :
    ∀ s : GSrv K V Mask, (∀ r, r ∈ rs.filterMap GReq.req? → runsGc false r = false) →
      (grun C old keys false s rs).k = krun C s.k (rs.filterMap GReq.req?) := by
  induction rs with
  | nil => intro s _; rfl
  | cons r rs ih =>
    intro s h
    cases r with
    | rearm => exact ih _ h
    | req r =>
      have h1 := (gstep_noncreate C old keys s r (h r List.mem_cons_self)).1
      exact (ih _ fun x hx => h x (List.mem_cons_of_mem _ hx)).trans (by rw [h1]; rfl)

theorem GReq.quiet_req {k : K} {g : GReq K Mask U} {r : KReq K Mask U} (hq : g.quiet k = true) (hr : g.req? = some r) :
    runsGc false r = false ∧ r.writes k = false := by
  cases g with
  | rearm => cases hr
  | req r' =>
    cases hr
    -- `quiet` excludes a Create (the only request that ends with a collector run) and a write of `k`
    cases r <;> first | exact ⟨rfl, rfl⟩ | cases hq | exact ⟨rfl, by simpa [GReq.quiet] using hq⟩

/-- one round of the collector's loop -/
def collectOne (C : KCfg V Mask U) (old : V → Bool) (s : KSrv K V Mask) (k' : K) : KSrv K V Mask :=
  match s.regs k' with
  | some v => if old v then (kstep C s (.delete k' true)).1 else s
  | none => s

theorem collect_cons (C : KCfg V Mask U) (old : V → Bool) (k' : K) (ks : List K) (s : KSrv K V Mask) :
    collect C old (k' :: ks) s = collect C old ks (collectOne C old s k') := rfl

theorem collect_step_reg (C : KCfg V Mask U) (old : V → Bool) (s : KSrv K V Mask) (k' k : K) :
    (collectOne C old s k').regs k = s.regs k ∨
      ((collectOne C old s k').regs k = none ∧ ∃ v, s.regs k = some v ∧ old v = true) := by
  unfold collectOne
  cases hr : s.regs k' with
  | none => exact Or.inl rfl
  | some v =>
    by_cases ho : old v = true
    · simp only [ho, if_true, kstep_delete C s k' true v hr]
      by_cases hk : k = k'
      · subst hk
        exact Or.inr ⟨if_pos rfl, v, hr, ho⟩
      · exact Or.inl (if_neg hk)
    · simp [ho]

theorem collect_reg (C : KCfg V Mask U) (old : V → Bool) (keys : List K) (k : K) : ∀ s : KSrv K V Mask,
    (collect C old keys s).regs k = s.regs k ∨
      ((collect C old keys s).regs k = none ∧ ∃ v, s.regs k = some v ∧ old v = true) := by
  induction keys with
  | nil => intro s; exact Or.inl rfl
  | cons k' ks ih =>
    intro s
    rw [collect_cons]
    rcases ih (collectOne C old s k') with h2 | ⟨h2, v, hv, ho⟩
    · rcases collect_step_reg C old s k' k with h1 | ⟨h1, v, hv, ho⟩
      · exact Or.inl (h2.trans h1)
      · exact Or.inr ⟨h2.trans h1, v, hv, ho⟩
    · rcases collect_step_reg C old s k' k with h1 | ⟨h1, v', hv', ho'⟩
      · exact Or.inr ⟨h2, v, h1 ▸ hv, ho⟩
      · rw [h1] at hv; cases hv

end ScVerif.C14
