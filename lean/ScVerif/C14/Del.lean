/-!
C14 — `resource.Collection.Delete` (pkg/resource/collection.go) next to concurrent Updates of the same item.

  Delete(id):
     RLock; oldVal, exists := byId[id]; RUnlock                       -- READ (`dread`)
     for attempt < 5:
        if !exists → NotFound
        (expected-value checks on oldVal, no lock held)
        Lock; oldVal2, exists2 := byId[id]
        if oldVal2 != oldVal || exists2 != exists → Unlock; refresh; continue     -- COMMIT attempt, somebody stored
        delete(byId, id); bus.Send(REMOVE oldVal.body); Unlock; return oldVal.body   -- COMMIT, removed (announced under the lock)
     → Unavailable

`oldVal2 != oldVal` compares the stored `*item` POINTERS: every Update stores a fresh one, modelled by a version number.
`store v` is a complete Update of the item by another client (one atomic step here: `PropsGau`), which also announces
its value; on a missing item it is rejected (NotFound) and changes nothing.
-/
namespace ScVerif.C14

inductive DEv (V : Type)
  | upd (v : V)
  | removed (v : V)
  deriving DecidableEq

structure DSt (V : Type) where
  /-- `byId[id]`: version (identity of the stored `*item`) and body -/
  item : Option (Nat × V)
  nver : Nat := 1
  /-- the deleting goroutine's `(oldVal, exists)` once it has read -/
  seen : Option (Option (Nat × V)) := none
  /-- failed commit attempts so far -/
  attempts : Nat := 0
  /-- what the bus announced about the item, oldest first -/
  events : List (DEv V) := []
  /-- Delete's answer -/
  answer : Option (Except Nat V) := none
  /-- ghost: the values the item has held, oldest first -/
  hist : List V

inductive DStep (V : Type)
  | dread
  | dcommit
  | store (v : V)

variable {V : Type} [DecidableEq V]

def dstep (s : DSt V) : DStep V → DSt V
  | .store v =>
    match s.item with
    | none => s
    | some _ => { s with item := some (s.nver, v), nver := s.nver + 1, events := s.events ++ [.upd v], hist := s.hist ++ [v] }
  | .dread => if s.seen.isSome || s.answer.isSome then s else { s with seen := some s.item }
  | .dcommit =>
    match s.answer, s.seen with
    | some _, _ => s
    | none, none => s
    | none, some none => { s with answer := some (.error 5) }
    | none, some (some it) =>
      if s.item = some it then
        { s with item := none, events := s.events ++ [.removed it.2], answer := some (.ok it.2) }
      else if s.attempts + 1 ≥ 5 then { s with attempts := s.attempts + 1, answer := some (.error 14) }
      else { s with seen := some s.item, attempts := s.attempts + 1 }

def drun : DSt V → List (DStep V) → DSt V
  | s, [] => s
  | s, x :: xs => drun (dstep s x) xs

/-- an item holding `v0`, nobody deleting -/
def dinit (v0 : V) : DSt V := { item := some (0, v0), hist := [v0] }

end ScVerif.C14
