import ScVerif.C14.Stamp
/-! The write-time model under the stamps of the code as it is: the skipping policy never fires, so a step does to the
subscribers what it does without it. -/
namespace ScVerif.C14
open Stamp

variable {V : Type}

/-- the value a step announces, if any -/
def announced (s : St V) : Stamp.Step V → List V
  | .send w =>
    match take w s.pending with
    | some ((v, _), _) => [v]
    | none => []
  | _ => []

/-- HEAD's stamps, no seed ahead of the clock: the skipping policy lets every event pass, so it is not there -/
theorem Stamp.step_skip (skip : Bool) (s : St V) (h : Inv s) (x : Stamp.Step V) :
    Stamp.step false skip s x = Stamp.step false false s x := by
  cases x with
  | send w =>
    simp only [Stamp.step]
    split
    · rfl
    · refine congrArg (fun l => ({ s with pending := _, subs := l } : St V)) (List.map_congr_left fun sb hsb => ?_)
      -- the event is stamped with the clock, and `sb`'s seed is not ahead of it
      simp [deliver, Nat.not_lt.mpr (h.2 sb hsb)]
  | _ => rfl

theorem Stamp.step_subs (skip : Bool) (s : St V) (h : Inv s) (x : Stamp.Step V) :
    (Stamp.step false skip s x).subs =
      s.subs.map (fun sb => { sb with out := sb.out ++ announced s x }) ++
        (match x with
         | .sub => [{ seedTime := s.changeTime, out := [s.cur] }]
         | _ => []) := by
  rw [Stamp.step_skip skip s h]
  cases x with
  | send w =>
    cases ht : take w s.pending with
    | none => simp [Stamp.step, announced, ht]
    | some r => simp only [Stamp.step, announced, ht, List.append_nil]; rfl
  | _ => simp [Stamp.step, announced]

end ScVerif.C14
