import ScVerif.C14.StackLemmas
import ScVerif.C14.PropsKeyed
/-!
# C14 — two more pieces of the full stack

* the router when it creates its clients on first use (FactoryRouter.lean): under EVERY interleaving of any number of
  concurrent first requests for a name, all of them talk to one register;
* hailpb's collector of arrived hails on top of the keyed family (Collector.lean): a history of Get/Update/Pull never
  deletes anything, whatever timestamps the Updates carry; a Create deletes old items only.
-/
namespace ScVerif.C14

/-- After ANY schedule every request `Get` has answered was given the client the
registry remembers: any two requests for the name, however their first uses overlapped, run on the same device. -/
theorem C14_factory_router_one_client (sched : List RStep) (s : RState) (h0 : s.served = []) :
    (∀ r c, (r, c) ∈ (rrun false s sched).served → (rrun false s sched).registry = some c) ∧
    (∀ r1 c1 r2 c2, (r1, c1) ∈ (rrun false s sched).served → (r2, c2) ∈ (rrun false s sched).served → c1 = c2) := by
  have hinv : RInv (rrun false s sched) := rrun_inv sched s (by intro x hx; rw [h0] at hx; cases hx)
  refine ⟨fun r c h => hinv (r, c) h, ?_⟩
  intro r1 c1 r2 c2 h1 h2
  have e1 := hinv (r1, c1) h1
  have e2 := hinv (r2, c2) h2
  rw [e1] at e2
  cases e2
  rfl

/-- What "served by one client" buys: executing each request on the device of the
client it was handed is executing the whole history, in order, on that single device, for ANY device semantics
`stepOn` (in particular the register server `step`). -/
theorem C14_factory_router_one_register {S R : Type} (stepOn : S → R → S) (c0 : Nat) (l : List (Nat × R))
    (devs : Nat → S) (h : ∀ x, x ∈ l → x.1 = c0) :
    execOn stepOn devs l c0 = runOn stepOn (devs c0) (l.map (·.2)) := by
  induction l generalizing devs with
  | nil => rfl
  | cons x l ih =>
    obtain ⟨c, r⟩ := x
    have hc : c = c0 := h (c, r) List.mem_cons_self
    subst hc
    simp only [execOn, List.map_cons, runOn]
    rw [ih _ (fun y hy => h y (List.mem_cons_of_mem _ hy))]
    simp

/-- with the seeded change the orphan device takes the loser's Update and the remembered device never sees it -/
example :
    execOn (fun (s : Nat) (r : Nat) => s + r) (fun _ => 0) [(1, 5), (0, 7), (1, 1)] 1 = 6 ∧
    runOn (fun (s : Nat) (r : Nat) => s + r) 0 [5, 7, 1] = 13 := by decide +kernel

/-- Once the router remembers a client for the name, it remembers that client under every further schedule, also in the
seeded variant (what differs there is only who is SERVED by it). -/
theorem C14_factory_router_registry_stable (b : Bool) (c : Nat) (sched : List RStep) (s : RState)
    (h : s.registry = some c) : (rrun b s sched).registry = some c := by
  induction sched generalizing s with
  | nil => exact h
  | cons x xs ih =>
    apply ih
    rcases (rstep_spec b s x).1 with hreg | hreg
    · rw [hreg]; exact h
    · rw [hreg] at h; cases h

/-- the seeded change C14-12: request 1 loses the creation race and is served by the orphan client 0 it created,
request 2 (and everybody after it) by the remembered client 1 -/
theorem C14_factory_router_keep_own_fails :
    let s := rrun true ⟨none, [], [], 0⟩ [.lookup 1, .lookup 2, .factory 1, .factory 2, .insert 2, .insert 1, .lookup 3]
    s.served = [(3, 1), (1, 0), (2, 1)] ∧ s.registry = some 1 := by decide +kernel

/-- the same schedule on the code as it is: everybody is served by client 1 -/
example :
    let s := rrun false ⟨none, [], [], 0⟩ [.lookup 1, .lookup 2, .factory 1, .factory 2, .insert 2, .insert 1, .lookup 3]
    s.served = [(3, 1), (1, 1), (2, 1)] ∧ s.registry = some 1 := by decide +kernel

variable {K V Mask U : Type} [DecidableEq K]

/-- hailpb with its collector armed or not: read-your-writes for an Update whatever
its value carries, an old arrive_time included, across any requests that are not Creates and do not write `k` (the
collector's timer re-arming among them). -/
theorem C14_collector_update_then_get (C : KCfg V Mask U) (old : V → Bool) (keys : List K) (s : GSrv K V Mask)
    (k : K) (name : String) (u : U) (v : V)
    (h : (gstep C old keys false s (.req (.update k name u))).2 = .val v)
    (rs : List (GReq K Mask U)) (hrs : ∀ r, r ∈ rs → r.quiet k = true) (name' : String) :
    (gstep C old keys false (grun C old keys false (gstep C old keys false s (.req (.update k name u))).1 rs)
      (.req (.get k name' none))).2 = .val v := by
  -- no request of the session ends with a collector run: it is the keyed server's session
  have hq : ∀ r, r ∈ rs.filterMap GReq.req? → runsGc false r = false ∧ r.writes k = false := fun r hr => by
    obtain ⟨g, hg, e⟩ := List.mem_filterMap.mp hr
    exact GReq.quiet_req (hrs g hg) e
  have hu := gstep_noncreate C old keys s (.update k name u) rfl
  rw [(gstep_noncreate C old keys _ (.get k name' none) rfl).2, grun_noncreate C old keys rs _ fun r hr => (hq r hr).1, hu.1]
  exact C14_keyed_update_then_get C s.k k name u v (hu.2 ▸ h) _ (fun r hr => (hq r hr).2) name'

/-- A collector run (the deferred end of CreateHail) deletes old items only. -/
theorem C14_collector_only_old (C : KCfg V Mask U) (old : V → Bool) (keys : List K) (s : KSrv K V Mask) (k : K) (v : V)
    (hv : s.regs k = some v) :
    ((collect C old keys s).regs k = some v ∨ (collect C old keys s).regs k = none) ∧
    (old v = false → (collect C old keys s).regs k = some v) := by
  rcases collect_reg C old keys k s with h | ⟨h, v', hv', ho⟩
  · exact ⟨Or.inl (h.trans hv), fun _ => h.trans hv⟩
  · refine ⟨Or.inr h, ?_⟩
    intro hno
    rw [hv] at hv'
    cases hv'
    rw [hno] at ho
    cases ho

/-- the seeded change C14-11 (the collector also runs, deferred, after UpdateHail): the Update is answered with the
value it wrote (510, "arrived long ago"), the next Get of that item is NotFound -/
theorem C14_collector_on_update_fails :
    let s : GSrv Nat Nat Nat := ⟨⟨fun k => if k = 1 then some 10 else none, []⟩, true⟩
    let old : Nat → Bool := fun v => decide (v > 100)
    (gstep exKCfg old [1] true s (.req (.update 1 "x" 500))).2 = .val 510 ∧
    (gstep exKCfg old [1] true (gstep exKCfg old [1] true s (.req (.update 1 "x" 500))).1 (.req (.get 1 "x" none))).2
      = .err notFound := by decide +kernel

/-- the same requests on the code as it is (non-vacuity: the collector is armed, the value is old) -/
example :
    let s : GSrv Nat Nat Nat := ⟨⟨fun k => if k = 1 then some 10 else none, []⟩, true⟩
    let old : Nat → Bool := fun v => decide (v > 100)
    (gstep exKCfg old [1] false (gstep exKCfg old [1] false s (.req (.update 1 "x" 500))).1 (.req (.get 1 "x" none))).2
      = .val 510 := by decide +kernel

end ScVerif.C14
