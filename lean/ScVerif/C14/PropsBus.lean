import ScVerif.C14.BusLemmas
/-!
# C14 — between `Value.set` and the Pull streams: the bus's listener list, the one-slot buffer, the send deadline

"each successful Update … appears on every open Pull stream whose reader keeps up" rests on three facts about
`internal/minibus` and `resource.Value` that the register model (`Server.lean`: `streams.map (push v)`) takes for
granted: a registered subscription stays in the bus's listener list until ITS OWN context ends, under every
interleaving; the one-slot buffer in front of every subscriber (`DropExcess`) hands a reader that falls behind a
subsequence ending on the latest event and never makes the bus wait (what the harness's `stall` / `resume`
observations are judged by); so without `WithBackpressure` an Update is rejected only by its write pipeline, before
anything is stored.
-/
namespace ScVerif.C14

variable {E : Type}

/-- In the code as it is (`collect` one critical section), under EVERY
schedule every registered subscription whose context has not ended is in `b.listeners`. -/
theorem C14_bus_live_listeners_stay_registered (sched : List (BStep E)) (s : BusSt E)
    (hI : BusInv s) (hidle : BusIdle s) :
    BusInv (brun false s sched) ∧ BusIdle (brun false s sched) := by
  induction sched generalizing s with
  | nil => exact ⟨hI, hidle⟩
  | cons x xs ih =>
    have h := bstep_inv s x hI hidle
    exact ih _ h.1 h.2

/-- After ANY history on a fresh bus, the next `Send` hands its
event to every subscription that has been registered and not cancelled. -/
theorem C14_bus_event_reaches_every_live_subscriber (sched : List (BStep E)) (e : E) (i : Nat) :
    let s := brun false ({} : BusSt E) sched
    i ∈ s.registered → s.dead.contains i = false → (i, e) ∈ (bstep false s (.deliver e)).got := by
  intro s hreg hlive
  have hI : BusInv ({} : BusSt E) := by intro j hj; simp at hj
  have h := (C14_bus_live_listeners_stay_registered sched ({} : BusSt E) hI rfl).1 i hreg hlive
  simp only [bstep]
  apply List.mem_append_right
  apply List.mem_map.mpr
  exact ⟨i, List.mem_filter.mpr ⟨h, by rw [hlive]; rfl⟩, rfl⟩

/-- A `Send` hands its event only to listed listeners whose context
has not ended. -/
theorem C14_bus_nothing_for_cancelled_subscribers (b : Bool) (s : BusSt E) (e : E) :
    ∃ l, (bstep b s (.deliver e)).got = s.got ++ l ∧ ∀ p, p ∈ l → p.2 = e ∧ p.1 ∈ s.listeners ∧ s.dead.contains p.1 = false := by
  refine ⟨_, rfl, ?_⟩
  intro p hp
  obtain ⟨i, hi, rfl⟩ := List.mem_map.mp hp
  obtain ⟨h1, h2⟩ := List.mem_filter.mp hi
  refine ⟨rfl, h1, ?_⟩
  cases h : s.dead.contains i with
  | false => rfl
  | true => rw [h] at h2; cases h2

/-- Seeded change C14-14. When `collect` picks the live listeners on a snapshot
and stores the result in a second critical section, a `Listen` that falls between the two is thrown away: a
registered subscription whose context has not ended misses the next event. -/
theorem C14_bus_split_collect_refuted :
    ∃ (sched : List (BStep Nat)) (i e : Nat),
      let s := brun true ({} : BusSt Nat) sched
      i ∈ s.registered ∧ s.dead.contains i = false ∧ (i, e) ∉ (bstep true s (.deliver e)).got :=
  ⟨[.listen 1, .cancel 1, .deliver 5, .scan, .listen 2, .swap], 2, 7, by decide +kernel⟩

/-- non-vacuity: the same schedule on the code as it is (`scan` is the whole collect, `swap` does nothing): the
new subscription gets the event -/
example : (2, 7) ∈ (bstep false (brun false ({} : BusSt Nat) [.listen 1, .cancel 1, .deliver 5, .scan, .listen 2, .swap]) (.deliver 7)).got := by
  decide +kernel

/-- Whatever the interleaving of `put`s and `take`s on the one-slot buffer, what the subscriber is handed is a subsequence,
in order, of what was waiting plus what was put. -/
theorem C14_slow_reader_gets_subsequence (sched : List (SlotStep E)) (s : Slot E) :
    ∃ d, (slotRun s sched).out = s.out ++ d ∧ d.Sublist (s.buf.toList ++ putsOf sched) := by
  induction sched generalizing s with
  | nil => exact ⟨[], by simp [slotRun], List.nil_sublist _⟩
  | cons x xs ih =>
    cases x with
    | put e =>
      obtain ⟨d, h1, h2⟩ := ih (slotStep s (.put e))
      rw [slot_put] at h1 h2
      refine ⟨d, h1, ?_⟩
      simp only [Option.toList_some, List.singleton_append] at h2
      simp only [putsOf]
      exact h2.trans (List.sublist_append_right _ _)
    | take =>
      obtain ⟨d, h1, h2⟩ := ih (slotStep s .take)
      rw [slot_take] at h1 h2
      exact ⟨s.buf.toList ++ d, by rw [slotRun, slot_take]; exact h1.trans (List.append_assoc ..), h2.append_left _⟩

/-- Once the subscriber has taken what is waiting, the last event it was handed
is the last event put: a reader that fell behind ends on the register's value. -/
theorem C14_slow_reader_ends_on_latest (sched : List (SlotStep E)) (s : Slot E) (h : putsOf sched ≠ []) :
    (slotStep (slotRun s sched) .take).out.getLast? = (putsOf sched).getLast? := by
  rw [slot_take_last, slot_tip_run sched s]
  cases hl : (putsOf sched).getLast? with
  | none => exact absurd (List.getLast?_eq_none_iff.mp hl) h
  | some e => rfl

/-- Behind `DropExcess` a reader that takes after every put is handed every
event, in order. -/
theorem C14_reader_keeping_up_gets_everything (es : List E) (s : Slot E) (h : s.buf = none) :
    (slotRun s (keepUp es)).out = s.out ++ es ∧ (slotRun s (keepUp es)).buf = none := by
  induction es generalizing s with
  | nil => simp [keepUp, slotRun, h]
  | cons e es ih =>
    simp only [keepUp, slotRun]
    have h2 := ih (slotStep (slotStep s (.put e)) .take) (by rw [slot_take])
    simp only [slot_take, slot_put] at h2 ⊢
    simpa using h2

/-- `put` is possible in every state of the buffer. -/
theorem C14_bus_never_waits_for_buffered_subscriber (s : Slot E) (e : E) :
    (slotStep s (.put e)).buf = some e ∧ (slotStep s (.put e)).out = s.out := ⟨rfl, rfl⟩

/-- The harness's judgement of a reader that had stalled: the values
announced during the stall are queued as optional entries, and every subsequence is accepted when it resumes. -/
theorem C14_acceptor_accepts_resumed_reader (q : List Entry) (ds : List VId)
    (hopt : ∀ e, e ∈ q → e.must = false) (hsub : ds.Sublist (q.map (·.val))) :
    recvAll q ds = true := by
  induction ds generalizing q with
  | nil => rfl
  | cons d ds ih =>
    obtain ⟨e, rest, h1, h2, h3, h4⟩ := skipOptional_finds d ds q hopt hsub
    have hr : qRecv q d true = (rest, .ok) := by
      simp [qRecv, h1, h2]
    simp only [recvAll, hr, beq_self_eq_true, Bool.true_and]
    exact ih rest h4 h3

/-- The two together: whatever the interleaving of announcements and
reads on the one-slot buffer of a stalled stream, the acceptor accepts everything the reader is handed. -/
theorem C14_acceptor_accepts_one_slot_buffer (sched : List (SlotStep VId)) :
    recvAll (optQueue (putsOf sched)) (slotRun ({} : Slot VId) sched).out = true := by
  obtain ⟨d, h1, h2⟩ := C14_slow_reader_gets_subsequence sched ({} : Slot VId)
  have hd : (slotRun ({} : Slot VId) sched).out = d := by simpa using h1
  rw [hd]
  apply C14_acceptor_accepts_resumed_reader _ d (optQueue_noMust _)
  rw [optQueue_vals]
  simpa using h2

/-- entries queued while a reader is stalled (`established = false`) are optional, whatever the values -/
theorem C14_stalled_entries_are_optional (q : List Entry) (w wp : VId) (hopt : ∀ e, e ∈ q → e.must = false) :
    (∀ e, e ∈ qPush q w wp false → e.must = false) ∧ (qPush q w wp false).map (·.val) = q.map (·.val) ++ [w] := by
  constructor
  · intro e he
    simp only [qPush, List.mem_append, List.mem_singleton] at he
    rcases he with he | rfl
    · exact hopt e he
    · simp
  · simp [qPush]

/-- non-vacuity: five values announced while the reader is stalled, three of them delivered -/
example : recvAll (optQueue [3, 4, 3, 5, 6]) [3, 5, 6] = true := by decide +kernel

/-- … and a message that was never announced is rejected -/
example : recvAll (optQueue [3, 4, 3, 5, 6]) [3, 7] = false := by decide +kernel

variable {V U : Type}

/-- As long as no subscriber asked for backpressure
(every trait server as it is), `Value.set` answers with an error only when its write pipeline does, and then the
register is unchanged. -/
theorem C14_rejected_update_leaves_register_without_backpressure (apply : V → U → Except Nat V) (cur : V) (u : U)
    (subs : List SubRoom) (hnb : ∀ s, s ∈ subs → s.backpressure = false) :
    setWithDeadline apply cur u subs = (match apply cur u with
      | .error c => (cur, .error c)
      | .ok v => (v, .ok v)) ∧
    ∀ c, (setWithDeadline apply cur u subs).2 = .error c → (setWithDeadline apply cur u subs).1 = cur := by
  have hall : subs.all (·.takes) = true := by
    apply List.all_eq_true.mpr
    intro s hs
    simp [SubRoom.takes, hnb s hs]
  constructor
  · unfold setWithDeadline
    cases apply cur u with
    | error c => rfl
    | ok v => simp [hall]
  · intro c hc
    unfold setWithDeadline at hc ⊢
    cases h : apply cur u with
    | error c' => rfl
    | ok v => simp [h, hall] at hc

/-- Seeded change C14-15. With one subscriber that asked for
backpressure and whose reader has stalled, an Update is answered with an error AFTER its value has been stored:
"an Update rejected with any error status leaves Get unchanged" fails. -/
theorem C14_backpressure_rejects_after_storing :
    ∃ (apply : Nat → Nat → Except Nat Nat) (cur u : Nat) (subs : List SubRoom) (c : Nat),
      (setWithDeadline apply cur u subs).2 = .error c ∧ (setWithDeadline apply cur u subs).1 ≠ cur :=
  ⟨fun _ u => .ok u, 0, 1, [⟨true, 0⟩], 2, by simp [setWithDeadline, SubRoom.takes]⟩

/-- non-vacuity: the same stalled subscriber without backpressure: the Update is answered OK -/
example : setWithDeadline (fun _ (u : Nat) => (.ok u : Except Nat Nat)) 0 1 [⟨false, 0⟩] = (1, .ok 1) := by
  simp [setWithDeadline, SubRoom.takes]

/-! End to end (bus + one-slot buffers, Feed.lean): a subscriber is OWED every event sent from its registration on, as
long as its own context has not ended, a definition that does not mention the bus's listener list. -/
/-- After any history on a fresh bus, what a live subscriber has been handed is a subsequence, in order, of what it is
owed: nothing else ever reaches it. -/
theorem C14_feed_subscriber_gets_subsequence_of_what_it_is_owed (sched : List (FStep E)) (i : Nat)
    (halive : (frun ({} : Feed E) sched).alive i = true) :
    ((frun ({} : Feed E) sched).slots i).out.Sublist ((frun ({} : Feed E) sched).owed i) :=
  (List.sublist_append_left _ _).trans ((frun_inv sched {} feed_init_inv).sub i halive)

/-- Whatever other subscriptions came and went, whenever the bus tidied up and
however far it fell behind, a live subscriber ends on the last event sent since it subscribed. -/
theorem C14_feed_subscriber_ends_on_latest (sched : List (FStep E)) (i : Nat)
    (halive : (frun ({} : Feed E) sched).alive i = true) (howed : (frun ({} : Feed E) sched).owed i ≠ []) :
    (slotStep ((frun ({} : Feed E) sched).slots i) .take).out.getLast? = ((frun ({} : Feed E) sched).owed i).getLast? := by
  rw [slot_take_last]
  exact (frun_inv sched {} feed_init_inv).tip i halive howed

/-- After any history, one more `Send` leaves its event waiting in the buffer of EVERY live subscriber, as the newest
thing each of them is owed. -/
theorem C14_feed_every_send_reaches_every_live_subscriber (sched : List (FStep E)) (e : E) (i : Nat)
    (halive : (frun ({} : Feed E) sched).alive i = true) :
    let s := fstep (frun ({} : Feed E) sched) (.deliver e)
    (s.slots i).buf = some e ∧ (s.owed i).getLast? = some e := by
  simp only [fstep, (frun_inv sched ({} : Feed E) feed_init_inv).reaches_alive, halive, if_true, slot_put]
  exact ⟨trivial, by simp⟩

/-- non-vacuity: subscriber 1 cancels, 2 subscribes while the bus has not tidied up yet, falls behind by two events
and ends on the latest -/
example : (slotStep ((frun ({} : Feed Nat) [.listen 1, .deliver 5, .cancel 1, .listen 2, .deliver 6, .collect, .deliver 7, .deliver 8]).slots 2) .take).out = [8] := by
  decide +kernel

end ScVerif.C14
