import ScVerif.C14.Lemmas
/-!
# C14 — trait servers give read-your-writes through the full stack

Theorems about the generic register server (Server.lean) for EVERY write pipeline `apply` (any
interceptors, masks, business rules), every equivalence `eqv`, every projection `proj`, every
request history.  The harness ties the model to every discovered Get/Update/Pull triple by running
it as a trace acceptor (Acceptor.lean) on the real stack. Last: servers whose Update starts background writes (tweens),
and two recorded findings (multi-part Updates, an edited seed).
-/
namespace ScVerif.C14

variable {V Mask U : Type}

/-- After a successful Update and any requests that are not Updates, an unmasked Get
returns the Update's response. -/
theorem C14_update_then_get (C : Cfg V Mask U) (s : Srv V Mask) (name : String) (u : U) (v : V)
    (h : (step C s (.update name u)).2 = .val v)
    (rs : List (Req Mask U)) (hrs : ∀ r, r ∈ rs → r.isUpdate = false) (name' : String) :
    (step C (run C (step C s (.update name u)).1 rs) (.get name' none)).2 = .val v := by
  rw [step_update_val C s name u v h]
  show Resp.val (run C _ rs).cur = Resp.val v
  rw [run_nonupdate_cur C rs _ hrs]

/-- A Get with a read mask is the projection of the unmasked Get in the same state. -/
theorem C14_masked_get (C : Cfg V Mask U) (s : Srv V Mask) (n n' : String) (m : Mask) (v : V)
    (h : (step C s (.get n none)).2 = .val v) :
    (step C s (.get n' (some m))).2 = .val (C.proj m v) ∧ (step C s (.get n' (some m))).1 = s := by
  simp only [step, view] at h ⊢
  cases h
  simp

/-- A new Pull starts with exactly the (projected) current value under the request's name, or
empty with updates_only; nothing else is touched. -/
theorem C14_pull_seed (C : Cfg V Mask U) (s : Srv V Mask) (name : String) (m : Option Mask) (uo : Bool) :
    let s' := (step C s (.pull name m uo)).1
    s'.cur = s.cur ∧ s'.streams.take s.streams.length = s.streams ∧
    ∃ st, s'.streams[s.streams.length]? = some st ∧ st.name = name ∧ st.mask = m ∧ st.live = true ∧
      st.out = (if uo then [] else [(view C m s.cur, name)]) := by
  intro s'
  exact ⟨rfl, List.take_left, openStream C s.cur name m uo, step_pull_stream C s name m uo, rfl, rfl, rfl,
    openStream_out C s.cur name m uo⟩

/-- A successful Update reaches every stream: a live stream whose equivalence does not
suppress it gets exactly one new message, the projected response under the name of its Pull request; nothing else is
ever added, and stream identities never change. -/
theorem C14_update_on_streams (C : Cfg V Mask U) (s : Srv V Mask) (name : String) (u : U) (v : V)
    (h : (step C s (.update name u)).2 = .val v) (i : Nat) (st : Stream V Mask) (hi : s.streams[i]? = some st) :
    ∃ st', (step C s (.update name u)).1.streams[i]? = some st' ∧
      st'.name = st.name ∧ st'.mask = st.mask ∧ st'.live = st.live ∧
      (st.live = true → C.eqv st.last (view C st.mask v) = false → st'.out = st.out ++ [(view C st.mask v, st.name)]) ∧
      (st'.out = st.out ∨ st'.out = st.out ++ [(view C st.mask v, st.name)]) := by
  rw [step_update_val C s name u v h]
  exact ⟨push C v st, by rw [List.getElem?_map, hi]; rfl, push_spec C v st⟩

/-- An Update answered with an error status changes nothing. -/
theorem C14_rejected_frame (C : Cfg V Mask U) (s : Srv V Mask) (name : String) (u : U) (c : Nat)
    (h : (step C s (.update name u)).2 = .err c) :
    (step C s (.update name u)).1 = s ∧
    ∀ n m, (step C (step C s (.update name u)).1 (.get n m)).2 = (step C s (.get n m)).2 := by
  have hs := step_update_err C s name u c h
  exact ⟨hs, fun n m => by rw [hs]⟩

/-- History form of read-your-writes: in every reachable state the
register holds the initial value or the response of a successful Update of the history (`Explained`; its
constructor `init` already covers the initial value, the second disjunct says the same outright). -/
theorem C14_get_is_last_response (C : Cfg V Mask U) (init : V) (rs : List (Req Mask U)) :
    Explained C init rs (run C ⟨init, []⟩ rs).cur ∨ (run C ⟨init, []⟩ rs).cur = init := by
  suffices h : ∀ post pre, Explained C init (pre ++ post) (run C (run C ⟨init, []⟩ pre) post).cur ∨
      (run C (run C ⟨init, []⟩ pre) post).cur = (run C ⟨init, []⟩ pre).cur from h rs []
  intro post
  induction post with
  | nil => exact fun _ => Or.inr rfl
  | cons r post ih =>
    intro pre
    have key := ih (pre ++ [r])
    rw [run_append, List.append_assoc] at key
    -- `key` compares with the state after `r`: a successful Update explains its value, anything else keeps the old one
    refine key.elim Or.inl fun key => ?_
    simp only [run] at key ⊢
    rw [key]
    cases r with
    | update name u =>
      simp only [step]
      cases ha : C.apply (run C ⟨init, []⟩ pre).cur u with
      | error c => exact Or.inr rfl
      | ok w => exact Or.inl (Explained.resp pre name u w post ha)
    | _ => exact Or.inr rfl

/-- History form of "one coherent register" for streams: every message on a
stream was there before the history, or is the stream's projection, under its own request name, of a value the
register held during the history (`vals`). -/
theorem C14_stream_messages_accounted (C : Cfg V Mask U) (rs : List (Req Mask U)) :
    ∀ (s : Srv V Mask) (st' : Stream V Mask), st' ∈ (run C s rs).streams → ∀ x, x ∈ st'.out →
      (∃ st, st ∈ s.streams ∧ st.name = st'.name ∧ st.mask = st'.mask ∧ x ∈ st.out) ∨
      (x.2 = st'.name ∧ ∃ v, v ∈ vals C s rs ∧ x.1 = view C st'.mask v) := by
  induction rs with
  | nil => intro s st' hst x hx; exact Or.inl ⟨st', hst, rfl, rfl, hx⟩
  | cons r rs ih =>
    intro s st' hst x hx
    rcases ih (step C s r).1 st' hst x hx with ⟨st1, h1, hn, hm, hx1⟩ | ⟨hn, v, hv, hxv⟩
    · rcases step_streams C s r st1 h1 x hx1 with ⟨st, h0, hn0, hm0, hx0⟩ | ⟨hn1, hval⟩
      · exact Or.inl ⟨st, h0, hn0.trans hn, hm0.trans hm, hx0⟩
      · refine Or.inr ⟨hn1.trans hn, ?_⟩
        rcases hval with hval | hval
        · exact ⟨(step C s r).1.cur, by simp [vals, cur_mem_vals], by rw [hval, hm]⟩
        · exact ⟨s.cur, by simp [vals], by rw [hval, hm]⟩
    · exact Or.inr ⟨hn, v, by simp [vals, hv], hxv⟩

/-- a concrete server: values are numbers, `apply` adds and rejects 0, masks take remainders, equality as equivalence -/
def exCfg : Cfg Nat Nat Nat where
  proj := fun m v => v % m
  apply := fun cur u => if u = 0 then .error 3 else .ok (cur + u)
  eqv := fun l w => l == some w

example :
    let s := run exCfg ⟨10, []⟩ [.pull "a" none false, .pull "b" (some 4) true, .update "x" 5, .update "x" 0, .update "x" 4]
    s.cur = 19 ∧ (s.streams.map (·.out)) = [[(10, "a"), (15, "a"), (19, "a")], [(3, "b")]] := by decide +kernel

/-- The tie runs the model as an acceptor (Acceptor.lean). This is the per-stream
simulation step that makes a rejection meaningful: whatever `push` does with an Update response on a live stream, the
acceptor's queue functions answer `ok` and the simulation invariant is re-established. Hypotheses (both hold for the
servers in `/repo` on the harness's inputs, see props/C14.json): the equivalence suppresses only repeated values, and
the projection is idempotent. -/
theorem C14_acceptor_accepts_model_stream (C : Cfg Nat Nat U)
    (heqv : ∀ l x, C.eqv l x = true → l = some x)
    (hidem : ∀ m x, C.proj m (C.proj m x) = C.proj m x)
    (st : Stream Nat Nat) (hlive : st.live = true) (q : List Entry) (prev v : Nat) (est : Bool)
    -- simulation invariant before the Update: what was last sent projects like the register, and the
    -- queue holds only suppressed (optional) expectations of the register's current projection
    (hI : ∀ w, st.last = some w → view C st.mask w = view C st.mask prev)
    (hq : AllOpt q (view C st.mask prev)) :
    let x := view C st.mask v
    let q1 := qPush q x (view C st.mask prev) est
    -- the model suppresses the message: the reader finds the stream idle, accepted
    (C.eqv st.last x = true →
        (push C v st).out = st.out ∧ qIdle q1 = .ok ∧ AllOpt q1 x ∧
        ∀ w, (push C v st).last = some w → view C st.mask w = view C st.mask v) ∧
    -- the model sends `x` under the stream's name: the message and the following idle are accepted
    (C.eqv st.last x = false →
        (push C v st).out = st.out ++ [(x, st.name)] ∧ (qRecv q1 x true).2 = .ok ∧
        qIdle (qRecv q1 x true).1 = .ok ∧ AllOpt (qRecv q1 x true).1 x ∧
        ∀ w, (push C v st).last = some w → view C st.mask w = view C st.mask v) := by
  intro x q1
  have hxx : view C st.mask x = view C st.mask v := by
    show view C st.mask (view C st.mask v) = view C st.mask v
    cases st.mask with
    | none => rfl
    | some m => exact hidem m v
  constructor
  · -- suppressed: what was sent last is `x`, so the projection has not changed and the new entry is optional like the old ones
    intro he
    have hl : st.last = some x := heqv _ _ he
    have hxp : view C st.mask prev = x := (hI x hl).symm.trans hxx
    have hq1 : AllOpt q1 x := by
      show AllOpt (qPush q x (view C st.mask prev) est) x
      rw [hxp] at hq ⊢
      exact qPush_same q x est hq
    rw [push_suppressed C v st he]
    refine ⟨rfl, qIdle_allOpt q1 x hq1, hq1, fun w hw => ?_⟩
    rw [hl] at hw
    cases hw
    exact hxx
  · intro he
    rw [push_sent C v st hlive he]
    obtain ⟨rest, hr, hrest⟩ := qPush_recv q x (view C st.mask prev) est hq
    rw [hr]
    exact ⟨rfl, rfl, qIdle_allOpt rest x hrest, hrest, fun w hw => by cases hw; exact hxx⟩

/-- The one-step theorem iterated: whatever values are announced to a live
stream one after the other (the responses of sequential Updates, or the announced values of concurrent writers in send
order: the harness's `updok` / `updlate` observations), the acceptor accepts every message the model sends and every
idle moment in between. So a rejection is never an artefact of the acceptor's bookkeeping. -/
theorem C14_acceptor_accepts_event_sequence (C : Cfg Nat Nat U)
    (heqv : ∀ l x, C.eqv l x = true → l = some x)
    (hidem : ∀ m x, C.proj m (C.proj m x) = C.proj m x) (vs : List Nat) :
    ∀ (st : Stream Nat Nat) (q : List Entry) (prev : Nat) (est : Bool), st.live = true →
      (∀ w, st.last = some w → view C st.mask w = view C st.mask prev) →
      AllOpt q (view C st.mask prev) →
      acceptAll C st q prev est vs = true := by
  induction vs with
  | nil => intro st q prev est _ _ _; rfl
  | cons v vs ih =>
    intro st q prev est hlive hI hq
    have key := C14_acceptor_accepts_model_stream C heqv hidem st hlive q prev v est hI hq
    simp only at key
    obtain ⟨_, hmask, hlv, _⟩ := push_spec C v st
    simp only [acceptAll, acceptPush]
    cases he : C.eqv st.last (view C st.mask v) with
    | true =>
      obtain ⟨_, h2, h3, h4⟩ := key.1 he
      simp only [if_true, h2, beq_self_eq_true, Bool.true_and, Bool.or_false]
      exact ih (push C v st) _ v est (hlv.trans hlive) (by rw [hmask]; exact h4) (by rw [hmask]; exact h3)
    | false =>
      obtain ⟨_, h2, h3, h4, h5⟩ := key.2 he
      simp only [Bool.false_eq_true, if_false, h2, h3, beq_self_eq_true, Bool.true_and, Bool.and_self]
      exact ih (push C v st) _ v (est || true) (hlv.trans hlive) (by rw [hmask]; exact h5) (by rw [hmask]; exact h4)

/-- non-vacuity: the forced two-writer schedule on the example server — the later store's value 19 first, then the
overtaken 15 — is accepted, message by message -/
example : acceptAll exCfg (openStream exCfg 10 "a" none false) [] 10 true [19, 15] = true := by decide +kernel

/-- lightpb.MemoryDevice tweens. Read-your-writes under an interrupted tween: the
response of the interrupting Update stays the register's value for every schedule of the goroutine's remaining ticks,
because every one of its writes is guarded by the value it wrote last. -/
theorem C14_tween_interrupt_sticks {W : Type} [DecidableEq W] (s : TSrv W) (j : Job W) (v : W)
    (hj : s.job = some j) (hv : v ≠ j.last) (bs : List (BgStep W)) :
    (bgRun true (interrupt s v) bs).cur = v := by
  cases bs with
  | nil => rfl
  | cons b bs =>
    have h1 : bgStep true (interrupt s v) b = { cur := v, job := none } := by
      cases b <;> simp [bgStep, interrupt, hj, hv]
    simp only [bgRun, h1]
    rw [bgRun_nojob true bs _ rfl]

/-- the same server with an UNGUARDED finishing write (the seeded change C14-1) loses the Update -/
theorem C14_tween_unguarded_finish_fails :
    ∃ (s : TSrv Nat) (j : Job Nat) (v : Nat), s.job = some j ∧ v ≠ j.last ∧
      (bgRun false (interrupt s v) [.finish]).cur ≠ v :=
  ⟨⟨50, some ⟨50, 80⟩⟩, ⟨50, 80⟩, 10, rfl, by decide +kernel, by decide +kernel⟩

/-- Left alone, the job ends on its target whatever progress values the ticks write. -/
theorem C14_tween_completes {W : Type} [DecidableEq W] (ps : List W) :
    ∀ (s : TSrv W) (j : Job W), s.job = some j → s.cur = j.last →
      (bgRun true s (ps.map BgStep.progress ++ [.finish])).cur = j.target := by
  induction ps with
  | nil =>
    intro s j hj hc
    simp [bgRun, bgStep, hj, hc]
  | cons p ps ih =>
    intro s j hj hc
    simp only [List.map_cons, List.cons_append, bgRun]
    have h1 : bgStep true s (.progress p) = { cur := p, job := some { j with last := p } } := by
      simp [bgStep, hj, hc]
    rw [h1]
    exact ih _ { j with last := p } rfl rfl

/-! ### A recorded finding: composite (multi-item) updates — openclosepb.UpdatePositions

`UpdatePositions` carries one request out as one `Collection.Update` per state; each of them is a
register write with its own event. The full-strength statement `C14_update_on_streams` (exactly one
new message, the response's value) does not hold for such a server: -/

/-- a composite Update: the request is a list of register writes, the response is the final value -/
def stepMulti (C : Cfg V Mask U) (s : Srv V Mask) (name : String) : List U → Srv V Mask × Resp V
  | [] => (s, .val s.cur)
  | u :: us =>
    match step C s (.update name u) with
    | (s', .val _) => stepMulti C s' name us
    | (s', r) => (s', r)

/-- with two or more parts an open stream receives an intermediate value the response never had -/
theorem C14_composite_update_on_streams_fails :
    ∃ (s : Srv Nat Nat) (us : List Nat) (v : Nat) (st st' : Stream Nat Nat),
      (stepMulti exCfg s "x" us).2 = .val v ∧ s.streams[0]? = some st ∧
      (stepMulti exCfg s "x" us).1.streams[0]? = some st' ∧ st.live = true ∧
      exCfg.eqv st.last (view exCfg st.mask v) = false ∧
      st'.out ≠ st.out ++ [(view exCfg st.mask v, st.name)] :=
  ⟨⟨10, [openStream exCfg 10 "a" none false]⟩, [1, 2], 13, openStream exCfg 10 "a" none false,
    { name := "a", mask := none, updatesOnly := false, last := some 13, out := [(10, "a"), (11, "a"), (13, "a")], live := true },
    by decide +kernel, rfl, rfl, by decide +kernel, by decide +kernel, by decide +kernel⟩

/-- **partial:** a composite Update with exactly one part IS the register write of that part (the harness's monitor
reports multi-part requests under the recorded finding). -/
theorem C14_composite_update_on_streams_partial (C : Cfg V Mask U) (s : Srv V Mask) (name : String) (u : U) :
    stepMulti C s name [u] = step C s (.update name u) := by
  simp only [stepMulti, step]
  cases C.apply s.cur u with
  | error c => rfl
  | ok w => rfl

/-- the hypothesis of the partial theorem is satisfiable by a reachable state -/
example : (stepMulti exCfg ⟨10, []⟩ "x" [5]).2 = .val 15 := by decide +kernel

/-! ### A recorded finding: an edited seed — enterleavesensorpb.PullEnterLeaveEvents

The model clears occupant and direction in the seed it sends (documented). -/

/-- a Pull whose seed is `edit cur` instead of `cur` -/
def openStreamEdited (C : Cfg V Mask U) (edit : V → V) (cur : V) (name : String) (mask : Option Mask) (uo : Bool) : Stream V Mask :=
  { openStream C cur name mask uo with out := if uo then [] else [(view C mask (edit cur), name)] }

/-- the full-strength `C14_pull_seed` fails for such a server -/
theorem C14_pull_seed_edited_fails :
    ∃ (edit : Nat → Nat) (cur : Nat), (openStreamEdited exCfg edit cur "a" none false).out ≠ [(view exCfg none cur, "a")] :=
  ⟨fun _ => 0, 7, by decide +kernel⟩

/-- **partial:** when the edit leaves the current value alone (enter/leave: the last event carries
neither occupant nor direction — e.g. initially or after ResetEnterLeaveTotals) the Pull is the
register's Pull and `C14_pull_seed` applies. -/
theorem C14_pull_seed_edited_partial (C : Cfg V Mask U) (edit : V → V) (cur : V) (name : String) (mask : Option Mask) (uo : Bool)
    (h : edit cur = cur) : openStreamEdited C edit cur name mask uo = openStream C cur name mask uo := by
  simp [openStreamEdited, openStream, h]

/-- the hypothesis is satisfiable: an edit that clears a component leaves values without it alone -/
example : (fun n : Nat => n % 10) 7 = 7 := by decide +kernel

end ScVerif.C14
