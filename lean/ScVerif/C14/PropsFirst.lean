import ScVerif.C14.Props
import ScVerif.C14.StampLemmas
/-!
# C14 — the first write after a subscription, and write times

Two classes the harness family `first` (first.go) drives on the real stack, and between them what its observation
`estab` means to the acceptor:

* an updates-only subscriber has been sent nothing, its comparison base line is NOTHING (`last = nil`, and
  `cmp.Equal(nil, x) = false`): the first successful Update after the subscription is delivered WHATEVER its value, the
  zero message and an empty projection included; with the zero message as base line instead (seeded C14-20) it is not;
* `Stamp.lean`: with HEAD's time stamps (taken when the value is saved and when it is announced) no recorded stamp lies in
  the future, so a subscriber comparing event times with its seed's change time never skips anything, coarse clocks
  included; with ONE stamp per write taken when the write begins (seeded C14-21) a value stored after the subscription
  is lost to it.
-/
namespace ScVerif.C14

variable {V Mask U : Type}

/-- A live stream that has been sent nothing (`last = none`: an updates-only
subscription before its first message), on a server whose equivalence never identifies "nothing" with a value, gets
the first successful Update whatever its value. -/
theorem C14_first_update_delivered (C : Cfg V Mask U) (hnil : ∀ x, C.eqv none x = false)
    (s : Srv V Mask) (name : String) (u : U) (v : V)
    (h : (step C s (.update name u)).2 = .val v) (i : Nat) (st : Stream V Mask) (hi : s.streams[i]? = some st)
    (hlive : st.live = true) (hlast : st.last = none) :
    ∃ st', (step C s (.update name u)).1.streams[i]? = some st' ∧ st'.name = st.name ∧ st'.mask = st.mask ∧
      st'.out = st.out ++ [(view C st.mask v, st.name)] := by
  obtain ⟨st', h1, h2, h3, _, h5, _⟩ := C14_update_on_streams C s name u v h i st hi
  exact ⟨st', h1, h2, h3, h5 hlive (by rw [hlast]; exact hnil _)⟩

/-- Pull with updates_only, then (after any Gets) a successful Update: the stream's
whole output is that one message. -/
theorem C14_updates_only_first_update (C : Cfg V Mask U) (hnil : ∀ x, C.eqv none x = false)
    (s : Srv V Mask) (name : String) (m : Option Mask) (gets : List (String × Option Mask)) (n' : String) (u : U) (v : V)
    (h : (step C (run C (step C s (.pull name m true)).1 (gets.map fun g => Req.get g.1 g.2)) (.update n' u)).2 = .val v) :
    ∃ st', (step C (run C (step C s (.pull name m true)).1 (gets.map fun g => Req.get g.1 g.2)) (.update n' u)).1.streams[s.streams.length]?
        = some st' ∧ st'.name = name ∧ st'.mask = m ∧ st'.out = [(view C m v, name)] := by
  rw [run_gets] at h ⊢
  obtain ⟨st', h1, h2, h3, h4⟩ := C14_first_update_delivered C hnil _ n' u v h s.streams.length _
    (step_pull_stream C s name m true) rfl (openStream_last C s.cur name m true)
  refine ⟨st', h1, by rw [h2]; rfl, by rw [h3]; rfl, ?_⟩
  rw [h4, openStream_out]
  rfl

/-- the seeded base line of C14-20: nothing sent yet is compared as the zero value -/
def zeroBaseCfg : Cfg Nat Nat Nat :=
  { proj := fun _ v => v, apply := fun _ u => .ok u, eqv := fun l x => l.getD 0 == x }

/-- With the zero value as an updates-only subscriber's base line the
statement of `C14_updates_only_first_update` is false: the register goes from 40 to 0, Get says 0, the stream stays
silent. -/
theorem C14_first_update_zero_baseline_fails :
    let s0 : Srv Nat Nat := { cur := 40, streams := [] }
    let s1 := (step zeroBaseCfg s0 (.pull "dev" none true)).1
    (step zeroBaseCfg s1 (.update "dev" 0)).2 = .val 0 ∧
    (step zeroBaseCfg s1 (.update "dev" 0)).1.streams.map (·.out) = [[]] := by
  decide +kernel

/-- The harness may announce an updates-only stream as established
before its first message (`estab i`: its listener was in the snapshot of the write's Send). The acceptor then still
accepts every sequence of announced values the model sends to such a stream, must-entries from the first write on. -/
theorem C14_acceptor_accepts_established_updates_only {U : Type} (C : Cfg Nat Nat U)
    (heqv : ∀ l x, C.eqv l x = true → l = some x)
    (hidem : ∀ m x, C.proj m (C.proj m x) = C.proj m x)
    (cur : Nat) (name : String) (m : Option Nat) (vs : List Nat) :
    acceptAll C (openStream C cur name m true) [] cur true vs = true :=
  C14_acceptor_accepts_event_sequence C heqv hidem vs (openStream C cur name m true) [] cur true rfl
    (by intro w hw; rw [openStream_last] at hw; cases hw) (by intro e he; simp at he)

/-- Conversely: on an established stream with nothing outstanding, a
projection-changing write after which the reader finds the stream idle is rejected (the verdict of seeded C14-20 and
C14-21); on a stream that is not established the same idle moment is accepted. -/
theorem C14_acceptor_rejects_silent_first_write (x xp : VId) (h : x ≠ xp) :
    qIdle (qPush [] x xp true) = .reject "Pull/update-missing-on-stream" ∧ qIdle (qPush [] x xp false) = .ok := by
  constructor
  · simp [qIdle, qPush, h]
  · simp [qIdle, qPush]

open Stamp  -- `St`, `Inv`, `take`, `deliver`, `init` below are Stamp.lean's

/-- With the stamps of the code as it is (`atBegin = false`), under either subscriber policy, no step puts a change time
or a seed time ahead of the clock: every step preserves `Inv`. -/
theorem C14_stamp_no_future_stamp (skip : Bool) (s : St V) (x : Stamp.Step V) (h : Inv s) : Inv (Stamp.step false skip s x) := by
  rw [Stamp.step_skip skip s h]
  obtain ⟨h1, h2⟩ := h
  cases x with
  | tick => exact ⟨Nat.le_succ_of_le h1, fun sb hsb => Nat.le_succ_of_le (h2 sb hsb)⟩
  | begin w => exact ⟨h1, h2⟩
  | store w v => exact ⟨Nat.le_refl _, h2⟩
  | send w =>
    simp only [Stamp.step]
    split
    · exact ⟨h1, h2⟩
    · refine ⟨h1, fun sb hsb => ?_⟩
      obtain ⟨sb0, hm, rfl⟩ := List.mem_map.mp hsb
      exact h2 sb0 hm
  | sub =>
    refine ⟨h1, fun sb hsb => ?_⟩
    rcases List.mem_append.mp hsb with hsb | hsb
    · exact h2 sb hsb
    · cases List.mem_singleton.mp hsb; exact h1

/-- HEAD's stamps: an announcement reaches EVERY subscriber, also under the
skipping policy. -/
theorem C14_stamp_send_reaches_every_subscriber (skip : Bool) (s : St V) (h : Inv s) (w : Nat) (v : V) (b : Nat)
    (rest : List (Nat × V × Nat)) (ht : take w s.pending = some ((v, b), rest)) :
    (Stamp.step false skip s (.send w)).subs = s.subs.map fun sb => { sb with out := sb.out ++ [v] } := by
  rw [Stamp.step_subs skip s h]
  simp only [announced, ht, List.append_nil]

/-- HEAD's stamps: the run under the skipping policy IS the run without it (site 2 of
seeded C14-21 alone is harmless). -/
theorem C14_stamp_filter_never_fires (xs : List (Stamp.Step V)) : ∀ s : St V, Inv s →
    Stamp.run false true s xs = Stamp.run false false s xs := by
  induction xs with
  | nil => intro s _; rfl
  | cons x xs ih =>
    intro s h
    simp only [Stamp.run]
    rw [Stamp.step_skip true s h]
    exact ih _ (C14_stamp_no_future_stamp false s x h)

/-- the values announced along a schedule under HEAD's stamps, in send order (`skip` only selects the run the schedule is
followed in; by `C14_stamp_filter_never_fires` the two runs coincide) -/
def sentAlong (skip : Bool) : St V → List (Stamp.Step V) → List V
  | _, [] => []
  | s, x :: xs => announced s x ++ sentAlong skip (Stamp.step false skip s x) xs

/-- Whole-history form, HEAD's stamps, either subscriber
policy, ANY schedule: nothing is skipped, nothing else is added. -/
theorem C14_stamp_subscriber_gets_every_later_announcement (skip : Bool) (xs : List (Stamp.Step V)) :
    ∀ s : St V, Inv s → ∀ (j : Nat) (sb : Stamp.Sub V), s.subs[j]? = some sb →
      ∃ sb', (Stamp.run false skip s xs).subs[j]? = some sb' ∧ sb'.seedTime = sb.seedTime ∧
        sb'.out = sb.out ++ sentAlong skip s xs := by
  induction xs with
  | nil => intro s _ j sb hj; exact ⟨sb, hj, rfl, by simp [sentAlong]⟩
  | cons x xs ih =>
    intro s h j sb hj
    have hinv := C14_stamp_no_future_stamp skip s x h
    -- one step: the subscriber is still at index j, with the announced value (if any) appended
    have h1 : (Stamp.step false skip s x).subs[j]? = some { sb with out := sb.out ++ announced s x } := by
      rw [Stamp.step_subs skip s h, List.getElem?_append_left (by simpa using (List.getElem?_eq_some_iff.mp hj).1),
        List.getElem?_map, hj]
      rfl
    obtain ⟨sb', g1, g2, g3⟩ := ih _ hinv j _ h1
    exact ⟨sb', by simpa [Stamp.run] using g1, g2, by rw [g3]; simp [sentAlong, List.append_assoc]⟩

/-- writer 1 enters its write, time passes, writer 2 re-sends the current value 5 (stored and announced), a seeded
subscription is opened, writer 1's value 7 is stored and announced -/
def heartbeatSchedule : List (Stamp.Step Nat) :=
  [.begin 1, .tick, .begin 2, .store 2 5, .send 2, .sub, .store 1 7, .send 1]

/-- One stamp per write taken when the write begins, together with the
skipping policy (seeded C14-21): the register holds 7, the subscriber seeded with 5 never sees it. Each site alone
delivers it. -/
theorem C14_stamp_begin_stamp_and_filter_fails :
    (Stamp.run true true (Stamp.init 5) heartbeatSchedule).cur = 7 ∧
    (Stamp.run true true (Stamp.init 5) heartbeatSchedule).subs.map (·.out) = [[5]] ∧
    (Stamp.run true false (Stamp.init 5) heartbeatSchedule).subs.map (·.out) = [[5, 7]] ∧
    (Stamp.run false true (Stamp.init 5) heartbeatSchedule).subs.map (·.out) = [[5, 7]] := by
  decide +kernel

/-- non-vacuity: the initial state satisfies the invariant -/
example : Inv (Stamp.init (5 : Nat)) := ⟨Nat.le_refl _, fun _ h => by simp [Stamp.init] at h⟩

end ScVerif.C14
