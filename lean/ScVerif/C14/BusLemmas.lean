import ScVerif.C14.Feed
/-! Between `Value.set` and a subscriber: a live listener stays listed (`bstep_inv`), and its one-slot buffer keeps a
contract with the list of events offered to it (`SlotOk`), which `FeedInv` holds for every subscriber. -/
namespace ScVerif.C14

variable {E : Type}

theorem contains_cons_false {i j : Nat} {l : List Nat} (h : (i :: l).contains j = false) : l.contains j = false ∧ j ≠ i := by
  simp only [List.contains_cons, Bool.or_eq_false_iff] at h
  exact ⟨h.2, by simpa using h.1⟩

theorem bstep_inv (s : BusSt E) (x : BStep E) (hI : BusInv s) (hidle : BusIdle s) :
    BusInv (bstep false s x) ∧ BusIdle (bstep false s x) := by
  cases x with
  | listen i =>
    refine ⟨?_, hidle⟩
    intro j hj hd
    simp only [bstep] at hj hd ⊢
    rcases List.mem_cons.mp hj with rfl | hj
    · simp
    · exact List.mem_append_left _ (hI j hj hd)
  | cancel i => exact ⟨fun j hj hd => hI j hj (contains_cons_false hd).1, hidle⟩
  | deliver e => exact ⟨hI, hidle⟩
  | scan =>
    refine ⟨?_, hidle⟩
    intro j hj hd
    simp only [bstep, Bool.false_eq_true, if_false] at hj hd ⊢
    exact List.mem_filter.mpr ⟨hI j hj hd, by rw [hd]; rfl⟩
  | swap =>
    have : s.snap = none := hidle
    simp only [bstep, this]
    exact ⟨hI, hidle⟩

theorem slot_put (s : Slot E) (e : E) : slotStep s (.put e) = { s with buf := some e } := rfl

theorem slot_take (s : Slot E) : slotStep s .take = { buf := none, out := s.out ++ s.buf.toList } := by
  obtain ⟨buf, out⟩ := s
  cases buf <;> simp [slotStep]

theorem slot_take_last (s : Slot E) : (slotStep s .take).out.getLast? = s.tip := by
  rw [slot_take, Slot.tip]
  cases s.buf <;> simp

theorem slot_tip_take (s : Slot E) : (slotStep s .take).tip = s.tip := by
  rw [← slot_take_last s, slot_take]
  rfl

theorem slot_tip_run (sched : List (SlotStep E)) : ∀ s : Slot E,
    (slotRun s sched).tip = match (putsOf sched).getLast? with
      | some e => some e
      | none => s.tip := by
  induction sched with
  | nil => intro s; rfl
  | cons x xs ih =>
    intro s
    cases x with
    | put e =>
      rw [slotRun, putsOf, ih, List.getLast?_cons]
      cases (putsOf xs).getLast? <;> rfl
    | take =>
      simp only [slotRun, putsOf]
      rw [ih, slot_tip_take]

/-- nothing in the queue MUST arrive (weaker than `AllOpt`, which also fixes the value) -/
def NoMust (q : List Entry) : Prop := ∀ e, e ∈ q → e.must = false

theorem skipOptional_finds (d : VId) (ds : List VId) : ∀ q : List Entry, NoMust q →
    (d :: ds).Sublist (q.map (·.val)) →
    ∃ e rest, skipOptional d q = e :: rest ∧ e.val = d ∧ ds.Sublist (rest.map (·.val)) ∧ NoMust rest := by
  intro q
  induction q with
  | nil => intro _ h; simp at h
  | cons a q ih =>
    intro hopt hsub
    have ha : a.must = false := hopt a List.mem_cons_self
    have hq : NoMust q := fun e he => hopt e (List.mem_cons_of_mem _ he)
    simp only [List.map_cons] at hsub
    by_cases hv : a.val = d
    · refine ⟨a, q, ?_, hv, ?_, hq⟩
      · simp [skipOptional, hv]
      · rcases List.sublist_cons_iff.mp hsub with h | ⟨r, hr, h⟩
        · exact (List.sublist_cons_self d ds).trans h
        · cases hr; exact h
    · have hsub' : (d :: ds).Sublist (q.map (·.val)) := by
        rcases List.sublist_cons_iff.mp hsub with h | ⟨r, hr, _⟩
        · exact h
        · cases hr; exact absurd rfl hv
      obtain ⟨e, rest, h1, h2, h3, h4⟩ := ih hq hsub'
      refine ⟨e, rest, ?_, h2, h3, h4⟩
      simp only [skipOptional]
      have : (!a.must && decide (a.val ≠ d)) = true := by simp [ha, hv]
      rw [if_pos this]
      exact h1

theorem optQueue_noMust (vs : List VId) : NoMust (optQueue vs) := by
  intro e he
  simp only [optQueue, List.mem_map] at he
  obtain ⟨v, _, rfl⟩ := he
  rfl

theorem optQueue_vals (vs : List VId) : (optQueue vs).map (·.val) = vs := by
  induction vs with
  | nil => rfl
  | cons v vs ih => simpa [optQueue] using ih

/-- under the invariant "listed and not cancelled", which is what `Send` reaches, is "registered and not cancelled" -/
theorem FeedInv.reaches_alive {s : Feed E} (h : FeedInv s) (j : Nat) :
    (s.bus.listeners.contains j && !s.bus.dead.contains j) = s.alive j := by
  unfold Feed.alive
  cases hd : s.bus.dead.contains j with
  | true => simp
  | false =>
    -- a listed listener is registered, a live one is listed
    apply Bool.eq_iff_iff.mpr
    simp only [Bool.not_false, Bool.and_true, List.contains_iff_mem]
    exact ⟨h.listed j, fun hr => h.bus j hr hd⟩

/-- a buffer against the list of events offered to it: what it passed on plus what waits is a subsequence, it ends on the
newest event, and it is untouched while nothing was offered -/
def SlotOk (sl : Slot E) (owed : List E) : Prop :=
  (sl.out ++ sl.buf.toList).Sublist owed ∧ (owed ≠ [] → sl.tip = owed.getLast?) ∧ (owed = [] → sl = {})

theorem SlotOk.nil : SlotOk ({} : Slot E) [] := ⟨List.Sublist.refl _, fun h => absurd rfl h, fun _ => rfl⟩

theorem SlotOk.put {sl : Slot E} {o : List E} (h : SlotOk sl o) (e : E) : SlotOk (slotStep sl (.put e)) (o ++ [e]) :=
  ⟨((List.sublist_append_left _ _).trans h.1).append (List.Sublist.refl _), by simp [slot_put, Slot.tip], by simp [slot_put]⟩

theorem SlotOk.take {sl : Slot E} {o : List E} (h : SlotOk sl o) : SlotOk (slotStep sl .take) o := by
  unfold SlotOk
  rw [slot_tip_take, slot_take]
  exact ⟨by simpa using h.1, h.2.1, fun he => by rw [h.2.2 he]; rfl⟩

theorem FeedInv.slotOk {s : Feed E} (h : FeedInv s) (j : Nat) (hd : s.bus.dead.contains j = false) :
    SlotOk (s.slots j) (s.owed j) := by
  cases hr : s.bus.registered.contains j with
  | true =>
    have ha : s.alive j = true := by unfold Feed.alive; rw [hr, hd]; rfl
    exact ⟨h.sub j ha, h.tip j ha, h.quiet j ha⟩
  | false =>
    obtain ⟨h1, h2⟩ := h.fresh j hr
    rw [h1, h2]
    exact .nil

theorem FeedInv.of_slotOk {s : Feed E} (b : BusInv s.bus ∧ BusIdle s.bus)
    (listed : ∀ j, j ∈ s.bus.listeners → j ∈ s.bus.registered)
    (fresh : ∀ j, s.bus.registered.contains j = false → s.slots j = {} ∧ s.owed j = [])
    (k : ∀ j, s.bus.dead.contains j = false → SlotOk (s.slots j) (s.owed j)) : FeedInv s := by
  have k' : ∀ j, s.alive j = true → SlotOk (s.slots j) (s.owed j) := fun j hj => by
    simp only [Feed.alive, Bool.and_eq_true, Bool.not_eq_true'] at hj
    exact k j hj.2
  exact ⟨b.1, b.2, listed, fresh, fun j hj => (k' j hj).1, fun j hj => (k' j hj).2.1, fun j hj => (k' j hj).2.2⟩

theorem fstep_inv (s : Feed E) (x : FStep E) (h : FeedInv s) : FeedInv (fstep s x) := by
  cases x with
  | listen i =>
    simp only [fstep]
    split
    · exact h
    · rename_i hni
      refine .of_slotOk (bstep_inv s.bus (.listen i) h.bus h.idle) ?_ (fun j hj => h.fresh j (contains_cons_false hj).1) h.slotOk
      intro j hj
      rcases List.mem_append.mp hj with hj | hj
      · exact List.mem_cons_of_mem _ (h.listed j hj)
      · cases List.mem_singleton.mp hj; exact List.mem_cons_self
  | cancel i =>
    exact .of_slotOk (bstep_inv s.bus (.cancel i) h.bus h.idle) h.listed h.fresh fun j hj => h.slotOk j (contains_cons_false hj).1
  | deliver e =>
    -- the event is put into the buffer of exactly the live subscribers and added to their debt
    have hst : ∀ j, (fstep s (.deliver e)).slots j = (if s.alive j then slotStep (s.slots j) (.put e) else s.slots j) ∧
        (fstep s (.deliver e)).owed j = (if s.alive j then s.owed j ++ [e] else s.owed j) := fun j => by
      simp only [fstep, h.reaches_alive, and_self]
    refine .of_slotOk (bstep_inv s.bus (.deliver e) h.bus h.idle) h.listed ?_ ?_
    · intro j hj
      have hna : s.alive j = false := by unfold Feed.alive; rw [show s.bus.registered.contains j = false from hj]; rfl
      rw [(hst j).1, (hst j).2, hna]
      exact h.fresh j hj
    · intro j hj
      rw [(hst j).1, (hst j).2]
      split
      · exact (h.slotOk j hj).put e
      · exact h.slotOk j hj
  | collect =>
    refine .of_slotOk (bstep_inv s.bus .scan h.bus h.idle) ?_ h.fresh h.slotOk
    intro j hj
    simp only [fstep, bstep, Bool.false_eq_true, if_false] at hj
    exact h.listed j (List.mem_filter.mp hj).1
  | take i =>
    have hslot : ∀ j, (fstep s (.take i)).slots j = if j = i then slotStep (s.slots j) .take else s.slots j := fun _ => rfl
    refine .of_slotOk ⟨h.bus, h.idle⟩ h.listed ?_ ?_
    · intro j hj
      have := h.fresh j hj
      rw [hslot]
      split
      · rw [this.1]; exact ⟨rfl, this.2⟩
      · exact this
    · intro j hj
      rw [hslot]
      split
      · exact (h.slotOk j hj).take
      · exact h.slotOk j hj

theorem frun_inv (sched : List (FStep E)) : ∀ s : Feed E, FeedInv s → FeedInv (frun s sched) := by
  induction sched with
  | nil => intro s h; exact h
  | cons x xs ih => intro s h; exact ih _ (fstep_inv s x h)

theorem feed_init_inv : FeedInv ({} : Feed E) :=
  .of_slotOk ⟨fun j hj => by simp at hj, rfl⟩ (fun j hj => by simp at hj) (fun _ _ => ⟨rfl, rfl⟩) fun _ _ => .nil

end ScVerif.C14
