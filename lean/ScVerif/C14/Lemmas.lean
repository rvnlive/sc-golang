import ScVerif.C14.Spec
import ScVerif.C14.Tween
/-! What one event, and a list of events, does to one stream (`push_spec`, `pushes`); every other fact about the register
server and the acceptor's queue here is read by the property modules through these. -/
namespace ScVerif.C14

variable {V Mask U : Type}

theorem push_sent (C : Cfg V Mask U) (v : V) (s : Stream V Mask) (hl : s.live = true)
    (he : C.eqv s.last (view C s.mask v) = false) :
    push C v s = { s with last := some (view C s.mask v), out := s.out ++ [(view C s.mask v, s.name)] } := by
  simp only [push, hl, he, Bool.not_true, Bool.false_eq_true, if_false]

theorem push_suppressed (C : Cfg V Mask U) (v : V) (s : Stream V Mask)
    (he : C.eqv s.last (view C s.mask v) = true) : push C v s = s := by
  unfold push
  rw [if_pos he]
  split <;> rfl

theorem push_spec (C : Cfg V Mask U) (v : V) (st : Stream V Mask) :
    (push C v st).name = st.name ∧ (push C v st).mask = st.mask ∧ (push C v st).live = st.live ∧
    (st.live = true → C.eqv st.last (view C st.mask v) = false →
      (push C v st).out = st.out ++ [(view C st.mask v, st.name)]) ∧
    ((push C v st).out = st.out ∨ (push C v st).out = st.out ++ [(view C st.mask v, st.name)]) := by
  unfold push
  cases hl : st.live <;> cases he : C.eqv st.last (view C st.mask v) <;> simp [hl]

/-- a stream after the events `vs`, oldest first -/
def pushes (C : Cfg V Mask U) (vs : List V) (st : Stream V Mask) : Stream V Mask :=
  vs.foldl (fun st v => push C v st) st

theorem foldl_map_push (C : Cfg V Mask U) (vs : List V) : ∀ ss : List (Stream V Mask),
    vs.foldl (fun ss v => ss.map (push C v)) ss = ss.map (pushes C vs) := by
  induction vs with
  | nil => intro ss; exact (List.map_id' ss).symm
  | cons v vs ih => intro ss; exact (ih _).trans (List.map_map ..)

theorem pushes_spec (C : Cfg V Mask U) (vs : List V) : ∀ st : Stream V Mask,
    (pushes C vs st).name = st.name ∧ (pushes C vs st).mask = st.mask ∧ (pushes C vs st).live = st.live ∧
    (∀ m, m ∈ (pushes C vs st).out → m ∈ st.out ∨ ∃ v, v ∈ vs ∧ m = (view C st.mask v, st.name)) ∧
    (∀ v, st.live = true → vs.getLast? = some v →
      (pushes C vs st).last = some (view C st.mask v) ∨ C.eqv (pushes C vs st).last (view C st.mask v) = true) := by
  induction vs with
  | nil => intro st; exact ⟨rfl, rfl, rfl, fun m hm => Or.inl hm, fun v _ hv => by cases hv⟩
  | cons w vs ih =>
    intro st
    obtain ⟨hn, hm, hl, _, hout⟩ := push_spec C w st
    obtain ⟨in_, im, il, imsgs, ilast⟩ := ih (push C w st)
    rw [hn, hm] at imsgs
    rw [hm, hl] at ilast
    refine ⟨in_.trans hn, im.trans hm, il.trans hl, fun m hmem => ?_, fun v hlive hv => ?_⟩
    · rcases imsgs m hmem with h | ⟨v, hv, e⟩
      · rcases hout with ho | ho <;> rw [ho] at h
        · exact Or.inl h
        · rcases List.mem_append.mp h with h | h
          · exact Or.inl h
          · exact Or.inr ⟨w, List.mem_cons_self, List.mem_singleton.mp h⟩
      · exact Or.inr ⟨v, List.mem_cons_of_mem _ hv, e⟩
    · cases vs with
      | cons w' vs' => exact ilast v hlive (by rw [← hv]; rfl)
      | nil =>
        cases hv
        show (push C w st).last = _ ∨ C.eqv (push C w st).last _ = true
        cases he : C.eqv st.last (view C st.mask w) with
        | true => exact Or.inr (by rw [push_suppressed C w st he]; exact he)
        | false => exact Or.inl (congrArg Stream.last (push_sent C w st hlive he))

theorem pushes_all (C : Cfg V Mask U) (hne : ∀ l x, C.eqv l x = false) (vs : List V) : ∀ st : Stream V Mask,
    st.live = true → (pushes C vs st).out = st.out ++ vs.map fun v => (view C st.mask v, st.name) := by
  induction vs with
  | nil => intro st _; exact (List.append_nil _).symm
  | cons v vs ih =>
    intro st hl
    obtain ⟨hn, hm, hlv, hsent, _⟩ := push_spec C v st
    refine (ih (push C v st) (hlv.trans hl)).trans ?_
    rw [hn, hm, hsent hl (hne _ _), List.map_cons, List.append_assoc]
    rfl

theorem openStream_out (C : Cfg V Mask U) (cur : V) (n : String) (m : Option Mask) (uo : Bool) :
    (openStream C cur n m uo).out = if uo then [] else [(view C m cur, n)] := rfl

theorem openStream_last (C : Cfg V Mask U) (cur : V) (n : String) (m : Option Mask) (uo : Bool) :
    (openStream C cur n m uo).last = if uo then none else some cur := rfl

theorem step_pull_stream (C : Cfg V Mask U) (s : Srv V Mask) (n : String) (m : Option Mask) (uo : Bool) :
    (step C s (.pull n m uo)).1.streams[s.streams.length]? = some (openStream C s.cur n m uo) :=
  List.getElem?_concat_length

theorem step_update_val (C : Cfg V Mask U) (s : Srv V Mask) (name : String) (u : U) (v : V)
    (h : (step C s (.update name u)).2 = .val v) :
    step C s (.update name u) = ({ cur := v, streams := s.streams.map (push C v) }, .val v) := by
  simp only [step] at h ⊢
  cases ha : C.apply s.cur u with
  | error c => rw [ha] at h; cases h
  | ok w => rw [ha] at h; cases h; rfl

theorem step_update_err (C : Cfg V Mask U) (s : Srv V Mask) (name : String) (u : U) (c : Nat)
    (h : (step C s (.update name u)).2 = .err c) : (step C s (.update name u)).1 = s := by
  simp only [step] at h ⊢
  cases ha : C.apply s.cur u with
  | error c' => rfl
  | ok w => rw [ha] at h; cases h

theorem step_nonupdate_cur (C : Cfg V Mask U) (s : Srv V Mask) (r : Req Mask U) (h : r.isUpdate = false) :
    (step C s r).1.cur = s.cur := by
  cases r <;> first | rfl | cases h

theorem run_nonupdate_cur (C : Cfg V Mask U) (rs : List (Req Mask U)) :
    ∀ s : Srv V Mask, (∀ r, r ∈ rs → r.isUpdate = false) → (run C s rs).cur = s.cur := by
  induction rs with
  | nil => intro s _; rfl
  | cons r rs ih =>
    intro s h
    exact (ih _ fun x hx => h x (List.mem_cons_of_mem _ hx)).trans (step_nonupdate_cur C s r (h r List.mem_cons_self))

theorem run_gets (C : Cfg V Mask U) (gs : List (String × Option Mask)) :
    ∀ s : Srv V Mask, run C s (gs.map fun g => Req.get g.1 g.2) = s := by
  induction gs with
  | nil => intro s; rfl
  | cons g gs ih => intro s; exact ih s

theorem run_append (C : Cfg V Mask U) (a b : List (Req Mask U)) : ∀ s : Srv V Mask, run C s (a ++ b) = run C (run C s a) b := by
  induction a with
  | nil => intro s; rfl
  | cons x a ih => intro s; exact ih _

theorem step_streams (C : Cfg V Mask U) (s : Srv V Mask) (r : Req Mask U) (st' : Stream V Mask)
    (hst : st' ∈ (step C s r).1.streams) (x : V × String) (hx : x ∈ st'.out) :
    (∃ st, st ∈ s.streams ∧ st.name = st'.name ∧ st.mask = st'.mask ∧ x ∈ st.out) ∨
    (x.2 = st'.name ∧ (x.1 = view C st'.mask (step C s r).1.cur ∨ x.1 = view C st'.mask s.cur)) := by
  cases r with
  | get n m => exact Or.inl ⟨st', hst, rfl, rfl, hx⟩
  | update n u =>
    simp only [step] at hst ⊢
    cases ha : C.apply s.cur u with
    | error c => simp only [ha] at hst; exact Or.inl ⟨st', hst, rfl, rfl, hx⟩
    | ok w =>
      simp only [ha] at hst ⊢
      obtain ⟨st, hm, rfl⟩ := List.mem_map.mp hst
      obtain ⟨hn, hk, _, _, hout⟩ := push_spec C w st
      rcases hout with ho | ho <;> rw [ho] at hx
      · exact Or.inl ⟨st, hm, hn.symm, hk.symm, hx⟩
      · rcases List.mem_append.mp hx with hx | hx
        · exact Or.inl ⟨st, hm, hn.symm, hk.symm, hx⟩
        · cases List.mem_singleton.mp hx
          exact Or.inr ⟨hn.symm, Or.inl (by rw [hk])⟩
  | pull n m uo =>
    simp only [step] at hst ⊢
    rcases List.mem_append.mp hst with h | h
    · exact Or.inl ⟨st', h, rfl, rfl, hx⟩
    · simp at h
      subst h
      cases uo with
      | true => rw [openStream_out] at hx; cases hx
      | false =>
        simp [openStream] at hx
        exact Or.inr ⟨by rw [hx]; rfl, Or.inr (by rw [hx]; rfl)⟩
  | cancel i =>
    simp only [step] at hst
    obtain ⟨j, hj, rfl⟩ := List.mem_mapIdx.mp hst
    refine Or.inl ⟨s.streams[j], List.getElem_mem _, ?_, ?_, ?_⟩
    · split <;> rfl
    · split <;> rfl
    · revert hx; split <;> exact id

theorem cur_mem_vals (C : Cfg V Mask U) (s : Srv V Mask) (rs : List (Req Mask U)) : s.cur ∈ vals C s rs := by
  cases rs <;> simp [vals]

theorem skipOptional_drop (w x : VId) (hne : x ≠ w) (r : List Entry) :
    ∀ q : List Entry, AllOpt q x → skipOptional w (q ++ r) = skipOptional w r := by
  intro q
  induction q with
  | nil => intro _; rfl
  | cons e rest ih =>
    intro h
    have he := h e List.mem_cons_self
    have hr : AllOpt rest x := fun e' he' => h e' (List.mem_cons_of_mem _ he')
    simp only [List.cons_append, skipOptional]
    have : (!e.must && decide (e.val ≠ w)) = true := by simp [he.1, he.2, hne]
    rw [if_pos this]
    exact ih hr

theorem qIdle_allOpt (q : List Entry) (x : VId) (h : AllOpt q x) : qIdle q = .ok := by
  unfold qIdle
  have : q.find? (·.must) = none := by
    apply List.find?_eq_none.mpr
    intro e he
    simp [(h e he).1]
  rw [this]

theorem qRecv_allOpt (q : List Entry) (x : VId) (h : AllOpt q x) (hne : q ≠ []) :
    ∃ rest, qRecv q x true = (rest, .ok) ∧ AllOpt rest x := by
  cases q with
  | nil => exact absurd rfl hne
  | cons e rest =>
    exact ⟨rest, by simp [qRecv, skipOptional, (h e List.mem_cons_self).2], fun e' he' => h e' (List.mem_cons_of_mem _ he')⟩

theorem qPush_same (q : List Entry) (x : VId) (est : Bool) (h : AllOpt q x) : AllOpt (qPush q x x est) x := by
  intro e hm
  rcases List.mem_append.mp hm with hm | hm
  · exact h e hm
  · cases List.mem_singleton.mp hm
    exact ⟨by simp, rfl⟩

theorem qPush_recv (q : List Entry) (x xp : VId) (est : Bool) (h : AllOpt q xp) :
    ∃ rest, qRecv (qPush q x xp est) x true = (rest, .ok) ∧ AllOpt rest x := by
  -- an unchanged projection: the head matches; a changed one: the stale optional entries are skipped, the new entry matches
  by_cases hxp : x = xp
  · subst hxp
    exact qRecv_allOpt _ x (qPush_same q x est h) (by simp [qPush])
  · refine ⟨[], ?_, fun e he => by cases he⟩
    have hskip := skipOptional_drop x xp (fun h => hxp h.symm) [{ val := x, must := x ≠ xp && est, seed := false }] q h
    rw [qPush, qRecv, hskip]
    simp [skipOptional]

theorem bgRun_nojob {V : Type} [DecidableEq V] (g : Bool) (bs : List (BgStep V)) : ∀ s : TSrv V, s.job = none → bgRun g s bs = s := by
  induction bs with
  | nil => intro s _; rfl
  | cons b bs ih =>
    intro s h
    have : bgStep g s b = s := by cases b <;> simp [bgStep, h]
    simp only [bgRun, this]
    exact ih s h

end ScVerif.C14
