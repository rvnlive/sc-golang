/-
C14 — servers whose Update starts background writes: lightpb.MemoryDevice brightness tweens
(pkg/trait/lightpb/memory.go).  An accepted tween Update returns at once; a goroutine then writes
progress values on every tick and finally the target, each write guarded by
`WithExpectedValue(lastObj)` (the value the goroutine itself wrote last): when anybody else has
written in between, the guard fails and the goroutine stops.
-/
namespace ScVerif.C14

structure Job (V : Type) where
  /-- what the goroutine wrote last (`lastObj`) -/
  last : V
  target : V

structure TSrv (V : Type) where
  cur : V
  job : Option (Job V)

inductive BgStep (V : Type)
  /-- a tick before the deadline: writes the progress value `p` -/
  | progress (p : V)
  /-- the tick at/after the deadline: lands on the target -/
  | finish

variable {V : Type} [DecidableEq V]

/-- one step of the tween goroutine; `guardFinish` = the finishing write carries the expected-value guard
(the code as it is) -/
def bgStep (guardFinish : Bool) (s : TSrv V) : BgStep V → TSrv V
  | .progress p =>
    match s.job with
    | none => s
    | some j => if s.cur = j.last then { cur := p, job := some { j with last := p } } else { s with job := none }
  | .finish =>
    match s.job with
    | none => s
    | some j => if !guardFinish || s.cur = j.last then { cur := j.target, job := none } else { s with job := none }

def bgRun (guardFinish : Bool) : TSrv V → List (BgStep V) → TSrv V
  | s, [] => s
  | s, b :: bs => bgRun guardFinish (bgStep guardFinish s b) bs

/-- a plain (non-tween) Update lands while the goroutine is still alive: the register becomes its response -/
def interrupt (s : TSrv V) (v : V) : TSrv V := { s with cur := v }

end ScVerif.C14
