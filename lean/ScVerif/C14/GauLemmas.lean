import ScVerif.C14.Gau
/-! The read / commit model seen from the register. -/
namespace ScVerif.C14

variable {V U : Type} [DecidableEq V]

/-- a commit leaves the register alone and stores nothing (the writer has not read, its pipeline rejects, or it is answered
Aborted), or it finds the value it read and stores on it what the pipeline computes from that value -/
theorem gstep_commit (change : V → U → Except Nat V) (s : GSt V U) (w : Nat) (xs : List (GStep U)) :
    ((gstep change s (.commit w)).cur = s.cur ∧
      gstored change s (.commit w :: xs) = gstored change (gstep change s (.commit w)) xs) ∨
    ∃ g rest v, takeWriter w s.inflight = some (g, rest) ∧ change s.cur g.u = .ok v ∧
      gstep change s (.commit w) = { cur := v, inflight := rest, log := s.log ++ [(w, .ok v)] } ∧
      gstored change s (.commit w :: xs) = g.u :: gstored change (gstep change s (.commit w)) xs := by
  cases ht : takeWriter w s.inflight with
  | none => exact Or.inl (by simp only [gstep, gstored, ht, and_self])
  | some gr =>
    obtain ⟨g, rest⟩ := gr
    cases hc : change g.old g.u with
    | error c => exact Or.inl (by simp only [gstep, gstored, ht, hc, and_self])
    | ok v =>
      by_cases heq : g.old = s.cur
      · have hcur : change s.cur g.u = .ok v := heq ▸ hc
        exact Or.inr ⟨g, rest, v, rfl, hcur, by simp only [gstep, gstored, ht, heq, hcur, if_true, and_self]⟩
      · exact Or.inl (by simp only [gstep, gstored, ht, hc, heq, if_false, and_self])

end ScVerif.C14
