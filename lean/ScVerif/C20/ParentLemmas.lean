import ScVerif.C20.Parent
import ScVerif.C20.Assoc
/-! On a sorted duplicate-free slice the `sort.Search` of `traitUnion` / `traitRemove` is a membership test
(`getElem?_insertIndex`), which makes each loop body set insertion / deletion. -/
namespace ScVerif.C20.Parent

theorem lookup_eq : @lookup = @Assoc.lookup (List String) := by delta lookup Assoc.lookup; rfl
theorem set_eq : @set = @Assoc.set (List String) := by delta set Assoc.set; rfl
theorem erase_eq : @erase = @Assoc.erase (List String) := by delta erase Assoc.erase; rfl

theorem lookup_set_self (n : String) (v : (List String)) (s : Children) : lookup n (set n v s) = some v := by
  rw [lookup_eq, set_eq]; exact Assoc.lookup_set_self n v s

theorem lookup_set_other {n m : String} (h : m ≠ n) (v : (List String)) (s : Children) :
    lookup m (set n v s) = lookup m s := by
  rw [lookup_eq, set_eq]; exact Assoc.lookup_set_other h v s

theorem lookup_erase_self (n : String) (s : Children) : lookup n (erase n s) = none := by
  rw [lookup_eq, erase_eq]; exact Assoc.lookup_erase_self n s

theorem lookup_erase_other {n m : String} (h : m ≠ n) (s : Children) :
    lookup m (erase n s) = lookup m s := by
  rw [lookup_eq, erase_eq]; exact Assoc.lookup_erase_other h s

/-- strictly ascending = sorted and duplicate free -/
def Sorted (l : List String) : Prop := l.Pairwise (· < ·)

instance (l : List String) : Decidable (Sorted l) := by unfold Sorted; infer_instance

theorem searchAux_spec (p : Nat → Bool) (n : Nat)
    (mono : ∀ i j, i ≤ j → p i = true → p j = true) :
    ∀ fuel lo hi, lo ≤ hi → hi - lo < fuel →
      (∀ i, i < lo → p i = false) → (∀ i, hi ≤ i → i < n → p i = true) →
      (∀ i, i < searchAux p fuel lo hi → p i = false) ∧
      (∀ i, searchAux p fuel lo hi ≤ i → i < n → p i = true) := by
  intro fuel
  induction fuel with
  | zero => intro lo hi _ h; omega
  | succ f ih =>
    intro lo hi hle hf hlo hhi
    unfold searchAux
    by_cases hlt : lo < hi
    · rw [if_pos hlt]
      dsimp only
      have hm : lo ≤ (lo + hi) / 2 ∧ (lo + hi) / 2 < hi := by omega
      generalize (lo + hi) / 2 = h at hm
      by_cases hp : p h = true
      · rw [if_pos hp]
        exact ih lo h hm.1 (by omega) hlo (fun i hi _ => mono h i hi hp)
      · rw [if_neg hp]
        exact ih (h + 1) hi hm.2 (by omega)
          (fun i hi => Bool.eq_false_iff.mpr (fun hpi => hp (mono i h (Nat.le_of_lt_succ hi) hpi))) hhi
    · rw [if_neg hlt]
      cases Nat.le_antisymm hle (Nat.not_lt.mp hlt)
      exact ⟨hlo, hhi⟩

theorem geAt_eq {has : List String} {t : String} {i : Nat} (hi : i < has.length) :
    geAt has t i = decide (t ≤ has[i]) := by
  unfold geAt
  rw [List.getElem?_eq_getElem hi]

theorem geAt_mono (has : List String) (t : String) (hs : Sorted has) :
    ∀ i j, i ≤ j → geAt has t i = true → geAt has t j = true := by
  intro i j hij hi
  by_cases hj : j < has.length
  · have hil : i < has.length := by omega
    rw [geAt_eq hil, decide_eq_true_eq] at hi
    rw [geAt_eq hj, decide_eq_true_eq]
    rcases Nat.lt_or_eq_of_le hij with h | rfl
    · exact String.le_trans hi (Std.le_of_lt (List.pairwise_iff_getElem.mp hs i j hil hj h))
    · exact hi
  · unfold geAt
    rw [List.getElem?_eq_none (by omega)]

theorem insertIndex_spec (has : List String) (t : String) (hs : Sorted has) :
    (∀ x ∈ has.take (insertIndex has t), x < t) ∧
    (∀ x ∈ has.drop (insertIndex has t), t ≤ x) := by
  obtain ⟨hlt, hge⟩ := searchAux_spec (geAt has t) has.length (geAt_mono has t hs) (has.length + 1) 0
    has.length (Nat.zero_le _) (Nat.lt_succ_self _) (fun i hi => absurd hi (Nat.not_lt_zero i))
    (fun i h1 h2 => absurd h2 (Nat.not_lt.mpr h1))
  refine ⟨fun x hx => ?_, fun x hx => ?_⟩
  · obtain ⟨i, hi, rfl⟩ := List.mem_take_iff_getElem.mp hx
    have hik := Nat.lt_min.mp hi
    have := hlt i hik.1
    rw [geAt_eq hik.2, decide_eq_false_iff_not] at this
    exact String.not_le.mp this
  · obtain ⟨i, hi, rfl⟩ := List.mem_drop_iff_getElem.mp hx
    have hi' : insertIndex has t + i < has.length := Nat.add_comm _ _ ▸ hi
    have := hge (insertIndex has t + i) (Nat.le_add_right _ _) hi'
    rwa [geAt_eq hi', decide_eq_true_eq] at this

/-- the binary search is a membership test on a sorted slice -/
theorem getElem?_insertIndex (has : List String) (t : String) (hs : Sorted has) :
    has[insertIndex has t]? = some t ↔ t ∈ has := by
  refine ⟨List.mem_of_getElem?, fun hm => ?_⟩
  obtain ⟨hlt, hge⟩ := insertIndex_spec has t hs
  rw [← List.take_append_drop (insertIndex has t) has] at hm
  rcases List.mem_append.mp hm with h | h
  · exact absurd (hlt t h) (String.lt_irrefl t)
  · -- `t` is in the part from `k` on, whose head `has[k]` is `≥ t` and strictly below the rest of it
    have hk : insertIndex has t < has.length := by
      have := List.length_pos_of_mem h
      rw [List.length_drop] at this
      omega
    have hs' : Sorted (has.drop (insertIndex has t)) := List.Pairwise.sublist (List.drop_sublist _ _) hs
    rw [List.drop_eq_getElem_cons hk] at h hs' hge
    rcases List.mem_cons.mp h with e | h'
    · exact List.getElem?_eq_some_iff.mpr ⟨hk, e.symm⟩
    · exact absurd (Std.lt_of_lt_of_le ((List.pairwise_cons.mp hs').1 t h') (hge _ List.mem_cons_self))
        (String.lt_irrefl _)

theorem sorted_append_cons {l r : List String} {t : String} (h : Sorted (l ++ r))
    (hl : ∀ x ∈ l, x < t) (hr : ∀ x ∈ r, t < x) : Sorted (l ++ t :: r) := by
  unfold Sorted at *
  rw [List.pairwise_append] at h ⊢
  refine ⟨h.1, ?_, ?_⟩
  · rw [List.pairwise_cons]; exact ⟨hr, h.2.1⟩
  · intro a ha b hb
    rcases List.mem_cons.mp hb with rfl | hb
    · exact hl a ha
    · exact h.2.2 a ha b hb

/-- the three-way switch of `traitUnion` is: already there, or inserted at the index found (appending is
inserting at the end) -/
theorem unionStep_eq (has : List String) (t : String) :
    unionStep has t = if has[insertIndex has t]? = some t then has
      else has.take (insertIndex has t) ++ t :: has.drop (insertIndex has t) := by
  unfold unionStep
  dsimp only
  split
  · next h => rw [h, List.getElem?_eq_none (Nat.le_refl _), if_neg nofun, List.take_length, List.drop_length]
  · rfl

theorem unionStep_spec (has : List String) (t : String) (hs : Sorted has) :
    Sorted (unionStep has t) ∧ ∀ x, x ∈ unionStep has t ↔ x ∈ has ∨ x = t := by
  obtain ⟨hlt, hge⟩ := insertIndex_spec has t hs
  rw [unionStep_eq]
  split
  · next h =>
    exact ⟨hs, fun x => ⟨Or.inl, fun hx => hx.elim id (fun e => e ▸ (getElem?_insertIndex has t hs).mp h)⟩⟩
  · next h =>
    have hnot : t ∉ has := fun hm => h ((getElem?_insertIndex has t hs).mpr hm)
    refine ⟨sorted_append_cons (by rwa [List.take_append_drop]) hlt (fun x hx => ?_), fun x => ?_⟩
    · rcases Std.le_iff_lt_or_eq.mp (hge x hx) with h' | h'
      · exact h'
      · exact absurd (h' ▸ List.mem_of_mem_drop hx) hnot
    · rw [List.mem_append, List.mem_cons, ← or_assoc, or_right_comm, ← List.mem_append, List.take_append_drop]

theorem Sorted.nodup {l : List String} (hs : Sorted l) : l.Nodup :=
  List.Pairwise.imp String.ne_of_lt hs

theorem mem_eraseIdx_of_sorted {has : List String} {k : Nat} (hs : Sorted has) (hk : k < has.length) (x : String) :
    x ∈ has.eraseIdx k ↔ x ∈ has ∧ x ≠ has[k] := by
  rw [List.mem_eraseIdx_iff_getElem]
  constructor
  · rintro ⟨i, hi, hne, rfl⟩
    exact ⟨List.getElem_mem hi, fun e => hne ((List.getElem_inj hs.nodup).mp e)⟩
  · rintro ⟨hx, hne⟩
    obtain ⟨i, hi, rfl⟩ := List.getElem_of_mem hx
    exact ⟨i, hi, fun e => hne (by subst e; rfl), rfl⟩

/-- `traitRemove` erases at the index found exactly when the name is there -/
theorem removeStep_eq (has : List String) (t : String) :
    removeStep has t = if has[insertIndex has t]? = some t then has.eraseIdx (insertIndex has t) else has := by
  unfold removeStep
  dsimp only
  by_cases h : has[insertIndex has t]? = some t
  · have hk := (List.getElem?_eq_some_iff.mp h).1
    rw [if_pos h, if_neg (fun h' => h'.elim (fun e => by omega) (fun h' => h' h))]
  · rw [if_neg h, if_pos (Or.inr h)]

theorem removeStep_spec (has : List String) (t : String) (hs : Sorted has) :
    Sorted (removeStep has t) ∧ ∀ x, x ∈ removeStep has t ↔ x ∈ has ∧ x ≠ t := by
  rw [removeStep_eq]
  split
  · next h =>
    obtain ⟨hk, hkt⟩ := List.getElem?_eq_some_iff.mp h
    refine ⟨List.Pairwise.sublist (List.eraseIdx_sublist _ _) hs, fun x => ?_⟩
    rw [mem_eraseIdx_of_sorted hs hk, hkt]
  · next h =>
    have hnot : t ∉ has := fun hm => h ((getElem?_insertIndex has t hs).mpr hm)
    exact ⟨hs, fun x => ⟨fun hx => ⟨hx, fun e => hnot (e ▸ hx)⟩, And.left⟩⟩

theorem traitUnion_spec (more : List String) : ∀ (has : List String), Sorted has →
    Sorted (traitUnion has more) ∧ ∀ x, x ∈ traitUnion has more ↔ x ∈ has ∨ x ∈ more := by
  induction more with
  | nil => intro has hs; exact ⟨hs, by intro x; simp [traitUnion]⟩
  | cons t rest ih =>
    intro has hs
    obtain ⟨h1, h2⟩ := unionStep_spec has t hs
    obtain ⟨h3, h4⟩ := ih (unionStep has t) h1
    refine ⟨h3, fun x => ?_⟩
    show x ∈ traitUnion (unionStep has t) rest ↔ _
    rw [h4, h2, List.mem_cons, or_assoc]

theorem traitRemove_spec (remove : List String) : ∀ (has : List String), Sorted has →
    Sorted (traitRemove has remove) ∧ ∀ x, x ∈ traitRemove has remove ↔ x ∈ has ∧ x ∉ remove := by
  induction remove with
  | nil => intro has hs; exact ⟨hs, by intro x; simp [traitRemove]⟩
  | cons t rest ih =>
    intro has hs
    obtain ⟨h1, h2⟩ := removeStep_spec has t hs
    obtain ⟨h3, h4⟩ := ih (removeStep has t) h1
    refine ⟨h3, fun x => ?_⟩
    show x ∈ traitRemove (removeStep has t) rest ↔ _
    rw [h4, h2, List.mem_cons, not_or, and_assoc]

theorem isSorted_of_sorted : ∀ (l : List String), Sorted l → isSorted l = true
  | [], _ => rfl
  | [_], _ => rfl
  | a :: b :: rest, h => by
    have h' := List.pairwise_cons.mp h
    have hab : a < b := h'.1 b List.mem_cons_self
    simp only [isSorted, Bool.and_eq_true, Bool.not_eq_true', decide_eq_false_iff_not]
    exact ⟨String.lt_asymm hab, isSorted_of_sorted (b :: rest) h'.2⟩

end ScVerif.C20.Parent
