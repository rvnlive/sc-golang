import ScVerif.C20.EnterLeave
import ScVerif.C20.Gau
/-!
# C20 / EnterLeave — concurrent `CreateEnterLeaveEvent` / `ResetTotals` as calls of the generic model

Both write through `resource.Value.Set`; the totals are computed by an `InterceptBefore` from the value
read inside the transaction; neither reads the clock in its change function (`timed = false`) and
neither has a check that can fail.
-/
namespace ScVerif.C20.EnterLeave

abbrev ECall := Gau.Call Event Unit

def eventCall (ev : Event) : ECall := ⟨false, fun _ => none, fun cur _ => create cur ev, false, false⟩
def resetTotalsCall : ECall := ⟨false, fun _ => none, fun cur _ => resetTotals cur, false, false⟩

def opCall : Op → ECall
  | .event ev => eventCall ev
  | .reset => resetTotalsCall

/-- NOT the code: the variant of `CreateEnterLeaveEvent` that computes the totals from a snapshot `snap` it read with
the getter before entering `Set` (the transaction's own read is ignored).  Used only to show that the
linearization theorem is not vacuous about where the value is read (`C20_enterleave_conc_snapshot_variant_fails`);
on the real code the harness parks threads right after any `Value.Get` (yield point `value.get`). -/
def snapshotEventCall (snap ev : Event) : ECall := ⟨false, fun _ => none, fun _ _ => create snap ev, false, false⟩

end ScVerif.C20.EnterLeave
