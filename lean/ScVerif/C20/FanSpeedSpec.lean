import ScVerif.C20.FanSpeed
/-! The consistency specification of the fan speed (`Consistent`, `WF`, `WriteOK`) and `deriveValues` branch by branch;
`consistent_derive` walks the branches once for the specification. -/
namespace ScVerif.C20.FanSpeed

-- `[DecidableEq α]` stands for the whole file (the model needs it); the lemmas that never compare percentages would each warn
set_option linter.unusedSectionVars false
variable {α : Type} [DecidableEq α] (add : α → α → α)

/-- preset, index and percentage agree: a named preset sits at `index` with that percentage; no
preset means index −1 and no preset has that percentage. -/
def Consistent (ps : List (Preset α)) (v : Fan α) : Prop :=
  (v.preset ≠ "" → 0 ≤ v.index ∧ ∃ p, ps[v.index.toNat]? = some p ∧ p.name = v.preset ∧ p.pct = v.pct) ∧
  (v.preset = "" → v.index = -1 ∧ ∀ p ∈ ps, p.pct ≠ v.pct)

/-- well-formed configuration: at least one preset, every preset named -/
def WF (ps : List (Preset α)) : Prop := ps ≠ [] ∧ ∀ p ∈ ps, p.name ≠ ""

/-- The explicit hypothesis on the write: it does not clear the preset of a fan that has one.  A mask-less write
that omits the preset, on a fan at a named preset, is the excluded point. -/
def WriteOK (old : Fan α) (r : Request α) : Prop :=
  ¬ ((merged add old r).preset = "" ∧ old.preset ≠ "")

instance (old : Fan α) (r : Request α) : Decidable (WriteOK add old r) := by unfold WriteOK; infer_instance

theorem findIdx_eq (p : Preset α → Bool) (ps : List (Preset α)) : findIdx p ps = ps.findIdx? p := by
  induction ps with
  | nil => rfl
  | cons x xs ih => rw [findIdx, List.findIdx?_cons, ih]

theorem findIdx_some {p : Preset α → Bool} {ps : List (Preset α)} {i : Nat} (h : findIdx p ps = some i) :
    ∃ x, ps[i]? = some x ∧ p x = true := by
  rw [findIdx_eq] at h
  obtain ⟨hi, hp, _⟩ := List.findIdx?_eq_some_iff_getElem.mp h
  exact ⟨ps[i], List.getElem?_eq_getElem hi, hp⟩

theorem findIdx_none {p : Preset α → Bool} {ps : List (Preset α)} (h : findIdx p ps = none) :
    ∀ x ∈ ps, p x = false := by
  rw [findIdx_eq] at h
  exact List.findIdx?_eq_none_iff.mp h

theorem merged_preset (old : Fan α) (r : Request α) :
    (merged add old r).preset = old.preset ∨ (merged add old r).preset = r.src.preset := by
  unfold merged merge
  cases r.mask with
  | none => right; cases r.relative <;> rfl
  | some fs =>
    by_cases h : Field.preset ∈ fs
    · right; cases r.relative <;> simp [h]
    · left; simp [h]

section
variable {ps : List (Preset α)} {old new : Fan α}

theorem deriveValues_preset_found {i : Nat} (h1 : old.preset ≠ new.preset)
    (hf : findIdx (fun p => p.name == new.preset) ps = some i) :
    ∃ p, ps[i]? = some p ∧ p.name = new.preset ∧
      deriveValues ps old new = some { new with index := i, pct := p.pct } := by
  obtain ⟨x, hx, hp⟩ := findIdx_some hf
  refine ⟨x, hx, by simpa using hp, ?_⟩
  unfold deriveValues
  simp only [if_pos h1, hf, hx, Option.map_some, Option.getD_some]

/-- the two `if`s of the index branch are a clamp into `[0, n)` -/
theorem clamp_eq (n x : Int) :
    (if (if x ≥ n then n - 1 else x) < 0 then 0 else if x ≥ n then n - 1 else x) = max 0 (min x (n - 1)) := by
  have hmin : (if x ≥ n then n - 1 else x) = min x (n - 1) := by omega
  rw [hmin]
  omega

theorem clamp_bounds {n : Int} (hn : 0 < n) (x : Int) :
    0 ≤ max 0 (min x (n - 1)) ∧ max 0 (min x (n - 1)) < n :=
  ⟨Int.le_max_left _ _, Int.max_lt.mpr ⟨hn, Int.lt_of_le_of_lt (Int.min_le_right _ _) (by omega)⟩⟩

theorem clamp_of_mem {n i : Int} (hi : 0 ≤ i) (hin : i < n) : max 0 (min i (n - 1)) = i := by
  rw [Int.min_eq_left (by omega), Int.max_eq_right hi]

/-- clamping into `[0, n)` with `n` an int32 absorbs the saturation of the sum at the int32 limits -/
theorem sat32_clamp {n i k : Int} (hi : 0 ≤ i) (hin : i < n) (hn : n ≤ 2147483647) :
    max 0 (min (sat32 (k + i)) (n - 1)) = max 0 (min (i + k) (n - 1)) := by
  unfold sat32
  split
  · rw [Int.min_eq_right (by omega), Int.min_eq_right (by omega)]
  · split
    · rw [Int.min_eq_left (by omega), Int.min_eq_left (by omega)]
      omega
    · rw [Int.add_comm]

theorem length_pos (hne : ps ≠ []) : (0 : Int) < ps.length :=
  Int.natCast_pos.mpr (List.length_pos_iff.mpr hne)

theorem deriveValues_index (hne : ps ≠ []) (h1 : old.preset = new.preset) (h2 : old.index ≠ new.index) :
    ∃ p, ps[(max 0 (min new.index ((ps.length : Int) - 1))).toNat]? = some p ∧
      deriveValues ps old new =
        some { new with index := max 0 (min new.index ((ps.length : Int) - 1)), preset := p.name, pct := p.pct } := by
  have hb := clamp_bounds (length_pos hne) new.index
  have hlt : (max 0 (min new.index ((ps.length : Int) - 1))).toNat < ps.length := by omega
  refine ⟨_, List.getElem?_eq_getElem hlt, ?_⟩
  unfold deriveValues
  rw [if_neg (not_not_intro h1), if_pos h2]
  dsimp only
  rw [clamp_eq, List.getElem?_eq_getElem hlt]

theorem deriveValues_pct_found {i : Nat} (h1 : old.preset = new.preset) (h2 : old.index = new.index) (h3 : old.pct ≠ new.pct)
    (hf : findIdx (fun p => p.pct == new.pct) ps = some i) :
    ∃ p, ps[i]? = some p ∧ p.pct = new.pct ∧
      deriveValues ps old new = some { new with index := i, preset := p.name } := by
  obtain ⟨x, hx, hp⟩ := findIdx_some hf
  refine ⟨x, hx, by simpa using hp, ?_⟩
  unfold deriveValues
  simp only [if_neg (not_not_intro h1), if_neg (not_not_intro h2), if_pos h3, hf, hx, Option.map_some,
    Option.getD_some]

theorem deriveValues_pct_none (h1 : old.preset = new.preset) (h2 : old.index = new.index) (h3 : old.pct ≠ new.pct)
    (hf : findIdx (fun p => p.pct == new.pct) ps = none) :
    deriveValues ps old new = some { new with index := -1, preset := "" } := by
  unfold deriveValues
  rw [if_neg (not_not_intro h1), if_neg (not_not_intro h2), if_pos h3, hf]

theorem deriveValues_same (h1 : old.preset = new.preset) (h2 : old.index = new.index) (h3 : old.pct = new.pct) :
    deriveValues ps old new = some new := by
  unfold deriveValues
  rw [if_neg (not_not_intro h1), if_neg (not_not_intro h2), if_neg (not_not_intro h3)]

end

theorem deriveValues_isSome {ps : List (Preset α)} (hne : ps ≠ []) (old new : Fan α) :
    ∃ v, deriveValues ps old new = some v := by
  by_cases h1 : old.preset = new.preset
  · by_cases h2 : old.index = new.index
    · by_cases h3 : old.pct = new.pct
      · exact ⟨_, deriveValues_same h1 h2 h3⟩
      · cases hf : findIdx (fun p => p.pct == new.pct) ps with
        | some i =>
          obtain ⟨_, _, _, h⟩ := deriveValues_pct_found h1 h2 h3 hf
          exact ⟨_, h⟩
        | none => exact ⟨_, deriveValues_pct_none h1 h2 h3 hf⟩
    · obtain ⟨_, _, h⟩ := deriveValues_index hne h1 h2
      exact ⟨_, h⟩
  · cases hf : findIdx (fun p => p.name == new.preset) ps with
    | some i =>
      obtain ⟨_, _, _, h⟩ := deriveValues_preset_found h1 hf
      exact ⟨_, h⟩
    | none => exact ⟨new, by unfold deriveValues; rw [if_pos h1, hf]⟩

theorem update_ok {ps : List (Preset α)} {old v : Fan α} {r : Request α} (hu : update add ps old r = .ok v) :
    ¬ (r.src.preset ≠ "" ∧ (findIdx (fun p => p.name == r.src.preset) ps).isNone) ∧
      deriveValues ps old (merged add old r) = some v := by
  unfold update at hu
  split at hu
  · cases hu
  · next hval =>
    refine ⟨hval, ?_⟩
    cases hd : deriveValues ps old (merged add old r) with
    | none => rw [hd] at hu; cases hu
    | some w => rw [hd] at hu; cases hu; rfl

theorem consistent_at {ps : List (Preset α)} (hwf : WF ps) {v : Fan α} {p : Preset α} (h0 : 0 ≤ v.index)
    (hp : ps[v.index.toNat]? = some p) (hn : p.name = v.preset) (hpct : p.pct = v.pct) : Consistent ps v :=
  ⟨fun _ => ⟨h0, p, hp, hn, hpct⟩, fun he => absurd (hn.trans he) (hwf.2 p (List.mem_of_getElem? hp))⟩

/-- `DeriveValues` re-establishes consistency in every branch but one: a changed preset name that the
list does not have is stored as it is. -/
theorem consistent_derive {ps : List (Preset α)} (hwf : WF ps) {old new v : Fan α} (hc : Consistent ps old)
    (hk : old.preset ≠ new.preset → findIdx (fun p => p.name == new.preset) ps ≠ none)
    (hd : deriveValues ps old new = some v) : Consistent ps v := by
  by_cases h1 : old.preset = new.preset
  · by_cases h2 : old.index = new.index
    · by_cases h3 : old.pct = new.pct
      · rw [deriveValues_same h1 h2 h3] at hd
        cases hd
        unfold Consistent
        rw [← h1, ← h2, ← h3]
        exact hc
      · cases hf : findIdx (fun p => p.pct == new.pct) ps with
        | some i =>
          obtain ⟨p, hp, hpct, h⟩ := deriveValues_pct_found h1 h2 h3 hf
          rw [h] at hd
          cases hd
          exact consistent_at hwf (Int.natCast_nonneg i) hp rfl hpct
        | none =>
          rw [deriveValues_pct_none h1 h2 h3 hf] at hd
          cases hd
          exact ⟨fun h => absurd rfl h, fun _ => ⟨rfl, fun p hp => by simpa using findIdx_none hf p hp⟩⟩
    · obtain ⟨p, hp, h⟩ := deriveValues_index hwf.1 h1 h2
      rw [h] at hd
      cases hd
      exact consistent_at hwf (clamp_bounds (length_pos hwf.1) new.index).1 hp rfl rfl
  · cases hf : findIdx (fun p => p.name == new.preset) ps with
    | some i =>
      obtain ⟨p, hp, hn, h⟩ := deriveValues_preset_found h1 hf
      rw [h] at hd
      cases hd
      exact consistent_at hwf (Int.natCast_nonneg i) hp hn rfl
    | none => exact absurd hf (hk h1)

theorem merged_known {ps : List (Preset α)} {old : Fan α} {r : Request α}
    (hval : ¬ (r.src.preset ≠ "" ∧ (findIdx (fun p => p.name == r.src.preset) ps).isNone))
    (hw : WriteOK add old r) (h1 : old.preset ≠ (merged add old r).preset) :
    findIdx (fun p => p.name == (merged add old r).preset) ps ≠ none := by
  rcases merged_preset add old r with hm | hm
  · exact absurd hm.symm h1
  · intro hf
    rw [hm] at hf h1
    by_cases he : r.src.preset = ""
    · exact hw ⟨hm.trans he, fun ho => h1 (ho.trans he.symm)⟩
    · exact hval ⟨he, by rw [hf]; rfl⟩

theorem consistent_step (ps : List (Preset α)) (old : Fan α) (r : Request α) (hwf : WF ps)
    (hc : Consistent ps old) (hw : WriteOK add old r) : Consistent ps (step add ps old r) := by
  unfold step
  cases hu : update add ps old r with
  | ok v => exact consistent_derive hwf hc (merged_known add (update_ok add hu).1 hw) (update_ok add hu).2
  | invalidArgument => exact hc
  | panic => exact hc

end ScVerif.C20.FanSpeed
