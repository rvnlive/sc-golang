import ScVerif.C20.ParentSpec
/-!
# C20 — property theorems, Parent

Property (fixed text, parent clause): "For every update sequence a parent's child trait list is the
sorted duplicate-free set union and difference of what was added and removed."

`Sorted l` is `l.Pairwise (· < ·)`: strictly ascending, i.e. sorted and duplicate free.  Sets are
given by membership.
-/
namespace ScVerif.C20.Parent

/-- `traitUnion` is `has ∪ more`; `more` is arbitrary (unsorted, with duplicates, overlapping `has`). -/
theorem C20_parent_union (has more : List String) (hs : Sorted has) :
    Sorted (traitUnion has more) ∧ ∀ x, x ∈ traitUnion has more ↔ x ∈ has ∨ x ∈ more :=
  traitUnion_spec more has hs

/-- `traitRemove` is `has \ remove`; names that are absent from `has` remove nothing. -/
theorem C20_parent_remove (has remove : List String) (hs : Sorted has) :
    Sorted (traitRemove has remove) ∧ ∀ x, x ∈ traitRemove has remove ↔ x ∈ has ∧ x ∉ remove :=
  traitRemove_spec remove has hs

/-- removing the absent "a" from ["b"] keeps "b" (without the equality test after the search its successor would go) -/
example : traitRemove ["b"] ["a"] = ["b"] := by decide

/-- One operation of the children collection (`AddChild` with a valid list, `AddChildTrait`, `RemoveChildTrait`,
`RemoveChildByName`) is the specification's set operation on the child it names. -/
theorem C20_parent_step (s : Children) (σ : SpecState) (op : Op) (hr : Refines s σ) (hw : op.WF) :
    Refines (step s op).1 (specStep σ op) := by
  cases op with
  | addChild n ts =>
    simp only [step, specStep]
    by_cases hn : n = ""
    · rw [if_pos (Or.inl hn), if_pos hn]
      exact hr
    · rw [if_neg (not_or.mpr ⟨hn, by rw [isSorted_of_sorted ts hw]; nofun⟩), if_neg hn]
      rcases refines_at hr n with ⟨hl, hσ⟩ | ⟨l, S, hl, hσ, _⟩
      · rw [hl, hσ]
        exact refines_set hr n hw (fun _ => Iff.rfl)
      · rw [hl, hσ]
        exact hr
  | addTrait n ts =>
    simp only [step, specStep]
    rcases refines_at hr n with ⟨hl, hσ⟩ | ⟨l, S, hl, hσ, hs, hm⟩
    · rw [hl, hσ]
      obtain ⟨h1, h2⟩ := traitUnion_spec ts [] List.Pairwise.nil
      exact refines_set hr n h1 (fun x => by rw [h2]; exact or_congr_left (iff_of_false List.not_mem_nil id))
    · rw [hl, hσ]
      obtain ⟨h1, h2⟩ := traitUnion_spec ts l hs
      exact refines_set hr n h1 (fun x => by rw [h2, hm])
  | removeTrait n ts =>
    simp only [step, specStep]
    rcases refines_at hr n with ⟨hl, hσ⟩ | ⟨l, S, hl, hσ, hs, hm⟩
    · rw [hl, hσ]
      exact hr
    · rw [hl, hσ]
      obtain ⟨h1, h2⟩ := traitRemove_spec ts l hs
      exact refines_set hr n h1 (fun x => by rw [h2, hm])
  | removeChild n =>
    simp only [step, specStep]
    rcases refines_at hr n with ⟨hl, _⟩ | ⟨l, S, hl, hσ, _⟩
    · rw [hl]
      exact refines_upd_none hr hl
    · rw [hl]
      exact refines_erase hr n

/-- **Every update sequence** of AddChild / AddChildTrait / RemoveChildTrait / RemoveChildByName over any child
names: the model's children stay exactly the spec's map of sets. -/
theorem C20_parent_seq (ops : List Op) : ∀ (s : Children) (σ : SpecState), Refines s σ →
    (∀ o ∈ ops, o.WF) → Refines (run s ops) (specRun σ ops) :=
  fun _ _ h hw => List.foldl_rel h fun o ho s σ hr => C20_parent_step s σ o hr (hw o ho)

/-- the empty model corresponds to the empty map (the hypothesis of `C20_parent_seq` is reachable) -/
example : Refines [] (fun _ => none) := fun _ => trivial

/-- `Op.WF` is satisfiable by real requests -/
example : (Op.addChild "c1" ["a", "b"]).WF := by show Sorted ["a", "b"]; decide

/-- **The excluded point of `Op.WF` is real, and what the code does there**: `AddChild` accepts a trait
list that is sorted but has a duplicate (`validateChild` only rejects descending neighbours); removing
that trait afterwards removes one copy, so a removed trait is still listed — the set-difference claim
needs the duplicate-free hypothesis.  (An unsorted list is rejected by the documented panic, see
`C20_parent_no_panic`.) -/
theorem C20_parent_seq_fails_without_WF :
    ∃ ts : List String, isSorted ts = true ∧ ¬ Sorted ts ∧
      "a" ∈ (lookup "c" (run [] [.addChild "c" ts, .removeTrait "c" ["a"]])).getD [] ∧
      (step [] (.addChild "c" ["b", "a"])).2 = "panic" :=
  ⟨["a", "a"], by decide, by decide, by decide, by decide⟩

/-- Well-formed requests never reach the panic outcome: the only panic is the documented one of
`AddChild` (empty name or traits not sorted). -/
theorem C20_parent_no_panic (s : Children) (op : Op) (h : (step s op).2 = "panic") :
    ∃ n ts, op = .addChild n ts ∧ (n = "" ∨ isSorted ts = false) := by
  cases op with
  | addChild n ts =>
    refine ⟨n, ts, rfl, ?_⟩
    by_cases hc : n = "" ∨ isSorted ts = false
    · exact hc
    · simp only [step, hc, if_false] at h
      cases hl : lookup n s <;> simp [hl] at h
  | addTrait n ts => simp only [step] at h; cases hl : lookup n s <;> simp [hl] at h
  | removeTrait n ts => simp only [step] at h; cases hl : lookup n s <;> simp [hl] at h
  | removeChild n => simp only [step] at h; cases hl : lookup n s <;> simp [hl] at h

end ScVerif.C20.Parent
