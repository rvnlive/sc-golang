import ScVerif.C20.ParentConc
import ScVerif.C20.ParentLemmas
import ScVerif.C20.GauLemmas
/-! One child's record against its set specification, for the concurrent clauses.  This is `ParentSpec` seen at one
child name (`lookup_step`); both declare `Parent.specStep`, at different types, and both occur in property statements,
so the two modules cannot be imported together and the refinement is proved once per view. -/
namespace ScVerif.C20.Parent
open Gau

/-- `AddChild` validates its list (panics on an unsorted one: excluded as a configuration error) -/
def COp.WF : COp → Prop
  | .addChild ts => Sorted ts
  | _ => True

/-- Spec of one child: absent, or a set of trait names. -/
abbrev SpecRec := Option (String → Prop)

def specStep (σ : SpecRec) : COp → SpecRec
  | .addChild ts => match σ with
    | some S => some S
    | none => some (· ∈ ts)
  | .addTrait ts => some (fun x => (σ.getD (fun _ => False)) x ∨ x ∈ ts)
  | .removeTrait ts => σ.map (fun S x => S x ∧ x ∉ ts)

def RefinesRec : Rec → SpecRec → Prop
  | none, none => True
  | some ts, some S => Sorted ts ∧ ∀ x, x ∈ ts ↔ S x
  | _, _ => False

theorem recStep_refines (r : Rec) (σ : SpecRec) (o : COp) (h : RefinesRec r σ) (hw : o.WF) :
    RefinesRec (recStep r o) (specStep σ o) := by
  cases r with
  | none =>
    cases σ with
    | some S => exact absurd h (by simp [RefinesRec])
    | none =>
      cases o with
      | addChild ts => exact ⟨hw, fun x => Iff.rfl⟩
      | addTrait ts =>
        have := traitUnion_spec ts [] List.Pairwise.nil
        exact ⟨this.1, fun x => by simpa [Option.getD] using this.2 x⟩
      | removeTrait ts => trivial
  | some old =>
    cases σ with
    | none => exact absurd h (by simp [RefinesRec])
    | some S =>
      obtain ⟨hs, hm⟩ := h
      cases o with
      | addChild ts => exact ⟨hs, hm⟩
      | addTrait ts =>
        have := traitUnion_spec ts old hs
        exact ⟨this.1, fun x => by
          show x ∈ traitUnion old ts ↔ S x ∨ x ∈ ts
          rw [this.2 x, hm x]⟩
      | removeTrait ts =>
        have := traitRemove_spec ts old hs
        exact ⟨this.1, fun x => by
          show x ∈ traitRemove old ts ↔ S x ∧ x ∉ ts
          rw [this.2 x, hm x]⟩

theorem opCall_apply (o : COp) (cur : Rec) (t : Int) : (opCall o).apply cur t = recStep cur o := rfl

/-- `recStep` is `Parent.step` seen from the child the call names (for `AddChild`: a request that passes
`validateChild`).  It stands alone: the two specifications cannot meet in one module, so no theorem carries a result
across it. -/
theorem lookup_step (s : Children) (n : String) :
    (∀ ts, n ≠ "" → isSorted ts = true →
      lookup n (step s (.addChild n ts)).1 = recStep (lookup n s) (.addChild ts)) ∧
    (∀ ts, lookup n (step s (.addTrait n ts)).1 = recStep (lookup n s) (.addTrait ts)) ∧
    (∀ ts, lookup n (step s (.removeTrait n ts)).1 = recStep (lookup n s) (.removeTrait ts)) := by
  refine ⟨fun ts hn hs => ?_, fun ts => ?_, fun ts => ?_⟩
  · have hv : ¬ (n = "" ∨ isSorted ts = false) := not_or.mpr ⟨hn, by rw [hs]; nofun⟩
    simp only [step, if_neg hv]
    cases hl : lookup n s with
    | none => exact lookup_set_self n ts s
    | some old => exact hl
  · simp only [step]
    cases hl : lookup n s with
    | none => exact lookup_set_self n _ s
    | some old => exact lookup_set_self n _ s
  · simp only [step]
    cases hl : lookup n s with
    | none => exact hl
    | some old => exact lookup_set_self n _ s

/-- the rule "a trait list is sorted and duplicate free", as an invariant of the interleaving model -/
def RecSorted (r : Rec) (_ : Int) : Prop := ∀ ts, r = some ts → Sorted ts

/-- a sorted record refines the set of its own members, and a record that refines a set is sorted: so the
calls keep `RecSorted` because each refines the set spec -/
theorem refinesRec_self {r : Rec} {t : Int} (h : RecSorted r t) : RefinesRec r (r.map fun ts x => x ∈ ts) := by
  cases r with
  | none => trivial
  | some ts => exact ⟨h ts rfl, fun _ => Iff.rfl⟩

theorem RefinesRec.sorted {r : Rec} {σ : SpecRec} (h : RefinesRec r σ) (t : Int) : RecSorted r t := by
  intro ts e
  subst e
  cases σ with
  | none => exact h.elim
  | some S => exact h.1

theorem opCall_ok (o : COp) (hw : o.WF) : (opCall o).OK RecSorted :=
  ⟨fun _ r t hr _ => (recStep_refines r _ o (refinesRec_self hr) hw).sorted t,
    fun he => by simp [opCall] at he⟩

end ScVerif.C20.Parent
