/-!
# C20 — what every step keeps holds after the run

Every sequential model's `run` is `List.foldl step`, and "after every update sequence" is one induction: a relation
`R` between the state and a ghost (a clock bound, a specification state, nothing) that each step keeps, under a guard.
Where the guard is a property of the elements the core library has it (`List.foldl_rel`, `List.foldlRecOn`); the
recursive run predicates of the models (`Meter.Mono`, `Publication.MonoFrom`, `EnterLeave.SafeRun`, `FanSpeed.OKRun`)
depend on the ghost and all unfold as `G b (c :: l) ↔ P b c ∧ G (g b c) l`: `foldl_rel`.
-/
namespace ScVerif.C20

theorem foldl_rel {α β γ : Type} {R : α → β → Prop} {f : α → γ → α} {g : β → γ → β}
    {G : β → List γ → Prop} {P : β → γ → Prop}
    (hG : ∀ b c l, G b (c :: l) → P b c ∧ G (g b c) l)
    (h : ∀ a b c, R a b → P b c → R (f a c) (g b c)) :
    ∀ (l : List γ) (a : α) (b : β), R a b → G b l → R (l.foldl f a) (l.foldl g b)
  | [], _, _, hr, _ => hr
  | c :: l, a, b, hr, hg => foldl_rel hG h l _ _ (h a b c hr (hG b c l hg).1) (hG b c l hg).2

end ScVerif.C20
