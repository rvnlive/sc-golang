import ScVerif.C20.GauLemmas
import ScVerif.Base.ListLemmas
/-!
# C20 — every interleaving is a legal sequential run of the committed calls (lemmas)

For every configuration and schedule there is a log — calls of the threads' programs, one entry per value a call
returned, each with its clock reading — such that the final store is `replay` of the initial store along the log.
So whatever a sequential theorem says about every sequence of a model's operations (with arbitrary, not necessarily
monotone, clock readings) holds for the store after every interleaving.

The log is *legal*: `Collection.Update` / `Value.Set` run the caller's checks (`resource.WithExpectedCheck`:
version match, not yet acknowledged, …) **inside** `GetAndUpdate`, on the value that was read; the
compare-and-commit then only writes when the stored value still equals that value.  So the value a write
lands on is one the write's own checks accepted — whatever the other threads did between the read and the
commit.  (A check made by a separate read *before* the write has no such link: see
`C20_pub_conc_check_outside_fails`.)

That a call at the lock passed its checks on the value it read is part of the invariant `Keeps` (`PhaseK`), here used
at the trivial `I`; it holds of every initial configuration, with no hypothesis on the calls.
-/
namespace ScVerif.C20.Gau

variable {σ ε : Type}

def replay (s : σ) (log : List (Call σ ε × Int)) : σ := log.foldl (fun s p => p.1.apply s p.2) s

/-- the calls a thread may still commit: the one in progress and the rest of its program -/
def Thread.calls (th : Thread σ ε) : List (Call σ ε) :=
  (match th.cur with | some (c, _) => [c] | none => []) ++ th.todo

def Cfg.calls (c : Cfg σ ε) : List (Call σ ε) := c.threads.flatMap Thread.calls

def Thread.oks (th : Thread σ ε) : Nat := th.results.countP Res.isOk
def Cfg.oks (c : Cfg σ ε) : Nat := (c.threads.map Thread.oks).sum

/-- a log is *legal* from `s`: every call in it passes its own checks on the value it is applied to -/
def Legal : σ → List (Call σ ε × Int) → Prop
  | _, [] => True
  | s, p :: rest => p.1.check s = none ∧ Legal (p.1.apply s p.2) rest

/-- the invariant at the trivial `I`: every call at the lock passed its checks on the value it read -/
abbrev Checked (c : Cfg σ ε) : Prop := Keeps (fun _ _ => True) c

/-- what a step that is not a commit does to a thread's results: nothing, or one more that is no value -/
def NoNewOk (rs' rs : List (Res σ ε)) : Prop := rs' = rs ∨ ∃ r, r.isOk = false ∧ rs' = r :: rs

theorem NoNewOk.ne {rs' rs : List (Res σ ε)} (h : NoNewOk rs' rs) (v : σ) : rs' ≠ .ok v :: rs := by
  rcases h with rfl | ⟨r, hr, rfl⟩
  · exact fun e => absurd (congrArg List.length e) (by simp)
  · intro e
    cases (List.cons.inj e).1
    cases hr

theorem NoNewOk.countP {rs' rs : List (Res σ ε)} (h : NoNewOk rs' rs) :
    rs'.countP Res.isOk = rs.countP Res.isOk := by
  rcases h with rfl | ⟨r, hr, rfl⟩
  · rfl
  · exact List.countP_cons_of_neg (by rw [hr]; nofun)

theorem Cfg.calls_all {c : Cfg σ ε} {th : Thread σ ε} (hth : th ∈ c.threads) : th.Calls (· ∈ c.calls) :=
  ⟨fun cl p e => ⟨List.mem_flatMap.mpr ⟨th, hth, by unfold Thread.calls; rw [e]; exact List.mem_cons_self⟩, trivial⟩,
    fun cl h => List.mem_flatMap.mpr ⟨th, hth, List.mem_append_right _ h⟩, fun _ _ => trivial⟩

theorem init_checked (store : σ) (now : Int) (progs : List (List (Call σ ε))) :
    Checked (⟨store, now, progs.map Thread.ofCalls⟩ : Cfg σ ε) :=
  Keeps.init trivial fun _ _ _ _ => ⟨fun _ _ _ _ _ => trivial, fun _ _ _ => trivial⟩

theorem init_oks (store : σ) (now : Int) (progs : List (List (Call σ ε))) :
    (⟨store, now, progs.map Thread.ofCalls⟩ : Cfg σ ε).oks = 0 := by
  unfold Cfg.oks
  induction progs with
  | nil => rfl
  | cons p rest ih => simpa [Thread.oks, Thread.ofCalls] using ih

variable [DecidableEq σ]

/-- A thread step leaves the store alone and returns no new value, or it is the commit of the call in progress: the
store equalled the value the call had read and becomes the call's effect on it. -/
theorem threadStep_seq (store : σ) (now : Int) (th : Thread σ ε) :
    ((threadStep store now th).1 = store ∧ NoNewOk (threadStep store now th).2.results th.results) ∨
    ∃ cl t, th.cur = some (cl, .ready store t) ∧
      (threadStep store now th).1 = cl.apply store t ∧
      (threadStep store now th).2.results = .ok (cl.apply store t) :: th.results := by
  rcases threadStep_cases store now th with h | ⟨c, p, todo, hsrc, hgo⟩
  · rw [h]
    exact Or.inl ⟨rfl, Or.inl rfl⟩
  · rcases callStep_cases store now c p with ⟨h1, h2, _⟩ | ⟨t, hp, hcs⟩
    · left
      rcases hgo with ⟨h, _⟩ | ⟨r, h, hr⟩
      · rw [h]
        exact ⟨h1, Or.inl rfl⟩
      · rw [h]
        exact ⟨h1, Or.inr ⟨r, (h2 r hr).1, rfl⟩⟩
    · -- the commit: only a call in progress can be at the lock
      subst hp
      rcases hsrc with ⟨hcur, _⟩ | ⟨_, hstart, _⟩
      · rcases hgo with ⟨_, hr⟩ | ⟨r, h, hr⟩
        · rw [hcs] at hr
          cases hr
        · rw [hcs] at hr h
          cases hr
          exact Or.inr ⟨c, t, hcur, by rw [h], by rw [h]⟩
      · cases hstart

/-- the same for a reader outside this file: a step that is no commit returns no new value -/
theorem threadStep_commit (store : σ) (now : Int) (th : Thread σ ε) :
    ((threadStep store now th).1 = store ∧ ∀ r, (threadStep store now th).2.results ≠ .ok r :: th.results) ∨
    ∃ cl t, th.cur = some (cl, .ready store t) ∧
      (threadStep store now th).1 = cl.apply store t ∧
      (threadStep store now th).2.results = .ok (cl.apply store t) :: th.results :=
  (threadStep_seq store now th).imp (fun h => ⟨h.1, h.2.ne⟩) id

/-- The same for a configuration, with the count of returned values. -/
theorem step_commit (c : Cfg σ ε) (ev : Ev) :
    ((c.step ev).store = c.store ∧ (c.step ev).oks = c.oks) ∨
    ∃ i th cl t, ev = .step i ∧ c.threads[i]? = some th ∧ th.cur = some (cl, .ready c.store t) ∧
      (c.step ev).store = cl.apply c.store t ∧ (c.step ev).oks = c.oks + 1 := by
  cases ev with
  | tick d => exact Or.inl ⟨rfl, rfl⟩
  | step i =>
    simp only [Cfg.step]
    cases hth : c.threads[i]? with
    | none => exact Or.inl ⟨rfl, rfl⟩
    | some th =>
      have hsum := Base.sum_map_set Thread.oks (threadStep c.store c.now th).2 hth
      rcases threadStep_seq c.store c.now th with ⟨h1, h2⟩ | ⟨cl, t, hcur, h1, h2⟩
      · have hoks : (threadStep c.store c.now th).2.oks = th.oks := h2.countP
        refine Or.inl ⟨h1, ?_⟩
        show ((c.threads.set i _).map Thread.oks).sum = (c.threads.map Thread.oks).sum
        omega
      · have hoks : (threadStep c.store c.now th).2.oks = th.oks + 1 := by
          unfold Thread.oks
          rw [h2]
          exact List.countP_cons_of_pos rfl
        refine Or.inr ⟨i, th, cl, t, rfl, hth, hcur, h1, ?_⟩
        show ((c.threads.set i _).map Thread.oks).sum = (c.threads.map Thread.oks).sum + 1
        omega

/-- the log of a schedule, for threads whose calls are `f a` for labels `a` that satisfy `S`: the labels of the
calls that committed, each with its clock reading, in commit order -/
theorem run_log {α : Type} (f : α → Call σ ε) {S : α → Prop} (sched : List Ev) : ∀ c : Cfg σ ε,
    (∀ th ∈ c.threads, th.Calls fun x => ∃ a, S a ∧ x = f a) →
    ∃ ops : List (α × Int), (∀ o ∈ ops, S o.1) ∧
      (c.run sched).store = replay c.store (ops.map fun o => (f o.1, o.2)) ∧
      (c.run sched).oks = c.oks + ops.length ∧
      (Checked c → Legal c.store (ops.map fun o => (f o.1, o.2))) := by
  induction sched with
  | nil => intro c _; exact ⟨[], fun _ h => absurd h List.not_mem_nil, rfl, rfl, fun _ => trivial⟩
  | cons ev rest ih =>
    intro c hS
    obtain ⟨ops, hmem, hlog, hcnt, hleg⟩ := ih (c.step ev) (run_calls [ev] c hS)
    have hleg' : Checked c → Legal (c.step ev).store (ops.map fun o => (f o.1, o.2)) := fun hck =>
      hleg (hck.run (fun _ _ _ _ h => h) [ev])
    show ∃ ops, _ ∧ (Cfg.run (c.step ev) rest).store = _ ∧ (Cfg.run (c.step ev) rest).oks = _ ∧ _
    rcases step_commit c ev with ⟨h, hk⟩ | ⟨i, th, cl, t, _, hth, hcur, h, hk⟩
    · rw [h] at hlog hleg'
      exact ⟨ops, hmem, hlog, by omega, hleg'⟩
    · have hin : th ∈ c.threads := List.mem_of_getElem? hth
      obtain ⟨a, ha, rfl⟩ := ((hS th hin).cur cl _ hcur).1
      refine ⟨(a, t) :: ops, ?_, ?_, by rw [List.length_cons]; omega, fun hck => ?_⟩
      · intro o ho
        rcases List.mem_cons.mp ho with rfl | ho
        · exact ha
        · exact hmem o ho
      · rw [hlog, h]
        rfl
      · exact ⟨hck.checked hin hcur, by rw [← h]; exact hleg' hck⟩

theorem run_linearizes (sched : List Ev) : ∀ c : Cfg σ ε,
    ∃ log : List (Call σ ε × Int), (∀ p ∈ log, p.1 ∈ c.calls) ∧ (c.run sched).store = replay c.store log := by
  intro c
  obtain ⟨ops, hmem, hlog, _⟩ := run_log id (S := (· ∈ c.calls)) sched c
    fun th hth => (Cfg.calls_all hth).imp (fun x hx => ⟨x, hx, rfl⟩) fun _ _ h => h
  exact ⟨_, fun p hp => by obtain ⟨o, ho, rfl⟩ := List.mem_map.mp hp; exact hmem o ho, hlog⟩

theorem linearizes_timed_ops {α : Type} (f : α → Call σ ε) (init : σ) (now : Int) (progs : List (List α))
    (sched : List Ev) :
    let c := Cfg.run ⟨init, now, (progs.map (·.map f)).map Thread.ofCalls⟩ sched
    ∃ ops : List (α × Int), (∀ o ∈ ops, ∃ p ∈ progs, o.1 ∈ p) ∧ ops.length = c.oks ∧
      c.store = ops.foldl (fun s o => (f o.1).apply s o.2) init := by
  obtain ⟨ops, hmem, h, hcnt, -⟩ := run_log f (S := fun a => ∃ p ∈ progs, a ∈ p) sched
    (⟨init, now, (progs.map (·.map f)).map Thread.ofCalls⟩ : Cfg σ ε)
    (Thread.All.init_ops fun p hp a ha => ⟨a, ⟨p, hp, ha⟩, rfl⟩)
  rw [init_oks, Nat.zero_add] at hcnt
  exact ⟨ops, hmem, hcnt.symm, by rw [h, replay, List.foldl_map]⟩

theorem run_linearizes_ops {α : Type} (f : α → Call σ ε) (stepF : σ → α → σ)
    (hf : ∀ a s t, (f a).apply s t = stepF s a) (init : σ) (now : Int) (progs : List (List α))
    (sched : List Ev) :
    let c := Cfg.run ⟨init, now, (progs.map (·.map f)).map Thread.ofCalls⟩ sched
    ∃ ops : List α, (∀ o ∈ ops, ∃ p ∈ progs, o ∈ p) ∧ ops.length = c.oks ∧ c.store = ops.foldl stepF init := by
  intro c
  obtain ⟨ops, hmem, hlen, hstore⟩ := linearizes_timed_ops f init now progs sched
  refine ⟨ops.map (·.1), fun o ho => ?_, by rw [List.length_map]; exact hlen, ?_⟩
  · obtain ⟨x, hx, rfl⟩ := List.mem_map.mp ho
    exact hmem x hx
  · rw [List.foldl_map]
    simp only [hf] at hstore
    exact hstore

end ScVerif.C20.Gau
