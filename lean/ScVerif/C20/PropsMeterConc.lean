import ScVerif.C20.MeterConcLemmas
import ScVerif.C20.GauLin
/-!
# C20 — property theorems, Meter under concurrent callers

Property (fixed text, meter clause): "meter start and end times … stay mutually consistent", for any number of
threads, any program of `RecordReading` / `Reset` calls per thread, any interleaving of their atomic steps and any
amount of time passing in between.  The only assumption on time is that the clock itself never goes back (`tick d`,
`d : Nat`): the timestamps of the *committed* operations need NOT be monotone (a `Reset` that read the clock early
can commit after a later `RecordReading`), so the sequential `C20_meter_start_le_end` of `PropsMeter` (whose hypothesis
`Meter.Mono` says the operations' times never go back; not `Gau.Mono`) does not give this.
-/
namespace ScVerif.C20.Meter
open Gau

/-- **start ≤ end ≤ now after every interleaving**, for every program whose calls satisfy `Call.OK`: a call that
keeps part of the stored period reads the clock inside the transaction; only one that overwrites both times may
read it before. -/
theorem C20_meter_conc_start_le_end (store : Reading) (now : Int) (progs : List (List MCall))
    (h0 : Inv store now) (hshape : ∀ cs ∈ progs, ∀ c ∈ cs, c.OK Ordered) (sched : List Ev) :
    Inv (Cfg.run ⟨store, now, progs.map Thread.ofCalls⟩ sched).store
        (Cfg.run ⟨store, now, progs.map Thread.ofCalls⟩ sched).now :=
  (run_inv Ordered.mono sched _ (Keeps.init h0 hshape)).1

/-- **the code as written**: any threads × any programs of `RecordReading` / `Reset` × any schedule. -/
theorem C20_meter_conc_code (store : Reading) (now : Int) (progs : List (List (Option String)))
    (h0 : Inv store now) (sched : List Ev) :
    Inv (Cfg.run ⟨store, now, (progs.map codeCalls).map Thread.ofCalls⟩ sched).store
        (Cfg.run ⟨store, now, (progs.map codeCalls).map Thread.ofCalls⟩ sched).now :=
  (run_inv Ordered.mono sched _ (code_keeps h0 progs)).1

/-- **every reading a call returns is ordered.** -/
theorem C20_meter_conc_results (store : Reading) (now : Int) (progs : List (List (Option String)))
    (h0 : Inv store now) (sched : List Ev) :
    ∀ th ∈ (Cfg.run ⟨store, now, (progs.map codeCalls).map Thread.ofCalls⟩ sched).threads,
      ∀ r, Res.ok r ∈ th.results → ∃ s e, r.start = some s ∧ r.stop = some e ∧ s ≤ e := by
  intro th hth r hr
  obtain ⟨t, s, e, h1, h2, h3, _⟩ := (run_inv Ordered.mono sched _ (code_keeps h0 progs)).2 th hth r hr
  exact ⟨s, e, h1, h2, h3⟩

/-- **every commit is the sequential operation on the value stored at that moment; anything else (including an
`Aborted` call) leaves the store alone and returns no reading.** -/
theorem C20_meter_conc_commit_is_sequential (store : Reading) (now : Int) (th : MThread) :
    ((threadStep store now th).1 = store ∧
      ∀ r, (threadStep store now th).2.results ≠ .ok r :: th.results) ∨
    ∃ cl t, th.cur = some (cl, .ready store t) ∧
      (threadStep store now th).1 = cl.apply store t ∧
      (threadStep store now th).2.results = .ok (cl.apply store t) :: th.results :=
  threadStep_commit store now th

/-- … and the effect of the code's two calls is the sequential model's `step`. -/
theorem C20_meter_conc_calls_are_ops (o : Reading) (v : String) (t : Int) :
    (recordCall v).apply o t = Meter.step o (.record v t) ∧ resetCall.apply o t = Meter.step o (.reset t) ∧
    (recordCall v).early = false ∧ resetCall.early = true :=
  ⟨rfl, rfl, rfl, rfl⟩

/-- **the stored reading is `Meter.run` of some sequence of `RecordReading` / `Reset` operations** with clock
readings, so `C20_meter_registers` describes it. -/
theorem C20_meter_conc_is_sequential_run (store : Reading) (now : Int)
    (progs : List (List (Option String))) (sched : List Ev) :
    ∃ ops : List Op, (Cfg.run ⟨store, now, (progs.map codeCalls).map Thread.ofCalls⟩ sched).store
      = Meter.run store ops := by
  obtain ⟨ops, _, _, h⟩ := linearizes_timed_ops codeCall store now progs sched
  refine ⟨ops.map (fun o => match o.1 with | none => .reset o.2 | some v => .record v o.2), h.trans ?_⟩
  rw [Meter.run, List.foldl_map]
  congr 1
  funext s o
  obtain ⟨a, t⟩ := o
  cases a <;> rfl

/-- **why the clock must be read inside the transaction**: a `RecordReading` that takes its timestamp
before `Set` admits a schedule that commits `end < start` — thread 0 reads the clock (100) and is
delayed, a complete `Reset` runs at 105, thread 0 carries on. -/
theorem C20_meter_conc_clock_outside_fails :
    ∃ (progs : List (List MCall)) (sched : List Ev),
      Inv ⟨"0", some 100, some 100⟩ 100 ∧
      ¬ ∃ t', Inv (Cfg.run ⟨⟨"0", some 100, some 100⟩, 100, progs.map Thread.ofCalls⟩ sched).store t' := by
  refine ⟨[[earlyRecordCall "5"], [resetCall]],
    [.step 0, .tick 5, .step 1, .step 1, .step 1, .step 1, .step 0, .step 0, .step 0],
    ⟨100, 100, rfl, rfl, Int.le_refl _, Int.le_refl _⟩, ?_⟩
  -- the run ends with usage "5", start 105 (the `Reset`), end 100 (the early timestamp)
  show ¬ ∃ t', Inv ⟨"5", some 105, some 100⟩ t'
  rintro ⟨t', s, e, hs, he, hse, _⟩
  simp only [Option.some.injEq] at hs he
  omega

/-- the same overlap on the code as written: the overlapping `RecordReading` is `Aborted`, the store
keeps the `Reset`'s reading -/
example : (Cfg.run ⟨⟨"0", some 100, some 100⟩, 100,
      [[recordCall "5"], [resetCall]].map Thread.ofCalls⟩
      [.step 0, .step 0, .tick 5, .step 1, .step 1, .step 1, .step 1, .step 0, .step 0]).store
      = ⟨"0", some 105, some 105⟩ := by decide
example : ((Cfg.run ⟨⟨"0", some 100, some 100⟩, 100,
      [[recordCall "5"], [resetCall]].map Thread.ofCalls⟩
      [.step 0, .step 0, .tick 5, .step 1, .step 1, .step 1, .step 1, .step 0, .step 0]).threads.map (·.results))
      = [[.aborted], [.ok ⟨"0", some 105, some 105⟩]] := by decide
/-- committed timestamps need not be monotone: a `Reset` that read the clock at 100 commits after a
`RecordReading` stamped 107 — the sequential hypothesis (operation times never go back) fails, the invariant holds -/
example : (Cfg.run ⟨⟨"0", some 100, some 100⟩, 100,
      [[resetCall], [recordCall "5"]].map Thread.ofCalls⟩
      [.step 0, .tick 7, .step 1, .step 1, .step 1, .step 1, .step 0, .step 0, .step 0]).store
      = ⟨"0", some 100, some 100⟩ := by decide

end ScVerif.C20.Meter
