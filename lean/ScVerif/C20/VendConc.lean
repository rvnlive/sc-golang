import ScVerif.C20.VendingCode
import ScVerif.C20.Gau
/-!
# C20 / Vending — concurrent `DispenseInstantly` on one stock record as calls of the generic model

`DispenseInstantly` writes through `Collection.Update` on the inventory; its `InterceptBefore` computes
the new stock from the value read inside the transaction and reads no clock (`timed = false`).  On a
conversion error the interceptor restores the old value and the (no-op) write is still committed; the
error is returned afterwards — so also an erroring call can be refused as a concurrent update.
-/
namespace ScVerif.C20.Vending

abbrev VCall := Gau.Call Stock Unit

def dispenseCall (q : Qty) : VCall :=
  ⟨false, fun _ => none, fun cur _ => (intercept true q cur emptyStock).1, false, false⟩

/-- one sequential dispense on a record: the all-or-nothing function, an error changing nothing -/
def dispenseOrKeep (st : Stock) (q : Qty) : Stock := (dispenseStock q st).getD st

end ScVerif.C20.Vending
