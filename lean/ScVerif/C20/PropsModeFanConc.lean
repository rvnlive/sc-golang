import ScVerif.C20.ModeFanConc
import ScVerif.C20.ConcApply
import ScVerif.C20.GauLin
import ScVerif.C20.PropsMode
import ScVerif.C20.PropsFanSpeed
/-!
# C20 — property theorems, Mode and FanSpeed under concurrent callers

Property (fixed text): "… fan-speed preset, index and percentage, mode relative steps (wrapping) … stay
mutually consistent."  Under overlapping callers of `UpdateModeValues` / `UpdateFanSpeed` (any number of
threads, any programs, any schedule of the atomic steps of `GetAndUpdate`): the stored value is the
sequential run of exactly the requests that were not refused — **no relative step is lost and none is
applied twice**, so the sequential theorems (`C20_mode_seq`, `C20_fan_consistent`) describe it.
-/
namespace ScVerif.C20.Mode
open Gau

/-- **the stored mode values are a sequential run of exactly the committed requests.** -/
theorem C20_mode_conc_is_sequential_run (modes : List ModeDef) (init : Values) (now : Int)
    (progs : List (List Request)) (sched : List Ev) :
    let c := Cfg.run ⟨init, now, (progs.map (·.map (requestCall modes))).map Thread.ofCalls⟩ sched
    ∃ rs : List Request, (∀ r ∈ rs, ∃ p ∈ progs, r ∈ p) ∧ rs.length = c.oks ∧
      c.store = (Model.run ⟨modes, init⟩ rs).values := by
  intro c
  obtain ⟨rs, h1, h2, h3⟩ := run_linearizes_ops (requestCall modes)
    (fun v r => (Model.step ⟨modes, v⟩ r).values) (requestCall_apply modes) init now progs sched
  exact ⟨rs, h1, h2, by rw [run_values]; exact h3⟩

/-- **relative steps add up under every interleaving**: exactly as many steps are summed as calls were not refused. -/
theorem C20_mode_conc_steps_add_up (modes : List ModeDef) (n : String) (vs : List String)
    (hv : availableValues modes n = vs) (hnd : vs.Nodup) (vals : Values) (i : Nat) (hi : i < vs.length)
    (h0 : lookup n vals = some vs[i]) (now : Int) (progs : List (List (Int × Mask))) (sched : List Ev) :
    let c := Cfg.run ⟨vals, now,
      (progs.map (·.map (fun s => requestCall modes (relReq n s.1 s.2)))).map Thread.ofCalls⟩ sched
    ∃ steps : List (Int × Mask), (∀ s ∈ steps, ∃ p ∈ progs, s ∈ p) ∧ steps.length = c.oks ∧
      lookup n c.store = vs[(((i : Int) + (steps.map (·.1)).sum) % (vs.length : Int)).toNat]? := by
  intro c
  obtain ⟨steps, h1, h2, h3⟩ := run_linearizes_ops (fun s : Int × Mask => requestCall modes (relReq n s.1 s.2))
    (fun v s => (Model.step ⟨modes, v⟩ (relReq n s.1 s.2)).values)
    (fun s v t => requestCall_apply modes (relReq n s.1 s.2) v t) vals now progs sched
  refine ⟨steps, h1, h2, ?_⟩
  have h3' : c.store = steps.foldl (fun v s => (Model.step ⟨modes, v⟩ (relReq n s.1 s.2)).values) vals := h3
  have hrun : c.store = (Model.run ⟨modes, vals⟩ (steps.map (fun s => relReq n s.1 s.2))).values := by
    rw [h3', run_values, List.foldl_map]
  rw [hrun]
  exact C20_mode_seq modes n vs hv hnd steps vals i hi h0

/-- two overlapping steps (+1 and +2) from "a" of [a, b, c]: the one that reaches the lock second is refused
and counts nothing — "b", one committed call -/
example :
    let c := Cfg.run ⟨[("m", "a")], 0,
      ([[((1 : Int), Mask.none)], [((2 : Int), Mask.none)]].map
        (·.map (fun s => requestCall [⟨"m", ["a", "b", "c"]⟩] (relReq "m" s.1 s.2)))).map Thread.ofCalls⟩
      [.step 0, .step 1, .step 0, .step 1, .step 0, .step 1]
    lookup "m" c.store = some "b" ∧ c.oks = 1 := by
  decide +kernel

end ScVerif.C20.Mode

namespace ScVerif.C20.FanSpeed
open Gau

variable {α : Type} [DecidableEq α]

/-- **the stored fan speed is a sequential run of exactly the committed requests** (`run` skips a request
that is answered with an error; such a call commits nothing). -/
theorem C20_fan_conc_is_sequential_run (add : α → α → α) (ps : List (Preset α)) (init : Fan α) (now : Int)
    (progs : List (List (Request α))) (sched : List Ev) :
    let c := Cfg.run ⟨init, now, (progs.map (·.map (requestCall add ps))).map Thread.ofCalls⟩ sched
    ∃ rs : List (Request α), (∀ r ∈ rs, ∃ p ∈ progs, r ∈ p) ∧ rs.length = c.oks ∧
      c.store = run add ps init rs :=
  run_linearizes_ops (requestCall add ps) (step add ps) (fun _ _ _ => rfl) init now progs sched

/-- **preset, index and percentage stay mutually consistent under every interleaving** of `UpdateFanSpeed` requests
none of which clears the preset of a fan that has one (`WriteOK` on every consistent fan speed), and so is every fan
speed a call returned: a relative step is computed inside the transaction from the value the commit lands on. -/
theorem C20_fan_conc_consistent (add : α → α → α) (ps : List (Preset α)) (hwf : WF ps) (init : Fan α)
    (h0 : Consistent ps init) (now : Int) (progs : List (List (Request α)))
    (hok : ∀ p ∈ progs, ∀ r ∈ p, ∀ s, Consistent ps s → WriteOK add s r) (sched : List Ev) :
    let c := Cfg.run ⟨init, now, (progs.map (·.map (requestCall add ps))).map Thread.ofCalls⟩ sched
    Consistent ps c.store ∧ ∀ th ∈ c.threads, ∀ v, Res.ok v ∈ th.results → Consistent ps v := by
  intro c
  have hm : Mono (fun (s : Fan α) (_ : Int) => Consistent ps s) := fun _ _ _ _ h => h
  have hg := run_inv_ops hm (requestCall add ps) init now progs h0 (fun p hp r hr =>
    ⟨fun _ o t ho hck => consistent_step add ps o r hwf ho (hok p hp r hr o ho),
      fun he => by simp [requestCall] at he⟩) sched
  exact ⟨hg.1, fun th hth v hv => (hg.2 th hth v hv).elim fun _ h => h⟩

/-- the hypothesis is satisfiable: a relative index step under its own mask leaves the preset to
`DeriveValues` on every fan speed -/
example : ∀ s : Fan Rat, WriteOK radd s ⟨⟨0, "", 1, 0⟩, true, some [.index]⟩ := by
  intro s h
  simp [merged, merge] at h

end ScVerif.C20.FanSpeed
