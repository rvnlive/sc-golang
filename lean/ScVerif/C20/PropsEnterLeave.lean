import ScVerif.C20.EnterLeaveSpec
import ScVerif.C20.Fold
/-!
# C20 — property theorems, EnterLeave

Property (fixed text, enter/leave clause): "enter/leave totals … stay mutually consistent": totals are
counters — ENTER increments enter_total, LEAVE leave_total, explicit totals override, ResetTotals
zeroes both and nothing else.
-/
namespace ScVerif.C20.EnterLeave

/-- One `CreateEnterLeaveEvent` / `ResetTotals` is one step of the two counters, while neither stands at the int32
maximum. -/
theorem C20_enterleave_step (s : Event) (c : Counters) (o : Op) (hr : Refines s c) (hs : Safe c) :
    Refines (step s o) (specStep c o) := by
  cases o with
  | event ev =>
    exact ⟨(adjust_refines_sat _ _ _ _ hr.1).trans (satAdjust_of_lt _ _ hs.1),
      (adjust_refines_sat _ _ _ _ hr.2).trans (satAdjust_of_lt _ _ hs.2)⟩
  | reset => exact ⟨rfl, rfl⟩

/-- **Totals are counters, for every event sequence**, as long as no counter stands at the int32 maximum. -/
theorem C20_enterleave_counters (ops : List Op) : ∀ (s : Event) (c : Counters),
    Refines s c → SafeRun c ops → Refines (run s ops) (ops.foldl specStep c) :=
  fun s c h hs => foldl_rel (P := fun c _ => Safe c) (fun _ _ _ hg => hg) C20_enterleave_step ops s c h hs

/-- the default model state (both totals zero) refines the zero counters, which are safe -/
example : Refines ⟨0, none, some 0, some 0⟩ (0, 0) ∧ Safe (0, 0) := by unfold Refines Safe maxInt32; decide
/-- a model without totals also refines the zero counters -/
example : Refines ⟨0, none, none, none⟩ (0, 0) := by unfold Refines; decide
/-- a run satisfying `SafeRun`: two people enter, one leaves → (2, 1) -/
example : run ⟨0, none, some 0, some 0⟩ [.event ⟨1, none, none, none⟩, .event ⟨1, none, none, none⟩, .event ⟨2, none, none, none⟩]
    = ⟨2, none, some 2, some 1⟩ := by decide

/-- **The excluded point of `C20_enterleave_counters` is real, and what the code does there**: a total at
the int32 maximum is not incremented by a further ENTER (it saturates; plain int32 addition would wrap to
−2147483648), so the plain counter spec (which would say 2147483648) is not refined. -/
theorem C20_enterleave_counters_fails_at_max :
    ∃ s c o, Refines s c ∧ ¬ Safe c ∧ ¬ Refines (step s o) (specStep c o) ∧
      (step s o).enterTotal = some maxInt32 := by
  refine ⟨⟨0, none, some maxInt32, some 0⟩, (maxInt32, 0), .event ⟨1, none, none, none⟩, ?_, ?_, ?_, ?_⟩
  · unfold Refines; decide
  · unfold Safe maxInt32; decide
  · unfold Refines; decide
  · decide

/-- **Without any hypothesis: the totals are saturating counters** (a counter at the int32 maximum stays there). -/
theorem C20_enterleave_saturating (ops : List Op) : ∀ (s : Event) (c : Counters),
    Refines s c → Refines (run s ops) (ops.foldl satStep c) :=
  fun s c h => List.foldl_rel h fun o _ s c h => by
    cases o with
    | event ev => exact ⟨adjust_refines_sat _ _ _ _ h.1, adjust_refines_sat _ _ _ _ h.2⟩
    | reset => exact ⟨rfl, rfl⟩

/-- **Totals never become negative** (in particular they cannot wrap). -/
theorem C20_enterleave_nonneg (ops : List Op)
    (hev : ∀ o ∈ ops, ∀ ev, o = .event ev → (∀ v, ev.enterTotal = some v → 0 ≤ v) ∧ (∀ v, ev.leaveTotal = some v → 0 ≤ v)) :
    ∀ s : Event, 0 ≤ s.enterTotal.getD 0 → 0 ≤ s.leaveTotal.getD 0 →
      0 ≤ (run s ops).enterTotal.getD 0 ∧ 0 ≤ (run s ops).leaveTotal.getD 0 :=
  fun s h1 h2 => List.foldlRecOn (motive := fun s => 0 ≤ s.enterTotal.getD 0 ∧ 0 ≤ s.leaveTotal.getD 0) ops step
    ⟨h1, h2⟩ fun s h o ho => by
      cases o with
      | event ev => exact ⟨adjust_nonneg _ _ _ h.1 (hev _ ho ev rfl).1, adjust_nonneg _ _ _ h.2 (hev _ ho ev rfl).2⟩
      | reset => exact ⟨Int.le_refl 0, Int.le_refl 0⟩

/-- **ResetTotals zeroes both totals and nothing else.** -/
theorem C20_enterleave_reset (s : Event) :
    (resetTotals s).enterTotal = some 0 ∧ (resetTotals s).leaveTotal = some 0 ∧
    (resetTotals s).direction = s.direction ∧ (resetTotals s).occupant = s.occupant := by
  simp [resetTotals, merge]

/-- **An event replaces direction and occupant and always leaves both totals present.** -/
theorem C20_enterleave_event_fields (s ev : Event) :
    (create s ev).direction = ev.direction ∧ (create s ev).occupant = ev.occupant ∧
    (create s ev).enterTotal.isSome ∧ (create s ev).leaveTotal.isSome := by
  exact ⟨rfl, rfl, adjustTotal_isSome _ _ _, adjustTotal_isSome _ _ _⟩

end ScVerif.C20.EnterLeave
