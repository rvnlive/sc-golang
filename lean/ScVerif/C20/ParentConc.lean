import ScVerif.C20.Parent
import ScVerif.C20.Gau
/-!
# C20 / Parent — concurrent `AddChild` / `AddChildTrait` / `RemoveChildTrait` on one child as calls of the generic model

All three write through `Collection.Update` = `GetAndUpdate` on the children collection.  The stored value
of the generic model is one child's record: `none` = no child of that name (`Update`'s read then hands out
a provisional empty message, and the compare at the lock is "still absent"), `some ts` = its trait list.

* `AddChild` = `Collection.Add` (`WithExpectAbsent` + `WithCreateIfAbsent`): the read refuses a child that
  exists (`AlreadyExists`); the model method ignores every error (also a lost race), so it never retries;
* `AddChildTrait`: creates if absent, `InterceptBefore` computes `traitUnion` of the traits READ INSIDE the
  transaction; no check; **made again when the commit is refused** (`retry` — with one attempt the
  `Aborted` error is thrown as a panic, see `C20_parent_conc_legacy_panics`);
* `RemoveChildTrait`: the read refuses an absent child (`NotFound` → the method returns nil);
  `InterceptBefore` computes `traitRemove`; made again when the commit is refused.

None reads the clock (`timed = false`).
-/
namespace ScVerif.C20.Parent

/-- one child's record -/
abbrev Rec := Option (List String)

inductive CErr where
  | notFound
  | alreadyExists
  deriving DecidableEq, Repr

/-- the calls on one child -/
inductive COp where
  | addChild (ts : List String)
  | addTrait (ts : List String)
  | removeTrait (ts : List String)
  deriving DecidableEq, Repr

/-- sequential meaning of a call on the record (`Parent.step` seen from one child name) -/
def recStep (r : Rec) : COp → Rec
  | .addChild ts => match r with
    | some old => some old
    | none => some ts
  | .addTrait ts => some (traitUnion (r.getD []) ts)
  | .removeTrait ts => r.map (traitRemove · ts)

abbrev PCall := Gau.Call Rec CErr

/-- what the read of the call refuses -/
def opCheck : COp → Rec → Option CErr
  | .addChild _, r => if r.isSome then some .alreadyExists else none
  | .addTrait _, _ => none
  | .removeTrait _, r => if r.isNone then some .notFound else none

/-- does the model method make the write again after a refused commit? -/
def opRetry : COp → Bool
  | .addChild _ => false
  | _ => true

def opCall (o : COp) : PCall := ⟨false, opCheck o, fun r _ => recStep r o, false, opRetry o⟩

/-- NOT the code: `AddChildTrait` / `RemoveChildTrait` with one attempt only — the
`Aborted` of a refused commit reaches `panic(err)`. -/
def legacyCall (o : COp) : PCall := { opCall o with retry := false }

end ScVerif.C20.Parent
