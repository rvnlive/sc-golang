import ScVerif.C20.Mode
import ScVerif.C20.FanSpeed
import ScVerif.C20.Gau
/-!
# C20 / Mode, FanSpeed — concurrent `UpdateModeValues` / `UpdateFanSpeed` as calls of the generic model

Both write through `resource.Value.Set` = `GetAndUpdate`; the relative adjustments (`relativeAdjustment`,
the fan server's relative interceptor and `DeriveValues`) are `InterceptBefore` / `InterceptAfter` functions
that compute from the value READ INSIDE the transaction; neither reads the clock in its change function;
a refused commit is handed to the RPC's caller as `Aborted` (no retry).
-/
namespace ScVerif.C20.Mode

abbrev MoCall := Gau.Call Values Unit

def requestCall (modes : List ModeDef) (r : Request) : MoCall :=
  ⟨false, fun _ => none, fun old _ => update modes old r.vals r.rel r.mask, false, false⟩

end ScVerif.C20.Mode

namespace ScVerif.C20.FanSpeed

variable {α : Type} [DecidableEq α]

inductive FErr where
  | invalidArgument
  | panic
  deriving DecidableEq

/-- `ModelServer.UpdateFanSpeed`: an unknown preset name / a failing `DeriveValues` is an error of the
change function (nothing is written), otherwise the derived value is committed -/
def requestCall (add : α → α → α) (ps : List (Preset α)) (r : Request α) : Gau.Call (Fan α) FErr :=
  ⟨false,
   fun old => match update add ps old r with
     | .ok _ => none
     | .invalidArgument => some .invalidArgument
     | .panic => some .panic,
   fun old _ => step add ps old r, false, false⟩

end ScVerif.C20.FanSpeed
