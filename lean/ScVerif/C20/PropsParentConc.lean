import ScVerif.C20.ParentConcLemmas
import ScVerif.C20.GauLin
import ScVerif.C20.PropsConc
/-!
# C20 — property theorems, Parent under concurrent callers

Property (fixed text, parent clause): "For every update sequence a parent's child trait list is the
sorted duplicate-free set union and difference of what was added and removed … none of these operations
panics on a well-formed request."  Under overlapping callers of `AddChild` / `AddChildTrait` /
`RemoveChildTrait` on one child (any number of threads, any programs, any schedule of the atomic steps of
`GetAndUpdate`): no added trait lost, no removed trait kept, nothing computed from a stale trait list; and a trait
call is never refused (with one attempt per call `Aborted` reaches `panic(err)`).
-/
namespace ScVerif.C20.Parent
open Gau

/-- **the stored record is a sequential run of exactly the committed calls.** -/
theorem C20_parent_conc_is_sequential_run (init : Rec) (now : Int) (progs : List (List COp))
    (sched : List Ev) :
    let c := Cfg.run ⟨init, now, (progs.map (·.map opCall)).map Thread.ofCalls⟩ sched
    ∃ ops : List COp, (∀ o ∈ ops, ∃ p ∈ progs, o ∈ p) ∧ ops.length = c.oks ∧
      c.store = ops.foldl recStep init := by
  exact run_linearizes_ops opCall recStep opCall_apply init now progs sched

/-- **set algebra under every interleaving**: the record is — sorted, duplicate free — the set obtained from `σ₀` by
the union / difference / creation of exactly the committed calls, in commit order. -/
theorem C20_parent_conc_set_algebra (init : Rec) (σ₀ : SpecRec) (h0 : RefinesRec init σ₀) (now : Int)
    (progs : List (List COp)) (hwf : ∀ p ∈ progs, ∀ o ∈ p, o.WF) (sched : List Ev) :
    let c := Cfg.run ⟨init, now, (progs.map (·.map opCall)).map Thread.ofCalls⟩ sched
    ∃ ops : List COp, (∀ o ∈ ops, ∃ p ∈ progs, o ∈ p) ∧ ops.length = c.oks ∧
      RefinesRec c.store (ops.foldl specStep σ₀) := by
  obtain ⟨ops, hops, hlen, hst⟩ := C20_parent_conc_is_sequential_run init now progs sched
  exact ⟨ops, hops, hlen, hst ▸ List.foldl_rel h0 fun o ho r σ h =>
    recStep_refines r σ o h ((hops o ho).elim fun p hp => hwf p hp.1 o hp.2)⟩

/-- **every child a caller gets back, and the stored one, is sorted and duplicate free.** -/
theorem C20_parent_conc_sorted (init : Rec) (h0 : ∀ ts, init = some ts → Sorted ts) (now : Int)
    (progs : List (List COp)) (hwf : ∀ p ∈ progs, ∀ o ∈ p, o.WF) (sched : List Ev) :
    let c := Cfg.run ⟨init, now, (progs.map (·.map opCall)).map Thread.ofCalls⟩ sched
    (∀ ts, c.store = some ts → Sorted ts) ∧
    ∀ th ∈ c.threads, ∀ ts, Res.ok (some ts) ∈ th.results → Sorted ts := by
  have hg := run_inv_ops (I := RecSorted) (fun _ _ _ _ h => h) opCall init now progs h0
    (fun p hp o ho => opCall_ok o (hwf p hp o ho)) sched
  exact ⟨hg.1, fun th hth ts hr => (hg.2 th hth _ hr).elim fun _ ht => ht ts rfl⟩

/-- **a trait call is never refused** (no panic), whatever the other threads do (`AddChild` calls included): a lost
race is made again, see `opRetry`. -/
theorem C20_parent_conc_trait_calls_never_refused (init : Rec) (now : Int) (progs : List (List COp))
    (sched : List Ev) (i : Nat) (p : List COp) (hp : progs[i]? = some p)
    (htrait : ∀ o ∈ p, ∀ ts, o ≠ .addChild ts) :
    ∀ th, (Cfg.run ⟨init, now, (progs.map (·.map opCall)).map Thread.ofCalls⟩ sched).threads[i]? = some th →
      Res.aborted ∉ th.results := by
  have hmap : (progs.map (·.map opCall))[i]? = some (p.map opCall) := by simp [hp]
  refine C20_conc_retrying_thread_never_refused init now (progs.map (·.map opCall)) sched i _ hmap (fun cl hcl => ?_)
  obtain ⟨o, ho, rfl⟩ := List.mem_map.mp hcl
  cases o with
  | addChild ts => exact absurd rfl (htrait _ ho ts)
  | addTrait ts => rfl
  | removeTrait ts => rfl

/-- **why the trait calls are made again**: with one attempt per call, two `AddChildTrait` calls on a new
child that overlap — both read "absent", the first commits, the second reaches the lock — leave the
second refused with `Aborted`, which the method threw as a panic. -/
theorem C20_parent_conc_legacy_panics :
    ∃ (progs : List (List COp)) (sched : List Ev),
      let c := Cfg.run ⟨(none : Rec), 0, (progs.map (·.map legacyCall)).map Thread.ofCalls⟩ sched
      ∃ th ∈ c.threads, Res.aborted ∈ th.results :=
  ⟨[[.addTrait ["a"]], [.addTrait ["b"]]], [.step 0, .step 1, .step 1, .step 1, .step 0, .step 0], by
    decide +kernel⟩

/-- the same schedule on the code as it is: the second call is made again and both traits are stored -/
example :
    let c := Cfg.run ⟨(none : Rec), 0,
      ([[COp.addTrait ["a"]], [COp.addTrait ["b"]]].map (·.map opCall)).map Thread.ofCalls⟩
      [.step 0, .step 1, .step 1, .step 1, .step 0, .step 0, .step 0, .step 0, .step 0]
    c.store = some ["a", "b"] ∧ c.oks = 2 := by
  decide +kernel

/-- the hypotheses are satisfiable: an absent child refines the absent spec, a present one its member set -/
example : RefinesRec none none := trivial
example : RefinesRec (some ["a", "b"]) (some (· ∈ ["a", "b"])) := ⟨by decide, fun _ => Iff.rfl⟩
example : (COp.addChild ["a", "b"]).WF := by show Sorted ["a", "b"]; decide

end ScVerif.C20.Parent
