import ScVerif.C20.ModeLemmas
/-!
# C20 — property theorems, Mode

Property (fixed text, mode clause): "mode relative steps (wrapping) … stay mutually consistent.
Models constructed with explicit configuration (modes, …) use it, and none of these operations panics
on a well-formed request."
-/
namespace ScVerif.C20.Mode

def relReq (n : String) (k : Int) (mask : Mask) : Request := ⟨[], [(n, k)], mask⟩

/-- **Relative step** (every int32 step, every mode with a value, with or without the update mask): from index `i`
of `n` values to the Euclidean index `(i + k) mod n`. -/
theorem C20_mode_step (modes : List ModeDef) (old : Values) (n : String) (k : Int) (mask : Mask)
    (v0 : String) (rest : List String) (cur : String) (i : Nat)
    (hv : availableValues modes n = v0 :: rest) (hl : lookup n old = some cur)
    (hi : indexOf (v0 :: rest) cur = some i) :
    lookup n (update modes old [] [(n, k)] mask) =
      (v0 :: rest)[(((i : Int) + k) % ((rest.length + 1 : Nat) : Int)).toNat]? ∧
    (((i : Int) + k) % ((rest.length + 1 : Nat) : Int)).toNat < (v0 :: rest).length := by
  obtain ⟨hw, _, hlt⟩ := wrapIndex_bounds i k (Nat.succ_pos rest.length)
  refine ⟨?_, hlt⟩
  rw [List.getElem?_eq_getElem hlt]
  apply update_rel_single
  unfold relativeOne
  simp only [hv, hl, hi, hw, set]
  rw [List.getElem?_eq_getElem hlt]
  rfl

/-- **Unknown current value ⇒ first.** -/
theorem C20_mode_step_unknown (modes : List ModeDef) (old : Values) (n : String) (k : Int) (mask : Mask)
    (v0 : String) (rest : List String)
    (hv : availableValues modes n = v0 :: rest)
    (hu : lookup n old = none ∨ ∃ cur, lookup n old = some cur ∧ indexOf (v0 :: rest) cur = none) :
    lookup n (update modes old [] [(n, k)] mask) = some v0 := by
  apply update_rel_single
  unfold relativeOne
  rcases hu with hu | ⟨cur, h1, h2⟩
  · simp only [hv, hu, set]
  · simp only [hv, h1, h2, set]

/-- a relative step on a mode the model does not know writes nothing -/
example : update [⟨"spin", ["auto", "slow"]⟩] [("spin", "auto")] [] [("nomode", 3)] .values = [] := by decide

/-- **Every sequence of relative steps** on a mode with distinct values: from index `i` to `(i + Σ k) mod n`. -/
theorem C20_mode_seq (modes : List ModeDef) (n : String) (vs : List String)
    (hv : availableValues modes n = vs) (hnd : vs.Nodup) :
    ∀ (steps : List (Int × Mask)) (vals : Values) (i : Nat) (hi : i < vs.length),
      lookup n vals = some vs[i] →
      lookup n (Model.run ⟨modes, vals⟩ (steps.map (fun s => relReq n s.1 s.2))).values =
        vs[(((i : Int) + (steps.map (·.1)).sum) % (vs.length : Int)).toNat]? := by
  intro steps
  induction steps with
  | nil =>
    intro vals i hi hl
    have : ((i : Int) % (vs.length : Int)).toNat = i := by
      rw [Int.emod_eq_of_lt (by omega) (by omega)]; simp
    simp [Model.run, this, hl, List.getElem?_eq_getElem hi]
  | cons s rest ih =>
    intro vals i hi hl
    cases vs with
    | nil => simp at hi
    | cons v0 tl =>
      have hidx := indexOf_getElem (v0 :: tl) hnd i hi
      obtain ⟨hstep, hlt⟩ := C20_mode_step modes vals n s.1 s.2 v0 tl _ i hv hl hidx
      rw [List.getElem?_eq_getElem hlt] at hstep
      have := ih (update modes vals [] [(n, s.1)] s.2) _ hlt hstep
      simp only [List.map_cons, Model.run, List.foldl_cons] at this ⊢
      show lookup n (List.foldl Model.step ⟨modes, update modes vals [] [(n, s.1)] s.2⟩ _).values = _
      rw [this]
      -- the two indices agree: `((i + k) % n + Σ) % n = (i + (k + Σ)) % n`
      congr 2
      have h1 := Int.emod_nonneg ((i : Int) + s.1) (b := ((tl.length + 1 : Nat) : Int)) (by omega)
      rw [Int.toNat_of_nonneg h1]
      simp only [List.length_cons, List.sum_cons]
      rw [Int.emod_add_emod, Int.add_assoc]

/-- wrap-around in both directions on the default "spin" mode -/
example : lookup "spin" (update [⟨"spin", ["auto", "slow", "fast"]⟩] [("spin", "auto")] [] [("spin", -1)] .none)
    = some "fast" := by decide
/-- no overflow: +2147483646 from "fast" (index 2 of 3) selects index (2 + 2147483646) mod 3 = 2
(32-bit arithmetic would wrap to a negative sum and select "slow") -/
example : lookup "spin" (update [⟨"spin", ["auto", "slow", "fast"]⟩] [("spin", "fast")] [] [("spin", 2147483646)] .values)
    = some "fast" := by decide

/-- **Configuration is used**: `NewModelModes` keeps the modes it is given; every mode starts at its first value. -/
theorem C20_mode_config (modes : List ModeDef) (hne : ∀ md ∈ modes, md.values ≠ [])
    (hnd : (modes.map (·.name)).Nodup) :
    ∃ m, newModelModes modes = some m ∧ m.modes = modes ∧
      (∀ md ∈ modes, lookup md.name m.values = md.values.head?) ∧
      (∀ n, n ∉ modes.map (·.name) → lookup n m.values = none) := by
  have hany : ¬ modes.any (fun m => m.values.isEmpty) = true := fun h =>
    let ⟨md, hmd, he⟩ := (any_isEmpty_iff modes).mp h
    hne md hmd he
  refine ⟨⟨modes, initialValues modes⟩, by simp [newModelModes, hany], rfl, ?_, ?_⟩
  · intro md hmd
    have := (initialValues_spec modes [] hnd).1 md hmd
    unfold initialValues
    rw [this]
    cases h : md.values with
    | nil => exact absurd h (hne md hmd)
    | cons _ _ => rfl
  · intro n hn
    have := (initialValues_spec modes [] hnd).2 n hn
    unfold initialValues
    rw [this]; rfl

/-- the constructor uses its argument -/
example : (newModelModes [⟨"eco", ["on", "off"]⟩]).map (·.modes.map (·.name)) = some ["eco"] := by decide

/-- **The excluded points are real, and what the code does there.**
(1) `C20_mode_seq` needs distinct values: with values a,b,a the current value "a" is always taken to be
its FIRST occurrence (`C20_mode_step` holds as stated, with `indexOf`), so from index 1 two steps of +1
end on "b", not on the value at (1+2) mod 3.
(2) `C20_mode_config` needs distinct mode names: with two modes named "m" the initial value is the first
value of the LAST one while `AvailableValues` serves the FIRST one, so the initial value is not one of
the mode's available values. -/
theorem C20_mode_hypotheses_needed :
    (lookup "m" (Model.run ⟨[⟨"m", ["a", "b", "a"]⟩], [("m", "b")]⟩
        [relReq "m" 1 .none, relReq "m" 1 .none]).values = some "b" ∧
      ["a", "b", "a"][((1 : Int) + 2) % 3 |>.toNat]? = some "a") ∧
    (lookup "m" (initialValues [⟨"m", ["a"]⟩, ⟨"m", ["b"]⟩]) = some "b" ∧
      availableValues [⟨"m", ["a"]⟩, ⟨"m", ["b"]⟩] "m" = ["a"]) := by
  decide

/-- **No panic on well-formed configuration**: `NewModelModes` panics exactly when some mode has no
values; `UpdateModeValues` has no panic outcome at all (total function). -/
theorem C20_mode_no_panic (modes : List ModeDef) :
    newModelModes modes = none ↔ ∃ md ∈ modes, md.values = [] := by
  unfold newModelModes
  rw [← any_isEmpty_iff]
  by_cases hany : modes.any (fun m => m.values.isEmpty) = true
  · simp [hany]
  · simp [hany]

/-- **The guards of `relativeAdjustment` on a constructed model.**  (1) `len(values) == 0 { continue }` fires exactly
for a name that is not one of the model's modes, so `values[0]` exists in the "no current value" and "unknown current
value" branches.  (2) The index computed for a found value is within the list (`values[newI]` cannot go out of
range).  Together: no indexing in the interceptor can panic. -/
theorem C20_mode_indexing_safe (modes : List ModeDef) (m : Model) (hm : newModelModes modes = some m)
    (n : String) (k : Int) :
    (availableValues m.modes n = [] ↔ n ∉ m.modes.map (·.name)) ∧
    (∀ cur i, indexOf (availableValues m.modes n) cur = some i →
      0 ≤ wrapIndex i k (availableValues m.modes n).length ∧
      (wrapIndex i k (availableValues m.modes n).length).toNat < (availableValues m.modes n).length ∧
      wrapIndex i k (availableValues m.modes n).length =
        ((i : Int) + k) % ((availableValues m.modes n).length : Int)) := by
  have hne : ∀ md ∈ modes, md.values ≠ [] := by
    intro md hmd he
    have : newModelModes modes = none := (C20_mode_no_panic modes).2 ⟨md, hmd, he⟩
    rw [this] at hm; cases hm
  have hmodes : m.modes = modes := by
    unfold newModelModes at hm
    split at hm
    · cases hm
    · cases hm; rfl
  rw [hmodes]
  refine ⟨availableValues_nil_iff modes hne n, ?_⟩
  intro cur i hi
  have hpos : 0 < (availableValues modes n).length := by
    cases hv : availableValues modes n with
    | nil => rw [hv] at hi; simp [indexOf] at hi
    | cons _ _ => simp
  obtain ⟨hw, h1, h2⟩ := wrapIndex_bounds i k hpos
  rw [hw]
  exact ⟨h1, h2, rfl⟩

/-- the guard is needed: on a list with a value-less mode (which `NewModelModes` refuses) the mode IS known and has
no first value - the state a constructor that accepted it would put the interceptor in -/
example : newModelModes [⟨"speed", ["slow", "fast"]⟩, ⟨"scene", []⟩] = none ∧
    availableValues [⟨"speed", ["slow", "fast"]⟩, ⟨"scene", []⟩] "scene" = [] ∧
    "scene" ∈ [(⟨"speed", ["slow", "fast"]⟩ : ModeDef), ⟨"scene", []⟩].map (·.name) := by decide

end ScVerif.C20.Mode
