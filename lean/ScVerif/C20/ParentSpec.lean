import ScVerif.C20.ParentLemmas
/-! The map-of-sets specification of the children collection (child name ↦ set of trait names) and how a step of the
model is matched against it.  `ParentConcLemmas` has the same specification for ONE child's record, under the same
names where it can (`Parent.specStep` there is on `SpecRec → COp`): the two modules cannot be imported together. -/
namespace ScVerif.C20.Parent

/-- Spec state: child name ↦ set of trait names. -/
abbrev SpecState := String → Option (String → Prop)

def upd (σ : SpecState) (n : String) (v : Option (String → Prop)) : SpecState :=
  fun m => if m = n then v else σ m

/-- The specification: plain set algebra per child. -/
def specStep (σ : SpecState) : Op → SpecState
  | .addChild n ts => if n = "" then σ else
      match σ n with
      | some _ => σ
      | none => upd σ n (some (fun x => x ∈ ts))
  | .addTrait n ts =>
      upd σ n (some (fun x => (match σ n with | some S => S x | none => False) ∨ x ∈ ts))
  | .removeTrait n ts =>
      match σ n with
      | some S => upd σ n (some (fun x => S x ∧ x ∉ ts))
      | none => σ
  | .removeChild n => upd σ n none

def specRun (σ : SpecState) (ops : List Op) : SpecState := ops.foldl specStep σ

def Refines (s : Children) (σ : SpecState) : Prop :=
  ∀ n, match lookup n s, σ n with
    | none, none => True
    | some l, some S => Sorted l ∧ ∀ x, x ∈ l ↔ S x
    | _, _ => False

/-- Well-formed request: `AddChild` documents that the child's traits must be sorted; the property
is about sets, so the list must be strictly ascending.  Everything else is unrestricted. -/
def Op.WF : Op → Prop
  | .addChild _ ts => Sorted ts
  | _ => True

theorem refines_at {s : Children} {σ : SpecState} (hr : Refines s σ) (n : String) :
    (lookup n s = none ∧ σ n = none) ∨
      ∃ l S, lookup n s = some l ∧ σ n = some S ∧ Sorted l ∧ ∀ x, x ∈ l ↔ S x := by
  have h := hr n
  cases hl : lookup n s <;> cases hσ : σ n <;> rw [hl, hσ] at h
  · exact Or.inl ⟨rfl, rfl⟩
  · exact h.elim
  · exact h.elim
  · exact Or.inr ⟨_, _, rfl, rfl, h⟩

theorem upd_self (σ : SpecState) (n : String) (v : Option (String → Prop)) : upd σ n v n = v := if_pos rfl

theorem upd_other (σ : SpecState) {n m : String} (h : m ≠ n) (v : Option (String → Prop)) : upd σ n v m = σ m :=
  if_neg h

theorem refines_set {s : Children} {σ : SpecState} (hr : Refines s σ) (n : String) {l : List String}
    {S : String → Prop} (hs : Sorted l) (hm : ∀ x, x ∈ l ↔ S x) : Refines (set n l s) (upd σ n (some S)) := by
  intro m
  by_cases hmn : m = n
  · subst hmn
    rw [lookup_set_self, upd_self]
    exact ⟨hs, hm⟩
  · rw [lookup_set_other hmn, upd_other σ hmn]
    exact hr m

theorem refines_erase {s : Children} {σ : SpecState} (hr : Refines s σ) (n : String) :
    Refines (erase n s) (upd σ n none) := by
  intro m
  by_cases hmn : m = n
  · subst hmn
    rw [lookup_erase_self, upd_self]
    trivial
  · rw [lookup_erase_other hmn, upd_other σ hmn]
    exact hr m

theorem refines_upd_none {s : Children} {σ : SpecState} (hr : Refines s σ) {n : String}
    (hl : lookup n s = none) : Refines s (upd σ n none) := by
  intro m
  by_cases hmn : m = n
  · subst hmn
    rw [hl, upd_self]
    trivial
  · rw [upd_other σ hmn]
    exact hr m

end ScVerif.C20.Parent
