import ScVerif.C20.ElConc
import ScVerif.C20.VendConc
import ScVerif.C20.ModeFanConc
import ScVerif.C20.VendingLemmas
/-! The calls of the enter/leave, vending and mode instances of the interleaving model apply the sequential step of
their model (the hypothesis `hf` of `run_linearizes_ops`). -/
namespace ScVerif.C20.EnterLeave

theorem opCall_apply (o : Op) (cur : Event) (t : Int) : (opCall o).apply cur t = step cur o := by
  cases o <;> rfl

end ScVerif.C20.EnterLeave

namespace ScVerif.C20.Vending

theorem dispenseCall_apply (q : Qty) (cur : Stock) (t : Int) :
    (dispenseCall q).apply cur t = dispenseOrKeep cur q := by
  show (intercept true q cur emptyStock).1 = _
  rw [intercept_eq]
  unfold dispenseOrKeep
  cases dispenseStock q cur <;> rfl

end ScVerif.C20.Vending

namespace ScVerif.C20.Mode

theorem requestCall_apply (modes : List ModeDef) (r : Request) (old : Values) (t : Int) :
    (requestCall modes r).apply old t = (Model.step ⟨modes, old⟩ r).values := rfl

theorem run_values (modes : List ModeDef) : ∀ (rs : List Request) (v : Values),
    (Model.run ⟨modes, v⟩ rs).values = rs.foldl (fun v r => (Model.step ⟨modes, v⟩ r).values) v := by
  intro rs
  induction rs with
  | nil => intro v; rfl
  | cons r rest ih => intro v; exact ih _

end ScVerif.C20.Mode
