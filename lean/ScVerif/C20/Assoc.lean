/-!
# C20 — association lists keyed by name

The collections of the parent, mode, publication and vending models: `lookup` (first match), `set` (replace the
first match or append), `erase` (drop every match).  Each model file defines them at its own value type; they unfold
to the terms below (`by delta …; rfl`), so the lemmas are proved here once; each model's lemma module restates them
under the model's own names (`lookup_eq` / `set_eq` / `erase_eq` and one line each), which is what the proofs cite.
-/
namespace ScVerif.C20.Assoc

variable {V : Type}

def lookup (n : String) : List (String × V) → Option V
  | [] => none
  | (k, v) :: rest => if k = n then some v else lookup n rest

def set (n : String) (v : V) : List (String × V) → List (String × V)
  | [] => [(n, v)]
  | (k, w) :: rest => if k = n then (k, v) :: rest else (k, w) :: set n v rest

def erase (n : String) : List (String × V) → List (String × V)
  | [] => []
  | (k, w) :: rest => if k = n then erase n rest else (k, w) :: erase n rest

theorem lookup_set_self (n : String) (v : V) (s : List (String × V)) : lookup n (set n v s) = some v := by
  induction s with
  | nil => simp [set, lookup]
  | cons kv rest ih =>
    obtain ⟨k, w⟩ := kv
    by_cases h : k = n <;> simp [set, lookup, h, ih]

theorem lookup_set_other {n m : String} (h : m ≠ n) (v : V) (s : List (String × V)) :
    lookup m (set n v s) = lookup m s := by
  induction s with
  | nil => simp [set, lookup, Ne.symm h]
  | cons kv rest ih =>
    obtain ⟨k, w⟩ := kv
    by_cases h1 : k = n
    · subst h1; simp [set, lookup, Ne.symm h]
    · by_cases h2 : k = m
      · subst h2; simp [set, lookup, h1]
      · simp [set, lookup, h1, h2, ih]

theorem lookup_erase_self (n : String) (s : List (String × V)) : lookup n (erase n s) = none := by
  induction s with
  | nil => simp [erase, lookup]
  | cons kv rest ih =>
    obtain ⟨k, w⟩ := kv
    by_cases h : k = n <;> simp [erase, lookup, h, ih]

theorem lookup_erase_other {n m : String} (h : m ≠ n) (s : List (String × V)) :
    lookup m (erase n s) = lookup m s := by
  induction s with
  | nil => simp [erase, lookup]
  | cons kv rest ih =>
    obtain ⟨k, w⟩ := kv
    by_cases h1 : k = n
    · subst h1; simp [erase, lookup, Ne.symm h, ih]
    · by_cases h2 : k = m
      · subst h2; simp [erase, lookup, h1]
      · simp [erase, lookup, h1, h2, ih]

end ScVerif.C20.Assoc
