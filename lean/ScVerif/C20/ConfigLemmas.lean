import ScVerif.C20.Config
/-! `Args.apply` appends per resource (`apply_res`) and the loop of `computeConfig` in closed form (`computeFrom_eq`). -/
namespace ScVerif.C20.Config

theorem apply_cons (a : Args) (o : MOpt) (rest : List MOpt) :
    a.apply (o :: rest) = (a.applyOne o).apply rest := rfl

theorem apply_res (a : Args) (opts : List MOpt) (r : Nat) :
    (a.apply opts).res r = a.res r ++ proj r opts := by
  induction opts generalizing a with
  | nil => simp [Args.apply, proj]
  | cons o rest ih =>
    rw [apply_cons, ih]
    cases o with
    | shared o => simp [Args.applyOne, proj]
    | target r' os =>
      by_cases h : r = r'
      · simp [Args.applyOne, proj, h]
      · simp [Args.applyOne, proj, h]
    | extra k => simp [Args.applyOne, proj]

theorem apply_extra (a : Args) (opts : List MOpt) :
    (a.apply opts).extra = (lastExtra opts).or a.extra := by
  induction opts generalizing a with
  | nil => simp [Args.apply, lastExtra]
  | cons o rest ih =>
    rw [apply_cons, ih]
    cases o with
    | shared o => simp [Args.applyOne, lastExtra]
    | target r' os => simp [Args.applyOne, lastExtra]
    | extra k =>
      simp only [Args.applyOne, lastExtra]
      cases lastExtra rest <;> simp

theorem proj_append (r : Nat) (xs ys : List MOpt) : proj r (xs ++ ys) = proj r xs ++ proj r ys := by
  induction xs with
  | nil => simp [proj]
  | cons o rest ih =>
    cases o with
    | shared o => simp [proj, ih]
    | target r' os =>
      by_cases h : r = r'
      · subst h; simp [proj, ih]
      · simp [proj, ih, h]
    | extra k => simp [proj, ih]

theorem lastExtra_append (xs ys : List MOpt) : lastExtra (xs ++ ys) = (lastExtra ys).or (lastExtra xs) := by
  induction xs with
  | nil => simp [lastExtra]
  | cons o rest ih =>
    cases o with
    | shared o => simp [lastExtra, ih]
    | target r' os => simp [lastExtra, ih]
    | extra k =>
      simp only [List.cons_append, lastExtra, ih]
      cases lastExtra ys <;> cases lastExtra rest <;> simp

theorem recsOf_append (xs ys : List ROpt) : recsOf (xs ++ ys) = recsOf xs ++ recsOf ys := by
  induction xs with
  | nil => simp [recsOf]
  | cons o rest ih => cases o <;> simp [recsOf, ih]

theorem recsOf_map_initialRecord (recs : List (String × Nat)) :
    recsOf (recs.map fun p => ROpt.initialRecord p.1 p.2) = recs := by
  induction recs with
  | nil => rfl
  | cons q rest ih => simp [recsOf, ih]

theorem computeFrom_eq (c : RConfig) (os : List ROpt) :
    computeFrom c os =
      if ((recsOf os).map Prod.fst).Nodup ∧ ∀ id ∈ (recsOf os).map Prod.fst, id ∉ c.records.map Prod.fst then
        some { clock := lastClock c.clock os, rng := lastRng c.rng os, equiv := lastEquiv c.equiv os,
               initialValue := lastValue c.initialValue os, records := c.records ++ recsOf os }
      else none := by
  induction os generalizing c with
  | nil => simp [computeFrom, recsOf, lastClock, lastRng, lastEquiv, lastValue]
  | cons o rest ih =>
    cases o with
    | initialRecord id v =>
      simp only [computeFrom, RConfig.apply, recsOf, lastClock, lastRng, lastEquiv, lastValue, List.map_cons,
        List.nodup_cons, List.mem_cons, forall_eq_or_imp]
      by_cases hin : id ∈ c.records.map Prod.fst
      · rw [if_pos hin, if_neg fun h => h.2.1 hin]
      · rw [if_neg hin]
        simp only [ih, List.append_assoc, List.singleton_append, List.map_append, List.map_cons, List.map_nil,
          List.mem_append, List.mem_singleton, not_or]
        refine ite_congr (propext ⟨fun ⟨h1, h2⟩ => ⟨⟨fun hm => (h2 _ hm).2 rfl, h1⟩, hin, fun a ha => (h2 a ha).1⟩,
          fun ⟨⟨h1, h2⟩, _, h3⟩ => ⟨h2, fun a ha => ⟨h3 a ha, fun e => h1 (e ▸ ha)⟩⟩⟩) (fun _ => rfl) fun _ => rfl
    | _ =>
      simp only [computeFrom, RConfig.apply, recsOf, lastClock, lastRng, lastEquiv, lastValue]
      exact ih _

end ScVerif.C20.Config
