import ScVerif.C20.ElConc
import ScVerif.C20.ConcApply
import ScVerif.C20.GauLin
import ScVerif.C20.PropsEnterLeave
/-!
# C20 — property theorems, EnterLeave under concurrent callers

Property (fixed text, enter/leave clause): "enter/leave totals … stay mutually consistent": totals are
counters.  Under overlapping callers of `CreateEnterLeaveEvent` / `ResetTotals`: **no increment is lost and none is
counted twice** (an `Aborted` call counted nothing).
-/
namespace ScVerif.C20.EnterLeave
open Gau

/-- **the stored event is a sequential run of exactly the successful calls.** -/
theorem C20_enterleave_conc_is_sequential_run (init : Event) (now : Int) (progs : List (List Op))
    (sched : List Ev) :
    let c := Cfg.run ⟨init, now, (progs.map (·.map opCall)).map Thread.ofCalls⟩ sched
    ∃ ops : List Op, (∀ o ∈ ops, ∃ p ∈ progs, o ∈ p) ∧ ops.length = c.oks ∧ c.store = run init ops := by
  exact run_linearizes_ops opCall step opCall_apply init now progs sched

/-- **totals are counters of the successful calls, under every interleaving** (saturating at the int32 maximum). -/
theorem C20_enterleave_conc_counters (init : Event) (cnt : Counters) (now : Int) (progs : List (List Op))
    (sched : List Ev) (h0 : Refines init cnt) :
    let c := Cfg.run ⟨init, now, (progs.map (·.map opCall)).map Thread.ofCalls⟩ sched
    ∃ ops : List Op, (∀ o ∈ ops, ∃ p ∈ progs, o ∈ p) ∧ ops.length = c.oks ∧
      Refines c.store (ops.foldl satStep cnt) := by
  intro c
  obtain ⟨ops, h1, h2, h3⟩ := C20_enterleave_conc_is_sequential_run init now progs sched
  exact ⟨ops, h1, h2, by rw [h3]; exact C20_enterleave_saturating ops init cnt h0⟩

/-- two overlapping ENTER events: the second to reach the lock is refused (it read the total before
the first one's commit); exactly one increment is stored and exactly one call succeeded -/
example :
    let c := Cfg.run ⟨(⟨0, none, some 5, some 0⟩ : Event), 0,
      [[opCall (.event ⟨1, some "a", none, none⟩)], [opCall (.event ⟨1, some "b", none, none⟩)]].map Thread.ofCalls⟩
      [.step 0, .step 1, .step 0, .step 1, .step 0, .step 1]
    c.store = ⟨1, some "a", some 6, some 0⟩ ∧ c.oks = 1 ∧
      c.threads.map (·.results) = [[.ok ⟨1, some "a", some 6, some 0⟩], [.aborted]] := by
  decide

/-- **reading the totals outside the transaction loses increments**: a caller that took its snapshot with the getter
(total 5), was descheduled while another ENTER was counted (6), then writes the event computed from its snapshot:
both calls return successfully (nothing changed since the transaction's own read) and the stored total is 6, not 7.
So `C20_enterleave_conc_counters` rests on the totals being computed from the value read INSIDE `Set`. -/
theorem C20_enterleave_conc_snapshot_variant_fails :
    ∃ (init : Event) (sched : List Ev),
      let c := Cfg.run ⟨init, 0, [[snapshotEventCall init ⟨1, some "a", none, none⟩],
        [opCall (.event ⟨1, some "b", none, none⟩)]].map Thread.ofCalls⟩ sched
      init.enterTotal = some 5 ∧ c.oks = 2 ∧ c.store.enterTotal = some 6 ∧
        ¬ ∃ ops : List Op, ops.length = c.oks ∧ (∀ o ∈ ops, ∃ ev, o = .event ev ∧ ev.direction = 1 ∧ ev.enterTotal = none) ∧
          c.store = run init ops :=
  ⟨⟨0, none, some 5, some 0⟩, [.step 1, .step 1, .step 1, .step 0, .step 0, .step 0], by
    intro c
    have hoks : c.oks = 2 := by decide
    have hst : c.store.enterTotal = some 6 := by decide
    refine ⟨rfl, hoks, hst, ?_⟩
    rintro ⟨ops, hlen, hops, hrun⟩
    rw [hoks] at hlen
    rw [hrun] at hst
    clear hrun hoks c
    obtain ⟨o1, t, rfl⟩ := List.exists_cons_of_length_eq_add_one hlen
    obtain ⟨o2, t, rfl⟩ := List.exists_cons_of_length_eq_add_one (Nat.succ.inj hlen)
    cases List.eq_nil_of_length_eq_zero (Nat.succ.inj (Nat.succ.inj hlen))
    obtain ⟨⟨d1, oc1, en1, l1⟩, rfl, hd1, hn1⟩ := hops o1 (by simp)
    obtain ⟨⟨d2, oc2, en2, l2⟩, rfl, hd2, hn2⟩ := hops o2 (by simp)
    simp only at hd1 hn1 hd2 hn2
    subst hd1 hn1 hd2 hn2
    -- two ENTER events from total 5 make 7 (the totals are saturating counters); the store has 6
    have h7 := (C20_enterleave_saturating [.event ⟨1, oc1, none, l1⟩, .event ⟨1, oc2, none, l2⟩]
      ⟨0, none, some 5, some 0⟩ (5, 0) ⟨rfl, rfl⟩).1
    rw [hst] at h7
    have h67 : (6 : Int) = 7 := h7
    exact absurd h67 (by decide)⟩

end ScVerif.C20.EnterLeave
