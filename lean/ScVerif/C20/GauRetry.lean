import ScVerif.C20.GauLin
/-!
# C20 — a thread whose calls are made again after a refused commit never sees `Aborted` (lemmas)

Thread-local: whatever the other threads do, a thread whose program consists of retrying calls only has
no `aborted` among its results, at any point of any schedule.

Second part, progress: a call that reads no clock, left alone (`soloRun`), ends after at most 3 of its own
steps from `.start` (read, check, commit) and 4 from the lock (a refused commit of a call that is made again
sends it back to `.start`).
-/
namespace ScVerif.C20.Gau

variable {σ ε : Type}

/-- `Thread.All` at "is made again" / "is no refusal" (`Thread.Retrying.all`), as a record: the generic property
theorem reads the field `results` -/
structure Thread.Retrying (th : Thread σ ε) : Prop where
  cur : ∀ c p, th.cur = some (c, p) → c.retry = true
  todo : ∀ c ∈ th.todo, c.retry = true
  results : Res.aborted ∉ th.results

theorem Thread.Retrying.all {th : Thread σ ε} :
    th.Retrying ↔ th.All (·.retry = true) (fun _ _ => True) (· ≠ .aborted) :=
  ⟨fun h => ⟨fun c p e => ⟨h.cur c p e, trivial⟩, h.todo, fun _ hr e => h.results (e ▸ hr)⟩,
   fun h => ⟨fun c p e => (h.cur c p e).1, h.todo, fun hm => h.results _ hm rfl⟩⟩

variable [DecidableEq σ]

/-- no step of a call that is made again ends it with `Aborted`: a refused commit starts it over -/
theorem threadStep_retrying (store : σ) (now : Int) (th : Thread σ ε) (h : th.Retrying) :
    (threadStep store now th).2.Retrying := by
  rw [Thread.Retrying.all] at h ⊢
  refine (h.step (Q := fun _ => True) (fun c p hc _ _ => ⟨trivial, trivial, fun r hr => ?_⟩)
    (fun _ _ => trivial) trivial).2
  rcases callStep_cases store now c p with ⟨_, h2, _⟩ | ⟨t, _, hcs⟩
  · exact (h2 r hr).2 hc
  · rw [hcs] at hr
    cases hr
    nofun

theorem run_retrying (sched : List Ev) (c : Cfg σ ε) (i : Nat)
    (h : ∀ th, c.threads[i]? = some th → th.Retrying) :
    ∀ th, (c.run sched).threads[i]? = some th → th.Retrying := by
  have := run_keeps (Q := fun _ _ => True) (P := fun j _ th => j = i → th.Retrying)
    (fun _ _ _ h => h) (fun _ _ _ _ h => h)
    (fun _ s t th _ ht => ⟨trivial, fun hj => threadStep_retrying s t th (ht hj)⟩)
    sched c ⟨trivial, fun j th hth hj => h th (hj ▸ hth)⟩
  exact fun th hth => this.2 i th hth rfl

/-- thread `th` takes `n` atomic steps in a row, nobody else runs, no time passes -/
def soloRun (now : Int) : Nat → σ × Thread σ ε → σ × Thread σ ε
  | 0, x => x
  | n + 1, x => soloRun now n (threadStep x.1 now x.2)

/-- the phases a call that reads no clock goes through -/
def Phase.untimed : Phase σ → Prop
  | .start | .haveOld _ | .ready _ _ => True
  | _ => False

attribute [local simp] soloRun threadStep threadGo callStep

/-- from `.start`, alone: read, check, (commit): the call ends within 3 steps -/
theorem solo_from_start (store : σ) (now : Int) (c : Call σ ε) (he : c.early = false) (ht : c.timed = false)
    (todo : List (Call σ ε)) (results : List (Res σ ε)) :
    ∃ k, k ≤ 3 ∧ ∃ r s', soloRun now k (store, ⟨some (c, .start), todo, results⟩) = (s', ⟨none, todo, r :: results⟩) := by
  cases hck : c.check store with
  | some e => exact ⟨2, by omega, .err e, store, by simp [he, hck]⟩
  | none =>
    exact ⟨3, by omega, .ok (c.apply store now), c.apply store now, by
      simp [he, ht, hck]⟩

/-- at the lock, alone: commit, or be refused and — if the call is made again — start over -/
theorem solo_from_ready (store : σ) (now : Int) (c : Call σ ε) (he : c.early = false) (ht : c.timed = false)
    (o : σ) (t : Int) (todo : List (Call σ ε)) (results : List (Res σ ε)) :
    ∃ k, k ≤ 4 ∧ ∃ r s', soloRun now k (store, ⟨some (c, .ready o t), todo, results⟩) = (s', ⟨none, todo, r :: results⟩) := by
  by_cases heq : store = o
  · exact ⟨1, by omega, .ok (c.apply o t), c.apply o t, by
      simp [heq]⟩
  · by_cases hr : c.retry = true
    · obtain ⟨k, hk, r, s', h⟩ := solo_from_start store now c he ht todo results
      refine ⟨k + 1, by omega, r, s', ?_⟩
      simpa [heq, hr] using h
    · exact ⟨1, by omega, .aborted, store, by simp [heq, hr]⟩

end ScVerif.C20.Gau
