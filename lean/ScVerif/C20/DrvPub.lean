import ScVerif.Base.Line
import ScVerif.C20.Publication
import ScVerif.C20.PubConc
import ScVerif.C20.Esc
/-! Driver ops of the Publication model: `pub.seq <op>…` (the clock starts at 1000 and ticks once per op) and `pub.conc`. -/
namespace ScVerif.C20.Publication
open ScVerif.Line

def decStr (s : String) : String := if s = "~" then "" else unesc s
def encStr (s : String) : String := if s = "" then "~" else esc s

/-- the driver's concrete instance of the abstract hash: an injective-enough rendering of its inputs -/
def Hc : Hash := fun id body mt aud => "H(" ++ id ++ "\x00" ++ body ++ "\x00" ++ mt ++ "\x00" ++ aud ++ ")"

def showOptInt : Option Int → String
  | none => "-"
  | some i => toString i

def showPub (p : Pub) : String :=
  let v := if p.version = mint Hc p then "H" else "X:" ++ p.version
  let (aud, receipt, reason, rt) := match p.audience with
    | some a => (encStr a.name, a.receipt, a.reason, showOptInt a.receiptTime)
    | none => ("-", 0, "", "-")
  "|".intercalate [encStr p.id, encStr p.body, encStr p.mediaType, aud, toString receipt, encStr reason, rt, v,
    showOptInt p.publishTime]

def showStore (s : Store) : String :=
  let sorted := s.mergeSort (fun a b => decide (a.1 ≤ b.1))
  if sorted.isEmpty then "-" else "/".intercalate (sorted.map (fun kv => showPub kv.2))

def showCode : Code → String
  | .ok => "ok"
  | .alreadyExists => "err:AlreadyExists"
  | .invalidArgument => "err:InvalidArgument"
  | .notFound => "err:NotFound"
  | .failedPrecondition => "err:FailedPrecondition"
  | .aborted => "err:Aborted"

def mkPub? (id body mt aud receipt reason : String) : Option Pub := do
  let receipt ← parseInt? receipt
  let audience := if aud = "-" then none else some (⟨decStr aud, receipt, decStr reason, none⟩ : Audience)
  pure ⟨decStr id, decStr body, decStr mt, audience, "client-supplied", none⟩

def parseMask? (s : String) : Option UMask :=
  if s = "none" then some .none
  else if s.startsWith "m:" then
    let fs := (s.drop 2).toString.splitOn "+"
    if fs.all (fun f => f = "body" || f = "media_type" || f = "audience" || f = "audience.name") then
      if fs.contains "audience" && fs.contains "audience.name" then none
      else some (.fields (fs.contains "body") (fs.contains "media_type")
        (if fs.contains "audience" then .whole else if fs.contains "audience.name" then .name else .none))
    else none
  else none

/-- symbolic version references are resolved against the model's own state -/
def resolve (s : Store) (prev : List (String × String)) (id vref : String) : String :=
  if vref = "cur" then (match lookup id s with | some p => p.version | none => "bogus")
  else if vref = "old" then (match prev.find? (·.1 = id) with | some kv => kv.2 | none => "bogus")
  else vref

/-- `$g` addresses the most recently generated id -/
def decId (lastGen : String) (s : String) : String :=
  let s := decStr s
  if s = "$g" then lastGen else s

def parseOp? (s : Store) (prev : List (String × String)) (lastGen : String) (tok : String) : Option Op :=
  let fixId (p : Pub) : Pub := { p with id := if p.id = "$g" then lastGen else p.id }
  match tok.splitOn "|" with
  | ["create", id, body, mt, aud, receipt, reason] => (mkPub? id body mt aud receipt reason).map (fun p => .create (fixId p))
  | ["creategen", g, body, mt, aud, receipt, reason, _] =>
    (mkPub? "~" body mt aud receipt reason).map (fun p => .createGen p (decStr g))
  | ["update", id, body, mt, aud, receipt, reason, mask, vref] => do
    let p ← (mkPub? id body mt aud receipt reason).map fixId
    let mask ← parseMask? mask
    pure (.update p mask (resolve s prev p.id (decStr vref)))
  | ["delete", id, vref, am] => do
    let am ← parseBool? am
    pure (.delete (decId lastGen id) (resolve s prev (decId lastGen id) (decStr vref)) am)
  | ["ack", id, vref, receipt, reason, aa] => do
    let receipt ← parseInt? receipt
    let aa ← parseBool? aa
    pure (.ack (decId lastGen id) (resolve s prev (decId lastGen id) (decStr vref)) receipt (decStr reason) aa)
  | _ => none

structure DrvState where
  store : Store := []
  prev : List (String × String) := []
  now : Int := 1000
  lastGen : String := "nogen"
  outs : List String := []
  bad : Bool := false

def handle? (toks : List String) : Option String :=
  match toks with
  | "pub.seq" :: ops =>
    let st := ops.foldl (fun (st : DrvState) tok =>
      let now := st.now + 1
      match parseOp? st.store st.prev st.lastGen tok with
      | none => { st with bad := true }
      | some op =>
        let (s', code) := step Hc now st.store op
        let prev' := match op, code with
          | .create p, .ok | .update p _ _, .ok =>
            (match lookup p.id st.store with
              | some old => (p.id, old.version) :: st.prev.filter (·.1 ≠ p.id)
              | none => st.prev)
          | _, _ => st.prev
        let lastGen' := match op, code with
          | .createGen _ g, .ok => g
          | _, _ => st.lastGen
        { store := s', prev := prev', now := now, lastGen := lastGen', outs := (showCode code ++ "#" ++ showStore s') :: st.outs, bad := st.bad }) {}
    if st.bad then none else some (";".intercalate st.outs.reverse)
  | "pub.conc" :: t0 :: init :: sched :: progs => do
    -- init: a `create|…` token executed at t0; sched: `,`-separated events (`<n>` thread step, `+<d>` clock);
    -- progs: one token per thread, calls separated by `;` (`update|…|mask|vref`, `ack|vref|receipt|reason|allow`);
    -- vref: `~` none, `init` the created version, `bogus`, `hb:<body>` the version of the created content with that body
    let t0 ← parseInt? t0
    let p0 ← match init.splitOn "|" with
      | ["create", id, body, mt, aud, receipt, reason] => (mkPub? id body mt aud receipt reason).map (computed Hc t0)
      | _ => none
    let vOf (vref : String) : String :=
      if vref = "init" then p0.version
      else if vref.startsWith "hb:" then mint Hc { p0 with body := decStr (vref.drop 3).toString }
      else decStr vref
    let parseCall? (tok : String) : Option PCall :=
      match tok.splitOn "|" with
      | ["update", id, body, mt, aud, receipt, reason, mask, vref] => do
        let p ← mkPub? id body mt aud receipt reason
        let mask ← parseMask? mask
        pure (updateCall Hc p mask (vOf vref))
      | ["ack", vref, receipt, reason, aa] => do
        let receipt ← parseInt? receipt
        let aa ← parseBool? aa
        pure (ackCall (vOf vref) receipt (decStr reason) aa)
      | _ => none
    let progs ← progs.mapM (fun p => if p = "-" then some [] else (p.splitOn ";").mapM parseCall?)
    let sched ← (if sched = "-" then some [] else (sched.splitOn ",").mapM (fun s =>
      if s.startsWith "+" then (parseNat? (s.drop 1).toString).map Gau.Ev.tick else (parseNat? s).map Gau.Ev.step))
    let c0 : Gau.Cfg Pub PErr := ⟨p0, t0, progs.map Gau.Thread.ofCalls⟩
    let c1 := c0.run sched
    let c2 := c1.run (Gau.drainSched c1.threads)
    let showRes : Gau.Res Pub PErr → String
      | .ok r => "ok=" ++ showPub r
      | .err (.already r) => "ok=" ++ showPub r
      | .err .failedPrecondition => "err:FailedPrecondition"
      | .err .aborted => "err:Aborted"
      | .aborted => "err:Aborted"
    let trace : Gau.Res Pub PErr → String
      | .err _ => "r"
      | _ => "rcl"
    let amp (xs : List String) : String := if xs.isEmpty then "-" else "&".intercalate xs
    let showTh (th : Gau.Thread Pub PErr) : String :=
      (if th.cur.isSome || !th.todo.isEmpty then "unfinished:" else "") ++
      amp (th.results.reverse.map showRes) ++ "::" ++ amp (th.results.reverse.map trace)
    pure (showPub c2.store ++ "#" ++ ";;".intercalate (c2.threads.map showTh))
  | _ => none

end ScVerif.C20.Publication
