import ScVerif.C20.GauLin
import ScVerif.C20.GauRetry
/-!
# C20 — property theorems, generic: trait-model writes under concurrent callers

Every write of every trait model goes through `resource.GetAndUpdate` (read · change function ·
compare-and-commit).  The theorems of namespace `Gau` are about ALL such models, for any number of threads, any
programs, any interleaving, any passage of time; every rule proved for all sequential operation sequences of
a model carries over to the stored value through `C20_conc_linearizes` / `C20_conc_linearizes_legal`, provided
it does not rely on the operations' clock readings being ordered, and rules that do involve the clock through
`C20_conc_invariant`.
-/
namespace ScVerif.C20.Gau

variable {σ ε : Type} [DecidableEq σ]

/-- **Every interleaving is a LEGAL sequential run** of exactly the successful calls, each passing its own checks on
the very value it is applied to (`Legal`).  So every rule of the form "a request is only applied when its precondition
holds" (version preconditions, acknowledge once, …) carries over from the sequential model to every interleaving. -/
theorem C20_conc_linearizes_legal (store : σ) (now : Int) (progs : List (List (Call σ ε))) (sched : List Ev) :
    ∃ log : List (Call σ ε × Int), (∀ p ∈ log, ∃ cs ∈ progs, p.1 ∈ cs) ∧
      (Cfg.run ⟨store, now, progs.map Thread.ofCalls⟩ sched).store = replay store log ∧
      Legal store log ∧
      (Cfg.run ⟨store, now, progs.map Thread.ofCalls⟩ sched).oks = log.length := by
  obtain ⟨ops, hmem, h, hcnt, hleg⟩ := run_log id (S := fun x => ∃ cs ∈ progs, x ∈ cs) sched
    (⟨store, now, progs.map Thread.ofCalls⟩ : Cfg σ ε) (Thread.All.init fun cs hcs x hx => ⟨x, ⟨cs, hcs, hx⟩, rfl⟩)
  rw [init_oks, Nat.zero_add] at hcnt
  exact ⟨_, fun p hp => by obtain ⟨o, ho, rfl⟩ := List.mem_map.mp hp; exact hmem o ho, h,
    hleg (init_checked store now progs), by rw [List.length_map]; exact hcnt⟩

/-- **Every interleaving is a sequential run of exactly the successful calls** (`Thread.oks` counts the `ok` results;
refused and aborted calls are not in the log). -/
theorem C20_conc_linearizes (store : σ) (now : Int) (progs : List (List (Call σ ε))) (sched : List Ev) :
    ∃ log : List (Call σ ε × Int), (∀ p ∈ log, ∃ cs ∈ progs, p.1 ∈ cs) ∧
      (Cfg.run ⟨store, now, progs.map Thread.ofCalls⟩ sched).store = replay store log ∧
      (Cfg.run ⟨store, now, progs.map Thread.ofCalls⟩ sched).oks = log.length := by
  obtain ⟨log, hmem, h, _, hcnt⟩ := C20_conc_linearizes_legal store now progs sched
  exact ⟨log, hmem, h, hcnt⟩

/-- **Clock-dependent rules**: a time-indexed invariant that stays true as time passes is preserved by every
interleaving of calls that read the clock inside the transaction and preserve it sequentially at that instant, or
establish it whatever they overwrite (`Call.OK`); every returned value satisfied it at some instant. -/
theorem C20_conc_invariant (I : σ → Int → Prop) (hmono : Mono I) (store : σ) (now : Int)
    (progs : List (List (Call σ ε))) (h0 : I store now) (hok : ∀ cs ∈ progs, ∀ c ∈ cs, c.OK I)
    (sched : List Ev) :
    let c := Cfg.run ⟨store, now, progs.map Thread.ofCalls⟩ sched
    I c.store c.now ∧ ∀ th ∈ c.threads, ∀ r, Res.ok r ∈ th.results → ∃ t, I r t :=
  run_inv hmono sched _ (Keeps.init h0 hok)

/-- **Preconditions hold at the commit, not just at the read**: a request conditional on the state it names (an
update that names a version, an acknowledge of a not yet acknowledged version) is never applied to another state,
whatever ran between its read and its commit.  No hypothesis on the calls. -/
theorem C20_conc_commit_passes_check (store : σ) (now : Int) (progs : List (List (Call σ ε)))
    (sched : List Ev) (i : Nat) :
    let c := Cfg.run ⟨store, now, progs.map Thread.ofCalls⟩ sched
    (c.step (.step i)).store = c.store ∨
    ∃ th cl t, c.threads[i]? = some th ∧ th.cur = some (cl, .ready c.store t) ∧
      cl.check c.store = none ∧ (c.step (.step i)).store = cl.apply c.store t := by
  intro c
  have hck : Checked c := (init_checked store now progs).run (fun _ _ _ _ h => h) sched
  rcases step_commit c (.step i) with ⟨h, _⟩ | ⟨j, th, cl, t, hj, hth, hcur, h, _⟩
  · exact Or.inl h
  · cases hj
    exact Or.inr ⟨th, cl, t, hth, hcur, hck.checked (List.mem_of_getElem? hth) hcur, h⟩

/-- **A call that is made again after a refused commit is never refused** (`Call.retry`: the trait model loops
while `GetAndUpdate` answers `Aborted`), whatever the other threads are and do. -/
theorem C20_conc_retrying_thread_never_refused (store : σ) (now : Int) (progs : List (List (Call σ ε)))
    (sched : List Ev) (i : Nat) (cs : List (Call σ ε)) (hcs : progs[i]? = some cs)
    (hr : ∀ c ∈ cs, c.retry = true) :
    ∀ th, (Cfg.run ⟨store, now, progs.map Thread.ofCalls⟩ sched).threads[i]? = some th →
      Res.aborted ∉ th.results := by
  intro th hth
  refine (run_retrying sched _ i (fun th0 h0 => ?_) th hth).results
  simp only [List.getElem?_map, hcs, Option.map_some, Option.some.injEq] at h0
  subst h0
  exact Thread.Retrying.all.mpr (.ofCalls hr)

/-- **Progress (no caller is stuck by a lost race)**: a call that reads no clock, parked at any of its park points
with any value read, ends within 5 of its own atomic steps once no other thread runs in between — also when its
commit is refused first and it has to be made again. -/
theorem C20_conc_parked_call_finishes (store : σ) (now : Int) (c : Call σ ε) (he : c.early = false)
    (ht : c.timed = false) (p : Phase σ) (hp : p.untimed) (todo : List (Call σ ε)) (results : List (Res σ ε)) :
    ∃ k, k ≤ 5 ∧ ∃ r s', soloRun now k (store, ⟨some (c, p), todo, results⟩) = (s', ⟨none, todo, r :: results⟩) := by
  cases p with
  | start =>
    obtain ⟨k, hk, h⟩ := solo_from_start store now c he ht todo results
    exact ⟨k, by omega, h⟩
  | haveOld o =>
    cases hck : c.check o with
    | some e => exact ⟨1, by omega, .err e, store, by simp [soloRun, threadStep, threadGo, callStep, hck]⟩
    | none =>
      obtain ⟨k, hk, r, s', h⟩ := solo_from_ready store now c he ht o now todo results
      refine ⟨k + 1, by omega, r, s', ?_⟩
      simpa [soloRun, threadStep, threadGo, callStep, ht, hck] using h
  | ready o t =>
    obtain ⟨k, hk, h⟩ := solo_from_ready store now c he ht o t todo results
    exact ⟨k, by omega, h⟩
  | haveT t => exact absurd hp (by simp [Phase.untimed])
  | both o t => exact absurd hp (by simp [Phase.untimed])

end ScVerif.C20.Gau
