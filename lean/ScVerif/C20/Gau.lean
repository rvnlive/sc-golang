/-!
# C20 — generic interleaving model of calls that write through `resource.GetAndUpdate`

Every write of a trait model goes through `resource.Value.Set` / `Collection.Update` = `GetAndUpdate`
(`pkg/resource/atomic.go`): read the stored value under `RLock` (atomic step *readOld*, up to the yield
point `gau.afterRead`), run the change function on a clone outside any lock (its checks may fail: the
call returns the error and nothing is written), take the write lock and **commit only if the stored
value is still `proto.Equal` to the one that was read** (atomic step *commit* from the yield point
`gau.beforeLock`; otherwise `Aborted`).

A call is described by where it reads the clock (`early`: before the transaction, as `meterpb.Reset`
does; otherwise inside the change function, after its checks, as `meterpb.RecordReading`,
`publicationpb` create/update/acknowledge do), its checks on the value it read, and the value it
computes from the value read and its clock reading.  The clock is a counter that never goes back
(`tick d`, `d : Nat`); between any two atomic steps any other thread may run and any time may pass.
A thread is a list of calls; a schedule is a list of events.  The atomic steps are exactly the segments
between the park points the harness uses on the real code (`gau.afterRead`, the injected clock's `Now`,
`gau.beforeLock`).  A call with `retry` answers a refused commit by starting over (a loop around the
write in the trait model); all other calls hand `Aborted` to their caller.
-/
namespace ScVerif.C20.Gau

structure Call (σ ε : Type) where
  early : Bool
  check : σ → Option ε
  apply : σ → Int → σ
  /-- `false`: the change function does not read the clock at all (`apply` ignores its instant): the
  call goes from its checks straight to the lock -/
  timed : Bool := true
  /-- `true`: the caller makes the call again when the compare-and-commit refuses it (`Aborted`), as
  `parentpb.AddChildTrait` / `RemoveChildTrait` do since fix 1e16ef0 (they have nobody to hand the error
  to): the refused attempt ends without a result and the call starts over with a fresh read -/
  retry : Bool := false

inductive Phase (σ : Type) where
  | start                          -- nothing read yet
  | haveOld (o : σ)                -- late clock: old value read, change function entered
  | haveT (t : Int)                -- early clock: clock read, `Set` not yet entered
  | both (o : σ) (t : Int)         -- old value and clock read
  | ready (o : σ) (t : Int)        -- change function done, about to take the write lock

inductive Res (σ ε : Type) where
  | ok (r : σ)
  | err (e : ε)
  | aborted
  deriving DecidableEq

variable {σ ε : Type} [DecidableEq σ]

/-- one atomic step of a call in phase `p`; a result in the third component ends the call -/
def callStep (store : σ) (now : Int) (c : Call σ ε) : Phase σ → σ × Phase σ × Option (Res σ ε)
  | .start => if c.early then (store, .haveT now, none) else (store, .haveOld store, none)
  | .haveOld o =>
    -- the change function: checks first, then the interceptor reads the clock
    match c.check o with
    | some e => (store, .start, some (.err e))
    | none => if c.timed then (store, .both o now, none) else (store, .ready o now, none)
  | .haveT t => (store, .both store t, none)
  | .both o t =>
    if c.early then
      match c.check o with
      | some e => (store, .start, some (.err e))
      | none => (store, .ready o t, none)
    else (store, .ready o t, none)
  | .ready o t =>
    -- under the write lock: `if !proto.Equal(oldValue, oldValueAgain) → Aborted`, else save(newValue)
    if store = o then (c.apply o t, .start, some (.ok (c.apply o t)))
    else if c.retry then (store, .start, none)
    else (store, .start, some .aborted)

structure Thread (σ ε : Type) where
  cur : Option (Call σ ε × Phase σ)
  todo : List (Call σ ε)
  results : List (Res σ ε)          -- most recent first

def Thread.ofCalls (cs : List (Call σ ε)) : Thread σ ε := ⟨none, cs, []⟩

def threadGo (store : σ) (now : Int) (results : List (Res σ ε)) (c : Call σ ε) (p : Phase σ)
    (todo : List (Call σ ε)) : σ × Thread σ ε :=
  match callStep store now c p with
  | (s', p', none) => (s', ⟨some (c, p'), todo, results⟩)
  | (s', _, some r) => (s', ⟨none, todo, r :: results⟩)

/-- one atomic step of a thread: continue the current call, or start the next one of its program -/
def threadStep (store : σ) (now : Int) (th : Thread σ ε) : σ × Thread σ ε :=
  match th.cur, th.todo with
  | some (c, p), todo => threadGo store now th.results c p todo
  | none, c :: rest => threadGo store now th.results c .start rest
  | none, [] => (store, th)

structure Cfg (σ ε : Type) where
  store : σ
  now : Int
  threads : List (Thread σ ε)

inductive Ev where
  | step (i : Nat)      -- thread i takes its next atomic step (nothing happens if it has none)
  | tick (d : Nat)      -- the clock advances by d ≥ 0

def Cfg.step (c : Cfg σ ε) : Ev → Cfg σ ε
  | .tick d => { c with now := c.now + d }
  | .step i =>
    match c.threads[i]? with
    | none => c
    | some th =>
      let (s', th') := threadStep c.store c.now th
      { c with store := s', threads := c.threads.set i th' }

def Cfg.run (c : Cfg σ ε) (sched : List Ev) : Cfg σ ε := sched.foldl Cfg.step c

/-- the schedule that lets every thread, in index order, finish its program (≤ 4 steps per call that is not made again) -/
def drainSched (ths : List (Thread σ ε)) : List Ev :=
  (List.range ths.length).flatMap (fun i =>
    match ths[i]? with
    | none => []
    | some th => List.replicate (4 * (th.todo.length + 1)) (Ev.step i))

end ScVerif.C20.Gau
