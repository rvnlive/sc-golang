import ScVerif.C20.VendConc
import ScVerif.C20.ConcApply
import ScVerif.C20.GauLin
/-!
# C20 — property theorems, Vending under concurrent callers

Property (fixed text, vending clause): "vending dispense adds the quantity to used and subtracts it
from remaining …".  Under overlapping `DispenseInstantly` calls on a stock record **no dispense is lost and none is
applied twice**.
-/
namespace ScVerif.C20.Vending
open Gau

/-- **the stock record is a sequential run of exactly the committed dispenses.** -/
theorem C20_vending_conc_is_sequential_run (init : Stock) (now : Int) (progs : List (List Qty))
    (sched : List Ev) :
    let c := Cfg.run ⟨init, now, (progs.map (·.map dispenseCall)).map Thread.ofCalls⟩ sched
    ∃ qs : List Qty, (∀ q ∈ qs, ∃ p ∈ progs, q ∈ p) ∧ qs.length = c.oks ∧
      c.store = qs.foldl dispenseOrKeep init := by
  exact run_linearizes_ops dispenseCall dispenseOrKeep dispenseCall_apply init now progs sched

theorem used_adds_up (u : Int) : ∀ (qs : List Qty) (a : Rat) (ld : Option Qty) (d : Bool),
    (∀ q ∈ qs, q.unit = u) →
    (qs.foldl dispenseOrKeep { used := some ⟨u, a⟩, remaining := none, lastDispensed := ld, dispensing := d }).used
      = some ⟨u, a + (qs.map (·.amount)).sum⟩ := by
  intro qs
  induction qs with
  | nil => intro a ld d _; simp [Rat.add_zero]
  | cons q rest ih =>
    intro a ld d hu
    have hq : q.unit = u := hu q (List.mem_cons_self ..)
    have : dispenseOrKeep { used := some ⟨u, a⟩, remaining := none, lastDispensed := ld, dispensing := d } q
        = { used := some ⟨u, a + q.amount⟩, remaining := none, lastDispensed := some q, dispensing := false } := by
      simp [dispenseOrKeep, dispenseStock, convert, hq]
    simp only [List.foldl_cons, this]
    rw [ih (a + q.amount) (some q) false (fun x hx => hu x (List.mem_cons_of_mem _ hx))]
    simp [Rat.add_assoc]

/-- **no dispense is lost, none counted twice**: `used` is the initial amount plus the sum of exactly as many of the
programs' quantities as calls were not refused. -/
theorem C20_vending_conc_used_adds_up (u : Int) (a : Rat) (now : Int) (progs : List (List Qty))
    (hu : ∀ p ∈ progs, ∀ q ∈ p, q.unit = u) (sched : List Ev) :
    let c := Cfg.run ⟨({ used := some ⟨u, a⟩, remaining := none } : Stock), now,
      (progs.map (·.map dispenseCall)).map Thread.ofCalls⟩ sched
    ∃ qs : List Qty, (∀ q ∈ qs, ∃ p ∈ progs, q ∈ p) ∧ qs.length = c.oks ∧
      c.store.used = some ⟨u, a + (qs.map (·.amount)).sum⟩ := by
  intro c
  obtain ⟨qs, h1, h2, h3⟩ := C20_vending_conc_is_sequential_run
    ({ used := some ⟨u, a⟩, remaining := none } : Stock) now progs sched
  refine ⟨qs, h1, h2, ?_⟩
  have h3' : c.store = qs.foldl dispenseOrKeep _ := h3
  rw [h3']
  exact used_adds_up u qs a none false (fun q hq => by
    obtain ⟨p, hp, hqp⟩ := h1 q hq
    exact hu p hp q hqp)

/-- two overlapping dispenses of 2 l and 3 l from used = 10 l: the one that reaches the lock second is
refused; used is 12 l, one call succeeded -/
example :
    let c := Cfg.run ⟨({ used := some ⟨3, 10⟩, remaining := none } : Stock), 0,
      [[dispenseCall ⟨3, 2⟩], [dispenseCall ⟨3, 3⟩]].map Thread.ofCalls⟩
      [.step 0, .step 1, .step 0, .step 1, .step 0, .step 1]
    c.store.used = some ⟨3, 12⟩ ∧ c.oks = 1 := by
  decide +kernel

end ScVerif.C20.Vending
