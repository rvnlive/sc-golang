import ScVerif.C20.PubConc
import ScVerif.C20.GauLemmas
import ScVerif.C20.PublicationLemmas
/-!
# C20 / Publication — the calls satisfy the generic interleaving theorem's conditions
-/
namespace ScVerif.C20.Publication
open Gau

/-- receipt-belongs-to-version and version-is-hash-of-content, as one time-indexed invariant -/
def PubOK (H : Hash) (p : Pub) (now : Int) : Prop := ReceiptOK now p ∧ p.version = mint H p

theorem PubOK.mono (H : Hash) : Gau.Mono (PubOK H) :=
  fun _ _ _ hle h => ⟨h.1.mono hle, h.2⟩

theorem updateCall_ok (H : Hash) (p : Pub) (mask : UMask) (v : String) : (updateCall H p mask v).OK (PubOK H) :=
  ⟨fun _ o t _ _ => ⟨computed_receiptOK H t _, (computed_version H t _).1⟩, fun he => by simp [updateCall] at he⟩

theorem ackCall_ok (H : Hash) (v : String) (receipt : Int) (reason : String) (allow : Bool) :
    (ackCall v receipt reason allow).OK (PubOK H) :=
  ⟨fun _ o t ho _ => ⟨receiptOK_receipt ho.1 _ receipt reason, ho.2.trans (mint_receipt H o receipt reason t).symm⟩, nofun⟩

theorem updateCall_check_none {H : Hash} {p : Pub} {m : UMask} {v : String} {cur : Pub}
    (h : (updateCall H p m v).check cur = none) : v = "" ∨ cur.version = v := by
  have h' : (if v ≠ "" ∧ cur.version ≠ v then some PErr.failedPrecondition else none) = none := h
  by_cases hv : v = ""
  · exact Or.inl hv
  · refine Or.inr (Classical.byContradiction fun hne => ?_)
    rw [if_pos ⟨hv, hne⟩] at h'
    cases h'

theorem ackCall_check_none {v : String} {r : Int} {reason : String} {a : Bool} {cur : Pub}
    (h : (ackCall v r reason a).check cur = none) : cur.version = v ∧ acked cur = false := by
  have h' : (if cur.version ≠ v then some PErr.aborted
      else if acked cur then some (if a then .already cur else .failedPrecondition) else none) = none := h
  by_cases hne : cur.version ≠ v
  · rw [if_pos hne] at h'
    cases h'
  · rw [if_neg hne] at h'
    cases hacked : acked cur with
    | true => rw [hacked, if_pos rfl] at h'; cases h'
    | false => exact ⟨Classical.not_not.mp hne, rfl⟩

inductive PReq where
  | update (p : Pub) (mask : UMask) (version : String)
  | ack (version : String) (receipt : Int) (reason : String) (allowAck : Bool)

def PReq.call (H : Hash) : PReq → PCall
  | .update p m v => updateCall H p m v
  | .ack v r reason a => ackCall v r reason a

theorem PReq.call_ok (H : Hash) (r : PReq) : (r.call H).OK (PubOK H) := by
  cases r with
  | update p m v => exact updateCall_ok H p m v
  | ack v r reason a => exact ackCall_ok H v r reason a

end ScVerif.C20.Publication
