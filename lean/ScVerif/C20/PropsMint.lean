import ScVerif.C20.MintLemmas
/-!
# C20 — property theorems, minting publication versions at the same time

Property (fixed text, publication clause): "publication version and acknowledgement state stay mutually
consistent" - the
version of a publication is the hash of its own content - here for any number of writers whose `mintVersion` calls
overlap in the lock-free change phase of `resource.GetAndUpdate`, on one model or on several models of one process,
under every interleaving of the digest operations (reset, five writes, sum), for every byte-string hash `Hc`.
-/
namespace ScVerif.C20.Mint
open ScVerif.C20.Publication

/-- **Own digest: every version is the hash of its own publication** (`mint`, the sequential function of
`Publication.lean`), whatever the number of callers, their publications and the schedule. -/
theorem C20_pub_mint_parallel (Hc : String → String) (pubs : Nat → Pub) (sched : List Nat) (t : Nat) :
    ((run Hc own pubs sched).phase t = .done →
      (run Hc own pubs sched).out t = some (mint (hashOf Hc) (pubs t))) ∧
    ((run Hc own pubs sched).phase t ≠ .done → (run Hc own pubs sched).out t = none) := by
  have h := inv_run Hc pubs sched t
  constructor
  · intro hd
    rw [hd] at h
    rw [h, cat_chunks Hc (pubs t)]
  · intro hd
    cases hp : (run Hc own pubs sched).phase t with
    | start => rw [hp] at h; exact h
    | writing l => rw [hp] at h; exact h.2
    | done => exact absurd hp hd

/-- **Nobody waits for anybody**: a caller has returned as soon as it has taken 7 steps of its own (reset, five
writes, sum), wherever the other callers are and whether or not the digest is shared. -/
theorem C20_pub_mint_finishes (Hc : String → String) (slot : Nat → Nat) (pubs : Nat → Pub) (sched : List Nat)
    (t : Nat) (h : 7 ≤ sched.count t) : (run Hc slot pubs sched).phase t = .done := by
  unfold run
  rw [phase_foldl]
  obtain ⟨m, hm⟩ : ∃ m, sched.count t = m + 7 := ⟨sched.count t - 7, by omega⟩
  rw [hm]
  -- seven steps of its own take a caller from `.start` to `.done` (by computation); further ones stay there
  show iter (pubs t) m .done = .done
  exact iter_done _ m

/-- two publications that differ in their body only -/
def pA : Pub := ⟨"p1", "hello", "text/plain", none, "", none⟩
def pB : Pub := ⟨"p1", "world", "text/plain", none, "", none⟩
def two : Nat → Pub := fun t => if t = 0 then pA else pB

/-- **One digest for the process fails** (a package-level digest that every call resets first; sequentially the same
function).  (1) Caller 1 resets the digest after caller 0 has written: caller 0's publication gets the version of
caller 1's content.  (2) The two callers alternate: both get the hash of a mixture that is the content of neither. -/
theorem C20_pub_mint_shared_digest_fails (Hc : String → String) :
    let s1 := [0, 0, 0, 0, 0, 0, 1, 1, 1, 1, 1, 1, 0, 1]
    let s2 := [0, 1, 0, 1, 0, 1, 0, 1, 0, 1, 0, 1, 0, 1]
    ((run Hc shared two s1).phase 0 = .done ∧
      (run Hc shared two s1).out 0 = some (mint (hashOf Hc) pB) ∧
      (run Hc own two s1).out 0 = some (mint (hashOf Hc) pA)) ∧
    ((run Hc shared two s2).out 0 = some (Hc "v1v1p1p1helloworldtext/plaintext/plain") ∧
      (run Hc shared two s2).out 1 = some (Hc "v1v1p1p1helloworldtext/plaintext/plain") ∧
      mint (hashOf Hc) pA = Hc "v1p1hellotext/plain" ∧ mint (hashOf Hc) pB = Hc "v1p1worldtext/plain") := by
  intro s1 s2
  -- two of the conjuncts are instances of the theorems above; the rest is the evaluation of the two schedules
  refine ⟨⟨C20_pub_mint_finishes Hc shared two s1 0 (by decide), ?_,
    (C20_pub_mint_parallel Hc two s1 0).1 (C20_pub_mint_finishes Hc own two s1 0 (by decide))⟩, ?_⟩
  · simp [s1, run, step, init, upd, shared, two, pA, pB, chunks, cat, mint, hashOf]
  · simp [s2, run, step, init, upd, shared, two, pA, pB, chunks, cat, mint, hashOf]

/-- non-vacuity of `C20_pub_mint_parallel`: under the alternating schedule both callers have returned -/
example (Hc : String → String) :
    (run Hc own two [0, 1, 0, 1, 0, 1, 0, 1, 0, 1, 0, 1, 0, 1]).phase 0 = .done ∧
    (run Hc own two [0, 1, 0, 1, 0, 1, 0, 1, 0, 1, 0, 1, 0, 1]).phase 1 = .done :=
  ⟨C20_pub_mint_finishes Hc own two _ 0 (by decide), C20_pub_mint_finishes Hc own two _ 1 (by decide)⟩

/-- **Devices of one process are independent**, for every model given by a step function (the seven trait models of
this property are). -/
theorem C20_devices_independent {σ α : Type} (f : σ → α → σ) (init : Nat → σ) (sched : List (Nat × α)) (d : Nat) :
    (sched.foldl (stepAt f) init) d = (opsOf d sched).foldl f (init d) :=
  stepAt_foldl f d sched init

/-- **… in particular publication devices**: the statement the parallel-devices tie checks on the real code, where
the operations of different devices overlap in time. -/
theorem C20_pub_devices_independent (H : Hash) (init : Nat → Store) (sched : List (Nat × (Int × Op))) (d : Nat) :
    (sched.foldl (stepAt (fun s o => (Publication.step H o.1 s o.2).1)) init) d =
      Publication.run H (init d) (opsOf d sched) :=
  C20_devices_independent _ init sched d

/-- two devices, interleaved creates: each keeps its own record only -/
example : ((([(0, ((1001 : Int), Op.create pA)), (1, (1001, Op.create pB)), (0, (1002, Op.delete "p1" "" false))] :
      List (Nat × (Int × Op))).foldl
    (stepAt (fun s o => (Publication.step (hashOf id) o.1 s o.2).1)) (fun _ => [])) 1).map (·.2.body) = ["world"] := by
  decide

end ScVerif.C20.Mint
