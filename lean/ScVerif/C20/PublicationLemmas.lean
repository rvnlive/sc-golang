import ScVerif.C20.Publication
import ScVerif.C20.Assoc
/-! `step_store` says what an operation can do to the store; the invariants `VersionInv` and `RInv` (with
`ReceiptOK`) are kept pointwise through it (`step_all`). -/
namespace ScVerif.C20.Publication

theorem lookup_eq : @lookup = @Assoc.lookup Pub := by delta lookup Assoc.lookup; rfl
theorem set_eq : @set = @Assoc.set Pub := by delta set Assoc.set; rfl
theorem erase_eq : @erase = @Assoc.erase Pub := by delta erase Assoc.erase; rfl

theorem lookup_set_self (n : String) (v : Pub) (s : Store) : lookup n (set n v s) = some v := by
  rw [lookup_eq, set_eq]; exact Assoc.lookup_set_self n v s

theorem lookup_set_other {n m : String} (h : m ≠ n) (v : Pub) (s : Store) :
    lookup m (set n v s) = lookup m s := by
  rw [lookup_eq, set_eq]; exact Assoc.lookup_set_other h v s

theorem lookup_erase_self (n : String) (s : Store) : lookup n (erase n s) = none := by
  rw [lookup_eq, erase_eq]; exact Assoc.lookup_erase_self n s

theorem lookup_erase_other {n m : String} (h : m ≠ n) (s : Store) :
    lookup m (erase n s) = lookup m s := by
  rw [lookup_eq, erase_eq]; exact Assoc.lookup_erase_other h s

def VersionInv (H : Hash) (s : Store) : Prop :=
  ∀ id p, lookup id s = some p → p.version = mint H p ∧ p.publishTime.isSome

theorem computed_version (H : Hash) (now : Int) (p : Pub) :
    (computed H now p).version = mint H (computed H now p) ∧ (computed H now p).publishTime = some now := by
  refine ⟨?_, rfl⟩
  unfold computed mint
  cases p.audience <;> rfl

theorem computed_audience (H : Hash) (now : Int) (p : Pub) (a : Audience)
    (ha : (computed H now p).audience = some a) : a.receipt = 1 ∧ a.reason = "" ∧ a.receiptTime = none := by
  unfold computed at ha
  cases hp : p.audience with
  | none => rw [hp] at ha; cases ha
  | some a0 => rw [hp] at ha; cases ha; exact ⟨rfl, rfl, rfl⟩

/-- what an operation can do to the store: nothing, store a record with freshly computed properties,
erase a record, or attach a receipt to a stored record -/
theorem step_store (H : Hash) (now : Int) (s : Store) (op : Op) :
    (step H now s op).1 = s ∨ (∃ n q, (step H now s op).1 = set n (computed H now q) s) ∨
    (∃ n, (step H now s op).1 = erase n s) ∨
    ∃ id cur receipt reason, lookup id s = some cur ∧ (step H now s op).1 =
      set id { cur with audience := some ⟨(cur.audience.map (·.name)).getD "", receipt, reason, some now⟩ } s := by
  generalize hst : (step H now s op).1 = st
  cases op with
  | create p =>
    simp only [step] at hst
    cases hl : lookup p.id s with
    | some _ => rw [hl] at hst; exact Or.inl hst.symm
    | none => rw [hl] at hst; exact Or.inr (Or.inl ⟨_, _, hst.symm⟩)
  | createGen p g =>
    simp only [step] at hst
    by_cases h : g = "" ∨ (lookup g s).isSome = true
    · rw [if_pos h] at hst; exact Or.inl hst.symm
    · rw [if_neg h] at hst; exact Or.inr (Or.inl ⟨_, _, hst.symm⟩)
  | update p mask version =>
    simp only [step] at hst
    by_cases hid : p.id = ""
    · rw [if_pos hid] at hst; exact Or.inl hst.symm
    · rw [if_neg hid] at hst
      cases hl : lookup p.id s with
      | none => rw [hl] at hst; exact Or.inl hst.symm
      | some cur =>
        rw [hl] at hst
        dsimp only at hst
        by_cases hv : version ≠ "" ∧ cur.version ≠ version
        · rw [if_pos hv] at hst; exact Or.inl hst.symm
        · rw [if_neg hv] at hst; exact Or.inr (Or.inl ⟨_, _, hst.symm⟩)
  | delete id version allowMissing =>
    simp only [step] at hst
    by_cases hid : id = ""
    · rw [if_pos hid] at hst; exact Or.inl hst.symm
    · rw [if_neg hid] at hst
      cases hl : lookup id s with
      | none => rw [hl] at hst; exact Or.inl hst.symm
      | some cur =>
        rw [hl] at hst
        dsimp only at hst
        by_cases hv : version ≠ "" ∧ cur.version ≠ version
        · rw [if_pos hv] at hst; exact Or.inl hst.symm
        · rw [if_neg hv] at hst; exact Or.inr (Or.inr (Or.inl ⟨_, hst.symm⟩))
  | ack id version receipt reason allowAck =>
    simp only [step] at hst
    by_cases hid : id = "" ∨ version = ""
    · rw [if_pos hid] at hst; exact Or.inl hst.symm
    · rw [if_neg hid] at hst
      cases hl : lookup id s with
      | none => rw [hl] at hst; exact Or.inl hst.symm
      | some cur =>
        rw [hl] at hst
        dsimp only at hst
        by_cases hv : cur.version ≠ version
        · rw [if_pos hv] at hst; exact Or.inl hst.symm
        · rw [if_neg hv] at hst
          by_cases ha : acked cur = true
          · rw [if_pos ha] at hst; exact Or.inl hst.symm
          · rw [if_neg ha] at hst
            exact Or.inr (Or.inr (Or.inr ⟨id, cur, receipt, reason, hl, hst.symm⟩))

theorem step_mints (H : Hash) (now : Int) (s : Store) (op : Op) (id : String)
    (hop : (∃ p, op = .create p ∧ p.id = id) ∨ (∃ p, op = .createGen p id) ∨
           (∃ p m v, op = .update p m v ∧ p.id = id))
    (hok : (step H now s op).2 = .ok) : ∃ q, (step H now s op).1 = set id (computed H now q) s := by
  rcases hop with ⟨p, rfl, rfl⟩ | ⟨p, rfl⟩ | ⟨p, m, v, rfl, rfl⟩ <;> simp only [step] at hok ⊢
  · cases hl : lookup p.id s with
    | some _ => rw [hl] at hok; cases hok
    | none => exact ⟨_, rfl⟩
  · by_cases h : id = "" ∨ (lookup id s).isSome = true
    · rw [if_pos h] at hok; cases hok
    · rw [if_neg h]; exact ⟨_, rfl⟩
  · by_cases hid : p.id = ""
    · rw [if_pos hid] at hok; cases hok
    · rw [if_neg hid] at hok ⊢
      cases hl : lookup p.id s with
      | none => rw [hl] at hok; cases hok
      | some cur =>
        rw [hl] at hok
        dsimp only at hok ⊢
        by_cases hv : v ≠ "" ∧ cur.version ≠ v
        · rw [if_pos hv] at hok; cases hok
        · rw [if_neg hv]; exact ⟨_, rfl⟩

theorem step_ack_of_acked (H : Hash) (now : Int) {s : Store} {id : String} {cur : Pub} (v : String) (r : Int)
    (reason : String) (allow : Bool) (hl : lookup id s = some cur) (ha : acked cur = true) :
    (step H now s (.ack id v r reason allow)).1 = s := by
  simp only [step]
  by_cases hid : id = "" ∨ v = ""
  · rw [if_pos hid]
  · rw [if_neg hid, hl]
    dsimp only
    by_cases hv : cur.version ≠ v
    · rw [if_pos hv]
    · rw [if_neg hv, if_pos ha]

theorem step_all {P : Pub → Prop} (H : Hash) (now : Int) (s : Store) (op : Op)
    (hs : ∀ id p, lookup id s = some p → P p) (hcomp : ∀ q, P (computed H now q))
    (hack : ∀ cur receipt reason, P cur →
      P { cur with audience := some ⟨(cur.audience.map (·.name)).getD "", receipt, reason, some now⟩ }) :
    ∀ id p, lookup id (step H now s op).1 = some p → P p := by
  intro m p hl
  rcases step_store H now s op with h | ⟨n, q, h⟩ | ⟨n, h⟩ | ⟨id, cur, receipt, reason, hcur, h⟩
  · rw [h] at hl
    exact hs m p hl
  · rw [h] at hl
    by_cases hm : m = n
    · subst hm; rw [lookup_set_self] at hl; cases hl; exact hcomp q
    · rw [lookup_set_other hm] at hl; exact hs m p hl
  · rw [h] at hl
    by_cases hm : m = n
    · subst hm; rw [lookup_erase_self] at hl; cases hl
    · rw [lookup_erase_other hm] at hl; exact hs m p hl
  · rw [h] at hl
    by_cases hm : m = id
    · subst hm; rw [lookup_set_self] at hl; cases hl; exact hack cur receipt reason (hs m cur hcur)
    · rw [lookup_set_other hm] at hl; exact hs m p hl

/-- a receipt changes nothing that the version hashes (the audience keeps its name) -/
theorem mint_receipt (H : Hash) (cur : Pub) (receipt : Int) (reason : String) (t : Int) :
    mint H { cur with audience := some ⟨(cur.audience.map (·.name)).getD "", receipt, reason, some t⟩ } = mint H cur := by
  unfold mint
  cases cur.audience <;> rfl

theorem inv_step (H : Hash) (now : Int) (s : Store) (op : Op) (hs : VersionInv H s) :
    VersionInv H (step H now s op).1 :=
  step_all H now s op hs (fun q => ⟨(computed_version H now q).1, by rw [(computed_version H now q).2]; rfl⟩)
    (fun cur receipt reason hc => ⟨hc.1.trans (mint_receipt H cur receipt reason now).symm, hc.2⟩)

/-!
`ReceiptOK now p`: the publication has a publish time `pt ≤ now`, and a recorded receipt time `t`
satisfies `pt ≤ t ≤ now`: an acknowledgement is never older than the version it is attached to.
This is what breaks when a create/update mints a new version (new publish time) but lets receipt
details of an earlier version — or client-supplied ones — through.
-/
def ReceiptOK (now : Int) (p : Pub) : Prop :=
  ∃ pt, p.publishTime = some pt ∧ pt ≤ now ∧
    ∀ a, p.audience = some a → ∀ t, a.receiptTime = some t → pt ≤ t ∧ t ≤ now

def RInv (now : Int) (s : Store) : Prop := ∀ id p, lookup id s = some p → ReceiptOK now p

theorem ReceiptOK.mono {now now' : Int} {p : Pub} (h : ReceiptOK now p) (hle : now ≤ now') : ReceiptOK now' p := by
  obtain ⟨pt, h1, h2, h3⟩ := h
  exact ⟨pt, h1, by omega, fun a ha t ht => ⟨(h3 a ha t ht).1, by have := (h3 a ha t ht).2; omega⟩⟩

theorem RInv.mono {now now' : Int} {s : Store} (h : RInv now s) (hle : now ≤ now') : RInv now' s :=
  fun id p hl => (h id p hl).mono hle

theorem computed_receiptOK (H : Hash) (now : Int) (p : Pub) : ReceiptOK now (computed H now p) :=
  ⟨now, rfl, Int.le_refl _, fun a ha t ht => by rw [(computed_audience H now p a ha).2.2] at ht; cases ht⟩

/-- a receipt stamped with the present instant is not older than the publish time -/
theorem receiptOK_receipt {now : Int} {cur : Pub} (hc : ReceiptOK now cur) (name : String) (receipt : Int)
    (reason : String) : ReceiptOK now { cur with audience := some ⟨name, receipt, reason, some now⟩ } := by
  obtain ⟨pt, h1, h2, _⟩ := hc
  refine ⟨pt, h1, h2, fun a ha t' ht' => ?_⟩
  cases ha
  cases ht'
  exact ⟨h2, Int.le_refl _⟩

theorem rinv_step (H : Hash) (now t : Int) (s : Store) (op : Op) (hs0 : RInv now s) (hle : now ≤ t) :
    RInv t (step H t s op).1 :=
  step_all H t s op (hs0.mono hle) (computed_receiptOK H t) (fun _ receipt reason hc => receiptOK_receipt hc _ receipt reason)

end ScVerif.C20.Publication
