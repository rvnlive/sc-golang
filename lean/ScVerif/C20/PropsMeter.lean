import ScVerif.C20.MeterLemmas
import ScVerif.C20.Fold
/-!
# C20 — property theorems, Meter

Property (fixed text, meter clause): "meter start and end times … stay mutually consistent":
start ≤ end; RecordReading sets usage and end = now and keeps start; Reset sets both to now; a model
constructed with an initial reading uses it.
-/
namespace ScVerif.C20.Meter

def Mono : Int → List Op → Prop
  | _, [] => True
  | t, o :: rest => t ≤ o.time ∧ Mono o.time rest

/-- **RecordReading keeps start.** -/
theorem C20_meter_record (r : Reading) (v : String) (now : Int) :
    (recordReading r v now).start = r.start ∧ (recordReading r v now).stop = some now ∧
    (recordReading r v now).usage = v := by
  rw [recordReading_eq]
  exact ⟨rfl, rfl, rfl⟩

/-- **Reset sets usage to zero and both times to now.** -/
theorem C20_meter_reset (r : Reading) (now : Int) :
    reset r now = ⟨"0", some now, some now⟩ :=
  reset_eq r now

/-- **NewModel uses the configured reading**; absent times become now. -/
theorem C20_meter_new (init : Reading) (now : Int) :
    (newModel init now).usage = init.usage ∧
    (newModel init now).start = some (init.start.getD now) ∧
    (newModel init now).stop = some (init.stop.getD now) := by
  rw [newModel_eq]
  exact ⟨rfl, rfl, rfl⟩

/-- a new model satisfies the invariant when the configured times are ordered, not in the future, and
an end time is only configured together with a start time (otherwise start := now may exceed it) -/
theorem C20_meter_new_inv (init : Reading) (now : Int)
    (h1 : ∀ s, init.start = some s → s ≤ now) (h2 : ∀ e, init.stop = some e → e ≤ now)
    (h3 : ∀ s e, init.start = some s → init.stop = some e → s ≤ e)
    (h4 : init.start = none → init.stop = none) :
    Inv (newModel init now) now := by
  rw [newModel_eq]
  obtain ⟨u, s, e⟩ := init
  cases s with
  | none =>
    cases e with
    | none => exact ⟨now, now, rfl, rfl, Int.le_refl _, Int.le_refl _⟩
    | some e => exact absurd (h4 rfl) (by simp)
  | some s =>
    cases e with
    | none => exact ⟨s, now, rfl, rfl, h1 s rfl, Int.le_refl _⟩
    | some e => exact ⟨s, e, rfl, rfl, h3 s e rfl rfl, h2 e rfl⟩

/-- `RecordReading` / `Reset` at an instant not before the last one keeps the period ordered. -/
theorem C20_meter_step_inv (r : Reading) (t : Int) (o : Op) (h : Inv r t) (ht : t ≤ o.time) :
    Inv (step r o) o.time := by
  cases o with
  | record v now => exact record_inv v h ht
  | reset now => exact reset_inv r now

/-- **start ≤ end after every sequence** of RecordReading / Reset under a clock that never goes back. -/
theorem C20_meter_start_le_end (ops : List Op) : ∀ (r : Reading) (t : Int), Inv r t → Mono t ops →
    ∃ t', Inv (run r ops) t' :=
  fun r t h hm => ⟨_, foldl_rel (g := fun _ o => o.time) (fun _ _ _ hg => hg) C20_meter_step_inv ops r t h hm⟩

/-- **start is the time of the last Reset, end the time of the last op, usage the last recorded value.** -/
theorem C20_meter_registers (r : Reading) (pre : List Op) (t : Int) (recs : List (String × Int))
    (v : String) (t' : Int) :
    run r (pre ++ [.reset t] ++ recs.map (fun p => Op.record p.1 p.2) ++ [.record v t'])
      = ⟨v, some t, some t'⟩ := by
  have hrecs : ∀ r0 : Reading, r0.start = some t →
      (run r0 (recs.map (fun p => Op.record p.1 p.2))).start = some t := fun r0 h => by
    rw [run, List.foldl_map]
    exact List.foldlRecOn (motive := fun r => r.start = some t) recs _ h
      fun r hr p _ => (C20_meter_record r p.1 p.2).1.trans hr
  -- the run is: prefix, reset, records, record; after the reset the start is `t` and the records keep it (`hrecs`)
  rw [run, List.foldl_append, List.foldl_append, List.foldl_append]
  show recordReading (run (reset (List.foldl step r pre) t) _) v t' = _
  rw [recordReading_eq, hrecs _ (by rw [reset_eq])]

/-- the invariant's hypotheses are reachable: a fresh model at t = 100, then a monotone run -/
example : Inv (newModel ⟨"0", none, none⟩ 100) 100 ∧ Mono 100 [.record "5" 101, .reset 101, .record "7" 105] := by
  refine ⟨⟨100, 100, by decide, by decide, by decide, by decide⟩, by simp [Mono, Op.time]⟩
/-- recording keeps the start time (a mask-less write would clear it) -/
example : run (newModel ⟨"0", none, none⟩ 100) [.record "5" 103] = ⟨"5", some 100, some 103⟩ := by decide

end ScVerif.C20.Meter
