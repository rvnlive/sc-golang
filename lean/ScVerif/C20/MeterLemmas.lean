import ScVerif.C20.Meter
/-! The ordered period `Inv` and the two operations, for the sequential and the concurrent clauses alike. -/
namespace ScVerif.C20.Meter

/-- both times recorded, start ≤ end ≤ now -/
def Inv (r : Reading) (now : Int) : Prop :=
  ∃ s e, r.start = some s ∧ r.stop = some e ∧ s ≤ e ∧ e ≤ now

theorem Inv.mono {r : Reading} {t t' : Int} (hle : t ≤ t') (h : Inv r t) : Inv r t' := by
  obtain ⟨s, e, hs, he, hse, hen⟩ := h
  exact ⟨s, e, hs, he, hse, by omega⟩

/-! the three operations without the mask merge -/

theorem recordReading_eq (r : Reading) (v : String) (now : Int) : recordReading r v now = ⟨v, r.start, some now⟩ := by
  simp [recordReading, merge]

theorem reset_eq (r : Reading) (now : Int) : reset r now = ⟨"0", some now, some now⟩ := by
  simp [reset, merge]

theorem newModel_eq (init : Reading) (now : Int) :
    newModel init now = ⟨init.usage, some (init.start.getD now), some (init.stop.getD now)⟩ := by
  obtain ⟨u, s, e⟩ := init
  cases s <;> cases e <;> simp [newModel, merge]

theorem record_inv {r : Reading} {t now : Int} (v : String) (h : Inv r t) (ht : t ≤ now) :
    Inv (recordReading r v now) now := by
  obtain ⟨s, e, hs, _, hse, het⟩ := h
  rw [recordReading_eq]
  exact ⟨s, now, hs, rfl, by omega, Int.le_refl _⟩

theorem reset_inv (r : Reading) (now : Int) : Inv (reset r now) now :=
  reset_eq r now ▸ ⟨now, now, rfl, rfl, Int.le_refl _, Int.le_refl _⟩

end ScVerif.C20.Meter
