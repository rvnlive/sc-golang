import ScVerif.C20.VendingCode
import ScVerif.C20.Assoc
/-! A dispense is two moves of one optional quantity (`moveQty`, `dispenseStock_eq`); `convert` in closed form; the
interceptor as written against the all-or-nothing description (`intercept_eq`). -/
namespace ScVerif.C20.Vending

theorem siUnit_factor_ne_zero {u : Int} {f : Rat} {c : Cat} (h : siUnit u = some (f, c)) : f ≠ 0 := by
  unfold siUnit at h
  by_cases h2 : u = 2
  · rw [if_pos h2] at h; cases h; decide
  rw [if_neg h2] at h
  by_cases h3 : u = 3
  · rw [if_pos h3] at h; cases h; decide
  rw [if_neg h3] at h
  by_cases h4 : u = 4
  · rw [if_pos h4] at h; cases h; decide
  rw [if_neg h4] at h
  by_cases h5 : u = 5
  · rw [if_pos h5] at h; cases h; decide +kernel
  rw [if_neg h5] at h
  by_cases h6 : u = 6
  · rw [if_pos h6] at h; cases h; decide
  rw [if_neg h6] at h
  cases h

theorem convert_eq_some_iff (v w : Rat) (a b : Int) :
    convert v a b = some w ↔
      (a = b ∧ w = v) ∨
      (a ≠ b ∧ ∃ fa fb c, siUnit a = some (fa, c) ∧ siUnit b = some (fb, c) ∧ w = v * fa / fb) := by
  unfold convert
  by_cases hab : a = b
  · rw [if_pos hab]
    exact ⟨fun h => Or.inl ⟨hab, (Option.some.inj h).symm⟩,
      fun h => h.elim (fun h => h.2 ▸ rfl) (fun h => absurd hab h.1)⟩
  · rw [if_neg hab]
    constructor
    · intro h
      refine Or.inr ⟨hab, ?_⟩
      cases ha : siUnit a with
      | none => rw [ha] at h; cases h
      | some pa =>
        cases hb : siUnit b with
        | none => rw [ha, hb] at h; cases h
        | some pb =>
          obtain ⟨fa, ca⟩ := pa
          obtain ⟨fb, cb⟩ := pb
          rw [ha, hb] at h
          dsimp only at h
          by_cases hc : ca = cb
          · rw [if_pos hc] at h
            exact ⟨fa, fb, cb, hc ▸ rfl, rfl, (Option.some.inj h).symm⟩
          · rw [if_neg hc] at h
            cases h
    · rintro (⟨h, _⟩ | ⟨_, fa, fb, c, ha, hb, rfl⟩)
      · exact absurd h hab
      · rw [ha, hb]
        dsimp only
        rw [if_pos rfl]

theorem floor_eq_max (x : Rat) : (if x < 0 then 0 else x) = max 0 x := by
  rw [Rat.max_def]
  by_cases hlt : x < 0
  · rw [if_pos hlt, if_neg (Rat.not_le.mpr hlt)]
  · rw [if_neg hlt, if_pos (Rat.not_lt.mp hlt)]

/-- what `updateStock` does to one optional quantity: an absent one stays absent, a present one moves by the
dispensed amount converted into its own unit; `none` is the conversion error -/
def moveQty (f : Rat → Rat → Rat) (q : Qty) : Option Qty → Option (Option Qty)
  | none => some none
  | some x => (convert q.amount q.unit x.unit).map fun d => some ⟨x.unit, f x.amount d⟩

theorem dispenseStock_eq (q : Qty) (st : Stock) :
    dispenseStock q st =
      (moveQty (· + ·) q st.used).bind fun u' =>
        (moveQty (fun a d => max 0 (a - d)) q st.remaining).map fun r' =>
          { used := u', remaining := r', lastDispensed := some q, dispensing := false } := by
  unfold dispenseStock moveQty
  cases st.used <;> cases st.remaining <;> simp only [floor_eq_max]
  · rfl
  · cases convert q.amount q.unit _ <;> rfl
  · cases convert q.amount q.unit _ <;> rfl
  · cases convert q.amount q.unit _ <;> cases convert q.amount q.unit _ <;> rfl

theorem dispenseStock_some {q : Qty} {st st' : Stock} (h : dispenseStock q st = some st') :
    ∃ u' r', moveQty (· + ·) q st.used = some u' ∧ moveQty (fun a d => max 0 (a - d)) q st.remaining = some r' ∧
      st' = { used := u', remaining := r', lastDispensed := some q, dispensing := false } := by
  rw [dispenseStock_eq] at h
  obtain ⟨u', hu, h⟩ := Option.bind_eq_some_iff.mp h
  obtain ⟨r', hr, h⟩ := Option.map_eq_some_iff.mp h
  exact ⟨u', r', hu, hr, h.symm⟩

theorem moveQty_some {f : Rat → Rat → Rat} {q : Qty} {x y : Option Qty} : moveQty f q x = some y →
    match x with
    | none => y = none
    | some x0 => ∃ d, convert q.amount q.unit x0.unit = some d ∧ y = some ⟨x0.unit, f x0.amount d⟩ := by
  intro h
  cases x with
  | none => exact (Option.some.inj h).symm
  | some x0 =>
    obtain ⟨d, hd, hy⟩ := Option.map_eq_some_iff.mp h
    exact ⟨d, hd, hy.symm⟩

theorem moveQty_none {f : Rat → Rat → Rat} {q : Qty} {x : Option Qty} :
    moveQty f q x = none ↔ ∃ x0, x = some x0 ∧ convert q.amount q.unit x0.unit = none := by
  cases x with
  | none => exact ⟨nofun, nofun⟩
  | some x0 => exact Option.map_eq_none_iff.trans ⟨fun h => ⟨x0, rfl, h⟩, fun ⟨_, e, h⟩ => Option.some.inj e ▸ h⟩

theorem moveQty_unit {f : Rat → Rat → Rat} {q : Qty} {x y : Option Qty} (h : moveQty f q x = some y) :
    y.map (·.unit) = x.map (·.unit) := by
  have := moveQty_some h
  cases x with
  | none => rw [this]
  | some x0 => obtain ⟨d, _, rfl⟩ := this; rfl

theorem lookup_eq : @lookup = @Assoc.lookup Stock := by delta lookup Assoc.lookup; rfl
theorem set_eq : @set = @Assoc.set Stock := by delta set Assoc.set; rfl

theorem lookup_set_self (n : String) (v : Stock) (s : Inventory) : lookup n (set n v s) = some v := by
  rw [lookup_eq, set_eq]; exact Assoc.lookup_set_self n v s

theorem lookup_set_other {n m : String} (h : m ≠ n) (v : Stock) (s : Inventory) :
    lookup m (set n v s) = lookup m s := by
  rw [lookup_eq, set_eq]; exact Assoc.lookup_set_other h v s

/-- a dispense leaves the inventory alone or writes, under a known name, what `dispenseStock` made of its record -/
theorem dispense_cases (inv : Inventory) (name : String) (q : Qty) :
    (dispense inv name q).1 = inv ∨
    ∃ st st', lookup name inv = some st ∧ dispenseStock q st = some st' ∧ (dispense inv name q).1 = set name st' inv := by
  unfold dispense
  by_cases hn : name = ""
  · rw [if_pos hn]; exact Or.inl rfl
  · rw [if_neg hn]
    cases hl : lookup name inv with
    | none => exact Or.inl rfl
    | some st =>
      dsimp only
      cases hd : dispenseStock q st with
      | none => exact Or.inl rfl
      | some st' => exact Or.inr ⟨st, st', rfl, hd, rfl⟩

theorem mergeQty_none (q : Option Qty) : mergeQty none q = q := by
  cases q <;> rfl

theorem mergeStock_empty (st : Stock) : mergeStock emptyStock st = st := by
  obtain ⟨u, r, l, d⟩ := st
  simp [mergeStock, emptyStock, mergeQty_none]

theorem set_same {n : String} {st : Stock} : ∀ {inv : Inventory}, lookup n inv = some st → set n st inv = inv
  | [], h => by simp [lookup] at h
  | (k, w) :: rest, h => by
    by_cases hk : k = n
    · simp [lookup, hk] at h; simp [set, hk, h]
    · simp [lookup, hk] at h; simp [set, hk, set_same h]

section
attribute [local simp] intercept updateStockCode updateRemaining dispenseStock emptyStock mergeStock mergeQty_none

theorem intercept_eq (q : Qty) (old : Stock) :
    intercept true q old emptyStock =
      match dispenseStock q old with
      | some st' => (st', true)
      | none => (old, false) := by
  obtain ⟨u, r, l, d⟩ := old
  cases u with
  | none =>
    cases r with
    | none => simp
    | some r =>
      cases hc : convert q.amount q.unit r.unit <;> simp [hc]
  | some u =>
    cases hu : convert q.amount q.unit u.unit with
    | none => simp [hu]
    | some du =>
      cases r with
      | none => simp [hu]
      | some r =>
        cases hc : convert q.amount q.unit r.unit <;> simp [hu, hc]

end

theorem dispenseCode_eq (inv : Inventory) (name : String) (q : Qty) :
    dispenseCode inv name q = dispense inv name q := by
  unfold dispenseCode dispense
  by_cases hn : name = ""
  · simp [hn]
  · simp only [hn, if_false]
    cases hl : lookup name inv with
    | none => rfl
    | some st =>
      simp only [intercept_eq]
      cases hd : dispenseStock q st with
      | none => simp [set_same hl]
      | some st' => simp

end ScVerif.C20.Vending
