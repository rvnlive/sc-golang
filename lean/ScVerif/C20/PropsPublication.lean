import ScVerif.C20.PublicationLemmas
import ScVerif.C20.Fold
/-!
# C20 — property theorems, Publication

Property (fixed text, publication clause): "publication version and acknowledgement state stay
mutually consistent": version = H(id, body, media_type, audience.name) for an abstract hash `H`
(every theorem quantifies over `H`), new publish time and receipt reset on create/update,
version-checked update/delete, acknowledge protocol (version match, once only unless allow_acknowledged).
-/
namespace ScVerif.C20.Publication

/-- **Version = hash of content, after every op sequence, for every hash function.** -/
theorem C20_pub_version (H : Hash) (ops : List (Int × Op)) : ∀ s, VersionInv H s → VersionInv H (run H s ops) :=
  fun _ h => List.foldlRecOn ops _ h fun s hs o _ => inv_step H o.1 s o.2 hs

example (H : Hash) : VersionInv H [] := by intro id p h; simp [lookup] at h

/-- **Create / update mint fresh computed properties**: publish time `now`, version = hash of the stored content,
receipt reset (NO_SIGNAL, no reason, no receipt time) whatever the client sent. -/
theorem C20_pub_fresh (H : Hash) (now : Int) (s : Store) (op : Op) (id : String)
    (hop : (∃ p, op = .create p ∧ p.id = id) ∨ (∃ p m v, op = .update p m v ∧ p.id = id))
    (hok : (step H now s op).2 = .ok) :
    ∃ q, lookup id (step H now s op).1 = some q ∧ q.publishTime = some now ∧ q.version = mint H q ∧
      ∀ a, q.audience = some a → a.receipt = 1 ∧ a.reason = "" ∧ a.receiptTime = none := by
  obtain ⟨q, h⟩ := step_mints H now s op id (hop.imp_right Or.inr) hok
  exact ⟨_, h ▸ lookup_set_self _ _ _, rfl, (computed_version H now q).1, computed_audience H now q⟩

def MonoFrom : Int → List (Int × Op) → Prop
  | _, [] => True
  | t, o :: rest => t ≤ o.1 ∧ MonoFrom o.1 rest

/-- **The receipt belongs to the stored version, after every op sequence** under a clock that never goes back: no
version carries an acknowledgement older than itself. -/
theorem C20_pub_receipt_after_publish (H : Hash) (ops : List (Int × Op)) :
    ∀ (s : Store) (t : Int), RInv t s → MonoFrom t ops → ∃ t', RInv t' (run H s ops) :=
  fun s t h hm => ⟨_, foldl_rel (R := fun s t => RInv t s) (g := fun _ o => o.1) (fun _ _ _ hg => hg)
    (fun s t o hs hle => rinv_step H t o.1 s o.2 hs hle) ops s t h hm⟩

/-- the empty store satisfies the invariant; monotone sequences exist -/
example : RInv 0 [] ∧ MonoFrom 0 [(1, Op.create ⟨"p", "b", "", none, "", none⟩), (1, .ack "p" "v" 1 "late" false)] :=
  ⟨fun id p h => by simp [lookup] at h, by simp [MonoFrom]⟩

/-- **A new version never inherits receipt details — every route that mints one**: create, create with a generated
id, update under EVERY mask (also one that does not touch the audience, so that the stored audience with the previous
version's receipt is what reaches the interceptor). -/
theorem C20_pub_new_version_resets_receipt (H : Hash) (now : Int) (s : Store) (op : Op) (id : String)
    (hop : (∃ p, op = .create p ∧ p.id = id) ∨ (∃ p, op = .createGen p id) ∨
           (∃ p m v, op = .update p m v ∧ p.id = id))
    (hok : (step H now s op).2 = .ok) :
    ∃ q, lookup id (step H now s op).1 = some q ∧ q.publishTime = some now ∧
      ∀ a, q.audience = some a → a.receipt = 1 ∧ a.reason = "" ∧ a.receiptTime = none := by
  obtain ⟨q, h⟩ := step_mints H now s op id hop hok
  exact ⟨_, h ▸ lookup_set_self _ _ _, rfl, computed_audience H now q⟩

/-- the case a guard `receipt ≠ NO_SIGNAL` would miss: acknowledge with NO_SIGNAL + a reason stamps a
receipt time; a body-only update then still resets all three fields -/
example : (run (fun a _ _ _ => a) [] [(1, .create ⟨"p", "b", "", some ⟨"n", 0, "", none⟩, "", none⟩),
      (2, .ack "p" "p" 1 "why" false), (3, .update ⟨"p", "b2", "", none, "", none⟩ (.fields true false .none) "")])
    = [("p", ⟨"p", "b2", "", some ⟨"n", 1, "", none⟩, "p", some 3⟩)] := by decide

/-- **Generated ids**: creating with an empty id stores the publication under the id `g` the collection generated
(non-empty and new: what `GenerateUniqueId` guarantees and the monitor checks); no other publication changes. -/
theorem C20_pub_create_generated (H : Hash) (now : Int) (s : Store) (p : Pub) (g : String)
    (hg : g ≠ "") (hfresh : lookup g s = none) :
    (step H now s (.createGen p g)).2 = .ok ∧
    (∃ q, lookup g (step H now s (.createGen p g)).1 = some q ∧ q.id = g ∧ q.body = p.body ∧
      q.mediaType = p.mediaType ∧ q.version = mint H q ∧ q.publishTime = some now) ∧
    (∀ m, m ≠ g → lookup m (step H now s (.createGen p g)).1 = lookup m s) := by
  have hc : ¬ (g = "" ∨ (lookup g s).isSome = true) := by simp [hg, hfresh]
  simp only [step, hc, if_false]
  refine ⟨?_, ⟨_, lookup_set_self _ _ _, rfl, rfl, rfl, (computed_version H now _).1, rfl⟩, ?_⟩
  · trivial
  intro m hm
  exact lookup_set_other hm _ _

/-- **Update mask `audience.name`**: the request's audience name is stored and the new version hashes it. -/
theorem C20_pub_update_audience_name (H : Hash) (now : Int) (s : Store) (p cur : Pub) (a : Audience)
    (b m : Bool) (v : String) (hid : p.id ≠ "") (hl : lookup p.id s = some cur)
    (hv : ¬ (v ≠ "" ∧ cur.version ≠ v)) (ha : p.audience = some a) :
    ∃ q, lookup p.id (step H now s (.update p (.fields b m .name) v)).1 = some q ∧
      q.audience.map (·.name) = some a.name ∧
      q.version = H cur.id (if b then p.body else cur.body) (if m then p.mediaType else cur.mediaType) a.name := by
  simp only [step, hid, if_false, hl, hv]
  refine ⟨_, lookup_set_self _ _ _, ?_, ?_⟩
  · simp [computed, mergeAudience, ha]
  · simp [computed, mint, mergeAudience, ha]

/-- **Version-checked update and delete.** -/
theorem C20_pub_version_check (H : Hash) (now : Int) (s : Store) (cur : Pub) (id v : String)
    (hid : id ≠ "") (hl : lookup id s = some cur) (hv : v ≠ "") (hne : cur.version ≠ v) :
    (∀ p m, p.id = id → step H now s (.update p m v) = (s, .failedPrecondition)) ∧
    (∀ am, step H now s (.delete id v am) = (s, .failedPrecondition)) := by
  constructor
  · intro p m hp
    subst hp
    simp [step, hid, hl, hv, hne]
  · intro am
    simp [step, hid, hl, hv, hne]

/-- **Acknowledge protocol** on a known publication. -/
theorem C20_pub_ack (H : Hash) (now : Int) (s : Store) (cur : Pub) (id v : String) (receipt : Int)
    (reason : String) (allow : Bool) (hid : id ≠ "") (hv : v ≠ "") (hl : lookup id s = some cur) :
    (cur.version ≠ v → step H now s (.ack id v receipt reason allow) = (s, .aborted)) ∧
    (cur.version = v → acked cur = true →
      step H now s (.ack id v receipt reason allow) = (s, if allow then .ok else .failedPrecondition)) ∧
    (cur.version = v → acked cur = false →
      (step H now s (.ack id v receipt reason allow)).2 = .ok ∧
      ∃ q, lookup id (step H now s (.ack id v receipt reason allow)).1 = some q ∧
        q.audience = some ⟨(cur.audience.map (·.name)).getD "", receipt, reason, some now⟩ ∧
        q.id = cur.id ∧ q.body = cur.body ∧ q.mediaType = cur.mediaType ∧ q.version = cur.version ∧
        q.publishTime = cur.publishTime) := by
  refine ⟨fun h => ?_, fun h ha => ?_, fun h ha => ?_⟩
  · simp [step, hid, hv, hl, h]
  · simp [step, hid, hv, hl, h, ha]
  · simp only [step, hid, hv, hl, h, ha, false_or, if_false, ne_eq, not_true_eq_false, Bool.false_eq_true]
    refine ⟨?_, _, lookup_set_self _ _ _, rfl, rfl, rfl, rfl, rfl, rfl⟩
    trivial

/-- **Acknowledged once**: after ACCEPTED or REJECTED no sequence of further acknowledgements changes the record. -/
theorem C20_pub_ack_once (H : Hash) (id : String) (cur : Pub) (hacked : acked cur = true) :
    ∀ (acks : List (Int × String × Int × String × Bool)) (s : Store), lookup id s = some cur →
      lookup id (run H s (acks.map (fun a => (a.1, Op.ack id a.2.1 a.2.2.1 a.2.2.2.1 a.2.2.2.2)))) = some cur := by
  intro acks s h
  rw [run, List.foldl_map]
  exact List.foldlRecOn (motive := fun s => lookup id s = some cur) acks _ h
    fun s hs a _ => (step_ack_of_acked H a.1 _ _ _ _ hs hacked).symm ▸ hs

/-- a second acknowledgement with allow_acknowledged succeeds and changes nothing -/
example : (step (fun a _ _ _ => a) 7 [("p", ⟨"p", "b", "", some ⟨"", 2, "", some 5⟩, "p", some 1⟩)]
    (.ack "p" "p" 2 "" true)).2 = .ok := by decide

end ScVerif.C20.Publication
