import ScVerif.C20.VendingLemmas
/-!
# C20 — property theorems, Vending

Property (fixed text, vending clause): "vending dispense adds the quantity to used and subtracts it
from remaining (floored at zero) in each quantity's own unit, unit conversion round-trips within its
category and conversion errors are reported, not swallowed; … Models constructed with explicit
configuration … use it."  Quantities are exact rationals.
-/
namespace ScVerif.C20.Vending

/-- Conversion round-trips exactly (in ℚ; the code computes in floats) whenever it succeeds. -/
theorem C20_convert_roundtrip (v w : Rat) (a b : Int) (h : convert v a b = some w) :
    convert w b a = some v := by
  rcases (convert_eq_some_iff v w a b).mp h with ⟨rfl, rfl⟩ | ⟨hab, fa, fb, c, ha, hb, rfl⟩
  · exact (convert_eq_some_iff _ _ _ _).mpr (Or.inl ⟨rfl, rfl⟩)
  · -- back through the same two factors, which are not zero
    refine (convert_eq_some_iff _ _ _ _).mpr (Or.inr ⟨fun e => hab e.symm, fb, fa, c, hb, ha, ?_⟩)
    rw [Rat.div_mul_cancel (siUnit_factor_ne_zero hb), Rat.mul_div_cancel (siUnit_factor_ne_zero ha)]

/-- `unitpb.Convert` returns its error exactly for different units that are not two units of one category. -/
theorem C20_convert_error_iff (v : Rat) (a b : Int) :
    convert v a b = none ↔
      a ≠ b ∧ ¬ ∃ fa fb c, siUnit a = some (fa, c) ∧ siUnit b = some (fb, c) := by
  rw [Option.eq_none_iff_forall_ne_some]
  constructor
  · intro h
    have hab : a ≠ b := fun e => h v ((convert_eq_some_iff v v a b).mpr (Or.inl ⟨e, rfl⟩))
    exact ⟨hab, fun ⟨fa, fb, c, ha, hb⟩ =>
      h _ ((convert_eq_some_iff v _ a b).mpr (Or.inr ⟨hab, fa, fb, c, ha, hb, rfl⟩))⟩
  · rintro ⟨hab, hno⟩ w hw
    rcases (convert_eq_some_iff v w a b).mp hw with ⟨e, _⟩ | ⟨_, fa, fb, c, ha, hb, _⟩
    · exact hab e
    · exact hno ⟨fa, fb, c, ha, hb⟩

/-- the table knows litres and cubic metres: 2 m³ = 2000 l, and back -/
example : convert 2 4 3 = some 2000 ∧ convert 2000 3 4 = some 2 := by decide +kernel
/-- litres to metres is an error -/
example : convert 1 3 2 = none := by decide +kernel

/-- **Dispense on one stock record**: each present quantity moves in its own unit, remaining floored at zero. -/
theorem C20_dispense (q : Qty) (st st' : Stock) (h : dispenseStock q st = some st') :
    (match st.used with
      | none => st'.used = none
      | some u => ∃ d, convert q.amount q.unit u.unit = some d ∧ st'.used = some ⟨u.unit, u.amount + d⟩) ∧
    (match st.remaining with
      | none => st'.remaining = none
      | some r => ∃ d, convert q.amount q.unit r.unit = some d ∧
          st'.remaining = some ⟨r.unit, max 0 (r.amount - d)⟩) ∧
    st'.lastDispensed = some q ∧ st'.dispensing = false := by
  obtain ⟨u', r', hu, hr, rfl⟩ := dispenseStock_some h
  exact ⟨moveQty_some hu, moveQty_some hr, rfl, rfl⟩

/-- `updateStock` fails (the name notwithstanding: the statement characterises FAILURE) exactly when a conversion it
needs fails. -/
theorem C20_dispense_ok_iff (q : Qty) (st : Stock) :
    dispenseStock q st = none ↔
      (∃ u, st.used = some u ∧ convert q.amount q.unit u.unit = none) ∨
      (∃ r, st.remaining = some r ∧ convert q.amount q.unit r.unit = none) := by
  rw [dispenseStock_eq, Option.bind_eq_none_iff, ← moveQty_none, ← moveQty_none]
  constructor
  · intro h
    cases hu : moveQty (· + ·) q st.used with
    | none => exact Or.inl rfl
    | some u' => exact Or.inr (Option.map_eq_none_iff.mp (h u' hu))
  · rintro (h | h) u' hu
    · rw [h] at hu; cases hu
    · rw [h]; rfl

/-- **Conversion errors are reported, not swallowed, and the stock is unchanged.** -/
theorem C20_dispense_error (inv : Inventory) (name : String) (q : Qty) (st : Stock)
    (hn : name ≠ "") (hl : lookup name inv = some st)
    (hfail : (∃ u, st.used = some u ∧ convert q.amount q.unit u.unit = none) ∨
             (∃ r, st.remaining = some r ∧ convert q.amount q.unit r.unit = none)) :
    dispense inv name q = (inv, .conversionError) := by
  have := (C20_dispense_ok_iff q st).mpr hfail
  simp [dispense, hn, hl, this]

/-- the reported error is reachable: 1 kg dispensed from a stock counted in litres -/
example : dispense [("water", { used := some ⟨3, 5⟩, remaining := none })] "water" ⟨6, 1⟩
    = ([("water", { used := some ⟨3, 5⟩, remaining := none })], .conversionError) := by decide +kernel

/-- **A request without a quantity** is answered with InvalidArgument (no panic). -/
theorem C20_dispense_missing_quantity (inv : Inventory) (name : String) :
    dispenseReq inv name none = (inv, .invalidArgument) := by
  unfold dispenseReq; split <;> rfl

/-- `ModelServer.Dispense` with a quantity is `Model.DispenseInstantly`. -/
theorem C20_dispense_req (inv : Inventory) (name : String) (q : Qty) :
    dispenseReq inv name (some q) = dispense inv name q := by
  unfold dispenseReq dispense; split <;> rfl

/-- **The code's shape refines the all-or-nothing description**: `DispenseInstantly` as written (`VendingCode`)
equals `dispenseReq`, so the theorems about `dispense` / `dispenseReq` / `run` hold for the code's shape, which is
what the driver runs. -/
theorem C20_dispense_code_refines (inv : Inventory) (name : String) (q : Option Qty) :
    dispenseReqCode inv name q = dispenseReq inv name q := by
  unfold dispenseReqCode dispenseReq
  cases q <;> simp [dispenseCode_eq]

/-- **A dispense that errors commits nothing**, also when `updateStock` fails on its second conversion, after it
has written `used`. -/
theorem C20_dispense_error_commits_nothing (q : Qty) (old : Stock)
    (herr : (updateStockCode q old emptyStock).2 = false) :
    intercept true q old emptyStock = (old, false) := by
  unfold intercept
  generalize updateStockCode q old emptyStock = out at herr
  obtain ⟨dst, b⟩ := out
  simp only at herr
  subst herr
  simp [mergeStock_empty]

/-- … so the inventory after a dispense that errors is the same list, and the error is reported. -/
theorem C20_dispense_error_inventory (inv : Inventory) (name : String) (q : Qty) (st : Stock)
    (hn : name ≠ "") (hl : lookup name inv = some st)
    (herr : (updateStockCode q st emptyStock).2 = false) :
    dispenseCode inv name q = (inv, .conversionError) := by
  simp [dispenseCode, hn, hl, C20_dispense_error_commits_nothing q st herr, set_same hl]

/-- **the `proto.Reset` on the error path is necessary**: merging the old value into the half-written
message keeps the freshly computed `used.amount` when the old one is zero (proto3 merge skips
unpopulated scalars) — used in litres at 0, remaining in kilograms, 2 m³ dispensed: the call reports
the conversion error for `remaining` and yet `used` would become 2000 l. -/
theorem C20_dispense_error_needs_reset :
    ∃ (q : Qty) (old : Stock), (updateStockCode q old emptyStock).2 = false ∧
      (intercept false q old emptyStock).1 ≠ old ∧ (intercept true q old emptyStock).1 = old :=
  ⟨⟨4, 2⟩, { used := some ⟨3, 0⟩, remaining := some ⟨6, 5⟩ }, by decide +kernel, by decide +kernel, by decide +kernel⟩

/-- the second-conversion error is reachable with a non-zero `used` as well (then even the merge alone
would restore it; the theorem above does not depend on that) -/
example : (updateStockCode ⟨4, 2⟩ { used := some ⟨3, 7⟩, remaining := some ⟨6, 5⟩ } emptyStock)
    = ({ used := some ⟨3, 2007⟩, remaining := none }, false) := by decide +kernel

/-- `DispenseInstantly` touches only the stock record of the consumable it names. -/
theorem C20_dispense_frame (inv : Inventory) (name m : String) (q : Qty) (h : m ≠ name) :
    lookup m (dispense inv name q).1 = lookup m inv := by
  rcases dispense_cases inv name q with h' | ⟨_, st', _, _, h'⟩
  · rw [h']
  · rw [h', lookup_set_other h]

/-- What never changes about a record: which of used/remaining are present, and their units. -/
def shape (st : Stock) : Option Int × Option Int := (st.used.map (·.unit), st.remaining.map (·.unit))

/-- **Every Dispense sequence**: no stock record is created or dropped, and in every record exactly the quantities
that were present stay present, each in its own unit. -/
theorem C20_dispense_seq_shape (ops : List (String × Option Qty)) : ∀ (inv : Inventory) (m : String),
    (lookup m (run inv ops)).map shape = (lookup m inv).map shape := by
  intro inv0 m
  refine List.foldlRecOn (motive := fun i => (lookup m i).map shape = (lookup m inv0).map shape) ops _ rfl
    fun inv h o _ => Eq.trans ?_ h
  show (lookup m (dispenseReq inv o.1 o.2).1).map shape = (lookup m inv).map shape
  obtain ⟨oname, oq⟩ := o
  cases oq with
  | none => rw [C20_dispense_missing_quantity]
  | some q =>
    rw [C20_dispense_req]
    rcases dispense_cases inv oname q with h' | ⟨st, st', hl, hd, h'⟩
    · rw [h']
    · rw [h']
      by_cases hm : m = oname
      · -- the record written: every present quantity stays present in its own unit
        subst hm
        obtain ⟨u', r', hu, hr, rfl⟩ := dispenseStock_some hd
        rw [lookup_set_self, hl]
        simp only [Option.map_some, shape, moveQty_unit hu, moveQty_unit hr]
      · rw [lookup_set_other hm]

/-- **Options**: `WithInitialStock` reaches the inventory, `WithInitialConsumable` the consumables, in order. -/
theorem C20_vending_opts (opts : List Opt) :
    (calcModelArgs opts).consumableOptions =
      opts.flatMap (fun o => match o with | .initialConsumable ns => ns | .initialStock _ => []) ∧
    (calcModelArgs opts).inventoryOptions =
      opts.flatMap (fun o => match o with | .initialStock ns => ns | .initialConsumable _ => []) := by
  have gen : ∀ (opts : List Opt) (a : ModelArgs),
      (opts.foldl applyOpt a).consumableOptions = a.consumableOptions ++
        opts.flatMap (fun o => match o with | .initialConsumable ns => ns | .initialStock _ => []) ∧
      (opts.foldl applyOpt a).inventoryOptions = a.inventoryOptions ++
        opts.flatMap (fun o => match o with | .initialStock ns => ns | .initialConsumable _ => []) := by
    intro opts
    induction opts with
    | nil => intro a; simp
    | cons o rest ih =>
      intro a
      obtain ⟨h1, h2⟩ := ih (applyOpt a o)
      simp only [List.foldl_cons, List.flatMap_cons]
      rw [h1, h2]
      cases o <;> simp [applyOpt]
  have := gen opts {}
  simpa [calcModelArgs] using this

/-- a consumable option populates consumables, not the inventory -/
example : (calcModelArgs [.initialConsumable ["tea"]]).consumableOptions = ["tea"] ∧
    (calcModelArgs [.initialConsumable ["tea"]]).inventoryOptions = [] := by decide

end ScVerif.C20.Vending
