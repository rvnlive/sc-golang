import ScVerif.Base.Line
import ScVerif.C20.Vending
import ScVerif.C20.VendingCode
import ScVerif.C20.VendConc
import ScVerif.C20.Esc
/-! Driver ops of the Vending model: `vend.conv`, `vend.seq`, `vend.opts`, `vend.conc`. -/
namespace ScVerif.C20.Vending
open ScVerif.Line

def parseRat? (s : String) : Option Rat :=
  match s.splitOn "/" with
  | [a] => (parseInt? a).map (fun n => (n : Rat))
  | [a, b] => do
    let n ← parseInt? a
    let d ← parseNat? b
    if d = 0 then none else pure (mkRat n d)
  | _ => none

def showRat (r : Rat) : String :=
  if r.den = 1 then toString r.num else toString r.num ++ "/" ++ toString r.den

/-- `-` or `unit:amount` -/
def parseQty? (s : String) : Option (Option Qty) :=
  if s = "-" then some none
  else match s.splitOn ":" with
    | [u, a] => do
      let u ← parseInt? u
      let a ← parseRat? a
      pure (some ⟨u, a⟩)
    | _ => none

def showQty : Option Qty → String
  | none => "-"
  | some q => toString q.unit ++ ":" ++ showRat q.amount

def decName (s : String) : String := if s = "~" then "" else unesc s
def encName (s : String) : String := if s = "" then "~" else esc s

/-- `name=used;remaining` -/
def parseStock? (s : String) : Option (String × Stock) :=
  match s.splitOn "=" with
  | [n, rest] =>
    match rest.splitOn ";" with
    | [u, r] => do
      let u ← parseQty? u
      let r ← parseQty? r
      pure (decName n, { used := u, remaining := r })
    | _ => none
  | _ => none

def parseInv? (s : String) : Option Inventory :=
  if s = "-" then some [] else (s.splitOn "|").mapM parseStock?

/-- `name@unit:amount` -/
def parseOp? (s : String) : Option (String × Option Qty) :=
  match s.splitOn "@" with
  | [n, q] => do
    let q ← parseQty? q
    pure (decName n, q)
  | _ => none

def showInv (inv : Inventory) : String :=
  let sorted := inv.mergeSort (fun a b => decide (a.1 ≤ b.1))
  if sorted.isEmpty then "-"
  else " | ".intercalate (sorted.map (fun kv =>
    encName kv.1 ++ " u=" ++ showQty kv.2.used ++ " r=" ++ showQty kv.2.remaining))

def showOutcome : Outcome → String
  | .ok st => "ok ld=" ++ showQty st.lastDispensed ++ " disp=" ++ showBool st.dispensing
  | .invalidArgument => "err:InvalidArgument"
  | .notFound => "err:NotFound"
  | .conversionError => "err:Unknown"

def runSeq (inv : Inventory) (ops : List (String × Option Qty)) : String :=
  let (_, outs) := ops.foldl (fun (acc : Inventory × List String) o =>
    let (inv', out) := dispenseReqCode acc.1 o.1 o.2
    (inv', (showOutcome out ++ " # " ++ showInv inv') :: acc.2)) (inv, [])
  " ; ".intercalate outs.reverse

def decList (s : String) : List String :=
  if s = "-" || s = "" then [] else (s.splitOn ",").map unesc

def encSorted (xs : List String) : String :=
  let sorted := xs.mergeSort (fun a b => decide (a ≤ b))
  if sorted.isEmpty then "-" else ",".intercalate (sorted.map esc)

def parseOpt? (s : String) : Option Opt :=
  match s.splitOn ":" with
  | ["stock", ns] => some (.initialStock (decList ns))
  | ["cons", ns] => some (.initialConsumable (decList ns))
  | _ => none

def handle? (toks : List String) : Option String :=
  match toks with
  | ["vend.conv", v, a, b] => do
    let v ← parseRat? v
    let a ← parseInt? a
    let b ← parseInt? b
    match convert v a b with
    | some r => pure ("ok:" ++ showRat r)
    | none => pure "err"
  | "vend.seq" :: inv :: ops => do
    let inv ← parseInv? inv
    let ops ← ops.mapM parseOp?
    pure (runSeq inv ops)
  | "vend.conc" :: stock :: sched :: progs => do
    -- stock: `used;remaining`; progs: one token per thread, quantities `unit:amount` separated by `,`;
    -- sched: `,`-separated thread indices; afterwards every thread finishes in index order
    let st ← match stock.splitOn ";" with
      | [u, r] => do
        let u ← parseQty? u
        let r ← parseQty? r
        pure ({ used := u, remaining := r } : Stock)
      | _ => none
    let progs ← progs.mapM (fun p => if p = "-" then some [] else (p.splitOn ",").mapM (fun q => do
      let q ← parseQty? q
      q))
    let sched ← (if sched = "-" then some [] else (sched.splitOn ",").mapM (fun s => (parseNat? s).map Gau.Ev.step))
    let c0 : Gau.Cfg Stock Unit := ⟨st, 0, progs.map (fun p => Gau.Thread.ofCalls (p.map dispenseCall))⟩
    let c1 := c0.run sched
    let c2 := c1.run (Gau.drainSched c1.threads)
    -- a committed call answers the conversion error when its quantity cannot be converted for the record it
    -- returned (which is then the unchanged record; presence and units never change)
    let showRes (q : Qty) : Gau.Res Stock Unit → String
      | .ok r => if (dispenseStock q r).isNone then "err:Unknown" else "ok"
      | .err _ => "err"
      | .aborted => "err:Aborted"
    let amp (xs : List String) : String := if xs.isEmpty then "-" else "&".intercalate xs
    let showTh (p : List Qty × Gau.Thread Stock Unit) : String :=
      (if p.2.cur.isSome || !p.2.todo.isEmpty then "unfinished:" else "") ++
      amp ((p.1.zip p.2.results.reverse).map (fun qr => showRes qr.1 qr.2)) ++ "/" ++ amp (p.2.results.map (fun _ => "rl"))
    pure ("u=" ++ showQty c2.store.used ++ " r=" ++ showQty c2.store.remaining ++ " ld=" ++ showQty c2.store.lastDispensed
      ++ " # " ++ " ; ".intercalate ((progs.zip c2.threads).map showTh))
  | "vend.opts" :: opts => do
    let opts ← opts.mapM parseOpt?
    let a := calcModelArgs opts
    pure ("inv=" ++ encSorted a.inventoryOptions ++ " cons=" ++ encSorted a.consumableOptions)
  | _ => none

end ScVerif.C20.Vending
