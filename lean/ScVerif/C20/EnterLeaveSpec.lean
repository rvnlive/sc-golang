import ScVerif.C20.EnterLeave
/-! The totals as two counters: the saturating specification is what the code refines without hypothesis
(`adjust_refines_sat`); the plain one is its restriction below the int32 maximum (`satAdjust_of_lt`). -/
namespace ScVerif.C20.EnterLeave

abbrev Counters := Int × Int

/-- plain counter: an explicit different total replaces, otherwise add one when the direction matches -/
def specAdjust (val : Option Int) (cur : Int) (inc : Bool) : Int :=
  match val with
  | some v => if v ≠ cur then v else cur + (if inc then 1 else 0)
  | none => cur + (if inc then 1 else 0)

def specStep (c : Counters) : Op → Counters
  | .event ev => (specAdjust ev.enterTotal c.1 (ev.direction == 1), specAdjust ev.leaveTotal c.2 (ev.direction == 2))
  | .reset => (0, 0)

/-- saturating counter: the same, but a counter at the int32 maximum stays there -/
def satAdjust (val : Option Int) (cur : Int) (inc : Bool) : Int :=
  match val with
  | some v => if v ≠ cur then v else min (cur + (if inc then 1 else 0)) (max cur maxInt32)
  | none => min (cur + (if inc then 1 else 0)) (max cur maxInt32)

def satStep (c : Counters) : Op → Counters
  | .event ev => (satAdjust ev.enterTotal c.1 (ev.direction == 1), satAdjust ev.leaveTotal c.2 (ev.direction == 2))
  | .reset => (0, 0)

/-- the stored event carries the counters (an absent total counts as 0, as in the code) -/
def Refines (s : Event) (c : Counters) : Prop :=
  s.enterTotal.getD 0 = c.1 ∧ s.leaveTotal.getD 0 = c.2

def Safe (c : Counters) : Prop := c.1 < maxInt32 ∧ c.2 < maxInt32

/-- every state the spec passes through (before each op) is safe -/
def SafeRun : Counters → List Op → Prop
  | _, [] => True
  | c, o :: rest => Safe c ∧ SafeRun (specStep c o) rest

/-- a counter below the maximum goes up by one, one at it stays: the minimum with `max c maxInt32` -/
theorem bump_sat (c : Int) (inc : Bool) :
    bump c inc = min (c + (if inc then 1 else 0)) (max c maxInt32) := by
  unfold bump
  cases inc with
  | false =>
    rw [if_neg (fun h => nomatch h.1), if_neg Bool.false_ne_true, Int.add_zero,
      Int.min_eq_left (Int.le_max_left _ _)]
  | true =>
    rw [if_pos rfl]
    by_cases h : c < maxInt32
    · rw [if_pos ⟨rfl, h⟩, Int.max_eq_right (Int.le_of_lt h), Int.min_eq_left h]
    · rw [if_neg (fun h' => h h'.2), Int.max_eq_left (Int.not_lt.mp h),
        Int.min_eq_right (Int.le_add_of_nonneg_right (by decide))]

theorem adjustTotal_isSome (val cur : Option Int) (inc : Bool) : (adjustTotal val cur inc).isSome := by
  unfold adjustTotal
  cases val with
  | none => rfl
  | some v =>
    dsimp only
    split
    · rfl
    · rfl

theorem adjust_refines_sat (val cur : Option Int) (c : Int) (inc : Bool) (h : cur.getD 0 = c) :
    (adjustTotal val cur inc).getD 0 = satAdjust val c inc := by
  unfold adjustTotal satAdjust
  simp only [h]
  cases val with
  | none => simp [bump_sat]
  | some v =>
    by_cases hv : v = c
    · subst hv; simp [bump_sat]
    · simp [hv]

theorem satAdjust_of_lt (val : Option Int) {c : Int} (inc : Bool) (h : c < maxInt32) :
    satAdjust val c inc = specAdjust val c inc := by
  have : min (c + if inc = true then 1 else 0) (max c maxInt32) = c + if inc = true then 1 else 0 := by
    rw [Int.max_eq_right (Int.le_of_lt h)]
    exact Int.min_eq_left (by cases inc <;> simp <;> omega)
  unfold satAdjust specAdjust
  rw [this]

theorem adjust_nonneg (val cur : Option Int) (inc : Bool) (hc : 0 ≤ cur.getD 0) (hv : ∀ v, val = some v → 0 ≤ v) :
    0 ≤ (adjustTotal val cur inc).getD 0 := by
  unfold adjustTotal bump
  cases val with
  | none => simp only [Option.getD_some]; split <;> omega
  | some v =>
    have := hv v rfl
    simp only
    split
    · simpa using this
    · simp only [Option.getD_some]; split <;> omega

end ScVerif.C20.EnterLeave
