import ScVerif.Base.Line
import ScVerif.C20.Mode
import ScVerif.C20.EnterLeave
import ScVerif.C20.Meter
import ScVerif.C20.MeterConc
import ScVerif.C20.ElConc
import ScVerif.C20.ModeFanConc
import ScVerif.C20.Esc
/-! Driver ops of the Mode (`mode.seq`, `mode.conc`), EnterLeave (`el.seq`, `el.conc`) and Meter (`meter.seq`,
`meter.conc`) models. -/
namespace ScVerif.C20
open ScVerif.Line

def decListC (s : String) : List String :=
  if s = "-" || s = "" then [] else s.splitOn ","

namespace Mode

def parseModes? (s : String) : Option (List ModeDef) :=
  if s = "-" then some []
  else (s.splitOn "/").mapM (fun part =>
    match part.splitOn ":" with
    | [n, vs] => some ⟨unesc n, (decListC vs).map unesc⟩
    | _ => none)

def showModes (ms : List ModeDef) : String :=
  if ms.isEmpty then "-"
  else "/".intercalate (ms.map (fun m => esc m.name ++ ":" ++ (if m.values.isEmpty then "-" else ",".intercalate (m.values.map esc))))

def parseKV? (s : String) : Option (List (String × String)) :=
  (decListC s).mapM (fun kv =>
    match kv.splitOn "=" with
    | [k, v] => some (unesc k, unesc v)
    | _ => none)

def showValues (vs : Values) : String :=
  let sorted := vs.mergeSort (fun a b => decide (a.1 ≤ b.1))
  if sorted.isEmpty then "-" else ",".intercalate (sorted.map (fun kv => esc kv.1 ++ "=" ++ esc kv.2))

def parseReq? (s : String) : Option Request :=
  match s.splitOn "|" with
  | [mask, vals, rel] => do
    let mask ← if mask = "none" then some Mask.none else if mask = "values" then some Mask.values else none
    let vals ← parseKV? vals
    let rel ← (← parseKV? rel).mapM (fun kv => (parseInt? kv.2).map (fun k => (kv.1, k)))
    -- the request's map has unique keys; build it with `set` so the model sees a map
    pure ⟨vals.foldl (fun acc kv => set kv.1 kv.2 acc) [], rel, mask⟩
  | _ => none

def runSeq (modes : List ModeDef) (reqs : List Request) : String :=
  match newModelModes modes with
  | none => "new:panic"
  | some m =>
    let init := "init:" ++ showModes m.modes ++ "#" ++ showValues m.values
    let (_, outs) := reqs.foldl (fun (acc : Model × List String) r =>
      let m' := acc.1.step r
      (m', ("ok#" ++ showValues m'.values) :: acc.2)) (m, [init])
    ";".intercalate outs.reverse

def handle? (toks : List String) : Option String :=
  match toks with
  | "mode.seq" :: modes :: reqs => do
    let modes ← parseModes? modes
    let reqs ← reqs.mapM parseReq?
    pure (runSeq modes reqs)
  | "mode.conc" :: modes :: sched :: progs => do
    -- progs: one token per thread, requests separated by `;`; sched: `,`-separated thread steps
    let modes ← parseModes? modes
    let progs ← progs.mapM (fun p => if p = "-" then some [] else (p.splitOn ";").mapM parseReq?)
    let sched ← (if sched = "-" then some [] else (sched.splitOn ",").mapM (fun s => (parseNat? s).map Gau.Ev.step))
    match newModelModes modes with
    | none => pure "new:panic"
    | some m =>
      let c0 : Gau.Cfg Values Unit := ⟨m.values, 0, progs.map (fun p => Gau.Thread.ofCalls (p.map (requestCall modes)))⟩
      let c1 := c0.run sched
      let c2 := c1.run (Gau.drainSched c1.threads)
      let showRes : Gau.Res Values Unit → String
        | .ok _ => "ok"
        | .err _ => "err"
        | .aborted => "Aborted"
      let amp (xs : List String) : String := if xs.isEmpty then "-" else "&".intercalate xs
      let showTh (th : Gau.Thread Values Unit) : String :=
        (if th.cur.isSome || !th.todo.isEmpty then "unfinished:" else "") ++
        amp (th.results.reverse.map showRes) ++ ":" ++ amp (th.results.map (fun _ => "rl"))
      pure (showValues c2.store ++ "#" ++ ";".intercalate (c2.threads.map showTh))
  | _ => none

end Mode

namespace EnterLeave

def parseOptInt? (s : String) : Option (Option Int) :=
  if s = "-" then some none else (parseInt? s).map some

def showOptInt : Option Int → String
  | none => "-"
  | some i => toString i

def showEvent (e : Event) : String :=
  let occ := match e.occupant with
    | none => "-"
    | some n => if n = "" then "~" else n
  toString e.direction ++ "," ++ occ ++ "," ++ showOptInt e.enterTotal ++ "," ++ showOptInt e.leaveTotal

def parseOp? (s : String) : Option Op :=
  if s = "reset" then some .reset
  else match s.splitOn ":" with
    | ["ev", d, occ, e, l] => do
      let d ← parseInt? d
      let e ← parseOptInt? e
      let l ← parseOptInt? l
      pure (.event ⟨d, if occ = "-" then none else some occ, e, l⟩)
    | _ => none

def handle? (toks : List String) : Option String :=
  match toks with
  | "el.seq" :: init :: ops =>
    match init.splitOn "/" with
    | [e, l] => do
      let e ← parseOptInt? e
      let l ← parseOptInt? l
      let ops ← ops.mapM parseOp?
      let s0 : Event := ⟨0, none, e, l⟩
      let (_, outs) := ops.foldl (fun (acc : Event × List String) o =>
        let s' := step acc.1 o
        (s', ("ok#" ++ showEvent s') :: acc.2)) (s0, ["init#" ++ showEvent s0])
      pure (";".intercalate outs.reverse)
    | _ => none
  | "el.conc" :: init :: sched :: progs =>
    -- progs: one token per thread, ops separated by `;`; sched: `,`-separated events (`<n>` thread step)
    match init.splitOn "/" with
    | [e, l] => do
      let e ← parseOptInt? e
      let l ← parseOptInt? l
      let progs ← progs.mapM (fun p => if p = "-" then some [] else (p.splitOn ";").mapM parseOp?)
      let sched ← (if sched = "-" then some [] else (sched.splitOn ",").mapM (fun s =>
        if s.startsWith "+" then (parseNat? (s.drop 1).toString).map Gau.Ev.tick else (parseNat? s).map Gau.Ev.step))
      let c0 : Gau.Cfg Event Unit := ⟨⟨0, none, e, l⟩, 0, progs.map (fun p => Gau.Thread.ofCalls (p.map opCall))⟩
      let c1 := c0.run sched
      let c2 := c1.run (Gau.drainSched c1.threads)
      let showRes : Gau.Res Event Unit → String
        | .ok _ => "ok"
        | .err _ => "err"
        | .aborted => "Aborted"
      let amp (xs : List String) : String := if xs.isEmpty then "-" else "&".intercalate xs
      let showTh (th : Gau.Thread Event Unit) : String :=
        (if th.cur.isSome || !th.todo.isEmpty then "unfinished:" else "") ++
        amp (th.results.reverse.map showRes) ++ ":" ++ amp (th.results.map (fun _ => "rl"))
      pure (showEvent c2.store ++ "#" ++ ";".intercalate (c2.threads.map showTh))
    | _ => none
  | _ => none

end EnterLeave

namespace Meter

def parseOptInt? (s : String) : Option (Option Int) :=
  if s = "-" then some none else (parseInt? s).map some

def showOptInt : Option Int → String
  | none => "-"
  | some i => toString i

def showReading (r : Reading) : String :=
  r.usage ++ "," ++ showOptInt r.start ++ "," ++ showOptInt r.stop

/-- `rec:<usage>@<dt>` | `reset@<dt>`: dt is the clock advance before the op -/
def parseOp? (s : String) : Option (Option String × Int) :=
  match s.splitOn "@" with
  | [op, dt] => do
    let dt ← parseInt? dt
    if op = "reset" then pure (none, dt)
    else match op.splitOn ":" with
      | ["rec", u] => pure (some u, dt)
      | _ => none
  | _ => none

def parseInit? (init : String) : Option Reading :=
  if init = "-" then some (⟨"0", none, none⟩ : Reading)
  else match init.splitOn "," with
    | [u, s, e] => do
      let s ← parseOptInt? s
      let e ← parseOptInt? e
      pure ⟨u, s, e⟩
    | _ => none

def parseCall? (s : String) : Option MCall :=
  if s = "z" then some resetCall
  else if s.startsWith "r" && s.length > 1 then some (recordCall (s.drop 1).toString)
  else none

def parseEv? (s : String) : Option Gau.Ev :=
  if s.startsWith "+" then (parseNat? (s.drop 1).toString).map Gau.Ev.tick
  else (parseNat? s).map Gau.Ev.step

def showRes : Gau.Res Reading Unit → String
  | .ok r => "ok=" ++ showReading r
  | .err _ => "err"
  | .aborted => "Aborted"

def encAmp (xs : List String) : String := if xs.isEmpty then "-" else "&".intercalate xs

def handle? (toks : List String) : Option String :=
  match toks with
  | "meter.seq" :: t0 :: init :: ops => do
    let t0 ← parseInt? t0
    let init ← parseInit? init
    let ops ← ops.mapM parseOp?
    let r0 := newModel init t0
    let (_, _, outs) := ops.foldl (fun (acc : Reading × Int × List String) o =>
      let now := acc.2.1 + o.2
      let r' := match o.1 with
        | some u => step acc.1 (.record u now)
        | none => step acc.1 (.reset now)
      (r', now, ("ok#" ++ showReading r') :: acc.2.2)) (r0, t0, ["init#" ++ showReading r0])
    pure (";".intercalate outs.reverse)
  | ["meter.conc", t0, init, progs, sched] => do
    -- progs: threads separated by `|`, calls by `,` (`r<usage>` = RecordReading, `z` = Reset);
    -- sched: `,`-separated events (`<n>` = thread n takes one atomic step, `+<d>` = the clock advances);
    -- after the schedule every thread, in index order, runs to completion (`drainSched`).
    let t0 ← parseInt? t0
    let init ← parseInit? init
    let progs ← (progs.splitOn "|").mapM (fun p => (decListC p).mapM parseCall?)
    let sched ← (decListC sched).mapM parseEv?
    let c0 : MCfg := ⟨newModel init t0, t0, progs.map Gau.Thread.ofCalls⟩
    let c1 := c0.run sched
    let c2 := c1.run (Gau.drainSched c1.threads)
    let showTh (p : List MCall × MThread) : String :=
      (if p.2.cur.isSome || !p.2.todo.isEmpty then "unfinished:" else "") ++
      encAmp (p.2.results.reverse.map showRes) ++ ":" ++ encAmp (p.1.map (fun c => if c.early then "crl" else "rcl"))
    pure (showReading c2.store ++ "#" ++ ";".intercalate ((progs.zip c2.threads).map showTh))
  | _ => none

end Meter
end ScVerif.C20
