import ScVerif.C20.Mode
import ScVerif.C20.Assoc
/-! Go's truncated `%` with the correction for a negative remainder is the Euclidean remainder (`goWrap`), so the index
`relativeAdjustment` computes lies inside the list; `indexOf` is the library's `findIdx?`. -/
namespace ScVerif.C20.Mode

theorem lookup_eq : @lookup = @Assoc.lookup String := by delta lookup Assoc.lookup; rfl
theorem set_eq : @set = @Assoc.set String := by delta set Assoc.set; rfl

theorem lookup_set_self (n : String) (v : String) (s : Values) : lookup n (set n v s) = some v := by
  rw [lookup_eq, set_eq]; exact Assoc.lookup_set_self n v s

theorem lookup_set_other {n m : String} (h : m ≠ n) (v : String) (s : Values) :
    lookup m (set n v s) = lookup m s := by
  rw [lookup_eq, set_eq]; exact Assoc.lookup_set_other h v s

/-- `x % n` in Go truncates towards zero; adding `n` to a negative remainder gives the Euclidean one -/
theorem goWrap (x n : Int) (hn : 0 < n) :
    (if x.tmod n < 0 then n + x.tmod n else x.tmod n) = x % n := by
  have h1 := Int.emod_nonneg x (Int.ne_of_gt hn)
  have h2 := Int.emod_lt_of_pos x hn
  have h3 : (n.natAbs : Int) = n := Int.natAbs_of_nonneg (Int.le_of_lt hn)
  rw [Int.tmod_eq_emod]
  by_cases hc : 0 ≤ x ∨ n ∣ x
  · -- the truncated remainder is the Euclidean one, which is not negative: no correction
    rw [if_pos hc, Int.natCast_zero, Int.sub_zero, if_neg (Int.not_lt.mpr h1)]
  · -- the truncated remainder is `x % n - n < 0`; adding `n` restores `x % n`
    rw [if_neg hc, h3, if_pos (by omega)]
    omega

theorem wrapIndex_eq (i : Nat) (adj : Int) (len : Nat) (h : 0 < len) :
    wrapIndex i adj len = ((i : Int) + adj) % (len : Int) := by
  unfold wrapIndex
  exact goWrap _ _ (by omega)

theorem wrapIndex_bounds (i : Nat) (adj : Int) {len : Nat} (h : 0 < len) :
    wrapIndex i adj len = ((i : Int) + adj) % (len : Int) ∧ 0 ≤ ((i : Int) + adj) % (len : Int) ∧
      (((i : Int) + adj) % (len : Int)).toNat < len := by
  have h1 := Int.emod_nonneg ((i : Int) + adj) (b := (len : Int)) (by omega)
  have h2 := Int.emod_lt_of_pos ((i : Int) + adj) (b := (len : Int)) (by omega)
  exact ⟨wrapIndex_eq i adj len h, h1, by omega⟩

theorem any_isEmpty_iff (modes : List ModeDef) :
    modes.any (fun m => m.values.isEmpty) = true ↔ ∃ md ∈ modes, md.values = [] := by
  rw [List.any_eq_true]
  exact ⟨fun ⟨md, h, he⟩ => ⟨md, h, List.isEmpty_iff.mp he⟩, fun ⟨md, h, he⟩ => ⟨md, h, List.isEmpty_iff.mpr he⟩⟩

theorem indexOf_eq (vs : List String) (v : String) : indexOf vs v = vs.findIdx? (· == v) := by
  induction vs with
  | nil => rfl
  | cons x xs ih => simp only [indexOf, List.findIdx?_cons, ih, beq_iff_eq]

theorem indexOf_lt : ∀ (vs : List String) (v : String) (i : Nat), indexOf vs v = some i → i < vs.length
  | vs, v, _, h => (List.findIdx?_eq_some_iff_getElem.mp (indexOf_eq vs v ▸ h)).1

theorem indexOf_getElem (vs : List String) (hnd : vs.Nodup) (j : Nat) (hj : j < vs.length) :
    indexOf vs vs[j] = some j := by
  rw [indexOf_eq]
  refine List.findIdx?_eq_some_iff_getElem.mpr ⟨hj, beq_self_eq_true _, fun k hk h => ?_⟩
  exact absurd ((List.getElem_inj hnd).mp (beq_iff_eq.mp h)) (Nat.ne_of_lt hk)

theorem update_rel_single (modes : List ModeDef) (old : Values) (n : String) (k : Int) (mask : Mask) (x : String)
    (h : relativeOne modes old [] n k = [(n, x)]) :
    lookup n (update modes old [] [(n, k)] mask) = some x := by
  unfold update
  simp only [List.foldl_cons, List.foldl_nil, h]
  cases mask with
  | none => simp [lookup]
  | values => simp [lookup_set_self]

theorem initialValues_spec : ∀ (modes : List ModeDef) (acc : Values), (modes.map (·.name)).Nodup →
    (∀ md ∈ modes, lookup md.name (modes.foldl (fun acc m => set m.name (m.values.headD "") acc) acc)
        = some (md.values.headD "")) ∧
    (∀ n, n ∉ modes.map (·.name) →
        lookup n (modes.foldl (fun acc m => set m.name (m.values.headD "") acc) acc) = lookup n acc) := by
  intro modes
  induction modes with
  | nil => intro acc _; exact ⟨by simp, by simp⟩
  | cons m rest ih =>
    intro acc hnd
    simp only [List.map_cons, List.nodup_cons] at hnd
    obtain ⟨h1, h2⟩ := ih (set m.name (m.values.headD "") acc) hnd.2
    constructor
    · intro md hmd
      rcases List.mem_cons.mp hmd with rfl | hmd
      · simp only [List.foldl_cons]; rw [h2 _ hnd.1, lookup_set_self]
      · exact h1 md hmd
    · intro n hn
      simp only [List.map_cons, List.mem_cons, not_or] at hn
      simp only [List.foldl_cons]
      rw [h2 n hn.2, lookup_set_other hn.1]

theorem availableValues_nil_iff (modes : List ModeDef) (hne : ∀ md ∈ modes, md.values ≠ []) (n : String) :
    availableValues modes n = [] ↔ n ∉ modes.map (·.name) := by
  induction modes with
  | nil => simp [availableValues]
  | cons md rest ih =>
    have ih := ih (fun x hx => hne x (List.mem_cons_of_mem _ hx))
    unfold availableValues
    by_cases h : md.name = n
    · simp [h, hne md (List.mem_cons_self ..)]
    · have h' : ¬ n = md.name := fun e => h e.symm
      simp [h, h', ih]

end ScVerif.C20.Mode
