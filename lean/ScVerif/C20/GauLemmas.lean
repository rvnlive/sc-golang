import ScVerif.C20.Gau
/-!
# C20 — the generic interleaving theorem (lemmas)

For a time-indexed invariant `I s now` that is monotone in `now` (a bound "not in the future" stays true
as time passes): if every call either reads the clock inside the transaction and its sequential effect
preserves `I` **at the instant it read** (`I o t → I (apply o t) t`), or reads the clock early but
establishes `I` whatever it overwrites (`I (apply o t) t` for all `o`), then `I store now` holds after
every interleaving of any number of threads running any programs of such calls, with any amount of time
passing between steps; and every value a call returns satisfied `I` at some instant.

The reason is local: the value a late call read satisfied `I` when it was read, hence (monotonicity) at
the later instant `t` the call read the clock; compare-and-commit only writes when the store still
equals the value read, so what is written is the sequential effect on the *current* store at an instant
`t ≤ now`.  A call that read the clock early has no such link between `t` and the value it later reads.

Every fact about threads, here and in `GauLin` / `GauRetry`, has one shape (`Thread.All`: a predicate of the
thread's calls, one of the phase of the call in progress, one of its results).  `callStep_cases` is the one case
analysis of an atomic step; `Thread.All.step` carries what such a step keeps to a thread step, `run_keeps` to every
schedule.
-/
namespace ScVerif.C20.Gau

variable {σ ε : Type}

def Call.OK (I : σ → Int → Prop) (c : Call σ ε) : Prop :=
  (c.early = false → ∀ o t, I o t → c.check o = none → I (c.apply o t) t) ∧
  (c.early = true → ∀ o t, I (c.apply o t) t)

/-- what is known of a call in phase `p`: a clock reading is not in the future; a call that reads the clock
inside the transaction read a value that satisfied `I` — at the instant of its clock reading, once it has
one — and that passed its checks -/
def PhaseInv (I : σ → Int → Prop) (c : Call σ ε) (now : Int) : Phase σ → Prop
  | .start => True
  | .haveOld o => I o now
  | .haveT t => t ≤ now ∧ c.early = true
  | .both o t => t ≤ now ∧ (c.early = false → I o t ∧ c.check o = none)
  | .ready o t => t ≤ now ∧ (c.early = false → I o t ∧ c.check o = none)

def ResOk (I : σ → Int → Prop) : Res σ ε → Prop
  | .ok r => ∃ t, I r t
  | _ => True

def Res.isOk : Res σ ε → Bool
  | .ok _ => true
  | _ => false

/-- the shape of a fact about one thread: `S` of each of its calls (in progress or still to make), `Ph` of the call in
progress and its phase, `R` of each of its results -/
structure Thread.All (S : Call σ ε → Prop) (Ph : Call σ ε → Phase σ → Prop) (R : Res σ ε → Prop)
    (th : Thread σ ε) : Prop where
  cur : ∀ c p, th.cur = some (c, p) → S c ∧ Ph c p
  todo : ∀ c ∈ th.todo, S c
  results : ∀ r ∈ th.results, R r

/- `ThreadInv` / `GInv` with `PhaseInv`: the time-indexed invariant as a record; `run_inv` reads its fields `store` and
`results`, and no property theorem states it.  Every step keeps it, but at the lock it does not say that a call that
read the clock EARLY passed its checks, which the legality of the log needs with no hypothesis on the calls.  The proofs
carry `Keeps` (with `PhaseK`) below, which has that one fact as well, and this record follows (`Keeps.ginv`). -/
structure ThreadInv (I : σ → Int → Prop) (now : Int) (th : Thread σ ε) : Prop where
  cur : ∀ c p, th.cur = some (c, p) → c.OK I ∧ PhaseInv I c now p
  todo : ∀ c ∈ th.todo, c.OK I
  results : ∀ r ∈ th.results, ResOk I r

structure GInv (I : σ → Int → Prop) (c : Cfg σ ε) : Prop where
  store : I c.store c.now
  threads : ∀ th ∈ c.threads, ThreadInv I c.now th

abbrev Mono (I : σ → Int → Prop) : Prop := ∀ s t t', t ≤ t' → I s t → I s t'

/-- what is known of a call in phase `p`: as `PhaseInv`, and in addition the value read passed the call's checks once
they have run (the addition is at the lock, for a call that reads the clock early) -/
def PhaseK (I : σ → Int → Prop) (c : Call σ ε) (now : Int) : Phase σ → Prop
  | .start => True
  | .haveOld o => I o now
  | .haveT t => t ≤ now ∧ c.early = true
  | .both o t => t ≤ now ∧ (c.early = false → I o t ∧ c.check o = none)
  | .ready o t => t ≤ now ∧ c.check o = none ∧ (c.early = false → I o t)

/-- the invariant of the interleaving model for `I`: `GInv I` with `PhaseK` in place of `PhaseInv` -/
def Keeps (I : σ → Int → Prop) (c : Cfg σ ε) : Prop :=
  I c.store c.now ∧ ∀ th ∈ c.threads, th.All (Call.OK I) (PhaseK I · c.now) (ResOk I)

theorem PhaseK.inv {I : σ → Int → Prop} {c : Call σ ε} {now : Int} {p : Phase σ} (h : PhaseK I c now p) :
    PhaseInv I c now p := by
  cases p with
  | ready o t => exact ⟨h.1, fun he => ⟨h.2.2 he, h.2.1⟩⟩
  | _ => exact h

theorem PhaseK.mono {I : σ → Int → Prop} (hm : Mono I) {c : Call σ ε} {now : Int} {p : Phase σ}
    (h : PhaseK I c now p) (d : Nat) : PhaseK I c (now + d) p := by
  have hd : now ≤ now + d := Int.le_add_of_nonneg_right (Int.natCast_nonneg d)
  cases p with
  | start => trivial
  | haveOld o => exact hm _ _ _ hd h
  | haveT t => exact ⟨Int.le_trans h.1 hd, h.2⟩
  | both o t => exact ⟨Int.le_trans h.1 hd, h.2⟩
  | ready o t => exact ⟨Int.le_trans h.1 hd, h.2⟩

/-- The one case analysis of an atomic step of a call.  Either it is no commit: the store is left alone, a result
that ends the call is an error or a refusal (`isOk = false`; no refusal for a call that is made again), and what is
known of the call is kept for every `I` (`PhaseK`; `I` is quantified here because the step does not depend on it).
Or it is the commit of a call at the lock that had read exactly the stored value. -/
theorem callStep_cases [DecidableEq σ] (store : σ) (now : Int) (c : Call σ ε) (p : Phase σ) :
    ((callStep store now c p).1 = store ∧
      (∀ r, (callStep store now c p).2.2 = some r → r.isOk = false ∧ (c.retry = true → r ≠ .aborted)) ∧
      ∀ I : σ → Int → Prop, I store now → PhaseK I c now p → PhaseK I c now (callStep store now c p).2.1) ∨
    ∃ t, p = .ready store t ∧
      callStep store now c p = (c.apply store t, .start, some (.ok (c.apply store t))) := by
  cases p with
  | start =>
    left
    simp only [callStep]
    cases he : c.early with
    | true => exact ⟨rfl, fun r h => (nomatch h), fun _ _ _ => ⟨Int.le_refl _, he⟩⟩
    | false => exact ⟨rfl, fun r h => (nomatch h), fun _ hs _ => hs⟩
  | haveOld o =>
    left
    simp only [callStep]
    cases hck : c.check o with
    | some e => exact ⟨rfl, fun r h => by cases h; exact ⟨rfl, fun _ => nofun⟩, fun _ _ _ => trivial⟩
    | none =>
      cases c.timed with
      | true => exact ⟨rfl, fun r h => (nomatch h), fun _ _ hp => ⟨Int.le_refl _, fun _ => ⟨hp, hck⟩⟩⟩
      | false => exact ⟨rfl, fun r h => (nomatch h), fun _ _ hp => ⟨Int.le_refl _, hck, fun _ => hp⟩⟩
  | haveT t =>
    exact Or.inl ⟨rfl, fun r h => (nomatch h), fun _ _ hp => ⟨hp.1, fun he => absurd (hp.2.symm.trans he) nofun⟩⟩
  | both o t =>
    left
    simp only [callStep]
    cases he : c.early with
    | false => exact ⟨rfl, fun r h => (nomatch h), fun _ _ hp => ⟨hp.1, (hp.2 he).2, fun _ => (hp.2 he).1⟩⟩
    | true =>
      cases hck : c.check o with
      | some e => exact ⟨rfl, fun r h => by cases h; exact ⟨rfl, fun _ => nofun⟩, fun _ _ _ => trivial⟩
      | none =>
        exact ⟨rfl, fun r h => (nomatch h), fun _ _ hp => ⟨hp.1, hck, fun h => absurd (he.symm.trans h) nofun⟩⟩
  | ready o t =>
    by_cases heq : store = o
    · subst heq
      exact Or.inr ⟨t, rfl, by simp only [callStep, if_pos]⟩
    · left
      simp only [callStep, if_neg heq]
      cases c.retry with
      | false => exact ⟨rfl, fun r h => by cases h; exact ⟨rfl, nofun⟩, fun _ _ _ => trivial⟩
      | true => exact ⟨rfl, fun r h => (nomatch h), fun _ _ _ => trivial⟩

/-- Every atomic step keeps `I` of the store together with `PhaseK`: a commit writes the call's effect on the value it read, which
satisfied `I` at the call's clock reading (or the call establishes `I` whatever it overwrites) -/
theorem callStep_keeps [DecidableEq σ] {I : σ → Int → Prop} (hm : Mono I) (store : σ) (now : Int) (c : Call σ ε)
    (p : Phase σ) (hc : c.OK I) (hs : I store now) (hp : PhaseK I c now p) :
    I (callStep store now c p).1 now ∧ PhaseK I c now (callStep store now c p).2.1 ∧
    ∀ r, (callStep store now c p).2.2 = some r → ResOk I r := by
  rcases callStep_cases store now c p with ⟨h1, h2, h3⟩ | ⟨t, rfl, hcs⟩
  · rw [h1]
    refine ⟨hs, h3 I hs hp, fun r hr => ?_⟩
    have := (h2 r hr).1
    cases r with
    | ok _ => cases this
    | _ => trivial
  · have hnew : I (c.apply store t) t := by
      cases he : c.early with
      | false => exact hc.1 he store t (hp.2.2 he) hp.2.1
      | true => exact hc.2 he store t
    rw [hcs]
    exact ⟨hm _ _ _ hp.1 hnew, trivial, fun r hr => by cases hr; exact ⟨t, hnew⟩⟩

/-- The one case analysis of a thread step: idle, or one atomic step of a call `c` in phase `p` (the call in
progress, or the next call of the program from `.start`), after which the call goes on in its new phase or has ended
with a result `r`. -/
theorem threadStep_cases [DecidableEq σ] (store : σ) (now : Int) (th : Thread σ ε) :
    threadStep store now th = (store, th) ∨
    ∃ c p todo, (th.cur = some (c, p) ∧ th.todo = todo ∨ th.cur = none ∧ p = .start ∧ th.todo = c :: todo) ∧
      (threadStep store now th =
            ((callStep store now c p).1, ⟨some (c, (callStep store now c p).2.1), todo, th.results⟩) ∧
          (callStep store now c p).2.2 = none ∨
        ∃ r, threadStep store now th = ((callStep store now c p).1, ⟨none, todo, r :: th.results⟩) ∧
          (callStep store now c p).2.2 = some r) := by
  obtain ⟨cur, todo, results⟩ := th
  have go : ∀ c p todo', (threadGo store now results c p todo' =
        ((callStep store now c p).1, ⟨some (c, (callStep store now c p).2.1), todo', results⟩) ∧
      (callStep store now c p).2.2 = none) ∨
      ∃ r, threadGo store now results c p todo' = ((callStep store now c p).1, ⟨none, todo', r :: results⟩) ∧
        (callStep store now c p).2.2 = some r := by
    intro c p todo'
    unfold threadGo
    generalize callStep store now c p = out
    obtain ⟨s', p', r⟩ := out
    cases r with
    | none => exact Or.inl ⟨rfl, rfl⟩
    | some r => exact Or.inr ⟨r, rfl, rfl⟩
  cases cur with
  | some cp =>
    obtain ⟨c, p⟩ := cp
    exact Or.inr ⟨c, p, todo, Or.inl ⟨rfl, rfl⟩, go c p todo⟩
  | none =>
    cases todo with
    | nil => exact Or.inl rfl
    | cons c rest => exact Or.inr ⟨c, .start, rest, Or.inr ⟨rfl, rfl, rfl⟩, go c .start rest⟩

variable {I : σ → Int → Prop} {S S' : Call σ ε → Prop} {Ph Ph' : Call σ ε → Phase σ → Prop} {R : Res σ ε → Prop}
  {th : Thread σ ε} {c : Cfg σ ε}

theorem Thread.All.ofCalls {cs : List (Call σ ε)} (h : ∀ c ∈ cs, S c) : (Thread.ofCalls cs).All S Ph R :=
  ⟨fun _ _ he => (nomatch he), h, fun _ hr => (nomatch hr)⟩

theorem Thread.All.imp (h : th.All S Ph R) (hs : ∀ c, S c → S' c) (hp : ∀ c p, Ph c p → Ph' c p) : th.All S' Ph' R :=
  ⟨fun c p e => ⟨hs c (h.cur c p e).1, hp c p (h.cur c p e).2⟩, fun c hc => hs c (h.todo c hc), h.results⟩

/-- From calls to threads: if an atomic step of any call with `S` keeps `Q` of the store and `Ph` of the phase and
ends only with results that satisfy `R` (`hcall`), and a new call starts with `Ph` (`hstart`), a thread step keeps `Q`
and `Thread.All S Ph R`. -/
theorem Thread.All.step [DecidableEq σ] {Q : σ → Prop} {store : σ} {now : Int}
    (hcall : ∀ c p, S c → Q store → Ph c p →
      Q (callStep store now c p).1 ∧ Ph c (callStep store now c p).2.1 ∧
        ∀ r, (callStep store now c p).2.2 = some r → R r)
    (hstart : ∀ c, S c → Ph c .start) (hs : Q store) (ht : th.All S Ph R) :
    Q (threadStep store now th).1 ∧ (threadStep store now th).2.All S Ph R := by
  rcases threadStep_cases store now th with h | ⟨c, p, todo, hsrc, hgo⟩
  · rw [h]
    exact ⟨hs, ht⟩
  · have hc : S c ∧ Ph c p ∧ ∀ c' ∈ todo, S c' := by
      rcases hsrc with ⟨hcur, rfl⟩ | ⟨_, rfl, htodo⟩
      · exact ⟨(ht.cur c p hcur).1, (ht.cur c p hcur).2, ht.todo⟩
      · have hS := ht.todo c (htodo ▸ List.mem_cons_self)
        exact ⟨hS, hstart c hS, fun c' hc' => ht.todo c' (htodo ▸ List.mem_cons_of_mem _ hc')⟩
    obtain ⟨h1, h2, h3⟩ := hcall c p hc.1 hs hc.2.1
    rcases hgo with ⟨h, _⟩ | ⟨r, h, hr⟩
    · rw [h]
      exact ⟨h1, fun c2 p2 heq => by cases heq; exact ⟨hc.1, h2⟩, hc.2.2, ht.results⟩
    · rw [h]
      exact ⟨h1, fun c2 p2 heq => (nomatch heq), hc.2.2,
        fun r' hr' => (List.mem_cons.mp hr').elim (fun e => e ▸ h3 r hr) (ht.results r')⟩

/-- From threads to schedules: `Q` of store and clock and `P i` of the thread at position `i`, both kept as time
passes and by every thread step, hold after every schedule.  The position is there for facts about one thread only
(`run_retrying`). -/
theorem run_keeps [DecidableEq σ] {Q : σ → Int → Prop} {P : Nat → Int → Thread σ ε → Prop}
    (htick : ∀ s t (d : Nat), Q s t → Q s (t + d)) (htickP : ∀ i t (d : Nat) th, P i t th → P i (t + d) th)
    (hstep : ∀ i s t th, Q s t → P i t th → Q (threadStep s t th).1 t ∧ P i t (threadStep s t th).2)
    (sched : List Ev) : ∀ c : Cfg σ ε,
    (Q c.store c.now ∧ ∀ i th, c.threads[i]? = some th → P i c.now th) →
    Q (c.run sched).store (c.run sched).now ∧
      ∀ i th, (c.run sched).threads[i]? = some th → P i (c.run sched).now th := by
  induction sched with
  | nil => exact fun c h => h
  | cons ev rest ih =>
    intro c h
    refine ih (c.step ev) ?_
    cases ev with
    | tick d => exact ⟨htick _ _ d h.1, fun i th hth => htickP i _ d th (h.2 i th hth)⟩
    | step j =>
      simp only [Cfg.step]
      cases hth : c.threads[j]? with
      | none => exact h
      | some thj =>
        have := hstep j c.store c.now thj h.1 (h.2 j thj hth)
        refine ⟨this.1, fun i th hget => ?_⟩
        rw [List.getElem?_set] at hget
        split at hget
        · next hji =>
          subst hji
          split at hget
          · cases hget
            exact this.2
          · cases hget
        · exact h.2 i th hget

abbrev Thread.Calls (S : Call σ ε → Prop) (th : Thread σ ε) : Prop := th.All S (fun _ _ => True) (fun _ => True)

theorem run_calls [DecidableEq σ] (sched : List Ev) (c : Cfg σ ε)
    (h : ∀ th ∈ c.threads, th.Calls S) : ∀ th ∈ (c.run sched).threads, th.Calls S := by
  have := run_keeps (Q := fun _ _ => True) (P := fun _ _ th => th.Calls S) (fun _ _ _ h => h) (fun _ _ _ _ h => h)
    (fun _ s t _ _ ht => ht.step (Q := fun _ => True) (fun _ _ _ _ _ => ⟨trivial, trivial, fun _ _ => trivial⟩)
      (fun _ _ => trivial) trivial)
    sched c ⟨trivial, fun _ th hth => h th (List.mem_of_getElem? hth)⟩
  exact fun th hth => (List.getElem?_of_mem hth).elim fun i hi => this.2 i th hi

theorem Keeps.run [DecidableEq σ] (hm : Mono I) (sched : List Ev) (c : Cfg σ ε)
    (h : Keeps I c) : Keeps I (c.run sched) := by
  have := run_keeps (P := fun _ t th => th.All (Call.OK I) (PhaseK I · t) (ResOk I))
    (fun s t d => hm s t _ (Int.le_add_of_nonneg_right (Int.natCast_nonneg d)))
    (fun _ _ d _ h => h.imp (fun _ h => h) fun _ _ hp => hp.mono hm d)
    (fun _ s t _ hs ht => ht.step (Q := (I · t)) (fun c p => callStep_keeps hm s t c p) (fun _ _ => trivial) hs)
    sched c ⟨h.1, fun _ th hth => h.2 th (List.mem_of_getElem? hth)⟩
  exact ⟨this.1, fun th hth => (List.getElem?_of_mem hth).elim fun i hi => this.2 i th hi⟩

theorem Keeps.ginv (h : Keeps I c) : GInv I c :=
  ⟨h.1, fun th hth => have ht := (h.2 th hth).imp (fun _ h => h) fun _ _ => PhaseK.inv; ⟨ht.cur, ht.todo, ht.results⟩⟩

theorem Keeps.checked (h : Keeps I c) (hth : th ∈ c.threads)
    {cl : Call σ ε} {o : σ} {t : Int} (hcur : th.cur = some (cl, .ready o t)) : cl.check o = none :=
  ((h.2 th hth).cur cl _ hcur).2.2.1

theorem Thread.All.init {progs : List (List (Call σ ε))} (h : ∀ cs ∈ progs, ∀ c ∈ cs, S c) :
    ∀ th ∈ progs.map Thread.ofCalls, th.All S Ph R := fun th hth => by
  obtain ⟨cs, hcs, rfl⟩ := List.mem_map.mp hth
  exact .ofCalls (h cs hcs)

theorem Thread.All.init_ops {α : Type} {f : α → Call σ ε} {progs : List (List α)} (h : ∀ p ∈ progs, ∀ a ∈ p, S (f a)) :
    ∀ th ∈ (progs.map (·.map f)).map Thread.ofCalls, th.All S Ph R :=
  Thread.All.init fun cs hcs c hc => by
    obtain ⟨p, hp, rfl⟩ := List.mem_map.mp hcs
    obtain ⟨a, ha, rfl⟩ := List.mem_map.mp hc
    exact h p hp a ha

theorem Keeps.init {store : σ} {now : Int} {progs : List (List (Call σ ε))} (h0 : I store now)
    (hok : ∀ cs ∈ progs, ∀ c ∈ cs, c.OK I) : Keeps I ⟨store, now, progs.map Thread.ofCalls⟩ :=
  ⟨h0, Thread.All.init hok⟩

/-- what the property theorems read off the invariant after a schedule: it holds of the stored value now, and every
value a call returned satisfied it at some instant -/
theorem run_inv [DecidableEq σ] (hm : Mono I) (sched : List Ev) (c : Cfg σ ε) (h : Keeps I c) :
    I (c.run sched).store (c.run sched).now ∧
      ∀ th ∈ (c.run sched).threads, ∀ r, Res.ok r ∈ th.results → ∃ t, I r t :=
  have hg := (h.run hm sched).ginv
  ⟨hg.store, fun th hth _ hr => (hg.threads th hth).results _ hr⟩

theorem run_inv_ops [DecidableEq σ] (hm : Mono I) {α : Type} (f : α → Call σ ε) (store : σ)
    (now : Int) (progs : List (List α)) (h0 : I store now) (hok : ∀ p ∈ progs, ∀ a ∈ p, (f a).OK I)
    (sched : List Ev) :
    let c := Cfg.run ⟨store, now, (progs.map (·.map f)).map Thread.ofCalls⟩ sched
    I c.store c.now ∧ ∀ th ∈ c.threads, ∀ r, Res.ok r ∈ th.results → ∃ t, I r t :=
  run_inv hm sched _ ⟨h0, Thread.All.init_ops hok⟩

end ScVerif.C20.Gau
