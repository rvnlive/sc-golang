import ScVerif.C20.PubConcLemmas
import ScVerif.C20.PropsConc
/-!
# C20 — property theorems, Publication under concurrent callers

Property (fixed text, publication clause): "publication version and acknowledgement state stay
mutually consistent", for overlapping `UpdatePublication` / `AcknowledgePublication` calls on one publication: any
number of threads, any programs, any interleaving of their atomic steps, any time passing in between, every hash `H`.
-/
namespace ScVerif.C20.Publication
open Gau

/-- **version = H(content) and publish ≤ receipt ≤ now, after every interleaving.** -/
theorem C20_pub_conc_consistent (H : Hash) (cur : Pub) (now : Int) (progs : List (List PReq))
    (h0 : ReceiptOK now cur ∧ cur.version = mint H cur) (sched : List Ev) :
    let c := Cfg.run ⟨cur, now, (progs.map (·.map (PReq.call H))).map Thread.ofCalls⟩ sched
    ReceiptOK c.now c.store ∧ c.store.version = mint H c.store :=
  (run_inv_ops (PubOK.mono H) (PReq.call H) cur now progs h0 (fun _ _ r _ => r.call_ok H) sched).1

/-- **every publication a call returns** satisfied the same. -/
theorem C20_pub_conc_results (H : Hash) (cur : Pub) (now : Int) (progs : List (List PReq))
    (h0 : ReceiptOK now cur ∧ cur.version = mint H cur) (sched : List Ev) :
    ∀ th ∈ (Cfg.run ⟨cur, now, (progs.map (·.map (PReq.call H))).map Thread.ofCalls⟩ sched).threads,
      ∀ r, Res.ok r ∈ th.results → (∃ t, ReceiptOK t r) ∧ r.version = mint H r := by
  intro th hth r hr
  obtain ⟨t, h1, h2⟩ :=
    (run_inv_ops (PubOK.mono H) (PReq.call H) cur now progs h0 (fun _ _ r _ => r.call_ok H) sched).2 th hth r hr
  exact ⟨⟨t, h1⟩, h2⟩

/-- **every commit is the sequential operation on the stored publication; nothing else writes.** -/
theorem C20_pub_conc_commit_is_sequential (store : Pub) (now : Int) (th : Thread Pub PErr) :
    ((threadStep store now th).1 = store ∧
      ∀ r, (threadStep store now th).2.results ≠ .ok r :: th.results) ∨
    ∃ cl t, th.cur = some (cl, .ready store t) ∧
      (threadStep store now th).1 = cl.apply store t ∧
      (threadStep store now th).2.results = .ok (cl.apply store t) :: th.results :=
  threadStep_commit store now th

/-- … and the calls' checks and effects are those of the sequential model's `step` on a store that holds the
publication. -/
theorem C20_pub_conc_calls_are_steps (H : Hash) (t : Int) (s : Store) (cur : Pub) :
    (∀ (p : Pub) (mask : UMask) (v : String), p.id ≠ "" → lookup p.id s = some cur →
      step H t s (.update p mask v) =
        match (updateCall H p mask v).check cur with
        | some _ => (s, .failedPrecondition)
        | none => (set p.id ((updateCall H p mask v).apply cur t) s, .ok)) ∧
    (∀ (id v : String) (receipt : Int) (reason : String) (allow : Bool), id ≠ "" → v ≠ "" →
      lookup id s = some cur →
      step H t s (.ack id v receipt reason allow) =
        match (ackCall v receipt reason allow).check cur with
        | some .aborted => (s, .aborted)
        | some (.already _) => (s, .ok)
        | some .failedPrecondition => (s, .failedPrecondition)
        | none => (set id ((ackCall v receipt reason allow).apply cur t) s, .ok)) := by
  refine ⟨fun p mask v hid hl => ?_, fun id v receipt reason allow hid hv hl => ?_⟩
  · simp only [step, hid, if_false, hl, updateCall]
    split
    · rfl
    · cases mask <;> rfl
  · simp only [step, hid, hv, or_self, if_false, hl, ackCall]
    by_cases h1 : cur.version ≠ v
    · simp [h1]
    · by_cases h2 : acked cur = true
      · cases allow <;> simp [h1, h2]
      · simp [h1, h2]

/-- **The version / acknowledge protocol holds at the commit, under every interleaving**: no conditional write is
ever applied on top of a version it did not name, whatever other calls ran between its read and its commit. -/
theorem C20_pub_conc_version_protocol (H : Hash) (cur : Pub) (now : Int) (progs : List (List PReq))
    (sched : List Ev) (i : Nat) :
    let c := Cfg.run ⟨cur, now, (progs.map (·.map (PReq.call H))).map Thread.ofCalls⟩ sched
    (c.step (.step i)).store = c.store ∨
    (∃ t p m v, (v = "" ∨ c.store.version = v) ∧
        (c.step (.step i)).store = computed H t (mergeUpdate m c.store p)) ∨
    (∃ t v r reason a, c.store.version = v ∧ acked c.store = false ∧
        (c.step (.step i)).store = (ackCall v r reason a).apply c.store t) := by
  intro c
  rcases C20_conc_commit_passes_check cur now (progs.map (·.map (PReq.call H))) sched i with
    h | ⟨th, cl, t, hth, hcur, hck, hst⟩
  · exact Or.inl h
  · -- the committing call is a request of some program
    obtain ⟨req, rfl⟩ := ((run_calls (S := fun x => ∃ req, x = PReq.call H req) sched _
      (Thread.All.init_ops fun _ _ req _ => ⟨req, rfl⟩) th (List.mem_of_getElem? hth)).cur cl _ hcur).1
    cases req with
    | update p m v => exact Or.inr (Or.inl ⟨t, p, m, v, updateCall_check_none hck, hst⟩)
    | ack v r reason a =>
      exact Or.inr (Or.inr ⟨t, v, r, reason, a, (ackCall_check_none hck).1, (ackCall_check_none hck).2, hst⟩)

/-- **acknowledged at most once, whatever the number of concurrent acknowledgers** with an ACCEPTED / REJECTED
receipt: all others are refused (or, with allow_acknowledged, answered with the acknowledged publication, without a
write). -/
theorem C20_pub_conc_acknowledged_once (cur : Pub) (now : Int)
    (progs : List (List (String × Int × String × Bool)))
    (hr : ∀ p ∈ progs, ∀ a ∈ p, a.2.1 = 2 ∨ a.2.1 = 3) (sched : List Ev) :
    (Cfg.run ⟨cur, now, (progs.map (·.map (fun a => ackCall a.1 a.2.1 a.2.2.1 a.2.2.2))).map Thread.ofCalls⟩
      sched).oks ≤ 1 := by
  obtain ⟨log, hmem, _, hleg, hcnt⟩ := C20_conc_linearizes_legal cur now
    (progs.map (·.map (fun a => ackCall a.1 a.2.1 a.2.2.1 a.2.2.2))) sched
  rw [hcnt]
  have hack : ∀ p ∈ log, ∃ v r reason a, (r = 2 ∨ r = 3) ∧ p.1 = ackCall v r reason a := by
    intro p hp
    obtain ⟨cs, hcs, hx⟩ := hmem p hp
    obtain ⟨prog, hprog, rfl⟩ := List.mem_map.mp hcs
    obtain ⟨a, ha, heq⟩ := List.mem_map.mp hx
    exact ⟨a.1, a.2.1, a.2.2.1, a.2.2.2, hr prog hprog a ha, heq.symm⟩
  cases log with
  | nil => exact Nat.zero_le 1
  | cons p rest =>
    cases rest with
    | nil => exact Nat.le_refl 1
    | cons q rest =>
      -- a second entry would pass the acknowledge check on what the first one has just acknowledged
      exfalso
      obtain ⟨v, r, reason, a, hr2, hp⟩ := hack p List.mem_cons_self
      obtain ⟨v', r', reason', a', _, hq⟩ := hack q (List.mem_cons_of_mem _ List.mem_cons_self)
      have hq2 := hleg.2.1
      rw [hp, hq] at hq2
      have hacked := (ackCall_check_none hq2).2
      rcases hr2 with rfl | rfl <;> simp [acked, ackCall] at hacked

/-- … and one does commit: two threads acknowledge the same version at once (ACCEPTED / REJECTED), steps
alternating — exactly one of them is committed -/
example :
    (Cfg.run ⟨(⟨"p", "b", "", some ⟨"n", 1, "", none⟩, "p", some 100⟩ : Pub), 100,
      ([[("p", (2 : Int), "", false)], [("p", (3 : Int), "no", false)]].map
        (·.map (fun a => ackCall a.1 a.2.1 a.2.2.1 a.2.2.2))).map Thread.ofCalls⟩
      [.step 0, .step 1, .step 0, .step 1, .step 0, .step 1, .step 0, .step 1]).oks = 1 := by
  decide

/-- **why the version check must run inside the write**: checked by a separate read before the write (a call that
only checks, then an unconditional update), the update meant for version "b" is committed on top of a rival's "b2",
both steps answer ok, and the rival's content is lost.  (`H` = the body, so a version tells the content.) -/
theorem C20_pub_conc_check_outside_fails :
    let H : Hash := fun _ b _ _ => b
    let p0 : Pub := ⟨"p", "b", "", none, "b", some 100⟩
    let precheck : PCall := ⟨false, fun cur => if cur.version ≠ "b" then some .failedPrecondition else none,
      fun cur _ => cur, false, false⟩
    let c := Cfg.run ⟨p0, 100, [[precheck, updateCall H ⟨"p", "a2", "", none, "", none⟩ .none ""],
        [updateCall H ⟨"p", "b2", "", none, "", none⟩ .none ""]].map Thread.ofCalls⟩
      [.step 0, .step 0, .step 0, .step 1, .step 1, .step 1, .step 1, .step 0, .step 0, .step 0]
    c.store.version = "b2" ∧ (c.step (.step 0)).store.version = "a2" ∧
      (c.step (.step 0)).threads.map (·.results.map (fun r => match r with | .ok _ => true | _ => false))
        = [[true, true], [true]] := by
  decide

/-- the hypothesis is reachable: what `CreatePublication` stores at time 100 -/
example : ReceiptOK 100 (computed (fun a _ _ _ => a) 100 ⟨"p", "b", "", some ⟨"n", 0, "", none⟩, "", none⟩) ∧
    (computed (fun a _ _ _ => a) 100 ⟨"p", "b", "", some ⟨"n", 0, "", none⟩, "", none⟩).version
      = mint (fun a _ _ _ => a) (computed (fun a _ _ _ => a) 100 ⟨"p", "b", "", some ⟨"n", 0, "", none⟩, "", none⟩) :=
  ⟨computed_receiptOK _ _ _, (computed_version _ _ _).1⟩

/-- an acknowledge overlapped by a same-content update (same version, new publish time 105) is refused
as a concurrent update; the store keeps the update's publication with the receipt reset -/
example :
    let H : Hash := fun a _ _ _ => a
    let p0 : Pub := computed H 100 ⟨"p", "b", "", some ⟨"n", 0, "", none⟩, "", none⟩
    let c := Cfg.run ⟨p0, 100, [[ackCall "p" 2 "" false], [updateCall H ⟨"p", "b", "", none, "", none⟩ (.fields true false .none) ""]].map Thread.ofCalls⟩
      [.step 0, .step 0, .tick 5, .step 1, .step 1, .step 1, .step 1, .step 0, .step 0]
    c.store = ⟨"p", "b", "", some ⟨"n", 1, "", none⟩, "p", some 105⟩ ∧
      c.threads.map (·.results) = [[.aborted], [.ok ⟨"p", "b", "", some ⟨"n", 1, "", none⟩, "p", some 105⟩]] := by
  decide

/-- **why the receipt time must be read inside the transaction**: an acknowledge that takes its
timestamp before the write (`early = true`) commits a receipt time (100) older than the publish time
(105) of the version it lands on, when a same-content update slips in between. -/
theorem C20_pub_conc_clock_outside_fails :
    ∃ (H : Hash) (cur : Pub) (progs : List (List PCall)) (sched : List Ev),
      (ReceiptOK 100 cur ∧ cur.version = mint H cur) ∧
      ¬ ∃ t', ReceiptOK t' (Cfg.run ⟨cur, 100, progs.map Thread.ofCalls⟩ sched).store := by
  refine ⟨fun a _ _ _ => a, ⟨"p", "b", "", some ⟨"n", 1, "", none⟩, "p", some 100⟩,
    [[{ ackCall "p" 2 "" false with early := true }],
     [updateCall (fun a _ _ _ => a) ⟨"p", "b", "", none, "", none⟩ (.fields true false .none) ""]],
    [.step 0, .tick 5, .step 1, .step 1, .step 1, .step 1, .step 0, .step 0, .step 0],
    ⟨⟨100, rfl, Int.le_refl _, fun a ha t ht => by simp at ha; subst ha; simp at ht⟩, rfl⟩, ?_⟩
  -- the run ends with the update's publish time 105 and the acknowledge's early timestamp 100
  show ¬ ∃ t', ReceiptOK t' ⟨"p", "b", "", some ⟨"n", 2, "", some 100⟩, "p", some 105⟩
  rintro ⟨t', pt, hpt, _, hr⟩
  simp only [Option.some.injEq] at hpt
  subst hpt
  have := (hr _ rfl 100 rfl).1
  omega

end ScVerif.C20.Publication
