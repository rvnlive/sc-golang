import ScVerif.C20.Mint
/-! With a digest of its own a caller's step touches only that caller's phase, digest and result (`inv_step`); the
phase of a caller depends on the number of its own steps only (`phase_foldl`); devices do not disturb each other
(`stepAt_foldl`). -/
namespace ScVerif.C20.Mint
open ScVerif.C20.Publication

/-- what holds of every caller at every moment when each has its own digest -/
def Inv (Hc : String → String) (pubs : Nat → Pub) (st : St) : Prop :=
  ∀ t, match st.phase t with
    | .start => st.out t = none
    | .writing l => st.digest t ++ cat l = cat (chunks (pubs t)) ∧ st.out t = none
    | .done => st.out t = some (Hc (cat (chunks (pubs t))))

theorem upd_self {α : Type} (f : Nat → α) (i : Nat) (v : α) : upd f i v i = v := by simp [upd]
theorem upd_other {α : Type} (f : Nat → α) (i j : Nat) (v : α) (h : j ≠ i) : upd f i v j = f j := by simp [upd, h]

theorem inv_step (Hc : String → String) (pubs : Nat → Pub) (st : St) (t : Nat) (h : Inv Hc pubs st) :
    Inv Hc pubs (step Hc own pubs st t) := by
  intro u
  by_cases hut : u = t
  · subst hut
    have ht := h u
    unfold step
    cases hp : st.phase u with
    | start =>
      rw [hp] at ht
      simp only [own, id, upd_self]
      exact ⟨by simp, ht⟩
    | writing l =>
      rw [hp] at ht
      cases l with
      | nil =>
        simp only [upd_self]
        have := ht.1
        simp only [cat, String.append_empty] at this
        rw [own, id, this]
      | cons c l =>
        simp only [own, id, upd_self]
        refine ⟨?_, ht.2⟩
        rw [← ht.1, cat, String.append_assoc]
    | done => exact h u
  · -- a step of `t` writes only at `t`: its phase, its own digest, its result
    have hu := h u
    unfold step
    rcases st.phase t with _ | ⟨_ | _⟩ | _ <;> simpa [upd_other _ _ _ _ hut, own] using hu

theorem inv_run (Hc : String → String) (pubs : Nat → Pub) (sched : List Nat) :
    Inv Hc pubs (run Hc own pubs sched) :=
  List.foldlRecOn sched _ (fun t => by simp [init]) fun st h t _ => inv_step Hc pubs st t h

theorem cat_chunks (Hc : String → String) (p : Pub) : Hc (cat (chunks p)) = mint (hashOf Hc) p := rfl

/-- how a caller's own step moves its phase (whatever the digests are) -/
def next (p : Pub) : Phase → Phase
  | .start => .writing (chunks p)
  | .writing (_ :: l) => .writing l
  | .writing [] => .done
  | .done => .done

def iter (p : Pub) : Nat → Phase → Phase
  | 0, ph => ph
  | n + 1, ph => iter p n (next p ph)

theorem phase_step (Hc : String → String) (slot : Nat → Nat) (pubs : Nat → Pub) (st : St) (u t : Nat) :
    (step Hc slot pubs st u).phase t = if u = t then next (pubs t) (st.phase t) else st.phase t := by
  unfold step
  by_cases hut : u = t
  · subst hut
    cases hp : st.phase u with
    | start => simp [next, upd_self]
    | writing l => cases l <;> simp [next, upd_self]
    | done => simp [next, hp]
  · have htu : t ≠ u := fun h => hut h.symm
    cases hp : st.phase u with
    | start => simp [upd_other _ _ _ _ htu, hut]
    | writing l => cases l <;> simp [upd_other _ _ _ _ htu, hut]
    | done => simp [hut]

theorem phase_foldl (Hc : String → String) (slot : Nat → Nat) (pubs : Nat → Pub) (t : Nat) (sched : List Nat) :
    ∀ st, (sched.foldl (step Hc slot pubs) st).phase t = iter (pubs t) (sched.count t) (st.phase t) := by
  induction sched with
  | nil => intro st; rfl
  | cons u rest ih =>
    intro st
    rw [List.foldl_cons, ih, phase_step]
    by_cases hut : u = t
    · subst hut; simp [iter]
    · simp [hut]

theorem iter_done (p : Pub) : ∀ n, iter p n .done = .done
  | 0 => rfl
  | n + 1 => by simp [iter, next, iter_done p n]

theorem stepAt_foldl {σ α : Type} (f : σ → α → σ) (d : Nat) (sched : List (Nat × α)) :
    ∀ st : Nat → σ, (sched.foldl (stepAt f) st) d = (opsOf d sched).foldl f (st d) := by
  induction sched with
  | nil => intro st; rfl
  | cons e rest ih =>
    intro st
    rw [List.foldl_cons, ih]
    by_cases h : e.1 = d
    · simp [opsOf, stepAt, h, upd_self]
    · have h' : ¬ d = e.1 := fun x => h x.symm
      simp [opsOf, stepAt, h, upd_other _ _ _ _ h']

end ScVerif.C20.Mint
