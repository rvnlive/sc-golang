import ScVerif.C20.FanSpeedSpec
import ScVerif.C20.Fold
/-!
# C20 — property theorems, FanSpeed

Property (fixed text, fan clause): "fan-speed preset, index and percentage … stay mutually
consistent. Models constructed with explicit configuration (… presets …) use it, and none of these
operations panics on a well-formed request."

`Consistent ps v`: preset ≠ "" → presets[index] = (preset, percentage); preset = "" → index = −1 ∧ no
preset has that percentage.  The statement carries the explicit hypothesis `WriteOK` (the write does
not clear the preset of a fan that has one); the excluded point is exhibited below and the real code is
run there by the tie.
-/
namespace ScVerif.C20.FanSpeed

variable {α : Type} [DecidableEq α] (add : α → α → α)

/-- exact rational addition: the instance of the concrete examples (the driver runs float32 bit patterns) -/
abbrev radd : Rat → Rat → Rat := (· + ·)

def OKRun (ps : List (Preset α)) : Fan α → List (Request α) → Prop
  | _, [] => True
  | s, r :: rest => WriteOK add s r ∧ OKRun ps (step add ps s r) rest

/-- **Consistency after every update sequence** (absolute or relative writes, any update mask, rejected requests
included), as long as no write clears the preset of a fan that has one. -/
theorem C20_fan_consistent (ps : List (Preset α)) (hwf : WF ps) (rs : List (Request α)) :
    ∀ s, Consistent ps s → OKRun add ps s rs → Consistent ps (run add ps s rs) :=
  -- the ghost is the state itself: `OKRun` follows the run
  fun s h hok => (foldl_rel (R := fun a b => a = b ∧ Consistent ps a) (g := step add ps) (G := OKRun add ps)
    (P := WriteOK add) (fun _ _ _ hg => hg)
    (fun a _ r hr hw => hr.1 ▸ ⟨rfl, consistent_step add ps a r hwf hr.2 (hr.1 ▸ hw)⟩) rs s s ⟨rfl, h⟩ hok).2

/-- the default configuration: DefaultPresets are well-formed and the default initial fan speed
("off", index 0, 0%) is consistent; a relative index step under its mask satisfies `WriteOK` -/
example : WF ([⟨"off", 0⟩, ⟨"low", 15⟩, ⟨"med", 40⟩, ⟨"high", 75⟩, ⟨"full", 100⟩] : List (Preset Rat)) ∧
    Consistent ([⟨"off", 0⟩, ⟨"low", 15⟩, ⟨"med", 40⟩, ⟨"high", 75⟩, ⟨"full", 100⟩] : List (Preset Rat)) ⟨0, "off", 0, 1⟩ ∧
    WriteOK radd ⟨0, "off", 0, 1⟩ ⟨⟨0, "", 1, 0⟩, true, some [.index]⟩ := by
  refine ⟨⟨by decide, by decide⟩, ⟨fun _ => ⟨by decide, ⟨"off", 0⟩, rfl, rfl, rfl⟩, fun h => absurd h (by decide)⟩, by decide⟩

/-- **The excluded point is real** (why `WriteOK` is needed): a mask-less write of percentage 50 on a
fan at preset "low" leaves preset "" with index 0 — not consistent. -/
theorem C20_fan_consistent_fails :
    ∃ (ps : List (Preset Rat)) (s : Fan Rat) (r : Request Rat),
      WF ps ∧ Consistent ps s ∧ ¬ WriteOK radd s r ∧ ¬ Consistent ps (step radd ps s r) := by
  refine ⟨[⟨"off", 0⟩, ⟨"low", 15⟩], ⟨15, "low", 1, 1⟩, ⟨⟨50, "", 0, 0⟩, false, none⟩,
    ⟨by decide, by decide⟩, ⟨fun _ => ⟨by decide, ⟨"low", 15⟩, rfl, rfl, rfl⟩, fun h => absurd h (by decide)⟩,
    by decide, ?_⟩
  intro h
  have := (h.2 (by decide)).1
  revert this
  decide +kernel

/-- **Precedence, preset first**, whatever index and percentage were written. -/
theorem C20_fan_precedence_preset (ps : List (Preset α)) (old : Fan α) (r : Request α) (i : Nat)
    (h1 : old.preset ≠ (merged add old r).preset)
    (hf : findIdx (fun p => p.name == (merged add old r).preset) ps = some i) :
    ∃ p, ps[i]? = some p ∧ p.name = (merged add old r).preset ∧
      deriveValues ps old (merged add old r) =
        some { merged add old r with index := i, pct := p.pct } :=
  deriveValues_preset_found h1 hf

/-- **Precedence, index second, and the index is clamped** into `[0, len)`. -/
theorem C20_fan_index_clamped (ps : List (Preset α)) (hne : ps ≠ []) (old : Fan α) (r : Request α)
    (h1 : old.preset = (merged add old r).preset) (h2 : old.index ≠ (merged add old r).index) :
    ∃ v p, deriveValues ps old (merged add old r) = some v ∧
      0 ≤ v.index ∧ v.index < ps.length ∧
      v.index = max 0 (min (merged add old r).index ((ps.length : Int) - 1)) ∧
      ps[v.index.toNat]? = some p ∧ v.preset = p.name ∧ v.pct = p.pct ∧
      v.direction = (merged add old r).direction := by
  obtain ⟨p, hp, hd⟩ := deriveValues_index hne h1 h2
  have hb := clamp_bounds (length_pos hne) (merged add old r).index
  exact ⟨_, p, hd, hb.1, hb.2, rfl, hp, rfl, rfl, rfl⟩

/-- **Precedence, percentage last**: the first preset with exactly that percentage, or none (preset "", index −1). -/
theorem C20_fan_percentage (ps : List (Preset α)) (old : Fan α) (r : Request α)
    (h1 : old.preset = (merged add old r).preset) (h2 : old.index = (merged add old r).index)
    (h3 : old.pct ≠ (merged add old r).pct) :
    ∃ v, deriveValues ps old (merged add old r) = some v ∧ v.pct = (merged add old r).pct ∧
      ((∃ (i : Nat) (p : Preset α), ps[i]? = some p ∧ p.pct = v.pct ∧ v.index = (i : Int) ∧ v.preset = p.name) ∨
       (v.preset = "" ∧ v.index = -1 ∧ ∀ p ∈ ps, p.pct ≠ v.pct)) := by
  cases hf : findIdx (fun p => p.pct == (merged add old r).pct) ps with
  | some i =>
    obtain ⟨p, hp, hpct, hd⟩ := deriveValues_pct_found h1 h2 h3 hf
    exact ⟨_, hd, rfl, Or.inl ⟨i, p, hp, hpct, rfl, rfl⟩⟩
  | none =>
    exact ⟨_, deriveValues_pct_none h1 h2 h3 hf, rfl,
      Or.inr ⟨rfl, rfl, fun p hp => by simpa using findIdx_none hf p hp⟩⟩

/-- **Relative index steps never wrap** (every int32 step `k`, including ±2³¹): the index moves to the clamp of the
TRUE integer sum, so a huge step lands on the last/first preset (a sum kept in int32 would wrap to the other end). -/
theorem C20_fan_relative_index (ps : List (Preset α)) (hwf : WF ps) (hlen : (ps.length : Int) ≤ 2147483647)
    (old : Fan α) (hc : Consistent ps old) (hp : old.preset ≠ "") (k : Int) (pct : α) (dir : Int) :
    ∃ v p, update add ps old ⟨⟨pct, "", k, dir⟩, true, some [.index]⟩ = .ok v ∧
      v.index = max 0 (min (old.index + k) ((ps.length : Int) - 1)) ∧
      ps[v.index.toNat]? = some p ∧ v.preset = p.name ∧ v.pct = p.pct ∧ v.direction = old.direction := by
  obtain ⟨h0, p0, hp0, hn0, hpc0⟩ := hc.1 hp
  have hlt : old.index < ps.length := by
    have := (List.getElem?_eq_some_iff.mp hp0).1
    omega
  -- only the index is written: the saturated sum
  have hm : merged add old ⟨⟨pct, "", k, dir⟩, true, some [.index]⟩ =
      ⟨old.pct, old.preset, sat32 (k + old.index), old.direction⟩ := by
    simp [merged, merge]
  -- clamping into `[0, len)` makes the saturation at the int32 limits invisible
  have hcl : max 0 (min (sat32 (k + old.index)) ((ps.length : Int) - 1)) =
      max 0 (min (old.index + k) ((ps.length : Int) - 1)) :=
    sat32_clamp h0 hlt hlen
  have hu : ∀ v, deriveValues ps old ⟨old.pct, old.preset, sat32 (k + old.index), old.direction⟩ = some v →
      update add ps old ⟨⟨pct, "", k, dir⟩, true, some [.index]⟩ = .ok v := fun v hd =>
    by unfold update; rw [if_neg (fun h => h.1 rfl), hm, hd]
  by_cases h2 : old.index = sat32 (k + old.index)
  · -- the step is absorbed: nothing changes, and the old index is already its own clamp
    refine ⟨_, p0, hu _ (deriveValues_same (old := old) rfl h2 rfl), ?_, ?_, hn0.symm, hpc0.symm, rfl⟩
    · show sat32 (k + old.index) = _
      rw [← hcl, ← h2, clamp_of_mem h0 hlt]
    · show ps[(sat32 (k + old.index)).toNat]? = some p0
      rw [← h2]
      exact hp0
  · obtain ⟨p, hget, hd⟩ := deriveValues_index (old := old)
      (new := ⟨old.pct, old.preset, sat32 (k + old.index), old.direction⟩) hwf.1 rfl h2
    exact ⟨_, p, hu _ hd, hcl, hget, rfl, rfl, rfl⟩

/-- **No panic with a non-empty preset list.** -/
theorem C20_fan_no_panic (ps : List (Preset α)) (hne : ps ≠ []) (old : Fan α) (r : Request α) :
    update add ps old r ≠ .panic := by
  obtain ⟨v, hd⟩ := deriveValues_isSome hne old (merged add old r)
  unfold update
  rw [hd]
  split <;> simp

/-- the panic exists without that hypothesis: an index write on a model configured with no presets -/
example : update radd ([] : List (Preset Rat)) ⟨0, "", -1, 0⟩ ⟨⟨0, "", 2, 0⟩, false, none⟩ = .panic := by decide +kernel

end ScVerif.C20.FanSpeed
