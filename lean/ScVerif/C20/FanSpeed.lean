/-!
# C20 / FanSpeed — executable model of `pkg/trait/fanspeedpb/{model.go,model_server.go}`

`ModelServer.UpdateFanSpeed` → `Model.UpdateFanSpeed`: `validateUpdate`, the relative interceptor
(adds the old percentage and index to the written ones), the field-mask merge (the server passes the
request's update_mask since the fix) and `DeriveValues` (preset > index > percentage).

Percentages are values of an arbitrary type `α` with decidable equality, and the relative update adds
them with an arbitrary function `add : α → α → α`: the code only ever compares percentages for equality
and adds them, so every theorem holds for float32 with its rounding addition as well as for exact
rationals (the one thing excluded is NaN, whose `==` is not reflexive).  The driver instantiates
`α := UInt32` (float32 bit patterns) with float32 addition; the examples use `α := Rat`, `add := (· + ·)`.
The relative index sum saturates at the int32 limits.
-/
namespace ScVerif.C20.FanSpeed

/-- the relative index sum is computed in 64 bits and kept inside int32 (since the fix; it wrapped) -/
def sat32 (x : Int) : Int := if x > 2147483647 then 2147483647 else if x < -2147483648 then -2147483648 else x

structure Preset (α : Type) where
  name : String
  pct : α
  deriving DecidableEq

structure Fan (α : Type) where
  pct : α
  preset : String
  index : Int
  direction : Int
  deriving DecidableEq

inductive Field where
  | pct | preset | index | direction
  deriving DecidableEq

variable {α : Type} [DecidableEq α]

/-- `FieldUpdater.Merge` -/
def merge (mask : Option (List Field)) (cur src : Fan α) : Fan α :=
  match mask with
  | none => src
  | some fs =>
    { pct := if Field.pct ∈ fs then src.pct else cur.pct
      preset := if Field.preset ∈ fs then src.preset else cur.preset
      index := if Field.index ∈ fs then src.index else cur.index
      direction := if Field.direction ∈ fs then src.direction else cur.direction }

/-- first index whose preset satisfies `p` (the `for i, preset := range m.presets … break` loops) -/
def findIdx (p : Preset α → Bool) : List (Preset α) → Option Nat
  | [] => none
  | x :: xs => if p x then some 0 else (findIdx p xs).map (· + 1)

/-- `DeriveValues`; `none` is the index-out-of-range panic of the index branch on an empty preset list. -/
def deriveValues (ps : List (Preset α)) (old new : Fan α) : Option (Fan α) :=
  if old.preset ≠ new.preset then
    match findIdx (fun p => p.name == new.preset) ps with
    | some i => some { new with index := i, pct := (ps[i]?.map (·.pct)).getD new.pct }
    | none => some new
  else if old.index ≠ new.index then
    let idx := if new.index ≥ ps.length then (ps.length : Int) - 1 else new.index
    let idx := if idx < 0 then 0 else idx
    match ps[idx.toNat]? with
    | some p => some { new with index := idx, preset := p.name, pct := p.pct }
    | none => none
  else if old.pct ≠ new.pct then
    match findIdx (fun p => p.pct == new.pct) ps with
    | some i => some { new with index := i, preset := (ps[i]?.map (·.name)).getD "" }
    | none => some { new with index := -1, preset := "" }
  else some new

inductive Outcome (α : Type) where
  | ok (v : Fan α)
  | invalidArgument
  | panic
  deriving DecidableEq

structure Request (α : Type) where
  src : Fan α
  relative : Bool
  mask : Option (List Field)

/-- the value handed to `DeriveValues`: relative interceptor, then the masked merge -/
def merged (add : α → α → α) (old : Fan α) (r : Request α) : Fan α :=
  let src := if r.relative then { r.src with pct := add r.src.pct old.pct, index := sat32 (r.src.index + old.index) } else r.src
  merge r.mask old src

def update (add : α → α → α) (ps : List (Preset α)) (old : Fan α) (r : Request α) : Outcome α :=
  if r.src.preset ≠ "" ∧ (findIdx (fun p => p.name == r.src.preset) ps).isNone then .invalidArgument
  else match deriveValues ps old (merged add old r) with
    | some v => .ok v
    | none => .panic

/-- state after a request (unchanged on error) -/
def step (add : α → α → α) (ps : List (Preset α)) (old : Fan α) (r : Request α) : Fan α :=
  match update add ps old r with
  | .ok v => v
  | _ => old

def run (add : α → α → α) (ps : List (Preset α)) (s : Fan α) (rs : List (Request α)) : Fan α :=
  rs.foldl (step add ps) s

end ScVerif.C20.FanSpeed
