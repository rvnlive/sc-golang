import ScVerif.C20.ConfigLemmas
/-!
# C20 — models constructed with explicit configuration use it (option plumbing)

Theorems about `calcModelArgs` / `(*modelArgs).apply` / `resource.computeConfig` as modelled in `Config.lean`, for
EVERY list of package defaults, EVERY list of caller options (plain options shared by all resources, options
targeted at one resource, non-resource arguments, in any order and number) and EVERY resource of the model.
(`Vending.calcModelArgs` models the same function of vendingpb by name lists only: tie `vend.opts`, theorem
`C20_vending_opts`; this general form is tied by `cfg.new`.)
-/
namespace ScVerif.C20.Config

/-- Each resource is constructed from exactly the options meant for it, in the order given, package defaults first. -/
theorem C20_config_projection (defaults opts : List MOpt) (r : Nat) :
    (calcModelArgs defaults opts).res r = proj r (defaults ++ opts) := by
  simp [calcModelArgs, apply_res, proj_append]

/-- The non-resource argument (fan-speed presets) is the last one given, a caller's before the package default. -/
theorem C20_config_extra (defaults opts : List MOpt) :
    (calcModelArgs defaults opts).extra = (lastExtra opts).or (lastExtra defaults) := by
  simp [calcModelArgs, apply_extra]

/-- `WithPresets(k)` given by the caller and not followed by another one is what the model uses. -/
theorem C20_config_presets_used (defaults o₁ o₂ : List MOpt) (k : Nat) (h : lastExtra o₂ = none) :
    (calcModelArgs defaults (o₁ ++ .extra k :: o₂)).extra = some k := by
  rw [C20_config_extra, lastExtra_append]
  simp [lastExtra, h]

/-- An option targeted at another resource does not reach resource `r` (the two resources of the vending model do
not share options). -/
theorem C20_config_independent (defaults o₁ o₂ : List MOpt) (r r' : Nat) (os : List ROpt) (h : r ≠ r') :
    (calcModelArgs defaults (o₁ ++ .target r' os :: o₂)).res r = (calcModelArgs defaults (o₁ ++ o₂)).res r := by
  simp [C20_config_projection, proj_append, proj, h]

/-- A non-resource argument (`WithPresets`) reaches no resource's option list. -/
theorem C20_config_extra_frame (defaults o₁ o₂ : List MOpt) (r k : Nat) :
    (calcModelArgs defaults (o₁ ++ .extra k :: o₂)).res r = (calcModelArgs defaults (o₁ ++ o₂)).res r := by
  simp [C20_config_projection, proj_append, proj]

/-- A resource that is constructed (no panic) holds the initial records meant for it, each once, in order, and the
last clock, random source, comparer and initial value meant for it. -/
theorem C20_config_resource (defaults opts : List MOpt) (r : Nat) (c : RConfig)
    (h : computeConfig ((calcModelArgs defaults opts).res r) = some c) :
    c.records = recsOf (proj r (defaults ++ opts)) ∧ (c.records.map Prod.fst).Nodup ∧
    c.clock = lastClock 0 (proj r (defaults ++ opts)) ∧ c.rng = lastRng 0 (proj r (defaults ++ opts)) ∧
    c.equiv = lastEquiv 0 (proj r (defaults ++ opts)) ∧
    c.initialValue = lastValue none (proj r (defaults ++ opts)) := by
  rw [C20_config_projection, computeConfig, computeFrom_eq] at h
  split at h
  · next hnd =>
    cases h
    exact ⟨List.nil_append _, by rw [List.nil_append]; exact hnd.1, rfl, rfl, rfl, rfl⟩
  · cases h

/-- Constructing a resource panics exactly when two initial records meant for it carry the same id (documented:
"creating a model with duplicate names will panic"). -/
theorem C20_config_panic_iff (os : List ROpt) :
    computeConfig os = none ↔ ¬ ((recsOf os).map Prod.fst).Nodup := by
  simp [computeConfig, computeFrom_eq]

/-- `NewModel` panics exactly when two initial records meant for ONE of its resources share an id: records configured
for different resources never collide. -/
theorem C20_config_newModel_panic_iff (n : Nat) (defaults opts : List MOpt) :
    newModel n defaults opts = none ↔
      ∃ r, r < n ∧ ¬ ((recsOf (proj r (defaults ++ opts))).map Prod.fst).Nodup := by
  simp only [newModel]
  split
  · rename_i hall
    simp only [reduceCtorEq, false_iff, not_exists, not_and]
    intro r hr
    have := List.all_eq_true.mp hall (computeConfig ((calcModelArgs defaults opts).res r))
      (List.mem_map.mpr ⟨r, List.mem_range.mpr hr, rfl⟩)
    intro hnd
    rw [C20_config_projection] at this
    rw [(C20_config_panic_iff _).mpr hnd] at this
    cases this
  · rename_i hall
    simp only [true_iff]
    apply Classical.byContradiction
    intro hne
    apply hall
    apply List.all_eq_true.mpr
    intro x hx
    obtain ⟨r, hr, rfl⟩ := List.mem_map.mp hx
    rw [C20_config_projection]
    cases hc : computeConfig (proj r (defaults ++ opts)) with
    | some c => rfl
    | none => exact absurd ⟨r, List.mem_range.mp hr, (C20_config_panic_iff _).mp hc⟩ hne

/-- The headline clause: `WithInitialX(recs...)` in any position of any option list, on a model that is constructed:
every one of those records is in resource `r`, and every OTHER resource holds what it would hold without the option. -/
theorem C20_config_initial_records_used (defaults o₁ o₂ : List MOpt) (r : Nat) (recs : List (String × Nat))
    (c : RConfig)
    (h : computeConfig ((calcModelArgs defaults
      (o₁ ++ .target r (recs.map fun p => .initialRecord p.1 p.2) :: o₂)).res r) = some c) :
    (∀ p ∈ recs, p ∈ c.records) ∧
    ∀ r', r' ≠ r → (calcModelArgs defaults
        (o₁ ++ .target r (recs.map fun p => .initialRecord p.1 p.2) :: o₂)).res r' =
      (calcModelArgs defaults (o₁ ++ o₂)).res r' := by
  constructor
  · intro p hp
    have := (C20_config_resource _ _ _ _ h).1
    rw [this]
    simp only [← List.append_assoc, proj_append, proj, if_true, recsOf_append, List.mem_append,
      recsOf_map_initialRecord]
    exact Or.inl (Or.inr hp)
  · intro r' hr'
    exact C20_config_independent defaults o₁ o₂ r' r _ hr'

/-- The vending shape (the options of the two resources must not share storage): three shared options, one initial
consumable (resource 0) and one initial stock (resource 1): each record is in its own collection only, both
resources use the third shared option's clock. -/
example : newModel 2 [] [.shared (.clock 1), .shared (.rng 1), .shared (.equiv 1),
      .target 0 [.initialRecord "cola" 7], .target 1 [.initialRecord "cola-stock" 8]] =
    some ([{ clock := 1, rng := 1, equiv := 1, records := [("cola", 7)] },
           { clock := 1, rng := 1, equiv := 1, records := [("cola-stock", 8)] }], none) := by decide

/-- The same id for a consumable and for its stock is fine (different resources) … -/
example : (newModel 2 [] [.target 0 [.initialRecord "a" 1], .target 1 [.initialRecord "a" 2]]).isSome = true := by
  decide
/-- … twice for the same resource is the documented panic, also when one comes from the package defaults. -/
example : newModel 2 [.target 1 [.initialRecord "a" 1]] [.target 1 [.initialRecord "a" 2]] = none := by decide

/-- A targeted clock given BEFORE a shared one is overridden by it (order of the list, as in the code). -/
example : ((newModel 1 [] [.target 0 [.clock 2], .shared (.clock 3)]).map (·.1.map (·.clock))) = some [3] := by
  decide

/-- Fan-speed defaults then a caller's presets. -/
example : (calcModelArgs [.target 0 [.initialValue 0], .target 0 [.equiv 1], .extra 0] [.extra 5]).extra = some 5 := by
  decide

end ScVerif.C20.Config
