import ScVerif.C20.Vending
/-!
# C20 / Vending — the `DispenseInstantly` interceptor as written, partial writes included

`Vending.dispenseStock` describes a dispense as one all-or-nothing function.  The code is not written
that way (`pkg/trait/vendingpb/model.go`): `updateStock(quantity, old, new)` assigns `new.Used` *before*
it attempts the conversion for `Remaining`, so when the second conversion fails `new` is already half
written; the `InterceptBefore` callback then undoes this with `proto.Reset(new); proto.Merge(new, old)`,
and the (mask-less) write stores `new` in either case.  This file models exactly that — the written
message `{Consumable: name}` (no stock fields), the two assignments in order, `proto.Merge`'s proto3
rule that an unpopulated (zero) scalar of the source does not overwrite.  It is equal to the all-or-nothing
description (`Vending.dispenseCode_eq` in `VendingLemmas`, `C20_dispense_code_refines`), so every theorem about
`dispense` is a theorem about the code's shape; the `proto.Reset` is necessary (`intercept` with `resets := false`,
`C20_dispense_error_needs_reset`).
-/
namespace ScVerif.C20.Vending

/-- `proto.Merge` on an optional `Consumable.Quantity` field: absent source ⇒ untouched; absent
destination ⇒ a copy; otherwise field by field, a zero unit / zero amount of the source is skipped -/
def mergeQty (dst src : Option Qty) : Option Qty :=
  match src, dst with
  | none, d => d
  | some s, none => some s
  | some s, some d => some ⟨if s.unit = 0 then d.unit else s.unit, if s.amount = 0 then d.amount else s.amount⟩

/-- `proto.Merge(dst, src)` on `Consumable.Stock` (the consumable name is the same on both sides) -/
def mergeStock (dst src : Stock) : Stock :=
  { used := mergeQty dst.used src.used, remaining := mergeQty dst.remaining src.remaining,
    lastDispensed := mergeQty dst.lastDispensed src.lastDispensed,
    dispensing := src.dispensing || dst.dispensing }

/-- the message after `proto.Reset`, and also the stock fields of the written `{Consumable: name}` -/
def emptyStock : Stock := { used := none, remaining := none, lastDispensed := none, dispensing := false }

/-- second half of `updateStock`: `dst` as far as written, and whether it succeeded -/
def updateRemaining (q : Qty) (src dst : Stock) : Stock × Bool :=
  match src.remaining with
  | none => (dst, true)
  | some r =>
    match convert q.amount q.unit r.unit with
    | none => (dst, false)
    | some d =>
      let amount := r.amount - d
      ({ dst with remaining := some ⟨r.unit, if amount < 0 then 0 else amount⟩ }, true)

/-- `updateStock(quantity, src, dst)` -/
def updateStockCode (q : Qty) (src dst : Stock) : Stock × Bool :=
  match src.used with
  | none => updateRemaining q src dst
  | some u =>
    match convert q.amount q.unit u.unit with
    | none => (dst, false)
    | some d => updateRemaining q src { dst with used := some ⟨u.unit, u.amount + d⟩ }

/-- the `InterceptBefore` callback of `DispenseInstantly`; `resets` = the error path starts with
`proto.Reset(newVal)` (it does) -/
def intercept (resets : Bool) (q : Qty) (old new : Stock) : Stock × Bool :=
  match updateStockCode q old new with
  | (dst, false) => (mergeStock (if resets then emptyStock else dst) old, false)
  | (dst, true) => ({ dst with lastDispensed := some q, dispensing := false }, true)

/-- `Model.DispenseInstantly` as written: the write has no update mask, so the stored stock is replaced
by the intercepted message on the error path too -/
def dispenseCode (inv : Inventory) (name : String) (q : Qty) : Inventory × Outcome :=
  if name = "" then (inv, .invalidArgument)
  else match lookup name inv with
    | none => (inv, .notFound)
    | some st =>
      match intercept true q st emptyStock with
      | (newVal, true) => (set name newVal inv, .ok newVal)
      | (newVal, false) => (set name newVal inv, .conversionError)

def dispenseReqCode (inv : Inventory) (name : String) (q : Option Qty) : Inventory × Outcome :=
  if name = "" then (inv, .invalidArgument)
  else match q with
    | none => (inv, .invalidArgument)
    | some q => dispenseCode inv name q

end ScVerif.C20.Vending
