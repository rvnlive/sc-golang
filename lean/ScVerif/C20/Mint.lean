import ScVerif.C20.Publication
/-!
# C20 / Mint — `mintVersion` as a sequence of operations on a digest, several callers at once

`mintVersion(p)` of `pkg/trait/publicationpb/model.go` takes a digest (`md5.New()`), writes five chunks into it
("v1", id, body, media type, audience name) and reads the sum.  It is called from the `InterceptAfter` of
`withComputedProperties`, i.e. in the change phase of `resource.GetAndUpdate`, which holds no lock: the calls of
different writers - on one model or on different models of the process - run at the same time.  The model below has
one atomic step per digest operation and a map `slot` from callers to digests: `own` (the code: every call has its
own digest) or `shared` (one package-level digest, reset at the start of each call).

The digest is modelled by the bytes written since the last reset; the sum is `Hc` of them, for an arbitrary `Hc`.
-/
namespace ScVerif.C20.Mint
open ScVerif.C20.Publication

/-- concatenation of the chunks (what the digest has seen) -/
def cat : List String → String
  | [] => ""
  | c :: l => c ++ cat l

/-- the five writes of `mintVersion` -/
def chunks (p : Pub) : List String :=
  ["v1", p.id, p.body, p.mediaType, (p.audience.map (·.name)).getD ""]

/-- the version function of `Publication.lean` that a byte-string hash `Hc` gives -/
def hashOf (Hc : String → String) : Hash := fun id body mt aud => Hc (cat ["v1", id, body, mt, aud])

/-- where a caller is inside `mintVersion` -/
inductive Phase where
  | start                          -- before `md5.New()` / `Reset()`
  | writing (left : List String)   -- chunks still to write; `[]`: about to call `Sum`
  | done
  deriving DecidableEq

structure St where
  phase : Nat → Phase          -- per caller
  digest : Nat → String        -- per digest slot: bytes written since its last reset
  out : Nat → Option String    -- per caller: the version it returned

/-- every caller has its own digest (`hash := md5.New()` inside the function) -/
def own : Nat → Nat := id
/-- one digest for the whole process (`var versionHash = md5.New()` ... `versionHash.Reset()`) -/
def shared : Nat → Nat := fun _ => 0

def upd {α : Type} (f : Nat → α) (i : Nat) (v : α) : Nat → α := fun j => if j = i then v else f j

/-- one atomic step of caller `t`, who mints the version of `pubs t` -/
def step (Hc : String → String) (slot : Nat → Nat) (pubs : Nat → Pub) (st : St) (t : Nat) : St :=
  match st.phase t with
  | .start => { st with phase := upd st.phase t (.writing (chunks (pubs t))), digest := upd st.digest (slot t) "" }
  | .writing (c :: l) =>
    { st with phase := upd st.phase t (.writing l), digest := upd st.digest (slot t) (st.digest (slot t) ++ c) }
  | .writing [] => { st with phase := upd st.phase t .done, out := upd st.out t (some (Hc (st.digest (slot t)))) }
  | .done => st

def init : St := ⟨fun _ => .start, fun _ => "", fun _ => none⟩

def run (Hc : String → String) (slot : Nat → Nat) (pubs : Nat → Pub) (sched : List Nat) : St :=
  sched.foldl (step Hc slot pubs) init

/-! ## Several devices in one process

Every device (model instance) has its own store; an operation addressed to device `d` goes through `d`'s own
`GetAndUpdate`.  Generic in the state and the step function. -/

def stepAt {σ α : Type} (f : σ → α → σ) (st : Nat → σ) (e : Nat × α) : Nat → σ :=
  upd st e.1 (f (st e.1) e.2)

def opsOf {α : Type} (d : Nat) (sched : List (Nat × α)) : List α :=
  (sched.filter (fun e => e.1 = d)).map (·.2)

end ScVerif.C20.Mint
