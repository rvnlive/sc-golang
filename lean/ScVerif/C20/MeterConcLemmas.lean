import ScVerif.C20.MeterConc
import ScVerif.C20.MeterLemmas
import ScVerif.C20.GauLemmas
/-!
# C20 / Meter — the meter's calls satisfy the generic interleaving theorem's conditions
-/
namespace ScVerif.C20.Meter
open Gau

/-- `Inv` once more: `C20_meter_conc_start_le_end` states its condition on the calls with this name -/
abbrev Ordered := Inv

theorem Ordered.mono : Gau.Mono Ordered := fun _ _ _ hle h => Inv.mono hle h

/-- `RecordReading` reads the clock inside the transaction and keeps the period ordered at that instant -/
theorem recordCall_ok (v : String) : (recordCall v).OK Ordered :=
  ⟨fun _ _ t ho _ => record_inv v ho (Int.le_refl t), nofun⟩

/-- `Reset` reads the clock early but overwrites both times -/
theorem resetCall_ok : resetCall.OK Ordered :=
  ⟨nofun, fun _ o t => reset_inv o t⟩

/-- one call of the code.  `codeCalls prog` unfolds to `prog.map codeCall` (the model file writes this `match` as a
lambda), which is what `code_keeps` and `C20_meter_conc_is_sequential_run` rely on. -/
def codeCall : Option String → MCall
  | some v => recordCall v
  | none => resetCall

theorem code_keeps {store : Reading} {now : Int} (h0 : Inv store now) (progs : List (List (Option String))) :
    Keeps Ordered ⟨store, now, (progs.map codeCalls).map Thread.ofCalls⟩ :=
  ⟨h0, Thread.All.init_ops (f := codeCall) fun _ _ o _ => by cases o; exact resetCall_ok; exact recordCall_ok _⟩

end ScVerif.C20.Meter
