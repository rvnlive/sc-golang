/-
C13 — vocabulary: rendezvous scripts for one RPC, the client transcript and the handler's view.

A *server script* is what a handler does: `SetHeader md | SendHeader md | SetTrailer md | send m |
recv | wait` (wait = block on its own event source until the call's context ends) followed by what it
returns (`Fin`).  A *client script* is what the caller does with the `grpc.ClientStream`.
-/
namespace ScVerif.C13

/-- gRPC metadata as the list of key/value pairs in the order they were joined
(`metadata.Join` appends per key; the driver prints it stably sorted by key). -/
abbrev MD := List (String × String)

/-- What the handler returns: nil, a status error, or a plain (non-status) Go error. -/
inductive Fin where
  | ok
  | status (code : Nat) (msg : String)
  | plain (msg : String)
  deriving DecidableEq, Repr

/-- Why the caller's context ended. -/
inductive Abort where
  | cancel | deadline
  deriving DecidableEq, Repr

inductive SOp where
  | setHeader (md : MD)
  | sendHeader (md : MD)
  | setTrailer (md : MD)
  | send (m : Nat)
  | recv
  | wait
  deriving DecidableEq, Repr

inductive COp where
  | send (m : Nat)
  | closeSend
  | recv
  | header
  | trailer
  | abort (a : Abort)
  deriving DecidableEq, Repr

/-- One entry of the client transcript (the result of one client op). -/
inductive Ev where
  | sent                          -- SendMsg returned nil
  | sendErr                       -- SendMsg returned an error
  | closed                        -- CloseSend returned nil
  | msg (m : Nat)                 -- RecvMsg delivered message m
  | fin (code : Nat) (msg : String) -- RecvMsg returned the terminal status (io.EOF = code 0)
  | aborted (a : Abort)           -- RecvMsg returned cancellation / deadline expiry (compared by class)
  | hdr (md : MD)                 -- Header() returned md
  | trl (md : MD)                 -- Trailer() returned md
  | did (a : Abort)               -- the client cancelled / let the deadline pass
  | stuck                         -- the scripts leave the rendezvous discipline here (outside the hypothesis)
  deriving DecidableEq, Repr

/-- One entry of the handler's view. -/
inductive SEv where
  | incoming (md : MD)            -- request metadata seen by the handler (metadata.FromIncomingContext)
  | deadline                      -- the handler's context has a deadline
  | outgoing (md : MD)            -- the handler's context carries OUTGOING metadata (a downstream call made
                                  -- with it would transmit md)
  | got (m : Nat)                 -- RecvMsg delivered message m
  | eof                           -- RecvMsg returned io.EOF (client half-closed)
  | hErr                          -- SetHeader returned an error
  | sErr                          -- SendHeader returned an error
  | abort                         -- the call's context ended under the handler
  | left                          -- the client script is over and the handler is still blocked (goroutine left)
  deriving DecidableEq, Repr

structure Transcript where
  client : List Ev
  server : List SEv
  deriving DecidableEq, Repr

def cev (e : Ev) (t : Transcript) : Transcript := { t with client := e :: t.client }
def sev (e : SEv) (t : Transcript) : Transcript := { t with server := e :: t.server }
def sevIf (b : Bool) (e : SEv) (t : Transcript) : Transcript := if b then sev e t else t

/-- The run stops: the next client op cannot be served under the rendezvous discipline. -/
def stuckT : Transcript := ⟨[.stuck], []⟩
/-- The client script is over while the handler is still blocked. -/
def leftT : Transcript := ⟨[], [.left]⟩
def endT : Transcript := ⟨[], []⟩

/-- State of the handler goroutine. -/
inductive Srv where
  | running (ops : List SOp)
  | done        -- the handler returned (Close was called with its error)
  | aborted     -- the call's context ended under the handler
  deriving DecidableEq, Repr

def Srv.size : Srv → Nat
  | .running ops => ops.length + 1
  | .done => 0
  | .aborted => 0

/-- Direction of a message. -/
inductive Dir where
  | c2s | s2c
  deriving DecidableEq, Repr

/-- The transport-specific part of a connection: what the header / trailer / close calls do to the
per-call state and what the client can read from it.  `Wrap.impl` follows pkg/wrap/stream.go,
`GrpcRef.impl` is the reference semantics of a real gRPC connection. -/
structure Impl (σ : Type) where
  setHeader : σ → MD → σ × Bool        -- Bool: the call returned an error
  sendHeader : σ → MD → σ × Bool
  setTrailer : σ → MD → σ
  preSend : σ → σ                      -- what SendMsg does before the message is handed over
  /-- one message with payload `m` from SendMsg to the receiver's own object; the Bool says that the
  sender reuses one message object and overwrites it as soon as SendMsg has returned; the result is the
  payload the receiver ends up with -/
  xfer : σ → Dir → Nat → Bool → σ × Nat
  close : σ → Fin → σ                  -- the handler returned
  abort : σ → Abort → σ                -- the caller's context ended
  header : σ → Option MD               -- client Header(); none = it blocks
  trailer : σ → MD                     -- client Trailer()
  terminal : σ → Option Ev             -- client RecvMsg when no message can arrive; none = it blocks

/-- The joint run of a handler script and a client script under the rendezvous discipline of the
property's hypothesis: the handler runs until it needs the client (send, recv without input, wait) or
returns; a message passes exactly when one side sends and the other receives; anything else is
`stuck`.  `cc` = the client half-closed. -/
def go {σ : Type} (I : Impl σ) (fin : Fin) (reuse : Bool) : σ → Bool → Srv → List COp → Transcript
  -- handler ops that do not need the client
  | s, cc, .running (.setHeader md :: ss), cs =>
      sevIf (I.setHeader s md).2 .hErr (go I fin reuse (I.setHeader s md).1 cc (.running ss) cs)
  | s, cc, .running (.sendHeader md :: ss), cs =>
      sevIf (I.sendHeader s md).2 .sErr (go I fin reuse (I.sendHeader s md).1 cc (.running ss) cs)
  | s, cc, .running (.setTrailer md :: ss), cs =>
      go I fin reuse (I.setTrailer s md) cc (.running ss) cs
  | s, cc, .running [], cs =>
      go I fin reuse (I.close s fin) cc .done cs
  -- handler in SendMsg: the header latch is flushed first, then it waits for the client's RecvMsg
  | s, cc, .running (.send m :: ss), .recv :: cs =>
      cev (.msg (I.xfer (I.preSend s) .s2c m reuse).2)
        (go I fin reuse (I.xfer (I.preSend s) .s2c m reuse).1 cc (.running ss) cs)
  | s, cc, .running (.send m :: ss), .header :: cs =>
      match I.header (I.preSend s) with
      | some md => cev (.hdr md) (go I fin reuse (I.preSend s) cc (.running (.send m :: ss)) cs)
      | none => stuckT
  | s, false, .running (.send m :: ss), .closeSend :: cs =>
      cev .closed (go I fin reuse (I.preSend s) true (.running (.send m :: ss)) cs)
  | _, _, .running (.send _ :: _), [] => leftT
  | _, _, .running (.send _ :: _), _ :: _ => stuckT
  -- handler in RecvMsg
  | s, true, .running (.recv :: ss), cs =>
      sev .eof (go I fin reuse s true (.running ss) cs)
  | s, false, .running (.recv :: ss), .send m :: cs =>
      cev .sent (sev (.got (I.xfer s .c2s m reuse).2)
        (go I fin reuse (I.xfer s .c2s m reuse).1 false (.running ss) cs))
  | s, false, .running (.recv :: ss), .closeSend :: cs =>
      cev .closed (go I fin reuse s true (.running (.recv :: ss)) cs)
  | s, false, .running (.recv :: ss), .header :: cs =>
      match I.header s with
      | some md => cev (.hdr md) (go I fin reuse s false (.running (.recv :: ss)) cs)
      | none => stuckT
  | s, false, .running (.recv :: _), .abort a :: cs =>
      cev (.did a) (sev .abort (go I fin reuse (I.abort s a) false .aborted cs))
  | _, false, .running (.recv :: _), [] => leftT
  | _, false, .running (.recv :: _), _ :: _ => stuckT
  -- handler blocked on its own event source until the context ends
  | s, cc, .running (.wait :: ss), .header :: cs =>
      match I.header s with
      | some md => cev (.hdr md) (go I fin reuse s cc (.running (.wait :: ss)) cs)
      | none => stuckT
  | s, false, .running (.wait :: ss), .closeSend :: cs =>
      cev .closed (go I fin reuse s true (.running (.wait :: ss)) cs)
  | s, cc, .running (.wait :: _), .abort a :: cs =>
      cev (.did a) (sev .abort (go I fin reuse (I.abort s a) cc .aborted cs))
  | _, _, .running (.wait :: _), [] => leftT
  | _, _, .running (.wait :: _), _ :: _ => stuckT
  -- the handler has returned: the client runs alone
  | _, _, .done, [] => endT
  | s, cc, .done, .recv :: cs =>
      match I.terminal s with
      | some e => cev e (go I fin reuse s cc .done cs)
      | none => stuckT
  | s, cc, .done, .header :: cs =>
      match I.header s with
      | some md => cev (.hdr md) (go I fin reuse s cc .done cs)
      | none => stuckT
  | s, cc, .done, .trailer :: cs =>
      cev (.trl (I.trailer s)) (go I fin reuse s cc .done cs)
  | s, false, .done, .closeSend :: cs =>
      cev .closed (go I fin reuse s true .done cs)
  | _, _, .done, _ :: _ => stuckT
  -- the call was aborted by the client: the terminal RecvMsg, and Header(): what was SENT as header before
  -- the abort, nothing if headers were only staged (`clientStream.Header`'s ctx.Done branch probes the latch).
  -- (grpc-go's Header() after a cancel depends on whether the HEADERS frame was already processed when one
  -- was written: `sync` admits the op only when none was; Trailer() after an abort is the recorded finding
  -- `trailer-after-abort`: gRPC has received no trailers and returns none, the wrapped client is handed what the
  -- handler has staged with SetTrailer so far; `go` answers `stuck` for it)
  | _, _, .aborted, [] => endT
  | s, cc, .aborted, .recv :: cs =>
      match I.terminal s with
      | some e => cev e (go I fin reuse s cc .aborted cs)
      | none => stuckT
  | s, cc, .aborted, .header :: cs =>
      match I.header s with
      | some md => cev (.hdr md) (go I fin reuse s cc .aborted cs)
      | none => stuckT
  | _, _, .aborted, _ :: _ => stuckT
termination_by _ _ srv cs => srv.size + cs.length
decreasing_by all_goals (simp only [Srv.size, List.length_cons]; omega)

end ScVerif.C13
