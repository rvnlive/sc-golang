import ScVerif.C13.InvokeLemmas
import ScVerif.C13.InvokeSrv
import ScVerif.C13.InvokeInv
import ScVerif.C13.PropsSelect
/-!
# C13 — a unary call (`wrapper.Invoke`) is released by its caller's context

`step` (Invoke.lean) follows the caller's goroutine through the three `select`s Invoke can be blocked in, one ready case
at a time; `reach` / `runs` do so along a list of instants of the stream, `hstep` / `hruns` (InvokeSrv.lean) the same for
the goroutine Invoke starts for the handler.  The instants are ARBITRARY (the handler and the caller's context are not a
fixed program): each theorem constrains them only by what it says.  A unary method of a generated trait wrapper is this
function (Invoke.lean).
-/
namespace ScVerif.C13
open Wrap

/-- **No blocking call of Invoke blocks once the stream's context has ended** — the caller cancelled, its deadline
passed, or the handler returned. -/
theorem C13_invoke_never_blocks_once_context_ended (pc : IPc) (c : Chans) (hp : pc.isDone = false)
    (hd : ctxDone c.w = true) : step pc c ≠ [] :=
  step_ne_nil hd hp

/-- **The caller of a unary call is released when its context ends, and with that as the outcome.**  The handler has
not returned and is not answering (busy with work of its own, for as long as it likes): along every sequence of such
instants whatever Invoke returns is the caller's own cancellation / deadline expiry as such: never a reply, never a
status of the handler, never a clean end. -/
theorem C13_invoke_released_as_cancelled (a : Abort) (cs : List Chans)
    (h : ∀ c ∈ cs, c.w.ctxErr = some a ∧ c.w.closed = none ∧ c.offer = none)
    (pc : IPc) (hpc : pc = .send ∨ pc = .recv) (r : IRes) (hr : IPc.done r ∈ reach pc cs) :
    r = .early (.aborted a) ∨ ∃ hd tr, r = .full (.ev (.aborted a)) hd tr := by
  have hpc' : Ends (.aborted a) pc := by rcases hpc with rfl | rfl <;> trivial
  exact ends_done (reach_ends cs (fun c hc => Parked.gives (h c hc)) pc hpc' _ hr)

/-- **The caller is released at once**: three scheduling points of the caller's goroutine (one per blocking call) are
enough, on every path; no step of the handler is needed. -/
theorem C13_invoke_returns_within_three_selects (c₁ c₂ c₃ : Chans)
    (h₁ : ctxDone c₁.w = true) (h₂ : ctxDone c₂.w = true) (h₃ : ctxDone c₃.w = true) (pc : IPc) :
    ∀ pc' ∈ runs pc [c₁, c₂, c₃], pc'.isDone = true := by
  apply runs_complete
  · intro c hc
    simp at hc
    rcases hc with rfl | rfl | rfl <;> assumption
  · cases pc <;> simp [IPc.rank]

/-- **A handler parked after taking the request, the caller cancels (or its deadline passes)**: the `grpc.Header` call
option is given the header metadata if it had been SENT and nothing if it had only been staged (what real gRPC has on
the client at that moment). -/
theorem C13_invoke_parked_handler (a : Abort) (c : Chans) (ha : c.w.ctxErr = some a) (hc : c.w.closed = none)
    (ho : c.offer = none) :
    frozen .recv c ≠ [] ∧
    ∀ r ∈ frozen .recv c, r = .full (.ev (.aborted a)) (if c.w.headerC then c.w.header else []) c.w.trailer := by
  have hp : Parked a c := ⟨ha, hc, ho⟩
  refine ⟨frozen_ne_nil hp.ctxDone .recv, fun r hr => ?_⟩
  obtain ⟨r', hr', md, hmd, rfl⟩ := mem_frozen_recv hr
  rw [hp.gives.2 r' hr', headerResults_eq hmd]

/-- **What the goroutine of Invoke is for.**  In the design that runs the handler of a unary call on the caller's own
goroutine (`directCall`: not the code) the caller has no result for as long as the handler has not returned, also when
its context has long ended; Invoke returns in every such state (C13_invoke_never_blocks_once_context_ended). -/
theorem C13_direct_call_holds_caller :
    (∀ c : Chans, c.w.closed = none → directCall c = []) ∧
    ∃ c : Chans, ctxDone c.w = true ∧ directCall c = [] ∧
      frozen .recv c = [.full (.ev (.aborted .cancel)) [] []] := by
  refine ⟨fun c h => by simp [directCall, h], ⟨{ ctxErr := some .cancel }, none, false⟩, by decide +kernel⟩

/-- A design that only relabels the direct call's result afterwards (`directCall`) gives the right CODE once the handler
does return: only the moment of the return tells it from Invoke. -/
theorem C13_direct_call_same_code_when_handler_returns (c : Chans) (a : Abort) (err : Fin)
    (ha : c.w.ctxErr = some a) (hc : c.w.closed = some err) : directCall c = [.aborted a] := by
  simp [directCall, ha, hc]

/-- **`collectMetadata` never blocks**: once Invoke's RecvMsg has returned, the `Header()` read for the `grpc.Header`
call option has a ready case in every later instant.  A handler offers its reply only after `sendHeaderIfNeeded`
(`OfferedAfterFlush`, C13_handler_offers_only_after_flush), a terminal result means the stream's context has ended, and
neither is ever undone (`Later`, C13_stream_only_moves_forward). -/
theorem C13_invoke_collect_never_blocks (c c' : Chans) (r : Res) (hinv : OfferedAfterFlush c)
    (hl : Later c c') (hr : IPc.collect r ∈ step .recv c) : step (.collect r) c' ≠ [] := by
  obtain ⟨r', hr', _⟩ := List.mem_map.mp hr
  have ha : avail c'.w = true := avail_iff.mpr ((avail_iff.mp (avail_of_recv hinv hr')).imp hl.1 hl.2)
  exact fun h => headerResults_ne_nil ha (List.map_eq_nil_iff.mp h)

/-- What `serverStream.SendMsg` establishes: `SendHeader` refuses on an ended context (1e9d1bd), so the latch may
legitimately be open there, and Header() then takes its context case. -/
theorem C13_handler_offers_only_after_flush (w : State) (offer : Option Nat) (tk : Bool) :
    OfferedAfterFlush ⟨sendHeaderIfNeeded w, offer, tk⟩ :=
  fun _ => avail_iff.mp (avail_preSend Cfg.current w)

/-- Nothing that can happen to the shared state re-opens the header latch or revives an ended context. -/
theorem C13_stream_only_moves_forward (w : State) (m : Move) (o o' : Option Nat) (t t' : Bool) :
    Later ⟨w, o, t⟩ ⟨m.apply w, o', t'⟩ :=
  Move.forward w m o o' t t'

/-- **A handler that has returned an error: the caller gets exactly that status**, whether the request was still taken
or not. -/
theorem C13_invoke_gives_handler_status (err : Fin) (cs : List Chans)
    (h : ∀ c ∈ cs, c.w.closed = some err ∧ c.w.ctxErr = none) (r : IRes) (hr : IPc.done r ∈ reach .send cs) :
    r = .early (closeErrEv err) ∨ ∃ hd tr, r = .full (.ev (closeErrEv err)) hd tr :=
  ends_done (reach_ends cs (fun c hc => gives_of_closed (h c hc).1 (h c hc).2) .send trivial _ hr)

/-- **The reply**: Invoke's RecvMsg takes it, and `collectMetadata` then reads the sent header and the trailer of that
instant. -/
theorem C13_invoke_reply (c : Chans) (m : Nat) (hc : c.w.closed = none) (ha : c.w.ctxErr = none)
    (ho : c.offer = some m) (hinv : OfferedAfterFlush c) :
    step .recv c = [.collect (.msg m)] ∧
    step (.collect (.msg m)) c = [.done (.full (.msg m) c.w.header c.w.trailer)] := by
  have hh : c.w.headerC = true := (hinv (by simp [ho])).resolve_right (by simp [ctxDone_live hc ha])
  simp [step, recvResults_live hc ha, headerResults, ctxDone_live hc ha, ho, hh]

/-- Non-vacuity: the instants of `C13_invoke_released_as_cancelled` exist and Invoke does return along them
(header a=1 only staged, the deadline passed while the handler is parked, the request taken on the way). -/
example :
    (runs .send [⟨{ header := [("a", "1")], ctxErr := some .deadline }, none, true⟩,
                 ⟨{ header := [("a", "1")], ctxErr := some .deadline }, none, false⟩,
                 ⟨{ header := [("a", "1")], ctxErr := some .deadline }, none, false⟩]).contains
      (.done (.full (.ev (.aborted .deadline)) [] [])) = true := by
  decide +kernel

/-- **No goroutine is left behind a unary call whose caller has gone**: wherever the handler goroutine is — decoding the
request, in work of its own that takes `n` more steps and never looks at its context, handing over its reply — it
reaches `Close` within its remaining steps plus its two blocking calls: neither `ss.RecvMsg` nor `ss.SendMsg(res)`
waits for a caller that is no longer there. -/
theorem C13_invoke_handler_goroutine_ends (cs : List SChans) (h : ∀ c ∈ cs, ctxDone c.w = true) (pc : HPc)
    (hn : pc.rank ≤ cs.length) : ∀ pc' ∈ hruns pc cs, pc'.isClosed = true :=
  hruns_complete cs h pc hn

/-- **The late reply is dropped, and the handler is told why**: Invoke has returned; the `ss.SendMsg(res)` of a handler
that finishes afterwards has exactly one ready case, the context's, and nobody is handed the reply. -/
theorem C13_invoke_late_reply_dropped (c : SChans) (a : Abort) (m : Nat) (ha : c.w.ctxErr = some a)
    (ht : c.cTaker = false) : hstep (.send m) c = [.closed (cancelFin a)] := by
  simp [hstep, ssendResults_done (ctxDone_of_ctxErr ha), srvCtxErr, ha, ht]

/-- With the caller still there (context live, inside RecvMsg) the reply is handed over and the call ends OK. -/
theorem C13_invoke_reply_handed_over (c : SChans) (m : Nat) (ha : c.w.ctxErr = none) (hc : c.w.closed = none)
    (ht : c.cTaker = true) : hstep (.send m) c = [.closed .ok] := by
  simp [hstep, ssendResults_live hc ha, ht]

/-- **Invoke reads what the rendezvous model reads**: `Wrap.terminal` / `Wrap.header` / `Wrap.trailer`, which `Wrap.run`
uses for the client ops, are what Invoke hands back on every combination of ready select cases; and when Invoke does
not return, the rendezvous model's RecvMsg blocks too. -/
theorem C13_invoke_agrees_with_rendezvous_reads (w : State) (tk : Bool) :
    (∀ r ∈ frozen .recv ⟨w, none, tk⟩, ∃ e md, terminal w = some e ∧ header w = some md ∧
      r = .full (.ev e) md (trailer w)) ∧
    (frozen .recv ⟨w, none, tk⟩ = [] → terminal w = none) := by
  constructor
  · intro r hr
    obtain ⟨r', hr', md, hmd, rfl⟩ := mem_frozen_recv hr
    have h1 := (C13_recv_select_agrees_with_terminal w tk).1 r' hr'
    have h2 := (C13_header_select_agrees w).1 md hmd
    cases ht : terminal w with
    | none => simp [ht] at h1
    | some e =>
      simp [ht] at h1
      exact ⟨e, md, rfl, h2.symm, by simp [h1, trailer]⟩
  · intro hnil
    -- if RecvMsg had a terminal event the context has ended, and then Invoke returns
    refine Option.eq_none_iff_forall_ne_some.mpr fun e ht => frozen_ne_nil (c := ⟨w, none, tk⟩) ?_ .recv hnil
    cases hc : w.closed <;> cases ha : w.ctxErr <;> simp_all [terminal, ctxDone]

/-- Non-vacuity: a handler with three steps of its own work ahead, the caller cancelled. -/
example : hruns (.work 3 7 .ok) (List.replicate 5 ⟨{ ctxErr := some .cancel }, none, false, true⟩) =
    [.closed (cancelFin .cancel)] := by decide +kernel

end ScVerif.C13
