import ScVerif.C13.Invoke
import ScVerif.C13.Async
/-
C13 — the goroutine `wrapper.Invoke` starts for the handler (pkg/wrap/wrap.go), at the level of its blocking calls:

```
go func() {
    res, err := matched.Handler(w.srv, ss.Context(), func(dst any) error { return ss.RecvMsg(dst) }, nil)
    if err != nil { clientServerStream.Close(err); return }
    err = ss.SendMsg(res)
    clientServerStream.Close(err)
}()
```

`matched.Handler` is the generated `_Xxx_Handler`: it decodes the request (`dec(in)` = `ss.RecvMsg`), returns the
decode error if there is one, and otherwise calls the server's method — the handler proper: work of its own for as
long as it likes (it may or may not watch its context: both are runs of `work`), ending in a reply or an error.
The goroutine is inside `serverStream.RecvMsg` / `SendMsg` (selects: Select.lean `srecvResults` / `ssendResults`) or
in the handler's own code.  As in Invoke.lean the state of the stream at each step is arbitrary.
-/
namespace ScVerif.C13
namespace Wrap

/-- Where the handler goroutine is. -/
inductive HPc where
  /-- inside `ss.RecvMsg` (the request decode); `res` / `err`: what the server's method will come to -/
  | recv (work : Nat) (res : Nat) (err : Fin)
  /-- in the server's method: `work` more steps of its own, then it returns (`res`, `err`) -/
  | work (work : Nat) (res : Nat) (err : Fin)
  /-- inside `ss.SendMsg(res)` -/
  | send (res : Nat)
  /-- `Close(err)` called, goroutine over -/
  | closed (err : Fin)
  deriving DecidableEq, Repr

def HPc.isClosed : HPc → Bool
  | .closed _ => true
  | _ => false

/-- One step of the handler goroutine in an instant of the stream (`[]` = blocked in a select). -/
def hstep (pc : HPc) (c : SChans) : List HPc :=
  match pc with
  | .recv n res err => (srecvResults c).map fun
      | .msg _ => .work n res err
      | .eof => .closed (.plain "EOF")            -- the decode error, handed to Close (an io.EOF: Unknown "EOF")
      | .ctxErr a => .closed (cancelFin a)
      | .sent => .closed (.plain "unreachable")
  | .work (n + 1) res err => [.work n res err]
  | .work 0 res err => if err = .ok then [.send res] else [.closed err]
  | .send _ => (ssendResults c).map fun
      | .sent => .closed .ok
      | .ctxErr a => .closed (cancelFin a)
      | _ => .closed (.plain "unreachable")
  | .closed _ => []

/-- Blocking calls and own steps ahead. -/
def HPc.rank : HPc → Nat
  | .recv n _ _ => n + 3
  | .work n _ _ => n + 2
  | .send _ => 1
  | .closed _ => 0

/-- The goroutine along the instants `cs`, taking a step whenever it can. -/
def hruns (pc : HPc) : List SChans → List HPc
  | [] => [pc]
  | c :: cs => (if hstep pc c = [] then [pc] else hstep pc c).flatMap (hruns · cs)

end Wrap
end ScVerif.C13
