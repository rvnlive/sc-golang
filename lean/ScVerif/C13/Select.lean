import ScVerif.C13.Wrap
/-
C13 — the blocking calls of both halves as Go `select` statements (pkg/wrap/stream.go `clientStream.RecvMsg`,
`awaitStatus`, `SendMsg`, `Header`; `serverStream.SendMsg`, `RecvMsg`), case by case.

`Wrap.terminal` / `Wrap.header` (Wrap.lean) are deterministic functions of the shared state; the code is a
`select` over channels, which picks ANY ready case.  Here every ready case is followed separately and a call
yields the LIST of results it can have in a given instant of the stream (`[]` = it blocks).  Props in
PropsSelect.lean: all ready cases agree (so the deterministic functions are justified), every call returns
once the stream's context has ended — whatever the handler is doing —, and the wait for the status after the
single response (`awaitStatus`) gives way to the caller's cancellation.

What the client half sees of the channels, besides `Wrap.State`:
* `offer`: the handler is inside `SendMsg`, offering this message on `serverSend` (unbuffered: a receive
  is ready exactly then, or when `Close` has closed the channel);
* `taker`: the handler is inside `RecvMsg`, ready to take from `clientSend`.
`State.closed = some err` stands for the whole of `Close` (closeErr stored, `serverSend` closed, stream
context cancelled: the intermediate points are CloseSteps.lean); `State.ctxErr` = the caller's context ended.
-/
namespace ScVerif.C13
namespace Wrap

structure Chans where
  w : State
  offer : Option Nat := none
  taker : Bool := false
  deriving DecidableEq, Repr

/-- `<-c.ctx.Done()` is ready: the stream's context is a child of the caller's, cancelled by `Close`. -/
def ctxDone (w : State) : Bool := w.closed.isSome || w.ctxErr.isSome

/-- `c.ctx.Err()` as the caller classifies it: the caller's own cancel / deadline when that ended the context;
after `Close` alone the stream context is cancelled (the code only reaches `ctx.Err()` when `serverSend` is
not closed, i.e. not in that case). -/
def ctxErrEv (w : State) : Ev :=
  match w.ctxErr with
  | some a => .aborted a
  | none => .aborted .cancel

/-- One result of a receiving call. -/
inductive Res where
  | msg (m : Nat)     -- a message was taken from the handler's SendMsg
  | ev (e : Ev)       -- the call returned this terminal event
  | deliver           -- awaitStatus returned nil: the held response is delivered
  deriving DecidableEq, Repr

/-- `closeErrLocked()` as the caller reads it. -/
def closeErrEv (err : Fin) : Ev := canon err

/-- `clientStream.RecvMsg`, up to the point where a message has been taken:
```
select {
case <-ctx.Done():  select { case _, ok := <-serverSend: if !ok { return closeErrLocked() }; default: }; return ctx.Err()
case val, ok := <-serverSend: if !ok { return closeErrLocked() }; … val …
}
``` -/
def recvResults (c : Chans) : List Res :=
  (if ctxDone c.w then
    [match c.w.closed with
     | some err => Res.ev (closeErrEv err)        -- the probe finds serverSend closed
     | none => Res.ev (ctxErrEv c.w)]             -- (an offered message is taken by the probe and dropped)
   else []) ++
  (match c.w.closed, c.offer with
   | some err, _ => [Res.ev (closeErrEv err)]
   | none, some m => [Res.msg m]
   | none, none => [])

/-- `clientStream.awaitStatus` (the code now): after the single response was taken,
```
select {
case <-ctx.Done():  select { case _, ok := <-serverSend: if !ok { return closeErr() }; default: }; return ctx.Err()
case _, ok := <-serverSend: if !ok { return closeErr() }; return Internal "cardinality violation"
}
```
`closeErr()` = nil when the handler returned nil (the response is delivered), else the handler's error. -/
def awaitClosed (err : Fin) : Res := if err = .ok then .deliver else .ev (closeErrEv err)

def cardinality : Ev := .fin 13 "cardinality violation: expected one response, got more"

def awaitResults (c : Chans) : List Res :=
  (if ctxDone c.w then
    [match c.w.closed with
     | some err => awaitClosed err
     | none => Res.ev (ctxErrEv c.w)]
   else []) ++
  (match c.w.closed, c.offer with
   | some err, _ => [awaitClosed err]
   | none, some _ => [Res.ev cardinality]
   | none, none => [])

/-- A wait for the status that only receives from `serverSend` (no context case) — NOT the code; kept to state
why the context case is necessary. -/
def awaitPlainReceive (c : Chans) : List Res :=
  match c.w.closed, c.offer with
  | some err, _ => [awaitClosed err]
  | none, some _ => [Res.ev cardinality]
  | none, none => []

/-- `clientStream.SendMsg`: `select { case <-ctx.Done(): return closeErrLocked(); case clientSend <- snapshot(m): return nil }`
(`closeErrLocked()` is `io.EOF` when `Close` has not stored an error). -/
def sendResults (c : Chans) : List Ev :=
  (if ctxDone c.w then [Ev.sendErr] else []) ++ (if c.taker then [Ev.sent] else [])

/-- `clientStream.Header()`: `select { case <-ctx.Done(): (headerC closed ? header : nil); case <-headerC: header }`. -/
def headerResults (w : State) : List MD :=
  (if ctxDone w then [if w.headerC then w.header else []] else []) ++ (if w.headerC then [w.header] else [])

/-! ### The handler's half (`serverStream.SendMsg`, `serverStream.RecvMsg`) -/

/-- What the handler's half sees of the client: `cOffer` = the client is inside `SendMsg` offering this message on
`clientSend`; `cTaker` = the client is inside `RecvMsg`; `halfClosed` = `CloseSend` has closed `clientSend`. -/
structure SChans where
  w : State
  cOffer : Option Nat := none
  cTaker : Bool := false
  halfClosed : Bool := false
  deriving DecidableEq, Repr

inductive SRes where
  | sent                -- SendMsg returned nil
  | msg (m : Nat)       -- RecvMsg delivered a message
  | eof                 -- RecvMsg returned io.EOF: the client half-closed
  | ctxErr (a : Abort)  -- `ctxErr()`: the status of the stream context's error (Canceled / DeadlineExceeded)
  deriving DecidableEq, Repr

/-- `status.FromContextError(s.ctx.Err())`: the caller's cancel / deadline when that ended the context, Canceled
when only `Close` did. -/
def srvCtxErr (w : State) : Abort := w.ctxErr.getD .cancel

/-- `serverStream.SendMsg` after `sendHeaderIfNeeded`:
`select { case <-ctx.Done(): return ctxErr(); case serverSend <- snapshot(m): return nil }`. -/
def ssendResults (c : SChans) : List SRes :=
  (if ctxDone c.w then [SRes.ctxErr (srvCtxErr c.w)] else []) ++ (if c.cTaker then [SRes.sent] else [])

/-- `serverStream.RecvMsg`:
`select { case <-ctx.Done(): return ctxErr(); case val, ok := <-clientSend: if !ok { return io.EOF }; … val … }`. -/
def srecvResults (c : SChans) : List SRes :=
  (if ctxDone c.w then [SRes.ctxErr (srvCtxErr c.w)] else []) ++
  (if c.halfClosed then [SRes.eof]
   else match c.cOffer with
     | some m => [SRes.msg m]
     | none => [])

end Wrap
end ScVerif.C13
