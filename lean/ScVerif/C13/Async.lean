import ScVerif.C13.Conn
/-
C13 — cancellation / deadline at ARBITRARY positions (not only where the handler is blocked waiting).

Until the client's abort the call runs under the rendezvous discipline (`go`); `stateAt` gives the
machine state at that point, `advance` how far the handler may have got on its own by then.  From then on the
handler unwinds on its own (`unwind`: every blocking
call of the handler also waits on the call's context, so it either completes with the client's help or
returns the context's error, which the handler returns in turn) while the client goes on with
`RecvMsg` / `Header()` / `Trailer()`; how far the handler has got when the client looks is not
determined, so the result is the LIST of all possible client transcripts (`after`, `asyncRuns`).
-/
namespace ScVerif.C13

/-- The status a handler's SendMsg / RecvMsg return once the call's context has ended (gRPC, and the
wrapper since 3d4f9fa). -/
def cancelFin : Abort → Fin
  | .cancel => .status 1 "context canceled"
  | .deadline => .status 4 "context deadline exceeded"

/-- What a handler that returns the error its failing SendMsg / RecvMsg gave it returns under the
wrapper: the context's status (current code) or io.EOF, i.e. a clean end (legacy). -/
def Wrap.opErr (c : Cfg) (a : Abort) : Fin := if c.srvCtxErr then cancelFin a else .ok

/-- The machine state after the client ops `cs` (none = the scripts left the rendezvous discipline).
The clauses of `go` without the transcript, except that the handler is kept as far back as possible (a client op
that does not need it is served before a pending local op of the handler), so that `advance` can list how far it may
have got on its own. -/
def stateAt {σ : Type} (I : Impl σ) (fin : Fin) (reuse : Bool) : σ → Bool → Srv → List COp → Option (σ × Bool × Srv)
  -- the client's last op before the abort is done: the handler is wherever that op left it (what it does
  -- next on its own, `unwind` follows)
  | s, cc, srv, [] => some (s, cc, srv)
  -- client ops that do not need the handler leave it where it is
  | s, false, .running ops, .closeSend :: cs => stateAt I fin reuse s true (.running ops) cs
  | s, cc, .running (.setHeader md :: ss), .header :: cs =>
      match I.header s with
      | some _ => stateAt I fin reuse s cc (.running (.setHeader md :: ss)) cs
      | none => stateAt I fin reuse (I.setHeader s md).1 cc (.running ss) (.header :: cs)
  | s, cc, .running (.sendHeader md :: ss), .header :: cs =>
      match I.header s with
      | some _ => stateAt I fin reuse s cc (.running (.sendHeader md :: ss)) cs
      | none => stateAt I fin reuse (I.sendHeader s md).1 cc (.running ss) (.header :: cs)
  | s, cc, .running (.setTrailer md :: ss), .header :: cs =>
      match I.header s with
      | some _ => stateAt I fin reuse s cc (.running (.setTrailer md :: ss)) cs
      | none => stateAt I fin reuse (I.setTrailer s md) cc (.running ss) (.header :: cs)
  | s, cc, .running (.setHeader md :: ss), cs => stateAt I fin reuse (I.setHeader s md).1 cc (.running ss) cs
  | s, cc, .running (.sendHeader md :: ss), cs => stateAt I fin reuse (I.sendHeader s md).1 cc (.running ss) cs
  | s, cc, .running (.setTrailer md :: ss), cs => stateAt I fin reuse (I.setTrailer s md) cc (.running ss) cs
  | s, cc, .running [], cs => stateAt I fin reuse (I.close s fin) cc .done cs
  | s, cc, .running (.send m :: ss), .recv :: cs =>
      stateAt I fin reuse (I.xfer (I.preSend s) .s2c m reuse).1 cc (.running ss) cs
  | s, cc, .running (.send m :: ss), .header :: cs =>
      match I.header (I.preSend s) with
      | some _ => stateAt I fin reuse (I.preSend s) cc (.running (.send m :: ss)) cs
      | none => none
  | _, _, .running (.send _ :: _), _ :: _ => none
  | s, true, .running (.recv :: ss), cs => stateAt I fin reuse s true (.running ss) cs
  | s, false, .running (.recv :: ss), .send m :: cs =>
      stateAt I fin reuse (I.xfer s .c2s m reuse).1 false (.running ss) cs
  | s, false, .running (.recv :: ss), .header :: cs =>
      match I.header s with
      | some _ => stateAt I fin reuse s false (.running (.recv :: ss)) cs
      | none => none
  | _, false, .running (.recv :: _), _ :: _ => none
  | s, cc, .running (.wait :: ss), .header :: cs =>
      match I.header s with
      | some _ => stateAt I fin reuse s cc (.running (.wait :: ss)) cs
      | none => none
  | _, _, .running (.wait :: _), _ :: _ => none
  | s, cc, .done, .recv :: cs =>
      match I.terminal s with
      | some _ => stateAt I fin reuse s cc .done cs
      | none => none
  | s, cc, .done, .header :: cs =>
      match I.header s with
      | some _ => stateAt I fin reuse s cc .done cs
      | none => none
  | s, cc, .done, .trailer :: cs => stateAt I fin reuse s cc .done cs
  | s, false, .done, .closeSend :: cs => stateAt I fin reuse s true .done cs
  | _, _, .done, _ :: _ => none
  | _, _, .aborted, _ :: _ => none
termination_by _ _ srv cs => srv.size + cs.length
decreasing_by all_goals (simp only [Srv.size, List.length_cons]; omega)

/-- The states the handler passes through while it unwinds after the abort without the client taking
part: at a `send` it is blocked in SendMsg (header latch flushed) until the client takes the message
(that continuation is followed by `after`) or SendMsg returns the context's error and the handler
returns it (`opErr`); a `recv` / `wait` returns the context's error likewise (after a half-close a
`recv` may also still see io.EOF and go on). -/
def unwind {σ : Type} (I : Impl σ) (fin opErr : Fin) (cc : Bool) : σ → List SOp → List (σ × Srv)
  | s, [] => [(s, .running []), (I.close s fin, .done)]
  | s, .setHeader md :: ss => (s, .running (.setHeader md :: ss)) :: unwind I fin opErr cc (I.setHeader s md).1 ss
  | s, .sendHeader md :: ss => (s, .running (.sendHeader md :: ss)) :: unwind I fin opErr cc (I.sendHeader s md).1 ss
  | s, .setTrailer md :: ss => (s, .running (.setTrailer md :: ss)) :: unwind I fin opErr cc (I.setTrailer s md) ss
  | s, .send m :: ss => [(I.preSend s, .running (.send m :: ss)), (I.close (I.preSend s) opErr, .done)]
  | s, .recv :: ss =>
      (s, .running (.recv :: ss)) :: (I.close s opErr, .done) :: (if cc then unwind I fin opErr cc s ss else [])
  | s, .wait :: ss => [(s, .running (.wait :: ss)), (I.close s opErr, .done)]

/-- How far the handler may have got ON ITS OWN by the time the abort strikes (the client's last op before
the abort is done, the handler runs on concurrently): any number of its local ops, up to its next blocking
call — a `send` (latch flushed or not yet), a `recv` (passed with io.EOF after a half-close), a `wait` —
or its return.  These ops ran on a LIVE context (a SendHeader / flush among them did send the header). -/
def advance {σ : Type} (I : Impl σ) (fin : Fin) (cc : Bool) : σ → List SOp → List (σ × Srv)
  | s, [] => [(s, .running []), (I.close s fin, .done)]
  | s, .setHeader md :: ss => (s, .running (.setHeader md :: ss)) :: advance I fin cc (I.setHeader s md).1 ss
  | s, .sendHeader md :: ss => (s, .running (.sendHeader md :: ss)) :: advance I fin cc (I.sendHeader s md).1 ss
  | s, .setTrailer md :: ss => (s, .running (.setTrailer md :: ss)) :: advance I fin cc (I.setTrailer s md) ss
  | s, .send m :: ss => [(s, .running (.send m :: ss)), (I.preSend s, .running (.send m :: ss))]
  | s, .recv :: ss => (s, .running (.recv :: ss)) :: (if cc then advance I fin cc s ss else [])
  | s, .wait :: ss => [(s, .running (.wait :: ss))]

def advanced {σ : Type} (I : Impl σ) (fin : Fin) (cc : Bool) (s : σ) : Srv → List (σ × Srv)
  | .running ops => advance I fin cc s ops
  | srv => [(s, srv)]

def futures {σ : Type} (I : Impl σ) (fin opErr : Fin) (cc : Bool) (s : σ) : Srv → List (σ × Srv)
  | .running ops => unwind I fin opErr cc s ops
  | srv => [(s, srv)]

/-- What one client op can observe when the handler is in state `f`: the event, the handler state
afterwards, and whether the client has now seen the end of the call (no further RecvMsg). -/
def observe {σ : Type} (I : Impl σ) (a : Abort) (reuse : Bool) (term : Bool) (op : COp) (f : σ × Srv) :
    List (Ev × (σ × Srv) × Bool) :=
  match op with
  | .recv =>
    if term then [] else
    match f.2 with
    | .running (.send m :: ss) =>
        -- both select cases are ready: the message is delivered, or the context case wins (its probe of
        -- serverSend takes the pending message and drops it) and RecvMsg reports the context's error
        [(.msg (I.xfer f.1 .s2c m reuse).2, ((I.xfer f.1 .s2c m reuse).1, .running ss), false),
         (.aborted a, (f.1, .running ss), true)]
    | .done =>
        -- serverSend closed: the close error; or RecvMsg looked just before Close: the context's error
        match I.terminal f.1 with
        | some e => [(e, f, true), (.aborted a, f, true)]
        | none => [(.aborted a, f, true)]
    | _ => [(.aborted a, f, true)]
  | .header => [(.hdr ((I.header f.1).getD []), f, term)]
  | .trailer => [(.trl (I.trailer f.1), f, term)]
  | _ => []

/-- All possible client transcripts of the ops after the abort. -/
def after {σ : Type} (I : Impl σ) (fin opErr : Fin) (a : Abort) (reuse cc : Bool) :
    Bool → σ → Srv → List COp → List (List Ev)
  | _, _, _, [] => [[]]
  | term, s, srv, op :: cs =>
    match (futures I fin opErr cc s srv).flatMap (observe I a reuse term op) with
    | [] => [[.stuck]]
    | obs => obs.flatMap fun o => (after I fin opErr a reuse cc o.2.2 o.2.1.1 o.2.1.2 cs).map (o.1 :: ·)

/-- Split a client script at its first cancel / deadline. -/
def splitAbort : List COp → List COp × Option (Abort × List COp)
  | [] => ([], none)
  | .abort a :: cs => ([], some (a, cs))
  | op :: cs => (op :: (splitAbort cs).1, (splitAbort cs).2)

/-- All possible client transcripts of a call whose client script may abort anywhere. -/
def asyncRuns {σ : Type} (I : Impl σ) (fin : Fin) (opErr : Abort → Fin) (reuse : Bool) (s0 : σ) (ss : List SOp)
    (cs : List COp) : List (List Ev) :=
  match splitAbort cs with
  | (pre, none) => [(go I fin reuse s0 false (.running ss) pre).client]
  | (pre, some (a, post)) =>
    match stateAt I fin reuse s0 false (.running ss) pre with
    | none => [(go I fin reuse s0 false (.running ss) pre).client]
    | some (s, cc, srv) =>
      ((advanced I fin cc s srv).flatMap fun p =>
          after I fin (opErr a) a reuse cc false (I.abort p.1 a) p.2 post).map fun evs =>
        (go I fin reuse s0 false (.running ss) pre).client ++ .did a :: evs

def Wrap.asyncRuns (c : Cfg) (shape : Shape) (ss : List SOp) (fin : Fin) (cs : List COp) (reuse : Bool) :
    List (List Ev) :=
  ScVerif.C13.asyncRuns (Wrap.impl c) fin (Wrap.opErr c) reuse {} ss (clientOps shape cs)

end ScVerif.C13
