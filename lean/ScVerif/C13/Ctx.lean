import ScVerif.C13.Conn
/-
C13 — what of the caller's `context.Context` crosses the boundary (`wrapper.startStream`,
pkg/wrap/wrap.go) and what a real connection carries.

A context handed to `Invoke` / `NewStream` is very often a server handler's own context (routers,
proxies, a model calling into another wrapped model): it then carries the INCOMING metadata of the
request being served, possibly OUTGOING metadata the caller attached for this call, a deadline, and
request-scoped values (peer, auth info).  A connection transmits the outgoing metadata (it becomes the
server's incoming metadata) and the deadline; nothing else.

A handler is modelled as an arbitrary FUNCTION of what it can see of its context (`Handler`): its
script and return value may depend on the request metadata, on the presence of a deadline and on the
outgoing metadata of its own context (which decides what a downstream call made with that context
transmits).
-/
namespace ScVerif.C13

/-- What the caller's context carries, as far as the wrapper or gRPC look at it. -/
structure CallerCtx where
  /-- `metadata.FromIncomingContext`: the caller is itself serving a request -/
  incoming : Option MD := none
  /-- `metadata.FromOutgoingContext`: attached with NewOutgoingContext / AppendToOutgoingContext;
  `none` = no outgoing metadata at all (the `ok = false` result) -/
  outgoing : Option MD := none
  /-- the context has a deadline -/
  deadline : Bool := false
  /-- request-scoped values of the caller's own request (peer.FromContext, application values) -/
  values : Bool := false
  deriving DecidableEq, Repr

/-- What a handler can see of its own context, as far as a connection determines it. -/
structure SrvCtx where
  /-- `metadata.FromIncomingContext(ctx)`: the request metadata -/
  incoming : MD
  /-- the content of `metadata.FromOutgoingContext(ctx)`: what a downstream call made with the
  handler's context transmits (a gRPC server's context has none) -/
  outgoing : MD
  /-- `ctx.Deadline()` reports a deadline -/
  deadline : Bool
  deriving DecidableEq, Repr

/-- A handler: its script and return value as a function of what it sees of its context. -/
abbrev Handler := SrvCtx → List SOp × Fin

/-- The handler's log starts with what it saw of its context. -/
def ctxView (sc : SrvCtx) (t : Transcript) : Transcript :=
  sev (.incoming sc.incoming)
    (sevIf sc.deadline .deadline
      (sevIf (!sc.outgoing.isEmpty) (.outgoing sc.outgoing) t))

/-- Does the client script let a deadline pass?  (Then the caller's context has one.) -/
def hasDeadlineOp : List COp → Bool
  | [] => false
  | .abort .deadline :: _ => true
  | _ :: cs => hasDeadlineOp cs

namespace Wrap

/-- `wrapper.startStream`, the context part:
```
md, _ := metadata.FromOutgoingContext(ctx)
md = cloneMD(md)
ctx = metadata.NewIncomingContext(ctx, md)      // unconditional: masks the caller's own incoming metadata
(ctx = metadata.NewOutgoingContext(ctx, nil)    // `clearOutgoing`)
ctx = grpc.NewContextWithServerTransportStream(ctx, sts)
```
The context is DERIVED from the caller's: deadline (and cancellation) are inherited; so is the caller's
outgoing metadata unless it is cleared. -/
def startStream (c : Cfg) (ctx : CallerCtx) : SrvCtx :=
  { incoming := cloneMD (ctx.outgoing.getD [])
    outgoing := if c.clearOutgoing then [] else ctx.outgoing.getD []
    deadline := ctx.deadline }

/-- One scripted call through `wrap.ServerToClient` on the caller's context `ctx` with a handler that
looks at its context. -/
def runCtxCfg (c : Cfg) (shape : Shape) (ctx : CallerCtx) (h : Handler) (cs : List COp)
    (reuse : Bool := false) : Transcript :=
  match «open» shape with
  | .ok =>
    ctxView (startStream c ctx)
      (hold (holds c shape) (h (startStream c ctx)).2 (canon (h (startStream c ctx)).2)
        (go (impl c) (h (startStream c ctx)).2 reuse {} false (.running (h (startStream c ctx)).1) (clientOps shape cs)))
  | o => openErrT o

def runCtx (shape : Shape) (ctx : CallerCtx) (h : Handler) (cs : List COp) (reuse : Bool := false) :
    Transcript := runCtxCfg Cfg.current shape ctx h cs reuse

end Wrap

namespace GrpcRef

/-- A real connection: the client's outgoing metadata arrives as the server's incoming metadata, the
deadline travels as `grpc-timeout`; the server's context is the transport's own (no outgoing metadata,
none of the caller's incoming metadata or values). -/
def serverCtx (ctx : CallerCtx) : SrvCtx :=
  { incoming := ctx.outgoing.getD []
    outgoing := []
    deadline := ctx.deadline }

def runCtx (shape : Shape) (ctx : CallerCtx) (h : Handler) (cs : List COp) (reuse : Bool := false) :
    Transcript :=
  ctxView (serverCtx ctx)
    (hold (holds shape) (h (serverCtx ctx)).2 (statusEv (h (serverCtx ctx)).2)
      (go impl (h (serverCtx ctx)).2 reuse {} false (.running (h (serverCtx ctx)).1) (clientOps shape cs)))

end GrpcRef

/-! ### The closed family of context-dependent handlers used by the driver and the harness -/

/-- A handler op of the scripted server: a plain op, or `echoIn` = `SetHeader(request metadata)`
(the repo's own test server echoes the request metadata into the response header). -/
inductive HOp where
  | op (o : SOp)
  | echoIn
  deriving DecidableEq, Repr

def HOp.resolve (sc : SrvCtx) : HOp → SOp
  | .op o => o
  | .echoIn => .setHeader sc.incoming

/-- The scripted handler. -/
def scripted (hs : List HOp) (fin : Fin) : Handler := fun sc => (hs.map (HOp.resolve sc), fin)

end ScVerif.C13
