import ScVerif.C13.Async
import ScVerif.C13.StreamLemmas
import ScVerif.C13.Spec
/-
C13 — lemmas about the runs after an abort at an arbitrary position: every event is allowed (`AInv` along `stateAt`,
`advance`, `unwind`, `observe`, `after`), and `Header()` reads what it read at the abort (`Frozen` along `unwind`).
-/
namespace ScVerif.C13

namespace AllowedEv
variable {fin opErr : Fin} {a : Abort}

theorem aborted : AllowedEv fin opErr a (.aborted a) := Or.inl rfl
theorem msg (m : Nat) : AllowedEv fin opErr a (.msg m) := Or.inr (Or.inl ⟨m, rfl⟩)
theorem ret : AllowedEv fin opErr a (Wrap.canon fin) := Or.inr (Or.inr (Or.inl rfl))
theorem opFailed : AllowedEv fin opErr a (Wrap.canon opErr) := Or.inr (Or.inr (Or.inr (Or.inl rfl)))
theorem hdr (md : MD) : AllowedEv fin opErr a (.hdr md) := Or.inr (Or.inr (Or.inr (Or.inr (Or.inl ⟨md, rfl⟩))))
theorem trl (md : MD) : AllowedEv fin opErr a (.trl md) :=
  Or.inr (Or.inr (Or.inr (Or.inr (Or.inr (Or.inl ⟨md, rfl⟩)))))
theorem stuck : AllowedEv fin opErr a .stuck := Or.inr (Or.inr (Or.inr (Or.inr (Or.inr (Or.inr rfl)))))

end AllowedEv

/-- A returned handler has closed the stream with what the script returns or with the error its failing call gave it.
Nothing is asked of the other phases: `Close` stores its argument whatever the stream held, and nothing touches a
stream whose handler has returned. -/
def AInv (fin opErr : Fin) (w : Wrap.State) : Srv → Prop
  | .done => w.closed = some fin ∨ w.closed = some opErr
  | _ => True

/-- Every state the handler passes through while it unwinds is reached from `w` by its own header / trailer calls (the
flush in SendMsg is `SendHeader(nil)`), the last one possibly by `Close`. -/
theorem unwind_mem (c : Cfg) (fin opErr : Fin) (cc : Bool) {P : Wrap.State → Prop}
    (hset : ∀ w md, P w → P (Wrap.setHeader c w md).1) (hsend : ∀ w md, P w → P (Wrap.sendHeaderC c w md).1)
    (htrl : ∀ w md, P w → P (Wrap.setTrailer w md)) (ops : List SOp) :
    ∀ w, P w → ∀ f ∈ unwind (Wrap.impl c) fin opErr cc w ops,
      ∃ w', P w' ∧ ((∃ ops', f = (w', .running ops')) ∨ ∃ e, (e = fin ∨ e = opErr) ∧ f = (Wrap.close c w' e, .done)) := by
  induction ops with
  | nil =>
    intro w hw f hf
    simp only [unwind, List.mem_cons, List.mem_nil_iff, or_false] at hf
    rcases hf with rfl | rfl
    · exact ⟨w, hw, Or.inl ⟨_, rfl⟩⟩
    · exact ⟨w, hw, Or.inr ⟨fin, Or.inl rfl, rfl⟩⟩
  | cons op ss ih =>
    intro w hw f hf
    have hhere : ∀ ops', ∃ w', P w' ∧ ((∃ ops'', (w, Srv.running ops') = (w', .running ops'')) ∨
        ∃ e, (e = fin ∨ e = opErr) ∧ (w, Srv.running ops') = (Wrap.close c w' e, .done)) :=
      fun _ => ⟨w, hw, Or.inl ⟨_, rfl⟩⟩
    cases op <;> simp only [unwind, List.mem_cons, List.mem_nil_iff, or_false] at hf
    case setHeader md => exact hf.elim (· ▸ hhere _) (ih _ (hset w md hw) f)
    case sendHeader md => exact hf.elim (· ▸ hhere _) (ih _ (hsend w md hw) f)
    case setTrailer md => exact hf.elim (· ▸ hhere _) (ih _ (htrl w md hw) f)
    case send m =>
      rcases hf with rfl | rfl
      · exact ⟨_, hsend w [] hw, Or.inl ⟨_, rfl⟩⟩
      · exact ⟨_, hsend w [] hw, Or.inr ⟨opErr, Or.inr rfl, rfl⟩⟩
    case recv =>
      rcases hf with rfl | rfl | hf
      · exact hhere _
      · exact ⟨w, hw, Or.inr ⟨opErr, Or.inr rfl, rfl⟩⟩
      · cases cc
        · cases hf
        · exact ih w hw f hf
    case wait =>
      rcases hf with rfl | rfl
      · exact hhere _
      · exact ⟨w, hw, Or.inr ⟨opErr, Or.inr rfl, rfl⟩⟩

theorem unwind_inv (c : Cfg) (fin opErr : Fin) (cc : Bool) (ops : List SOp) (w : Wrap.State) :
    ∀ f ∈ unwind (Wrap.impl c) fin opErr cc w ops, AInv fin opErr f.1 f.2 := by
  intro f hf
  obtain ⟨w', -, ⟨ops', rfl⟩ | ⟨e, he, rfl⟩⟩ := unwind_mem c fin opErr cc (P := fun _ => True)
    (fun _ _ _ => trivial) (fun _ _ _ => trivial) (fun _ _ _ => trivial) ops w trivial f hf
  · trivial
  · exact he.imp (fun h : e = fin => h ▸ rfl) (fun h : e = opErr => h ▸ rfl)

theorem advance_inv (c : Cfg) (fin opErr : Fin) (cc : Bool) (ops : List SOp) :
    ∀ w : Wrap.State, ∀ f ∈ advance (Wrap.impl c) fin cc w ops, AInv fin opErr f.1 f.2 := by
  induction ops with
  | nil =>
    intro w f hf
    simp only [advance, List.mem_cons, List.mem_nil_iff, or_false] at hf
    rcases hf with rfl | rfl
    · trivial
    · exact Or.inl rfl
  | cons op ss ih =>
    intro w f hf
    cases op <;> simp only [advance, List.mem_cons, List.mem_nil_iff, or_false] at hf
    case setHeader md | sendHeader md | setTrailer md => exact hf.elim (· ▸ trivial) (ih _ f)
    case send m => exact hf.elim (· ▸ trivial) (· ▸ trivial)
    case recv =>
      rcases hf with rfl | hf
      · trivial
      · cases cc
        · cases hf
        · exact ih w f hf
    case wait => exact hf ▸ trivial

theorem advanced_inv (c : Cfg) (fin opErr : Fin) (cc : Bool) (w : Wrap.State) (srv : Srv)
    (h : AInv fin opErr w srv) : ∀ f ∈ advanced (Wrap.impl c) fin cc w srv, AInv fin opErr f.1 f.2 := by
  cases srv with
  | running ops => exact advance_inv c fin opErr cc ops w
  | done | aborted =>
    intro f hf
    cases List.mem_singleton.mp hf
    exact h

theorem futures_inv (c : Cfg) (fin opErr : Fin) (cc : Bool) (w : Wrap.State) (srv : Srv)
    (h : AInv fin opErr w srv) : ∀ f ∈ futures (Wrap.impl c) fin opErr cc w srv, AInv fin opErr f.1 f.2 := by
  cases srv with
  | running ops => exact unwind_inv c fin opErr cc ops w
  | done | aborted =>
    intro f hf
    cases List.mem_singleton.mp hf
    exact h

theorem observe_inv (c : Cfg) (fin opErr : Fin) (a : Abort) (reuse term : Bool) (op : COp) (f : Wrap.State × Srv)
    (h : AInv fin opErr f.1 f.2) :
    ∀ o ∈ observe (Wrap.impl c) a reuse term op f, AInv fin opErr o.2.1.1 o.2.1.2 ∧ AllowedEv fin opErr a o.1 := by
  -- by the branches of `observe`: only the terminal RecvMsg on a returned handler needs `h`; the others keep the state
  -- (or pass a message on a running handler) and give `aborted`, `msg`, `hdr` or `trl`
  intro o ho
  obtain ⟨w, srv⟩ := f
  dsimp only at h
  cases op with
  | recv =>
    simp only [observe] at ho
    cases term
    · simp only [Bool.false_eq_true, if_false] at ho
      cases srv with
      | running ops =>
        cases ops with
        | nil =>
          cases List.mem_singleton.mp ho
          exact ⟨h, .aborted⟩
        | cons op ss =>
          cases op <;> simp only [List.mem_cons, List.mem_nil_iff, or_false] at ho
          case send m =>
            rcases ho with rfl | rfl
            · exact ⟨trivial, .msg _⟩
            · exact ⟨trivial, .aborted⟩
          all_goals
            subst ho
            exact ⟨h, .aborted⟩
      | done =>
        rcases h with hx | hx <;>
          simp only [Wrap.impl, Wrap.terminal, hx, List.mem_cons, List.mem_nil_iff, or_false] at ho <;>
          rcases ho with rfl | rfl
        · exact ⟨Or.inl hx, .ret⟩
        · exact ⟨Or.inl hx, .aborted⟩
        · exact ⟨Or.inr hx, .opFailed⟩
        · exact ⟨Or.inr hx, .aborted⟩
      | aborted =>
        cases List.mem_singleton.mp ho
        exact ⟨h, .aborted⟩
    · cases ho
  | header =>
    cases List.mem_singleton.mp ho
    exact ⟨h, .hdr _⟩
  | trailer =>
    cases List.mem_singleton.mp ho
    exact ⟨h, .trl _⟩
  | send m => cases ho
  | closeSend => cases ho
  | abort b => cases ho

theorem after_allowed (c : Cfg) (fin opErr : Fin) (a : Abort) (reuse cc : Bool) (cs : List COp) :
    ∀ (term : Bool) (w : Wrap.State) (srv : Srv), AInv fin opErr w srv →
      ∀ evs ∈ after (Wrap.impl c) fin opErr a reuse cc term w srv cs, ∀ e ∈ evs, AllowedEv fin opErr a e := by
  induction cs with
  | nil =>
    intro term w srv _ evs hevs e he
    cases List.mem_singleton.mp hevs
    cases he
  | cons op cs ih =>
    intro term w srv h evs hevs e he
    simp only [after] at hevs
    split at hevs
    · cases List.mem_singleton.mp hevs
      cases List.mem_singleton.mp he
      exact .stuck
    · simp only [List.mem_flatMap, List.mem_map] at hevs
      obtain ⟨o, ho, rest, hrest, rfl⟩ := hevs
      obtain ⟨f, hf, hof⟩ := ho
      have hfi := futures_inv c fin opErr cc w srv h f hf
      have hoi := observe_inv c fin opErr a reuse term op f hfi o hof
      simp only [List.mem_cons] at he
      rcases he with rfl | he
      · exact hoi.2
      · exact ih o.2.2 o.2.1.1 o.2.1.2 hoi.1 rest hrest e he

theorem stateAt_inv (c : Cfg) (fin opErr : Fin) (reuse : Bool) (w : Wrap.State) (cc : Bool) (srv : Srv)
    (cs : List COp) :
    AInv fin opErr w srv → ∀ r, stateAt (Wrap.impl c) fin reuse w cc srv cs = some r → AInv fin opErr r.1 r.2.2 := by
  fun_induction stateAt (Wrap.impl c) fin reuse w cc srv cs
  case case1 =>
    intro h r hr
    cases hr
    exact h
  /- The cases are the clauses of `stateAt` in the order of Async.lean (a clause with a `match` on a read gives two):
  1 script over  2 closeSend;  header before a local op: 3,4 setHeader  5,6 sendHeader  7,8 setTrailer;  9 setHeader
  10 sendHeader  11 setTrailer  12 return;  send: 13 recv  14,15 header  16 other;  recv: 17 half-closed  18 send
  19,20 header  21 other;  wait: 22,23 header  24 other;  returned: 25,26 recv  27,28 header  29 trailer  30 closeSend
  31 other;  32 aborted. -/
  -- the clauses that answer `none`
  case case15 | case16 | case20 | case21 | case23 | case24 | case26 | case28 | case31 | case32 => intro _ r hr; cases hr
  -- the handler returns: `Close` with `fin`
  case case12 ih => exact fun _ => ih (Or.inl rfl)
  -- the other cases go on in the same phase, from the same stream if the handler has returned
  all_goals
    rename_i ih
    exact ih

theorem AllowedEv.ne_clean {fin opErr : Fin} {a : Abort} {e : Ev} (h : AllowedEv fin opErr a e)
    (hf : Wrap.canon fin ≠ .fin 0 "") (ho : Wrap.canon opErr ≠ .fin 0 "") : e ≠ .fin 0 "" := by
  rcases h with rfl | ⟨m, rfl⟩ | rfl | rfl | ⟨m, rfl⟩ | ⟨m, rfl⟩ | rfl <;> first | exact hf | exact ho | exact Ev.noConfusion

theorem asyncRuns_allowed (c : Cfg) (fin : Fin) (opErr : Abort → Fin) (reuse : Bool) (w : Wrap.State)
    (ss : List SOp) (cs pre post : List COp) (a : Abort)
    (h : splitAbort cs = (pre, some (a, post))) :
    ∀ t ∈ asyncRuns (Wrap.impl c) fin opErr reuse w ss cs,
      t = (go (Wrap.impl c) fin reuse w false (.running ss) pre).client ∨
      ∃ evs, t = (go (Wrap.impl c) fin reuse w false (.running ss) pre).client ++ .did a :: evs ∧
        ∀ e ∈ evs, AllowedEv fin (opErr a) a e := by
  intro t ht
  simp only [asyncRuns, h] at ht
  cases hst : stateAt (Wrap.impl c) fin reuse w false (.running ss) pre with
  | none =>
    rw [hst] at ht
    exact Or.inl (List.mem_singleton.mp ht)
  | some r =>
    simp only [hst, List.mem_map, List.mem_flatMap] at ht
    obtain ⟨evs, ⟨⟨w', srv⟩, hp, hevs⟩, rfl⟩ := ht
    have hadv := advanced_inv c fin (opErr a) r.2.1 r.1 r.2.2
      (stateAt_inv c fin (opErr a) reuse w false (.running ss) pre trivial r hst) _ hp
    -- the abort leaves `closed` as it is
    have hinv : AInv fin (opErr a) (Wrap.abort w' a) srv := by cases srv <;> exact hadv
    exact Or.inr ⟨evs, rfl, after_allowed c fin (opErr a) a reuse r.2.1 post false _ srv hinv evs hevs⟩

theorem unwind_ne_nil {σ : Type} (I : Impl σ) (fin opErr : Fin) (cc : Bool) (s : σ) (ops : List SOp) :
    unwind I fin opErr cc s ops ≠ [] := by
  cases ops with
  | nil => exact List.cons_ne_nil _ _
  | cons op ss => cases op <;> exact List.cons_ne_nil _ _

/-- After the abort the handler always returns, on every transport: the last state `unwind` lists has it returned. -/
theorem unwind_last_done {σ : Type} (I : Impl σ) (fin opErr : Fin) (cc : Bool) (ops : List SOp) :
    ∀ s : σ, ((unwind I fin opErr cc s ops).getLast?).map (·.2) = some .done := by
  induction ops with
  | nil => exact fun _ => rfl
  | cons op ss ih =>
    intro s
    cases op <;> simp only [unwind]
    case setHeader | sendHeader | setTrailer =>
      rw [List.getLast?_cons_of_ne_nil (unwind_ne_nil _ _ _ _ _ _)]
      exact ih _
    case send | wait => rfl
    case recv =>
      cases cc
      · rfl
      · rw [if_pos rfl, List.getLast?_cons_of_ne_nil (List.cons_ne_nil _ _),
          List.getLast?_cons_of_ne_nil (unwind_ne_nil _ _ _ _ _ _)]
        exact ih s

/-- `w'` differs from `w` at most in metadata that is not (and never will be) visible through `Header()`:
same context state, same latch, and the same header content if the latch is closed. -/
def Frozen (w w' : Wrap.State) : Prop :=
  w'.ctxErr = w.ctxErr ∧ w'.headerC = w.headerC ∧ (w.headerC = true → w'.header = w.header)

theorem Frozen.refl (w : Wrap.State) : Frozen w w := ⟨rfl, rfl, fun _ => rfl⟩

theorem Frozen.trans {a b c : Wrap.State} (h1 : Frozen a b) (h2 : Frozen b c) : Frozen a c :=
  ⟨h2.1.trans h1.1, h2.2.1.trans h1.2.1, fun h => (h2.2.2 (h1.2.1.trans h)).trans (h1.2.2 h)⟩

theorem Frozen.header {w w' : Wrap.State} (h : Frozen w w') (he : w.ctxErr.isSome = true) :
    Wrap.header w' = Wrap.header w := by
  obtain ⟨h1, h2, h3⟩ := h
  rw [Wrap.header_eq, Wrap.header_eq, Wrap.avail_of_ctxErr he, Wrap.avail_of_ctxErr (h1 ▸ he), h2]
  by_cases hc : w.headerC <;> simp [hc, h3]

theorem Frozen.setHeader (w : Wrap.State) (md : MD) : Frozen w (Wrap.setHeader Cfg.current w md).1 := by
  rcases Wrap.setHeader_cases Cfg.current w md with e | ⟨hc, e⟩
  · rw [e]
    exact Frozen.refl w
  · rw [e]
    exact ⟨rfl, rfl, fun h => absurd h (by simp [hc rfl])⟩

theorem Frozen.sendHeader (w : Wrap.State) (md : MD) (he : w.ctxErr.isSome = true) :
    Frozen w (Wrap.sendHeader w md).1 := by
  unfold Wrap.sendHeader
  simp only [he, if_true]
  exact Frozen.refl w

theorem Frozen.close (w : Wrap.State) (e : Fin) (he : w.ctxErr.isSome = true) :
    Frozen w (Wrap.close Cfg.current w e) := by
  rw [Wrap.close_current]
  obtain ⟨h1, h2, h3⟩ := Frozen.sendHeader w [] he
  exact ⟨h1, h2, h3⟩

/-- The closed flag does not take part in `Header()` once the context has ended. -/
theorem header_close_irrelevant (w : Wrap.State) (e : Fin) (he : w.ctxErr.isSome = true) :
    Wrap.header { w with closed := some e } = Wrap.header w :=
  Frozen.header ⟨rfl, rfl, fun _ => rfl⟩ he

theorem unwind_frozen (fin opErr : Fin) (cc : Bool) (ops : List SOp) :
    ∀ w : Wrap.State, w.ctxErr.isSome = true →
      ∀ f ∈ unwind (Wrap.impl Cfg.current) fin opErr cc w ops, Frozen w f.1 := by
  intro w he f hf
  have hsome : ∀ w', Frozen w w' → w'.ctxErr.isSome = true := fun w' h => h.1 ▸ he
  obtain ⟨w', hw', ⟨ops', rfl⟩ | ⟨e, _, rfl⟩⟩ := unwind_mem Cfg.current fin opErr cc (P := Frozen w)
    (fun w' md h => h.trans (Frozen.setHeader w' md)) (fun w' md h => h.trans (Frozen.sendHeader w' md (hsome w' h)))
    (fun w' md h => h.trans ⟨rfl, rfl, fun _ => rfl⟩) ops w (Frozen.refl w) f hf
  · exact hw'
  · exact hw'.trans (Frozen.close w' e (hsome w' hw'))

end ScVerif.C13
