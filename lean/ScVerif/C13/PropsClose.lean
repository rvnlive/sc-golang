import ScVerif.C13.CloseLemmas
/-!
# C13 — the internal order of `ClientServerStream.Close` is unobservable

`Wrap.close` (used by `Wrap.run` and all theorems of Props.lean) is ONE atomic step; the Go function performs four
writes (`closeOrder`: flush the header latch, record `closeErr`, close `serverSend`, cancel the stream context) between
which a client goroutine parked in `RecvMsg` or `Header()` may run.  The three `…_order_matters` theorems show that what
follows is a property of the ORDER in the source.
-/
namespace ScVerif.C13
open Wrap

/-- **The four writes together are the atomic step.** -/
theorem C13_close_steps_refine (w : Wrap.State) (err : Fin) (h : w.closed = none) :
    ((lift w).run (closeOrder err)).readHeader = Wrap.header (Wrap.close Cfg.current w err) ∧
    ((lift w).run (closeOrder err)).readTrailer = Wrap.trailer (Wrap.close Cfg.current w err) ∧
    ((lift w).run (closeOrder err)).readTerminal = Wrap.terminal (Wrap.close Cfg.current w err) :=
  ⟨readHeader_take_succ w err h 3, readTrailer_take w err 4, readTerminal_take_ge w err 1⟩

/-- **No torn read**: stopped after any number `k` of its statements, `Header()` and the terminal `RecvMsg` each give
what they gave before Close started (for a live call: they block) or what they give after it, never a third value;
`Trailer()` does not change at all. -/
theorem C13_close_no_torn_read (w : Wrap.State) (err : Fin) (k : Nat) (h : w.closed = none) :
    (((lift w).run ((closeOrder err).take k)).readHeader = Wrap.header w ∨
     ((lift w).run ((closeOrder err).take k)).readHeader = Wrap.header (Wrap.close Cfg.current w err)) ∧
    ((lift w).run ((closeOrder err).take k)).readTrailer = Wrap.trailer (Wrap.close Cfg.current w err) ∧
    (((lift w).run ((closeOrder err).take k)).readTerminal = Wrap.terminal w ∨
     ((lift w).run ((closeOrder err).take k)).readTerminal = Wrap.terminal (Wrap.close Cfg.current w err)) := by
  refine ⟨?_, readTrailer_take w err k, ?_⟩
  · cases k with
    | zero => exact Or.inl (lift_readHeader w h)
    | succ k => exact Or.inr (readHeader_take_succ w err h k)
  · by_cases hk : k < 3
    · exact Or.inl (readTerminal_take_lt w err h k hk)
    · obtain ⟨j, rfl⟩ := Nat.exists_eq_add_of_le' (Nat.le_of_not_lt hk)
      exact Or.inr (readTerminal_take_ge w err j)

/-- **Once visible, always visible**: there is one point at which each read switches. -/
theorem C13_close_monotone (w : Wrap.State) (err : Fin) (k : Nat) (h : w.closed = none) :
    (((lift w).run ((closeOrder err).take k)).readTerminal = Wrap.terminal (Wrap.close Cfg.current w err) →
     ((lift w).run ((closeOrder err).take (k + 1))).readTerminal = Wrap.terminal (Wrap.close Cfg.current w err)) ∧
    (((lift w).run ((closeOrder err).take k)).readHeader = Wrap.header (Wrap.close Cfg.current w err) →
     ((lift w).run ((closeOrder err).take (k + 1))).readHeader = Wrap.header (Wrap.close Cfg.current w err)) := by
  refine ⟨fun ht => ?_, fun _ => readHeader_take_succ w err h k⟩
  -- the terminal read has its final value from the third statement on: `k < 2` would leave `terminal w = none`
  by_cases hk : k < 2
  · rw [readTerminal_take_lt w err h k (by omega)] at ht
    rw [readTerminal_take_lt w err h (k + 1) (by omega)]
    exact ht
  · obtain ⟨j, rfl⟩ := Nat.exists_eq_add_of_le' (Nat.le_of_not_lt hk)
    exact readTerminal_take_ge w err j

/-- **The end of the call comes with the final header** (the latch is flushed BEFORE the channel is closed): headers
staged with SetHeader are never lost behind the status. -/
theorem C13_close_terminal_implies_header (w : Wrap.State) (err : Fin) (k : Nat) (h : w.closed = none)
    (hlive : w.ctxErr = none) (e : Ev)
    (ht : ((lift w).run ((closeOrder err).take k)).readTerminal = some e) :
    ((lift w).run ((closeOrder err).take k)).readHeader = Wrap.header (Wrap.close Cfg.current w err) ∧
    e = Wrap.canon err := by
  -- on a live call the terminal read blocks until `serverSend` is closed: `k ≥ 3`
  have hk : ¬ k < 3 := fun hk => by
    rw [readTerminal_take_lt w err h k hk, Wrap.terminal, h, hlive] at ht
    cases ht
  obtain ⟨j, rfl⟩ := Nat.exists_eq_add_of_le' (Nat.le_of_not_lt hk)
  rw [readTerminal_take_ge w err j, Wrap.terminal] at ht
  exact ⟨readHeader_take_succ w err h (j + 2), (Option.some.inj ht).symm⟩

/-- Not vacuous: a live call with a staged header, stopped after three statements. -/
example : ((lift { header := [("a", "1")] }).run ((closeOrder (.status 9 "e0")).take 3)).readTerminal = some (.fin 9 "e0") ∧
    ((lift { header := [("a", "1")] }).run ((closeOrder (.status 9 "e0")).take 3)).readHeader = some [("a", "1")] := by
  decide +kernel

/-- **The order matters (1).** Cancelling the stream context before closing `serverSend` (seeded change C13-4) lets a
client parked in RecvMsg read `context.Canceled` although nobody cancelled the call. -/
theorem C13_close_order_matters_cancel_before_chan :
    ∃ k, ((lift {}).run (([.flush, .recordErr (.status 9 "e0"), .cancelCtx, .closeChan] : List CloseStep).take k)).readTerminal
        = some (.aborted .cancel) ∧
      Wrap.terminal ({} : Wrap.State) = none ∧
      Wrap.terminal (Wrap.close Cfg.current {} (.status 9 "e0")) = some (.fin 9 "e0") :=
  ⟨3, by decide +kernel⟩

/-- **The order matters (2).** Closing `serverSend` before `closeErr` is recorded lets the client read a clean end of
stream for a call whose handler returned an error. -/
theorem C13_close_order_matters_chan_before_err :
    ∃ k, ((lift {}).run (([.flush, .closeChan, .recordErr (.status 9 "e0"), .cancelCtx] : List CloseStep).take k)).readTerminal
        = some (.fin 0 "") ∧
      Wrap.terminal (Wrap.close Cfg.current {} (.status 9 "e0")) = some (.fin 9 "e0") :=
  ⟨2, by decide +kernel⟩

/-- **The order matters (3).** Flushing the header latch last (or not at all: the code before fa93faa) lets a client
that has read the status read an EMPTY header although the handler staged one. -/
theorem C13_close_order_matters_flush_last :
    ∃ k, ((lift { header := [("a", "1")] }).run
            (([.recordErr (.status 9 "e0"), .closeChan, .cancelCtx, .flush] : List CloseStep).take k)).readHeader = some [] ∧
      Wrap.header ({ header := [("a", "1")] } : Wrap.State) = none ∧
      Wrap.header (Wrap.close Cfg.current { header := [("a", "1")] } (.status 9 "e0")) = some [("a", "1")] :=
  ⟨3, by decide +kernel⟩

end ScVerif.C13
