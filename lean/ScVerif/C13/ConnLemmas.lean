import ScVerif.C13.Conn
/-
C13 — lemmas: where `Wrap.run` and `GrpcRef.run` agree before the joint run starts.
-/
namespace ScVerif.C13

theorem cloneMD_eq (md : MD) : cloneMD md = md := List.map_id' md

/-- A fact about the fixed method table `testApi`, checked by evaluation. -/
theorem Wrap.open_ok (shape : Shape) : Wrap.open shape = .ok := by
  cases shape <;> decide

theorem holds_current (shape : Shape) : Wrap.holds Cfg.current shape = GrpcRef.holds shape := by
  cases shape <;> rfl

theorem canon_eq_statusEv (fin : Fin) : Wrap.canon fin = GrpcRef.statusEv fin := by
  cases fin <;> rfl

end ScVerif.C13
