import ScVerif.C13.SelectLemmas
import ScVerif.C13.Conn
/-!
# C13 — the blocking calls of both halves, select case by select case

`recvResults` / `awaitResults` / `sendResults` / `headerResults` (Select.lean) list what `clientStream.RecvMsg`,
`awaitStatus`, `SendMsg`, `Header` can return in a given instant of the stream, `ssendResults` / `srecvResults` what
`serverStream.SendMsg`, `RecvMsg` can: one entry per READY case of their `select`, `[]` = the call blocks.  All statements are for EVERY state of the stream (no reachability hypothesis).
-/
namespace ScVerif.C13
open Wrap

/-- **All ready cases of RecvMsg's select agree**, and with the deterministic `Wrap.terminal` used by the rendezvous
model, when the handler is not offering a message. -/
theorem C13_recv_select_agrees_with_terminal (w : State) (tk : Bool) :
    (∀ r ∈ recvResults ⟨w, none, tk⟩, some r = (terminal w).map Res.ev) ∧
    (recvResults ⟨w, none, tk⟩ = [] ↔ terminal w = none) := by
  cases hc : w.closed <;> cases ha : w.ctxErr <;>
    simp [recvResults, ctxDone, terminal, hc, ha, closeErrEv, ctxErrEv]

/-- The same for `Header()` and `Wrap.header`. -/
theorem C13_header_select_agrees (w : State) :
    (∀ md ∈ headerResults w, some md = header w) ∧ (headerResults w = [] ↔ header w = none) := by
  rw [header_eq, headerResults_nil]
  cases ha : avail w
  · simp [headerResults_nil.mpr ha]
  · exact ⟨fun md h => by rw [headerResults_eq h]; rfl, by simp⟩

/-- **Once the stream's context has ended — the caller cancelled, its deadline passed, or the handler returned — no call
of the client half blocks**, whatever the handler is doing. -/
theorem C13_client_calls_return_once_context_ended (c : Chans) (h : ctxDone c.w = true) :
    recvResults c ≠ [] ∧ awaitResults c ≠ [] ∧ sendResults c ≠ [] ∧ headerResults c.w ≠ [] :=
  ⟨recvResults_ne_nil h, awaitResults_ne_nil h, sendResults_ne_nil h, headerResults_ne_nil (avail_iff.mpr (Or.inr h))⟩

/-- **The wait for the status yields to the caller's cancellation**: the single response has been taken and the handler
has NOT returned; the response is never delivered, whatever the handler goes on to return later. -/
theorem C13_await_status_yields_to_cancel (c : Chans) (a : Abort) (hc : c.w.closed = none)
    (ha : c.w.ctxErr = some a) :
    awaitResults c ≠ [] ∧ Res.deliver ∉ awaitResults c ∧
    (c.offer = none → awaitResults c = [.ev (.aborted a)]) := by
  cases ho : c.offer <;> simp [awaitResults, ctxDone_of_ctxErr ha, hc, ha, ho, ctxErrEv, cardinality]

/-- **After the handler returned, the wait gives the handler's status on every ready case.** -/
theorem C13_await_status_after_return (c : Chans) (err : Fin) (h : c.w.closed = some err) :
    awaitResults c ≠ [] ∧ (∀ r ∈ awaitResults c, r = awaitClosed err) ∧
    (Res.deliver ∈ awaitResults c ↔ err = .ok) := by
  by_cases he : err = .ok <;> simp [awaitResults, ctxDone_of_closed h, h, awaitClosed, he]

/-- Before the handler has returned and before the context ends the wait for the status blocks. -/
theorem C13_await_status_waits (c : Chans) (hc : c.w.closed = none) (ha : c.w.ctxErr = none)
    (ho : c.offer = none) : awaitResults c = [] := by
  simp [awaitResults, ctxDone_live hc ha, hc, ho]

/-- Why `awaitStatus` needs its context case: a wait that only receives from `serverSend` blocks for as long as the
handler likes after the caller has cancelled. -/
theorem C13_await_plain_receive_ignores_cancel :
    ∃ c : Chans, ctxDone c.w = true ∧ awaitPlainReceive c = [] ∧ awaitResults c = [.ev (.aborted .cancel)] :=
  ⟨⟨{ ctxErr := some .cancel }, none, false⟩, by decide +kernel⟩

/-- The select-level wait and the rendezvous model's `hold` rewriting say the same. -/
theorem C13_await_matches_hold (fin : Fin) (m : Nat) :
    (hold true fin (canon fin) ⟨[.msg m], []⟩).client =
    [match awaitClosed fin with
     | .deliver => Ev.msg m
     | .ev e => e
     | .msg k => Ev.msg k] := by
  by_cases h : fin = .ok <;> simp [awaitClosed, hold, holdEv, closeErrEv, h]

/-- **The handler's blocking calls return once the stream's context has ended**: a handler is never left blocked by a
client that went away. -/
theorem C13_handler_calls_return_once_context_ended (c : SChans) (h : ctxDone c.w = true) :
    ssendResults c ≠ [] ∧ srecvResults c ≠ [] :=
  ⟨ssendResults_ne_nil h, srecvResults_ne_nil h⟩

/-- **The handler is told of the caller's abort as such**: never io.EOF, which means a half-close (the defect repaired
by 3d4f9fa, at the level of the select). -/
theorem C13_handler_sees_abort_as_such (c : SChans) (a : Abort) (ha : c.w.ctxErr = some a)
    (hc : c.cOffer = none) (ht : c.cTaker = false) (hh : c.halfClosed = false) :
    ssendResults c = [.ctxErr a] ∧ srecvResults c = [.ctxErr a] := by
  simp [ssendResults_done (ctxDone_of_ctxErr ha), srecvResults, ctxDone_of_ctxErr ha, srvCtxErr, ha, hc, ht, hh]

/-- `io.EOF` from the handler's RecvMsg means the client half-closed, never that the call was aborted. -/
theorem C13_handler_eof_only_after_half_close (c : SChans) (h : SRes.eof ∈ srecvResults c) :
    c.halfClosed = true := by
  cases hh : c.halfClosed
  · cases ho : c.cOffer <;> cases hd : ctxDone c.w <;> simp [srecvResults, hh, ho, hd] at h
  · rfl

/-- Non-vacuity: a state with the response taken, the handler parked, the caller's deadline passed. -/
example : awaitResults ⟨{ headerC := true, ctxErr := some .deadline }, none, false⟩ = [.ev (.aborted .deadline)] := by
  decide +kernel

end ScVerif.C13
