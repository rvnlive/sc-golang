import ScVerif.C13.RunLemmas
/-!
# C13 — what of the caller's context crosses the boundary

`Wrap.runCtx` / `GrpcRef.runCtx` are the two runs of Props.lean for an arbitrary caller context (`CallerCtx`: incoming
metadata of the request the caller is itself serving, outgoing metadata or none at all, deadline, request-scoped values)
and for handlers that are arbitrary FUNCTIONS of what they see of their own context.
-/
namespace ScVerif.C13

/-- `wrapper.startStream` gives the handler exactly the context a real connection gives it. -/
theorem C13_ctx_server_ctx_eq (ctx : CallerCtx) :
    Wrap.startStream Cfg.current ctx = GrpcRef.serverCtx ctx :=
  Wrap.startStream_current ctx

/-- **Transcript equality on every caller context, for every context-dependent handler.** -/
theorem C13_ctx_transcript_eq (shape : Shape) (ctx : CallerCtx) (h : Handler) (cs : List COp)
    (reuse : Bool) :
    Wrap.runCtx shape ctx h cs reuse = GrpcRef.runCtx shape ctx h cs reuse :=
  Wrap.runCtx_transcript_eq shape ctx h cs reuse

/-- **The request metadata the handler sees is the client's outgoing metadata.** -/
theorem C13_server_sees_outgoing_md (shape : Shape) (ctx : CallerCtx) (h : Handler) (cs : List COp)
    (reuse : Bool) :
    (Wrap.runCtx shape ctx h cs reuse).server.head? = some (.incoming (ctx.outgoing.getD [])) := by
  rw [Wrap.runCtx_eq]
  rfl

/-- **Nothing else crosses**: incoming metadata (the caller's own request), request-scoped values, "no outgoing metadata at
all" vs "empty outgoing metadata" make no difference. -/
theorem C13_ctx_noninterference (shape : Shape) (ctx ctx' : CallerCtx) (h : Handler) (cs : List COp)
    (reuse : Bool) (hout : ctx.outgoing.getD [] = ctx'.outgoing.getD []) (hdl : ctx.deadline = ctx'.deadline) :
    Wrap.runCtx shape ctx h cs reuse = Wrap.runCtx shape ctx' h cs reuse := by
  have hs : Wrap.startStream Cfg.current ctx = Wrap.startStream Cfg.current ctx' := by
    simp [Wrap.startStream, hout, hdl]
  unfold Wrap.runCtx Wrap.runCtxCfg
  rw [hs]

/-- The contexts of the theorem above really differ: a handler passing its own context on is served like a plain client. -/
example : Wrap.runCtx .unary { incoming := some [("auth", "secret")], values := true }
      (scripted [.op .recv, .echoIn, .op (.send 1)] .ok) (invokeScript 1) =
    Wrap.runCtx .unary {} (scripted [.op .recv, .echoIn, .op (.send 1)] .ok) (invokeScript 1) :=
  C13_ctx_noninterference _ _ _ _ _ _ rfl rfl

/-- A plain client context with outgoing metadata `out` and a handler that ignores its context give the run of
Props.lean: its theorems are this case. -/
theorem C13_ctx_extends_run (shape : Shape) (out : MD) (ss : List SOp) (fin : Fin) (cs : List COp)
    (reuse : Bool) :
    Wrap.runCtx shape { outgoing := some out } (fun _ => (ss, fin)) cs reuse = Wrap.run shape out ss fin cs reuse :=
  Wrap.runCtx_const shape out ss fin cs reuse

/-- **Completion and no goroutine left, on every caller context.** -/
theorem C13_ctx_no_goroutine_left (shape : Shape) (ctx : CallerCtx) (h : Handler) (cs : List COp)
    (reuse : Bool)
    (hwf : WFScripts shape (h (GrpcRef.serverCtx ctx)).1 (h (GrpcRef.serverCtx ctx)).2 cs = true) :
    Ev.stuck ∉ (Wrap.runCtx shape ctx h cs reuse).client ∧
    SEv.left ∉ (Wrap.runCtx shape ctx h cs reuse).server :=
  (complete_iff _).mp (Wrap.runCtx_complete shape ctx h cs reuse (Bool.and_eq_true_iff.mp hwf).2)

/-- **The single response comes only with an OK status**, for a method without server streaming (unary, also through
NewStream, and client streaming) — also when the handler had already sent one (`SendAndClose`, then an error): the
`RecvMsg` that would have delivered it returns the error, as over gRPC. -/
theorem C13_single_response_only_with_ok (shape : Shape) (ctx : CallerCtx) (h : Handler) (cs : List COp)
    (reuse : Bool) (hshape : shape ≠ .sstream ∧ shape ≠ .bidi)
    (herr : (h (GrpcRef.serverCtx ctx)).2 ≠ .ok) :
    (Wrap.runCtx shape ctx h cs reuse).clientMsgs = [] := by
  have hh : GrpcRef.holds shape = true := by
    cases shape <;> first | rfl | exact absurd rfl hshape.1 | exact absurd rfl hshape.2
  rw [Wrap.runCtx_eq, hh, clientMsgs_ctxView]
  exact clientMsgs_hold_err herr rfl _

/-- Not vacuous: a client-streaming handler that answers and then fails. -/
example : (Wrap.runCtx .cstream {} (fun _ => ([.recv, .recv, .send 7], .status 9 "e0"))
    [.send 1, .closeSend, .recv, .recv]).client = [.sent, .closed, .fin 9 "e0", .fin 9 "e0"] := by
  decide +kernel

/-- The defect repaired by 14df317: the client of a client-streaming call was given the response although the handler
went on to return an error. -/
theorem C13_legacy_response_before_error :
    ∃ ss fin cs, WFScripts .cstream ss fin cs = true ∧
      (Wrap.runCfg { Cfg.current with holdResponse := false } .cstream [] ss fin cs).client ≠
        (GrpcRef.run .cstream [] ss fin cs).client :=
  ⟨[.recv, .recv, .send 7], .status 9 "e0", [.send 1, .closeSend, .recv, .recv], by decide +kernel⟩

/-- The defect repaired by 8cf1112: the handler's context kept the client's outgoing metadata (a downstream call made
with it would transmit it a second hop). -/
theorem C13_legacy_outgoing_leaks :
    ∃ shape ctx h cs,
      Wrap.runCtxCfg { Cfg.current with clearOutgoing := false } shape ctx h cs ≠ GrpcRef.runCtx shape ctx h cs :=
  ⟨.bidi, { outgoing := some [("u", "1")] }, fun _ => ([], .ok), [], by decide +kernel⟩

end ScVerif.C13
