import ScVerif.C13.Select
/-
C13 — what the property theorems speak of beyond the model: the messages a transcript holds, the events allowed after
an abort, the reachable states of the message objects, and the two facts about the shared state that the caller's
`collectMetadata` relies on.  Definitions only.
-/
namespace ScVerif.C13

def Ev.msg? : Ev → Option Nat | .msg m => some m | _ => none
def SEv.got? : SEv → Option Nat | .got m => some m | _ => none
def SOp.send? : SOp → Option Nat | .send m => some m | _ => none
def COp.send? : COp → Option Nat | .send m => some m | _ => none

def Transcript.clientMsgs (t : Transcript) : List Nat := t.client.filterMap Ev.msg?
def Transcript.serverMsgs (t : Transcript) : List Nat := t.server.filterMap SEv.got?

/-- What a client op after its own abort may yield. -/
def AllowedEv (fin opErr : Fin) (a : Abort) (e : Ev) : Prop :=
  e = .aborted a ∨ (∃ m, e = .msg m) ∨ e = Wrap.canon fin ∨ e = Wrap.canon opErr ∨
  (∃ md, e = .hdr md) ∨ (∃ md, e = .trl md) ∨ e = .stuck

namespace Wrap

/-- A handler offering a message has closed the header latch, or the stream's context has ended. -/
def OfferedAfterFlush (c : Chans) : Prop :=
  c.offer.isSome = true → c.w.headerC = true ∨ ctxDone c.w = true

/-- One thing either half, the caller's context or `Close` can do to the shared state of the stream. -/
inductive Move where
  | setHeader (md : MD)
  | sendHeader (md : MD)
  | setTrailer (md : MD)
  | flush                    -- sendHeaderIfNeeded (first thing SendMsg does)
  | abort (a : Abort)        -- the caller's context ends
  | close (err : Fin)        -- Close(err)
  deriving Repr

def Move.apply (w : State) : Move → State
  | .setHeader md => (Wrap.setHeader Cfg.current w md).1
  | .sendHeader md => (Wrap.sendHeader w md).1
  | .setTrailer md => Wrap.setTrailer w md
  | .flush => sendHeaderIfNeeded w
  | .abort a => Wrap.abort w a
  | .close err => Wrap.close Cfg.current w err

end Wrap

/-- States of the wrapper's message objects reachable by any sequence of messages in either direction (with or
without object reuse), SetHeader / SendHeader / SetTrailer calls, and **arbitrary writes by either side into objects it
holds, at any time**.  (`Close` and the end of the caller's context are not listed: they write `closed` / `ctxErr`
and, like the header calls, no field the message objects live in.) -/
inductive Wrap.Reach : Wrap.State → Prop
  | init : Wrap.Reach {}
  | xfer {w} (d : Dir) (m : Nat) (reuse : Bool) : Wrap.Reach w → Wrap.Reach (Wrap.xfer Cfg.current w d m reuse).1
  | pokeClient {w} (r v : Nat) : Wrap.Reach w → r ∈ w.cOwn → Wrap.Reach (Wrap.poke w r v)
  | pokeServer {w} (r v : Nat) : Wrap.Reach w → r ∈ w.sOwn → Wrap.Reach (Wrap.poke w r v)
  | setHeader {w} (md : MD) : Wrap.Reach w → Wrap.Reach (Wrap.setHeader Cfg.current w md).1
  | sendHeader {w} (md : MD) : Wrap.Reach w → Wrap.Reach (Wrap.sendHeader w md).1
  | setTrailer {w} (md : MD) : Wrap.Reach w → Wrap.Reach (Wrap.setTrailer w md)

end ScVerif.C13
