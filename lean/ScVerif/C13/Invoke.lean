import ScVerif.C13.Select
/-
C13 — `wrapper.Invoke` (pkg/wrap/wrap.go) at the level of its blocking calls.

```
ctx, clientServerStream, ss, cs := w.startStream(ctx, method)
go func() { … handler … clientServerStream.Close(err) }()
if err := cs.SendMsg(args); err != nil {
    if ctxErr := ctx.Err(); ctxErr != nil { return status.FromContextError(ctxErr).Err() }
    return err
}
cs.CloseSend()
err := cs.RecvMsg(reply)
mdErr := collectMetadata(cs, opts)      -- cs.Header() (a select), cs.Trailer()
return err
```

The handler runs on a goroutine of its own; the caller's goroutine is only ever inside one of three `select`
statements (`clientStream.SendMsg`, `RecvMsg`, `Header`: Select.lean lists their ready cases).  `step` follows the
caller's goroutine through them one ready case at a time.  What the handler and the caller's context do in between
is NOT fixed here: the theorems (PropsInvoke.lean) quantify over the state of the stream at every step (an
arbitrary environment), constrained only by what they state (e.g. "the caller's context has ended and the handler
has not returned").

A unary method of a GENERATED wrapper (cmd/protoc-gen-wrapper) is this function: the wrapper embeds the generated
gRPC client built on the connection of `ServerToClient`, so `XxxWrapper.GetYyy(ctx, req, opts...)` is
`conn.Invoke(ctx, "/…/GetYyy", req, new(Res), opts...)`.
-/
namespace ScVerif.C13
namespace Wrap

/-- What `Invoke` hands back to its caller. -/
inductive IRes where
  /-- `SendMsg` failed: Invoke returns without running `collectMetadata` (the call options' variables are untouched) -/
  | early (e : Ev)
  /-- `RecvMsg` returned `r` (a reply, or the terminal event), then `collectMetadata` read this header and trailer -/
  | full (r : Res) (header trailer : MD)
  deriving DecidableEq, Repr

/-- Where the caller's goroutine is. -/
inductive IPc where
  | send                 -- inside `cs.SendMsg(args)`
  | recv                 -- `CloseSend` done (it never blocks); inside `cs.RecvMsg(reply)`
  | collect (r : Res)    -- `RecvMsg` returned `r`; inside `collectMetadata`: `cs.Header()`
  | done (r : IRes)      -- returned
  deriving DecidableEq, Repr

def IPc.isDone : IPc → Bool
  | .done _ => true
  | _ => false

/-- What Invoke returns when `SendMsg` failed: the caller's own cancel / deadline as such when that is why
(`ctx` here is the CALLER's context with the call's metadata, not the stream's), else what `SendMsg` returned —
`closeErrLocked()`: the handler's status, `io.EOF` (clean end) when it returned nil. -/
def sendFailed (w : State) : Ev :=
  match w.ctxErr with
  | some a => .aborted a
  | none => match w.closed with
    | some err => closeErrEv err
    | none => .fin 0 ""

/-- One ready select case of the blocking call the caller's goroutine is in; `[]` = it blocks in this instant. -/
def step (pc : IPc) (c : Chans) : List IPc :=
  match pc with
  | .send => (sendResults c).map fun e => if e = .sent then .recv else .done (.early (sendFailed c.w))
  | .recv => (recvResults c).map .collect
  | .collect r => (headerResults c.w).map fun h => .done (.full r h c.w.trailer)
  | .done _ => []

/-- All places the caller's goroutine can be after the instants `cs` of the stream (one per scheduling point;
the goroutine may also not be scheduled in an instant: `pc` itself stays possible). -/
def reach (pc : IPc) : List Chans → List IPc
  | [] => [pc]
  | c :: cs => (pc :: step pc c).flatMap (reach · cs)

/-- The same without idling: in every instant a ready case is taken if there is one (else the call stays blocked). -/
def runs (pc : IPc) : List Chans → List IPc
  | [] => [pc]
  | c :: cs => (if step pc c = [] then [pc] else step pc c).flatMap (runs · cs)

/-- Invoke with the stream FROZEN in one state (a handler parked on work of its own does nothing to the stream):
every way the call can complete, `[]` = it never returns while the state stays as it is. -/
def frozen (pc : IPc) (c : Chans) : List IRes :=
  (runs pc [c, c, c]).filterMap fun
    | .done r => some r
    | _ => none

/-- NOT the code — the design in which a unary call runs the handler on the CALLER's goroutine (a direct method
call dressed up as Invoke): the caller gets its result when the handler returns, and only then; a context that has
ended meanwhile is turned into the cancellation afterwards.  Kept to state what the goroutine of `Invoke` is for. -/
def directCall (c : Chans) : List Ev :=
  match c.w.closed with
  | some err => [match c.w.ctxErr with
                 | some a => .aborted a
                 | none => closeErrEv err]
  | none => []

/-- The environment only moves forward: the header latch stays closed, an ended context stays ended. -/
def Later (c c' : Chans) : Prop :=
  (c.w.headerC = true → c'.w.headerC = true) ∧ (ctxDone c.w = true → ctxDone c'.w = true)

/-- The handler half's invariant as the client half saw it before 1e9d1bd: a handler inside `SendMsg` has run
`sendHeaderIfNeeded` before it offers the message.  Since `SendHeader` refuses on an ended context the latch may stay
open there: the invariant of the code is `OfferedAfterFlush` (Spec.lean), which this one implies. -/
def OfferAfterHeader (c : Chans) : Prop := c.offer.isSome = true → c.w.headerC = true

end Wrap
end ScVerif.C13
