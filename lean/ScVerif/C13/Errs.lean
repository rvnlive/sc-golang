import ScVerif.C13.Ctx
/-
C13 — the error VALUE a handler returns, and what each transport makes of it.

A handler returns a Go `error`.  Which status the call ends with is decided from the value's shape:

* a real gRPC server (grpc-go `processUnaryRPC` / `processStreamingRPC`):
  `appStatus, ok := status.FromError(appErr); if !ok { appStatus = status.FromContextError(appErr) }`
  — a status error keeps its status; an error that WRAPS a status error (reachable through `Unwrap`,
  `errors.As`) keeps that status' code with the outermost error's text as the message; a context error
  (`errors.Is`) becomes Canceled / DeadlineExceeded; anything else — `io.EOF` included — is Unknown;
* the wrapper (pkg/wrap): the handler goroutine hands the value to `ClientServerStream.Close`, the client's
  `RecvMsg` returns it from `closeErrLocked()` — where `io.EOF` is the sentinel for "closed without an error", so
  a stored `io.EOF` is reported as Unknown "EOF" —
  and the caller reads the value the way every gRPC caller does (`status.FromError` / `status.Code`;
  cancellation and deadline expiry as such, `errors.Is`).

`GoErr` is the error tree as far as those functions look at it: a chain of wrappers (any type with
`Error()` and `Unwrap()`: `fmt.Errorf("…%w")`, an application's own type) around a leaf.
-/
namespace ScVerif.C13

inductive GoErr where
  | status (code : Nat) (msg : String)     -- status.Error(code, msg): implements GRPCStatus()
  | ctx (a : Abort)                        -- context.Canceled / context.DeadlineExceeded
  | eof                                    -- io.EOF
  | plain (msg : String)                   -- errors.New(msg), any leaf error type the packages do not know
  | wrap (text : String) (cause : GoErr)   -- Error() = text, Unwrap() = cause
  deriving DecidableEq, Repr

/-- `codes.Code.String()` -/
def codeName : Nat → String
  | 0 => "OK" | 1 => "Canceled" | 2 => "Unknown" | 3 => "InvalidArgument" | 4 => "DeadlineExceeded"
  | 5 => "NotFound" | 6 => "AlreadyExists" | 7 => "PermissionDenied" | 8 => "ResourceExhausted"
  | 9 => "FailedPrecondition" | 10 => "Aborted" | 11 => "OutOfRange" | 12 => "Unimplemented"
  | 13 => "Internal" | 14 => "Unavailable" | 15 => "DataLoss" | 16 => "Unauthenticated"
  | n => "Code(" ++ toString n ++ ")"

def abortCode : Abort → Nat
  | .cancel => 1
  | .deadline => 4

def abortText : Abort → String
  | .cancel => "context canceled"
  | .deadline => "context deadline exceeded"

/-- `err.Error()` -/
def GoErr.text : GoErr → String
  | .status c m => "rpc error: code = " ++ codeName c ++ " desc = " ++ m
  | .ctx a => abortText a
  | .eof => "EOF"
  | .plain m => m
  | .wrap t _ => t

/-- `fmt.Errorf(prefix + "%w", e)` -/
def GoErr.errorf (pre : String) (e : GoErr) : GoErr := .wrap (pre ++ e.text) e

/-- `errors.As(err, &grpcstatus)`: the first error of the chain that implements `GRPCStatus()`. -/
def GoErr.findStatus : GoErr → Option (Nat × String)
  | .status c m => some (c, m)
  | .wrap _ e => e.findStatus
  | _ => none

/-- `errors.Is(err, context.DeadlineExceeded)` / `errors.Is(err, context.Canceled)`. -/
def GoErr.isCtx : GoErr → Option Abort
  | .ctx a => some a
  | .wrap _ e => e.isCtx
  | _ => none

/-- `errors.Is(err, io.EOF)` is not what the wrapper asks: `closeErrLocked` and the callers compare with `==`. -/
def GoErr.isEOF : GoErr → Bool
  | .eof => true
  | _ => false

/-- `status.FromError(err)` for a non-nil error: the status and whether the error "is" a status error.
(A status leaf is returned as it is; a wrapped one gives its code with the whole text as the message.) -/
def statusFromError (e : GoErr) : (Nat × String) × Bool :=
  match e with
  | .status c m => ((c, m), true)
  | e =>
    match e.findStatus with
    | some (c, _) => ((c, e.text), true)
    | none => ((2, e.text), false)

/-- `status.FromContextError(err)` for a non-nil error. -/
def statusFromContextError (e : GoErr) : Nat × String :=
  match e.isCtx with
  | some a => (abortCode a, e.text)
  | none => (2, e.text)

/-- The outermost-only test `err.(interface{ GRPCStatus() })` (weaker than `errors.As`, which looks through the chain). -/
def GoErr.isStatusLeaf : GoErr → Bool
  | .status _ _ => true
  | _ => false

namespace GrpcRef

/-- grpc-go's server: the status written to the trailers for what the handler returned. -/
def handlerFin : Option GoErr → Fin
  | none => .ok
  | some e =>
    if (statusFromError e).2 then .status (statusFromError e).1.1 (statusFromError e).1.2
    else .status (statusFromContextError e).1 (statusFromContextError e).2

end GrpcRef

namespace Wrap

/-- `ClientServerStream.Close(err)` stores the error; `closeErrLocked()` gives `io.EOF` when none is stored.
`eofFails` (1e87efa + 0d02060): a stored `io.EOF` is reported by `closeErrLocked()` as Unknown "EOF" —
`io.EOF` is the client half's sentinel for a clean end, a handler that returns it has failed.  Result: the error
value `RecvMsg` returns at the end of the call (`none` = `io.EOF`, the clean end). -/
def closeErr (eofFails : Bool) : Option GoErr → Option GoErr
  | none => none
  | some e =>
    if e.isEOF then (if eofFails then some (.status 2 e.text) else none)
    else some e

/-- How a caller reads the error `RecvMsg` / `Invoke` returned: a clean end; its own or the handler's
cancellation / deadline expiry as such (`errors.Is`, compared by class: the code, with the text); otherwise
`status.FromError` (code and message; Unknown with the text for an error that is no status error). -/
def callerReads : Option GoErr → Fin
  | none => .ok
  | some e =>
    match e.isCtx with
    | some a => .status (abortCode a) e.text
    | none => .status (statusFromError e).1.1 (statusFromError e).1.2

def handlerFinCfg (eofFails : Bool) (e : Option GoErr) : Fin := callerReads (closeErr eofFails e)

/-- The code in /repo (`eofFails`). -/
def handlerFin (e : Option GoErr) : Fin := handlerFinCfg true e

end Wrap

/-- A handler as a function of what it sees of its context, returning an error VALUE. -/
abbrev ErrHandler := SrvCtx → List SOp × Option GoErr

/-- The scripted call with the handler's return value given as an error value: each transport makes of it
what its own code does (`Wrap.handlerFin`: Close, closeErrLocked, the caller's reading; `GrpcRef.handlerFin`: the
server's conversion to the status on the wire). -/
def Wrap.runErr (shape : Shape) (ctx : CallerCtx) (h : ErrHandler) (cs : List COp) (reuse : Bool := false) :
    Transcript :=
  Wrap.runCtx shape ctx (fun sc => ((h sc).1, Wrap.handlerFin (h sc).2)) cs reuse

def GrpcRef.runErr (shape : Shape) (ctx : CallerCtx) (h : ErrHandler) (cs : List COp) (reuse : Bool := false) :
    Transcript :=
  GrpcRef.runCtx shape ctx (fun sc => ((h sc).1, GrpcRef.handlerFin (h sc).2)) cs reuse

/-- A conversion of the handler's error that recognises a status error only by a type assertion on the OUTERMOST
error (`err.(interface{ GRPCStatus() })`) before falling back to `status.FromContextError` — not what the code does;
kept to state why looking through the `Unwrap` chain is necessary. -/
def outermostOnly (e : GoErr) : GoErr :=
  if e.isStatusLeaf then e else .status (statusFromContextError e).1 (statusFromContextError e).2

end ScVerif.C13
