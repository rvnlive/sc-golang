import ScVerif.Base.Line
import ScVerif.C13.WF
import ScVerif.C13.Async
import ScVerif.C13.Ctx
import ScVerif.C13.Errs
import ScVerif.C13.Cause
import ScVerif.C13.Select
import ScVerif.C13.Invoke
import ScVerif.C13.Unwrap
import ScVerif.C13.Opts
/-! Driver handler for C13: parses one request line, runs the model, prints the canonical answer.

```
wrap|grpc|legacy|wf|async|asynclegacy <shape> <out-md|~> <srv-ops> <fin> <cli-ops> <reuse 0|1> [<ctx>]
open stream|invoke <method> <clientStreams> <serverStreams> live|cancel|deadline[+K<n>|+A<n>]
select <recv|await|send|header|trailer|ssend|srecv|invoke|invoke0> <setup ops|-> <offer n|-> <taker 0|1>
opts <header-md> <trailer-md> <options>
unwrap <k>
hctx <shape> <closed 0|1> <aborted 0|1>
ctxrun <context ends|->
```
Encodings are those of harness/cmd/c13/script.go. -/
namespace ScVerif.C13
open ScVerif.Line

def parseMD? (s : String) : Option MD :=
  if s = "" || s = "-" then some []
  else (s.splitOn "+").mapM fun kv =>
    match kv.splitOn "=" with
    | [k, v] => if k = "" then none else some (k, v)
    | _ => none

def parseList? {α : Type} (f : String → Option α) (s : String) : Option (List α) :=
  if s = "" || s = "-" then some [] else (s.splitOn ",").mapM f

def parseSOp? (t : String) : Option SOp :=
  match t.toList with
  | 'H' :: r => (parseMD? (String.ofList r)).map SOp.setHeader
  | 'S' :: r => (parseMD? (String.ofList r)).map SOp.sendHeader
  | 'T' :: r => (parseMD? (String.ofList r)).map SOp.setTrailer
  | 'M' :: r => (parseNat? (String.ofList r)).map SOp.send
  | ['R'] => some .recv
  | ['W'] => some .wait
  | _ => none

/-- Handler ops of the scripted server: the plain ops, and `E` = SetHeader(request metadata). -/
def parseHOp? (t : String) : Option HOp :=
  if t = "E" then some .echoIn else (parseSOp? t).map HOp.op

/-- The caller's outgoing metadata: `~` = none at all, `-` = present and empty. -/
def parseOut? (s : String) : Option (Option MD) :=
  if s = "~" then some none else (parseMD? s).map some

def parseCtxItem? (c : CallerCtx) (t : String) : Option CallerCtx :=
  match t.toList with
  | 'I' :: r => (parseMD? (String.ofList r)).map fun md => { c with incoming := some md }
  | ['D'] => some { c with deadline := true }
  | ['P'] => some { c with values := true }
  -- `K<n>` / `A<n>`: the call's context (an ancestor of it) ends WITH A CAUSE when the script cancels it / lets its
  -- deadline pass.  The cause does not enter the transcript (`C13_ended_context_status_of_first_end`).
  | ['K', n] | ['A', n] => if n.isDigit then some c else none
  | _ => none

/-- The caller's context besides the outgoing metadata: `-` or comma separated `I<md>` (incoming
metadata), `D` (a far deadline), `P` (peer and an application value), `K<n>` / `A<n>` (ends with a cause). -/
def parseCtx? (s : String) : Option CallerCtx :=
  if s = "" || s = "-" then some {} else (s.splitOn ",").foldlM parseCtxItem? {}

def parseCOp? (t : String) : Option COp :=
  match t.toList with
  | 's' :: r => (parseNat? (String.ofList r)).map COp.send
  | ['c'] => some .closeSend
  | ['r'] => some .recv
  | ['h'] => some .header
  | ['t'] => some .trailer
  | ['x'] => some (.abort .cancel)
  | ['d'] => some (.abort .deadline)
  | _ => none

def parseCodeMsg? (r : List Char) : Option (Nat × String) :=
  match (String.ofList r).splitOn ":" with
  | [c, m] => (parseNat? c).map (fun n => (n, m))
  | _ => none

/-- What the handler returns, as an error VALUE (harness/cmd/c13/script.go `parseFin`): `OK`, `E<code>:<w>` a status
error, `P<w>` a plain error, `V<code>:<w>` a status error wrapped with `fmt.Errorf("w: %w")`, `U<code>:<w>` an own
error type with text `w` around a wrapped status error, `CX|CD` a context error, `KX|KD` a wrapped one, `Z` io.EOF,
`Y` a wrapped io.EOF. -/
def parseErr? (t : String) : Option (Option GoErr) :=
  if t = "OK" then some none
  else if t = "CX" then some (some (.ctx .cancel))
  else if t = "CD" then some (some (.ctx .deadline))
  else if t = "KX" then some (some (GoErr.errorf "w: " (.ctx .cancel)))
  else if t = "KD" then some (some (GoErr.errorf "w: " (.ctx .deadline)))
  else if t = "Z" then some (some .eof)
  else if t = "Y" then some (some (GoErr.errorf "w: " .eof))
  else match t.toList with
    | 'P' :: r => some (some (.plain (String.ofList r)))
    | 'E' :: r => (parseCodeMsg? r).map fun p => some (.status p.1 p.2)
    | 'V' :: r => (parseCodeMsg? r).map fun p => some (GoErr.errorf "w: " (.status p.1 p.2))
    | 'U' :: r => (parseCodeMsg? r).map fun p => some (.wrap p.2 (GoErr.errorf "w: " (.status p.1 "inner")))
    | _ => none

def parseShape? : String → Option Shape
  | "unary" => some .unary
  | "unaryS" => some .unaryS
  | "sstream" => some .sstream
  | "cstream" => some .cstream
  | "bidi" => some .bidi
  | _ => none

/-- Stable insertion: before the first strictly greater key. -/
def insertKV (p : String × String) : MD → MD
  | [] => [p]
  | q :: r => if q.1 < p.1 then q :: insertKV p r else p :: q :: r

/-- Metadata sorted by key, the values of one key in join order (as the harness prints a map). -/
def canonMD (md : MD) : MD := md.foldr insertKV []

def showMD (md : MD) : String :=
  "{" ++ "+".intercalate ((canonMD md).map fun kv => kv.1 ++ "=" ++ kv.2) ++ "}"

def showAbort : Abort → String
  | .cancel => "X"
  | .deadline => "D"

def showEv : Ev → String
  | .sent => "ok"
  | .sendErr => "serr"
  | .closed => "cl"
  | .msg m => "m" ++ toString m
  | .fin c m => if c = 1 then "X" else if c = 4 then "D" else "F" ++ toString c ++ ":" ++ m
  | .aborted a => showAbort a
  | .hdr md => "h" ++ showMD md
  | .trl md => "t" ++ showMD md
  | .did .cancel => "x"
  | .did .deadline => "d"
  | .stuck => "stuck"

def showSEv : SEv → String
  | .incoming md => "in" ++ showMD md
  | .deadline => "dl"
  | .outgoing md => "o" ++ showMD md
  | .got m => "g" ++ toString m
  | .eof => "eof"
  | .hErr => "Herr"
  | .sErr => "Serr"
  | .abort => "abort"
  | .left => "left"

def showTranscript (t : Transcript) : String :=
  ",".intercalate (t.client.map showEv) ++ "|" ++ ",".intercalate (t.server.map showSEv)

/-- The set of possible client transcripts, `;`-separated, duplicates removed. -/
def showRuns (rs : List (List Ev)) : String :=
  ";".intercalate ((rs.map fun evs => ",".intercalate (evs.map showEv)).eraseDups)

def showOpen : Open → String
  | .ok => "ok"
  | .unimplemented => "Unimplemented"
  | .internal => "Internal"
  | .ctxEnded .cancel => "Canceled"
  | .ctxEnded .deadline => "DeadlineExceeded"

/-- The cause kinds of the harness: a plain error, a status error, an error wrapping the OTHER context error. -/
def causeKind? (a : Abort) : Char → Option GoErr
  | '0' => some (.plain "operator gave up")
  | '1' => some (.status 5 "gone")
  | '2' => some (GoErr.errorf "upstream: " (.ctx (match a with | .cancel => .deadline | .deadline => .cancel)))
  | _ => none

/-- State of the caller's context when a call is opened: `live`, or `cancel` / `deadline`, optionally `+K<n>` (the
context itself ended with cause kind n) or `+A<n>` (an ancestor did; the context's own plain cancel follows). -/
def parsePre? (pre : String) : Option CtxState :=
  match pre.splitOn "+" with
  | ["live"] => some (ctxRun [])
  | [b] => (parseAbortName? b).map fun a => ctxRun [⟨a, none⟩]
  | [b, k] => do
    let a ← parseAbortName? b
    match k.toList with
    | ['K', n] => (causeKind? a n).map fun c => ctxRun [⟨a, some c⟩]
    | ['A', n] => (causeKind? a n).map fun c => ctxRun [⟨a, some c⟩, ⟨.cancel, none⟩]
    | _ => none
  | _ => none
where
  parseAbortName? : String → Option Abort
    | "cancel" => some .cancel
    | "deadline" => some .deadline
    | _ => none

/-- One end of the context chain as the harness writes it: `c` / `d` (cancel func called / deadline passed) followed
by the cause kind `0`..`2` or `-` (no cause given). -/
def parseCtxEnd? (t : String) : Option CtxEnd :=
  match t.toList with
  | [b, k] => do
    let a ← (match b with | 'c' => some Abort.cancel | 'd' => some Abort.deadline | _ => none)
    if k = '-' then pure ⟨a, none⟩ else (causeKind? a k).map fun c => ⟨a, some c⟩
  | _ => none

def showFin : Fin → String
  | .ok => "OK"
  | .status c m => codeName c ++ ":" ++ m
  | .plain m => "P:" ++ m

/-- `ctx.Err()` class and `context.Cause(ctx).Error()` of the call's context. -/
def showCtxState : CtxState → String
  | none => "live"
  | some (.cancel, c) => "X/" ++ c.text
  | some (.deadline, c) => "D/" ++ c.text

def handleCall (op sh out srv fin cli reuse ctx : String) : Option String := do
  let reuse ← parseBool? reuse
  let shape ← parseShape? sh
  let out ← parseOut? out
  let hs ← parseList? parseHOp? srv
  let err ← parseErr? fin
  let cs ← parseList? parseCOp? cli
  let ctx0 ← parseCtx? ctx
  -- the caller's context: outgoing metadata, and a deadline if the client script waits for one
  let ctx : CallerCtx := { ctx0 with outgoing := out, deadline := ctx0.deadline || hasDeadlineOp cs }
  -- what each transport makes of the handler's error value (Errs.lean)
  let finW := Wrap.handlerFin err
  let finL := Wrap.handlerFinCfg false err
  let finG := GrpcRef.handlerFin err
  let hs' := fun (sc : SrvCtx) => hs.map (HOp.resolve sc)
  match op with
  | "wrap" => pure (showTranscript (Wrap.runCtx shape ctx (scripted hs finW) cs reuse))
  | "legacy" => pure (showTranscript (Wrap.runCtxCfg Cfg.legacy shape ctx (scripted hs finL) cs reuse))
  | "grpc" => pure (showTranscript (GrpcRef.runCtx shape ctx (scripted hs finG) cs reuse))
  | "wf" => pure (showBool (WFScripts shape (hs' (GrpcRef.serverCtx ctx)) finG cs))
  | "async" => pure (showRuns (Wrap.asyncRuns Cfg.current shape (hs' (Wrap.startStream Cfg.current ctx)) finW cs reuse))
  | "asynclegacy" => pure (showRuns (Wrap.asyncRuns Cfg.legacy shape (hs' (Wrap.startStream Cfg.legacy ctx)) finL cs reuse))
  | _ => none

/-- One set-up step on a fresh `ClientServerStream` (harness/cmd/c13/selecttie.go): `H<md>` SetHeader, `S<md>`
SendHeader, `T<md>` SetTrailer, `x` / `d` the caller's context ends, `C<fin>` Close(what the handler returned). -/
def applySetup (w : Wrap.State) (t : String) : Option Wrap.State :=
  match t.toList with
  | ['x'] => some (Wrap.abort w .cancel)
  | ['d'] => some (Wrap.abort w .deadline)
  | 'H' :: r => (parseMD? (String.ofList r)).map fun md => (Wrap.setHeader Cfg.current w md).1
  | 'S' :: r => (parseMD? (String.ofList r)).map fun md => (Wrap.sendHeader w md).1
  | 'T' :: r => (parseMD? (String.ofList r)).map fun md => Wrap.setTrailer w md
  | 'C' :: r => (parseErr? (String.ofList r)).map fun e => Wrap.close Cfg.current w (Wrap.handlerFin e)
  | _ => none

def showRes : Wrap.Res → String
  | .msg m => "m" ++ toString m
  | .ev e => showEv e
  | .deliver => "deliver"

def showSRes : Wrap.SRes → String
  | .sent => "ok"
  | .msg m => "m" ++ toString m
  | .eof => "eof"
  | .ctxErr a => showAbort a

/-- What Invoke handed back: `<RecvMsg's result>/h<header option>/t<trailer option>`; `<error>` followed by two dashes instead of the
options when SendMsg failed (collectMetadata not run). -/
def showIRes : Wrap.IRes → String
  | .early e => showEv e ++ "/-/-"
  | .full r h t => showRes r ++ "/h" ++ showMD h ++ "/t" ++ showMD t

def showResults (rs : List String) : String :=
  if rs.isEmpty then "blocks" else ";".intercalate rs.eraseDups

/-- `select <recv|await|send|header|trailer|ssend|srecv|invoke|invoke0> <setup ops|-> <offer n|-> <taker 0|1>`: what the call can
return on a stream brought into a state by the set-up ops (every ready select case; `blocks` if none). -/
def handleSelect (call setup offer taker : String) : Option String := do
  let ops := if setup = "-" || setup = "" then [] else setup.splitOn ","
  -- `c` = the client has called CloseSend (no state of the shared record: clientSend is closed)
  let half := ops.contains "c"
  let w ← (ops.filter (· != "c")).foldlM applySetup ({} : Wrap.State)
  let offer ← (if offer = "-" then some none else (parseNat? offer).map some)
  let taker ← parseBool? taker
  -- a handler inside SendMsg has run `sendHeaderIfNeeded` before it offers the message
  let w := if offer.isSome then Wrap.sendHeaderIfNeeded w else w
  let c : Wrap.Chans := ⟨w, offer, taker⟩
  match call with
  -- the handler's half: `offer` = the client is inside SendMsg, `taker` = the client is inside RecvMsg
  | "ssend" => pure (showResults ((Wrap.ssendResults ⟨Wrap.sendHeaderIfNeeded w, none, taker, half⟩).map showSRes))
  | "srecv" => pure (showResults ((Wrap.srecvResults ⟨w, offer, taker, half⟩).map showSRes))
  | "recv" => pure (showResults ((Wrap.recvResults c).map showRes))
  | "await" => pure (showResults ((Wrap.awaitResults c).map showRes))
  | "send" => pure (showResults ((Wrap.sendResults c).map showEv))
  | "header" => pure (showResults ((Wrap.headerResults w).map fun md => "h" ++ showMD md))
  | "trailer" => pure ("t" ++ showMD (Wrap.trailer w))
  -- the whole of `wrapper.Invoke` with the stream frozen in this state (Invoke.lean): the caller's goroutine inside
  -- RecvMsg (the handler has taken the request) / at the start of SendMsg
  | "invoke" => pure (showResults ((Wrap.frozen .recv c).map showIRes))
  | "invoke0" => pure (showResults ((Wrap.frozen .send c).map showIRes))
  | _ => none

def handleOpt (toks : List String) : Option String :=
  match toks with
  | ["select", call, setup, offer, taker] => handleSelect call setup offer taker
  | ["opts", hdr, trl, opts] => do
    -- `opts <header md> <trailer md> <h<addr>|t<addr>|o,...>`: the caller's variables 0..3 after collectMetadata
    let hdr ← parseMD? hdr
    let trl ← parseMD? trl
    let os ← parseList? (fun t => match t.toList with
      | 'h' :: r => (parseNat? (String.ofList r)).map CallOpt.header
      | 't' :: r => (parseNat? (String.ofList r)).map CallOpt.trailer
      | ['o'] => some (CallOpt.other 0)
      | _ => none) opts
    let v := collectMetadata hdr trl os []
    pure (";".intercalate ([0, 1, 2, 3].map fun a => match v.lookup a with
      | some md => toString a ++ "=" ++ showMD md
      | none => toString a ++ "=nil"))
  | ["unwrap", k] => do
    let k ← parseNat? k
    match unwrapFully (stack k (.plain 0)) with
    | .plain i => pure ("plain" ++ toString i)
    | .unwrapper _ => pure "wrapper"
  | ["hctx", sh, closed, aborted] => do
    -- has the handler's context ended? (state: the handler has returned / the caller's context has ended)
    let shape ← parseShape? sh
    let closed ← parseBool? closed
    let aborted ← parseBool? aborted
    let w : Wrap.State := { closed := if closed then some .ok else none, ctxErr := if aborted then some .cancel else none }
    pure (toString (Wrap.handlerCtxDone (Wrap.handlerCtxOf false shape) w) ++ "/" ++ toString (GrpcRef.handlerCtxDone w))
  | ["ctxrun", evs] => do
    let es ← (if evs = "-" then some [] else (evs.splitOn ",").mapM parseCtxEnd?)
    let st := ctxRun es
    -- the state, and the class every report site of pkg/wrap gives for it (all sites agree: checked here too)
    let reads := [CtxSite.invokeEntry, .invokeNotTaken, .newStreamEntry, .clientRecv, .clientAwaitStatus,
      .serverSendHeader, .serverSendMsg, .serverRecvMsg].map fun site => showFin (Wrap.callerReads (Wrap.siteError site st))
    pure (showCtxState st ++ " " ++ ";".intercalate reads.eraseDups)
  | ["open", via, method, cs, ss, pre] => do
    let cs ← parseBool? cs
    let ss ← parseBool? ss
    let st ← parsePre? pre
    let ctx := ctxErr st
    let o ← (match via with
      | "stream" => some (Conn.newStream testApi ctx method cs ss)
      | "invoke" => some (Conn.invoke testApi ctx method)
      | _ => none)
    -- an ended context: the class of the status the entry check builds (`Wrap.contextStatus`) is the outcome
    match Wrap.contextStatus st with
    | some s => if codeName s.1 = showOpen o then pure (showOpen o) else pure ("!status " ++ codeName s.1)
    | none => pure (showOpen o)
  | [op, sh, out, srv, fin, cli, reuse] => handleCall op sh out srv fin cli reuse "-"
  | [op, sh, out, srv, fin, cli, reuse, ctx] => handleCall op sh out srv fin cli reuse ctx
  | _ => none

def handle (toks : List String) : String := (handleOpt toks).getD "!bad-op"

end ScVerif.C13
