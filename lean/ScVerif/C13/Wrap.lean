import ScVerif.C13.Script
/-
C13 — model of pkg/wrap/stream.go (`ClientServerStream`), function by function.

The two unbuffered channels `clientSend` / `serverSend` are the rendezvous of `go` (Script.lean);
what is modelled here is the state the two halves share besides the channels: `header`, the latch
`headerC`, `trailer`, `closeErr` (+ `serverSend` closed, `closed()` called) and the caller's context.

`Cfg` selects the code version, one flag per repair (each flag names its commit): `Cfg.current` has every
repair, `Cfg.legacy` none, and single repairs are switched off with `{ Cfg.current with … }`, so that each
defect stays stated as a theorem (`C13_legacy_*` in the Props files).  Two further repairs are selected
outside `Cfg`: `handlerFinCfg (eofFails)` in Errs.lean and `handlerCtxOf (legacy)` in Cause.lean.
-/
namespace ScVerif.C13

structure Cfg where
  /-- `Close` calls `SendHeader(nil)` first (fix fa93faa) -/
  flushOnClose : Bool
  /-- `SetHeader` returns an error once `headerC` is closed (fix f637124) -/
  rejectLate : Bool
  /-- `SendMsg` hands over `proto.Clone(m)` instead of the sender's object (fix be22473) -/
  snapshotOnSend : Bool
  /-- the handler's SendMsg / RecvMsg return the context's status once the context has ended, not
  io.EOF (fix 3d4f9fa) -/
  srvCtxErr : Bool
  /-- `startStream` gives the handler a context without the caller's outgoing metadata (fix 8cf1112) -/
  clearOutgoing : Bool
  /-- the client's `RecvMsg` of a call without server streaming (NewStream) waits for the handler's return
  after the single response and gives the handler's error instead of the response (fix 14df317) -/
  holdResponse : Bool
  /-- `SendHeader` fails once the call's context has ended, so neither a late SendHeader / SendMsg nor the
  flush in `Close` makes header metadata visible that was only staged when the client aborted (fix 1e9d1bd) -/
  sendFailsAfterEnd : Bool
  deriving DecidableEq, Repr

def Cfg.current : Cfg := ⟨true, true, true, true, true, true, true⟩
def Cfg.legacy : Cfg := ⟨false, false, false, false, false, false, false⟩

/-- Message objects live in a heap: `cells` maps a reference to the payload stored there (newest
binding first), `next` is the next fresh reference. -/
structure Heap where
  next : Nat := 0
  cells : List (Nat × Nat) := []
  deriving DecidableEq, Repr

def Heap.get (h : Heap) (r : Nat) : Nat := (h.cells.lookup r).getD 0
def Heap.set (h : Heap) (r v : Nat) : Heap := { h with cells := (r, v) :: h.cells }
/-- `new(T)` / `proto.Clone`: a fresh object holding `v`. -/
def Heap.alloc (h : Heap) (v : Nat) : Heap × Nat := ({ next := h.next + 1, cells := (h.next, v) :: h.cells }, h.next)

namespace Wrap

structure State where
  header : MD := []
  headerC : Bool := false          -- headerC closed: Header() may return
  trailer : MD := []
  closed : Option Fin := none      -- Close(err) was called: closeErr = err, serverSend closed, ctx done
  ctxErr : Option Abort := none    -- the parent (caller's) context ended
  heap : Heap := {}                -- the message objects of both sides
  cOwn : List Nat := []            -- objects the client code holds (its requests, its response values)
  sOwn : List Nat := []            -- objects the handler holds
  cObj : Option Nat := none        -- the one request object of a client that reuses it
  sObj : Option Nat := none        -- the one response object of a handler that reuses it
  deriving DecidableEq, Repr

/-- `serverStream.SetHeader`: empty md is a no-op; after the latch is closed an error (current code);
otherwise `metadata.Join`. The legacy code joined unconditionally. -/
def setHeader (c : Cfg) (w : State) (md : MD) : State × Bool :=
  if c.rejectLate then
    if md.isEmpty then (w, false)
    else if w.headerC then (w, true)
    else ({ w with header := w.header ++ md }, false)
  else ({ w with header := w.header ++ md }, false)

/-- `serverStream.SendHeader` (`sendFailsAfterEnd`, 1e9d1bd): an error if the call's context has ended —
nothing can be sent any more, so what is only staged never reaches the client; the check comes first, before
the lock —, an error if the latch is closed, else join and close the latch.  The context is the stream's:
`ctx.Err()` is non-nil after the caller's context ended; `Close` is the only other way it ends, and the
handler does not call SendHeader after it. -/
def sendHeader (w : State) (md : MD) : State × Bool :=
  if w.ctxErr.isSome then (w, true)
  else if w.headerC then (w, true)
  else ({ w with header := w.header ++ md, headerC := true }, false)

/-- `SendHeader` before 1e9d1bd: the context was not looked at. -/
def sendHeaderOld (w : State) (md : MD) : State × Bool :=
  if w.headerC then (w, true)
  else ({ w with header := w.header ++ md, headerC := true }, false)

def sendHeaderC (c : Cfg) (w : State) (md : MD) : State × Bool :=
  if c.sendFailsAfterEnd then sendHeader w md else sendHeaderOld w md

def setTrailer (w : State) (md : MD) : State := { w with trailer := w.trailer ++ md }

/-- `sendHeaderIfNeeded` = `SendHeader(nil)` with the error ignored; first thing `SendMsg` does. -/
def sendHeaderIfNeeded (w : State) : State := (sendHeader w []).1

def sendHeaderIfNeededC (c : Cfg) (w : State) : State := (sendHeaderC c w []).1

/-- `ClientServerStream.Close(err)`: (current code: flush the header latch,) record closeErr, close
serverSend, cancel the stream context. -/
def close (c : Cfg) (w : State) (err : Fin) : State :=
  let w := if c.flushOnClose then sendHeaderIfNeededC c w else w
  { w with closed := some err }

def abort (w : State) (a : Abort) : State := { w with ctxErr := some a }

/-- `clientStream.Header()`: `select { <-ctx.Done(): (headerC closed ? header : nil) ; <-headerC: header }`.
The stream context is done when Close was called or the caller's context ended. -/
def header (w : State) : Option MD :=
  if w.headerC then some w.header
  else if w.closed.isSome || w.ctxErr.isSome then some []
  else none

def trailer (w : State) : MD := w.trailer

/-- What the client sees of an error value (`status.FromError`): nil/io.EOF = OK, a status error its
code and message, any other error Unknown (2) with its text. -/
def canon : Fin → Ev
  | .ok => .fin 0 ""
  | .status c m => .fin c m
  | .plain m => .fin 2 m

/-- `clientStream.RecvMsg` when the handler is not sending: if serverSend is closed, `closeErrLocked()`
(both select branches agree); else if the context is done, `ctx.Err()`; else it blocks. -/
def terminal (w : State) : Option Ev :=
  match w.closed with
  | some err => some (canon err)
  | none =>
    match w.ctxErr with
    | some a => some (.aborted a)
    | none => none

/-! ### Messages across the boundary (`SendMsg` … `RecvMsg`, `snapshot`, `permissiveProtoMerge`) -/

def own (w : State) : Dir → List Nat
  | .c2s => w.cOwn
  | .s2c => w.sOwn

/-- The side that receives what `d` sends. -/
def flipDir : Dir → Dir
  | .c2s => .s2c
  | .s2c => .c2s

def addOwn (w : State) (d : Dir) (r : Nat) : State :=
  match d with
  | .c2s => { w with cOwn := r :: w.cOwn }
  | .s2c => { w with sOwn := r :: w.sOwn }

/-- The one message object of a sender that reuses it. -/
def obj (w : State) : Dir → Option Nat
  | .c2s => w.cObj
  | .s2c => w.sObj

def setObj (w : State) (d : Dir) (r : Nat) : State :=
  match d with
  | .c2s => { w with cObj := some r }
  | .s2c => { w with sObj := some r }

/-- Side `d` creates a message object holding `v` (`new(T)` / `&T{...}`). -/
def newObj (w : State) (d : Dir) (v : Nat) : State × Nat :=
  (addOwn { w with heap := (w.heap.alloc v).1 } d w.heap.next, w.heap.next)

/-- A clone held by neither side (`proto.Clone` inside `snapshot`). -/
def allocFree (w : State) (v : Nat) : State × Nat :=
  ({ w with heap := (w.heap.alloc v).1 }, w.heap.next)

/-- The owner of `r` writes `v` into its object. -/
def poke (w : State) (r v : Nat) : State := { w with heap := w.heap.set r v }

/-- The sending side gets hold of the object it is going to send and writes payload `m` into it: a new
object, or — when it reuses its message — the one object it always sends. -/
def senderObj (w : State) (d : Dir) (reuse : Bool) (m : Nat) : State × Nat :=
  if reuse then
    match obj w d with
    | some r => (poke w r m, r)
    | none => (setObj (newObj w d m).1 d (newObj w d m).2, (newObj w d m).2)
  else newObj w d m

/-- `SendMsg(r)` up to its return: what goes over the channel is `snapshot(r)` = a fresh clone held by
nobody (current code) or `r` itself (legacy). -/
def sendMsg (c : Cfg) (w : State) (r : Nat) : State × Nat :=
  if c.snapshotOnSend then allocFree w (w.heap.get r) else (w, r)

/-- `RecvMsg(dst)`: the receiver's own new object gets the content of what came over the channel
(`permissiveProtoMerge`); the receiver holds only its own object afterwards. The result is the
payload it reads from its object. -/
def recvMsg (w : State) (d : Dir) (handed : Nat) : State × Nat :=
  ((newObj w (flipDir d) (w.heap.get handed)).1, w.heap.get handed)

/-- The payload a reusing sender writes into its object right after SendMsg returned. -/
def poison : Nat := 99

/-- One message across the boundary, in the order things happen in the Go code: the sender fills its
object, `SendMsg` returns after the channel hand-over, a reusing sender overwrites its object at once,
and only then the receiver merges what it was handed into its own object. -/
def xfer (c : Cfg) (w : State) (dir : Dir) (m : Nat) (reuse : Bool) : State × Nat :=
  let a := senderObj w dir reuse m
  let b := sendMsg c a.1 a.2
  let w3 := if reuse then poke b.1 a.2 poison else b.1
  recvMsg w3 dir b.2

def impl (c : Cfg) : Impl State where
  setHeader := setHeader c
  sendHeader := sendHeaderC c
  setTrailer := setTrailer
  preSend := sendHeaderIfNeededC c
  xfer := xfer c
  close := close c
  abort := abort
  header := header
  trailer := trailer
  terminal := terminal

end Wrap
end ScVerif.C13
