import ScVerif.C13.WF
import ScVerif.C13.Spec
/-
C13 — lemmas: what the projections of a transcript (completeness, the messages each side received) do
under the constructors of `go` (`cev`, `sev`, `sevIf`) and under `hold`.
-/
namespace ScVerif.C13

theorem complete_iff (t : Transcript) : t.complete = true ↔ Ev.stuck ∉ t.client ∧ SEv.left ∉ t.server := by
  simp [Transcript.complete]

theorem complete_cev (e : Ev) (t : Transcript) (h : e ≠ .stuck) : (cev e t).complete = t.complete := by
  have : (Ev.stuck == e) = false := by simpa using h.symm
  simp only [cev, Transcript.complete, List.contains_cons, this, Bool.false_or]

theorem complete_sev (e : SEv) (t : Transcript) (h : e ≠ .left) : (sev e t).complete = t.complete := by
  have : (SEv.left == e) = false := by simpa using h.symm
  simp only [sev, Transcript.complete, List.contains_cons, this, Bool.false_or]

theorem complete_sevIf (b : Bool) (e : SEv) (t : Transcript) (h : e ≠ .left) :
    (sevIf b e t).complete = t.complete := by
  cases b
  · rfl
  · exact complete_sev e t h

theorem clientMsgs_cev (e : Ev) (t : Transcript) (h : e.msg? = none) : (cev e t).clientMsgs = t.clientMsgs :=
  List.filterMap_cons_none h
theorem clientMsgs_sev (e : SEv) (t : Transcript) : (sev e t).clientMsgs = t.clientMsgs := rfl
theorem clientMsgs_sevIf (b : Bool) (e : SEv) (t : Transcript) : (sevIf b e t).clientMsgs = t.clientMsgs := by
  cases b <;> rfl
theorem serverMsgs_sev (e : SEv) (t : Transcript) (h : e.got? = none) : (sev e t).serverMsgs = t.serverMsgs :=
  List.filterMap_cons_none h

theorem hold_server (b : Bool) (fin : Fin) (st : Ev) (t : Transcript) : (hold b fin st t).server = t.server := by
  unfold hold; split <;> rfl

theorem serverMsgs_hold (b : Bool) (fin : Fin) (st : Ev) (t : Transcript) :
    (hold b fin st t).serverMsgs = t.serverMsgs := by
  simp [Transcript.serverMsgs, hold_server]

theorem complete_hold (b : Bool) (fin : Fin) (st : Ev) (hst : st ≠ .stuck) (t : Transcript) :
    (hold b fin st t).complete = t.complete := by
  have hc : ∀ l : List Ev, (l.map (holdEv st)).contains .stuck = l.contains .stuck := by
    intro l
    induction l with
    | nil => rfl
    | cons e t ih =>
      have he : (Ev.stuck == holdEv st e) = (Ev.stuck == e) := by
        cases e <;> simp only [holdEv]
        exact (beq_eq_false_iff_ne.mpr hst.symm).trans rfl
      simp only [List.map_cons, List.contains_cons, he, ih]
  unfold hold
  split
  · simp only [Transcript.complete, hc]
  · rfl

theorem filterMap_msg_holdEv {st : Ev} (hst : st.msg? = none) (l : List Ev) :
    (l.map (holdEv st)).filterMap Ev.msg? = [] := by
  rw [List.filterMap_map]
  exact List.filterMap_eq_nil_iff.mpr fun e _ => by cases e <;> first | exact hst | rfl

theorem clientMsgs_hold_err {fin : Fin} (hfin : fin ≠ .ok) {st : Ev} (hst : st.msg? = none) (t : Transcript) :
    (hold true fin st t).clientMsgs = [] := by
  have hb : (fin != Fin.ok) = true := by simpa using hfin
  simp only [hold, hb, Bool.and_self, if_true, Transcript.clientMsgs, filterMap_msg_holdEv hst]

theorem clientMsgs_hold (b : Bool) (fin : Fin) {st : Ev} (hst : st.msg? = none) (t : Transcript) :
    (hold b fin st t).clientMsgs <+: t.clientMsgs := by
  unfold hold
  split
  · simp only [Transcript.clientMsgs, filterMap_msg_holdEv hst]
    exact List.nil_prefix
  · exact List.prefix_refl _

end ScVerif.C13
