import ScVerif.C13.Cause
/-
C13 — lemmas: the first end of a context chain decides; a family of contexts seen from one of them is its chain.
-/
namespace ScVerif.C13

/-- What a report site makes of an ended context (`rfl`: `statusFromContextError (.ctx a)` is `(abortCode a, abortText a)`). -/
theorem Wrap.siteError_some (site : CtxSite) (a : Abort) (c : GoErr) :
    Wrap.siteError site (some (a, c)) = some (if site.raw then .ctx a else .status (abortCode a) (abortText a)) := rfl

theorem ctxRun_some (x : Abort × GoErr) (es : List CtxEnd) : es.foldl ctxStep (some x) = some x := by
  induction es with
  | nil => rfl
  | cons e es ih => simpa [List.foldl, ctxStep] using ih

theorem ctxRun_cons (e : CtxEnd) (es : List CtxEnd) :
    ctxRun (e :: es) = some (e.abort, e.cause.getD (.ctx e.abort)) := by
  simp [ctxRun, List.foldl, ctxStep, ctxRun_some]

theorem famRun_chain (below : Nat → Nat → Bool) (evs : List (Nat × CtxEnd)) (σ : Nat → CtxState) (k : Nat) :
    famRun below σ evs k = ((evs.filter fun ev => below ev.1 k).map (·.2)).foldl ctxStep (σ k) := by
  induction evs generalizing σ with
  | nil => rfl
  | cons ev evs ih =>
    simp only [famRun, List.foldl_cons] at ih ⊢
    rw [ih]
    by_cases h : below ev.1 k = true
    · simp [h, famStep]
    · simp [h, famStep]

end ScVerif.C13
