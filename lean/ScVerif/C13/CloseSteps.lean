import ScVerif.C13.Wrap
/-
C13 — `ClientServerStream.Close(err)` step by step (pkg/wrap/stream.go).

`Wrap.close` (Wrap.lean) treats Close as one atomic step.  The Go function is four separate writes
that a client goroutine parked in `RecvMsg` / `Header()` can observe one by one:

```
_ = (&serverStream{s}).SendHeader(nil)   -- flush     : join nothing, close the latch headerC (if still open and
                                         --             the call's context has not ended: 1e9d1bd)
s.headerM.Lock(); s.closeErr = err; …    -- recordErr : the error the client is to be given
close(s.serverSend)                      -- closeChan : RecvMsg's `case _, ok := <-serverSend` fires with !ok
s.closed()                               -- cancelCtx : the stream context is done
```
`Fine` carries exactly the fields these writes and the client-side reads touch; the reads below follow
`clientStream.Header`, `.Trailer`, `.RecvMsg` (no message in flight) select-case by select-case.
-/
namespace ScVerif.C13
namespace Wrap

structure Fine where
  header : MD := []
  headerC : Bool := false
  trailer : MD := []
  closeErr : Option Fin := none     -- none = the field still holds nil because Close has not written it
  sendClosed : Bool := false        -- serverSend is closed
  ctxErr : Option Abort := none     -- the stream context is done, with this error (first cause wins)
  deriving DecidableEq, Repr

inductive CloseStep where
  | flush
  | recordErr (err : Fin)
  | closeChan
  | cancelCtx
  deriving DecidableEq, Repr

def Fine.step (f : Fine) : CloseStep → Fine
  | .flush => if f.ctxErr.isSome then f else if f.headerC then f else { f with headerC := true }
  | .recordErr err => { f with closeErr := some err }
  | .closeChan => { f with sendClosed := true }
  | .cancelCtx => { f with ctxErr := f.ctxErr <|> some .cancel }   -- context.Canceled unless already done

def Fine.run (f : Fine) (steps : List CloseStep) : Fine := steps.foldl Fine.step f

/-- The statements of `Close`, in the order of the source. -/
def closeOrder (err : Fin) : List CloseStep := [.flush, .recordErr err, .closeChan, .cancelCtx]

/-- A stream on which Close has not started, seen at field level. -/
def lift (w : State) : Fine :=
  { header := w.header, headerC := w.headerC, trailer := w.trailer, ctxErr := w.ctxErr }

/-- `clientStream.Header()`: `select { <-ctx.Done(): (headerC closed ? header : nil); <-headerC: header }`
(when both are ready either case gives the header). -/
def Fine.readHeader (f : Fine) : Option MD :=
  if f.headerC then some f.header
  else if f.ctxErr.isSome then some []
  else none

def Fine.readTrailer (f : Fine) : MD := f.trailer

/-- `closeErrLocked()`: `closeErr`, or io.EOF while it is nil. -/
def Fine.closeErrLocked (f : Fine) : Ev := canon (f.closeErr.getD .ok)

/-- `clientStream.RecvMsg` with no message in flight:
`select { <-ctx.Done(): (serverSend closed ? closeErrLocked() : ctx.Err()); <-serverSend (closed): closeErrLocked() }`. -/
def Fine.readTerminal (f : Fine) : Option Ev :=
  if f.sendClosed then some f.closeErrLocked
  else f.ctxErr.map Ev.aborted

end Wrap
end ScVerif.C13
