import ScVerif.C13.Script
/-
C13 — two transports whose states stay related give the same joint run: the induction over `go`, done once at
the level of the interface `Impl`.

Every module that unfolds `go` imports this one: Lean declares the auxiliary lemmas for `go`'s `match` in the first
module that unfolds it, and two modules that each did so could not be imported together.
-/
namespace ScVerif.C13

/-- Once the handler has returned the joint run only reads: two states are as good as each other if the reads agree. -/
def Obs {σ τ : Type} (I : Impl σ) (J : Impl τ) (s : σ) (t : τ) : Prop :=
  I.header s = J.header t ∧ I.trailer s = J.trailer t ∧ I.terminal s = J.terminal t

/-- A simulation between two transports: a relation between their states while the handler runs that every call `go`
makes then keeps, with equal results, under which `Header()` agrees, and which `Close` and an abort turn into
agreement of the reads `go` makes from then on. -/
structure Sim {σ τ : Type} (I : Impl σ) (J : Impl τ) where
  run : σ → τ → Prop
  setHeader : ∀ {s t} md, run s t → run (I.setHeader s md).1 (J.setHeader t md).1 ∧ (I.setHeader s md).2 = (J.setHeader t md).2
  sendHeader : ∀ {s t} md, run s t → run (I.sendHeader s md).1 (J.sendHeader t md).1 ∧ (I.sendHeader s md).2 = (J.sendHeader t md).2
  setTrailer : ∀ {s t} md, run s t → run (I.setTrailer s md) (J.setTrailer t md)
  preSend : ∀ {s t}, run s t → run (I.preSend s) (J.preSend t)
  xfer : ∀ {s t} d m r, run s t → run (I.xfer s d m r).1 (J.xfer t d m r).1 ∧ (I.xfer s d m r).2 = (J.xfer t d m r).2
  header : ∀ {s t}, run s t → I.header s = J.header t
  close : ∀ {s t} fin, run s t → Obs I J (I.close s fin) (J.close t fin)
  abort : ∀ {s t} a, run s t →
    I.header (I.abort s a) = J.header (J.abort t a) ∧ I.terminal (I.abort s a) = J.terminal (J.abort t a)

variable {σ τ : Type} {I : Impl σ} {J : Impl τ}

/-- What `go` needs of the two states in each phase of the handler (after an abort it asks for no trailer). -/
def Sim.rel (S : Sim I J) : Srv → σ → τ → Prop
  | .running _ => S.run
  | .done => Obs I J
  | .aborted => fun s t => I.header s = J.header t ∧ I.terminal s = J.terminal t

theorem Sim.rel_header (S : Sim I J) {srv : Srv} {s t} (h : S.rel srv s t) : I.header s = J.header t := by
  cases srv
  · exact S.header h
  · exact h.1
  · exact h.1

theorem Sim.rel_terminal (S : Sim I J) {srv : Srv} {s t} (h : S.rel srv s t) (hs : srv.size = 0) :
    I.terminal s = J.terminal t := by
  cases srv
  · cases hs
  · exact h.2.2
  · exact h.2

theorem go_sim (S : Sim I J) (fin : Fin) (reuse : Bool) (s : σ) (cc : Bool) (srv : Srv) (cs : List COp) :
    ∀ t, S.rel srv s t → go I fin reuse s cc srv cs = go J fin reuse t cc srv cs := by
  fun_induction go I fin reuse s cc srv cs
  all_goals intro t h
  /- The cases are the clauses of `go` in the order of Script.lean (handler's next op / client's next op; a clause
  with a `match` on a read gives two, some / none):  1 setHeader  2 sendHeader  3 setTrailer  4 return;
  send: 5 recv  6,7 header  8 closeSend  9 script over  10 other;   recv: 11 half-closed  12 send  13 closeSend
  14,15 header  16 abort  17 script over  18 other;   wait: 19,20 header  21 closeSend  22 abort  23 script over
  24 other;   returned: 25 script over  26,27 recv  28,29 header  30 trailer  31 closeSend  32 other;
  aborted: 33 script over  34,35 recv  36,37 header  38 other. -/
  case case9 | case17 | case23 | case25 | case33 => simp only [go]
  case case10 | case18 | case24 | case32 | case38 => simp only [go, *]
  case case1 md _ _ ih => simp only [go, ih _ (S.setHeader md h).1, (S.setHeader md h).2]
  case case2 md _ _ ih => simp only [go, ih _ (S.sendHeader md h).1, (S.sendHeader md h).2]
  case case3 md _ _ ih => simp only [go, ih _ (S.setTrailer md h)]
  case case4 ih => simp only [go, ih _ (S.close fin h)]
  case case5 m _ _ ih =>
    have hx := S.xfer .s2c m reuse (S.preSend h)
    simp only [go, ih _ hx.1, hx.2]
  case case12 m _ ih =>
    have hx := S.xfer .c2s m reuse h
    simp only [go, ih _ hx.1, hx.2]
  -- the handler inside SendMsg has done `preSend`: `Header()`, `CloseSend` meet that state
  case case6 hmd ih => simp only [go, ← S.header (S.preSend h), hmd, ih _ (S.preSend h)]
  case case7 hmd => simp only [go, ← S.header (S.preSend h), hmd]
  case case8 ih => simp only [go, ih _ (S.preSend h)]
  case case11 ih | case21 ih | case31 ih => simp only [go, ih _ h]
  case case13 ih =>
    have := ih _ h
    simp only [go] at this ⊢
    exact congrArg _ this
  case case14 hmd ih | case19 hmd ih | case28 hmd ih | case36 hmd ih => simp only [go, ← S.rel_header h, hmd, ih _ h]
  case case15 hmd | case20 hmd | case29 hmd | case37 hmd => simp only [go, ← S.rel_header h, hmd]
  case case16 a _ ih | case22 a _ ih => simp only [go, ih _ (S.abort a h)]
  case case26 he ih | case34 he ih => simp only [go, ← S.rel_terminal h rfl, he, ih _ h]
  case case27 he | case35 he => simp only [go, ← S.rel_terminal h rfl, he]
  case case30 ih =>
    have hh : I.trailer _ = J.trailer t := h.2.1
    simp only [go, ← hh]
    exact congrArg _ (ih _ h)

end ScVerif.C13
