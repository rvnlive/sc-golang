import ScVerif.C13.Invoke
import ScVerif.C13.SelectLemmas
import ScVerif.C13.Spec
/-
C13 — what the caller's `collectMetadata` draws from the handler half's invariant `OfferedAfterFlush` (a handler offers a
message only after `sendHeaderIfNeeded`, which closes the latch or fails on an ended context, 1e9d1bd): where RecvMsg
has a ready case, `Header()` has one (`avail_of_recv`); and `Move.forward`: nothing that happens to the shared state
undoes a closed latch or an ended context.
-/
namespace ScVerif.C13
namespace Wrap

/-- Where RecvMsg has a ready case `Header()` has one: the stream's context has ended, or the handler is offering a
message, after its flush. -/
theorem avail_of_recv {c : Chans} (hinv : OfferedAfterFlush c) {r : Res} (h : r ∈ recvResults c) : avail c.w = true := by
  refine avail_iff.mpr ?_
  cases hd : ctxDone c.w
  · refine (hinv ?_).imp_right fun h' => hd ▸ h'
    cases hcl : c.w.closed with
    | some err => exact absurd (ctxDone_of_closed hcl) (by simp [hd])
    | none =>
      cases ha : c.w.ctxErr with
      | some a => exact absurd (ctxDone_of_ctxErr ha) (by simp [hd])
      | none =>
        rw [recvResults_live hcl ha] at h
        cases ho : c.offer <;> simp_all
  · exact Or.inr rfl

theorem OfferAfterHeader.weaken {c : Chans} (h : OfferAfterHeader c) : OfferedAfterFlush c :=
  fun ho => Or.inl (h ho)

theorem later_sendHeader (w : State) (md : MD) (o o' : Option Nat) (t t' : Bool) :
    Later ⟨w, o, t⟩ ⟨(sendHeader w md).1, o', t'⟩ := by
  rw [← sendHeaderC_current]
  rcases sendHeaderC_cases Cfg.current w md with ⟨_, e⟩ | ⟨_, e⟩
  · rw [e]
    exact ⟨id, id⟩
  · rw [e]
    exact ⟨fun _ => rfl, id⟩

theorem Move.forward (w : State) (m : Move) (o o' : Option Nat) (t t' : Bool) :
    Later ⟨w, o, t⟩ ⟨m.apply w, o', t'⟩ := by
  cases m with
  | setHeader md =>
    rcases setHeader_cases Cfg.current w md with e | ⟨_, e⟩
    all_goals
      rw [Move.apply, e]
      exact ⟨id, id⟩
  | sendHeader md => exact later_sendHeader w md o o' t t'
  | setTrailer md => exact ⟨id, id⟩
  | flush => exact later_sendHeader w [] o o' t t'
  | abort a => exact ⟨id, fun _ => ctxDone_of_ctxErr (a := a) rfl⟩
  | close err =>
    rw [Move.apply, close_current]
    exact ⟨(later_sendHeader w [] o o' t t').1, fun _ => ctxDone_of_closed (err := err) rfl⟩

end Wrap
end ScVerif.C13
