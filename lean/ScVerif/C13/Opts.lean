import ScVerif.C13.Conn
/-
C13 — the call options of a unary call (pkg/wrap/wrap.go `collectMetadata`).

`Invoke` is handed the caller's option list; `collectMetadata` walks it in order: every `grpc.Header(&h)` option
gets a clone of `Header()`, every `grpc.Trailer(&t)` option a clone of `Trailer()`, every other option is ignored.
The caller's variables are addressed by numbers; `Vars` is the assignment log, newest first.  Anything between the
caller and `Invoke` (a generated trait wrapper, a typed client, an adapter) is a function on the option list.
-/
namespace ScVerif.C13

inductive CallOpt where
  | header (addr : Nat)    -- grpc.Header(&vars[addr])
  | trailer (addr : Nat)   -- grpc.Trailer(&vars[addr])
  | other (tag : Nat)      -- any other call option (WaitForReady, MaxCallRecvMsgSize, ...)
  deriving DecidableEq, Repr

abbrev Vars := List (Nat × MD)

/-- `collectMetadata(cs, opts)`: `for _, opt := range opts { switch opt.(type) { … } }`. -/
def collectMetadata (hdr trl : MD) : List CallOpt → Vars → Vars
  | [], v => v
  | .header a :: os, v => collectMetadata hdr trl os ((a, cloneMD hdr) :: v)
  | .trailer a :: os, v => collectMetadata hdr trl os ((a, cloneMD trl) :: v)
  | .other _ :: os, v => collectMetadata hdr trl os v

def CallOpt.isMeta : CallOpt → Bool
  | .other _ => false
  | _ => true

end ScVerif.C13
