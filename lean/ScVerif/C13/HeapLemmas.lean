import ScVerif.C13.StreamLemmas
/-
C13 — lemmas about message objects: ownership stays disjoint, the receiver ends up with the payload the sender wrote
before SendMsg, and a message passing leaves the rest of the state (`ctl`) alone.
-/
namespace ScVerif.C13
namespace Wrap

/-- Every object a side holds exists, the two sides hold no object in common, and a side's reused
object is one of its own. -/
structure HeapInv (w : State) : Prop where
  cLt : ∀ r ∈ w.cOwn, r < w.heap.next
  sLt : ∀ r ∈ w.sOwn, r < w.heap.next
  disj : ∀ r ∈ w.cOwn, r ∉ w.sOwn
  cObj : ∀ r, w.cObj = some r → r ∈ w.cOwn
  sObj : ∀ r, w.sObj = some r → r ∈ w.sOwn

theorem heapInv_init : HeapInv {} := by
  constructor <;> simp

theorem heapInv_congr {w w' : State} (h : HeapInv w) (h1 : w'.heap = w.heap) (h2 : w'.cOwn = w.cOwn)
    (h3 : w'.sOwn = w.sOwn) (h4 : w'.cObj = w.cObj) (h5 : w'.sObj = w.sObj) : HeapInv w' := by
  constructor
  · rw [h1, h2]; exact h.cLt
  · rw [h1, h3]; exact h.sLt
  · rw [h2, h3]; exact h.disj
  · rw [h2, h4]; exact h.cObj
  · rw [h3, h5]; exact h.sObj

theorem get_set_same (h : Heap) (r v : Nat) : (h.set r v).get r = v := by
  simp [Heap.get, Heap.set]

theorem get_set_other (h : Heap) (r s v : Nat) (hne : s ≠ r) : (h.set r v).get s = h.get s := by
  have : (s == r) = false := by simpa using hne
  simp [Heap.get, Heap.set, List.lookup, this]

theorem get_alloc_new (h : Heap) (v : Nat) : (h.alloc v).1.get h.next = v := by
  simp [Heap.get, Heap.alloc]

theorem get_alloc_old (h : Heap) (s v : Nat) (hlt : s < h.next) : (h.alloc v).1.get s = h.get s := by
  have : (s == h.next) = false := by simpa using Nat.ne_of_lt hlt
  simp [Heap.get, Heap.alloc, List.lookup, this]

theorem heapInv_poke {w : State} (h : HeapInv w) (r v : Nat) : HeapInv (poke w r v) :=
  ⟨h.cLt, h.sLt, h.disj, h.cObj, h.sObj⟩

theorem heapInv_setHeader {w : State} (h : HeapInv w) (c : Cfg) (md : MD) : HeapInv (setHeader c w md).1 := by
  rcases setHeader_cases c w md with e | ⟨_, e⟩
  · rw [e]
    exact h
  · rw [e]
    exact heapInv_congr h rfl rfl rfl rfl rfl

theorem heapInv_sendHeader {w : State} (h : HeapInv w) (md : MD) : HeapInv (sendHeader w md).1 := by
  rw [← sendHeaderC_current]
  rcases sendHeaderC_cases Cfg.current w md with ⟨_, e⟩ | ⟨_, e⟩
  · rw [e]
    exact h
  · rw [e]
    exact heapInv_congr h rfl rfl rfl rfl rfl

theorem heapInv_setTrailer {w : State} (h : HeapInv w) (md : MD) : HeapInv (setTrailer w md) :=
  heapInv_congr h rfl rfl rfl rfl rfl

theorem heapInv_allocFree {w : State} (h : HeapInv w) (v : Nat) : HeapInv (allocFree w v).1 := by
  constructor
  · exact fun r hr => Nat.lt_succ_of_lt (h.cLt r hr)
  · exact fun r hr => Nat.lt_succ_of_lt (h.sLt r hr)
  · exact h.disj
  · exact h.cObj
  · exact h.sObj

/-- The new object is fresh: below the new `next`, and held by nobody before. -/
theorem heapInv_newObj {w : State} (h : HeapInv w) (d : Dir) (v : Nat) : HeapInv (newObj w d v).1 := by
  have hc : ∀ r ∈ w.heap.next :: w.cOwn, r < w.heap.next + 1 := fun r hr =>
    (List.mem_cons.mp hr).elim (· ▸ Nat.lt_succ_self _) (fun hr => Nat.lt_succ_of_lt (h.cLt r hr))
  have hs : ∀ r ∈ w.heap.next :: w.sOwn, r < w.heap.next + 1 := fun r hr =>
    (List.mem_cons.mp hr).elim (· ▸ Nat.lt_succ_self _) (fun hr => Nat.lt_succ_of_lt (h.sLt r hr))
  cases d
  · refine ⟨hc, fun r hr => hs r (List.mem_cons_of_mem _ hr), fun r hr => ?_,
      fun r hr => List.mem_cons_of_mem _ (h.cObj r hr), h.sObj⟩
    rcases List.mem_cons.mp hr with rfl | hr
    · exact fun hs' => Nat.lt_irrefl _ (h.sLt _ hs')
    · exact h.disj r hr
  · refine ⟨fun r hr => hc r (List.mem_cons_of_mem _ hr), hs, fun r hr hs' => ?_, h.cObj,
      fun r hr => List.mem_cons_of_mem _ (h.sObj r hr)⟩
    rcases List.mem_cons.mp hs' with rfl | hs'
    · exact Nat.lt_irrefl _ (h.cLt _ hr)
    · exact h.disj r hr hs'

theorem newObj_mem (w : State) (d : Dir) (v : Nat) : (newObj w d v).2 ∈ own (newObj w d v).1 d := by
  cases d <;> simp [newObj, addOwn, own]

theorem heapInv_setObj {w : State} (h : HeapInv w) (d : Dir) (r : Nat) (hr : r ∈ own w d) :
    HeapInv (setObj w d r) := by
  cases d
  · exact ⟨h.cLt, h.sLt, h.disj, fun r' h' => by simp [setObj] at h'; subst h'; exact hr, h.sObj⟩
  · exact ⟨h.cLt, h.sLt, h.disj, h.cObj, fun r' h' => by simp [setObj] at h'; subst h'; exact hr⟩

theorem obj_mem {w : State} (h : HeapInv w) (d : Dir) (r : Nat) (hr : obj w d = some r) : r ∈ own w d := by
  cases d
  · exact h.cObj r hr
  · exact h.sObj r hr

theorem own_lt {w : State} (h : HeapInv w) (d : Dir) (r : Nat) (hr : r ∈ own w d) : r < w.heap.next := by
  cases d
  · exact h.cLt r hr
  · exact h.sLt r hr

theorem senderObj_spec {w : State} (h : HeapInv w) (d : Dir) (reuse : Bool) (m : Nat) :
    HeapInv (senderObj w d reuse m).1 ∧
    (senderObj w d reuse m).2 ∈ own (senderObj w d reuse m).1 d ∧
    (senderObj w d reuse m).1.heap.get (senderObj w d reuse m).2 = m := by
  unfold senderObj
  cases reuse
  · simp only [Bool.false_eq_true, if_false]
    refine ⟨heapInv_newObj h d m, newObj_mem w d m, ?_⟩
    cases d <;> simp [newObj, addOwn, get_alloc_new]
  · simp only [if_true]
    cases ho : obj w d with
    | some r =>
      refine ⟨heapInv_poke h r m, ?_, get_set_same _ _ _⟩
      have := obj_mem h d r ho
      cases d <;> simpa [poke, own] using this
    | none =>
      refine ⟨heapInv_setObj (heapInv_newObj h d m) d _ (newObj_mem w d m), ?_, ?_⟩
      · have := newObj_mem w d m
        cases d <;> simpa [setObj, own] using this
      · cases d <;> simp [setObj, newObj, addOwn, get_alloc_new]

/-- **What travels is a fresh clone** (current code): not the sender's object, holding the sender's payload. -/
theorem sendMsg_snapshot {w : State} (h : HeapInv w) (c : Cfg) (hc : c.snapshotOnSend = true) (r : Nat)
    (hr : r < w.heap.next) :
    HeapInv (sendMsg c w r).1 ∧ (sendMsg c w r).2 ≠ r ∧
    (sendMsg c w r).1.heap.get (sendMsg c w r).2 = w.heap.get r := by
  simp only [sendMsg, hc, if_true]
  exact ⟨heapInv_allocFree h _, Nat.ne_of_gt hr, by simp [allocFree, get_alloc_new]⟩

/-- **The receiver gets what the sender wrote before SendMsg**, whatever the sender does to its object afterwards
(current code). -/
theorem xfer_spec {w : State} (h : HeapInv w) (c : Cfg) (hc : c.snapshotOnSend = true) (d : Dir) (m : Nat)
    (reuse : Bool) : HeapInv (xfer c w d m reuse).1 ∧ (xfer c w d m reuse).2 = m := by
  obtain ⟨hi, hown, hget⟩ := senderObj_spec h d reuse m
  obtain ⟨hi', hne, hget'⟩ := sendMsg_snapshot hi c hc _ (own_lt hi d _ hown)
  simp only [xfer, recvMsg]
  cases reuse
  · simp only [Bool.false_eq_true, if_false]
    exact ⟨heapInv_newObj hi' _ _, hget'.trans hget⟩
  · simp only [if_true, poke]
    -- the sender's write after SendMsg goes to its own object, not to the clone
    exact ⟨heapInv_newObj (heapInv_poke hi' _ _) _ _, (get_set_other _ _ _ _ hne).trans (hget'.trans hget)⟩

/-- The part of the state the header / trailer / close / abort calls work on; the message objects are the rest. -/
def ctl (w : State) : MD × Bool × MD × Option Fin × Option Abort :=
  (w.header, w.headerC, w.trailer, w.closed, w.ctxErr)

theorem ctl_newObj (w : State) (d : Dir) (v : Nat) : ctl (newObj w d v).1 = ctl w := by cases d <;> rfl

theorem ctl_setObj (w : State) (d : Dir) (r : Nat) : ctl (setObj w d r) = ctl w := by cases d <;> rfl

theorem ctl_senderObj (w : State) (d : Dir) (reuse : Bool) (m : Nat) : ctl (senderObj w d reuse m).1 = ctl w := by
  unfold senderObj
  cases reuse
  · exact ctl_newObj w d m
  · cases obj w d with
    | some r => rfl
    | none => exact (ctl_setObj _ d _).trans (ctl_newObj w d m)

theorem ctl_sendMsg (c : Cfg) (w : State) (r : Nat) : ctl (sendMsg c w r).1 = ctl w := by
  unfold sendMsg
  split <;> rfl

theorem ctl_xfer (c : Cfg) (w : State) (d : Dir) (m : Nat) (reuse : Bool) : ctl (xfer c w d m reuse).1 = ctl w := by
  unfold xfer recvMsg
  refine (ctl_newObj _ _ _).trans ?_
  cases reuse <;> exact (ctl_sendMsg c _ _).trans (ctl_senderObj w d _ m)

theorem xfer_fields (c : Cfg) (w : State) (d : Dir) (m : Nat) (reuse : Bool) :
    (xfer c w d m reuse).1.header = w.header ∧ (xfer c w d m reuse).1.headerC = w.headerC ∧
    (xfer c w d m reuse).1.trailer = w.trailer ∧ (xfer c w d m reuse).1.closed = w.closed ∧
    (xfer c w d m reuse).1.ctxErr = w.ctxErr := by
  simpa only [ctl, Prod.mk.injEq] using ctl_xfer c w d m reuse

theorem avail_xfer (c : Cfg) (w : State) (d : Dir) (m : Nat) (reuse : Bool) :
    avail (xfer c w d m reuse).1 = avail w := by
  obtain ⟨_, f2, _, f4, f5⟩ := xfer_fields c w d m reuse
  simp [avail, f2, f4, f5]

/-- **Frame**: writing into an object of one side leaves every object of the other side as it was. -/
theorem poke_frame {w : State} (h : HeapInv w) (r v s : Nat)
    (hrs : (r ∈ w.cOwn ∧ s ∈ w.sOwn) ∨ (r ∈ w.sOwn ∧ s ∈ w.cOwn)) :
    (poke w r v).heap.get s = w.heap.get s := by
  apply get_set_other
  rcases hrs with ⟨hr, hs⟩ | ⟨hr, hs⟩
  · intro e; subst e; exact h.disj _ hr hs
  · intro e; subst e; exact h.disj _ hs hr

end Wrap

end ScVerif.C13
