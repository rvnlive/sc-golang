import ScVerif.C13.RunLemmas
import ScVerif.C13.AsyncLemmas
/-!
# C13 — the in-process wrapper is indistinguishable from a real gRPC connection

`Wrap.run` is the model of `wrap.ServerToClient` (pkg/wrap/{wrap,stream}.go), `GrpcRef.run` the reference semantics
of a real gRPC connection; both take the call shape, the client's outgoing metadata, the handler script with its
return value and the client script, and give the client transcript plus the handler's view.  The run theorems here
are the constant-handler case of those of PropsCtx.lean (`Wrap.runCtx_const`).
-/
namespace ScVerif.C13

/-- **Transcript equality**: send results, messages, terminal code and message, header and trailer metadata, and the
handler's own view.

The hypothesis of the property ("every send meets a ready receiver") is built into both runs: they are joint runs
under the rendezvous discipline (`go`), which stop with `stuck` where a script leaves it; the equality needs no side
condition and covers the partial transcript up to such a point. `reuse` = both sides reuse one message object for all
their sends and overwrite it as soon as SendMsg has returned: unobservable, as over gRPC, which has serialised the
message by then. -/
theorem C13_transcript_eq (shape : Shape) (out : MD) (ss : List SOp) (fin : Fin) (cs : List COp)
    (reuse : Bool) :
    Wrap.run shape out ss fin cs reuse = GrpcRef.run shape out ss fin cs reuse :=
  (Wrap.runCtx_const shape out ss fin cs reuse).symm.trans
    ((Wrap.runCtx_transcript_eq shape _ _ cs reuse).trans (GrpcRef.runCtx_const shape out ss fin cs reuse))

/-- The statement of the design document; the hypothesis is not needed (`C13_transcript_eq`). -/
theorem C13_transcript_eq_wf (shape : Shape) (out : MD) (ss : List SOp) (fin : Fin) (cs : List COp)
    (reuse : Bool) (_h : WFScripts shape ss fin cs = true) :
    Wrap.run shape out ss fin cs reuse = GrpcRef.run shape out ss fin cs reuse :=
  C13_transcript_eq shape out ss fin cs reuse

/-- The hypothesis is inhabited: a bidirectional call with headers, a trailer and an error status. -/
example : WFScripts .bidi [.setHeader [("a", "1")], .recv, .send 1, .setTrailer [("b", "2")]] (.status 5 "e0")
    [.send 1, .header, .recv, .recv, .header, .trailer] = true := by
  decide +kernel

/-- **Every call that satisfies the hypothesis completes, and no goroutine is left**: `stuck` does not occur (no client
op blocks forever, `Header()` included), nor `left` (the handler goroutine, the only one the wrapper spawns, has
returned or was released by the cancellation when the client script ends). By `C13_transcript_eq` the same holds for
the reference. -/
theorem C13_no_goroutine_left (shape : Shape) (out : MD) (ss : List SOp) (fin : Fin) (cs : List COp)
    (reuse : Bool) (h : WFScripts shape ss fin cs = true) :
    Ev.stuck ∉ (Wrap.run shape out ss fin cs reuse).client ∧
    SEv.left ∉ (Wrap.run shape out ss fin cs reuse).server := by
  rw [← Wrap.runCtx_const]
  exact (complete_iff _).mp (Wrap.runCtx_complete shape _ (fun _ => (ss, fin)) cs reuse (Bool.and_eq_true_iff.mp h).2)

/-- Outside the hypothesis a goroutine really can be left: a handler whose message is never received
stays blocked in SendMsg (the model says so; gRPC would buffer the message). -/
example : SEv.left ∈ (Wrap.run .sstream [] [.recv, .send 1] .ok [.send 0, .closeSend]).server := by
  decide +kernel

/-- **Messages in order**, in every run, complete or not: nothing is lost in the middle, duplicated or reordered. -/
theorem C13_messages_in_order (shape : Shape) (out : MD) (ss : List SOp) (fin : Fin) (cs : List COp)
    (reuse : Bool) :
    (Wrap.run shape out ss fin cs reuse).clientMsgs <+: ss.filterMap SOp.send? ∧
    (Wrap.run shape out ss fin cs reuse).serverMsgs <+: (clientOps shape cs).filterMap COp.send? := by
  rw [← Wrap.runCtx_const]
  exact Wrap.runCtx_inOrder shape _ (fun _ => (ss, fin)) cs reuse

theorem Wrap.reach_inv {w : Wrap.State} (h : Wrap.Reach w) : Wrap.HeapInv w := by
  induction h with
  | init => exact Wrap.heapInv_init
  | xfer d m reuse _ ih => exact (Wrap.xfer_spec ih Cfg.current rfl d m reuse).1
  | pokeClient r v _ _ ih => exact Wrap.heapInv_poke ih r v
  | pokeServer r v _ _ ih => exact Wrap.heapInv_poke ih r v
  | setHeader md _ ih => exact Wrap.heapInv_setHeader ih _ md
  | sendHeader md _ ih => exact Wrap.heapInv_sendHeader ih md
  | setTrailer md _ ih => exact Wrap.heapInv_setTrailer ih md

/-- **Copy across the boundary**: neither side can alter the other's copy, whenever it writes. -/
theorem C13_copy (w : Wrap.State) (h : Wrap.Reach w) :
    (∀ r, r ∈ w.cOwn → r ∉ w.sOwn) ∧
    (∀ r v s, r ∈ w.cOwn → s ∈ w.sOwn → (Wrap.poke w r v).heap.get s = w.heap.get s) ∧
    (∀ r v s, r ∈ w.sOwn → s ∈ w.cOwn → (Wrap.poke w r v).heap.get s = w.heap.get s) := by
  have hi := Wrap.reach_inv h
  exact ⟨hi.disj, fun r v s hr hs => Wrap.poke_frame hi r v s (Or.inl ⟨hr, hs⟩),
    fun r v s hr hs => Wrap.poke_frame hi r v s (Or.inr ⟨hr, hs⟩)⟩

/-- **What travels is a snapshot**: the receiver reads the payload the sender wrote before `SendMsg`, whatever the sender
writes into its object once `SendMsg` has returned (`reuse`). -/
theorem C13_copy_payload (w : Wrap.State) (h : Wrap.Reach w) (d : Dir) (m : Nat) (reuse : Bool) :
    (Wrap.xfer Cfg.current w d m reuse).2 = m :=
  (Wrap.xfer_spec (Wrap.reach_inv h) Cfg.current rfl d m reuse).2

/-- The defect repaired by be22473, on the legacy model: the sender's own object travelled, and a sender
overwriting it right after `SendMsg` changed what the receiver read (99 instead of 4). -/
theorem C13_legacy_sender_alters_received :
    (Wrap.xfer Cfg.legacy {} .s2c 4 true).2 = Wrap.poison ∧ (Wrap.xfer Cfg.legacy {} .s2c 4 true).2 ≠ 4 := by
  decide +kernel

/-- **Outcomes after the client's own abort, at any position** (before, between or after any of its ops, with a message
pending, with the handler between a send and its return, or already returned). `Wrap.asyncRuns` lists every client
transcript the wrapper can then produce: how far the handler had got on its own when the abort struck (`advance`) and
how far it has unwound when the client looks (`unwind`) are not determined.  Where the scripts leave the discipline
before the abort, `asyncRuns` gives the rendezvous run up to that point and nothing after it (the first disjunct); it
does not apply `hold` (single-response shapes are outside these outcome sets), and a `Header()` that would block is
listed as `hdr []`. -/
theorem C13_async_outcomes (shape : Shape) (ss : List SOp) (fin : Fin) (cs : List COp) (reuse : Bool)
    (pre post : List COp) (a : Abort) (h : splitAbort (clientOps shape cs) = (pre, some (a, post))) :
    ∀ t ∈ Wrap.asyncRuns Cfg.current shape ss fin cs reuse,
      t = (go (Wrap.impl Cfg.current) fin reuse {} false (.running ss) pre).client ∨
      ∃ evs, t = (go (Wrap.impl Cfg.current) fin reuse {} false (.running ss) pre).client ++ .did a :: evs ∧
        ∀ e ∈ evs, AllowedEv fin (cancelFin a) a e :=
  asyncRuns_allowed Cfg.current fin (Wrap.opErr Cfg.current) reuse {} ss _ pre post a h

/-- **Never a clean end after one's own cancel**, unless the handler itself returned OK. -/
theorem C13_async_no_clean_end (shape : Shape) (ss : List SOp) (fin : Fin) (cs : List COp) (reuse : Bool)
    (pre post : List COp) (a : Abort) (h : splitAbort (clientOps shape cs) = (pre, some (a, post)))
    (hfin : Wrap.canon fin ≠ .fin 0 "") :
    ∀ t ∈ Wrap.asyncRuns Cfg.current shape ss fin cs reuse, ∀ evs,
      t = (go (Wrap.impl Cfg.current) fin reuse {} false (.running ss) pre).client ++ .did a :: evs →
      Ev.fin 0 "" ∉ evs := by
  intro t ht evs hte hmem
  rcases C13_async_outcomes shape ss fin cs reuse pre post a h t ht with h1 | ⟨evs', h2, hall⟩
  · have := congrArg List.length (h1 ▸ hte)
    simp at this
  · cases List.append_cancel_left (hte ▸ h2)
    exact (hall _ hmem).ne_clean hfin (by cases a <;> decide) rfl

/-- **After the abort the handler always returns** (no goroutine left at any abort position). -/
theorem C13_async_handler_returns (c : Cfg) (fin opErr : Fin) (cc : Bool) (ops : List SOp) (w : Wrap.State) :
    ((unwind (Wrap.impl c) fin opErr cc w ops).getLast?).map (·.2) = some .done :=
  unwind_last_done (Wrap.impl c) fin opErr cc ops w

/-- The defect repaired by 3d4f9fa, on the legacy model: the handler's RecvMsg returned io.EOF after the
client's cancel, a handler returning that error closed the stream with it, and the client's RecvMsg
after its own cancel could report a clean end although the handler script returns FailedPrecondition. -/
theorem C13_legacy_cancel_reads_clean_end :
    [Ev.sent, .did .cancel, .fin 0 ""] ∈
      Wrap.asyncRuns Cfg.legacy .bidi [.recv, .recv] (.status 9 "e0") [.send 1, .abort .cancel, .recv] false := by
  decide +kernel

/-- **What `Header()` reads after the client's own abort is fixed at the abort**: the header that had been SENT by then,
or nothing, in ANY state `w` of the stream and however the handler unwinds (further SetHeader / SendHeader calls, a
SendMsg that flushes the latch, its return and the flush in `Close`). Metadata only staged at the abort is never shown,
as over gRPC, where the client has reset the stream (1e9d1bd). -/
theorem C13_header_after_abort_frozen (fin opErr : Fin) (cc : Bool) (ops : List SOp) (w : Wrap.State)
    (a : Abort) :
    ∀ f ∈ unwind (Wrap.impl Cfg.current) fin opErr cc (Wrap.abort w a) ops,
      Wrap.header f.1 = Wrap.header (Wrap.abort w a) ∧
      Wrap.header (Wrap.abort w a) = some (if w.headerC then w.header else []) := by
  intro f hf
  have he : (Wrap.abort w a).ctxErr.isSome = true := rfl
  exact ⟨(unwind_frozen fin opErr cc ops _ he f hf).header he, by rw [Wrap.header_eq, Wrap.avail_of_ctxErr he]; rfl⟩

/-- Not vacuous, and the scripts of the hypothesis include the read: the client cancels and asks for the header before
and after its terminal RecvMsg. -/
example : WFScripts .bidi [.setHeader [("a", "1")], .recv] .ok [.abort .cancel, .header, .recv, .header] = true ∧
    (Wrap.run .bidi [] [.setHeader [("a", "1")], .recv] .ok [.abort .cancel, .header, .recv, .header]).client =
      [.did .cancel, .hdr [], .aborted .cancel, .hdr []] := by
  decide +kernel

/-- The defect repaired by 1e9d1bd, on the model of the code before it: the handler returns from the
client's cancel, `Close` flushes the header latch, and the client's `Header()` after its own cancel shows
metadata that was only staged when it cancelled (gRPC: none). -/
theorem C13_legacy_staged_header_visible_after_abort :
    ∃ f ∈ unwind (Wrap.impl { Cfg.current with sendFailsAfterEnd := false }) .ok (cancelFin .cancel) false
        (Wrap.abort { header := [("a", "1")] } .cancel) [.recv],
      Wrap.header f.1 = some [("a", "1")] ∧
      Wrap.header (Wrap.abort { header := [("a", "1")] } .cancel) = some [] := by
  refine ⟨(Wrap.close { Cfg.current with sendFailsAfterEnd := false } (Wrap.abort { header := [("a", "1")] } .cancel)
    (cancelFin .cancel), .done), ?_, ?_⟩
  · simp [unwind, Wrap.impl]
  · decide +kernel

/-- **Unknown method**: Unimplemented, from `NewStream` and from `Invoke`, for any service description. -/
theorem C13_unknown_method (d : ServiceDesc) (method : String) (cs ss : Bool)
    (hm : Conn.findMethod d method = none) (hs : Conn.findStream d method = none) :
    Conn.newStream d none method cs ss = .unimplemented ∧ Conn.invoke d none method = .unimplemented := by
  simp [Conn.newStream, Conn.invoke, hm, hs]

/-- **Shape mismatch**: Internal, also for a unary method opened through `NewStream` with a streaming flag set. -/
theorem C13_shape_mismatch (d : ServiceDesc) (method : String) (cs ss : Bool) :
    (∀ s, Conn.findStream d method = some s → (s.serverStreams ≠ ss ∨ s.clientStreams ≠ cs) →
      Conn.newStream d none method cs ss = .internal) ∧
    (∀ m, Conn.findStream d method = none → Conn.findMethod d method = some m → (ss = true ∨ cs = true) →
      Conn.newStream d none method cs ss = .internal) := by
  constructor
  · intro s hs hne
    have : (s.serverStreams != ss || s.clientStreams != cs) = true := by simpa using hne
    simp only [Conn.newStream, hs, this, if_true]
  · intro m hs hm hne
    have : (false != ss || false != cs) = true := by simpa using hne
    simp only [Conn.newStream, hs, hm, Option.map, Conn.adaptUnaryToStream, this, if_true]

/-- **Matching shape opens** (the converse: no false Internal). -/
theorem C13_matching_opens (d : ServiceDesc) (method : String) (s : StreamDesc)
    (hs : Conn.findStream d method = some s) :
    Conn.newStream d none method s.clientStreams s.serverStreams = .ok := by
  simp [Conn.newStream, hs]

/-- **Ended context**: the call fails as such (Canceled / DeadlineExceeded, as over gRPC) and no handler runs. -/
theorem C13_ended_context (d : ServiceDesc) (a : Abort) (method : String) (cs ss : Bool) :
    Conn.newStream d (some a) method cs ss = .ctxEnded a ∧ Conn.invoke d (some a) method = .ctxEnded a := by
  simp [Conn.newStream, Conn.invoke]

/-- The four methods of TestApi (and the unary method through NewStream) open under their own shape. -/
theorem C13_testapi_opens (shape : Shape) : Wrap.open shape = .ok :=
  Wrap.open_ok shape

/-- **The two repaired defects, stated on the legacy model** (the code before fix fa93faa / f637124).  Both
statements say only that SOME scripts of the hypothesis tell the legacy wrapper from gRPC; which defect is meant is in
the witness: header metadata staged with SetHeader is lost when the handler returns before any message … -/
theorem C13_legacy_staged_header_lost :
    ∃ shape out ss fin cs, WFScripts shape ss fin cs = true ∧
      Wrap.runCfg Cfg.legacy shape out ss fin cs ≠ GrpcRef.run shape out ss fin cs :=
  ⟨.unary, [], [.recv, .setHeader [("a", "1")]], .status 5 "e0", invokeScript 1, by decide +kernel⟩

/-- The second of the two repaired defects on the legacy model (same statement as `C13_legacy_staged_header_lost`,
other witness): SetHeader after the headers were sent is accepted and changes what the client reads. -/
theorem C13_legacy_late_setheader_visible :
    ∃ shape out ss fin cs, WFScripts shape ss fin cs = true ∧
      Wrap.runCfg Cfg.legacy shape out ss fin cs ≠ GrpcRef.run shape out ss fin cs :=
  ⟨.bidi, [], [.sendHeader [("a", "1")], .setHeader [("b", "1")]], .ok, [.header, .recv, .trailer], by decide +kernel⟩

end ScVerif.C13
