import ScVerif.C13.Ctx
import ScVerif.C13.WrapSim
import ScVerif.C13.Complete
import ScVerif.C13.Order
/-
C13 — lemmas: `Wrap.runCtx` with every repair (`Cfg.current`) is the joint run `go` dressed exactly like
`GrpcRef.runCtx`, so what `go_eq_init`, `go_complete` and `go_msgs` say about `go` carries over to the whole call.
-/
namespace ScVerif.C13

theorem Wrap.startStream_current (ctx : CallerCtx) :
    Wrap.startStream Cfg.current ctx = GrpcRef.serverCtx ctx := by
  simp only [Wrap.startStream, cloneMD_eq, Cfg.current, if_true, GrpcRef.serverCtx]

theorem Wrap.runCtx_eq (shape : Shape) (ctx : CallerCtx) (h : Handler) (cs : List COp) (reuse : Bool) :
    Wrap.runCtx shape ctx h cs reuse =
      ctxView (GrpcRef.serverCtx ctx)
        (hold (GrpcRef.holds shape) (h (GrpcRef.serverCtx ctx)).2 (GrpcRef.statusEv (h (GrpcRef.serverCtx ctx)).2)
          (go (Wrap.impl Cfg.current) (h (GrpcRef.serverCtx ctx)).2 reuse {} false
            (.running (h (GrpcRef.serverCtx ctx)).1) (clientOps shape cs))) := by
  simp only [Wrap.runCtx, Wrap.runCtxCfg, Wrap.open_ok, Wrap.startStream_current, holds_current, canon_eq_statusEv]

theorem Wrap.runCtx_const (shape : Shape) (out : MD) (ss : List SOp) (fin : Fin) (cs : List COp) (reuse : Bool) :
    Wrap.runCtx shape { outgoing := some out } (fun _ => (ss, fin)) cs reuse = Wrap.run shape out ss fin cs reuse := by
  unfold Wrap.runCtx Wrap.runCtxCfg Wrap.run Wrap.runCfg
  cases Wrap.open shape <;> rfl

theorem GrpcRef.runCtx_const (shape : Shape) (out : MD) (ss : List SOp) (fin : Fin) (cs : List COp) (reuse : Bool) :
    GrpcRef.runCtx shape { outgoing := some out } (fun _ => (ss, fin)) cs reuse = GrpcRef.run shape out ss fin cs reuse :=
  rfl

theorem complete_ctxView (sc : SrvCtx) (t : Transcript) : (ctxView sc t).complete = t.complete := by
  rw [ctxView, complete_sev _ _ SEv.noConfusion, complete_sevIf _ _ _ SEv.noConfusion,
    complete_sevIf _ _ _ SEv.noConfusion]

theorem clientMsgs_ctxView (sc : SrvCtx) (t : Transcript) : (ctxView sc t).clientMsgs = t.clientMsgs := by
  rw [ctxView, clientMsgs_sev, clientMsgs_sevIf, clientMsgs_sevIf]

theorem InOrder.ctxView {t : Transcript} {l r : List Nat} (sc : SrvCtx) (h : InOrder t l r) :
    InOrder (ScVerif.C13.ctxView sc t) l r :=
  ((h.sevIf _ rfl).sevIf _ rfl).sev rfl

theorem Wrap.runCtx_transcript_eq (shape : Shape) (ctx : CallerCtx) (h : Handler) (cs : List COp) (reuse : Bool) :
    Wrap.runCtx shape ctx h cs reuse = GrpcRef.runCtx shape ctx h cs reuse := by
  rw [Wrap.runCtx_eq, go_eq_init]
  rfl

theorem Wrap.runCtx_complete (shape : Shape) (ctx : CallerCtx) (h : Handler) (cs : List COp) (reuse : Bool)
    (hs : sync shape.statusRead false false (.running (h (GrpcRef.serverCtx ctx)).1) (clientOps shape cs) = true) :
    (Wrap.runCtx shape ctx h cs reuse).complete = true := by
  rw [Wrap.runCtx_eq, complete_ctxView, complete_hold _ _ _ Ev.noConfusion]
  exact go_complete Cfg.current _ reuse _ false false _ _ {} hs (fun hh => nomatch hh)

theorem Wrap.runCtx_inOrder (shape : Shape) (ctx : CallerCtx) (h : Handler) (cs : List COp) (reuse : Bool) :
    InOrder (Wrap.runCtx shape ctx h cs reuse)
      ((h (GrpcRef.serverCtx ctx)).1.filterMap SOp.send?) ((clientOps shape cs).filterMap COp.send?) := by
  rw [Wrap.runCtx_eq, go_eq_init]
  exact ((go_msgs _ reuse {} false (.running _) _).hold _ _ rfl).ctxView _

end ScVerif.C13
