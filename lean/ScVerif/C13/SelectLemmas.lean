import ScVerif.C13.Select
import ScVerif.C13.StreamLemmas
/-
C13 — lemmas: when the stream's context is done, and what each blocking call's `select` can return in a stream whose
`closed` / `ctxErr` / channel state is known.
-/
namespace ScVerif.C13
namespace Wrap

theorem ctxDone_of_closed {w : State} {err : Fin} (h : w.closed = some err) : ctxDone w = true := by
  simp [ctxDone, h]

theorem ctxDone_of_ctxErr {w : State} {a : Abort} (h : w.ctxErr = some a) : ctxDone w = true := by
  simp [ctxDone, h]

theorem ctxDone_live {w : State} (hc : w.closed = none) (ha : w.ctxErr = none) : ctxDone w = false := by
  simp [ctxDone, hc, ha]

theorem avail_iff {w : State} : avail w = true ↔ w.headerC = true ∨ ctxDone w = true := by
  simp [avail, ctxDone, Bool.or_assoc]

/-! Once the stream's context is done every `select` has its context case. -/

theorem recvResults_ne_nil {c : Chans} (h : ctxDone c.w = true) : recvResults c ≠ [] := by simp [recvResults, h]
theorem awaitResults_ne_nil {c : Chans} (h : ctxDone c.w = true) : awaitResults c ≠ [] := by simp [awaitResults, h]
theorem sendResults_ne_nil {c : Chans} (h : ctxDone c.w = true) : sendResults c ≠ [] := by simp [sendResults, h]
theorem ssendResults_ne_nil {c : SChans} (h : ctxDone c.w = true) : ssendResults c ≠ [] := by simp [ssendResults, h]
theorem srecvResults_ne_nil {c : SChans} (h : ctxDone c.w = true) : srecvResults c ≠ [] := by simp [srecvResults, h]

/-! `clientStream.RecvMsg`, by what ended the call. -/

theorem recvResults_closed {c : Chans} {err : Fin} (h : c.w.closed = some err) :
    recvResults c = [.ev (closeErrEv err), .ev (closeErrEv err)] := by
  simp [recvResults, ctxDone_of_closed h, h]

theorem recvResults_aborted {c : Chans} {a : Abort} (hc : c.w.closed = none) (ha : c.w.ctxErr = some a) :
    recvResults c = .ev (.aborted a) :: (c.offer.map Res.msg).toList := by
  cases ho : c.offer <;> simp [recvResults, ctxDone_of_ctxErr ha, hc, ha, ho, ctxErrEv]

theorem recvResults_live {c : Chans} (hc : c.w.closed = none) (ha : c.w.ctxErr = none) :
    recvResults c = (c.offer.map Res.msg).toList := by
  cases ho : c.offer <;> simp [recvResults, ctxDone_live hc ha, hc, ho]

/-- `Header()` gives the sent header, or nothing if it was only staged, whichever case is ready. -/
theorem headerResults_eq {w : State} {md : MD} (h : md ∈ headerResults w) :
    md = if w.headerC then w.header else [] := by
  cases hh : w.headerC <;> cases hd : ctxDone w <;> simp_all [headerResults]

theorem headerResults_nil {w : State} : headerResults w = [] ↔ avail w = false := by
  rw [← Bool.not_eq_true, avail_iff]
  unfold headerResults
  cases w.headerC <;> cases ctxDone w <;> simp

theorem headerResults_ne_nil {w : State} (h : avail w = true) : headerResults w ≠ [] :=
  fun hn => by simp [headerResults_nil.mp hn] at h

/-! `serverStream.SendMsg`. -/

theorem ssendResults_done {c : SChans} (h : ctxDone c.w = true) :
    ssendResults c = .ctxErr (srvCtxErr c.w) :: (if c.cTaker then [.sent] else []) := by
  simp [ssendResults, h]

theorem ssendResults_live {c : SChans} (hc : c.w.closed = none) (ha : c.w.ctxErr = none) :
    ssendResults c = if c.cTaker then [.sent] else [] := by
  simp [ssendResults, ctxDone_live hc ha]

end Wrap
end ScVerif.C13
