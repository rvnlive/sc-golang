import ScVerif.C13.Errs
/-
C13 — lemmas: both transports make of a handler's error value `e` the status `.status e.code e.desc`.
-/
namespace ScVerif.C13

theorem GoErr.findStatus_isCtx (e : GoErr) : e.findStatus.isSome → e.isCtx = none := by
  induction e with
  | status c m => intro _; rfl
  | ctx a => intro h; simp [GoErr.findStatus] at h
  | eof => intro h; simp [GoErr.findStatus] at h
  | plain m => intro h; simp [GoErr.findStatus] at h
  | wrap t e ih => intro h; simpa [GoErr.isCtx] using ih (by simpa [GoErr.findStatus] using h)

theorem statusFromError_ok (e : GoErr) : (statusFromError e).2 = e.findStatus.isSome := by
  cases e with
  | status c m => rfl
  | wrap t e =>
    simp only [statusFromError, GoErr.findStatus]
    cases h : e.findStatus with
    | none => simp
    | some p => simp
  | _ => rfl

theorem statusFromError_code (e : GoErr) (c : Nat) (m : String) (h : e.findStatus = some (c, m)) :
    (statusFromError e).1.1 = c := by
  cases e with
  | status c' m' => simp [GoErr.findStatus] at h; simp [statusFromError, h.1]
  | wrap t e => simp only [GoErr.findStatus] at h; simp [statusFromError, GoErr.findStatus, h]
  | _ => simp [GoErr.findStatus] at h

namespace GoErr

/-- The status code an error value stands for: that of the status error reachable through its chain, else the
context error's, else Unknown. -/
def code (e : GoErr) : Nat :=
  match e.findStatus, e.isCtx with
  | some (c, _), _ => c
  | none, some a => abortCode a
  | none, none => 2

/-- The message an error value stands for: a status leaf's own, otherwise the error's text. -/
def desc : GoErr → String
  | .status _ m => m
  | e => e.text

end GoErr

namespace GrpcRef

/-- A leaf computes; for a wrapper the four cases of what its cause holds (a status or not, a context error or not) do. -/
theorem handlerFin_some (e : GoErr) : handlerFin (some e) = .status e.code e.desc := by
  cases e with
  | wrap t e' =>
    cases hs : e'.findStatus <;> cases hc : e'.isCtx <;>
      simp [handlerFin, statusFromError, statusFromContextError, GoErr.code, GoErr.findStatus, GoErr.isCtx,
        GoErr.desc, hs, hc]
  | _ => rfl

end GrpcRef

namespace Wrap

/-- The caller asks `errors.Is` first, but a chain holds a status or a context error, not both. -/
theorem handlerFin_some (e : GoErr) : handlerFin (some e) = .status e.code e.desc := by
  cases e with
  | wrap t e' =>
    show callerReads (some (.wrap t e')) = _
    simp only [callerReads, statusFromError, GoErr.code, GoErr.findStatus, GoErr.isCtx]
    cases hs : e'.findStatus <;> cases hc : e'.isCtx
    · rfl
    · rfl
    · rfl
    · simpa [hs, hc] using GoErr.findStatus_isCtx e'
  | _ => rfl

end Wrap

/-- With `eofFails` the two transports end the call alike for EVERY error value. -/
theorem handlerFin_eq (e : Option GoErr) : Wrap.handlerFin e = GrpcRef.handlerFin e := by
  cases e with
  | none => rfl
  | some e => rw [Wrap.handlerFin_some, GrpcRef.handlerFin_some]

end ScVerif.C13
