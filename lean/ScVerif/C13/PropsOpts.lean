import ScVerif.C13.OptsLemmas
/-!
# C13 — the call options of a unary call (`collectMetadata`, pkg/wrap/wrap.go)

Every statement is for ALL option lists (any length, order, repetition, other options interleaved).
-/
namespace ScVerif.C13

/-- **Every `grpc.Header(&h)` option is served** (the address is not also used for a trailer). -/
theorem C13_call_options_header_served (hdr trl : MD) (opts : List CallOpt) (v : Vars) (a : Nat)
    (h : CallOpt.header a ∈ opts) (hno : ∀ b, CallOpt.trailer b ∈ opts → b ≠ a) :
    (collectMetadata hdr trl opts v).lookup a = some hdr := by
  refine collect_lookup hdr trl hdr a opts v (fun o ho y hw => ?_) (Or.inl ⟨_, h, rfl⟩)
  cases o with
  | header b => exact (Prod.mk.inj (Option.some.inj hw)).2.symm
  | trailer b => exact absurd (Prod.mk.inj (Option.some.inj hw)).1 (hno b ho)
  | other t => cases hw

/-- **Every `grpc.Trailer(&t)` option is served.** -/
theorem C13_call_options_trailer_served (hdr trl : MD) (opts : List CallOpt) (v : Vars) (a : Nat)
    (h : CallOpt.trailer a ∈ opts) (hno : ∀ b, CallOpt.header b ∈ opts → b ≠ a) :
    (collectMetadata hdr trl opts v).lookup a = some trl := by
  refine collect_lookup hdr trl trl a opts v (fun o ho y hw => ?_) (Or.inl ⟨_, h, rfl⟩)
  cases o with
  | header b => exact absurd (Prod.mk.inj (Option.some.inj hw)).1 (hno b ho)
  | trailer b => exact (Prod.mk.inj (Option.some.inj hw)).2.symm
  | other t => cases hw

/-- **All other call options are ignored** (the documented contract of `ServerToClient`). -/
theorem C13_call_options_others_ignored (hdr trl : MD) (opts : List CallOpt) (v : Vars) :
    collectMetadata hdr trl (opts.filter CallOpt.isMeta) v = collectMetadata hdr trl opts v := by
  rw [collect_eq, collect_eq, List.filterMap_filter]
  congr 3
  funext o
  cases o <;> rfl

/-- A variable of the caller that no option names is left as it was. -/
theorem C13_call_options_untouched (hdr trl : MD) (opts : List CallOpt) (v : Vars) (a : Nat)
    (hh : CallOpt.header a ∉ opts) (ht : CallOpt.trailer a ∉ opts) :
    (collectMetadata hdr trl opts v).lookup a = v.lookup a := by
  rw [collect_eq, List.lookup_append, List.lookup_eq_none_iff.mpr, Option.none_or]
  intro p hp
  obtain ⟨o, ho, hw⟩ := mem_writes.mp hp
  cases o <;> cases hw
  · exact bne_iff_ne.mpr fun e => hh (e ▸ ho)
  · exact bne_iff_ne.mpr fun e => ht (e ▸ ho)

/-- **An adapter between the caller and `Invoke` is transparent exactly as far as it forwards the options**: one that
drops them leaves every variable as it was — nil for a fresh one. -/
theorem C13_adapter_must_forward_options (hdr trl : MD) (adapter : List CallOpt → List CallOpt)
    (opts : List CallOpt) (v : Vars) (a : Nat) :
    (CallOpt.header a ∈ adapter opts → (∀ b, CallOpt.trailer b ∈ adapter opts → b ≠ a) →
        (collectMetadata hdr trl (adapter opts) v).lookup a = some hdr) ∧
    (adapter opts = [] → (collectMetadata hdr trl (adapter opts) v).lookup a = v.lookup a) := by
  constructor
  · exact fun h hno => C13_call_options_header_served hdr trl _ v a h hno
  · intro h; simp [h, collectMetadata]

example : (collectMetadata [("a", "1")] [("b", "2")] [.other 0, .trailer 1, .header 0, .header 2] []).lookup 2
    = some [("a", "1")] := by decide +kernel

end ScVerif.C13
