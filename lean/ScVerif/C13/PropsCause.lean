import ScVerif.C13.CauseLemmas
import ScVerif.C13.ErrsLemmas
import ScVerif.C13.Select
/-!
# C13 — a call on an ended context reports cancellation / deadline expiry AS SUCH, whatever the cause

The caller's context (or any ancestor) may have been ended with a cause (`context.WithCancelCause`,
`WithTimeoutCause`, `WithDeadlineCause`): `es` is ANY sequence of ends of the context chain, each with any cause (an
error tree `GoErr` of any depth) or none.  A real connection reports `ctx.Err()`: Canceled / DeadlineExceeded.
-/
namespace ScVerif.C13

/-- **The status of a call whose context has ended is the one a real connection reports.** -/
theorem C13_ended_context_status_eq (es : List CtxEnd) :
    Wrap.contextStatus (ctxRun es) = GrpcRef.contextStatus (ctxRun es) :=
  -- both unfold to `ctx.Err()` mapped to (abortCode, abortText): `statusFromContextError (.ctx a)` reduces to that
  rfl

/-- **The first end decides, as such**: neither its cause nor any later end (a cancel after the deadline, an ancestor
cancelled with another cause) changes the status. -/
theorem C13_ended_context_status_of_first_end (e : CtxEnd) (es : List CtxEnd) :
    Wrap.contextStatus (ctxRun (e :: es)) = some (abortCode e.abort, abortText e.abort) := by
  rw [ctxRun_cons]
  rfl

/-- A live context lets the call go on: no entry check fires. -/
theorem C13_live_context_no_status : Wrap.contextStatus (ctxRun []) = none := rfl

/-- **The entry checks of `NewStream` and `Invoke`**: the handler is never reached. -/
theorem C13_open_on_ended_context (d : ServiceDesc) (e : CtxEnd) (es : List CtxEnd) (method : String) (cs ss : Bool) :
    Conn.newStream d (ctxErr (ctxRun (e :: es))) method cs ss = .ctxEnded e.abort ∧
    Conn.invoke d (ctxErr (ctxRun (e :: es))) method = .ctxEnded e.abort := by
  rw [ctxRun_cons]
  exact ⟨rfl, rfl⟩

/-- **Why the code does not report the cause**: `status.FromContextError(context.Cause(ctx))` gives the code a real
connection gives only when the first end had no cause of its own or one that is (wraps) the very context error. -/
theorem C13_cause_status_code_agrees_iff (e : CtxEnd) (es : List CtxEnd) :
    ((Wrap.contextStatusByCause (ctxRun (e :: es))).map (·.1) = (GrpcRef.contextStatus (ctxRun (e :: es))).map (·.1)) ↔
    (e.cause = none ∨ ∃ c, e.cause = some c ∧ c.isCtx = some e.abort) := by
  rw [ctxRun_cons]
  cases hc : e.cause with
  | none =>
    simp only [Option.getD_none, true_or, iff_true]
    cases e.abort <;> rfl
  | some c =>
    simp only [Option.getD_some, Wrap.contextStatusByCause, ctxCause, GrpcRef.contextStatus, ctxErr, Option.map_some,
      statusFromContextError, reduceCtorEq, false_or, Option.some.injEq, exists_eq_left']
    cases hi : c.isCtx with
    | none =>
      simp only [reduceCtorEq, iff_false]
      cases e.abort <;> simp [abortCode]
    | some a =>
      cases a <;> cases e.abort <;> simp [abortCode]

/-- Non-vacuity: a context cancelled with a plain cause would be reported as Unknown by the cause-based variant,
a cancel whose cause wraps `context.DeadlineExceeded` as DeadlineExceeded; the code reports Canceled for both. -/
example :
    Wrap.contextStatusByCause (ctxRun [⟨.cancel, some (.plain "operator gave up")⟩]) = some (2, "operator gave up") ∧
    Wrap.contextStatus (ctxRun [⟨.cancel, some (.plain "operator gave up")⟩]) = some (1, "context canceled") ∧
    (Wrap.contextStatusByCause (ctxRun [⟨.cancel, some (GoErr.errorf "upstream: " (.ctx .deadline))⟩])).map (·.1) = some 4 ∧
    (Wrap.contextStatus (ctxRun [⟨.cancel, some (GoErr.errorf "upstream: " (.ctx .deadline))⟩, ⟨.deadline, none⟩])).map (·.1)
      = some 1 := by decide +kernel

/-- **Every place of pkg/wrap that reports the end of the call's context reports it as such**, read the way a caller
reads an error (`errors.Is`, else `status.FromError`). -/
theorem C13_every_site_reports_context_end_as_such (site : CtxSite) (e : CtxEnd) (es : List CtxEnd) :
    Wrap.callerReads (Wrap.siteError site (ctxRun (e :: es))) = .status (abortCode e.abort) (abortText e.abort) := by
  -- the raw context error and the status made of it read alike
  rw [ctxRun_cons, Wrap.siteError_some]
  cases site.raw <;> rfl

/-- **A handler that passes on the error its SendMsg / RecvMsg / SendHeader gave it** (or the raw context error) ends
the call as cancelled / deadline exceeded on both transports. -/
theorem C13_handler_passing_on_context_end (site : CtxSite) (e : CtxEnd) (es : List CtxEnd) :
    GrpcRef.handlerFin (Wrap.siteError site (ctxRun (e :: es))) = .status (abortCode e.abort) (abortText e.abort) ∧
    Wrap.handlerFin (Wrap.siteError site (ctxRun (e :: es))) = .status (abortCode e.abort) (abortText e.abort) := by
  rw [handlerFin_eq, ctxRun_cons, Wrap.siteError_some]
  cases site.raw <;> exact ⟨rfl, rfl⟩

/-- Non-vacuity / necessity: at EVERY site the cause-reading variant turns a cancel with a plain cause into Unknown. -/
example : ∀ site : CtxSite,
    Wrap.callerReads (Wrap.siteErrorByCause site (ctxRun [⟨.cancel, some (.plain "operator gave up")⟩]))
      = .status 2 "operator gave up" := by
  intro site; cases site <;> rfl

/-- **The chain view is sound**: in any family of contexts the state of context `k` is the fold over the ends of `k`
itself and of its ancestors only, so every theorem above holds for the call's context inside any family (siblings,
uncles, children of its own). -/
theorem C13_context_family_chain_view (below : Nat → Nat → Bool) (evs : List (Nat × CtxEnd)) (k : Nat) :
    famRun below (fun _ => none) evs k = ctxRun ((evs.filter fun ev => below ev.1 k).map (·.2)) :=
  famRun_chain below evs _ k

/-- The end of a context the call's context is not derived from (a sibling, an uncle, a child of its own) is invisible
to the call. -/
theorem C13_unrelated_context_end_invisible (below : Nat → Nat → Bool) (evs : List (Nat × CtxEnd)) (n k : Nat)
    (e : CtxEnd) (h : below n k = false) :
    famRun below (fun _ => none) (evs ++ [(n, e)]) k = famRun below (fun _ => none) evs k := by
  simp [famRun, List.foldl_append, famStep, h]

/-! A handler commonly ties helper goroutines to its context (`go func() { <-ctx.Done(); unsubscribe() }()`).  A gRPC
server ends the handler's context when the handler returns.  `w` is ANY state of the stream. -/

/-- **The handler's context ends exactly when a gRPC server's does**: when the caller's context ends, and when the
handler has returned (`Close`).  `GrpcRef.handlerCtxDone` is that sentence read off the stream's own state, not a
second model: this and the next two theorems hold by unfolding, and say which context `handlerCtxOf` hands out. -/
theorem C13_handler_context_ends_with_call (shape : Shape) (w : Wrap.State) :
    Wrap.handlerCtxDone (Wrap.handlerCtxOf false shape) w = GrpcRef.handlerCtxDone w := by
  cases shape <;> rfl

/-- Once the handler has returned its context has ended, whatever the caller does with its own: what the handler tied
to `ctx.Done()` does not outlive the call. -/
theorem C13_handler_context_ended_after_return (shape : Shape) (w : Wrap.State) (h : w.closed.isSome = true) :
    Wrap.handlerCtxDone (Wrap.handlerCtxOf false shape) w = true := by
  cases shape <;> simp [Wrap.handlerCtxOf, Wrap.handlerCtxDone, h]

/-- The handler's context is the one the stream's own blocking calls watch (`ctxDone`, Select.lean). -/
theorem C13_handler_context_is_stream_context (shape : Shape) (w : Wrap.State) :
    Wrap.handlerCtxDone (Wrap.handlerCtxOf false shape) w = Wrap.ctxDone w := by
  cases shape <;> rfl

/-- **The defect repaired by b573e60**: `Invoke` handed the handler the caller's context, so after the handler of a
unary call had returned its context was still live for as long as the caller's. -/
theorem C13_legacy_unary_handler_context_outlives_call (w : Wrap.State) (hc : w.closed.isSome = true)
    (hl : w.ctxErr = none) :
    Wrap.handlerCtxDone (Wrap.handlerCtxOf true .unary) w = false ∧ GrpcRef.handlerCtxDone w = true := by
  simp [Wrap.handlerCtxOf, Wrap.handlerCtxDone, GrpcRef.handlerCtxDone, hc, hl]

/-- The defect of `C13_legacy_unary_handler_context_outlives_call` is in `Invoke` alone: every other shape (the unary
method through `NewStream` included) is right with `legacy` too. -/
theorem C13_legacy_handler_context_other_shapes (shape : Shape) (w : Wrap.State) (h : shape ≠ .unary) :
    Wrap.handlerCtxDone (Wrap.handlerCtxOf true shape) w = GrpcRef.handlerCtxDone w := by
  cases shape <;> first | rfl | exact absurd rfl h

/-- Non-vacuity: a finished call on a live caller context. -/
example : ∃ w : Wrap.State, w.closed.isSome = true ∧ w.ctxErr = none := ⟨{ closed := some .ok }, rfl, rfl⟩

end ScVerif.C13
