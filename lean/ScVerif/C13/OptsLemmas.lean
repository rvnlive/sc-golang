import ScVerif.C13.Opts
import ScVerif.C13.ConnLemmas
/-
C13 — lemmas: `collectMetadata` in closed form, and what a variable holds after it.
-/
namespace ScVerif.C13

/-- The assignment an option makes: the variable it names and what `collectMetadata` stores there. -/
def CallOpt.write (hdr trl : MD) : CallOpt → Option (Nat × MD)
  | .header a => some (a, hdr)
  | .trailer a => some (a, trl)
  | .other _ => none

/-- `collectMetadata` in closed form: the assignments the options make, newest first, on top of the log. -/
theorem collect_eq (hdr trl : MD) : ∀ (opts : List CallOpt) (v : Vars),
    collectMetadata hdr trl opts v = (opts.filterMap (CallOpt.write hdr trl)).reverse ++ v := by
  intro opts
  induction opts with
  | nil => exact fun _ => rfl
  | cons o os ih => exact fun v => by cases o <;> simp [collectMetadata, CallOpt.write, cloneMD_eq, List.filterMap_cons, ih]

theorem mem_writes {hdr trl : MD} {opts : List CallOpt} {p : Nat × MD} :
    p ∈ (opts.filterMap (CallOpt.write hdr trl)).reverse ↔ ∃ o ∈ opts, o.write hdr trl = some p := by
  simp only [List.mem_reverse, List.mem_filterMap]

theorem lookup_append_agree {a : Nat} {x : MD} : ∀ (l v : Vars), (∀ y, (a, y) ∈ l → y = x) →
    ((a, x) ∈ l ∨ v.lookup a = some x) → (l ++ v).lookup a = some x := by
  intro l
  induction l with
  | nil => exact fun v _ h => h.resolve_left (fun h => nomatch h)
  | cons p l ih =>
    intro v hall h
    obtain ⟨b, y⟩ := p
    by_cases e : a = b
    · subst e
      simp [hall y (List.mem_cons_self ..)]
    · have hb : (a == b) = false := by simpa using e
      simp only [List.cons_append, List.lookup, hb]
      refine ih v (fun y hy => hall y (List.mem_cons_of_mem _ hy)) (h.imp_left fun h => ?_)
      rcases List.mem_cons.mp h with h | h
      · cases h; exact absurd rfl e
      · exact h

theorem collect_lookup (hdr trl x : MD) (a : Nat) (opts : List CallOpt) (v : Vars)
    (hall : ∀ o ∈ opts, ∀ y, o.write hdr trl = some (a, y) → y = x)
    (h : (∃ o ∈ opts, o.write hdr trl = some (a, x)) ∨ v.lookup a = some x) :
    (collectMetadata hdr trl opts v).lookup a = some x := by
  rw [collect_eq]
  refine lookup_append_agree _ v (fun y hy => ?_) (h.imp_left mem_writes.mpr)
  obtain ⟨o, ho, hw⟩ := mem_writes.mp hy
  exact hall o ho y hw

end ScVerif.C13
