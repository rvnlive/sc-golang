import ScVerif.C13.InvokeSrv
import ScVerif.C13.SelectLemmas
/-
C13 — lemmas about the select-level models of `wrapper.Invoke`: the caller's goroutine (Invoke.lean) and the handler's
(InvokeSrv.lean).
-/
namespace ScVerif.C13

/-- `R` follows a goroutine through its blocking calls: `step pc c` lists the ready cases of the call it is in (`[]` =
it blocks) in instant `c`, and along a list of instants it takes a step whenever one is ready (`runs`, `hruns`). -/
structure Follows {P C : Type} (step : P → C → List P) (R : P → List C → List P) : Prop where
  nil : ∀ pc, R pc [] = [pc]
  cons : ∀ pc c cs, R pc (c :: cs) = (if step pc c = [] then [pc] else step pc c).flatMap (R · cs)

namespace Follows
variable {P C : Type} {step : P → C → List P} {R : P → List C → List P} (F : Follows step R)
include F

theorem stays {pc : P} (cs : List C) (h : ∀ c ∈ cs, step pc c = []) : R pc cs = [pc] := by
  induction cs with
  | nil => exact F.nil pc
  | cons c cs ih =>
    simp [F.cons, h c (List.mem_cons_self ..), ih fun x hx => h x (List.mem_cons_of_mem _ hx)]

theorem cons_of_ne {pc : P} {c : C} {cs : List C} (hne : step pc c ≠ []) {x : P} (hx : x ∈ R pc (c :: cs)) :
    ∃ q ∈ step pc c, x ∈ R q cs := by
  simpa only [F.cons, hne, if_false, List.mem_flatMap] using hx

theorem ne_nil (cs : List C) : ∀ pc, R pc cs ≠ [] := by
  induction cs with
  | nil => exact fun pc => F.nil pc ▸ List.cons_ne_nil _ _
  | cons c cs ih =>
    intro pc hnil
    rw [F.cons] at hnil
    split at hnil
    · exact ih pc (by simpa using hnil)
    · obtain ⟨q, hq⟩ := List.exists_mem_of_ne_nil _ ‹_›
      exact ih q (List.flatMap_eq_nil_iff.mp hnil q hq)

theorem complete {rank : P → Nat} {fin : P → Bool} {G : C → Prop}
    (hne : ∀ pc c, G c → fin pc = false → step pc c ≠ [])
    (hrank : ∀ pc c pc', pc' ∈ step pc c → rank pc' < rank pc)
    (hfin : ∀ pc, fin pc = true → ∀ c, step pc c = []) (h0 : ∀ pc, rank pc = 0 → fin pc = true)
    (cs : List C) (hcs : ∀ c ∈ cs, G c) :
    ∀ pc, rank pc ≤ cs.length → ∀ pc' ∈ R pc cs, fin pc' = true := by
  induction cs with
  | nil =>
    intro pc hr pc' h
    cases List.mem_singleton.mp (F.nil pc ▸ h)
    exact h0 pc (Nat.le_zero.mp hr)
  | cons c cs ih =>
    intro pc hr pc' h
    cases hdone : fin pc with
    | true =>
      cases List.mem_singleton.mp (F.stays _ (fun c _ => hfin pc hdone c) ▸ h)
      exact hdone
    | false =>
      obtain ⟨q, hq, hq'⟩ := F.cons_of_ne (hne pc c (hcs c (List.mem_cons_self ..)) hdone) h
      have := hrank pc c q hq
      exact ih (fun x hx => hcs x (List.mem_cons_of_mem _ hx)) q (by simp at hr; omega) pc' hq'

end Follows

namespace Wrap

theorem runs_follows : Follows step runs := ⟨fun _ => rfl, fun _ _ _ => rfl⟩

theorem hruns_follows : Follows hstep hruns := ⟨fun _ => rfl, fun _ _ _ => rfl⟩

/-- The caller's context has ended (`a`), the handler has not returned and is not sending. -/
def Parked (a : Abort) (c : Chans) : Prop :=
  c.w.ctxErr = some a ∧ c.w.closed = none ∧ c.offer = none

theorem Parked.ctxDone {a : Abort} {c : Chans} (h : Parked a c) : ctxDone c.w = true :=
  ctxDone_of_ctxErr h.1

/-- Places of the caller's goroutine from which Invoke, if it returns, ends with the event `e`. -/
def Ends (e : Ev) : IPc → Prop
  | .send => True
  | .recv => True
  | .collect r => r = .ev e
  | .done (.early e') => e' = e
  | .done (.full r _ _) => r = .ev e

/-- An instant in which a failing SendMsg and every ready case of RecvMsg give `e`. -/
def Gives (e : Ev) (c : Chans) : Prop := sendFailed c.w = e ∧ ∀ r ∈ recvResults c, r = .ev e

theorem step_ends {e : Ev} {c : Chans} (hc : Gives e c) {pc pc' : IPc} (hp : Ends e pc) (h : pc' ∈ step pc c) :
    Ends e pc' := by
  cases pc with
  | send =>
    obtain ⟨x, _, rfl⟩ := List.mem_map.mp h
    split
    · trivial
    · exact hc.1
  | recv =>
    obtain ⟨r, hr, rfl⟩ := List.mem_map.mp h
    exact hc.2 r hr
  | collect r =>
    obtain ⟨md, _, rfl⟩ := List.mem_map.mp h
    exact hp
  | done r => cases h

theorem reach_ends {e : Ev} (cs : List Chans) (hcs : ∀ c ∈ cs, Gives e c) :
    ∀ pc, Ends e pc → ∀ pc' ∈ reach pc cs, Ends e pc' := by
  induction cs with
  | nil => intro pc hp pc' h; simp [reach] at h; exact h ▸ hp
  | cons c cs ih =>
    intro pc hp pc' h
    simp only [reach, List.mem_flatMap] at h
    obtain ⟨q, hq, hq'⟩ := h
    have hcs' : ∀ c ∈ cs, Gives e c := fun x hx => hcs x (List.mem_cons_of_mem _ hx)
    rcases List.mem_cons.mp hq with rfl | hq
    · exact ih hcs' _ hp _ hq'
    · exact ih hcs' _ (step_ends (hcs c (List.mem_cons_self ..)) hp hq) _ hq'

theorem ends_done {e : Ev} {r : IRes} (h : Ends e (.done r)) :
    r = .early e ∨ ∃ hd tr, r = .full (.ev e) hd tr := by
  cases r with
  | early e' => exact Or.inl (congrArg _ h)
  | full r hd tr => exact Or.inr ⟨hd, tr, by rw [show r = .ev e from h]⟩

theorem Parked.gives {a : Abort} {c : Chans} (h : Parked a c) : Gives (.aborted a) c := by
  obtain ⟨ha, hcl, ho⟩ := h
  constructor
  · simp [sendFailed, ha]
  · intro r hr
    simpa [recvResults_aborted hcl ha, ho] using hr

theorem gives_of_closed {err : Fin} {c : Chans} (hcl : c.w.closed = some err) (ha : c.w.ctxErr = none) :
    Gives (closeErrEv err) c := by
  constructor
  · simp [sendFailed, ha, hcl]
  · intro r hr
    simpa [recvResults_closed hcl] using hr

theorem step_ne_nil {pc : IPc} {c : Chans} (hd : ctxDone c.w = true) (hp : pc.isDone = false) :
    step pc c ≠ [] := by
  cases pc with
  | send => simpa [step] using sendResults_ne_nil hd
  | recv => simpa [step] using recvResults_ne_nil hd
  | collect r => simpa [step] using headerResults_ne_nil (avail_iff.mpr (Or.inr hd))
  | done r => simp [IPc.isDone] at hp

/-- How far from returning the caller's goroutine is (number of blocking calls ahead). -/
def IPc.rank : IPc → Nat
  | .send => 3
  | .recv => 2
  | .collect _ => 1
  | .done _ => 0

theorem step_rank {pc pc' : IPc} {c : Chans} (h : pc' ∈ step pc c) : pc'.rank < pc.rank := by
  cases pc with
  | send =>
    simp only [step, List.mem_map] at h
    obtain ⟨e, _, rfl⟩ := h
    by_cases he : e = .sent <;> simp [he, IPc.rank]
  | recv =>
    simp only [step, List.mem_map] at h
    obtain ⟨r, _, rfl⟩ := h
    simp [IPc.rank]
  | collect r =>
    simp only [step, List.mem_map] at h
    obtain ⟨md, _, rfl⟩ := h
    simp [IPc.rank]
  | done r => simp [step] at h

theorem step_done {pc : IPc} (h : pc.isDone = true) (c : Chans) : step pc c = [] := by
  cases pc <;> first | rfl | cases h

theorem runs_complete (cs : List Chans) (hcs : ∀ c ∈ cs, ctxDone c.w = true) :
    ∀ pc, pc.rank ≤ cs.length → ∀ pc' ∈ runs pc cs, pc'.isDone = true :=
  runs_follows.complete (G := fun c => ctxDone c.w = true) (fun _ _ => step_ne_nil) (fun _ _ _ => step_rank)
    (fun _ => step_done) (fun pc h => by cases pc <;> first | rfl | cases h) cs hcs

/-- `runs` is `reach` without idling.  (The theorems about `reach` and those about `runs` / `frozen` are proved
separately; this is the lemma by which the former would carry over.) -/
theorem runs_sub_reach (cs : List Chans) : ∀ pc, ∀ pc' ∈ runs pc cs, pc' ∈ reach pc cs := by
  induction cs with
  | nil => intro pc pc' h; simpa [runs, reach] using h
  | cons c cs ih =>
    intro pc pc' h
    simp only [runs, List.mem_flatMap] at h
    obtain ⟨q, hq, hq'⟩ := h
    simp only [reach, List.mem_flatMap]
    refine ⟨q, ?_, ih q pc' hq'⟩
    by_cases hs : step pc c = []
    · simp [hs] at hq; simp [hq]
    · simp [hs] at hq; exact List.mem_cons_of_mem _ hq

theorem mem_frozen {pc : IPc} {c : Chans} {r : IRes} :
    r ∈ frozen pc c ↔ IPc.done r ∈ runs pc [c, c, c] := by
  simp only [frozen, List.mem_filterMap]
  constructor
  · rintro ⟨p, hp, h⟩
    cases p <;> simp at h
    exact h ▸ hp
  · intro h
    exact ⟨_, h, rfl⟩

/-! With the stream kept in one state, Invoke inside RecvMsg returns exactly the combinations of a ready case of
RecvMsg's select with a ready case of Header()'s select. -/

theorem mem_frozen_recv {c : Chans} {r : IRes} (h : r ∈ frozen .recv c) :
    ∃ r' ∈ recvResults c, ∃ md ∈ headerResults c.w, r = .full r' md c.w.trailer := by
  rw [mem_frozen] at h
  by_cases h1 : step .recv c = []
  · rw [runs_follows.stays _ (by simp [h1])] at h
    simp at h
  · obtain ⟨q₁, hq₁, hx⟩ := runs_follows.cons_of_ne h1 h
    obtain ⟨r', hr', rfl⟩ := List.mem_map.mp hq₁
    by_cases h2 : step (.collect r') c = []
    · rw [runs_follows.stays _ (by simp [h2])] at hx
      simp at hx
    · obtain ⟨q₂, hq₂, hy⟩ := runs_follows.cons_of_ne h2 hx
      obtain ⟨md, hmd, rfl⟩ := List.mem_map.mp hq₂
      rw [runs_follows.stays _ fun _ _ => step_done rfl _] at hy
      exact ⟨r', hr', md, hmd, IPc.done.inj (List.mem_singleton.mp hy)⟩

theorem frozen_ne_nil {c : Chans} (hd : ctxDone c.w = true) (pc : IPc) : frozen pc c ≠ [] := by
  obtain ⟨q, hq⟩ := List.exists_mem_of_ne_nil _ (runs_follows.ne_nil [c, c, c] pc)
  have hqd := runs_complete [c, c, c] (by simp [hd]) pc (by cases pc <;> simp [IPc.rank]) q hq
  cases q with
  | done r => exact List.ne_nil_of_mem (mem_frozen.mpr hq)
  | _ => cases hqd

theorem hstep_ne_nil {pc : HPc} {c : SChans} (hd : ctxDone c.w = true) (hp : pc.isClosed = false) :
    hstep pc c ≠ [] := by
  cases pc with
  | recv n res err => simpa [hstep] using srecvResults_ne_nil hd
  | work n res err =>
    cases n with
    | zero =>
      simp only [hstep]
      split <;> exact List.cons_ne_nil _ _
    | succ k => exact List.cons_ne_nil _ _
  | send m => simpa [hstep] using ssendResults_ne_nil hd
  | closed e => simp [HPc.isClosed] at hp

theorem hstep_rank {pc pc' : HPc} {c : SChans} (h : pc' ∈ hstep pc c) : pc'.rank < pc.rank := by
  cases pc with
  | recv n res err =>
    simp only [hstep, List.mem_map] at h
    obtain ⟨r, _, rfl⟩ := h
    cases r <;> simp [HPc.rank]
  | work n res err =>
    cases n with
    | zero =>
      simp only [hstep] at h
      split at h <;> simp at h <;> subst h <;> simp [HPc.rank]
    | succ k => simp [hstep] at h; subst h; simp [HPc.rank]
  | send m =>
    simp only [hstep, List.mem_map] at h
    obtain ⟨r, _, rfl⟩ := h
    cases r <;> simp [HPc.rank]
  | closed e => simp [hstep] at h

theorem hruns_complete (cs : List SChans) (hcs : ∀ c ∈ cs, ctxDone c.w = true) :
    ∀ pc, pc.rank ≤ cs.length → ∀ pc' ∈ hruns pc cs, pc'.isClosed = true :=
  hruns_follows.complete (G := fun c => ctxDone c.w = true) (fun _ _ => hstep_ne_nil) (fun _ _ _ => hstep_rank)
    (fun pc h c => by cases pc <;> first | rfl | cases h) (fun pc h => by cases pc <;> first | rfl | cases h) cs hcs

end Wrap
end ScVerif.C13
