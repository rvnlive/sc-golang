import ScVerif.C13.Transcript
import ScVerif.C13.GrpcRef
import ScVerif.C13.Sim
/-
C13 — lemmas: what each side received is a prefix of what the other sends (nothing lost in the middle, duplicated or
reordered), proved on the reference run.
-/
namespace ScVerif.C13

def Srv.ops : Srv → List SOp | .running ops => ops | _ => []

theorem GrpcRef.terminal_msg {g : GrpcRef.State} {e : Ev} (h : GrpcRef.terminal g = some e) : e.msg? = none := by
  unfold GrpcRef.terminal at h
  split at h
  · cases h; rfl
  · cases hr : g.rst <;> simp [hr] at h
    subst h; rfl

/-- `t`: what each side received is a prefix of `l` resp. `r`. -/
def InOrder (t : Transcript) (l r : List Nat) : Prop := t.clientMsgs <+: l ∧ t.serverMsgs <+: r

theorem InOrder.nil (l r : List Nat) {t : Transcript} (hc : t.clientMsgs = []) (hs : t.serverMsgs = []) :
    InOrder t l r := ⟨hc ▸ List.nil_prefix, hs ▸ List.nil_prefix⟩

theorem InOrder.cev {t : Transcript} {l r : List Nat} {e : Ev} (he : e.msg? = none) (h : InOrder t l r) :
    InOrder (cev e t) l r := ⟨(clientMsgs_cev e t he).symm ▸ h.1, h.2⟩

theorem InOrder.sev {t : Transcript} {l r : List Nat} {e : SEv} (he : e.got? = none) (h : InOrder t l r) :
    InOrder (sev e t) l r := ⟨h.1, (serverMsgs_sev e t he).symm ▸ h.2⟩

theorem InOrder.sevIf {t : Transcript} {l r : List Nat} {e : SEv} (b : Bool) (he : e.got? = none)
    (h : InOrder t l r) : InOrder (sevIf b e t) l r := by
  cases b
  · exact h
  · exact h.sev he

-- `InOrder.cev` / `.sev` / `.hold` shadow the functions inside this namespace: hence the full names below
theorem InOrder.msg {t : Transcript} {l r : List Nat} (m : Nat) (h : InOrder t l r) :
    InOrder (ScVerif.C13.cev (.msg m) t) (m :: l) r := ⟨(List.cons_prefix_cons).mpr ⟨rfl, h.1⟩, h.2⟩

theorem InOrder.got {t : Transcript} {l r : List Nat} (m : Nat) (h : InOrder t l r) :
    InOrder (ScVerif.C13.sev (.got m) t) l (m :: r) := ⟨h.1, (List.cons_prefix_cons).mpr ⟨rfl, h.2⟩⟩

theorem InOrder.of_nil {t : Transcript} {l r : List Nat} (h : InOrder t [] r) : InOrder t l r :=
  ⟨List.prefix_nil.mp h.1 ▸ List.nil_prefix, h.2⟩

theorem InOrder.hold {t : Transcript} {l r : List Nat} (b : Bool) (fin : Fin) {st : Ev} (hst : st.msg? = none)
    (h : InOrder t l r) : InOrder (ScVerif.C13.hold b fin st t) l r :=
  ⟨(clientMsgs_hold b fin hst t).trans h.1, (serverMsgs_hold b fin st t).symm ▸ h.2⟩

/-- Proved on the reference run (where a message is its bytes); `go_eq_init` carries it over to
the wrapper, whose receiver reads the payload out of message objects. -/
theorem go_msgs (fin : Fin) (reuse : Bool) (w : GrpcRef.State) (cc : Bool) (srv : Srv) (cs : List COp) :
    InOrder (go GrpcRef.impl fin reuse w cc srv cs) (srv.ops.filterMap SOp.send?) (cs.filterMap COp.send?) := by
  fun_induction go GrpcRef.impl fin reuse w cc srv cs
  -- cases numbered as in `go_sim` (Sim.lean): the clauses of `go` in the order of Script.lean
  case case1 | case2 => exact InOrder.sevIf _ rfl ‹_›
  case case3 | case4 => assumption
  case case5 ih => exact ih.msg _
  case case12 ih => exact (ih.got _).cev rfl
  case case11 ih => exact ih.sev rfl
  case case16 ih | case22 ih => exact ((InOrder.of_nil ih).sev rfl).cev rfl
  case case26 he ih | case34 he ih => exact ih.cev (GrpcRef.terminal_msg he)
  case case6 ih | case8 ih | case13 ih | case14 ih | case19 ih | case21 ih | case28 ih | case30 ih | case31 ih | case36 ih =>
    exact ih.cev rfl
  all_goals exact InOrder.nil _ _ rfl rfl

end ScVerif.C13
