import ScVerif.C13.Errs
/-
C13 — HOW the caller's context ended, and the status a call on it reports (pkg/wrap/wrap.go: the entry checks
of `Invoke` and `NewStream`, the "request was not taken" branch of `Invoke`; pkg/wrap/stream.go: `RecvMsg`,
`SendHeader`, `ctxErr`).

Since Go 1.20 a context can end WITH A CAUSE: `context.WithCancelCause` (`cancel(cause)`),
`context.WithTimeoutCause` / `WithDeadlineCause` (the cause reported when the deadline passes).  `ctx.Err()` is
still `context.Canceled` / `context.DeadlineExceeded`; the caller's own error is what `context.Cause(ctx)`
returns.  The cause is inherited: a context derived from one that ended with a cause reports the same cause.

The standard library, as far as it is modelled (context.go, `cancelCtx.cancel(removeFromParent, err, cause)`):
```
if cause == nil { cause = err }
c.mu.Lock()
if c.err != nil { c.mu.Unlock(); return }   // already canceled
c.err = err; c.cause = cause
for child := range c.children { child.cancel(false, err, cause) }
```
so what the CALL's context reports is fixed by the first end of the context itself or of any of its ancestors.
-/
namespace ScVerif.C13

/-- One end of the call's context or of one of its ancestors: the cancel function was called / the deadline
passed, with the cause given for it (`none`: a plain `WithCancel` / `WithTimeout` / `WithDeadline`, or
`cancel(nil)`). -/
structure CtxEnd where
  abort : Abort
  cause : Option GoErr := none
  deriving DecidableEq, Repr

/-- The call's context: `none` = live; `some (err, cause)` = `ctx.Err()` and `context.Cause(ctx)`. -/
abbrev CtxState := Option (Abort × GoErr)

/-- `cancelCtx.cancel` as seen from the call's context. -/
def ctxStep (s : CtxState) (e : CtxEnd) : CtxState :=
  match s with
  | some x => some x
  | none => some (e.abort, e.cause.getD (.ctx e.abort))

/-- The state after a sequence of ends (in the order they happen). -/
def ctxRun (es : List CtxEnd) : CtxState := es.foldl ctxStep none

/-- `ctx.Err()` -/
def ctxErr (s : CtxState) : Option Abort := s.map (·.1)

/-- `context.Cause(ctx)` -/
def ctxCause (s : CtxState) : Option GoErr := s.map (·.2)

namespace Wrap

/-- The code: `status.FromContextError(ctx.Err()).Err()` (`none`: the context is live, the call goes on). -/
def contextStatus (s : CtxState) : Option (Nat × String) :=
  (ctxErr s).map fun a => statusFromContextError (.ctx a)

/-- NOT the code: the same with `context.Cause(ctx)` ("the status says why the context ended"). -/
def contextStatusByCause (s : CtxState) : Option (Nat × String) :=
  (ctxCause s).map statusFromContextError

end Wrap

namespace GrpcRef

/-- grpc-go's client (`newClientStream`, `csAttempt`, `recvMsg`): `toRPCErr(ctx.Err())` — Canceled /
DeadlineExceeded with the context error's text. -/
def contextStatus (s : CtxState) : Option (Nat × String) :=
  (ctxErr s).map fun a => (abortCode a, abortText a)

end GrpcRef

/-- The places of pkg/wrap that tell one of the two parties that the call's context has ended. -/
inductive CtxSite where
  | invokeEntry         -- wrap.go Invoke: `if err := ctx.Err(); err != nil { return status.FromContextError(err).Err() }`
  | invokeNotTaken      -- wrap.go Invoke: SendMsg(args) failed and `ctx.Err() != nil`
  | newStreamEntry      -- wrap.go NewStream
  | clientRecv          -- stream.go clientStream.RecvMsg: `return c.Context().Err()` (the raw context error)
  | clientAwaitStatus   -- stream.go clientStream.awaitStatus: `return c.ctx.Err()`
  | serverSendHeader    -- stream.go serverStream.SendHeader: `status.FromContextError(err).Err()`
  | serverSendMsg       -- stream.go serverStream.SendMsg: `s.ctxErr()`
  | serverRecvMsg       -- stream.go serverStream.RecvMsg: `s.ctxErr()`
  deriving DecidableEq, Repr

/-- Does the site hand out the raw context error (`true`) or a status made of it? -/
def CtxSite.raw : CtxSite → Bool
  | .clientRecv | .clientAwaitStatus => true
  | _ => false

namespace Wrap

/-- The error value a site returns for the state `s` of the context it looks at (`none`: live, the site does not
fire).  Every site reads `ctx.Err()`. -/
def siteError (site : CtxSite) (s : CtxState) : Option GoErr :=
  (ctxErr s).map fun a =>
    if site.raw then .ctx a
    else .status (statusFromContextError (.ctx a)).1 (statusFromContextError (.ctx a)).2

/-- NOT the code: the sites reading `context.Cause(ctx)` instead. -/
def siteErrorByCause (site : CtxSite) (s : CtxState) : Option GoErr :=
  (ctxCause s).map fun c =>
    if site.raw then c
    else .status (statusFromContextError c).1 (statusFromContextError c).2

end Wrap

/-- The status code as the class of outcome the harness prints for an open. -/
def openClassOfStatus : Option (Nat × String) → String
  | none => "ok"
  | some (c, _) => codeName c

/-- A FAMILY of contexts (any forest: `below n k` = context `k` is `n` itself or derived from it, directly or not):
an end at `n` reaches exactly the contexts below it (`cancelCtx.cancel` walks the children), each keeping an earlier
end of its own. `σ k` = the state of context `k`. -/
def famStep (below : Nat → Nat → Bool) (σ : Nat → CtxState) (ev : Nat × CtxEnd) : Nat → CtxState :=
  fun k => if below ev.1 k then ctxStep (σ k) ev.2 else σ k

def famRun (below : Nat → Nat → Bool) (σ : Nat → CtxState) (evs : List (Nat × CtxEnd)) : Nat → CtxState :=
  evs.foldl (famStep below) σ

/-! ### The handler's context ends with the call -/

/-- Which context the handler of a call is given. -/
inductive HandlerCtx where
  /-- the caller's context with the call's values (`startStream`'s result): ends only when the CALLER's context ends -/
  | caller
  /-- the stream's context (`ss.Context()`: `context.WithCancel` of the former in `NewClientServerStream`, cancelled by
  `Close`, which the handler goroutine calls when the handler has returned) -/
  | stream
  deriving DecidableEq, Repr

namespace Wrap

/-- pkg/wrap/wrap.go: `Invoke` runs `matched.Handler(w.srv, ss.Context(), dec, nil)` (`legacy`: it passed `ctx`);
`NewStream` runs `matched.Handler(w.srv, ss)` whose handler asks `ss.Context()`; `adaptUnaryToStream` passes
`stream.Context()`. -/
def handlerCtxOf (legacy : Bool) : Shape → HandlerCtx
  | .unary => if legacy then .caller else .stream
  | _ => .stream

/-- Has the handler's context ended in state `w` of the stream? -/
def handlerCtxDone (h : HandlerCtx) (w : State) : Bool :=
  match h with
  | .caller => w.ctxErr.isSome
  | .stream => w.closed.isSome || w.ctxErr.isSome

end Wrap

namespace GrpcRef

/-- A gRPC server's handler context (grpc-go `processUnaryRPC` / `processStreamingRPC`: the stream's context is
cancelled when the handler has returned and the status is written; and when the client cancels / its deadline
passes). -/
def handlerCtxDone (w : Wrap.State) : Bool := w.closed.isSome || w.ctxErr.isSome

end GrpcRef

end ScVerif.C13
