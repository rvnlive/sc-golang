import ScVerif.C13.CloseSteps
/-
C13 — lemmas: what a client reads when `Close(err)` is stopped after `k` of its statements.
-/
namespace ScVerif.C13
namespace Wrap

theorem lift_readHeader (w : State) (h : w.closed = none) : (lift w).readHeader = Wrap.header w := by
  obtain ⟨hd, hc, tr, cl, ce, hp, co, so, cob, sob⟩ := w
  simp only at h
  subst h
  cases hc <;> cases ce <;> rfl

theorem lift_readTerminal (w : State) (h : w.closed = none) : (lift w).readTerminal = Wrap.terminal w := by
  simp only [lift, Fine.readTerminal, Wrap.terminal, h]
  cases w.ctxErr <;> simp

/-! `Trailer()` never changes,
`Header()` switches with the first statement (the flush), the terminal `RecvMsg` with the third (closing
`serverSend`, after `closeErr` was recorded).  Each is a finite check: the prefixes of `closeOrder` times the
states of the latch and of the caller's context. -/
theorem take_closeOrder (err : Fin) (k : Nat) : (closeOrder err).take (k + 4) = closeOrder err :=
  List.take_of_length_le (Nat.le_add_left 4 k)

theorem readTrailer_take (w : State) (err : Fin) (k : Nat) :
    ((lift w).run ((closeOrder err).take k)).readTrailer = trailer (close Cfg.current w err) := by
  obtain ⟨hd, hc, tr, cl, ce, hp, co, so, cob, sob⟩ := w
  match k with
  | 0 | 1 | 2 | 3 => cases hc <;> cases ce <;> rfl
  | k + 4 =>
    rw [take_closeOrder]
    cases hc <;> cases ce <;> rfl

theorem readHeader_take_succ (w : State) (err : Fin) (h : w.closed = none) (k : Nat) :
    ((lift w).run ((closeOrder err).take (k + 1))).readHeader = header (close Cfg.current w err) := by
  obtain ⟨hd, hc, tr, cl, ce, hp, co, so, cob, sob⟩ := w
  cases h
  -- with the latch open on a live context the flush closes it over `header ++ []`: the one case that is not `rfl`
  have happ : some hd = some (hd ++ []) := congrArg some (List.append_nil hd).symm
  match k with
  | 0 | 1 | 2 => cases ce <;> cases hc <;> first | rfl | exact happ
  | k + 3 =>
    rw [take_closeOrder]
    cases ce <;> cases hc <;> first | rfl | exact happ

theorem readTerminal_take_lt (w : State) (err : Fin) (h : w.closed = none) (k : Nat) (hk : k < 3) :
    ((lift w).run ((closeOrder err).take k)).readTerminal = terminal w := by
  obtain ⟨hd, hc, tr, cl, ce, hp, co, so, cob, sob⟩ := w
  cases h
  match k, hk with
  | 0, _ | 1, _ | 2, _ => cases hc <;> cases ce <;> rfl

theorem readTerminal_take_ge (w : State) (err : Fin) (k : Nat) :
    ((lift w).run ((closeOrder err).take (k + 3))).readTerminal = terminal (close Cfg.current w err) := by
  obtain ⟨hd, hc, tr, cl, ce, hp, co, so, cob, sob⟩ := w
  match k with
  | 0 => cases hc <;> cases ce <;> rfl
  | k + 1 =>
    rw [take_closeOrder]
    cases hc <;> cases ce <;> rfl

end Wrap
end ScVerif.C13
