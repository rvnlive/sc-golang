import ScVerif.C13.Unwrap
/-!
# C13 — `wrap.UnwrapFully` (pkg/wrap/unwrap.go)
-/
namespace ScVerif.C13

/-- The result never implements `Unwrapper` (the loop's exit condition). -/
theorem C13_unwrap_fully_result_is_plain (o : Obj) : (unwrapFully o).isUnwrapper = false := by
  induction o with
  | plain i => rfl
  | unwrapper o ih => simpa [unwrapFully] using ih

/-- `UnwrapFully` is idempotent, and further adapters stacked on top do not change its result. -/
theorem C13_unwrap_fully_idempotent (k : Nat) (o : Obj) :
    unwrapFully (unwrapFully o) = unwrapFully o ∧ unwrapFully (stack k o) = unwrapFully o := by
  constructor
  · induction o with
    | plain i => rfl
    | unwrapper o ih => simpa [unwrapFully] using ih
  · induction k with
    | zero => rfl
    | succ k ih => simpa [stack, unwrapFully] using ih

/-- Through any number of stacked adapters `UnwrapFully` gives back the server value that was wrapped. -/
theorem C13_unwrap_fully_reaches_server (k : Nat) (id : Nat) :
    unwrapFully (stack k (.plain id)) = .plain id :=
  (C13_unwrap_fully_idempotent k (.plain id)).2

example : unwrapFully (stack 3 (.plain 7)) = .plain 7 := by decide +kernel

end ScVerif.C13
