import ScVerif.C13.ConnLemmas
import ScVerif.C13.HeapLemmas
import ScVerif.C13.Sim
/-
C13 — lemmas: the wrapper's shared state and the reference's frames stay related under every call the joint run
makes (`wrapSim`), so the two runs produce the same transcript (`go_sim`).
-/
namespace ScVerif.C13

/-- The frames a connection holds for a stream whose handler is running: a closed latch is a HEADERS frame written
with the latch's metadata, an open one metadata still staged. -/
def frames (w : Wrap.State) : GrpcRef.State :=
  { staged := if w.headerC then [] else w.header
    hdrFrame := if w.headerC then some w.header else none
    trailers := w.trailer }

/-- While the handler runs: a live stream, and the connection holds its frames. -/
def RelRun (w : Wrap.State) (g : GrpcRef.State) : Prop := w.closed = none ∧ w.ctxErr = none ∧ g = frames w

theorem rel_setHeader {w g} (h : RelRun w g) (md : MD) :
    RelRun (Wrap.setHeader Cfg.current w md).1 (GrpcRef.setHeader g md).1 ∧
    (Wrap.setHeader Cfg.current w md).2 = (GrpcRef.setHeader g md).2 := by
  obtain ⟨h1, h2, rfl⟩ := h
  unfold Wrap.setHeader GrpcRef.setHeader GrpcRef.headerWritten
  by_cases hm : md.isEmpty <;> cases hc : w.headerC <;> simp [RelRun, frames, Cfg.current, hm, hc, h1, h2]

theorem rel_sendHeader {w g} (h : RelRun w g) (md : MD) :
    RelRun (Wrap.sendHeader w md).1 (GrpcRef.sendHeader g md).1 ∧
    (Wrap.sendHeader w md).2 = (GrpcRef.sendHeader g md).2 := by
  obtain ⟨h1, h2, rfl⟩ := h
  unfold Wrap.sendHeader GrpcRef.sendHeader GrpcRef.headerWritten
  cases hc : w.headerC <;> simp [RelRun, frames, hc, h1, h2]

theorem rel_setTrailer {w g} (h : RelRun w g) (md : MD) :
    RelRun (Wrap.setTrailer w md) (GrpcRef.setTrailer g md) := by
  obtain ⟨h1, h2, rfl⟩ := h
  exact ⟨h1, h2, rfl⟩

theorem rel_preSend {w g} (h : RelRun w g) :
    RelRun (Wrap.sendHeaderIfNeeded w) (GrpcRef.beforeData g) := by
  obtain ⟨h1, h2, rfl⟩ := h
  unfold Wrap.sendHeaderIfNeeded Wrap.sendHeader GrpcRef.beforeData
  cases hc : w.headerC <;> simp [RelRun, frames, hc, h1, h2]

theorem rel_header {w g} (h : RelRun w g) : Wrap.header w = GrpcRef.header g := by
  obtain ⟨h1, h2, rfl⟩ := h
  unfold Wrap.header GrpcRef.header
  cases hc : w.headerC <;> simp [frames, hc, h1, h2]

theorem rel_close {w g} (h : RelRun w g) (fin : Fin) :
    Obs (Wrap.impl Cfg.current) GrpcRef.impl (Wrap.close Cfg.current w fin) (GrpcRef.writeStatus g fin) := by
  obtain ⟨h1, h2, rfl⟩ := h
  rw [Wrap.close_current]
  unfold Obs Wrap.impl GrpcRef.impl Wrap.sendHeaderIfNeeded Wrap.sendHeader GrpcRef.writeStatus
  -- latch open and nothing staged: the reference answers trailers-only, the flush in `Close` closes the latch over an
  -- empty header, and both sides read `some []`; otherwise the flush is the HEADERS frame written with the status
  cases hc : w.headerC <;> by_cases he : w.header = [] <;>
    simp [frames, hc, he, h2, Wrap.header, GrpcRef.header, Wrap.trailer, GrpcRef.trailer, Wrap.terminal,
      GrpcRef.terminal, canon_eq_statusEv, GrpcRef.statusEv]

theorem rel_abort {w g} (h : RelRun w g) (a : Abort) :
    Wrap.header (Wrap.abort w a) = GrpcRef.header (GrpcRef.reset g a) ∧
    Wrap.terminal (Wrap.abort w a) = GrpcRef.terminal (GrpcRef.reset g a) := by
  obtain ⟨h1, h2, rfl⟩ := h
  unfold Wrap.header GrpcRef.header Wrap.terminal GrpcRef.terminal Wrap.abort GrpcRef.reset
  cases hc : w.headerC <;> simp [frames, hc, h1]

theorem rel_xfer {w g} (h : RelRun w g) (d : Dir) (m : Nat) (reuse : Bool) :
    RelRun (Wrap.xfer Cfg.current w d m reuse).1 g := by
  obtain ⟨h1, h2, rfl⟩ := h
  obtain ⟨f1, f2, f3, f4, f5⟩ := Wrap.xfer_fields Cfg.current w d m reuse
  exact ⟨f4.trans h1, f5.trans h2, by simp only [frames, f1, f2, f3]⟩

/-- The message objects are part of the relation: a later message's payload depends on their being well formed. -/
def wrapSim : Sim (Wrap.impl Cfg.current) GrpcRef.impl where
  run w g := RelRun w g ∧ Wrap.HeapInv w
  setHeader md h := ⟨⟨(rel_setHeader h.1 md).1, Wrap.heapInv_setHeader h.2 _ md⟩, (rel_setHeader h.1 md).2⟩
  sendHeader md h := ⟨⟨(rel_sendHeader h.1 md).1, Wrap.heapInv_sendHeader h.2 md⟩, (rel_sendHeader h.1 md).2⟩
  setTrailer md h := ⟨rel_setTrailer h.1 md, Wrap.heapInv_setTrailer h.2 md⟩
  preSend h := ⟨rel_preSend h.1, Wrap.heapInv_sendHeader h.2 []⟩
  xfer d m r h := ⟨⟨rel_xfer h.1 d m r, (Wrap.xfer_spec h.2 Cfg.current rfl d m r).1⟩, (Wrap.xfer_spec h.2 Cfg.current rfl d m r).2⟩
  header h := rel_header h.1
  close fin h := rel_close h.1 fin
  abort a h := rel_abort h.1 a

theorem go_eq_init (fin : Fin) (reuse : Bool) (ss : List SOp) (cs : List COp) :
    go (Wrap.impl Cfg.current) fin reuse {} false (.running ss) cs = go GrpcRef.impl fin reuse {} false (.running ss) cs :=
  go_sim wrapSim fin reuse {} false (.running ss) cs {} ⟨⟨rfl, rfl, rfl⟩, Wrap.heapInv_init⟩

end ScVerif.C13
