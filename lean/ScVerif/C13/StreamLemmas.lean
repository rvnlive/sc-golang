import ScVerif.C13.Wrap
/-
C13 — lemmas: what each header / trailer / close call does to the stream, and that `Header()` is
free (`avail`) once SendHeader was called.
-/
namespace ScVerif.C13
namespace Wrap

@[simp] theorem sendHeaderC_current (w : State) (md : MD) : sendHeaderC Cfg.current w md = sendHeader w md := rfl
@[simp] theorem sendHeaderIfNeededC_current (w : State) : sendHeaderIfNeededC Cfg.current w = sendHeaderIfNeeded w := rfl

theorem setHeader_cases (c : Cfg) (w : State) (md : MD) :
    (setHeader c w md).1 = w ∨
    ((c.rejectLate = true → w.headerC = false) ∧ (setHeader c w md).1 = { w with header := w.header ++ md }) := by
  unfold setHeader
  split
  · split
    · exact Or.inl rfl
    · split
      · exact Or.inl rfl
      · exact Or.inr ⟨fun _ => by simpa using ‹¬w.headerC = true›, rfl⟩
  · exact Or.inr ⟨fun h => absurd h ‹_›, rfl⟩

theorem sendHeaderC_cases (c : Cfg) (w : State) (md : MD) :
    ((w.headerC = true ∨ w.ctxErr.isSome = true) ∧ (sendHeaderC c w md).1 = w) ∨
    (w.headerC = false ∧ (sendHeaderC c w md).1 = { w with header := w.header ++ md, headerC := true }) := by
  unfold sendHeaderC sendHeader sendHeaderOld
  split
  · split
    · exact Or.inl ⟨Or.inr ‹_›, rfl⟩
    · split
      · exact Or.inl ⟨Or.inl ‹_›, rfl⟩
      · exact Or.inr ⟨by simpa using ‹¬w.headerC = true›, rfl⟩
  · split
    · exact Or.inl ⟨Or.inl ‹_›, rfl⟩
    · exact Or.inr ⟨by simpa using ‹¬w.headerC = true›, rfl⟩

theorem close_current (w : State) (e : Fin) :
    close Cfg.current w e = { sendHeaderIfNeeded w with closed := some e } := rfl

theorem close_closed (c : Cfg) (w : State) (e : Fin) : (close c w e).closed = some e := rfl

/-- `Header()` does not block: the latch is closed or the stream's context has ended. -/
def avail (w : State) : Bool := w.headerC || w.closed.isSome || w.ctxErr.isSome

/-- What `Header()` reads, in every state: nothing while it would block; then the header if it was SENT, else nothing. -/
theorem header_eq (w : State) : header w = if avail w then some (if w.headerC then w.header else []) else none := by
  unfold header avail
  cases w.headerC <;> cases w.closed.isSome <;> cases w.ctxErr.isSome <;> rfl

theorem header_of_avail {w : State} (h : avail w = true) : ∃ md, header w = some md :=
  ⟨_, by rw [header_eq, if_pos h]⟩

theorem avail_of_ctxErr {w : State} (he : w.ctxErr.isSome = true) : avail w = true := by
  simp [avail, he]

theorem avail_setHeader (c : Cfg) (w : State) (md : MD) : avail (setHeader c w md).1 = avail w := by
  rcases setHeader_cases c w md with e | ⟨_, e⟩ <;> rw [e]
  rfl

theorem avail_sendHeaderC (c : Cfg) (w : State) (md : MD) : avail (sendHeaderC c w md).1 = true := by
  rcases sendHeaderC_cases c w md with ⟨hw, e⟩ | ⟨_, e⟩
  · rw [e]
    rcases hw with h | h <;> simp [avail, h]
  · rw [e]
    rfl

theorem avail_preSend (c : Cfg) (w : State) : avail (sendHeaderIfNeededC c w) = true :=
  avail_sendHeaderC c w []

end Wrap
end ScVerif.C13
