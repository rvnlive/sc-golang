import ScVerif.C13.ErrsLemmas
import ScVerif.C13.PropsCtx
/-!
# C13 — the error value a handler returns ends the call alike on both transports

`GoErr` is the handler's error as a chain of wrappers (`fmt.Errorf("…%w")`, own types with `Unwrap`) of ANY depth around
a leaf (status error, context error, io.EOF, plain error).  `GrpcRef.handlerFin` follows grpc-go's server
(`status.FromError`, else `status.FromContextError`); `Wrap.handlerFin` follows pkg/wrap (`Close`, `closeErrLocked`) and
the caller's reading of the error it is handed (`errors.Is` for cancellation as such, `status.FromError`).
-/
namespace ScVerif.C13

/-- **Same terminal status for every error value.** -/
theorem C13_handler_error_status_eq (e : Option GoErr) :
    Wrap.handlerFin e = GrpcRef.handlerFin e := handlerFin_eq e

/-- **Transcript equality with handlers that return error values.** -/
theorem C13_handler_error_transcript_eq (shape : Shape) (ctx : CallerCtx) (h : ErrHandler) (cs : List COp)
    (reuse : Bool) :
    Wrap.runErr shape ctx h cs reuse = GrpcRef.runErr shape ctx h cs reuse := by
  unfold Wrap.runErr GrpcRef.runErr
  simp only [C13_handler_error_status_eq]
  exact C13_ctx_transcript_eq shape ctx _ cs reuse

/-- **A status error keeps its code through any number of wrappers** (what `errors.As` gives). -/
theorem C13_wrapped_status_keeps_code (e : GoErr) (c : Nat) (m : String) (h : e.findStatus = some (c, m)) :
    (∃ msg, Wrap.handlerFin (some e) = .status c msg) ∧ (∃ msg, GrpcRef.handlerFin (some e) = .status c msg) := by
  have hc : e.code = c := by simp [GoErr.code, h]
  exact ⟨⟨e.desc, hc ▸ Wrap.handlerFin_some e⟩, ⟨e.desc, hc ▸ GrpcRef.handlerFin_some e⟩⟩

/-- **A handler that returns an error never gives the client a clean end of stream**, io.EOF included (1e87efa). -/
theorem C13_handler_error_never_clean_end (e : GoErr) : Wrap.handlerFin (some e) ≠ .ok := by
  rw [Wrap.handlerFin_some]
  exact Fin.noConfusion

/-- The defect repaired by 1e87efa: a handler returning `io.EOF` ended the call cleanly for the wrapped client where a
real connection reports Unknown "EOF". -/
theorem C13_legacy_handler_eof_clean_end :
    Wrap.handlerFinCfg false (some .eof) = .ok ∧ GrpcRef.handlerFin (some .eof) = .status 2 "EOF" := by
  decide +kernel

/-- Why the status has to be looked for through the `Unwrap` chain: a conversion that tests only the
outermost error turns a wrapped NotFound into Unknown (the client reads code 2 where gRPC gives 5). -/
theorem C13_outermost_assertion_loses_code :
    ∃ e : GoErr, Wrap.callerReads (some (outermostOnly e)) ≠ GrpcRef.handlerFin (some e) :=
  ⟨GoErr.errorf "w: " (.status 5 "e0"), by decide +kernel⟩

/-- Non-vacuity: a twice-wrapped status error. -/
example : Wrap.handlerFin (some (.wrap "boom" (GoErr.errorf "w: " (.status 9 "inner")))) = .status 9 "boom" := by
  decide +kernel

example : Wrap.handlerFin (some (GoErr.errorf "w: " (.ctx .cancel))) = .status 1 "w: context canceled" := by
  decide +kernel

end ScVerif.C13
