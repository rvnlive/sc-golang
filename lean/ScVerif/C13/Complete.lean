import ScVerif.C13.Transcript
import ScVerif.C13.Sim
import ScVerif.C13.HeapLemmas
/-
C13 — lemmas: every run of scripts satisfying the synchronisation skeleton `sync` completes on the wrapper model.
-/
namespace ScVerif.C13

namespace Wrap

theorem terminal_ne_stuck {w : State} {e : Ev} (h : terminal w = some e) : e ≠ .stuck := by
  unfold terminal at h
  split at h
  · cases h
    rename_i err _
    cases err <;> exact Ev.noConfusion
  · split at h
    · cases h
      exact Ev.noConfusion
    · cases h

end Wrap

/-- What the synchronisation skeleton's flags mean for the wrapper's state. -/
def AvailInv (hdr : Bool) : Srv → Wrap.State → Prop
  | .running _, w => hdr = true → Wrap.avail w = true
  | .done, w => w.closed.isSome = true
  | .aborted, w => w.ctxErr.isSome = true

theorem AvailInv.reads {hdr : Bool} {srv : Srv} {w : Wrap.State} (hi : AvailInv hdr srv w) (hs : srv.size = 0) :
    Wrap.avail w = true ∧ ∃ e, Wrap.terminal w = some e := by
  cases srv with
  | running ops => cases hs
  | done =>
    obtain ⟨f, hf⟩ := Option.isSome_iff_exists.mp hi
    exact ⟨by simp [Wrap.avail, hf], Wrap.canon f, by simp [Wrap.terminal, hf]⟩
  | aborted =>
    obtain ⟨a, ha⟩ := Option.isSome_iff_exists.mp hi
    refine ⟨by simp [Wrap.avail, ha], ?_⟩
    unfold Wrap.terminal
    cases w.closed with
    | some f => exact ⟨_, rfl⟩
    | none => exact ⟨.aborted a, by simp [ha]⟩

-- each step of `go` below emits events other than `stuck` / `left`: they do not affect `complete`
attribute [local simp] complete_cev complete_sev complete_sevIf

theorem go_complete (c : Cfg) (fin : Fin) (reuse : Bool) (tm hdr cc : Bool) (srv : Srv) (cs : List COp) :
    ∀ w, sync tm hdr cc srv cs = true → AvailInv hdr srv w →
      (go (Wrap.impl c) fin reuse w cc srv cs).complete = true := by
  fun_induction sync tm hdr cc srv cs
  all_goals intro w hs hi
  /- The cases are the clauses of `sync` in the order of WF.lean (handler's next op / client's next op):
  1 setHeader  2 sendHeader  3 setTrailer  4 return;   send: 5 recv  6 header  7 closeSend  8,9 else (false);
  recv: 10 half-closed  11 send  12 closeSend  13 header  14 abort  15,16 else;   wait: 17 header  18 closeSend
  19 abort  20,21 else;   returned: 22 script over  23 recv  24 header  25 trailer  26 closeSend  27 else;
  aborted: 28 script over  29 recv  30 header  31 else.  Where `sync` is false there is nothing to prove. -/
  case case1 ih => simpa [go, Wrap.impl] using ih _ hs (fun hh => (Wrap.avail_setHeader c w _).trans (hi hh))
  case case2 md _ _ ih => simpa [go, Wrap.impl] using ih _ hs (fun _ => Wrap.avail_sendHeaderC c w md)
  case case3 md _ _ ih => simpa [go, Wrap.impl] using ih (Wrap.setTrailer w md) hs hi
  case case4 ih => simpa [go, Wrap.impl] using ih _ hs (congrArg Option.isSome (Wrap.close_closed c w fin))
  -- the handler inside SendMsg has flushed the latch
  case case5 ih => simpa [go, Wrap.impl] using ih _ hs (fun _ => (Wrap.avail_xfer c _ _ _ _).trans (Wrap.avail_preSend c w))
  case case6 ih =>
    obtain ⟨md, hmd⟩ := Wrap.header_of_avail (Wrap.avail_preSend c w)
    simpa [go, Wrap.impl, hmd] using ih _ hs (fun _ => Wrap.avail_preSend c w)
  case case7 ih => simpa [go, Wrap.impl] using ih _ hs (fun _ => Wrap.avail_preSend c w)
  case case10 ih | case18 ih | case26 ih => simpa [go] using ih _ hs hi
  case case11 ih => simpa [go, Wrap.impl] using ih _ hs (fun hh => (Wrap.avail_xfer c w _ _ _).trans (hi hh))
  case case12 ih =>
    have := ih _ hs hi
    simp only [go] at this
    simpa [go] using this
  -- `Header()` is asked only where `sync` knows the header to be available
  case case13 ih | case17 ih =>
    simp only [Bool.and_eq_true] at hs
    obtain ⟨md, hmd⟩ := Wrap.header_of_avail (hi hs.1)
    simpa [go, Wrap.impl, hmd] using ih _ hs.2 hi
  case case14 a _ ih | case19 a _ ih => simpa [go, Wrap.impl] using ih (Wrap.abort w a) hs rfl
  case case22 | case28 =>
    simp only [go]
    rfl
  case case23 ih | case29 ih =>
    obtain ⟨e, he⟩ := (hi.reads rfl).2
    simpa [go, Wrap.impl, he, Wrap.terminal_ne_stuck he] using ih _ hs hi
  case case24 ih =>
    obtain ⟨md, hmd⟩ := Wrap.header_of_avail (hi.reads rfl).1
    simpa [go, Wrap.impl, hmd] using ih _ hs hi
  case case30 ih =>
    obtain ⟨md, hmd⟩ := Wrap.header_of_avail (hi.reads rfl).1
    simpa [go, Wrap.impl, hmd] using ih _ (Bool.and_eq_true_iff.mp hs).2 hi
  case case25 ih => simpa [go] using ih _ (Bool.and_eq_true_iff.mp hs).2 hi
  all_goals cases hs

end ScVerif.C13
